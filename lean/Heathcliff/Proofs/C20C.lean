/-
  C20: the block searches (`MatmulHelper::new`, `Conv2dHelper::new`) return non-zero blocks that satisfy the side
  conditions; the weight buffer of the convolution fits for those blocks.
-/
import Heathcliff.Proofs.C20A
import Mathlib.Tactic.NormNum

namespace HC
open HC.MM

/-- what the block search without LWE packing establishes: every block is positive and within its dimension, and `b·i·o ≤ N` -/
def c20_Good (N bs id od : Nat) (st : Best) : Prop :=
  1 ≤ st.b ∧ st.b ≤ bs ∧ 1 ≤ st.i ∧ st.i ≤ id ∧ 1 ≤ st.o ∧ st.o ≤ od ∧ st.b * st.i * st.o ≤ N

theorem c20_block_fit {N b i o : Nat} (hb : 1 ≤ b) (hi : 1 ≤ i) (ho : o ≤ N / b / i) : b * i * o ≤ N := by
  have h1 : o * i ≤ N / b := (Nat.le_div_iff_mul_le hi).mp ho
  have h2 : o * i * b ≤ N := (Nat.le_div_iff_mul_le hb).mp h1
  calc b * i * o = o * i * b := by ring
    _ ≤ N := h2

/-- the shape of both matmul search bodies (`r` is `mmInner …` or `mmPackStep …`, matched by `rfl`): skip, or compare the candidate
    `(b, i, o, c)` with the best so far.  Either the state is kept (skipped, empty output block, not cheaper) or the candidate is
    recorded. -/
theorem c20_cand_cases {r : Best} {skip : Prop} [Decidable skip] {st : Best} {b i o c : Nat}
    (hr : r = if skip then st else if o < 1 then st else if c ≥ st.c then st else ⟨b, i, o, c⟩) :
    (r = st ∧ (skip ∨ o < 1 ∨ st.c ≤ c)) ∨ (¬ skip ∧ 1 ≤ o ∧ c < st.c ∧ r = ⟨b, i, o, c⟩) := by
  subst hr
  by_cases h1 : skip
  · exact Or.inl ⟨by rw [if_pos h1], Or.inl h1⟩
  by_cases h2 : o < 1
  · exact Or.inl ⟨by rw [if_neg h1, if_pos h2], Or.inr (Or.inl h2)⟩
  by_cases h3 : c ≥ st.c
  · exact Or.inl ⟨by rw [if_neg h1, if_neg h2, if_pos h3], Or.inr (Or.inr h3)⟩
  · exact Or.inr ⟨h1, by omega, by omega, by rw [if_neg h1, if_neg h2, if_neg h3]⟩

theorem c20_usizeMax_eq : usizeMax = 18446744073709551615 := by norm_num [usizeMax]

/-- the products of two block counts below 2^20 that the matmul cost functions are made of -/
theorem c20_mm_products {bc ic oc : Nat} (h1 : bc < 2^20) (h2 : ic < 2^20) (h3 : oc < 2^20) :
    bc * ic < 2^20 * 2^20 ∧ ic * oc < 2^20 * 2^20 ∧ bc * oc < 2^20 * 2^20 :=
  ⟨Nat.mul_lt_mul_of_lt_of_lt h1 h2, Nat.mul_lt_mul_of_lt_of_lt h2 h3, Nat.mul_lt_mul_of_lt_of_lt h1 h3⟩

theorem c20_mmCost_lt (obj : Objective) {bc ic oc : Nat} (h1 : bc < 2^20) (h2 : ic < 2^20) (h3 : oc < 2^20) :
    mmCost obj bc ic oc < usizeMax := by
  obtain ⟨a1, a2, a3⟩ := c20_mm_products h1 h2 h3
  rw [c20_usizeMax_eq]
  cases obj <;> simp only [mmCost]
  · rw [Nat.mul_add]; omega
  · omega
  · omega

/-- **block search (coefficient packing, no LWE packing)**: for every admissible shape the returned blocks are non-zero and
    satisfy `b ≤ batch`, `i ≤ input_dims`, `o ≤ output_dims`, `b·i·o ≤ N`.  `2 ≤ N`: the inner loop runs over the exclusive range
    `1..N/b` (`mmOuter`), which is empty for `N = 1`, so that the search would return its initial zero blocks; the variant with LWE
    packing has an inclusive range and needs `1 ≤ N` only. -/
theorem c20_mmSearch_sound (N bs id od : Nat) (obj : Objective) (hN : 2 ≤ N) (hbs : 1 ≤ bs) (hid : 1 ≤ id) (hod : 1 ≤ od)
    (hsz : bs < 2^20 ∧ id < 2^20 ∧ od < 2^20) : c20_Good N bs id od (mmSearch N bs id od obj) := by
  have hinv : mmSearch N bs id od obj = Best.init ∨ c20_Good N bs id od (mmSearch N bs id od obj) := by
    apply c20_downLoop_inv (fun s => s = Best.init ∨ c20_Good N bs id od s) _ bs Best.init (Or.inl rfl)
    intro st b hb1 hb2 h
    unfold mmOuter
    dsimp only
    split
    · exact h
    split
    · exact h
    refine foldl_inv (fun s => s = Best.init ∨ c20_Good N bs id od s) h fun s i hi hs => ?_
    have hi1 := (List.mem_range'_1.mp hi).1
    rcases c20_cand_cases (r := mmInner N id od obj b (ceilDiv bs b) s i) rfl with ⟨e, _⟩ | ⟨h1, h2, _, e⟩
    · exact e.symm ▸ hs
    · exact e.symm ▸ Or.inr
        ⟨hb1, hb2, hi1, Nat.le_of_not_lt h1, h2, Nat.min_le_right _ _, c20_block_fit hb1 hi1 (Nat.min_le_left _ _)⟩
  -- the last pass of the outer loop (`b = 1`) records a candidate at `i = 1` unless a cheaper one is known
  have hfound : (mmSearch N bs id od obj).c < usizeMax := by
    apply c20_downLoop_last (fun (s : Best) => s.c < usizeMax) _ bs hbs
    intro st
    have hmax := c20_usizeMax_eq
    have hbc : ceilDiv bs 1 = bs := by unfold ceilDiv; simp
    unfold mmOuter
    dsimp only
    rw [hbc]
    split
    · omega
    split
    · omega
    refine c20_foldl_reach (fun (s : Best) => s.c < usizeMax) _ _ _
      ⟨1, List.mem_range'_1.mpr ⟨le_refl _, by simp; omega⟩, fun s => ?_⟩ fun s i _ hs => ?_
    · have ho : 1 ≤ min (N / 1 / 1) od := by simp; omega
      have hc := c20_mmCost_lt obj hsz.1 (lt_of_le_of_lt (c20_ceilDiv_le (a := id) (le_refl 1)) hsz.2.1)
        (lt_of_le_of_lt (c20_ceilDiv_le ho) hsz.2.2)
      rcases c20_cand_cases (r := mmInner N id od obj 1 bs s 1) rfl with ⟨e, h1 | h1 | h1⟩ | ⟨_, _, _, e⟩
      · omega
      · omega
      · exact e.symm ▸ lt_of_le_of_lt h1 hc
      · exact e.symm ▸ hc
    · rcases c20_cand_cases (r := mmInner N id od obj 1 bs s i) rfl with ⟨e, _⟩ | ⟨_, _, h3, e⟩
      · exact e.symm ▸ hs
      · exact e.symm ▸ lt_trans h3 hs
  rcases hinv with h | h
  · rw [h] at hfound; exact absurd hfound (lt_irrefl _)
  · exact h

theorem c20_packExp_go_spec (N : Nat) : ∀ f e, 2^(100 * e) ≤ N^33 → 2^(100 * packExp.go N f e) ≤ N^33 := by
  intro f
  induction f with
  | zero => intro e h; simpa [packExp.go] using h
  | succ f ih =>
    intro e h
    simp only [packExp.go]
    split
    · rename_i h2; exact ih (e+1) h2
    · exact h

theorem c20_packExp_le {N : Nat} (hN : 1 ≤ N) : 2 ^ packExp N ≤ N := by
  have h := c20_packExp_go_spec N 64 0 (by simpa using Nat.one_le_pow _ _ hN)
  have h2 : (2 ^ packExp N) ^ 100 ≤ N ^ 100 := by
    unfold packExp
    rw [← Nat.pow_mul, Nat.mul_comm]
    exact le_trans h (Nat.pow_le_pow_right hN (by norm_num))
  exact (Nat.pow_le_pow_iff_left (by norm_num)).mp h2

theorem c20_packI_bounds {N : Nat} (hN : 1 ≤ N) (id : Nat) : 1 ≤ packI N id ∧ packI N id ≤ N := by
  unfold packI
  dsimp only
  split
  · rename_i h
    obtain ⟨a, ha, _, hmin⟩ := c20_ceilTwoPower_least id
    rw [ha]
    exact ⟨Nat.two_pow_pos a, le_trans (Nat.pow_le_pow_right (by decide) (hmin _ (Nat.le_of_lt h))) (c20_packExp_le hN)⟩
  · exact ⟨Nat.one_le_two_pow, c20_packExp_le hN⟩

/-- side conditions with LWE packing: the input block is the fixed power of two `packI` -/
def c20_GoodPack (N bs id od : Nat) (st : Best) : Prop :=
  1 ≤ st.b ∧ st.b ≤ bs ∧ st.i = packI N id ∧ 1 ≤ st.i ∧ 1 ≤ st.o ∧ st.o ≤ od ∧ st.b * st.i * st.o ≤ N

theorem c20_mmPackCost_lt (obj : Objective) {bc ic oc i : Nat} (hi : 1 ≤ i) (h1 : bc < 2^20) (h2 : ic < 2^20) (h3 : oc < 2^20) :
    mmPackCost obj bc ic oc i < usizeMax := by
  obtain ⟨a1, a2, a3⟩ := c20_mm_products h1 h2 h3
  have a4 : ceilDiv (bc * oc) i ≤ bc * oc := c20_ceilDiv_le hi
  rw [c20_usizeMax_eq]
  cases obj <;> simp only [mmPackCost] <;> omega

theorem c20_mmPackSearch_sound (N bs id od : Nat) (obj : Objective) (hN : 1 ≤ N) (hbs : 1 ≤ bs) (hod : 1 ≤ od)
    (hsz : bs < 2^20 ∧ id < 2^20 ∧ od < 2^20) : c20_GoodPack N bs id od (mmPackSearch N bs id od obj) := by
  obtain ⟨hi1, hiN⟩ := c20_packI_bounds hN id
  have hinv : mmPackSearch N bs id od obj = Best.init ∨ c20_GoodPack N bs id od (mmPackSearch N bs id od obj) := by
    apply c20_downLoop_inv (fun s => s = Best.init ∨ c20_GoodPack N bs id od s) _ bs Best.init (Or.inl rfl)
    intro st b h1 h2 hs
    rcases c20_cand_cases (r := mmPackStep N bs id od obj (packI N id) st b) rfl with ⟨e, _⟩ | ⟨_, ho, _, e⟩
    · exact e.symm ▸ hs
    · exact e.symm ▸ Or.inr ⟨h1, h2, rfl, hi1, ho, Nat.min_le_right _ _, c20_block_fit h1 hi1 (Nat.min_le_left _ _)⟩
  have hfound : (mmPackSearch N bs id od obj).c < usizeMax := by
    apply c20_downLoop_last (fun (s : Best) => s.c < usizeMax) _ bs hbs
    intro st
    have ho : 1 ≤ min (N / 1 / packI N id) od := by
      have : 1 ≤ N / 1 / packI N id := by rw [Nat.div_one]; exact (Nat.le_div_iff_mul_le hi1).mpr (by omega)
      omega
    have hc := c20_mmPackCost_lt obj hi1 (lt_of_le_of_lt (c20_ceilDiv_le (le_refl 1)) hsz.1)
        (lt_of_le_of_lt (c20_ceilDiv_le hi1) hsz.2.1) (lt_of_le_of_lt (c20_ceilDiv_le ho) hsz.2.2)
    rcases c20_cand_cases (r := mmPackStep N bs id od obj (packI N id) st 1) rfl with ⟨e, h1 | h1 | h1⟩ | ⟨_, _, _, e⟩
    · omega
    · omega
    · exact e.symm ▸ lt_of_le_of_lt h1 hc
    · exact e.symm ▸ hc
  rcases hinv with h | h
  · rw [h] at hfound; exact absurd hfound (lt_irrefl _)
  · exact h

theorem c20_helperNew_eq {bs id od N : Nat} (obj : Objective) (pack : Bool) (hbs : 1 ≤ bs) (hid : 1 ≤ id) (hod : 1 ≤ od) (hN : 1 ≤ N) :
    Helper.new bs id od N obj pack = .ok (let st := if pack then mmPackSearch N bs id od obj else mmSearch N bs id od obj
      ⟨bs, id, od, st.b, st.i, st.o, N, pack⟩) := by
  unfold Helper.new
  rw [if_neg (by omega)]

/-- what the convolution's block search establishes: batch and channel blocks positive and within their dimensions, the tile between
    the kernel and the image in both directions, and `ci·co·w·h·b ≤ N` -/
def c20_GoodC (S : ConvShape) (N : Nat) (st : CBest) : Prop :=
  1 ≤ st.b ∧ st.b ≤ S.b ∧ S.kh ≤ st.h ∧ st.h ≤ S.h ∧ S.kw ≤ st.w ∧ st.w ≤ S.w ∧ 1 ≤ st.ci ∧ st.ci ≤ S.ci ∧ 1 ≤ st.co ∧ st.co ≤ S.co
    ∧ st.ci * st.co * st.w * st.h * st.b ≤ N

/-- the shape of the convolution search body (`r` is `cvStep …`, matched by `rfl`) -/
theorem c20_cvCand_cases {r st : CBest} {b h w ci co c : Nat}
    (hr : r = if ci = 0 then st else if c < st.c then ⟨b, h, w, ci, co, c⟩ else st) :
    (r = st ∧ (ci = 0 ∨ st.c ≤ c)) ∨ (ci ≠ 0 ∧ c < st.c ∧ r = ⟨b, h, w, ci, co, c⟩) := by
  subst hr
  by_cases h1 : ci = 0
  · exact Or.inl ⟨by rw [if_pos h1], Or.inl h1⟩
  by_cases h2 : c < st.c
  · exact Or.inr ⟨h1, h2, by rw [if_neg h1, if_pos h2]⟩
  · exact Or.inl ⟨by rw [if_neg h1, if_neg h2], Or.inr (Nat.le_of_not_lt h2)⟩

/-- the products the convolution cost functions are made of.  `b`, `c` may be one more than a dimension bound: the tie file
    GenAppConv applies the lemma to counts of image rows / columns; `c20_cvCost_lt` below needs `2^15` only. -/
theorem c20_cv_products {a b c d e : Nat} (ha : a ≤ 2^15) (hb : b ≤ 2^16) (hc : c ≤ 2^16) (hd : d ≤ 2^15) (he : e ≤ 2^15) :
    a * b ≤ 2^62 ∧ a * b * c ≤ 2^62 ∧ a * b * c * d ≤ 2^62 ∧ a * b * c * e ≤ 2^62 ∧ d * e ≤ 2^62 :=
  ⟨Nat.le_trans (Nat.mul_le_mul ha hb) (by decide),
   Nat.le_trans (Nat.mul_le_mul (Nat.mul_le_mul ha hb) hc) (by decide),
   Nat.le_trans (Nat.mul_le_mul (Nat.mul_le_mul (Nat.mul_le_mul ha hb) hc) hd) (by decide),
   Nat.le_trans (Nat.mul_le_mul (Nat.mul_le_mul (Nat.mul_le_mul ha hb) hc) he) (by decide),
   Nat.le_trans (Nat.mul_le_mul hd he) (by decide)⟩

theorem c20_cvCost_lt (obj : Objective) {a b c d e : Nat} (ha : a ≤ 2^15) (hb : b ≤ 2^15) (hc : c ≤ 2^15) (hd : d ≤ 2^15)
    (he : e ≤ 2^15) : cvCost obj (a * b * c * d) (a * b * c * e) (d * e) < usizeMax := by
  obtain ⟨_, _, p1, p2, p3⟩ := c20_cv_products ha (Nat.le_trans hb (by decide)) (Nat.le_trans hc (by decide)) hd he
  rw [c20_usizeMax_eq]
  cases obj <;> simp only [cvCost] <;> omega

theorem c20_cvSearch_inv (S : ConvShape) (N : Nat) (obj : Objective) (hkh : 1 ≤ S.kh) (hkw : 1 ≤ S.kw) :
    cvSearch S N obj = CBest.init ∨ c20_GoodC S N (cvSearch S N obj) := by
  unfold cvSearch
  let P : CBest → Prop := fun s => s = CBest.init ∨ c20_GoodC S N s
  refine foldl_inv P (Or.inl rfl) fun st b hb hs => foldl_inv P hs fun st h hh hs =>
    foldl_inv P hs fun st w hw hs => foldl_inv P hs fun st co hco hs => ?_
  obtain ⟨hb1, hb2⟩ := c20_mem_downRange.mp hb
  obtain ⟨hh1, hh2⟩ := c20_mem_downRange.mp hh
  obtain ⟨hw1, hw2⟩ := c20_mem_downRange.mp hw
  obtain ⟨hc1, hc2⟩ := c20_mem_downRange.mp hco
  rcases c20_cvCand_cases (r := cvStep S obj b h w (N / b / h / w) st co) rfl with ⟨e, _⟩ | ⟨hci, _, e⟩
  · exact e.symm ▸ hs
  · -- the candidate fits: `ci ≤ N / b / h / w / co`
    have e1 : min S.ci (N / b / h / w / co) * co ≤ N / b / h / w :=
      (Nat.le_div_iff_mul_le hc1).mp (Nat.min_le_right _ _)
    have e2 : min S.ci (N / b / h / w / co) * co * w ≤ N / b / h := (Nat.le_div_iff_mul_le (by omega)).mp e1
    have e3 : min S.ci (N / b / h / w / co) * co * w * h ≤ N / b := (Nat.le_div_iff_mul_le (by omega)).mp e2
    have e4 : min S.ci (N / b / h / w / co) * co * w * h * b ≤ N := (Nat.le_div_iff_mul_le hb1).mp e3
    exact e.symm ▸ Or.inr ⟨hb1, hb2, hh1, le_trans hh2 (Nat.min_le_left _ _), hw1, le_trans hw2 (Nat.min_le_left _ _),
      Nat.pos_of_ne_zero hci, Nat.min_le_left _ _, hc1, le_trans hc2 (Nat.min_le_left _ _), e4⟩

/-- **block search (convolution)**: for every admissible shape (kernel fits into the image and into the ring) the returned blocks
    are non-zero and satisfy the side conditions, in particular `b·ci·co·h·w ≤ N`. -/
theorem c20_cvSearch_sound (S : ConvShape) (N : Nat) (obj : Objective) (hb : 1 ≤ S.b) (hci : 1 ≤ S.ci) (hco : 1 ≤ S.co)
    (hkh : 1 ≤ S.kh) (hkw : 1 ≤ S.kw) (hh : S.kh ≤ S.h) (hw : S.kw ≤ S.w) (hN : S.kh * S.kw ≤ N)
    (hsz : S.b ≤ 2^15 ∧ S.ci ≤ 2^15 ∧ S.co ≤ 2^15 ∧ S.h ≤ 2^15 ∧ S.w ≤ 2^15) : c20_GoodC S N (cvSearch S N obj) := by
  -- the candidate `b = 1`, `h = kh`, `w = kw`, `co = 1` is visited and recorded unless a cheaper one is known; a recorded cost
  -- stays below `usize::MAX` in all four loops
  have hfound : (cvSearch S N obj).c < usizeMax := by
    let Q : CBest → Prop := fun s => s.c < usizeMax
    have mono1 : ∀ b h w u st co, st.c < usizeMax → (cvStep S obj b h w u st co).c < usizeMax := fun b h w u st co hq => by
      rcases c20_cvCand_cases (r := cvStep S obj b h w u st co) rfl with ⟨e, _⟩ | ⟨_, h2, e⟩
      · exact e.symm ▸ hq
      · exact e.symm ▸ lt_trans h2 hq
    have mono2 : ∀ b h w u (l : List Nat) st, st.c < usizeMax → (l.foldl (cvStep S obj b h w u) st).c < usizeMax :=
      fun b h w u l st hq => foldl_inv Q hq fun s co _ hs => mono1 _ _ _ _ s co hs
    have hdiv1 : S.kw ≤ N / 1 / S.kh := by
      rw [Nat.div_one]; exact (Nat.le_div_iff_mul_le hkh).mpr (by rw [Nat.mul_comm]; exact hN)
    have hdiv2 : 1 ≤ N / 1 / S.kh / S.kw := (Nat.le_div_iff_mul_le hkw).mpr (by omega)
    have hkhN : S.kh ≤ N / 1 := by
      rw [Nat.div_one]; exact le_trans (Nat.le_mul_of_pos_right _ hkw) hN
    unfold cvSearch
    refine c20_foldl_reach Q _ _ _ ⟨1, c20_mem_downRange.mpr ⟨le_refl _, hb⟩, fun st => ?_⟩
      fun st b _ hq => foldl_inv Q hq fun s h _ hs =>
        foldl_inv Q hs fun s w _ hs => mono2 _ _ _ _ _ s hs
    refine c20_foldl_reach Q _ _ _
      ⟨S.kh, c20_mem_downRange.mpr ⟨le_refl _, by omega⟩, fun st => ?_⟩
      fun st h _ hq => foldl_inv Q hq fun s w _ hs => mono2 _ _ _ _ _ s hs
    refine c20_foldl_reach Q _ _ _
      ⟨S.kw, c20_mem_downRange.mpr ⟨le_refl _, by omega⟩, fun st => ?_⟩ fun st w _ hq => mono2 _ _ _ _ _ st hq
    refine c20_foldl_reach Q _ _ _
      ⟨1, c20_mem_downRange.mpr ⟨le_refl _, by omega⟩, fun st => ?_⟩ fun st co _ hq => mono1 _ _ _ _ st co hq
    have hci1 : 1 ≤ min S.ci (N / 1 / S.kh / S.kw / 1) := by rw [Nat.div_one (N / 1 / S.kh / S.kw)]; omega
    have hc := c20_cvCost_lt obj (le_trans (c20_ceilDiv_le (le_refl 1)) hsz.1)
      (le_trans (c20_ceilDiv_le (a := S.h - S.kh + 1) (b := S.kh - S.kh + 1) (by omega)) (by omega))
      (le_trans (c20_ceilDiv_le (a := S.w - S.kw + 1) (b := S.kw - S.kw + 1) (by omega)) (by omega))
      (le_trans (c20_ceilDiv_le hci1) hsz.2.1) (le_trans (c20_ceilDiv_le (le_refl 1)) hsz.2.2.1)
    rcases c20_cvCand_cases (r := cvStep S obj 1 S.kh S.kw (N / 1 / S.kh / S.kw) st 1) rfl with ⟨e, h1 | h1⟩ | ⟨_, _, e⟩
    · omega
    · exact e.symm ▸ lt_of_le_of_lt h1 hc
    · exact e.symm ▸ hc
  rcases c20_cvSearch_inv S N obj hkh hkw with h | h
  · rw [h] at hfound; exact absurd hfound (lt_irrefl _)
  · exact h

/-- the weight buffer `spread` (sized with the height *block*) fits into the ring -/
theorem c20_spread_fits (S : ConvShape) (N : Nat) (obj : Objective) (h : c20_GoodC S N (cvSearch S N obj)) :
    (CHelper.new S N obj).spreadSize ≤ N ∧ (CHelper.new S N obj).bb * (CHelper.new S N obj).cib * (CHelper.new S N obj).cob *
        (CHelper.new S N obj).blockSize ≤ N := by
  obtain ⟨hb1, _, _, _, _, _, _, _, _, _, hfit⟩ := h
  simp only [CHelper.new, CHelper.spreadSize, CHelper.blockSize]
  constructor
  · calc (cvSearch S N obj).ci * (cvSearch S N obj).co * (cvSearch S N obj).w * (cvSearch S N obj).h
        ≤ (cvSearch S N obj).ci * (cvSearch S N obj).co * (cvSearch S N obj).w * (cvSearch S N obj).h * (cvSearch S N obj).b :=
          Nat.le_mul_of_pos_right _ hb1
      _ ≤ N := hfit
  · calc (cvSearch S N obj).b * (cvSearch S N obj).ci * (cvSearch S N obj).co * ((cvSearch S N obj).h * (cvSearch S N obj).w)
        = (cvSearch S N obj).ci * (cvSearch S N obj).co * (cvSearch S N obj).w * (cvSearch S N obj).h * (cvSearch S N obj).b := by ring
      _ ≤ N := hfit

end HC
