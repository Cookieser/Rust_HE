import Heathcliff.Proofs.WorldOK
import Heathcliff.Proofs.GenNttHarvey

/-! Non-vacuity witnesses for the hypothesis bundles of Proofs/GenNttHarvey.lean: the table `nv_t17` (q = 17, N = 4,
    built by `NTTTables.new`, Proofs/World.lean) satisfies every hypothesis of the source-to-mathematics statements, and the generated
    functions RUN inside the kernel on it. -/
namespace HC
open HC.GenD

/-- the lazy instance bundle at q = 17 -/
example : RealFwd (arith_ModArithLazy (GenN.mal_new nv_m17)) (modArithLazy nv_m17) (fun x => x < 4 * nv_m17.value) (WFOp nv_m17) :=
  gd_lazy_fwd nv_m17_wf _ rfl (gx_mal_new_two _ (by decide))
example : RealInv (arith_ModArithLazy (GenN.mal_new nv_m17)) (modArithLazy nv_m17) (fun x => x < 2 * nv_m17.value) (WFOp nv_m17) :=
  gd_lazy_inv nv_m17_wf _ rfl (gx_mal_new_two _ (by decide))

/-- every hypothesis of `gd_source_roundtrip` / `gd_source_inverse` holds for the coefficient vector [1, 2, 3, 4] -/
example : ∃ out, ntt_negacyclic_harvey (gd_view nv_t17) [1, 2, 3, 4] = .ok out ∧ out.length = 2^nv_t17.k ∧
    (∀ i, i < 2^nv_t17.k → out[i]? = some (evalSpec nv_t17 [1, 2, 3, 4].toArray i)) ∧
    inverse_ntt_negacyclic_harvey (gd_view nv_t17) out = .ok [1, 2, 3, 4] :=
  gd_source_roundtrip nv_t17_wf [1, 2, 3, 4] rfl (by decide)

/-- the generated code run by the kernel: X ↦ (ψ^(2 brev(i)+1))_i with ψ = 2 mod 17 (2, 2^5 = 15, 2^3 = 8, 2^7 = 9), and back -/
example : ntt_negacyclic_harvey (gd_view nv_t17) [0, 1, 0, 0] = .ok [2, 15, 8, 9] := by decide +kernel
example : inverse_ntt_negacyclic_harvey (gd_view nv_t17) [2, 15, 8, 9] = .ok [0, 1, 0, 0] := by decide +kernel
example : ntt_negacyclic_harvey_lazy (gd_view nv_t17) [67, 67, 67, 67] = .ok (nttLazy nv_t17 #[67, 67, 67, 67]).toList := by decide +kernel

end HC
