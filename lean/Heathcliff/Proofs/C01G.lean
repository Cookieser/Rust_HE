/- C01 part G: every branch of the level dispatch `encryptZeroInternal` without a previous level yields a FRESH ENCRYPTION OF ZERO
   (`FreshZero`): a canonical size-2 ciphertext with correction factor 1 whose exact phase (coefficient view) is tt·ν modulo Q with an
   explicit noise polynomial ν: public key (BFV coefficient form, CKKS / BGV NTT form), secret key (all schemes, both seed variants).
   The branch through the previous level is C01H. -/
import Heathcliff.Proofs.C01F
import Heathcliff.Proofs.C05U
namespace HC
open Finset Polynomial

/-- the exact phase (centred, modulo Q) of the size-2 ciphertext (c0, c1) with the given form flag -/
def encPhase (l : Level) (sk : Array Int) (ntt : Bool) (c0 c1 : RnsPoly) : Spec.ZPoly :=
  Spec.phase (c01p_qvals l) l.n sk [cview l ntt c0, cview l ntt c1]

/-- FRESH ENCRYPTION OF ZERO at level `l` under `sk` with noise polynomial ν: the computation succeeds with a canonical size-2 ciphertext
    in the scheme's form, correction factor 1, whose exact phase is tt·ν modulo Q (tt = t for BGV, 1 otherwise) -/
def FreshZero (l : Level) (sk : Array Int) (r : R Ct) (ν : Nat → Int) : Prop :=
  ∃ c0 c1, r = .ok ⟨#[c0, c1], l.scheme.encNtt, 1⟩ ∧ RnsCanon l c0 ∧ RnsCanon l c1 ∧
    ∀ c, c < l.n → (encPhase l sk l.scheme.encNtt c0 c1).getD c 0 ≡ (encTT l : Int) * ν c [ZMOD (Spec.prodL (c01p_qvals l) : Int)]

theorem FreshZero.bfv {l : Level} {sk : Array Int} {r : R Ct} {ν : Nat → Int} (hf : FreshZero l sk r ν) (hb : l.scheme = .bfv) :
    ∃ c0 c1, r = .ok ⟨#[c0, c1], false, 1⟩ ∧ RnsCanon l c0 ∧ RnsCanon l c1 ∧
      ∀ c, c < l.n → (Spec.phase (c01p_qvals l) l.n sk [c0, c1]).getD c 0 ≡ ν c [ZMOD (Spec.prodL (c01p_qvals l) : Int)] := by
  obtain ⟨c0, c1, hz, hC0, hC1, hph⟩ := hf
  rw [hb] at hz hph
  rw [c01e_encTT_other (by rw [hb]; decide), Nat.cast_one] at hph
  exact ⟨c0, c1, hz, hC0, hC1, fun c hc => by rw [← one_mul (ν c)]; exact hph c hc⟩

theorem FreshZero.ckks {l : Level} {sk : Array Int} {r : R Ct} {ν : Nat → Int} (hf : FreshZero l sk r ν) (hc : l.scheme = .ckks) :
    ∃ c0 c1, r = .ok ⟨#[c0, c1], true, 1⟩ ∧ RnsCanon l c0 ∧ RnsCanon l c1 ∧
      ∀ c, c < l.n → (Spec.phase (c01p_qvals l) l.n sk [rnsIntt l c0, rnsIntt l c1]).getD c 0 ≡ ν c
        [ZMOD (Spec.prodL (c01p_qvals l) : Int)] := by
  obtain ⟨c0, c1, hz, hC0, hC1, hph⟩ := hf
  rw [hc] at hz hph
  rw [c01e_encTT_other (by rw [hc]; decide), Nat.cast_one] at hph
  exact ⟨c0, c1, hz, hC0, hC1, fun c hc' => by rw [← one_mul (ν c)]; exact hph c hc'⟩

theorem FreshZero.bgv {l : Level} {sk : Array Int} {r : R Ct} {ν : Nat → Int} (hf : FreshZero l sk r ν) (hb : l.scheme = .bgv) :
    ∃ c0 c1, r = .ok ⟨#[c0, c1], true, 1⟩ ∧ RnsCanon l c0 ∧ RnsCanon l c1 ∧
      ∀ c, c < l.n → (Spec.phase (c01p_qvals l) l.n sk [rnsIntt l c0, rnsIntt l c1]).getD c 0 ≡ (l.t.value : Int) * ν c
        [ZMOD (Spec.prodL (c01p_qvals l) : Int)] := by
  obtain ⟨c0, c1, hz, hC0, hC1, hph⟩ := hf
  rw [hb] at hz hph
  rw [c01e_encTT_bgv hb] at hph
  exact ⟨c0, c1, hz, hC0, hC1, hph⟩

/-- the noise polynomial of a public-key encryption: −e_pk ⋆ u + e0 + e1 ⋆ s -/
def pkNoise (n : Nat) (epk u e0 e1 s : Nat → Int) (c : Nat) : Int := - negMulR n epk u c + e0 c + negMulR n e1 s c

theorem pkNoise_bound (n : Nat) (epk u e0 e1 s : Nat → Int)
    (he : ∀ i, i < n → (epk i).natAbs ≤ 21) (he0 : ∀ i, i < n → (e0 i).natAbs ≤ 21) (he1 : ∀ i, i < n → (e1 i).natAbs ≤ 21)
    (hu : ∀ i, i < n → (u i).natAbs ≤ 1) (hs : ∀ i, i < n → (s i).natAbs ≤ 1) :
    ∀ c, c < n → (pkNoise n epk u e0 e1 s c).natAbs ≤ 21 * (2 * n + 1) :=
  fresh_noise_bound n epk u e0 e1 s he he0 he1 hu hs

theorem c01g_tt_noise (n : Nat) (tt : Int) (epk u e0 e1 s : Nat → Int) (c : Nat) :
    0 - negMulR n (fun p => tt * epk p) u c + tt * e0 c + negMulR n (fun p => tt * e1 p) s c = tt * pkNoise n epk u e0 e1 s c := by
  unfold pkNoise
  rw [c05u_negMul_smul, c05u_negMul_smul]
  ring

/-- `encryptZeroAsym` at ANY level and for the scheme's own form is a fresh encryption of zero with noise `pkNoise`
    (this is both the dispatch branch "public key, no previous level" and the first half of the branch through the previous level) -/
theorem encryptZeroAsym_fresh {l : Level} (hl : l.WF) (hq : c07s_LevelQ l) (ht : l.t.value < 2^64) {sk : Array Int}
    {pk0 pk1 : RnsPoly} {epk : Nat → Int} (hpk : PkRel l sk (fun c => (encTT l : Int) * epk c) pk0 pk1)
    {u e0 e1 : Array Int} (hus : u.size = l.n) (he0s : e0.size = l.n) (he1s : e1.size = l.n) :
    FreshZero l sk (encryptZeroAsym l #[pk0, pk1] (rnsOfInt l u) #[rnsOfInt l e0, rnsOfInt l e1] l.scheme.encNtt)
      (pkNoise l.n epk (fun p => u.getD p 0) (fun p => e0.getD p 0) (fun p => e1.getD p 0) (fun p => sk.getD p 0)) := by
  obtain ⟨c0, c1, hz, hC0, hC1, -, -, hph⟩ := encryptZeroAsym_view_phase hl hq (fun _ => ht) l.scheme.encNtt hpk hus he0s he1s
  refine ⟨c0, c1, hz, hC0, hC1, fun c hc => ?_⟩
  rw [← c01g_tt_noise]
  exact hph c hc

/-- `encryptZeroSym` for the scheme's own form is a fresh encryption of zero with noise −e (both seed variants) -/
theorem encryptZeroSym_fresh {l : Level} (hl : l.WF) (hq : c07s_LevelQ l) (ht : l.t.value < 2^64) {sk : Array Int} (hsk : sk.size = l.n)
    {a : RnsPoly} (ha : RnsCanon l a) {e : Array Int} (hes : e.size = l.n) (saveSeed : Bool) :
    FreshZero l sk (encryptZeroSym l sk a (rnsOfInt l e) l.scheme.encNtt saveSeed) (fun c => - e.getD c 0) := by
  obtain ⟨c0, c1, hz, hC0, hC1, -, -, hph⟩ := encryptZeroSym_view_phase hl hq (fun _ => ht) l.scheme.encNtt hsk ha hes saveSeed
  refine ⟨c0, c1, hz, hC0, hC1, fun c hc => ?_⟩
  rw [mul_neg, ← zero_sub]
  exact hph c hc

/-- the dispatch branch: public key, level without a previous level (all three schemes) -/
theorem encryptZeroInternal_fresh_pk {l : Level} (hl : l.WF) (hq : c07s_LevelQ l) (ht : l.t.value < 2^64) {sk : Array Int}
    {pk0 pk1 : RnsPoly} {epk : Nat → Int} (hpk : PkRel l sk (fun c => (encTT l : Int) * epk c) pk0 pk1)
    {u e0 e1 : Array Int} (hus : u.size = l.n) (he0s : e0.size = l.n) (he1s : e1.size = l.n) :
    FreshZero l sk (encryptZeroInternal l (.asym none #[pk0, pk1] (rnsOfInt l u) #[rnsOfInt l e0, rnsOfInt l e1]))
      (pkNoise l.n epk (fun p => u.getD p 0) (fun p => e0.getD p 0) (fun p => e1.getD p 0) (fun p => sk.getD p 0)) :=
  encryptZeroAsym_fresh hl hq ht hpk hus he0s he1s

/-- the dispatch branch: secret key (every level, all three schemes, with and without a saved seed) -/
theorem encryptZeroInternal_fresh_sk {l : Level} (hl : l.WF) (hq : c07s_LevelQ l) (ht : l.t.value < 2^64) {sk : Array Int}
    (hsk : sk.size = l.n) {a : RnsPoly} (ha : RnsCanon l a) {e : Array Int} (hes : e.size = l.n) (saveSeed : Bool) :
    FreshZero l sk (encryptZeroInternal l (.sym sk a (rnsOfInt l e) saveSeed)) (fun c => - e.getD c 0) :=
  encryptZeroSym_fresh hl hq ht hsk ha hes saveSeed

end HC
