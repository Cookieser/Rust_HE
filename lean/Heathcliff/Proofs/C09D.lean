/- C09 part D: the generic butterfly network over ANY commutative ring is the evaluation map at the odd powers of psi
   (bit-reversed order), the inverse network undoes it up to the factor 2^k, both networks are linear maps, and
   evaluation turns the negacyclic product into the pointwise product.  The file opens with the lemmas on bit reversal `brev`
   (splitting, involution, the index of the top block, predecessor) that C11, C12, C19 and the generated index maps use as well,
   and `root_pow_odd` / `root_pow_mod` on roots of X^n + 1. -/
import Heathcliff.Proofs.NTTDefs
import Mathlib.Tactic.IntervalCases
import Mathlib.Tactic.NormNum
import Mathlib.Tactic.LinearCombination
namespace HC
open Finset

/-! ### bit reversal -/
theorem brev_succ (k i : Nat) : brev (k+1) i = (i % 2) * 2^k + brev k (i / 2) := rfl

theorem brev_zero_right (k : Nat) : brev k 0 = 0 := by
  induction k with
  | zero => rfl
  | succ k ih => simp [brev_succ, ih]

theorem brev_lt (k i : Nat) : brev k i < 2^k := by
  induction k generalizing i with
  | zero => exact Nat.one_pos
  | succ k ih =>
    have h1 := ih (i/2)
    have h3 : (i % 2) * 2^k ≤ 1 * 2^k := Nat.mul_le_mul_right _ (by omega)
    rw [brev_succ, pow_succ]
    omega

/-- reversal of a concatenation: high part `x`, low `b` bits `y` -/
theorem brev_split (a b x y : Nat) (hy : y < 2^b) :
    brev (a+b) (x*2^b + y) = brev b y * 2^a + brev a x := by
  induction b generalizing y with
  | zero =>
    obtain rfl : y = 0 := by simpa using hy
    simp [brev]
  | succ b ih =>
    have hy' : y / 2 < 2^b := Nat.div_lt_of_lt_mul (by rw [← pow_succ']; exact hy)
    rw [show x * 2^(b+1) + y = 2 * (x * 2^b) + y by ring, ← Nat.add_assoc, brev_succ (a+b), Nat.mul_add_mod,
      Nat.mul_add_div Nat.two_pos, ih _ hy', brev_succ b y, pow_add]
    ring

theorem brev_high (k b m : Nat) (h : m < 2^k) : brev (k+1) (b*2^k+m) = 2 * brev k m + b % 2 := by
  rw [Nat.add_comm k 1, brev_split 1 k b m h, brev_succ 0 b]
  simp [brev, Nat.mul_comm]

theorem brev_brev {k i : Nat} (h : i < 2^k) : brev k (brev k i) = i := by
  induction k generalizing i with
  | zero =>
    obtain rfl : i = 0 := by simpa using h
    rfl
  | succ k ih =>
    have hi : i / 2 < 2^k := by rw [pow_succ] at h; omega
    rw [brev_succ k i, brev_high k (i%2) _ (brev_lt k _), ih hi]
    omega

theorem brev_inj {k a b : Nat} (ha : a < 2^k) (hb : b < 2^k) (h : brev k a = brev k b) : a = b := by
  rw [← brev_brev ha, ← brev_brev hb, h]

theorem brev_eq_zero {k i : Nat} (hi : i < 2^k) (h : brev k i = 0) : i = 0 := by
  rw [← brev_brev hi, h, brev_zero_right]

theorem brev_two_mul (k m : Nat) : brev (k+1) (2*m) = brev k m := by
  rw [brev_succ, Nat.mul_mod_right, Nat.zero_mul, Nat.zero_add, Nat.mul_div_cancel_left m Nat.two_pos]

theorem brev_two_mul_add_one (k m : Nat) : brev (k+1) (2*m+1) = 2^k + brev k m := by
  rw [brev_succ, Nat.mul_add_mod, Nat.one_mul, Nat.mul_add_div Nat.two_pos]
  rfl

theorem brev_succ_of_lt {k m : Nat} (h : m < 2^k) : brev (k+1) m = 2 * brev k m := by
  have := brev_high k 0 m h
  simpa using this

theorem brev_allones (k : Nat) : brev k (2^k - 1) = 2^k - 1 := by
  induction k with
  | zero => rfl
  | succ k ih =>
    have hp : 0 < 2^k := Nat.two_pow_pos k
    rw [show 2^(k+1) - 1 = 2 * (2^k - 1) + 1 by rw [pow_succ]; omega, brev_two_mul_add_one, ih]
    omega

/-- the table index `2^l + i` (an (l+1)-bit number with leading one) reversed in `l+1+d` bits -/
theorem brev_top (l d i : Nat) (hi : i < 2^l) :
    brev (l+1+d) (2^l + i) = (2 * brev l i + 1) * 2^d := by
  have h := brev_split d (l+1) 0 (2^l + i) (by rw [pow_succ]; omega)
  rw [Nat.zero_mul, Nat.zero_add, brev_zero_right, Nat.add_zero, Nat.add_comm d] at h
  have h2 := brev_high l 1 i hi
  rw [Nat.one_mul] at h2
  rw [h, h2]
  rfl

/-- index identity linking the scrambled inverse table to the bit-reversed forward table -/
theorem brev_pred {k l i : Nat} (hl : l < k) (hi : i < 2^l) :
    brev k (brev k (2^l + i) - 1) = 2^k - 2^(l+1) + i := by
  obtain ⟨d, rfl⟩ : ∃ d, k = l+1+d := ⟨k-l-1, by omega⟩
  have hp : 0 < 2^d := Nat.two_pow_pos d
  -- the reversed index is `brev l i` followed by a one and `d` zeros; its predecessor ends in a zero and `d` ones
  have e : (2 * brev l i + 1) * 2^d - 1 = brev l i * 2^(d+1) + (2^d - 1) := by
    rw [show (2 * brev l i + 1) * 2^d = brev l i * 2^(d+1) + 2^d by ring]; omega
  have hy : 2^d - 1 < 2^(d+1) := by rw [pow_succ]; omega
  rw [brev_top l d i hi, e, Nat.add_assoc l 1 d, Nat.add_comm 1 d, brev_split l (d+1) _ _ hy,
    brev_succ_of_lt (Nat.sub_lt hp Nat.one_pos), brev_allones, brev_brev hi,
    show 2^(l+(d+1)) = 2 * 2^d * 2^l by ring, show 2^(l+1) = 2 * 1 * 2^l by ring, ← Nat.sub_mul, ← Nat.mul_sub]

/-! ### index arithmetic inside a block of width `2g` -/
theorem block_div_lt (g M p : Nat) (hg : 0 < g) (hp : p < M * (2*g)) : p / (2*g) < M :=
  (Nat.div_lt_iff_lt_mul (by omega)).2 hp

theorem block_bound (g M p : Nat) (hp : p < M * (2*g)) (h : p % (2*g) < g) : p + g < M * (2*g) := by
  have h1 : 2*g*(p/(2*g) + 1) ≤ 2*g*M := Nat.mul_le_mul_left _ (block_div_lt g M p (by omega) hp)
  have hd := Nat.div_add_mod p (2*g)
  rw [Nat.mul_comm M]
  rw [Nat.mul_add, Nat.mul_one] at h1
  omega

theorem two_pow_split (l d : Nat) : 2^(l+1+d) = 2^l * (2 * 2^d) := by ring

theorem pow_split_fwd {k l : Nat} (hl : l < k) : 2^k = 2^l * (2 * 2^(k-l-1)) := by
  rw [← pow_succ', ← pow_add]; congr 1; omega

theorem pow_split_inv {k l : Nat} (hl : l < k) : 2^k = 2^(k-1-l) * (2 * 2^l) := by
  rw [← pow_succ', ← pow_add]; congr 1; omega

theorem fwd_pair_lt {k l p : Nat} (hl : l < k) (hp : p < 2^k) (ho : p % (2*2^(k-l-1)) < 2^(k-l-1)) :
    p + 2^(k-l-1) < 2^k := by
  rw [pow_split_fwd hl] at hp ⊢; exact block_bound _ _ _ hp ho

theorem inv_pair_lt {k l p : Nat} (hl : l < k) (hp : p < 2^k) (ho : p % (2*2^l) < 2^l) : p + 2^l < 2^k := by
  rw [pow_split_inv hl] at hp ⊢; exact block_bound _ _ _ hp ho

theorem fwd_block_lt {k l p : Nat} (hl : l < k) (hp : p < 2^k) : p / (2*2^(k-l-1)) < 2^l :=
  block_div_lt _ _ _ (Nat.two_pow_pos _) (pow_split_fwd hl ▸ hp)

theorem inv_block_lt {k l p : Nat} (hl : l < k) (hp : p < 2^k) : p / (2*2^l) < 2^(k-1-l) :=
  block_div_lt _ _ _ (Nat.two_pow_pos _) (pow_split_inv hl ▸ hp)

/-! ### a layer reads only positions below `2^k` (`…G`: for any `Arith` instance, not only the exact one) -/

theorem fwdLayer_congrG {α ρ : Type} (A : Arith α ρ) {k l : Nat} (hl : l < k) (roots : Nat → ρ) {v v' : Nat → α}
    (hv : ∀ p, p < 2^k → v p = v' p) {p : Nat} (hp : p < 2^k) :
    fwdLayer A k l roots v p = fwdLayer A k l roots v' p := by
  unfold fwdLayer
  dsimp only
  split
  · rename_i ho
    rw [hv p hp, hv _ (fwd_pair_lt hl hp ho)]
  · rw [hv p hp, hv (p - 2^(k-l-1)) (Nat.lt_of_le_of_lt (Nat.sub_le _ _) hp)]

theorem invLayer_congrG {α ρ : Type} (A : Arith α ρ) {k l : Nat} (hl : l < k) (roots : Nat → ρ) {v v' : Nat → α}
    (hv : ∀ p, p < 2^k → v p = v' p) {p : Nat} (hp : p < 2^k) :
    invLayer A k l roots v p = invLayer A k l roots v' p := by
  unfold invLayer
  dsimp only
  split
  · rename_i ho
    rw [hv p hp, hv _ (inv_pair_lt hl hp ho)]
  · rw [hv p hp, hv (p - 2^l) (Nat.lt_of_le_of_lt (Nat.sub_le _ _) hp)]

variable {R : Type} [CommRing R]

/-- the network only looks at indices below 2^k -/
theorem runFwd_congr (k : Nat) (roots : Nat → R) (a a' : Nat → R) (h : ∀ p, p < 2^k → a p = a' p) :
    ∀ l, l ≤ k → ∀ p, p < 2^k → runFwd (exactArith R) k roots a l p = runFwd (exactArith R) k roots a' l p := by
  intro l
  induction l with
  | zero => intro _ p hp; exact h p hp
  | succ l ih => intro hl p hp; exact fwdLayer_congrG _ (by omega) roots (ih (by omega)) hp

theorem runInv_congr (k : Nat) (roots : Nat → R) (a a' : Nat → R) (h : ∀ p, p < 2^k → a p = a' p) :
    ∀ l, l ≤ k → ∀ p, p < 2^k → runInv (exactArith R) k roots a l p = runInv (exactArith R) k roots a' l p := by
  intro l
  induction l with
  | zero => intro _ p hp; exact h p hp
  | succ l ih => intro hl p hp; exact invLayer_congrG _ (by omega) roots (ih (by omega)) hp

/-! ### the layers of the exact instance, subtraction-free -/
theorem fwdLayer_eq (k l d : Nat) (hk : k = l+1+d) (roots v : Nat → R) (p : Nat) :
    fwdLayer (exactArith R) k l roots v p =
      if p % (2*2^d) < 2^d then v p + v (p+2^d) * roots (2^l + p/(2*2^d))
      else v (p-2^d) - v p * roots (2^l + p/(2*2^d)) := by
  subst hk
  simp only [fwdLayer, show l+1+d-l-1 = d by omega, exactArith]

theorem invLayer_eq (k lam d : Nat) (hk : k = lam+1+d) (roots v : Nat → R) (p : Nat) :
    invLayer (exactArith R) k lam roots v p =
      if p % (2*2^lam) < 2^lam then v p + v (p+2^lam)
      else (v (p-2^lam) - v p) * roots (2^k - 2*2^d + 1 + p/(2*2^lam)) := by
  subst hk
  simp only [invLayer, show lam+1+d-1-lam = d by omega, exactArith]

theorem fwdLayer_smul (k l : Nat) (roots v : Nat → R) (c : R) (p : Nat) :
    fwdLayer (exactArith R) k l roots (fun q => c * v q) p = c * fwdLayer (exactArith R) k l roots v p := by
  simp only [fwdLayer, exactArith]
  split <;> ring

theorem invLayer_smul (k lam : Nat) (roots v : Nat → R) (c : R) (p : Nat) :
    invLayer (exactArith R) k lam roots (fun q => c * v q) p = c * invLayer (exactArith R) k lam roots v p := by
  simp only [invLayer, exactArith]
  split <;> ring

/-! ### the exact networks are linear maps -/
theorem fwdLayer_lin (k l : Nat) (roots u v : Nat → R) (α β : R) (p : Nat) :
    fwdLayer (exactArith R) k l roots (fun q => α * u q + β * v q) p
      = α * fwdLayer (exactArith R) k l roots u p + β * fwdLayer (exactArith R) k l roots v p := by
  simp only [fwdLayer, exactArith]
  split <;> ring

theorem invLayer_lin (k lam : Nat) (roots u v : Nat → R) (α β : R) (p : Nat) :
    invLayer (exactArith R) k lam roots (fun q => α * u q + β * v q) p
      = α * invLayer (exactArith R) k lam roots u p + β * invLayer (exactArith R) k lam roots v p := by
  simp only [invLayer, exactArith]
  split <;> ring

theorem runFwd_lin (k : Nat) (roots u v : Nat → R) (α β : R) : ∀ l p,
    runFwd (exactArith R) k roots (fun q => α * u q + β * v q) l p
      = α * runFwd (exactArith R) k roots u l p + β * runFwd (exactArith R) k roots v l p
  | 0, _ => rfl
  | l+1, p => by
    show fwdLayer (exactArith R) k l roots (runFwd (exactArith R) k roots _ l) p = _
    rw [funext (runFwd_lin k roots u v α β l)]
    exact fwdLayer_lin k l roots _ _ α β p

theorem runInv_lin (k : Nat) (roots u v : Nat → R) (α β : R) : ∀ l p,
    runInv (exactArith R) k roots (fun q => α * u q + β * v q) l p
      = α * runInv (exactArith R) k roots u l p + β * runInv (exactArith R) k roots v l p
  | 0, _ => rfl
  | l+1, p => by
    show invLayer (exactArith R) k l roots (runInv (exactArith R) k roots _ l) p = _
    rw [funext (runInv_lin k roots u v α β l)]
    exact invLayer_lin k l roots _ _ α β p

theorem runFwd_smul (k : Nat) (roots v : Nat → R) (c : R) :
    ∀ l p, runFwd (exactArith R) k roots (fun q => c * v q) l p = c * runFwd (exactArith R) k roots v l p := by
  intro l p
  rw [show (fun q => c * v q) = fun q => c * v q + 0 * v q from funext fun q => by ring, runFwd_lin]
  ring

/-! ### forward network = evaluation -/
theorem sum_split (f : ℕ → R) (r : R) (m : ℕ) :
    ∑ s ∈ range (2*m), f s * r^s
      = ∑ t ∈ range m, f (2*t) * (r^2)^t + r * ∑ t ∈ range m, f (2*t+1) * (r^2)^t := by
  induction m with
  | zero => simp
  | succ m ih =>
    have : 2*(m+1) = 2*m + 1 + 1 := by ring
    rw [this, sum_range_succ, sum_range_succ, ih, sum_range_succ, sum_range_succ, mul_add]
    ring

/-- coefficient `j` of the input polynomial reduced modulo `X^w - ρ` (degree `< w·cnt`) -/
def blockVal (a : ℕ → R) (w cnt : ℕ) (ρ : R) (j : ℕ) : R := ∑ t ∈ range cnt, a (j + t*w) * ρ^t

theorem butterfly_left (a : ℕ → R) (g m : ℕ) (r : R) (j : ℕ) :
    blockVal a g (2*m) r j = blockVal a (2*g) m (r^2) j + r * blockVal a (2*g) m (r^2) (j+g) := by
  unfold blockVal
  rw [sum_split (fun s => a (j + s*g)) r m]
  congr 1
  · apply sum_congr rfl; intro t _; congr 2; ring
  · congr 1; apply sum_congr rfl; intro t _; congr 2; ring

theorem butterfly_right (a : ℕ → R) (g m : ℕ) (r : R) (j : ℕ) :
    blockVal a g (2*m) (-r) j = blockVal a (2*g) m (r^2) j - r * blockVal a (2*g) m (r^2) (j+g) := by
  rw [butterfly_left a g m (-r) j, neg_sq, neg_mul, sub_eq_add_neg]

theorem idx_block (G q o : Nat) (ho : o < G) : (q*G + o) % G = o ∧ (q*G + o) / G = q := by
  have hG : 0 < G := by omega
  constructor
  · rw [Nat.mul_comm, Nat.mul_add_mod, Nat.mod_eq_of_lt ho]
  · rw [Nat.mul_comm, Nat.mul_add_div hG, Nat.div_eq_of_lt ho, Nat.add_zero]

theorem fwdLayer_block (k l d : Nat) (hk : k = l+1+d) (roots v : Nat → R) (q j : Nat) (hj : j < 2^d) :
    fwdLayer (exactArith R) k l roots v (q * (2*2^d) + j)
      = v (q * (2*2^d) + j) + v (q * (2*2^d) + (j + 2^d)) * roots (2^l + q) ∧
    fwdLayer (exactArith R) k l roots v (q * (2*2^d) + (j + 2^d))
      = v (q * (2*2^d) + j) - v (q * (2*2^d) + (j + 2^d)) * roots (2^l + q) := by
  obtain ⟨m1, d1⟩ := idx_block (2*2^d) q j (by omega)
  obtain ⟨m2, d2⟩ := idx_block (2*2^d) q (j + 2^d) (by omega)
  constructor
  · rw [fwdLayer_eq k l d hk, m1, d1, if_pos hj, Nat.add_assoc]
  · rw [fwdLayer_eq k l d hk, m2, d2, if_neg (by omega), ← Nat.add_assoc, Nat.add_sub_cancel]

/-- block invariant: after `l` layers, block `i` holds the input reduced modulo
    `X^(2^d) - ψ^((2·brev l i + 1)·2^d)`.  The table is in the bit-reversed order in which `NTTTables::new` stores
    `root_powers`; layer `l` reads it at `2^l + i ≥ 1`, so nothing is asked of entry 0 (`0 < j`). -/
theorem fwd_invariant (k : Nat) (ψ : R) (hψ : ψ^(2^k) = -1) (roots : Nat → R)
    (hroots : ∀ j, 0 < j → j < 2^k → roots j = ψ^(brev k j)) (a : Nat → R) :
    ∀ l d, l + d = k → ∀ i j, i < 2^l → j < 2^d →
      runFwd (exactArith R) k roots a l (i * 2^d + j)
        = blockVal a (2^d) (2^l) (ψ^((2 * brev l i + 1) * 2^d)) j := by
  intro l
  induction l with
  | zero =>
    intro d _ i j hi hj
    obtain rfl : i = 0 := by simpa using hi
    simp [blockVal, runFwd]
  | succ l ih =>
    intro d hk i j hi hj
    have hk' : k = l+1+d := by omega
    have hK : 2^k = 2^l * (2 * 2^d) := hk' ▸ two_pow_split l d
    -- block `i = 2q + b` of this layer is one half of block `q` of the layer before
    obtain ⟨q, b, hb, rfl⟩ : ∃ q b, b < 2 ∧ i = 2 * q + b :=
      ⟨i / 2, i % 2, Nat.mod_lt _ Nat.two_pos, (Nat.div_add_mod i 2).symm⟩
    have hq : q < 2^l := by rw [pow_succ] at hi; omega
    have hd : 0 < 2^d := Nat.two_pow_pos d
    have hroot : roots (2^l + q) = ψ^((2 * brev l q + 1) * 2^d) := by
      rw [hroots (2^l + q) (by omega) (hK ▸ lt_of_lt_of_le (by omega : 2^l + q < 2^l * 2)
        (Nat.mul_le_mul_left _ (by omega))), hk', brev_top l d _ hq]
    have hsq : ψ^((2 * brev l q + 1) * 2^(d+1)) = (ψ^((2 * brev l q + 1) * 2^d))^2 := by
      rw [← pow_mul, pow_succ 2 d, Nat.mul_assoc]
    have e1 := ih (d+1) (by omega) q j hq (by rw [pow_succ]; omega)
    have e2 := ih (d+1) (by omega) q (j + 2^d) hq (by rw [pow_succ]; omega)
    rw [hsq, pow_succ' 2 d] at e1 e2
    obtain ⟨f1, f2⟩ := fwdLayer_block k l d hk' roots (runFwd (exactArith R) k roots a l) q j hj
    rw [e1, e2, hroot] at f1 f2
    show fwdLayer (exactArith R) k l roots (runFwd (exactArith R) k roots a l) _ = _
    interval_cases b
    · rw [show (2 * q + 0) * 2^d + j = q * (2 * 2^d) + j by ring, f1, Nat.add_zero (2 * q), brev_two_mul, pow_succ' 2 l,
        butterfly_left]
      ring
    · -- the right half belongs to the root `-ψ^… = ψ^(2^k + …)`
      have hneg : ψ^((2 * brev (l+1) (2 * q + 1) + 1) * 2^d) = - ψ^((2 * brev l q + 1) * 2^d) := by
        rw [brev_two_mul_add_one,
          show (2 * (2^l + brev l q) + 1) * 2^d = 2^k + (2 * brev l q + 1) * 2^d by rw [hK]; ring, pow_add, hψ,
          neg_one_mul]
      rw [show (2 * q + 1) * 2^d + j = q * (2 * 2^d) + (j + 2^d) by ring, f2, hneg, pow_succ' 2 l,
        butterfly_right]
      ring

/-- FORWARD: output i is the evaluation of the input polynomial at psi^(2·brev k i + 1) -/
theorem fwd_eval (k : Nat) (ψ : R) (hψ : ψ^(2^k) = -1) (roots : Nat → R)
    (hroots : ∀ j, 0 < j → j < 2^k → roots j = ψ^(brev k j)) (a : Nat → R) :
    ∀ i, i < 2^k → runFwd (exactArith R) k roots a k i = ∑ j ∈ range (2^k), a j * (ψ^(2 * brev k i + 1))^j := by
  intro i hi
  have h := fwd_invariant k ψ hψ roots hroots a k 0 (by omega) i 0 hi (by norm_num)
  simpa [blockVal] using h

/-! ### layer-wise cancellation -/

theorem block_cases (g p : Nat) (hg : 0 < g) :
    ∃ q j, j < g ∧ (p = q * (2*g) + j ∨ p = q * (2*g) + (j + g)) := by
  have hd := Nat.div_add_mod p (2*g)
  have hm := Nat.mod_lt p (show 0 < 2*g by omega)
  rw [Nat.mul_comm] at hd
  by_cases h : p % (2*g) < g
  · exact ⟨p / (2*g), p % (2*g), h, Or.inl hd.symm⟩
  · exact ⟨p / (2*g), p % (2*g) - g, by omega, Or.inr (by omega)⟩

theorem invLayer_block (k lam d : Nat) (hk : k = lam+1+d) (roots v : Nat → R) (q j : Nat) (hj : j < 2^lam) :
    invLayer (exactArith R) k lam roots v (q * (2*2^lam) + j)
      = v (q * (2*2^lam) + j) + v (q * (2*2^lam) + (j + 2^lam)) ∧
    invLayer (exactArith R) k lam roots v (q * (2*2^lam) + (j + 2^lam))
      = (v (q * (2*2^lam) + j) - v (q * (2*2^lam) + (j + 2^lam))) * roots (2^k - 2*2^d + 1 + q) := by
  obtain ⟨m1, d1⟩ := idx_block (2*2^lam) q j (by omega)
  obtain ⟨m2, d2⟩ := idx_block (2*2^lam) q (j + 2^lam) (by omega)
  constructor
  · rw [invLayer_eq k lam d hk, m1, if_pos hj, Nat.add_assoc]
  · rw [invLayer_eq k lam d hk, m2, d2, if_neg (by omega), ← Nat.add_assoc, Nat.add_sub_cancel]

theorem inv_fwd_layer (k l d : Nat) (hk : k = l+1+d) (roots iroots v : Nat → R) (p : Nat)
    (hrs : iroots (2^k - 2*2^l + 1 + p/(2*2^d)) * roots (2^l + p/(2*2^d)) = 1) :
    invLayer (exactArith R) k d iroots (fwdLayer (exactArith R) k l roots v) p = 2 * v p := by
  obtain ⟨q, j, hj, rfl | rfl⟩ := block_cases (2^d) p (Nat.two_pow_pos d)
  · obtain ⟨f1, f2⟩ := fwdLayer_block k l d hk roots v q j hj
    rw [(invLayer_block k d l (by omega) iroots _ q j hj).1, f1, f2]
    ring
  · obtain ⟨f1, f2⟩ := fwdLayer_block k l d hk roots v q j hj
    rw [(idx_block (2*2^d) q (j + 2^d) (by omega)).2] at hrs
    rw [(invLayer_block k d l (by omega) iroots _ q j hj).2, f1, f2]
    linear_combination 2 * v (q * (2 * 2^d) + (j + 2^d)) * hrs

theorem fwd_inv_layer (k l d : Nat) (hk : k = l+1+d) (roots iroots v : Nat → R) (p : Nat)
    (hrs : iroots (2^k - 2*2^l + 1 + p/(2*2^d)) * roots (2^l + p/(2*2^d)) = 1) :
    fwdLayer (exactArith R) k l roots (invLayer (exactArith R) k d iroots v) p = 2 * v p := by
  obtain ⟨q, j, hj, rfl | rfl⟩ := block_cases (2^d) p (Nat.two_pow_pos d)
  · obtain ⟨f1, f2⟩ := invLayer_block k d l (by omega) iroots v q j hj
    rw [(idx_block (2*2^d) q j (by omega)).2] at hrs
    rw [(fwdLayer_block k l d hk roots _ q j hj).1, f1, f2]
    linear_combination (v (q * (2 * 2^d) + j) - v (q * (2 * 2^d) + (j + 2^d))) * hrs
  · obtain ⟨f1, f2⟩ := invLayer_block k d l (by omega) iroots v q j hj
    rw [(idx_block (2*2^d) q (j + 2^d) (by omega)).2] at hrs
    rw [(fwdLayer_block k l d hk roots _ q j hj).2, f1, f2]
    linear_combination (v (q * (2 * 2^d) + (j + 2^d)) - v (q * (2 * 2^d) + j)) * hrs

/-- the inverse table entry of block `i` in the layer with `2^l` blocks inverts the forward one.  `iroots p = ψi^(brev k (p-1) + 1)`
    is the "scrambled" order of `inv_root_powers` in `NTTTables::new`: the inverse network walks its table upwards from index 1,
    widest blocks last, and this is the order in which it then meets the inverses of the forward entries. -/
theorem roots_cancel (k : Nat) (ψ ψi : R) (hinv : ψ * ψi = 1) (roots iroots : Nat → R)
    (hroots : ∀ j, 0 < j → j < 2^k → roots j = ψ^(brev k j))
    (hiroots : ∀ p, 0 < p → p < 2^k → iroots p = ψi^(brev k (p-1) + 1))
    (l d : Nat) (hk : k = l+1+d) (i : Nat) (hi : i < 2^l) :
    iroots (2^k - 2*2^l + 1 + i) * roots (2^l + i) = 1 := by
  have hK2 : 2 * 2^l ≤ 2^k := by
    rw [hk, two_pow_split, Nat.mul_comm 2]
    exact Nat.mul_le_mul_left _ (Nat.le_mul_of_pos_right 2 (Nat.two_pow_pos d))
  have hjpos : 0 < brev k (2^l + i) := by rw [hk, brev_top l d i hi]; positivity
  have hpred := brev_pred (k := k) (l := l) (i := i) (by omega) hi
  rw [pow_succ, Nat.mul_comm (2^l) 2] at hpred
  -- the inverse entry is `ψi^(brev k (2^l + i))`: its index minus one is the reversal of `brev k (2^l + i) - 1`
  rw [hroots (2^l + i) (by omega) (by omega), hiroots (2^k - 2*2^l + 1 + i) (by omega) (by omega),
    show 2^k - 2*2^l + 1 + i - 1 = 2^k - 2*2^l + i by omega, ← hpred,
    brev_brev (lt_of_le_of_lt (Nat.sub_le _ _) (brev_lt k _)), Nat.sub_add_cancel hjpos, ← mul_pow, mul_comm ψi,
    hinv, one_pow]

/-- INVERSE ∘ FORWARD = 2^k · id (the remaining factor is cancelled by the scalar n^{-1}) -/
theorem inv_fwd (k : Nat) (ψ ψi : R) (hinv : ψ * ψi = 1) (roots iroots : Nat → R)
    (hroots : ∀ j, 0 < j → j < 2^k → roots j = ψ^(brev k j))
    (hiroots : ∀ p, 0 < p → p < 2^k → iroots p = ψi^(brev k (p-1) + 1)) (a : Nat → R) :
    ∀ p, p < 2^k → runInv (exactArith R) k iroots (runFwd (exactArith R) k roots a k) k p = 2^k * a p := by
  -- the first `n` inverse layers undo the last `n` forward layers
  have key : ∀ n m, n + m = k → ∀ p, p < 2^k →
      runInv (exactArith R) k iroots (runFwd (exactArith R) k roots a k) n p
        = 2^n * runFwd (exactArith R) k roots a m p := by
    intro n
    induction n with
    | zero => intro m hm p _; obtain rfl : m = k := by omega
              simp [runInv]
    | succ n ih =>
      intro m hm p hp
      have hk : k = m+1+n := by omega
      have hK : 2^k = 2^m * (2 * 2^n) := hk ▸ two_pow_split m n
      show invLayer (exactArith R) k n iroots _ p = _
      rw [invLayer_congrG _ (by omega) iroots (v' := fun q => 2^n * runFwd (exactArith R) k roots a (m+1) q)
          (ih (m+1) (by omega)) hp, invLayer_smul]
      show 2^n * invLayer (exactArith R) k n iroots (fwdLayer (exactArith R) k m roots _) p = _
      rw [inv_fwd_layer k m n hk roots iroots _ p
        (roots_cancel k ψ ψi hinv roots iroots hroots hiroots m n hk _
          (block_div_lt _ _ _ (Nat.two_pow_pos n) (hK ▸ hp)))]
      rw [pow_succ]; ring
  intro p hp
  simpa [runFwd] using key k 0 (by omega) p hp

/-- FORWARD ∘ INVERSE = 2^k · id -/
theorem fwd_inv (k : Nat) (ψ ψi : R) (hinv : ψ * ψi = 1) (roots iroots : Nat → R)
    (hroots : ∀ j, 0 < j → j < 2^k → roots j = ψ^(brev k j))
    (hiroots : ∀ p, 0 < p → p < 2^k → iroots p = ψi^(brev k (p-1) + 1)) (a : Nat → R) :
    ∀ p, p < 2^k → runFwd (exactArith R) k roots (runInv (exactArith R) k iroots a k) k p = 2^k * a p := by
  have key : ∀ n m, n + m = k → ∀ p, p < 2^k →
      runFwd (exactArith R) k roots (runInv (exactArith R) k iroots a k) n p
        = 2^n * runInv (exactArith R) k iroots a m p := by
    intro n
    induction n with
    | zero => intro m hm p _; obtain rfl : m = k := by omega
              simp [runFwd]
    | succ n ih =>
      intro m hm p hp
      have hk : k = n+1+m := by omega
      have hK : 2^k = 2^n * (2 * 2^m) := hk ▸ two_pow_split n m
      show fwdLayer (exactArith R) k n roots _ p = _
      rw [fwdLayer_congrG _ (by omega) roots (v' := fun q => 2^n * runInv (exactArith R) k iroots a (m+1) q)
          (ih (m+1) (by omega)) hp, fwdLayer_smul]
      show 2^n * fwdLayer (exactArith R) k n roots (invLayer (exactArith R) k m iroots _) p = _
      rw [fwd_inv_layer k n m hk roots iroots _ p
        (roots_cancel k ψ ψi hinv roots iroots hroots hiroots n m hk _
          (block_div_lt _ _ _ (Nat.two_pow_pos m) (hK ▸ hp)))]
      rw [pow_succ]; ring
  intro p hp
  simpa [runInv] using key k 0 (by omega) p hp

/-! ### evaluation is multiplicative for the negacyclic product -/
/-- an odd power of a root of `X^n + 1` is a root of `X^n + 1` -/
theorem root_pow_odd {n : Nat} {ξ : R} (hξ : ξ^n = -1) {e : Nat} (he : Odd e) : (ξ^e)^n = -1 := by
  rw [← pow_mul, mul_comm, pow_mul, hξ, he.neg_one_pow]

/-- the powers of a root of `X^n + 1` have period `2n` -/
theorem root_pow_mod {n : Nat} {ξ : R} (hξ : ξ^n = -1) (e : Nat) : ξ^(e % (2 * n)) = ξ^e := by
  have h2 : ξ^(2 * n) = 1 := by rw [mul_comm, pow_mul, hξ, neg_one_sq]
  conv_rhs => rw [← Nat.mod_add_div e (2 * n), pow_add, pow_mul, h2, one_pow, mul_one]

theorem eval_negMul_row (i e : Nat) (x : R) (hx : x^(i+e) = -1) (ai : R) (b : Nat → R) :
    ∑ c ∈ range (i+e), (if i ≤ c then ai * b (c - i) else - (ai * b (i + e + c - i))) * x^c
      = ai * x^i * ∑ j ∈ range (i+e), b j * x^j := by
  rw [sum_range_add, Nat.add_comm i e, sum_range_add, mul_add, add_comm]
  congr 1
  · rw [mul_sum]
    apply sum_congr rfl
    intro c _
    rw [if_pos (Nat.le_add_right i c), Nat.add_sub_cancel_left, pow_add]
    ring
  · rw [mul_sum]
    apply sum_congr rfl
    intro c hc
    have hc' : c < i := mem_range.mp hc
    have e1 : e + i + c - i = e + c := by omega
    rw [if_neg (by omega), e1]
    have : x^i * x^(e + c) = - x^c := by
      rw [← pow_add, show i + (e + c) = (i + e) + c by omega, pow_add, hx]; ring
    calc -(ai * b (e + c)) * x^c = ai * b (e + c) * (- x^c) := by ring
      _ = ai * b (e + c) * (x^i * x^(e+c)) := by rw [this]
      _ = ai * x^i * (b (e + c) * x^(e + c)) := by ring

/-- evaluation at a root of X^n + 1 is multiplicative for the negacyclic product -/
theorem eval_negMul (n : Nat) (hn : 0 < n) (x : R) (hx : x^n = -1) (a b : Nat → R) :
    ∑ c ∈ range n, negMulR n a b c * x^c = (∑ i ∈ range n, a i * x^i) * (∑ j ∈ range n, b j * x^j) := by
  unfold negMulR
  simp only [sum_mul]
  rw [sum_comm]
  apply sum_congr rfl
  intro i hi
  have hi' : i < n := mem_range.mp hi
  obtain ⟨e, rfl⟩ : ∃ e, n = i + e := ⟨n - i, by omega⟩
  exact eval_negMul_row i e x hx (a i) b

/-- CONVOLUTION: inverse transform of the pointwise product of transforms = 2^k · negacyclic product -/
theorem ntt_convolution (k : Nat) (ψ ψi : R) (hψ : ψ^(2^k) = -1) (hinv : ψ * ψi = 1) (roots iroots : Nat → R)
    (hroots : ∀ j, 0 < j → j < 2^k → roots j = ψ^(brev k j))
    (hiroots : ∀ p, 0 < p → p < 2^k → iroots p = ψi^(brev k (p-1) + 1)) (a b : Nat → R) :
    ∀ c, c < 2^k →
      runInv (exactArith R) k iroots
        (fun i => runFwd (exactArith R) k roots a k i * runFwd (exactArith R) k roots b k i) k c
      = 2^k * negMulR (2^k) a b c := by
  intro c hc
  have hpt : ∀ i, i < 2^k →
      (fun i => runFwd (exactArith R) k roots a k i * runFwd (exactArith R) k roots b k i) i
        = runFwd (exactArith R) k roots (negMulR (2^k) a b) k i := by
    intro i hi
    have hx : (ψ^(2 * brev k i + 1))^(2^k) = -1 := root_pow_odd hψ ⟨brev k i, rfl⟩
    show runFwd (exactArith R) k roots a k i * runFwd (exactArith R) k roots b k i = _
    rw [fwd_eval k ψ hψ roots hroots a i hi, fwd_eval k ψ hψ roots hroots b i hi,
      fwd_eval k ψ hψ roots hroots (negMulR (2^k) a b) i hi,
      eval_negMul (2^k) (Nat.two_pow_pos k) _ hx a b]
  rw [runInv_congr k iroots _ _ hpt k (le_refl k) c hc]
  exact inv_fwd k ψ ψi hinv roots iroots hroots hiroots (negMulR (2^k) a b) c hc

end HC
