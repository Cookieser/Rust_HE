/-
  `dot_product_ct_sk_array` (src/encryptor.rs) as regenerated (skeleton `dec_dot_product_plan`): the index / stride
  arithmetic and the order of the kernel calls, for EVERY ciphertext size ≥ 2, both representations.
  Flat layouts: polynomial i of the ciphertext occupies the words i·(n·k) .. (i+1)·(n·k) of `ct` (k = prime count of the ciphertext's level);
  power i+1 of the secret key occupies the words i·(n·kk) .. (i+1)·(n·kk) of the cached array (kk = prime count of the KEY level), of which the
  level uses the first n·k (its moduli are a prefix of the key level's).
  What is proved: the generated skeleton appends exactly the codes of `dotPlanModel`, a hand-written list (see there for what is trusted).
  Helper names: `gd_` (d for decryptor), see the head of GenDecBgv.
-/
import Heathcliff.Gen.DecFns
import Heathcliff.Proofs.GenRnsView
import Heathcliff.Proofs.C08C
import Mathlib.Tactic.Linarith
namespace HC
open HC.GenDec

/-- The expected plan, WRITTEN BY HAND: the list of codes that the skeleton should append, read off `dotProductCtSk` (Model/Scheme.lean) and the
    Rust source side by side.  No theorem relates this list to `dotProductCtSk`; `gd_dot_product_plan_eq` ties the generated code to this
    transcription, and that the transcription follows the model's order of kernel calls is checked by reading (trusted).
    The codes (tools/rs2lean_dec.py), offsets in words:
      `100 m` = `compute_secret_key_array(m)`: the powers sk¹ … skᵐ are cached;
      size = 2:  10 = dest := c₁·sk,  11 = dest += c₀,  12 = dest := c₁,  13 = `ntt_p` of dest,  14 = dest *= sk,  15 = `intt_p` of dest;
      size > 2:  `21 m` = `ntt_ps` of the m copied polynomials c₁ …,  `20 lo hi klo khi` = copy[lo..hi] *= keys[klo..khi],  22 = dest := 0,
                 `23 lo hi` = dest += copy[lo..hi],  15 = `intt_p` of dest,  25 = dest += c₀. -/
def dotPlanModel (size : Nat) (ntt : Bool) (n k kk : Nat) : List Nat :=
  [100, size - 1] ++
  (if size = 2 then (if ntt then [10, 11] else [12, 13, 14, 15, 11])
   else (if ntt then [] else [21, size - 1]) ++
        ((List.range' 0 (size - 1)).map (fun i => [20, i * (n * k), (i + 1) * (n * k), i * (n * kk), i * (n * kk) + n * k])).flatten ++ [22] ++
        ((List.range' 0 (size - 1)).map (fun i => [23, i * (n * k), (i + 1) * (n * k)])).flatten ++
        (if ntt then [] else [15]) ++ [25])

/-- the two loops that append one block of codes per polynomial, by induction on the fuel (the bounds of the checked products depend on the
    cursor; `Loop.fold` applies but its invariant costs more text here than the induction) -/
theorem gd_dot_loop1 (sz p kp : Nat) : ∀ (f i : Nat) (acc : List Nat), (i + f) * p < 2^64 → (i + f) * kp + p < 2^64 → i + f < 2^64 →
    dec_dot_product_plan_loop1 sz p kp f i acc =
      .ok (acc ++ ((List.range' i f).map (fun i => [20, i * p, (i + 1) * p, i * kp, i * kp + p])).flatten) := by
  intro f
  induction f with
  | zero => intro i acc _ _ _; simp [dec_dot_product_plan_loop1, pure, Except.pure]
  | succ f ih =>
    intro i acc h1 h2 h3
    have e1 : i * p ≤ (i + (f + 1)) * p := Nat.mul_le_mul_right p (by omega)
    have e2 : (i + 1) * p ≤ (i + (f + 1)) * p := Nat.mul_le_mul_right p (by omega)
    have e3 : i * kp ≤ (i + (f + 1)) * kp := Nat.mul_le_mul_right kp (by omega)
    rw [dec_dot_product_plan_loop1]
    simp only [ckMul_ok (show i * p < 2^64 by omega), ckAdd_ok (show i + 1 < 2^64 by omega), ckMul_ok (show (i + 1) * p < 2^64 by omega),
      ckMul_ok (show i * kp < 2^64 by omega), ckAdd_ok (show i * kp + p < 2^64 by omega), bind, Except.bind]
    rw [ih (i + 1) _ (by rw [show i + 1 + f = i + (f + 1) by omega]; exact h1) (by rw [show i + 1 + f = i + (f + 1) by omega]; exact h2) (by omega)]
    simp [List.range'_succ]

theorem gd_dot_loop2 (sz p : Nat) : ∀ (f i : Nat) (acc : List Nat), (i + f) * p < 2^64 → i + f < 2^64 →
    dec_dot_product_plan_loop2 sz p f i acc =
      .ok (acc ++ ((List.range' i f).map (fun i => [23, i * p, (i + 1) * p])).flatten) := by
  intro f
  induction f with
  | zero => intro i acc _ _; simp [dec_dot_product_plan_loop2, pure, Except.pure]
  | succ f ih =>
    intro i acc h1 h3
    have e1 : i * p ≤ (i + (f + 1)) * p := Nat.mul_le_mul_right p (by omega)
    have e2 : (i + 1) * p ≤ (i + (f + 1)) * p := Nat.mul_le_mul_right p (by omega)
    rw [dec_dot_product_plan_loop2]
    simp only [ckMul_ok (show i * p < 2^64 by omega), ckAdd_ok (show i + 1 < 2^64 by omega), ckMul_ok (show (i + 1) * p < 2^64 by omega),
      bind, Except.bind]
    rw [ih (i + 1) _ (by rw [show i + 1 + f = i + (f + 1) by omega]; exact h1) (by omega)]
    simp [List.range'_succ]

/-- GENERATED `dot_product_ct_sk_array` (skeleton) = the model's order of kernel calls with the flat offsets, for EVERY size ≥ 2 and both
    representations; the stride of the key-power array is `n · kk` with `kk` the KEY level's prime count.  Hypotheses: the ciphertext buffer has
    `size · n · k` words (`Ciphertext::is_valid_for`), the level has at least one prime, no `usize` overflow in the largest offset. -/
theorem gd_dot_product_plan_eq (ct : List Nat) (size : Nat) (ntt : Bool) (n k kk : Nat) (plan : List Nat)
    (hsize : 2 ≤ size) (hk : 1 ≤ k) (hct : ct.length = size * (n * k)) (hov1 : size * (n * k) < 2^64) (hov2 : size * (n * kk) + n * k < 2^64) (hsz : size < 2^64) :
    dec_dot_product_plan ct size ntt n k kk plan = .ok (plan ++ dotPlanModel size ntt n k kk) := by
  unfold dec_dot_product_plan dotPlanModel
  have hs1 : ckSub size 1 = .ok (size - 1) := ckSub_of_le (by omega)
  simp only [hs1, bind, Except.bind, pure, Except.pure]
  by_cases h2 : size = 2
  · subst h2
    cases ntt <;> simp
  · simp only [h2, if_false]
    have hnk : n * k ≤ size * (n * k) := Nat.le_mul_of_pos_left _ (by omega)
    have hnkk : n * kk ≤ size * (n * kk) := Nat.le_mul_of_pos_left _ (by omega)
    have e1 : (size - 1) * (n * k) ≤ size * (n * k) := Nat.mul_le_mul_right _ (by omega)
    have e2 : (size - 1) * (n * kk) ≤ size * (n * kk) := Nat.mul_le_mul_right _ (by omega)
    have hm1 : ckMul n k = .ok (n * k) := ckMul_ok (by rw [B64_eq]; omega)
    have hm2 : ckMul n kk = .ok (n * kk) := ckMul_ok (by rw [B64_eq]; omega)
    have hsl : GenR.slice ct (n * k) ct.length = .ok ((ct.drop (n * k)).take (ct.length - n * k)) := if_pos ⟨by omega, le_refl _⟩
    have hm3 : ckMul (size - 1) n = .ok ((size - 1) * n) := by
      apply ckMul_ok; rw [B64_eq]
      have : (size - 1) * n ≤ (size - 1) * (n * k) := Nat.mul_le_mul_left _ (Nat.le_mul_of_pos_right _ hk); omega
    have hm4 : ckMul ((size - 1) * n) k = .ok ((size - 1) * n * k) := ckMul_ok (by rw [B64_eq]; rw [Nat.mul_assoc]; omega)
    have hlen : ((ct.drop (n * k)).take (ct.length - n * k)).length = (size - 1) * n * k := by
      rw [List.length_take, List.length_drop, Nat.min_self, hct, Nat.mul_assoc, Nat.sub_mul, Nat.one_mul]
    simp only [hm1, hm2, hsl, hm3, hm4, hlen, if_true]
    have hl1 : ∀ acc, dec_dot_product_plan_loop1 size (n * k) (n * kk) (size - 1) 0 acc = _ :=
      fun acc => gd_dot_loop1 size (n * k) (n * kk) (size - 1) 0 acc (by rw [Nat.zero_add]; omega) (by rw [Nat.zero_add]; omega) (by omega)
    have hl2 : ∀ acc, dec_dot_product_plan_loop2 size (n * k) (size - 1) 0 acc = _ :=
      fun acc => gd_dot_loop2 size (n * k) (size - 1) 0 acc (by rw [Nat.zero_add]; omega) (by omega)
    cases ntt <;> simp [hl1, hl2]

end HC
