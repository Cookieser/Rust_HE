/-
  C20A: what the C20 modules (and, through C20B / C20C, the tie files GenApp*) share.  Property C20 — matrix products and
  convolutions on packed polynomials and slot vectors equal the plaintext ones — is about loop nests that fill buffers and read
  them back, so its proofs turn on index arithmetic.  All names carry the prefix `c20_`.

    * index arithmetic: digit strings add without carry (`c20_nocarry`); the four-digit position `c20_pos4`, of which every
      coefficient layout of coefficient packing and of the convolution is an instance, with its bound and its injectivity; the
      blocks `[l, min a (l + b))`; `ceilDiv`; `ceilTwoPower`;
    * the loop nests `pairs` / `quads` as lists, and sums over zero-padded blocks;
    * `c20_val`, the value of a total computation;
    * `scatterA`, the model's buffer fill, as the pure `scatterTo` of Base: what an encoder and what a decoder leaves in the buffer;
    * `c20_negMul_supported`: a coefficient of the negacyclic product of two sparse polynomials;
    * invariants of folds and of the downward loops of the block searches.
-/
import Heathcliff.Model.Matmul
import Heathcliff.Proofs.Base
import Heathcliff.Proofs.NegAlg
import Mathlib.Algebra.BigOperators.Intervals
import Mathlib.Algebra.BigOperators.Ring.Finset
import Mathlib.Tactic.Ring
import Mathlib.Tactic.Linarith

namespace HC
open Finset HC.MM

/-! ### index arithmetic: digits, blocks, `ceilDiv`, `ceilTwoPower` -/

/-- adding digit strings without carry: if the low part `u` of a sum stays below `v + W`, it is the low digit `v` of the target -/
theorem c20_nocarry {W X u Y v : Nat} (hv : v < W) (hu : u < v + W) (h : X * W + u = Y * W + v) : u = v ∧ X = Y := by
  rcases Nat.lt_trichotomy X Y with h1 | h1 | h1
  · have := Nat.mul_le_mul_right W (Nat.succ_le_of_lt h1)
    rw [Nat.succ_mul] at this; omega
  · subst h1; omega
  · have := Nat.mul_le_mul_right W (Nat.succ_le_of_lt h1)
    rw [Nat.succ_mul] at this; omega

/-- four-digit positions: batch row `a`, channel `c` of `C`, pixel (`r`, `s`) of a `hb × W` tile -/
def c20_pos4 (C hb W a c r s : Nat) : Nat := a * C * (hb * W) + c * (hb * W) + r * W + s

theorem c20_pos4_one (C a c : Nat) : c20_pos4 C 1 1 a c 0 0 = a * C + c := by
  unfold c20_pos4; omega

theorem c20_pos4_bound {C hb W a c r s bb n : Nat} (ha : a < bb) (hc : c < C) (hr : r < hb) (hs : s < W)
    (hfit : bb * C * (hb * W) ≤ n) : c20_pos4 C hb W a c r s < n := by
  unfold c20_pos4
  have h1 := grid_succ_le (B := W) hr
  have h2 := grid_succ_le (B := hb * W) hc
  have h3 : (a + 1) * C * (hb * W) ≤ bb * C * (hb * W) := Nat.mul_le_mul_right _ (Nat.mul_le_mul_right _ ha)
  have e : (a + 1) * C * (hb * W) = a * C * (hb * W) + C * (hb * W) := by ring
  omega

theorem c20_pos4_inj {C hb W a c r s a' c' r' s' : Nat} (hc : c < C) (hc' : c' < C) (hr : r < hb) (hr' : r' < hb)
    (hs : s < W) (hs' : s' < W) (h : c20_pos4 C hb W a c r s = c20_pos4 C hb W a' c' r' s') :
    a = a' ∧ c = c' ∧ r = r' ∧ s = s' := by
  have e : ∀ a c r s, c20_pos4 C hb W a c r s = ((a * C + c) * hb + r) * W + s := by intros; unfold c20_pos4; ring
  rw [e, e] at h
  obtain ⟨h2, h1⟩ := grid_inj hs hs' h
  obtain ⟨h4, h3⟩ := grid_inj hr hr' h2
  obtain ⟨h6, h5⟩ := grid_inj hc hc' h4
  exact ⟨h6, h5, h3, h1⟩

theorem c20_flip {k i : Nat} (h : i < k) : k - 1 - i < k ∧ k - (k - 1 - i) - 1 = i := by omega

theorem c20_blk_le {a l b : Nat} : min a (l + b) - l ≤ b := Nat.sub_le_iff_le_add'.mpr (Nat.min_le_right _ _)

/-- an offset inside block `[l, min a (l + b))` stays below `a` -/
theorem c20_blk_lt {a l b p : Nat} (hp : p < min a (l + b) - l) : l + p < a := by omega

/-- `r < a` lies in the block `[r / b · b, min a (r / b · b + b))` of its quotient by `b` -/
theorem c20_mod_in_blk {a b r : Nat} (hb : 0 < b) (hr : r < a) : r % b < min a (r / b * b + b) - r / b * b := by
  have := Nat.div_add_mod' r b
  have := Nat.mod_lt r hb
  omega

theorem c20_le_ceilDiv_mul (total blk : Nat) (hblk : 0 < blk) : total ≤ ceilDiv total blk * blk := by
  unfold ceilDiv
  have h1 := Nat.div_add_mod (total + blk - 1) blk
  have h2 := Nat.mod_lt (total + blk - 1) hblk
  rw [Nat.mul_comm] at h1
  omega

theorem c20_div_lt_ceilDiv {total blk r : Nat} (hblk : 0 < blk) (hr : r < total) : r / blk < ceilDiv total blk := by
  rw [Nat.div_lt_iff_lt_mul hblk]
  exact lt_of_lt_of_le hr (c20_le_ceilDiv_mul total blk hblk)

theorem c20_ceilDiv_le {a b : Nat} (hb : 1 ≤ b) : ceilDiv a b ≤ a := by
  unfold ceilDiv
  rcases Nat.eq_zero_or_pos a with rfl | ha
  · simp; omega
  · apply Nat.div_le_of_le_mul
    obtain ⟨a', rfl⟩ : ∃ a', a = a' + 1 := ⟨a - 1, by omega⟩
    obtain ⟨b', rfl⟩ : ∃ b', b = b' + 1 := ⟨b - 1, by omega⟩
    have : (b' + 1) * (a' + 1) = b' * a' + b' + a' + 1 := by ring
    omega

theorem c20_ceilDiv_pos {a b : Nat} (ha : 0 < a) (hb : 0 < b) : 0 < ceilDiv a b := by
  unfold ceilDiv
  exact Nat.div_pos (by omega) hb

/-- `ceil_two_power`: a power of two, at least `n` (within 64 doublings), and the least such -/
theorem c20_ceilTwoPower_go_least (n : Nat) : ∀ f k, ∃ a, ceilTwoPower.go n f (2^k) = 2^a ∧ (n ≤ 2^(k+f) → n ≤ 2^a) ∧
    ∀ e, k ≤ e → n ≤ 2^e → a ≤ e
  | 0, k => ⟨k, rfl, fun h => h, fun _ h _ => h⟩
  | f+1, k => by
    unfold ceilTwoPower.go
    split
    · rename_i hlt
      obtain ⟨a, ha, hle, hmin⟩ := c20_ceilTwoPower_go_least n f (k+1)
      refine ⟨a, by rw [← ha, Nat.pow_succ, Nat.mul_comm], fun h => hle (by rwa [Nat.add_right_comm, Nat.add_assoc] at *),
        fun e _ hne => hmin e ?_ hne⟩
      exact (Nat.pow_lt_pow_iff_right (by decide : 1 < 2)).mp (lt_of_lt_of_le hlt hne)
    · exact ⟨k, rfl, fun _ => by omega, fun _ h _ => h⟩

theorem c20_ceilTwoPower_least (n : Nat) : ∃ a, ceilTwoPower n = 2^a ∧ (n ≤ 2^64 → n ≤ 2^a) ∧ ∀ e, n ≤ 2^e → a ≤ e := by
  obtain ⟨a, ha, hle, hmin⟩ := c20_ceilTwoPower_go_least n 64 0
  exact ⟨a, ha, fun h => hle (by simpa using h), fun e => hmin e (Nat.zero_le _)⟩

/-- a statement about every entry (`row`, `col`) of a row-major matrix, read at the flat index -/
theorem c20_flat_of_grid {α : Type} {z : α} {Y : Array α} {rows cols : Nat} {y : Nat → α}
    (h : ∀ r c, r < rows → c < cols → Y.getD (r * cols + c) z = y (r * cols + c)) : ∀ k, k < rows * cols → Y.getD k z = y k := by
  intro k hk
  have hc : 0 < cols := Nat.pos_of_ne_zero fun h0 => by rw [h0, Nat.mul_zero] at hk; exact Nat.not_lt_zero _ hk
  have := h (k / cols) (k % cols) ((Nat.div_lt_iff_lt_mul hc).mpr hk) (Nat.mod_lt k hc)
  rwa [Nat.div_add_mod' k cols] at this

/-! ### the index lists of the loop nests -/

theorem c20_mem_pairs {A C : Nat} {p : Nat × Nat} : p ∈ pairs A C ↔ p.1 < A ∧ p.2 < C := by
  unfold pairs
  simp only [List.mem_flatMap, List.mem_map, List.mem_range]
  constructor
  · rintro ⟨a, ha, c, hc, rfl⟩; exact ⟨ha, hc⟩
  · rintro ⟨h1, h2⟩; exact ⟨p.1, h1, p.2, h2, rfl⟩

theorem c20_mem_quads {A B C D : Nat} {q : Nat × Nat × Nat × Nat} :
    q ∈ quads A B C D ↔ q.1 < A ∧ q.2.1 < B ∧ q.2.2.1 < C ∧ q.2.2.2 < D := by
  unfold quads
  simp only [List.mem_flatMap, List.mem_map, List.mem_range]
  constructor
  · rintro ⟨a, ha, b, hb, c, hc, d, hd, rfl⟩; exact ⟨ha, hb, hc, hd⟩
  · rintro ⟨h1, h2, h3, h4⟩; exact ⟨q.1, h1, q.2.1, h2, q.2.2.1, h3, q.2.2.2, h4, rfl⟩

/-- a list of `A` lists of `C` items, concatenated, is the list of `A·C` items indexed by quotient and remainder -/
theorem c20_flatten_grid {β : Type} (f : Nat → Nat → β) (A C : Nat) :
    ((List.range A).map fun a => (List.range C).map fun c => f a c).flatten
      = (List.range (A * C)).map fun k => f (k / C) (k % C) := by
  induction A with
  | zero => simp
  | succ A ih =>
    rw [List.range_succ, List.map_append, List.flatten_append, ih, Nat.succ_mul, List.range_add, List.map_append]
    congr 1
    simp only [List.map_cons, List.map_nil, List.flatten_cons, List.flatten_nil, List.append_nil, List.map_map]
    apply List.map_congr_left
    intro c hc
    have hc' : c < C := List.mem_range.mp hc
    have e1 := grid_div A hc'; have e2 := grid_mod A hc'
    show f A c = f ((A * C + c) / C) ((A * C + c) % C)
    rw [e1, e2]

theorem c20_pairs_eq (A C : Nat) : pairs A C = (List.range (A * C)).map fun k => (k / C, k % C) := by
  unfold pairs
  rw [List.flatMap_def]
  exact c20_flatten_grid (fun a c => (a, c)) A C

theorem c20_range_map_getElem? {β : Type} (f : Nat → β) (A i : Nat) (hi : i < A) :
    ((List.range A).map f)[i]? = some (f i) := by
  simp [List.getElem?_map, List.getElem?_range hi]

/-! ### sums over zero-padded blocks -/

theorem c20_sum_range_mul {M : Type} [AddCommMonoid M] (F : Nat → M) (A B : Nat) :
    ∑ a ∈ range A, ∑ b ∈ range B, F (a * B + b) = ∑ x ∈ range (A * B), F x := by
  induction A with
  | zero => simp
  | succ A ih => rw [Finset.sum_range_succ, ih, Nat.succ_mul, Finset.sum_range_add]

/-- a sum over zero-padded blocks: `⌈r/s⌉` blocks of `s`, the entries from `r` on counted as zero -/
theorem c20_sum_pad {M : Type} [AddCommMonoid M] (f : Nat → M) (r s : Nat) (hs : 0 < s) :
    ∑ a ∈ range (ceilDiv r s), ∑ b ∈ range s, (if a * s + b < r then f (a * s + b) else 0) = ∑ k ∈ range r, f k := by
  rw [c20_sum_range_mul (fun q => if q < r then f q else 0),
    ← Finset.sum_subset (s₁ := range r) (fun q hq => Finset.mem_range.mpr
      (lt_of_lt_of_le (Finset.mem_range.mp hq) (c20_le_ceilDiv_mul r s hs)))
      (fun q _ hq => if_neg fun hlt => hq (Finset.mem_range.mpr hlt))]
  exact Finset.sum_congr rfl fun q hq => if_pos (Finset.mem_range.mp hq)

/-! ### the value of a total computation -/

/-- the value of a successful computation (default otherwise).  An encoder of the model returns `R (Array S)`; once it is known to
    be total, `c20_val #[] (enc …)` names its result as a function of the block indices, so that the whole grid of encoded blocks
    is a `List.map` over index lists and can be read with `getD` / `[i]?`.  What a `_spec` theorem proves of "the" result is carried
    over by `c20_val_spec`; `c20_val_ok` / `c20_val_eq` are its two halves for a result already obtained. -/
def c20_val {α : Type} (d : α) : R α → α
  | .ok a => a
  | .error _ => d

theorem c20_val_ok {α : Type} (d : α) {r : R α} {a : α} (h : r = .ok a) : r = .ok (c20_val d r) := by
  subst h; rfl

theorem c20_val_eq {α : Type} (d : α) {r : R α} {a : α} (h : r = .ok a) : c20_val d r = a := by
  subst h; rfl

/-- what is proved of "the" result of a total computation holds of its `c20_val` -/
theorem c20_val_spec {α : Type} (d : α) {r : R α} {Q : α → Prop} (h : ∃ a, r = .ok a ∧ Q a) :
    r = .ok (c20_val d r) ∧ Q (c20_val d r) := by
  obtain ⟨a, rfl, hQ⟩ := h
  exact ⟨rfl, hQ⟩

theorem c20_readAt_getD {S : Type} (z : S) (a : Array S) {i : Nat} (hi : i < a.size) : readAt a i = .ok (a.getD i z) := by
  unfold readAt
  rw [Array.getElem?_eq_getElem hi]
  simp [Array.getD, hi]

/-! ### buffers filled by loop nests -/

/-- the model's checked buffer fill never refuses writes that lie inside the buffer, and is then the pure `scatterTo` -/
theorem c20_scatterA_eq {α : Type} (zero : α) (size lim : Nat) (ws : List (Nat × α)) (hb : ∀ pv ∈ ws, pv.1 < lim ∧ pv.1 < size) :
    scatterA zero size lim ws = .ok (scatterTo Prod.fst Prod.snd ws (Array.replicate size zero)) := by
  unfold scatterA
  exact (R.foldlM_ok_inv (fun (a : Array α) (pv : Nat × α) => a.setIfInBounds pv.1 pv.2) (fun a' => a'.size = size) _
    Array.size_replicate fun pv hpv a' ha' => ⟨if_pos (ha'.symm ▸ hb pv hpv), Array.size_setIfInBounds.trans ha'⟩).1

/-- writes inside the buffer that agree wherever they hit the same cell: every write is found in the result, the other cells keep
    the fill value -/
theorem c20_scatter_ws {α : Type} (zero : α) (size lim : Nat) (ws : List (Nat × α)) (hb : ∀ pv ∈ ws, pv.1 < lim ∧ pv.1 < size)
    (hc : ∀ pv ∈ ws, ∀ pv' ∈ ws, pv.1 = pv'.1 → pv.2 = pv'.2) :
    ∃ a, scatterA zero size lim ws = .ok a ∧ a.size = size ∧ (∀ q, (∀ pv ∈ ws, pv.1 ≠ q) → a.getD q zero = zero) ∧
      ∀ pv ∈ ws, a.getD pv.1 zero = pv.2 := by
  refine ⟨_, c20_scatterA_eq zero size lim ws hb, (scatterTo_size _ _ ws _).trans Array.size_replicate, fun q hq => ?_,
    scatterTo_written Prod.fst Prod.snd zero ws _ (fun pv h => by rw [Array.size_replicate]; exact (hb pv h).2) hc⟩
  rcases scatterTo_getD Prod.fst Prod.snd zero q ws (Array.replicate size zero) with h | ⟨pv, hpv, e, _⟩
  · rw [h]; exact array_getD_replicate size zero q
  · exact absurd e (hq pv hpv)

/-- the form for an ENCODER: one write `(pos k, val k)` per index `k` of the loop nest `idx`, positions inside the buffer, equal
    positions carrying equal values (in the applications `pos` is injective on `idx`).  The result has the value at every position
    written and `zero` elsewhere.  (`c20_scatter_filter`: only the indices passing a test write; C20L's `c20_scatter_cols`: the
    (column, entry) layout of the slot-packing encoders.  For a DECODER, whose value depends on the position only, start from
    `c20_scatter_fn` or, for a row-major matrix, `c20_scatter_matrix`.) -/
theorem c20_scatter_map {ι α : Type} (zero : α) (size lim : Nat) (idx : List ι) (pos : ι → Nat) (val : ι → α)
    (hb : ∀ k ∈ idx, pos k < lim ∧ pos k < size)
    (hinj : ∀ k ∈ idx, ∀ k' ∈ idx, pos k = pos k' → val k = val k') :
    ∃ a, scatterA zero size lim (idx.map fun k => (pos k, val k)) = .ok a ∧ a.size = size ∧
      (∀ q, (∀ k ∈ idx, pos k ≠ q) → a.getD q zero = zero) ∧ (∀ k ∈ idx, a.getD (pos k) zero = val k) := by
  obtain ⟨a, hf, hs, hz, hv⟩ := c20_scatter_ws zero size lim (idx.map fun k => (pos k, val k))
    (by intro pv h; obtain ⟨k, hk, rfl⟩ := List.mem_map.mp h; exact hb k hk)
    (by
      intro pv h pv' h' e
      obtain ⟨k, hk, rfl⟩ := List.mem_map.mp h
      obtain ⟨k', hk', rfl⟩ := List.mem_map.mp h'
      exact hinj k hk k' hk' e)
  exact ⟨a, hf, hs, fun q hq => hz q fun pv h => by obtain ⟨k, hk, rfl⟩ := List.mem_map.mp h; exact hq k hk,
    fun k hk => hv _ (List.mem_map.mpr ⟨k, hk, rfl⟩)⟩

/-- a scatter over the members of `L` that pass the test `P`, through a position map that is injective on all of `L`: position `pos k`
    holds `val k` if `k` passes and the fill value otherwise, and so does every position outside the image -/
theorem c20_scatter_filter {ι α : Type} (zero : α) (size lim : Nat) (L : List ι) (P : ι → Bool) (pos : ι → Nat) (val : ι → α)
    (hb : ∀ k ∈ L, pos k < lim ∧ pos k < size) (hinj : ∀ k ∈ L, ∀ k' ∈ L, pos k = pos k' → k = k') :
    ∃ a, scatterA zero size lim ((L.filter P).map fun k => (pos k, val k)) = .ok a ∧ a.size = size ∧
      (∀ k ∈ L, a.getD (pos k) zero = if P k then val k else zero) ∧ (∀ q, (∀ k ∈ L, pos k ≠ q) → a.getD q zero = zero) := by
  obtain ⟨a, hok, hsz, hz, hv⟩ := c20_scatter_map zero size lim (L.filter P) pos val
    (fun k hk => hb k (List.mem_filter.mp hk).1)
    (fun k hk k' hk' e => by rw [hinj k (List.mem_filter.mp hk).1 k' (List.mem_filter.mp hk').1 e])
  refine ⟨a, hok, hsz, fun k hk => ?_, fun q hq => hz q fun k hk => hq k (List.mem_filter.mp hk).1⟩
  cases hP : P k
  · exact hz _ fun k' hk' e => by
      rw [hinj k' (List.mem_filter.mp hk').1 k hk e] at hk'
      exact absurd ((List.mem_filter.mp hk').2.symm.trans hP) (by decide)
  · exact hv k (List.mem_filter.mpr ⟨hk, hP⟩)

/-- writes whose value is a function `G` of the index (a decoder's loop nest): their order and repetitions do not matter -/
theorem c20_scatter_fn {α : Type} (zero : α) (size : Nat) (ws : List (Nat × α)) (G : Nat → α)
    (hw : ∀ pv ∈ ws, pv.1 < size ∧ pv.2 = G pv.1) :
    ∃ a, scatterA zero size size ws = .ok a ∧ a.size = size ∧ ∀ pv ∈ ws, a.getD pv.1 zero = G pv.1 := by
  obtain ⟨a, hf, hs, _, hv⟩ := c20_scatter_ws zero size size ws (fun pv h => ⟨(hw pv h).1, (hw pv h).1⟩)
    (fun pv h pv' h' e => by rw [(hw pv h).2, (hw pv' h').2, e])
  exact ⟨a, hf, hs, fun pv h => (hv pv h).trans (hw pv h).2⟩

/-- a decoder's loop nest fills a row-major `rows × cols` matrix: every write is `(r·cols + c, F r c)` with (`r`, `c`) inside the matrix,
    and every entry is written -/
theorem c20_scatter_matrix {α : Type} (zero : α) (rows cols : Nat) (ws : List (Nat × α)) (F : Nat → Nat → α)
    (hw : ∀ pv ∈ ws, ∃ r c, r < rows ∧ c < cols ∧ pv = (r * cols + c, F r c))
    (hall : ∀ r c, r < rows → c < cols → (r * cols + c, F r c) ∈ ws) :
    ∃ Y, scatterA zero (rows * cols) (rows * cols) ws = .ok Y ∧ Y.size = rows * cols ∧
      ∀ r c, r < rows → c < cols → Y.getD (r * cols + c) zero = F r c := by
  refine (c20_scatter_fn zero _ ws (fun k => F (k / cols) (k % cols)) fun pv hpv => ?_).imp fun Y hY =>
    ⟨hY.1, hY.2.1, fun r c hr hc => ?_⟩
  · obtain ⟨r, c, hr, hc, rfl⟩ := hw pv hpv
    have d := grid_div r hc; have m := grid_mod r hc
    exact ⟨grid_lt hr hc, by show F r c = F _ _; rw [d, m]⟩
  · have d := grid_div r hc; have m := grid_mod r hc
    have := hY.2.2 _ (hall r c hr hc)
    simpa only [d, m] using this

/-! ### sparse negacyclic products -/

/-- Coefficient `c` of the negacyclic product of two sparse polynomials: `a` vanishes off the positions `SA`, `b` off `SB`.  If the
    pairs of supported positions that sum to `c` are exactly the pairs `(pa k, pb k)`, `k ∈ s`, and no pair sums to `n + c` (no
    wrap-around term), the coefficient is the sum over `s`. -/
theorem c20_negMul_supported {R : Type} [CommRing R] {ι : Type} (n : Nat) (a b : Nat → R) (c : Nat) (s : Finset ι)
    (pa pb : ι → Nat) (SA SB : Nat → Prop) (ha : ∀ p, ¬ SA p → a p = 0) (hb : ∀ q, ¬ SB q → b q = 0)
    (hinj : ∀ k ∈ s, ∀ k' ∈ s, pa k = pa k' → k = k') (hsum : ∀ k ∈ s, pa k + pb k = c) (hc : c < n)
    (hlow : ∀ p q, SA p → SB q → p + q = c → ∃ k ∈ s, pa k = p) (hhigh : ∀ p q, SA p → SB q → p + q ≠ n + c) :
    negMulR n a b c = ∑ k ∈ s, a (pa k) * b (pb k) := by
  classical
  unfold negMulR
  have hsub : s.image pa ⊆ range n := by
    intro p hp
    obtain ⟨k, hk, rfl⟩ := Finset.mem_image.mp hp
    exact Finset.mem_range.mpr (lt_of_le_of_lt (Nat.le.intro (hsum k hk)) hc)
  rw [← Finset.sum_subset hsub, Finset.sum_image hinj]
  · apply Finset.sum_congr rfl
    intro k hk
    rw [if_pos (Nat.le.intro (hsum k hk)), ← hsum k hk, Nat.add_sub_cancel_left]
  · intro p hp hnot
    have hpn : p < n := Finset.mem_range.mp hp
    have hz : ∀ q, a p * b q = 0 ∨ (SA p ∧ SB q) := by
      intro q
      by_cases hA : SA p
      · by_cases hB : SB q
        · exact Or.inr ⟨hA, hB⟩
        · exact Or.inl (by rw [hb q hB, mul_zero])
      · exact Or.inl (by rw [ha p hA, zero_mul])
    by_cases hpc : p ≤ c
    · rw [if_pos hpc]
      rcases hz (c - p) with h0 | ⟨hA, hB⟩
      · exact h0
      · obtain ⟨k, hk, e⟩ := hlow p (c - p) hA hB (Nat.add_sub_cancel' hpc)
        exact absurd (Finset.mem_image.mpr ⟨k, hk, e⟩) hnot
    · rw [if_neg hpc]
      rcases hz (n + c - p) with h0 | ⟨hA, hB⟩
      · rw [h0, neg_zero]
      · exact absurd (Nat.add_sub_cancel' (by omega)) (hhigh p _ hA hB)

/-! ### folds and downward loops -/

theorem c20_foldl_reach {σ β : Type} (Q : σ → Prop) (f : σ → β → σ) (l : List β) (init : σ)
    (hex : ∃ x ∈ l, ∀ st, Q (f st x)) (hs : ∀ st x, x ∈ l → Q st → Q (f st x)) : Q (l.foldl f init) := by
  induction l generalizing init with
  | nil => obtain ⟨x, hx, _⟩ := hex; simp at hx
  | cons x r ih =>
    simp only [List.foldl_cons]
    obtain ⟨y, hy, hq⟩ := hex
    rcases List.mem_cons.mp hy with rfl | hyr
    · exact foldl_inv Q (hq init) (fun st z hz hp => hs st z (by simp [hz]) hp)
    · exact ih _ ⟨y, hyr, hq⟩ (fun st z hz hp => hs st z (by simp [hz]) hp)

theorem c20_downLoop_eq {τ : Type} (g : τ → Nat → τ) : ∀ (k : Nat) (t : τ),
    downLoop g k t = ((List.range k).reverse.map (· + 1)).foldl g t
  | 0, _ => rfl
  | k+1, t => by rw [downLoop, c20_downLoop_eq g k, List.range_succ, List.reverse_append]; rfl

theorem c20_downLoop_inv {σ : Type} (P : σ → Prop) (f : σ → Nat → σ) (k : Nat) (init : σ)
    (h0 : P init) (hs : ∀ st b, 1 ≤ b → b ≤ k → P st → P (f st b)) : P (downLoop f k init) := by
  rw [c20_downLoop_eq]
  refine foldl_inv P h0 fun st b hb hp => ?_
  obtain ⟨d, hd, rfl⟩ := List.mem_map.mp hb
  exact hs st (d + 1) (Nat.le_add_left 1 d) (List.mem_range.mp (List.mem_reverse.mp hd)) hp

theorem c20_downLoop_last {σ : Type} (Q : σ → Prop) (f : σ → Nat → σ) (k : Nat) (hk : 1 ≤ k) (init : σ)
    (h1 : ∀ st, Q (f st 1)) : Q (downLoop f k init) := by
  induction k generalizing init with
  | zero => omega
  | succ k ih =>
    simp only [downLoop]
    rcases Nat.eq_zero_or_pos k with rfl | hpos
    · simp only [downLoop]; exact h1 init
    · exact ih hpos _

theorem c20_mem_downRange {lo hi x : Nat} : x ∈ downRange lo hi ↔ lo ≤ x ∧ x ≤ hi := by
  unfold downRange
  simp only [List.mem_map, List.mem_reverse, List.mem_range]
  constructor
  · rintro ⟨d, hd, rfl⟩; omega
  · rintro ⟨h1, h2⟩; exact ⟨x - lo, by omega, by omega⟩

end HC
