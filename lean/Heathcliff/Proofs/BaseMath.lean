/- Number facts that several properties need: the order of 3 modulo a power of two, multiplication by an odd number
   modulo a power of two, a sum over `List.range` as a `Finset` sum, the fuel argument of Euclid's algorithm.  What needs no Mathlib is in `Proofs/Base.lean`. -/
import Heathcliff.Proofs.Base
import Mathlib.Data.ZMod.Basic
import Mathlib.Algebra.BigOperators.Intervals
import Mathlib.Tactic.Ring
import Mathlib.Tactic.Linarith
open Finset
namespace HC

/-! ### order of 3 modulo a power of two (needs `ring`) -/

/-- `3^(2^(j+1)) = 1 + 2^(j+3)·odd`: squaring lifts the congruence one bit -/
theorem three_pow_lift (j : Nat) : ∃ c, 3^(2^(j+1)) = 1 + 2^(j+3) * (2*c+1) := by
  induction j with
  | zero => exact ⟨0, by norm_num⟩
  | succ j ih =>
    obtain ⟨c, hc⟩ := ih
    refine ⟨c + 2^(j+1) * (2*c+1)^2, ?_⟩
    rw [show 2^(j+1+1) = 2^(j+1) * 2 by ring, pow_mul, hc]
    ring

theorem three_pow_half (j : Nat) : 3^(2^(j+1)) % 2^(j+3) = 1 := by
  obtain ⟨c, hc⟩ := three_pow_lift j
  rw [hc, Nat.add_mul_mod_self_left]
  exact Nat.mod_eq_of_lt (Nat.one_lt_two_pow (Nat.succ_ne_zero _))

theorem three_pow_quarter (j : Nat) : 3^(2^(j+1)) % 2^(j+4) = 1 + 2^(j+3) := by
  obtain ⟨c, hc⟩ := three_pow_lift j
  rw [hc, show 1 + 2^(j+3) * (2*c+1) = 1 + 2^(j+3) + 2^(j+4) * c by ring, Nat.add_mul_mod_self_left]
  exact Nat.mod_eq_of_lt (by rw [pow_succ 2 (j+3)]; have := Nat.one_lt_two_pow (n := j+3) (Nat.succ_ne_zero _); omega)

/-! ### multiplication by an odd number permutes the residues modulo a power of two -/

theorem odd_coprime_two_pow {k g : Nat} (hg : g % 2 = 1) : Nat.gcd (2^k) g = 1 :=
  Nat.Coprime.pow_left k (Nat.coprime_two_left.mpr (Nat.odd_iff.mpr hg))

theorem odd_mul_inj_two_pow {k g i j : Nat} (hg : g % 2 = 1) (hi : i < 2^k) (hj : j < 2^k)
    (h : (i * g) % 2^k = (j * g) % 2^k) : i = j := by
  have h1 : i ≡ j [MOD 2^k] := Nat.ModEq.cancel_right_of_coprime (odd_coprime_two_pow hg) h
  unfold Nat.ModEq at h1
  rwa [Nat.mod_eq_of_lt hi, Nat.mod_eq_of_lt hj] at h1

/-! ### sums -/
theorem list_sum_range {M : Type} [AddCommMonoid M] (f : Nat → M) (n : Nat) : ((List.range n).map f).sum = ∑ i ∈ range n, f i := by
  induction n with
  | zero => simp
  | succ k ih => rw [List.range_succ, List.map_append, List.sum_append, ih, Finset.sum_range_succ]; simp

/-! ### Euclid: the product of the pair at least halves in a step -/
theorem euclid_fuel_int {x y : Int} {n : Nat} (hy : 0 < y) (hyx : y ≤ x) (h : x * y < 2^(n+1)) :
    1 ≤ x / y ∧ 0 ≤ x % y ∧ x % y < y ∧ y * (x % y) < 2^n := by
  have h1 := Int.mul_ediv_add_emod x y
  have hr0 := Int.emod_nonneg x hy.ne'
  have hr1 := Int.emod_lt_of_pos x hy
  have hq : 1 ≤ x / y := Int.le_ediv_of_mul_le hy (by omega)
  refine ⟨hq, hr0, hr1, ?_⟩
  rw [pow_succ] at h
  nlinarith [mul_le_mul_of_nonneg_left hq hy.le, mul_le_mul_of_nonneg_left hr1.le hy.le]


end HC
