/- What all of C08 builds on: the invariant of a `Modulus`, the two halves of a word product, the value of limb lists put one
   after the other. -/
import Heathcliff.Proofs.Base
import Mathlib.Tactic.Ring
import Mathlib.Tactic.Linarith
import Mathlib.Tactic.NormNum

namespace HC

/-- well-formed modulus: what `Modulus::new` establishes -/
structure Modulus.WF (m : Modulus) : Prop where
  two_le : 2 ≤ m.value
  lt : m.value < 2^61
  ratio : m.cr0 + B64 * m.cr1 = 2^128 / m.value
  cr0_lt : m.cr0 < B64
  cr2 : m.cr2 = 2^128 % m.value

theorem Modulus.WF.pos {m : Modulus} (h : m.WF) : 0 < m.value := Nat.lt_of_lt_of_le Nat.zero_lt_two h.two_le

theorem Modulus.WF.mod_lt61 {m : Modulus} (h : m.WF) (x : Nat) : x % m.value < 2^61 := Nat.lt_trans (Nat.mod_lt x h.pos) h.lt

theorem Modulus.WF.lt_word {m : Modulus} (h : m.WF) {x : Nat} (hx : x < m.value) : x < 2^64 :=
  Nat.lt_trans hx (Nat.lt_trans h.lt (by norm_num))

theorem Modulus.WF.mod_word {m : Modulus} (h : m.WF) (x : Nat) : x % m.value < 2^64 := h.lt_word (Nat.mod_lt x h.pos)

theorem Modulus.mk?_wf {v : Nat} {m : Modulus} (h : Modulus.mk? v = .ok m) (hv : v ≠ 0) : m.WF ∧ m.value = v := by
  unfold Modulus.mk? at h
  rw [if_neg hv] at h
  split at h
  · cases h
  · rename_i hc
    have hc' : v / 2^61 = 0 ∧ v ≠ 1 := by
      constructor
      · by_contra h1; exact hc (Or.inl h1)
      · intro h1; exact hc (Or.inr h1)
    injection h with h
    subst h
    have hlt : v < 2^61 := by
      rcases Nat.div_eq_zero_iff.mp hc'.1 with h0 | h0
      · norm_num at h0
      · exact h0
    refine ⟨⟨by show 2 ≤ v; omega, hlt, ?_, ?_, rfl⟩, rfl⟩
    · show 2^128 / v % B64 + B64 * (2^128 / v / B64) = 2^128 / v
      exact Nat.mod_add_div _ _
    · exact Nat.mod_lt _ B64_pos

theorem Modulus.WF.cr1_eq {m : Modulus} (h : m.WF) : m.cr1 = 2^64 / m.value := by
  have h1 := h.ratio
  have h2 := h.cr0_lt
  have : m.cr1 = (2^128 / m.value) / B64 := by
    rw [← h1]
    rw [Nat.add_comm, Nat.mul_add_div B64_pos, Nat.div_eq_of_lt h2]; simp
  rw [this, B64_eq, Nat.div_div_eq_div_mul, Nat.mul_comm, ← Nat.div_div_eq_div_mul]
  norm_num

/-! ### the two halves of a word product -/

theorem mulHiLo (x y : Nat) : mulLo x y + B64 * mulHi x y = x * y := Nat.mod_add_div _ _

theorem mulLo_lt (x y : Nat) : mulLo x y < 2^64 := by rw [← B64_eq]; exact Nat.mod_lt _ B64_pos

/-- the high word of a product leaves room for two carry bits -/
theorem mulHi_le {x y : Nat} (hx : x < B64) (hy : y < B64) : mulHi x y + 2 ≤ B64 := by
  have hC : x * y ≤ (B64 - 1) * (B64 - 1) := Nat.mul_le_mul (by omega) (by omega)
  have : mulHi x y < B64 - 1 := by
    apply Nat.div_lt_of_lt_mul
    simp only [B64] at *; omega
  omega

/-! ### the little-endian value of limbs put one after the other -/

theorem pow64_succ (n : Nat) : 2^(64*(n+1)) = B64 * 2^(64*n) := by
  rw [B64_eq, ← pow_add]; congr 1; ring

theorem toNat_append (l1 l2 : List Nat) : toNat (l1 ++ l2) = toNat l1 + 2^(64*l1.length) * toNat l2 := by
  induction l1 with
  | nil => simp [toNat]
  | cons x xs ih =>
    simp only [List.cons_append, toNat, List.length_cons, ih, pow64_succ]; ring

end HC
