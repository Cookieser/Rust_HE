import Heathcliff.Proofs.C04R
import Heathcliff.Proofs.C04K
import Heathcliff.Proofs.C04T
import Heathcliff.Proofs.C01O
import Heathcliff.Proofs.C04M
import Heathcliff.Proofs.GenGaloisElts
import Heathcliff.Proofs.GenGaloisApply
import Heathcliff.Proofs.GenGaloisTable
import Heathcliff.Proofs.GenNaf
import Heathcliff.Proofs.GenGaloisPlan

/- Property theorems only (proofs are the helper lemmas of Heathcliff/Proofs). -/
namespace HC.C04
open HC
open Finset

/-- odd g is a bijection on indices mod N = 2^k: i ↦ (i·g) mod N is injective on [0, N) -/
theorem odd_mul_injective {k g i j : Nat} (hg : g % 2 = 1) (hi : i < 2^k) (hj : j < 2^k)
    (h : (i * g) % 2^k = (j * g) % 2^k) : i = j := HC.odd_mul_injective hg hi hj h

/-- COEFFICIENT FORM: `apply` writes a_i to position (i·g mod N), negated iff ⌊i·g/N⌋ is odd — for every odd g, every N = 2^k -/
theorem galoisApply_spec {k g : Nat} {m : Modulus} (hm : m.WF) (hg : g % 2 = 1) {a : Array Nat} (hs : a.size = 2^k)
    (ha : ∀ i, i < 2^k → a.getD i 0 < m.value) :
    ∃ r, galoisApply k a g m = .ok r ∧ r.size = 2^k ∧ ∀ i, i < 2^k →
      r.getD ((i * g) % 2^k) 0 = (if ((i * g) / 2^k) % 2 = 1 then (m.value - a.getD i 0) % m.value else a.getD i 0) := HC.galoisApply_spec hm hg hs ha

/-- … which is the substitution X ↦ X^g modulo X^N + 1: for any commutative ring and any x with x^N = −1,
    Σ_j r_j x^j = Σ_i a_i (x^g)^i  whenever r is related to a as in `galoisApply_spec` (as ring elements) -/
theorem subst_eval {R : Type} [CommRing R] {k g : Nat} (hg : g % 2 = 1) (x : R) (hx : x ^ (2^k) = -1) (a r : Nat → R)
    (hr : ∀ i, i < 2^k → r ((i * g) % 2^k) = (if ((i * g) / 2^k) % 2 = 1 then - a i else a i)) :
    ∑ j ∈ range (2^k), r j * x ^ j = ∑ i ∈ range (2^k), a i * (x ^ g) ^ i := HC.subst_eval hg x hx a r hr

/-- NTT FORM, the table: entry i = index of the slot holding the evaluation at psi^(g·(2·brev i + 1)) -/
theorem galoisTable_spec {k g i : Nat} (hg : g % 2 = 1) (hi : i < 2^k) :
    (galoisTableNtt k g).getD i 0 = brev k ((((g * (2 * brev k i + 1)) % (2 * 2^k)) - 1) / 2) ∧
    (galoisTableNtt k g).getD i 0 < 2^k := HC.galoisTable_spec hg hi

/-- the defining property of that index: 2·brev(table i) + 1 ≡ g·(2·brev i + 1) (mod 2N) -/
theorem galoisTable_exponent {k g i : Nat} (hg : g % 2 = 1) (hi : i < 2^k) :
    (2 * brev k ((galoisTableNtt k g).getD i 0) + 1) % (2 * 2^k) = (g * (2 * brev k i + 1)) % (2 * 2^k) := HC.galoisTable_exponent hg hi

/-- ROTATION STEP ↦ ELEMENT: 3^s for 0 < s < N/2, 3^(N/2 − |s|) for negative steps, 2N − 1 for step 0; refused otherwise -/
theorem eltFromStep_spec {k : Nat} {s : Int} (hs : s.natAbs < 2^k / 2) (hs0 : s ≠ 0) :
    eltFromStep k s = .ok (3 ^ (if s < 0 then 2^k / 2 - s.natAbs else s.natAbs) % (2 * 2^k)) := HC.eltFromStep_spec hs hs0

theorem eltFromStep_zero (k : Nat) : eltFromStep k 0 = .ok (2 * 2^k - 1) := HC.eltFromStep_zero k

/-- 3 has order N/2 modulo 2N (N = 2^k, k ≥ 2): 3^(N/2) ≡ 1 and 3^(N/4) ≢ 1 -/
theorem three_order {k : Nat} (hk : 2 ≤ k) : 3 ^ (2^k / 2) % (2 * 2^k) = 1 ∧ 3 ^ (2^k / 4) % (2 * 2^k) ≠ 1 := HC.three_order hk

/-- negative steps: 3^(N/2 − s) is the inverse of 3^s modulo 2N, so a rotation by −s undoes a rotation by s -/
theorem step_inverse {k s : Nat} (hk : 2 ≤ k) (hs : s < 2^k / 2) :
    (3 ^ s * 3 ^ (2^k / 2 - s)) % (2 * 2^k) = 1 := HC.step_inverse hk hs

/-- composition of automorphisms multiplies the elements; rotations add their steps modulo N/2 -/
theorem step_add {k a b : Nat} (hk : 2 ≤ k) :
    (3 ^ a * 3 ^ b) % (2 * 2^k) = 3 ^ ((a + b) % (2^k / 2)) % (2 * 2^k) := HC.step_add hk

/-! The unrestricted forms are false at degenerate corners (`three_pow_two_powStatement_false`, `eltFromStep_refusesStatement_false`,
    `eltsAll_containsStatement_false` in Proofs/C04M.lean); the theorems exclude the corner:
    3^(2^j) ≡ 1 + 2^(j+2) needs j ≥ 1; refusal of out-of-range steps needs (s ≠ 0 ∨ N ≥ 2); the default key set is complete for
    k ≤ 62 (for k ≥ 63 the modulus 2N does not fit the code's u64 / i64 arithmetic at all; the library limits N to 2^17). -/
theorem three_pow_two_pow_pos : type_of% @HC.three_pow_two_pow_pos := @HC.three_pow_two_pow_pos
theorem eltFromStep_refuses' : type_of% @HC.eltFromStep_refuses' := @HC.eltFromStep_refuses'
theorem eltsAll_contains_le : type_of% @HC.eltsAll_contains_le := @HC.eltsAll_contains_le

/-- non-vacuity: N = 8: step 1 ↦ 3, step −1 ↦ 3^3 = 27 ≡ 11 (mod 16) -/
example : eltFromStep 3 1 = .ok 3 ∧ eltFromStep 3 (-1) = .ok 11 := by decide +kernel


/-! ### key switching: the algebra of the gadget decomposition, of the accumulated pair and of the rounding, in the abstract (any commutative ring / ℤ) -/

/-- each gadget element (Q/q_j)·[(Q/q_j)^{-1}]_{q_j} is ≡ 1 modulo its own prime and ≡ 0 modulo the others — which is why the key
    generator adds P·s' only to component j of key j -/
theorem gadget_delta {b : RNSBase} (hb : b.WF) {i j : Nat} (hi : i < b.size) (hj : j < b.size) :
    (b.punct.getD j 0 * (b.invPunct.getD j default).operand) % (b.q i).value = if i = j then 1 % (b.q i).value else 0 :=
  HC.gadget_delta hb hi hj

/-- CRT GADGET: the RNS digits c mod q_j recombine with the gadget elements to c modulo Q -/
theorem gadget_crt {b : RNSBase} (hb : b.WF) (c : Nat) :
    (∑ j ∈ range b.size, (c % (b.q j).value) * (b.punct.getD j 0 * (b.invPunct.getD j default).operand)) % b.prod = c % b.prod :=
  HC.gadget_crt hb c

/-- KEY-SWITCH PHASE (any commutative ring): if every key row satisfies k0_j + k1_j·s = e_j + P·g_j·s' and Σ_j d_j·g_j = c, then the
    accumulated pair decrypts under s to P·c·s' + Σ_j d_j·e_j -/
theorem keyswitch_phase {R : Type} [CommRing R] (k : Nat) (d g e k0 k1 : Nat → R) (s s' P c : R)
    (hkey : ∀ j, j < k → k0 j + k1 j * s = e j + P * g j * s') (hg : ∑ j ∈ range k, d j * g j = c) :
    (∑ j ∈ range k, d j * k0 j) + (∑ j ∈ range k, d j * k1 j) * s = P * c * s' + ∑ j ∈ range k, d j * e j :=
  HC.keyswitch_phase k d g e k0 k1 s s' P c hkey hg

/-- MOD-DOWN by the special prime with rounding: X = P·Y + E ⇒ round(X/P) = Y + round(E/P) and |round(E/P)|·P ≤ |E| + P -/
theorem moddown_round {P : Nat} (hP : 0 < P) (X Y E : Int) (h : X = P * Y + E) :
    Spec.roundDiv X P = Y + Spec.roundDiv E P ∧ (Spec.roundDiv E P).natAbs * P ≤ E.natAbs + P :=
  HC.moddown_round hP X Y E h

/-- non-vacuity of the key-switch phase identity in ℤ: one digit, key row (k0,k1) = (7, 3) with s = 2, e = 1, P = 4, g = 1, s' = 3 -/
example : (7 : Int) + 3 * 2 = 1 + 4 * 1 * 3 := by decide +kernel


/-! ### key switching of the model: accumulation = NTT of the digit-key convolution, mod-down = rounding division by the special prime (BFV/CKKS and BGV branch), refusals
    (statements, hypothesis bundles and non-vacuity instances: Heathcliff/Proofs/C04T.lean) -/

/-- `ksAccumulate_spec`.  For a well-formed key level (`KeyLevel.WF`), `dsz + 1 ≤ ksz`, an RNS index `i ≤ dsz`
    (index `dsz` = special prime; `c04t_keyIndex` is the key-level modulus used: `if i = dsz then ksz - 1 else i`), canonical
    coefficient-form target digits `targetCoef` (in NTT representation: `target` canonical and `targetCoef = intt target` per
    component, exactly what `switchKey` passes), canonical key residues at the key modulus, and the 128-bit accumulator bound
    `dsz·4q² < 2^128` (see `c04t_no_overflow_60`: implied by dsz ≤ 64 for q < 2^60, `c04t_no_overflow_61`: dsz ≤ 16 for q < 2^61):
    `ksAccumulate` succeeds; component k of the result has size n, canonical values, and is the NTT (w.r.t. the key modulus) of
    Σ_j D_j ⋆ K_{j,k} mod q — i.e. its `intt` is coefficientwise `(Σ_j negMulNat n q D_j (intt K_{j,k}) c) % q`, where D_j is the
    digit polynomial `targetCoef[j]` taken as integers in [0, q_j) (not reduced mod q) and ⋆ the negacyclic product. -/
theorem ksAccumulate_spec : type_of% @HC.ksAccumulate_spec := @HC.ksAccumulate_spec

/-- `ksAccumulate_spec` with the overflow guard discharged from `dsz ≤ 64` and key moduli below 2^60 -/
theorem ksAccumulate_spec_dsz64 : type_of% @HC.ksAccumulate_spec_dsz64 := @HC.ksAccumulate_spec_dsz64

/-- refusals of `switch_key_inplace_internal` -/
theorem switchKey_refuses_sizes : type_of% @HC.switchKey_refuses_sizes := @HC.switchKey_refuses_sizes

theorem switchKey_refuses_bfv_ntt : type_of% @HC.switchKey_refuses_bfv_ntt := @HC.switchKey_refuses_bfv_ntt

theorem switchKey_refuses_coeff_form : type_of% @HC.switchKey_refuses_coeff_form := @HC.switchKey_refuses_coeff_form

/-- `moddown_spec` (rounding branch: BFV in coefficient form, CKKS in NTT form).  For inputs satisfying `c04t_KSInput`
    (well-formed key level, `dsz + 1 ≤ ksz`, canonical target / key residues / ciphertext residues, 128-bit accumulator bound,
    `invPModQ[j]·P ≡ 1 (mod q_j)`), `switchKey` succeeds; only the first `kcc` polynomials change; and for k < kcc, j < dsz the
    new component is `ct[k][j] + δ (mod q_j)` where, coefficient by coefficient (through `intt` when the data is in NTT form),
    δ ≡ round(X / P) (mod q_j) (`Spec.roundDiv`) for EVERY integer X with X ≡ X_j[c] (mod q_j) and X ≡ X_P[c] (mod P), X_* being
    the accumulated polynomials Σ_j D_j ⋆ K_{j,k} of `ksAccumulate_spec` in coefficient form (`c04t_accCoef`).  `moddown_round` then splits
    round(X/P) for X = P·Y + E. -/
theorem moddown_spec : type_of% @HC.moddown_spec := @HC.moddown_spec

/-- BGV branch.  Same frame as `moddown_spec`; the added polynomial δ satisfies, coefficient by coefficient (through `intt`),
    δ ≡ (X − E)/P (mod q_j) for every integer X with X ≡ X_j[c] (mod q_j), X ≡ X_P[c] (mod P), where
    E = X_P[c] + P·((−X_P[c])·P^{-1} mod t) (`c04t_bgvE`) does not depend on j, is ≡ X (mod P), a multiple of t, and 0 ≤ E < P·t:
    the result is X·P^{-1} corrected so that the error is ≡ 0 (mod t). -/
theorem moddown_spec_bgv : type_of% @HC.moddown_spec_bgv := @HC.moddown_spec_bgv

/-- ring-level phase identity of key switching + mod-down: the identity of `switchKey_phase` (C04K) in an arbitrary commutative ring -/
theorem keyswitch_moddown_phase_ring : type_of% @HC.keyswitch_moddown_phase_ring := @HC.keyswitch_moddown_phase_ring

/-- `relinearize_internal` on a size-3 ciphertext is one `switchKey` of c2 (key for s²) followed by dropping c2 -/
theorem relinearize_size3 : type_of% @HC.relinearize_size3 := @HC.relinearize_size3

theorem relinearize_size2 : type_of% @HC.relinearize_size2 := @HC.relinearize_size2

theorem relinearize_refuses_small : type_of% @HC.relinearize_refuses_small := @HC.relinearize_refuses_small

theorem relinearize_refuses_missing_key : type_of% @HC.relinearize_refuses_missing_key := @HC.relinearize_refuses_missing_key

theorem applyGalois_refuses_size : type_of% @HC.applyGalois_refuses_size := @HC.applyGalois_refuses_size

theorem applyGalois_refuses_element : type_of% @HC.applyGalois_refuses_element := @HC.applyGalois_refuses_element

/-! ### translator tie: `GaloisTool::get_elt_from_step`, `get_elts_all`, `get_index_from_elt` (src/util/galois.rs) generated into
     Gen/GaloisFns.lean equal `eltFromStep` / `eltsAll` of Model/Galois.lean (Proofs/GenGaloisElts.lean).  The bounds on `k` say exactly that
     the overflow-checked `*`/`-` of the code do not trap (the library has 1 ≤ k ≤ 17). -/
theorem gen_get_elt_from_step_eq (k : Nat) (hk : k ≤ 61) (step : Int) :
    GenG.get_elt_from_step step (2^k) = eltFromStep k step := HC.gx_get_elt_from_step_eq k hk step
theorem gen_get_elts_all_eq (k : Nat) (hk1 : 1 ≤ k) (hk : k ≤ 31) : GenG.get_elts_all (2^k) k = eltsAll k := HC.gx_get_elts_all_eq k hk1 hk
theorem gen_get_index_from_elt_eq (g : Nat) :
    GenG.get_index_from_elt g = if g % 2 = 1 then .ok ((g - 1) / 2) else .error .refused := HC.gx_get_index_from_elt_eq g


/-! ### translator tie (Proofs/GenGaloisApply.lean, Proofs/GenGaloisTable.lean): `GaloisTool::apply` (index / sign loop) and `util::reverse_bits_u32`.
     `apply`: tool fields `coeff_count = 2^k`, `coeff_count_power = k`, zero-initialised result buffer.  `2^k ≤ operand.len()`: the code's
     guard is `i <= operand.len()` (not `<`), so a shorter operand panics at `i = len` where the model reads 0; `2^k·g < 2^64`: the
     running `index_raw += galois_elt` is overflow-checked. -/
theorem gen_galois_apply_eq (a : List Nat) (g : Nat) (m : Modulus) (k : Nat) (hk : k < 64) (ha : 2^k ≤ a.length) (hg : 2^k * g < 2^64) :
    GenG.galois_apply a g m (List.replicate (2^k) 0) (2^k) k = (galoisApply k a.toArray g m >>= fun r => pure r.toList) :=
  HC.gy_galois_apply_eq a g m k hk ha hg
/-- the generated loop from any position `i` (running index `i·g`) = the model's fold over the remaining indices -/
theorem gen_galois_apply_loop_eq (a : List Nat) (g : Nat) (m : Modulus) (k : Nat) (hk : k < 64) (ha : 2^k ≤ a.length)
    (hg : 2^k * g < 2^64) (cnt i : Nat) (res : List Nat) (h1 : i + cnt = 2^k) (h2 : res.length = 2^k) :
    GenG.galois_apply_loop1 a g m (2^k - 1) k cnt i res (i * g) = (List.range' i cnt).foldlM (gy_applyStep (2^k) a g m) res :=
  HC.gy_apply_loop_eq a g m k hk ha hg cnt i res h1 h2
/-- `reverse_bits_u32(x, bc)` = `brev bc x` (`u32::reverse_bits` is the primitive `revBits 32`) -/
theorem gen_reverse_bits_u32_eq (x bc : Nat) (hbc : bc ≤ 32) (hx : x < 2^bc) : GenW.reverse_bits_u32 x bc = .ok (brev bc x) :=
  HC.gy_reverse_bits_u32_eq x bc hbc hx

/-! ### translator tie (Proofs/GenGaloisTable.lean): `GaloisTool::generate_table_ntt` (the NTT-form permutation table) generated from
     source = `galoisTableNtt k g` of Model/Galois.lean, about which `galoisTable_spec` & co. above are stated.  Tool fields
     `coeff_count = 2^k`, `coeff_count_power = k`.  `k ≤ 31`: `reverse_bits_u32(_, k + 1)` computes `32 - (k + 1)` with overflow checks and
     `i as u32` must not truncate; `g·(2^(k+1) − 1) < 2^64`: `galois_elt as u64 * reversed as u64` is overflow-checked and `reversed`
     reaches `2^(k+1) − 1` at the last index (`_lib`: implied by `g < 2N`, the range of Galois elements). -/
theorem gen_generate_table_ntt_eq (k g : Nat) (hk : k ≤ 31) (hg : g * (2^(k+1) - 1) < 2^64) :
    GenG.generate_table_ntt g (2^k) k = .ok (galoisTableNtt k g).toList := HC.gq_generate_table_ntt_eq k g hk hg
theorem gen_generate_table_ntt_eq_lib (k g : Nat) (hk : k ≤ 31) (hg : g < 2^(k+1)) :
    GenG.generate_table_ntt g (2^k) k = .ok (galoisTableNtt k g).toList := HC.gq_generate_table_ntt_eq_lib k g hk hg
/-- the generated loop from position `2^k + j` = writing entry `i` at position `i` for the remaining positions -/
theorem gen_generate_table_ntt_loop_eq (k g : Nat) (hk : k ≤ 31) (hg : g * (2^(k+1) - 1) < 2^64) (cnt j : Nat) (res : List Nat)
    (h1 : j + cnt = 2^k) (h2 : res.length = 2^k) :
    GenG.generate_table_ntt_loop1 g (2^k) (2^k - 1) k cnt (2^k + j) res =
      .ok ((List.range' j cnt).foldl (fun r i => r.set i (gq_entry k g i)) res) := HC.gq_table_loop_eq k g hk hg cnt j res h1 h2

/-! ### translator tie (Proofs/GenNaf.lean): `util::naf` (src/util/number_theory.rs; i32 arithmetic: `+ - *`, unary `-`, `abs` are
     overflow-checked `ckI32`, `&` is two's complement, `>> 1` arithmetic, `1 << i` checks only the amount) generated into Gen/Word2Fns.lean
     = `HC.naf` of Model/Word.lean (about which `naf_spec` / the default-key theorems are stated) for `|value| < 2^30`.  The bound is exactly
     where the two can part: the code computes a digit as `±1 * (1_i32 << i)`; from `|value| ≥ 2^30` on a digit at `i = 31` can occur, where
     `1 << 31 = i32::MIN`, whereas the model's `2^i` is unbounded (rotation steps are `< N/2 ≤ 2^16`).  `naf(i32::MIN)`: both refuse. -/
theorem gen_naf_eq (value : Int) (h : value.natAbs < 2^30) : GenW2.naf value = HC.naf value := HC.gn_naf_eq value h
theorem gen_naf_min : GenW2.naf (-2147483648) = .error .overflow ∧ HC.naf (-2147483648) = .error .overflow := HC.gn_naf_min
/-- the generated loop from any reachable state (`gn_Inv V v i`: `v·2^i < V + 2^i`, and `2^i ≤ 2V` while `v ≥ 1`) -/
theorem gen_naf_loop_eq (V : Nat) (hV : V < 2^30) (s : Bool) (fuel v i : Nat) (res : List Int) (h : gn_Inv V v i) :
    GenW2.naf_loop1 res s fuel (v : Int) (i : Int) = .ok (res ++ nafLoop fuel v i s []) := HC.gn_loop_eq V hV s fuel v i res h
/-- non-vacuity: a negative step -/
example : GenW2.naf (-7) = .ok [1, -8] ∧ HC.naf (-7) = .ok [1, -8] := by constructor <;> decide +kernel

/-! ### key switching of the model end to end: phase(ct') = phase(ct) + target*s' + nu modulo every level modulus / modulo Q / against Spec.phase, explicit noise bound, BGV branch (nu = 0 mod t), relinearize and applyGalois corollaries (phase of the result = sigma_g(phase) + nu)
    (statements, hypothesis bundles and non-vacuity instances: Heathcliff/Proofs/C04K.lean) -/

/-- `switchKey_phase` (rounding branch: BFV in coefficient form, CKKS in NTT form).
    Hypotheses: `c04t_KSInput` (well-formed key level, canonical inputs, accumulator guard, P^{-1} operands — C04T), a two-component
    key (`kcc = 2`), a ciphertext with at least two polynomials, and the KEY EQUATION `c04k_KeyEq`: for integer polynomials
    s, s', e_i and gadget integers G_i (G_i ≡ δ_ij mod q_j), the coefficient forms of the key rows satisfy
    k0_i + k1_i ⋆ s ≡ e_i + P·G_i·s' modulo every used key-level modulus (q_0 … q_{dsz-1} and P), ⋆ the negacyclic product.
    Conclusion: `switchKey` succeeds; representation flag, correction factor, number of polynomials and all polynomials of index ≥ 2
    are unchanged; the two new polynomials are canonical; and for every level modulus q_j and coefficient c (coefficient functions
    through `intt` when the data is in NTT form, `c05u_phase2 n c0 c1 s = c0 + c1 ⋆ s`):
      phase_s(ct'_0, ct'_1) ≡ phase_s(ct_0, ct_1) + target ⋆ s' + ν   (mod q_j)
    with ONE integer polynomial ν = `c04k_nuStd` independent of j: ν = (Σ_i D_i ⋆ e_i − r_0 − r_1 ⋆ s)/P (exact division), D_i the
    digits of the target, r_k the centred residues mod P of the accumulated polynomials. -/
theorem switchKey_phase : type_of% @HC.switchKey_phase := @HC.switchKey_phase

/-- explicit noise bound (rounding branch): with q_i ≤ A for the level moduli and ‖e_i‖∞ ≤ Be,
    P·‖ν‖∞ ≤ dsz·A·n·Be + ⌊P/2⌋·(1 + ‖s‖₁),  i.e. ‖ν‖∞ ≤ dsz·n·A·Be/P + (1 + ‖s‖₁)/2 -/
theorem switchKey_noise_bound : type_of% @HC.switchKey_noise_bound := @HC.switchKey_noise_bound

/-- `switchKey_phase` modulo Q_level = Π_{j<dsz} q_j (`b.prod`, `b` the well-formed RNS base of the level moduli): for ARBITRARY
    integer lifts Z_k, Z'_k, T of the old polynomials, the new polynomials and the target (`c04k_Lifts`: congruent to the component
    coefficient functions modulo every q_j — e.g. the CRT lifts `Spec.crtPoly`),
      Z'_0 + Z'_1 ⋆ s ≡ Z_0 + Z_1 ⋆ s + T ⋆ s' + ν   (mod Q_level). -/
theorem switchKey_phase_crt : type_of% @HC.switchKey_phase_crt := @HC.switchKey_phase_crt

/-- `switchKey_phase` against the exact specification `Spec.phase` (big-integer phase, centred, of the coefficient forms
    `c04k_coefRns` of the first two polynomials; `c01p_bvals b` = the list of level moduli, `b.prod` = Q_level), secret `sk : Array Int`:
      Spec.phase(ct')[c] ≡ Spec.phase(ct)[c] + (T ⋆ s')[c] + ν[c]   (mod Q_level),  T = `Spec.crtPoly` of the target. -/
theorem switchKey_phase_spec : type_of% @HC.switchKey_phase_spec := @HC.switchKey_phase_spec

/-- `switchKey_phase`, BGV branch (NTT form; `c04t_BgvData`: plain modulus t well-formed, `invPModT`·P ≡ 1 mod t).  Same frame;
    ν = `c04k_nuBgv` = (Σ_i D_i ⋆ e_i − r_0 − r_1 ⋆ s)/P with r_k the multiple of t in [0, P·t) congruent to the k-th accumulated
    polynomial modulo P.  The correction factor is unchanged (`ct'.cf = ct.cf`). -/
theorem switchKey_phase_bgv : type_of% @HC.switchKey_phase_bgv := @HC.switchKey_phase_bgv

/-- BGV noise: P·‖ν‖∞ ≤ dsz·A·n·Be + P·t·(1 + ‖s‖₁); and if every key error e_i is a multiple of t (BGV keys carry t·e), then
    ν ≡ 0 (mod t): the plaintext residue of the phase modulo t changes exactly by that of target ⋆ s', with the SAME correction factor. -/
theorem switchKey_noise_bound_bgv : type_of% @HC.switchKey_noise_bound_bgv := @HC.switchKey_noise_bound_bgv

theorem switchKey_noise_bgv_mod_t : type_of% @HC.switchKey_noise_bgv_mod_t := @HC.switchKey_noise_bgv_mod_t

theorem switchKey_phase_bgv_crt : type_of% @HC.switchKey_phase_bgv_crt := @HC.switchKey_phase_bgv_crt

theorem switchKey_phase_spec_bgv : type_of% @HC.switchKey_phase_spec_bgv := @HC.switchKey_phase_spec_bgv

/-- `relinearize_phase` (rounding branch): a size-3 ciphertext (c0, c1, c2) relinearised with a key `keys 2` from s² to s
    (key equation with s' = s ⋆ s) becomes a size-2 ciphertext whose phase under s is c0 + c1 ⋆ s + c2 ⋆ s² + ν modulo every q_j,
    ν = `c04k_nuStd … (target := c2)` (bounded by `switchKey_noise_bound`). -/
theorem relinearize_phase : type_of% @HC.relinearize_phase := @HC.relinearize_phase

/-- `relinearize_phase`, BGV branch (ν = `c04k_nuBgv`, ≡ 0 mod t when t ∣ e: `switchKey_noise_bgv_mod_t`; `cf` unchanged) -/
theorem relinearize_phase_bgv : type_of% @HC.relinearize_phase_bgv := @HC.relinearize_phase_bgv

/-- `applyGalois_phase` (rounding branch: BFV coefficient form / CKKS NTT form).  `l` is the ciphertext level (`c04k_LevelOf`: its
    moduli are the first `l.size` key-level moduli), `g` an odd Galois element ≤ 2N, `key` a key from s' (= σ_g(s) for a Galois key)
    to s.  `applyGalois` succeeds and, with σ(c_k) = `c04k_galRns l ct.ntt g c_k` the component-wise Galois-permuted polynomials
    (coefficient form: exactly X ↦ X^g, `c04k_galRns_coeff`; NTT form: the table permutation `galoisApplyNtt`),
      phase_s(result) ≡ σ(c0) + σ(c1) ⋆ s' + ν   (mod q_j),   ν = `c04k_nuStd … (target := σ(c1))`. -/
theorem applyGalois_phase : type_of% @HC.applyGalois_phase := @HC.applyGalois_phase

/-- `applyGalois_phase`, BGV branch -/
theorem applyGalois_phase_bgv : type_of% @HC.applyGalois_phase_bgv := @HC.applyGalois_phase_bgv

/-- `applyGalois_phase` with s' = σ_g(s) substituted: for a Galois key from s' = σ_g(s) to s (σ_g = `c04k_sigma n g`: X ↦ X^g on integer
    coefficient functions, multiplicative by `c04k_sigma_mul`), in BOTH representations (coefficient form via `galoisApply`, NTT form via
    `galoisApplyNtt` = `galoisApply` conjugated by the transform, `c04k_gal_ntt`):
      phase_s(result) ≡ σ_g(phase_s(ct)) + ν   (mod q_j),   phase_s(ct) = c0 + c1 ⋆ s. -/
theorem applyGalois_phase_sigma : type_of% @HC.applyGalois_phase_sigma := @HC.applyGalois_phase_sigma

/-- the same in the BGV branch (ν = `c04k_nuBgv`) -/
theorem applyGalois_phase_sigma_bgv : type_of% @HC.applyGalois_phase_sigma_bgv := @HC.applyGalois_phase_sigma_bgv

/-- NON-VACUITY: the hypothesis bundles (`c04t_KSInput`, `c04k_KeyEq`, `c04k_BaseOf`, `c04t_BgvData`) hold on the concrete world
    `c04t_exKL` (N = 2, q = 13, P = 17, t = 5) with the key `c04k_exKey`, which satisfies the key equation for s = 1 − X, s' = X with the non-zero error e = 1 − X, so the three branches
    of `switchKey_phase` and `applyGalois_phase` (with `c04k_LevelOf`, g = 3) apply there; the noise bound gives 17·|ν| ≤ 1·(13·(2·1)) + 8·(1 + 2) = 50, i.e. |ν| ≤ 2. -/
theorem switchKey_phase_nonvacuous : type_of% @HC.switchKey_phase_nonvacuous := @HC.switchKey_phase_nonvacuous


/-! ### rotations end to end: decoding commutes with sigma_g, batchDecode(sigma_{3^s} p) rotates the rows / sigma_{2N-1} swaps them, the model's applyGalois / rotatePlan results DECRYPT (model decryption) to the rotated slot matrix under explicit noise margins (BFV and BGV), CKKS integer-level corollary
    (statements, hypothesis bundles and non-vacuity instances: Heathcliff/Proofs/C04R.lean) -/

/-- the INDEX / SIGN RULE of σ_g = `c04k_sigma (2^k) g` (g odd): coefficient i goes to index i·g mod N, negated iff ⌊i·g/N⌋ is odd
    (Proofs/C04K.lean) -/
theorem sigma_index_sign_rule : type_of% @HC.sigma_index_sign_rule := @HC.sigma_index_sign_rule

/-- σ_h ∘ σ_g = σ_{g·h} -/
theorem sigma_comp : type_of% @HC.sigma_comp := @HC.sigma_comp

/-- σ_g depends only on g mod 2N -/
theorem sigma_mod : type_of% @HC.sigma_mod := @HC.sigma_mod

/-- ‖σ_g(e)‖∞ ≤ ‖e‖∞ -/
theorem sigma_natAbs_le : type_of% @HC.sigma_natAbs_le := @HC.sigma_natAbs_le

/-- BFV: for integer phases x, y (arrays of N = 2^k coefficients), any splitting t·x = Q·m + e with 2|e| < Q, and
    y ≡ σ_g(x) + ν (mod Q): if 2|σ_g(e) + t·ν| < Q coefficient-wise then `Spec.bfvDecode t Q y` = σ_g(`Spec.bfvDecode t Q x`) mod t,
    coefficient by coefficient -/
theorem bfvDecode_sigma : type_of% @HC.bfvDecode_sigma := @HC.bfvDecode_sigma

/-- … and the measured noise t·y − Q·round(t·y/Q) of the result is exactly σ_g(e) + t·ν -/
theorem bfv_noise_sigma : type_of% @HC.bfv_noise_sigma := @HC.bfv_noise_sigma

/-- BGV: y ≡ σ_g(x) + ν (mod Q), t ∣ ν, y centred, 2|σ_g(x) + ν| < Q ⇒ `Spec.bgvDecode t cf y` = σ_g(`Spec.bgvDecode t cf x`) mod t -/
theorem bgvDecode_sigma : type_of% @HC.bgvDecode_sigma := @HC.bgvDecode_sigma

/-- for well-formed batching tables `t` (plain modulus prime, ≡ 1 mod 2N), a full-length canonical plaintext p and odd g, the model's
    `galoisApply` succeeds with a canonical result r and slot i of `batchDecode r` is slot i' of `batchDecode p` whenever
    slotExp(i)·g ≡ slotExp(i') (mod 2N) -/
theorem batchDecode_galois : type_of% @HC.batchDecode_galois := @HC.batchDecode_galois

/-- rows: g ≡ 3^s (mod 2N), N ≥ 4 ⇒ both rows of the slot matrix rotate LEFT by s (`c04r_rotIdx`) -/
theorem batchDecode_rotate_rows : type_of% @HC.batchDecode_rotate_rows := @HC.batchDecode_rotate_rows

/-- columns: g ≡ 2N − 1 (mod 2N), N ≥ 2 ⇒ the two rows are exchanged (`c04r_swapIdx`) -/
theorem batchDecode_swap_rows : type_of% @HC.batchDecode_swap_rows := @HC.batchDecode_swap_rows

/-- rows and columns for the element returned by the model's `eltFromStep` (signed steps; step 0 = columns) -/
theorem batchDecode_eltFromStep : type_of% @HC.batchDecode_eltFromStep := @HC.batchDecode_eltFromStep

/-- the slot exponent of the element `eltFromStep` returns, as an index map on the two rows (`c04r_slotIdx`) -/
theorem eltFromStep_slot : type_of% @HC.eltFromStep_slot := @HC.eltFromStep_slot

/-- exact phase (`Spec.phase`) of the `applyGalois` result ≡ σ_g(exact input phase) + ν modulo Q (BFV coefficient form / BGV NTT form) -/
theorem applyGalois_spec_phase_bfv : type_of% @HC.applyGalois_spec_phase_bfv := @HC.applyGalois_spec_phase_bfv

/-- the same for BGV in NTT form (the level's tables are the key level's: `c04r_SameTables`) -/
theorem applyGalois_spec_phase_bgv : type_of% @HC.applyGalois_spec_phase_bgv := @HC.applyGalois_spec_phase_bgv

/-- coefficient level: the model's decryption of the `applyGalois` result is σ_g(m) mod t, m the model's decryption of the input;
    hypotheses: `Level.WF`, `DecOK`, `c04k_LevelOf`, `c04t_KSInput`, key equation `c04k_KeyEq` with s' = σ_g(s), input noise ≤ E, key-switch noise
    ≤ V, and the BEHZ decode margin for E + t·V (BFV) resp. no wrap-around 2(X + V) < Q and t ∣ e_i (BGV).  Also returns the
    noise bound E + t·V of the result (noises add) -/
theorem applyGalois_decrypt_bfv : type_of% @HC.applyGalois_decrypt_bfv := @HC.applyGalois_decrypt_bfv

/-- the same for BGV: no wrap-around 2(X + V) < Q and t ∣ e_i in place of the BEHZ margin -/
theorem applyGalois_decrypt_bgv : type_of% @HC.applyGalois_decrypt_bgv := @HC.applyGalois_decrypt_bgv

/-- slot level: with g = `eltFromStep step`, the result decrypts to the plaintext whose slots are the input's rotated by `step`
    (rows) / swapped (step 0) -/
theorem rotate_rows_bfv : type_of% @HC.rotate_rows_bfv := @HC.rotate_rows_bfv

/-- the same for BGV (NTT form, no wrap-around in place of the BEHZ margin) -/
theorem rotate_rows_bgv : type_of% @HC.rotate_rows_bgv := @HC.rotate_rows_bgv

/-- the key-switching noise of one step from the explicit bound of `switchKey_noise_bound` -/
theorem rotate_step_noise : type_of% @HC.rotate_step_noise := @HC.rotate_step_noise

/-- composed: `rotatePlan` — every element of the plan is in `keys`, odd, < 2N, and the product of the plan is 3^(steps mod N/2) mod 2N -/
theorem rotatePlan_ok : type_of% @HC.rotatePlan_ok := @HC.rotatePlan_ok

/-- a chain of `applyGalois` steps decrypts to σ_{Π gs}(m) mod t under the accumulated margin E + |gs|·t·V -/
theorem rotate_chain_bfv : type_of% @HC.rotate_chain_bfv := @HC.rotate_chain_bfv

/-- executing `rotatePlan`'s plan rotates the slot rows by `steps` -/
theorem rotatePlan_rotate_bfv : type_of% @HC.rotatePlan_rotate_bfv := @HC.rotatePlan_rotate_bfv

theorem rotatePlan_fuel0 : type_of% @HC.rotatePlan_fuel0 := @HC.rotatePlan_fuel0

theorem rotatePlan_refuses_range : type_of% @HC.rotatePlan_refuses_range := @HC.rotatePlan_refuses_range

theorem rotatePlan_zero : type_of% @HC.rotatePlan_zero := @HC.rotatePlan_zero

theorem applyChain_error : type_of% @HC.applyChain_error := @HC.applyChain_error

/-- CKKS: `rotate_vector(step)` = σ_{3^s}, conjugation = σ_{2N−1}, on the exact phase modulo every level modulus -/
theorem ckks_rotate_phase : type_of% @HC.ckks_rotate_phase := @HC.ckks_rotate_phase


/-! ### translator tie (Proofs/GenGaloisApply.lean): `GaloisTool::apply` with a DIRTY result buffer, composed down to X ↦ X^g.
     The callers (`apply_p` from `apply_galois_inplace`) pass a scratch buffer that still holds the previous polynomial.  For ODD g the index map
     i ↦ i·g mod N is a permutation, so every word is overwritten and the generated function does not depend on the initial contents
     (`hodd` is necessary: see the `g = 2` example in Proofs/GenGaloisApply.lean, where slots 1 and 3 keep the dirty words). -/
theorem gen_galois_apply_dirty (a : List Nat) (g : Nat) (m : Modulus) (k : Nat) (hk : k < 64) (ha : 2^k ≤ a.length)
    (hg : 2^k * g < 2^64) (hodd : g % 2 = 1) (res : List Nat) (hres : res.length = 2^k) :
    GenG.galois_apply a g m res (2^k) k = (galoisApply k a.toArray g m >>= fun r => pure r.toList) :=
  HC.gz_galois_apply_dirty a g m k hk ha hg hodd res hres
/-- source → index / sign rule: the generated `apply` on canonical input succeeds and writes a_i to (i·g mod N), negated iff ⌊i·g/N⌋ is odd -/
theorem gen_galois_apply_spec (a : List Nat) (g : Nat) (m : Modulus) (k : Nat) (hm : m.WF) (hk : k < 64)
    (ha : a.length = 2^k) (hg : 2^k * g < 2^64) (hodd : g % 2 = 1) (hlt : ∀ i, i < 2^k → a.getD i 0 < m.value)
    (res : List Nat) (hres : res.length = 2^k) :
    ∃ r : List Nat, GenG.galois_apply a g m res (2^k) k = .ok r ∧ r.length = 2^k ∧ ∀ i, i < 2^k →
      r.getD ((i * g) % 2^k) 0 = (if ((i * g) / 2^k) % 2 = 1 then (m.value - a.getD i 0) % m.value else a.getD i 0) :=
  HC.gz_galois_apply_spec a g m k hm hk ha hg hodd hlt res hres
/-- source → mathematics: the generated `apply` IS the substitution X ↦ X^g modulo (X^N + 1, q): for every x ∈ ℤ/q with x^N = −1,
    Σ_j r_j x^j = Σ_i a_i (x^g)^i -/
theorem gen_galois_apply_subst (a : List Nat) (g : Nat) (m : Modulus) (k : Nat) (hm : m.WF) (hk : k < 64)
    (ha : a.length = 2^k) (hg : 2^k * g < 2^64) (hodd : g % 2 = 1) (hlt : ∀ i, i < 2^k → a.getD i 0 < m.value)
    (res : List Nat) (hres : res.length = 2^k) (x : ZMod m.value) (hx : x ^ (2^k) = -1) :
    ∃ r : List Nat, GenG.galois_apply a g m res (2^k) k = .ok r ∧ r.length = 2^k ∧
      ∑ j ∈ range (2^k), (r.getD j 0 : ZMod m.value) * x ^ j =
        ∑ i ∈ range (2^k), (a.getD i 0 : ZMod m.value) * (x ^ g) ^ i :=
  HC.gz_galois_apply_subst a g m k hm hk ha hg hodd hlt res hres x hx
/-- non-vacuity: N = 4, q = 17, g = 3, dirty buffer [9,9,9,9] -/
example : GenG.galois_apply [1, 2, 3, 4] 3 ⟨17, (2^128 / 17) % B64, (2^128 / 17) / B64, 2^128 % 17, bitCount 17⟩
    [9, 9, 9, 9] (2^2) 2 = .ok [1, 4, 14, 2] := by decide +kernel

/-! ### translator tie ("plan mode" tools/rs2lean_gal.py, Gen/GaloisPlanFns.lean, Proofs/GenGaloisPlan.lean): the rotation layer of
     src/evaluator.rs.  `GenGal.rotate_internal_level steps n keys valid batching keys_ok` is ONE level of `Evaluator::rotate_internal` (result: the element
     applied directly, the NAF terms it recurses on, in order); `gal_rotateGen` closes it under the recursion.  `k ≤ 31`: every accepted step is then
     below 2^30, where `steps as i32` does not truncate and the `naf` tie holds. -/
theorem gen_rotate_internal_level_eq (k : Nat) (hk : k ≤ 31) (keys : List Nat) (steps : Int) :
    GenGal.rotate_internal_level steps (2^k) keys true true true = rotateLevel k keys steps := HC.gal_rotate_level_eq k hk keys steps
/-- the source's plan = the model's plan: direct key if present, else NAF terms in order, terms equal to ±N/2 skipped, recursively -/
theorem gen_rotate_internal_eq (k : Nat) (hk : k ≤ 31) (keys : List Nat) (fuel : Nat) (steps : Int) :
    gal_rotateGen k keys fuel steps = rotatePlan k keys fuel steps := HC.gal_rotateGen_eq k hk keys fuel steps
theorem gen_rotate_internal_refuses (steps : Int) (n : Nat) (keys : List Nat) (valid batching keysOk : Bool)
    (h : valid = false ∨ batching = false ∨ keysOk = false) :
    GenGal.rotate_internal_level steps n keys valid batching keysOk = .error .refused :=
  HC.gal_rotate_level_refuses steps n keys valid batching keysOk h
/-- the GENERATED plan uses only available keys (odd elements < 2N) and multiplies to 3^(steps mod N/2): it rotates by `steps` -/
theorem gen_rotate_internal_ok : type_of% @HC.gal_rotateGen_ok := @HC.gal_rotateGen_ok
/-- … and executing it with the model's `applyGalois` rotates the decrypted slot rows by `steps` (BFV, margins of `rotatePlan_rotate_bfv`) -/
theorem gen_rotate_internal_rotates_bfv : type_of% @HC.gal_rotateGen_bfv := @HC.gal_rotateGen_bfv
/-- non-vacuity / witness of the skipped term: N = 32, default keys, steps = 11 = −1 − 4 + 16: the term 16 = N/2 is skipped
    (a rotation of a row by N/2 is the identity; `get_elt_from_step(16)` would panic), plan = [3^-1, 3^-4] = [43, 49] -/
example : GenGal.rotate_internal_level 11 32 [63, 3, 43, 9, 57, 17, 49, 33, 33] true true true = .ok ([], [-1, -4]) := by decide +kernel
example : gal_rotateGen 5 [63, 3, 43, 9, 57, 17, 49, 33, 33] 2 11 = .ok [43, 49] := by decide +kernel
/-- `conjugate_internal` applies exactly the element 2N − 1 -/
theorem gen_conjugate_internal_eq (k : Nat) (hk : k ≤ 61) : GenGal.conjugate_internal (2^k) true true = .ok [2 * 2^k - 1] := HC.gal_conjugate_eq k hk
/-- `apply_galois_inplace`: refusals (no key for g; g even or > 2N; size > 2) and the step plan
    [apply c0 → temp, c0 := temp, apply c1 → temp, c1 := 0, switch key with target temp and key index (g − 1)/2], kernels chosen by the representation -/
theorem gen_apply_galois_plan_eq (g n k size : Nat) (ntt has : Bool) (hn : n * 2 < 2^64) (hnk : n * k < 2^64) :
    GenGal.apply_galois_inplace_plan g n k size ntt true true true has =
      if has = false then .error .refused
      else if g % 2 = 0 ∨ g > 2 * n then .error .refused
      else if size > 2 then .error .refused
      else .ok (galoisPlan ntt g) := HC.gal_apply_plan_eq g n k size ntt has hn hnk
/-- running that plan with the model's kernels and `switchKey` IS the model's `applyGalois` (size-2 ciphertext) -/
theorem gen_apply_galois_plan_runs : type_of% @HC.gal_runPlan_applyGalois := @HC.gal_runPlan_applyGalois
theorem gen_rotate_rows_gate (s : Scheme) :
    GenGal.rotate_rows_inplace s = if s = .bfv ∨ s = .bgv then .ok [1] else .error .refused := HC.gal_rotate_rows_gate s
theorem gen_rotate_columns_gate (s : Scheme) :
    GenGal.rotate_columns_inplace s = if s = .bfv ∨ s = .bgv then .ok [2] else .error .refused := HC.gal_rotate_columns_gate s
theorem gen_rotate_vector_gate (s : Scheme) :
    GenGal.rotate_vector_inplace s = if s = .ckks then .ok [1] else .error .refused := HC.gal_rotate_vector_gate s
theorem gen_complex_conjugate_gate (s : Scheme) :
    GenGal.complex_conjugate_inplace s = if s = .ckks then .ok [2] else .error .refused := HC.gal_complex_conjugate_gate s

/-! `switch_key_inplace_internal` (fragments, see tools/rs2lean_gal.py): the prologue's refusals = the gate of the model's `switchKey`; the key-level
    modulus / NTT-table index used for RNS index i of the accumulation loop (i = 0 .. dsz, `rns_modulus_size = dsz + 1`) = `keyIndex` of `ksAccumulate`:
    the special prime is the LAST key-level modulus (`ksz − 1`), not the modulus after the level's own ones (`dsz`) — they differ below the first level. -/
theorem gen_switch_key_prologue_eq (scheme : Scheme) (ntt : Bool) (index nkeys : Nat) :
    GenGal.switch_key_prologue scheme ntt true true true index nkeys =
      if index ≥ nkeys then .error .refused
      else (match scheme with
            | .bfv => if ntt then Except.error Err.refused else pure ()
            | _ => if !ntt then Except.error Err.refused else pure ()) >>= fun _ => .ok [] := HC.gal_switch_prologue_eq scheme ntt index nkeys
theorem gen_switch_key_prologue_refuses (scheme : Scheme) (ntt valid usingKs keysOk : Bool) (index nkeys : Nat)
    (h : valid = false ∨ usingKs = false ∨ keysOk = false) :
    GenGal.switch_key_prologue scheme ntt valid usingKs keysOk index nkeys = .error .refused :=
  HC.gal_switch_prologue_refuses scheme ntt valid usingKs keysOk index nkeys h
theorem gen_switch_key_indices_eq (dsz ksz : Nat) (hd : dsz + 1 < 2^64) (hk : 1 ≤ ksz) :
    GenGal.switch_key_indices dsz ksz = .ok ((List.range (dsz + 1)).map (fun i => if i = dsz then ksz - 1 else i)) :=
  HC.gal_switch_indices_eq dsz ksz hd hk
/-- non-vacuity: a ciphertext two levels below a 4-prime key level (dsz = 1, ksz = 4): indices [0, 3] -/
example : GenGal.switch_key_indices 1 4 = .ok [0, 3] := by decide +kernel

/-! `GaloisTool::apply_ntt`, the USE of the table (fragment after `let table = &(*reader)[index];`: length assertion + `result[i] = operand[table[i]]`; Proofs/GenGaloisTable.lean):
    with the model's table it is `galoisApplyNtt` whatever the result buffer held before; composed with the GENERATED `generate_table_ntt` it is source → model.
    `g % 2 = 1`: the table entries are < N only for odd g (`galoisTable_spec`); `2^k ≤ operand.len()`: the reads `operand[t]` are bounds-checked. -/
theorem gen_apply_ntt_permute_eq (k g : Nat) (hg : g % 2 = 1) (a res : List Nat) (ha : 2^k ≤ a.length) (hres : res.length = 2^k) :
    GenGal.galois_apply_ntt_permute a (galoisTableNtt k g).toList res (2^k) = .ok (galoisApplyNtt k a.toArray g).toList :=
  HC.gp_apply_ntt_permute_eq k g hg a res ha hres
/-- for ANY table of length n with entries in range: the gather `table.map (operand[·])` -/
theorem gen_apply_ntt_permute_map (a0 tab res : List Nat) (n : Nat) (htab : tab.length = n) (hres : res.length = n)
    (hrange : ∀ j, j < n → tab.getD j 0 < a0.length) :
    GenGal.galois_apply_ntt_permute a0 tab res n = .ok (tab.map (fun t => a0.getD t 0)) := HC.gp_permute_eq_map a0 tab res n htab hres hrange
theorem gen_apply_ntt_permute_refuses (a tab res : List Nat) (n : Nat) (h : res.length ≠ n) :
    GenGal.galois_apply_ntt_permute a tab res n = .error .refused := HC.gp_apply_ntt_permute_refuses a tab res n h
theorem gen_apply_ntt_eq (k g : Nat) (hk : k ≤ 31) (hg : g % 2 = 1) (hg2 : g < 2^(k+1)) (a res : List Nat)
    (ha : 2^k ≤ a.length) (hres : res.length = 2^k) :
    (GenG.generate_table_ntt g (2^k) k >>= fun tab => GenGal.galois_apply_ntt_permute a tab res (2^k)) =
      .ok (galoisApplyNtt k a.toArray g).toList := HC.gp_apply_ntt_gen k g hk hg hg2 a res ha hres
/-- non-vacuity: N = 4, g = 3 (table [2,3,0,1]), dirty result buffer -/
example : GenGal.galois_apply_ntt_permute [10, 20, 30, 40] (galoisTableNtt 2 3).toList [9, 9, 9, 9] 4 = .ok [30, 40, 10, 20] := by decide +kernel


end HC.C04
