import Heathcliff.Gen.RnsFns
import Heathcliff.Model.RNS
import Heathcliff.Proofs.GenUint
import Heathcliff.Proofs.C08A
import Heathcliff.Proofs.GenLoop
import Heathcliff.Proofs.GenBlk

/-!
  Under the ties of `Heathcliff/Gen/RnsFns.lean` (regenerated from src/util/polysmallmod.rs and src/util/rns.rs on every run) to the hand model of
  `Heathcliff/Model/RNS.lean`: what is not about one routine.  A flat `&mut [u64]` buffer is always read as `cs.flatten` for a list `cs` of components
  of one length `n` (component `i`, coefficient `j` at `i * n + j`).  Each kind of generated loop has one lemma about an arbitrary `loop` given by its two
  equations (on `Proofs/GenLoop.lean`): words of a buffer (`gr_idxloopK`), coefficients of one component (`gr_coefloop`), strided writes
  (`gr_strideloop`), components at top level (`gr_comploop`); the component loops that thread a scratch buffer are folds `gr_foldM` of a row program.
  Names: `gr_X_loopN` is the lemma about the generated `X_loopN`, the N-th loop of the Rust function `X` in source order (the translator numbers them; a nested loop
  has a higher number than the loop around it); `gr_X_list` is the whole routine on `cs.flatten`, `gr_X_eq` the tie on `flatP`; the witnesses use `grw_`.
-/
namespace HC
open HC.GenW HC.GenR

/-- the two rules `R.error_bind`, `R.pure_eq` of Proofs/Base.lean under the names the statements of Props/C10.lean were first read with (fixed names; new text uses Base's) -/
theorem gr_err_bind {α β : Type} (e : Err) (f : α → R β) : ((Except.error e : R α) >>= f) = .error e := rfl
theorem gr_pure {α : Type} (a : α) : (pure a : R α) = .ok a := rfl

theorem gr_mapM_forall {α β : Type} (f : α → R β) (P : β → Prop) (hf : ∀ x y, f x = .ok y → P y)
    (l : List α) (r : List β) (h : l.mapM f = .ok r) : ∀ y ∈ r, P y :=
  fun y hy => (R.mapM_mem h y hy).elim fun x hx => hf x y hx.2

theorem gr_getD_map_range' {α : Type} (F : Nat → α) (k j : Nat) (d : α) (h : j < k) : ((List.range' 0 k).map F).getD j d = F j := by
  rw [← List.range_eq_range']; exact list_getD_range_map F d h

/-- a loop that rewrites the words `i, i+1, …` of a buffer to its end in place, position `j` with `G j old-value`; `cont` is the code after the loop
    (for a top-level loop it is emitted inside the loop's definition at exhaustion; otherwise it is `.ok`) -/
theorem gr_idxloopK (loop : Nat → Nat → List Nat → R (List Nat)) (G : Nat → Nat → R Nat) (N : Nat) (cont : List Nat → R (List Nat))
    (h0 : ∀ i l, loop 0 i l = cont l)
    (hs : ∀ n i (l : List Nat) (h : i < l.length), i < N → loop (n+1) i l = (G i l[i] >>= fun y => loop n (i+1) (l.set i y)))
    (n i : Nat) (l : List Nat) (h : i + n = l.length) (hN : l.length ≤ N) :
    loop n i l = ((List.range' i n).mapM (fun j => G j (l.getD j 0)) >>= fun ys => cont (l.take i ++ ys)) := by
  rw [Loop.write_inplace loop G cont 0 i l.length l h0 (fun k j l' hl _ hj _ => by simpa only [Nat.zero_add] using hs k j l' (by omega) (by omega))
    (by omega) n (by omega),
    R.mapM_congr (g := fun j => G j (l.getD j 0)) fun j hj => by
      rw [List.mem_range'_1] at hj
      rw [Nat.zero_add, List.getElem?_eq_getElem (by omega), list_getD_eq_getElem l 0 (by omega)]]
  simp only [Nat.zero_add, h, List.drop_length, List.append_nil]

theorem gr_idxloop (loop : Nat → Nat → List Nat → R (List Nat)) (G : Nat → Nat → R Nat) (N : Nat)
    (h0 : ∀ i l, loop 0 i l = .ok l)
    (hs : ∀ n i (l : List Nat) (h : i < l.length), i < N → loop (n+1) i l = (G i l[i] >>= fun y => loop n (i+1) (l.set i y)))
    (n i : Nat) (l : List Nat) (h : i + n = l.length) (hN : l.length ≤ N) :
    loop n i l = ((List.range' i n).mapM (fun j => G j (l.getD j 0)) >>= fun ys => .ok (l.take i ++ ys)) :=
  gr_idxloopK loop G N _ h0 hs n i l h hN

/-- `bind_pure` with the continuation written `fun a => .ok a`, the form in which the generated loops end -/
theorem gr_bind_ok {α : Type} (m : R α) : (m >>= fun a => .ok a) = m := by
  cases m with
  | error e => rfl
  | ok a => rfl

/-- two passes over a list are one when the first cannot trap on it (otherwise false in `Except`: a late trap of `f` and an early trap of `g`
    would come out in different order) -/
theorem gr_mapM_fuse {α β γ : Type} (f : α → R β) (F : α → β) (g : β → R γ) (l : List α) (h : ∀ x ∈ l, f x = .ok (F x)) :
    (l.mapM f >>= fun v => v.mapM g) = l.mapM (fun x => f x >>= g) := by
  rw [R.mapM_ok f F l h, R.ok_bind, R.mapM_map]
  exact R.mapM_congr fun x hx => by rw [h x hx, R.ok_bind]

theorem gr_mapM_fuseK {α β γ δ : Type} (f : α → R β) (F : α → β) (g : β → R γ) (K : List γ → R δ) (l : List α) (h : ∀ x ∈ l, f x = .ok (F x)) :
    (l.mapM f >>= fun v => v.mapM g >>= K) = (l.mapM (fun x => f x >>= g) >>= K) := by
  rw [← gr_mapM_fuse f F g l h, bind_assoc]

theorem gr_range_mapM (F : Nat → R Nat) (l : List Nat) : (List.range' 0 l.length).mapM (fun j => F (l.getD j 0)) = l.mapM F := by
  rw [← List.range_eq_range']; exact R.mapM_range_getD F 0 l

theorem gr_maploop (loop : Nat → Nat → List Nat → R (List Nat)) (F : Nat → R Nat)
    (h0 : ∀ i l, loop 0 i l = .ok l)
    (hs : ∀ n i (l : List Nat) (h : i < l.length), loop (n+1) i l = (F l[i] >>= fun y => loop n (i+1) (l.set i y)))
    (l : List Nat) : loop l.length 0 l = l.mapM F := by
  rw [gr_idxloop loop (fun _ x => F x) l.length h0 (fun n i l h _ => hs n i l h) l.length 0 l (by omega) (Nat.le_refl _), gr_range_mapM]
  exact gr_bind_ok _

theorem gr_fillloop (loop : Nat → Nat → List Nat → R (List Nat)) (F : Nat → R Nat) (c : List Nat)
    (h0 : ∀ i l, loop 0 i l = .ok l)
    (hs : ∀ n i (l : List Nat) (_ : i < l.length) (hc : i < c.length), loop (n+1) i l = (F c[i] >>= fun y => loop n (i+1) (l.set i y)))
    (r : List Nat) (h : r.length = c.length) : loop c.length 0 r = c.mapM F := by
  rw [gr_idxloop loop (fun j _ => F (c.getD j 0)) c.length h0 (fun n i l hi hc => by rw [hs n i l hi hc, list_getD_eq_getElem c 0 hc]) c.length 0 r (by omega) (by omega),
    gr_range_mapM]
  exact gr_bind_ok _

theorem gr_splice_flat (n : Nat) (cs : List (List Nat)) (i : Nat) (new : List Nat) (h : ∀ c ∈ cs, c.length = n) (hi : i < cs.length)
    (hn : new.length = n) : GenR.splice cs.flatten (i * n) new = (cs.set i new).flatten := by
  unfold GenR.splice
  rw [hn, ← Nat.succ_mul, Blk.take_flatten (D := n) h i, Blk.drop_flatten (D := n) h (i+1), List.set_eq_take_append_cons_drop, if_pos hi]
  simp

theorem gr_slice_flat (n : Nat) (cs : List (List Nat)) (i : Nat) (h : ∀ c ∈ cs, c.length = n) (hi : i < cs.length) :
    GenR.slice cs.flatten (i * n) (i * n + n) = .ok (cs.getD i []) := by
  unfold GenR.slice
  have hl := Blk.length (D := n) h
  have := grid_succ_le (B := n) hi
  rw [if_pos ⟨by omega, by omega⟩, Nat.add_sub_cancel_left]
  exact congrArg Except.ok (Blk.block h hi)

theorem gr_set_length_mem (n : Nat) (cs : List (List Nat)) (i : Nat) (new : List Nat) (h : ∀ c ∈ cs, c.length = n) (hn : new.length = n) :
    ∀ c ∈ cs.set i new, c.length = n := by
  intro c hc
  rcases List.mem_or_eq_of_mem_set hc with h1 | h1
  · exact h c h1
  · rw [h1]; exact hn

theorem gr_addr_out {i i' j j' n : Nat} (hne : i' ≠ i) (hj : j < n) (hj' : j' < n) : i' * n + j' < i * n ∨ i * n + j ≤ i' * n + j' := by
  rcases Nat.lt_or_gt_of_ne hne with h | h
  · have := Nat.mul_le_mul_right n (Nat.succ_le_of_lt h); rw [Nat.succ_mul] at this; omega
  · have := Nat.mul_le_mul_right n (Nat.succ_le_of_lt h); rw [Nat.succ_mul] at this; omega

/-- the inner loop of the routines: it rewrites coefficient `j = 0, 1, …` of component `i` of a flat buffer with `G j old-value`, and may read
    the other components of the same buffer (the last two hypotheses of the step) -/
theorem gr_coefloop (loop : Nat → Nat → List Nat → R (List Nat)) (G : Nat → Nat → R Nat) (n i : Nat) (cs : List (List Nat))
    (hn : ∀ c ∈ cs, c.length = n) (hi : i < cs.length)
    (h0 : ∀ j l, loop 0 j l = .ok l)
    (hs : ∀ k j (l : List Nat) (h : i * n + j < l.length), j < n → l.length = cs.length * n →
      (∀ i' j', i' ≠ i → i' < cs.length → j' < n → l.getD (i' * n + j') 0 = (cs.getD i' []).getD j' 0) →
      loop (k+1) j l = (G j l[i * n + j] >>= fun y => loop k (j+1) (l.set (i * n + j) y))) :
    loop n 0 cs.flatten = ((List.range' 0 n).mapM (fun j => G j ((cs.getD i []).getD j 0)) >>= fun d => .ok (cs.set i d).flatten) := by
  have hfl := Blk.length (D := n) hn
  have hin := grid_succ_le (B := n) hi
  rw [Loop.write loop (fun j => G j ((cs.getD i []).getD j 0)) .ok (i * n) 0 n cs.flatten h0 (fun k j l _ hj hA => by
      have hl : i * n + j < l.length := by rw [hA.length, hfl]; omega
      rw [hs k j l hl hj (hA.length.trans hfl) fun i' j' hne hi' hj' => by
          rw [hA.getD (gr_addr_out hne hj hj'), Blk.getD hn hi' hj'],
        hA.get (Or.inr (by omega)) hl, ← list_getD_eq_getElem _ 0, Blk.getD hn hi hj])
    (by omega) n (by omega)]
  refine R.bind_congr _ fun d hm => ?_
  have hdl : d.length = n := by rw [R.mapM_length hm, List.length_range']
  rw [Nat.add_zero, ← gr_splice_flat n cs i d hn hi hdl]
  unfold GenR.splice
  rw [hdl]

theorem gr_addr_ok {s n i j : Nat} (hi : i < s) (hj : j < n) (hsn : s * n < 2^64) :
    ckMul i n = .ok (i * n) ∧ ckAdd (i * n) j = .ok (i * n + j) := by
  have := grid_lt hi hj
  exact ⟨ckMul_ok (by rw [B64_eq]; omega), ckAdd_ok (by rw [B64_eq]; omega)⟩

theorem gr_bounds_ok {s n i : Nat} (hi : i < s) (hsn : s * n < 2^64) (hs : s < 2^64) :
    ckMul i n = .ok (i * n) ∧ ckAdd i 1 = .ok (i + 1) ∧ ckMul (i + 1) n = .ok (i * n + n) := by
  have := grid_succ_le (B := n) hi
  exact ⟨ckMul_ok (by rw [B64_eq]; omega), ckAdd_ok (by rw [B64_eq]; omega), by rw [ckMul_ok (by rw [B64_eq]; rw [Nat.succ_mul]; omega), Nat.succ_mul]⟩

theorem gr_read_ok (n : Nat) (cs : List (List Nat)) {i j : Nat} (hn : ∀ c ∈ cs, c.length = n) (hi : i < cs.length) (hj : j < n)
    (hsn : cs.length * n < 2^64) :
    ckMul i n = .ok (i * n) ∧ ckAdd (i * n) j = .ok (i * n + j) ∧ GenW.idx cs.flatten (i * n + j) = .ok ((cs.getD i []).getD j 0) := by
  obtain ⟨e1, e2⟩ := gr_addr_ok hi hj hsn
  have hlt : i * n + j < cs.flatten.length := by rw [Blk.length (D := n) hn]; exact grid_lt hi hj
  exact ⟨e1, e2, by rw [GenW.idx_ok _ hlt, ← list_getD_eq_getElem _ 0 hlt, Blk.getD hn hi hj]⟩

theorem gr_lt_of_lt_pred {i s : Nat} (h : i < s - 1) : i < s := Nat.lt_of_lt_of_le h (Nat.sub_le s 1)

theorem gr_idxMod_ok (l : List Modulus) (i : Nat) (d : Modulus) (h : i < l.length) : GenR.idxMod l i = .ok (l.getD i d) := by
  unfold GenR.idxMod; rw [List.getD_eq_getElem?_getD, List.getElem?_eq_getElem h]; rfl
theorem gr_idxOp_ok (l : List MulOperand) (i : Nat) (d : MulOperand) (h : i < l.length) : GenR.idxOp l i = .ok (l.getD i d) := by
  unfold GenR.idxOp; rw [List.getD_eq_getElem?_getD, List.getElem?_eq_getElem h]; rfl
theorem gr_idxRow_ok (l : List (List Nat)) (i : Nat) (h : i < l.length) : GenR.idxRow l i = .ok (l.getD i []) := by
  unfold GenR.idxRow; rw [List.getD_eq_getElem?_getD, List.getElem?_eq_getElem h]; rfl

theorem gr_half_eq (x : Nat) : x >>> 1 = x / 2 := by rw [Nat.shiftRight_eq_div_pow]

theorem gr_addMod_lt (x y : Nat) (m : Modulus) (z : Nat) (h : addMod x y m = .ok z) : z < 2^64 := by
  unfold addMod ckAdd at h
  by_cases hc : x + y < B64
  · rw [if_pos hc] at h
    simp only [bind, Except.bind] at h
    rw [B64_eq] at hc
    by_cases h2 : x + y ≥ m.value
    · rw [if_pos h2, ckSub_of_le h2] at h; cases h; omega
    · rw [if_neg h2] at h; cases h; exact hc
  · rw [if_neg hc] at h; cases h

theorem gr_wSub_lt (a b : Nat) : wSub a b < 2^64 := by unfold wSub; exact Nat.mod_lt _ (by simp [B64])

theorem gr_barrett128_lt {x0 x1 : Nat} {m : Modulus} {y : Nat} (h : barrett128 x0 x1 m = .ok y) : y < 2^64 := by
  unfold barrett128 at h
  dsimp only at h
  cases h1 : ckAdd (mulHi x0 m.cr1) (addU64 (mulLo x0 m.cr1) (mulHi x0 m.cr0)).2 with
  | error e => rw [h1] at h; cases h
  | ok t3 =>
    rw [h1, R.ok_bind] at h
    cases h2 : ckAdd (mulHi x1 m.cr0) (addU64 (addU64 (mulLo x0 m.cr1) (mulHi x0 m.cr0)).1 (mulLo x1 m.cr0)).2 with
    | error e => rw [h2] at h; cases h
    | ok c2 =>
      rw [h2, R.ok_bind] at h
      have := gr_wSub_lt x0 (wMul (wAdd (wAdd (wMul x1 m.cr1) t3) c2) m.value)
      split at h
      · unfold ckSub at h
        split at h <;> first | (cases h; omega) | cases h
      · cases h; exact this

theorem gr_mulMod_lt {a b : Nat} {m : Modulus} {y : Nat} (h : mulMod a b m = .ok y) : y < 2^64 := gr_barrett128_lt h

theorem gr_negateMod_lt {y : Nat} {t : Modulus} {z : Nat} (ht : t.value < 2^64) (h : negateMod y t = .ok z) : z < 2^64 := by
  unfold negateMod at h
  split at h
  · cases h; decide
  · unfold ckSub at h; split at h
    · cases h; omega
    · cases h

/-- a loop over the components that threads the buffer: `k` steps from component `i`, step `i` computes `comp i` from the CURRENT components and stores it as
    component `i` (the component loops of the division routines, which read the last component while they rewrite the others) -/
def gr_foldM (comp : Nat → List (List Nat) → R (List Nat)) : Nat → Nat → List (List Nat) → R (List (List Nat))
  | 0, _, cs => .ok cs
  | k+1, i, cs => comp i cs >>= fun c => gr_foldM comp k (i+1) (cs.set i c)

/-- if step `i` reads only components from `i` on (they are still untouched), the fold is a `mapM` over the ORIGINAL components -/
theorem gr_foldM_eq (comp : Nat → List (List Nat) → R (List Nat)) (N : Nat)
    (hc : ∀ i (cs cs' : List (List Nat)), i < N → (∀ j, i ≤ j → cs.getD j [] = cs'.getD j []) → comp i cs = comp i cs')
    (k i : Nat) (cs : List (List Nat)) (h1 : i + k ≤ N) (h2 : i + k ≤ cs.length) :
      gr_foldM comp k i cs = ((List.range' i k).mapM (fun i' => comp i' cs) >>= fun outs => .ok (cs.take i ++ outs ++ cs.drop (i + k))) := by
  have := Loop.write (gr_foldM comp) (fun i' => comp i' cs) .ok 0 i (min N cs.length) cs (fun _ _ => rfl)
    (fun k j l _ hj hA => by
      rw [gr_foldM, Nat.zero_add, hc j l cs (by omega) fun p hp =>
        hA.getD (Or.inr (by omega)) _])
    (by omega) k (by omega)
  simpa only [Nat.zero_add] using this

theorem gr_foldM_all (comp : Nat → List (List Nat) → R (List Nat)) (s : Nat) (cs : List (List Nat)) (hcs : cs.length = s)
    (hc : ∀ i (cs cs' : List (List Nat)), i < s → (∀ j, i ≤ j → cs.getD j [] = cs'.getD j []) → comp i cs = comp i cs') :
    gr_foldM comp s 0 cs = (List.range' 0 s).mapM (fun i => comp i cs) := by
  rw [gr_foldM_eq comp s hc s 0 cs (by omega) (by omega), Nat.zero_add, List.drop_eq_nil_of_le (by omega)]
  simp only [List.take_zero, List.nil_append, List.append_nil]
  exact gr_bind_ok _

theorem gr_foldM_init (comp : Nat → List (List Nat) → R (List Nat)) (s : Nat) (cs : List (List Nat)) (hcs : cs.length = s) (hs : 1 ≤ s)
    (hc : ∀ i (cs cs' : List (List Nat)), i < s - 1 → (∀ j, i ≤ j → cs.getD j [] = cs'.getD j []) → comp i cs = comp i cs') :
    gr_foldM comp (s - 1) 0 cs = ((List.range' 0 (s - 1)).mapM (fun i => comp i cs) >>= fun outs => .ok (outs ++ [cs.getD (s - 1) []])) := by
  rw [gr_foldM_eq comp (s - 1) hc (s - 1) 0 cs (by omega) (by omega), Nat.zero_add, List.drop_eq_getElem_cons (by omega),
    List.drop_eq_nil_of_le (by omega), list_getD_eq_getElem cs [] (by omega)]
  simp only [List.take_zero, List.nil_append]

/-- rows that depend on the last component and on their own: the shape of the four divisions by the last prime -/
theorem gr_foldM_last (row : Nat → List Nat → List Nat → R (List Nat)) (s : Nat) (cs : List (List Nat)) (lastc : List Nat)
    (hcs : cs.length = s) (hs : 1 ≤ s) :
    gr_foldM (fun i cs => row i (cs.getD (s-1) []) (cs.getD i [])) (s-1) 0 (cs.set (s-1) lastc)
      = ((List.range' 0 (s-1)).mapM (fun i => row i lastc (cs.getD i [])) >>= fun outs => .ok (outs ++ [lastc])) := by
  have hlc : s - 1 < cs.length := by omega
  have hlastget : (cs.set (s-1) lastc).getD (s-1) [] = lastc := list_getD_set_self _ _ _ hlc
  rw [gr_foldM_init _ s _ (by rw [List.length_set]; exact hcs) hs (fun i a b hi h => by simp only [h i (Nat.le_refl i), h (s-1) (Nat.le_of_lt hi)]),
    R.mapM_congr (g := fun i => row i lastc (cs.getD i [])) (fun i hi => by
      rw [List.mem_range'_1] at hi; rw [hlastget, list_getD_set_ne _ _ _ (by omega)]), hlastget]

/-- the default the generated indexing of a modulus list falls back on (never reached under the length hypotheses of the ties); written out, so that it
    does not depend on which `Inhabited` instance elaboration picks -/
def gr_dflt : Modulus := ⟨0,0,0,0,0⟩

/-- the strided writes `temp[j * ibase_size + i] = …` of `fast_convert_array` / `exact_convey_array`: position `j * k + i` receives `G j`, nothing else changes -/
theorem gr_strideloop (loop : Nat → Nat → List Nat → R (List Nat)) (G : Nat → Nat) (k i N : Nat) (hi : i < k)
    (h0 : ∀ j l, loop 0 j l = .ok l)
    (hs : ∀ f j (l : List Nat), j * k + i < l.length → j < N → loop (f+1) j l = loop f (j+1) (l.set (j * k + i) (G j)))
    (l : List Nat) (hl : l.length = N * k) :
    ∃ l', loop N 0 l = .ok l' ∧ l'.length = N * k ∧
      ∀ pos, l'.getD pos 0 = if pos % k = i ∧ pos / k < N then G (pos / k) else l.getD pos 0 := by
  have hlt : ∀ j, j < N → j * k + i < l.length := fun j hj => by
    have := grid_lt (a := j) (A := N) (b := i) (B := k) hj hi; omega
  refine ⟨_, by
    rw [Loop.scatter loop (fun j => .ok (G j)) (fun j => j * k + i) .ok 0 N l h0
      (fun f j d _ hj hU => by rw [hs f j d (by rw [hU.length]; exact hlt j hj) hj]; rfl) N 0 l (Nat.le_refl _) (by omega) (Loop.Untouched.refl _ _ _ _),
      R.mapM_ok _ G _ fun _ _ => rfl]; rfl, by rw [Loop.scat_length]; exact hl, fun pos => ?_⟩
  have hlen : ((List.range' 0 N).map G).length = N := by simp
  rw [List.getD_eq_getElem?_getD, List.getD_eq_getElem?_getD]
  by_cases c : pos % k = i ∧ pos / k < N
  · have hp : pos = (0 + pos / k) * k + i := by rw [Nat.zero_add, ← c.1, Nat.mul_comm]; exact (Nat.div_add_mod pos k).symm
    have := Loop.scat_get (fun j => j * k + i) 0 ((List.range' 0 N).map G) l
      (fun t t' htt _ he => by
        have := (grid_inj hi hi he).1; omega)
      (pos / k) (by rw [hlen]; exact c.2) (by rw [← hp, hl]; rw [hp, Nat.zero_add, ← hl]; exact hlt _ c.2)
    rw [if_pos c, hp, this, List.getElem?_map, List.getElem?_range' c.2]; simp [grid_div _ hi]
  · rw [if_neg c, Loop.scat_frame _ pos 0 _ l fun t ht he => c (by
      rw [hlen] at ht; rw [← he, Nat.zero_add, grid_mod t hi, grid_div t hi]; exact ⟨rfl, ht⟩)]

theorem gr_slice_take (n : Nat) (cs : List (List Nat)) (s : Nat) (h : ∀ c ∈ cs, c.length = n) (hs : s ≤ cs.length) :
    GenR.slice cs.flatten 0 (s * n) = .ok (cs.take s).flatten := by
  unfold GenR.slice
  rw [if_pos ⟨Nat.zero_le _, by rw [Blk.length (D := n) h]; exact Nat.mul_le_mul_right n hs⟩, List.drop_zero, Nat.sub_zero, Blk.take_flatten (D := n) h s]

theorem gr_slice_drop (n : Nat) (cs : List (List Nat)) (s : Nat) (h : ∀ c ∈ cs, c.length = n) (hs : s ≤ cs.length) :
    GenR.slice cs.flatten (s * n) cs.flatten.length = .ok (cs.drop s).flatten := by
  unfold GenR.slice
  rw [if_pos ⟨by rw [Blk.length (D := n) h]; exact Nat.mul_le_mul_right n hs, Nat.le_refl _⟩, List.take_of_length_le (by rw [List.length_drop]),
    Blk.drop_flatten (D := n) h s]

/-- a top-level loop over the components of a flat buffer: step `i` replaces component `i` by `comp i (old component)`; `cont` as in `gr_idxloopK` -/
theorem gr_comploop (loop : Nat → Nat → List Nat → R (List Nat)) (comp : Nat → List Nat → R (List Nat)) (cont : List Nat → R (List Nat)) (N n : Nat)
    (h0 : ∀ i l, loop 0 i l = cont l)
    (hs : ∀ k i (cs : List (List Nat)), i < N → cs.length = N → (∀ c ∈ cs, c.length = n) →
      loop (k+1) i cs.flatten = (comp i (cs.getD i []) >>= fun c => loop k (i+1) (cs.set i c).flatten))
    (hlen : ∀ i c y, i < N → c.length = n → comp i c = .ok y → y.length = n) :
    ∀ k i (cs : List (List Nat)), i + k = N → cs.length = N → (∀ c ∈ cs, c.length = n) →
      loop k i cs.flatten = (gr_foldM (fun i cs => comp i (cs.getD i [])) k i cs >>= fun cs' => cont cs'.flatten) := by
  intro k
  induction k with
  | zero => intro i cs _ _ _; rw [h0, gr_foldM, R.ok_bind]
  | succ k ih =>
    intro i cs hik hcs hcn
    rw [hs k i cs (by omega) hcs hcn, gr_foldM, bind_assoc]
    refine R.bind_congr _ fun c hc => ?_
    exact ih (i+1) (cs.set i c) (by omega) (by rw [List.length_set]; exact hcs)
      (gr_set_length_mem n cs i c hcn (hlen i _ c (by omega) (hcn _ (list_getD_mem [] (by omega))) hc))

theorem gr_comploop_pure (loop : Nat → Nat → List Nat → R (List Nat)) (C : Nat → List Nat → List Nat) (cont : List Nat → R (List Nat)) (N n : Nat)
    (h0 : ∀ i l, loop 0 i l = cont l)
    (hs : ∀ k i (cs : List (List Nat)), i < N → cs.length = N → (∀ c ∈ cs, c.length = n) →
      loop (k+1) i cs.flatten = loop k (i+1) (cs.set i (C i (cs.getD i []))).flatten)
    (hlen : ∀ i c, i < N → c.length = n → (C i c).length = n)
    (cs : List (List Nat)) (hcs : cs.length = N) (hcn : ∀ c ∈ cs, c.length = n) :
    loop N 0 cs.flatten = cont ((List.range' 0 N).map (fun i => C i (cs.getD i []))).flatten := by
  rw [gr_comploop loop (fun i c => .ok (C i c)) cont N n h0 (fun k i cs hi h1 h2 => by rw [hs k i cs hi h1 h2, R.ok_bind])
      (fun i c y hi hc hy => by cases hy; exact hlen i c hi hc) N 0 cs (by omega) hcs hcn,
    gr_foldM_all _ N cs hcs (fun i a b _ h => by simp only [h i (Nat.le_refl i)]),
    R.mapM_ok _ (fun i => C i (cs.getD i [])) _ (fun _ _ => rfl), R.ok_bind]

end HC
