/-
  The generated block searches / term lists COMPOSED with the C20 theorems about the model:
  ONE statement from the Rust source (regenerated on every run) to the mathematics.  Helper prefix `ga_`.
-/
import Heathcliff.Proofs.GenAppTerms2
import Heathcliff.Proofs.C20H
import Heathcliff.Proofs.C20I

namespace HC
open HC.MM HC.GenApp Finset

/-- **the GENERATED matmul block search returns admissible blocks** (no LWE packing): every shape with positive dimensions below 2^20,
    every `N ≥ 2`, every objective; `pe`, `cl` (the float inputs of the other branch) are irrelevant -/
theorem ga_mm_new_sound (bs id od N : Nat) (obj : Objective) (pe cl : Nat) (hN : 2 ≤ N) (hbs : 1 ≤ bs) (hid : 1 ≤ id) (hod : 1 ≤ od)
    (hsz : bs < 2^20 ∧ id < 2^20 ∧ od < 2^20) :
    ∃ H, mm_new bs id od N obj false pe cl = .ok H ∧
      H.batch_size = bs ∧ H.input_dims = id ∧ H.output_dims = od ∧ H.poly_degree = N ∧ H.pack_lwe = false ∧
      1 ≤ H.batch_block ∧ H.batch_block ≤ bs ∧ 1 ≤ H.input_block ∧ H.input_block ≤ id ∧ 1 ≤ H.output_block ∧ H.output_block ≤ od ∧
      H.batch_block * H.input_block * H.output_block ≤ N := by
  have heq := ga_mm_new_eq bs id od N obj pe cl hsz.1 hsz.2.1 hsz.2.2
  have hnew : Helper.new bs id od N obj false
      = .ok ⟨bs, id, od, (mmSearch N bs id od obj).b, (mmSearch N bs id od obj).i, (mmSearch N bs id od obj).o, N, false⟩ :=
    c20_helperNew_eq obj false hbs hid hod (by omega)
  rw [hnew] at heq
  obtain ⟨H, hH, hto⟩ := R.map_eq_ok.mp heq
  have hs := c20_mmSearch_sound N bs id od obj hN hbs hid hod hsz
  simp only [ga_toHelper, Helper.mk.injEq] at hto
  obtain ⟨e1, e2, e3, e4, e5, e6, e7, e8⟩ := hto
  refine ⟨H, hH, e1, e2, e3, e7, e8, ?_⟩
  rw [e4, e5, e6]
  exact hs

/-- ... with LWE packing, at the exact values of the two float expressions -/
theorem ga_mm_new_pack_sound (bs id od N : Nat) (obj : Objective) (pe cl : Nat) (hN : 1 ≤ N) (hN2 : N < 2^63) (hbs : 1 ≤ bs) (hid : 1 ≤ id)
    (hod : 1 ≤ od) (hsz : bs < 2^20 ∧ id < 2^20 ∧ od < 2^20) (hpe : pe = packExp N) (hcl : 2^cl = ceilTwoPower id) :
    ∃ H, mm_new bs id od N obj true pe cl = .ok H ∧
      H.batch_size = bs ∧ H.input_dims = id ∧ H.output_dims = od ∧ H.poly_degree = N ∧ H.pack_lwe = true ∧
      1 ≤ H.batch_block ∧ H.batch_block ≤ bs ∧ H.input_block = packI N id ∧ 1 ≤ H.input_block ∧ 1 ≤ H.output_block ∧ H.output_block ≤ od ∧
      H.batch_block * H.input_block * H.output_block ≤ N := by
  have heq := ga_mm_new_pack_eq bs id od N obj pe cl hN2 hsz.1 hsz.2.1 hsz.2.2 hpe hcl
  have hnew : Helper.new bs id od N obj true
      = .ok ⟨bs, id, od, (mmPackSearch N bs id od obj).b, (mmPackSearch N bs id od obj).i, (mmPackSearch N bs id od obj).o, N, true⟩ :=
    c20_helperNew_eq obj true hbs hid hod hN
  rw [hnew] at heq
  obtain ⟨H, hH, hto⟩ := R.map_eq_ok.mp heq
  have hs := c20_mmPackSearch_sound N bs id od obj hN hbs hod hsz
  simp only [ga_toHelper, Helper.mk.injEq] at hto
  obtain ⟨e1, e2, e3, e4, e5, e6, e7, e8⟩ := hto
  refine ⟨H, hH, e1, e2, e3, e7, e8, ?_⟩
  rw [e4, e5, e6]
  exact hs

/-- **the GENERATED conv2d block search returns admissible blocks**: every admissible shape (kernel inside the image, `kh·kw ≤ N`,
    dimensions ≤ 2^15), every objective -/
theorem ga_cv_new_sound (S : ConvShape) (N : Nat) (obj : Objective) (hb : 1 ≤ S.b) (hci : 1 ≤ S.ci) (hco : 1 ≤ S.co)
    (hkh : 1 ≤ S.kh) (hkw : 1 ≤ S.kw) (hh : S.kh ≤ S.h) (hw : S.kw ≤ S.w) (hN : S.kh * S.kw ≤ N)
    (hsz : S.b ≤ 2^15 ∧ S.ci ≤ 2^15 ∧ S.co ≤ 2^15 ∧ S.h ≤ 2^15 ∧ S.w ≤ 2^15) :
    ∃ H, cv_new S.b S.ci S.co S.h S.w S.kh S.kw N obj = .ok H ∧ ga_toCHelper H = CHelper.new S N obj ∧
      1 ≤ H.batch_block ∧ H.batch_block ≤ S.b ∧ S.kh ≤ H.image_height_block ∧ H.image_height_block ≤ S.h ∧
      S.kw ≤ H.image_width_block ∧ H.image_width_block ≤ S.w ∧ 1 ≤ H.input_channel_block ∧ H.input_channel_block ≤ S.ci ∧
      1 ≤ H.output_channel_block ∧ H.output_channel_block ≤ S.co ∧
      H.input_channel_block * H.output_channel_block * H.image_width_block * H.image_height_block * H.batch_block ≤ N := by
  obtain ⟨H, hH, hto⟩ := R.map_eq_ok.mp (ga_cv_new_eq S N obj hsz hkh hkw)
  have hs := c20_cvSearch_sound S N obj hb hci hco hkh hkw hh hw hN hsz
  refine ⟨H, hH, hto, ?_⟩
  have e : ga_toCHelper H = ⟨S, (cvSearch S N obj).b, (cvSearch S N obj).h, (cvSearch S N obj).w, (cvSearch S N obj).ci,
      (cvSearch S N obj).co, N⟩ := hto
  simp only [ga_toCHelper, CHelper.mk.injEq] at e
  obtain ⟨_, e2, e3, e4, e5, e6, _⟩ := e
  rw [e2, e3, e4, e5, e6]
  exact hs

/-- **source to mathematics, matmul**: the GENERATED `MatmulHelper::new` succeeds on every admissible shape, and with the blocks it
    returns the plaintext-level pipeline (encode inputs / weights, multiply-accumulate in S[X]/(X^n+1), decode) computes `x · w` -/
theorem ga_cheetah_matmul_search {S : Type} [CommRing S] (bs id od N : Nat) (obj : Objective) (pe cl : Nat) (hN : 2 ≤ N)
    (hbs : 1 ≤ bs) (hid : 1 ≤ id) (hodd : 1 ≤ od) (hsz : bs < 2^20 ∧ id < 2^20 ∧ od < 2^20) (x w : Nat → S) :
    ∃ H X W Y, mm_new bs id od N obj false pe cl = .ok H ∧ encodeInputs (ga_toHelper H) 0 x (bs * id) = .ok X ∧
      encodeWeights (ga_toHelper H) 0 w (id * od) = .ok W ∧
      decodeOutputs (ga_toHelper H) 0 (c20_mmEval (ga_toHelper H) X W) = .ok Y ∧ Y.size = bs * od ∧
      ∀ row col, row < bs → col < od → Y.getD (row * od + col) 0 = ∑ j ∈ range id, x (row * id + j) * w (j * od + col) := by
  obtain ⟨h, X, W, Y, hnew, hX, hW, hY, hs, hv⟩ := c20_cheetah_matmul_search bs id od N obj hN hbs hid hodd hsz x w
  have heq := ga_mm_new_eq bs id od N obj pe cl hsz.1 hsz.2.1 hsz.2.2
  rw [hnew] at heq
  obtain ⟨H, hH, hto⟩ := R.map_eq_ok.mp heq
  subst hto
  exact ⟨H, X, W, Y, hH, hX, hW, hY, hs, hv⟩

/-- **source to mathematics, conv2d**: with the blocks the GENERATED `Conv2dHelper::new` returns, the plaintext-level pipeline computes the
    valid cross-correlation -/
theorem ga_conv2d_search {S : Type} [CommRing S] (Sh : ConvShape) (N : Nat) (obj : Objective) (hb : 1 ≤ Sh.b) (hci : 1 ≤ Sh.ci)
    (hco : 1 ≤ Sh.co) (hkh : 1 ≤ Sh.kh) (hkw : 1 ≤ Sh.kw) (hh : Sh.kh ≤ Sh.h) (hw : Sh.kw ≤ Sh.w) (hN : Sh.kh * Sh.kw ≤ N)
    (hsz : Sh.b ≤ 2^15 ∧ Sh.ci ≤ 2^15 ∧ Sh.co ≤ 2^15 ∧ Sh.h ≤ 2^15 ∧ Sh.w ≤ 2^15) (x w : Nat → S) :
    ∃ H X Wt Y, cv_new Sh.b Sh.ci Sh.co Sh.h Sh.w Sh.kh Sh.kw N obj = .ok H ∧
      cvEncodeInputs (ga_toCHelper H) 0 x (Sh.b * Sh.ci * Sh.h * Sh.w) = .ok X ∧
      cvEncodeWeights (ga_toCHelper H) 0 w (Sh.kh * Sh.kw * Sh.ci * Sh.co) = .ok Wt ∧
      cvDecodeOutputs (ga_toCHelper H) 0 (c20_cvEval (ga_toCHelper H) X Wt) = .ok Y ∧
      Y.size = Sh.b * Sh.co * (Sh.h - Sh.kh + 1) * (Sh.w - Sh.kw + 1) ∧
      ∀ b c i j, b < Sh.b → c < Sh.co → i < Sh.h - Sh.kh + 1 → j < Sh.w - Sh.kw + 1 →
        Y.getD (b * Sh.co * (Sh.h - Sh.kh + 1) * (Sh.w - Sh.kw + 1) + c * (Sh.h - Sh.kh + 1) * (Sh.w - Sh.kw + 1)
            + i * (Sh.w - Sh.kw + 1) + j) 0 = c20_xcorr Sh x w b c i j := by
  obtain ⟨H, hH, hto⟩ := R.map_eq_ok.mp (ga_cv_new_eq Sh N obj hsz hkh hkw)
  obtain ⟨X, Wt, Y, hX, hW, hY, hs, hv⟩ := c20_conv2d_search Sh N obj hb hci hco hkh hkw hh hw hN hsz x w
  rw [← hto] at hX hW hY
  exact ⟨H, X, Wt, Y, hH, hX, hW, hY, hs, hv⟩

/-- the term lists of the helper the GENERATED search returns: both generated list functions succeed and equal the model's lists -/
theorem ga_mm_terms_of_new (bs id od N : Nat) (obj : Objective) (pe cl : Nat) (hN : 2 ≤ N) (hN2 : N < 2^64) (hbs : 1 ≤ bs) (hid : 1 ≤ id)
    (hod : 1 ≤ od) (hsz : bs < 2^20 ∧ id < 2^20 ∧ od < 2^20) :
    ∃ H, mm_new bs id od N obj false pe cl = .ok H ∧ mm_output_terms H = .ok (outputTerms (ga_toHelper H)) ∧
      mm_input_terms H = .ok (inputTerms (ga_toHelper H)) ∧
      ∀ db dj, db < H.batch_block → dj < H.output_block → outPos (ga_toHelper H) db dj ∈ outputTerms (ga_toHelper H) := by
  obtain ⟨H, hH, _, _, _, _, _, hb1, _, hi1, _, ho1, _, hfit⟩ := ga_mm_new_sound bs id od N obj pe cl hN hbs hid hod hsz
  refine ⟨H, hH, ga_mm_output_terms_eq H (by omega) hi1, ga_mm_input_terms_eq H (by omega) ho1, ?_⟩
  intro db dj hdb hdj
  exact List.mem_map.mpr ⟨(db, dj), by simp [pairs, List.mem_flatMap, ga_toHelper]; exact ⟨hdb, hdj⟩, rfl⟩

/-- the output term list of the helper the GENERATED conv2d search returns: the generated list function succeeds and equals the model's list -/
theorem ga_cv_terms_of_new (S : ConvShape) (N : Nat) (obj : Objective) (hN2 : N < 2^64) (hb : 1 ≤ S.b) (hci : 1 ≤ S.ci) (hco : 1 ≤ S.co)
    (hkh : 1 ≤ S.kh) (hkw : 1 ≤ S.kw) (hh : S.kh ≤ S.h) (hw : S.kw ≤ S.w) (hN : S.kh * S.kw ≤ N)
    (hsz : S.b ≤ 2^15 ∧ S.ci ≤ 2^15 ∧ S.co ≤ 2^15 ∧ S.h ≤ 2^15 ∧ S.w ≤ 2^15) :
    ∃ H, cv_new S.b S.ci S.co S.h S.w S.kh S.kw N obj = .ok H ∧ cv_output_terms H = .ok (cvOutputTerms (ga_toCHelper H)) := by
  obtain ⟨H, hH, hto, b1, _, h1, _, w1, _, ci1, _, co1, _, hfit⟩ := ga_cv_new_sound S N obj hb hci hco hkh hkw hh hw hN hsz
  have e : ga_toCHelper H = ⟨S, (cvSearch S N obj).b, (cvSearch S N obj).h, (cvSearch S N obj).w, (cvSearch S N obj).ci,
      (cvSearch S N obj).co, N⟩ := hto
  simp only [ga_toCHelper, CHelper.mk.injEq] at e
  obtain ⟨eS, _⟩ := e
  have ekh : H.kernel_height = S.kh := by rw [← eS]
  have ekw : H.kernel_width = S.kw := by rw [← eS]
  refine ⟨H, hH, ga_cv_output_terms_eq H (by omega) (by omega) (by omega) (by omega) b1 ci1 co1 ?_⟩
  have : H.batch_block * H.input_channel_block * H.output_channel_block * (H.image_height_block * H.image_width_block)
      = H.input_channel_block * H.output_channel_block * H.image_width_block * H.image_height_block * H.batch_block := by ring
  omega

end HC
