/- C01 part Y, non-vacuity: the generator-level end-to-end theorems in the concrete world of C01LW / C01XW — the driver's rejection sampler
   `Rng.randUniform` (which satisfies the range contract: `randUniform_contract`), the byte stream `c01xw_xof`, two generators seeded with
   concrete seeds.  The ternary draw is evaluated; the error draws exist by `noiseMany_total2`. -/
import Heathcliff.Proofs.C01Y
import Heathcliff.Proofs.C01XW
namespace HC
open Finset

def c01yw_uprng : Rng.St := Rng.fromSeed (List.replicate 64 2)
def c01yw_noisePrng : Rng.St := Rng.fromSeed (List.replicate 64 3)

def c01yw_P : Rng.Parms := ⟨4, [97, 113, 193], 2⟩

theorem c01yw_mask : ∃ um, (Rng.asymCore Rng.randUniform c01xw_xof c01yw_P c01yw_uprng c01yw_noisePrng []).1.mask = .ok um :=
  R.isSome_toOption.mp (by decide +kernel)

theorem c01yw_noise : ∃ e0 e1, (Rng.asymCore Rng.randUniform c01xw_xof c01yw_P c01yw_uprng c01yw_noisePrng []).1.noise = [.ok e0, .ok e1] :=
  noiseMany_total2 c01xw_xof c01yw_P c01yw_noisePrng (by decide)

/-- NON-VACUITY of `drv_bfv_encrypt_decrypt_prng_sp` (and of `drvMode_pkPrev_of_prng`, `ternary_tape`, `cbd_tape`): BFV through the special
    prime with the tape drawn by the generator model from concrete generator states -/
theorem c01yw_bfv_prng_sp :
    ∃ um e0m e1m cdp ct, Drv.C01E.bfvConsts (c01w_l .bfv 17) [97, 113] 17 = .ok cdp ∧
      bfvEncrypt (c01w_l .bfv 17) cdp (Spec.prodL [97, 113] % 17) ((17 + 1) / 2)
        (.asym (some (c01w_pl .bfv 17)) #[c01w_pk0 (c01w_pl .bfv 17), c01w_a.extract 0 (c01w_pl .bfv 17).size]
          (toRns um) #[toRns e0m, toRns e1m]) c01w_plain = .ok ct ∧
      bfvDecrypt (c01w_l .bfv 17) c01w_sk ct = .ok (trimPlain (padPlain 4 c01w_plain)) := by
  obtain ⟨um, hm⟩ := c01yw_mask
  obtain ⟨e0, e1, hn⟩ := c01yw_noise
  obtain ⟨cdp, ct, h⟩ := drv_bfv_encrypt_decrypt_prng_sp Rng.randUniform_contract c01yw_byteXof c01vw_ctx_bfv c01w_l_ok_bfv (by decide)
    (qL := 193) (r := []) rfl c01w_pl_ok_bfv (Rng.byteSt_fromSeed _) (Rng.byteSt_fromSeed _) hm hn (plain := c01w_plain)
    (by decide) (by decide) (mkLevel_freshEncOK c01w_l_ok_bfv (by decide) (by decide))
  exact ⟨um, e0, e1, cdp, ct, h⟩

/-- NON-VACUITY of `drv_ckks_encrypt_decrypt_prng_pk` (head of the chain) -/
theorem c01yw_ckks_prng_pk :
    ∃ um e0m e1m, ∃ (ν : Nat → Int) (ct : Ct) (dec : RnsPoly), (∀ c, c < 4 → (ν c).natAbs ≤ 21 * (2 * 4 + 1)) ∧
      ckksEncrypt (c01w_pl .ckks 0) (.asym none #[c01w_pk0 (c01w_pl .ckks 0), c01w_a.extract 0 (c01w_pl .ckks 0).size]
          (toRns um) #[toRns e0m, toRns e1m]) (ckksPlainOfInt (c01w_pl .ckks 0) c01vw_M) = .ok ct ∧
      ckksDecrypt (c01w_pl .ckks 0) c01w_sk ct = .ok dec ∧ RnsCanon (c01w_pl .ckks 0) dec ∧
      (∀ c, c < 4 → (Drv.Sch.exactPhase (c01w_pl .ckks 0) [97, 113, 193] c01w_sk ct).getD c 0 = c01vw_M.getD c 0 + ν c) ∧
      ∀ i, i < (c01w_pl .ckks 0).size → ∀ c, c < 4 →
        (intt ((c01w_pl .ckks 0).tbl i) (dec.getD i #[])).getD c 0 = Spec.imod (c01vw_M.getD c 0 + ν c) ((c01w_pl .ckks 0).q i).value := by
  obtain ⟨um, hm⟩ := c01yw_mask
  obtain ⟨e0, e1, hn⟩ := c01yw_noise
  exact ⟨um, e0, e1, drv_ckks_encrypt_decrypt_prng_pk Rng.randUniform_contract c01yw_byteXof c01vw_ctx_ckks c01w_pl_ok_ckks (r := []) rfl
    (Rng.byteSt_fromSeed _) (Rng.byteSt_fromSeed _) hm hn rfl (by decide)⟩

theorem c01yw_sym : ∃ am em, (Rng.symCore Rng.randUniform c01xw_xof c01yw_P c01yw_uprng c01yw_noisePrng []).1.mask = .ok am ∧
    (Rng.symCore Rng.randUniform c01xw_xof c01yw_P c01yw_uprng c01yw_noisePrng []).1.noise = [.ok em] := by
  obtain ⟨am, hd⟩ := (R.isSome_toOption (x := (Rng.symCore Rng.randUniform c01xw_xof c01yw_P c01yw_uprng c01yw_noisePrng []).1.mask)).mp
    (by decide +kernel)
  obtain ⟨c, s', hc⟩ := centeredBinomial_total c01xw_xof c01yw_noisePrng 4 (moduli := [97, 113, 193]) (by decide)
  refine ⟨am, c, hd, ?_⟩
  show [(Rng.centeredBinomial c01xw_xof c01yw_noisePrng 4 [97, 113, 193]).map (·.1)] = _
  rw [hc]
  rfl

/-- NON-VACUITY of `drvMode_sk_of_prng` / `drv_bgv_encrypt_decrypt_prng_sk` at the key level (the mask is expanded from the public seed the
    c1 generator delivers) -/
theorem c01yw_bgv_prng_sk (saveSeed : Bool) :
    ∃ am em ct, bgvEncrypt (c01w_pl .bgv 17) (Drv.C01E.bgvIncr [97, 113, 193] 17).1 ((17 + 1) / 2) (Drv.C01E.bgvIncr [97, 113, 193] 17).2
        (.sym c01w_sk (toRns am) (toRns em) saveSeed) c01w_plain = .ok ct ∧ ct.cf = 1 ∧
      bgvDecrypt (c01w_pl .bgv 17) c01w_sk ct = .ok (trimPlain (padPlain 4 c01w_plain)) := by
  obtain ⟨am, em, hd, hn⟩ := c01yw_sym
  obtain ⟨ct, h⟩ := drv_bgv_encrypt_decrypt_prng_sk Rng.randUniform_contract c01yw_byteXof c01vw_ctx_bgv c01w_pl_ok_bgv
    (Rng.byteSt_fromSeed _) hd hn saveSeed (plain := c01w_plain) (by decide) (by decide) (by decide)
  exact ⟨am, em, ct, h⟩

def c01yw_skprng : Rng.St := Rng.fromSeed (List.replicate 64 4)

/-- NON-VACUITY of `drvCtx_of_prng`: secret key and public key from concrete generator states at the key level {97, 113, 193} -/
theorem c01yw_ctx_of_prng (saveSeed : Bool) :
    ∃ (tern am em : List (List Nat)) (sk : Array Int) (pk0 : RnsPoly),
      genSecretKey (c01w_pl .bfv 17) (toRns tern) = skNtt (c01w_pl .bfv 17) sk ∧
      genPublicKey (c01w_pl .bfv 17) sk (toRns am) (toRns em) saveSeed = .ok ⟨#[pk0, toRns am], true, 1⟩ ∧
      DrvCtx .bfv 4 17 [97, 113, 193] (c01w_pl .bfv 17) sk pk0 (toRns am) := by
  obtain ⟨tr, htern⟩ := (R.isSome_toOption (x := Rng.ternary Rng.randUniform c01xw_xof c01yw_skprng 4 [97, 113, 193])).mp (by decide +kernel)
  obtain ⟨am, em, hd, hn⟩ := c01yw_sym
  obtain ⟨sk, pk0, h⟩ := drvCtx_of_prng Rng.randUniform_contract c01yw_byteXof c01w_pl_ok_bfv (by decide)
    (Rng.byteSt_fromSeed _) (tern := tr.1) (skprng' := tr.2) htern (Rng.byteSt_fromSeed _) hd hn saveSeed
  exact ⟨tr.1, am, em, sk, pk0, h⟩

/-- NON-VACUITY of `encryptZeroAsymPrng_fresh` (and `encryptZeroAsymPrng_eq_tape`): the model's generator-level public-key encryption of
    zero at the head of the chain succeeds on the concrete generator states and is fresh within 21(2N+1) -/
theorem c01yw_asymPrng_fresh :
    ∃ (ct : Ct) (st : Rng.St) (ν : Nat → Int),
      encryptZeroAsymPrng Rng.randUniform c01xw_xof (c01w_pl .ckks 0) #[c01w_pk0 (c01w_pl .ckks 0), c01w_a.extract 0 (c01w_pl .ckks 0).size]
        c01yw_uprng c01yw_noisePrng (c01w_pl .ckks 0).scheme.encNtt = .ok (ct, st) ∧
      FreshZero (c01w_pl .ckks 0) c01w_sk (.ok ct) ν ∧ ∀ c, c < (c01w_pl .ckks 0).n → (ν c).natAbs ≤ 21 * (2 * 4 + 1) := by
  obtain ⟨um, hm⟩ := c01yw_mask
  obtain ⟨e0, e1, hn⟩ := c01yw_noise
  obtain ⟨ν, ⟨c0, c1, hz, -⟩, -⟩ := drvMode_fresh c01vw_ctx_ckks c01w_pl_ok_ckks
    (drvMode_pk_of_prng (sk := c01w_sk) (pk0 := c01w_pk0 (c01w_pl .ckks 0)) (pk1 := c01w_a.extract 0 (c01w_pl .ckks 0).size)
      (t := 0) (kqs := [97, 113, 193]) (r := []) Rng.randUniform_contract c01yw_byteXof rfl c01w_pl_ok_ckks
      (Rng.byteSt_fromSeed _) (Rng.byteSt_fromSeed _) hm hn)
  have hP : (⟨(c01w_pl .ckks 0).n, (c01w_pl .ckks 0).qs.toList.map (·.value), 2⟩ : Rng.Parms) = c01yw_P := by
    rw [c01w_n c01w_pl_ok_ckks, (c01y_moduli c01w_pl_ok_ckks).1]
    rfl
  rw [← hP] at hm hn
  have heq := encryptZeroAsymPrng_eq_tape (pk := #[c01w_pk0 (c01w_pl .ckks 0), c01w_a.extract 0 (c01w_pl .ckks 0).size]) rfl
    (c01w_pl .ckks 0).scheme.encNtt hm hn
  simp only [encryptZeroInternal] at hz
  rw [hz] at heq
  obtain ⟨ν', hf, hb⟩ := encryptZeroAsymPrng_fresh Rng.randUniform_contract c01yw_byteXof c01vw_ctx_ckks (r := []) rfl c01w_pl_ok_ckks
    (Rng.byteSt_fromSeed _) (Rng.byteSt_fromSeed _) heq
  exact ⟨_, _, ν', heq, hf, hb⟩

end HC
