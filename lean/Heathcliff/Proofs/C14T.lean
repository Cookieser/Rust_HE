/-
  C14T: what the validity predicate of the two ciphertext codecs says in plain terms, as an IFF (names tagged `c14t_`); both are
  instances of `ctWireC_valid_iff` (C14S), where the bundle `c14t_CtWFw` and `c14t_CtWF_iff` also stand.

  The naive converse of `c14s_ctC_valid`, `valid ⇒ c14s_CtWF`, is FALSE for the model's `Ct` (its `scale` and `cf` fields are
  unbounded naturals, and a field that the level's scheme does not put on the wire is not constrained by `valid`):
  `c14t_validImpCtWF_refuted` (witness: BFV level, scale = 2^64).  The strongest true version:

    valid  ⇔  `c14t_CtWFw` (= `c14s_CtWF` with the two word bounds required only for the scheme that serializes the field)
               ∧ polynomial 0 fits                                                   (`c14t_ctC_valid_iff`, `c14t_ctTermsC_valid_iff`)
    c14s_CtWF ⇔ c14t_CtWFw ∧ scale < 2^64 ∧ cf < 2^64                                 (`c14t_CtWF_iff`)
    valid ∧ scale < 2^64 ∧ cf < 2^64 ⇒ c14s_CtWF ∧ polynomial 0 fits                   (`c14t_ctC_valid_imp_CtWF`)

  (every Rust `Ciphertext` has `scale: f64` and `correction_factor: u64`, so the last form is the converse on the image of the code).
-/
import Heathcliff.Proofs.C14S
namespace HC.Codec

/-- `repC_valid_iff` (CodecExact) and `polyFits_iff` (C14S) under the names that Props/C14.lean publishes by `type_of%`; in a proof cite
    the two originals -/
theorem c14t_repC_valid_iff {α} (c : Codec α) : ∀ (n : Nat) (l : List α),
    (repC n c).valid l ↔ (l.length = n ∧ ∀ x ∈ l, c.valid x) := repC_valid_iff c

theorem c14t_polyC_valid_iff (lv : Level) (p : Poly) : (polyC lv).valid p ↔ c14s_PolyFits lv.n lv.moduli p :=
  polyFits_iff lv.n lv.moduli p

/-- COMPACT FORMAT, the validity predicate in plain terms (IFF): header words in range where they are on the wire, the parms id
    known to the context, the polynomial count right for the seed flag, the seed 8 words or absent, every polynomial of the
    level's shape with coefficients representable in `limit(q_j)` bytes -/
theorem c14t_ctC_valid_iff (ctx : Ctx) (expand : List Nat → Level → Poly) (c : Ct) :
    (ctC ctx expand).valid c ↔
      (c14t_CtWFw ctx c ∧ ∀ p0, c.polys.head? = some p0 →
        c14s_PolyFits ((ctx.find c.pid).getD noLevel).n ((ctx.find c.pid).getD noLevel).moduli p0) :=
  (ctWireC_valid_iff ctx polyC (fun _ _ p => p) c).trans
    (and_congr_right fun _ => forall₂_congr fun p0 _ => polyFits_iff _ _ p0)

/-- SELECTED-TERMS FORMAT, the validity predicate in plain terms (IFF): as above, with polynomial 0 judged on its gathered
    coefficients -/
theorem c14t_ctTermsC_valid_iff (ctx : Ctx) (expand : List Nat → Level → Poly)
    (fwd inv : Level → Nat → List Nat → List Nat) (T : List Nat) (c : Ct) :
    (ctTermsC ctx expand fwd inv T).valid c ↔
      (c14t_CtWFw ctx c ∧ ∀ p0, c.polys.head? = some p0 →
        c14s_PolyFits T.length ((ctx.find c.pid).getD noLevel).moduli
          (mapIdx (fun j comp => gather T (if c.ntt then inv ((ctx.find c.pid).getD noLevel) j comp else comp)) 0 p0)) :=
  (ctWireC_valid_iff ctx (termsPolyC T.length) _ c).trans
    (and_congr_right fun _ => forall₂_congr fun p0 _ => polyFits_iff _ _ _)

/-- THE CONVERSE on the image of the code (every Rust `Ciphertext` has `scale: f64`, `correction_factor: u64`, i.e. both fields
    are 64-bit words): a valid ciphertext is well formed in the sense of `c14s_CtWF` and its polynomial 0 fits -/
theorem c14t_ctC_valid_imp_CtWF (ctx : Ctx) (expand : List Nat → Level → Poly) (c : Ct)
    (hv : (ctC ctx expand).valid c) (hs : c.scale < 2 ^ 64) (hc : c.cf < 2 ^ 64) :
    c14s_CtWF ctx c ∧ ∀ p0, c.polys.head? = some p0 →
      c14s_PolyFits ((ctx.find c.pid).getD noLevel).n ((ctx.find c.pid).getD noLevel).moduli p0 := by
  obtain ⟨hw, h0⟩ := (c14t_ctC_valid_iff ctx expand c).mp hv
  exact ⟨(c14t_CtWF_iff ctx c).mpr ⟨hw, hs, hc⟩, h0⟩

theorem c14t_ctTermsC_valid_imp_CtWF (ctx : Ctx) (expand : List Nat → Level → Poly)
    (fwd inv : Level → Nat → List Nat → List Nat) (T : List Nat) (c : Ct)
    (hv : (ctTermsC ctx expand fwd inv T).valid c) (hs : c.scale < 2 ^ 64) (hc : c.cf < 2 ^ 64) :
    c14s_CtWF ctx c ∧ ∀ p0, c.polys.head? = some p0 →
      c14s_PolyFits T.length ((ctx.find c.pid).getD noLevel).moduli
        (mapIdx (fun j comp => gather T (if c.ntt then inv ((ctx.find c.pid).getD noLevel) j comp else comp)) 0 p0) := by
  obtain ⟨hw, h0⟩ := (c14t_ctTermsC_valid_iff ctx expand fwd inv T c).mp hv
  exact ⟨(c14t_CtWF_iff ctx c).mpr ⟨hw, hs, hc⟩, h0⟩

/-- `valid ⇔ c14s_CtWF ∧ head fits` for objects whose two header fields are words -/
theorem c14t_ctC_valid_iff_CtWF (ctx : Ctx) (expand : List Nat → Level → Poly) (c : Ct)
    (hs : c.scale < 2 ^ 64) (hc : c.cf < 2 ^ 64) :
    (ctC ctx expand).valid c ↔
      (c14s_CtWF ctx c ∧ ∀ p0, c.polys.head? = some p0 →
        c14s_PolyFits ((ctx.find c.pid).getD noLevel).n ((ctx.find c.pid).getD noLevel).moduli p0) :=
  ⟨fun hv => c14t_ctC_valid_imp_CtWF ctx expand c hv hs hc, fun h => c14s_ctC_valid ctx expand c h.1 h.2⟩

/-! ## the naive converse is false for the model's unbounded fields -/

/-- the naive statement `valid ⇒ c14s_CtWF` -/
def c14t_ValidImpCtWFStatement : Prop :=
  ∀ (ctx : Ctx) (expand : List Nat → Level → Poly) (c : Ct), (ctC ctx expand).valid c → c14s_CtWF ctx c

/-- the BFV example ciphertext with a `scale` field that is not a 64-bit word: BFV does not serialize the scale, so the codec's
    domain does not constrain it -/
def c14t_exCtBigScale : Ct := { c14s_exCt with scale := 2 ^ 64 }

theorem c14t_exCtBigScale_valid (expand : List Nat → Level → Poly) : (ctC c14s_exCtx expand).valid c14t_exCtBigScale := by
  refine (c14t_ctC_valid_iff _ _ _).mpr ⟨⟨rfl, by decide, by decide, by decide, fun h => ?_, fun h => ?_, rfl, Or.inl rfl, ?_⟩, ?_⟩
  · exact absurd h (by decide)
  · exact absurd h (by decide)
  · exact c14s_exCt_wf.tail_fit
  · intro p0 hp
    cases hp
    exact ⟨⟨rfl, by decide⟩, ⟨rfl, by decide⟩, trivial⟩

/-- REFUTED: `valid ⇒ c14s_CtWF` fails (witness: one BFV level, scale field = 2^64).  A finding about the model's domain (unbounded
    naturals for word-sized fields), not about the library; the true versions are `c14t_ctC_valid_iff` and
    `c14t_ctC_valid_imp_CtWF`. -/
theorem c14t_validImpCtWF_refuted : ¬ c14t_ValidImpCtWFStatement := by
  intro h
  have hw := h c14s_exCtx (fun _ _ => []) c14t_exCtBigScale (c14t_exCtBigScale_valid _)
  exact absurd hw.scale_u64 (by decide)

/-- the hypotheses of the positive converse are satisfiable: the example ciphertexts of C14S -/
example (expand : List Nat → Level → Poly) : c14s_CtWF c14s_exCtx c14s_exCt :=
  (c14t_ctC_valid_imp_CtWF _ expand _ (c14s_exCt_valid expand) (by decide) (by decide)).1

end HC.Codec
