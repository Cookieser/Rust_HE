/-
  C14 helper lemmas, four parts:
    * when a round trip returns the object itself (`Codec.Exact`), closed under the combinators (`pairC_exact` … `vecC_exact`);
    * the byte-width rule `get_u64_limit` of the compact format: `u64Limit q ≤ w ↔ q < 256 ^ w` (`u64Limit_le_iff`) and what follows;
    * what `valid` of a format says in plain terms, as an IFF per combinator (`repC_valid_iff`, `u64C_valid_iff`, `repC_u64_valid_iff`,
      `limC_valid_iff`, `vecC_valid_iff`; those of the ciphertext body and wire tuple are in C14S);
    * what the ciphertext readers return (`norm`) in plain terms: `ctC_norm`, `ctTermsC_norm` from the one computation `ctOfWire_toWire`
      (what the reader assembles from the tuple the writer sends), with `CtDefaults` for the fields that are not on the wire.
  No Mathlib.
-/
import Heathcliff.Proofs.Codec
namespace HC.Codec

/-- on valid objects a round trip is the identity -/
def Codec.Exact {α} (c : Codec α) : Prop := ∀ x, c.valid x → c.norm x = x

theorem scalarC_exact (s : SK) (n : Nat) : (scalarC s n).Exact := fun _ _ => rfl

theorem pairC_exact {α β} (a : Codec α) (b : Codec β) (ha : a.Exact) (hb : b.Exact) : (pairC a b).Exact := by
  intro ⟨x, y⟩ hv
  show (a.norm x, b.norm y) = (x, y)
  rw [ha x hv.1, hb y hv.2]

theorem depC_exact {α β} (a : Codec α) (b : α → Codec β) (hb : ∀ x, (b x).Exact) : (depC a b).Exact := by
  intro ⟨x, y⟩ hv
  show (x, (b x).norm y) = (x, y)
  rw [hb x y hv.2.2]

theorem guardC_exact {α} (c : Codec α) (p : α → Bool) (hc : c.Exact) : (guardC c p).Exact :=
  fun x hv => hc x hv.1

/-- `mapC` is exact on the objects that `g ∘ f` leaves unchanged -/
theorem mapC_norm {α β} (c : Codec α) (f : β → α) (g : α → β) (hc : c.Exact) (y : β)
    (hv : (mapC c f g).valid y) : (mapC c f g).norm y = g (f y) := by
  show g (c.norm (f y)) = g (f y)
  rw [hc (f y) hv]

theorem seqC_exact {α} (cs : List (Codec α)) (h : ∀ c ∈ cs, c.Exact) : (seqC cs).Exact := by
  induction cs with
  | nil =>
    intro xs hv
    cases xs with
    | nil => rfl
    | cons x xs => exact absurd hv (by simp [seqC, seqValid])
  | cons c cs ih =>
    intro xs hv
    cases xs with
    | nil => exact absurd hv (by simp [seqC, seqValid])
    | cons x xs =>
      obtain ⟨hx, hxs⟩ : c.valid x ∧ seqValid cs xs := hv
      show c.norm x :: seqNorm cs xs = x :: xs
      rw [h c (by simp) x hx]
      have := ih (fun d hd => h d (by simp [hd])) xs hxs
      simp only [seqC] at this
      rw [this]

theorem repC_exact {α} (n : Nat) (c : Codec α) (hc : c.Exact) : (repC n c).Exact :=
  seqC_exact _ (fun d hd => by rw [List.eq_of_mem_replicate hd]; exact hc)

theorem vecC_exact {α} (c : Codec α) (hc : c.Exact) : (vecC c).Exact := by
  intro l hv
  have := mapC_norm (depC usizeC (fun n => repC n c)) (fun (l : List α) => (l.length, l)) (fun p => p.2)
    (depC_exact _ _ (fun n => repC_exact n c hc)) l hv
  exact this

theorem u64C_exact : u64C.Exact := scalarC_exact _ _
theorem usizeC_exact : usizeC.Exact := scalarC_exact _ _
theorem u8C_exact : u8C.Exact := scalarC_exact _ _
theorem pidC_exact : pidC.Exact := repC_exact _ _ u64C_exact
theorem schemeC_exact : schemeC.Exact := guardC_exact _ _ u8C_exact

theorem boolC_exact : boolC.Exact := by
  intro b _
  cases b <;> rfl

/-- `read_u64_limited ∘ write_u64_limited` is the identity below `256^limit` -/
theorem limC_exact (l : Nat) : (limC l).Exact := by
  intro v hv
  have h1 := mapC_norm (repC l u8C) (leBytes l) leVal (repC_exact _ _ u8C_exact) v hv.1
  show (mapC (repC l u8C) (leBytes l) leVal).norm v = v
  rw [h1]
  exact leVal_leBytes l v hv.2

/-! ### the byte-width rule `get_u64_limit` -/

theorem pow256_eq (w : Nat) : (256 : Nat) ^ w = 2 ^ (8 * w) := by
  rw [show (256 : Nat) = 2 ^ 8 by rfl, ← Nat.pow_mul]

theorem u64Limit_zero : u64Limit 0 = 0 := by decide

theorem bitCount_pos (q : Nat) (hq : q ≠ 0) : bitCount q = Nat.log2 q + 1 := by
  simp [bitCount, hq]

theorem u64Limit_pos (q : Nat) (hq : q ≠ 0) : 1 ≤ u64Limit q := by
  unfold u64Limit; rw [bitCount_pos q hq]; omega

/-- the chosen width holds the modulus itself (strictly) … -/
theorem u64Limit_upper (q : Nat) : q < 256 ^ u64Limit q := by
  by_cases hq : q = 0
  · subst hq; decide
  · have h1 : q < 2 ^ (Nat.log2 q + 1) := Nat.lt_log2_self
    have h4 : Nat.log2 q + 1 ≤ 8 * u64Limit q := by
      unfold u64Limit; rw [bitCount_pos q hq]; omega
    rw [pow256_eq]
    exact Nat.lt_of_lt_of_le h1 (Nat.pow_le_pow_right (by decide) h4)

/-- … and one byte less does not -/
theorem u64Limit_lower (q : Nat) (hq : q ≠ 0) : 256 ^ (u64Limit q - 1) ≤ q := by
  have h1 : 2 ^ Nat.log2 q ≤ q := Nat.log2_self_le hq
  have h4 : 8 * (u64Limit q - 1) ≤ Nat.log2 q := by
    unfold u64Limit; rw [bitCount_pos q hq]; omega
  rw [pow256_eq]
  exact Nat.le_trans (Nat.pow_le_pow_right (by decide) h4) h1

/-- THE RULE, exactly as the code has it: `get_u64_limit q` is the least `w` with `q < 256^w`
    (every `q`, including `0` ↦ `0`) -/
theorem u64Limit_le_iff (q w : Nat) : u64Limit q ≤ w ↔ q < 256 ^ w := by
  refine ⟨fun h => Nat.lt_of_lt_of_le (u64Limit_upper q) (Nat.pow_le_pow_right (by decide) h), fun h => ?_⟩
  by_cases hq : q = 0
  · subst hq; rw [u64Limit_zero]; exact Nat.zero_le _
  · apply Nat.le_of_not_lt
    intro hlt
    have h2 : 256 ^ w ≤ 256 ^ (u64Limit q - 1) := Nat.pow_le_pow_right (by decide) (by omega)
    have h3 := u64Limit_lower q hq
    omega

/-- hence the width suffices for every residue below the modulus -/
theorem u64Limit_width (q v : Nat) (h : v < q) : v < 256 ^ u64Limit q := Nat.lt_trans h (u64Limit_upper q)

/-- a `u64` never needs more than 8 bytes -/
theorem u64Limit_le_8 (q : Nat) (h : q < 2 ^ 64) : u64Limit q ≤ 8 :=
  (u64Limit_le_iff q 8).mpr (by rw [pow256_eq]; exact h)

/-! ### what `valid` says in plain terms -/

theorem repC_valid_iff {α} (c : Codec α) : ∀ (n : Nat) (l : List α),
    (repC n c).valid l ↔ (l.length = n ∧ ∀ x ∈ l, c.valid x)
  | 0, [] => ⟨fun _ => ⟨rfl, fun _ h => nomatch h⟩, fun _ => trivial⟩
  | 0, _ :: _ => ⟨fun h => h.elim, fun h => nomatch h.1⟩
  | _ + 1, [] => ⟨fun h => h.elim, fun h => nomatch h.1⟩
  | n + 1, x :: xs => by
    show (c.valid x ∧ (repC n c).valid xs) ↔ _
    rw [repC_valid_iff c n xs, List.length_cons, Nat.succ_inj, List.forall_mem_cons]
    exact ⟨fun ⟨a, b, d⟩ => ⟨b, a, d⟩, fun ⟨b, a, d⟩ => ⟨a, b, d⟩⟩

theorem repC_valid_of {α} (c : Codec α) (n : Nat) (l : List α) (hl : l.length = n) (h : ∀ x ∈ l, c.valid x) :
    (repC n c).valid l := (repC_valid_iff c n l).mpr ⟨hl, h⟩

theorem u64C_valid_iff (v : Nat) : u64C.valid v ↔ v < 2 ^ 64 := by
  show v < 256 ^ 8 ↔ _
  rw [pow256_eq]

theorem repC_u64_valid_iff (n : Nat) (l : List Nat) : (repC n u64C).valid l ↔ (l.length = n ∧ ∀ w ∈ l, w < 2 ^ 64) := by
  simp only [repC_valid_iff, u64C_valid_iff]

theorem limC_valid_iff (l v : Nat) : (limC l).valid v ↔ v < 256 ^ l := by
  show ((repC l u8C).valid (leBytes l v) ∧ v < 256 ^ l) ↔ _
  rw [repC_valid_iff]
  exact ⟨fun h => h.2, fun h => ⟨⟨leBytes_length l v, fun b hb => by show b < 256 ^ 1; simpa using leBytes_lt l v b hb⟩, h⟩⟩

theorem limC_valid_of_lt (l v : Nat) (h : v < 256 ^ l) : (limC l).valid v := (limC_valid_iff l v).mpr h

theorem vecC_valid_iff {α} (c : Codec α) (l : List α) : (vecC c).valid l ↔ (l.length < 2 ^ 64 ∧ ∀ x ∈ l, c.valid x) := by
  show (usizeC.valid l.length ∧ usizeC.norm l.length = l.length ∧ (repC l.length c).valid l) ↔ _
  rw [repC_valid_iff]
  exact ⟨fun h => ⟨(u64C_valid_iff _).mp h.1, h.2.2.2⟩, fun h => ⟨(u64C_valid_iff _).mpr h.1, rfl, rfl, h.2⟩⟩

theorem termsPolyC_exact (t : Nat) (lv : Level) : (termsPolyC t lv).Exact :=
  seqC_exact _ (fun c hc => by
    obtain ⟨q, _, rfl⟩ := List.mem_map.mp hc
    exact repC_exact _ _ (limC_exact _))

theorem polyC_exact (lv : Level) : (polyC lv).Exact := termsPolyC_exact lv.n lv

theorem extraC_exact (s : Nat) : (extraC s).Exact := by
  unfold extraC
  split
  · exact repC_exact _ _ u64C_exact
  · split
    · exact repC_exact _ _ u64C_exact
    · exact repC_exact _ _ u64C_exact

theorem ctBodyC_exact (lv : Level) (size : Nat) (first : Codec Poly) (hf : first.Exact) :
    (ctBodyC lv size first).Exact :=
  depC_exact _ _ (fun seeded =>
    pairC_exact _ _
      (seqC_exact _ (fun c hc => by
        split at hc
        · rw [List.mem_singleton.mp hc]; exact hf
        · have hc := List.mem_of_mem_take hc
          rcases List.mem_cons.mp hc with rfl | hc
          · exact hf
          · rw [List.eq_of_mem_replicate hc]; exact polyC_exact lv))
      (repC_exact _ _ u64C_exact))

theorem ctWireC_exact (ctx : Ctx) (first : Level → Codec Poly) (hf : ∀ lv, (first lv).Exact) :
    (ctWireC ctx first).Exact :=
  depC_exact _ _ (fun _ => depC_exact _ _ (fun _ =>
    pairC_exact _ _ boolC_exact (pairC_exact _ _ (extraC_exact _) (ctBodyC_exact _ _ _ (hf _)))))

/-- what `Ciphertext::deserialize ∘ serialize` returns, in plain terms -/
theorem ctC_norm (ctx : Ctx) (expand : List Nat → Level → Poly) (c : Ct) (hv : (ctC ctx expand).valid c) :
    (ctC ctx expand).norm c
      = ctOfWire ctx expand (fun _ _ p => p) (ctToWire ctx (fun _ _ p => p) c) :=
  mapC_norm _ _ _ (ctWireC_exact ctx polyC polyC_exact) c hv

/-- object invariants of an API-built ciphertext relative to its level: default scale unless CKKS,
    correction factor 1 unless BGV -/
def CtDefaults (ctx : Ctx) (c : Ct) : Prop :=
  let lv := (ctx.find c.pid).getD noLevel
  (lv.scheme ≠ 2 → c.scale = oneF64) ∧ (lv.scheme ≠ 3 → c.cf = 1)

theorem c14s_match_polys_id (l : List Poly) : (match l with | [] => [] | p0 :: ps => p0 :: ps) = l := by
  cases l <;> rfl

theorem extra_scale (s scale cf : Nat) :
    (if s == 2 then (if s == 2 then [scale] else if s == 3 then [cf] else []).headD oneF64 else oneF64)
      = if s == 2 then scale else oneF64 := by
  cases h : s == 2 <;> rfl

theorem extra_cf (s scale cf : Nat) :
    (if s == 3 then (if s == 2 then [scale] else if s == 3 then [cf] else []).headD 1 else 1) = if s == 3 then cf else 1 := by
  by_cases h : s = 3
  · subst h; rfl
  · rw [beq_false_of_ne h]; rfl

theorem ctOfWire_toWire (ctx : Ctx) (expand : List Nat → Level → Poly)
    (trR trW : Level → Bool → Poly → Poly) (c : Ct) :
    ctOfWire ctx expand trR (ctToWire ctx trW c)
      = { pid := c.pid, size := c.size, ntt := c.ntt,
          scale := if ((ctx.find c.pid).getD noLevel).scheme == 2 then c.scale else oneF64,
          cf := if ((ctx.find c.pid).getD noLevel).scheme == 3 then c.cf else 1,
          polys := (match c.polys with
              | [] => []
              | p0 :: ps => trR ((ctx.find c.pid).getD noLevel) c.ntt (trW ((ctx.find c.pid).getD noLevel) c.ntt p0) :: ps)
            ++ (if c.seeded then [expand c.seed ((ctx.find c.pid).getD noLevel)] else []),
          seed := [] } := by
  obtain ⟨pid, size, ntt, scale, cf, polys, seed⟩ := c
  simp only [ctOfWire, ctToWire, extra_scale, extra_cf]
  cases polys <;> cases seed <;> simp [Ct.seeded]

theorem CtDefaults.scale_eq {ctx : Ctx} {c : Ct} (hd : CtDefaults ctx c) :
    (if ((ctx.find c.pid).getD noLevel).scheme == 2 then c.scale else oneF64) = c.scale := by
  by_cases e : ((ctx.find c.pid).getD noLevel).scheme = 2
  · rw [e]; rfl
  · rw [beq_false_of_ne e, hd.1 e]; rfl

theorem CtDefaults.cf_eq {ctx : Ctx} {c : Ct} (hd : CtDefaults ctx c) :
    (if ((ctx.find c.pid).getD noLevel).scheme == 3 then c.cf else 1) = c.cf := by
  by_cases e : ((ctx.find c.pid).getD noLevel).scheme = 3
  · rw [e]; rfl
  · rw [beq_false_of_ne e, hd.2 e]; rfl

theorem ctOfWire_toWire_id (ctx : Ctx) (expand : List Nat → Level → Poly) (c : Ct)
    (hd : CtDefaults ctx c) (hs : c.seed = []) :
    ctOfWire ctx expand (fun _ _ p => p) (ctToWire ctx (fun _ _ p => p) c) = c := by
  rw [ctOfWire_toWire, hd.scale_eq, hd.cf_eq, c14s_match_polys_id]
  cases c
  simp only at hs
  simp [Ct.seeded, hs]

theorem ctOfWire_toWire_seeded (ctx : Ctx) (expand : List Nat → Level → Poly) (c : Ct)
    (hd : CtDefaults ctx c) (hs : c.seed ≠ []) :
    ctOfWire ctx expand (fun _ _ p => p) (ctToWire ctx (fun _ _ p => p) c)
      = { c with polys := c.polys ++ [expand c.seed ((ctx.find c.pid).getD noLevel)], seed := [] } := by
  rw [ctOfWire_toWire, hd.scale_eq, hd.cf_eq, c14s_match_polys_id]
  cases c
  simp only at hs
  simp [Ct.seeded, hs]

/-- selected-terms format: what the reader returns -/
theorem ctTermsC_norm (ctx : Ctx) (expand : List Nat → Level → Poly)
    (fwd inv : Level → Nat → List Nat → List Nat) (terms : List Nat) (c : Ct)
    (hv : (ctTermsC ctx expand fwd inv terms).valid c) :
    (ctTermsC ctx expand fwd inv terms).norm c
      = ctOfWire ctx expand (fun lv ntt p => mapIdx (fun j vals =>
            let comp := scatter lv.n terms vals
            if ntt then fwd lv j comp else comp) 0 p)
          (ctToWire ctx (fun lv ntt p => mapIdx (fun j comp => gather terms (if ntt then inv lv j comp else comp)) 0 p) c) :=
  mapC_norm _ _ _ (ctWireC_exact ctx _ (termsPolyC_exact _)) c hv

end HC.Codec
