/- C01 part Q: closing the gaps between the end-to-end decryption theorems and the objects the driver builds.
   CKKS: `ckksDecrypt_eq_spec` (any size ≥ 2, NTT form) + refusals;
   the bundles `c05u_ToolOK`, `c05u_BgvOK`, `c07s_LevelQ`, `KeyLevel.WF` from the model's constructors;
   the driver's `Drv.Sch.mkLevel`: every level it returns satisfies all hypothesis bundles (one record `MkLevel`, `mkLevel_facts`), and whenever the
   oracle commits the driver's model column equals its spec column.
   Helper names carry the prefix `c01q_`; at the end, eight `c04r_` lemmas lead from a bound on the noise of an exact phase to the model's
   decryption.  The witnesses of the bundles are in Proofs/C01QW.lean. -/
import Heathcliff.Proofs.C01P
import Heathcliff.Proofs.C07S
import Heathcliff.Proofs.C05U
import Heathcliff.Proofs.C04T
import Driver.Scheme
import Mathlib.Data.ZMod.Basic
import Mathlib.Tactic.Ring
import Mathlib.Tactic.Linarith
namespace HC
open Finset

theorem c01q_polys_ne {polys : Array RnsPoly} (h2 : 2 ≤ polys.size) : polys.toList ≠ [] := by
  intro h
  have h1 := congrArg List.length h
  rw [Array.length_toList, List.length_nil] at h1
  omega

theorem c01q_n_pos {l : Level} (hl : l.WF) : 0 < l.n := by rw [hl.npow]; exact Nat.two_pow_pos _

theorem c01q_qvals_eq {l : Level} (hq : c07s_LevelQ l) : c01p_qvals l = c01p_bvals l.tool.baseQ :=
  hq.qvals.trans (c07s_qsv_eq_range _)

/-- the value `ckksDecrypt` must return: component i is the forward transform of the exact phase reduced modulo q_i
    (the expression the driver's oracle `exactDec` evaluates) -/
def c01q_ckksSpec (l : Level) (sk : Array Int) (polys : List RnsPoly) : RnsPoly :=
  Array.ofFn (n := l.size) fun i =>
    ntt (l.tbl i.val) ((Spec.phase (c01p_qvals l) l.n sk (polys.map (rnsIntt l))).map fun x => Spec.imod x (l.q i.val).value)

theorem c01q_ckks_comp {l : Level} (hl : l.WF) (hq : c07s_LevelQ l) {sk : Array Int} (hsk : sk.size = l.n)
    {polys : Array RnsPoly} (h2 : 2 ≤ polys.size) (hc : ∀ k, k < polys.size → RnsCanon l (polys.getD k #[])) (cf : Nat) :
    ∃ ph, dotProductCtSk l sk ⟨polys, true, cf⟩ = .ok ph ∧ RnsCanon l ph ∧
      ∀ i, i < l.size → intt (l.tbl i) (ph.getD i #[]) =
        (Spec.phase (c01p_qvals l) l.n sk (polys.toList.map (rnsIntt l))).map fun x => Spec.imod x (l.q i).value := by
  obtain ⟨ph, hdot, hcan, hph⟩ := c01_dot_phase hl hq hsk true h2 hc cf
  change Spec.phase _ _ _ (polys.toList.map (rnsIntt l)) = c01p_lift l (rnsIntt l ph) at hph
  have hci : RnsCanon l (rnsIntt l ph) := c07s_rnsIntt_canon hl hcan
  refine ⟨ph, hdot, hcan, fun i hi => ?_⟩
  have hq0 : 0 < (l.q i).value := by have := (c01o_level_comp hl hi).2.2.2.two_le; omega
  have hdvd : (l.q i).value ∣ l.tool.baseQ.prod := by
    rw [← hq.q_eq hi]; exact hq.bwf.q_dvd_prod (by rw [hq.size_eq]; exact hi)
  rw [hph, ← c01o_rnsIntt_getD l ph hi]
  apply array_ext_getD (n := l.n) (hci.2 i hi).1 (by rw [Array.size_map, c01p_lift_size])
  intro j hj
  obtain ⟨⟨x1, x2⟩, x3⟩ := c01p_lift_crt hq hci hj
  rw [array_getD_map _ _ (0 : Int) (0 : Nat) (by rw [c01p_lift_size]; exact hj), x3]
  apply cast_inj_lt ((hci.2 i hi).2 j hj) (c01j_imod_lt _ hq0)
  rw [imod_cast (dvd_refl _) hq0, c03k_centred_cast hdvd _, ← x2 i hi, ZMod.natCast_mod]

theorem c01q_ckks_value {l : Level} (hl : l.WF) (hq : c07s_LevelQ l) {sk : Array Int} (hsk : sk.size = l.n)
    {polys : Array RnsPoly} (h2 : 2 ≤ polys.size) (hc : ∀ k, k < polys.size → RnsCanon l (polys.getD k #[])) (cf : Nat) :
    dotProductCtSk l sk ⟨polys, true, cf⟩ = .ok (c01q_ckksSpec l sk polys.toList) ∧ RnsCanon l (c01q_ckksSpec l sk polys.toList) := by
  obtain ⟨ph, hdot, hcan, hv⟩ := c01q_ckks_comp hl hq hsk h2 hc cf
  have e : ph = c01q_ckksSpec l sk polys.toList := by
    apply c07s_rns_ext hcan.1 (by simp [c01q_ckksSpec])
    intro i hi
    obtain ⟨htw, htm, htn, _⟩ := c01o_level_comp hl hi
    unfold c01q_ckksSpec
    rw [array_getD_ofFn _ _ hi]
    show ph.getD i #[] = ntt (l.tbl i) _
    rw [← hv i hi, ntt_intt htw _ (by rw [(hcan.2 i hi).1, htn]) (fun j hj => by rw [htm]; exact (hcan.2 i hi).2 j (by omega))]
  rw [← e]
  exact ⟨hdot, hcan⟩

/-! ## inversion of `RNSTool.new` for the constants of modulus switching (any plain modulus, including t = 0;
    the case t ≠ 0 is read off `c01p_newOK`) -/

structure c01q_NewInv (n : Nat) (q : RNSBase) (t : Modulus) (r : RNSTool) : Prop where
  q_pos : 1 ≤ q.size
  q_le : q.size ≤ 64
  n_pow : isPow2 n = true
  n_ge : 2 ≤ n
  n_le : n ≤ 131072
  invQLastModQ : (List.range (q.size - 1)).mapM (fun i => (do
      let o ← tryInvert (q.q (q.size - 1)).value (q.q i).value
      match o with
      | none => .error .refused
      | some iv => MulOperand.new iv (q.q i) : R MulOperand)) = .ok r.invQLastModQ.toList
  invQLastModT : ¬ t.value = 0 → tryInvert (q.q (q.size - 1)).value t.value = .ok (some r.invQLastModT)
  n_eq : r.n = n
  k_eq : r.k = Nat.log2 n
  q_eq : r.baseQ = q
  t_eq : r.t = t
  noT : t.value = 0 → r.baseTGamma = none

theorem c01q_new_inv {n : Nat} {q : RNSBase} {t : Modulus} {aux : List Modulus} {r : RNSTool}
    (h : RNSTool.new n q t aux = .ok r) : c01q_NewInv n q t r := by
  by_cases ht0 : t.value = 0
  swap
  · have hi := c01p_newOK h ht0
    exact ⟨hi.q_pos, hi.q_le, hi.n_pow, hi.n_ge, hi.n_le, hi.invQLastModQ, fun _ => hi.invQLastModT, hi.n_eq, hi.k_eq,
      hi.q_eq, hi.t_eq, fun hc => absurd hc ht0⟩
  unfold RNSTool.new at h
  revert h
  refine c01p_guard_elim fun hqs => ?_
  refine c01p_guard_elim fun hn => ?_
  refine c01p_guard_elim fun hlen => ?_
  refine c01p_bind_elim fun mTilde _ => ?_
  refine c01p_bind_elim fun baseB _ => ?_
  refine c01p_bind_elim fun baseBsk _ => ?_
  refine c01p_bind_elim fun baseBskMt _ => ?_
  refine c01p_ite_pos_elim ht0 (c01p_pure_elim ?_)
  refine c01p_ite_pos_elim ht0 (c01p_pure_elim ?_)
  refine c01p_bind_elim fun qToBsk _ => ?_
  refine c01p_bind_elim fun bMt _ => ?_
  refine c01p_bind_elim fun qToMt _ => ?_
  refine c01p_bind_elim fun bToQ _ => ?_
  refine c01p_bind_elim fun bMsk _ => ?_
  refine c01p_bind_elim fun bToMsk _ => ?_
  refine c01p_pure_elim ?_
  refine c01p_bind_elim fun prodBModQ _ => ?_
  refine c01p_bind_elim fun invProdQModBsk _ => ?_
  refine c01p_bind_elim fun tb _ => ?_
  refine c01p_bind_elim fun invProdBModMsk _ => ?_
  refine c01p_bind_elim fun invMtModBsk _ => ?_
  refine c01p_bind_elim fun tq _ => ?_
  refine c01p_bind_elim fun otq _ => ?_
  cases otq with
  | none => exact fun h => nomatch h
  | some ivq =>
  refine c01p_bind_elim fun ngq _ => ?_
  refine c01p_bind_elim fun negInvProdQModMt _ => ?_
  refine c01p_bind_elim fun prodQModBsk _ => ?_
  refine c01p_pure_elim ?_
  refine c01p_bind_elim fun iql hiql => ?_
  refine c01p_ite_pos_elim ht0 (c01p_pure_elim ?_)
  intro h
  injection h with h
  subst h
  obtain ⟨p1, p2, p3⟩ := c01q_pow2_facts hn
  exact ⟨by omega, by omega, p1, p2, p3, hiql, fun hc => absurd ht0 hc, rfl, rfl, rfl, rfl, fun _ => rfl⟩

/-! ## the hypothesis bundles from the model's constructors -/

theorem c01q_base_of_new {ms : List Modulus} {b : RNSBase} (h : RNSBase.new ms = .ok b) : b.base = ms.toArray := by
  unfold RNSBase.new at h
  revert h
  refine c01p_guard_elim fun _ => ?_
  refine c01p_guard_elim fun _ => ?_
  refine c01p_guard_elim fun _ => ?_
  by_cases h1 : ms.length = 1
  · refine c01p_ite_pos_elim h1 (c01p_bind_elim fun one _ h => ?_)
    injection h with h
    rw [← h]
  · refine c01p_ite_neg_elim h1 (c01p_bind_elim fun inv _ h => ?_)
    injection h with h
    rw [← h]

theorem c01q_levelQ_of_toolOK {l : Level} (h : c05u_ToolOK l) : c07s_LevelQ l := ⟨h.bwf, h.base⟩

theorem c01q_levelQ_of_decOK {l : Level} (h : DecOK l) : c07s_LevelQ l := ⟨h.tool.qwf, h.base_eq⟩

theorem c01q_toolOK_of_new {l : Level} {q : RNSBase} {aux : List Modulus} (hm : ∀ m ∈ l.qs.toList, m.WF)
    (hq : RNSBase.new l.qs.toList = .ok q) (h : RNSTool.new l.n q l.t aux = .ok l.tool) : c05u_ToolOK l := by
  have hi := c01q_new_inv h
  have h64 := hi.q_le
  have hb0 : q.base = l.qs := c01q_base_of_new hq
  have hsz : q.size = l.size := by unfold RNSBase.size Level.size; rw [hb0]
  have hlen : l.qs.toList.length ≤ 64 := by rw [Array.length_toList]; show l.size ≤ 64; omega
  obtain ⟨hqwf, _⟩ := RNSBase.new_wf hm hlen hq
  have hqq : ∀ i, q.q i = l.q i := fun i => by unfold RNSBase.q Level.q; rw [hb0]; rfl
  refine ⟨by rw [hi.q_eq]; exact hqwf, by rw [hi.q_eq]; exact hb0, hi.n_eq, fun i hi' => ?_⟩
  have hi1 : i < q.size - 1 := by rw [hsz]; exact hi'
  have hstep := c01p_mapM_getD hi.invQLastModQ 0 default (i := i) (by rw [List.length_range]; exact hi1)
  rw [show (List.range (q.size - 1)).getD i 0 = i by simp [List.getD, hi1]] at hstep
  have := (hqwf.mwf (q.size - 1) (by omega)).lt
  rw [← hqq i, ← hqq (l.size - 1), ← hsz]
  exact c01p_invOf_spec (hqwf.mwf i (by omega)) (by omega : (q.q (q.size - 1)).value < 2^63) hstep

/-- `c05u_BgvOK` from `RNSBase.new` + `RNSTool.new` (plain modulus well formed, i.e. t ≠ 0) -/
theorem c01q_bgvOK_of_new {l : Level} {q : RNSBase} {aux : List Modulus} (hm : ∀ m ∈ l.qs.toList, m.WF) (ht : l.t.WF)
    (hq : RNSBase.new l.qs.toList = .ok q) (h : RNSTool.new l.n q l.t aux = .ok l.tool) : c05u_BgvOK l := by
  have hT := c01q_toolOK_of_new hm hq h
  have hi := c01q_new_inv h
  have h1 : 1 ≤ l.size := by rw [← c05u_size hT, hi.q_eq]; exact hi.q_pos
  have hml := c05u_qwf hT (i := l.size - 1) (by omega)
  have := hml.lt
  have hinvt := hi.invQLastModT (by have := ht.two_le; omega)
  rw [← hi.q_eq, c05u_q hT, c05u_size hT] at hinvt
  obtain ⟨w1, w2⟩ := tryInvert_some ht.two_le ht.lt (by omega : (l.q (l.size - 1)).value < 2^63) hinvt
  exact ⟨hi.t_eq, ht, w1, w2⟩

theorem c01q_keyLevelWF_of_new {kl : KeyLevel} {k : Nat} (hn : kl.n = 2^k) (hk : k ≤ 60) (hsz : kl.tables.size = kl.ms.size)
    (hm : ∀ i, i < kl.ms.size → (kl.m i).WF)
    (ht : ∀ i, i < kl.ms.size → ∃ pr root0, root0 < 2^64 ∧ NTTTables.new k (kl.m i) pr root0 = .ok (kl.tb i)) : kl.WF := by
  refine ⟨hsz, fun i hi => ?_⟩
  obtain ⟨pr, root0, hr, hnew⟩ := ht i hi
  obtain ⟨h1, h2, h3, _⟩ := NTTTables.new_wf_u64 (hm i hi) hk hr hnew
  exact ⟨h1, h3, by rw [h2, hn]⟩

/-- a level all of whose parts were produced by the model's constructors -/
structure c01q_Built (l : Level) : Prop where
  npow : l.n = 2^l.k
  klt : l.k ≤ 60
  tsz : l.tables.size = l.qs.size
  mwf : ∀ m ∈ l.qs.toList, m.WF
  tbl : ∀ i, i < l.size → ∃ pr root0, root0 < 2^64 ∧ NTTTables.new l.k (l.q i) pr root0 = .ok (l.tbl i)
  tool : ∃ q aux, (∀ m ∈ aux, m.WF) ∧ RNSBase.new l.qs.toList = .ok q ∧ RNSTool.new l.n q l.t aux = .ok l.tool

theorem c01q_q_mem {l : Level} {i : Nat} (hi : i < l.size) : l.q i ∈ l.qs.toList := by
  have hi' : i < l.qs.size := hi
  have e : l.q i = l.qs.toList[i]'(by simpa using hi') := by
    simp [Level.q, Array.getD, hi']
  rw [e]
  exact List.getElem_mem _

theorem c01q_built_size_le {l : Level} (h : c01q_Built l) : l.qs.size ≤ 64 := by
  obtain ⟨q, aux, _, hq, hnew⟩ := h.tool
  have h64 := (c01q_new_inv hnew).q_le
  have hb0 : q.base = l.qs := c01q_base_of_new hq
  have hsz : q.size = l.qs.size := by unfold RNSBase.size; rw [hb0]
  omega

/-- every hypothesis bundle of the end-to-end theorems holds for a level built by the constructors -/
theorem c01q_built_all {l : Level} (h : c01q_Built l) :
    l.WF ∧ c07s_LevelQ l ∧ c05u_ToolOK l ∧ (l.t.WF → DecOK l ∧ c05u_BgvOK l) := by
  obtain ⟨q, aux, haux, hq, hnew⟩ := h.tool
  have hT := c01q_toolOK_of_new h.mwf hq hnew
  refine ⟨c01p_levelWF_of_new h.npow h.klt h.tsz (fun i hi => h.mwf _ (c01q_q_mem hi)) h.tbl,
    c01q_levelQ_of_toolOK hT, hT, fun ht => ⟨?_, c01q_bgvOK_of_new h.mwf ht hq hnew⟩⟩
  exact c01p_decOK_of_new h.mwf (c01q_built_size_le h) ht haux hq hnew

/-! ## the driver's level constructor `Drv.Sch.mkLevel` -/

theorem c01q_powGo_lt {q : Nat} (hq : 0 < q) (f b e acc : Nat) (ha : acc < q) : powModNat.go q f b e acc < q := by
  induction f generalizing b e acc with
  | zero => exact ha
  | succ f ih =>
    unfold powModNat.go
    split
    · exact ha
    · apply ih
      split
      · exact Nat.mod_lt _ hq
      · exact ha

theorem c01q_powMod_lt {q : Nat} (hq : 0 < q) (x e : Nat) : Spec.powMod x e q < q := by
  unfold Spec.powMod powModNat
  exact c01q_powGo_lt hq _ _ _ _ (Nat.mod_lt _ hq)

/-- the root found by the driver's deterministic search is reduced modulo q -/
theorem c01q_root_lt {n q g : Nat} (h : Spec.somePrimitiveRoot n q = some g) : 2 ≤ q ∧ g < q ∧ (q - 1) % (2*n) = 0 := by
  unfold Spec.somePrimitiveRoot at h
  split at h
  · cases h
  rename_i hc
  have hq2 : 2 ≤ q := by omega
  refine ⟨hq2, ?_, by omega⟩
  obtain ⟨c, _, hc2⟩ := List.exists_of_findSome?_eq_some h
  dsimp only at hc2
  split at hc2
  · injection hc2 with hc2
    rw [← hc2]
    exact c01q_powMod_lt (by omega) _ _
  · cases hc2

theorem c01q_mkTables_inv {k q : Nat} {T : NTTTables} (h : Drv.C09.mkTables k q = .ok T) :
    ∃ m g, Modulus.mk? q = .ok m ∧ 2 ≤ q ∧ g < q ∧ (q - 1) % (2 * 2^k) = 0 ∧
      NTTTables.new k m (Spec.isPrimeMR q) g = .ok T := by
  unfold Drv.C09.mkTables at h
  obtain ⟨m, hm, h1⟩ := R.bind_eq_ok.mp h
  split at h1
  · cases h1
  · rename_i g hg
    obtain ⟨h2, h3, h4⟩ := c01q_root_lt hg
    exact ⟨m, g, hm, h2, h3, h4, h1⟩

theorem c01q_getPrimesGo' (P : Nat → Prop) (factor lower : Nat) (hP : ∀ v, lower < v → P v) (f v c : Nat) (acc : List Nat)
    (ha : ∀ x ∈ acc, P x) : ∀ x ∈ Spec.getPrimes.go factor lower f v c acc, P x := by
  induction f generalizing v c acc with
  | zero => unfold Spec.getPrimes.go; simpa using ha
  | succ f ih =>
    unfold Spec.getPrimes.go
    split
    · simpa using ha
    · rename_i hc
      split
      · apply ih
        intro x hx
        rcases List.mem_cons.mp hx with rfl | hx
        · exact hP _ (by omega)
        · exact ha x hx
      · exact ih _ _ _ ha

theorem c01q_getPrimes_gt {factor bits count x : Nat} (hx : x ∈ Spec.getPrimes factor bits count) : 2^(bits-1) < x :=
  c01q_getPrimesGo' (fun v => 2^(bits-1) < v) factor (2^(bits-1)) (fun _ h => h) 200000 _ count [] (by simp) x hx

theorem c01q_getPrimes_ne_zero {factor bits count x : Nat} (hx : x ∈ Spec.getPrimes factor bits count) : x ≠ 0 :=
  Nat.ne_of_gt (Nat.zero_lt_of_lt (c01q_getPrimes_gt hx))

theorem c01q_pow2_log {n : Nat} (h : isPow2 n = true) : n = 2^(Nat.log2 n) := by
  unfold isPow2 at h
  have h' : n ≠ 0 ∧ n &&& (n - 1) = 0 := by simpa using h
  obtain ⟨k, hk⟩ := Nat.ne_zero_and_sub_one_eq_zero_iff_isPowerOfTwo.mp h'
  rw [hk, Nat.log2_two_pow]

theorem c01q_log_le {n : Nat} (h : n = 2^(Nat.log2 n)) (hn : n ≤ 131072) : Nat.log2 n ≤ 60 := by
  by_contra hc
  have : 2^61 ≤ 2^(Nat.log2 n) := Nat.pow_le_pow_right (by norm_num) (by omega)
  have h2 : (2:Nat)^61 = 2305843009213693952 := by norm_num
  omega

theorem c01q_mkLevel_inv {scheme : Scheme} {n : Nat} {qs : List Nat} {t : Nat} {l : Level}
    (h : Drv.Sch.mkLevel scheme n qs t = .ok l) :
    ∃ ms tm tbl q aux tool,
      qs.mapM Modulus.mk? = .ok ms ∧ Modulus.mk? t = .ok tm ∧ qs.mapM (fun q => Drv.C09.mkTables (Nat.log2 n) q) = .ok tbl ∧
      RNSBase.new ms = .ok q ∧ (Spec.getPrimes (2*n) 61 (q.size + 4)).mapM Modulus.mk? = .ok aux ∧
      RNSTool.new n q tm aux = .ok tool ∧ l = ⟨scheme, n, Nat.log2 n, ms.toArray, tm, tbl.toArray, tool⟩ := by
  unfold Drv.Sch.mkLevel at h
  dsimp only at h
  obtain ⟨ms, hms, h1⟩ := R.bind_eq_ok.mp h; clear h
  obtain ⟨tm, htm, h⟩ := R.bind_eq_ok.mp h1; clear h1
  obtain ⟨tb, htb, h1⟩ := R.bind_eq_ok.mp h; clear h
  obtain ⟨tool, htool, h⟩ := R.bind_eq_ok.mp h1; clear h1
  unfold Drv.C10.mkTablesAll at htb
  obtain ⟨tbl, htbl, h2⟩ := R.bind_eq_ok.mp htb
  unfold Drv.C10.mkTool Drv.C10.mkBase at htool
  obtain ⟨q, hq, h3⟩ := R.bind_eq_ok.mp htool
  obtain ⟨ms', hms', hq'⟩ := R.bind_eq_ok.mp hq
  obtain ⟨tm', htm', h4⟩ := R.bind_eq_ok.mp h3
  obtain ⟨aux, haux, h5⟩ := R.bind_eq_ok.mp h4
  unfold Drv.C10.mkMods at hms hms'
  unfold Drv.C10.auxPrimes Drv.C10.mkMods at haux
  rw [hms] at hms'
  injection hms' with hms'
  subst hms'
  rw [htm] at htm'
  injection htm' with htm'
  subst htm'
  injection h2 with h2
  injection h with h
  subst h2
  exact ⟨ms, tm, tbl, q, aux, tool, hms, htm, htbl, hq', haux, h5, h.symm⟩

theorem c01q_forall2_left {α β : Type} {R : α → β → Prop} {as : List α} {bs : List β} (h : List.Forall₂ R as bs)
    {a : α} (ha : a ∈ as) : ∃ b ∈ bs, R a b := by
  induction h with
  | nil => cases ha
  | cons hab _ ih =>
    rcases List.mem_cons.mp ha with rfl | ha
    · exact ⟨_, by simp, hab⟩
    · obtain ⟨b, hb, hr⟩ := ih ha
      exact ⟨b, by simp [hb], hr⟩

theorem c01q_forall2_map {α β : Type} {R : α → β → Prop} {as : List α} {bs : List β} (h : List.Forall₂ R as bs)
    (f : β → α) (hf : ∀ a b, R a b → f b = a) : bs.map f = as := by
  induction h with
  | nil => rfl
  | cons hab _ ih => rw [List.map_cons, ih, hf _ _ hab]

theorem c01q_mk_value {v : Nat} {m : Modulus} (h : Modulus.mk? v = .ok m) : m.value = v := by
  by_cases hv : v = 0
  · subst hv
    unfold Modulus.mk? at h
    rw [if_pos rfl] at h
    injection h with h
    rw [← h]
  · exact (Modulus.mk?_wf h hv).2

/-- what a successful `Drv.Sch.mkLevel scheme n qs t` establishes: the bundles of the result, its fields in terms of the inputs, the margin on
    the auxiliary prime γ, and the conditions the inputs must have met (contrapositive = refusals of `mkLevel`) -/
structure MkLevel (scheme : Scheme) (n : Nat) (qs : List Nat) (t : Nat) (l : Level) : Prop where
  built : c01q_Built l
  wf : l.WF
  lq : c07s_LevelQ l
  tool : c05u_ToolOK l
  dec : t ≠ 0 → DecOK l
  bgv : t ≠ 0 → c05u_BgvOK l
  t_wf : t ≠ 0 → l.t.WF
  gamma : t ≠ 0 → 2^60 < l.tool.gamma.value
  scheme_eq : l.scheme = scheme
  n_eq : l.n = n
  k_eq : l.k = Nat.log2 n
  qvals : c01p_qvals l = qs
  t_eq : l.t.value = t
  n_pow : isPow2 n = true
  n_ge : 2 ≤ n
  n_le : n ≤ 131072
  qs_pos : 1 ≤ qs.length
  qs_le : qs.length ≤ 64
  t_lt : t < 2^61
  t_ne_one : t ≠ 1
  q_ok : ∀ v ∈ qs, 2 ≤ v ∧ v < 2^61 ∧ (v - 1) % (2*n) = 0 ∧ Spec.isPrimeMR v = true

theorem mkLevel_facts {scheme : Scheme} {n : Nat} {qs : List Nat} {t : Nat} {l : Level}
    (h : Drv.Sch.mkLevel scheme n qs t = .ok l) : MkLevel scheme n qs t l := by
  obtain ⟨ms, tm, tbl, q, aux, tool, hms, htm, htbl, hq, haux, hnew, rfl⟩ := c01q_mkLevel_inv h
  have hF1 := RNSH.mapM_ok_inv _ _ _ hms
  have hF2 := RNSH.mapM_ok_inv _ _ _ htbl
  have hi := c01q_new_inv hnew
  have hnpow := c01q_pow2_log hi.n_pow
  have hk60 := c01q_log_le hnpow hi.n_le
  have hl1 := hF1.length_eq
  have hl2 := hF2.length_eq
  have hb0 : q.base = ms.toArray := c01q_base_of_new hq
  have hsz : q.size = ms.length := by unfold RNSBase.size; rw [hb0]; simp
  have h1 := hi.q_pos
  have h64 := hi.q_le
  -- the inputs: every modulus passed `Modulus.mk?` and `mkTables`
  have hqok : ∀ v ∈ qs, 2 ≤ v ∧ v < 2^61 ∧ (v - 1) % (2*n) = 0 ∧ Spec.isPrimeMR v = true := by
    intro v hv
    obtain ⟨T, _, hT⟩ := c01q_forall2_left hF2 hv
    obtain ⟨m, g, hm, h2, hg, hdiv, hnewT⟩ := c01q_mkTables_inv hT
    have hw := Modulus.mk?_wf hm (by omega)
    have hlt := hw.1.lt
    rw [hw.2] at hlt
    obtain ⟨_, _, _, hpr⟩ := NTTTables.new_wf_u64 hw.1 hk60 (by omega : g < 2^64) hnewT
    rw [← hnpow] at hdiv
    exact ⟨h2, hlt, hdiv, hpr⟩
  have hmwf : ∀ m ∈ ms, m.WF := by
    intro m hm
    obtain ⟨v, hv, hvm⟩ := R.mapM_mem hms m hm
    have := (hqok v hv).1
    exact (Modulus.mk?_wf hvm (by omega)).1
  have hauxwf : ∀ m ∈ aux, m.WF := by
    intro m hm
    obtain ⟨v, hv, hvm⟩ := R.mapM_mem haux m hm
    exact (Modulus.mk?_wf hvm (c01q_getPrimes_ne_zero hv)).1
  have htv := c01q_mk_value htm
  have htwf : t ≠ 0 → tm.WF := fun ht0 => (Modulus.mk?_wf htm ht0).1
  have ht : t < 2^61 ∧ t ≠ 1 := by
    by_cases ht0 : t = 0
    · subst ht0; exact ⟨by norm_num, by omega⟩
    · have hw := htwf ht0
      have h2 := hw.two_le
      have h61 := hw.lt
      rw [htv] at h2 h61
      exact ⟨h61, by omega⟩
  -- the auxiliary prime γ is the second of the 61-bit primes the driver searches
  have hgam : t ≠ 0 → 2^60 < tool.gamma.value := by
    intro ht0
    have hn := c01p_newOK hnew (by rw [htv]; exact ht0)
    have hlen := hn.len
    obtain ⟨v, hv1, hv2⟩ := R.mapM_mem haux _ (list_getD_mem (l := aux) default (Nat.lt_of_lt_of_le (Nat.lt_add_left _ Nat.one_lt_two) hlen))
    rw [hn.gamma_eq, c01q_mk_value hv2]
    exact c01q_getPrimes_gt hv1
  have hb : c01q_Built ⟨scheme, n, Nat.log2 n, ms.toArray, tm, tbl.toArray, tool⟩ := by
    refine ⟨hnpow, hk60, ?_, hmwf, ?_, ⟨q, aux, hauxwf, hq, hnew⟩⟩
    · show tbl.toArray.size = ms.toArray.size
      simp only [List.size_toArray]
      omega
    · intro i hi
      have hi1 : i < ms.length := by simpa [Level.size] using hi
      have hi0 : i < qs.length := by omega
      have hi2 : i < tbl.length := by omega
      have e1 : (⟨scheme, n, Nat.log2 n, ms.toArray, tm, tbl.toArray, tool⟩ : Level).q i = ms.get ⟨i, hi1⟩ := by
        simp [Level.q, Array.getD, hi1]
      have e2 : (⟨scheme, n, Nat.log2 n, ms.toArray, tm, tbl.toArray, tool⟩ : Level).tbl i = tbl.get ⟨i, hi2⟩ := by
        simp [Level.tbl, Array.getD, hi2]
      rw [e1, e2]
      have s1 := List.Forall₂.get hF1 hi0 hi1
      have s2 := List.Forall₂.get hF2 hi0 hi2
      obtain ⟨m, g, hm, _, hg, _, hT⟩ := c01q_mkTables_inv s2
      rw [s1] at hm
      injection hm with hm
      subst hm
      have hw := hmwf _ (List.get_mem ms ⟨i, hi1⟩)
      have hv := c01q_mk_value s1
      have := hw.lt
      exact ⟨_, g, by omega, hT⟩
  obtain ⟨a1, a2, a3, a4⟩ := c01q_built_all hb
  exact {
    built := hb, wf := a1, lq := a2, tool := a3, dec := fun h0 => (a4 (htwf h0)).1, bgv := fun h0 => (a4 (htwf h0)).2, t_wf := htwf,
    gamma := hgam, scheme_eq := rfl, n_eq := rfl, k_eq := rfl, qvals := c01q_forall2_map hF1 _ (fun a b hab => c01q_mk_value hab),
    t_eq := htv, n_pow := hi.n_pow, n_ge := hi.n_ge, n_le := hi.n_le, qs_pos := by rw [hl1, ← hsz]; exact h1,
    qs_le := by rw [hl1, ← hsz]; exact h64, t_lt := ht.1, t_ne_one := ht.2, q_ok := hqok }

/-! ## Property theorems -/

/-- CKKS, ANY size ≥ 2, NTT form: the model's `ckksDecrypt` returns exactly the NTT form of the exact phase
    `Spec.phase` (of the coefficient forms of the input) reduced modulo every q_i — the expression the driver's oracle evaluates.
    Needs no plain-modulus constants: only `Level.WF` and `c07s_LevelQ`. -/
theorem ckksDecrypt_eq_spec {l : Level} (hl : l.WF) (hq : c07s_LevelQ l) {sk : Array Int} (hsk : sk.size = l.n)
    {polys : Array RnsPoly} (h2 : 2 ≤ polys.size) (hc : ∀ k, k < polys.size → RnsCanon l (polys.getD k #[])) (cf : Nat) :
    ckksDecrypt l sk ⟨polys, true, cf⟩ = .ok (c01q_ckksSpec l sk polys.toList) := by
  unfold ckksDecrypt
  rw [if_neg (by simp)]
  exact (c01q_ckks_value hl hq hsk h2 hc cf).1

/-- CKKS, component form: the result is canonical, and the inverse transform of component i is the exact phase modulo q_i;
    the exact phase is the centred lift (all coefficients in (-Q/2, Q/2]) -/
theorem ckksDecrypt_intt_eq_phase {l : Level} (hl : l.WF) (hq : c07s_LevelQ l) {sk : Array Int} (hsk : sk.size = l.n)
    {polys : Array RnsPoly} (h2 : 2 ≤ polys.size) (hc : ∀ k, k < polys.size → RnsCanon l (polys.getD k #[])) (cf : Nat) :
    ∃ ph, ckksDecrypt l sk ⟨polys, true, cf⟩ = .ok ph ∧ RnsCanon l ph ∧
      (∀ i, i < l.size → ∀ j, j < l.n →
        (intt (l.tbl i) (ph.getD i #[])).getD j 0 =
          Spec.imod ((Spec.phase (c01p_qvals l) l.n sk (polys.toList.map (rnsIntt l))).getD j 0) (l.q i).value) ∧
      (∀ j, j < l.n →
        - (Spec.prodL (c01p_qvals l) : Int) < 2 * (Spec.phase (c01p_qvals l) l.n sk (polys.toList.map (rnsIntt l))).getD j 0 ∧
        2 * (Spec.phase (c01p_qvals l) l.n sk (polys.toList.map (rnsIntt l))).getD j 0 ≤ (Spec.prodL (c01p_qvals l) : Int)) := by
  obtain ⟨ph, hdot, hcan, hv⟩ := c01q_ckks_comp hl hq hsk h2 hc cf
  refine ⟨ph, ?_, hcan, fun i hi j hj => ?_, fun j hj => ?_⟩
  · unfold ckksDecrypt
    rw [if_neg (by simp)]
    exact hdot
  · rw [hv i hi, array_getD_map _ _ (0 : Int) (0 : Nat) (by rw [c01p_phase_size]; exact hj)]
  · exact c01p_phase_centred _ _ _ _ (by rw [hq.prodL]; exact hq.bwf.prod_pos) hj

/-- CKKS decryption refuses coefficient-form ciphertexts -/
theorem ckksDecrypt_refuses_coeff (l : Level) (sk : Array Int) (ct : Ct) (h : ct.ntt = false) :
    ckksDecrypt l sk ct = .error .refused := by
  unfold ckksDecrypt
  rw [if_pos (by rw [h]; rfl)]

/-- CKKS decryption refuses ciphertexts with fewer than two polynomials -/
theorem ckksDecrypt_refuses_small (l : Level) (sk : Array Int) (ct : Ct) (h : ct.polys.size < 2) :
    ckksDecrypt l sk ct = .error .refused := by
  unfold ckksDecrypt
  split
  · rfl
  · unfold dotProductCtSk
    simp only [bind, Except.bind]
    rw [if_pos h]


theorem c01q_levelQ_of_new {l : Level} (hl : l.WF) (h64 : l.qs.size ≤ 64) (h : RNSBase.new l.qs.toList = .ok l.tool.baseQ) :
    c07s_LevelQ l := c07s_levelQ_of_new hl h64 h

/-- all bundles at once, from `RNSBase.new`, `RNSTool.new`, `NTTTables.new` (bundle `c01q_Built` = literally these calls) -/
theorem level_bundles_of_constructors {l : Level} (h : c01q_Built l) :
    l.WF ∧ c07s_LevelQ l ∧ c05u_ToolOK l ∧ (l.t.WF → DecOK l ∧ c05u_BgvOK l) := c01q_built_all h

/-- every level returned by the driver's `Drv.Sch.mkLevel` satisfies all hypothesis bundles of the end-to-end theorems —
    with NO hypothesis on the inputs (everything needed is checked by the constructors the driver calls) — and its fields are
    the driver's inputs.  The plain-modulus bundles (`DecOK`, `c05u_BgvOK`) need t ≠ 0 (for t = 0, the CKKS case, the tool has
    no such constants: see `mkLevel_t0`). -/
theorem mkLevel_ok {scheme : Scheme} {n : Nat} {qs : List Nat} {t : Nat} {l : Level}
    (h : Drv.Sch.mkLevel scheme n qs t = .ok l) :
    l.WF ∧ c07s_LevelQ l ∧ c05u_ToolOK l ∧ (t ≠ 0 → DecOK l ∧ c05u_BgvOK l) ∧
    l.scheme = scheme ∧ l.n = n ∧ l.k = Nat.log2 n ∧ c01p_qvals l = qs ∧ l.t.value = t :=
  have m := mkLevel_facts h
  ⟨m.wf, m.lq, m.tool, fun ht => ⟨m.dec ht, m.bgv ht⟩, m.scheme_eq, m.n_eq, m.k_eq, m.qvals, m.t_eq⟩

/-- with t = 0 the tool carries no plain-modulus constants, and BFV decryption at such a level refuses -/
theorem mkLevel_t0 {scheme : Scheme} {n : Nat} {qs : List Nat} {l : Level}
    (h : Drv.Sch.mkLevel scheme n qs 0 = .ok l) : l.tool.baseTGamma = none ∧ ¬ DecOK l := by
  obtain ⟨ms, tm, tbl, q, aux, tool, _, htm, _, _, _, hnew, rfl⟩ := c01q_mkLevel_inv h
  have hv := c01q_mk_value htm
  have hnone := (c01q_new_inv hnew).noT
  refine ⟨hnone hv, fun hd => ?_⟩
  obtain ⟨btg, _, _, hs, _⟩ := hd.tool.tg
  rw [hnone hv] at hs
  cases hs

/-- necessary conditions on the inputs (contrapositive = refusals of `mkLevel`): degree a power of two in [2, 2^17],
    between 1 and 64 moduli, each in [2, 2^61), ≡ 1 mod 2n, accepted by the Miller–Rabin test -/
theorem mkLevel_ok_inputs {scheme : Scheme} {n : Nat} {qs : List Nat} {t : Nat} {l : Level}
    (h : Drv.Sch.mkLevel scheme n qs t = .ok l) :
    isPow2 n = true ∧ 2 ≤ n ∧ n ≤ 131072 ∧ 1 ≤ qs.length ∧ qs.length ≤ 64 ∧ t < 2^61 ∧ t ≠ 1 ∧
    ∀ v ∈ qs, 2 ≤ v ∧ v < 2^61 ∧ (v - 1) % (2*n) = 0 ∧ Spec.isPrimeMR v = true :=
  have m := mkLevel_facts h
  ⟨m.n_pow, m.n_ge, m.n_le, m.qs_pos, m.qs_le, m.t_lt, m.t_ne_one, m.q_ok⟩

theorem c01q_coeffPolys_false (l : Level) (polys : Array RnsPoly) (cf : Nat) :
    Drv.Sch.coeffPolys l ⟨polys, false, cf⟩ = polys.toList := by
  unfold Drv.Sch.coeffPolys
  simp

theorem c01q_coeffPolys_true (l : Level) (polys : Array RnsPoly) (cf : Nat) :
    Drv.Sch.coeffPolys l ⟨polys, true, cf⟩ = polys.toList.map (rnsIntt l) := by
  unfold Drv.Sch.coeffPolys
  simp

/-- END TO END on the driver's objects (BFV): for the level the driver builds, the model's decryption equals the expression the
    driver's oracle `exactDec` evaluates (`trim (bfvDecode t (prodL qs) (exactPhase …))`), for every size ≥ 2, under the BEHZ
    γ-condition on the exact phase -/
theorem mkLevel_bfvDecrypt_eq_oracle {scheme : Scheme} {n : Nat} {qs : List Nat} {t : Nat} {l : Level}
    (h : Drv.Sch.mkLevel scheme n qs t = .ok l) (ht : t ≠ 0) {sk : Array Int} (hsk : sk.size = n)
    {polys : Array RnsPoly} (h2 : 2 ≤ polys.size) (hc : ∀ k, k < polys.size → RnsCanon l (polys.getD k #[])) (cf : Nat)
    (hnoise : BehzDecryptOK l (Drv.Sch.exactPhase l qs sk ⟨polys, false, cf⟩)) :
    bfvDecrypt l sk ⟨polys, false, cf⟩ =
      .ok (Spec.trim (Spec.bfvDecode t (Spec.prodL qs) (Drv.Sch.exactPhase l qs sk ⟨polys, false, cf⟩))) := by
  have m := mkLevel_facts h
  unfold Drv.Sch.exactPhase at hnoise ⊢
  rw [c01q_coeffPolys_false, ← m.qvals] at hnoise ⊢
  rw [← m.t_eq]
  exact bfvDecrypt_eq_spec m.wf (m.dec ht) (by rw [m.n_eq]; exact hsk) h2 hc cf hnoise

/-- END TO END on the driver's objects (BGV) -/
theorem mkLevel_bgvDecrypt_eq_oracle {scheme : Scheme} {n : Nat} {qs : List Nat} {t : Nat} {l : Level}
    (h : Drv.Sch.mkLevel scheme n qs t = .ok l) (ht : t ≠ 0) {sk : Array Int} (hsk : sk.size = n)
    {polys : Array RnsPoly} (h2 : 2 ≤ polys.size) (hc : ∀ k, k < polys.size → RnsCanon l (polys.getD k #[]))
    {cf : Nat} (hcf : cf < 2^63) (hcop : Nat.Coprime cf t)
    (htie : ∀ j, j < n → 2 * (Drv.Sch.exactPhase l qs sk ⟨polys, true, cf⟩).getD j 0 ≠ (Spec.prodL qs : Int)) :
    bgvDecrypt l sk ⟨polys, true, cf⟩ =
      .ok (Spec.trim (Spec.bgvDecode t cf (Drv.Sch.exactPhase l qs sk ⟨polys, true, cf⟩))) := by
  have m := mkLevel_facts h
  unfold Drv.Sch.exactPhase at htie ⊢
  rw [c01q_coeffPolys_true, ← m.qvals] at htie ⊢
  rw [← m.t_eq] at hcop ⊢
  refine bgvDecrypt_eq_spec m.wf (m.dec ht) (by rw [m.n_eq]; exact hsk) h2 hc hcf hcop ?_
  intro j hj
  exact htie j (by rw [← m.n_eq]; exact hj)

/-- END TO END on the driver's objects (CKKS, any t): the model returns exactly the oracle's value -/
theorem mkLevel_ckksDecrypt_eq_oracle {scheme : Scheme} {n : Nat} {qs : List Nat} {t : Nat} {l : Level}
    (h : Drv.Sch.mkLevel scheme n qs t = .ok l) {sk : Array Int} (hsk : sk.size = n)
    {polys : Array RnsPoly} (h2 : 2 ≤ polys.size) (hc : ∀ k, k < polys.size → RnsCanon l (polys.getD k #[])) (cf : Nat) :
    ckksDecrypt l sk ⟨polys, true, cf⟩ =
      .ok (Array.ofFn (n := l.size) fun i =>
        ntt (l.tbl i.val) ((Drv.Sch.exactPhase l qs sk ⟨polys, true, cf⟩).map fun x => Spec.imod x (l.q i.val).value)) := by
  have m := mkLevel_facts h
  unfold Drv.Sch.exactPhase
  rw [c01q_coeffPolys_true, ← m.qvals]
  exact ckksDecrypt_eq_spec m.wf m.lq (by rw [m.n_eq]; exact hsk) h2 hc cf

/-! ### the driver's two columns (`modelDec` = model, `exactDec` = oracle) agree -/

/-- BFV: whenever the oracle commits to a value (`bfvSafe`) and the BEHZ γ-condition holds, the two strings the driver
    compares are equal -/
theorem driver_dec_bfv {n : Nat} {qs : List Nat} {t : Nat} {l : Level}
    (h : Drv.Sch.mkLevel .bfv n qs t = .ok l) (ht : t ≠ 0) {sk : Array Int} (hsk : sk.size = n)
    {polys : Array RnsPoly} (h2 : 2 ≤ polys.size) (hc : ∀ k, k < polys.size → RnsCanon l (polys.getD k #[])) (cf : Nat)
    (hnoise : BehzDecryptOK l (Drv.Sch.exactPhase l qs sk ⟨polys, false, cf⟩))
    (hsafe : Drv.Sch.bfvSafe t (Spec.prodL qs) (Drv.Sch.exactPhase l qs sk ⟨polys, false, cf⟩) = true) :
    Drv.Sch.modelDec ⟨.bfv, n, qs, t, sk, ⟨polys, false, cf⟩⟩ = Drv.Sch.exactDec ⟨.bfv, n, qs, t, sk, ⟨polys, false, cf⟩⟩ := by
  unfold Drv.Sch.modelDec Drv.Sch.exactDec
  simp only [h]
  rw [mkLevel_bfvDecrypt_eq_oracle h ht hsk h2 hc cf hnoise, if_neg (by omega), if_neg (by simp), if_pos hsafe]
  rfl

/-- CKKS: the two strings are equal for every canonical NTT-form ciphertext of size ≥ 2 -/
theorem driver_dec_ckks {n : Nat} {qs : List Nat} {t : Nat} {l : Level}
    (h : Drv.Sch.mkLevel .ckks n qs t = .ok l) {sk : Array Int} (hsk : sk.size = n)
    {polys : Array RnsPoly} (h2 : 2 ≤ polys.size) (hc : ∀ k, k < polys.size → RnsCanon l (polys.getD k #[])) (cf : Nat) :
    Drv.Sch.modelDec ⟨.ckks, n, qs, t, sk, ⟨polys, true, cf⟩⟩ = Drv.Sch.exactDec ⟨.ckks, n, qs, t, sk, ⟨polys, true, cf⟩⟩ := by
  unfold Drv.Sch.modelDec Drv.Sch.exactDec
  simp only [h]
  rw [mkLevel_ckksDecrypt_eq_oracle h hsk h2 hc cf, if_neg (by omega), if_neg (by simp)]
  rfl

/-- BGV: whenever the oracle commits to a value, the two strings are equal -/
theorem driver_dec_bgv {n : Nat} {qs : List Nat} {t : Nat} {l : Level}
    (h : Drv.Sch.mkLevel .bgv n qs t = .ok l) (ht : t ≠ 0) {sk : Array Int} (hsk : sk.size = n)
    {polys : Array RnsPoly} (h2 : 2 ≤ polys.size) (hc : ∀ k, k < polys.size → RnsCanon l (polys.getD k #[]))
    {cf : Nat} (hcf : cf < 2^63) (hcop : Nat.Coprime cf t)
    (htie : ∀ j, j < n → 2 * (Drv.Sch.exactPhase l qs sk ⟨polys, true, cf⟩).getD j 0 ≠ (Spec.prodL qs : Int))
    (hsafe : (Drv.Sch.exactPhase l qs sk ⟨polys, true, cf⟩).all
      (fun x => (Spec.prodL qs - 2 * x.natAbs) * 2^40 > Spec.prodL qs) = true) :
    Drv.Sch.modelDec ⟨.bgv, n, qs, t, sk, ⟨polys, true, cf⟩⟩ = Drv.Sch.exactDec ⟨.bgv, n, qs, t, sk, ⟨polys, true, cf⟩⟩ := by
  unfold Drv.Sch.modelDec Drv.Sch.exactDec
  simp only [h]
  rw [mkLevel_bgvDecrypt_eq_oracle h ht hsk h2 hc hcf hcop htie, if_neg (by omega), if_neg (by simp), if_pos hsafe]
  rfl

/-! ### the oracle's safety test implies the BEHZ γ-condition on driver-built levels -/

/-- margin of the oracle = Q - 2|e| with e = a - Q·round(a/Q) -/
theorem c01q_margin {Q : Nat} (hQ : 0 < Q) (a : Int) :
    (Spec.roundMargin a Q : Int) = (Q : Int) - 2 * |a - (Q : Int) * Spec.roundDiv a Q| := by
  unfold Spec.roundMargin Spec.roundDiv
  have h1 := c01j_imod_cast (m := 2 * Q) (2 * a + Q) (by omega)
  have h2 := c01j_imod_lt (m := 2 * Q) (2 * a + Q) (by omega)
  generalize Spec.imod (2 * a + (Q : Int)) (2 * Q) = fr at h1 h2
  have h3 := Int.emod_add_mul_ediv (2 * a + (Q : Int)) (2 * (Q : Int))
  push_cast at h1
  show ((min fr (2 * Q - fr) : Nat) : Int) = _
  generalize (2 * a + (Q : Int)) / (2 * (Q : Int)) = rd at h3 ⊢
  have he : 2 * (a - (Q : Int) * rd) = (fr : Int) - Q := by rw [← h1] at h3; linear_combination (-1 : Int) * h3
  clear h1 h3
  generalize a - (Q : Int) * rd = e at he ⊢
  rw [Int.abs_eq_natAbs]
  omega

theorem c01q_behz_of_margin {l : Level} (hg : 2^60 < l.tool.gamma.value) (hk : l.size ≤ 64)
    (hQ : 0 < Spec.prodL (c01p_qvals l)) {ph : Spec.ZPoly}
    (hm : ∀ j, j < l.n → Spec.roundMargin ((l.t.value : Int) * ph.getD j 0) (Spec.prodL (c01p_qvals l)) * 2^40 >
      2 * Spec.prodL (c01p_qvals l)) : BehzDecryptOK l ph := by
  intro j hj
  have h1 := hm j hj
  have hmar := c01q_margin hQ ((l.t.value : Int) * ph.getD j 0)
  generalize Spec.roundMargin ((l.t.value : Int) * ph.getD j 0) (Spec.prodL (c01p_qvals l)) = M at h1 hmar
  generalize |(l.t.value : Int) * ph.getD j 0 - (Spec.prodL (c01p_qvals l) : Int) *
    Spec.roundDiv ((l.t.value : Int) * ph.getD j 0) (Spec.prodL (c01p_qvals l))| = E at hmar ⊢
  generalize Spec.prodL (c01p_qvals l) = Q at *
  generalize l.tool.gamma.value = γ at *
  generalize l.size = k at *
  -- γ·(Q − 2E) = γ·M ≥ 2^60·M > 2^21·Q ≥ 2kQ
  have p1 : 2^60 * M ≤ γ * M := Nat.mul_le_mul_right _ hg.le
  have p2 : 2 * k * Q ≤ 128 * Q := Nat.mul_le_mul_right _ (by omega)
  have p3 : (γ : Int) * M = γ * Q - 2 * γ * E := by rw [hmar]; ring
  have p1' : ((2^60 * M : Nat) : Int) ≤ (γ : Int) * M := by exact_mod_cast p1
  have p2' : 2 * (k : Int) * Q ≤ ((128 * Q : Nat) : Int) := by exact_mod_cast p2
  rw [Int.mul_comm (Q : Int) γ]
  omega

theorem c01q_behz_of_bfvSafe {l : Level} (hg : 2^60 < l.tool.gamma.value) (hk : l.size ≤ 64)
    (hQ : 0 < Spec.prodL (c01p_qvals l)) {ph : Spec.ZPoly} (hs : ph.size = l.n)
    (hsafe : Drv.Sch.bfvSafe l.t.value (Spec.prodL (c01p_qvals l)) ph = true) : BehzDecryptOK l ph := by
  apply c01q_behz_of_margin hg hk hQ
  intro j hj
  unfold Drv.Sch.bfvSafe at hsafe
  rw [Array.all_eq_true] at hsafe
  have hj' : j < ph.size := by rw [hs]; exact hj
  have := hsafe j hj'
  have e : ph.getD j 0 = ph[j] := by simp [Array.getD, hj']
  rw [e]
  exact of_decide_eq_true this

/-- BFV, the driver's two columns: whenever the oracle commits to a value (`bfvSafe`), the model's output string equals the
    oracle's — for EVERY canonical coefficient-form ciphertext of size ≥ 2, with no further hypothesis (the oracle's safety
    margin 2^-40 implies the BEHZ γ-condition because γ > 2^60 and there are at most 64 moduli) -/
theorem driver_dec_bfv_safe {n : Nat} {qs : List Nat} {t : Nat} {l : Level}
    (h : Drv.Sch.mkLevel .bfv n qs t = .ok l) (ht : t ≠ 0) {sk : Array Int} (hsk : sk.size = n)
    {polys : Array RnsPoly} (h2 : 2 ≤ polys.size) (hc : ∀ k, k < polys.size → RnsCanon l (polys.getD k #[])) (cf : Nat)
    (hsafe : Drv.Sch.bfvSafe t (Spec.prodL qs) (Drv.Sch.exactPhase l qs sk ⟨polys, false, cf⟩) = true) :
    Drv.Sch.modelDec ⟨.bfv, n, qs, t, sk, ⟨polys, false, cf⟩⟩ = Drv.Sch.exactDec ⟨.bfv, n, qs, t, sk, ⟨polys, false, cf⟩⟩ := by
  have m := mkLevel_facts h
  refine driver_dec_bfv h ht hsk h2 hc cf ?_ hsafe
  have hQ : 0 < Spec.prodL (c01p_qvals l) := by rw [m.lq.prodL]; exact m.lq.bwf.prod_pos
  rw [← m.qvals, ← m.t_eq] at hsafe
  rw [← m.qvals]
  refine c01q_behz_of_bfvSafe (m.gamma ht) (c01q_built_size_le m.built) hQ ?_ hsafe
  unfold Drv.Sch.exactPhase
  rw [c01q_coeffPolys_false]
  exact c01p_phase_size _ _ _ _

/-- BGV, the driver's two columns: whenever the oracle commits to a value, the model's output string equals the oracle's
    (the oracle's test excludes ties) -/
theorem driver_dec_bgv_safe {n : Nat} {qs : List Nat} {t : Nat} {l : Level}
    (h : Drv.Sch.mkLevel .bgv n qs t = .ok l) (ht : t ≠ 0) {sk : Array Int} (hsk : sk.size = n)
    {polys : Array RnsPoly} (h2 : 2 ≤ polys.size) (hc : ∀ k, k < polys.size → RnsCanon l (polys.getD k #[]))
    {cf : Nat} (hcf : cf < 2^63) (hcop : Nat.Coprime cf t)
    (hsafe : (Drv.Sch.exactPhase l qs sk ⟨polys, true, cf⟩).all
      (fun x => (Spec.prodL qs - 2 * x.natAbs) * 2^40 > Spec.prodL qs) = true) :
    Drv.Sch.modelDec ⟨.bgv, n, qs, t, sk, ⟨polys, true, cf⟩⟩ = Drv.Sch.exactDec ⟨.bgv, n, qs, t, sk, ⟨polys, true, cf⟩⟩ := by
  refine driver_dec_bgv h ht hsk h2 hc hcf hcop ?_ hsafe
  intro j hj
  have hsz : (Drv.Sch.exactPhase l qs sk ⟨polys, true, cf⟩).size = l.n := c01p_phase_size _ _ _ _
  rw [Array.all_eq_true] at hsafe
  have hj' : j < (Drv.Sch.exactPhase l qs sk ⟨polys, true, cf⟩).size := by rw [hsz, (mkLevel_facts h).n_eq]; exact hj
  have h1 := of_decide_eq_true (hsafe j hj')
  have e : (Drv.Sch.exactPhase l qs sk ⟨polys, true, cf⟩).getD j 0 = (Drv.Sch.exactPhase l qs sk ⟨polys, true, cf⟩)[j] := by
    simp [Array.getD, hj']
  rw [e]
  generalize (Drv.Sch.exactPhase l qs sk ⟨polys, true, cf⟩)[j] = x at h1 ⊢
  generalize Spec.prodL qs = Q at h1 ⊢
  have h3 : 0 < Q - 2 * x.natAbs := by
    by_contra hc0
    have : Q - 2 * x.natAbs = 0 := by omega
    rw [this] at h1
    omega
  omega

/-! ### from a bound on the noise of an exact phase to the model's decryption (BFV: the BEHZ condition; BGV: no wrap-around) -/

theorem c04r_sigWords_zero (l : List Nat) : ∀ j, sigWords l ≤ j → l[j]?.getD 0 = 0 := by
  induction l using List.reverseRecOn with
  | nil => intro j _; simp
  | append_singleton l x ih =>
    intro j hj
    unfold sigWords at hj ih
    rw [List.reverse_append, List.reverse_singleton, List.singleton_append, List.dropWhile_cons] at hj
    by_cases hx : x = 0
    · simp only [hx, decide_true, if_true] at hj
      by_cases hjl : j < l.length
      · rw [List.getElem?_append_left hjl]; exact ih j hj
      · rw [List.getElem?_append_right (by omega)]
        subst hx
        cases h : j - l.length <;> simp
    · simp only [hx, decide_false] at hj
      simp at hj
      rw [List.getElem?_eq_none (by simp; omega)]
      rfl

theorem c04r_trim_getD (p : Array Nat) (j : Nat) : (trimPlain p).getD j 0 = p.getD j 0 := by
  unfold trimPlain
  rw [Array.getD_eq_getD_getElem?, Array.getD_eq_getD_getElem?, Array.getElem?_extract, Nat.zero_add]
  split
  · rfl
  · by_cases hp : j < p.size
    · have := c04r_sigWords_zero p.toList j (by omega)
      rw [Array.getElem?_toList] at this
      exact this.symm
    · rw [Array.getElem?_eq_none (by omega)]

theorem c04r_t_pos {l : Level} (hd : DecOK l) : 0 < l.t.value := by
  have := hd.tool.twf.two_le
  rw [hd.t_eq] at this
  omega

/-- the BFV noise of a phase coefficient: e = t·x − Q·round(t·x/Q) (the quantity bounded by `BehzDecryptOK`) -/
def c04r_bfvNoise (t Q : Nat) (x : Int) : Int := (t : Int) * x - (Q : Int) * Spec.roundDiv ((t : Int) * x) Q

theorem c04r_behz_of_bound {l : Level} {ph : Spec.ZPoly} {B : Nat}
    (hB : ∀ j, j < l.n → (c04r_bfvNoise l.t.value (Spec.prodL (c01p_qvals l)) (ph.getD j 0)).natAbs ≤ B)
    (hm : 2 * l.tool.gamma.value * B + 2 * l.size * Spec.prodL (c01p_qvals l) ≤ Spec.prodL (c01p_qvals l) * l.tool.gamma.value) :
    BehzDecryptOK l ph := by
  intro j hj
  have h1 := hB j hj
  unfold c04r_bfvNoise at h1
  generalize (l.t.value : Int) * ph.getD j 0 - (Spec.prodL (c01p_qvals l) : Int) *
    Spec.roundDiv ((l.t.value : Int) * ph.getD j 0) (Spec.prodL (c01p_qvals l)) = X at h1 ⊢
  have h2 : |X| ≤ (B : Int) := by rw [Int.abs_eq_natAbs]; exact_mod_cast h1
  have h3 : 2 * (l.tool.gamma.value : Int) * |X| ≤ 2 * (l.tool.gamma.value : Int) * B :=
    mul_le_mul_of_nonneg_left h2 (by positivity)
  have h4 : (2 * (l.tool.gamma.value : Int) * B + 2 * (l.size : Int) * (Spec.prodL (c01p_qvals l) : Int))
      ≤ (Spec.prodL (c01p_qvals l) : Int) * (l.tool.gamma.value : Int) := by exact_mod_cast hm
  exact le_trans (Int.add_le_add_right h3 _) h4

theorem c04r_lt_of_margin {γ B k Q : Nat} (hk : 0 < k) (hQ : 0 < Q) (hm : 2 * γ * B + 2 * k * Q ≤ Q * γ) :
    2 * B < Q := by
  have h1 : 0 < 2 * k * Q := by positivity
  have h2 : γ * (2 * B) < γ * Q := by
    have : γ * (2 * B) = 2 * γ * B := by ring
    have : γ * Q = Q * γ := by ring
    omega
  exact Nat.lt_of_mul_lt_mul_left h2

theorem c04r_bfv_decrypts {l : Level} (hl : l.WF) (hd : DecOK l) {sk : Array Int} (hsk : sk.size = l.n)
    {polys : Array RnsPoly} (h2 : polys.size = 2) (hc : ∀ k, k < 2 → RnsCanon l (polys.getD k #[])) (cf : Nat) {E : Nat}
    (hE : ∀ c, c < l.n → (c04r_bfvNoise l.t.value (Spec.prodL (c01p_qvals l))
      ((Spec.phase (c01p_qvals l) l.n sk polys.toList).getD c 0)).natAbs ≤ E)
    (hm : 2 * l.tool.gamma.value * E + 2 * l.size * Spec.prodL (c01p_qvals l) ≤ Spec.prodL (c01p_qvals l) * l.tool.gamma.value) :
    (Spec.phase (c01p_qvals l) l.n sk polys.toList).size = l.n ∧
    ∃ m, bfvDecrypt l sk ⟨polys, false, cf⟩ = .ok m ∧ ∀ c, c < l.n → m.getD c 0 < l.t.value ∧
      m.getD c 0 = (Spec.bfvDecode l.t.value (Spec.prodL (c01p_qvals l)) (Spec.phase (c01p_qvals l) l.n sk polys.toList)).getD c 0 := by
  have hc' : ∀ k, k < polys.size → RnsCanon l (polys.getD k #[]) := fun k hk => hc k (h2 ▸ hk)
  have hps := c01p_phase_size (c01p_qvals l) l.n sk polys.toList
  have ht := c04r_t_pos hd
  refine ⟨hps, _, bfvDecrypt_eq_spec hl hd hsk h2.ge hc' cf (c04r_behz_of_bound hE hm), fun c hc => ?_⟩
  rw [show (Spec.trim _).getD c 0 = _ from c04r_trim_getD _ c, c01p_bfvDecode_getD _ _ _ (by rw [hps]; exact hc)]
  exact ⟨c01j_imod_lt _ ht, rfl⟩

theorem c04r_bgv_decrypts {l : Level} (hl : l.WF) (hd : DecOK l) {sk : Array Int} (hsk : sk.size = l.n)
    {polys : Array RnsPoly} (h2 : polys.size = 2) (hc : ∀ k, k < 2 → RnsCanon l (polys.getD k #[]))
    {cf : Nat} (hcf : cf < 2^63) (hcop : Nat.Coprime cf l.t.value)
    (hX : ∀ c, c < l.n → 2 * ((Spec.phase (c01p_qvals l) l.n sk (polys.toList.map (rnsIntt l))).getD c 0).natAbs
      < Spec.prodL (c01p_qvals l)) :
    ∃ m, bgvDecrypt l sk ⟨polys, true, cf⟩ = .ok m ∧ ∀ c, c < l.n → m.getD c 0 < l.t.value ∧
      m.getD c 0 = (Spec.bgvDecode l.t.value cf (Spec.phase (c01p_qvals l) l.n sk (polys.toList.map (rnsIntt l)))).getD c 0 := by
  have ht := c04r_t_pos hd
  refine ⟨_, bgvDecrypt_eq_spec hl hd hsk h2.ge (fun k hk => hc k (h2 ▸ hk)) hcf hcop
    (fun j hj => by have := hX j hj; omega), fun c hc' => ?_⟩
  rw [show (Spec.trim _).getD c 0 = _ from c04r_trim_getD _ c,
    c01p_bgvDecode_getD _ _ _ (by rw [c01p_phase_size]; exact hc')]
  exact ⟨Nat.mod_lt _ ht, rfl⟩

end HC
