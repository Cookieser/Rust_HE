/- The GENERATED generator functions of Gen/RngFns.lean (`HC.GenRng`: `refill_buffer`, `next_u32`, `next_u64`,
   `fill_bytes`, `hamming_weight`) equal the hand model of Model/Rng.lean (`refill`, `nextU32`, `nextU64`, `fillBytes`, `hammingWeight`).
   Helper prefix `gn_`.  No Mathlib. -/
import Heathcliff.Gen.RngFns
import Heathcliff.Proofs.C16B
namespace HC.GenRng
open HC HC.Rng

/-- the generated `BlakeRNG` as the model's `St` -/
def toSt (g : BlakeRNG) : St := { buffer := g.buffer.toArray, seed := g.seed, counter := g.counter, pos := g.buffer_current }
/-- the model's `St` as the generated `BlakeRNG` -/
def ofSt (s : St) : BlakeRNG := { buffer := s.buffer.toList, seed := s.seed, counter := s.counter, buffer_current := s.pos }
/-- the model's block function as the list-valued input of the generated functions -/
def xofL (xof : Xof) : XofL := fun seed c => (xof seed c).toList

theorem toSt_ofSt (s : St) : toSt (ofSt s) = s := by cases s; simp [toSt, ofSt]
theorem ofSt_toSt (g : BlakeRNG) : ofSt (toSt g) = g := by cases g; simp [toSt, ofSt]

/-- `OutputReader::fill(&mut self.buffer)` fills the whole `[u8; BUFFER_SIZE]` -/
def SizedXof (xof : Xof) : Prop := ∀ seed c, (xof seed c).size = BUF
/-- the buffer field has the array type `[u8; BUFFER_SIZE]` -/
def SizedSt (s : St) : Prop := s.buffer.size = BUF

theorem sizedSt_fromSeed (seed : Seed) : SizedSt (fromSeed seed) := by simp [SizedSt, fromSeed]
theorem sizedSt_preFill {xof : Xof} (hx : SizedXof xof) {s : St} (hs : SizedSt s) : SizedSt (preFill xof s) :=
  bufQ_preFill (·.size = BUF) hx hs
theorem sizedSt_fillBytes {xof : Xof} (hx : SizedXof xof) (n : Nat) (s : St) (hs : SizedSt s) : SizedSt (fillBytes xof s n).2 :=
  bufQ_fillBytes (·.size = BUF) hx n hs

theorem gn_readLE (b : Array Nat) (p w : Nat) (h : p + w ≤ b.size) : readLE b.toList p w = .ok (leRead b p w) := by
  unfold readLE leRead
  rw [if_pos (by simpa using h)]
  simp only [array_getD_toList]

theorem gn_slice (b : Array Nat) (p L : Nat) (h : p + L ≤ b.size) : slice b.toList p (p + L) = .ok (bufSlice b p L) := by
  unfold slice
  rw [if_pos ⟨Nat.le_add_right _ _, by simpa using h⟩]
  congr 1
  apply List.ext_getElem
  · simp [bufSlice]; omega
  · intro k h1 h2
    have hk : k < L := by simpa [bufSlice] using h2
    simp only [bufSlice, List.getElem_take, List.getElem_drop, List.getElem_map, List.getElem_range]
    have : p + k < b.size := by omega
    simp [Array.getD_eq_getD_getElem?, this]

theorem gn_refill_buffer_eq (xof : Xof) (s : St) : refill_buffer (xofL xof) (ofSt s) = .ok (ofSt (refill xof s)) := rfl

/-! ### `next_u32` / `next_u64`: one reference function with the three constants abstract -/

def gn_refNext (add mask w : Nat) (xof : XofL) (a0 : BlakeRNG) : R (BlakeRNG × Nat) := do
  let t1 ← ckAdd a0.buffer_current add
  let a0 := { a0 with buffer_current := (t1 &&& (notW mask)) }
  let t2 ← ckAdd a0.buffer_current w
  let a0 ← (if (t2 > 4096) then (do let a0 ← refill_buffer xof a0; pure a0) else pure a0)
  let t3 ← readLE a0.buffer a0.buffer_current w
  let v1 := t3
  let t4 ← ckAdd a0.buffer_current w
  let a0 := { a0 with buffer_current := t4 }
  pure (a0, v1)

theorem gn_next_u32_ref : next_u32 = gn_refNext 3 3 4 := rfl
theorem gn_next_u64_ref : next_u64 = gn_refNext 7 7 8 := rfl

theorem gn_refNext_eq (add mask w : Nat) (hmask : ∀ x, x < 2^64 → x &&& notW mask = x / (mask + 1) * (mask + 1))
    (hadd : add ≤ 7) (hw : w ≤ 8) {xof : Xof} (hx : SizedXof xof) (s : St) (hs : SizedSt s) (hp : s.pos ≤ BUF) :
    gn_refNext add mask w (xofL xof) (ofSt s) = .ok (ofSt (nextWord add mask w xof s).2, (nextWord add mask w xof s).1) := by
  -- every cursor value that occurs is at most `BUF + 7 + 8`
  have lt : ∀ {x}, x ≤ 4096 + 7 + 8 → x < B64 := fun h => Nat.lt_of_le_of_lt h (by decide)
  have h1 : s.pos + add ≤ 4096 + 7 := Nat.add_le_add hp hadd
  have h2 : (s.pos + add) / (mask + 1) * (mask + 1) + w ≤ 4096 + 7 + 8 :=
    Nat.add_le_add (Nat.le_trans (Nat.div_mul_le_self _ _) h1) hw
  unfold gn_refNext nextWord
  rw [ckAdd_ok (a := (ofSt s).buffer_current) (lt (Nat.le_trans h1 (Nat.le_add_right _ _)))]
  simp only [ofSt, bind, Except.bind, pure, Except.pure, hmask (s.pos + add) (lt (Nat.le_trans h1 (Nat.le_add_right _ _)))]
  rw [ckAdd_ok (lt h2)]
  simp only []
  by_cases hc : (s.pos + add) / (mask + 1) * (mask + 1) + w > 4096
  · rw [if_pos hc, if_pos (show _ > BUF from hc)]
    have hr := gn_refill_buffer_eq xof { s with pos := (s.pos + add) / (mask + 1) * (mask + 1) }
    simp only [ofSt] at hr
    rw [hr]
    simp only [refill]
    have hw0 : 0 + w ≤ 4096 := by rw [Nat.zero_add]; exact Nat.le_trans hw (by decide)
    rw [gn_readLE _ _ _ (by rw [hx]; exact hw0), ckAdd_ok (lt (Nat.le_trans hw0 (by decide)))]
  · rw [if_neg hc, if_neg (show ¬ _ > BUF from hc)]
    have hr := gn_readLE s.buffer ((s.pos + add) / (mask + 1) * (mask + 1)) w (by rw [hs]; exact Nat.le_of_not_gt hc)
    have ha : ckAdd ((s.pos + add) / (mask + 1) * (mask + 1)) w = .ok _ := ckAdd_ok (lt h2)
    simp only [hr, ha]

theorem gn_next_u32_eq {xof : Xof} (hx : SizedXof xof) (s : St) (hs : SizedSt s) (hp : s.pos ≤ BUF) :
    next_u32 (xofL xof) (ofSt s) = .ok (ofSt (nextU32 xof s).2, (nextU32 xof s).1) :=
  gn_next_u32_ref ▸ gn_refNext_eq 3 3 4 align4_as_coded (by decide) (by decide) hx s hs hp

theorem gn_next_u64_eq {xof : Xof} (hx : SizedXof xof) (s : St) (hs : SizedSt s) (hp : s.pos ≤ BUF) :
    next_u64 (xofL xof) (ofSt s) = .ok (ofSt (nextU64 xof s).2, (nextU64 xof s).1) :=
  gn_next_u64_ref ▸ gn_refNext_eq 7 7 8 align8_as_coded (by decide) (by decide) hx s hs hp

/-- both keep the invariants the next call needs -/
theorem gn_nextWord_inv (add mask w : Nat) (hw : w ≤ 8) {xof : Xof} (hx : SizedXof xof) (s : St) (hs : SizedSt s) :
    SizedSt (nextWord add mask w xof s).2 ∧ (nextWord add mask w xof s).2.pos ≤ BUF := by
  have hB := BUF_eq
  refine ⟨bufQ_nextWord (·.size = BUF) hx add mask w hs, ?_⟩
  unfold nextWord
  simp only []
  split
  · simp only [refill]; omega
  · simp only []; omega

theorem gn_preFill (xof : Xof) (s : St) :
    (if (ofSt s).buffer_current ≥ 4096 then (do let a0 ← refill_buffer (xofL xof) (ofSt s); pure a0) else pure (ofSt s) : R BlakeRNG)
      = .ok (ofSt (preFill xof s)) := by
  unfold preFill
  have hB := BUF_eq
  by_cases h : s.pos ≥ BUF
  · rw [if_pos h, if_pos (by simp only [ofSt]; omega), gn_refill_buffer_eq]
  · rw [if_neg h, if_neg (by simp only [ofSt]; omega)]; rfl

theorem gn_copySlice (dest sl : List Nat) (i L : Nat) (h : i + L ≤ dest.length) (hl : sl.length = L) :
    copySlice dest i (i + L) sl = .ok (dest.take i ++ sl ++ dest.drop (i + L)) := by
  unfold copySlice
  rw [if_pos ⟨Nat.le_add_right _ _, h⟩, if_pos (by omega)]

/-- one iteration of the `while` loop of `fill_bytes`: refill if the buffer is exhausted, then copy `L = min (bytes wanted) (bytes buffered)` bytes -/
theorem gn_fill_loop_succ {xof : Xof} (hx : SizedXof xof) (fuel : Nat) (s : St) (dest : List Nat) (i : Nat) (hs : SizedSt s)
    (hi : i < dest.length) (hd : dest.length < B64) {s1 : St} (hs1 : preFill xof s = s1) {L : Nat} (hL : min (dest.length - i) (4096 - s1.pos) = L) :
    fill_bytes_loop1 (xofL xof) (fuel + 1) (ofSt s) dest i =
      fill_bytes_loop1 (xofL xof) fuel (ofSt { s1 with pos := s1.pos + L })
        (dest.take i ++ bufSlice s1.buffer s1.pos L ++ dest.drop (i + L)) (i + L) := by
  have hpf := gn_preFill xof s
  have hp1 : s1.pos < 4096 := hs1 ▸ preFill_pos_lt xof s
  have hsz : s1.buffer.size = 4096 := hs1 ▸ sizedSt_preFill hx hs
  have hiL : i + L ≤ dest.length := Nat.add_le_of_le_sub' (Nat.le_of_lt hi) (hL ▸ Nat.min_le_left _ _)
  have hpL : s1.pos + L ≤ 4096 := Nat.add_le_of_le_sub' (Nat.le_of_lt hp1) (hL ▸ Nat.min_le_right _ _)
  rw [hs1] at hpf
  rw [fill_bytes_loop1]
  simp only [bind, Except.bind, pure, Except.pure] at hpf ⊢
  rw [if_pos hi, hpf]
  simp only [ofSt]
  rw [ckSub_of_le (Nat.le_of_lt hi), ckSub_of_le (Nat.le_of_lt hp1)]
  simp only []
  rw [hL, ckAdd_ok (Nat.lt_of_le_of_lt hiL hd),
    ckAdd_ok (Nat.lt_of_le_of_lt hpL (by decide))]
  simp only []
  rw [gn_slice _ _ _ (hsz ▸ hpL)]
  simp only []
  rw [gn_copySlice _ _ _ _ hiL (bufSlice_length _ _ _)]

theorem gn_fill_loop {xof : Xof} (hx : SizedXof xof) :
    ∀ (fuel : Nat) (s : St) (dest : List Nat) (i : Nat), SizedSt s → i ≤ dest.length → dest.length < B64 → dest.length - i < fuel →
      fill_bytes_loop1 (xofL xof) fuel (ofSt s) dest i =
        .ok (ofSt (fillBytes xof s (dest.length - i)).2, dest.take i ++ (fillBytes xof s (dest.length - i)).1, dest.length)
  | 0, _, _, _, _, _, _, h => absurd h (Nat.not_lt_zero _)
  | fuel + 1, s, dest, i, hs, hi, hd, hf => by
    by_cases hlt : i < dest.length
    · obtain ⟨s1, hs1⟩ : ∃ s1, preFill xof s = s1 := ⟨_, rfl⟩
      obtain ⟨L, hL⟩ : ∃ L, min (dest.length - i) (4096 - s1.pos) = L := ⟨_, rfl⟩
      have hp1 : s1.pos < 4096 := hs1 ▸ preFill_pos_lt xof s
      have hL1 : 1 ≤ L := hL ▸ Nat.le_min.mpr ⟨Nat.sub_pos_of_lt hlt, Nat.sub_pos_of_lt hp1⟩
      have hiL : i + L ≤ dest.length := Nat.add_le_of_le_sub' hi (hL ▸ Nat.min_le_left _ _)
      have hlen : (dest.take i ++ bufSlice s1.buffer s1.pos L ++ dest.drop (i + L)).length = dest.length := by
        rw [List.length_append, List.length_append, List.length_take_of_le hi, bufSlice_length, List.length_drop, Nat.add_sub_of_le hiL]
      rw [gn_fill_loop_succ hx fuel s dest i hs hlt hd hs1 hL,
        gn_fill_loop hx fuel _ _ (i + L) (hs1 ▸ sizedSt_preFill hx hs) (by rw [hlen]; exact hiL) (by rw [hlen]; exact hd) (by rw [hlen]; exact Nat.lt_of_lt_of_le (Nat.sub_lt_sub_left hlt (Nat.lt_add_of_pos_right hL1)) (Nat.le_of_lt_succ hf)),
        hlen, fillBytes_unfold s (Nat.sub_ne_zero_of_lt hlt), hs1, show min (dest.length - i) (BUF - s1.pos) = L from hL,
        Nat.sub_sub, List.take_left' (by rw [List.length_append, List.length_take_of_le hi, bufSlice_length]), List.append_assoc]
    · have hil : i = dest.length := Nat.le_antisymm hi (Nat.le_of_not_lt hlt)
      rw [fill_bytes_loop1, if_neg hlt, hil, Nat.sub_self, fillBytes_zero, List.take_length, List.append_nil]; rfl

/-- `fill_bytes(dest)`: the generated function writes exactly the bytes of the model's `fillBytes` for `dest.len()` bytes (the old
    contents of `dest` are irrelevant) and leaves the generator in the model's state -/
theorem gn_fill_bytes_eq {xof : Xof} (hx : SizedXof xof) (s : St) (hs : SizedSt s) (dest : List Nat) (hd : dest.length < 2^64) :
    fill_bytes (xofL xof) (ofSt s) dest = .ok (ofSt (fillBytes xof s dest.length).2, (fillBytes xof s dest.length).1) := by
  unfold fill_bytes
  have h := gn_fill_loop hx (dest.length + 1) s dest 0 hs (Nat.zero_le _) hd (by omega)
  simp only [bind, Except.bind, pure, Except.pure]
  rw [h]
  simp

-- `decide` below compares values of `R Int`: it needs equality on `Except` to be decidable
deriving instance DecidableEq for Except

/-- exhaustive over the 256 values of a byte -/
theorem gn_hamming_weight_eq : ∀ x, x < 256 → hamming_weight x = .ok (Int.ofNat (hammingWeight x)) := by decide +kernel

end HC.GenRng
