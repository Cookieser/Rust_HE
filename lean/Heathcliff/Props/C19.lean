import Heathcliff.Proofs.C19K
import Heathcliff.Proofs.C19
import Heathcliff.Proofs.GenAppLwe3
import Heathcliff.Proofs.GenPolyShift
/-
  C19 — LWE extraction, field trace and packing place coefficients as documented.

  Objects: `negacyclicShift` (Model/NTT.lean), `extractLwe` / `assembleLwe` (value level, Model/Lwe.lean) and the
  phase-level programs `shiftPoly`, `sigmaPoly`, `fieldTracePoly`, `packPoly` (Model/Lwe.lean) instantiated over an
  arbitrary commutative ring `R` (the coefficient ring of the phase: Z_Q for BFV / BGV / CKKS alike).
  `negMulR n a b c` (Proofs/NTTDefs.lean) is coefficient c of a·b mod X^n + 1 by the explicit sum;
  `c19_mono n s` is the monomial X^s reduced with X^n = -1; `c19_negQ q` is the code's negation (0 ↦ 0, x ↦ q - x).
  Helper lemmas: Proofs/C19.lean (phase-level programs), Proofs/C19K.lean (the model's key-switched automorphisms),
  Proofs/GenAppLwe*.lean and Proofs/GenPolyShift.lean (the generated functions).
-/
namespace HC.C19
open HC Finset

/-! ### negacyclic shift -/

/-- Index / sign rule of `negacyclic_shift` for EVERY shift s (in particular every s < 2N): output coefficient e is
    input coefficient e - s (mod N), negated once per wrap past N (`s mod N` decides the wrap, the parity of `s / N` the
    global sign). -/
theorem shift_coeff_rule (a : Array Nat) (s : Nat) (m : Modulus) (e : Nat) (he : e < a.size) :
    (negacyclicShift a s m).getD e 0 =
      if s % a.size ≤ e then
        (if (s / a.size) % 2 = 1 then c19_negQ m.value (a.getD (e - s % a.size) 0) else a.getD (e - s % a.size) 0)
      else
        (if (s / a.size) % 2 = 1 then a.getD (e + a.size - s % a.size) 0 else c19_negQ m.value (a.getD (e + a.size - s % a.size) 0)) :=
  c19_shift_coeff_rule a s m e he

theorem shift_size (a : Array Nat) (s : Nat) (m : Modulus) : (negacyclicShift a s m).size = a.size :=
  c19_negacyclicShift_size a s m

/-- `negacyclic_shift` by s is multiplication by X^s modulo (X^N + 1, q): in Z_q, every output coefficient equals the
    coefficient of the negacyclic product of the input with the monomial X^s (for every s; the property needs s < 2N). -/
theorem shift_is_monomial_mul (a : Array Nat) (s : Nat) (m : Modulus)
    (hcan : ∀ i < a.size, a.getD i 0 ≤ m.value) (e : Nat) (he : e < a.size) :
    (((negacyclicShift a s m).getD e 0 : Nat) : ZMod m.value) =
      negMulR a.size (fun i => ((a.getD i 0 : Nat) : ZMod m.value)) (c19_mono a.size s) e := by
  rw [c19_shift_value_is_phase a s m hcan e he, c19_shift_is_mul a.size (by omega) _ s e he]
  simp only [c19_map_getD]

/-- the same for the phase-level shift over any commutative ring -/
theorem shiftPoly_is_monomial_mul {R : Type} [CommRing R] (n : Nat) (hn : 0 < n) (a : Array R) (s e : Nat) (he : e < n) :
    (shiftPoly n a s).getD e 0 = negMulR n (fun i => a.getD i 0) (c19_mono n s) e :=
  c19_shift_is_mul n hn a s e he

example : negacyclicShift #[1, 2, 0, 4] 6 ⟨17, 0, 0, 0, 5⟩ = #[0, 4, 16, 15] := by decide +kernel

/-! ### extraction and re-assembly -/

/-- Ring identity of the extraction, any commutative ring, every index t < N: with c1' = X^(2N - t)·c1 (t > 0; c1 itself
    for t = 0) the constant coefficient of c1'·s equals coefficient t of c1·s. -/
theorem extract_identity {R : Type} [CommRing R] (n : Nat) (a : Array R) (s : Nat → R) (t : Nat) (ht : t < n) :
    negMulR n (fun j => (shiftPoly n a (if t = 0 then 0 else n * 2 - t)).getD j 0) s 0 =
      negMulR n (fun j => a.getD j 0) s t :=
  c19_extract_identity n a s t ht

/-- `extract_lwe` followed by `assemble_lwe` on the model, either input representation (`c19_coeffPoly` is the
    coefficient form the code computes first), every index `term < N`, every RNS component i and every secret vector s
    over Z_{q_i}: the assembled ciphertext is in coefficient form with the same correction factor, and the constant
    coefficient of its phase c0' + c1'·s equals coefficient `term` of the phase c0 + c1·s of the source. -/
theorem extract_assemble (l : Level) (ct : Ct) (term : Nat) (h2 : ct.polys.size = 2) (hv : ctValidFor l ct = true)
    (ht : term < l.n) :
    ∃ w, extractLwe l ct term = .ok w ∧ (assembleLwe l w).ntt = false ∧ (assembleLwe l w).cf = ct.cf ∧
      ∀ i, i < l.size →
        ((c19_coeffPoly l ct 1).getD i #[]).size = l.n →
        (∀ j < l.n, ((c19_coeffPoly l ct 1).getD i #[]).getD j 0 ≤ (l.q i).value) →
        ∀ s : Nat → ZMod (l.q i).value,
          ((((assembleLwe l w).polys.getD 0 #[]).getD i #[]).getD 0 0 : ZMod (l.q i).value)
            + negMulR l.n (fun j => (((((assembleLwe l w).polys.getD 1 #[]).getD i #[]).getD j 0 : Nat) : ZMod (l.q i).value)) s 0
          = ((((c19_coeffPoly l ct 0).getD i #[]).getD term 0 : Nat) : ZMod (l.q i).value)
            + negMulR l.n (fun j => ((((c19_coeffPoly l ct 1).getD i #[]).getD j 0 : Nat) : ZMod (l.q i).value)) s term :=
  c19_extract_assemble l ct term h2 hv ht

/-- indices past the degree are refused -/
theorem extract_refuses (l : Level) (ct : Ct) (term : Nat) (ht : l.n ≤ term) : ∃ e, extractLwe l ct term = .error e := by
  unfold extractLwe
  by_cases h2 : ct.polys.size ≠ 2
  · exact ⟨_, if_pos h2⟩
  by_cases hv : (!ctValidFor l ct) = true
  · exact ⟨_, (if_neg h2).trans (if_pos hv)⟩
  rw [if_neg h2, if_neg hv]
  simp only [ge_iff_le, if_pos ht]
  -- the shift is computed or its checked subtraction traps; then the index check refuses
  by_cases ht0 : term = 0
  · exact ⟨_, by rw [if_pos ht0]; rfl⟩
  · rw [if_neg ht0]
    cases ckSub (l.n * 2) term with
    | error e => exact ⟨e, rfl⟩
    | ok sh => exact ⟨.oob, rfl⟩

/-! ### field trace -/

/-- σ_{2^m+1} on N = 2^k coefficients acts on X^j, j = (N/2^m)·u, by the sign (-1)^u. -/
theorem sigma_sign {R : Type} [CommRing R] (k m : Nat) (hm1 : 1 ≤ m) (hm : m ≤ k) (a : Array R) (u : Nat) (hu : u < 2^m) :
    (sigmaPoly (2^k) a (2^m+1)).getD (2^(k-m) * u) 0 =
      if u % 2 = 1 then - a.getD (2^(k-m) * u) 0 else a.getD (2^(k-m) * u) 0 :=
  c19_sigma_at_mult k m hm1 hm a u hu

/-- The field trace with parameter l ≤ log2 N (N = 2^k) on the phase: coefficient j of the result is (N/2^l)·a_j when
    N/2^l divides j, and 0 otherwise — for every coefficient vector over any commutative ring. -/
theorem field_trace_coeffs {R : Type} [CommRing R] (k l : Nat) (hl : l ≤ k) (a : Array R) (j : Nat) (hj : j < 2^k) :
    (fieldTracePoly k l a).getD j 0 =
      if (2^k / 2^l) ∣ j then ((2^k / 2^l : Nat) : R) * a.getD j 0 else 0 := by
  have hdiv : 2^k / 2^l = 2^(k-l) := Nat.pow_div hl (by norm_num)
  rw [c19_fieldTrace_eq, c19_traceSteps_coeff k (k-l) (by omega) a j hj, hdiv]
  push_cast
  rfl

/-- a parameter at or above log2 N leaves the operand unchanged (the loop body never runs) -/
theorem field_trace_noop {R : Type} [CommRing R] (k l : Nat) (hl : k ≤ l) (a : Array R) : fieldTracePoly k l a = a := by
  unfold fieldTracePoly
  have : k - l = 0 := by omega
  rw [this]; rfl

example : fieldTracePoly 2 1 (#[1, 2, 3, 4] : Array Int) = #[2, 0, 6, 0] := by decide +kernel
example : fieldTracePoly 2 0 (#[1, 2, 3, 4] : Array Int) = #[4, 0, 0, 0] := by decide +kernel

/-! ### packing -/

/-- `l = packLog count` is ⌈log2 count⌉: the least l with count ≤ 2^l -/
theorem packLog_is_ceil_log2 (count : Nat) :
    count ≤ 2^(packLog count) ∧ ∀ l', count ≤ 2^l' → packLog count ≤ l' :=
  ⟨c19_packLog_ge count, fun l' h => c19_packLog_min count l' h⟩

/-- PackLWEs on the phases (N = 2^k, any commutative ring in which `ninv` inverts N, any 1 ≤ count ≤ N input
    polynomials, l = ⌈log2 count⌉): coefficient r·N/2^l of the result is the CONSTANT coefficient of input r for
    r < count; every other coefficient — the remaining multiples of N/2^l and all non-multiples, whatever the other
    coefficients of the inputs are — is 0.  The 1/N pre-scale cancels the factor 2^l of the merges times N/2^l of the trace. -/
theorem pack_spec {R : Type} [CommRing R] (k : Nat) (ninv : R) (hinv : ninv * (2:R)^k = 1) (ins : Array (Array R))
    (hc : ins.size ≤ 2^k) (j : Nat) (hj : j < 2^k) :
    (packPoly k ninv ins).getD j 0 =
      if (2^k / 2^(packLog ins.size)) ∣ j ∧ j / (2^k / 2^(packLog ins.size)) < ins.size
      then (ins.getD (j / (2^k / 2^(packLog ins.size))) #[]).getD 0 0 else 0 := by
  set l := packLog ins.size with hldef
  have hl : l ≤ k := c19_packLog_min _ _ hc
  have hdiv : 2^k / 2^l = 2^(k-l) := Nat.pow_div hl (by norm_num)
  have hwpos : 0 < 2^(k-l) := Nat.two_pow_pos _
  rw [c19_packPoly_eq, c19_fieldTrace_eq, c19_traceSteps_coeff k (k-l) (by omega) _ j hj, hdiv]
  by_cases hd : 2^(k-l) ∣ j
  · obtain ⟨u, hu⟩ := hd
    have hu' : u < 2^l := (c19_mult_lt k l hl u).mp (hu ▸ hj)
    have hju : j / 2^(k-l) = u := by rw [hu, Nat.mul_div_cancel_left _ hwpos]
    rw [if_pos ⟨u, hu⟩, hju]
    have hinvt := c19_packLayers_inv k l hl (packLeaves k l ninv ins) l (le_refl _) 0 (Nat.two_pow_pos _) (dvd_zero _) u hu'
    rw [← hu] at hinvt
    rw [hinvt, Nat.zero_add, c19_packLeaves_const k l ninv ins _ (brev_lt l u), brev_brev hu']
    have hprod : (2:R)^(k-l) * (2:R)^l = (2:R)^k := pow_sub_mul_pow 2 hl
    by_cases hlt : u < ins.size
    · rw [if_pos hlt, if_pos ⟨⟨u, hu⟩, hlt⟩]
      calc (2:R)^(k-l) * ((2:R)^l * (ninv * (ins.getD u #[]).getD 0 0))
          = (ninv * ((2:R)^(k-l) * (2:R)^l)) * (ins.getD u #[]).getD 0 0 := by ring
        _ = (ins.getD u #[]).getD 0 0 := by rw [hprod, hinv, one_mul]
    · rw [if_neg hlt, if_neg (fun h => hlt h.2)]; ring
  · rw [if_neg hd, if_neg (fun h => hd h.1)]

/-- the documented example at N = 8 with three inputs: L = `packLog 3` = 2, stride N/2^L = 2 (inputs with arbitrary other coefficients;
    five inputs give L = 3, stride 1: `packLog 5 = 3` below) -/
example : packPoly 3 (1 : Int) #[#[1, 9, 9, 9, 9, 9, 9, 9], #[2, 7, 7, 7, 7, 7, 7, 7], #[3, 5, 5, 5, 5, 5, 5, 5]]
    = #[8, 0, 16, 0, 24, 0, 0, 0] := by decide +kernel     -- without the pre-scale: the factor N
/-- the hypothesis of `pack_spec` is satisfiable (N = 8 in Z_17) -/
example : ∃ ninv : ZMod 17, ninv * (2 : ZMod 17)^3 = 1 := ⟨15, by decide⟩
example : packLog 5 = 3 ∧ packLog 3 = 2 ∧ packLog 1 = 0 ∧ packLog 8 = 3 := by decide


/-! ### field trace and packing on the MODEL's key-switched automorphisms: phase(result) = fieldTracePoly / packed layout + accumulated key-switch noise with explicit bounds (BGV: noise = 0 mod t), refusals
    (statements, hypothesis bundles and non-vacuity instances: Heathcliff/Proofs/C19K.lean) -/

/-- FIELD TRACE, ONE LAYER on the model (rounding branch: BFV in coefficient form, CKKS in NTT form):
    `ct' = ct + applyGalois(ct, g)` for an odd g ≤ 2N with a Galois key from σ_g(s) to s (`c04k_KeyEq … s (σ_g s) e G`) succeeds, stays
    canonical, keeps representation and correction factor, and modulo every level modulus q_j
      phase_s(ct') ≡ x + σ_g(x) + ν,   x = phase_s(ct),   ν = `c04k_nuStd` of the switched σ_g(c1)   (`c19k_Tracks.layer` at the exact phase),
    with P·‖ν‖∞ ≤ dsz·A·N·Be + ⌊P/2⌋·(1 + ‖s‖₁)  (`c19k_boundStd`; q_j ≤ A, ‖e_i‖∞ ≤ Be). -/
theorem fieldTrace_layer_noisy : type_of% @HC.fieldTrace_layer_noisy := @HC.fieldTrace_layer_noisy

/-- Field trace, one layer, BGV (NTT form): the same with ν = `c04k_nuBgv`, P·‖ν‖∞ ≤ dsz·A·N·Be + P·t·(1 + ‖s‖₁), and ν ≡ 0 (mod t) when
    every key error is a multiple of t. -/
theorem fieldTrace_layer_noisy_bgv : type_of% @HC.fieldTrace_layer_noisy_bgv := @HC.fieldTrace_layer_noisy_bgv

/-- FIELD TRACE, THE WHOLE LOOP `field_trace_inplace(ct, keys, logn)` on the model (`c19k_fieldTraceCt`: the fold of `applyGalois` +
    `add_inplace` over g = N+1, N/2+1, …; N = 2^(l.k)), rounding branch.  Hypotheses: canonical two-polynomial input, and for every
    layer i < log2 N − logn a Galois key for g_i = 2^(l.k−i)+1 from σ_{g_i}(s) to s with errors ‖e_i‖∞ ≤ Be.
    Conclusion: success, and modulo every q_j
        phase_s(result) ≡ fieldTracePoly(phase_s(ct)) + N_acc,
    `fieldTracePoly` the exact phase-level program of C19 (`C19.field_trace_coeffs`), N_acc = `c19k_accNoise` the propagated noise
    N_0 = 0, N_{i+1} = N_i + σ_{g_i}(N_i) + ν_i with ν_i the switch-key noise of layer i (of the i-th intermediate ciphertext),
    and the explicit bound  P·‖N_acc‖∞ ≤ (2^m − 1)·B = Σ_{i<m} 2^(m−1−i)·B,  m = log2 N − logn, B = `c19k_boundStd`. -/
theorem fieldTrace_noisy : type_of% @HC.fieldTrace_noisy := @HC.fieldTrace_noisy

/-- Field trace, the whole loop, BGV: bound with B = `c19k_boundBgv`, and N_acc ≡ 0 (mod t) when all key errors are multiples of t — the
    plaintext residue of the phase modulo t is exactly that of the exact field trace, same correction factor. -/
theorem fieldTrace_noisy_bgv : type_of% @HC.fieldTrace_noisy_bgv := @HC.fieldTrace_noisy_bgv

/-- coefficient form of `fieldTrace_noisy(_bgv)`: whenever phase(result) ≡ fieldTracePoly(x) + N (the conclusion of the two theorems),
    coefficient c of the result phase is (N/2^logn)·x_c + N_c when N/2^logn divides c, and N_c alone otherwise. -/
theorem fieldTrace_noisy_coeffs : type_of% @HC.fieldTrace_noisy_coeffs := @HC.fieldTrace_noisy_coeffs

/-- refusal: a missing Galois key for the first element N + 1 (when the loop runs at all) -/
theorem fieldTrace_refuses_missing_key : type_of% @HC.fieldTrace_refuses_missing_key := @HC.fieldTrace_refuses_missing_key

/-- refusal: a ciphertext that does not have exactly two polynomials (when the loop runs at all) -/
theorem fieldTrace_refuses_size : type_of% @HC.fieldTrace_refuses_size := @HC.fieldTrace_refuses_size

/-- logn ≥ log2 N: the loop body never runs -/
theorem fieldTrace_noop : type_of% @HC.fieldTrace_noop := @HC.fieldTrace_noop

/-- PACKING, ONE BUTTERFLY of the merge tree of `pack_lwe_ciphertexts` on the model (rounding branch: BFV, or CKKS with the NTT round trip
    around the automorphism): the monomial shift, `sub`, `add_inplace` are exact on phases, the one `apply_galois_inplace` adds ν:
      phase(even') ≡ packMerge(phase even, phase odd) + ν   (mod q_j),   P·‖ν‖∞ ≤ `c19k_boundStd`. -/
theorem pack_merge_noisy : type_of% @HC.pack_merge_noisy := @HC.pack_merge_noisy

/-- PACKING, THE WHOLE `pack_lwe_ciphertexts` on the model after leaf preparation (`c19k_packCt`: merge tree of L layers over 2^L canonical
    coefficient-form leaves `rlwes[o]`, then `field_trace_inplace(·, L)`; rounding branch).  With Galois keys for the merge elements
    2^(lam+1)+1 (lam < L) and the trace elements 2^(log2 N − i)+1 (i < log2 N − L), all errors ‖·‖∞ ≤ Be:
    the result phase, modulo every q_j, has
      coefficient (N/2^L)·u  ≡ N · (constant coefficient of the phase of leaf reverse_bits(u, L)) + (N/2^L)·Z + T,
      every other coefficient ≡ T,
    with integer noise arrays Z (merge tree) and T (trace), P·|Z| ≤ (2^L − 1)·B at the coefficients read, P·‖T‖∞ ≤ (N/2^L − 1)·B,
    hence P·|(N/2^L)·Z + T| ≤ (N − 1)·B, B = `c19k_boundStd`.  (With leaves = inputs divided by N, N·leaf = input: the
    documented placement `C19.pack_spec` up to this noise.) -/
theorem pack_noisy : type_of% @HC.pack_noisy := @HC.pack_noisy

/-- NON-VACUITY of the field-trace hypotheses: on the key level `c04t_exKL` (N = 2, q = 13, P = 17, t = 5), ciphertext level {13}, the
    Galois key `c19k_exKey` for g = 3 (s = 1 − X, σ_3(s) = 1 + X, non-zero error e = 1 − X) satisfies `c19k_KeyOK` and the key equation, the example
    ciphertext satisfies `c19k_CtOK`; hence the full trace (logn = 0, one layer) succeeds in BFV and BGV with P·‖N_acc‖∞ ≤ B. -/
theorem fieldTrace_noisy_nonvacuous : type_of% @HC.fieldTrace_noisy_nonvacuous := @HC.fieldTrace_noisy_nonvacuous

/-- NON-VACUITY of the packing hypotheses: on the same concrete world (N = 2, q = 13, P = 17), two coefficient-form leaves, one merge
    layer (L = 1, Galois element 3, the key `c19k_exKey`), BFV: `pack_noisy` applies, so the model's pack succeeds. -/
theorem pack_noisy_nonvacuous : type_of% @HC.pack_noisy_nonvacuous := @HC.pack_noisy_nonvacuous

/-! ### translator tie (app mode): index / loop arithmetic of src/app/lwe.rs, REGENERATED on every run (`Gen/AppFns.lean`,
    fragments of `extract_lwe`, `pack_lwe_ciphertexts`, `field_trace_inplace`; evaluator calls are opaque steps recorded in a plan) -/

/-- `extract_lwe`: the generated `let shift = if term == 0 {0} else {poly_modulus_degree * 2 - term}` is the shift computation of the
    model's `extractLwe` (checked subtraction included: `term > 2N` traps in both) -/
theorem gen_lwe_extract_shift_eq : type_of% @HC.ga_lwe_extract_shift_eq := @HC.ga_lwe_extract_shift_eq

/-- ... composed with `extract_identity`'s exponent: for an index inside the polynomial the shift is the exponent `s < 2N` with
    `s + term ≡ 0 (mod 2N)`, i.e. the monomial `X^(2N − term)` = `X^(−term)` -/
theorem gen_lwe_extract_shift_spec (term n : Nat) (ht : term < n) (hn : n * 2 < 2^64) :
    ∃ s, GenApp.lwe_extract_shift term n = .ok s ∧ s < 2 * n ∧ (s + term) % (2 * n) = 0 := by
  rw [HC.ga_lwe_extract_shift_eq term n hn]
  by_cases h : term = 0
  · subst h; exact ⟨0, by simp [pure, Except.pure], by omega, by simp⟩
  · have hle : term ≤ n * 2 := Nat.le_trans (Nat.le_of_lt ht) (Nat.le_mul_of_pos_right n (by decide))
    refine ⟨n * 2 - term, by rw [if_neg h, HC.ckSub_of_le hle], ?_, ?_⟩
    · rw [Nat.mul_comm 2 n]; exact Nat.sub_lt (Nat.lt_of_lt_of_le (Nat.pos_of_ne_zero h) hle) (Nat.pos_of_ne_zero h)
    · rw [Nat.sub_add_cancel hle, Nat.mul_comm]; exact Nat.mod_self _

/-- `pack_lwe_ciphertexts`: the generated `let mut l = 0; while (1<<l) < lwes_count { l += 1; }` = `packLog` (at most 2^63 inputs; the
    code admits at most N.  Above 2^63 the code would reach `1 << 64`: a trap, where the model's `packLog` returns 64) -/
theorem gen_lwe_pack_log_eq : type_of% @HC.ga_lwe_pack_log_eq := @HC.ga_lwe_pack_log_eq

/-- ... composed with `packLog_is_ceil_log2`: the GENERATED loop returns ⌈log2 count⌉ -/
theorem gen_lwe_pack_log_is_ceil_log2 (count : Nat) (hc : count ≤ 2^63) :
    ∃ l, GenApp.lwe_pack_log count = .ok l ∧ count ≤ 2^l ∧ ∀ l', count ≤ 2^l' → l ≤ l' :=
  ⟨packLog count, HC.ga_lwe_pack_log_eq count hc, (packLog_is_ceil_log2 count).1, (packLog_is_ceil_log2 count).2⟩

/-- `field_trace_inplace`: with the key-level degree `2^k`, the generated loop performs `apply_galois(·, g)` + `add_inplace` exactly for
    `g = 2^(k−i) + 1`, `i = 0, …, k − logn − 1`, in this order (the loop structure of the model's `fieldTracePoly`) -/
theorem gen_lwe_field_trace_plan_eq : type_of% @HC.ga_lwe_field_trace_plan_eq := @HC.ga_lwe_field_trace_plan_eq

/-- ... composed with `field_trace_coeffs`: running the phase-level layer `a ↦ a + σ_g(a)` over the plan the GENERATED loop produces
    leaves `(N/2^l)·a_j` on the multiples of `N/2^l` and 0 elsewhere (any commutative ring) -/
theorem gen_lwe_field_trace_coeffs {R : Type} [CommRing R] (k l : Nat) (hl : l ≤ k) (hk : k ≤ 62) (a : Array R) (j : Nat) (hj : j < 2^k) :
    ∃ plan, GenApp.lwe_field_trace_plan l (2^k) = .ok plan ∧
      (plan.foldl (fun a g => addPoly (2^k) a (sigmaPoly (2^k) a g)) a).getD j 0 =
        if (2^k / 2^l) ∣ j then ((2^k / 2^l : Nat) : R) * a.getD j 0 else 0 := by
  refine ⟨_, HC.ga_lwe_field_trace_plan_eq k l hk (by omega), ?_⟩
  rw [← HC.ga_fieldTracePoly_plan]
  exact field_trace_coeffs k l hl a j hj

/-- `pack_lwe_ciphertexts`, leaf loop (skeleton reading: `assemble_lwe` + `divide_by_poly_modulus_degree_inplace` into slot `i` is recorded as
    the input index, the zero ciphertext as `count`): slot `i < 2^l` receives input `brev l i` iff that index exists.  Uses the second
    generated copy of `reverse_bits_u64`. -/
theorem gen_lwe_pack_leaves_eq : type_of% @HC.ga_lwe_pack_leaves_eq := @HC.ga_lwe_pack_leaves_eq
/-- ... and the model's `packLeaves` reads its inputs through exactly this plan -/
theorem gen_lwe_pack_leaves_model : type_of% @HC.ga_packLeaves_plan := @HC.ga_packLeaves_plan

/-- `pack_lwe_ciphertexts`, merge layers (skeleton reading: per butterfly the plan records odd slot, shift, even slot, Galois element; the
    `unsafe` pointer arithmetic `rlwes.as_mut_ptr().add(offset [+ gap])` is read as the slot index): layers `0 … l−1`, butterflies on the slots
    `q·2^(layer+1)` / `+ 2^layer`, shift `N >> (layer+1)`, element `2^(layer+1) + 1`; independent of `ntt_form` -/
theorem gen_lwe_pack_merge_plan_eq : type_of% @HC.ga_lwe_pack_merge_plan_eq := @HC.ga_lwe_pack_merge_plan_eq
/-- ... and the model's `packLayer` performs exactly that butterfly at the even slot of every plan entry -/
theorem gen_lwe_pack_merge_model : type_of% @HC.ga_packLayer_plan := @HC.ga_packLayer_plan

/-! #### the WHOLE plan of `pack_lwe_ciphertexts` as one generated function -/

/-- the generated whole-plan function (`let mut l = 0;` … `self.field_trace_inplace(&mut ret, keys, l)`, 12 statements, skeleton reading):
    `[l] ++ leaves ++ butterflies of the layers 0 … l−1 ++ [l]` with `l = packLog count`, for every count ≤ 2^62 -/
theorem gen_lwe_pack_plan_eq : type_of% @HC.ga_lwe_pack_plan_eq := @HC.ga_lwe_pack_plan_eq

/-- interpreting that plan over the phase polynomials (`ga_runPack`: leaf slots, butterflies in order on the slots, field trace of slot 0
    — the reading of the opaque evaluator steps) IS the model's program `packPoly`: the in-place butterfly loop = the index-wise `packLayer` -/
theorem gen_lwe_pack_plan_is_packPoly : type_of% @HC.ga_runPack_eq := @HC.ga_runPack_eq

/-- **`pack_spec` as a statement about the GENERATED code**, every count `1 … N`, `N = 2^k ≤ 2^62`, both values of `ntt_form`: the generated
    function returns a plan, and running it leaves the constant coefficient of input `r` at position `r·N/2^⌈log2 count⌉` and zeros everywhere
    else -/
theorem gen_pack_spec {R : Type} [CommRing R] (k : Nat) (hk : k ≤ 62) (ninv : R) (hinv : ninv * (2:R)^k = 1) (ins : Array (Array R))
    (hc : ins.size ≤ 2^k) (ntt : Bool) (j : Nat) (hj : j < 2^k) :
    ∃ plan, GenApp.lwe_pack_plan ins.size (2^k) ntt = .ok plan ∧
      (ga_runPack k ninv ins plan).getD j 0 =
        if (2^k / 2^(packLog ins.size)) ∣ j ∧ j / (2^k / 2^(packLog ins.size)) < ins.size
        then (ins.getD (j / (2^k / 2^(packLog ins.size))) #[]).getD 0 0 else 0 := by
  have h62 : ins.size ≤ 2^62 := Nat.le_trans hc (Nat.pow_le_pow_right (by omega) hk)
  refine ⟨_, HC.ga_lwe_pack_plan_eq ins.size (2^k) ntt h62, ?_⟩
  rw [HC.ga_runPack_eq]
  exact pack_spec k ninv hinv ins hc j hj

/-- `polymod::negacyclic_shift` (src/util/polysmallmod.rs, regenerated into `Gen/PolyFns.lean`) = the
    model's `negacyclicShift`, on the zero-initialised buffer `extract_lwe` passes: the data rule of the extracted `c1` -/
theorem gen_negacyclic_shift_eq : type_of% @HC.gs_negacyclic_shift_eq := @HC.gs_negacyclic_shift_eq

/-- **`extract_lwe`'s `c1`, one RNS component, from source**: the generated shift computation followed by the generated `negacyclic_shift` returns the
    model's `negacyclicShift a (2N − term) q` (to which `shift_coeff_rule` / `shift_is_monomial_mul` / `extract_identity` apply), `0 < term < N` -/
theorem gen_extract_c1_eq (a : List Nat) (k term : Nat) (m : Modulus) (hlen : a.length = 2^k) (ht0 : term ≠ 0) (ht : term < 2^k)
    (hq : ∀ i, i < 2^k → a.getD i 0 ≤ m.value) (hk : 2^k * 3 < 2^64) :
    ∃ s, GenApp.lwe_extract_shift term (2^k) = .ok s ∧
      GenP.poly_negacyclic_shift a s m (List.replicate (2^k) 0) = .ok (negacyclicShift a.toArray (2^k * 2 - term) m).toList := by
  have hlt : term < 2^k * 2 := Nat.lt_of_lt_of_le ht (Nat.le_mul_of_pos_right _ (by decide))
  refine ⟨2^k * 2 - term, ?_, HC.gs_negacyclic_shift_eq a k _ m hlen (Nat.sub_ne_zero_of_lt hlt) hq
    (Nat.lt_of_le_of_lt (Nat.add_le_add_right (Nat.sub_le _ _) _) (by rw [← Nat.mul_succ]; exact hk))⟩
  rw [HC.ga_lwe_extract_shift_eq term (2^k) (Nat.lt_of_le_of_lt (Nat.mul_le_mul_left _ (by decide)) hk), if_neg ht0,
    HC.ckSub_of_le (Nat.le_of_lt hlt)]

/-! non-vacuity of the ties: the generated fragments run -/
example : GenP.poly_negacyclic_shift [1, 2, 3, 4] 5 ⟨7, 0, 0, 0, 3⟩ [0, 0, 0, 0] = .ok [4, 6, 5, 4] := by rfl
example : GenApp.lwe_pack_plan 3 8 false = .ok [2, 0, 2, 1, 3, 1, 4, 0, 3, 3, 4, 2, 3, 2, 2, 0, 5, 2] := by rfl
example := gen_pack_spec (R := ZMod 17) 1 (by decide) 9 (by decide) #[#[3, 4], #[5, 6]] (by decide) false 1 (by decide)
example : GenApp.lwe_pack_leaves 2 3 = .ok [0, 2, 1, 3] := by rfl
example : GenApp.lwe_pack_merge_plan 2 8 false = .ok [1, 4, 0, 3, 3, 4, 2, 3, 2, 2, 0, 5] := by rfl
example : GenApp.lwe_pack_log 5 = .ok 3 := by rfl
example : GenApp.lwe_field_trace_plan 1 8 = .ok [9, 5] := by rfl
example : GenApp.lwe_extract_shift 3 8 = .ok 13 := by rfl
example := gen_lwe_field_trace_coeffs (R := ℤ) 3 1 (by decide) (by decide) #[1, 2, 3, 4, 5, 6, 7, 8] 4 (by decide)

end HC.C19
