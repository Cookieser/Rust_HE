/- C01 part H: public-key encryption THROUGH THE PREVIOUS LEVEL (`encDivideQLast`): the special-prime path of the first level (the
   default parameters!) and every lower level.  The encryption of zero is made at the previous level `pl` (noise ν) and divided by
   its last prime q_L; the result is a fresh encryption of zero at `l` with noise ν', q_L·ν' = ν + ρ, where the rounding term ρ satisfies
   2‖ρ‖∞ ≤ q_L(1 + ‖s‖₁) (BFV, CKKS) resp. ‖ρ‖∞ ≤ q_L(1 + ‖s‖₁) (BGV).  The phase relation is the case "two polynomials" of the division
   theorem of C05D, with the scheme's rule of division (`c01h_rho`, `c01h_rule`); that the noise is again a multiple of tt needs tt coprime to
   q_L (`c01h_tt_coprime`).  Helper names carry the prefix `c01h_`. -/
import Heathcliff.Proofs.C01G
import Heathcliff.Proofs.C05D
import Mathlib.Tactic.Choose
namespace HC
open Finset Polynomial

/-- ‖s‖₁ over the first n coefficients -/
def skNorm1 (n : Nat) (sk : Array Int) : Nat := ∑ k ∈ range n, (sk.getD k 0).natAbs

/-- the factor of the rounding term: BGV's division error is up to q_L·t per coefficient (factor 2 relative to rounding) -/
def encSlack (l : Level) : Nat := if l.scheme = .bgv then 2 else 1

/-- the rule of division of the scheme on residues modulo q_L (BGV: the t-compatible one, otherwise centring) -/
def c01h_rho (pl : Level) : Nat → Int :=
  if pl.scheme = .bgv then fun b => ((c04t_bgvE (pl.q (pl.size - 1)).value pl.t.value pl.tool.invQLastModT b : Nat) : Int)
  else c04t_center (pl.q (pl.size - 1)).value

theorem c01h_qL_pos {pl : Level} (htool : c05u_ToolOK pl) (h2 : 2 ≤ pl.size) : 0 < (pl.q (pl.size - 1)).value := by
  have := (c05u_qwf htool (show pl.size - 1 < pl.size by omega)).two_le; omega

theorem c01h_rule {pl : Level} (htool : c05u_ToolOK pl) (h2 : 2 ≤ pl.size) (hbg : pl.scheme = .bgv → c05u_BgvOK pl) :
    IsDivRule (pl.q (pl.size - 1)).value (encTT pl) (encSlack pl) (c01h_rho pl) := by
  unfold c01h_rho encSlack
  by_cases hsc : pl.scheme = .bgv
  · have hg := hbg hsc
    have ht2 := hg.twf.two_le
    rw [if_pos hsc, if_pos hsc, c01e_encTT_bgv hsc]
    exact isDivRule_bgvE (by omega) (hg.invt.trans (Nat.mod_eq_of_lt (by omega)).symm)
  · rw [if_neg hsc, if_neg hsc, c01e_encTT_other hsc]
    exact isDivRule_center (c01h_qL_pos htool h2)

theorem c01h_divide_poly {pl : Level} (hpl : pl.WF) (htool : c05u_ToolOK pl) (h2 : 2 ≤ pl.size)
    (hbg : pl.scheme = .bgv → c05u_BgvOK pl) {T : RnsPoly} (hT : RnsCanon pl T) :
    ∃ o, (do
        let o ← match pl.scheme with
          | .ckks => pl.tool.divideAndRoundQLastNtt pl.tables T
          | .bfv => pl.tool.divideAndRoundQLast T
          | .bgv => pl.tool.modTAndDivideQLastNtt pl.tables T
        pure (o.extract 0 (pl.size - 1))) = .ok o ∧ c05d_DivLift pl pl.scheme.encNtt (divY (pl.q (pl.size - 1)).value (c01h_rho pl)) T o := by
  have hqL := c01h_qL_pos htool h2
  unfold c01h_rho
  cases hsc : pl.scheme with
  | bfv =>
    obtain ⟨o, ho, hd⟩ := c05u_bfv_poly htool h2 hT
    exact ⟨o, ho, c05d_divLift_bfv htool hT hd⟩
  | ckks =>
    obtain ⟨o, ho, hd⟩ := c05u_ckks_poly hpl htool h2 hT
    exact ⟨o, ho, c05d_divLift_ckks hqL hd⟩
  | bgv =>
    obtain ⟨o, ho, hd⟩ := c05u_bgv_poly hpl htool (hbg hsc) h2 hT
    exact ⟨o, ho, c05d_divLift_bgv hqL hd⟩

theorem c01h_divide_ok {pl : Level} (hpl : pl.WF) (htool : c05u_ToolOK pl) (h2 : 2 ≤ pl.size)
    (hbg : pl.scheme = .bgv → c05u_BgvOK pl) {temp : Ct} (hT : ∀ k, k < temp.polys.size → RnsCanon pl (temp.polys.getD k #[])) :
    ∃ ps : Array RnsPoly, encDivideQLast pl (pl.size - 1) temp = .ok { temp with polys := ps } ∧ ps.size = temp.polys.size ∧
      ∀ k, k < temp.polys.size → c05d_DivLift pl pl.scheme.encNtt (divY (pl.q (pl.size - 1)).value (c01h_rho pl)) (temp.polys.getD k #[]) (ps.getD k #[]) := by
  obtain ⟨ps, h1, h3, h4⟩ := c05u_polys_mapM (fun p => do
      let o ← match pl.scheme with
        | .ckks => pl.tool.divideAndRoundQLastNtt pl.tables p
        | .bfv => pl.tool.divideAndRoundQLast p
        | .bgv => pl.tool.modTAndDivideQLastNtt pl.tables p
      pure (o.extract 0 (pl.size - 1))) (c05d_DivLift pl pl.scheme.encNtt (divY (pl.q (pl.size - 1)).value (c01h_rho pl))) temp
    (fun k hk => c01h_divide_poly hpl htool h2 hbg (hT k hk))
  refine ⟨ps.toArray, ?_, h3, h4⟩
  exact congrArg (fun x : R (List RnsPoly) => x >>= fun ps => pure ({ temp with polys := ps.toArray } : Ct)) h1

/-- tt is positive and coprime to q_L (BGV: `inv_q_last_mod_t` is an inverse of q_L modulo t) -/
theorem c01h_tt_coprime {pl : Level} (hbg : pl.scheme = .bgv → c05u_BgvOK pl) :
    0 < encTT pl ∧ IsCoprime (encTT pl : Int) ((pl.q (pl.size - 1)).value : Int) := by
  by_cases hsc : pl.scheme = .bgv
  · have hg := hbg hsc
    rw [c01e_encTT_bgv hsc]
    refine ⟨by have := hg.twf.two_le; omega, ?_⟩
    -- invt·q_L = t·⌊invt·q_L / t⌋ + 1
    have hdm := Nat.div_add_mod (pl.tool.invQLastModT * (pl.q (pl.size - 1)).value) pl.t.value
    rw [hg.invt] at hdm
    generalize pl.tool.invQLastModT * (pl.q (pl.size - 1)).value / pl.t.value = k at hdm
    have hz : ((pl.t.value * k + 1 : Nat) : Int) = ((pl.tool.invQLastModT * (pl.q (pl.size - 1)).value : Nat) : Int) := by rw [hdm]
    push_cast at hz
    exact ⟨-(k : Int), (pl.tool.invQLastModT : Int), by linear_combination (-1 : Int) * hz⟩
  · rw [c01e_encTT_other hsc]
    exact ⟨Nat.one_pos, by simpa using isCoprime_one_left⟩

/-- descent of a congruence along the division by q_L: from q_L·x ≡ tt·a modulo Q·q_L with tt coprime to q_L, x is ≡ tt·ν' modulo Q for
    the ν' with q_L·ν' = a -/
theorem c01h_descend {tt qL Q x a : Int} (hco : IsCoprime tt qL) (htt : tt ≠ 0) (h : qL * x ≡ tt * a [ZMOD Q * qL]) :
    ∃ ν' : Int, x ≡ tt * ν' [ZMOD Q] ∧ qL * ν' = a := by
  obtain ⟨k, hk⟩ := Int.modEq_iff_dvd.mp h
  have hk' : (x + Q * k) * qL = tt * a := by linear_combination (-1 : Int) * hk
  obtain ⟨ν', hν'⟩ := hco.dvd_of_dvd_mul_right ⟨_, hk'⟩
  rw [hν'] at hk'
  exact ⟨ν', hν' ▸ Int.modEq_iff_dvd.mpr ⟨k, by ring⟩, mul_left_cancel₀ htt (by rw [← hk']; ring)⟩

/-- THE DIVISION STEP ON A FRESH ENCRYPTION OF ZERO: if `r` is a fresh encryption of zero at `pl` with noise ν, then dividing by the
    last prime of `pl` (BFV / CKKS: rounding, BGV: the t-compatible division) gives a fresh encryption of zero at the next level `l` with
    noise ν', q_L·ν' = ν + ρ, 2‖ρ‖∞ ≤ slack·q_L·(1 + ‖s‖₁) -/
theorem encDivideQLast_fresh {pl l : Level} (hpl : pl.WF) (hqp : c07s_LevelQ pl) (htool : c05u_ToolOK pl) (h2 : 2 ≤ pl.size)
    (hbg : pl.scheme = .bgv → c05u_BgvOK pl)
    (hql : c07s_LevelQ l) (htool' : c05u_ToolOK l) (hnext : c05u_IsNext pl l) (htbl : ∀ i, i < l.size → l.tbl i = pl.tbl i)
    (hsch : l.scheme = pl.scheme) (htt : l.t = pl.t)
    {sk : Array Int} {r : R Ct} {ν : Nat → Int} (hf : FreshZero pl sk r ν) :
    ∃ ν' ρ : Nat → Int, FreshZero l sk (do let temp ← r; encDivideQLast pl l.size temp) ν' ∧
      ∀ c, c < l.n → ((pl.q (pl.size - 1)).value : Int) * ν' c = ν c + ρ c ∧
        2 * (ρ c).natAbs ≤ encSlack pl * ((pl.q (pl.size - 1)).value * (1 + skNorm1 l.n sk)) := by
  obtain ⟨T0, T1, hr, hT0, hT1, hph⟩ := hf
  obtain ⟨ps, hdiv, hps, hrd⟩ := c01h_divide_ok hpl htool h2 hbg (temp := ⟨#[T0, T1], pl.scheme.encNtt, 1⟩)
    (c01e_pair_all (P := RnsCanon pl) hT0 hT1 #[])
  have hsz : l.size = pl.size - 1 := by have := hnext.size; omega
  have hn := hnext.n
  have hencTT : encTT l = encTT pl := by unfold encTT; rw [hsch, htt]
  rw [array_eq_pair ps #[] hps] at hdiv hrd
  obtain ⟨htt0, hco⟩ := c01h_tt_coprime hbg
  -- the division theorem for the two polynomials, ρ its remainder term
  obtain ⟨ρ, hw⟩ : ∃ ρ : Nat → Int, ∀ c, c < pl.n →
      (((pl.q (pl.size - 1)).value : Int) * (encPhase l sk pl.scheme.encNtt (ps.getD 0 #[]) (ps.getD 1 #[])).getD c 0 ≡
        (encPhase pl sk pl.scheme.encNtt T0 T1).getD c 0 + (encTT pl : Int) * ρ c [ZMOD (c03k_Q pl : Int)]) ∧
      2 * (ρ c).natAbs ≤ encSlack pl * ((pl.q (pl.size - 1)).value * ∑ k ∈ range 2, c03k_skL1 pl.n sk ^ k) :=
    ⟨_, c05d_divide_phase hpl htool hql ⟨hnext, htbl⟩ rfl ((c01h_rule htool h2 hbg).quot_rem (c01h_qL_pos htool h2) htt0) sk pl.scheme.encNtt
      (Ts := #[T0, T1]) (Os := #[ps.getD 0 #[], ps.getD 1 #[]]) Nat.zero_lt_two rfl (c01e_pair_all (P := RnsCanon pl) hT0 hT1 #[]) hrd⟩
  have hQ : (c03k_Q pl : Int) = (Spec.prodL (c01p_qvals l) : Int) * ((pl.q (pl.size - 1)).value : Int) := by
    rw [c03k_Q_next hqp hql hnext, Nat.cast_mul]
    rfl
  have hper : ∀ c, c < l.n → ∃ ν'c : Int,
      ((encPhase l sk pl.scheme.encNtt (ps.getD 0 #[]) (ps.getD 1 #[])).getD c 0 ≡ (encTT pl : Int) * ν'c
        [ZMOD (Spec.prodL (c01p_qvals l) : Int)]) ∧ ((pl.q (pl.size - 1)).value : Int) * ν'c = ν c + ρ c := fun c hc => by
    have hc' : c < pl.n := by rw [← hn]; exact hc
    refine c01h_descend hco (Nat.cast_ne_zero.mpr (Nat.pos_iff_ne_zero.mp htt0)) ?_
    rw [← hQ, mul_add]
    exact (hw c hc').1.trans (Int.ModEq.add_right _ (hph c hc'))
  choose! ν' hν' using hper
  refine ⟨ν', ρ, ⟨ps.getD 0 #[], ps.getD 1 #[], by rw [hr, R.ok_bind, hsz, hdiv, hsch], (hrd 0 Nat.zero_lt_two).canon hnext,
    (hrd 1 Nat.one_lt_two).canon hnext, fun c hc => by rw [hsch, hencTT]; exact (hν' c hc).1⟩, fun c hc => ⟨(hν' c hc).2, ?_⟩⟩
  have := (hw c (by rw [← hn]; exact hc)).2
  rw [Finset.sum_range_succ, Finset.sum_range_one, pow_zero, pow_one, ← hn] at this
  exact this

/-- the dispatch branch: public key THROUGH THE PREVIOUS LEVEL (the special-prime path of the first level and every lower level; BFV, CKKS, BGV):
    the encryption of zero made at `pl` with the drawn (u, e0, e1) and divided by q_L is a fresh encryption of zero at `l` with noise ν',
    q_L·ν' = `pkNoise` + ρ, 2‖ρ‖∞ ≤ slack·q_L·(1 + ‖s‖₁) -/
theorem encryptZeroInternal_fresh_pk_prev {pl l : Level} (hpl : pl.WF) (hqp : c07s_LevelQ pl) (htool : c05u_ToolOK pl) (h2 : 2 ≤ pl.size)
    (hbg : pl.scheme = .bgv → c05u_BgvOK pl) (ht : pl.t.value < 2^64)
    (hql : c07s_LevelQ l) (htool' : c05u_ToolOK l) (hnext : c05u_IsNext pl l) (htbl : ∀ i, i < l.size → l.tbl i = pl.tbl i)
    (hsch : l.scheme = pl.scheme) (htt : l.t = pl.t)
    {sk : Array Int} {pk0 pk1 : RnsPoly} {epk : Nat → Int} (hpk : PkRel pl sk (fun c => (encTT pl : Int) * epk c) pk0 pk1)
    {u e0 e1 : Array Int} (hus : u.size = pl.n) (he0s : e0.size = pl.n) (he1s : e1.size = pl.n) :
    ∃ ν' ρ : Nat → Int,
      FreshZero l sk (encryptZeroInternal l (.asym (some pl) #[pk0, pk1] (rnsOfInt pl u) #[rnsOfInt pl e0, rnsOfInt pl e1])) ν' ∧
      ∀ c, c < l.n → ((pl.q (pl.size - 1)).value : Int) * ν' c =
          pkNoise pl.n epk (fun p => u.getD p 0) (fun p => e0.getD p 0) (fun p => e1.getD p 0) (fun p => sk.getD p 0) c + ρ c ∧
        2 * (ρ c).natAbs ≤ encSlack pl * ((pl.q (pl.size - 1)).value * (1 + skNorm1 l.n sk)) := by
  have hf := encryptZeroAsym_fresh hpl hqp ht hpk hus he0s he1s
  have := encDivideQLast_fresh hpl hqp htool h2 hbg hql htool' hnext htbl hsch htt hf
  unfold encryptZeroInternal
  rw [hsch]
  exact this

theorem skNorm1_le (n : Nat) (sk : Array Int) (h : ∀ p, p < n → (sk.getD p 0).natAbs ≤ 1) : skNorm1 n sk ≤ n := by
  unfold skNorm1
  calc ∑ k ∈ range n, (sk.getD k 0).natAbs ≤ ∑ _k ∈ range n, 1 := Finset.sum_le_sum (fun k hk => h k (mem_range.mp hk))
    _ = n := by simp

/-- the noise bound after the division: ⌊(2B + slack·q_L·(1+N)) / (2·q_L)⌋ -/
def spBound (qL B slack N : Nat) : Nat := (2 * B + slack * (qL * (1 + N))) / (2 * qL)

theorem spBound_le {qL B slack N S : Nat} (hq : 0 < qL) (hS : S ≤ N) {ν' ν ρ : Int} (h : (qL : Int) * ν' = ν + ρ)
    (hν : ν.natAbs ≤ B) (hρ : 2 * ρ.natAbs ≤ slack * (qL * (1 + S))) : ν'.natAbs ≤ spBound qL B slack N := by
  unfold spBound
  rw [Nat.le_div_iff_mul_le (by omega)]
  have h1 : ((qL : Int) * ν').natAbs = qL * ν'.natAbs := by rw [Int.natAbs_mul, Int.natAbs_natCast]
  have h2 : ((qL : Int) * ν').natAbs ≤ ν.natAbs + ρ.natAbs := by rw [h]; exact Int.natAbs_add_le _ _
  have h3 : slack * (qL * (1 + S)) ≤ slack * (qL * (1 + N)) :=
    Nat.mul_le_mul_left _ (Nat.mul_le_mul_left _ (by omega))
  have e : ν'.natAbs * (2 * qL) = 2 * (qL * ν'.natAbs) := by ring
  rw [e]
  omega

end HC
