/-
  The READERS and the SIZE functions of src/serialize.rs (Gen/SerFns.lean) are the model's
  `Codec.dec` / `Codec.size` / closed-form size functions.  Both sides of a reader theorem are chains of `rbind` (the model's
  decoders in that form: Proofs/Reader.lean), compared by rewriting.  Helper prefix `gr_`.
-/
import Heathcliff.Gen.SerFns
import Heathcliff.Proofs.Codec
import Heathcliff.Proofs.GenWordScalar
namespace HC.GenS

/-! The partial-function prelude of Gen/SerFns.lean is the error monad `R` of `Proofs/Base.lean`. -/
theorem pbind_eq {α β : Type} (m : R α) (f : α → R β) : pbind m f = (m >>= f) := by cases m <;> rfl
theorem pmapM_eq {α β : Type} (f : α → R β) : ∀ l : List α, pmapM f l = l.mapM f
  | [] => rfl
  | x :: xs => by simp only [pmapM, pbind_eq, R.mapM_cons, pmapM_eq f xs]


/-! The reader operations of that prelude are the decoder operations of Proofs/Reader.lean. -/
theorem rbind_eq : @rbind = @Codec.dbind := rfl
theorem rpure_eq : @rpure = @Codec.dpure := rfl
theorem rfail_eq : @rfail = @Codec.dfail := rfl

end HC.GenS

namespace HC.GS
open HC HC.Codec HC.GenS

theorem gr_u64_deserialize : u64_deserialize = u64C.dec := (scalarC_dec .u64 8).symm
theorem gr_usize_deserialize : usize_deserialize = usizeC.dec := (scalarC_dec .usize 8).symm

theorem gr_u8_deserialize : u8_deserialize = u8C.dec := by
  funext bs
  simp only [u8_deserialize, rbind, rreadExact, rpure, u8C, scalarC, readExact]
  by_cases h : bs.length < 1
  · simp [h]
  · simp only [h, if_false]
    cases bs with
    | nil => simp at h
    | cons b r => simp [leVal]

theorem gr_bool_deserialize : bool_deserialize = boolC.dec := by
  rw [boolC, mapC_dec, ← gr_u8_deserialize]; rfl

theorem gr_f64_deserialize : f64_deserialize = f64C.dec := by
  unfold f64_deserialize; rw [gr_u64_deserialize]; exact dbind_pure_right _

theorem gr_modulus_deserialize : modulus_deserialize = modulusC.dec := gr_f64_deserialize

theorem gr_scheme_guard (v : Nat) : (v == 0 || v == 1 || v == 2 || v == 3) = decide (v ≤ 3) := by
  rw [Bool.eq_iff_iff]
  simp only [Bool.or_eq_true, beq_iff_eq, decide_eq_true_eq]
  omega

/-- `SchemeType::from(u8)` panics above 3: the model's guard -/
theorem gr_scheme_deserialize : scheme_deserialize = schemeC.dec := by
  simp only [rbind_eq, rpure_eq, rfail_eq, scheme_deserialize, gr_u8_deserialize, schemeC, guardC_dec, gr_scheme_guard]

theorem gr_vec_loop {α} (c : Codec α) (l : List Nat) (acc : List α) :
    vec_deserialize_loop1 c.dec l acc = rbind (seqDec (List.replicate l.length c)) fun xs => rpure (acc ++ xs) := by
  induction l generalizing acc with
  | nil => rw [List.length_nil, List.replicate_zero, seqDec_nil, rbind_eq, dbind_dpure, List.append_nil]; rfl
  | cons x xs ih =>
    simp only [rbind_eq, rpure_eq, vec_deserialize_loop1, ih, List.length_cons, List.replicate_succ, seqDec_cons, dbind_assoc, dbind_dpure,
      List.append_assoc, List.singleton_append]

theorem gr_vec_deserialize {α} (item : Rd α) (c : Codec α) (hi : item = c.dec) : vec_deserialize item = (vecC c).dec := by
  subst hi
  simp only [rbind_eq, rpure_eq, vec_deserialize, gr_usize_deserialize, gr_vec_loop, List.length_range', Nat.sub_zero, List.nil_append, dbind_pure_right,
    vecC_dec]

theorem gr_rfill (c : Codec Nat) (l : List Nat) :
    rfill (fun _ => c.dec) l = seqDec (List.replicate l.length c) := by
  induction l with
  | nil => rfl
  | cons x xs ih => simp only [rbind_eq, rpure_eq, rfill, ih, List.length_cons, List.replicate_succ, seqDec_cons]

theorem gr_pid_deserialize : pid_deserialize = pidC.dec := by
  simp only [rbind_eq, rpure_eq, pid_deserialize, gr_u64_deserialize, gr_rfill, dbind_pure_right, List.length_replicate]
  rfl

theorem gr_plain_deserialize : plain_deserialize = plainC.dec := by
  simp only [rbind_eq, rpure_eq, plain_deserialize, gr_pid_deserialize, gr_vec_deserialize u64_deserialize u64C gr_u64_deserialize, gr_f64_deserialize,
    plainC, mapC_dec, pairC_dec, dbind_assoc, dbind_dpure]

/-- what `EncryptionParameters::set_coeff_modulus` insists on (the regenerated `HE_COEFF_MOD_COUNT_MIN/MAX`) -/
def coeffCountOk (p : Params) : Bool :=
  decide (HC.Gen.HE_COEFF_MOD_COUNT_MIN ≤ p.coeffMod.length) && decide (p.coeffMod.length ≤ HC.Gen.HE_COEFF_MOD_COUNT_MAX)

theorem gr_count_guard (n : Nat) :
    (!(decide (n > HC.Gen.HE_COEFF_MOD_COUNT_MAX) || decide (n < HC.Gen.HE_COEFF_MOD_COUNT_MIN)))
      = (decide (HC.Gen.HE_COEFF_MOD_COUNT_MIN ≤ n) && decide (n ≤ HC.Gen.HE_COEFF_MOD_COUNT_MAX)) := by
  rw [Bool.eq_iff_iff]
  simp only [Bool.not_eq_true', Bool.or_eq_false_iff, decide_eq_false_iff_not, Bool.and_eq_true, decide_eq_true_eq]
  omega

/-- The generated reader is the model's decoder FOLLOWED BY the count check of `set_coeff_modulus` (a panic in the code): the
    model accepts parameter streams with 0 or more than 64 coefficient moduli, the code panics on them after reading everything. -/
theorem gr_params_reader :
    params_deserialize = rbind paramsC.dec fun p => if coeffCountOk p then rpure p else rfail .bad := by
  simp only [rbind_eq, rpure_eq, rfail_eq, params_deserialize, gr_scheme_deserialize, gr_usize_deserialize, gr_bool_deserialize, gr_modulus_deserialize,
    gr_vec_deserialize modulusC.dec modulusC rfl, paramsC, schemeC, mapC_dec, guardC_dec, depC_dec, pairC_dec, dbind_assoc, dbind_dpure,
    dbind_ite, dbind_dfail]
  -- both sides now read the scheme byte (≤ 3, else both refuse), degree and moduli; the rest scheme by scheme
  refine congrArg _ (funext fun s => ite_congr rfl (fun hs => ?_) fun _ => rfl)
  have hs : s = 0 ∨ s = 1 ∨ s = 2 ∨ s = 3 := by have := of_decide_eq_true hs; omega
  refine congrArg _ (funext fun n => congrArg _ (funext fun cm => ?_))
  rcases hs with rfl | rfl | rfl | rfl
  all_goals
    simp only [hasPlain, Nat.reduceBEq, Bool.or_false, Bool.or_true, Bool.true_or, Bool.false_eq_true, ↓reduceIte, repC, seqC,
      List.replicate, seqDec_cons, seqDec_nil, dbind_assoc, dbind_dpure, coeffCountOk, gr_count_guard, Bool.true_and, Bool.false_and,
      Bool.not_false, bne_self_eq_false, List.headD_cons, List.headD_nil, Nat.reduceBNe]
  all_goals rfl

theorem gr_params_deserialize (bs : Bytes) :
    params_deserialize bs = match paramsC.dec bs with
      | .ok (p, r) => if coeffCountOk p then .ok (p, r) else .error .bad
      | .error e => .error e := by
  rw [gr_params_reader]
  unfold rbind
  cases paramsC.dec bs with
  | error e => rfl
  | ok q =>
    obtain ⟨p, r⟩ := q
    dsimp only
    cases coeffCountOk p <;> rfl

theorem gr_vec_size_loop {α} (item : α → Nat) (l : List α) (acc : Nat) :
    vec_serialized_size_loop1 item l acc = acc + (l.map item).sum := by
  induction l generalizing acc with
  | nil => simp [vec_serialized_size_loop1]
  | cons x xs ih => simp [vec_serialized_size_loop1, ih, Nat.add_assoc]

theorem gr_vec_size {α} (item : α → Nat) (c : Codec α) (hi : item = c.size) (l : List α) :
    vec_serialized_size item l = (vecC c).size l := by
  have : (vecC c).size l = 8 + seqSize (List.replicate l.length c) l := rfl
  rw [this, seqSize_replicate, hi]
  simp [vec_serialized_size, gr_vec_size_loop]

theorem gr_sum_const {α : Type} (l : List α) (k : Nat) : (l.map (fun _ => k)).sum = k * l.length :=
  (list_sum_const (fun _ => k) k l fun _ _ => rfl).trans (Nat.mul_comm _ _)

theorem gr_params_size (p : Params) : params_serialized_size p = paramsSerializedSize p := by
  have hv : vec_serialized_size modulus_serialized_size p.coeffMod = 8 + 8 * p.coeffMod.length := by
    have hm : modulus_serialized_size = fun _ => 8 := rfl
    simp [vec_serialized_size, gr_vec_size_loop, hm, gr_sum_const]
  unfold params_serialized_size paramsSerializedSize
  simp only [hv, modulus_serialized_size, bool_serialized_size, hasPlain]
  by_cases h : (p.scheme == 1 || p.scheme == 3) = true
  · simp only [h, if_true]
  · have h0 : (p.scheme == 1 || p.scheme == 3) = false := by simpa using h
    simp only [h0, Bool.false_eq_true, if_false]

theorem gr_plain_size (p : Plain) : plain_serialized_size p = plainSerializedSize p := by
  have hm : u64_serialized_size = fun _ => 8 := rfl
  simp [plain_serialized_size, plainSerializedSize, vec_serialized_size, gr_vec_size_loop, hm, f64_serialized_size,
    gr_sum_const]

/-- `get_u64_limit` (through the generated `get_significant_bit_count` of Gen/WordFns.lean) = the model's `u64Limit`, for every `u64` -/
theorem gr_get_u64_limit (q : Nat) (hq : q < 2^64) : get_u64_limit q = .ok (u64Limit q) := by
  have h := HC.gw_get_significant_bit_count_eq q hq
  simp only [get_u64_limit, h, pbind, ppure]
  rfl

/-- the widths of the moduli, in the form every function of Gen/SerFns.lean computes them -/
theorem gr_limits (l : List Nat) (hl : ∀ q ∈ l, q < 2^64) :
    pmapM (fun x => pbind (get_u64_limit x) fun t => ppure t) l = .ok (l.map u64Limit) :=
  (pmapM_eq _ l).trans (R.mapM_ok _ _ l fun q hq => by
    show pbind (get_u64_limit q) _ = _
    rw [gr_get_u64_limit q (hl q hq)]; rfl)

theorem gr_header (lv : Level) (v : CtV) :
    (if (lv.scheme == 1) = true then 0 + pid_serialized_size v.pid + usize_serialized_size v.size + bool_serialized_size v.ntt
      else if (lv.scheme == 2) = true then 0 + pid_serialized_size v.pid + usize_serialized_size v.size + bool_serialized_size v.ntt + f64_serialized_size v.scale
      else if (lv.scheme == 3) = true then 0 + pid_serialized_size v.pid + usize_serialized_size v.size + bool_serialized_size v.ntt + u64_serialized_size v.cf
      else 0 + pid_serialized_size v.pid + usize_serialized_size v.size + bool_serialized_size v.ntt) = headerSize lv := by
  unfold headerSize
  by_cases h1 : lv.scheme = 1
  · rw [h1]; rfl
  · by_cases h2 : lv.scheme = 2
    · rw [h2]; rfl
    · by_cases h3 : lv.scheme = 3
      · rw [h3]; rfl
      · simp only [beq_eq_false_iff_ne.mpr h1, beq_eq_false_iff_ne.mpr h2, beq_eq_false_iff_ne.mpr h3, Bool.or_self, Bool.false_eq_true,
          ↓reduceIte]
        rfl

/-- number of `u64` words `serialize_full` sends, as the size function computes it -/
def fullSentV (v : CtV) : Nat := if v.seeded then (v.poly 0).length + 1 + seedWords else v.data.length

theorem gr_ct_full_size (ctx : Ctx) (lv : Level) (v : CtV) (hfind : ctx.find v.pid = some lv) :
    ct_serialized_full_size ctx v = .ok (ctSerializedFullSize lv (fullSentV v)) := by
  unfold ct_serialized_full_size
  simp only [hfind, gr_header]
  rfl

/-- `loop`: the index loop of either compact size function (its two equations); `f w` = what it adds for a modulus of width `w` -/
theorem gr_width_loop (loop : List Nat → Nat → R Nat) (f : Nat → Nat) (limits : List Nat) (hnil : ∀ acc, loop [] acc = .ok acc)
    (hcons : ∀ j js acc, loop (j :: js) acc = pbind (pidx limits j) fun w => loop js (acc + f w)) (acc : Nat) :
    loop (List.range' 0 limits.length) acc = .ok (acc + (limits.map f).sum) := by
  have h : ∀ k start, start + k ≤ limits.length → ∀ acc,
      loop (List.range' start k) acc = .ok (acc + (((limits.drop start).take k).map f).sum) := by
    intro k
    induction k with
    | zero => intro start _ acc; rw [List.range'_zero, hnil]; rfl
    | succ k ih =>
      intro start hk acc
      have hlt : start < limits.length := by omega
      rw [List.range'_succ, hcons, pidx, List.getElem?_eq_getElem hlt]
      show loop _ _ = _
      rw [ih _ (by omega), List.drop_eq_getElem_cons hlt, List.take_succ_cons, List.map_cons, List.sum_cons, Nat.add_assoc]
  rw [h limits.length 0 (Nat.le_of_eq (Nat.zero_add _)) acc, List.drop_zero, List.take_length]

theorem gr_seed_bytes (seeded : Bool) (n : Nat) : (if seeded then n + (64 + 7) / 8 * 8 else n) = n + (if seeded then seedWords * 8 else 0) := by
  cases seeded <;> rfl

/-- `Ciphertext::serialized_size` = the model's closed form `ctSerializedSize` (every modulus a `u64`) -/
theorem gr_ct_size (ctx : Ctx) (lv : Level) (v : CtV) (hfind : ctx.find v.pid = some lv) (hq : ∀ q ∈ lv.moduli, q < 2^64) :
    ct_serialized_size ctx v = .ok (ctSerializedSize lv v.size v.seeded) := by
  have hloop := gr_width_loop (ct_serialized_size_loop1 lv.n (lv.moduli.map u64Limit) (if v.seeded then 1 else v.size))
    (fun w => (if v.seeded then 1 else v.size) * lv.n * w) (lv.moduli.map u64Limit) (fun _ => rfl) (fun _ _ _ => rfl)
  rw [List.length_map] at hloop
  unfold ct_serialized_size ctSerializedSize
  simp only [hfind, gr_limits lv.moduli hq]
  simp only [pbind, ppure, Nat.sub_zero, hloop, gr_header, gr_seed_bytes, List.map_map, Function.comp_def]

/-- `Ciphertext::serialized_terms_size` = `ctSerializedTermsSize`, provided `upper - 1` does not trap: a seeded ciphertext, or size ≥ 1 -/
theorem gr_ct_terms_size (ctx : Ctx) (lv : Level) (v : CtV) (tc : Nat) (hfind : ctx.find v.pid = some lv)
    (hq : ∀ q ∈ lv.moduli, q < 2^64) (hu : v.seeded = true ∨ 1 ≤ v.size) :
    ct_serialized_terms_size ctx v tc = .ok (ctSerializedTermsSize lv v.size v.seeded tc) := by
  have hs : ckSub (if v.seeded then 1 else v.size) 1 = .ok ((if v.seeded then 1 else v.size) - 1) := by
    have : 1 ≤ (if v.seeded then 1 else v.size) := by
      rcases hu with h | h
      · rw [h]; exact Nat.le_refl 1
      · split <;> omega
    exact if_pos this
  have hloop := gr_width_loop (ct_serialized_terms_size_loop1 tc lv.n (lv.moduli.map u64Limit) (if v.seeded then 1 else v.size))
    (fun w => (tc + ((if v.seeded then 1 else v.size) - 1) * lv.n) * w) (lv.moduli.map u64Limit) (fun _ => rfl)
    (fun _ _ _ => by simp only [ct_serialized_terms_size_loop1, hs, pbind])
  rw [List.length_map] at hloop
  unfold ct_serialized_terms_size ctSerializedTermsSize
  simp only [hfind, gr_limits lv.moduli hq]
  simp only [pbind, ppure, Nat.sub_zero, hloop, gr_header, gr_seed_bytes, List.map_map, Function.comp_def]

/-- the excluded point: an EMPTY unseeded ciphertext at a level with at least one modulus — the code traps in `upper - 1`
    (the model's closed form, with truncated subtraction, returns a number) -/
theorem gr_ct_terms_size_traps (ctx : Ctx) (lv : Level) (v : CtV) (tc : Nat) (hfind : ctx.find v.pid = some lv)
    (q : Nat) (qs : List Nat) (hm : lv.moduli = q :: qs)
    (hq : ∀ q ∈ lv.moduli, q < 2^64) (hs : v.seeded = false) (h0 : v.size = 0) :
    ct_serialized_terms_size ctx v tc = .error .overflow := by
  unfold ct_serialized_terms_size
  simp only [hfind, gr_limits lv.moduli hq]
  simp only [pbind, ppure, hs, h0, hm, List.length_cons, Nat.sub_zero, List.range'_succ, ct_serialized_terms_size_loop1,
    ckSub, Bool.false_eq_true, if_false]
  simp

/-- an unknown parms id: `get_context_data(..).unwrap()` panics in all three size functions -/
theorem gr_ct_sizes_unknown_pid (ctx : Ctx) (v : CtV) (tc : Nat) (hfind : ctx.find v.pid = none) :
    ct_serialized_full_size ctx v = .error .other ∧ ct_serialized_size ctx v = .error .other ∧
    ct_serialized_terms_size ctx v tc = .error .other := by
  refine ⟨?_, ?_, ?_⟩
  · unfold ct_serialized_full_size; simp only [hfind]
  · unfold ct_serialized_size; simp only [hfind]
  · unfold ct_serialized_terms_size; simp only [hfind]

end HC.GS
