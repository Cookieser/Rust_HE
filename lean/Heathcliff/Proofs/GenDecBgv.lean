/-
  The decryptor code of src/encryptor.rs regenerated into `Heathcliff/Gen/DecFns.lean` (tools/rs2lean_dec.py) against the hand model of
  `Heathcliff/Model/Scheme.lean`: the three decryption skeletons and the dispatch.
  * `bgv_decrypt`: refusals, order of the opaque steps, the correction-factor fix-up (`bgvFixupL`: Euclid's inverse for every plain modulus), trimming;
  * the counting helper `get_significant_uint64_count_uint` of src/util/basic.rs = `sigWords`, so that the trimming is `trimPlain`;
  * `bfv_decrypt`, `ckks_decrypt`, `decrypt`: refusals, order of the opaque steps, destination sizes, trimming, the dispatch on the scheme.

  The `plan` argument.  The steps on opaque objects are not executed by the skeletons: each appends its code to `plan` (and copies a pseudo-input
  such as `dec` where the step would write), so a statement `… plan ++ [1] ++ [2] ++ [3]` says WHICH steps are called in WHICH order.  The codes
  are chosen by the translator's tables (tools/rs2lean_dec.py) and mean, in the decryption skeletons of this file:
    1 = `dot_product_ct_sk_array` (the phase; its own plan is GenDecPlan's),   2 = `intt_p` of the phase (`bgv_decrypt`),
    3 = `decrypt_mod_t` (`bgv_decrypt`),   4 = `decrypt_scale_and_round` (`bfv_decrypt`),   5 = `set_parms_id`,  6 = `set_scale` (`ckks_decrypt`),
    31 / 32 / 33 = `decrypt` goes on with `bfv_decrypt` / `ckks_decrypt` / `bgv_decrypt`.
  In `invariant_noise_budget` (GenDecBudget) 2 and 3 mean other steps; the legend is in that file's head.  That a code stands for the call it
  names is the trusted reading of the skeleton, not a theorem.

  Helper names start with `gd_` (d for decryptor) in GenDecBgv, GenDecPlan, GenDecBudget, GenDecW; the `gd_` of GenDwt and GenNttHarvey (d for DWT)
  is another family.  `gq_` and `gx_` names are those of GenUint.
-/
import Heathcliff.Gen.DecFns
import Heathcliff.Proofs.GenRnsView
import Heathcliff.Proofs.C08C
import Heathcliff.Proofs.GenUint
import Mathlib.Tactic.Linarith
namespace HC
open HC.GenDec

/-- the model's fix-up (the `if ct.cf ≠ 1` block of `bgvDecrypt`, Model/Scheme.lean) on lists -/
def bgvFixupL (cf : Nat) (t : Modulus) (d : List Nat) : R (List Nat) :=
  if cf ≠ 1 then do
    match ← tryInvert cf t.value with
    | none => .error .refused
    | some fix => d.mapM (fun x => mulMod x fix t)
  else pure d

/-- the same block as it stands in `bgvDecrypt` (arrays, `mapM'`) is `bgvFixupL` on the list of the array -/
theorem gd_bgvFixup_model (cf : Nat) (t : Modulus) (d : Array Nat) :
    (if cf ≠ 1 then do
        match ← tryInvert cf t.value with
        | none => (.error .refused : R (Array Nat))
        | some fix => mapM' d (fun x => mulMod x fix t)
      else pure d) = (bgvFixupL cf t d.toList >>= fun ys => .ok ys.toArray) := by
  unfold bgvFixupL
  by_cases h : cf = 1
  · simp [h]; rfl
  · simp only [ne_eq, h, not_false_eq_true, if_true]
    cases hti : tryInvert cf t.value with
    | error e => rfl
    | ok o =>
      cases o with
      | none => rfl
      | some fix => simp only [bind, Except.bind, mapM'_eq]

/-- the tail of the generated `bgv_decrypt` after the fix-up: trimming -/
def gd_bgv_trim (d plan : List Nat) : R (List Nat × List Nat) := do
  let c ← get_significant_uint64_count_uint d
  pure (resizeL d (max c 1) 0, plan)

/-- GENERATED `bgv_decrypt` (skeleton) = refusal unless NTT form; the opaque steps 1, 2, 3 (phase, inverse NTT, `decrypt_mod_t` writing `dec`
    into the `n` words of the destination); the MODEL's fix-up; trimming.  Domain of the `try_invert_u64_mod_u64` tie: cf < 2^63, 2 ≤ t < 2^61. -/
theorem gd_bgv_decrypt_eq (ntt : Bool) (n k cf : Nat) (t : Modulus) (dec d plan : List Nat)
    (hcf : cf < 2^63) (ht2 : 2 ≤ t.value) (ht : t.value < 2^61) :
    dec_bgv_decrypt ntt n k cf t dec d plan =
      (if ntt = true then do
        let _ ← ckMul n k
        let d0 ← copyWhole (resizeL d n 0) dec
        let d1 ← bgvFixupL cf t d0
        gd_bgv_trim d1 (plan ++ [1] ++ [2] ++ [3])
      else .error .refused) := by
  unfold dec_bgv_decrypt
  by_cases hn : ntt = true
  · simp only [hn, if_true]
    cases hm : ckMul n k with
    | error e => rfl
    | ok v =>
      simp only [bind, Except.bind]
      cases hc : copyWhole (resizeL d n 0) dec with
      | error e => rfl
      | ok d0 =>
        simp only [bgvFixupL, GenW.try_invert_u64_mod, gw_try_invert_u64_mod_u64_eq cf t.value 1 hcf ht2 ht, gr_multiply_scalar_inplace_eq]
        by_cases h1 : cf = 1
        · simp [h1, gd_bgv_trim, bind, Except.bind, pure, Except.pure]
        · simp only [ne_eq, h1, not_false_eq_true, if_true]
          cases hti : tryInvert cf t.value with
          | error e => rfl
          | ok o =>
            cases o with
            | none => rfl
            | some fix =>
              simp only [bind, Except.bind, pure, Except.pure, decide_true, not_true_eq_false, if_false]
              cases hmm : List.mapM (fun x => mulMod x fix t) d0 with
              | error e => rfl
              | ok d1 => simp [gd_bgv_trim, bind, Except.bind, pure, Except.pure]
  · simp [hn]

/-- EVERY plain modulus 2 ≤ t < 2^61 (prime or COMPOSITE) and every correction factor cf ≠ 1 coprime to t: the fix-up multiplies every
    coefficient by THE inverse of cf modulo t (Euclid, not Fermat). -/
theorem gd_bgvFixup_spec (t : Modulus) (hWF : t.WF) (ht2 : 2 ≤ t.value) (ht : t.value < 2^61) (cf : Nat) (hcf : cf < 2^63) (hcf1 : cf ≠ 1)
    (hg : Nat.gcd cf t.value = 1) (d : List Nat) (hd : ∀ x ∈ d, x < 2^64) :
    ∃ inv, inv < t.value ∧ (inv * cf) % t.value = 1 ∧ bgvFixupL cf t d = .ok (d.map (fun x => (x * inv) % t.value)) := by
  have hcf0 : cf ≠ 0 := by
    intro h0; rw [h0, Nat.gcd_zero_left] at hg; omega
  obtain ⟨r, hr, hrlt, hrm⟩ := (tryInvert_spec_partial ht2 ht (by omega) hcf).1 ⟨hcf0, hg⟩
  refine ⟨r, hrlt, hrm, ?_⟩
  unfold bgvFixupL
  simp only [ne_eq, hcf1, not_false_eq_true, if_true, hr, bind, Except.bind]
  exact R.mapM_ok _ (fun x => (x * r) % t.value) d (fun x hx => mulMod_exact hWF (hd x hx) (by omega))

/-- a non-invertible correction factor is REFUSED (the `panic!("Correction factor is not invertible")`) -/
theorem gd_bgvFixup_refuses (t : Modulus) (ht2 : 2 ≤ t.value) (ht : t.value < 2^61) (cf : Nat) (hcf : cf < 2^63) (hcf1 : cf ≠ 1)
    (hg : cf = 0 ∨ Nat.gcd cf t.value ≠ 1) (d : List Nat) : bgvFixupL cf t d = .error .refused := by
  have := (tryInvert_spec_partial ht2 ht (by omega) hcf).2 hg
  unfold bgvFixupL
  simp only [ne_eq, hcf1, not_false_eq_true, if_true, this, bind, Except.bind]

theorem gd_sigWords_snoc (l : List Nat) (x : Nat) : sigWords (l ++ [x]) = if x = 0 then sigWords l else l.length + 1 := by
  unfold sigWords
  rw [List.reverse_append, List.reverse_singleton, List.singleton_append, List.dropWhile_cons]
  by_cases h : x = 0
  · simp [h]
  · simp [h]

/-- a `while` loop that counts DOWN and leaves early: induction on the counter `c`, the fuel only has to exceed it
    (GenLoop treats the loops that count up a fixed number of times) -/
theorem gd_sig_loop (a : List Nat) : ∀ (c fuel : Nat), c ≤ a.length → c < fuel →
    get_significant_uint64_count_uint_loop1 a fuel c = .ok (sigWords (a.take c)) := by
  intro c
  induction c with
  | zero =>
    intro fuel _ hf
    obtain ⟨f, rfl⟩ : ∃ f, fuel = f + 1 := ⟨fuel - 1, by omega⟩
    simp [get_significant_uint64_count_uint_loop1, sigWords, pure, Except.pure, bind, Except.bind]
  | succ c ih =>
    intro fuel hc hf
    obtain ⟨f, rfl⟩ : ∃ f, fuel = f + 1 := ⟨fuel - 1, by omega⟩
    have hlt : c < a.length := by omega
    have hsub : ckSub (c + 1) 1 = .ok c := ckSub_of_le (by omega)
    have htk : a.take (c + 1) = a.take c ++ [a[c]] := by rw [List.take_succ_eq_append_getElem hlt]
    rw [get_significant_uint64_count_uint_loop1]
    simp only [Nat.zero_lt_succ, if_true, hsub, GenW.idx_ok a hlt, bind, Except.bind, pure, Except.pure, gt_iff_lt]
    rw [htk, gd_sigWords_snoc, List.length_take, Nat.min_eq_left (by omega)]
    by_cases h0 : a[c] = 0
    · simp only [h0, decide_true, if_true]
      exact ih f (by omega) (by omega)
    · simp only [h0, decide_false, if_false, Bool.false_eq_true]

/-- `get_significant_uint64_count_uint` = `sigWords` (every slice, the empty one included) -/
theorem gd_get_significant_uint64_count_uint_eq (a : List Nat) : get_significant_uint64_count_uint a = .ok (sigWords a) := by
  unfold get_significant_uint64_count_uint
  have := gd_sig_loop a a.length (a.length + 1) (le_refl _) (by omega)
  rw [List.take_length] at this
  exact this

/-- the trimming of the generated `bgv_decrypt` = `trimPlain` (Model/Scheme.lean) on lists -/
theorem gd_bgv_trim_eq (d plan : List Nat) : gd_bgv_trim d plan = .ok (resizeL d (max (sigWords d) 1) 0, plan) := by
  unfold gd_bgv_trim; rw [gd_get_significant_uint64_count_uint_eq]; rfl

/-- the model's `trimPlain` as the same resize on lists.  The empty array is excepted because the two differ there: the source's
    `resize(max(count, 1))` LENGTHENS `[]` to `[0]`, the model's `extract 0 1` cannot (`#[]`).  A destination of decryption has n ≥ 1 words. -/
theorem gd_trimPlain_toList (d : Array Nat) : (trimPlain d).toList = resizeL d.toList (max (sigWords d.toList) 1) 0 ∨ d.size = 0 := by
  by_cases h0 : d.size = 0
  · exact Or.inr h0
  · left
    unfold trimPlain resizeL
    have hs : sigWords d.toList ≤ d.toList.length := by
      unfold sigWords
      calc (d.toList.reverse.dropWhile (· = 0)).length ≤ d.toList.reverse.length := (List.dropWhile_sublist _).length_le
        _ = d.toList.length := List.length_reverse
    have hm : max (sigWords d.toList) 1 ≤ d.toList.length := by
      have : 1 ≤ d.toList.length := by simp; omega
      omega
    simp only [Array.toList_extract, List.extract_eq_take_drop, List.drop_zero, Nat.sub_zero]
    rw [Nat.sub_eq_zero_of_le hm]; simp

/-- GENERATED `bfv_decrypt`: refused in NTT form; steps 1 (phase), 4 (`decrypt_scale_and_round` writing the n words `dec`); `trimPlain` -/
theorem gd_bfv_decrypt_eq (ntt : Bool) (n k : Nat) (dec d plan : List Nat) (hnk : n * k < 2^64) :
    dec_bfv_decrypt ntt n k dec d plan =
      (if ntt = true then .error .refused else
        copyWhole (resizeL d n 0) dec >>= fun d0 => .ok (resizeL d0 (max (sigWords d0) 1) 0, plan ++ [1] ++ [4])) := by
  unfold dec_bfv_decrypt
  have hm : ckMul n k = .ok (n * k) := ckMul_ok (by simpa [B64] using hnk)
  cases ntt
  · simp only [Bool.false_eq_true, not_false_eq_true, if_true, if_false, hm, bind, Except.bind, pure, Except.pure]
    cases copyWhole (resizeL d n 0) dec with
    | error e => rfl
    | ok d0 => simp only [gd_get_significant_uint64_count_uint_eq]
  · simp

/-- GENERATED `ckks_decrypt`: refused unless NTT form; the destination gets n·k words = the phase itself; then parms_id and scale are copied -/
theorem gd_ckks_decrypt_eq (ntt : Bool) (n k : Nat) (ph d plan : List Nat) (hnk : n * k < 2^64) :
    dec_ckks_decrypt ntt n k ph d plan =
      (if ntt = true then copyWhole (resizeL d (n * k) 0) ph >>= fun d0 => .ok (d0, plan ++ [1] ++ [5] ++ [6]) else .error .refused) := by
  unfold dec_ckks_decrypt
  have hm : ckMul n k = .ok (n * k) := ckMul_ok (by simpa [B64] using hnk)
  cases ntt
  · simp
  · simp only [if_true, hm, bind, Except.bind, pure, Except.pure]

/-- GENERATED `decrypt`: the three refusals in source order (seeded ciphertext, invalid, fewer than 2 polynomials), then the dispatch -/
theorem gd_decrypt_dispatch_eq (seed valid : Bool) (size : Nat) (scheme : Scheme) (plan : List Nat) :
    dec_decrypt_dispatch seed valid size scheme plan =
      (if seed = true ∨ valid = false ∨ size < 2 then .error .refused
       else .ok (plan ++ [match scheme with | .bfv => 31 | .ckks => 32 | .bgv => 33])) := by
  unfold dec_decrypt_dispatch
  cases seed <;> cases valid <;> cases scheme <;> by_cases h : size < 2 <;> simp [h, pure, Except.pure]

end HC
