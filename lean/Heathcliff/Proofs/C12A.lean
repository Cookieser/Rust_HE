/- C12 part A: the integer side of the CKKS encoder model (Heathcliff/Model/CkksEncoder.lean): the three magnitude paths
   return the residues of the rounded coefficient (negative ones included), `encode_internal_i64_single`, the centred lift
   and limb fold of decode.  Helper lemmas carry `c12a_`; names Props/C12 states (`c12_res`, `roundDyadic_spec`, `limb_sum`, …)
   are unprefixed.  `⟨0,0,0,0,0⟩` is the `getD` default of a `Modulus` array (what `b.q i` unfolds to); it is never read, the indices are in range. -/
import Heathcliff.Model.CkksEncoder
import Heathcliff.Proofs.C10H
import Mathlib.Tactic.Ring
import Mathlib.Tactic.Linarith
import Mathlib.Tactic.NormNum
namespace HC
open Ckks

/-- canonical residue of an integer modulo q -/
def c12_res (c : Int) (q : Nat) : Nat := (c % (q : Int)).toNat

/-- `f64::round` of the dyadic m·2^e: an integer within 1/2 of it (and the exact value when e ≥ 0) -/
theorem roundDyadic_spec (m e : Int) :
    (0 ≤ e → roundDyadic m e = m * 2 ^ e.toNat) ∧
    (e < 0 → 2 * |roundDyadic m e * 2 ^ (-e).toNat - m| ≤ 2 ^ (-e).toNat) := by
  constructor
  · intro h; unfold roundDyadic; rw [if_pos h]
  · intro h
    unfold roundDyadic
    rw [if_neg (by omega)]
    dsimp only
    generalize (-e).toNat = k
    have hd : 0 < 2 ^ k := Nat.pos_of_ne_zero (by positivity)
    have hD : ((2:Int) ^ k) = ((2 ^ k : Nat) : Int) := by push_cast; rfl
    rw [hD]
    generalize 2 ^ k = d at hd
    have h1 : (2 * m.natAbs + d) / (2 * d) * (2 * d) ≤ 2 * m.natAbs + d := Nat.div_mul_le_self _ _
    have h2 : 2 * m.natAbs + d < (2 * m.natAbs + d) / (2 * d) * (2 * d) + 2 * d :=
      Nat.lt_div_mul_add (by omega)
    generalize (2 * m.natAbs + d) / (2 * d) = r at h1 h2
    have e1 : r * (2 * d) = 2 * (r * d) := by ring
    rw [e1] at h1 h2
    have e2 : ((r * d : Nat) : Int) = (r : Int) * (d : Int) := by push_cast; rfl
    generalize hp : r * d = p at h1 h2 e2
    split
    · rw [neg_mul, ← e2]
      rcases abs_cases (-(p:Int) - m) with ⟨h, _⟩ | ⟨h, _⟩ <;> rw [h] <;> omega
    · rw [← e2]
      rcases abs_cases ((p:Int) - m) with ⟨h, _⟩ | ⟨h, _⟩ <;> rw [h] <;> omega

theorem c12a_mapM_ok {α β : Type} (f : α → R β) (g : α → β) (a : Array α)
    (h : ∀ x ∈ a.toList, f x = .ok (g x)) : a.mapM f = .ok (a.map g) := by
  rw [Array.mapM_eq_mapM_toList, R.mapM_ok f g a.toList h]
  show Except.ok _ = Except.ok _
  congr 1
  apply Array.toList_inj.mp
  simp

theorem c12a_res_nonneg {c : Int} (hc : 0 ≤ c) (q : Nat) : c12_res c q = c.natAbs % q := by
  unfold c12_res
  obtain ⟨n, rfl⟩ := Int.eq_ofNat_of_zero_le hc
  simp only [Int.natAbs_natCast]
  rw [← Int.natCast_mod, Int.toNat_natCast]

theorem c12a_res_neg {c : Int} (hc : c < 0) {q : Nat} (hq : 0 < q) :
    c12_res c q = (q - c.natAbs % q) % q := by
  unfold c12_res
  obtain ⟨n, rfl⟩ : ∃ n : Nat, c = -(n : Int) := ⟨c.natAbs, by omega⟩
  simp only [Int.natAbs_neg, Int.natAbs_natCast]
  have h1 := Nat.div_add_mod n q
  have h2 := Nat.mod_lt n hq
  generalize n % q = r at *
  generalize n / q = t at *
  subst h1
  by_cases hr : r = 0
  · subst hr
    have : (-((q * t + 0 : Nat) : Int)) % (q : Int) = 0 := by
      push_cast; simp
    rw [this]; simp
  · have : (-((q * t + r : Nat) : Int)) % (q : Int) = ((q - r : Nat) : Int) := by
      have e : (-((q * t + r : Nat) : Int)) = ((q - r : Nat) : Int) + (q : Int) * (-(t:Int) - 1) := by
        rw [Int.ofNat_sub h2.le]; push_cast; ring
      rw [e, Int.add_mul_emod_self_left, ← Int.natCast_mod, Nat.mod_eq_of_lt (by omega)]
    rw [this, Int.toNat_natCast, Nat.mod_eq_of_lt (by omega)]

theorem c12a_signFix {m : Modulus} (h : m.WF) (c : Int) :
    signFix (decide (c < 0)) (c.natAbs % m.value) m = .ok (c12_res c m.value) := by
  have h2 := h.two_le
  unfold signFix
  by_cases hc : c < 0
  · rw [decide_eq_true hc, if_pos rfl, negateMod_exact h (Nat.mod_lt _ (by omega)).le, c12a_res_neg hc (by omega)]
  · rw [decide_eq_false hc, if_neg (by simp)]
    rw [c12a_res_nonneg (by omega)]; rfl

theorem c12a_residues {qs : Array Modulus} (hq : ∀ i, i < qs.size → (qs.getD i ⟨0,0,0,0,0⟩).WF) (f : Modulus → R Nat) (c : Int)
    (hf : ∀ q : Modulus, q.WF → f q = .ok (c12_res c q.value)) :
    ∃ rs, qs.mapM f = .ok rs ∧ rs.size = qs.size ∧ ∀ i, i < qs.size → rs.getD i 0 = c12_res c (qs.getD i ⟨0,0,0,0,0⟩).value := by
  refine ⟨qs.map (fun q => c12_res c q.value), c12a_mapM_ok _ _ _ fun q hqm => ?_, by simp, fun i hi => array_getD_map _ qs _ _ hi⟩
  obtain ⟨i, hi, rfl⟩ := array_mem_getD qs ⟨0,0,0,0,0⟩ (Array.mem_def.mpr hqm)
  exact hf _ (hq i hi)

theorem c12a_satU64 {a : Nat} (h : a < 2^64) : satU64 a = a := by
  unfold satU64; rw [if_pos (by rw [B64_eq]; exact h)]

/-- ≤ 64-bit path: for EVERY integer c with |c| < 2^64 the residues are c mod q_j (negative c included) -/
theorem path64_spec {qs : Array Modulus} (hq : ∀ i, i < qs.size → (qs.getD i ⟨0,0,0,0,0⟩).WF) {c : Int} (hc : c.natAbs < 2^64) :
    ∃ rs, path64 qs c = .ok rs ∧ rs.size = qs.size ∧
      ∀ i, i < qs.size → rs.getD i 0 = c12_res c (qs.getD i ⟨0,0,0,0,0⟩).value := by
  unfold path64
  refine c12a_residues hq _ c fun q hw => ?_
  rw [c12a_satU64 hc, barrett64_exact hw hc]
  exact c12a_signFix hw c

theorem path128_spec {qs : Array Modulus} (hq : ∀ i, i < qs.size → (qs.getD i ⟨0,0,0,0,0⟩).WF) {c : Int} (hc : c.natAbs < 2^128) :
    ∃ rs, path128 qs c = .ok rs ∧ rs.size = qs.size ∧
      ∀ i, i < qs.size → rs.getD i 0 = c12_res c (qs.getD i ⟨0,0,0,0,0⟩).value := by
  unfold path128
  refine c12a_residues hq _ c fun q hw => ?_
  have hhi : c.natAbs / B64 < 2^64 := by
    rw [B64_eq, Nat.div_lt_iff_lt_mul (by norm_num)]; norm_num at hc ⊢; exact hc
  have hlo : c.natAbs % B64 < 2^64 := by
    rw [B64_eq]; exact Nat.mod_lt _ (by norm_num)
  rw [c12a_satU64 hhi, barrett128_exact hw hlo hhi, ← B64_eq, Nat.mod_add_div]
  exact c12a_signFix hw c

/-- multi-word path (only reachable with at least 3 moduli: more than 128 bits) -/
theorem pathBig_spec {b : RNSBase} (hb : b.WF) (h1 : 1 < b.size) {c : Int} (hc : c.natAbs < 2^(64 * b.size)) :
    ∃ rs, pathBig b c = .ok rs ∧ rs.size = b.size ∧ ∀ i, i < b.size → rs.getD i 0 = c12_res c (b.q i).value := by
  obtain ⟨ds, hd, hsz, hds⟩ := decompose_spec_of hb hc (Or.inl h1)
  refine ⟨(Array.range b.size).map (fun j => c12_res c (b.q j).value), ?_, by simp, ?_⟩
  · unfold pathBig
    have hdc : ¬ digitCount c.natAbs > b.size := by
      have := bitCount_le_iff_lt.mpr hc
      unfold digitCount; omega
    simp only [bind, Except.bind]
    rw [if_neg hdc, hd]
    simp only []
    apply c12a_mapM_ok
    intro j hj
    have hj' : j < b.size := by simpa using hj
    rw [hds j hj']
    exact c12a_signFix (hb.mwf j hj') c
  · intro i hi
    simp [Array.getD, hi]

/-- COEFF_TO_RNS: whichever path the bit count selects, under that path's selection condition the result is the residue vector -/
theorem coeffToRns_spec {b : RNSBase} (hb : b.WF) {bits : Nat} {c : Int}
    (h64 : bits ≤ 64 → c.natAbs < 2^64) (h128 : 64 < bits → bits ≤ 128 → c.natAbs < 2^128)
    (hbig : 128 < bits → 1 < b.size ∧ c.natAbs < 2^(64 * b.size)) :
    ∃ rs, coeffToRns b bits c = .ok rs ∧ rs.size = b.size ∧ ∀ i, i < b.size → rs.getD i 0 = c12_res c (b.q i).value := by
  unfold coeffToRns
  by_cases h1 : bits ≤ 64
  · rw [if_pos h1]
    exact path64_spec (qs := b.base) hb.mwf (h64 h1)
  · rw [if_neg h1]
    by_cases h2 : bits ≤ 128
    · rw [if_pos h2]
      exact path128_spec (qs := b.base) hb.mwf (h128 (by omega) h2)
    · rw [if_neg h2]
      obtain ⟨ha, hc⟩ := hbig (by omega)
      exact pathBig_spec hb ha hc

/-- the saturating casts do not lose anything strictly below the path limits, and cost exactly this much at the limits
    (`max_coeff_bit_count <= 64` admits |c| = 2^64): |c| = 2^64 is encoded as 2^64 − 1 -/
theorem path64_saturated {qs : Array Modulus} (hq : ∀ i, i < qs.size → (qs.getD i ⟨0,0,0,0,0⟩).WF) :
    ∃ rs, path64 qs (2^64) = .ok rs ∧ ∀ i, i < qs.size → rs.getD i 0 = c12_res (2^64 - 1) (qs.getD i ⟨0,0,0,0,0⟩).value := by
  obtain ⟨rs, h1, _, h3⟩ := c12a_residues hq (fun q => do
      let r ← barrett64 (satU64 (2^64 : Int).natAbs) q
      signFix (decide ((2^64 : Int) < 0)) r q) (2^64 - 1) fun q hw => by
    have hs : satU64 (2^64 : Int).natAbs = (2^64 - 1 : Int).natAbs := by
      unfold satU64; rw [B64_eq]; norm_num
    have hd : decide ((2^64 : Int) < 0) = decide ((2^64 - 1 : Int) < 0) := by norm_num
    rw [hs, hd, barrett64_exact hw (by norm_num)]
    exact c12a_signFix hw (2^64 - 1)
  exact ⟨rs, h1, h3⟩

/-- I64_SINGLE (repaired form): residues of v for every i64 value v -/
theorem i64Residues_spec {qs : Array Modulus} (hq : ∀ i, i < qs.size → (qs.getD i ⟨0,0,0,0,0⟩).WF) {v : Int}
    (hv : -2^63 ≤ v ∧ v < 2^63) :
    ∃ rs, i64Residues qs v = .ok rs ∧ rs.size = qs.size ∧
      ∀ i, i < qs.size → rs.getD i 0 = c12_res v (qs.getD i ⟨0,0,0,0,0⟩).value := by
  have hc : v.natAbs < 2^64 := by omega
  unfold i64Residues
  refine c12a_residues hq _ v fun q hw => ?_
  rw [barrett64_exact hw hc]
  exact c12a_signFix hw v

theorem encodeI64Single_spec {l : Level} (hb : l.base.WF) {v : Int} (hv : -2^63 ≤ v ∧ v < 2^63) :
    (bitCount v.natAbs + 2 ≥ l.totalBits → encodeI64Single l v = .error .refused) ∧
    (bitCount v.natAbs + 2 < l.totalBits → ∃ p, encodeI64Single l v = .ok p ∧ p.size = l.base.size ∧
        ∀ j i, j < l.base.size → i < l.n → (p.getD j #[]).getD i 0 = c12_res v (l.base.q j).value) := by
  constructor
  · intro h
    unfold encodeI64Single
    simp only [bind, Except.bind]
    rw [if_pos h]
  · intro h
    obtain ⟨rs, h1, h2, h3⟩ := i64Residues_spec (qs := l.base.base) hb.mwf hv
    unfold encodeI64Single
    simp only [bind, Except.bind]
    rw [if_neg (by omega), h1]
    refine ⟨_, rfl, by simp, ?_⟩
    intro j i hj hi
    simp [Array.getD, hj, hi]
    exact h3 j hj

/-- the pinned (unrepaired) formula `reduce(q.wrapping_sub(-v))` is wrong: −2^35 modulo the 30-bit prime 1073479681 -/
theorem i64_pinned_formula_wrong :
    ((1073479681 + 2^64 - 2^35) % 2^64) % 1073479681 ≠ c12_res (-(2^35)) 1073479681 := by
  unfold c12_res
  decide

theorem c12a_mod_succ (x n : Nat) :
    x % 2 ^ (64 * (n + 1)) = x % 2 ^ (64 * n) + limb x n * 2 ^ (64 * n) := by
  rw [pow64_succ, Nat.mul_comm B64, Nat.mod_mul, Nat.mul_comm (2 ^ (64 * n))]; rfl

theorem c12a_limb_sum_mod (n x : Nat) :
    ((List.range n).map fun j => limb x j * 2^(64 * j)).sum = x % 2 ^ (64 * n) := by
  induction n with
  | zero => simp [Nat.mod_one]
  | succ n ih =>
    rw [List.range_succ, List.map_append, List.sum_append, ih, c12a_mod_succ]
    simp

theorem limb_sum (size x : Nat) (hx : x < 2^(64 * size)) :
    ((List.range size).map fun j => limb x j * 2^(64 * j)).sum = x := by
  rw [c12a_limb_sum_mod, Nat.mod_eq_of_lt hx]

theorem c12a_fold_lower (x n : Nat) :
    ((List.range n).foldl (fun (acc : Int × Nat) j =>
      (acc.1 + (limb x j : Int) * 2 ^ (64 * j), acc.2 + limb x j * 2 ^ (64 * j))) (0, 0)).1
      = ((x % 2 ^ (64 * n) : Nat) : Int) := by
  induction n with
  | zero => simp [Nat.mod_one]
  | succ n ih =>
    rw [List.range_succ, List.foldl_append, List.foldl_cons, List.foldl_nil]
    dsimp only
    rw [ih, c12a_mod_succ]
    push_cast; rfl

theorem c12a_fold_upper (x Q n : Nat) :
    ((List.range n).foldl (fun (acc : Int × Nat) j =>
      let xj := limb x j; let qj := limb Q j
      if xj > qj then (acc.1 + ((xj - qj : Nat) : Int) * 2 ^ (64 * j), acc.2 + (xj - qj) * 2 ^ (64 * j))
      else (acc.1 - ((qj - xj : Nat) : Int) * 2 ^ (64 * j), acc.2 + (qj - xj) * 2 ^ (64 * j))) (0, 0)).1
      = ((x % 2 ^ (64 * n) : Nat) : Int) - ((Q % 2 ^ (64 * n) : Nat) : Int) := by
  induction n with
  | zero => simp [Nat.mod_one]
  | succ n ih =>
    rw [List.range_succ, List.foldl_append, List.foldl_cons, List.foldl_nil]
    dsimp only
    rw [c12a_mod_succ x, c12a_mod_succ Q]
    split
    · rename_i h
      dsimp only
      rw [ih, Int.ofNat_sub h.le]; push_cast; ring
    · rename_i h
      dsimp only
      rw [ih, Int.ofNat_sub (Nat.le_of_not_gt h)]; push_cast; ring

/-- DECODE_LIFT: the fold's numerator is the centred lift of the composed value -/
theorem decodeFold_spec {size Q x : Nat} (hQ : Q < 2^(64 * size)) (hx : x < Q) :
    (decodeFold size Q (upperHalfThreshold Q) x).1 = if x ≥ (Q + 1) / 2 then (x : Int) - Q else (x : Int) := by
  unfold decodeFold upperHalfThreshold
  have hx' : x < 2 ^ (64 * size) := lt_trans hx hQ
  by_cases h : x ≥ (Q + 1) / 2
  · rw [if_pos h, if_pos h]
    refine (c12a_fold_upper x Q size).trans ?_
    rw [Nat.mod_eq_of_lt hx', Nat.mod_eq_of_lt hQ]
  · rw [if_neg h, if_neg h]
    refine (c12a_fold_lower x size).trans ?_
    rw [Nat.mod_eq_of_lt hx']

/-- … which is the representative of x modulo Q of least absolute value (Q odd, as every CKKS modulus is) -/
theorem decodeFold_centred {size Q x : Nat} (hQ : Q < 2^(64 * size)) (hx : x < Q) (hodd : Q % 2 = 1) :
    ((decodeFold size Q (upperHalfThreshold Q) x).1 - (x : Int)) % (Q : Int) = 0 ∧
    2 * |(decodeFold size Q (upperHalfThreshold Q) x).1| < (Q : Int) := by
  rw [decodeFold_spec hQ hx]
  split
  · rename_i h
    constructor
    · have : (x : Int) - Q - x = -(Q : Int) := by ring
      rw [this]; simp
    · rw [abs_of_nonpos (by omega)]; omega
  · rename_i h
    constructor
    · simp
    · rw [abs_of_nonneg (by omega)]; omega

theorem c12a_abs_step {a : Int} {b m e : Nat} (h : |a| ≤ (b : Int)) :
    |a + (m : Int) * 2^e| ≤ ((b + m * 2^e : Nat) : Int) ∧ |a - (m : Int) * 2^e| ≤ ((b + m * 2^e : Nat) : Int) := by
  have hT : (0 : Int) ≤ (m : Int) * 2^e := by positivity
  rw [abs_le] at h
  push_cast
  rw [abs_le, abs_le]
  constructor <;> constructor <;> linarith

/-- the second component bounds the numerator (it is the sum of the absolute limb terms: the oracle's error bound uses it) -/
theorem decodeFold_abs {size Q x : Nat} :
    |(decodeFold size Q (upperHalfThreshold Q) x).1| ≤ ((decodeFold size Q (upperHalfThreshold Q) x).2 : Int) := by
  unfold decodeFold
  split
  · refine foldl_inv (fun (acc : Int × Nat) => |acc.1| ≤ (acc.2 : Int)) (by simp) (fun acc j _ hacc => ?_)
    dsimp only
    split
    · exact (c12a_abs_step hacc).1
    · exact (c12a_abs_step hacc).2
  · refine foldl_inv (fun (acc : Int × Nat) => |acc.1| ≤ (acc.2 : Int)) (by simp) (fun acc j _ hacc => ?_)
    exact (c12a_abs_step hacc).1

example : c12_res (-5) 7 = 2 := by decide

end HC
