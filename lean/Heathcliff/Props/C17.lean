/-
  C17 — a Decryptor / KeyGenerator / Evaluator shared by several threads is linearizable under every interleaving.

  The theorems are about the transition systems of `Model/Conc.lean` (one atomic step per lock region, the code
  between two regions touches thread-local data only) and quantify over EVERY schedule (a list of thread ids of any
  length), ANY number of threads and ANY requested powers / Galois elements.  Cache contents are abstract: any type of
  "polynomials" `P` with any product, any secret `s`; any table type `T` with any generator `gen`.
  The models are tied to the Rust code by trace validation (harness `harness/src/c17.rs` + driver `lean/Driver/C17.lean`): every
  schedule of the yield points of the real code is replayed in the model and must give the same observations.
  Not expressible here (trusted): behaviour below the lock abstraction (`std::sync::RwLock`, the Rust memory model,
  lock poisoning).
-/
import Heathcliff.Proofs.C17
import Heathcliff.Gen.Sync
import Heathcliff.Proofs.GenConc
namespace HC.C17
open HC.Conc

variable {P : Type} (A : Alg P)

/-! ## secret-key power cache (`Decryptor`, `KeyGenerator`) -/

/-- `cache_inv`: in every reachable state the cache is exactly `[s^1, …, s^n]` (entry `i` is `s^(i+1)`), and it
    is never shorter than initially (`n ≥ n0 ≥ 1`): no thread ever observes a partially built or shrunken cache. -/
theorem cache_inv (n0 : Nat) (h0 : 1 ≤ n0) (wants sched : List Nat) :
    let σ := run true A sched (init A n0 wants)
    σ.cache = powers A σ.cache.length ∧ n0 ≤ σ.cache.length ∧ 1 ≤ σ.cache.length ∧
      ∀ i, i < σ.cache.length → σ.cache[i]? = some (A.pow (i + 1)) := by
  intro σ
  have h := run_inv A sched (init_inv A h0 wants)
  have hl : (init A n0 wants).cache.length = n0 := by simp [init]
  refine ⟨h.1.2.1, by rw [← hl]; exact h.2, h.1.1, ?_⟩
  intro i hi
  have : σ.cache = powers A σ.cache.length := h.1.2.1
  rw [this]
  exact powers_getElem? A _ i (by simpa using hi)

/-- `n` never decreases along any continuation of any schedule -/
theorem cache_monotone (n0 : Nat) (h0 : 1 ≤ n0) (wants sched sched' : List Nat) :
    (run true A sched (init A n0 wants)).cache.length ≤ (run true A (sched ++ sched') (init A n0 wants)).cache.length := by
  rw [run_append]
  exact (run_inv A sched' (run_inv A sched (init_inv A h0 wants)).1).2

/-- `use_sees_enough`: a thread that asked for power `p` and stands before its use phase finds `n ≥ p`
    (so the slice it takes is in range and correct), whatever happened between its update and its use. -/
theorem use_sees_enough (n0 : Nat) (h0 : 1 ≤ n0) (wants sched : List Nat) (i : Nat) (t : Thr P)
    (ht : (run true A sched (init A n0 wants)).thr[i]? = some t) (hpc : t.pc = .U) :
    t.want ≤ (run true A sched (init A n0 wants)).cache.length ∧ wants[i]? = some t.want := by
  have h := (run_inv A sched (init_inv A h0 wants)).1
  have hok := h.2.2 t (List.mem_of_getElem? ht)
  unfold ThrOk at hok
  simp only [hpc] at hok
  refine ⟨hok.1, ?_⟩
  have hw := run_want A true sched i (init A n0 wants)
  rw [ht] at hw
  simp [init] at hw
  cases hwi : wants[i]? with
  | none => simp [hwi] at hw
  | some w => simp [hwi] at hw; rw [hw]

/-- no call ever panics (the index arithmetic `old_size + i - 1` and the slices of the use phase stay in range) -/
theorem never_panics (n0 : Nat) (h0 : 1 ≤ n0) (wants sched : List Nat) :
    ∀ t ∈ (run true A sched (init A n0 wants)).thr, t.pc ≠ .panicked := by
  intro t ht hp
  have h := (run_inv A sched (init_inv A h0 wants)).1
  have hok := h.2.2 t ht
  unfold ThrOk at hok
  simp only [hp] at hok

/-- `result_deterministic`: what a finished call read is a function of its request and the secret only
    (`[s^1..s^want]`) — independent of the schedule, of the other threads and of the initial cache length. -/
theorem result_deterministic (n0 : Nat) (h0 : 1 ≤ n0) (wants sched : List Nat) (i : Nat) (t : Thr P)
    (ht : (run true A sched (init A n0 wants)).thr[i]? = some t) (hpc : t.pc = .done) :
    t.result = some (powers A t.want) := by
  have h := (run_inv A sched (init_inv A h0 wants)).1
  have hok := h.2.2 t (List.mem_of_getElem? ht)
  unfold ThrOk at hok
  simpa only [hpc] using hok

/-- linearizability: the sequential execution in call order completes every call, and every call that finished
    under ANY schedule returned exactly what it returns in that sequential execution. -/
theorem linearizable (n0 : Nat) (h0 : 1 ≤ n0) (wants sched : List Nat) (i : Nat) (t : Thr P)
    (ht : (run true A sched (init A n0 wants)).thr[i]? = some t) (hpc : t.pc = .done) :
    ∃ t', (run true A (seqSchedule wants.length) (init A n0 wants)).thr[i]? = some t' ∧ t'.pc = .done ∧
      t'.result = t.result := by
  have hi : i < wants.length := by
    have := (List.getElem?_eq_some_iff.mp ht).1
    have hl : (run true A sched (init A n0 wants)).thr.length = wants.length := by
      rw [run_thr_length]; simp [init]
    omega
  have h0' : (init A n0 wants).thr[i]? = some { want := wants[i] } := by simp [init, hi]
  obtain ⟨t', h1, h2, h3⟩ := thread_finishes A (init_inv A h0 wants) (seqSchedule wants.length) i _ h0' (count_seqSchedule hi)
  refine ⟨t', h1, h2, ?_⟩
  rw [h3, result_deterministic A n0 h0 wants sched i t ht hpc]
  have hw := run_want A true sched i (init A n0 wants)
  rw [ht, h0'] at hw
  simp at hw
  rw [hw]

/-- `no_deadlock`: every non-final state (reachable or not) has an enabled step — a thread that has not finished can
    always take its next step, no step waits for another thread. -/
theorem no_deadlock (σ : St P) (h : σ.final = false) : ∃ i, step true A i σ ≠ σ := by
  unfold St.final at h
  have : ∃ t ∈ σ.thr, t.pc.live = true := by
    rcases List.all_eq_false.mp h with ⟨t, ht, hl⟩
    exact ⟨t, ht, by simpa using hl⟩
  obtain ⟨t, ht, hl⟩ := this
  obtain ⟨i, hi⟩ := List.getElem?_of_mem ht
  exact ⟨i, step_ne_of_live A true i σ t hi hl⟩

/-- wait-freedom: a call that is scheduled four times has finished with the sequential result, no matter how the
    other threads' steps are interleaved with it. -/
theorem wait_free (n0 : Nat) (h0 : 1 ≤ n0) (wants sched : List Nat) (i : Nat) (hi : i < wants.length)
    (hc : 4 ≤ sched.count i) :
    ∃ t, (run true A sched (init A n0 wants)).thr[i]? = some t ∧ t.pc = .done ∧
      t.result = some (powers A wants[i]) := by
  have h0' : (init A n0 wants).thr[i]? = some { want := wants[i] } := by simp [init, hi]
  exact thread_finishes A (init_inv A h0 wants) sched i _ h0' hc

/-- no livelock: a scheduler that only resumes unfinished threads makes at most `4 · #threads` steps. -/
theorem bounded_steps (n0 : Nat) (wants sched : List Nat) (h : Productive A true sched (init A n0 wants)) :
    sched.length ≤ 4 * wants.length := by
  have := productive_length A true sched _ h
  rw [measure_init] at this
  omega

/-! ### what the re-check under the write lock is for -/

/-- the instance of the example below: powers of 2 in ℕ -/
def natAlg : Alg Nat := { mul := (· * ·), s := 2 }

/-- the BUGGY variant (write phase swaps without re-checking): thread 0 wants 3 powers, thread 1 wants 2, both
    snapshot length 1; thread 0 installs 3 powers, then thread 1 overwrites them with its 2: the cache SHRINKS, and
    thread 0's use phase then reads out of range. -/
theorem norecheck_shrinks :
    ∃ (wants sched : List Nat) (k : Nat),
      (run false natAlg sched (init natAlg 1 wants)).cache.length
        < (run false natAlg (sched.take k) (init natAlg 1 wants)).cache.length ∧
      ∃ t ∈ (run false natAlg (sched ++ [0]) (init natAlg 1 wants)).thr, t.pc = .panicked :=
  ⟨[3, 2], [0, 1, 0, 0, 1, 1], 4, by decide⟩

/-- the same schedule with the re-check (the code as it is): nothing shrinks, both calls finish -/
example : (run true natAlg [0, 1, 0, 0, 1, 1, 0, 1] (init natAlg 1 [3, 2])).cache.length = 3 ∧
    (run true natAlg [0, 1, 0, 0, 1, 1, 0, 1] (init natAlg 1 [3, 2])).final = true := by decide

/-- non-vacuity: the hypotheses of the theorems above are satisfiable and the racy schedule is a real run -/
example : (run true natAlg [0, 1, 0, 0, 1, 1, 0, 1] (init natAlg 1 [3, 2])).thr.map (·.result)
    = [some [2, 4, 8], some [2, 4]] := by decide

/-! ## Galois permutation-table cache (`GaloisTool::apply_ntt`) -/

variable {T : Type} (gen : Nat → T)

/-- `cache_inv` for the tables: in every reachable state an entry is either absent or THE table of its index
    (never a partially built one), the number of tables is constant, and a table once present stays. -/
theorem table_inv (n : Nat) (pre : List Nat) (progs : List (List Nat)) (hp : ∀ p ∈ progs, ∀ idx ∈ p, idx < n)
    (sched : List Nat) :
    let σ := grun gen sched (ginit gen n pre progs)
    σ.tables.length = n ∧ (∀ (i : Nat) (x : T), σ.tables[i]? = some (some x) → x = gen i) ∧
      ∀ (sched' : List Nat) (i : Nat) (x : T), σ.tables[i]? = some (some x) →
        (grun gen sched' σ).tables[i]? = some (some x) := by
  intro σ
  have h := grun_inv gen sched (ginit_inv gen n pre progs hp)
  refine ⟨?_, h.1.1, ?_⟩
  · rw [← h.2.1]; simp [ginit, ginitTables]
  · intro sched' i x hx
    exact (grun_inv gen sched' h.1).2.2 i x hx

/-- `use_sees_enough` for the tables: a thread before its use phase finds the table it needs, complete. -/
theorem table_use_sees_table (n : Nat) (pre : List Nat) (progs : List (List Nat)) (hp : ∀ p ∈ progs, ∀ idx ∈ p, idx < n)
    (sched : List Nat) (i : Nat) (t : GThr T)
    (ht : (grun gen sched (ginit gen n pre progs)).thr[i]? = some t) (hpc : t.pc = .use) :
    ∃ idx, t.calls[t.pos]? = some idx ∧ (grun gen sched (ginit gen n pre progs)).tables[idx]? = some (some (gen idx)) := by
  have h := (grun_inv gen sched (ginit_inv gen n pre progs hp)).1
  have hok := h.2 t (List.mem_of_getElem? ht)
  obtain ⟨_, _, _, h4⟩ := hok
  simpa only [hpc] using h4

/-- `result_deterministic` for the tables: every finished operation permuted with exactly the tables of its
    elements, in order — a function of the operation only; and no call panics. -/
theorem table_result_deterministic (n : Nat) (pre : List Nat) (progs : List (List Nat))
    (hp : ∀ p ∈ progs, ∀ idx ∈ p, idx < n) (sched : List Nat) (t : GThr T)
    (ht : t ∈ (grun gen sched (ginit gen n pre progs)).thr) :
    t.pc ≠ .panicked ∧ (t.pc = .done → t.seen = t.calls.map fun i => some (gen i)) := by
  have h := (grun_inv gen sched (ginit_inv gen n pre progs hp)).1
  obtain ⟨h1, _, h3, h4⟩ := h.2 t ht
  refine ⟨fun hpc => by simp only [hpc] at h4, fun hpc => ?_⟩
  simp only [hpc] at h4
  rw [h3, h4, List.take_length]

/-- `no_deadlock` for the tables -/
theorem table_no_deadlock (σ : GSt T) (h : σ.final = false) : ∃ i, gstep gen i σ ≠ σ := by
  unfold GSt.final at h
  rcases List.all_eq_false.mp h with ⟨t, ht, hl⟩
  obtain ⟨i, hi⟩ := List.getElem?_of_mem ht
  exact ⟨i, gstep_ne_of_live gen i σ t hi (by simpa using hl)⟩

/-! ## lock level: regions never nest, so nobody waits while holding a lock -/

/-- `no_deadlock` with the `RwLock` explicit: in every state reachable from lock-free threads by acquire / release
    steps (readers share, a writer excludes everybody), as long as some thread has not finished, some thread's next
    step is enabled and changes the state.  (Every thread inside a region can always leave it; if nobody is inside
    a region the lock is free and every waiting thread can enter.) -/
theorem lock_no_deadlock (k : Nat) (sched : List (Nat × LPC)) :
    let σ := lrun sched (linit k)
    (∃ pc ∈ σ.thr, pc ≠ LPC.fin) → ∃ (i : Nat) (pc : LPC), σ.thr[i]? = some pc ∧ lenabled σ pc = true ∧
      ∀ nxt, lstep nxt i σ ≠ σ := by
  intro σ hl
  have hinv : LInv σ := lrun_inv sched (linit_inv k)
  obtain ⟨i, pc, h1, h2⟩ := lenabled_exists hinv hl
  exact ⟨i, pc, h1, h2, fun nxt => lstep_ne nxt i σ pc h1 h2⟩

/-- mutual exclusion at the lock level: a writer is alone -/
theorem lock_exclusion (k : Nat) (sched : List (Nat × LPC)) :
    let σ := lrun sched (linit k)
    σ.thr.countP isInW ≤ 1 ∧ (0 < σ.thr.countP isInW → σ.thr.countP isInR = 0) := by
  intro σ
  obtain ⟨h1, h2, h3⟩ : LInv σ := lrun_inv sched (linit_inv k)
  cases hw : σ.writer with
  | false => simp [hw] at h2; omega
  | true => simp [hw] at h2; have := h3 hw; omega

/-! ## everything that is interior-mutable is modelled -/

/-- the interior-mutable state of the crate (regenerated from the sources on every run): the three modelled caches
    plus `Participant::common_rng`, an `Rc<RefCell<_>>` (`Rc` is `!Send`/`!Sync`, a `Participant` cannot be shared
    between threads).  A new `RwLock`/`Mutex`/`RefCell`/`Cell`/`Atomic*`/`OnceCell` field makes this fail until it
    is modelled.  All other shared objects (`BatchEncoder`, `CKKSEncoder`, `HeContext`, `Evaluator`, `Encryptor`)
    therefore have no state that a `&self` call could change: linearizability is immediate. -/
def modelledSyncFields : List (String × String × String) :=
  [("src/encryptor.rs", "Decryptor", "secret_key_array"),
   ("src/key.rs", "KeyGenerator", "secret_key_array"),
   ("src/multiparty/participant.rs", "Participant", "common_rng"),
   ("src/util/galois.rs", "GaloisTool", "permutation_tables")]

/-- every field of the library behind a lock or a `RefCell` (census regenerated from the sources, Gen/Sync.lean) is one the model covers -/
theorem sync_fields_modelled : HC.Gen.syncFields = modelledSyncFields := rfl

/-- the lock regions of the model are the acquisition sites of the code, in source order: R, W (`compute_…`), U
    (`dot_product_ct_sk_array` / `generate_rlk`); `generate_sk` runs under `&mut self` (construction, unshared);
    check, generate-store, use (`apply_ntt`). -/
def modelledLockSites : List (String × String × String) :=
  [("src/encryptor.rs", "compute_secret_key_array", "secret_key_array.read"),
   ("src/encryptor.rs", "compute_secret_key_array", "secret_key_array.write"),
   ("src/encryptor.rs", "dot_product_ct_sk_array", "secret_key_array.read"),
   ("src/key.rs", "generate_sk", "secret_key_array.write"),
   ("src/key.rs", "compute_secret_key_array", "secret_key_array.read"),
   ("src/key.rs", "compute_secret_key_array", "secret_key_array.write"),
   ("src/key.rs", "generate_rlk", "secret_key_array.read"),
   ("src/multiparty/participant.rs", "borrow_common_rng", "common_rng.borrow_mut"),
   ("src/util/galois.rs", "apply_ntt", "permutation_tables.read"),
   ("src/util/galois.rs", "apply_ntt", "permutation_tables.write"),
   ("src/util/galois.rs", "apply_ntt", "permutation_tables.read")]

/-- every acquisition site of these fields in the sources is a region of the model, in source order -/
theorem lock_sites_modelled : HC.Gen.lockSites = modelledLockSites := rfl

/-! ## The PHASE STRUCTURE of the code is the model's (translator tie, Gen/ConcFns.lean regenerated from the sources on every run)

`GenConc.*` are the functions the translator produces from `Decryptor::compute_secret_key_array`, `dot_product_ct_sk_array`
(src/encryptor.rs), `KeyGenerator::compute_secret_key_array`, `generate_rlk` (src/key.rs) and `GaloisTool::apply_ntt` (src/util/galois.rs):
the program of ONE thread - the flat list of action codes (`ConcProg.Act`) - as a function of the values the thread observes in each lock
region.  The theorems below say that for ALL observations these programs are the ones the step functions `stepThr` / `gstepThr` of
Model/Conc.lean perform, so the theorems above (arbitrary schedules, arbitrary thread counts) are about the phase structure the code has:
what is read under the read lock, the early return, what is computed holding no lock, the re-check under the write lock, ONE read region
in the use phase whose indices do not depend on an earlier region.
Trusted (tools/rs2lean_conc.py): the reading of `RwLock::read()/write()` guards, `drop`, scope end and `return` as region boundaries; the
data readings of the elided statements (copy, compute loop, publish, slices). -/

section GenConc
open HC.ConcProg

/-- `stepActs` (the actions of a model step) is a faithful reading of `stepThr`: EXECUTING the actions (copy = prefix of the shared
    vector, MUL a b c = the polynomial at word offset `c` := that at `a` times that at `b`, store = publish the local array) on the cache
    the thread sees and its local array yields the cache and the local array `stepThr` yields, and fails exactly when `stepThr` panics -
    in particular the MULs the code's index arithmetic produces ARE the model's `extend`.  `hC`: in the compute phase the local array is
    what was copied in the read phase. -/
theorem gen_step_actions_sound (d : Nat) (hd : 0 < d) (rc : Bool) (cache : List P) (t : Thr P)
    (hpc : t.pc = .R ∨ t.pc = .C ∨ t.pc = .W) (hC : t.pc = .C → t.newArr.length = t.oldR) :
    execActs A d (stepActs d rc A cache t) (cache, t.newArr) =
      if (stepThr rc A cache t).2.pc = .panicked then none
      else some ((stepThr rc A cache t).1, (stepThr rc A cache t).2.newArr) := by
  cases t with
  | mk want pc oldR newArr result =>
    rcases hpc with h | h | h <;> simp only at h <;> subst h
    · by_cases hr : want ≤ cache.length
      · simp [stepActs, stepThr, hr, execActs, execAct]
      · have hm : ¬ cache.length = max cache.length want := by omega
        simp [stepActs, stepThr, if_neg hm, execActs, execAct, Nat.mul_div_cancel _ hd]
    · have hl : newArr.length = oldR := hC rfl
      subst hl
      have hm := gq_exec_muls A d hd cache (max newArr.length want - newArr.length) newArr
      cases he : extend A (max newArr.length want - newArr.length) newArr with
      | none => simp [stepActs, stepThr, he, hm]
      | some a => simp [stepActs, stepThr, he, hm]
    · cases hk : wKeeps rc cache { want := want, pc := .W, oldR := oldR, newArr := newArr, result := result } with
      | true => simp [stepActs, gq_stepThr_W, hk, execActs, execAct]
      | false => simp [stepActs, gq_stepThr_W, hk, execActs, execAct]

/-- ... at the level of the whole system: a step of thread `i` of ANY state (its R, C or W phase, not panicking) changes the shared cache
    exactly as the execution of that step's actions does -/
theorem gen_global_step_is_exec (d : Nat) (hd : 0 < d) (σ : St P) (i : Nat) (t : Thr P) (ht : σ.thr[i]? = some t)
    (hpc : t.pc = .R ∨ t.pc = .C ∨ t.pc = .W) (hC : t.pc = .C → t.newArr.length = t.oldR)
    (hnp : (stepThr true A σ.cache t).2.pc ≠ .panicked) :
    ∃ arr, execActs A d (stepActs d true A σ.cache t) (σ.cache, t.newArr) = some ((step true A i σ).cache, arr) ∧
      (step true A i σ).thr[i]? = some (stepThr true A σ.cache t).2 ∧ arr = (stepThr true A σ.cache t).2.newArr := by
  refine ⟨(stepThr true A σ.cache t).2.newArr, ?_, ?_, rfl⟩
  · rw [gen_step_actions_sound A d hd true σ.cache t hpc hC, if_neg hnp]
    simp [step, ht]
  · exact step_getElem?_self A true i σ t ht

/-- the model's call in closed form: early return iff enough powers are cached; otherwise allocate, copy ALL cached powers, release,
    one MUL per missing power (`muls`: entry `L+i` := entry `L+i−1` · entry 0, holding NO lock), take the write lock, and publish UNLESS the
    cache seen there already has `want` powers -/
theorem gen_call_closed_form (d want : Nat) (cR cW : List P) (h1 : 1 ≤ cR.length) :
    callActs d true A want cR cW =
      if cR.length = max cR.length want then [.acqR, .relR]
      else [.acqR, .alloc (max cR.length want * d), .copy (cR.length * d), .relR] ++
        muls d cR.length (max cR.length want - cR.length) ++ [.acqW] ++
        (if cW.length = max cW.length want then [.relW] else [.store (max cR.length want * d), .relW]) := by
  by_cases hr : cR.length = max cR.length want
  · simp [callActs, stepActs, stepThr, hr.symm]
  · have hne : cR ≠ [] := by intro h; simp [h] at h1
    obtain ⟨a, ha⟩ := gq_extend_some A (max cR.length want - cR.length) cR hne
    have hal := gq_extend_length A _ _ _ ha
    have hlen : a.length = max cR.length want := by rw [hal]; omega
    by_cases hw : cW.length = max cW.length want
    · simp [callActs, stepActs, stepThr, hr, ha, wKeeps, hw.symm]
    · simp [callActs, stepActs, stepThr, hr, ha, wKeeps, hw, hlen]

/-- `Decryptor::compute_secret_key_array` IS the model's R, C, W steps (with the re-check): for every requested power, every `n`, `k`
    (degree, key primes), every cache `cR` seen under the read lock and every cache `cW` seen under the write lock (whatever the other
    threads did in between).  Hypotheses: `n·k > 0`; the new array fits a `usize` (else `vec![0; …]`'s size computation panics);
    `cR` non-empty (the constructor stores `s^1`, `cache_inv` keeps `n ≥ 1`); the EMPTY cache is `gen_compute_empty_cache_panics`. -/
theorem gen_dec_compute_secret_key_array_eq (want n k : Nat) (cR cW : List P) (hd : 0 < n * k) (hnk : n * k < B64)
    (hA : max cR.length want * n * k < B64) (h1 : 1 ≤ cR.length) :
    GenConc.dec_compute_secret_key_array want n k (cR.length * (n * k)) (cW.length * (n * k)) =
      .ok (encode (callActs (n * k) true A want cR cW)) := by
  rw [gq_dec_compute_read want n k _ _ hd hnk hA, gen_call_closed_form A (n * k) want cR cW h1]
  by_cases hr : cR.length = max cR.length want
  · rw [if_pos hr, if_pos hr]
  · rw [if_neg hr, if_neg hr, gq_dec_loop want n k _ (max cR.length want) _ hd hnk (Nat.mul_assoc _ _ _ ▸ hA) h1 _ 0 _ (by omega),
      ← gq_encode_append]
    simp only [List.append_assoc, List.cons_append, List.nil_append, Nat.add_zero]

/-- the excluded point of the two equalities: on an EMPTY cache (request > 0) the generated program traps in `old_size + i - 1` of the
    first loop iteration, and the model panics in its compute step (`extendOnce []`): they agree there too -/
theorem gen_compute_empty_cache_panics (want n k M : Nat) (hw : 0 < want) (hd : 0 < n * k) (hnk : n * k < B64) (hA : want * n * k < B64) :
    GenConc.dec_compute_secret_key_array want n k 0 (M * (n * k)) = .error .overflow ∧
    (stepThr true A [] (stepThr true A [] ({ want := want } : Thr P)).2).2.pc = .panicked := by
  obtain ⟨f, rfl⟩ : ∃ f, want = f + 1 := ⟨want - 1, by omega⟩
  have hm : max 0 (f + 1) = f + 1 := Nat.max_eq_right (Nat.zero_le _)
  refine ⟨?_, by simp [stepThr, extend, extendOnce]⟩
  rw [← Nat.zero_mul (n * k), gq_dec_compute_read (f + 1) n k 0 _ hd hnk (hm.symm ▸ hA), hm, if_neg (Nat.succ_ne_zero f).symm]
  exact gq_dec_loop1_empty ..

/-- the same for `KeyGenerator::compute_secret_key_array`, whose generated copy is the same program (`gq_kg_compute_eq_dec`: a change to ONE of
    the two source functions breaks that comparison) -/
theorem gen_kg_compute_secret_key_array_eq (want n k : Nat) (cR cW : List P) (hd : 0 < n * k) (hnk : n * k < B64)
    (hA : max cR.length want * n * k < B64) (h1 : 1 ≤ cR.length) :
    GenConc.kg_compute_secret_key_array want n k (cR.length * (n * k)) (cW.length * (n * k)) =
      .ok (encode (callActs (n * k) true A want cR cW)) :=
  (gq_kg_compute_eq_dec ..).trans (gen_dec_compute_secret_key_array_eq A want n k cR cW hd hnk hA h1)

/-- ... in every run: for the caches of ANY two states along ANY schedule (the thread reads in the first, writes in the second) the
    generated program is the model's call and respects the lock discipline (no lock is requested while one is held) -/
theorem gen_compute_in_run (n0 : Nat) (h0 : 1 ≤ n0) (wants sched sched' : List Nat) (want n k : Nat) (hd : 0 < n * k)
    (hnk : n * k < B64) (hA : max (run true A sched (init A n0 wants)).cache.length want * n * k < B64) :
    let cR := (run true A sched (init A n0 wants)).cache
    let cW := (run true A (sched ++ sched') (init A n0 wants)).cache
    GenConc.dec_compute_secret_key_array want n k (cR.length * (n * k)) (cW.length * (n * k)) =
        .ok (encode (callActs (n * k) true A want cR cW)) ∧
      LockWF (callActs (n * k) true A want cR cW) := by
  intro cR cW
  have h1 : 1 ≤ cR.length := (cache_inv A n0 h0 wants sched).2.2.1
  refine ⟨gen_dec_compute_secret_key_array_eq A want n k cR cW hd hnk hA h1, ?_⟩
  rw [gen_call_closed_form A _ want cR cW h1]
  unfold LockWF
  by_cases hr : cR.length = max cR.length want
  · rw [if_pos hr]; rfl
  · rw [if_neg hr]
    have hR : lockRun .out [Act.acqR, .alloc (max cR.length want * (n * k)), .copy (cR.length * (n * k)), .relR] = some .out := rfl
    simp only [gq_lockRun_append, hR, gq_lockRun_muls, Option.bind]
    by_cases hw : cW.length = max cW.length want
    · rw [if_pos hw]; rfl
    · rw [if_neg hw]; rfl

/-- use phase of `Decryptor::dot_product_ct_sk_array` (ciphertext of `size ≥ 2`, level with `k ≤ kkey` primes) on a snapshot of `L`
    powers with `size − 1 ≤ L`: nested call, ONE read region, power `i` read at `i·(n·kkey)` - a stride that is a constant of the
    context - over `n·k` words.  Entry `i` of the model's `cache.take want` is the polynomial at that offset. -/
theorem gen_dot_product_use_eq (size n k kkey : Nat) (ntt : Bool) (L : Nat) (h2 : 2 ≤ size) (hk : k ≤ kkey)
    (hB : size * (n * kkey) < B64) (hsee : size - 1 ≤ L) :
    GenConc.dec_dot_product_ct_sk_array size n k kkey ntt (L * (n * kkey)) =
      .ok (encode ([.call (size - 1), .acqR] ++
        (if size = 2 then [.readFirst] else (List.range (size - 1)).map fun i => .read (i * (n * kkey)) (i * (n * kkey) + n * k)) ++
        [.relR])) := by
  by_cases hs : size = 2
  · subst hs; rfl
  · have h3 : 3 ≤ size := by omega
    rw [if_neg hs, gq_dot_product_read size n k kkey ntt _ h3 hk hB,
      gq_dot_loop1 _ size _ _ _ (by omega) (size - 1) 0 _ (gq_dot_last_lt h3 hk hB) (fun j hj => by
        rw [Nat.zero_add]
        calc j * (n * kkey) + n * k ≤ j * (n * kkey) + n * kkey := Nat.add_le_add_left (Nat.mul_le_mul_left _ hk) _
          _ = (j + 1) * (n * kkey) := (Nat.succ_mul _ _).symm
          _ ≤ L * (n * kkey) := Nat.mul_le_mul_right _ (by omega))]
    simp only [Nat.zero_add, ← gq_encode_append, List.append_assoc]

/-- ... and it is refused (a slice leaves the snapshot) when fewer than `size − 1` powers are there: the model's use phase panicking -/
theorem gen_dot_product_use_refuses (size n k kkey : Nat) (ntt : Bool) (L : Nat) (h3 : 3 ≤ size) (hk : k ≤ kkey) (hd : 0 < n * k)
    (hB : size * (n * kkey) < B64) (hsee : L < size - 1) :
    GenConc.dec_dot_product_ct_sk_array size n k kkey ntt (L * (n * kkey)) = .error .refused := by
  rw [gq_dot_product_read size n k kkey ntt _ h3 hk hB]
  exact gq_dot_loop1_refuses _ size _ _ _ (size - 1) 0 _ (gq_dot_last_lt h3 hk hB) ⟨L, hsee, by rw [Nat.zero_add]; omega⟩

/-- composition with `use_sees_enough`: along ANY schedule, a thread that stands before its use phase executes the generated use phase
    on the cache AS IT IS THEN without refusal, inside one read region, reading exactly the powers `0 … want − 1` -/
theorem gen_use_phase_in_run (n0 : Nat) (h0 : 1 ≤ n0) (wants sched : List Nat) (i : Nat) (t : Thr P)
    (ht : (run true A sched (init A n0 wants)).thr[i]? = some t) (hpc : t.pc = .U)
    (size n k kkey : Nat) (ntt : Bool) (h2 : 2 ≤ size) (hw : t.want = size - 1) (hk : k ≤ kkey) (hB : size * (n * kkey) < B64) :
    GenConc.dec_dot_product_ct_sk_array size n k kkey ntt ((run true A sched (init A n0 wants)).cache.length * (n * kkey)) =
      .ok (encode ([.call (size - 1), .acqR] ++
        (if size = 2 then [.readFirst] else (List.range (size - 1)).map fun i => .read (i * (n * kkey)) (i * (n * kkey) + n * k)) ++
        [.relR])) ∧
    LockWF ([.call (size - 1), .acqR] ++
        (if size = 2 then [.readFirst] else (List.range (size - 1)).map fun i => .read (i * (n * kkey)) (i * (n * kkey) + n * k)) ++
        [.relR]) := by
  have h := (use_sees_enough A n0 h0 wants sched i t ht hpc).1
  refine ⟨gen_dot_product_use_eq size n k kkey ntt _ h2 hk hB (by omega), ?_⟩
  unfold LockWF
  by_cases hs : size = 2
  · rw [if_pos hs]; rfl
  · rw [if_neg hs]
    show lockRun .r ((List.range (size - 1)).map (fun i => Act.read (i * (n * kkey)) (i * (n * kkey) + n * k)) ++ [.relR]) = some .out
    rw [gq_lockRun_reads _ (fun i => ⟨_, _, rfl⟩)]; rfl

/-- use phase of `KeyGenerator::generate_rlk` (`count ∈ [1, 14]`, else refused before): nested call for `count + 1` powers, ONE read
    region, `count` polynomials from word offset `n·k`; the slice is inside a cache of `L` powers iff `count + 1 ≤ L` -/
theorem gen_generate_rlk_use_eq (count n k lenU : Nat) (hc : 1 ≤ count) (hc2 : count ≤ 14) (hnk : n * k < B64) :
    GenConc.kg_generate_rlk count true n k lenU =
      (if n * k ≤ lenU then .ok (encode [.call (count + 1), .acqR, .keys (n * k) count, .relR]) else .error .refused) ∧
    LockWF [.call (count + 1), .acqR, .keys (n * k) count, .relR] ∧
    ∀ L, 0 < n * k → (n * k + count * (n * k) ≤ L * (n * k) ↔ count + 1 ≤ L) := by
  refine ⟨?_, rfl, fun L hd => ?_⟩
  · have e2 : ckSub 16 2 = .ok 14 := rfl
    have h0 : ¬ count = 0 := by omega
    have h14 : ¬ count > 14 := by omega
    unfold GenConc.kg_generate_rlk
    simp only [if_true, if_neg h0, ckMul_ok hnk, e2, ckAdd_ok (show count + 1 < B64 by simp only [B64]; omega), gq_ok_bind, gq_pure, h14,
      decide_false, Bool.false_eq_true, if_false]
    by_cases h : n * k ≤ lenU
    · rw [if_pos h, if_pos h]; rfl
    · rw [if_neg h, if_neg h]
  · rw [show n * k + count * (n * k) = (count + 1) * (n * k) by rw [Nat.add_mul, Nat.one_mul, Nat.add_comm]]
    exact ⟨fun h => Nat.le_of_mul_le_mul_right h hd, fun h => Nat.mul_le_mul_right _ h⟩

/-- `GaloisTool::apply_ntt` IS the model's check / generate-store / use steps: for every table index and every two table vectors the
    thread observes (check region, use region), the generated program is the model's call; it is refused (index out of range) exactly
    when the model panics; and it respects the lock discipline: the check region is left before the write lock is requested.
    `hpos`: a generated table is not empty (`coeff_count ≥ 2` entries), so `is_empty()` means "not generated". -/
theorem gen_apply_ntt_eq (len : T → Nat) (hpos : ∀ x, 0 < len x) (ix cc : Nat) (tK tU : List (Option T)) :
    GenConc.galois_apply_ntt ix cc cc (lens len tK) (lens len tU) =
      (match gCallActs len gen ix tK tU with
       | none => .error .oob
       | some a => .ok (encode a)) ∧
    ∀ a, gCallActs len gen ix tK tU = some a → LockWF a := by
  have hk : (lens len tK)[ix]? = (tK[ix]?).map (olen len) := by simp [lens]
  have hu : (lens len tU)[ix]? = (tU[ix]?).map (olen len) := by simp [lens]
  unfold GenConc.galois_apply_ntt GenW.idx LockWF
  simp only [hk, hu]
  cases h1 : tK[ix]? with
  | none => simp [gCallActs, gstepThr, h1]; rfl
  | some e =>
    cases h2 : tU[ix]? with
    | none => cases e <;> simp [gCallActs, gstepThr, h1, h2, olen, gq_ok_bind, gq_pure] <;> rfl
    | some e2 =>
      cases e with
      | none => simp [gCallActs, gstepThr, gStepActs, h1, h2, olen, gq_ok_bind, gq_pure, encode, Act.code]; rfl
      | some x =>
        have hx : len x ≠ 0 := Nat.pos_iff_ne_zero.mp (hpos x)
        simp [gCallActs, gstepThr, gStepActs, h1, h2, olen, hx, gq_ok_bind, gq_pure, encode, Act.code]; rfl

/-- witnesses (non-vacuity; N = 4, 2 primes, 8 words per power).  The racy situation of `norecheck_shrinks`: a thread that wants 2
    powers read a 1-power cache, another thread published 3 powers before it takes the write lock: the generated program KEEPS the cache
    (no STORE = code 13) ... -/
example : GenConc.dec_compute_secret_key_array 2 4 2 (1 * 8) (3 * 8) = .ok [1, 10, 16, 11, 8, 2, 12, 0, 8, 0, 8, 8, 8, 3, 4] := rfl
/-- ... as the model with the re-check does, while the model WITHOUT the re-check publishes (the cache shrinks) -/
example : encode (callActs 8 true natAlg 2 [2] [2, 4, 8]) = [1, 10, 16, 11, 8, 2, 12, 0, 8, 0, 8, 8, 8, 3, 4] ∧
    encode (callActs 8 false natAlg 2 [2] [2, 4, 8]) = [1, 10, 16, 11, 8, 2, 12, 0, 8, 0, 8, 8, 8, 3, 13, 16, 4] := by decide
/-- nothing changed in between: two MULs (s^2 = s^1·s^1 at word 8, s^3 = s^2·s^1 at word 16), the thread publishes; enough powers cached: early
    return; an empty cache: trap -/
example : GenConc.kg_compute_secret_key_array 3 4 2 (1 * 8) (1 * 8) =
      .ok [1, 10, 24, 11, 8, 2, 12, 0, 8, 0, 8, 8, 8, 12, 8, 8, 0, 8, 16, 8, 3, 13, 24, 4] ∧
    GenConc.kg_compute_secret_key_array 2 4 2 (3 * 8) (3 * 8) = .ok [1, 2] ∧
    GenConc.kg_compute_secret_key_array 2 4 2 0 0 = .error .overflow := ⟨rfl, rfl, rfl⟩
/-- a size-4 ciphertext at a level with 1 of the 2 key primes: powers 0, 1, 2 at stride 8, 4 words each; a 2-power snapshot is refused -/
example : GenConc.dec_dot_product_ct_sk_array 4 4 1 2 true (3 * 8) = .ok [14, 3, 1, 15, 0, 4, 15, 8, 12, 15, 16, 20, 2] ∧
    GenConc.dec_dot_product_ct_sk_array 4 4 1 2 true (2 * 8) = .error .refused ∧
    GenConc.dec_dot_product_ct_sk_array 2 4 1 2 true (1 * 8) = .ok [14, 1, 1, 16, 2] := ⟨rfl, rfl, rfl⟩
example : GenConc.kg_generate_rlk 2 true 4 2 (3 * 8) = .ok [14, 3, 1, 17, 8, 2, 2] := rfl
/-- table 1 absent at the check, present (4 entries) at the use: check region, write region (generate + store), use region; present at
    the check: no write region; index out of range: refused -/
example : GenConc.galois_apply_ntt 1 4 4 [0, 0] [0, 4] = .ok [1, 2, 3, 20, 1, 4, 1, 21, 1, 4, 2] ∧
    GenConc.galois_apply_ntt 1 4 4 [0, 4] [0, 4] = .ok [1, 2, 1, 21, 1, 4, 2] ∧
    GenConc.galois_apply_ntt 2 4 4 [0, 4] [0, 4] = .error .oob := ⟨rfl, rfl, rfl⟩

end GenConc

end HC.C17
