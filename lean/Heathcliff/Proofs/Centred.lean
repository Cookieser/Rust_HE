/- The integer helpers of the specifications (Heathcliff/Spec/RNS.lean), characterised once:
   `Spec.roundDiv a b = ⌊(2a + b) / 2b⌋` (nearest integer, ties up) by its two inequalities, `Spec.imod x m = (x mod m).toNat` by its
   congruence, `Spec.centred x Q` as THE representative of x in (−Q/2, Q/2]: congruent to x, inside the window, and two congruent
   values inside the window are equal.  (`c04t_center` of DivRule is a second centred lift, the one of the rounding divisions, with the window
   [−⌊P/2⌋, ⌈P/2⌉): the two agree for odd moduli and differ at the tie; no lemma bridges them.)
   Names: `c01j_roundDiv_*`, `c01j_imod_*` the helpers by their defining (in)equalities; `cast_*_modEq`, `eq_emod_of_modEq`, `inv_cast` residues of
   natural numbers (`a % q`, modular products, differences and inverses as the code computes them) as congruences of integers; `imod_*`, `centred_*` the same helpers as
   representatives modulo m resp. Q; `eq_of_modEq_of_abs_lt`, `c03k_centred_unique`, `c03k_eq_of_small` uniqueness in the window (one proof, three readings),
   `c03k_centred_cast`, `imod_cast`, `c04t_cast_of_emod`, `c04t_emod_of_cast`, `c04t_inv_cast`, `c04t_cast_add_sub` the passage to `ZMod q`; `centredZ_*`, `c01j_centred_*` the composite `Spec.centred (Spec.imod x Q) Q` on integers. -/
import Heathcliff.Spec.RNS
import Mathlib.Data.Int.ModEq
import Mathlib.Data.ZMod.Basic
import Mathlib.Tactic.Ring
import Mathlib.Tactic.Linarith
namespace HC

/-! ### characterisations of the Spec helpers -/

theorem c01j_roundDiv_spec (a : Int) {b : Nat} (hb : 0 < b) :
    2 * (b * Spec.roundDiv a b) ≤ 2 * a + b ∧ 2 * a + b < 2 * (b * Spec.roundDiv a b) + 2 * b := by
  unfold Spec.roundDiv
  have h1 := Int.mul_ediv_self_le (x := 2 * a + b) (show (2 * (b : Int)) ≠ 0 by omega)
  have h2 := Int.lt_mul_ediv_self_add (x := 2 * a + b) (show (0 : Int) < 2 * (b : Int) by omega)
  rw [Int.mul_assoc] at h1 h2
  exact ⟨h1, h2⟩

theorem c01j_roundDiv_unique {a w : Int} {b : Nat} (hb : 0 < b) (h1 : 2 * (b * w) ≤ 2 * a + b)
    (h2 : 2 * a + b < 2 * (b * w) + 2 * b) : Spec.roundDiv a b = w := by
  unfold Spec.roundDiv
  have hb' : (0 : Int) < 2 * (b : Int) := by omega
  apply Int.le_antisymm
  · apply Int.le_of_lt_add_one
    rw [Int.ediv_lt_iff_lt_mul hb', Int.add_mul, Int.mul_left_comm, Int.mul_comm w]
    omega
  · rw [Int.le_ediv_iff_mul_le hb', Int.mul_left_comm, Int.mul_comm w]
    exact h1

theorem c01j_roundDiv_add_mul (a k : Int) {b : Nat} (hb : 0 < b) : Spec.roundDiv (a + b * k) b = Spec.roundDiv a b + k := by
  unfold Spec.roundDiv
  have e : 2 * (a + b * k) + b = 2 * a + b + 2 * (b : Int) * k := by ring
  rw [e, Int.add_mul_ediv_left _ _ (by omega)]

/-- a remainder below half the divisor does not move the rounded quotient -/
theorem c01j_roundDiv_small {Q : Nat} (w r : Int) (h : 2 * r.natAbs < Q) : Spec.roundDiv (Q * w + r) Q = w :=
  c01j_roundDiv_unique (by omega) (by omega) (by omega)

theorem c01j_imod_cast (x : Int) {m : Nat} (hm : 0 < m) : ((Spec.imod x m : Nat) : Int) = x % (m : Int) := by
  unfold Spec.imod
  exact Int.toNat_of_nonneg (Int.emod_nonneg _ (by omega))

theorem c01j_imod_lt (x : Int) {m : Nat} (hm : 0 < m) : Spec.imod x m < m := by
  have h := c01j_imod_cast x hm
  have := Int.emod_lt_of_pos x (show (0 : Int) < m by omega)
  omega

theorem c01j_imod_add_mul (m : Nat) (κ : Int) {t : Nat} (hm : m < t) : Spec.imod ((m : Int) + t * κ) t = m := by
  have ht : 0 < t := by omega
  have hc := c01j_imod_cast ((m : Int) + t * κ) ht
  rw [Int.add_mul_emod_self_left, Int.emod_eq_of_lt (by omega) (by omega)] at hc
  exact_mod_cast hc

theorem c01j_imod_sub_mul (m : Nat) (κ : Int) {t : Nat} (hm : m < t) : Spec.imod ((m : Int) - t * κ) t = m := by
  rw [sub_eq_add_neg, ← mul_neg]
  exact c01j_imod_add_mul m (-κ) hm

/-! ### Nat residues as integer congruences -/

theorem cast_mod_modEq (a q : Nat) : ((a % q : Nat) : Int) ≡ a [ZMOD q] := by
  rw [Int.natCast_mod]; exact Int.mod_modEq _ _

theorem cast_subrep_modEq {a b q : Nat} (hb : b ≤ a + q) :
    (((a + q - b) % q : Nat) : Int) ≡ (a : Int) - b [ZMOD q] := by
  refine (cast_mod_modEq _ _).trans ?_
  rw [Nat.cast_sub hb, Nat.cast_add, add_sub_right_comm]
  exact Int.add_modEq_right

theorem cast_mul_modEq (a b q : Nat) : (((a * b) % q : Nat) : Int) ≡ (a : Int) * b [ZMOD q] := by
  refine (cast_mod_modEq _ _).trans ?_
  rw [Nat.cast_mul]

theorem cast_mod_eq_emod {s q : Nat} {z : Int} (h : (s : Int) ≡ z [ZMOD q]) : ((s % q : Nat) : Int) = z % q := by
  rw [Int.natCast_mod]; exact h

theorem eq_emod_of_modEq {r q : Nat} {z : Int} (hr : r < q) (h : (r : Int) ≡ z [ZMOD q]) :
    (r : Int) = z % q := by
  rw [← cast_mod_eq_emod h, Nat.mod_eq_of_lt hr]

theorem inv_cast {inv m q : Nat} (h : (inv * m) % q = 1) : (inv : Int) * m ≡ 1 [ZMOD q] := by
  have := cast_mod_modEq (inv * m) q
  rw [h, Nat.cast_mul] at this
  exact this.symm

theorem pos_of_negInv {ninv m q : Nat} (h : (ninv * m + 1) % q = 0) : 0 < q := by
  rcases Nat.eq_zero_or_pos q with h0 | h0
  · subst h0; simp at h
  · exact h0

/-! ### `Spec.imod` and `Spec.centred` as representatives -/

theorem imod_modEq {t : Nat} (ht : 0 < t) (x : Int) : ((Spec.imod x t : Nat) : Int) ≡ x [ZMOD t] := by
  rw [c01j_imod_cast x ht]
  exact Int.mod_modEq x t

theorem imod_congr {x y : Int} {t : Nat} (h : x ≡ y [ZMOD t]) : Spec.imod x t = Spec.imod y t := by
  unfold Spec.imod
  rw [h]

theorem imod_natCast (N t : Nat) : Spec.imod (N : Int) t = N % t := by
  unfold Spec.imod
  rw [← Int.natCast_mod, Int.toNat_natCast]

theorem imod_cast {q Q : Nat} (h : q ∣ Q) (hQ : 0 < Q) (x : Int) : ((Spec.imod x Q : Nat) : ZMod q) = ((x : Int) : ZMod q) := by
  have h2 := (ZMod.intCast_eq_intCast_iff _ _ q).mpr ((imod_modEq hQ x).of_dvd (Int.natCast_dvd_natCast.mpr h))
  rwa [Int.cast_natCast] at h2

/-! ### between `ZMod q` and the integers -/

theorem c04t_cast_of_emod {q : Nat} {X : Int} {a : Nat} (h : X % (q : Int) = a) : (X : ZMod q) = (a : ZMod q) := by
  rw [← ZMod.intCast_mod X q, h, Int.cast_natCast]

theorem c04t_emod_of_cast {q : Nat} {d : Nat} {Y : Int} (h : (d : ZMod q) = (Y : ZMod q)) :
    (d : Int) % (q : Int) = Y % (q : Int) := by
  have : (((d : Int)) : ZMod q) = (Y : ZMod q) := by rw [Int.cast_natCast]; exact h
  exact (ZMod.intCast_eq_intCast_iff' _ _ _).mp this

theorem c04t_inv_cast {q y P : Nat} (h : (y * P) % q = 1 % q) : (y : ZMod q) * (P : ZMod q) = 1 := by
  have := (ZMod.natCast_eq_natCast_iff' (y * P) 1 q).mpr h
  simpa using this

/-- `a + (L − b)` with `b ≤ L`, `L` a multiple of q, is `a − b` modulo q (how the code subtracts without leaving ℕ) -/
theorem c04t_cast_add_sub {q a b L : Nat} (hb : b ≤ L) (hL : q ∣ L) : ((a + (L - b) : Nat) : ZMod q) = (a : ZMod q) - (b : ZMod q) := by
  rw [Nat.cast_add, Nat.cast_sub hb, (ZMod.natCast_eq_zero_iff L q).mpr hL, zero_sub, sub_eq_add_neg]

theorem centred_modEq (X Q : Nat) : Spec.centred X Q ≡ (X : Int) [ZMOD Q] := by
  unfold Spec.centred
  split
  · exact (Int.sub_modulus_modEq_iff.2 (Int.ModEq.refl _)).trans (cast_mod_modEq X Q)
  · exact cast_mod_modEq X Q

theorem centred_range (X : Nat) {Q : Nat} (hQ : 0 < Q) : -(Q : Int) < 2 * Spec.centred X Q ∧ 2 * Spec.centred X Q ≤ Q := by
  unfold Spec.centred
  have := Nat.mod_lt X hQ
  split <;> omega

theorem centred_natAbs_le (X : Nat) {Q : Nat} (hQ : 0 < Q) : 2 * (Spec.centred X Q).natAbs ≤ Q := by
  have := centred_range X hQ
  omega

theorem eq_of_modEq_of_abs_lt {a b : Int} {m : Nat} (h : a ≡ b [ZMOD m]) (hlt : |b - a| < m) : a = b := by
  have := Int.eq_zero_of_abs_lt_dvd (Int.modEq_iff_dvd.1 h) hlt
  omega

theorem c03k_centred_unique {Q : Nat} {x y : Int} (h : x ≡ y [ZMOD (Q : Int)])
    (hx : - (Q : Int) < 2 * x ∧ 2 * x ≤ Q) (hy : - (Q : Int) < 2 * y ∧ 2 * y ≤ Q) : x = y :=
  eq_of_modEq_of_abs_lt h (abs_lt.mpr ⟨by omega, by omega⟩)

theorem c03k_eq_of_small {Q : Nat} {x y : Int} (h : x ≡ y [ZMOD (Q : Int)])
    (hx : - (Q : Int) < 2 * x ∧ 2 * x ≤ Q) (hy : 2 * y.natAbs < Q) : x = y :=
  c03k_centred_unique h hx ⟨by omega, by omega⟩

/-! ### the centred representative of an integer, `Spec.centred (Spec.imod x Q) Q`: it lies in the class of x, depends on the class only,
     and is the only member of the class inside the window -/

theorem centredZ_modEq {Q : Nat} (hQ : 0 < Q) (x : Int) : Spec.centred (Spec.imod x Q) Q ≡ x [ZMOD Q] :=
  (centred_modEq _ Q).trans (imod_modEq hQ x)

theorem centredZ_congr {Q : Nat} {x y : Int} (h : x ≡ y [ZMOD Q]) :
    Spec.centred (Spec.imod x Q) Q = Spec.centred (Spec.imod y Q) Q := by
  rw [imod_congr h]

theorem centredZ_eq {Q : Nat} (hQ : 0 < Q) {x y : Int} (h : x ≡ y [ZMOD Q]) (hy : -(Q : Int) < 2 * y ∧ 2 * y ≤ Q) :
    Spec.centred (Spec.imod x Q) Q = y :=
  c03k_centred_unique ((centredZ_modEq hQ x).trans h) (centred_range _ hQ) hy

/-- centred lift of a reduced value: it differs from the value by a multiple of Q -/
theorem c01j_centred_imod (x : Int) {Q : Nat} (hQ : 0 < Q) :
    ∃ κ : Int, Spec.centred (Spec.imod x Q) Q = x - Q * κ := by
  obtain ⟨κ, hκ⟩ := Int.modEq_iff_dvd.mp (centredZ_modEq hQ x)
  exact ⟨κ, by rw [← hκ]; ring⟩

/-- a small integer is its own centred lift -/
theorem c01j_centred_small {x : Int} {Q : Nat} (h : 2 * x.natAbs < Q) :
    Spec.centred (Spec.imod x Q) Q = x :=
  centredZ_eq (by omega) .rfl ⟨by omega, by omega⟩

theorem c03k_centred_cast {q Q : Nat} (h : q ∣ Q) (X : Nat) : ((Spec.centred X Q : Int) : ZMod q) = ((X : Nat) : ZMod q) := by
  have h1 := (centred_modEq X Q).of_dvd (Int.natCast_dvd_natCast.mpr h)
  have h2 := (ZMod.intCast_eq_intCast_iff _ _ q).mpr h1
  rwa [Int.cast_natCast] at h2

end HC
