import Heathcliff.Gen.CkksFns
import Heathcliff.Proofs.C12A
import Heathcliff.Proofs.GenWordScalar
import Heathcliff.Proofs.GenLoop

/- Translator tie, encoder mode: the GENERATED integer side of the CKKS encoder (Gen/CkksFns.lean, namespace `GenK`, regenerated from
   src/ckks_encoder.rs on every run) tied to the C12 mathematics: the loop invariant of `forRange`, the per-coefficient elements of the
   ≤ 64-bit and ≤ 128-bit paths (both sign branches return `c12_res c q` = c mod q; the tie to the model's `coeffToRns` is at the level of
   these values, `gk_stage_coeffToRns` in GenCkks2), the row / buffer invariants of the nested `for` loops, the maximum scan.

   TRUSTED float readings (tools/rs2lean_ckks.py; the same as Model/CkksEncoder.lean).  A local holding a rounded coefficient is an `Int`.
   `fabs x` = `x.abs()`; `fToU64 x` = `x as u64` (saturating, negative = 0); `fmod64 x`, `fdiv64 x` = `x % 2^64`, `x / 2^64` on doubles
   (`Int.tmod`, `Int.tdiv`: exact, and the code takes `.abs()` first).  The inputs of the generated entry points that stand for float work:
   `rc[i]` = the rounded coefficient `round(x_i)`; `cb[i]` = `ceil(log2(max(|x_i|, 1)))` of the unrounded coefficient, the per-coefficient bit
   count whose maximum the code scans; `scale_ok` = the outcome of the scale test; `total_bits` = `total_coeff_modulus_bit_count`;
   `decompose` = `base_q().decompose(..)` of the > 128-bit path and `nttP` = the final `ntt_p`, both opaque functions here.  The one float FACT the
   theorems assume about these inputs is `hmag : |rc[i]| ≤ 2^cb[i]` (rounding does not leave the power-of-two bracket of the bit count).

   The constants `GenK.idx / idxI / idxT / setIdx / forLoop / forRange` are the prelude as emitted into THIS generated file: every generated
   namespace has its own copies (they are different constants from `GenW.idx`, …), hence `gk_idxT_ok`, `gk_idxI_ok`, `gk_setIdx_ok` here.
   Names ending in `_partial` (GenCkks2): the statement covers bit counts ≤ 128 only (the > 128-bit path through `decompose` is not proved;
   Props/C12 says the same at `gen_c64_array_integer_stage_partial`). -/
namespace HC
open Ckks GenK

/-! ### generic loop lemmas -/

theorem gk_forRange_inv {σ : Type} (Inv : Nat → σ → Prop) (body : Nat → σ → R σ) (hi : Nat) (s : σ)
    (h0 : Inv 0 s)
    (hstep : ∀ i s, i < hi → Inv i s → ∃ s', body i s = .ok s' ∧ Inv (i + 1) s') :
    ∃ s', forRange 0 hi s body = .ok s' ∧ Inv hi s' := by
  have : ∃ s', forLoop body hi 0 s = .ok s' ∧ Inv (0 + hi) s' := Loop.inv (forLoop body) Inv hi 0 s h0 fun m j s _ hlt hI => by
    obtain ⟨s', e, h⟩ := hstep j s (by omega) hI
    exact ⟨s', by rw [forLoop, e]; rfl, h⟩
  simpa [forRange] using this

/-- the two sign branches run the same loop with different bodies -/
theorem gk_if_forRange {σ : Type} (b : Bool) (lo hi : Nat) (s : σ) (f g : Nat → σ → R σ) :
    (if b = true then forRange lo hi s f else forRange lo hi s g) = forRange lo hi s (fun j s => if b = true then f j s else g j s) := by
  cases b <;> simp

/-! ### index arithmetic of the `[component][coefficient]` layout -/

theorem gk_pos_lt {cc k i j : Nat} (hi : i < cc) (hj : j < k) : i + j * cc < cc * k := by
  rw [Nat.add_comm, Nat.mul_comm cc k]; exact grid_lt hj hi

theorem gk_pos_mod {cc i j : Nat} (hi : i < cc) : (i + j * cc) % cc = i := by
  rw [Nat.add_comm]; exact grid_mod j hi

theorem gk_pos_inj {cc i j j' : Nat} (hi : i < cc) (h : i + j * cc = i + j' * cc) : j = j' := by
  have : j * cc = j' * cc := by omega
  exact Nat.eq_of_mul_eq_mul_right (by omega) this

/-! ### one row: `for j in 0..k { dest[i + j * cc] = f j }` -/

/-- a loop whose body stores `f j` at position `i + j·cc` fills row `i` and leaves the other rows alone.  (A strided write is `Loop.scatter`'s
    case; this induction stands alone because its users want `getElem?` facts under a body known only through `hbody`, and going through
    `Loop.scat` measured longer.) -/
theorem gk_row_spec {cc k i : Nat} (f : Nat → Nat) (body : Nat → List Nat → R (List Nat)) (d : List Nat)
    (hbody : ∀ j d, j < k → d.length = cc * k → body j d = .ok (d.set (i + j * cc) (f j)))
    (hi : i < cc) (hd : d.length = cc * k) :
    ∃ d', forRange 0 k d body = .ok d' ∧ d'.length = cc * k ∧ (∀ j, j < k → d'[i + j * cc]? = some (f j)) ∧
      (∀ p, p % cc ≠ i → d'[p]? = d[p]?) := by
  obtain ⟨d', e, hl, h1, h2⟩ := gk_forRange_inv
    (fun j d' => d'.length = cc * k ∧ (∀ j', j' < j → d'[i + j' * cc]? = some (f j')) ∧ (∀ p, p % cc ≠ i → d'[p]? = d[p]?))
    body k d ⟨hd, by intro j' h; omega, fun _ _ => rfl⟩
    (by
      intro j d1 hj ⟨hl, h1, h2⟩
      refine ⟨_, hbody j d1 hj hl, by simp [hl], ?_, ?_⟩
      · intro j' hj'
        by_cases e : j' = j
        · subst e
          rw [List.getElem?_set_self (by rw [hl]; exact gk_pos_lt hi hj)]
        · rw [List.getElem?_set_ne (by intro h; exact e (gk_pos_inj hi h).symm)]
          exact h1 j' (by omega)
      · intro p hp
        rw [List.getElem?_set_ne (by intro h; rw [← h, gk_pos_mod hi] at hp; exact hp rfl)]
        exact h2 p hp)
  exact ⟨d', e, hl, h1, h2⟩

/-- all rows: `for i in 0..n { row i }` with rows that satisfy `gk_row_spec`'s conclusion -/
theorem gk_rows_spec {cc k n : Nat} (F : Nat → Nat → Nat) (body : Nat → List Nat → R (List Nat)) (d : List Nat)
    (hrow : ∀ i d, i < n → d.length = cc * k → ∃ d', body i d = .ok d' ∧ d'.length = cc * k ∧
      (∀ j, j < k → d'[i + j * cc]? = some (F i j)) ∧ (∀ p, p % cc ≠ i → d'[p]? = d[p]?))
    (hn : n ≤ cc) (hd : d.length = cc * k) :
    ∃ d', forRange 0 n d body = .ok d' ∧ d'.length = cc * k ∧
      (∀ i j, i < n → j < k → d'[i + j * cc]? = some (F i j)) ∧ (∀ p, n ≤ p % cc → d'[p]? = d[p]?) := by
  obtain ⟨d', e, hl, h1, h2⟩ := gk_forRange_inv
    (fun i d' => d'.length = cc * k ∧ (∀ i' j, i' < i → j < k → d'[i' + j * cc]? = some (F i' j)) ∧ (∀ p, i ≤ p % cc → d'[p]? = d[p]?))
    body n d ⟨hd, by intro i' j h; omega, fun _ _ => rfl⟩
    (by
      intro i d1 hi ⟨hl, h1, h2⟩
      obtain ⟨d2, e2, hl2, r1, r2⟩ := hrow i d1 hi hl
      refine ⟨d2, e2, hl2, ?_, ?_⟩
      · intro i' j hi' hj
        by_cases e : i' = i
        · subst e; exact r1 j hj
        · rw [r2 _ (by rw [gk_pos_mod (by omega)]; exact e)]
          exact h1 i' j (by omega) hj
      · intro p hp
        rw [r2 p (by omega)]; exact h2 p (by omega))
  exact ⟨d', e, hl, h1, h2⟩

/-! ### the float readings on non-negative values -/

theorem gk_fabs_nat (c : Int) : fabs c = (c.natAbs : Int) := rfl
theorem gk_fToU64_nat (a : Nat) : fToU64 (a : Int) = satU64 a := by simp [fToU64]
theorem gk_fmod64_nat (a : Nat) : fmod64 (a : Int) = ((a % B64 : Nat) : Int) := by
  unfold fmod64 B64; rfl
theorem gk_fdiv64_nat (a : Nat) : fdiv64 (a : Int) = ((a / B64 : Nat) : Int) := by
  unfold fdiv64 B64; rfl

theorem gk_idxT_ok {l : List Modulus} {j : Nat} (h : j < l.length) : idxT l j = .ok l[j] := by
  simp [idxT, List.getElem?_eq_getElem h]
theorem gk_idxI_ok {l : List Int} {j : Nat} (h : j < l.length) : idxI l j = .ok l[j] := by
  simp [idxI, List.getElem?_eq_getElem h]
theorem gk_setIdx_ok {l : List Nat} {i : Nat} (v : Nat) (h : i < l.length) : setIdx l i v = .ok (l.set i v) := by
  simp [setIdx, h]

/-! ### the per-coefficient element of each path (both sign branches) -/

theorem gk_reduce_u64 {m : Modulus} (h : m.WF) {x : Nat} (hx : x < 2^64) : GenP.mod_reduce m x = .ok (x % m.value) := by
  unfold GenP.mod_reduce; rw [gw_barrett_reduce_u64_eq]; exact barrett64_exact h hx

theorem gk_reduce64 {m : Modulus} (h : m.WF) {c : Int} (hc : c.natAbs < 2^64) :
    GenP.mod_reduce m (fToU64 (fabs c)) = .ok (c.natAbs % m.value) := by
  rw [gk_fabs_nat, gk_fToU64_nat, c12a_satU64 hc]; exact gk_reduce_u64 h hc

theorem gk_reduce128 {m : Modulus} (h : m.WF) {c : Int} (hc : c.natAbs < 2^128) :
    GenW.barrett_reduce_u128 (fToU64 (fmod64 (fabs c))) (fToU64 (fdiv64 (fabs c))) m = .ok (c.natAbs % m.value) := by
  have hhi : c.natAbs / B64 < 2^64 := by
    rw [B64_eq, Nat.div_lt_iff_lt_mul (by norm_num)]; norm_num at hc ⊢; exact hc
  have hlo : c.natAbs % B64 < 2^64 := by rw [B64_eq]; exact Nat.mod_lt _ (by norm_num)
  rw [gk_fabs_nat, gk_fmod64_nat, gk_fdiv64_nat, gk_fToU64_nat, gk_fToU64_nat, c12a_satU64 hlo, c12a_satU64 hhi,
    gw_barrett_reduce_u128_eq, barrett128_exact h hlo hhi, ← B64_eq, Nat.mod_add_div]

theorem gk_negate_res {m : Modulus} (h : m.WF) {c : Int} (hneg : c < 0) :
    GenW.negate_u64_mod (c.natAbs % m.value) m = .ok (c12_res c m.value) := by
  have := c12a_signFix h c
  unfold signFix at this
  rw [decide_eq_true hneg, if_pos rfl] at this
  rw [gw_negate_u64_mod_eq]; exact this

theorem gk_pos_res {m : Modulus} {c : Int} (hpos : ¬ c < 0) : c.natAbs % m.value = c12_res c m.value :=
  (c12a_res_nonneg (by omega) _).symm

/-- the sign branches around a reduction that has returned `|c| mod q` -/
theorem gk_signed {m : Modulus} (h : m.WF) (c : Int) :
    (if decide (c < 0) = true then (do let r ← (.ok (c.natAbs % m.value) : R Nat); GenW.negate_u64_mod r m)
     else .ok (c.natAbs % m.value)) = .ok (c12_res c m.value) := by
  by_cases hn : c < 0
  · rw [decide_eq_true hn, if_pos rfl]
    exact gk_negate_res h hn
  · rw [decide_eq_false hn, if_neg Bool.false_ne_true, gk_pos_res hn]

theorem gk_elem64 {m : Modulus} (h : m.WF) {c : Int} (hc : c.natAbs < 2^64) :
    (if decide (c < 0) = true then (do let r ← GenP.mod_reduce m (fToU64 (fabs c)); GenW.negate_u64_mod r m)
     else GenP.mod_reduce m (fToU64 (fabs c))) = .ok (c12_res c m.value) := by
  rw [gk_reduce64 h hc]
  exact gk_signed h c

theorem gk_elem128 {m : Modulus} (h : m.WF) {c : Int} (hc : c.natAbs < 2^128) :
    (if decide (c < 0) = true then
       (do let r ← GenW.barrett_reduce_u128 (fToU64 (fmod64 (fabs c))) (fToU64 (fdiv64 (fabs c))) m; GenW.negate_u64_mod r m)
     else GenW.barrett_reduce_u128 (fToU64 (fmod64 (fabs c))) (fToU64 (fdiv64 (fabs c))) m) = .ok (c12_res c m.value) := by
  rw [gk_reduce128 h hc]
  exact gk_signed h c

/-! ### the maximum scan -/

theorem gk_foldl_max_ge (l : List Nat) (x : Nat) : x ≤ l.foldl max x ∧ ∀ y ∈ l, y ≤ l.foldl max x := by
  induction l generalizing x with
  | nil => simp
  | cons a r ih =>
    obtain ⟨h1, h2⟩ := ih (max x a)
    refine ⟨by simp only [List.foldl_cons]; omega, ?_⟩
    intro y hy
    simp only [List.foldl_cons]
    rcases List.mem_cons.mp hy with rfl | hy
    · omega
    · exact h2 y hy

theorem gk_maxAll_spec {cb : List Nat} (h : cb ≠ []) : ∃ mb, maxAll cb = .ok mb ∧ ∀ i (hi : i < cb.length), cb[i] ≤ mb := by
  cases cb with
  | nil => exact absurd rfl h
  | cons x r =>
    refine ⟨r.foldl max x, rfl, ?_⟩
    intro i hi
    obtain ⟨h1, h2⟩ := gk_foldl_max_ge r x
    cases i with
    | zero => exact h1
    | succ i => exact h2 _ (List.getElem_mem _)

theorem gk_satAdd_ge {mb total : Nat} (ht : total < 2^64) (h : mb + 1 ≥ total) : satAdd mb 1 ≥ total := by
  unfold satAdd; rw [B64_eq]; split <;> omega

end HC
