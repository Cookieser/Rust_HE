/- Audit of property C01: `#print axioms` for every property theorem of Props/C01.lean; `audit()` of tools/runner.py elaborates this file
   and compares each axiom list with the three standard axioms. -/
import Heathcliff.Props.C01
import Heathcliff.Proofs.C01EW
import Heathcliff.Proofs.C01LW
import Heathcliff.Proofs.C01VW
import Heathcliff.Proofs.C01XW
import Heathcliff.Proofs.C01YW
#print axioms HC.C01.deltaM_eq
#print axioms HC.C01.deltaM_err
#print axioms HC.C01.bfv_scale_round_trip
#print axioms HC.C01.bgv_round_trip
#print axioms HC.C01.phase_fresh_pk
#print axioms HC.C01.phase_fresh_sk
#print axioms HC.C01.phase_fresh_pk_bgv
#print axioms HC.C01.negMul_norm_le
#print axioms HC.C01.fresh_noise_bound
#print axioms HC.C01.decrypt_fresh_bfv
#print axioms HC.C01.multiplyAddPlain_coeff
#print axioms HC.C01.bgv_round_trip_cf_bounded
#print axioms HC.C01.dotProduct_size2_ntt
#print axioms HC.C01.dotProduct_size2_coeff
#print axioms HC.C01.bfvDecrypt_size2_eq_spec
#print axioms HC.C01.bgvDecrypt_size2_eq_spec
#print axioms HC.C01.bfvDecrypt_refuses_ntt
#print axioms HC.C01.bgvDecrypt_refuses_coeff
#print axioms HC.C01.bfvDecrypt_refuses_small
#print axioms HC.C01.bgvDecrypt_refuses_small
#print axioms HC.C01.bfvDecrypt_refuses_noT
#print axioms HC.C01.bgvDecrypt_size2_refuses_cf
#print axioms HC.C01.bfvDecrypt_eq_spec_of_phase
#print axioms HC.C01.bgvDecrypt_eq_spec_of_phase
#print axioms HC.C01.c01p_hres_size2
#print axioms HC.C01.c01p_decOK_of_new
#print axioms HC.C01.c01p_levelWF_of_new
#print axioms HC.C01.c01p_hypotheses_satisfiable
#print axioms HC.C01.bfvDecrypt_eq_spec
#print axioms HC.C01.bgvDecrypt_eq_spec
#print axioms HC.C01.bgvDecrypt_refuses_cf
#print axioms HC.C01.ckksDecrypt_eq_spec
#print axioms HC.C01.ckksDecrypt_intt_eq_phase
#print axioms HC.C01.ckksDecrypt_refuses_coeff
#print axioms HC.C01.ckksDecrypt_refuses_small
#print axioms HC.C01.level_bundles_of_constructors
#print axioms HC.C01.mkLevel_ok
#print axioms HC.C01.mkLevel_t0
#print axioms HC.C01.mkLevel_ok_inputs
#print axioms HC.C01.mkLevel_bfvDecrypt_eq_oracle
#print axioms HC.C01.mkLevel_bgvDecrypt_eq_oracle
#print axioms HC.C01.mkLevel_ckksDecrypt_eq_oracle
#print axioms HC.C01.driver_dec_bfv
#print axioms HC.C01.driver_dec_bgv
#print axioms HC.C01.driver_dec_ckks
#print axioms HC.C01.driver_dec_bfv_safe
#print axioms HC.C01.driver_dec_bgv_safe
#print axioms HC.C01.c01q_hypotheses_satisfiable
#print axioms HC.C01.flatten_unflatten
#print axioms HC.C01.gen_multiply_add_plain_eq
#print axioms HC.C01.gen_multiply_add_plain_refuses_short
#print axioms HC.C01.gen_multiply_add_plain_spec
#print axioms HC.C01.scalingOK_example
#print axioms HC.C01.gen_multiply_add_plain_example
#print axioms HC.C01.encryptZeroAsym_coeff
#print axioms HC.C01.encryptZeroSym_coeff
#print axioms HC.C01.enc_pk_identity
#print axioms HC.C01.encryptZeroAsym_phase
#print axioms HC.C01.encryptZeroSym_phase
#print axioms HC.C01.multiplyAddPlain_spec
#print axioms HC.C01.decrypt_of_phase
#print axioms HC.C01.bfv_encrypt_decrypt_pk
#print axioms HC.C01.bfv_encrypt_decrypt_sk
#print axioms HC.C01.expandSeed_toSeeded
#print axioms HC.C01.encDivideQLast_eq_modSwitch
#print axioms HC.c01e_pk_hypotheses_satisfiable
#print axioms HC.c01e_sk_hypotheses_satisfiable
#print axioms HC.C01.encryptZeroAsym_ntt
#print axioms HC.C01.encryptZeroSym_ntt
#print axioms HC.C01.genSecretKey_eq_skNtt
#print axioms HC.C01.genPublicKey_pkRel
#print axioms HC.C01.pkRel_lower
#print axioms HC.C01.genPublicKey_error_bound
#print axioms HC.C01.phase_of_lift
#print axioms HC.C01.phase_add_c0
#print axioms HC.C01.pkNoise_bound
#print axioms HC.C01.encryptZeroAsym_fresh
#print axioms HC.C01.encryptZeroSym_fresh
#print axioms HC.C01.encryptZeroInternal_fresh_pk
#print axioms HC.C01.encryptZeroInternal_fresh_sk
#print axioms HC.C01.encDivideQLast_fresh
#print axioms HC.C01.encryptZeroInternal_fresh_pk_prev
#print axioms HC.C01.encryptZeroInternal_fresh_pk_prev_bounded
#print axioms HC.C01.spBound_le
#print axioms HC.C01.bfv_encrypt_decrypt_of_fresh
#print axioms HC.C01.bfv_encrypt_decrypt_pk_sp
#print axioms HC.C01.bgvLiftPlain_fast_spec
#print axioms HC.C01.bgvLiftPlain_multiword_spec
#print axioms HC.C01.bgvLiftPlain_spec
#print axioms HC.C01.bgv_decrypt_of_phase
#print axioms HC.C01.bgv_encrypt_decrypt_of_fresh
#print axioms HC.C01.bgv_encrypt_decrypt_pk
#print axioms HC.C01.bgv_encrypt_decrypt_sk
#print axioms HC.C01.bgv_encrypt_decrypt_pk_sp
#print axioms HC.C01.ckks_encrypt_decrypt_of_fresh
#print axioms HC.C01.ckks_encrypt_decrypt_pk
#print axioms HC.C01.ckks_encrypt_decrypt_sk
#print axioms HC.C01.ckks_encrypt_decrypt_pk_sp
#print axioms HC.c01w_prev_bfv
#print axioms HC.c01w_prev_bgv
#print axioms HC.c01w_prev_ckks
#print axioms HC.c01w_liftOK_fast
#print axioms HC.c01w_liftOK_multiword
#print axioms HC.c01w_bfv_sp_hypotheses_satisfiable
#print axioms HC.c01w_bgv_pk_hypotheses_satisfiable
#print axioms HC.c01w_bgv_sp_hypotheses_satisfiable
#print axioms HC.c01w_bgv_sk_hypotheses_satisfiable
#print axioms HC.c01w_ckks_sp_hypotheses_satisfiable
#print axioms HC.c01w_ckks_sk_hypotheses_satisfiable
#print axioms HC.c01w_ckks_pk_hypotheses_satisfiable
#print axioms HC.c01w_pkRel_lower
#print axioms HC.PrevLevelOK.levelPrefix
#print axioms HC.C01.mkLevel_prefix
#print axioms HC.C01.mkLevel_prevLevelOK
#print axioms HC.C01.bfvConsts_scalingOK
#print axioms HC.C01.bgvIncr_liftOK
#print axioms HC.C01.drvCtx_pkRel
#print axioms HC.C01.drvMode_fresh
#print axioms HC.C01.mkLevel_freshEncOK
#print axioms HC.C01.mkLevel_freshEncOKBgv
#print axioms HC.C01.drv_bfv_encrypt_decrypt
#print axioms HC.C01.drv_bfv_encrypt_decrypt_inputs
#print axioms HC.C01.drv_bgv_encrypt_decrypt
#print axioms HC.C01.ckks_encrypt_decrypt_int_of_fresh
#print axioms HC.C01.ckksPlainOfInt_spec
#print axioms HC.C01.drv_ckks_encrypt_decrypt
#print axioms HC.C01.bfv_decrypt_fresh_zero
#print axioms HC.C01.bgv_decrypt_fresh_zero
#print axioms HC.C01.trimPlain_padPlain_empty
#print axioms HC.C01.drv_bfv_encrypt_zero_decrypt
#print axioms HC.C01.drv_bgv_encrypt_zero_decrypt
#print axioms HC.C01.drv_ckks_encrypt_zero_decrypt
#print axioms HC.c01vw_ctx_bfv
#print axioms HC.c01vw_ctx_bgv
#print axioms HC.c01vw_ctx_ckks
#print axioms HC.c01vw_bfv_sp
#print axioms HC.c01vw_bfv_head
#print axioms HC.c01vw_bfv_sk
#print axioms HC.c01vw_bfv_zero
#print axioms HC.c01vw_bgv_sp
#print axioms HC.c01vw_bgv_head
#print axioms HC.c01vw_bgv_sk
#print axioms HC.c01vw_bgv_sp_multiword
#print axioms HC.c01vw_bgv_zero
#print axioms HC.c01vw_ckks_sp
#print axioms HC.c01vw_ckks_lower
#print axioms HC.c01vw_ckks_sk
#print axioms HC.c01vw_ckks_zero_lower
#print axioms HC.C01.encryptZeroSym_seeded_shape
#print axioms HC.C01.encryptZeroInternal_seeded_shape
#print axioms HC.C01.bfvEncrypt_seeded_shape
#print axioms HC.C01.bgvEncrypt_seeded_shape
#print axioms HC.C01.ckksEncrypt_seeded_shape
#print axioms HC.C01.expandSeed_of_shape
#print axioms HC.C01.drv_bfv_encrypt_decrypt_seeded
#print axioms HC.C01.drv_bgv_encrypt_decrypt_seeded
#print axioms HC.C01.drv_ckks_encrypt_decrypt_seeded
#print axioms HC.C01.encryptZeroSym_seed_fallback
#print axioms HC.c01xw_expands
#print axioms HC.c01xw_not_saved
#print axioms HC.c01xw_bfv_seeded
#print axioms HC.c01xw_bgv_seeded
#print axioms HC.c01xw_ckks_seeded
#print axioms HC.C01.ternary_tape
#print axioms HC.C01.cbd_tape
#print axioms HC.C01.uniform_tape
#print axioms HC.C01.centeredBinomial_total
#print axioms HC.C01.noiseMany_total2
#print axioms HC.C01.drvMode_pk_of_prng
#print axioms HC.C01.drvMode_pkPrev_of_prng
#print axioms HC.C01.drvMode_sk_of_prng
#print axioms HC.C01.drv_bfv_encrypt_decrypt_prng_sp
#print axioms HC.C01.drv_bgv_encrypt_decrypt_prng_sk
#print axioms HC.C01.drv_ckks_encrypt_decrypt_prng_pk
#print axioms HC.c01yw_byteXof
#print axioms HC.c01yw_bfv_prng_sp
#print axioms HC.c01yw_ckks_prng_pk
#print axioms HC.c01yw_bgv_prng_sk
#print axioms HC.C01.encryptZeroAsymPrng_eq_tape
#print axioms HC.C01.encryptZeroAsymPrng_fresh
#print axioms HC.C01.encryptZeroSymPrng_fresh
#print axioms HC.C01.drvCtx_of_prng
#print axioms HC.c01yw_ctx_of_prng
#print axioms HC.c01yw_asymPrng_fresh
#print axioms HC.C01.mkLevel_freshEncOK_sharp
#print axioms HC.C01.drv_bfv_encrypt_decrypt_inputs_sharp
#print axioms HC.C01.gen_decrypt_scale_and_round_rounds
#print axioms HC.C01.gen_decrypt_mod_t_centred
#print axioms HC.C01.gen_validate_constants_scalingOK
#print axioms HC.C01.gen_multiply_add_plain_with_validated_constants
#print axioms HC.C01.gen_bgv_decrypt_fixup_eq
#print axioms HC.C01.gen_bgv_fixup_inverse_every_t
#print axioms HC.C01.gen_bgv_fixup_composite_witness
#print axioms HC.C01.gen_dot_product_plan_eq
#print axioms HC.C01.gen_dot_plan_witness
#print axioms HC.C01.gen_bfv_decrypt_eq
#print axioms HC.C01.gen_ckks_decrypt_eq
#print axioms HC.C01.gen_decrypt_dispatch_eq
