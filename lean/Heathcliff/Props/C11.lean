import Heathcliff.Proofs.C11N
import Heathcliff.Proofs.C11P
import Heathcliff.Proofs.GenAppBatch

/- C11 — batch encoding: `encode` / `decode` of the `BatchEncoder` are mutually inverse, slots are the evaluations of the plaintext polynomial at
   the powers psi^(±3^i) of the table's root, so that sums / products of encodings decode slot-wise; the index map is a permutation.
   Property theorems only: a statement is either written out here or, where the line reads `type_of% @HC.name`, it is the statement of the lemma
   `HC.name` of Heathcliff/Proofs (C11N, C11P, GenAppBatch), to be read there; proofs are the helper lemmas of Heathcliff/Proofs. -/
namespace HC.C11
open HC
open Finset

/-- INDEX MAP: entry i is brev((slotExp i − 1)/2), i.e. the NTT position holding the evaluation at psi^(slotExp i) -/
theorem batchIndexMap_spec {k i : Nat} (hk : 1 ≤ k) (hi : i < 2^k) :
    (batchIndexMap k).size = 2^k ∧ (batchIndexMap k).getD i 0 = brev k ((slotExp k i - 1) / 2) ∧
    slotExp k i % 2 = 1 ∧ slotExp k i < 2 * 2^k := HC.batchIndexMap_spec hk hi

/-- the slot exponents ±3^i are pairwise distinct modulo 2N (so they are ALL odd residues: 3 has order N/2 and −1 ∉ ⟨3⟩) -/
theorem slotExp_injective {k i j : Nat} (hk : 1 ≤ k) (hi : i < 2^k) (hj : j < 2^k) (h : slotExp k i = slotExp k j) : i = j := HC.slotExp_injective hk hi hj h

/-- INDEX MAP IS A PERMUTATION of [0, N) -/
theorem batchIndexMap_perm {k : Nat} (hk : 1 ≤ k) :
    (∀ i, i < 2^k → (batchIndexMap k).getD i 0 < 2^k) ∧
    (∀ i j, i < 2^k → j < 2^k → (batchIndexMap k).getD i 0 = (batchIndexMap k).getD j 0 → i = j) := HC.batchIndexMap_perm hk

/-- DECODE = evaluation: slot i of `decode p` is p(psi^(slotExp i)) mod t (psi the table's root) -/
theorem batchDecode_eval (hw : t.WF) (hk : 1 ≤ t.k) (p : Array Nat) (hs : p.size ≤ 2^t.k)
    (hp : ∀ j, j < p.size → p.getD j 0 < t.modulus.value) :
    (batchDecode t p).size = 2^t.k ∧ ∀ i, i < 2^t.k →
      (batchDecode t p).getD i 0 =
        (∑ j ∈ range (2^t.k), p.getD j 0 * (t.root ^ slotExp t.k i) ^ j) % t.modulus.value := HC.batchDecode_eval hw hk p hs hp

/-- ROUND TRIP: decoding inverts encoding; shorter inputs are zero-padded -/
theorem batch_decode_encode (hw : t.WF) (hk : 1 ≤ t.k) (v : Array Nat) (hs : v.size ≤ 2^t.k)
    (hv : ∀ j, j < v.size → v.getD j 0 < t.modulus.value) :
    ∃ p, batchEncode t v = .ok p ∧ p.size = 2^t.k ∧ (∀ j, j < 2^t.k → p.getD j 0 < t.modulus.value) ∧
      ∀ i, i < 2^t.k → (batchDecode t p).getD i 0 = v.getD i 0 := HC.batch_decode_encode hw hk v hs hv

/-- and encoding inverts decoding on full-length canonical plaintexts (bijection) -/
theorem batch_encode_decode (hw : t.WF) (hk : 1 ≤ t.k) (p : Array Nat) (hs : p.size = 2^t.k)
    (hp : ∀ j, j < 2^t.k → p.getD j 0 < t.modulus.value) :
    batchEncode t (batchDecode t p) = .ok p := HC.batch_encode_decode hw hk p hs hp

/-- RING ISOMORPHISM (product): the slots of the negacyclic product are the products of the slots -/
theorem batch_mul_slots (hw : t.WF) (hk : 1 ≤ t.k) (a b : Array Nat) (hsa : a.size = 2^t.k) (hsb : b.size = 2^t.k)
    (ha : ∀ j, j < 2^t.k → a.getD j 0 < t.modulus.value) (hb : ∀ j, j < 2^t.k → b.getD j 0 < t.modulus.value) :
    let prod : Array Nat := Array.ofFn (n := 2^t.k) fun c => negMulNat (2^t.k) t.modulus.value a b c.val
    ∀ i, i < 2^t.k → (batchDecode t prod).getD i 0 =
      ((batchDecode t a).getD i 0 * (batchDecode t b).getD i 0) % t.modulus.value := HC.batch_mul_slots hw hk a b hsa hsb ha hb

/-- (sum) -/
theorem batch_add_slots (hw : t.WF) (hk : 1 ≤ t.k) (a b : Array Nat) (hsa : a.size = 2^t.k) (hsb : b.size = 2^t.k)
    (ha : ∀ j, j < 2^t.k → a.getD j 0 < t.modulus.value) (hb : ∀ j, j < 2^t.k → b.getD j 0 < t.modulus.value) :
    let sum : Array Nat := Array.ofFn (n := 2^t.k) fun c => (a.getD c.val 0 + b.getD c.val 0) % t.modulus.value
    ∀ i, i < 2^t.k → (batchDecode t sum).getD i 0 =
      ((batchDecode t a).getD i 0 + (batchDecode t b).getD i 0) % t.modulus.value := HC.batch_add_slots hw hk a b hsa hsb ha hb

/-- GALOIS ACTION ON SLOTS (exponent level): substituting X ↦ X^(3^s) moves slot (i + s mod N/2) of the same row to slot i,
    and X ↦ X^(2N−1) exchanges the rows: slotExp(i)·3^s ≡ slotExp(rot i), slotExp(i)·(2N−1) ≡ slotExp(swap i) (mod 2N) -/
theorem slotExp_rotate {k i s : Nat} (hk : 2 ≤ k) (hi : i < 2^k) :
    let row := 2^k / 2
    (slotExp k i * 3 ^ s) % (2 * 2^k) = slotExp k ((i / row) * row + (i % row + s) % row) := HC.slotExp_rotate hk hi

theorem slotExp_swap {k i : Nat} (hk : 1 ≤ k) (hi : i < 2^k) :
    (slotExp k i * (2 * 2^k - 1)) % (2 * 2^k) = slotExp k ((i + 2^k / 2) % 2^k) := HC.slotExp_swap hk hi

/-! ### the model's encoder / decoder on tables built by the model's constructor (Proofs/C11P.lean) -/

/-- **MODEL ROUND TRIP for every N = 2^k (1 ≤ k ≤ 60) and every plain modulus `NTTTables.new` accepts** (it refuses unless its
    primality flag is set and 2N | t − 1: `batch_tables_only_for_batching_primes`): the model's `batchEncode` followed by the model's `batchDecode` is the
    identity with zero padding; the encoding is a canonical plaintext of N coefficients -/
theorem batch_round_trip_of_new : type_of% @HC.batch_round_trip_of_new := @HC.batch_round_trip_of_new

/-- ... and `batchEncode ∘ batchDecode` = identity on canonical plaintexts of full length (bijection) -/
theorem batch_encode_decode_of_new : type_of% @HC.batch_encode_decode_of_new := @HC.batch_encode_decode_of_new

/-- the constructor returns tables only when its Boolean argument `pr` is `true` and 2N | t − 1.  `pr` is the model's reading of
    `modulus.is_prime()`, the Miller–Rabin verdict cached in the `Modulus`; nothing here ties it to `Nat.Prime t` (for the verdict itself:
    `is_prime_no_false_negative` in Props/C13 — a prime is never rejected) -/
theorem batch_tables_only_for_batching_primes : type_of% @HC.batch_tables_only_for_batching_primes :=
  @HC.batch_tables_only_for_batching_primes

/-! ### translator tie (app mode): `reverse_bits_u64` (src/util/basic.rs) and the `matrix_reps_index_map` loop of
    `BatchEncoder::new` (src/batch_encoder.rs; a fragment: generator 3, `pos`, `index1`, `index2`, bit reversal) are REGENERATED
    on every run (`Gen/AppFns.lean`) and proved equal to the model -/

/-- `reverse_bits_u64(x, k)` = `brev k x` for `k ≤ 64`, `x < 2^k` (`64 - bit_count` is a checked subtraction) -/
theorem gen_reverse_bits_u64_eq : type_of% @HC.ga_reverse_bits_u64_eq := @HC.ga_reverse_bits_u64_eq

/-- the generated index-map loop at `slots = 2^k`, `logn = k` (the values `BatchEncoder::new` passes: `poly_modulus_degree` and its
    `get_power_of_two`, asserted positive) returns exactly the model's `batchIndexMap k`, `1 ≤ k ≤ 61` -/
theorem gen_batch_index_map_eq : type_of% @HC.ga_be_index_map_eq := @HC.ga_be_index_map_eq

/-- **one statement from source to mathematics**: the table the GENERATED loop builds is a PERMUTATION of [0, N) whose entry `i` is the
    NTT position of the evaluation point psi^(slotExp i) (composition with `batchIndexMap_spec` / `batchIndexMap_perm`) -/
theorem gen_batch_index_map_perm {k : Nat} (hk : 1 ≤ k) (hk2 : k ≤ 61) :
    ∃ m : List Nat, GenApp.be_index_map (2^k) k = .ok m ∧ m.length = 2^k ∧
      (∀ i, i < 2^k → m.getD i 0 = brev k ((slotExp k i - 1) / 2) ∧ m.getD i 0 < 2^k) ∧
      (∀ i j, i < 2^k → j < 2^k → m.getD i 0 = m.getD j 0 → i = j) := by
  refine ⟨(batchIndexMap k).toList, HC.ga_be_index_map_eq k hk hk2, ?_, ?_, ?_⟩
  · rw [Array.length_toList]; exact (batchIndexMap_spec hk (Nat.two_pow_pos k)).1
  · intro i hi
    rw [array_getD_toList]
    exact ⟨(batchIndexMap_spec hk hi).2.1, (batchIndexMap_perm hk).1 i hi⟩
  · intro i j hi hj h
    rw [array_getD_toList, array_getD_toList] at h
    exact (batchIndexMap_perm hk).2 i j hi hj h

/-! non-vacuity: the generated loop runs and returns the table of the code (N = 8: [0, 5, 3, 6 | 7, 2, 4, 1]) -/
example : GenApp.be_index_map 8 3 = .ok (batchIndexMap 3).toList := by rfl
example : GenApp.reverse_bits_u64 6 3 = .ok 3 := by rfl

end HC.C11
