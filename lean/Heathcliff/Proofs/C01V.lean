/- C01 part V: END TO END ON THE DRIVER'S OWN OBJECTS.  Every level is what `Drv.Sch.mkLevel` returns, every context constant is what
   the driver computes from its definition (`Drv.C01E.bfvConsts`, `Drv.C01E.bgvIncr`), the public key is what the model's key
   generation `genPublicKey` returns; the remaining hypotheses are the ranges of the drawn polynomials (ternary secret and u, errors
   bounded by 21 — the proved CBD bound), validity of the plaintext and a decidable margin.
     `DrvCtx`        the key material of one context (key level, ternary secret, generated public key);
     `DrvMode`       the admissible calls of `encrypt_zero_internal` on these objects, each with the noise bound it guarantees
                     (public key at the head of the chain / through the previous level — special-prime path and every lower level /
                      secret key and seed-compressed, any level);
     `drvMode_fresh` every admissible call is a fresh encryption of zero within its bound;
     BFV, BGV: decrypt ∘ encrypt = id for ALL admissible modes at once; CKKS: the decrypted plaintext is M + ν over the INTEGERS
     (centred lift; exact RNS residues); encryptions of zero (`encrypt_zero_at`) decrypt to zero / to the noise.
   Helper names carry the prefix `c01v_`. -/
import Heathcliff.Proofs.C01U
namespace HC
open Finset Polynomial

/-- the key material of one context, as the driver has it on an `enc_op` / `keygen_op` line: the key level built by `mkLevel` on the
    key-level moduli, a ternary secret (signed coefficients), and the public key (pk0, pk1) RETURNED BY the model's key generation
    `genPublicKey` (= `KeyGenerator::create_public_key`) from a canonical mask pk1 and an error polynomial with ‖e‖∞ ≤ 21 -/
structure DrvCtx (scheme : Scheme) (n t : Nat) (kqs : List Nat) (kl : Level) (sk : Array Int) (pk0 pk1 : RnsPoly) : Prop where
  klOk : Drv.Sch.mkLevel scheme n kqs t = .ok kl
  /-- a BGV context has a plain modulus (with t = 0 `mkLevel` builds a tool without BGV constants: `mkLevel_t0`) -/
  bgvT : scheme = .bgv → t ≠ 0
  skSize : sk.size = n
  skTern : ∀ p, p < n → (sk.getD p 0).natAbs ≤ 1
  pkGen : ∃ (epk : Array Int) (saveSeed : Bool), epk.size = n ∧ (∀ p, p < n → (epk.getD p 0).natAbs ≤ 21) ∧ RnsCanon kl pk1 ∧
    genPublicKey kl sk pk1 (rnsOfInt kl epk) saveSeed = .ok ⟨#[pk0, pk1], true, 1⟩

/-- the slack of the division by the last prime: 2 for the t-compatible BGV division, 1 for BFV / CKKS rounding -/
def drvSlack (scheme : Scheme) : Nat := if scheme = .bgv then 2 else 1

/-- THE ADMISSIBLE CALLS of `encrypt_zero_internal` at the level on `lqs` (a prefix of the key-level moduli `kqs`), each with the
    bound on the noise of the encryption of zero it guarantees -/
inductive DrvMode (scheme : Scheme) (n t : Nat) (kqs : List Nat) (sk : Array Int) (pk0 pk1 : RnsPoly) (lqs : List Nat) (l : Level) :
    EncMode → Nat → Prop
  /-- public key, no previous level (the code reaches this branch at the head of the chain, `r = []`): noise ≤ 21(2N+1) -/
  | pk {r : List Nat} {u e0 e1 : Array Int} (hk : kqs = lqs ++ r)
      (hus : u.size = n) (he0s : e0.size = n) (he1s : e1.size = n)
      (hu1 : ∀ p, p < n → (u.getD p 0).natAbs ≤ 1) (he0 : ∀ p, p < n → (e0.getD p 0).natAbs ≤ 21)
      (he1 : ∀ p, p < n → (e1.getD p 0).natAbs ≤ 21) :
      DrvMode scheme n t kqs sk pk0 pk1 lqs l (.asym none #[pk0, pk1] (rnsOfInt l u) #[rnsOfInt l e0, rnsOfInt l e1]) (21 * (2 * n + 1))
  /-- public key THROUGH THE PREVIOUS LEVEL `pl` (built by `mkLevel` on `lqs ++ [qL]`): the special-prime path of the first level
      (`r = []`) and every lower level; the drawn polynomials are encoded with the previous level's moduli;
      noise ≤ ⌊(2·21(2N+1) + slack·q_L(1+N)) / (2 q_L)⌋ -/
  | pkPrev {pl : Level} {qL : Nat} {r : List Nat} {u e0 e1 : Array Int} (hk : kqs = (lqs ++ [qL]) ++ r)
      (hpl : Drv.Sch.mkLevel scheme n (lqs ++ [qL]) t = .ok pl)
      (hus : u.size = n) (he0s : e0.size = n) (he1s : e1.size = n)
      (hu1 : ∀ p, p < n → (u.getD p 0).natAbs ≤ 1) (he0 : ∀ p, p < n → (e0.getD p 0).natAbs ≤ 21)
      (he1 : ∀ p, p < n → (e1.getD p 0).natAbs ≤ 21) :
      DrvMode scheme n t kqs sk pk0 pk1 lqs l (.asym (some pl) #[pk0, pk1] (rnsOfInt pl u) #[rnsOfInt pl e0, rnsOfInt pl e1])
        (spBound qL (21 * (2 * n + 1)) (drvSlack scheme) n)
  /-- secret key, with or without a saved seed (the value is the expanded view, `expandSeed_toSeeded`), any level: noise ≤ 21 -/
  | sk {a : RnsPoly} {e : Array Int} (ha : RnsCanon l a) (hes : e.size = n) (he : ∀ p, p < n → (e.getD p 0).natAbs ≤ 21)
      (saveSeed : Bool) :
      DrvMode scheme n t kqs sk pk0 pk1 lqs l (.sym sk a (rnsOfInt l e) saveSeed) 21

/-- the generated public key is an encryption of zero under the secret with error tt·e, ‖e‖∞ ≤ 21 (`genPublicKey_pkRel`) -/
theorem DrvCtx.pkRel {scheme : Scheme} {n t : Nat} {kqs : List Nat} {kl : Level} {sk : Array Int} {pk0 pk1 : RnsPoly}
    (h : DrvCtx scheme n t kqs kl sk pk0 pk1) :
    ∃ epk : Nat → Int, (∀ p, p < n → (epk p).natAbs ≤ 21) ∧ PkRel kl sk (fun c => (encTT kl : Int) * epk c) pk0 pk1 := by
  obtain ⟨epk, ss, hsz, hb, hcan, hgen⟩ := h.pkGen
  have m := mkLevel_facts h.klOk
  obtain ⟨pk0', hgen', -, hrel⟩ := genPublicKey_pkRel m.wf m.t64 (h.skSize.trans m.n_eq.symm) hcan (hsz.trans m.n_eq.symm) ss
  rw [hgen] at hgen'
  cases hgen'
  exact ⟨fun c => epk.getD c 0, hb, hrel⟩

theorem c01v_pkRel_at {l kl : Level} (hp : LevelPrefix l kl) (hs : l.scheme = kl.scheme) (ht : l.t = kl.t) {sk : Array Int}
    {epk : Nat → Int} {pk0 pk1 : RnsPoly} (hrel : PkRel kl sk (fun c => (encTT kl : Int) * epk c) pk0 pk1) :
    PkRel l sk (fun c => (encTT l : Int) * epk c) pk0 pk1 := by
  have e : encTT l = encTT kl := by unfold encTT; rw [hs, ht]
  rw [e]
  exact PkRel.lower hp hrel

theorem c01v_last_q {pl : Level} {lqs : List Nat} {qL : Nat} (h : c01p_qvals pl = lqs ++ [qL]) :
    (pl.q (pl.size - 1)).value = qL := by
  have hlen : lqs.length + 1 = pl.size := by
    rw [← List.length_singleton (a := qL), ← List.length_append, ← h]
    simp [c01p_qvals, Level.size]
  have hj : pl.size - 1 < pl.qs.size := by
    have : pl.size = pl.qs.size := rfl
    omega
  have e : (c01p_qvals pl).getD (pl.size - 1) 1 = (pl.q (pl.size - 1)).value := by
    simp [c01p_qvals, Level.q, Array.getD, hj, List.getD]
  rw [← e, h, show pl.size - 1 = lqs.length by omega]
  simp [List.getD]

/-- EVERY ADMISSIBLE CALL IS A FRESH ENCRYPTION OF ZERO within its bound: for the driver's levels, the generated public key and drawn
    polynomials in their ranges, `encrypt_zero_internal` succeeds with a canonical size-2 ciphertext in the scheme's form, correction
    factor 1, whose exact phase is tt·ν modulo Q with ‖ν‖∞ ≤ B -/
theorem drvMode_fresh {scheme : Scheme} {n t : Nat} {kqs : List Nat} {kl : Level} {sk : Array Int} {pk0 pk1 : RnsPoly}
    {lqs : List Nat} {l : Level} {mode : EncMode} {B : Nat}
    (hc : DrvCtx scheme n t kqs kl sk pk0 pk1) (hl : Drv.Sch.mkLevel scheme n lqs t = .ok l)
    (hm : DrvMode scheme n t kqs sk pk0 pk1 lqs l mode B) :
    ∃ ν : Nat → Int, FreshZero l sk (encryptZeroInternal l mode) ν ∧ ∀ c, c < l.n → (ν c).natAbs ≤ B := by
  obtain ⟨epk, hE, hrelK⟩ := hc.pkRel
  have m := mkLevel_facts hl
  obtain rfl := m.n_eq
  have hsk := hc.skSize
  have hs1 := hc.skTern
  cases hm with
  | pk hk hus he0s he1s hu1 he0 he1 =>
    subst hk
    obtain ⟨hp, hs, ht, _, _⟩ := mkLevel_prefix hl hc.klOk
    have hrel := c01v_pkRel_at hp hs ht hrelK
    exact ⟨_, encryptZeroInternal_fresh_pk m.wf m.lq m.t64 hrel hus he0s he1s,
      pkNoise_bound l.n epk _ _ _ _ hE he0 he1 hu1 hs1⟩
  | @pkPrev pl qL r u e0 e1 hk hpl hus he0s he1s hu1 he0 he1 =>
    subst hk
    have a := mkLevel_facts hpl
    obtain ⟨hp, hs, ht, _, _⟩ := mkLevel_prefix hpl hc.klOk
    have hrel := c01v_pkRel_at hp hs ht hrelK
    have hprev := mkLevel_prevLevelOK hl hpl hc.bgvT
    obtain ⟨ν', hf, hb⟩ := encryptZeroInternal_fresh_pk_prev_bounded hprev hs1 hrel hE (hus.trans a.n_eq.symm) (he0s.trans a.n_eq.symm)
      (he1s.trans a.n_eq.symm) hu1 he0 he1
    have hsl : encSlack pl = drvSlack scheme := by unfold encSlack drvSlack; rw [a.scheme_eq]
    rw [c01v_last_q a.qvals, hsl] at hb
    exact ⟨ν', hf, hb⟩
  | sk ha hes he saveSeed =>
    exact ⟨_, encryptZeroInternal_fresh_sk m.wf m.lq m.t64 hsk ha hes saveSeed, fun c hc => by rw [Int.natAbs_neg]; exact he c hc⟩

/-- the BEHZ γ-condition from 2·X ≤ Q·(1 − 2^-53): an auxiliary prime above 2^60 and at most 64 moduli leave room for the term 2·k·Q -/
theorem c01v_margin {γ Q X k : Nat} (hγ : 2^60 < γ) (hk : k ≤ 64) (h : 2^54 * X ≤ (2^53 - 1) * Q) :
    2 * γ * X + 2 * k * Q ≤ Q * γ := by
  have h1 : 2^54 * (γ * X) ≤ (2^53 - 1) * (γ * Q) := by
    rw [Nat.mul_left_comm, Nat.mul_left_comm _ γ]
    exact Nat.mul_le_mul_left _ h
  have h2 : 2^54 * (k * Q) ≤ γ * Q := by
    rw [← Nat.mul_assoc]
    exact Nat.mul_le_mul_right _ (by omega)
  rw [Nat.mul_assoc, Nat.mul_assoc, Nat.mul_comm Q γ]
  generalize γ * X = a at *
  generalize γ * Q = b at *
  generalize k * Q = c at *
  omega
/-- the SHARP form of the BFV margin on the inputs: 2·t·(B+1) ≤ Q·(1 − 2^-53), written 2^54·t·(B+1) ≤ (2^53 − 1)·Q -/
theorem mkLevel_freshEncOK_sharp {scheme : Scheme} {n : Nat} {qs : List Nat} {t : Nat} {l : Level}
    (hl : Drv.Sch.mkLevel scheme n qs t = .ok l) (ht : t ≠ 0) {B : Nat} (h : 2^54 * (t * (B + 1)) ≤ (2^53 - 1) * Spec.prodL qs) :
    FreshEncOK l B := by
  have m := mkLevel_facts hl
  unfold FreshEncOK
  rw [m.qvals, m.t_eq]
  exact c01v_margin (m.gamma ht) (by rw [m.size_eq]; exact m.qs_le) h

/-- the BFV margin `FreshEncOK` from a condition on the driver's INPUTS only: 4·t·(B+1) ≤ Q (the auxiliary prime γ chosen by `mkLevel`
    exceeds 2^60 and there are at most 64 moduli) -/
theorem mkLevel_freshEncOK {scheme : Scheme} {n : Nat} {qs : List Nat} {t : Nat} {l : Level}
    (hl : Drv.Sch.mkLevel scheme n qs t = .ok l) (ht : t ≠ 0) {B : Nat} (h : 4 * (t * (B + 1)) ≤ Spec.prodL qs) : FreshEncOK l B := by
  apply mkLevel_freshEncOK_sharp hl ht
  omega

/-- the BGV margin `FreshEncOKBgv` IS a condition on the inputs: 2·t·(B+1) < Q -/
theorem mkLevel_freshEncOKBgv {scheme : Scheme} {n : Nat} {qs : List Nat} {t : Nat} {l : Level}
    (hl : Drv.Sch.mkLevel scheme n qs t = .ok l) {B : Nat} : FreshEncOKBgv l B ↔ 2 * (t * (B + 1)) < Spec.prodL qs := by
  have m := mkLevel_facts hl
  unfold FreshEncOKBgv
  rw [m.qvals, m.t_eq]

/-- END TO END, BFV, ALL MODES (public key at the head of the chain, public key through the special prime / at every lower level,
    secret key, seed-compressed): on the driver's objects, the constants `bfvConsts` exist, `bfvEncrypt` succeeds and the model's
    decryption of the model's encryption is the plaintext (padded to N, trimmed) — for every plaintext of length ≤ N with coefficients
    < t, under the decidable margin `FreshEncOK l B` for the mode's bound B -/
theorem drv_bfv_encrypt_decrypt {n t : Nat} {kqs : List Nat} {kl : Level} {sk : Array Int} {pk0 pk1 : RnsPoly}
    {lqs : List Nat} {l : Level} {mode : EncMode} {B : Nat}
    (hc : DrvCtx .bfv n t kqs kl sk pk0 pk1) (hl : Drv.Sch.mkLevel .bfv n lqs t = .ok l) (ht : t ≠ 0)
    (hm : DrvMode .bfv n t kqs sk pk0 pk1 lqs l mode B)
    {plain : Poly} (hp : plain.size ≤ n) (hpm : ∀ i, i < plain.size → plain.getD i 0 < t) (hok : FreshEncOK l B) :
    ∃ cdp ct, Drv.C01E.bfvConsts l lqs t = .ok cdp ∧
      bfvEncrypt l cdp (Spec.prodL lqs % t) ((t + 1) / 2) mode plain = .ok ct ∧
      bfvDecrypt l sk ct = .ok (trimPlain (padPlain n plain)) := by
  have m := mkLevel_facts hl
  obtain ⟨cdp, hcdp, hsc⟩ := bfvConsts_scalingOK hl (show 2 ≤ t by have := m.t_ne_one; omega)
  obtain ⟨ν, hf, hν⟩ := drvMode_fresh hc hl hm
  obtain rfl := m.n_eq
  obtain rfl := m.qvals
  obtain rfl := m.t_eq
  obtain ⟨ct, h1, h2⟩ := bfv_encrypt_decrypt_of_fresh m.wf (m.dec ht) m.scheme_eq hsc hc.skSize hf hν hp hpm hok
  exact ⟨cdp, ct, hcdp, h1, h2⟩

/-- the same with the margin on the inputs: 4·t·(B+1) ≤ Q -/
theorem drv_bfv_encrypt_decrypt_inputs {n t : Nat} {kqs : List Nat} {kl : Level} {sk : Array Int} {pk0 pk1 : RnsPoly}
    {lqs : List Nat} {l : Level} {mode : EncMode} {B : Nat}
    (hc : DrvCtx .bfv n t kqs kl sk pk0 pk1) (hl : Drv.Sch.mkLevel .bfv n lqs t = .ok l) (ht : t ≠ 0)
    (hm : DrvMode .bfv n t kqs sk pk0 pk1 lqs l mode B)
    {plain : Poly} (hp : plain.size ≤ n) (hpm : ∀ i, i < plain.size → plain.getD i 0 < t)
    (hok : 4 * (t * (B + 1)) ≤ Spec.prodL lqs) :
    ∃ cdp ct, Drv.C01E.bfvConsts l lqs t = .ok cdp ∧
      bfvEncrypt l cdp (Spec.prodL lqs % t) ((t + 1) / 2) mode plain = .ok ct ∧
      bfvDecrypt l sk ct = .ok (trimPlain (padPlain n plain)) :=
  drv_bfv_encrypt_decrypt hc hl ht hm hp hpm (mkLevel_freshEncOK hl ht hok)

/-- the same with the SHARP margin on the inputs: 2·t·(B+1) ≤ Q·(1 − 2^-53) -/
theorem drv_bfv_encrypt_decrypt_inputs_sharp {n t : Nat} {kqs : List Nat} {kl : Level} {sk : Array Int} {pk0 pk1 : RnsPoly}
    {lqs : List Nat} {l : Level} {mode : EncMode} {B : Nat}
    (hc : DrvCtx .bfv n t kqs kl sk pk0 pk1) (hl : Drv.Sch.mkLevel .bfv n lqs t = .ok l) (ht : t ≠ 0)
    (hm : DrvMode .bfv n t kqs sk pk0 pk1 lqs l mode B)
    {plain : Poly} (hp : plain.size ≤ n) (hpm : ∀ i, i < plain.size → plain.getD i 0 < t)
    (hok : 2^54 * (t * (B + 1)) ≤ (2^53 - 1) * Spec.prodL lqs) :
    ∃ cdp ct, Drv.C01E.bfvConsts l lqs t = .ok cdp ∧
      bfvEncrypt l cdp (Spec.prodL lqs % t) ((t + 1) / 2) mode plain = .ok ct ∧
      bfvDecrypt l sk ct = .ok (trimPlain (padPlain n plain)) :=
  drv_bfv_encrypt_decrypt hc hl ht hm hp hpm (mkLevel_freshEncOK_sharp hl ht hok)

/-- END TO END, BGV, ALL MODES: on the driver's objects with the lift constants `bgvIncr` the driver computes (fast path iff every
    q_i > t; otherwise the multi-word increment Q − t — plain moduli larger than a coefficient prime), `bgvEncrypt` succeeds, the fresh
    correction factor is 1 and the model's decryption returns the plaintext, under the margin 2·t·(B+1) < Q on the inputs -/
theorem drv_bgv_encrypt_decrypt {n t : Nat} {kqs : List Nat} {kl : Level} {sk : Array Int} {pk0 pk1 : RnsPoly}
    {lqs : List Nat} {l : Level} {mode : EncMode} {B : Nat}
    (hc : DrvCtx .bgv n t kqs kl sk pk0 pk1) (hl : Drv.Sch.mkLevel .bgv n lqs t = .ok l)
    (hm : DrvMode .bgv n t kqs sk pk0 pk1 lqs l mode B)
    {plain : Poly} (hp : plain.size ≤ n) (hpm : ∀ i, i < plain.size → plain.getD i 0 < t)
    (hok : 2 * (t * (B + 1)) < Spec.prodL lqs) :
    ∃ ct, bgvEncrypt l (Drv.C01E.bgvIncr lqs t).1 ((t + 1) / 2) (Drv.C01E.bgvIncr lqs t).2 mode plain = .ok ct ∧ ct.cf = 1 ∧
      bgvDecrypt l sk ct = .ok (trimPlain (padPlain n plain)) := by
  have htQ : t < Spec.prodL lqs := by
    have : t * 1 ≤ t * (B + 1) := Nat.mul_le_mul_left _ (by omega)
    omega
  obtain ⟨ν, hf, hν⟩ := drvMode_fresh hc hl hm
  have hlift := bgvIncr_liftOK hl htQ
  have hok' := (mkLevel_freshEncOKBgv hl).mpr hok
  have m := mkLevel_facts hl
  obtain rfl := m.n_eq
  obtain rfl := m.qvals
  obtain rfl := m.t_eq
  exact bgv_encrypt_decrypt_of_fresh m.wf (m.dec (hc.bgvT rfl)) m.scheme_eq hlift hc.skSize hf hν hp hpm hok'

/-- END TO END, CKKS, ALL MODES, OVER THE INTEGERS: on the driver's objects, for the plaintext of an integer polynomial M with
    2(|M_c| + B) < Q: encryption and decryption succeed; the centred lift of the decryption (`Spec.phase`, what the driver's oracle and
    `ckksDecrypt_intt_eq_phase` evaluate) is M + ν coefficient-wise over ℤ with ‖ν‖∞ ≤ B, and the decrypted RNS plaintext is the RNS
    form of M + ν -/
theorem drv_ckks_encrypt_decrypt {n t : Nat} {kqs : List Nat} {kl : Level} {sk : Array Int} {pk0 pk1 : RnsPoly}
    {lqs : List Nat} {l : Level} {mode : EncMode} {B : Nat}
    (hc : DrvCtx .ckks n t kqs kl sk pk0 pk1) (hl : Drv.Sch.mkLevel .ckks n lqs t = .ok l)
    (hm : DrvMode .ckks n t kqs sk pk0 pk1 lqs l mode B)
    {M : Array Int} (hMs : M.size = n) (hsmall : ∀ c, c < n → 2 * ((M.getD c 0).natAbs + B) < Spec.prodL lqs) :
    ∃ (ν : Nat → Int) (ct : Ct) (dec : RnsPoly), (∀ c, c < n → (ν c).natAbs ≤ B) ∧
      ckksEncrypt l mode (ckksPlainOfInt l M) = .ok ct ∧ ckksDecrypt l sk ct = .ok dec ∧ RnsCanon l dec ∧
      (∀ c, c < n → (Drv.Sch.exactPhase l lqs sk ct).getD c 0 = M.getD c 0 + ν c) ∧
      ∀ i, i < l.size → ∀ c, c < n → (intt (l.tbl i) (dec.getD i #[])).getD c 0 = Spec.imod (M.getD c 0 + ν c) (l.q i).value := by
  obtain ⟨ν, hf, hν⟩ := drvMode_fresh hc hl hm
  have m := mkLevel_facts hl
  obtain rfl := m.n_eq
  obtain rfl := m.qvals
  obtain ⟨hpC, hpM⟩ := ckksPlainOfInt_spec m.wf hMs
  obtain ⟨c0, c1, h1, hC0, hC1, hph⟩ := c01i_ckks_add_of_fresh m.wf m.lq m.scheme_eq hf hpC (M := fun c => M.getD c 0) hpM
  obtain ⟨dec, h⟩ := c01i_ckks_decrypt_of_phase m.wf m.lq hc.skSize hC0 hC1 (c01i_small hν hsmall) hph
  exact ⟨ν, _, dec, hν, h1, h⟩

/-- END TO END, `encrypt_zero_at`, BFV: every admissible encryption of zero on the driver's objects decrypts to the zero plaintext -/
theorem drv_bfv_encrypt_zero_decrypt {n t : Nat} {kqs : List Nat} {kl : Level} {sk : Array Int} {pk0 pk1 : RnsPoly}
    {lqs : List Nat} {l : Level} {mode : EncMode} {B : Nat}
    (hc : DrvCtx .bfv n t kqs kl sk pk0 pk1) (hl : Drv.Sch.mkLevel .bfv n lqs t = .ok l) (ht : t ≠ 0)
    (hm : DrvMode .bfv n t kqs sk pk0 pk1 lqs l mode B) (hok : FreshEncOK l B) :
    ∃ z, encryptZeroInternal l mode = .ok z ∧ bfvDecrypt l sk z = .ok #[0] := by
  obtain ⟨ν, hf, hν⟩ := drvMode_fresh hc hl hm
  have m := mkLevel_facts hl
  obtain rfl := m.n_eq
  obtain ⟨z, h1, h2⟩ := bfv_decrypt_fresh_zero m.wf (m.dec ht) m.scheme_eq hc.skSize hf hν hok
  rw [trimPlain_padPlain_empty (c01q_n_pos m.wf)] at h2
  exact ⟨z, h1, h2⟩

/-- END TO END, `encrypt_zero_at`, BGV (correction factor 1) -/
theorem drv_bgv_encrypt_zero_decrypt {n t : Nat} {kqs : List Nat} {kl : Level} {sk : Array Int} {pk0 pk1 : RnsPoly}
    {lqs : List Nat} {l : Level} {mode : EncMode} {B : Nat}
    (hc : DrvCtx .bgv n t kqs kl sk pk0 pk1) (hl : Drv.Sch.mkLevel .bgv n lqs t = .ok l)
    (hm : DrvMode .bgv n t kqs sk pk0 pk1 lqs l mode B) (hok : 2 * (t * (B + 1)) < Spec.prodL lqs) :
    ∃ z, encryptZeroInternal l mode = .ok z ∧ z.cf = 1 ∧ bgvDecrypt l sk z = .ok #[0] := by
  obtain ⟨ν, hf, hν⟩ := drvMode_fresh hc hl hm
  have hok' := (mkLevel_freshEncOKBgv hl).mpr hok
  have m := mkLevel_facts hl
  obtain rfl := m.n_eq
  obtain ⟨z, h1, h2, h3⟩ := bgv_decrypt_fresh_zero m.wf (m.dec (hc.bgvT rfl)) m.scheme_eq hc.skSize hf hν hok'
  rw [trimPlain_padPlain_empty (c01q_n_pos m.wf)] at h3
  exact ⟨z, h1, h2, h3⟩

/-- END TO END, `encrypt_zero_at`, CKKS: the centred lift of the decryption of an encryption of zero IS the noise ν (‖ν‖∞ ≤ B)
    whenever 2B < Q -/
theorem drv_ckks_encrypt_zero_decrypt {n t : Nat} {kqs : List Nat} {kl : Level} {sk : Array Int} {pk0 pk1 : RnsPoly}
    {lqs : List Nat} {l : Level} {mode : EncMode} {B : Nat}
    (hc : DrvCtx .ckks n t kqs kl sk pk0 pk1) (hl : Drv.Sch.mkLevel .ckks n lqs t = .ok l)
    (hm : DrvMode .ckks n t kqs sk pk0 pk1 lqs l mode B) (hok : 2 * B < Spec.prodL lqs) :
    ∃ (ν : Nat → Int) (z : Ct) (dec : RnsPoly), (∀ c, c < n → (ν c).natAbs ≤ B) ∧
      encryptZeroInternal l mode = .ok z ∧ ckksDecrypt l sk z = .ok dec ∧ RnsCanon l dec ∧
      (∀ c, c < n → (Drv.Sch.exactPhase l lqs sk z).getD c 0 = ν c) ∧
      ∀ i, i < l.size → ∀ c, c < n → (intt (l.tbl i) (dec.getD i #[])).getD c 0 = Spec.imod (ν c) (l.q i).value := by
  obtain ⟨ν, hf, hν⟩ := drvMode_fresh hc hl hm
  have m := mkLevel_facts hl
  obtain rfl := m.n_eq
  obtain rfl := m.qvals
  obtain ⟨c0, c1, hz, hC0, hC1, hph⟩ := hf.ckks m.scheme_eq
  obtain ⟨dec, h⟩ := c01i_ckks_decrypt_of_phase m.wf m.lq hc.skSize hC0 hC1 (fun c hc => by have := hν c hc; omega) hph
  exact ⟨ν, _, dec, hν, hz, h⟩

end HC
