/- The level walk `switchSteps` of Model/Evaluator.lean (`mod_switch_to`, `rescale_to`, the plaintext walk): upward targets are refused,
   downward it is the list cur-1, …, tgt, and that list ends on the target. -/
import Heathcliff.Model.Evaluator
namespace HC

theorem switchSteps_up {cur tgt : Nat} (h : cur < tgt) : switchSteps cur tgt = .error .refused := if_pos h

theorem switchSteps_down {cur tgt : Nat} (h : tgt ≤ cur) :
    switchSteps cur tgt = .ok ((List.range (cur - tgt)).map (fun i => cur - 1 - i)) := if_neg (Nat.not_lt.mpr h)

/-- the walk ends on the target -/
theorem steps_getLast {cur tgt : Nat} (h : tgt < cur) :
    ((List.range (cur - tgt)).map (fun i => cur - 1 - i)).getLast? = some tgt := by
  rw [show cur - tgt = cur - tgt - 1 + 1 by omega, List.range_succ]; simp; omega

end HC
