/- C04, the Galois tool of the MODEL (Model/Galois.lean).  The C04 modules in reading order: C04M (this tool), C04T (key switching of the
   model: accumulation and mod-down), C04K (its phase theorem; `relinearize`, `applyGalois`), C04R (rotations end to end), C04RW (their
   witnesses).  Here: `galoisApply` acts as X ↦ X^g on coefficient
   vectors (`galoisApply_spec`, `subst_eval`), the entries of the NTT-form table `galoisTableNtt` are the exponents the
   permutation needs (`galoisTable_spec`, `galoisTable_exponent`; the permutation statement itself, intt ∘ `galoisApplyNtt` =
   `galoisApply` ∘ intt, is `c04k_gal_ntt` in C04K), rotation steps map to powers of 3 of order N/2 (`eltFromStep_spec`,
   `three_order`, `step_add`, `step_inverse`), `eltsAll` holds the power-of-two steps (`eltsAll_contains_le`).

   Three natural statements hold only away from a degenerate corner.  Each is written down unrestricted as a `…Statement : Prop`,
   refuted at the corner, and proved under the restriction:
   * 3^(2^j) ≡ 1 + 2^(j+2) (mod 2^(j+3)) fails at j = 0 (3 % 8 = 3 ≠ 5): `three_pow_two_powStatement_false`; for 1 ≤ j:
     `three_pow_two_pow_pos`;
   * "`eltFromStep` refuses steps of magnitude ≥ N/2" fails at k = 0, s = 0 (`eltFromStep 0 0 = .ok 1`):
     `eltFromStep_refusesStatement_false`; under `s ≠ 0 ∨ 1 ≤ k`: `eltFromStep_refuses'`;
   * "`eltsAll k` contains 3^(2^i)" fails for k ≥ 63 (`tryInvert 3 2^64` overflows the i64 arithmetic of `xgcd`, so
     `eltsAll 63 = .error .overflow`): `eltsAll_containsStatement_false`; for k ≤ 62: `eltsAll_contains_le`. -/
import Heathcliff.Model.Galois
import Heathcliff.Proofs.C09E
import Heathcliff.Proofs.C08A
import Heathcliff.Proofs.C08B
import Heathcliff.Proofs.BaseMath
import Mathlib.Data.ZMod.Basic
import Mathlib.Tactic.Ring
import Mathlib.Tactic.Linarith
namespace HC
open Finset

theorem odd_mul_injective {k g i j : Nat} (hg : g % 2 = 1) (hi : i < 2^k) (hj : j < 2^k)
    (h : (i * g) % 2^k = (j * g) % 2^k) : i = j := odd_mul_inj_two_pow hg hi hj h

def three_pow_two_powStatement : Prop := ∀ j : Nat, 3 ^ (2^j) % 2^(j+3) = (1 + 2^(j+2)) % 2^(j+3)

theorem three_pow_two_powStatement_false : ¬ three_pow_two_powStatement := by
  intro h
  have := h 0
  revert this
  decide

theorem three_pow_two_pow_pos (j : Nat) (hj : 1 ≤ j) : 3 ^ (2^j) % 2^(j+3) = (1 + 2^(j+2)) % 2^(j+3) :=
  match j, hj with
  | j + 1, _ => (three_pow_quarter j).trans (Nat.mod_eq_of_lt (by
      rw [pow_succ 2 (j+3), Nat.mul_two]
      exact Nat.add_lt_add_right (Nat.one_lt_two_pow (Nat.succ_ne_zero _)) _)).symm

theorem c04m_three_quarter {j : Nat} : 3 ^ (2^j) % 2^(j+3) ≠ 1 :=
  match j with
  | 0 => by decide
  | j + 1 => by
    rw [three_pow_quarter j]
    exact Nat.ne_of_gt (Nat.lt_add_of_pos_right (Nat.two_pow_pos _))

theorem three_order {k : Nat} (hk : 2 ≤ k) : 3 ^ (2^k / 2) % (2 * 2^k) = 1 ∧ 3 ^ (2^k / 4) % (2 * 2^k) ≠ 1 := by
  obtain ⟨j, rfl⟩ := Nat.exists_eq_add_of_le' hk
  rw [show 2 * 2^(j+2) = 2^(j+3) from (pow_succ' 2 (j+2)).symm, show 2^(j+2) / 2 = 2^(j+1) from Nat.mul_div_cancel _ Nat.two_pos,
    show 2^(j+2) / 4 = 2^j by rw [pow_succ, pow_succ, Nat.mul_assoc]; exact Nat.mul_div_cancel _ (by decide)]
  exact ⟨three_pow_half j, c04m_three_quarter⟩

theorem c04m_two_le_m (k : Nat) : 2 ≤ 2 * 2^k := Nat.le_mul_of_pos_right 2 (Nat.two_pow_pos k)

theorem step_inverse {k s : Nat} (hk : 2 ≤ k) (hs : s < 2^k / 2) :
    (3 ^ s * 3 ^ (2^k / 2 - s)) % (2 * 2^k) = 1 := by
  rw [← pow_add, Nat.add_sub_cancel' hs.le]
  exact (three_order hk).1

theorem step_add {k a b : Nat} (hk : 2 ≤ k) :
    (3 ^ a * 3 ^ b) % (2 * 2^k) = 3 ^ ((a + b) % (2^k / 2)) % (2 * 2^k) := by
  rw [← pow_add]
  conv_lhs => rw [← Nat.div_add_mod (a + b) (2^k / 2)]
  rw [pow_add, pow_mul, Nat.mul_mod, Nat.pow_mod, (three_order hk).1, one_pow]
  rw [Nat.mod_eq_of_lt (Nat.lt_of_lt_of_le Nat.one_lt_two (c04m_two_le_m k)), one_mul, Nat.mod_mod]

theorem c04m_fold_pow (m s : Nat) (hm : 2 ≤ m) :
    (List.range s).foldl (fun e _ => (e * galoisGenerator) % m) 1 = 3 ^ s % m := by
  induction s with
  | zero => exact (Nat.mod_eq_of_lt (Nat.lt_of_lt_of_le Nat.one_lt_two hm)).symm
  | succ s ih =>
    rw [List.range_succ, List.foldl_append, ih]
    simp only [List.foldl_cons, List.foldl_nil, galoisGenerator]
    rw [pow_succ, Nat.mod_mul_mod]

theorem eltFromStep_spec {k : Nat} {s : Int} (hs : s.natAbs < 2^k / 2) (hs0 : s ≠ 0) :
    eltFromStep k s = .ok (3 ^ (if s < 0 then 2^k / 2 - s.natAbs else s.natAbs) % (2 * 2^k)) := by
  unfold eltFromStep
  simp only []
  rw [if_neg hs0, if_neg (Nat.not_le_of_lt hs), c04m_fold_pow _ _ (c04m_two_le_m k)]
  rfl

theorem eltFromStep_zero (k : Nat) : eltFromStep k 0 = .ok (2 * 2^k - 1) := rfl

def eltFromStep_refusesStatement : Prop :=
  ∀ {k : Nat} {s : Int}, 2^k / 2 ≤ s.natAbs → eltFromStep k s = .error .refused

/-- counterexample: N = 1 (k = 0), step 0: `2^0 / 2 = 0 ≤ |0|` but step 0 always yields 2N − 1 -/
theorem eltFromStep_refusesStatement_false : ¬ eltFromStep_refusesStatement := by
  intro h
  have := @h 0 0 (by decide)
  rw [eltFromStep_zero] at this
  exact absurd this (by simp)

theorem eltFromStep_refuses' {k : Nat} {s : Int} (hs : 2^k / 2 ≤ s.natAbs) (h : s ≠ 0 ∨ 1 ≤ k) :
    eltFromStep k s = .error .refused := by
  have h0 : s ≠ 0 := by
    rcases h with h | h
    · exact h
    · rintro rfl
      exact absurd hs (Nat.not_le_of_lt (Nat.div_pos (Nat.pow_le_pow_right Nat.two_pos h) Nat.two_pos))
  unfold eltFromStep
  simp only []
  rw [if_neg h0, if_pos hs]


theorem c04m_table_get {k g i : Nat} (hi : i < 2^k) :
    (galoisTableNtt k g).getD i 0 = brev k (((g * brev (k+1) (i + 2^k)) / 2) % 2^k) := by
  unfold galoisTableNtt
  simp [Array.getD, hi]

theorem c04m_odd_half (N r : Nat) (hN : 0 < N) (hr : r % 2 = 1) :
    (r / 2) % N = ((r % (2 * N)) - 1) / 2 ∧ 2 * (((r % (2 * N)) - 1) / 2) + 1 = r % (2 * N) ∧
      ((r % (2 * N)) - 1) / 2 < N := by
  have hv := Nat.mod_lt (r / 2) hN
  have hs : r % (2 * N) = 2 * (r / 2 % N) + 1 := by
    conv_lhs => rw [← Nat.div_add_mod r 2, hr]
    rw [Nat.add_mod, Nat.mul_mod_mul_left, Nat.mod_eq_of_lt (Nat.lt_of_lt_of_le Nat.one_lt_two (Nat.le_mul_of_pos_right 2 hN))]
    exact Nat.mod_eq_of_lt (Nat.lt_of_lt_of_le (Nat.lt_succ_self _) (Nat.mul_le_mul_left 2 (Nat.succ_le_of_lt hv)))
  rw [hs, Nat.add_sub_cancel, Nat.mul_div_cancel_left _ Nat.two_pos]
  exact ⟨rfl, rfl, hv⟩

theorem c04m_odd_mul {g b : Nat} (hg : g % 2 = 1) : (g * (2 * b + 1)) % 2 = 1 := by
  rw [Nat.mul_mod, hg, Nat.mul_add_mod]

theorem c04m_brev_top {k i : Nat} (hi : i < 2^k) : brev (k+1) (i + 2^k) = 2 * brev k i + 1 := by
  have := brev_top k 0 i hi
  rw [Nat.add_comm i]
  simpa using this

theorem galoisTable_spec {k g i : Nat} (hg : g % 2 = 1) (hi : i < 2^k) :
    (galoisTableNtt k g).getD i 0 = brev k ((((g * (2 * brev k i + 1)) % (2 * 2^k)) - 1) / 2) ∧
    (galoisTableNtt k g).getD i 0 < 2^k := by
  rw [c04m_table_get hi]
  refine ⟨?_, brev_lt _ _⟩
  rw [c04m_brev_top hi, (c04m_odd_half (2^k) _ (Nat.two_pow_pos k) (c04m_odd_mul hg)).1]

theorem galoisTable_exponent {k g i : Nat} (hg : g % 2 = 1) (hi : i < 2^k) :
    (2 * brev k ((galoisTableNtt k g).getD i 0) + 1) % (2 * 2^k) = (g * (2 * brev k i + 1)) % (2 * 2^k) := by
  obtain ⟨_, h2, h3⟩ := c04m_odd_half (2^k) _ (Nat.two_pow_pos k) (c04m_odd_mul (b := brev k i) hg)
  rw [(galoisTable_spec hg hi).1, brev_brev h3, h2, Nat.mod_mod]


/-- the value written for source index i -/
def c04m_val (k g : Nat) (m : Modulus) (a : Array Nat) (i : Nat) : Nat :=
  if ((i * g) / 2^k) % 2 = 1 then (m.value - a.getD i 0) % m.value else a.getD i 0

def c04m_step (k g : Nat) (m : Modulus) (a : Array Nat) (res : Array Nat) (i : Nat) : R (Array Nat) := do
  let raw := i * g
  let idx := raw % 2^k
  let x := a.getD i 0
  let v ← if (raw / 2^k) % 2 = 1 then negateMod x m else pure x
  pure (res.setIfInBounds idx v)

theorem c04m_apply_eq (k g : Nat) (m : Modulus) (a : Array Nat) :
    galoisApply k a g m = (List.range (2^k)).foldlM (c04m_step k g m a) (Array.replicate (2^k) 0) := rfl

theorem c04m_step_ok {k g : Nat} {m : Modulus} (hm : m.WF) {a : Array Nat} {i : Nat}
    (ha : a.getD i 0 < m.value) (res : Array Nat) :
    c04m_step k g m a res i = .ok (res.setIfInBounds ((i * g) % 2^k) (c04m_val k g m a i)) := by
  unfold c04m_step c04m_val
  by_cases h : ((i * g) / 2^k) % 2 = 1
  · simp only [h, if_true]
    rw [negateMod_exact hm ha.le]
    rfl
  · simp only [h, if_false]
    rfl

theorem c04m_foldlM_ok {k g : Nat} {m : Modulus} (hm : m.WF) {a : Array Nat}
    (ha : ∀ i, i < 2^k → a.getD i 0 < m.value) (l : List Nat) (hl : ∀ i ∈ l, i < 2^k) (init : Array Nat) :
    l.foldlM (c04m_step k g m a) init =
      .ok (l.foldl (fun res i => res.setIfInBounds ((i * g) % 2^k) (c04m_val k g m a i)) init) := by
  induction l generalizing init with
  | nil => rfl
  | cons x xs ih =>
    rw [List.foldlM_cons, c04m_step_ok hm (ha x (hl x (by simp)))]
    simp only [bind, Except.bind, List.foldl_cons]
    exact ih (fun i hi => hl i (by simp [hi])) _

theorem galoisApply_spec {k g : Nat} {m : Modulus} (hm : m.WF) (hg : g % 2 = 1) {a : Array Nat} (hs : a.size = 2^k)
    (ha : ∀ i, i < 2^k → a.getD i 0 < m.value) :
    ∃ r, galoisApply k a g m = .ok r ∧ r.size = 2^k ∧ ∀ i, i < 2^k →
      r.getD ((i * g) % 2^k) 0 = (if ((i * g) / 2^k) % 2 = 1 then (m.value - a.getD i 0) % m.value else a.getD i 0) := by
  -- the model reads with `getD`, so the size of `a` is not needed; `hs` stands in the statement
  have _ := hs
  rw [c04m_apply_eq, c04m_foldlM_ok hm ha _ (fun i hi => List.mem_range.mp hi)]
  -- the positions i·g mod N are written once each (g odd), so every written value survives
  refine ⟨_, rfl, (scatterTo_size _ _ _ _).trans (Array.size_replicate ..), fun i hi => ?_⟩
  exact scatterTo_written (fun i => (i * g) % 2^k) (c04m_val k g m a) 0 (List.range (2^k)) _
    (fun i _ => by rw [Array.size_replicate]; exact Nat.mod_lt _ (Nat.two_pow_pos k))
    (fun i hi j hj h => congrArg _ (odd_mul_injective hg (List.mem_range.mp hi) (List.mem_range.mp hj) h))
    i (List.mem_range.mpr hi)


/-- the same rule read in Z_q: the coefficient at (i·g) mod N is ±a_i -/
theorem galoisApply_zmod {k g : Nat} {m : Modulus} (hm : m.WF) (hg : g % 2 = 1) {a : Array Nat} (hs : a.size = 2^k)
    (ha : ∀ i, i < 2^k → a.getD i 0 < m.value) :
    ∃ r, galoisApply k a g m = .ok r ∧ r.size = 2^k ∧ ∀ i, i < 2^k → ((r.getD ((i * g) % 2^k) 0 : Nat) : ZMod m.value) =
      (if ((i * g) / 2^k) % 2 = 1 then - ((a.getD i 0 : Nat) : ZMod m.value) else ((a.getD i 0 : Nat) : ZMod m.value)) := by
  obtain ⟨r, hr, hrs, hrv⟩ := galoisApply_spec (k := k) (g := g) hm hg hs ha
  refine ⟨r, hr, hrs, fun i hi => ?_⟩
  rw [hrv i hi]
  split
  · rw [ZMod.natCast_mod, Nat.cast_sub (ha i hi).le, ZMod.natCast_self, zero_sub]
  · rfl

theorem c04m_image_eq {k g : Nat} (hg : g % 2 = 1) :
    (range (2^k)).image (fun i => (i * g) % 2^k) = range (2^k) := by
  apply Finset.eq_of_subset_of_card_le
  · intro x hx
    rw [Finset.mem_image] at hx
    obtain ⟨i, _, rfl⟩ := hx
    exact Finset.mem_range.mpr (Nat.mod_lt _ (Nat.two_pow_pos k))
  · rw [Finset.card_image_of_injOn]
    intro i hi j hj h
    exact odd_mul_injective hg (Finset.mem_range.mp hi) (Finset.mem_range.mp hj) h

/-- the result of `galoisApply` on a canonical vector is canonical: every position is written (g odd) -/
theorem c04m_galoisApply_lt {k g : Nat} {m : Modulus} (hm : m.WF) (hg : g % 2 = 1) {a r : Array Nat} (hs : a.size = 2^k)
    (ha : ∀ i, i < 2^k → a.getD i 0 < m.value) (hr : galoisApply k a g m = .ok r) :
    r.size = 2^k ∧ ∀ c, c < 2^k → r.getD c 0 < m.value := by
  have hq2 := hm.two_le
  obtain ⟨r', hr', hrs, hrv⟩ := galoisApply_spec (k := k) (g := g) hm hg hs ha
  rw [hr] at hr'
  cases hr'
  refine ⟨hrs, fun c hc => ?_⟩
  have hc' : c ∈ range (2^k) := mem_range.mpr hc
  rw [← c04m_image_eq (k := k) hg, Finset.mem_image] at hc'
  obtain ⟨y, hy, rfl⟩ := hc'
  rw [hrv y (mem_range.mp hy)]
  have := ha y (mem_range.mp hy)
  split
  · exact Nat.mod_lt _ (by omega)
  · exact this

theorem c04m_term {R : Type} [CommRing R] {k g : Nat} (x : R) (hx : x ^ (2^k) = -1) (a r : Nat → R) (i : Nat)
    (hr : r ((i * g) % 2^k) = (if ((i * g) / 2^k) % 2 = 1 then - a i else a i)) :
    r ((i * g) % 2^k) * x ^ ((i * g) % 2^k) = a i * (x ^ g) ^ i := by
  have e : (x ^ g) ^ i = (x ^ (2^k)) ^ ((i * g) / 2^k) * x ^ ((i * g) % 2^k) := by
    rw [← pow_mul, ← pow_mul, ← pow_add, Nat.div_add_mod, Nat.mul_comm]
  rw [e, hx, hr]
  by_cases h : ((i * g) / 2^k) % 2 = 1
  · rw [if_pos h, Odd.neg_one_pow (Nat.odd_iff.mpr h), neg_one_mul, mul_neg, neg_mul]
  · rw [if_neg h, Even.neg_one_pow (Nat.even_iff.mpr (Nat.mod_two_ne_one.mp h)), one_mul]

theorem subst_eval {R : Type} [CommRing R] {k g : Nat} (hg : g % 2 = 1) (x : R) (hx : x ^ (2^k) = -1) (a r : Nat → R)
    (hr : ∀ i, i < 2^k → r ((i * g) % 2^k) = (if ((i * g) / 2^k) % 2 = 1 then - a i else a i)) :
    ∑ j ∈ range (2^k), r j * x ^ j = ∑ i ∈ range (2^k), a i * (x ^ g) ^ i := by
  conv_lhs => rw [← c04m_image_eq (k := k) hg]
  rw [Finset.sum_image]
  · apply Finset.sum_congr rfl
    intro i hi
    exact c04m_term x hx a r i (hr i (Finset.mem_range.mp hi))
  · intro i hi j hj h
    exact odd_mul_injective hg (Finset.mem_range.mp hi) (Finset.mem_range.mp hj) h


def eltsAll_containsStatement : Prop :=
  ∀ {k i : Nat}, 2 ≤ k → i + 2 ≤ k →
    ∃ l, eltsAll k = .ok l ∧ (3 ^ (2^i) % (2 * 2^k)) ∈ l ∧ (2 * 2^k - 1) ∈ l ∧
      ∃ inv, (inv * 3 ^ (2^i)) % (2 * 2^k) = 1 ∧ inv < 2 * 2^k ∧ inv ∈ l

theorem c04m_tryInvert_63 : tryInvert galoisGenerator (2 * 2^63) = .error .overflow := by decide

theorem c04m_eltsAll_63 : eltsAll 63 = .error .overflow := by
  unfold eltsAll
  simp only [bind, Except.bind]
  rw [c04m_tryInvert_63]

/-- counterexample: k = 63 (2N = 2^64): the i64 arithmetic in `xgcd` overflows and `eltsAll` fails -/
theorem eltsAll_containsStatement_false : ¬ eltsAll_containsStatement := by
  intro h
  obtain ⟨l, hl, _⟩ := @h 63 0 (by norm_num) (by norm_num)
  rw [c04m_eltsAll_63] at hl
  exact absurd hl (by simp)

def c04m_F (m : Nat) (acc : List Nat × Nat × Nat) (_ : Nat) : List Nat × Nat × Nat :=
  (acc.1 ++ [acc.2.1, acc.2.2], (acc.2.1 * acc.2.1) % m, (acc.2.2 * acc.2.2) % m)

theorem c04m_eltsAll_eq {k inv : Nat} (h : tryInvert galoisGenerator (2 * 2^k) = .ok (some inv)) :
    eltsAll k = .ok ((List.range (k - 1)).foldl (c04m_F (2 * 2^k)) ([2 * 2^k - 1], 3, inv)).1 := by
  unfold eltsAll
  simp only [bind, Except.bind]
  rw [h]
  rfl

theorem c04m_sq_mod (p m n : Nat) : (p ^ 2^n % m * (p ^ 2^n % m)) % m = p ^ 2^(n+1) % m := by
  rw [← Nat.mul_mod, pow_succ 2 n, pow_mul, sq]

theorem c04m_fold_inv2 (m p0 q0 : Nat) (l0 : List Nat) (hp : p0 < m) (hq : q0 < m) (n : Nat) :
    let st := (List.range n).foldl (c04m_F m) (l0, p0, q0)
    st.2.1 = p0 ^ 2^n % m ∧ st.2.2 = q0 ^ 2^n % m ∧ (∀ x ∈ l0, x ∈ st.1) ∧
      ∀ i, i < n → p0 ^ 2^i % m ∈ st.1 ∧ q0 ^ 2^i % m ∈ st.1 := by
  induction n with
  | zero =>
    refine ⟨?_, ?_, fun x hx => hx, fun i hi => absurd hi (Nat.not_lt_zero i)⟩
    · rw [pow_zero, pow_one, Nat.mod_eq_of_lt hp]; rfl
    · rw [pow_zero, pow_one, Nat.mod_eq_of_lt hq]; rfl
  | succ n ih =>
    obtain ⟨h1, h2, h3, h4⟩ := ih
    simp only [List.range_succ, List.foldl_append, List.foldl_cons, List.foldl_nil]
    refine ⟨?_, ?_, ?_, ?_⟩
    · show (_ * _) % m = _
      rw [h1, c04m_sq_mod]
    · show (_ * _) % m = _
      rw [h2, c04m_sq_mod]
    · intro x hx
      exact List.mem_append_left _ (h3 x hx)
    · intro i hi
      rcases Nat.lt_succ_iff_lt_or_eq.mp hi with hlt | heq
      · exact ⟨List.mem_append_left _ (h4 i hlt).1, List.mem_append_left _ (h4 i hlt).2⟩
      · subst heq
        rw [← h1, ← h2]
        exact ⟨List.mem_append_right _ List.mem_cons_self, List.mem_append_right _ (List.mem_cons_of_mem _ List.mem_cons_self)⟩

theorem c04m_inv_pow (m inv n : Nat) (hm : 2 ≤ m) (h : (inv * 3) % m = 1) :
    ((inv ^ n % m) * 3 ^ n) % m = 1 := by
  rw [Nat.mod_mul_mod, ← mul_pow, Nat.pow_mod, h, one_pow]
  exact Nat.mod_eq_of_lt (Nat.lt_of_lt_of_le Nat.one_lt_two hm)

/-- `tryInvert_spec_partial` (C08B) asks for a modulus below 2^61, which covers 2N = 2^(k+1) for k ≤ 59; the three remaining
    moduli 2^61, 2^62, 2^63 are done by evaluation: 3⁻¹ is (2^61 + 1) / 3 modulo 2^61 and (2^63 + 1) / 3 modulo 2^62 and 2^63 -/
theorem c04m_tryInvert {k : Nat} (hk : k ≤ 62) :
    ∃ inv, tryInvert galoisGenerator (2 * 2^k) = .ok (some inv) ∧ inv < 2 * 2^k ∧ (inv * 3) % (2 * 2^k) = 1 := by
  by_cases h59 : k ≤ 59
  · have he : 2 * 2^k = 2^(k+1) := (pow_succ' 2 k).symm
    have hlt : 2 * 2^k < 2^61 :=
      he ▸ Nat.lt_of_le_of_lt (Nat.pow_le_pow_right Nat.two_pos (Nat.succ_le_succ h59)) (by decide)
    exact (tryInvert_spec_partial (v := 3) (c04m_two_le_m k) hlt (by decide) (by decide)).1
      ⟨by decide, by rw [he, Nat.gcd_comm]; exact odd_coprime_two_pow rfl⟩
  · have : k = 60 ∨ k = 61 ∨ k = 62 := by omega
    rcases this with rfl | rfl | rfl
    · exact ⟨768614336404564651, by decide, by decide, by decide⟩
    · exact ⟨3074457345618258603, by decide, by decide, by decide⟩
    · exact ⟨3074457345618258603, by decide, by decide, by decide⟩

/-- `eltsAll_contains` under the additional hypothesis k ≤ 62 (2N ≤ 2^63; false for k ≥ 63) -/
theorem eltsAll_contains_le {k i : Nat} (hk : 2 ≤ k) (hk' : k ≤ 62) (hi : i + 2 ≤ k) :
    ∃ l, eltsAll k = .ok l ∧ (3 ^ (2^i) % (2 * 2^k)) ∈ l ∧ (2 * 2^k - 1) ∈ l ∧
      ∃ inv, (inv * 3 ^ (2^i)) % (2 * 2^k) = 1 ∧ inv < 2 * 2^k ∧ inv ∈ l := by
  obtain ⟨inv, h1, h2, h3⟩ := c04m_tryInvert hk'
  have h3m : 3 < 2 * 2^k :=
    Nat.lt_of_lt_of_le (by decide : 3 < 2 * 2^2) (Nat.mul_le_mul_left 2 (Nat.pow_le_pow_right Nat.two_pos hk))
  obtain ⟨_, _, f3, f4⟩ := c04m_fold_inv2 (2 * 2^k) 3 inv [2 * 2^k - 1] h3m h2 (k - 1)
  have hi' : i < k - 1 := Nat.lt_sub_of_add_lt hi
  exact ⟨_, c04m_eltsAll_eq h1, (f4 i hi').1, f3 _ List.mem_cons_self, inv ^ 2^i % (2 * 2^k),
    c04m_inv_pow _ _ _ (c04m_two_le_m k) h3, Nat.mod_lt _ (Nat.lt_trans (by decide) h3m), (f4 i hi').2⟩

end HC
