/-
  C15  Serialization fails cleanly under I/O faults instead of corrupting or panicking.

  Model: Heathcliff/Model/Codec.lean (`Sink` = any stream defined by per-call acceptance limits and an
  optional failing call, obeying the `Write` contract; `writeAll` = the loop of std's `write_all`;
  `serialize` = the sequence of scalar I/O calls a Rust serializer issues, `?` on each; `dec` = readers
  over an in-memory stream with `read_exact`).  The write primitive of each scalar writer and the error
  treatment of each scalar reader are the ones extracted from the Rust source on this run
  (`genWMode`, `genRMode` over Gen/Serialize.lean).
-/
import Heathcliff.Proofs.Codec
import Heathcliff.Proofs.Sink
import Heathcliff.Proofs.SinkI
import Heathcliff.Model.CodecGen
import Heathcliff.Proofs.GenSerS
import Heathcliff.Props.C14
namespace HC.C15
open HC.Codec

/-! ### obligations over the table regenerated from the Rust source -/

/-- every `serialize*` / `deserialize*` pair of the anchored files writes and reads the same fields in the same order -/
theorem gen_field_order_agrees :
    HC.Gen.Serialize.fieldOrder.all (fun t => t.2.1 == t.2.2) = true := by decide

/-- every scalar writer uses `write_all` (fails on the pinned tree: they call `write` and return its count) -/
theorem gen_writers_use_write_all : ∀ k, genWMode k = .writeAll := by
  intro k; cases k <;> decide

/-- every scalar reader propagates the `read_exact` error with `?` (fails on the pinned tree: `unwrap()`) -/
theorem gen_readers_propagate : ∀ k, genRMode k = .propagate := by
  intro k; cases k <;> decide

/-- no raw stream primitive is called outside the three scalar impls (so every byte goes through them) -/
theorem gen_no_raw_io_elsewhere : HC.Gen.Serialize.rawIoOutsideScalars = 0 := by decide

/-! ### writers -/

/-- `write_all` terminates on every stream of the family — at most `|buf|` iterations, whatever the
    limits (a zero-length acceptance ends the loop with `WriteZero`) — and its result is: `Ok` and all
    bytes transmitted in order, or an error with a prefix transmitted. -/
theorem write_all_total (s : Sink) (buf : Bytes) :
    ∃ r, writeAllFuel buf.length s buf = some r ∧
      (r.1 = .ok () → r.2.out = s.out ++ buf) ∧
      (∀ e, r.1 = .error e → ∃ j, j ≤ buf.length ∧ r.2.out = s.out ++ buf.take j) := by
  obtain ⟨r, hr, h, _⟩ := writeAllFuel_spec buf.length s buf (Nat.le_refl _)
  exact ⟨r, hr, h.1, h.2⟩

/-- liveness (non-vacuity of the `Ok` branch): a stream that never fails and accepts at least one byte
    per call makes `write_all` return `Ok` with everything transmitted -/
theorem write_all_succeeds (s : Sink) (buf : Bytes) (hf : s.failAt = none) (hl : ∀ l ∈ s.limits, 1 ≤ l) :
    ∃ s', writeAllFuel buf.length s buf = some (.ok (), s') ∧ s'.out = s.out ++ buf :=
  writeAllFuel_ok buf.length s buf (Nat.le_refl _) hf hl

/-- For every object of every codec and every fault sequence (limits, failure point, any prior stream
    state): serialization returns an error (a prefix of the encoding is on the wire), or returns `Ok n`
    with `n = |enc x|` and the stream holds exactly `enc x`.  Stated for the scalar write primitives the
    source uses on this run. -/
theorem serialize_faulty {α} (c : Codec α) (x : α) (s : Sink) :
    (∀ n, (serialize genWMode (c.chunks x) s).1 = .ok n →
        n = (c.enc x).length ∧ (serialize genWMode (c.chunks x) s).2.out = s.out ++ c.enc x) ∧
    (∀ e, (serialize genWMode (c.chunks x) s).1 = .error e →
        ∃ j, j ≤ (c.enc x).length ∧ (serialize genWMode (c.chunks x) s).2.out = s.out ++ (c.enc x).take j) :=
  serialize_clean genWMode gen_writers_use_write_all (c.chunks x) s

/-- the same for an arbitrary sequence of scalar I/O calls (any chunking of any byte string) -/
theorem serialize_faulty_chunks (cs : List Chunk) (s : Sink) : Clean (flat cs) s (serialize genWMode cs s) :=
  serialize_clean genWMode gen_writers_use_write_all cs s

/-- why the pinned code violates the property: with `stream.write` (count returned) a stream accepting
    3 bytes per call makes a `u64` serializer return `Ok(3)` with 3 of 8 bytes sent — no error, incomplete -/
theorem pinned_writers_violate :
    serialize (fun _ => .write) (u64C.chunks 578437695752307201) ⟨[3], none, 0, []⟩
      = (.ok 3, ⟨[3], none, 1, [1, 2, 3]⟩) := pinned_short_write_witness

/-! ### readers -/

/-- Deserializing any strict prefix of a valid encoding returns `Err` (end of stream): never an object,
    never a panic — for every lawful codec, with the readers' error treatment extracted from the source. -/
theorem truncation_is_error {α} (c : Codec α) (hc : c.Lawful) (x : α) (hx : c.valid x)
    (k : Nat) (hk : k < (c.enc x).length) :
    readOutcome genRMode (c.dec ((c.enc x).take k)) = .err := by
  obtain ⟨s, hs⟩ := hc.pre x hx k hk
  rw [hs]
  simp [readOutcome, gen_readers_propagate s]

/-- model-level form: the decoder reports `eof` on every strict prefix -/
theorem truncation_is_eof {α} (c : Codec α) (hc : c.Lawful) (x : α) (hx : c.valid x)
    (k : Nat) (hk : k < (c.enc x).length) : ∃ s, c.dec ((c.enc x).take k) = .error (.eof s) :=
  hc.pre x hx k hk

/-- every modelled wire format is a lawful codec (so the two theorems above apply to each of them):
    scalars, `Vec<T>`, Modulus, SchemeType, ParmsID, EncryptionParameters, Plaintext (= SecretKey),
    Ciphertext (= PublicKey) in compact / selected-terms / full format, KSwitchKeys (= RelinKeys,
    GaloisKeys), Cipher/Plain 1d/2d/3d (plain and terms), rns_plain component sequences,
    PolynomialSerializer — for every context, term list and external `expand` / NTT function. -/
theorem modelled_types_lawful :
    u64C.Lawful ∧ usizeC.Lawful ∧ u8C.Lawful ∧ boolC.Lawful ∧ f64C.Lawful ∧ modulusC.Lawful ∧ schemeC.Lawful ∧
    pidC.Lawful ∧ (vecC u64C).Lawful ∧ (vecC modulusC).Lawful ∧ paramsC.Lawful ∧ plainC.Lawful ∧
    (∀ ctx expand, (ctC ctx expand).Lawful) ∧
    (∀ ctx expand fwd inv terms, (ctTermsC ctx expand fwd inv terms).Lawful) ∧
    (∀ ctx expand, (ctFullC ctx expand).Lawful) ∧
    (∀ ctx expand, (kswitchC (ctC ctx expand)).Lawful) ∧
    (∀ ctx expand, (c1dC (ctC ctx expand)).Lawful ∧ (c2dC (ctC ctx expand)).Lawful ∧ (c3dC (ctC ctx expand)).Lawful) ∧
    (∀ ctx expand fwd inv terms, (c1dC (ctTermsC ctx expand fwd inv terms)).Lawful ∧
        (c2dC (ctTermsC ctx expand fwd inv terms)).Lawful ∧ (c3dC (ctTermsC ctx expand fwd inv terms)).Lawful) ∧
    ((c1dC plainC).Lawful ∧ (c2dC plainC).Lawful ∧ (c3dC plainC).Lawful) ∧
    (∀ (ctxs : List Ctx) expand, (rnspC (ctxs.map fun cx => ctC cx expand)).Lawful) ∧
    (∀ (ctxs : List Ctx) expand, (rnspC (ctxs.map fun cx => kswitchC (ctC cx expand))).Lawful) ∧
    (∀ ctx, (polySerC ctx).Lawful) :=
  HC.C14.modelled_types_lawful

/-! ### streams that also report `ErrorKind::Interrupted` (standard `Write` contract: "retry") -/

/-- one `write_all` on a stream that interrupts ANY finite set of calls = `write_all` on the underlying stream: same result, same
    bytes transmitted, same stream state (so it also terminates: |buf| + #interrupts iterations suffice) -/
theorem write_all_interrupts_invisible (w : SinkI) (buf : Bytes) :
    (writeAllI w buf).1 = (writeAll w.s buf).1 ∧ (writeAllI w buf).2.s = (writeAll w.s buf).2 ∧ (writeAllI w buf).2.intr = w.intr :=
  writeAllI_erase w buf

/-- the serializers as extracted from the source (every scalar writer `write_all`): interrupts are invisible for whole objects -/
theorem serialize_interrupts_invisible (cs : List Chunk) (w : SinkI) :
    ((serializeI genWMode cs w).1 = match (serialize genWMode cs w.s).1 with | .ok n => .ok n | .error e => .error (.io e)) ∧
    (serializeI genWMode cs w).2.s = (serialize genWMode cs w.s).2 :=
  have h := serializeI_erase genWMode gen_writers_use_write_all cs w
  ⟨h.1, h.2.1⟩

/-- … hence complete encoding or error also on interrupting, short-writing, failing streams -/
theorem serialize_faulty_interrupting (cs : List Chunk) (w : SinkI) :
    (∀ n, (serializeI genWMode cs w).1 = .ok n → n = (flat cs).length ∧ (serializeI genWMode cs w).2.s.out = w.s.out ++ flat cs) ∧
    (∀ e, (serializeI genWMode cs w).1 = .error e → ∃ j, j ≤ (flat cs).length ∧ (serializeI genWMode cs w).2.s.out = w.s.out ++ (flat cs).take j) :=
  serializeI_clean genWMode gen_writers_use_write_all cs w

/-- the pinned `stream.write` form would surface an interrupted call as a failed serialization -/
theorem pinned_writers_not_interrupt_safe :
    (serializeI (fun _ => .write) (u64C.chunks 578437695752307201) ⟨⟨[8], none, 0, []⟩, [0], 0⟩).1 = .error .interrupted :=
  pinned_write_interrupt_witness

/-- non-vacuity: three interrupted calls, 3 bytes per call: all 8 bytes delivered, 8 reported -/
example : serializeI (fun _ => .writeAll) (u64C.chunks 578437695752307201) ⟨⟨[3], none, 0, []⟩, [0, 1, 3], 0⟩
    = (.ok 8, ⟨⟨[3], none, 3, [1, 2, 3, 4, 5, 6, 7, 8]⟩, [0, 1, 3], 6⟩) := by rfl

/-! ### non-vacuity -/

example : u64C.valid 578437695752307201 := by show (578437695752307201 : Nat) < 256 ^ 8; decide
example : (u64C.enc 578437695752307201).length = 8 := by rfl
/-- a stream that takes 3 bytes per call: the repaired writer delivers all 8 bytes and reports 8 -/
example : serialize (fun _ => .writeAll) (u64C.chunks 578437695752307201) ⟨[3], none, 0, []⟩
    = (.ok 8, ⟨[3], none, 3, [1, 2, 3, 4, 5, 6, 7, 8]⟩) := by rfl
/-- failing second call: an error, 3 bytes (a prefix) on the wire -/
example : serialize (fun _ => .writeAll) (u64C.chunks 578437695752307201) ⟨[3], some 1, 0, []⟩
    = (.error .fault, ⟨[3], some 1, 2, [1, 2, 3]⟩) := by rfl
example : u64C.dec ((u64C.enc 578437695752307201).take 5) = .error (.eof .u64) := by rfl
example : (vecC u64C).valid [1, 2, 3] := by
  refine ⟨(by show (3 : Nat) < 256 ^ 8; decide), rfl, ?_⟩
  exact ⟨(by show (1 : Nat) < 256 ^ 8; decide), (by show (2 : Nat) < 256 ^ 8; decide), (by show (3 : Nat) < 256 ^ 8; decide), trivial⟩


/-! ### translator tie: the serializer SOURCE itself (src/serialize.rs regenerated into Gen/SerFns.lean) under I/O faults -/

/-- the generated writers run on a sink of the family ARE the model's `serialize` with every scalar writer in `write_all` mode — the
    write primitive is read off the translated scalar impl bodies (a `stream.write(..)` there would be translated as such and break this) -/
theorem gen_source_writers_are_model_serialize :
    type_of% @HC.GS.c15g_source_writers_are_model_serialize := @HC.GS.c15g_source_writers_are_model_serialize

/-- THE PROPERTY FOR THE SOURCE: generated `EncryptionParameters` / `Plaintext` (= `SecretKey`) / `Vec<u64>` / limited writers on every
    faulty sink (any limits, any failure point, any prior state): `Ok n` with `n = |enc x|` and exactly `enc x` appended, or the STREAM's
    error (never a panic) with a prefix appended -/
theorem gen_source_writers_fail_cleanly : type_of% @HC.GS.c15g_source_writers_fail_cleanly := @HC.GS.c15g_source_writers_fail_cleanly

/-- generated readers on every strict prefix of a valid encoding: `Err(UnexpectedEof)` -/
theorem gen_source_readers_truncation : type_of% @HC.GS.c15g_source_readers_truncation := @HC.GS.c15g_source_readers_truncation

/-- the same for the generated `Ciphertext::serialize_full` (flat-word format), on the view of any model ciphertext whose level has a
    real scheme and whose data vector holds the words to be sent -/
theorem gen_ct_serialize_full_fails_cleanly :
    type_of% @HC.GS.c15g_ct_serialize_full_fails_cleanly := @HC.GS.c15g_ct_serialize_full_fails_cleanly

/-- … and for the generated COMPACT `Ciphertext::serialize` (= `PublicKey`), on the view of any model ciphertext of its level's shape -/
theorem gen_ct_serialize_fails_cleanly :
    type_of% @HC.GS.c15g_ct_serialize_fails_cleanly := @HC.GS.c15g_ct_serialize_fails_cleanly

/-- … and for the generated `KSwitchKeys` (= `RelinKeys`, `GaloisKeys`) writer -/
theorem gen_kswitch_serialize_fails_cleanly :
    type_of% @HC.GS.c15g_kswitch_serialize_fails_cleanly := @HC.GS.c15g_kswitch_serialize_fails_cleanly

/-- INTERRUPTS: the generated `EncryptionParameters` / `Plaintext` writers on a stream that also answers `ErrorKind::Interrupted` are the
    model's `serializeI` in `write_all` mode — the object `serialize_interrupts_invisible` / `serialize_faulty_interrupting` are about -/
theorem gen_source_writers_interrupting :
    type_of% @HC.GS.c15g_source_writers_interrupting := @HC.GS.c15g_source_writers_interrupting

/-- … hence, for the generated `EncryptionParameters` writer, on every interrupting / short-writing / failing stream: complete encoding
    with the right count, or an error with a prefix on the wire -/
theorem gen_params_writer_interrupt_safe (p : Params) (hp : p.scheme < 256) (w : SinkI) :
    (∀ n, (HC.GenS.params_serialize HC.GS.sinkIStream p w).1 = .ok n →
      n = (paramsC.enc p).length ∧ (HC.GenS.params_serialize HC.GS.sinkIStream p w).2.s.out = w.s.out ++ paramsC.enc p) ∧
    (∀ e, (HC.GenS.params_serialize HC.GS.sinkIStream p w).1 = .error e →
      ∃ j, j ≤ (paramsC.enc p).length ∧ (HC.GenS.params_serialize HC.GS.sinkIStream p w).2.s.out = w.s.out ++ (paramsC.enc p).take j) := by
  rw [HC.GS.gs_params_serialize _ p hp]
  exact HC.GS.gs_cleanI (paramsC.chunks p) w

/-- SECOND ROUND, READERS.  Prefix monotonicity of the generated reader programs (`RMono`: success on `p ++ t` implies, on `p`, the same
    success or `UnexpectedEof`) turns "accepts the full encoding" into the truncation clause: generated `Ciphertext::deserialize_full` on
    every strict prefix of a valid encoding returns `Err(UnexpectedEof)` — no object, no panic -/
theorem gen_ct_full_reader_truncation : type_of% @HC.GS.c15g_ct_full_reader_truncation := @HC.GS.c15g_ct_full_reader_truncation

/-- PARTIAL for the compact format: the generated compact `Ciphertext::deserialize` (windows, `chunks_mut`, indexed stores, `unwrap`)
    answers `UnexpectedEof` on every strict prefix of ANY stream it accepts completely; that it accepts every valid encoding is
    `C14.GenCtSourceRoundTripStatement` (not proved; exercised by the correspondence cases) -/
theorem gen_ct_reader_truncation_partial :
    type_of% @HC.GS.c15g_ct_reader_truncation_partial := @HC.GS.c15g_ct_reader_truncation_partial

/-- the general principle (any prefix-monotone reader, any stream it consumes completely) -/
theorem gen_reader_truncation_of_monotone : type_of% @HC.GS.gm_truncation := @HC.GS.gm_truncation

/-- not an I/O fault, recorded: `write_u64_limited` with a value that does not fit writes the truncated bytes, then panics -/
theorem gen_limited_writer_panics_after_writing :
    type_of% @HC.GS.c15g_limited_writer_panics_after_writing := @HC.GS.c15g_limited_writer_panics_after_writing

/-- the two routes agree: the mode the pattern table extracts (`genWMode`) is the mode the translated bodies use -/
theorem gen_source_mode_is_table_mode (p : Params) (hp : p.scheme < 256) (s : Sink) :
    HC.GenS.params_serialize HC.GS.sinkStream p s = HC.GS.liftIO (serialize genWMode (paramsC.chunks p) s) := by
  have : genWMode = fun _ => WMode.writeAll := funext gen_writers_use_write_all
  rw [this]; exact (HC.GS.c15g_source_writers_are_model_serialize s).2.2.2.1 p hp

/-- non-vacuity: the generated `u64` writer on a stream taking 3 bytes per call delivers all 8 bytes; with the second call failing it
    reports the stream's error with 3 bytes on the wire -/
example : HC.GenS.u64_serialize HC.GS.sinkStream 578437695752307201 ⟨[3], none, 0, []⟩
    = (.ok 8, ⟨[3], none, 3, [1, 2, 3, 4, 5, 6, 7, 8]⟩) := by rfl
example : HC.GenS.u64_serialize HC.GS.sinkStream 578437695752307201 ⟨[3], some 1, 0, []⟩
    = (.error (.io .fault), ⟨[3], some 1, 2, [1, 2, 3]⟩) := by rfl
/-- the generated `u64` writer with three interrupted calls on a 3-byte-per-call stream: all 8 bytes delivered -/
example : HC.GenS.u64_serialize HC.GS.sinkIStream 578437695752307201 ⟨⟨[3], none, 0, []⟩, [0, 1, 3], 0⟩
    = (.ok 8, ⟨⟨[3], none, 3, [1, 2, 3, 4, 5, 6, 7, 8]⟩, [0, 1, 3], 6⟩) := by rfl

end HC.C15
