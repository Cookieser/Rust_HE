/- The phase-level programs of Model/Lwe.lean on coefficient arrays over any commutative ring.  `sigmaPoly` and `negacyclicShift` are write
   loops through an index map (`scatterTo`).  σ_{2^m+1} is diagonal with sign (-1)^u on the coefficients of index (N/2^m)·u and keeps the
   others zero: that gives the field trace by induction over its loop and the merge tree of PackLWEs by induction over its layers.
   The monomial shift is the product with X^s (`c04k_chi`), so it commutes with the negacyclic product: the extraction identity. -/
import Heathcliff.Model.Lwe
import Heathcliff.Proofs.Base
import Heathcliff.Proofs.BaseMath
import Heathcliff.Proofs.NTTDefs
import Heathcliff.Proofs.NegAlg
import Heathcliff.Proofs.C09D
import Mathlib.Data.Nat.ModEq
import Mathlib.Data.Nat.Prime.Basic
import Mathlib.Algebra.BigOperators.Group.Finset.Basic
import Mathlib.Tactic.Ring
import Mathlib.Tactic.Linarith
import Mathlib.Data.ZMod.Basic
namespace HC
open Finset

/-- reading an `Array.ofFn` past its end gives the default (within range: `array_getD_ofFn`, Proofs/Base.lean) -/
theorem c19_getD_ofFn_ge {α : Type} {n : Nat} (f : Fin n → α) (d : α) (j : Nat) (hj : n ≤ j) :
    (Array.ofFn f).getD j d = d := by
  simp [Nat.not_lt.mpr hj]

section Slots
variable {α : Type} [Zero α] [Add α] [Sub α] [Neg α] [Mul α]

omit [Mul α] in
theorem c19_packLayer_getD (k l layer : Nat) (A : Array (Array α)) (i : Nat) (hi : i < 2^l) :
    (packLayer k l layer A).getD i #[] =
      if i % (2 * 2^layer) = 0 then packMerge k layer (A.getD i #[]) (A.getD (i + 2^layer) #[])
      else if i % (2 * 2^layer) = 2^layer then packOddAfter k layer (A.getD (i - 2^layer) #[]) (A.getD i #[])
      else A.getD i #[] := by
  unfold packLayer
  rw [array_getD_ofFn _ _ hi]

omit [Add α] [Sub α] [Neg α] in
theorem c19_packLeaves_getD (k l : Nat) (ninv : α) (ins : Array (Array α)) (i : Nat) (hi : i < 2^l) :
    (packLeaves k l ninv ins).getD i #[] =
      if brev l i < ins.size then scalePoly (2^k) ninv (ins.getD (brev l i) #[]) else Array.replicate (2^k) 0 := by
  unfold packLeaves
  rw [array_getD_ofFn _ _ hi]

end Slots

section Ring
variable {R : Type} [CommRing R]

theorem c19_addPoly_getD (n : Nat) (a b : Array R) (j : Nat) (hj : j < n) :
    (addPoly n a b).getD j 0 = a.getD j 0 + b.getD j 0 := by
  unfold addPoly; rw [array_getD_ofFn _ _ hj]

theorem c19_subPoly_getD (n : Nat) (a b : Array R) (j : Nat) (hj : j < n) :
    (subPoly n a b).getD j 0 = a.getD j 0 - b.getD j 0 := by
  unfold subPoly; rw [array_getD_ofFn _ _ hj]

theorem c19_scalePoly_getD (n : Nat) (c : R) (a : Array R) (j : Nat) (hj : j < n) :
    (scalePoly n c a).getD j 0 = c * a.getD j 0 := by
  unfold scalePoly; rw [array_getD_ofFn _ _ hj]

theorem c19_shiftPoly_getD (n : Nat) (a : Array R) (s j : Nat) (hj : j < n) :
    (shiftPoly n a s).getD j 0 =
      if s % n ≤ j then (if (s / n) % 2 = 1 then - a.getD (j - s % n) 0 else a.getD (j - s % n) 0)
      else (if (s / n) % 2 = 1 then a.getD (j + n - s % n) 0 else - a.getD (j + n - s % n) 0) := by
  unfold shiftPoly
  rw [array_getD_ofFn _ _ hj]

theorem c19_shiftPoly_getD_lt (n : Nat) (a : Array R) (s j : Nat) (hs : s < n) (hj : j < n) :
    (shiftPoly n a s).getD j 0 = if s ≤ j then a.getD (j - s) 0 else - a.getD (j + n - s) 0 := by
  rw [c19_shiftPoly_getD _ _ _ _ hj, Nat.mod_eq_of_lt hs, Nat.div_eq_of_lt hs]; rfl

theorem c19_sigmaPoly_eq (n : Nat) (a : Array R) (g : Nat) :
    sigmaPoly n a g = scatterTo (fun i => i * g % n) (fun i => if (i * g / n) % 2 = 1 then - a.getD i 0 else a.getD i 0)
      (List.range n) (Array.replicate n 0) := rfl

/-- for odd g the index map `i ↦ i·g mod 2^k` is injective, so the value written by iteration `i` survives.  This is the index / sign
    rule of σ_g for the loop `sigmaPoly` of Model/Lwe.lean; `galoisApply` of Model/Galois.lean is another loop with its own reading
    (`galoisApply_spec`, C04M), both through `scatterTo_written`.  Anything stated in this form is σ_g as a sum by `c04k_sigma_of_perm`
    (C04K), which is how C19K reads it (`c19k_sigmaPoly_getD`). -/
theorem c19_sigmaPoly_written (k g : Nat) (hg : g % 2 = 1) (a : Array R) (i : Nat) (hi : i < 2^k) :
    (sigmaPoly (2^k) a g).getD (i * g % 2^k) 0 = if (i * g / 2^k) % 2 = 1 then - a.getD i 0 else a.getD i 0 := by
  rw [c19_sigmaPoly_eq]
  exact scatterTo_written _ _ 0 _ _ (fun _ _ => by rw [Array.size_replicate]; exact Nat.mod_lt _ (Nat.two_pow_pos k))
    (fun x hx y hy h => by rw [odd_mul_inj_two_pow hg (List.mem_range.mp hx) (List.mem_range.mp hy) h]) i (List.mem_range.mpr hi)

theorem c19_odd_two_pow (m : Nat) (h : 1 ≤ m) : (2^m + 1) % 2 = 1 := by
  rw [Nat.add_mod, Nat.pow_mod, Nat.mod_self, Nat.zero_pow h]

/-! ### `σ_{2^m+1}` on N = 2^k coefficients: diagonal on the multiples of w = 2^(k-m) -/

theorem c19_mult_lt (k m : Nat) (hm : m ≤ k) (u : Nat) : 2^(k-m) * u < 2^k ↔ u < 2^m := by
  rw [← pow_sub_mul_pow 2 hm]; exact Nat.mul_lt_mul_left (Nat.two_pow_pos _)

theorem c19_mult_index (k m u : Nat) (hm : m ≤ k) (hu : u < 2^m) :
    (2^(k-m) * u) * (2^m + 1) % 2^k = 2^(k-m) * u ∧ (2^(k-m) * u) * (2^m + 1) / 2^k = u := by
  have hlt := (c19_mult_lt k m hm u).mpr hu
  have e : (2^(k-m) * u) * (2^m + 1) = 2^(k-m) * u + 2^k * u := by rw [← pow_sub_mul_pow 2 hm]; ring
  rw [e]
  constructor
  · rw [Nat.add_mul_mod_self_left, Nat.mod_eq_of_lt hlt]
  · rw [Nat.add_mul_div_left _ _ (Nat.two_pow_pos _), Nat.div_eq_of_lt hlt, Nat.zero_add]

theorem c19_sigma_at_mult (k m : Nat) (hm1 : 1 ≤ m) (hm : m ≤ k) (a : Array R) (u : Nat) (hu : u < 2^m) :
    (sigmaPoly (2^k) a (2^m+1)).getD (2^(k-m) * u) 0 =
      if u % 2 = 1 then - a.getD (2^(k-m) * u) 0 else a.getD (2^(k-m) * u) 0 := by
  obtain ⟨h1, h2⟩ := c19_mult_index k m u hm hu
  have hlt := (c19_mult_lt k m hm u).mpr hu
  have := c19_sigmaPoly_written k (2^m+1) (c19_odd_two_pow m hm1) a _ hlt
  rwa [h1, h2] at this

theorem c19_sigma_support (k m : Nat) (hm : m ≤ k) (a : Array R)
    (ha : ∀ j < 2^k, ¬ 2^(k-m) ∣ j → a.getD j 0 = 0) (e : Nat) (he : ¬ 2^(k-m) ∣ e) :
    (sigmaPoly (2^k) a (2^m+1)).getD e 0 = 0 := by
  rw [c19_sigmaPoly_eq]
  rcases scatterTo_getD (fun i => i * (2^m+1) % 2^k) _ (0:R) e (List.range (2^k)) (Array.replicate (2^k) 0) with h | ⟨c, hc, hce, h⟩
  · exact h.trans (array_getD_replicate _ _ _)
  · -- iteration c writes index e: then c is not a multiple of w (a multiple is written to itself), so a_c = 0
    have hc := List.mem_range.mp hc
    have hcw : ¬ 2^(k-m) ∣ c := by
      intro ⟨u, hu⟩
      have hu' : u < 2^m := (c19_mult_lt k m hm u).mp (hu ▸ hc)
      have := (c19_mult_index k m u hm hu').1
      rw [← hu] at this
      exact he ⟨u, (hce.symm.trans this).trans hu⟩
    rw [h, ha c hc hcw, neg_zero, ite_self]

def c19_traceSteps (k i : Nat) (a : Array R) : Array R :=
  (List.range i).foldl (fun (a : Array R) i => addPoly (2^k) a (sigmaPoly (2^k) a (2^(k - i) + 1))) a

theorem c19_traceSteps_succ (k i : Nat) (a : Array R) :
    c19_traceSteps k (i+1) a =
      addPoly (2^k) (c19_traceSteps k i a) (sigmaPoly (2^k) (c19_traceSteps k i a) (2^(k - i) + 1)) := by
  unfold c19_traceSteps
  rw [List.range_succ, List.foldl_append]; rfl

theorem c19_fieldTrace_eq (k l : Nat) (a : Array R) : fieldTracePoly k l a = c19_traceSteps k (k - l) a := rfl

theorem c19_dvd_succ_pow (i j u : Nat) (hj : j = 2^i * u) : (2^(i+1) ∣ j) ↔ u % 2 = 0 := by
  subst hj
  rw [pow_succ]
  constructor
  · intro h
    have := Nat.dvd_of_mul_dvd_mul_left (Nat.two_pow_pos _) h
    omega
  · intro h
    exact Nat.mul_dvd_mul_left _ (Nat.dvd_of_mod_eq_zero h)

theorem c19_traceSteps_coeff (k i : Nat) (hi : i ≤ k) (a : Array R) (j : Nat) (hj : j < 2^k) :
    (c19_traceSteps k i a).getD j 0 = if 2^i ∣ j then (2:R)^i * a.getD j 0 else 0 := by
  induction i generalizing j with
  | zero => simp [c19_traceSteps]
  | succ i ih =>
    have hik : i ≤ k := by omega
    rw [c19_traceSteps_succ, c19_addPoly_getD _ _ _ _ hj]
    set s := c19_traceSteps k i a with hs
    have hkk : k - (k - i) = i := by omega
    by_cases hd : 2^i ∣ j
    · obtain ⟨u, hu⟩ := hd
      have hu' : u < 2^(k-i) := (c19_mult_lt k (k-i) (Nat.sub_le _ _) u).mp (by rw [hkk, ← hu]; exact hj)
      have hsig := c19_sigma_at_mult k (k-i) (by omega) (by omega) s u hu'
      rw [hkk, ← hu] at hsig
      rw [hsig, ih hik j hj, if_pos ⟨u, hu⟩]
      have hiff := c19_dvd_succ_pow i j u hu
      by_cases hodd : u % 2 = 1
      · rw [if_pos hodd, if_neg (fun h => by have := hiff.mp h; omega)]; ring
      · rw [if_neg hodd, if_pos (hiff.mpr (by omega))]; rw [pow_succ]; ring
    · have hsup := c19_sigma_support k (k-i) (by omega) s
        (fun j' hj' hnd => by rw [hkk] at hnd; rw [ih hik j' hj', if_neg hnd]) j (by rw [hkk]; exact hd)
      rw [hsup, ih hik j hj, if_neg hd, if_neg]
      · ring
      · intro h; exact hd (Dvd.dvd.trans ⟨2, by rw [pow_succ]⟩ h)

theorem c19_packLogGo_spec (f c l0 : Nat) :
    l0 ≤ packLogGo f c l0 ∧ packLogGo f c l0 ≤ l0 + f ∧
    (∀ l', l0 ≤ l' → l' < packLogGo f c l0 → 2^l' < c) ∧
    (packLogGo f c l0 = l0 + f ∨ c ≤ 2^(packLogGo f c l0)) := by
  induction f generalizing l0 with
  | zero =>
    have e : packLogGo 0 c l0 = l0 := rfl
    rw [e]; exact ⟨le_refl _, le_refl _, fun l' h1 h2 => by omega, Or.inl rfl⟩
  | succ f ih =>
    unfold packLogGo
    split
    · next h =>
      obtain ⟨h1, h2, h3, h4⟩ := ih (l0+1)
      refine ⟨by omega, by omega, ?_, ?_⟩
      · intro l' hl hlt
        by_cases e : l' = l0
        · subst e; exact h
        · exact h3 l' (by omega) hlt
      · rcases h4 with h4 | h4
        · left; omega
        · right; exact h4
    · next h =>
      refine ⟨le_refl _, by omega, fun l' hl hlt => by omega, Or.inr (by omega)⟩

theorem c19_packLog_ge (c : Nat) : c ≤ 2^(packLog c) := by
  obtain ⟨_, _, _, h4⟩ := c19_packLogGo_spec c c 0
  unfold packLog
  rcases h4 with h4 | h4
  · rw [h4, Nat.zero_add]; exact le_of_lt (Nat.lt_two_pow_self)
  · exact h4

theorem c19_packLog_min (c l' : Nat) (h : c ≤ 2^l') : packLog c ≤ l' := by
  obtain ⟨_, _, h3, _⟩ := c19_packLogGo_spec c c 0
  unfold packLog
  by_contra hlt
  have := h3 l' (Nat.zero_le _) (by omega)
  omega

theorem c19_packMerge_at_mult (k lam : Nat) (hlam : lam + 1 ≤ k) (E O : Array R) (u : Nat) (hu : u < 2^lam) :
    (packMerge k lam E O).getD (2^(k-(lam+1)) * (2 * u)) 0 = 2 * E.getD (2^(k-lam) * u) 0 ∧
    (packMerge k lam E O).getD (2^(k-(lam+1)) * (2 * u + 1)) 0 = 2 * O.getD (2^(k-lam) * u) 0 := by
  have hkk : 2^(k-(lam+1)) * (2 * u) = 2^(k-lam) * u := by
    rw [← Nat.mul_assoc, ← pow_succ, show k - (lam+1) + 1 = k - lam by omega]
  have hlt := fun v => (c19_mult_lt k (lam+1) hlam v).mpr
  have hu2 : 2 * u + 1 < 2^(lam+1) := by rw [pow_succ]; omega
  unfold packMerge
  simp only [Nat.pow_div hlam (by norm_num : 0 < 2)]
  -- σ_{2^(lam+1)+1} contributes `(-1)^v (even − X^w·odd)` at `w·v`
  constructor
  · rw [c19_addPoly_getD _ _ _ _ (hlt _ (by omega)), c19_addPoly_getD _ _ _ _ (hlt _ (by omega)),
      c19_sigma_at_mult k (lam+1) (by omega) hlam _ _ (by omega), if_neg (by omega), c19_subPoly_getD _ _ _ _ (hlt _ (by omega)), hkk]
    ring
  · have hsub : 2^(k-(lam+1)) * (2 * u + 1) - 2^(k-(lam+1)) = 2^(k-lam) * u := by
      rw [Nat.mul_add, Nat.mul_one, Nat.add_sub_cancel, hkk]
    rw [c19_addPoly_getD _ _ _ _ (hlt _ hu2), c19_addPoly_getD _ _ _ _ (hlt _ hu2),
      c19_sigma_at_mult k (lam+1) (by omega) hlam _ _ hu2, if_pos (by omega), c19_subPoly_getD _ _ _ _ (hlt _ hu2),
      c19_shiftPoly_getD_lt _ _ _ _ (Nat.pow_lt_pow_right (by norm_num) (by omega)) (hlt _ hu2),
      if_pos (Nat.le_mul_of_pos_right _ (by omega)), hsub]
    ring

def c19_packLayers (k l lam : Nat) (leaves : Array (Array R)) : Array (Array R) :=
  (List.range lam).foldl (fun arr layer => packLayer k l layer arr) leaves

theorem c19_packLayers_succ (k l lam : Nat) (leaves : Array (Array R)) :
    c19_packLayers k l (lam+1) leaves = packLayer k l lam (c19_packLayers k l lam leaves) := by
  unfold c19_packLayers
  rw [List.range_succ, List.foldl_append]; rfl

theorem c19_mult_add_lt (l lam o : Nat) (hl : lam + 1 ≤ l) (ho : o < 2^l) (hd : 2^(lam+1) ∣ o) : o + 2^lam < 2^l := by
  obtain ⟨q, rfl⟩ := hd
  have e : 2^l = 2^(lam+1) * 2^(l-(lam+1)) := by rw [← pow_add]; congr 1; omega
  rw [e] at ho ⊢
  have hq : q < 2^(l-(lam+1)) := Nat.lt_of_mul_lt_mul_left ho
  have h2 : 2^(lam+1) * (q+1) ≤ 2^(lam+1) * 2^(l-(lam+1)) := Nat.mul_le_mul_left _ hq
  have h3 : 2^lam < 2^(lam+1) := Nat.pow_lt_pow_right (by norm_num) (by omega)
  rw [Nat.mul_add, Nat.mul_one] at h2
  omega

/-- the merge tree of `pack_lwe_ciphertexts` as a recursion: slot `o` (a multiple of 2^lam) after `lam` layers.  It is the
    in-place loop `packLayer` of Model/Lwe.lean read at the slots later layers use (`c19k_node_eq_layers`).  The three `c19k_` names of this
    file (this one, `c19k_node_eq_layers`, `c19k_nodePoly_inv`) carry C19K's prefix because the noisy merge tree of Proofs/C19K.lean is
    stated with them; they are phase-level facts about `packMerge` and need nothing of C19K. -/
def c19k_nodePoly {α : Type} [Zero α] [Add α] [Sub α] [Neg α] [Mul α] (k : Nat) (leaves : Nat → Array α) : Nat → Nat → Array α
  | 0, o => leaves o
  | lam+1, o => packMerge k lam (c19k_nodePoly k leaves lam o) (c19k_nodePoly k leaves lam (o + 2^lam))

theorem c19k_node_eq_layers {R : Type} [CommRing R] (k l : Nat) (leaves : Array (Array R)) (lam : Nat) (hlam : lam ≤ l)
    (o : Nat) (ho : o < 2^l) (hd : 2^lam ∣ o) :
    (c19_packLayers k l lam leaves).getD o #[] = c19k_nodePoly k (fun i => leaves.getD i #[]) lam o := by
  induction lam generalizing o with
  | zero => rfl
  | succ lam ih =>
    have hmod : o % (2 * 2^lam) = 0 := by
      rw [← pow_succ']; exact Nat.mod_eq_zero_of_dvd hd
    have hd' : 2^lam ∣ o := Dvd.dvd.trans ⟨2, by rw [pow_succ]⟩ hd
    rw [c19_packLayers_succ, c19_packLayer_getD k l lam _ o ho, if_pos hmod, ih (by omega) o ho hd',
      ih (by omega) (o + 2^lam) (c19_mult_add_lt l lam o hlam ho hd) (Dvd.dvd.add hd' (dvd_refl _))]
    rfl

theorem c19k_nodePoly_inv {R : Type} [CommRing R] (k : Nat) (leaf : Nat → Array R) (lam : Nat) (hlam : lam ≤ k)
    (o u : Nat) (hu : u < 2^lam) :
    (c19k_nodePoly k leaf lam o).getD (2^(k-lam) * u) 0 = (2:R)^lam * ((leaf (o + brev lam u)).getD 0 0) := by
  induction lam generalizing o u with
  | zero =>
    obtain rfl : u = 0 := by simpa using hu
    simp [c19k_nodePoly, brev]
  | succ lam ih =>
    obtain ⟨u', rfl | rfl⟩ : ∃ u', u = 2 * u' ∨ u = 2 * u' + 1 := ⟨u / 2, by omega⟩
    all_goals
      have hu' : u' < 2^lam := by rw [pow_succ] at hu; omega
      show (packMerge k lam _ _).getD _ 0 = _
    · rw [(c19_packMerge_at_mult k lam hlam _ _ u' hu').1, ih (by omega) o u' hu', brev_two_mul, pow_succ]
      ring
    · rw [(c19_packMerge_at_mult k lam hlam _ _ u' hu').2, ih (by omega) (o + 2^lam) u' hu', brev_two_mul_add_one, pow_succ,
        Nat.add_assoc]
      ring

theorem c19_packLayers_inv (k l : Nat) (hl : l ≤ k) (leaves : Array (Array R)) (lam : Nat) (hlam : lam ≤ l)
    (o : Nat) (ho : o < 2^l) (hd : 2^lam ∣ o) (u : Nat) (hu : u < 2^lam) :
    ((c19_packLayers k l lam leaves).getD o #[]).getD (2^(k-lam) * u) 0 =
      (2:R)^lam * ((leaves.getD (o + brev lam u) #[]).getD 0 0) := by
  rw [c19k_node_eq_layers k l leaves lam hlam o ho hd]
  exact c19k_nodePoly_inv k _ lam (by omega) o u hu

theorem c19_packLeaves_const (k l : Nat) (ninv : R) (ins : Array (Array R)) (i : Nat) (hi : i < 2^l) :
    ((packLeaves k l ninv ins).getD i #[]).getD 0 0 =
      if brev l i < ins.size then ninv * (ins.getD (brev l i) #[]).getD 0 0 else 0 := by
  rw [c19_packLeaves_getD k l ninv ins i hi]
  split
  · exact c19_scalePoly_getD _ _ _ 0 (Nat.two_pow_pos _)
  · exact array_getD_replicate _ _ _

theorem c19_packPoly_eq (k : Nat) (ninv : R) (ins : Array (Array R)) :
    packPoly k ninv ins =
      fieldTracePoly k (packLog ins.size)
        ((c19_packLayers k (packLog ins.size) (packLog ins.size) (packLeaves k (packLog ins.size) ninv ins)).getD 0 #[]) := rfl

/-- the monomial `±X^(s mod n)` (sign `-` when `⌊s/n⌋` is odd, i.e. `X^s` reduced with `X^n = -1`) -/
def c19_mono (n s : Nat) (j : Nat) : R := if j = s % n then (if (s / n) % 2 = 1 then -1 else 1) else 0

theorem c19_mono_eq_chi (n s j : Nat) : (c19_mono n s j : R) = c04k_chi n s j := by
  unfold c19_mono c04k_chi
  by_cases h : s % n = j
  · rw [if_pos h.symm, if_pos h]
    by_cases hf : s / n % 2 = 1
    · rw [if_pos hf, Odd.neg_one_pow (Nat.odd_iff.mpr hf)]
    · rw [if_neg hf, Even.neg_one_pow (Nat.even_iff.mpr (by omega))]
  · rw [if_neg (Ne.symm h), if_neg h]

theorem c19_shiftPoly_eq_chi_mul (n : Nat) (hn : 0 < n) (a : Array R) (s e : Nat) (he : e < n) :
    (shiftPoly n a s).getD e 0 = negMulR n (c04k_chi n s) (fun i => a.getD i 0) e := by
  rw [c19_shiftPoly_getD _ _ _ _ he, negMulR_chi_left hn]
  by_cases hf : s / n % 2 = 1
  · simp only [if_pos hf, Odd.neg_one_pow (Nat.odd_iff.mpr hf), neg_mul, one_mul, neg_neg, Nat.add_comm e n]
  · simp only [if_neg hf, Even.neg_one_pow (Nat.even_iff.mpr (by omega : s / n % 2 = 0)), one_mul, Nat.add_comm e n]

theorem c19_shift_is_mul (n : Nat) (hn : 0 < n) (a : Array R) (s e : Nat) (he : e < n) :
    (shiftPoly n a s).getD e 0 = negMulR n (fun i => a.getD i 0) (c19_mono n s) e := by
  rw [c19_shiftPoly_eq_chi_mul n hn a s e he, c04k_comm n _ _ he]
  exact c04k_congr_right n _ _ _ he fun i _ => (c19_mono_eq_chi n s i).symm

theorem c19_shiftPoly_negMul (n : Nat) (hn : 0 < n) (a : Array R) (u : Nat) (s : Nat → R) (c : Nat) (hc : c < n) :
    negMulR n (fun j => (shiftPoly n a u).getD j 0) s c =
      negMulR n (c04k_chi n u) (negMulR n (fun j => a.getD j 0) s) c :=
  (c05u_negMul_congr n _ _ s c (fun j hj => c19_shiftPoly_eq_chi_mul n hn a u j hj)).trans
    (c04k_assoc n (c04k_chi n u) (fun j => a.getD j 0) s hc)

/-- the ring identity behind `extract_lwe`: with c1' = X^(-t)·c1 (the shift by 2n - t), the constant coefficient of
    c1'·s is coefficient t of c1·s -/
theorem c19_extract_identity (n : Nat) (a : Array R) (s : Nat → R) (t : Nat) (ht : t < n) :
    negMulR n (fun j => (shiftPoly n a (if t = 0 then 0 else n * 2 - t)).getD j 0) s 0 =
      negMulR n (fun j => a.getD j 0) s t := by
  have hn : 0 < n := Nat.zero_lt_of_lt ht
  rw [c19_shiftPoly_negMul n hn a _ s 0 hn, negMulR_chi_left hn]
  by_cases ht0 : t = 0
  · rw [if_pos ht0, Nat.zero_mod, Nat.zero_div, if_pos (Nat.le_refl 0), pow_zero, one_mul, ht0]
  · -- X^(2n−t) = −X^(n−t): coefficient 0 of the product is the wrapped coefficient t, negated twice
    have e0 : n * 2 - t = (n - t) + n * 1 := by
      rw [Nat.mul_one, Nat.mul_two, Nat.add_sub_assoc (Nat.le_of_lt ht), Nat.add_comm]
    have h1 : n - t < n := Nat.sub_lt hn (Nat.pos_of_ne_zero ht0)
    rw [if_neg ht0, e0, Nat.add_mul_mod_self_left, Nat.add_mul_div_left _ _ hn, Nat.mod_eq_of_lt h1,
      Nat.div_eq_of_lt h1, if_neg (Nat.not_le.mpr (Nat.sub_pos_of_lt ht)), Nat.add_zero n, Nat.sub_sub_self (Nat.le_of_lt ht), Nat.zero_add, pow_one,
      neg_one_mul, neg_neg]

end Ring

/-- the negation the code uses: `0 ↦ 0`, `x ↦ q - x` -/
def c19_negQ (q x : Nat) : Nat := if x = 0 then 0 else q - x

theorem c19_shift_val (q x w : Nat) : (if x = 0 ∨ w % 2 = 0 then x else q - x) = if w % 2 = 1 then c19_negQ q x else x := by
  unfold c19_negQ
  by_cases hx : x = 0
  · subst hx; simp
  · by_cases hw : w % 2 = 0
    · rw [if_pos (Or.inr hw), if_neg (by omega)]
    · rw [if_neg (not_or.mpr ⟨hx, hw⟩), if_pos (by omega), if_neg hx]

theorem c19_negacyclicShift_eq (a : Array Nat) (s : Nat) (m : Modulus) (hs : s ≠ 0) :
    negacyclicShift a s m = scatterTo (fun i => (s + i) % a.size)
      (fun i => if ((s + i) / a.size) % 2 = 1 then c19_negQ m.value (a.getD i 0) else a.getD i 0)
      (List.range a.size) (Array.replicate a.size 0) := by
  unfold negacyclicShift scatterTo
  rw [if_neg hs]
  simp only [c19_shift_val]

/-- the iteration that writes index e: `e − s mod n` without a further wrap, or `e + n − s mod n` with one more -/
theorem c19_shift_index (n s e : Nat) (he : e < n) :
    (s % n ≤ e → (s + (e - s % n)) % n = e ∧ (s + (e - s % n)) / n = s / n) ∧
    (¬ s % n ≤ e → (s + (e + n - s % n)) % n = e ∧ (s + (e + n - s % n)) / n = s / n + 1) := by
  have hn : 0 < n := Nat.zero_lt_of_lt he
  have hr : s % n < n := Nat.mod_lt _ hn
  have hsd := Nat.div_add_mod s n
  constructor
  · intro hle
    have e1 : s + (e - s % n) = n * (s / n) + e := by omega
    rw [e1, Nat.mul_add_mod, Nat.mod_eq_of_lt he, Nat.mul_add_div hn, Nat.div_eq_of_lt he]
    exact ⟨rfl, rfl⟩
  · intro hle
    have e1 : s + (e + n - s % n) = n * (s / n + 1) + e := by rw [Nat.mul_add]; omega
    rw [e1, Nat.mul_add_mod, Nat.mod_eq_of_lt he, Nat.mul_add_div hn, Nat.div_eq_of_lt he]
    exact ⟨rfl, rfl⟩

theorem c19_shift_coeff_rule (a : Array Nat) (s : Nat) (m : Modulus) (e : Nat) (he : e < a.size) :
    (negacyclicShift a s m).getD e 0 =
      if s % a.size ≤ e then
        (if (s / a.size) % 2 = 1 then c19_negQ m.value (a.getD (e - s % a.size) 0) else a.getD (e - s % a.size) 0)
      else
        (if (s / a.size) % 2 = 1 then a.getD (e + a.size - s % a.size) 0 else c19_negQ m.value (a.getD (e + a.size - s % a.size) 0)) := by
  by_cases hs0 : s = 0
  · subst hs0
    unfold negacyclicShift
    simp
  rw [c19_negacyclicShift_eq a s m hs0]
  generalize a.size = n at he ⊢
  have hr : s % n < n := Nat.mod_lt _ (Nat.zero_lt_of_lt he)
  have hinj : ∀ i < n, ∀ j < n, (s + i) % n = (s + j) % n → i = j := by
    intro i hi j hj h
    have h2 : i % n = j % n := Nat.ModEq.add_left_cancel' s h
    rwa [Nat.mod_eq_of_lt hi, Nat.mod_eq_of_lt hj] at h2
  have hw := fun i (hi : i < n) => scatterTo_written (fun i => (s + i) % n)
    (fun i => if ((s + i) / n) % 2 = 1 then c19_negQ m.value (a.getD i 0) else a.getD i 0) 0 (List.range n) (Array.replicate n 0)
    (fun i _ => by rw [Array.size_replicate]; exact Nat.mod_lt _ (Nat.zero_lt_of_lt he))
    (fun x hx y hy h => by rw [hinj x (List.mem_range.mp hx) y (List.mem_range.mp hy) h]) i (List.mem_range.mpr hi)
  by_cases hle : s % n ≤ e
  · obtain ⟨h1, h2⟩ := (c19_shift_index n s e he).1 hle
    have := hw (e - s % n) (by omega)
    simp only [h1, h2] at this
    rw [this, if_pos hle]
  · obtain ⟨h1, h2⟩ := (c19_shift_index n s e he).2 hle
    have := hw (e + n - s % n) (by omega)
    simp only [h1, h2] at this
    rw [this, if_neg hle]
    -- one more wrap: the parity is the opposite
    by_cases hp : s / n % 2 = 1
    · rw [if_pos hp, if_neg (by omega)]
    · rw [if_neg hp, if_pos (by omega)]

/-- value level and phase level select the same input coefficient with the same sign: `negacyclic_shift` writes it or its `c19_negQ`,
    `shiftPoly` it or its negative -/
theorem c19_shift_pair (n s e : Nat) (he : e < n) :
    ∃ i, i < n ∧ ∃ neg : Bool,
      (∀ (a : Array Nat) (m : Modulus), a.size = n →
        (negacyclicShift a s m).getD e 0 = if neg then c19_negQ m.value (a.getD i 0) else a.getD i 0) ∧
      ∀ {R : Type} [CommRing R] (b : Array R), (shiftPoly n b s).getD e 0 = if neg then - b.getD i 0 else b.getD i 0 := by
  have hr : s % n < n := Nat.mod_lt _ (Nat.zero_lt_of_lt he)
  by_cases hle : s % n ≤ e
  · refine ⟨e - s % n, Nat.lt_of_le_of_lt (Nat.sub_le _ _) he, decide (s / n % 2 = 1), fun a m ha => ?_, fun b => ?_⟩
    · subst ha
      rw [c19_shift_coeff_rule a s m e he, if_pos hle]
      simp only [decide_eq_true_eq]
    · rw [c19_shiftPoly_getD _ _ _ _ he, if_pos hle]
      simp only [decide_eq_true_eq]
  · refine ⟨e + n - s % n, by omega, decide (¬ s / n % 2 = 1), fun a m ha => ?_, fun b => ?_⟩
    · subst ha
      rw [c19_shift_coeff_rule a s m e he, if_neg hle]
      simp only [decide_eq_true_eq, ite_not]
    · rw [c19_shiftPoly_getD _ _ _ _ he, if_neg hle]
      simp only [decide_eq_true_eq, ite_not]

theorem c19_negQ_cast (q x : Nat) (hx : x ≤ q) : ((c19_negQ q x : Nat) : ZMod q) = - (x : ZMod q) := by
  unfold c19_negQ
  split
  · next h => subst h; simp
  · rw [Nat.cast_sub hx, ZMod.natCast_self]; ring

theorem c19_map_getD (q : Nat) (a : Array Nat) (i : Nat) :
    (a.map (fun (x : Nat) => (x : ZMod q))).getD i 0 = ((a.getD i 0 : Nat) : ZMod q) := by
  by_cases hi : i < a.size <;> simp [hi]

theorem c19_shift_value_is_phase (a : Array Nat) (s : Nat) (m : Modulus) (hcan : ∀ i < a.size, a.getD i 0 ≤ m.value)
    (e : Nat) (he : e < a.size) :
    (((negacyclicShift a s m).getD e 0 : Nat) : ZMod m.value) =
      (shiftPoly a.size (a.map (fun (x : Nat) => (x : ZMod m.value))) s).getD e 0 := by
  obtain ⟨i, hi, neg, h1, h2⟩ := c19_shift_pair a.size s e he
  rw [h1 a m rfl, h2, c19_map_getD]
  cases neg with
  | true => exact c19_negQ_cast _ _ (hcan i hi)
  | false => rfl

theorem c19_negacyclicShift_size (a : Array Nat) (s : Nat) (m : Modulus) : (negacyclicShift a s m).size = a.size := by
  by_cases hs0 : s = 0
  · subst hs0; unfold negacyclicShift; simp
  · rw [c19_negacyclicShift_eq a s m hs0, scatterTo_size, Array.size_replicate]

/-- the coefficient-form polynomials `extract_lwe` works on (an NTT-form input is transformed back first) -/
def c19_coeffPoly (l : Level) (ct : Ct) (idx : Nat) : RnsPoly :=
  if ct.ntt then rnsIntt l (ct.polys.getD idx #[]) else ct.polys.getD idx #[]

theorem c19_extractLwe_ok (l : Level) (ct : Ct) (term : Nat) (h2 : ct.polys.size = 2) (hv : ctValidFor l ct = true)
    (ht : term < l.n) :
    extractLwe l ct term = .ok
      ⟨Array.ofFn (n := l.size) fun i =>
          negacyclicShift ((c19_coeffPoly l ct 1).getD i.val #[]) (if term = 0 then 0 else l.n * 2 - term) (l.q i.val),
       Array.ofFn (n := l.size) fun i => ((c19_coeffPoly l ct 0).getD i.val #[]).getD term 0,
       ct.cf⟩ := by
  unfold extractLwe c19_coeffPoly
  rw [if_neg (fun h => h h2), if_neg (by rw [hv]; exact Bool.false_ne_true)]
  simp only [ge_iff_le, if_neg (Nat.not_le.mpr ht)]
  by_cases ht0 : term = 0
  · rw [if_pos ht0, if_pos ht0]; rfl
  · rw [if_neg ht0, if_neg ht0, show ckSub (l.n * 2) term = .ok (l.n * 2 - term) from if_pos (by omega)]; rfl

theorem c19_assemble_c1 (l : Level) (w : Lwe) : (assembleLwe l w).polys.getD 1 #[] = w.c1 := by
  simp [assembleLwe]

theorem c19_assemble_c0 (l : Level) (w : Lwe) (i : Nat) (hi : i < l.size) (hn : 0 < l.n) :
    (((assembleLwe l w).polys.getD 0 #[]).getD i #[]).getD 0 0 = w.c0.getD i 0 := by
  have h0 : (assembleLwe l w).polys.getD 0 #[] =
      Array.ofFn (n := l.size) fun i => (Array.replicate l.n 0).setIfInBounds 0 (w.c0.getD i.val 0) := by
    simp [assembleLwe]
  rw [h0, array_getD_ofFn _ _ hi, array_getD_set]
  simp [hn]

theorem c19_extract_assemble (l : Level) (ct : Ct) (term : Nat) (h2 : ct.polys.size = 2) (hv : ctValidFor l ct = true)
    (ht : term < l.n) :
    ∃ w, extractLwe l ct term = .ok w ∧ (assembleLwe l w).ntt = false ∧ (assembleLwe l w).cf = ct.cf ∧
      ∀ i, i < l.size →
        ((c19_coeffPoly l ct 1).getD i #[]).size = l.n →
        (∀ j < l.n, ((c19_coeffPoly l ct 1).getD i #[]).getD j 0 ≤ (l.q i).value) →
        ∀ s : Nat → ZMod (l.q i).value,
          ((((assembleLwe l w).polys.getD 0 #[]).getD i #[]).getD 0 0 : ZMod (l.q i).value)
            + negMulR l.n (fun j => (((((assembleLwe l w).polys.getD 1 #[]).getD i #[]).getD j 0 : Nat) : ZMod (l.q i).value)) s 0
          = ((((c19_coeffPoly l ct 0).getD i #[]).getD term 0 : Nat) : ZMod (l.q i).value)
            + negMulR l.n (fun j => ((((c19_coeffPoly l ct 1).getD i #[]).getD j 0 : Nat) : ZMod (l.q i).value)) s term := by
  refine ⟨_, c19_extractLwe_ok l ct term h2 hv ht, rfl, rfl, ?_⟩
  intro i hi hsz hcan s
  have hn : 0 < l.n := by omega
  rw [c19_assemble_c0 l _ i hi hn, c19_assemble_c1]
  simp only [array_getD_ofFn _ _ hi]
  congr 1
  set c1 := (c19_coeffPoly l ct 1).getD i #[] with hc1
  have key := c19_extract_identity (R := ZMod (l.q i).value) l.n (c1.map (fun (x : Nat) => (x : ZMod (l.q i).value))) s term ht
  have e1 : negMulR l.n (fun j => (((negacyclicShift c1 (if term = 0 then 0 else l.n * 2 - term) (l.q i)).getD j 0 : Nat) : ZMod (l.q i).value)) s 0
      = negMulR l.n (fun j => (shiftPoly l.n (c1.map (fun (x : Nat) => (x : ZMod (l.q i).value))) (if term = 0 then 0 else l.n * 2 - term)).getD j 0) s 0 := by
    unfold negMulR
    apply Finset.sum_congr rfl
    intro j hj
    have hj' : j < c1.size := by rw [hsz]; exact Finset.mem_range.mp hj
    have := c19_shift_value_is_phase c1 (if term = 0 then 0 else l.n * 2 - term) (l.q i)
      (fun x hx => hcan x (by rw [← hsz]; exact hx)) j hj'
    rw [hsz] at this
    simp only [this]
  have e2 : negMulR l.n (fun j => ((c1.getD j 0 : Nat) : ZMod (l.q i).value)) s term
      = negMulR l.n (fun j => (c1.map (fun (x : Nat) => (x : ZMod (l.q i).value))).getD j 0) s term := by
    simp only [c19_map_getD]
  rw [e1, e2, key]

end HC
