import Heathcliff.Proofs.C13Validate
import Heathcliff.Proofs.C13Ladder
import Heathcliff.Proofs.C13Chain
import Heathcliff.Proofs.C13Primes
import Heathcliff.Proofs.C13Create
import Heathcliff.Proofs.C13Total
import Heathcliff.Proofs.GenLadder
import Heathcliff.Proofs.GenCtxConsts
import Heathcliff.Proofs.GenCtxChain

/- C13 — Parameter validation is sound; the modulus chain is well-formed and reproducible.
   Property theorems (proofs are the helper lemmas of Heathcliff/Proofs/C13*.lean; for the translator ties those of
   Heathcliff/Proofs/GenLadder.lean, GenCtxConsts.lean, GenCtxChain.lean, named at their sections; where a line reads `type_of% @HC.name` the
   statement is that of the lemma `HC.name`, to be read there), their non-vacuity examples, and at the end the toy moduli `mkMod` the examples use.
   `set_option maxRecDepth 100000 in` stands before every example that the kernel EVALUATES (`decide +kernel` on the model or the generated code
   for concrete parameters): the evaluation recurses deeper than the default limit allows; nothing else needs it.  Everything is about the executable
   model `Heathcliff/Model/Context.lean`; `isPrime : Nat → Bool` is the (cached) `Modulus::is_prime` flag as a function of the
   value and is universally quantified in every theorem.

   Builder guards (the inputs the builder REFUSES, modelled by `Params.setDegree/setCoeff/setPlain`, `modulusOk`):
   a modulus value of 1 or of more than 61 bits (`Modulus::new`); for scheme `None` a non-zero degree, a non-empty coefficient
   modulus or a non-zero plain modulus; a coefficient modulus list of 0 (when set explicitly) or more than 64 entries; a non-zero
   plain modulus for CKKS.  Everything else reaches `validate`, which answers with an `ErrorType`. -/
namespace HC.C13
open HC HC.Ctx

/-! ## tie to the source: order of the ladder, enum values (regenerated by tools/extract.py on every run) -/

/-- the order in which `HeContext::validate` mentions the error codes is the order of the model's ladder -/
theorem ladder_order_in_source : Gen.validateLadder =
    [.Success, .InvalidScheme, .InvalidCoeffModulusSize, .InvalidCoeffModulusBitCount, .InvalidPolyModulusDegree,
     .InvalidPolyModulusDegreeNonPowerOfTwo, .InvalidParametersTooLarge, .InvalidParametersInsecure, .FailedCreatingRNSBase,
     .InvalidCoeffModulusNoNTT, .InvalidPlainModulusBitCount, .InvalidPlainModulusCoprimality, .InvalidPlainModulusTooLarge,
     .InvalidPlainModulusNonzero, .FailedCreatingRNSTool] := rfl

/-- … and the rungs of `ladder` carry the same error codes in the same sequence, up to the two places where the model's list and the source's
    differ in layout: stated for scheme BFV (whose `ladder` has no `InvalidPlainModulusNonzero` rung, appended here on the left) and with the
    CKKS rung and the tool rung moved to the end of the source's list on the right -/
theorem ladder_matches_source (isPrime : Nat → Bool) (sec : SecLevel) (n : Nat) (q : List Nat) (t : Nat) (sp : Bool) :
    (ladder isPrime ⟨.BFV, n, q, t, sp⟩ sec).map (·.2) ++ [Gen.ErrorType.InvalidPlainModulusNonzero] =
      ((Gen.validateLadder.drop 1).filter (fun e => e ≠ .InvalidPlainModulusNonzero && e ≠ .FailedCreatingRNSTool)) ++
        [.FailedCreatingRNSTool, .InvalidPlainModulusNonzero] := rfl

/-! ## validation -/

/-- `validate_sound`: a parameter set is reported as set only if every precondition holds: power-of-two degree in
    [2, 2^17], 1..64 moduli of 2..60 bits, pairwise coprime, each flagged prime and ≡ 1 (mod 2N), the plain-modulus conditions of
    the scheme, and a total bit count within the standard's table for the requested security level -/
theorem validate_sound {isPrime : Nat → Bool} {p : Params} {sec : SecLevel} {c : ContextData}
    (h : validate isPrime p sec = .ok c) (hs : c.err = .Success) :
    (∃ e, 1 ≤ e ∧ e ≤ 17 ∧ p.n = 2^e) ∧
    (1 ≤ p.q.length ∧ p.q.length ≤ 64) ∧
    (∀ q ∈ p.q, 2 ≤ q ∧ q < 2^60) ∧
    p.q.Pairwise Nat.Coprime ∧
    (∀ q ∈ p.q, isPrime q = true ∧ q % (2 * p.n) = 1) ∧
    PlainOk p ∧
    (sec = .None ∨ bitCount (prodL p.q) ≤ Gen.maxBitCount sec p.n) := HC.Ctx.validate_sound h hs

/-- … in particular the accept/reject oracle of the correspondence driver (`Spec.Ctx.validParams`) holds -/
theorem validate_sound_spec {isPrime : Nat → Bool} {p : Params} {sec : SecLevel} {c : ContextData}
    (h : validate isPrime p sec = .ok c) (hs : c.err = .Success) : Spec.Ctx.validParams isPrime p sec = true :=
  HC.Ctx.validate_sound_spec h hs

/-- `error_ladder`: the reported error is the error of the FIRST failing rung, in the order of the code -/
theorem error_ladder {isPrime : Nat → Bool} {p : Params} {sec : SecLevel} {c : ContextData}
    (h : validate isPrime p sec = .ok c) : c.err = firstFailing (ladder isPrime p sec) := HC.Ctx.error_ladder h

/-- the `RNSBase::new` rung is "not pairwise coprime" -/
theorem rnsBaseNew_eq {qs : List Nat} (hne : qs ≠ []) (hq : ∀ q ∈ qs, 2 ≤ q ∧ q < 2^61) :
    rnsBaseNew qs = .ok (decide (qs.Pairwise Nat.Coprime)) := HC.Ctx.rnsBaseNew_eq hne hq

/-- `validate` keeps the parameter object it is given -/
theorem validate_parms {isPrime : Nat → Bool} {p : Params} {sec : SecLevel} {c : ContextData}
    (h : validate isPrime p sec = .ok c) : c.parms = p := HC.Ctx.validate_parms h

/-- Totality ("never panics").  In the model the only sources of `.error` inside `validate` are `RNSTool::new`'s
    `get_primes` / `unwrap` / `assert!` and the checked single-word operations.  FULL statement, NOT proved here: it needs that
    enough 61-bit primes ≡ 1 (mod 2N) exist for every N ≤ 2^17 (true, but a primality certificate for 67 sixty-one-bit numbers
    per degree is outside this development) and that every `assert!` of `RNSTool::new` holds for genuine primes.  The
    correspondence run checks on every generated case that the implementation does not panic where the model does not. -/
def ValidateTotalStatement : Prop :=
  ∀ (isPrime : Nat → Bool) (p : Params) (sec : SecLevel),
    (∀ v, isPrime v = true ↔ Nat.Prime v) →
    (∀ q ∈ p.q, modulusOk q = true) → modulusOk p.t = true → p.n < 2^64 →
    (∀ cnt ≤ 67, ∃ l, getPrimes isPrime (2 * p.n) 61 cnt = .ok l) →
    ∃ c, validate isPrime p sec = .ok c

/-- `constants_eq_definitions`: the precomputed constants of a valid level are their definitions:
    total = Π q_i (as limbs and as a number), its bit count, the security qualifier; BFV/BGV: ⌊q/t⌋ mod q_i with its Harvey quotient,
    q mod t, (q mod t) mod q_i, ⌈t/2⌉, q_i − t (fast lift) or q − t; CKKS: 2^63, −2^64 mod q_i, ⌈q/2⌉ -/
theorem constants_eq_definitions {isPrime : Nat → Bool} {p : Params} {sec : SecLevel} {c : ContextData}
    (h : validate isPrime p sec = .ok c) (hs : c.err = .Success) :
    (c.parms = p ∧ c.total = fromNat p.q.length (prodL p.q) ∧ toNat c.total = prodL p.q ∧
      c.totalBits = bitCount (prodL p.q) ∧ c.fft = true ∧ c.ntt = true ∧ c.descending = descendingB p.q ∧
      c.sec = (if bitCount (prodL p.q) > Gen.maxBitCount sec p.n then .None else sec)) ∧
    (p.scheme = .BFV ∨ p.scheme = .BGV →
      c.coeffDivPlain = p.q.map (fun q => ⟨(prodL p.q / p.t) % q, ((prodL p.q / p.t) % q) * 2^64 / q⟩) ∧
      c.qModT = prodL p.q % p.t ∧
      c.upperHalfIncrement = p.q.map (fun q => prodL p.q % p.t % q) ∧
      c.plainUpperHalfThreshold = (p.t + 1) / 2 ∧
      c.plainUpperHalfIncrement = (if p.q.all (fun q => decide (p.t < q)) then p.q.map (fun q => q - p.t)
                                    else fromNat p.q.length (prodL p.q - p.t)) ∧
      c.upperHalfThreshold = [] ∧
      c.batching = (isPrime p.t && decide (p.t % (2 * p.n) = 1)) ∧
      c.fastLift = p.q.all (fun q => decide (p.t < q))) ∧
    (p.scheme = .CKKS →
      c.coeffDivPlain = [] ∧ c.qModT = 0 ∧ c.upperHalfIncrement = [] ∧
      c.plainUpperHalfThreshold = 2^63 ∧
      c.plainUpperHalfIncrement = p.q.map (fun q => (q - 2^64 % q) % q) ∧
      c.upperHalfThreshold = fromNat p.q.length ((prodL p.q + 1) / 2) ∧
      toNat c.upperHalfThreshold = (prodL p.q + 1) / 2 ∧
      c.batching = true ∧ c.fastLift = false) :=
  ⟨constants_common h hs, fun hsch => constants_bfv h hs hsch, fun hsch => constants_ckks h hs hsch⟩

/-- The multi-word constants above are given by value.  The word-level mirror of the same code paths (`wordConsts`:
    `multiply_many_u64`, `divide_uint`, `modulo_uint`, `sub_uint`, `increment_uint`, `right_shift_uint`) is compared with the
    code and with the value-level definitions by the correspondence run; its equality with them is the multi-word layer (L1) of
    C08; FULL statement (for the proved part see `WordConsts_partial` below). -/
def WordConstsStatement : Prop :=
  ∀ (qs : List Nat) (t : Nat), 1 ≤ qs.length → qs.length ≤ 64 → (∀ q ∈ qs, 2 ≤ q ∧ q < 2^60) → 2 ≤ t → t < prodL qs →
    ∃ w, wordConsts qs t = .ok w ∧ w.total = fromNat qs.length (prodL qs) ∧ w.totalBits = bitCount (prodL qs) ∧
      w.quotDec = qs.map (fun q => prodL qs / t % q) ∧ w.remDec = qs.map (fun q => prodL qs % t % q) ∧
      w.qModT = prodL qs % t ∧ w.puhiSlow = fromNat qs.length (prodL qs - t) ∧
      w.uht = fromNat qs.length ((prodL qs + 1) / 2)

/-- `WordConstsStatement` for every plain modulus that is a `u64` (`t < 2^64`; the upper bound `qs.length ≤ 64` is not needed).  What is
    missing for the full statement: it quantifies over ALL naturals `t < Π q_i`, and for `t ≥ 2^64` the list `t :: 0 :: …` (`wide_plain_modulus`) is not a limb
    vector — outside the domain of the word-level functions (a `u64` never is).  Proofs/GenCtxConsts.lean, from the C08 specifications
    `multiplyManyU64_spec`, `divideUint_spec`, `moduloUint_exact`, `subUint_spec`, `addUintU64_spec`, `rightShiftUint_spec`. -/
theorem WordConsts_partial (qs : List Nat) (t : Nat) (hk1 : 1 ≤ qs.length) (hq : ∀ q ∈ qs, 2 ≤ q ∧ q < 2^60) (ht2 : 2 ≤ t) (ht64 : t < 2^64)
    (htQ : t < prodL qs) :
    ∃ w, wordConsts qs t = .ok w ∧ w.total = fromNat qs.length (prodL qs) ∧ w.totalBits = bitCount (prodL qs) ∧
      w.quotDec = qs.map (fun q => prodL qs / t % q) ∧ w.remDec = qs.map (fun q => prodL qs % t % q) ∧
      w.qModT = prodL qs % t ∧ w.puhiSlow = fromNat qs.length (prodL qs - t) ∧
      w.uht = fromNat qs.length ((prodL qs + 1) / 2) := HC.gcx_wordConsts_ok qs t hk1 hq ht2 ht64 htQ

/- non-vacuity of `WordConsts_partial` on the borrow chain -/
set_option maxRecDepth 100000 in
example : (wordConsts [8589934721, 8589934609] (2^50)).map (fun w => (w.total, w.totalBits, w.quotDec, w.remDec)) =
    .ok ([1254130452625, 4], 67, [65536, 65536], [8589918080, 8589934320]) := by decide +kernel
set_option maxRecDepth 100000 in
example : (wordConsts [8589934721, 8589934609] (2^50)).map (fun w => (w.qModT, w.puhiSlow, w.uht)) =
    .ok (1254130452625, [18445619427933161617, 3], [627065226313, 2]) := by decide +kernel

/-! ## the chain -/

/-- `chain_wellformed`: the key level is the validated user parameter set; consecutive levels differ by exactly the last
    modulus and every lower level is valid (`Step`); level `i` carries the prefix of the moduli that is `i` shorter;
    `chain_index` decreases by one per level and ends at 0 (prev/next links are the list order of `levels`); first = key exactly when
    the key level is invalid, or has a single modulus, or the special-prime flag is set, or the next parameter set is invalid, and
    `using_keyswitching` says so; with expansion the chain stops only at one modulus or in front of an invalid set -/
theorem chain_wellformed {isPrime : Nat → Bool} {p : Params} {expand : Bool} {sec : SecLevel} {x : Context}
    (h : Context.new isPrime p expand sec = .ok x) :
    (∃ key rest, x.levels = key :: rest ∧ key.parms = p ∧ validate isPrime p sec = .ok key ∧ (rest ≠ [] → key.valid = true)) ∧
    (∀ (i : Nat) (c d : ContextData), x.levels[i]? = some c → x.levels[i+1]? = some d → Step isPrime sec c d) ∧
    (∀ (i : Nat) (c : ContextData), x.levels[i]? = some c →
      c.parms = { p with q := p.q.take (p.q.length - i) } ∧ i < p.q.length ∨ (i = 0 ∧ c.parms = p)) ∧
    ((∀ i, i + 1 < x.levels.length → x.chainIndex (i + 1) + 1 = x.chainIndex i) ∧
      x.chainIndex x.lastIdx = 0 ∧ x.lastIdx < x.levels.length ∧ x.firstIdx < x.levels.length ∧ x.firstIdx ≤ x.lastIdx) ∧
    ((x.firstIdx = 0 ∨ x.firstIdx = 1) ∧ (x.usingKeyswitching = true ↔ x.firstIdx = 1) ∧
      (x.firstIdx = 0 ↔
        (∃ key, validate isPrime p sec = .ok key ∧ key.valid = false) ∨ p.q.length = 1 ∨ p.special = true ∨
        (∃ c, validate isPrime (dropLastP p) sec = .ok c ∧ c.valid = false))) ∧
    ((expand = true → ∀ last, x.levels[x.lastIdx]? = some last → last.valid = true →
        last.parms.q.length ≤ 1 ∨ ∃ c, validate isPrime (dropLastP last.parms) sec = .ok c ∧ c.valid = false) ∧
      (expand = false → x.levels.length ≤ 2)) :=
  ⟨chain_key h, chain_step h, chain_prefix h, chain_index h, chain_entry h, chain_maximal h⟩

/-! ## parameter identifiers -/

/-- `parms_id_preimage_injective`: the `u64` vector fed to the hash determines (scheme, N, moduli, t)
    (the special-prime flag is not part of the id) -/
theorem parms_id_preimage_injective {p p' : Params} (h : p.preimage = p'.preimage) :
    p.scheme = p'.scheme ∧ p.n = p'.n ∧ p.q = p'.q ∧ p.t = p'.t := preimage_injective h

/-- ids are a deterministic function of the parameters, and collision free under the explicit hypothesis that the hash is
    injective (a hypothesis, not an axiom: SHA-256 is not modelled) -/
theorem parms_id_collision_free {α : Type} (hash : List Nat → α) (hinj : Function.Injective hash) {p p' : Params}
    (h : hash p.preimage = hash p'.preimage) : p.scheme = p'.scheme ∧ p.n = p'.n ∧ p.q = p'.q ∧ p.t = p'.t :=
  preimage_injective (hinj h)

/-- two parties building contexts from the same parameters obtain the same chain of ids (the model is a function) and
    different levels of one chain have different ids -/
theorem chain_ids_distinct {α : Type} (hash : List Nat → α) (hinj : Function.Injective hash)
    {isPrime : Nat → Bool} {p : Params} {expand : Bool} {sec : SecLevel} {x : Context}
    (h : Context.new isPrime p expand sec = .ok x) {i j : Nat} {c d : ContextData}
    (hi : x.levels[i]? = some c) (hj : x.levels[j]? = some d) (hid : hash c.parms.preimage = hash d.parms.preimage) : i = j := by
  have hlen : c.parms.q.length = d.parms.q.length := by rw [(preimage_injective (hinj hid)).2.2.1]
  -- the number of moduli of a level tells its position
  have key : ∀ {i c}, x.levels[i]? = some c → c.parms.q.length = p.q.length - i ∧ (i = 0 ∨ i < p.q.length) := fun hi => by
    obtain ⟨hv, hpos⟩ := chain_levels h _ _ hi
    rw [validate_parms hv, keep_length (Nat.sub_le ..)]
    exact ⟨rfl, (Nat.eq_zero_or_pos _).imp_right fun h0 => (hpos h0).2⟩
  have := key hi
  have := key hj
  omega

/-! ## generated moduli -/

/-- `get_primes_spec`: the result has exactly `count` entries, strictly descending (hence distinct), each accepted by
    `isPrime`, ≡ 1 (mod factor), of exactly `b` bits, and it is the list of the FIRST `count` accepted candidates -/
theorem get_primes_spec {isPrime : Nat → Bool} {factor b count : Nat} {l : List Nat}
    (hb1 : 1 ≤ b) (hf : 1 ≤ factor) (h2 : isPrime (2^b) = false)
    (h : getPrimes isPrime factor b count = .ok l) :
    l.length = count ∧ l.Pairwise (· > ·) ∧ l.Nodup ∧
    (∀ v ∈ l, isPrime v = true ∧ v % factor = 1 % factor ∧ 2^(b-1) < v ∧ v < 2^b ∧ bitCount v = b) ∧
    l = ((candidates factor b).filter isPrime).take count := HC.Ctx.get_primes_spec hb1 hf h2 h

/-- the candidates are exactly the values of the residue class in the bit range (plus possibly `2^b`), largest first -/
theorem candidates_spec {factor b : Nat} (hb1 : 1 ≤ b) (hf : 1 ≤ factor) :
    (candidates factor b).Pairwise (· > ·) ∧
    (∀ v ∈ candidates factor b, 2^(b-1) < v ∧ v ≤ 2^b ∧ v % factor = 1 % factor) ∧
    (∀ v, 2^(b-1) < v → v ≤ 2^b → v % factor = 1 % factor → v ∈ candidates factor b) :=
  ⟨(candidates_props hf).1, (candidates_props hf).2, fun _ h1 h2 h3 => candidates_complete hf h1 h2 h3⟩

/-- `CoeffModulus::create`: distinct accepted values of exactly the requested sizes, ≡ 1 (mod 2N) -/
theorem create_spec {isPrime : Nat → Bool} {n : Nat} {sizes l : List Nat}
    (h2 : ∀ b ∈ sizes, isPrime (2^b) = false) (h : create isPrime n sizes = .ok l) :
    l.length = sizes.length ∧
    (∀ i (hi : i < l.length) (hj : i < sizes.length),
        bitCount l[i] = sizes[i] ∧ isPrime l[i] = true ∧ l[i] % (2 * n) = 1) ∧
    l.Nodup ∧ 2 ≤ n ∧ (∀ b ∈ sizes, 2 ≤ b ∧ b ≤ 60) := HC.Ctx.create_spec h2 h

/-- `PlainModulus::batching(n, b)` returns a value of exactly `b` bits, flagged prime, ≡ 1 (mod 2n) -/
theorem batching_spec {isPrime : Nat → Bool} {n b v : Nat} (h2 : isPrime (2^b) = false)
    (h : batching isPrime n b = .ok v) : bitCount v = b ∧ isPrime v = true ∧ v % (2 * n) = 1 := HC.Ctx.batching_spec h2 h

/-! ## `is_prime` -/

/-- `is_prime_no_false_negative`: a prime is never rejected, whatever witnesses in `[3, v)` the random generator
    produces (small-prime ladder + Miller–Rabin completeness) -/
theorem is_prime_no_false_negative {v : Nat} {m : Modulus} (hm : Modulus.mk? v = .ok m) (hp : v.Prime)
    (wit : Nat → Nat) (hw : ∀ i, 3 ≤ wit i ∧ wit i < v) : isPrimeW m wit = .ok true :=
  isPrimeW_no_false_negative hm hp wit hw

/-- The converse is PROBABILISTIC in the code (40 rounds, random witnesses) and cannot hold for every witness sequence:
    2047 = 23·89 is accepted when every random witness happens to be 2046 (≡ −1) -/
theorem is_prime_converse_fails_for_some_witnesses :
    ∃ m, Modulus.mk? 2047 = .ok m ∧ isPrimeW m (fun _ => 2046) = .ok true ∧ ¬ Nat.Prime 2047 :=
  ⟨_, rfl, by decide +kernel, by norm_num⟩

/-- What holds instead is Rabin's bound: at most a quarter of the witnesses lets a composite pass one round, so 39 random rounds
    accept a composite with probability ≤ 4^-39.  STATED only (not proved here; the driver re-tests every generated modulus with
    the deterministic 12-base Miller–Rabin, exact below 3.3·10^24 by a published result that is trusted). -/
def IsPrimeSoundStatement : Prop :=
  ∀ (v : Nat) (m : Modulus), Modulus.mk? v = .ok m → 13 < v → v % 2 = 1 → ¬ v.Prime →
    4 * ((List.range v).filter (fun a => decide (3 ≤ a) &&
          decide (mrRounds m (splitPow2 64 (v - 1) 0).1 (splitPow2 64 (v - 1) 0).2 (fun _ => a) 1 1 = .ok true))).length ≤ v

/-! ## non-vacuity: the hypotheses of the theorems above are satisfiable -/

/-- toy primality notion: the two coefficient primes and the first four 61-bit primes ≡ 1 (mod 8) -/
def toyPrime (v : Nat) : Bool :=
  [17, 41, 2305843009213693921, 2305843009213693561, 2305843009213693193, 2305843009213693153].contains v

set_option maxRecDepth 100000 in
example : (validate toyPrime ⟨.BFV, 4, [17, 41], 16, false⟩ .None).map (fun c => c.err) = .ok .Success := by decide +kernel
set_option maxRecDepth 100000 in
example : (validate toyPrime ⟨.CKKS, 4, [17, 41], 0, false⟩ .None).map (fun c => c.err) = .ok .Success := by decide +kernel
set_option maxRecDepth 100000 in
example : (validate toyPrime ⟨.BFV, 4, [17, 41], 34, false⟩ .None).map (fun c => c.err) = .ok .InvalidPlainModulusCoprimality := by decide +kernel
set_option maxRecDepth 100000 in
example : (Context.new toyPrime ⟨.CKKS, 4, [17, 41], 0, false⟩ true .None).map (fun x => (x.levels.length, x.firstIdx, x.usingKeyswitching))
    = .ok (2, 1, true) := by decide +kernel
set_option maxRecDepth 100000 in
example : getPrimes toyPrime 8 5 1 = .ok [17] := by decide +kernel
example : toyPrime (2^5) = false := by decide +kernel

/-! ### totality of `validate` / `HeContext::new` up to `RNSTool::new` (Proofs/C13Total.lean) -/

/-- **`validate` is total and its verdict classified**: for EVERY primality oracle, parameter object and security level, if
    `RNSTool::new(n, q, t)` returns (`Ok` or `Err`; its own panics are `get_primes(..).unwrap()`, `create_ntt_tables(..).unwrap()`
    and the `assert!(try_invert ..)` family), `validate` returns a `ContextData` carrying the parameters, whose error code is the
    code of the first failing rung (`Success` = `parameters_set` if none fails) — never the initial `ErrorType::None`.  Every other
    partial operation on the way is proved total on the values that reach it. -/
theorem validate_total_classified : type_of% @HC.Ctx.validate_total_classified := @HC.Ctx.validate_total_classified

/-- a parameter object rejected by one of the first five rungs is classified with NO hypothesis (nothing that can panic is reached) -/
theorem validate_total_early : type_of% @HC.Ctx.validate_total_early := @HC.Ctx.validate_total_early

/-- `create_next_context_data` is total under the same hypothesis for the shortened chain -/
theorem createNext_total : type_of% @HC.Ctx.createNext_total := @HC.Ctx.createNext_total

/-- **totality of `HeContext::new` up to `RNSTool::new`**: if `RNSTool::new` returns for every non-empty prefix of the modulus chain,
    the model of `HeContext::new` returns a context (whose levels are then classified by `chain_wellformed` + `error_ladder`) -/
theorem new_total : type_of% @HC.Ctx.new_total := @HC.Ctx.new_total

/- the hypothesis of the totality theorems is satisfiable with a non-trivial outcome (`RNSTool::new` returns `Ok`) — for a toy oracle and toy
   parameters; this is ALL that is shown here about that hypothesis: that `RNSTool::new` returns on every parameter set that reaches it is not proved -/
set_option maxRecDepth 100000 in
example : ∃ b, rnsToolNew toyPrime 4 [17, 41] 16 = .ok b := ⟨true, by decide +kernel⟩
set_option maxRecDepth 100000 in
example : ∃ b, rnsToolNew toyPrime 4 [17] 16 = .ok b := ⟨true, by decide +kernel⟩

/-! ### translator tie: CONDITIONS of four error returns of `HeContext::validate` (src/context.rs), generated into
     Gen/LadderFns.lean (`HC.GenL.cond_X`: the guard of `if … { parameter_error = ErrorType::X; return c; }`, accessor chains as inputs,
     constants read from src/util/basic.rs), equal the conditions of the model's ladder, and the model's ladder returns the SAME error
     at the SAME position (after the same earlier rungs have passed).  Proofs/GenLadder.lean.  The other eleven error returns are
     located and listed in `GenL.rungs` (source order) but their conditions are not translated (if-let / iterator / Result tests). -/
theorem gen_cond_size_eq (k : Nat) :
    HC.GenL.cond_InvalidCoeffModulusSize k = decide (k > HC.Gen.HE_COEFF_MOD_COUNT_MAX ∨ k < HC.Gen.HE_COEFF_MOD_COUNT_MIN) := HC.gy_cond_size_eq k
/-- … the bit-count guard of a coefficient modulus (more than 60 bits, or fewer than 2) -/
theorem gen_cond_bits_eq (q : Nat) :
    HC.GenL.cond_InvalidCoeffModulusBitCount q =
      decide (q / 2^HC.Gen.HE_USER_MOD_BIT_COUNT_MAX > 0 ∨ q / 2^(HC.Gen.HE_USER_MOD_BIT_COUNT_MIN - 1) = 0) := HC.gy_cond_bits_eq q
/-- … the degree guard -/
theorem gen_cond_degree_eq (n : Nat) :
    HC.GenL.cond_InvalidPolyModulusDegree n = decide (n < HC.Gen.HE_POLY_MOD_DEGREE_MIN ∨ n > HC.Gen.HE_POLY_MOD_DEGREE_MAX) := HC.gy_cond_degree_eq n
/-- … the bit-count guard of the plain modulus -/
theorem gen_cond_plain_eq (t : Nat) :
    HC.GenL.cond_InvalidPlainModulusBitCount t =
      decide (t / 2^HC.Gen.HE_PLAIN_MOD_BIT_COUNT_MAX > 0 ∨ t / 2^(HC.Gen.HE_PLAIN_MOD_BIT_COUNT_MIN - 1) = 0) := HC.gy_cond_plain_eq t
/-- the model's `validate` returns `InvalidCoeffModulusSize` exactly when the generated guard fires after the scheme rung has passed
    (`gy_validate_size`, Proofs/GenLadder.lean; likewise the next three for their rungs) -/
theorem gen_validate_size : type_of% @HC.gy_validate_size := @HC.gy_validate_size
theorem gen_validate_bits : type_of% @HC.gy_validate_bits := @HC.gy_validate_bits
theorem gen_validate_degree : type_of% @HC.gy_validate_degree := @HC.gy_validate_degree
theorem gen_validateBfv_plain : type_of% @HC.gy_validateBfv_plain := @HC.gy_validateBfv_plain

/-! ### translator tie: the pre-computed CONSTANTS of `HeContext::validate` (src/context.rs) and `RNSBase::decompose` (src/util/rns.rs),
     generated into Gen/ContextFns.lean (`HC.GenX`) by the fragment mode of the translator (tools/rs2lean_ctx.py): the statement ranges
     "product of the moduli + bit count" (`GenX.validate_total`) and "fast-plain-lift test … end of the BFV | BGV arm" (`GenX.validate_bfv_consts`:
     `divide_uint`, `coeff_modulus_mod_plain_modulus = upper_half_increment[0]` BEFORE the decomposition, two `decompose` calls, `(t + 1) >> 1`,
     per-prime `q_i − t` or the multi-word `sub_uint`).  Fields of the opaque `ContextData` are pseudo-variables (skeleton table); `multiply_many_u64`,
     `get_significant_bit_count_uint`, `divide_uint` are calls of the hand models of Model/Word.lean (specified by C08), `sub_uint`, `modulo_uint`,
     `MultiplyU64ModOperand::new` are the GENERATED `GenW.sub_uint`, `GenW.modulo_uint`, `GenW.mulop_new`.  Proofs/GenCtxConsts.lean. -/

/-- `RNSBase::decompose` as generated: on a value with as many limbs as the base has (well-formed) moduli it returns the residues `v mod q_i`;
    for a single modulus it returns the value unchanged -/
theorem gen_decompose_eq {ms : List Modulus} {v : List Nat} (hw : ∀ m ∈ ms, m.WF) (hv : Limbs v) (hl : v.length = ms.length) :
    GenX.rns_decompose ms v = .ok (if 1 < ms.length then ms.map (fun m => toNat v % m.value) else v) := HC.gcx_decompose_ok hw hv hl

/-- `total_coeff_modulus` / `total_coeff_modulus_bit_count` as generated: the limbs of `Π q_i` and its bit count, for every non-empty list of
    `u64` values (the initial contents of the output vector are irrelevant) -/
theorem gen_validate_total_eq {qs tot0 : List Nat} (hne : qs ≠ []) (hq : Limbs qs) :
    GenX.validate_total qs tot0 = .ok (fromNat qs.length (prodL qs), bitCount (prodL qs)) := HC.gcx_validate_total_ok hne hq

/-- **source to mathematics, BFV / BGV constants**: for EVERY chain `qs` (values of well-formed moduli `ms`: `2 ≤ q_i < 2^61`; at least one) and every
    plain modulus `1 ≤ t ≤ Q = Π q_i`, `t + 1 < 2^64` (what the earlier rungs of `validate` establish: `2 ≤ t < 2^60`, `t < Q`), the GENERATED code returns
    `Δ mod q_i` with `Δ = ⌊Q/t⌋` (operands of `coeff_div_plain_modulus`), `(Q mod t) mod q_i` (`upper_half_increment`), `q_i − t` for each prime if every
    `q_i > t` and otherwise the limbs of the multi-word integer `Q − t` (`plain_upper_half_increment`), the fast-lift flag, `Q mod t`
    (`coeff_modulus_mod_plain_modulus`) and `⌈t/2⌉` (`plain_upper_half_threshold`).  No hypothesis on the low word of `Q` (borrow), none relating `t` to the
    first prime.  For a single modulus the decomposition is the identity (the limb of `⌊Q/t⌋`, of `Q mod t`). -/
theorem gen_validate_bfv_consts_eq {ms : List Modulus} {qs : List Nat} {t : Nat} {c0 u0 p0 : List Nat}
    (hms : ms.map (·.value) = qs) (hw : ∀ m ∈ ms, m.WF) (hk : 1 ≤ qs.length) (ht1 : 1 ≤ t) (ht : t + 1 < 2^64) (htQ : t ≤ prodL qs) :
    GenX.validate_bfv_consts ms t (fromNat qs.length (prodL qs)) c0 u0 p0 =
      .ok ((if 1 < qs.length then qs.map (fun q => prodL qs / t % q) else fromNat qs.length (prodL qs / t)),
           (if 1 < qs.length then qs.map (fun q => prodL qs % t % q) else fromNat qs.length (prodL qs % t)),
           (if qs.all (fun q => decide (t < q)) then qs.map (fun q => q - t) else fromNat qs.length (prodL qs - t)),
           (if qs.all (fun q => decide (t < q)) then 1 else 0), prodL qs % t, (t + 1) / 2) :=
  HC.gcx_validate_bfv_consts_values hms hw hk ht1 ht htQ

/-- … in particular, when some prime does not exceed `t` (no fast plain lift), `plain_upper_half_increment` IS the multi-word integer `Q − t`
    (`k` limbs, value `Q − t`) for every chain — whether or not the subtraction borrows from the upper limbs -/
theorem gen_plain_upper_half_increment_multiword {ms : List Modulus} {qs : List Nat} {t : Nat} {c0 u0 p0 : List Nat}
    (hms : ms.map (·.value) = qs) (hw : ∀ m ∈ ms, m.WF) (hk : 1 ≤ qs.length) (ht1 : 1 ≤ t) (ht : t + 1 < 2^64) (htQ : t ≤ prodL qs)
    (hslow : qs.all (fun q => decide (t < q)) = false) :
    ∃ cdp uhi puhi qmt puht, GenX.validate_bfv_consts ms t (fromNat qs.length (prodL qs)) c0 u0 p0 = .ok (cdp, uhi, puhi, 0, qmt, puht) ∧
      puhi.length = qs.length ∧ Limbs puhi ∧ toNat puhi = prodL qs - t ∧ qmt = prodL qs % t := by
  refine ⟨_, _, _, _, _, by rw [HC.gcx_validate_bfv_consts_values hms hw hk ht1 ht htQ, hslow]; rfl, fromNat_length _ _, fromNat_limbs _ _, ?_, rfl⟩
  have hlimb : Limbs qs := by
    intro x hx
    rw [← hms] at hx
    obtain ⟨m, hm, rfl⟩ := List.mem_map.mp hx
    have := (hw m hm).lt
    omega
  have hne : qs ≠ [] := by intro e; rw [e] at hk; simp at hk
  exact HC.gcx_toNat_fromNat_lt (Nat.lt_of_le_of_lt (Nat.sub_le _ _) (HC.gcx_prodL_lt hne hlimb))

/-- **generated constants = model constants on every valid BFV / BGV level** (and hence, with `constants_eq_definitions`, their definitions): if the
    model's `validate` accepts `p` with result `c`, then for the `Modulus` objects `ms` of the parameter set (values `p.q`, each well formed) the GENERATED
    statement ranges return exactly the fields of `c`, and the generated `MultiplyU64ModOperand::new` on `⌊Q/t⌋ mod q_i` gives entry `i` of
    `coeff_div_plain_modulus` -/
theorem gen_level_constants {isPrime : Nat → Bool} {p : Params} {sec : SecLevel} {c : ContextData}
    (h : validate isPrime p sec = .ok c) (hs : c.err = .Success) (hsch : p.scheme = .BFV ∨ p.scheme = .BGV)
    {ms : List Modulus} (hms : ms.map (·.value) = p.q) (hw : ∀ m ∈ ms, m.WF) (tot0 c0 u0 p0 : List Nat) :
    GenX.validate_total p.q tot0 = .ok (c.total, c.totalBits) ∧
    GenX.validate_bfv_consts ms p.t c.total c0 u0 p0 =
      .ok (c.coeffDivPlain.map (·.operand), c.upperHalfIncrement, c.plainUpperHalfIncrement, (if c.fastLift then 1 else 0), c.qModT,
           c.plainUpperHalfThreshold) ∧
    List.Forall₂ (fun m o => GenW.mulop_new (prodL p.q / p.t % m.value) m = .ok o) ms c.coeffDivPlain :=
  HC.gcx_level_constants h hs hsch hms hw tot0 c0 u0 p0

/-- **source to mathematics, CKKS constants** (`GenX.validate_ckks_consts`: the range from `c.plain_upper_half_threshold = 1 << 63` to the end of the CKKS
    arm; `Modulus::reduce`, `multiply_u64_mod`, `increment_uint` = `add_uint_u64(.., 1, ..)` are GENERATED functions, `right_shift_uint_inplace` is the hand
    model `rightShiftUint`): for every chain of well-formed moduli (at least one), `plain_upper_half_increment[i] = −2^64 mod q_i`,
    `upper_half_threshold` = the limbs of `⌊(Q+1)/2⌋ = ⌈Q/2⌉`, `plain_upper_half_threshold = 2^63` -/
theorem gen_validate_ckks_consts_eq {ms : List Modulus} {qs p0 u0 : List Nat} (hms : ms.map (·.value) = qs) (hw : ∀ m ∈ ms, m.WF)
    (hk : 1 ≤ qs.length) :
    GenX.validate_ckks_consts ms (fromNat qs.length (prodL qs)) p0 u0 =
      .ok (qs.map (fun q => (q - 2^64 % q) % q), fromNat qs.length ((prodL qs + 1) / 2), 2^63) :=
  HC.gcx_validate_ckks_consts_values hms hw hk

/-- generated constants = model constants on every valid CKKS level -/
theorem gen_level_constants_ckks {isPrime : Nat → Bool} {p : Params} {sec : SecLevel} {c : ContextData}
    (h : validate isPrime p sec = .ok c) (hs : c.err = .Success) (hsch : p.scheme = .CKKS)
    {ms : List Modulus} (hms : ms.map (·.value) = p.q) (hw : ∀ m ∈ ms, m.WF) (tot0 p0 u0 : List Nat) :
    GenX.validate_total p.q tot0 = .ok (c.total, c.totalBits) ∧
    GenX.validate_ckks_consts ms c.total p0 u0 = .ok (c.plainUpperHalfIncrement, c.upperHalfThreshold, c.plainUpperHalfThreshold) :=
  HC.gcx_level_constants_ckks h hs hsch hms hw tot0 p0 u0

/-! non-vacuity / witnesses of the constants theorems above (the generated code EVALUATED by the kernel) -/

/-- the `Modulus` object `Modulus::new(q)` builds -/
def mkMod (q : Nat) : Modulus := ⟨q, (2^128 / q) % B64, (2^128 / q) / B64, 2^128 % q, bitCount q⟩
theorem mkMod_wf {q : Nat} (h2 : 2 ≤ q) (h61 : q < 2^61) : (mkMod q).WF ∧ (mkMod q).value = q := by
  have : Modulus.mk? q = .ok (mkMod q) := by
    unfold Modulus.mk? mkMod
    rw [if_neg (by omega), if_neg (by rw [Nat.div_eq_of_lt h61]; omega)]
  exact Modulus.mk?_wf this (by omega)

/- BORROW: Q = 8589934721 · 8589934609 = 4·2^64 + 1254130452625 and t = 2^50 exceeds the low word of Q: the generated code returns the limbs
    (…, 3) of Q − t (the upper limb drops from 4 to 3) and Q mod t = the low word; t also exceeds both primes (no fast plain lift) -/
example : GenX.validate_total [8589934721, 8589934609] [] = .ok ([1254130452625, 4], 67) := by decide +kernel
set_option maxRecDepth 100000 in
example : GenX.validate_bfv_consts [mkMod 8589934721, mkMod 8589934609] (2^50) [1254130452625, 4] [] [] [] =
    .ok ([65536, 65536], [8589918080, 8589934320], [18445619427933161617, 3], 0, 1254130452625, 2^49) := by decide +kernel
example : (18445619427933161617 + 3 * 2^64 : Nat) = 8589934721 * 8589934609 - 2^50 := by decide +kernel
/- … and the hypotheses of `gen_validate_bfv_consts_eq` / `gen_plain_upper_half_increment_multiword` hold for it -/
example : ([mkMod 8589934721, mkMod 8589934609].map (·.value) = [8589934721, 8589934609]) ∧ (∀ m ∈ [mkMod 8589934721, mkMod 8589934609], m.WF) ∧
    (2:Nat)^50 ≤ prodL [8589934721, 8589934609] ∧ [8589934721, 8589934609].all (fun q => decide (2^50 < q)) = false := by
  refine ⟨rfl, ?_, by decide, by decide⟩
  intro m hm
  simp only [List.mem_cons, List.not_mem_nil, or_false] at hm
  rcases hm with rfl | rfl
  · exact (mkMod_wf (by decide) (by decide)).1
  · exact (mkMod_wf (by decide) (by decide)).1

/- t ABOVE THE FIRST PRIME with Q mod t ≥ q_0: q = (17, 41), t = 32, Q mod t = 25 ≥ 17; `coeff_modulus_mod_plain_modulus` is 25 (the remainder BEFORE the
    decomposition), `upper_half_increment` is (25 mod 17, 25 mod 41) = (8, 25) -/
set_option maxRecDepth 100000 in
example : GenX.validate_bfv_consts [mkMod 17, mkMod 41] 32 [697, 0] [] [] [] = .ok ([4, 21], [8, 25], [665, 0], 0, 25, 16) := by decide +kernel
/- fast plain lift (every prime above t): per-prime differences -/
set_option maxRecDepth 100000 in
example : GenX.validate_bfv_consts [mkMod 17, mkMod 41] 16 [697, 0] [] [] [] = .ok ([9, 2], [9, 9], [1, 25], 1, 9, 8) := by decide +kernel
/- a single modulus: `decompose` is the identity -/
set_option maxRecDepth 100000 in
example : GenX.validate_bfv_consts [mkMod 41] 16 [41] [] [] [] = .ok ([2], [9], [25], 1, 9, 8) := by decide +kernel
/- CKKS: q = (17, 41): −2^64 mod q = (16, 25), ⌈697/2⌉ = 349; and the two-limb product of the borrow chain: ⌈Q/2⌉ = (627065226313, 2) -/
set_option maxRecDepth 100000 in
example : GenX.validate_ckks_consts [mkMod 17, mkMod 41] [697, 0] [] [] = .ok ([16, 25], [349, 0], 2^63) := by decide +kernel
set_option maxRecDepth 100000 in
example : (GenX.validate_ckks_consts [mkMod 8589934721, mkMod 8589934609] [1254130452625, 4] [] []).map (fun r => r.2) =
    .ok ([627065226313, 2], 2^63) := by decide +kernel
/-- `gen_level_constants`: a level accepted by the model whose constants need the borrow (both toy primes are ≡ 1 mod 8, t = 2^50 above them) -/
def toyPrime2 (v : Nat) : Bool :=
  [8589934721, 8589934609, 2305843009213693921, 2305843009213693561, 2305843009213693193, 2305843009213693153].contains v
set_option maxRecDepth 100000 in
example : (validate toyPrime2 ⟨.BFV, 4, [8589934721, 8589934609], 2^50, false⟩ .None).map (fun c => (c.err, c.plainUpperHalfIncrement, c.qModT, c.fastLift))
    = .ok (.Success, [18445619427933161617, 3], 1254130452625, false) := by decide +kernel
/- outside the hypotheses the generated code does what the source does: `t = 0` divides by zero, an empty chain indexes out of bounds,
    `t = 2^64 − 1` overflows in `t + 1`, and `t > Q` wraps (all excluded by earlier rungs of `validate`) -/
example : GenX.validate_bfv_consts [mkMod 17, mkMod 41] 0 [697, 0] [] [] [] = .error .other := by decide +kernel
example : GenX.validate_bfv_consts [] 5 [] [] [] [] = .error .oob := by decide +kernel
example : GenX.validate_bfv_consts [mkMod 17, mkMod 41] (2^64 - 1) [697, 0] [] [] [] = .error .overflow := by decide +kernel
set_option maxRecDepth 100000 in
example : GenX.validate_bfv_consts [mkMod 17, mkMod 41] 1000 [697, 0] [] [] [] = .ok ([0, 0], [0, 0], [2^64 - 303, 2^64 - 1], 0, 697, 500) := by decide +kernel

/-! ### translator tie: `create_next_context_data` (translated as a decision skeleton over PRIME COUNTS: the next parameter set is the previous one with its last
     modulus popped, so a level of one context is identified by its number of primes; `valid[n] ≠ 0` ⇔ the prefix of length `n` validates; 0 = `PARMS_ID_ZERO`;
     Gen/ContextFns.lean `GenX.create_next_context_data`) and the shape of the chain.  Proofs/GenCtxChain.lean.
     The choice of the first data level in `HeContext::new` is translated too (`GenX.new_first`, `gen_new_first_eq`); the `while` loop that expands the chain is
     NOT (a `while` nested in an `if`; see notes/work7-T.md). -/

/-- generated = model for `create_next_context_data`: same verdict (prime count of the new level, appended to the trace of created levels; or 0) -/
theorem gen_create_next_eq {isPrime : Nat → Bool} {prev : Params} {sec : SecLevel} {o : Option ContextData}
    (h : createNext isPrime prev sec = .ok o) {valid : List Nat} (hv : prev.q.length - 1 < valid.length)
    (hval : valid.getD (prev.q.length - 1) 0 ≠ 0 ↔ ∃ c, validate isPrime (dropLastP prev) sec = .ok c ∧ c.valid = true) (chain : List Nat) :
    GenX.create_next_context_data prev.q.length valid chain = .ok (HC.gcx_nextResult chain o) := HC.gcx_create_next_eq h hv hval chain

/-- with a single modulus left the code would call `set_coeff_modulus(&[])` (a panic); generated skeleton and model both refuse -/
theorem gen_create_next_refuses (valid chain : List Nat) (isPrime : Nat → Bool) (p : Params) (sec : SecLevel) (h1 : p.q.length = 1) :
    GenX.create_next_context_data 1 valid chain = .error .refused ∧ ∀ o, createNext isPrime p sec ≠ .ok o := by
  refine ⟨rfl, fun o ho => ?_⟩
  have := (HC.Ctx.Chain.createNext_ok ho).1
  omega

/-- generated = model for the CHOICE OF THE FIRST DATA LEVEL in `HeContext::new` (the statement `let first_parms_id = if <key invalid || one modulus || special
    prime> { key } else { .. create_next_context_data(..) .. }`, translated after the desugaring `let x = if c {a} else {b}` ≡ `let mut x; if c {x = a} else {x = b}`;
    `GenX.new_first`): the trace of created levels stays as it is exactly when the model takes first = key, else it receives the prime count of the new level -/
theorem gen_new_first_eq {isPrime : Nat → Bool} {p : Params} {sec : SecLevel} {key : ContextData} {o : Option ContextData}
    (ho : (if !key.valid || p.q.length == 1 || p.special then (pure none : R (Option ContextData)) else createNext isPrime p sec) = .ok o)
    {valid : List Nat} (hv : p.q.length < valid.length)
    (hk : valid.getD p.q.length 0 ≠ 0 ↔ key.valid = true)
    (hval : valid.getD (p.q.length - 1) 0 ≠ 0 ↔ ∃ c, validate isPrime (dropLastP p) sec = .ok c ∧ c.valid = true) (chain : List Nat) :
    GenX.new_first p.q.length valid p.special chain = .ok (HC.gcx_nextResult chain o).1 := HC.gcx_new_first_eq ho hv hk hval chain

/- evaluated: key level valid, two moduli, no special prime, prefix valid → the level with one prime is created; special prime → not; prefix invalid → not -/
example : GenX.new_first 2 [0, 1, 1] false [] = .ok [1] ∧ GenX.new_first 2 [0, 1, 1] true [] = .ok [] ∧ GenX.new_first 2 [0, 0, 1] false [] = .ok [] ∧
    GenX.new_first 1 [0, 1] false [] = .ok [] ∧ GenX.new_first 2 [0, 1, 0] false [] = .ok [] := by decide +kernel

/-- **level `i` of the chain carries the first `K − i` primes** of the key level's `K` (all other parameters unchanged), and
    `prime count − 1 = chain_index + (K − L)` with `L` the number of levels: the chain index equals the prime count minus one only on complete chains -/
theorem chain_level_primes {isPrime : Nat → Bool} {p : Params} {expand : Bool} {sec : SecLevel} {x : Context}
    (h : Context.new isPrime p expand sec = .ok x) (hK : 1 ≤ p.q.length) {i : Nat} {c : ContextData} (hi : x.levels[i]? = some c) :
    c.parms = { p with q := p.q.take (p.q.length - i) } ∧ c.parms.q.length = p.q.length - i ∧ i < p.q.length ∧
    x.levels.length ≤ p.q.length ∧
    c.parms.q.length - 1 = x.chainIndex i + (p.q.length - x.levels.length) := HC.gcx_chain_level_primes h hK hi

/-- … counted from the first data level: the level `j` positions below it has the first `k − j` primes, `k` the first level's count -/
theorem chain_from_first {isPrime : Nat → Bool} {p : Params} {expand : Bool} {sec : SecLevel} {x : Context}
    (h : Context.new isPrime p expand sec = .ok x) (hK : 1 ≤ p.q.length) {j : Nat} {f c : ContextData}
    (hf : x.levels[x.firstIdx]? = some f) (hc : x.levels[x.firstIdx + j]? = some c) :
    c.parms.q = f.parms.q.take (f.parms.q.length - j) ∧ c.parms.q.length = f.parms.q.length - j := HC.gcx_chain_from_first h hK hf hc

/- a SHORT chain: BFV, q = (17, 41), t = 32: the key level is valid (t < 697) but the prefix (17) is not (t ≥ 17): one level, chain index 0, two primes;
   with t = 16 the chain is complete: two levels, the key level has chain index 1 = prime count − 1 -/
set_option maxRecDepth 100000 in
example : (Context.new toyPrime ⟨.BFV, 4, [17, 41], 32, false⟩ true .None).map (fun x => (x.levels.map (fun c => c.parms.q), x.firstIdx, x.chainIndex 0))
    = .ok ([[17, 41]], 0, 0) := by decide +kernel
set_option maxRecDepth 100000 in
example : (Context.new toyPrime ⟨.BFV, 4, [17, 41], 16, false⟩ true .None).map (fun x => (x.levels.map (fun c => c.parms.q), x.firstIdx, x.chainIndex 0))
    = .ok ([[17, 41], [17]], 1, 1) := by decide +kernel
example : GenX.create_next_context_data 2 [0, 0, 1] [] = .ok ([], 0) ∧ GenX.create_next_context_data 2 [0, 1, 1] [] = .ok ([1], 1) := by decide +kernel

/-! ### the security table of the code IS the published standard -/

/-- `CoeffModulus::max_bit_count` as regenerated from src/util/he_standard_params.rs / src/modulus.rs equals, for every security level and
    EVERY degree, the bound of the HomomorphicEncryption.org standard for ternary secrets (`Spec.Ctx.heStandardTernary`, written down
    independently of the code); so "total size within the requested security standard" in `validate_sound` refers to the standard itself -/
theorem gen_security_table_is_the_standard (sec : Gen.SecurityLevel) (n : Nat) :
    Gen.maxBitCount sec n = Spec.Ctx.heStandardTernary sec n := by
  cases sec
  · rfl
  · show Gen.he_standard_params_128_tc n = Spec.Ctx.heStd128 n
    unfold Gen.he_standard_params_128_tc Spec.Ctx.heStd128; split <;> first | rfl | (split <;> first | rfl | contradiction)
  · show Gen.he_standard_params_192_tc n = Spec.Ctx.heStd192 n
    unfold Gen.he_standard_params_192_tc Spec.Ctx.heStd192; split <;> first | rfl | (split <;> first | rfl | contradiction)
  · show Gen.he_standard_params_256_tc n = Spec.Ctx.heStd256 n
    unfold Gen.he_standard_params_256_tc Spec.Ctx.heStd256; split <;> first | rfl | (split <;> first | rfl | contradiction)

/-- the standard is monotone in the requested security for every degree it covers (sanity of the transcription) -/
theorem standard_monotone : ∀ n ∈ Spec.Ctx.heStandardDegrees,
    Spec.Ctx.heStandardTernary .Tc256 n < Spec.Ctx.heStandardTernary .Tc192 n ∧ Spec.Ctx.heStandardTernary .Tc192 n < Spec.Ctx.heStandardTernary .Tc128 n := by
  decide

end HC.C13
