import Heathcliff.Proofs.C01E
import Heathcliff.Proofs.C01L
import Heathcliff.Proofs.C01Q
import Heathcliff.Proofs.C01QW
import Heathcliff.Proofs.C01P
import Heathcliff.Proofs.C01O
import Heathcliff.Proofs.C01J
import Heathcliff.Proofs.C01V
import Heathcliff.Proofs.C01X
import Heathcliff.Proofs.C01Y
import Heathcliff.Proofs.GenScalingSpec
import Heathcliff.Proofs.GenDecW
import Heathcliff.Proofs.GenRnsDecrypt
import Heathcliff.Proofs.GenContextC01

/- Property theorems only (proofs are the helper lemmas of Heathcliff/Proofs). -/
namespace HC.C01
open HC
open Finset
variable {R : Type} [CommRing R]

/-- it is the nearest integer to q·m/t (ties up):  ⌊(q·m + ⌊(t+1)/2⌋)/t⌋ -/
theorem deltaM_eq (q t m : Nat) (ht : 0 < t) : deltaM q t m = (q * m + (t + 1) / 2) / t := HC.deltaM_eq q t m ht

/-- |t·Δ(m) − q·m| ≤ t/2 + 1/2, i.e. the rounding error of the scaling is at most (t+1)/2 -/
theorem deltaM_err (q t m : Nat) (ht : 0 < t) :
    ((t * deltaM q t m : Nat) : Int) - (q * m : Nat) ≤ (t + 1) / 2 ∧ (q * m : Nat) - ((t * deltaM q t m : Nat) : Int) ≤ t / 2 := HC.deltaM_err q t m ht

/-- BFV SCALE ROUND TRIP: for every q, t ≥ 2, m < t and every noise v with 2·t·(|v| + 1) < q:
    decoding (Δ(m) + v) mod q — centred lift, multiply by t, divide by q with rounding, reduce mod t — returns m.
    Covers upper-half values, q mod t ≠ 0, t a power of two, t larger than a prime factor of q. -/
theorem bfv_scale_round_trip {q t m : Nat} {v : Int} (ht : 2 ≤ t) (hm : m < t) (hv : 2 * t * (v.natAbs + 1) < q) :
    Spec.imod (Spec.roundDiv (t * Spec.centred (Spec.imod ((deltaM q t m : Int) + v) q) q) q) t = m := HC.bfv_scale_round_trip ht hm hv

/-- BGV ROUND TRIP: phase = lift(m) + t·v with |lift(m) + t·v| < q/2 decodes (centred mod q, then mod t) to m -/
theorem bgv_round_trip {q t m : Nat} {v : Int} (ht : 2 ≤ t) (hm : m < t) (hq : 2 * (t * (v.natAbs + 1)) < q) :
    Spec.imod (Spec.centred (Spec.imod (bgvLift t m + t * v) q) q) t = m := HC.bgv_round_trip ht hm hq

/-- public-key encryption: pk = (−(a·s + e), a), ct = (pk0·u + e0 + M, pk1·u + e1): phase = M − e·u + e0 + e1·s -/
theorem phase_fresh_pk (a s e u e0 e1 M : R) :
    ((-(a * s + e)) * u + e0 + M) + (a * u + e1) * s = M - e * u + e0 + e1 * s := HC.phase_fresh_pk a s e u e0 e1 M

/-- secret-key encryption: ct = (−(a·s + e) + M, a): phase = M − e -/
theorem phase_fresh_sk (a s e M : R) : (-(a * s + e) + M) + a * s = M - e := HC.phase_fresh_sk a s e M

/-- BGV variants: errors enter multiplied by t -/
theorem phase_fresh_pk_bgv (a s e u e0 e1 M t : R) :
    ((-(a * s + t * e)) * u + t * e0 + M) + (a * u + t * e1) * s = M + t * (- e * u + e0 + e1 * s) := HC.phase_fresh_pk_bgv a s e u e0 e1 M t

/-- ‖a·b mod (X^n+1)‖∞ ≤ n·‖a‖∞·‖b‖∞ for integer coefficient vectors (negMulR over ℤ) -/
theorem negMul_norm_le (n : Nat) (a b : Nat → Int) (A B : Nat)
    (ha : ∀ i, i < n → (a i).natAbs ≤ A) (hb : ∀ i, i < n → (b i).natAbs ≤ B) :
    ∀ c, c < n → (negMulR n a b c).natAbs ≤ n * A * B := HC.negMul_norm_le n a b A B ha hb

/-- FRESH NOISE: with ternary u, s (‖·‖ ≤ 1) and errors bounded by 21 (C16: `cbd_bound`) the fresh public-key noise
    −e·u + e0 + e1·s has infinity norm ≤ 21·(2n + 1); the secret-key noise ≤ 21 -/
theorem fresh_noise_bound (n : Nat) (e u e0 e1 s : Nat → Int)
    (he : ∀ i, i < n → (e i).natAbs ≤ 21) (he0 : ∀ i, i < n → (e0 i).natAbs ≤ 21) (he1 : ∀ i, i < n → (e1 i).natAbs ≤ 21)
    (hu : ∀ i, i < n → (u i).natAbs ≤ 1) (hs : ∀ i, i < n → (s i).natAbs ≤ 1) :
    ∀ c, c < n → (- negMulR n e u c + e0 c + negMulR n e1 s c).natAbs ≤ 21 * (2 * n + 1) := HC.fresh_noise_bound n e u e0 e1 s he he0 he1 hu hs

theorem decrypt_fresh_bfv {n q t m : Nat} {v : Int} (ht : 2 ≤ t) (hm : m < t) (hok : FreshOK n t q)
    (hv : v.natAbs ≤ 21 * (2 * n + 1)) :
    Spec.imod (Spec.roundDiv (t * Spec.centred (Spec.imod ((deltaM q t m : Int) + v) q) q) q) t = m := HC.decrypt_fresh_bfv ht hm hok hv

/-- MODEL LINK: the coefficient `multiply_add_plain` adds in component j is Δ(m) mod q_j, for a well-formed modulus and
    the context constants ⌊Q/t⌋ mod q_j (as Harvey operand), Q mod t, ⌊(t+1)/2⌋ -/
theorem multiplyAddPlain_coeff {mq : Modulus} (hq : mq.WF) {Q t m d : Nat} (ht : 2 ≤ t) (ht64 : t < 2^61) (hm : m < t)
    (hd : d < mq.value) {op : MulOperand} (hop : WFOp mq op) (hopv : op.operand = (Q / t) % mq.value) :
    (do
      let lo := mulLo m (Q % t)
      let hi := mulHi m (Q % t)
      let (n0, carry) := addU64 lo ((t + 1) / 2)
      let n1 ← ckAdd hi carry
      let fix := ((n0 + B64 * n1) / t) % B64
      let sc ← mulOperandAddMod m op fix mq
      addMod d sc mq) = .ok ((d + deltaM Q t m) % mq.value) := HC.multiplyAddPlain_coeff hq ht ht64 hm hd hop hopv

/-- correction factor (BGV): decoding multiplies by cf^{-1} mod t.  The statement for arbitrarily large t is false only because the
    *spec-side* Euclid loop has bounded fuel (refuted in Proofs/C01J.lean); it is proved for every t < 2^199 (the library has t < 2^61). -/
theorem bgv_round_trip_cf_bounded {q t m cf : Nat} {v : Int} (ht : 2 ≤ t) (ht199 : t < 2 ^ 199) (hm : m < t) (hcf : Nat.Coprime cf t)
    (hq : 2 * (t * (v.natAbs + 1)) < q) {x : Int} (hx : x = bgvLift t ((cf * m) % t) + t * v) :
    (Spec.imod (Spec.centred (Spec.imod x q) q) t * Spec.invMod cf t) % t = m :=
  HC.bgv_round_trip_cf_bounded ht ht199 hm hcf hq hx

/-- non-vacuity of the BFV round trip: q = 2^40, t = 17, m = 16 (upper half), v = -3 -/
example : 2 * 17 * ((-3 : Int).natAbs + 1) < 2^40 := by decide


/-- MODEL LINK (decryption phase, NTT form, size 2): for a well-formed level, canonical operands and a full-length secret key the
    model of `dot_product_ct_sk_array` returns, in every RNS component, the NTT of c0 + c1·s mod (X^N+1, q_i) — the polynomial
    `Spec.phase` evaluates with big integers.  (`Level.WF`, `RnsCanon`, `skRes` are defined in Proofs/C01O.lean.) -/
theorem dotProduct_size2_ntt {l : Level} (hl : l.WF) {sk : Array Int} (hsk : sk.size = l.n) {c0 c1 : RnsPoly}
    (h0 : RnsCanon l c0) (h1 : RnsCanon l c1) :
    ∃ ph, dotProductCtSk l sk ⟨#[c0, c1], true, 1⟩ = .ok ph ∧ RnsCanon l ph ∧
      ∀ i, i < l.size → ∀ j, j < l.n →
        (intt (l.tbl i) (ph.getD i #[])).getD j 0 =
          ((intt (l.tbl i) (c0.getD i #[])).getD j 0 +
            negMulNat l.n (l.q i).value (intt (l.tbl i) (c1.getD i #[])) (skRes l sk i) j) % (l.q i).value :=
  HC.dotProduct_size2_ntt hl hsk h0 h1

/-- … and for coefficient-form (BFV) ciphertexts the model returns c0 + c1·s mod (X^N+1, q_i) in coefficient form -/
theorem dotProduct_size2_coeff {l : Level} (hl : l.WF) {sk : Array Int} (hsk : sk.size = l.n) {c0 c1 : RnsPoly}
    (h0 : RnsCanon l c0) (h1 : RnsCanon l c1) :
    ∃ ph, dotProductCtSk l sk ⟨#[c0, c1], false, 1⟩ = .ok ph ∧ RnsCanon l ph ∧
      ∀ i, i < l.size → ∀ j, j < l.n →
        (ph.getD i #[]).getD j 0 =
          ((c0.getD i #[]).getD j 0 + negMulNat l.n (l.q i).value (c1.getD i #[]) (skRes l sk i) j) % (l.q i).value :=
  HC.dotProduct_size2_coeff hl hsk h0 h1


/-! ### decryption of the model = exact-integer spec (BFV and BGV), refusals
    (statements, hypothesis bundles and non-vacuity instances: Heathcliff/Proofs/C01P.lean, section "Property theorems") -/

/-- MAIN (BFV, size 2, coefficient form): the model's `bfvDecrypt` equals the exact-integer specification
    `trim (bfvDecode t Q (phase …))`, under the BEHZ γ-condition on the exact phase -/
theorem bfvDecrypt_size2_eq_spec : type_of% @HC.bfvDecrypt_size2_eq_spec := @HC.bfvDecrypt_size2_eq_spec

/-- MAIN (BGV, size 2, NTT form, any correction factor cf < 2^63 coprime to t): the model's `bgvDecrypt` equals the
    exact-integer specification on the coefficient forms of the input polynomials; ties x̃ = Q/2 excluded -/
theorem bgvDecrypt_size2_eq_spec : type_of% @HC.bgvDecrypt_size2_eq_spec := @HC.bgvDecrypt_size2_eq_spec

/-- BFV decryption refuses NTT-form ciphertexts -/
theorem bfvDecrypt_refuses_ntt : type_of% @HC.bfvDecrypt_refuses_ntt := @HC.bfvDecrypt_refuses_ntt

/-- BGV decryption refuses coefficient-form ciphertexts -/
theorem bgvDecrypt_refuses_coeff : type_of% @HC.bgvDecrypt_refuses_coeff := @HC.bgvDecrypt_refuses_coeff

/-- both refuse ciphertexts with fewer than two polynomials -/
theorem bfvDecrypt_refuses_small : type_of% @HC.bfvDecrypt_refuses_small := @HC.bfvDecrypt_refuses_small

theorem bgvDecrypt_refuses_small : type_of% @HC.bgvDecrypt_refuses_small := @HC.bgvDecrypt_refuses_small

/-- BFV decryption refuses when the tool has no plain-modulus constants (built with t = 0, the CKKS case) -/
theorem bfvDecrypt_refuses_noT : type_of% @HC.bfvDecrypt_refuses_noT := @HC.bfvDecrypt_refuses_noT

/-- BGV decryption (size 2, NTT form) refuses a correction factor that is not invertible modulo t -/
theorem bgvDecrypt_size2_refuses_cf : type_of% @HC.bgvDecrypt_size2_refuses_cf := @HC.bgvDecrypt_size2_refuses_cf

theorem bfvDecrypt_eq_spec_of_phase : type_of% @HC.bfvDecrypt_eq_spec_of_phase := @HC.bfvDecrypt_eq_spec_of_phase

theorem bgvDecrypt_eq_spec_of_phase : type_of% @HC.bgvDecrypt_eq_spec_of_phase := @HC.bgvDecrypt_eq_spec_of_phase

/-- the hypothesis `hres` of `bfvDecrypt_eq_spec_of_phase` is what C01O proves for size 2 (so the general theorem
    specialises to `bfvDecrypt_size2_eq_spec`; non-vacuity of `hres`) -/
theorem c01p_hres_size2 : type_of% @HC.c01p_hres_size2 := @HC.c01p_hres_size2

/-- NON-VACUITY of `DecOK`: a level whose tool was built by the model's constructors (`RNSBase.new` on the level's moduli,
    then `RNSTool.new` with the level's degree and plain modulus) satisfies `DecOK` -/
theorem c01p_decOK_of_new : type_of% @HC.c01p_decOK_of_new := @HC.c01p_decOK_of_new

/-- NON-VACUITY of `Level.WF` (C01O): tables built by `NTTTables.new` for the level's moduli -/
theorem c01p_levelWF_of_new : type_of% @HC.c01p_levelWF_of_new := @HC.c01p_levelWF_of_new

/-- all hypotheses of `bfvDecrypt_size2_eq_spec` hold simultaneously for a concrete level built by the model's
    constructors (the driver's level for N = 4, q = 97·113, t = 17) and a concrete ciphertext with non-zero noise -/
theorem c01p_hypotheses_satisfiable : type_of% @HC.c01p_hypotheses_satisfiable := @HC.c01p_hypotheses_satisfiable


/-! ### general size, CKKS, and the driver's own level constructor: every level `Drv.Sch.mkLevel` builds satisfies all hypothesis bundles, and whenever the oracle commits the driver's model column equals its spec column
    (statements, hypothesis bundles and non-vacuity instances: Heathcliff/Proofs/C01Q.lean, section "Property theorems"; the BFV / BGV theorems for every size:
    Heathcliff/Proofs/C01P.lean) -/

/-- BFV, ANY size ≥ 2, coefficient form: the model's `bfvDecrypt` equals the exact-integer specification
    `trim (bfvDecode t Q (phase …))` under the BEHZ γ-condition on the exact phase; same hypotheses as
    `bfvDecrypt_size2_eq_spec` -/
theorem bfvDecrypt_eq_spec : type_of% @HC.bfvDecrypt_eq_spec := @HC.bfvDecrypt_eq_spec

/-- BGV, ANY size ≥ 2, NTT form, correction factor cf < 2^63 coprime to t: the model's `bgvDecrypt` equals the
    exact-integer specification on the coefficient forms of the input polynomials; ties x̃ = Q/2 excluded -/
theorem bgvDecrypt_eq_spec : type_of% @HC.bgvDecrypt_eq_spec := @HC.bgvDecrypt_eq_spec

/-- BGV decryption (any size ≥ 2, NTT form) refuses a correction factor ≠ 1 that is not invertible modulo t -/
theorem bgvDecrypt_refuses_cf : type_of% @HC.bgvDecrypt_refuses_cf := @HC.bgvDecrypt_refuses_cf

/-- CKKS, ANY size ≥ 2, NTT form: the model's `ckksDecrypt` returns exactly the NTT form of the exact phase
    `Spec.phase` (of the coefficient forms of the input) reduced modulo every q_i — the expression the driver's oracle evaluates.
    Needs no plain-modulus constants: only `Level.WF` and `c07s_LevelQ`. -/
theorem ckksDecrypt_eq_spec : type_of% @HC.ckksDecrypt_eq_spec := @HC.ckksDecrypt_eq_spec

/-- component form: the result is canonical, and the inverse transform of component i is the exact phase modulo q_i;
    the exact phase is the centred lift (all coefficients in (-Q/2, Q/2]) -/
theorem ckksDecrypt_intt_eq_phase : type_of% @HC.ckksDecrypt_intt_eq_phase := @HC.ckksDecrypt_intt_eq_phase

/-- CKKS decryption refuses coefficient-form ciphertexts -/
theorem ckksDecrypt_refuses_coeff : type_of% @HC.ckksDecrypt_refuses_coeff := @HC.ckksDecrypt_refuses_coeff

/-- CKKS decryption refuses ciphertexts with fewer than two polynomials -/
theorem ckksDecrypt_refuses_small : type_of% @HC.ckksDecrypt_refuses_small := @HC.ckksDecrypt_refuses_small

/-- all bundles at once, from `RNSBase.new`, `RNSTool.new`, `NTTTables.new` (bundle `c01q_Built` = literally these calls) -/
theorem level_bundles_of_constructors : type_of% @HC.level_bundles_of_constructors := @HC.level_bundles_of_constructors

/-- every level returned by the driver's `Drv.Sch.mkLevel` satisfies all hypothesis bundles of the end-to-end theorems —
    with NO hypothesis on the inputs (everything needed is checked by the constructors the driver calls) — and its fields are
    the driver's inputs.  The plain-modulus bundles (`DecOK`, `c05u_BgvOK`) need t ≠ 0 (for t = 0, the CKKS case, the tool has
    no such constants: see `mkLevel_t0`). -/
theorem mkLevel_ok : type_of% @HC.mkLevel_ok := @HC.mkLevel_ok

/-- with t = 0 the tool carries no plain-modulus constants, and BFV decryption at such a level refuses -/
theorem mkLevel_t0 : type_of% @HC.mkLevel_t0 := @HC.mkLevel_t0

/-- necessary conditions on the inputs (contrapositive = refusals of `mkLevel`): degree a power of two in [2, 2^17],
    between 1 and 64 moduli, each in [2, 2^61), ≡ 1 mod 2n, accepted by the Miller–Rabin test -/
theorem mkLevel_ok_inputs : type_of% @HC.mkLevel_ok_inputs := @HC.mkLevel_ok_inputs

/-- END TO END on the driver's objects (BFV): for the level the driver builds, the model's decryption equals the expression the
    driver's oracle `exactDec` evaluates (`trim (bfvDecode t (prodL qs) (exactPhase …))`), for every size ≥ 2, under the BEHZ
    γ-condition on the exact phase -/
theorem mkLevel_bfvDecrypt_eq_oracle : type_of% @HC.mkLevel_bfvDecrypt_eq_oracle := @HC.mkLevel_bfvDecrypt_eq_oracle

/-- END TO END on the driver's objects (BGV) -/
theorem mkLevel_bgvDecrypt_eq_oracle : type_of% @HC.mkLevel_bgvDecrypt_eq_oracle := @HC.mkLevel_bgvDecrypt_eq_oracle

/-- END TO END on the driver's objects (CKKS, any t): the model returns exactly the oracle's value -/
theorem mkLevel_ckksDecrypt_eq_oracle : type_of% @HC.mkLevel_ckksDecrypt_eq_oracle := @HC.mkLevel_ckksDecrypt_eq_oracle

/-- BFV: whenever the oracle commits to a value (`bfvSafe`) and the BEHZ γ-condition holds, the two strings the driver
    compares are equal -/
theorem driver_dec_bfv : type_of% @HC.driver_dec_bfv := @HC.driver_dec_bfv

/-- BGV: whenever the oracle commits to a value, the two strings are equal -/
theorem driver_dec_bgv : type_of% @HC.driver_dec_bgv := @HC.driver_dec_bgv

/-- CKKS: the two strings are equal for every canonical NTT-form ciphertext of size ≥ 2 -/
theorem driver_dec_ckks : type_of% @HC.driver_dec_ckks := @HC.driver_dec_ckks

/-- BFV, the driver's two columns: whenever the oracle commits to a value (`bfvSafe`), the model's output string equals the
    oracle's — for EVERY canonical coefficient-form ciphertext of size ≥ 2, with no further hypothesis (the oracle's safety
    margin 2^-40 implies the BEHZ γ-condition because γ > 2^60 and there are at most 64 moduli) -/
theorem driver_dec_bfv_safe : type_of% @HC.driver_dec_bfv_safe := @HC.driver_dec_bfv_safe

/-- BGV, the driver's two columns: whenever the oracle commits to a value, the model's output string equals the oracle's
    (the oracle's test excludes ties) -/
theorem driver_dec_bgv_safe : type_of% @HC.driver_dec_bgv_safe := @HC.driver_dec_bgv_safe

/-- all hypotheses of `mkLevel_bfvDecrypt_eq_oracle` hold simultaneously for a size-3 ciphertext on a level the driver builds -/
theorem c01q_hypotheses_satisfiable : type_of% @HC.c01q_hypotheses_satisfiable := @HC.c01q_hypotheses_satisfiable

/-! ### translator tie: `multiply_add_plain` (src/util/scaling_variant.rs) generated by tools/rs2lean.py into
    `Heathcliff/Gen/ScalingFns.lean` (`HC.GenS`); proofs in Proofs/GenScaling.lean, Proofs/GenScalingSpec.lean; see TRANSLATOR.md -/

/-- the flat buffer layout of the code (`destination[j * coeff_count + i]`) and the model's `RnsPoly` are inverse to each other -/
theorem flatten_unflatten (size n : Nat) (d : List Nat) (h : d.length = size * n) : flattenRns size n (unflattenRns size n d) = d :=
  HC.flatten_unflatten size n d h

/-- GENERATED = MODEL: `multiply_add_plain`, generated from the Rust source, run on the flat destination buffer, IS the hand model
    `multiplyAddPlain` on the corresponding `RnsPoly` (flattened again) — successes, the `assert!` refusal of a plaintext longer than
    the degree, and arithmetic traps (all overflows, on both sides).  The context getters are instantiated with the level's data. -/
theorem gen_multiply_add_plain_eq (l : Level) (cdp : Array MulOperand) (qModT upperHalf : Nat) (plain : Poly) (dest : List Nat)
    (hcdp : l.size ≤ cdp.size) (ht : l.t.value ≠ 0) (hq : qModT < 2^64)
    (hw : ∀ i, i < plain.size → plain.getD i 0 < 2^64) (hl : dest.length = l.size * l.n) (hB : dest.length < B64) :
    GenS.multiply_add_plain dest l.qs.toList plain.size l.n l.t cdp.toList upperHalf qModT plain.toList =
      Except.map (flattenRns l.size l.n) (multiplyAddPlain l cdp qModT upperHalf plain (unflattenRns l.size l.n dest)) :=
  HC.gz_multiply_add_plain_eq l cdp qModT upperHalf plain dest hcdp ht hq hw hl hB

/-- the second `assert!`: a coefficient count beyond the plaintext's data buffer is refused -/
theorem gen_multiply_add_plain_refuses_short (dest : List Nat) (cm : List Modulus) (pc N : Nat) (pm : Modulus) (cdp : List MulOperand)
    (uh qModT : Nat) (pd : List Nat) (h : pd.length < pc) :
    GenS.multiply_add_plain dest cm pc N pm cdp uh qModT pd = .error .refused :=
  HC.gz_multiply_add_plain_refuses_short dest cm pc N pm cdp uh qModT pd h

/-- ONE THEOREM from the Rust source to the arithmetic: the code generated from `multiply_add_plain`, on a buffer whose words under
    the plaintext are canonical, with the context constants of a BFV level (`ScalingOK`: well-formed moduli, 2 ≤ t < 2^61, Harvey
    operands of ⌊Q/t⌋ mod q_j; ⌊(t+1)/2⌋; Q mod t), adds Δ(m_i) = round(Q·m_i/t) modulo q_j to coefficient i of component j and
    leaves the other words unchanged -/
theorem gen_multiply_add_plain_spec {l : Level} {Q : Nat} {cdp : Array MulOperand} (h : ScalingOK l Q cdp) (plain : Poly) (dest : List Nat)
    (hp : plain.size ≤ l.n) (hm : ∀ i, i < plain.size → plain.getD i 0 < l.t.value)
    (hl : dest.length = l.size * l.n) (hB : dest.length < B64)
    (hd : ∀ j, j < l.size → ∀ i, i < plain.size → dest.getD (j * l.n + i) 0 < (l.q j).value) :
    GenS.multiply_add_plain dest l.qs.toList plain.size l.n l.t cdp.toList ((l.t.value + 1) / 2) (Q % l.t.value) plain.toList =
      .ok ((List.range (l.size * l.n)).map fun p =>
        if p % l.n < plain.size then (dest.getD p 0 + deltaM Q l.t.value (plain.getD (p % l.n) 0)) % (l.q (p / l.n)).value
        else dest.getD p 0) :=
  HC.gen_multiply_add_plain_spec h plain dest hp hm hl hB hd

/-- non-vacuity of `ScalingOK`: N = 2, moduli 97·113, t = 17 -/
theorem scalingOK_example : type_of% @HC.gz_ex_scalingOK := @HC.gz_ex_scalingOK

/-- … and of all hypotheses of `gen_multiply_add_plain_spec` at once: buffer [5, 6 | 7, 8], plaintext (16, 3) ↦ [39, 0 | 40, 21] -/
theorem gen_multiply_add_plain_example : type_of% @HC.gz_ex_multiply_add_plain := @HC.gz_ex_multiply_add_plain


/-! ### ENCRYPTION in the model (Heathcliff/Model/Encrypt.lean: `encryptZeroAsym`, `encryptZeroSym`, the level dispatch, `bfvEncrypt` /
    `bgvEncrypt` / `ckksEncrypt`, `expandSeed`); compared bit for bit with the code on `enc_op` lines.  Statements, hypothesis bundles:
    the encryption of zero (`PkRel`, `rnsOfInt`) Heathcliff/Proofs/C01E.lean, the BFV plaintext layer (`FreshEncOK`, `padPlain`) Proofs/C01I.lean,
    the two end-to-end statements Proofs/C01L.lean; concrete satisfiable instance: Proofs/C01EW.lean -/

/-- public key, coefficient form: polynomial k of `encryptZeroAsym` is (intt(pk_k) ⋆ u + e_k) mod q_i in every RNS component -/
theorem encryptZeroAsym_coeff : type_of% @HC.encryptZeroAsym_coeff := @HC.encryptZeroAsym_coeff

/-- secret key, coefficient form, with / without saved seed: c0 = −(c1 ⋆ s + e) mod q_i, c1 = coefficient form of the mask -/
theorem encryptZeroSym_coeff : type_of% @HC.encryptZeroSym_coeff := @HC.encryptZeroSym_coeff

/-- the ring identity `phase_fresh_pk` on integer coefficient functions, pulled back from ℤ[X]/(X^n+1) -/
theorem enc_pk_identity : type_of% @HC.c01e_pk_identity := @HC.c01e_pk_identity

/-- the exact phase (`Spec.phase`, the quantity the model's decryption computes: `dotProduct_size2_coeff`, `bfvDecrypt_size2_eq_spec`)
    of the model's fresh public-key ciphertext is −e·u + e0 + e1·s modulo Q -/
theorem encryptZeroAsym_phase : type_of% @HC.encryptZeroAsym_phase := @HC.encryptZeroAsym_phase

/-- … of the fresh secret-key ciphertext: −e modulo Q (both seed variants) -/
theorem encryptZeroSym_phase : type_of% @HC.encryptZeroSym_phase := @HC.encryptZeroSym_phase

/-- `multiplyAddPlain` on a whole canonical polynomial adds Δ(m_i) modulo q_j -/
theorem multiplyAddPlain_spec : type_of% @HC.multiplyAddPlain_spec := @HC.multiplyAddPlain_spec

/-- a phase ≡ Δ(m) + v (mod Q) with ‖v‖ ≤ B under the margin `FreshEncOK l B` is decrypted by the model to the padded plaintext -/
theorem decrypt_of_phase : type_of% @HC.c01e_decrypt_of_phase := @HC.c01e_decrypt_of_phase

/-- END TO END, BFV, PUBLIC KEY: `bfvDecrypt l sk (bfvEncrypt … m) = .ok (trimPlain (m padded to N))` for ternary u, s, errors ≤ 21,
    a public key that is an encryption of zero with error ≤ 21, plaintext coefficients < t, margin `FreshEncOK l (21(2N+1))` -/
theorem bfv_encrypt_decrypt_pk : type_of% @HC.bfv_encrypt_decrypt_pk := @HC.bfv_encrypt_decrypt_pk

/-- END TO END, BFV, SECRET KEY and SEED-COMPRESSED (expanded view) -/
theorem bfv_encrypt_decrypt_sk : type_of% @HC.bfv_encrypt_decrypt_sk := @HC.bfv_encrypt_decrypt_sk

/-- `expand_seed` of the seed-compressed object (c0, seed) is (c0, c1) when the seed expands to c1 (Rng model) -/
theorem expandSeed_toSeeded : type_of% @HC.expandSeed_toSeeded := @HC.expandSeed_toSeeded

/-- the modulus switch inside public-key encryption (special-prime / lower-level path) IS `modSwitchScaleNext` of the previous level
    (BFV, CKKS): C05's `modSwitchScaleNext_bfv_spec` / `_ckks_spec` and their phase consequences apply to it -/
theorem encDivideQLast_eq_modSwitch : type_of% @HC.encDivideQLast_eq_modSwitch := @HC.encDivideQLast_eq_modSwitch

/-! ### ENCRYPTION, every branch of the level dispatch (Proofs/C01E … C01L; concrete satisfiable instances of every hypothesis bundle: Proofs/C01LW.lean).
    `FreshZero l sk r ν`: the computation `r` yields a canonical size-2 ciphertext in the scheme's form with correction factor 1 whose exact
    phase is tt·ν modulo Q (tt = t for BGV, 1 otherwise).  Every branch of the level dispatch `encryptZeroInternal` is covered:
    public key without previous level (`_fresh_pk`), secret key / seeded (`_fresh_sk`), public key through the previous level
    (`_fresh_pk_prev`: special-prime path and lower levels) — each for BFV, CKKS and BGV. -/

/-- public key, NTT form (CKKS, BGV): coefficient form of polynomial k = (intt(pk_k) ⋆ u + tt·e_k) mod q_i in every component -/
theorem encryptZeroAsym_ntt : type_of% @HC.encryptZeroAsym_ntt := @HC.encryptZeroAsym_ntt

/-- secret key, NTT form (also the public key of every scheme): c1 = a, coefficient form of c0 = −(intt(a) ⋆ s + tt·e) mod q_i -/
theorem encryptZeroSym_ntt : type_of% @HC.encryptZeroSym_ntt := @HC.encryptZeroSym_ntt

/-- KEY GENERATION: the stored secret key made from the ternary sample is `skNtt` of the signed coefficients -/
theorem genSecretKey_eq_skNtt : type_of% @HC.genSecretKey_eq_skNtt := @HC.genSecretKey_eq_skNtt

/-- KEY GENERATION: `PkRel` is a THEOREM about the model's `genPublicKey` (= `KeyGenerator::create_public_key`, compared bit for bit on
    `keygen_op` lines): for every secret, mask and error polynomial the generated key is an encryption of zero with error tt·e -/
theorem genPublicKey_pkRel : type_of% @HC.genPublicKey_pkRel := @HC.genPublicKey_pkRel

/-- … and the relation of the key level holds at every level below it -/
theorem pkRel_lower : type_of% @HC.PkRel.lower := @HC.PkRel.lower

/-- ‖tt·e‖ ≤ tt·21 -/
theorem genPublicKey_error_bound : type_of% @HC.genPublicKey_error_bound := @HC.genPublicKey_error_bound

/-- phase of two polynomials whose residues are congruent to integer lifts -/
theorem phase_of_lift : type_of% @HC.c01g_phase_of_lift := @HC.c01g_phase_of_lift

/-- adding M to c0 adds M to the exact phase -/
theorem phase_add_c0 : type_of% @HC.c01g_phase_add_c0 := @HC.c01g_phase_add_c0

/-- ‖−e_pk⋆u + e0 + e1⋆s‖ ≤ 21(2N+1) -/
theorem pkNoise_bound : type_of% @HC.pkNoise_bound := @HC.pkNoise_bound

/-- `encryptZeroAsym` in the scheme's own form (all three schemes) is a fresh encryption of zero with noise `pkNoise` -/
theorem encryptZeroAsym_fresh : type_of% @HC.encryptZeroAsym_fresh := @HC.encryptZeroAsym_fresh

/-- `encryptZeroSym` in the scheme's own form (all three schemes, both seed variants): noise −e -/
theorem encryptZeroSym_fresh : type_of% @HC.encryptZeroSym_fresh := @HC.encryptZeroSym_fresh

/-- DISPATCH branch: public key, level without a previous level -/
theorem encryptZeroInternal_fresh_pk : type_of% @HC.encryptZeroInternal_fresh_pk := @HC.encryptZeroInternal_fresh_pk

/-- DISPATCH branch: secret key / seed-compressed, every level -/
theorem encryptZeroInternal_fresh_sk : type_of% @HC.encryptZeroInternal_fresh_sk := @HC.encryptZeroInternal_fresh_sk

/-- THE DIVISION STEP (`encDivideQLast`) maps a fresh zero at the previous level to a fresh zero at the level: q_L·ν' = ν + ρ,
    2‖ρ‖∞ ≤ slack·q_L·(1+‖s‖₁) (slack 1: BFV / CKKS rounding; 2: BGV t-compatible division) -/
theorem encDivideQLast_fresh : type_of% @HC.encDivideQLast_fresh := @HC.encDivideQLast_fresh

/-- DISPATCH branch: public key THROUGH THE PREVIOUS LEVEL (special-prime path of the first level, every lower level) -/
theorem encryptZeroInternal_fresh_pk_prev : type_of% @HC.encryptZeroInternal_fresh_pk_prev := @HC.encryptZeroInternal_fresh_pk_prev

/-- … with the standard bounds: ‖ν'‖∞ ≤ ⌊(2·21(2N+1) + slack·q_L(1+N)) / (2 q_L)⌋ -/
theorem encryptZeroInternal_fresh_pk_prev_bounded : type_of% @HC.encryptZeroInternal_fresh_pk_prev_bounded :=
  @HC.encryptZeroInternal_fresh_pk_prev_bounded

theorem spBound_le : type_of% @HC.spBound_le := @HC.spBound_le

/-- BFV on ANY fresh zero (any mode, any dispatch branch): decrypt ∘ encrypt = id under `FreshEncOK l B` -/
theorem bfv_encrypt_decrypt_of_fresh : type_of% @HC.bfv_encrypt_decrypt_of_fresh := @HC.bfv_encrypt_decrypt_of_fresh

/-- END TO END, BFV, PUBLIC KEY THROUGH THE SPECIAL PRIME (the default) with the explicit rounding term in the margin -/
theorem bfv_encrypt_decrypt_pk_sp : type_of% @HC.bfv_encrypt_decrypt_pk_sp := @HC.bfv_encrypt_decrypt_pk_sp

/-- BGV plaintext lift, fast path: ≡ centred lift of m modulo every q_i, canonical -/
theorem bgvLiftPlain_fast_spec : type_of% @HC.bgvLiftPlain_fast_spec := @HC.bgvLiftPlain_fast_spec

/-- BGV plaintext lift, multi-word path (`add_uint_u64` + `decompose_array`) -/
theorem bgvLiftPlain_multiword_spec : type_of% @HC.bgvLiftPlain_multiword_spec := @HC.bgvLiftPlain_multiword_spec

theorem bgvLiftPlain_spec : type_of% @HC.bgvLiftPlain_spec := @HC.bgvLiftPlain_spec

/-- a phase ≡ lift(m) + t·v, ‖v‖ ≤ B, 2t(B+1) < Q, is decrypted by the model (NTT form, cf = 1) to the padded plaintext -/
theorem bgv_decrypt_of_phase : type_of% @HC.c01i_bgv_decrypt_of_phase := @HC.c01i_bgv_decrypt_of_phase

/-- BGV on ANY fresh zero: decrypt ∘ encrypt = id, correction factor 1, under `FreshEncOKBgv l B` -/
theorem bgv_encrypt_decrypt_of_fresh : type_of% @HC.bgv_encrypt_decrypt_of_fresh := @HC.bgv_encrypt_decrypt_of_fresh

/-- END TO END, BGV: public key / secret key + seeded / public key through the special prime -/
theorem bgv_encrypt_decrypt_pk : type_of% @HC.bgv_encrypt_decrypt_pk := @HC.bgv_encrypt_decrypt_pk
theorem bgv_encrypt_decrypt_sk : type_of% @HC.bgv_encrypt_decrypt_sk := @HC.bgv_encrypt_decrypt_sk
theorem bgv_encrypt_decrypt_pk_sp : type_of% @HC.bgv_encrypt_decrypt_pk_sp := @HC.bgv_encrypt_decrypt_pk_sp

/-- CKKS on ANY fresh zero: decrypted RNS plaintext = plaintext + ONE integer noise vector ν in every RNS component -/
theorem ckks_encrypt_decrypt_of_fresh : type_of% @HC.ckks_encrypt_decrypt_of_fresh := @HC.ckks_encrypt_decrypt_of_fresh

/-- CKKS STATEMENT per mode, with the fresh bound on ‖ν‖∞ -/
theorem ckks_encrypt_decrypt_pk : type_of% @HC.ckks_encrypt_decrypt_pk := @HC.ckks_encrypt_decrypt_pk
theorem ckks_encrypt_decrypt_sk : type_of% @HC.ckks_encrypt_decrypt_sk := @HC.ckks_encrypt_decrypt_sk
theorem ckks_encrypt_decrypt_pk_sp : type_of% @HC.ckks_encrypt_decrypt_pk_sp := @HC.ckks_encrypt_decrypt_pk_sp


/-! ### END TO END ON THE DRIVER'S OWN OBJECTS (Proofs/C01U, C01V; the statements on ANY fresh zero and the integer plaintexts of CKKS: Proofs/C01I;
    concrete satisfiable instances of every hypothesis: Proofs/C01VW).
    No hypothesis bundle is left abstract: levels are what `Drv.Sch.mkLevel` returns, context constants are what the driver computes from
    their definitions (`Drv.C01E.bfvConsts`, `Drv.C01E.bgvIncr`), the public key is what the model's `genPublicKey` returns
    (`DrvCtx`), the call of `encrypt_zero_internal` is one of the admissible ones (`DrvMode`: public key at the head of the chain,
    public key through the previous level = special-prime path and every lower level, secret key / seed-compressed), the drawn
    polynomials are in their proved ranges (ternary, ‖e‖∞ ≤ 21), the plaintext is valid, and a decidable margin holds. -/

/-- `mkLevel` on a modulus list and on a prefix of it: same `Modulus` / `NTTTables` objects in the common positions, same plain
    modulus and scheme (`LevelPrefix`) -/
theorem mkLevel_prefix : type_of% @HC.mkLevel_prefix := @HC.mkLevel_prefix

/-- the whole bundle `PrevLevelOK` of the special-prime path for the levels on `qs` and `qs ++ [qL]` (only input hypothesis: a
    BGV context has t ≠ 0) -/
theorem mkLevel_prevLevelOK : type_of% @HC.mkLevel_prevLevelOK := @HC.mkLevel_prevLevelOK

/-- the BFV constants the driver computes (`bfvConsts`: Harvey operands of ⌊Q/t⌋ mod q_j) exist and satisfy `ScalingOK` -/
theorem bfvConsts_scalingOK : type_of% @HC.bfvConsts_scalingOK := @HC.bfvConsts_scalingOK

/-- the BGV lift constants the driver computes (`bgvIncr`: fast path iff every q_i > t) satisfy `BgvLiftOK` when t < Q -/
theorem bgvIncr_liftOK : type_of% @HC.bgvIncr_liftOK := @HC.bgvIncr_liftOK

/-- the generated public key of a `DrvCtx` is an encryption of zero with error tt·e, ‖e‖∞ ≤ 21 -/
theorem drvCtx_pkRel : type_of% @HC.DrvCtx.pkRel := @HC.DrvCtx.pkRel

/-- EVERY ADMISSIBLE CALL of `encrypt_zero_internal` on the driver's objects IS A FRESH ENCRYPTION OF ZERO within the bound of its mode:
    21(2N+1) (public key, head of the chain), ⌊(2·21(2N+1) + slack·q_L(1+N))/(2q_L)⌋ (through the previous level), 21 (secret key) -/
theorem drvMode_fresh {scheme : Scheme} {n t : Nat} {kqs : List Nat} {kl : Level} {sk : Array Int} {pk0 pk1 : RnsPoly}
    {lqs : List Nat} {l : Level} {mode : EncMode} {B : Nat}
    (hc : DrvCtx scheme n t kqs kl sk pk0 pk1) (hl : Drv.Sch.mkLevel scheme n lqs t = .ok l)
    (hm : DrvMode scheme n t kqs sk pk0 pk1 lqs l mode B) :
    ∃ ν : Nat → Int, FreshZero l sk (encryptZeroInternal l mode) ν ∧ ∀ c, c < l.n → (ν c).natAbs ≤ B := HC.drvMode_fresh hc hl hm

/-- the BFV margin from the inputs: 4·t·(B+1) ≤ Q implies `FreshEncOK l B` for the level `mkLevel` builds (γ > 2^60, ≤ 64 moduli) -/
theorem mkLevel_freshEncOK : type_of% @HC.mkLevel_freshEncOK := @HC.mkLevel_freshEncOK

/-- the BGV margin IS the input condition 2·t·(B+1) < Q -/
theorem mkLevel_freshEncOKBgv : type_of% @HC.mkLevel_freshEncOKBgv := @HC.mkLevel_freshEncOKBgv

/-- END TO END, BFV, ALL MODES AT ONCE: `bfvDecrypt l sk (bfvEncrypt … m) = m` (padded to N, trimmed) for every plaintext of length
    ≤ N with coefficients < t, under the decidable margin `FreshEncOK l B` of the mode's bound B -/
theorem drv_bfv_encrypt_decrypt {n t : Nat} {kqs : List Nat} {kl : Level} {sk : Array Int} {pk0 pk1 : RnsPoly}
    {lqs : List Nat} {l : Level} {mode : EncMode} {B : Nat}
    (hc : DrvCtx .bfv n t kqs kl sk pk0 pk1) (hl : Drv.Sch.mkLevel .bfv n lqs t = .ok l) (ht : t ≠ 0)
    (hm : DrvMode .bfv n t kqs sk pk0 pk1 lqs l mode B)
    {plain : Poly} (hp : plain.size ≤ n) (hpm : ∀ i, i < plain.size → plain.getD i 0 < t) (hok : FreshEncOK l B) :
    ∃ cdp ct, Drv.C01E.bfvConsts l lqs t = .ok cdp ∧
      bfvEncrypt l cdp (Spec.prodL lqs % t) ((t + 1) / 2) mode plain = .ok ct ∧
      bfvDecrypt l sk ct = .ok (trimPlain (padPlain n plain)) := HC.drv_bfv_encrypt_decrypt hc hl ht hm hp hpm hok

/-- `drv_bfv_encrypt_decrypt` with the margin on the inputs: 4·t·(B+1) ≤ Q -/
theorem drv_bfv_encrypt_decrypt_inputs : type_of% @HC.drv_bfv_encrypt_decrypt_inputs := @HC.drv_bfv_encrypt_decrypt_inputs

/-- END TO END, BGV, ALL MODES AT ONCE, lift constants chosen by the driver's own rule (fast / multi-word), fresh correction factor 1,
    margin 2·t·(B+1) < Q on the inputs -/
theorem drv_bgv_encrypt_decrypt {n t : Nat} {kqs : List Nat} {kl : Level} {sk : Array Int} {pk0 pk1 : RnsPoly}
    {lqs : List Nat} {l : Level} {mode : EncMode} {B : Nat}
    (hc : DrvCtx .bgv n t kqs kl sk pk0 pk1) (hl : Drv.Sch.mkLevel .bgv n lqs t = .ok l)
    (hm : DrvMode .bgv n t kqs sk pk0 pk1 lqs l mode B)
    {plain : Poly} (hp : plain.size ≤ n) (hpm : ∀ i, i < plain.size → plain.getD i 0 < t)
    (hok : 2 * (t * (B + 1)) < Spec.prodL lqs) :
    ∃ ct, bgvEncrypt l (Drv.C01E.bgvIncr lqs t).1 ((t + 1) / 2) (Drv.C01E.bgvIncr lqs t).2 mode plain = .ok ct ∧ ct.cf = 1 ∧
      bgvDecrypt l sk ct = .ok (trimPlain (padPlain n plain)) := HC.drv_bgv_encrypt_decrypt hc hl hm hp hpm hok

/-- CKKS on ANY fresh zero, OVER THE INTEGERS: plaintext encoding the integer polynomial M, 2(|M_c| + B) < Q: the exact phase (centred lift
    of the decryption) is EXACTLY M + ν, the decrypted residues are those of M + ν -/
theorem ckks_encrypt_decrypt_int_of_fresh : type_of% @HC.ckks_encrypt_decrypt_int_of_fresh := @HC.ckks_encrypt_decrypt_int_of_fresh

/-- the NTT-form RNS plaintext of an integer polynomial is canonical and its coefficient form is M modulo every q_i -/
theorem ckksPlainOfInt_spec : type_of% @HC.ckksPlainOfInt_spec := @HC.ckksPlainOfInt_spec

/-- END TO END, CKKS, ALL MODES AT ONCE, OVER THE INTEGERS: `ckksDecrypt (ckksEncrypt M) = M + ν` coefficient-wise (centred lift =
    the driver oracle's `exactPhase`; residues of the decrypted RNS plaintext), ‖ν‖∞ ≤ B -/
theorem drv_ckks_encrypt_decrypt {n t : Nat} {kqs : List Nat} {kl : Level} {sk : Array Int} {pk0 pk1 : RnsPoly}
    {lqs : List Nat} {l : Level} {mode : EncMode} {B : Nat}
    (hc : DrvCtx .ckks n t kqs kl sk pk0 pk1) (hl : Drv.Sch.mkLevel .ckks n lqs t = .ok l)
    (hm : DrvMode .ckks n t kqs sk pk0 pk1 lqs l mode B)
    {M : Array Int} (hMs : M.size = n) (hsmall : ∀ c, c < n → 2 * ((M.getD c 0).natAbs + B) < Spec.prodL lqs) :
    ∃ (ν : Nat → Int) (ct : Ct) (dec : RnsPoly), (∀ c, c < n → (ν c).natAbs ≤ B) ∧
      ckksEncrypt l mode (ckksPlainOfInt l M) = .ok ct ∧ ckksDecrypt l sk ct = .ok dec ∧ RnsCanon l dec ∧
      (∀ c, c < n → (Drv.Sch.exactPhase l lqs sk ct).getD c 0 = M.getD c 0 + ν c) ∧
      ∀ i, i < l.size → ∀ c, c < n → (intt (l.tbl i) (dec.getD i #[])).getD c 0 = Spec.imod (M.getD c 0 + ν c) (l.q i).value :=
  HC.drv_ckks_encrypt_decrypt hc hl hm hMs hsmall

/-- any fresh encryption of zero within the margin decrypts to the zero plaintext (BFV / BGV) -/
theorem bfv_decrypt_fresh_zero : type_of% @HC.bfv_decrypt_fresh_zero := @HC.bfv_decrypt_fresh_zero
theorem bgv_decrypt_fresh_zero : type_of% @HC.bgv_decrypt_fresh_zero := @HC.bgv_decrypt_fresh_zero

/-- the zero plaintext as the decryptor returns it -/
theorem trimPlain_padPlain_empty : type_of% @HC.trimPlain_padPlain_empty := @HC.trimPlain_padPlain_empty

/-- END TO END, `encrypt_zero_at` (every level, every mode): decrypts to `#[0]` (BFV; BGV with correction factor 1); CKKS: the centred
    lift of the decryption IS the noise ν, ‖ν‖∞ ≤ B, whenever 2B < Q -/
theorem drv_bfv_encrypt_zero_decrypt : type_of% @HC.drv_bfv_encrypt_zero_decrypt := @HC.drv_bfv_encrypt_zero_decrypt
theorem drv_bgv_encrypt_zero_decrypt : type_of% @HC.drv_bgv_encrypt_zero_decrypt := @HC.drv_bgv_encrypt_zero_decrypt
theorem drv_ckks_encrypt_zero_decrypt : type_of% @HC.drv_ckks_encrypt_zero_decrypt := @HC.drv_ckks_encrypt_zero_decrypt

/-! ### the SEED-COMPRESSED path end to end (Proofs/C01X; concrete instance with the driver's rejection sampler: Proofs/C01XW) -/

/-- with a saved seed, polynomial 1 of the symmetric encryption of zero IS the mask the seed expands to (either form) -/
theorem encryptZeroSym_seeded_shape : type_of% @HC.encryptZeroSym_seeded_shape := @HC.encryptZeroSym_seeded_shape
theorem encryptZeroInternal_seeded_shape : type_of% @HC.encryptZeroInternal_seeded_shape := @HC.encryptZeroInternal_seeded_shape

/-- … the plaintext layers touch polynomial 0 only -/
theorem bfvEncrypt_seeded_shape : type_of% @HC.bfvEncrypt_seeded_shape := @HC.bfvEncrypt_seeded_shape
theorem bgvEncrypt_seeded_shape : type_of% @HC.bgvEncrypt_seeded_shape := @HC.bgvEncrypt_seeded_shape
theorem ckksEncrypt_seeded_shape : type_of% @HC.ckksEncrypt_seeded_shape := @HC.ckksEncrypt_seeded_shape

/-- storing (c0, seed) and expanding restores the ciphertext whenever the seed expands to its polynomial 1 (`SeedExpands`) -/
theorem expandSeed_of_shape : type_of% @HC.expandSeed_of_shape := @HC.expandSeed_of_shape

/-- END TO END, SEED-COMPRESSED: the driver's pipeline for `mode = seed` — encrypt (expanded view), store (c0, seed), `expand_seed`,
    decrypt — returns the plaintext (BFV, BGV; CKKS: M + ν over the integers) -/
theorem drv_bfv_encrypt_decrypt_seeded {n t : Nat} {kqs : List Nat} {kl : Level} {sk : Array Int} {pk0 pk1 : RnsPoly}
    {lqs : List Nat} {l : Level} (hc : DrvCtx .bfv n t kqs kl sk pk0 pk1) (hl : Drv.Sch.mkLevel .bfv n lqs t = .ok l) (ht : t ≠ 0)
    {a : RnsPoly} {e : Array Int} (ha : RnsCanon l a) (hes : e.size = n) (he : ∀ p, p < n → (e.getD p 0).natAbs ≤ 21)
    (hs : seedSaved l true = true) {U : Rng.Uniform} {xof : Rng.Xof} {seed : Rng.Seed} (hx : SeedExpands U xof l seed a)
    {plain : Poly} (hp : plain.size ≤ n) (hpm : ∀ i, i < plain.size → plain.getD i 0 < t) (hok : FreshEncOK l 21) :
    ∃ cdp ct, Drv.C01E.bfvConsts l lqs t = .ok cdp ∧
      bfvEncrypt l cdp (Spec.prodL lqs % t) ((t + 1) / 2) (.sym sk a (rnsOfInt l e) true) plain = .ok ct ∧
      expandSeed U xof l (ct.toSeeded seed) = .ok ct ∧
      bfvDecrypt l sk ct = .ok (trimPlain (padPlain n plain)) :=
  HC.drv_bfv_encrypt_decrypt_seeded hc hl ht ha hes he hs hx hp hpm hok
theorem drv_bgv_encrypt_decrypt_seeded : type_of% @HC.drv_bgv_encrypt_decrypt_seeded := @HC.drv_bgv_encrypt_decrypt_seeded
theorem drv_ckks_encrypt_decrypt_seeded : type_of% @HC.drv_ckks_encrypt_decrypt_seeded := @HC.drv_ckks_encrypt_decrypt_seeded

/-- when flag + seed do not fit into one polynomial the seeded call IS the unseeded one -/
theorem encryptZeroSym_seed_fallback : type_of% @HC.encryptZeroSym_seed_fallback := @HC.encryptZeroSym_seed_fallback

/-! ### THE TAPE FROM THE GENERATORS (Proofs/C01Y; concrete instance: Proofs/C01YW): the ranges of the drawn polynomials that `DrvMode`
    asks for are THEOREMS about the samplers of the generator model (Model/Rng.lean, specs C16B), for every byte-valued XOF, every
    generator state and every integer sampler within its range contract (`Rng.randUniform`: `randUniform_contract`) -/

/-- `sample::ternary` at a level's moduli returns `rnsOfInt` of a ternary polynomial -/
theorem ternary_tape : type_of% @HC.ternary_tape := @HC.ternary_tape

/-- `sample::centered_binomial` returns `rnsOfInt` of a polynomial with ‖e‖∞ ≤ 21 -/
theorem cbd_tape : type_of% @HC.cbd_tape := @HC.cbd_tape

/-- `sample::uniform` returns a canonical polynomial -/
theorem uniform_tape : type_of% @HC.uniform_tape := @HC.uniform_tape

/-- `sample::centered_binomial` is total (no rejection loop): every generator state yields an error polynomial -/
theorem centeredBinomial_total : type_of% @HC.centeredBinomial_total := @HC.centeredBinomial_total
theorem noiseMany_total2 : type_of% @HC.noiseMany_total2 := @HC.noiseMany_total2

/-- the draws of `Rng.asymCore` (draw order of `asymmetric_with_u_prng`) at the level's parameters are an admissible public-key mode -/
theorem drvMode_pk_of_prng : type_of% @HC.drvMode_pk_of_prng := @HC.drvMode_pk_of_prng

/-- … at the PREVIOUS level's parameters: admissible mode through the previous level (special-prime path, lower levels) -/
theorem drvMode_pkPrev_of_prng : type_of% @HC.drvMode_pkPrev_of_prng := @HC.drvMode_pkPrev_of_prng

/-- the draws of `Rng.symCore` (draw order of `symmetric_with_c1_prng`) are an admissible secret-key mode, and the public seed the c1
    generator delivered expands to the mask (`SeedExpands`: the hypothesis of the seed-compressed theorems) -/
theorem drvMode_sk_of_prng : type_of% @HC.drvMode_sk_of_prng := @HC.drvMode_sk_of_prng

/-- END TO END FROM THE GENERATOR STATES: BFV through the special prime / lower level; BGV secret key; CKKS head of the chain -/
theorem drv_bfv_encrypt_decrypt_prng_sp : type_of% @HC.drv_bfv_encrypt_decrypt_prng_sp := @HC.drv_bfv_encrypt_decrypt_prng_sp
theorem drv_bgv_encrypt_decrypt_prng_sk : type_of% @HC.drv_bgv_encrypt_decrypt_prng_sk := @HC.drv_bgv_encrypt_decrypt_prng_sk
theorem drv_ckks_encrypt_decrypt_prng_pk : type_of% @HC.drv_ckks_encrypt_decrypt_prng_pk := @HC.drv_ckks_encrypt_decrypt_prng_pk

/-- the model's generator-level function IS the tape-level function on the tape the generators deliver -/
theorem encryptZeroAsymPrng_eq_tape : type_of% @HC.encryptZeroAsymPrng_eq_tape := @HC.encryptZeroAsymPrng_eq_tape

/-- WHATEVER the model's generator-level public-key encryption of zero (`encryptZeroAsymPrng`) returns at the head of the chain is a fresh
    encryption of zero with ‖ν‖∞ ≤ 21(2N+1) — every generator state, byte-valued XOF, integer sampler within its contract -/
theorem encryptZeroAsymPrng_fresh : type_of% @HC.encryptZeroAsymPrng_fresh := @HC.encryptZeroAsymPrng_fresh

/-- … the generator-level secret-key encryption of zero (`encryptZeroSymPrng`): fresh with ‖ν‖∞ ≤ 21 at every level, either seed flag;
    the returned public seed expands to the mask, which is polynomial 1 when the seed is saved -/
theorem encryptZeroSymPrng_fresh : type_of% @HC.encryptZeroSymPrng_fresh := @HC.encryptZeroSymPrng_fresh

/-- THE KEY MATERIAL FROM THE GENERATORS: ternary draw ↦ secret (stored form = `genSecretKey` of the draw), `symCore` draws ↦ public key;
    together a `DrvCtx` -/
theorem drvCtx_of_prng : type_of% @HC.drvCtx_of_prng := @HC.drvCtx_of_prng

/-- the SHARP BFV margin on the inputs, 2·t·(B+1) ≤ Q·(1 − 2^-53) (written 2^54·t·(B+1) ≤ (2^53 − 1)·Q), implies `FreshEncOK l B` -/
theorem mkLevel_freshEncOK_sharp : type_of% @HC.mkLevel_freshEncOK_sharp := @HC.mkLevel_freshEncOK_sharp
theorem drv_bfv_encrypt_decrypt_inputs_sharp : type_of% @HC.drv_bfv_encrypt_decrypt_inputs_sharp := @HC.drv_bfv_encrypt_decrypt_inputs_sharp
/-! ### translator tie: the two RNS back ends of decryption on the code GENERATED from src/util/rns.rs (Proofs/GenRnsDecrypt.lean) -/

/-- BFV: the generated `RNSTool::decrypt_scale_and_round` returns `round(t·x̃/Q) mod t` under the BEHZ γ-condition (see `C10.gen_decrypt_scale_and_round_rounds`) -/
theorem gen_decrypt_scale_and_round_rounds : type_of% @HC.gr_decrypt_scale_and_round_rounds := @HC.gr_decrypt_scale_and_round_rounds
/-- BGV: the generated `RNSTool::decrypt_mod_t` returns the centred residue modulo t, provided the erased f64 rounding is exact (see `C10.gen_decrypt_mod_t_centred`) -/
theorem gen_decrypt_mod_t_centred : type_of% @HC.gr_decrypt_mod_t_centred := @HC.gr_decrypt_mod_t_centred

/-! ### translator tie: the scaling constants `multiply_add_plain` reads from the context are the ones GENERATED from `HeContext::validate`
    (Gen/ContextFns.lean `GenX.validate_bfv_consts`, see Props/C13.lean `gen_validate_bfv_consts_eq`); Proofs/GenContextC01.lean -/

/-- the constants produced by the code generated from `HeContext::validate` for a level (well-formed moduli, `2 ≤ t < 2^61`, `t < Q = Π q_j`;
    `ops` turned into `MultiplyU64ModOperand`s entry by entry with the generated `MultiplyU64ModOperand::new`) satisfy `ScalingOK`, the threshold is
    `⌊(t+1)/2⌋` and the remainder is `Q mod t` -/
theorem gen_validate_constants_scalingOK {l : Level} {cdp : Array MulOperand} {ops uhi puhi : List Nat} {fast qmt puht : Nat} {c0 u0 p0 : List Nat}
    (hw : ∀ m ∈ l.qs.toList, m.WF) (hk : 1 ≤ l.size) (ht2 : 2 ≤ l.t.value) (ht61 : l.t.value < 2^61)
    (htQ : l.t.value < Ctx.prodL (HC.gcx_vals l))
    (hgen : GenX.validate_bfv_consts l.qs.toList l.t.value (fromNat l.size (Ctx.prodL (HC.gcx_vals l))) c0 u0 p0 = .ok (ops, uhi, puhi, fast, qmt, puht))
    (hsz : l.size ≤ cdp.size)
    (hcdp : ∀ j, j < l.size → GenW.mulop_new (ops.getD j 0) (l.q j) = .ok (cdp.getD j default)) :
    ScalingOK l (Ctx.prodL (HC.gcx_vals l)) cdp ∧ puht = (l.t.value + 1) / 2 ∧ qmt = Ctx.prodL (HC.gcx_vals l) % l.t.value :=
  HC.gcx_scalingOK hw hk ht2 ht61 htQ hgen hsz hcdp

/-- **source of `validate` → source of `multiply_add_plain` → arithmetic**: with exactly those generated constants as its context inputs, the code
    generated from `multiply_add_plain` adds `Δ(m_i) = round(Q·m_i/t)` modulo `q_j` to coefficient `i` of component `j` -/
theorem gen_multiply_add_plain_with_validated_constants :
    type_of% @HC.gcx_multiply_add_plain_with_validated_constants := @HC.gcx_multiply_add_plain_with_validated_constants

/- non-vacuity: the level of `scalingOK_example` (97·113, t = 17): the generated `validate` code yields the operands (62, 79), threshold 9, remainder 13,
   and `MultiplyU64ModOperand::new` on the operands gives the table used there -/
set_option maxRecDepth 100000 in
example : GenX.validate_bfv_consts HC.gz_exLevel.qs.toList HC.gz_exLevel.t.value (fromNat HC.gz_exLevel.size (Ctx.prodL (HC.gcx_vals HC.gz_exLevel))) [] [] [] =
    .ok ([62, 79], [13, 13], [80, 96], 1, 13, 9) := by decide
example : GenW.mulop_new 62 (HC.gz_exLevel.q 0) = .ok (HC.gz_exCdp.getD 0 default) ∧ GenW.mulop_new 79 (HC.gz_exLevel.q 1) = .ok (HC.gz_exCdp.getD 1 default) := by
  constructor <;> rfl

/-! ### translator tie: the BGV decryption fix-up as regenerated from src/encryptor.rs (details in Props/C07.lean) -/
theorem gen_bgv_decrypt_fixup_eq : type_of% @HC.gd_bgv_decrypt_eq := @HC.gd_bgv_decrypt_eq
theorem gen_bgv_fixup_inverse_every_t : type_of% @HC.gd_bgvFixup_spec := @HC.gd_bgvFixup_spec
theorem gen_bgv_fixup_composite_witness : type_of% @HC.gd_bgv_witness := @HC.gd_bgv_witness

/-- the phase computation `dot_product_ct_sk_array` as regenerated: order of kernel calls / offsets = the model's, every size ≥ 2 -/
theorem gen_dot_product_plan_eq : type_of% @HC.gd_dot_product_plan_eq := @HC.gd_dot_product_plan_eq
theorem gen_dot_plan_witness : type_of% @HC.gd_dot_plan_witness := @HC.gd_dot_plan_witness

theorem gen_bfv_decrypt_eq : type_of% @HC.gd_bfv_decrypt_eq := @HC.gd_bfv_decrypt_eq
theorem gen_ckks_decrypt_eq : type_of% @HC.gd_ckks_decrypt_eq := @HC.gd_ckks_decrypt_eq
theorem gen_decrypt_dispatch_eq : type_of% @HC.gd_decrypt_dispatch_eq := @HC.gd_decrypt_dispatch_eq

end HC.C01
