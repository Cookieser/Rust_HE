/- Audit of property C11: `#print axioms` for every property theorem of Props/C11.lean; `audit()` of tools/runner.py elaborates this file
   and compares each axiom list with the three standard axioms. -/
import Heathcliff.Props.C11
#print axioms HC.C11.batchIndexMap_spec
#print axioms HC.C11.slotExp_injective
#print axioms HC.C11.batchIndexMap_perm
#print axioms HC.C11.batchDecode_eval
#print axioms HC.C11.batch_decode_encode
#print axioms HC.C11.batch_encode_decode
#print axioms HC.C11.batch_mul_slots
#print axioms HC.C11.batch_add_slots
#print axioms HC.C11.slotExp_rotate
#print axioms HC.C11.slotExp_swap
#print axioms HC.C11.batch_round_trip_of_new
#print axioms HC.C11.batch_encode_decode_of_new
#print axioms HC.C11.batch_tables_only_for_batching_primes
#print axioms HC.C11.gen_reverse_bits_u64_eq
#print axioms HC.C11.gen_batch_index_map_eq
#print axioms HC.C11.gen_batch_index_map_perm
