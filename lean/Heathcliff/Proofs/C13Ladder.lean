/- C13: `validate` rung by rung.  The ladder of error codes (`ladder`, `firstFailing`); each stage of `validate` (`validateBfv`,
   `validateCkks`, `schemeStep`, `validateTail`, `validate` itself) in closed form on the values that reach it: which rung stops it, with which
   error, and what it returns when none does (`validate_eval`, the predicate `Accepted`, the accepted `level`).  Imports Mathlib (ZMod, primes);
   C13Validate, C13Chain, C13Total inherit it. -/
import Heathcliff.Model.Context
import Heathcliff.Spec.Context
import Heathcliff.Proofs.C08A
import Heathcliff.Proofs.C08B
import Mathlib.Tactic.Linarith
import Mathlib.Tactic.SplitIfs
import Mathlib.Data.Nat.GCD.Basic
import Mathlib.Data.Nat.Log
import Mathlib.Data.List.Basic
import Mathlib.Tactic.Ring
namespace HC.Ctx
open HC

/-! ### small arithmetic facts -/

theorem powerOfTwo?_some {n k : Nat} (h : powerOfTwo? n = some k) : k = Nat.log2 n ∧ n = 2^k := by
  unfold powerOfTwo? at h
  split_ifs at h with h0 h1
  cases h
  exact ⟨rfl, h1.symm⟩

theorem powerOfTwo?_none {n : Nat} (h : powerOfTwo? n = none) : ¬ ∃ e, n = 2^e := by
  unfold powerOfTwo? at h
  rintro ⟨e, rfl⟩
  split_ifs at h with h0 h1
  · exact absurd h0 (by positivity)
  · exact h1 (by rw [Nat.log2_two_pow])

theorem sub_one_mod_iff {q m : Nat} (hq : 1 ≤ q) (hm : 2 ≤ m) : (q - 1) % m = 0 ↔ q % m = 1 := by
  constructor
  · intro h
    obtain ⟨j, hj⟩ := Nat.dvd_of_mod_eq_zero h
    have : q = m * j + 1 := by omega
    rw [this, Nat.mul_add_mod, Nat.mod_eq_of_lt (by omega)]
  · intro h
    have := Nat.div_add_mod q m
    have : q - 1 = m * (q / m) := by omega
    rw [this, Nat.mul_mod_right]

/-- stated with the bounds of the coefficient moduli; those of the plain modulus are the same numbers, so it serves both tests -/
theorem bitBad_iff {q : Nat} :
    (q / 2^Gen.HE_USER_MOD_BIT_COUNT_MAX > 0 ∨ q / 2^(Gen.HE_USER_MOD_BIT_COUNT_MIN - 1) = 0) ↔ (q < 2 ∨ 2^60 ≤ q) := by
  show (q / 2^60 > 0 ∨ q / 2^(2 - 1) = 0) ↔ _
  omega

theorem nttOk_iff {isPrime : Nat → Bool} {kp q : Nat} (hq : 1 ≤ q) :
    nttOk isPrime kp q = true ↔ (isPrime q = true ∧ q % (2 * 2^kp) = 1) := by
  have h2k : 0 < 2^kp := by positivity
  simp only [nttOk, Bool.and_eq_true, beq_iff_eq]
  rw [sub_one_mod_iff hq (by omega)]

theorem gcdU64_coprime_iff {x y : Nat} (hx : x < 2^64) (hy : y < 2^64) (hx0 : 0 < x) :
    gcdU64 x y ≤ 1 ↔ Nat.Coprime x y := by
  rw [gcdU64_exact hx hy]
  have := Nat.gcd_pos_of_pos_left y hx0
  unfold Nat.Coprime; omega

theorem pairwiseCoprimeB_iff : ∀ (l : List Nat), (∀ q ∈ l, 0 < q ∧ q < 2^64) →
    (pairwiseCoprimeB l = true ↔ l.Pairwise Nat.Coprime)
  | [], _ => by simp [pairwiseCoprimeB]
  | x :: xs, h => by
    have hx := h x (by simp)
    have ih := pairwiseCoprimeB_iff xs (fun q hq => h q (by simp [hq]))
    simp only [pairwiseCoprimeB, Bool.and_eq_true, List.all_eq_true, decide_eq_true_eq, List.pairwise_cons, ih]
    exact and_congr_left' (forall₂_congr fun y hy => gcdU64_coprime_iff hx.2 (h y (by simp [hy])).2 hx.1)

/-! ### the single-word steps of the scheme-specific constants, evaluated -/

theorem mk?_ok {q : Nat} (h2 : 2 ≤ q) (h61 : q < 2^61) : ∃ m, Modulus.mk? q = .ok m ∧ m.WF ∧ m.value = q := by
  have : Modulus.mk? q = .ok ⟨q, (2^128 / q) % B64, (2^128 / q) / B64, 2^128 % q, bitCount q⟩ := by
    unfold Modulus.mk?
    rw [if_neg (by omega), if_neg (by rw [Nat.div_eq_of_lt h61]; omega)]
  exact ⟨_, this, (Modulus.mk?_wf this (by omega)).1, rfl⟩

/-- `2^63 mod q` times `q - 2` is `-2^64 mod q`: adding `2^64 ≡ 2·(2^63 mod q)` gives a multiple of `q` -/
theorem neg_two64 {q : Nat} (hq : 2 ≤ q) : (2^63 % q * (q - 2)) % q = (q - 2^64 % q) % q := by
  have hr : 2^64 % q ≤ q := (Nat.mod_lt _ (by omega)).le
  apply Nat.ModEq.add_right_cancel' (2^64 % q)
  show (2^63 % q * (q - 2) + 2^64 % q) % q = (q - 2^64 % q + 2^64 % q) % q
  rw [Nat.sub_add_cancel hr, Nat.mod_self, show (2:Nat)^64 = 2 * 2^63 by norm_num, ← Nat.mul_mod_mod, Nat.add_mod_mod,
    Nat.mul_comm 2, ← Nat.mul_add, Nat.sub_add_cancel hq, Nat.mul_mod_left]

theorem ckks_puhi_eval {qs : List Nat} (hq : ∀ q ∈ qs, 2 ≤ q ∧ q < 2^60) :
    qs.mapM (fun q => do
          let m ← Modulus.mk? q
          let tmp ← barrett64 (2^63) m
          let qm2 ← ckSub q 2
          mulMod tmp qm2 m) = .ok (qs.map (fun q => (q - 2^64 % q) % q)) := by
  apply R.mapM_ok
  intro q hqm
  obtain ⟨h2, h60⟩ := hq q hqm
  obtain ⟨m, hm, hwf, hv⟩ := mk?_ok h2 (by omega : q < 2^61)
  have hb : barrett64 (2^63) m = .ok (2^63 % q) := by rw [barrett64_exact hwf (by norm_num), hv]
  have hs : ckSub q 2 = .ok (q - 2) := if_pos h2
  have hlt : 2^63 % q < 2^64 := lt_of_lt_of_le (Nat.mod_lt _ (by omega)) (by omega)
  have hmul : mulMod (2^63 % q) (q - 2) m = .ok ((2^63 % q * (q - 2)) % q) := by
    rw [mulMod_exact hwf hlt (by omega), hv]
  simp only [hm, hb, hs, hmul, bind, Except.bind, neg_two64 h2]

theorem zip_map_self {α β : Type} (f : α → β) : ∀ l : List α, (l.map f).zip l = l.map (fun a => (f a, a))
  | [] => rfl
  | a :: l => by simp [zip_map_self f l]

/-- `RNSBase::decompose` as `validateBfv` spells it: for a single modulus the limb itself, which is the residue when the value is below it -/
theorem decompose_eq {qs : List Nat} {x : Nat} (hx : qs.length ≤ 1 → x < prodL qs) (hq : ∀ q ∈ qs, q < 2^64) :
    (if qs.length > 1 then qs.map (fun q => x % q) else fromNat qs.length x) = qs.map (fun q => x % q) := by
  match qs, hx, hq with
  | [], _, _ => rfl
  | [q], hx, hq =>
    have hq := hq q (List.mem_singleton_self q)
    have hx : x < q := by simpa [prodL] using hx (Nat.le_refl 1)
    rw [if_neg (by simp)]
    simp only [List.length_singleton, fromNat, List.map_cons, List.map_nil]
    rw [Nat.mod_eq_of_lt hx, Nat.mod_eq_of_lt (by rw [B64_eq]; omega)]
  | _ :: _ :: _, _, _ => exact if_pos (by simp)

theorem bfv_cdp_eval {qs : List Nat} (x : Nat) (hq : ∀ q ∈ qs, 2 ≤ q ∧ q < 2^60) :
    ((qs.map (fun q => x % q)).zip qs).mapM (fun xq => do
            let m ← Modulus.mk? xq.2
            MulOperand.new xq.1 m) = .ok (qs.map (fun q => ⟨x % q, (x % q) * 2^64 / q⟩)) := by
  rw [zip_map_self, List.mapM_map]
  apply R.mapM_ok
  intro q hqm
  obtain ⟨h2, h60⟩ := hq q hqm
  obtain ⟨m, hm, hwf, hv⟩ := mk?_ok h2 (by omega : q < 2^61)
  obtain ⟨⟨o1, o2⟩, ho, ho1, ho2⟩ := mulOperand_new hwf (y := x % q) (by rw [hv]; exact Nat.mod_lt _ (by omega))
  simp only [Function.comp_apply, hm, bind, Except.bind, ho]
  simp only at ho1 ho2
  rw [ho1, ho2, hv]

/-! ### `RNSBase::new` -/

theorem coprime_prodL {m : Nat} : ∀ (l : List Nat), (∀ x ∈ l, Nat.Coprime x m) → Nat.Coprime (prodL l) m
  | [], _ => by simp [prodL]
  | x :: xs, h => by
    simp only [prodL]
    exact Nat.Coprime.mul_left (h x (by simp)) (coprime_prodL xs fun y hy => h y (by simp [hy]))

theorem foldlM_all_true (f : Nat → R Bool) : ∀ (l : List Nat), (∀ i ∈ l, f i = .ok true) →
    l.foldlM (fun ok i => if !ok then pure false else f i) true = .ok true
  | [], _ => rfl
  | a :: l, h => by
    simp only [List.foldlM_cons, Bool.not_true, Bool.false_eq_true, if_false, h a (by simp), bind, Except.bind]
    exact foldlM_all_true f l (fun i hi => h i (by simp [hi]))

theorem coprime_others : ∀ (qs : List Nat) (i : Nat), qs.Pairwise Nat.Coprime → i < qs.length →
    ∀ x ∈ qs.take i ++ qs.drop (i + 1), Nat.Coprime x (qs.getD i 0)
  | [], i, _, hi => by simp at hi
  | a :: l, 0, hp, _ => by
    intro x hx
    simp only [List.take_zero, List.nil_append, Nat.zero_add, List.drop_succ_cons, List.drop_zero] at hx
    simp only [List.getD_cons_zero]
    exact ((List.pairwise_cons.1 hp).1 x hx).symm
  | a :: l, j+1, hp, hi => by
    intro x hx
    have hj : j < l.length := by simpa using hi
    obtain ⟨hp1, hp2⟩ := List.pairwise_cons.1 hp
    simp only [List.take_succ_cons, List.cons_append, List.drop_succ_cons, List.mem_cons] at hx
    simp only [List.getD_cons_succ]
    rcases hx with rfl | hx
    · apply hp1
      exact list_getD_mem 0 hj
    · exact coprime_others l j hp2 hj x hx

theorem invertible_true {v q : Nat} (hq2 : 2 ≤ q) (hq : q < 2^61) (hg : Nat.Coprime v q) :
    invertible (v % q) q = .ok true := by
  have hlt : v % q < q := Nat.mod_lt _ (by omega)
  have hg' : Nat.gcd (v % q) q = 1 := by
    rw [← Nat.gcd_rec, Nat.gcd_comm]; exact hg
  have hv0 : v % q ≠ 0 := by
    intro h0
    rw [h0, Nat.gcd_zero_left] at hg'
    omega
  obtain ⟨r, hr, _⟩ := (tryInvert_spec_partial (v := v % q) hq2 hq (by omega) (by omega)).1 ⟨hv0, hg'⟩
  simp [invertible, hr, bind, Except.bind, pure, Except.pure]

/-- `RNSBase::new` fails exactly when the moduli (all ≥ 2, ≤ 61 bits) are not pairwise coprime -/
theorem rnsBaseNew_eq {qs : List Nat} (hne : qs ≠ []) (hq : ∀ q ∈ qs, 2 ≤ q ∧ q < 2^61) :
    rnsBaseNew qs = .ok (decide (qs.Pairwise Nat.Coprime)) := by
  have h1 : ¬ (qs.isEmpty = true) := by rw [List.isEmpty_iff]; exact hne
  have h2 : ¬ (qs.any (· = 0) = true) := by
    rw [List.any_eq_true]
    rintro ⟨x, hx, h0⟩
    have := hq x hx
    simp only [decide_eq_true_eq] at h0
    omega
  have hiff := pairwiseCoprimeB_iff qs (fun q hqm => by have := hq q hqm; omega)
  unfold rnsBaseNew
  rw [if_neg h1, if_neg h2]
  by_cases hpc : qs.Pairwise Nat.Coprime
  · have hb := hiff.2 hpc
    rw [hb, decide_eq_true hpc]
    simp only [Bool.not_true, Bool.false_eq_true, if_false]
    split
    · apply foldlM_all_true (fun i => invertible (prodExcept qs i % qs.getD i 0) (qs.getD i 0))
      intro i hi
      have hi' : i < qs.length := List.mem_range.1 hi
      have hmem : qs.getD i 0 ∈ qs := list_getD_mem 0 hi'
      have hqi := hq _ hmem
      exact invertible_true hqi.1 hqi.2 (coprime_prodL _ (coprime_others qs i hpc hi'))
    · rfl
  · have hb : pairwiseCoprimeB qs = false := by
      cases hx : pairwiseCoprimeB qs with
      | false => rfl
      | true => exact absurd (hiff.1 hx) hpc
    rw [hb, decide_eq_false hpc]
    rfl

/-! ### the ladder -/

open Classical in
/-- error of the first rung whose condition holds; `Success` if none does -/
noncomputable def firstFailing : List (Prop × ErrorType) → ErrorType
  | [] => .Success
  | (c, e) :: r => if c then e else firstFailing r

/-- the rungs of `HeContext::validate` in the order of the code: (condition that makes validation stop, error reported).
    `rnsBaseNew … = .ok false` is "RNSBase::new returned Err" (for moduli ≥ 2 that is: not pairwise coprime),
    `rnsToolNew … = .ok false` is "RNSTool::new returned Err". -/
def ladder (isPrime : Nat → Bool) (p : Params) (sec : SecLevel) : List (Prop × ErrorType) :=
  [ (p.scheme = .None, .InvalidScheme),
    (p.q.length > 64 ∨ p.q.length < 1, .InvalidCoeffModulusSize),
    (∃ q ∈ p.q, q < 2 ∨ 2^60 ≤ q, .InvalidCoeffModulusBitCount),
    (p.n < 2 ∨ 131072 < p.n, .InvalidPolyModulusDegree),
    (¬ ∃ e, p.n = 2^e, .InvalidPolyModulusDegreeNonPowerOfTwo),
    (2^64 ≤ p.q.length * p.n, .InvalidParametersTooLarge),
    (sec ≠ .None ∧ Gen.maxBitCount sec p.n < bitCount (prodL p.q), .InvalidParametersInsecure),
    (rnsBaseNew p.q = .ok false, .FailedCreatingRNSBase),
    (∃ q ∈ p.q, ¬ (isPrime q = true ∧ q % (2 * p.n) = 1), .InvalidCoeffModulusNoNTT) ] ++
  (match p.scheme with
   | .CKKS => [ (p.t ≠ 0, .InvalidPlainModulusNonzero) ]
   | _ => [ (p.t < 2 ∨ 2^60 ≤ p.t, .InvalidPlainModulusBitCount),
            (∃ q ∈ p.q, ¬ Nat.Coprime q p.t, .InvalidPlainModulusCoprimality),
            (¬ p.t < prodL p.q, .InvalidPlainModulusTooLarge) ]) ++
  [ (rnsToolNew isPrime p.n p.q p.t = .ok false, .FailedCreatingRNSTool) ]

theorem firstFailing_pos {c : Prop} {e : ErrorType} {r : List (Prop × ErrorType)} (h : c) :
    firstFailing ((c, e) :: r) = e := by
  simp [firstFailing, h]

theorem firstFailing_neg {c : Prop} {e : ErrorType} {r : List (Prop × ErrorType)} (h : ¬ c) :
    firstFailing ((c, e) :: r) = firstFailing r := by
  simp [firstFailing, h]

/-- the three plain-modulus rungs of the BFV | BGV arm.  `bfvLadder`, `schemeLadder`, `tailLadder` name pieces of `ladder` (which writes all
    rungs out in one list, as Props/C13 states it) so that the stage theorems can speak of "the rungs from here on": `ladder isPrime p sec` is its
    seven early rungs followed by `tailLadder isPrime p`, by unfolding. -/
def bfvLadder (qs : List Nat) (t : Nat) : List (Prop × ErrorType) :=
  [ (t < 2 ∨ 2^60 ≤ t, .InvalidPlainModulusBitCount),
    (∃ q ∈ qs, ¬ Nat.Coprime q t, .InvalidPlainModulusCoprimality),
    (¬ t < prodL qs, .InvalidPlainModulusTooLarge) ]

theorem plainGcd_iff {qs : List Nat} {t : Nat} (hq : ∀ q ∈ qs, 2 ≤ q ∧ q < 2^60) (ht : t < 2^60) :
    qs.any (fun q => gcdU64 q t > 1) = true ↔ ∃ q ∈ qs, ¬ Nat.Coprime q t := by
  rw [List.any_eq_true]
  refine exists_congr fun q => and_congr_right fun hqm => ?_
  have := hq q hqm
  rw [decide_eq_true_eq, ← gcdU64_coprime_iff (x := q) (y := t) (by omega) (by omega) (by omega), not_le]

/-- the level `validateBfv` returns when no plain-modulus rung fails (`kp` = log₂ N): the batching and fast-lift flags, `⌊Q/t⌋ mod q_i` with
    its Harvey quotient, `(Q mod t) mod q_i`, `Q mod t`, `⌈t/2⌉`, and `q_i − t` for each prime (fast lift) or the limbs of `Q − t` -/
def bfvLevel (isPrime : Nat → Bool) (c : ContextData) (kp : Nat) : ContextData :=
  { c with batching := nttOk isPrime kp c.parms.t, fastLift := c.parms.q.all (fun q => decide (c.parms.t < q)),
           coeffDivPlain := c.parms.q.map (fun q => ⟨prodL c.parms.q / c.parms.t % q, prodL c.parms.q / c.parms.t % q * 2^64 / q⟩),
           upperHalfIncrement := c.parms.q.map (fun q => prodL c.parms.q % c.parms.t % q),
           qModT := prodL c.parms.q % c.parms.t, plainUpperHalfThreshold := (c.parms.t + 1) / 2,
           plainUpperHalfIncrement := if c.parms.q.all (fun q => decide (c.parms.t < q)) then c.parms.q.map (fun q => q - c.parms.t)
                                      else fromNat c.parms.q.length (prodL c.parms.q - c.parms.t) }

/-- the level `validateCkks` returns for a zero plain modulus: `2^63`, `−2^64 mod q_i`, and the limbs of `⌈Q/2⌉` (as the code computes it) -/
def ckksLevel (c : ContextData) (Q : Nat) : ContextData :=
  { c with batching := true, fastLift := false, plainUpperHalfThreshold := 2^63,
           plainUpperHalfIncrement := c.parms.q.map (fun q => (q - 2^64 % q) % q),
           upperHalfThreshold := fromNat c.parms.q.length (((Q + 1) % B64^c.parms.q.length) / 2) }

/-- `validateBfv` in closed form on moduli in the user range: the error of the first plain-modulus rung that fails, or `bfvLevel`;
    `rest` is whatever follows these rungs in the ladder -/
theorem validateBfv_eval (isPrime : Nat → Bool) (c : ContextData) (kp : Nat) (hne : c.parms.q ≠ [])
    (hq : ∀ q ∈ c.parms.q, 2 ≤ q ∧ q < 2^60) (rest : List (Prop × ErrorType)) :
    (∃ e, validateBfv isPrime c kp (prodL c.parms.q) = .ok ({ c with err := e }, false) ∧ e ≠ .Success ∧
        firstFailing (bfvLadder c.parms.q c.parms.t ++ rest) = e) ∨
    ((2 ≤ c.parms.t ∧ c.parms.t < 2^60) ∧ (∀ q ∈ c.parms.q, Nat.Coprime q c.parms.t) ∧ c.parms.t < prodL c.parms.q ∧
      firstFailing (bfvLadder c.parms.q c.parms.t ++ rest) = firstFailing rest ∧
      validateBfv isPrime c kp (prodL c.parms.q) = .ok (bfvLevel isPrime c kp, true)) := by
  generalize hr : validateBfv isPrime c kp (prodL c.parms.q) = r
  unfold validateBfv at hr
  simp only [bfvLadder, List.cons_append, List.nil_append] at hr ⊢
  by_cases h1 : c.parms.t / 2^Gen.HE_PLAIN_MOD_BIT_COUNT_MAX > 0 ∨ c.parms.t / 2^(Gen.HE_PLAIN_MOD_BIT_COUNT_MIN - 1) = 0
  · rw [if_pos h1] at hr
    exact Or.inl ⟨_, hr.symm, nofun, firstFailing_pos (bitBad_iff.1 h1)⟩
  have ht : ¬ (c.parms.t < 2 ∨ 2^60 ≤ c.parms.t) := fun h => h1 (bitBad_iff.2 h)
  rw [if_neg h1] at hr
  rw [firstFailing_neg ht]
  by_cases h2 : c.parms.q.any (fun q => gcdU64 q c.parms.t > 1) = true
  · rw [if_pos h2] at hr
    exact Or.inl ⟨_, hr.symm, nofun, firstFailing_pos ((plainGcd_iff hq (by omega)).1 h2)⟩
  have hcop : ¬ ∃ q ∈ c.parms.q, ¬ Nat.Coprime q c.parms.t := fun h => h2 ((plainGcd_iff hq (by omega)).2 h)
  rw [if_neg h2] at hr
  rw [firstFailing_neg hcop]
  by_cases h3 : c.parms.t < prodL c.parms.q
  swap
  · rw [if_pos (by simpa using h3)] at hr
    exact Or.inl ⟨_, hr.symm, nofun, firstFailing_pos h3⟩
  rw [if_neg (by simpa using h3)] at hr
  rw [firstFailing_neg (not_not.2 h3)]
  refine Or.inr ⟨by omega, fun q hqm => not_not.1 fun h => hcop ⟨q, hqm, h⟩, h3, rfl, ?_⟩
  have h64 : ∀ q ∈ c.parms.q, q < 2^64 := fun q hqm => by have := hq q hqm; omega
  have hfast : c.parms.q.all (fun q => !decide (q ≤ c.parms.t)) = c.parms.q.all (fun q => decide (c.parms.t < q)) := by
    simp only [← decide_not, Nat.not_le]
  have hqm : (fromNat c.parms.q.length (prodL c.parms.q % c.parms.t)).headD 0 = prodL c.parms.q % c.parms.t := by
    obtain ⟨k, hk⟩ := Nat.exists_eq_succ_of_ne_zero (mt List.length_eq_zero_iff.1 hne)
    have := Nat.mod_lt (prodL c.parms.q) (show 0 < c.parms.t by omega)
    rw [hk, fromNat, List.headD_cons, Nat.mod_eq_of_lt (by rw [B64_eq]; omega)]
  rw [decompose_eq (fun _ => Nat.div_lt_self (by omega) (by omega)) h64, decompose_eq (fun _ => lt_trans (Nat.mod_lt _ (by omega)) h3) h64,
    bfv_cdp_eval _ hq, hfast, hqm] at hr
  simp only [bind, Except.bind] at hr
  rw [← hr]
  unfold bfvLevel
  by_cases hf : c.parms.q.all (fun q => decide (c.parms.t < q)) = true
  · rw [if_pos hf, if_pos hf, R.mapM_ok _ (· - c.parms.t) _ fun q hqm => ckSub_of_le (of_decide_eq_true (List.all_eq_true.1 hf q hqm)).le]
    rfl
  · rw [if_neg hf, if_neg hf]
    rfl

theorem validateCkks_eval (c : ContextData) (Q : Nat) (hq : ∀ q ∈ c.parms.q, 2 ≤ q ∧ q < 2^60) :
    (c.parms.t ≠ 0 ∧ validateCkks c Q = .ok ({ c with err := .InvalidPlainModulusNonzero }, false)) ∨
    (c.parms.t = 0 ∧ validateCkks c Q = .ok (ckksLevel c Q, true)) := by
  unfold validateCkks
  by_cases h : c.parms.t ≠ 0
  · exact Or.inl ⟨h, if_pos h⟩
  · rw [if_neg h, ckks_puhi_eval hq]
    exact Or.inr ⟨not_not.1 h, rfl⟩

/-- plain-modulus conditions per scheme -/
def PlainOk (p : Params) : Prop :=
  match p.scheme with
  | .BFV | .BGV => (2 ≤ p.t ∧ p.t < 2^60) ∧ (∀ q ∈ p.q, Nat.Coprime q p.t) ∧ p.t < prodL p.q
  | .CKKS => p.t = 0
  | .None => False

theorem PlainOk.bfv {p : Params} (h : PlainOk p) (hsch : p.scheme = .BFV ∨ p.scheme = .BGV) :
    (2 ≤ p.t ∧ p.t < 2^60) ∧ (∀ q ∈ p.q, Nat.Coprime q p.t) ∧ p.t < prodL p.q := by
  unfold PlainOk at h
  rcases hsch with e | e <;> rw [e] at h <;> exact h

/-- the plain-modulus rungs of the scheme of `p` -/
def schemeLadder (p : Params) : List (Prop × ErrorType) :=
  match p.scheme with
  | .CKKS => [ (p.t ≠ 0, .InvalidPlainModulusNonzero) ]
  | _ => bfvLadder p.q p.t

/-- what `schemeStep` returns when no plain-modulus rung fails -/
def schemeLevel (isPrime : Nat → Bool) (p : Params) (kp : Nat) (c : ContextData) : ContextData :=
  match p.scheme with
  | .CKKS => ckksLevel { c with ntt := true } (prodL p.q)
  | _ => bfvLevel isPrime { c with ntt := true } kp

theorem schemeLevel_parms (isPrime : Nat → Bool) (p : Params) (kp : Nat) (c : ContextData) :
    (schemeLevel isPrime p kp c).parms = c.parms := by
  unfold schemeLevel; split <;> rfl

theorem schemeLevel_err (isPrime : Nat → Bool) (p : Params) (kp : Nat) (c : ContextData) :
    (schemeLevel isPrime p kp c).err = c.err := by
  unfold schemeLevel; split <;> rfl

theorem schemeStep_eval (isPrime : Nat → Bool) {p : Params} (kp : Nat) {c : ContextData} (hp : c.parms = p) (hs : p.scheme ≠ .None)
    (hne : p.q ≠ []) (hq : ∀ q ∈ p.q, 2 ≤ q ∧ q < 2^60) (rest : List (Prop × ErrorType)) :
    (∃ c', schemeStep isPrime p kp (prodL p.q) c = .ok (c', false) ∧ c'.parms = p ∧ c'.err ≠ .Success ∧
        firstFailing (schemeLadder p ++ rest) = c'.err) ∨
    (schemeStep isPrime p kp (prodL p.q) c = .ok (schemeLevel isPrime p kp c, true) ∧
      firstFailing (schemeLadder p ++ rest) = firstFailing rest ∧ PlainOk p) := by
  subst hp
  have hb := validateBfv_eval isPrime { c with ntt := true } kp hne hq rest
  unfold schemeStep schemeLadder PlainOk schemeLevel
  cases hsch : c.parms.scheme with
  | None => exact absurd hsch hs
  | BFV | BGV =>
    rcases hb with ⟨e, h, he, hf⟩ | ⟨h1, h2, h3, hf, h⟩
    · exact Or.inl ⟨_, h, rfl, he, hf⟩
    · exact Or.inr ⟨h, hf, h1, h2, h3⟩
  | CKKS =>
    rcases validateCkks_eval { c with ntt := true } (prodL c.parms.q) hq with ⟨ht, h⟩ | ⟨ht, h⟩
    · exact Or.inl ⟨_, h, rfl, nofun, firstFailing_pos ht⟩
    · exact Or.inr ⟨h, firstFailing_neg (not_not.2 ht), ht⟩

/-- the rungs `validateTail` goes through: RNS base, NTT primes, the scheme's rungs, the tool -/
def tailLadder (isPrime : Nat → Bool) (p : Params) : List (Prop × ErrorType) :=
  (rnsBaseNew p.q = .ok false, .FailedCreatingRNSBase) ::
  (∃ q ∈ p.q, ¬ (isPrime q = true ∧ q % (2 * p.n) = 1), .InvalidCoeffModulusNoNTT) ::
  (schemeLadder p ++ [ (rnsToolNew isPrime p.n p.q p.t = .ok false, .FailedCreatingRNSTool) ])

/-- what is left of `validate` once `RNSTool::new` is reached with the level `c'` -/
def toolStep (isPrime : Nat → Bool) (p : Params) (c' : ContextData) : R ContextData :=
  rnsToolNew isPrime p.n p.q p.t >>= fun b =>
    if !b then pure { c' with err := .FailedCreatingRNSTool } else pure { c' with descending := descendingB p.q }

theorem validateTail_eval (isPrime : Nat → Bool) {p : Params} {kp : Nat} {c : ContextData} (hp : c.parms = p)
    (hs : p.scheme ≠ .None) (hne : p.q ≠ []) (hq : ∀ q ∈ p.q, 2 ≤ q ∧ q < 2^60) (hn : p.n = 2^kp) :
    (∃ c', validateTail isPrime p kp (prodL p.q) c = .ok c' ∧ c'.parms = p ∧ c'.err ≠ .Success ∧
        firstFailing (tailLadder isPrime p) = c'.err) ∨
    (p.q.Pairwise Nat.Coprime ∧ (∀ q ∈ p.q, isPrime q = true ∧ q % (2 * p.n) = 1) ∧ PlainOk p ∧
      firstFailing (tailLadder isPrime p) =
        firstFailing [ (rnsToolNew isPrime p.n p.q p.t = .ok false, .FailedCreatingRNSTool) ] ∧
      validateTail isPrime p kp (prodL p.q) c = toolStep isPrime p (schemeLevel isPrime p kp c)) := by
  generalize hr : validateTail isPrime p kp (prodL p.q) c = r
  unfold validateTail at hr
  unfold tailLadder
  rw [rnsBaseNew_eq hne (fun q hqm => ⟨(hq q hqm).1, by have := (hq q hqm).2; omega⟩)] at hr ⊢
  by_cases hpc : p.q.Pairwise Nat.Coprime
  swap
  · rw [decide_eq_false hpc] at hr ⊢
    exact Or.inl ⟨_, hr.symm, hp, nofun, firstFailing_pos rfl⟩
  rw [decide_eq_true hpc] at hr ⊢
  rw [firstFailing_neg nofun]
  have hntt : p.q.all (nttOk isPrime kp) = true ↔ ¬ ∃ q ∈ p.q, ¬ (isPrime q = true ∧ q % (2 * p.n) = 1) := by
    rw [List.all_eq_true, hn]
    push Not
    exact forall₂_congr fun q hqm => nttOk_iff (by have := hq q hqm; omega)
  by_cases hnt : p.q.all (nttOk isPrime kp) = true
  swap
  · rw [Bool.not_eq_true] at hnt
    rw [hnt] at hr
    exact Or.inl ⟨_, hr.symm, hp, nofun, firstFailing_pos (not_not.1 (mt hntt.2 (by rw [hnt]; nofun)))⟩
  rw [hnt] at hr
  rw [firstFailing_neg (hntt.1 hnt)]
  rcases schemeStep_eval isPrime kp hp hs hne hq [ (rnsToolNew isPrime p.n p.q p.t = .ok false, .FailedCreatingRNSTool) ] with
    ⟨c', hstep, hp', hne', hff⟩ | ⟨hstep, hff, hplain⟩
  · rw [hstep] at hr
    exact Or.inl ⟨_, hr.symm, hp', hne', hff⟩
  · rw [hstep] at hr
    exact Or.inr ⟨hpc, fun q hqm => not_not.1 fun h => hntt.1 hnt ⟨q, hqm, h⟩, hplain, hff, hr.symm⟩

theorem anyBitBad_iff {qs : List Nat} :
    qs.any (fun q => q / 2^Gen.HE_USER_MOD_BIT_COUNT_MAX > 0 ∨ q / 2^(Gen.HE_USER_MOD_BIT_COUNT_MIN - 1) = 0) = true ↔
      ∃ q ∈ qs, q < 2 ∨ 2^60 ≤ q := by
  rw [List.any_eq_true]
  exact exists_congr fun q => and_congr_right fun _ => decide_eq_true_iff.trans bitBad_iff

theorem ContextData.valid_iff {c : ContextData} : c.valid = true ↔ c.err = .Success := by
  unfold ContextData.valid; simp

/-- every condition on the parameters that `validate` tests in front of `RNSTool::new` -/
structure Accepted (isPrime : Nat → Bool) (p : Params) (sec : SecLevel) : Prop where
  scheme : p.scheme ≠ .None
  count : 1 ≤ p.q.length ∧ p.q.length ≤ 64
  range : ∀ q ∈ p.q, 2 ≤ q ∧ q < 2^60
  degree : 2 ≤ p.n ∧ p.n ≤ 131072
  pow : p.n = 2^(Nat.log2 p.n)
  secure : sec = .None ∨ bitCount (prodL p.q) ≤ Gen.maxBitCount sec p.n
  coprime : p.q.Pairwise Nat.Coprime
  ntt : ∀ q ∈ p.q, isPrime q = true ∧ q % (2 * p.n) = 1
  plain : PlainOk p

theorem Accepted.log_range {isPrime : Nat → Bool} {p : Params} {sec : SecLevel} (a : Accepted isPrime p sec) :
    1 ≤ Nat.log2 p.n ∧ Nat.log2 p.n ≤ 17 := by
  have h4 := a.degree
  have hpow := a.pow
  generalize Nat.log2 p.n = kp at hpow ⊢
  constructor
  · by_contra hc
    have : kp = 0 := by omega
    subst this; omega
  · by_contra hc
    have : 2^18 ≤ 2^kp := Nat.pow_le_pow_right (by norm_num) (by omega)
    omega

/-- the level `validate` returns for accepted parameters when `RNSTool::new` succeeds: every field as a function of the parameters -/
def level (isPrime : Nat → Bool) (p : Params) (sec : SecLevel) : ContextData :=
  { schemeLevel isPrime p (Nat.log2 p.n) (ctx2 p sec) with descending := descendingB p.q }

/-- `validate` rung by rung: either it stops in front of `RNSTool::new` with the error of the first failing rung, or every condition on the
    parameters holds and the outcome is that of `RNSTool::new` on the level `schemeStep` has computed (`toolStep`).  Everything
    proved about `validate` is read off this statement. -/
theorem validate_eval (isPrime : Nat → Bool) (p : Params) (sec : SecLevel) :
    (∃ c, validate isPrime p sec = .ok c ∧ c.parms = p ∧ c.err ≠ .Success ∧ firstFailing (ladder isPrime p sec) = c.err) ∨
    (Accepted isPrime p sec ∧
      firstFailing (ladder isPrime p sec) =
        firstFailing [ (rnsToolNew isPrime p.n p.q p.t = .ok false, .FailedCreatingRNSTool) ] ∧
      validate isPrime p sec = toolStep isPrime p (schemeLevel isPrime p (Nat.log2 p.n) (ctx2 p sec))) := by
  generalize hr : validate isPrime p sec = r
  unfold validate at hr
  unfold ladder
  simp only [Gen.HE_COEFF_MOD_COUNT_MAX, Gen.HE_COEFF_MOD_COUNT_MIN, Gen.HE_POLY_MOD_DEGREE_MIN, Gen.HE_POLY_MOD_DEGREE_MAX, B64_eq,
    List.cons_append, List.nil_append] at hr ⊢
  by_cases h1 : p.scheme = .None
  · rw [if_pos h1] at hr
    exact Or.inl ⟨_, hr.symm, rfl, nofun, firstFailing_pos h1⟩
  rw [if_neg h1] at hr
  rw [firstFailing_neg h1]
  by_cases h2 : p.q.length > 64 ∨ p.q.length < 1
  · rw [if_pos h2] at hr
    exact Or.inl ⟨_, hr.symm, rfl, nofun, firstFailing_pos h2⟩
  rw [if_neg h2] at hr
  rw [firstFailing_neg h2]
  by_cases h3 : ∃ q ∈ p.q, q < 2 ∨ 2^60 ≤ q
  · rw [if_pos (anyBitBad_iff.2 h3)] at hr
    exact Or.inl ⟨_, hr.symm, rfl, nofun, firstFailing_pos h3⟩
  rw [if_neg (mt anyBitBad_iff.1 h3)] at hr
  rw [firstFailing_neg h3]
  by_cases h4 : p.n < 2 ∨ 131072 < p.n
  · rw [if_pos h4] at hr
    exact Or.inl ⟨_, hr.symm, rfl, nofun, firstFailing_pos h4⟩
  rw [if_neg h4] at hr
  rw [firstFailing_neg h4]
  cases hkp : powerOfTwo? p.n with
  | none =>
    simp only [hkp] at hr
    exact Or.inl ⟨_, hr.symm, rfl, nofun, firstFailing_pos (powerOfTwo?_none hkp)⟩
  | some kp =>
  simp only [hkp] at hr
  obtain ⟨rfl, hpow⟩ := powerOfTwo?_some hkp
  rw [firstFailing_neg (not_not.2 ⟨_, hpow⟩)]
  by_cases h5 : 2^64 ≤ p.q.length * p.n
  · rw [if_pos h5] at hr
    exact Or.inl ⟨_, hr.symm, rfl, nofun, firstFailing_pos h5⟩
  rw [if_neg h5] at hr
  rw [firstFailing_neg h5]
  by_cases h6 : bitCount (prodL p.q) > maxBitCount p.n sec ∧ sec ≠ .None
  · rw [if_pos h6] at hr
    exact Or.inl ⟨_, hr.symm, rfl, nofun, firstFailing_pos ⟨h6.2, h6.1⟩⟩
  rw [if_neg h6] at hr
  rw [firstFailing_neg fun h => h6 ⟨h.2, h.1⟩]
  have hq : ∀ q ∈ p.q, 2 ≤ q ∧ q < 2^60 := fun q hqm => by
    have := not_or.1 fun h => h3 ⟨q, hqm, h⟩
    omega
  rw [← hr]
  rcases validateTail_eval isPrime (c := ctx2 p sec) rfl h1 (List.ne_nil_of_length_pos (l := p.q) (by omega)) hq hpow with
    hrej | ⟨hpc, hntt, hplain, hff, hv⟩
  -- after the seven early rungs are passed the goal speaks of the rest of the unfolded `ladder`, which is `tailLadder isPrime p` by
  -- definition (both are the scheme rungs followed by the tool rung): `hrej`, `hff` about `tailLadder` close it up to unfolding
  · exact Or.inl hrej
  · have hsec : sec = .None ∨ bitCount (prodL p.q) ≤ Gen.maxBitCount sec p.n := by
      by_cases hsec : sec = .None <;> [exact Or.inl hsec; exact Or.inr (not_lt.1 fun hc => h6 ⟨hc, hsec⟩)]
    exact Or.inr ⟨⟨h1, by omega, hq, by omega, hpow, hsec, hpc, hntt, hplain⟩, hff, hv⟩

theorem toolStep_ok {isPrime : Nat → Bool} {p : Params} {c' c : ContextData} (h : toolStep isPrime p c' = .ok c) :
    rnsToolNew isPrime p.n p.q p.t = .ok false ∧ c = { c' with err := .FailedCreatingRNSTool } ∨
    rnsToolNew isPrime p.n p.q p.t = .ok true ∧ c = { c' with descending := descendingB p.q } := by
  unfold toolStep at h
  cases ht : rnsToolNew isPrime p.n p.q p.t with
  | error e => rw [ht] at h; cases h
  | ok b =>
    rw [ht] at h
    cases b <;> cases h
    · exact Or.inl ⟨rfl, rfl⟩
    · exact Or.inr ⟨rfl, rfl⟩

theorem toolStep_total {isPrime : Nat → Bool} {p : Params} (c' : ContextData) (hT : ∃ b, rnsToolNew isPrime p.n p.q p.t = .ok b) :
    ∃ c, toolStep isPrime p c' = .ok c := by
  obtain ⟨b, hb⟩ := hT
  unfold toolStep
  rw [hb]
  cases b <;> exact ⟨_, rfl⟩

theorem error_ladder {isPrime : Nat → Bool} {p : Params} {sec : SecLevel} {c : ContextData}
    (h : validate isPrime p sec = .ok c) : c.err = firstFailing (ladder isPrime p sec) := by
  rcases validate_eval isPrime p sec with ⟨c1, h1, _, _, hff⟩ | ⟨_, hff, hv⟩
  · rw [h] at h1
    cases h1
    exact hff.symm
  · rw [hff]
    rcases toolStep_ok (hv ▸ h) with ⟨ht, rfl⟩ | ⟨ht, rfl⟩
    · exact (firstFailing_pos ht).symm
    · rw [firstFailing_neg (by rw [ht]; nofun)]
      exact schemeLevel_err ..

end HC.Ctx
