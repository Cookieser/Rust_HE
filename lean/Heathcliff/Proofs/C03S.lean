/- C03: the CKKS square of the MODEL (`ckksSquare`, mirror of `ckks_square` with its size-2 fast path) at the integer level:
   the exact phase of the square is the NEGACYCLIC SQUARE of the exact phase modulo Q (corollary of `ckksSquare_eq`, Proofs/C02S.lean,
   and `ckks_multiply_phase`, Proofs/C03P.lean).  Tag K1 in the docstrings: one theorem per operation on the exact phase (legend in the
   head of C03P). -/
import Heathcliff.Proofs.C03P
import Heathcliff.Proofs.C02S
namespace HC

/-- K1 SQUARE (`ckksSquare` = `ckks_square`, any size n in 2..8 — a larger square is refused by `resize`, in the code and in the
    model: `ckksSquare_refuse_size`): the model succeeds, the result is a canonical ciphertext of 2n − 1 polynomials, and its exact
    phase is the negacyclic square of the exact phase modulo Q: phase(r) ≡ phase(a) ⋆ phase(a).  No noise is added. -/
theorem ckks_square_phase {l : Level} (hl : l.WF) (hq : c07s_LevelQ l) (sk : Array Int) {a : Ct} (ha : CtCanon l a)
    (hna : a.ntt = true) (h8 : a.polys.size ≤ 8) :
    ∃ r, ckksSquare l a = .ok r ∧ c03k_Canon l r ∧ r.cf = a.cf ∧ r.polys.size = 2 * a.polys.size - 1 ∧ CtCanon l r ∧
      ∀ j, j < l.n → c03k_phase l sk r j ≡ negMulR l.n (c03k_phase l sk a) (c03k_phase l sk a) j [ZMOD (c03k_Q l : Int)] := by
  obtain ⟨r, hr, hcr, hcf, hsz, hcan, hph⟩ := ckks_multiply_phase hl hq sk ha ha hna hna (by omega)
  exact ⟨r, by rw [ckksSquare_eq (c02v_qsWF_of_levelWF hl) ha]; exact hr, hcr, hcf, by omega, hcan, hph⟩

/-- the square of a coefficient-form ciphertext is refused -/
theorem ckks_square_refuses_coeff (l : Level) (a : Ct) (h : a.ntt = false) : ckksSquare l a = .error .refused :=
  ckksSquare_refuse l a h

end HC
