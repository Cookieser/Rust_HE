import Heathcliff.Model.Evaluator

/-!
  The model's `ctValid` (`Ciphertext::is_valid_for`) as the conjunction of its two factors: the metadata part (`is_metadata_valid_for`: size,
  scale flag, correction factor) and the shape / data part (`is_buffer_valid`, `is_data_valid_for`).  About the model only: the tie of the
  metadata factor with the generated code is in `Proofs/GenValid.lean`, the reading of the two factors as `c06y_Valid` in `Proofs/C06Y.lean`.
-/
namespace HC

/-- the buffer-shape and data part of `ctValid` (`is_buffer_valid`, `is_data_valid_for`): every polynomial has `l.size` components of
    `l.n` residues below the component's modulus -/
def gx_ctShapeOk (l : Level) (ct : Ct) : Bool :=
  ct.polys.all fun p => p.size = l.size ∧
    (List.range l.size).all fun i => let c := p.getD i #[]; c.size = l.n ∧ c.all (· < (l.q i).value)

/-- the metadata part of `ctValid`: size 0 or 2..16, scale flag, correction factor -/
def gx_ctMetaValid (l : Level) (ct : Ct) (scaleIsOne scaleIsZero : Bool) : Bool :=
  decide (ct.polys.size = 0 ∨ (2 ≤ ct.polys.size ∧ ct.polys.size ≤ 16)) &&
  (match l.scheme with | .bfv | .bgv => scaleIsOne | .ckks => !scaleIsZero) &&
  (match l.scheme with | .bfv | .ckks => decide (ct.cf = 1) | .bgv => decide (ct.cf ≠ 0 ∧ ct.cf < l.t.value))

theorem gx_ctValid_split (l : Level) (ct : Ct) (s1 s0 : Bool) :
    ctValid l ct s1 s0 = (gx_ctMetaValid l ct s1 s0 && gx_ctShapeOk l ct) := by
  unfold ctValid gx_ctMetaValid gx_ctShapeOk
  dsimp only
  rw [Bool.and_right_comm _ (ct.polys.all _), Bool.and_right_comm _ (ct.polys.all _)]
  cases l.scheme <;> rfl

end HC
