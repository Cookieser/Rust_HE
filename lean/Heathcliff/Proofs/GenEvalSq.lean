import Heathcliff.Proofs.GenEvalCt3
import Heathcliff.Proofs.C02S

/-!
  Translator tie: the DATA of `Evaluator::bgv_square` / `ckks_square` / `bgv_multiply` / `ckks_multiply` (src/evaluator.rs), generated as
  skeletons over the flat ciphertext buffers into Gen/EvalCtFns.lean (`GenC.ct_bgv_square`, …; tables in tools/rs2lean_sq.py), against
  `bgvSquare` / `ckksSquare` / `bgvMultiply` / `ctMultiplyDyadic` of Model/Evaluator.lean.  Each routine is followed on buffers in normal
  form (`gs_flat l ps`, Proofs/GenEvalCt.lean): a kernel call on block `i` reads `ps[i]` and replaces it.  Helper names start with `gs_`.
-/
namespace HC
open HC.GenW HC.GenP HC.GenC

/-- GENERATED = MODEL (`bgv_square`, fast path) on a buffer in normal form: both sides run `c0·c0`, `c0·c1`, the doubling, `c1·c1`,
    `cf·cf mod t` in this order -/
theorem gs_bgv_square_flat (l : Level) (p0 p1 : RnsPoly) (cf : Nat) (h0 : gs_Shape l p0) (h1 : gs_Shape l p1) (hk : 1 ≤ l.size)
    (hB : 3 * (l.size * l.n) < B64) :
    GenC.ct_bgv_square (gs_flat l [p0, p1]) 2 cf true l.qs.toList l.t l.n =
      Except.map (fun c => (gs_flat l c.polys.toList, 3, c.cf, 0)) (bgvSquare l ⟨#[p0, p1], true, cf⟩) := by
  have hlen := gp_qs_length l
  have hD : l.size * l.n < B64 := Nat.lt_of_le_of_lt (Nat.le_mul_of_pos_left _ (by decide)) hB
  obtain ⟨m1, m2, m3⟩ := gs_mul_sizes l 3 hk hD hB
  obtain ⟨c, ca⟩ := gs_ck_blocks (l.size * l.n) 3 hB
  have e1 : GenC.resizeL (gs_flat l [p0, p1]) (3 * (l.size * l.n)) 0 = gs_flat l [p0, p1, rnsZero l] := gs_flat_resize l [p0, p1] 3 (by simp)
  have e2 : List.replicate (3 * (l.size * l.n)) 0 = gs_flat l [rnsZero l, rnsZero l, rnsZero l] := gs_flat_zeros l 3
  have hl : ∀ p : RnsPoly, (flattenRns l.size l.n p).length = l.size * l.n := gp_flattenRns_length _ _
  unfold GenC.ct_bgv_square bgvSquare
  simp only [hlen, not_true_eq_false, if_false, ne_eq, ckAdd_ok (a := 2) (b := 2) (by decide), ckSub_of_le (a := 4) (b := 1) (by decide), m1, m2, m3, R.ok_bind',
    c 0 (by omega), c 1 (by omega), c 2 (by omega), c 3 (by omega), ca 1 (by omega), e1, e2, Bool.not_true, Bool.false_eq_true,
    List.size_toArray, List.length_cons, List.length_nil]
  rw [if_pos (by decide), if_neg (by decide)]
  -- the first two kernel calls; then the product `m` is itself an operand, and its shape is needed
  simp only [gs_flat_slice, gs_flat_splice1, gs_flat_one, gs_dyadic_p_flat, R.map_bind, R.bind_map, R.ok_bind', h0, h1, hl, hD,
    Nat.zero_le, Nat.le_refl, List.length_cons, List.length_nil, Nat.reduceAdd, Nat.reduceLeDiff, Nat.reduceSub,
    List.drop_succ_cons, List.drop_zero, List.take_succ_cons, List.take_zero, List.nil_append, List.cons_append]
  refine bind_congr fun d0 => R.bind_congr _ fun m hm => ?_
  have hms : gs_Shape l m := gs_shape_zip l _ _ _ _ hm h0
  simp only [gs_flat_slice, gs_flat_splice1, gs_flat_one, gs_dyadic_p_flat, gs_add_inplace_p_flat, gs_flat_copy, R.map_bind,
    R.ok_bind', h1, hms, hl, hD, gw_multiply_u64_mod_eq,
    Nat.le_refl, List.length_cons, List.length_nil, Nat.reduceAdd, Nat.reduceLeDiff, Nat.reduceSub,
    List.drop_succ_cons, List.drop_zero, List.take_succ_cons, List.take_zero, List.nil_append, List.cons_append, List.drop_nil, List.append_nil]
  rfl

/-- GENERATED = MODEL (`bgv_square`, fast path): on the flat buffer of a size-2 NTT-form ciphertext the code generated from
    `Evaluator::bgv_square` returns the flattened `bgvSquare` of the model, size 3, the model's correction factor, route 0 (computed here) -
    successes and arithmetic traps alike (both sides run `c0·c0`, `c0·c1`, the doubling, `c1·c1`, `cf·cf mod t` in this order) -/
theorem gs_bgv_square_eq (l : Level) (d : List Nat) (cf : Nat) (hd : d.length = 2 * (l.size * l.n)) (hk : 1 ≤ l.size)
    (hB : 3 * (l.size * l.n) < B64) :
    GenC.ct_bgv_square d 2 cf true l.qs.toList l.t l.n =
      Except.map (fun c => (flattenCt l c, 3, c.cf, 0)) (bgvSquare l (unflattenCt l 2 d true cf)) := by
  have h := gs_bgv_square_flat l (gt_U l d 0) (gt_U l d 1) cf (gs_shape_unflatten l _) (gs_shape_unflatten l _) hk hB
  rwa [show [gt_U l d 0, gt_U l d 1] = (List.range 2).map (gt_U l d) from rfl, gs_flat_unflattenCt l 2 d hd] at h

/-- the dispatch of the generated `bgv_square`: coefficient form is refused; every size but 2 is handed to `bgv_multiply(x, &x.clone())`
    (route 1, buffer / size / factor untouched) - the model does the same BY DEFINITION (`bgvSquare_fallback`) -/
theorem gs_bgv_square_dispatch (d : List Nat) (size cf : Nat) (ntt : Bool) (mods : List Modulus) (t : Modulus) (n : Nat) :
    GenC.ct_bgv_square d size cf ntt mods t n =
      if ntt = false then .error .refused else if size ≠ 2 then .ok (d, size, cf, 1) else GenC.ct_bgv_square d 2 cf true mods t n := by
  cases ntt
  · unfold GenC.ct_bgv_square; simp
  · by_cases hs : size = 2
    · subst hs; simp
    · unfold GenC.ct_bgv_square; simp [hs, pure, Except.pure]

theorem bgvSquare_fallback (l : Level) (a : Ct) (hn : a.ntt = true) (hs : a.polys.size ≠ 2) : bgvSquare l a = bgvMultiply l a a := by
  unfold bgvSquare
  rw [if_neg (by simp [hn]), if_pos hs]

theorem ckksSquare_fallback (l : Level) (a : Ct) (hn : a.ntt = true) (hs : a.polys.size ≠ 2) : ckksSquare l a = ctMultiplyDyadic l a a := by
  unfold ckksSquare
  rw [if_neg (by simp [hn]), if_pos hs]

/-- GENERATED = MODEL (`ckks_square`, fast path) on a buffer in normal form: IN PLACE, in the order of the code (`c2 = c1·c1`, `c1 = c0·c1`,
    `c1 += c1`, `c0 = c0·c0`), then the bookkeeping of a ciphertext product -/
theorem gs_ckks_square_flat (l : Level) (p0 p1 : RnsPoly) (cf : Nat) (okOwn okProd o3 o4 : Bool) (h0 : gs_Shape l p0) (h1 : gs_Shape l p1)
    (hk : 1 ≤ l.size) (hB : 3 * (l.size * l.n) < B64) :
    GenC.ct_ckks_square (gs_flat l [p0, p1]) 2 true l.qs.toList l.n okOwn okProd o3 o4 = (do
      let c ← ckksSquare l ⟨#[p0, p1], true, cf⟩
      let b ← ckksProductBookkeeping true true 2 2 okProd
      pure (gs_flat l c.polys.toList, b.1, b.2, 0)) := by
  have hlen := gp_qs_length l
  have hD : l.size * l.n < B64 := Nat.lt_of_le_of_lt (Nat.le_mul_of_pos_left _ (by decide)) hB
  obtain ⟨m1, m2, m3⟩ := gs_mul_sizes l 3 hk hD hB
  obtain ⟨c, ca⟩ := gs_ck_blocks (l.size * l.n) 3 hB
  have e1 : GenC.resizeL (gs_flat l [p0, p1]) (3 * (l.size * l.n)) 0 = gs_flat l [p0, p1, rnsZero l] := gs_flat_resize l [p0, p1] 3 (by simp)
  have hl : ∀ p : RnsPoly, (flattenRns l.size l.n p).length = l.size * l.n := gp_flattenRns_length _ _
  have hbk : ckksProductBookkeeping true true 2 2 okProd = if okProd = true then .ok (3, 1) else .error .refused := by
    unfold ckksProductBookkeeping
    rw [if_neg (by simp), if_neg (by decide)]
    cases okProd <;> rfl
  unfold GenC.ct_ckks_square ckksSquare
  simp only [hlen, not_true_eq_false, if_false, ne_eq, ckAdd_ok (a := 2) (b := 2) (by decide), ckSub_of_le (a := 4) (b := 1) (by decide), m1, m2, m3, R.ok_bind',
    c 0 (by omega), c 1 (by omega), c 2 (by omega), ca 0 (by omega), ca 1 (by omega), ca 2 (by omega), e1, hbk, Bool.not_true,
    Bool.false_eq_true, List.size_toArray, List.length_cons, List.length_nil]
  rw [if_pos (by decide), if_neg (by decide)]
  simp only [bind_assoc, pure_bind, show (#[p0, p1] : Array RnsPoly).getD 0 #[] = p0 from rfl,
    show (#[p0, p1] : Array RnsPoly).getD 1 #[] = p1 from rfl]
  simp only [gs_flat_slice, gs_flat_splice1, gs_flat_one, gs_dyadic_p_flat, R.map_bind, R.ok_bind', h0, h1, hl, hD,
    Nat.zero_le, Nat.le_refl, List.length_cons, List.length_nil, Nat.reduceAdd, Nat.reduceLeDiff, Nat.reduceSub,
    List.drop_succ_cons, List.drop_zero, List.take_succ_cons, List.take_zero, List.nil_append, List.cons_append]
  refine bind_congr fun d2 => R.bind_congr _ fun m hm => ?_
  have hms : gs_Shape l m := gs_shape_zip l _ _ _ _ hm h0
  simp only [gs_flat_slice, gs_flat_splice1, gs_flat_one, gs_dyadic_p_flat, gs_add_inplace_p_flat, R.map_bind, R.ok_bind',
    h0, hms, hl, hD, Nat.zero_le, List.length_cons, List.length_nil, Nat.reduceAdd, Nat.reduceLeDiff, Nat.reduceSub,
    List.drop_succ_cons, List.drop_zero, List.take_succ_cons, List.take_zero, List.nil_append, List.cons_append]
  refine bind_congr fun d1 => bind_congr fun d0 => ?_
  cases okProd <;> simp [pure, Except.pure, ckAdd_ok (a := 0) (b := 1) (by decide), R.ok_bind', R.error_bind', gs_flat]

/-- GENERATED = MODEL (`ckks_square`, fast path): the flattened `ckksSquare` of the model, then the bookkeeping of a ciphertext product
    (`ckksProductBookkeeping`: size 2 + 2 − 1, one product recorded, verdict about the PRODUCT scale at the operand's level) -/
theorem gs_ckks_square_eq (l : Level) (d : List Nat) (cf : Nat) (okOwn okProd o3 o4 : Bool) (hd : d.length = 2 * (l.size * l.n))
    (hk : 1 ≤ l.size) (hB : 3 * (l.size * l.n) < B64) :
    GenC.ct_ckks_square d 2 true l.qs.toList l.n okOwn okProd o3 o4 = (do
      let c ← ckksSquare l (unflattenCt l 2 d true cf)
      let b ← ckksProductBookkeeping true true 2 2 okProd
      pure (flattenCt l c, b.1, b.2, 0)) := by
  have h := gs_ckks_square_flat l (gt_U l d 0) (gt_U l d 1) cf okOwn okProd o3 o4 (gs_shape_unflatten l _) (gs_shape_unflatten l _) hk hB
  rwa [show [gt_U l d 0, gt_U l d 1] = (List.range 2).map (gt_U l d) from rfl, gs_flat_unflattenCt l 2 d hd] at h

theorem gs_ckks_square_dispatch (d : List Nat) (size : Nat) (ntt : Bool) (mods : List Modulus) (n : Nat) (o1 o2 o3 o4 : Bool) :
    GenC.ct_ckks_square d size ntt mods n o1 o2 o3 o4 =
      if ntt = false then .error .refused else if size ≠ 2 then .ok (d, size, 0, 1) else GenC.ct_ckks_square d 2 true mods n o1 o2 o3 o4 := by
  cases ntt
  · unfold GenC.ct_ckks_square; simp
  · by_cases hs : size = 2
    · subst hs; simp
    · unfold GenC.ct_ckks_square; simp [hs, pure, Except.pure]


/-- one accumulation step of the model's product, on blocks of the flat operands -/
def gs_mulStep (l : Level) (A B : List Nat) (acc : RnsPoly) (p : Nat × Nat) : R RnsPoly := do
  let pr ← rnsDyadic l (unflattenRns l.size l.n (gp_blk (l.size * l.n) A p.1)) (unflattenRns l.size l.n (gp_blk (l.size * l.n) B p.2))
  rnsAdd l acc pr

theorem gs_map_fst_bind {α β γ : Type} (x : R (α × β)) (f : α → R γ) :
    (x >>= fun p => f p.1) = (Except.map Prod.fst x >>= f) := by
  cases x <;> rfl

theorem gs_fold_shape (l : Level) (A B : List Nat) : ∀ (ps : List (Nat × Nat)) (acc r : RnsPoly), gs_Shape l acc →
    ps.foldlM (gs_mulStep l A B) acc = .ok r → gs_Shape l r := by
  intro ps
  induction ps with
  | nil => intro acc r h hr; cases hr; exact h
  | cons p ps ih =>
    intro acc r h hr
    rw [List.foldlM_cons] at hr
    obtain ⟨acc', hs, hr⟩ := R.bind_eq_ok.mp hr
    obtain ⟨pr, _, hs⟩ := R.bind_eq_ok.mp hs
    exact ih acc' r (gs_shape_zip l _ _ _ _ hs h) hr

/-- the inner loop (`for j in 0..steps`): the accumulator, polynomial `i` of `temp`, runs through the model's fold over the visited pairs -/
theorem gs_mul_inner (l : Level) (As Bs P S : List RnsPoly) (i first1 first2 s1 steps : Nat)
    (hAs : ∀ p, p ∈ As → gs_Shape l p) (hBs : ∀ p, p ∈ Bs → gs_Shape l p) (hP : P.length = i) (hs1 : s1 ≤ As.length)
    (hAB : As.length * (l.size * l.n) < B64) (hBB : Bs.length * (l.size * l.n) < B64) (h2 : first2 < Bs.length) (hs1B : s1 < B64)
    (hT : (i + 1 + S.length) * (l.size * l.n) < B64) (hDB : l.size * l.n < B64) :
    ∀ cnt j acc prod, gs_Shape l acc → prod.length = l.size * l.n → first1 + j + cnt ≤ s1 → j + cnt ≤ first2 + 1 →
    Except.map Prod.fst (GenC.ct_bgv_multiply_loop2 (gs_flat l As) (gs_flat l Bs) l.n l.qs.toList i first2 first1 steps (l.size * l.n) cnt j
        (gs_flat l (P ++ acc :: S)) prod) =
      Except.map (fun acc' => gs_flat l (P ++ acc' :: S))
        (((List.range' j cnt).map fun j => (first1 + j, first2 - j)).foldlM (gs_mulStep l (gs_flat l As) (gs_flat l Bs)) acc) := by
  have hmono : ∀ {a b : Nat}, a ≤ b → b * (l.size * l.n) < B64 → a * (l.size * l.n) < B64 :=
    fun h hb => Nat.lt_of_le_of_lt (Nat.mul_le_mul_right _ h) hb
  have hget : ∀ acc : RnsPoly, (P ++ acc :: S).getD i #[] = acc := fun acc => by rw [← hP]; simp
  have hset : ∀ acc q : RnsPoly, (P ++ acc :: S).take i ++ q :: (P ++ acc :: S).drop (i + 1) = P ++ q :: S := fun acc q => by
    rw [← hP]; simp
  have hi : ∀ acc : RnsPoly, i < (P ++ acc :: S).length := fun acc => by rw [← hP]; simp
  have hiT : i + 1 ≤ i + 1 + S.length := Nat.le_add_right _ _
  intro cnt
  induction cnt with
  | zero => intro j acc prod _ _ _ _; rfl
  | succ c ih =>
    intro j acc prod hacc hprod hj1 hj2
    have hfj : first1 + j < s1 := Nat.lt_of_lt_of_le (Nat.lt_add_of_pos_right (Nat.succ_pos c)) hj1
    have hjf : j ≤ first2 := Nat.le_of_lt_succ (Nat.lt_of_lt_of_le (Nat.lt_add_of_pos_right (Nat.succ_pos c)) hj2)
    have ha : first1 + j < As.length := Nat.lt_of_lt_of_le hfj hs1
    have hb : first2 - j < Bs.length := Nat.lt_of_le_of_lt (Nat.sub_le _ _) h2
    have ua : unflattenRns l.size l.n (gp_blk (l.size * l.n) (gs_flat l As) (first1 + j)) = As.getD (first1 + j) #[] := gs_U_flat l As hAs _ ha
    have ub : unflattenRns l.size l.n (gp_blk (l.size * l.n) (gs_flat l Bs) (first2 - j)) = Bs.getD (first2 - j) #[] := gs_U_flat l Bs hBs _ hb
    rw [GenC.ct_bgv_multiply_loop2]
    simp only [ckAdd_ok (a := first1) (b := j) (Nat.lt_trans hfj hs1B), ckSub_of_le (a := first2) (b := j) hjf, ckMul_ok (hmono (Nat.le_of_lt ha) hAB),
      ckMul_ok (hmono (Nat.le_of_lt hb) hBB), ckMul_ok (a := i) (hmono (Nat.le_of_lt hiT) hT), (gs_ck_blocks _ _ hAB).2 _ ha,
      (gs_ck_blocks _ _ hBB).2 _ hb, (gs_ck_blocks _ _ hT).2 i hiT, R.ok_bind',
      gs_flat_slice1 l As _ ha, gs_flat_slice1 l Bs _ hb, gs_flat_slice1 l _ i (hi acc), hget,
      gs_dyadic_p_flat l _ _ prod (gs_getD_shape l As hAs _ ha) (gs_getD_shape l Bs hBs _ hb) hprod hDB,
      List.range'_succ, List.map_cons, List.foldlM_cons, gs_mulStep, ua, ub, R.bind_map, R.map_bind, bind_assoc]
    refine R.bind_congr _ fun pr hpr => ?_
    have hprs : gs_Shape l pr := gs_shape_zip l _ _ _ _ hpr (gs_getD_shape l As hAs _ ha)
    rw [gs_add_inplace_p_flat l acc pr hacc hprs hDB, R.map_bind]
    refine R.bind_congr _ fun acc' hadd => ?_
    rw [gs_flat_splice1, hset]
    exact ih (j + 1) acc' _ (gs_shape_zip l _ _ _ _ hadd hacc) (gp_flattenRns_length _ _ _)
      (by rw [show first1 + (j + 1) + c = first1 + j + (c + 1) by ac_rfl]; exact hj1)
      (by rw [show j + 1 + c = j + (c + 1) by ac_rfl]; exact hj2)

theorem gs_mulPairs_range' (s1 s2 i : Nat) :
    mulPairs s1 s2 i = (List.range' 0 (min i (s1 - 1) - (i - min i (s2 - 1)) + 1)).map
      fun j => (i - min i (s2 - 1) + j, min i (s2 - 1) - j) := by
  unfold mulPairs
  simp only [List.range_eq_range']

/-- the pairs visited for output polynomial `i < s1 + s2 - 1` stay inside both operands -/
theorem gs_row_bounds {s1 s2 i c : Nat} (h1 : 1 ≤ s1) (h2 : 1 ≤ s2) (hi : i + (c + 1) = s1 + s2 - 1) :
    i - min i (s2 - 1) ≤ min i (s1 - 1) ∧ min i (s2 - 1) < s2 ∧
      i - min i (s2 - 1) + 0 + (min i (s1 - 1) - (i - min i (s2 - 1)) + 1) ≤ s1 ∧
      0 + (min i (s1 - 1) - (i - min i (s2 - 1)) + 1) ≤ min i (s2 - 1) + 1 := by
  omega

/-- the size of a product of ciphertexts of sizes `a`, `b ≥ 1` -/
theorem gs_sum_pred {a b : Nat} (h1 : 1 ≤ a) (h2 : 1 ≤ b) :
    a ≤ a + b - 1 ∧ b ≤ a + b - 1 ∧ 1 ≤ a + b - 1 ∧ a + (a + b - 1 - a) = a + b - 1 ∧ 1 ≤ a + b ∧ ¬(a < 1 ∨ b < 1) := by
  omega

/-- one output polynomial: the inner loop started on a zero accumulator behind the polynomials already computed -/
theorem gs_mul_row (l : Level) (As Bs : List RnsPoly) (s1 s2 i c : Nat) (done : List RnsPoly) (h1 : 1 ≤ s1) (h2 : 1 ≤ s2)
    (hAs : ∀ p, p ∈ As → gs_Shape l p) (hBs : ∀ p, p ∈ Bs → gs_Shape l p) (hA : As.length = s1 + s2 - 1) (hB : Bs.length = s2)
    (hAB : As.length * (l.size * l.n) < B64) (hBB : Bs.length * (l.size * l.n) < B64) (hsB : s1 + s2 < B64) (hdone : done.length = i)
    (hi : i + (c + 1) = s1 + s2 - 1) :
    Except.map Prod.fst (GenC.ct_bgv_multiply_loop2 (gs_flat l As) (gs_flat l Bs) l.n l.qs.toList i (min i (s2 - 1)) (i - min i (s2 - 1))
        (min i (s1 - 1) - (i - min i (s2 - 1)) + 1) (l.size * l.n) (min i (s1 - 1) - (i - min i (s2 - 1)) + 1) 0
        (gs_flat l (done ++ List.replicate (c + 1) (rnsZero l))) (List.replicate (l.size * l.n) 0)) =
      Except.map (fun r => gs_flat l (done ++ r :: List.replicate c (rnsZero l)))
        ((mulPairs s1 s2 i).foldlM (gs_mulStep l (gs_flat l As) (gs_flat l Bs)) (rnsZero l)) := by
  have hDB : l.size * l.n < B64 := Nat.lt_of_le_of_lt (Nat.le_mul_of_pos_left _ (hB ▸ h2)) hBB
  have hs1 : s1 ≤ As.length := hA ▸ (gs_sum_pred h1 h2).1
  have hT : (i + 1 + (List.replicate c (rnsZero l)).length) * (l.size * l.n) < B64 := by
    rw [List.length_replicate, show i + 1 + c = As.length by rw [hA, ← hi]; ac_rfl]; exact hAB
  obtain ⟨_, b2, b3, b4⟩ := gs_row_bounds h1 h2 hi
  rw [gs_mulPairs_range', List.replicate_succ]
  exact gs_mul_inner l As Bs done (List.replicate c (rnsZero l)) i (i - min i (s2 - 1)) (min i (s2 - 1)) s1
    (min i (s1 - 1) - (i - min i (s2 - 1)) + 1) hAs hBs hdone
    hs1 hAB hBB (hB ▸ b2) (Nat.lt_of_le_of_lt (Nat.le_add_right s1 s2) hsB) hT hDB
    (min i (s1 - 1) - (i - min i (s2 - 1)) + 1) 0 (rnsZero l) (List.replicate (l.size * l.n) 0) (gs_zero_shape l) (List.length_replicate ..) b3 b4

/-- the outer loop (`for i in 0..dest_size`) of `bgv_multiply` and of `ckks_multiply`, as any `L` that runs the inner loop and goes on: the
    model's `mapM` over the output polynomials, then whatever `L` does after the last one -/
theorem gs_mul_outer {γ : Type} (l : Level) (As Bs : List RnsPoly) (s1 s2 : Nat) (L : Nat → Nat → List Nat → R γ) (h1 : 1 ≤ s1) (h2 : 1 ≤ s2)
    (hAs : ∀ p, p ∈ As → gs_Shape l p) (hBs : ∀ p, p ∈ Bs → gs_Shape l p) (hA : As.length = s1 + s2 - 1) (hB : Bs.length = s2)
    (hAB : As.length * (l.size * l.n) < B64) (hBB : Bs.length * (l.size * l.n) < B64) (hsB : s1 + s2 < B64)
    (hL : ∀ c i t, i + (c + 1) = s1 + s2 - 1 → L (c + 1) i t =
      GenC.ct_bgv_multiply_loop2 (gs_flat l As) (gs_flat l Bs) l.n l.qs.toList i (min i (s2 - 1)) (i - min i (s2 - 1))
        (min i (s1 - 1) - (i - min i (s2 - 1)) + 1) (l.size * l.n) (min i (s1 - 1) - (i - min i (s2 - 1)) + 1) 0 t
        (List.replicate (l.size * l.n) 0) >>= fun p => L c (i + 1) p.1) :
    ∀ cnt i (done : List RnsPoly), done.length = i → i + cnt = s1 + s2 - 1 →
    L cnt i (gs_flat l (done ++ List.replicate cnt (rnsZero l))) = (do
      let rest ← (List.range' i cnt).mapM (fun i => (mulPairs s1 s2 i).foldlM (gs_mulStep l (gs_flat l As) (gs_flat l Bs)) (rnsZero l))
      L 0 (s1 + s2 - 1) (gs_flat l (done ++ rest))) := by
  intro cnt
  induction cnt with
  | zero => intro i done _ hi; simp [← hi]
  | succ c ih =>
    intro i done hdone hi
    rw [hL c i _ hi, gs_map_fst_bind, gs_mul_row l As Bs s1 s2 i c done h1 h2 hAs hBs hA hB hAB hBB hsB hdone hi, R.map_bind]
    simp only [List.range'_succ, List.mapM_cons, bind_assoc, pure_bind]
    refine bind_congr fun r => ?_
    have h := ih (i + 1) (done ++ [r]) (by simp [hdone]) (by omega)
    simp only [List.append_assoc, List.cons_append, List.nil_append] at h
    exact h

/-- the rows of the product read the first operand only below its size: the padding of the resize does not matter -/
theorem gs_mul_rows_model (l : Level) (A B Z : List RnsPoly) (hAZ : ∀ p, p ∈ A ++ Z → gs_Shape l p) (hB : ∀ p, p ∈ B → gs_Shape l p)
    (h1 : 1 ≤ A.length) (h2 : 1 ≤ B.length) :
    (List.range (A.length + B.length - 1)).mapM (fun i =>
        (mulPairs A.length B.length i).foldlM (gs_mulStep l (gs_flat l (A ++ Z)) (gs_flat l B)) (rnsZero l)) =
      (List.range (A.length + B.length - 1)).mapM (fun i => (mulPairs A.length B.length i).foldlM (fun acc p => do
        let pr ← rnsDyadic l (A.toArray.getD p.1 #[]) (B.toArray.getD p.2 #[])
        rnsAdd l acc pr) (rnsZero l)) := by
  refine R.mapM_congr (fun i hi => R.foldlM_congr _ (fun p hp acc => ?_))
  obtain ⟨hp1, hp2, _⟩ := ((mulPairs_spec h1 h2 (List.mem_range.mp hi)).2 p.1 p.2).mp hp
  have ua : unflattenRns l.size l.n (gp_blk (l.size * l.n) (gs_flat l (A ++ Z)) p.1) = (A ++ Z).getD p.1 #[] :=
    gs_U_flat l _ hAZ _ (by rw [List.length_append]; exact Nat.lt_of_lt_of_le hp1 (Nat.le_add_right _ _))
  have ub : unflattenRns l.size l.n (gp_blk (l.size * l.n) (gs_flat l B) p.2) = B.getD p.2 #[] := gs_U_flat l B hB _ hp2
  simp only [gs_mulStep, ua, ub, list_getD_toArray, list_getD_append_left A Z #[] hp1]

/-- the nested loops of `bgv_multiply` / `ckks_multiply` on the resized first operand and the zeroed `temp`: the rows of `ctMultiplyDyadic`,
    then whatever the outer loop `L` does after the last one -/
theorem gs_mul_loops {γ : Type} (l : Level) (A B : List RnsPoly) (L : Nat → Nat → List Nat → R γ)
    (hA : ∀ p, p ∈ A → gs_Shape l p) (hB : ∀ p, p ∈ B → gs_Shape l p) (h1 : 1 ≤ A.length) (h2 : 1 ≤ B.length)
    (hB64 : (A.length + B.length - 1) * (l.size * l.n) < B64) (hsB : A.length + B.length < B64)
    (hL : ∀ c i t, i + (c + 1) = A.length + B.length - 1 → L (c + 1) i t =
      GenC.ct_bgv_multiply_loop2 (gs_flat l (A ++ List.replicate (A.length + B.length - 1 - A.length) (rnsZero l))) (gs_flat l B) l.n l.qs.toList i
        (min i (B.length - 1)) (i - min i (B.length - 1)) (min i (A.length - 1) - (i - min i (B.length - 1)) + 1) (l.size * l.n)
        (min i (A.length - 1) - (i - min i (B.length - 1)) + 1) 0 t (List.replicate (l.size * l.n) 0) >>= fun p => L c (i + 1) p.1) :
    L (A.length + B.length - 1) 0 (gs_flat l (List.replicate (A.length + B.length - 1) (rnsZero l))) = (do
      let ps ← (List.range (A.length + B.length - 1)).mapM (fun i => (mulPairs A.length B.length i).foldlM (fun acc p => do
        let pr ← rnsDyadic l (A.toArray.getD p.1 #[]) (B.toArray.getD p.2 #[])
        rnsAdd l acc pr) (rnsZero l))
      L 0 (A.length + B.length - 1) (gs_flat l ps)) := by
  have hZs : ∀ p, p ∈ A ++ List.replicate (A.length + B.length - 1 - A.length) (rnsZero l) → gs_Shape l p := by
    intro p hp
    rcases List.mem_append.mp hp with h | h
    · exact hA p h
    · rw [(List.mem_replicate.mp h).2]; exact gs_zero_shape l
  obtain ⟨_, s2, _, s4, _, _⟩ := gs_sum_pred h1 h2
  have hAZ : (A ++ List.replicate (A.length + B.length - 1 - A.length) (rnsZero l)).length = A.length + B.length - 1 := by
    rw [List.length_append, List.length_replicate]; exact s4
  have h := gs_mul_outer l _ B A.length B.length L h1 h2 hZs hB hAZ rfl (by rw [hAZ]; exact hB64)
    (Nat.lt_of_le_of_lt (Nat.mul_le_mul_right _ s2) hB64) hsB hL (A.length + B.length - 1) 0 [] rfl (Nat.zero_add _)
  rw [List.nil_append] at h
  rw [h, ← List.range_eq_range', gs_mul_rows_model l A B _ hZs hB h1 h2]
  rfl

/-- `Evaluator::bgv_multiply` on buffers in normal form = the hand model's `bgvMultiply` on the NTT-form ciphertexts with polynomials `A`, `B`:
    the result buffer is the normal form of the model's product polynomials (all dyadic products `A_i ⊙ B_j` summed by `i + j`,
    `gs_mul_rows_model`), the size is `|A| + |B| − 1`, the factor the model's; the two product loops are `gs_mul_loops`, the rest is the
    resize / copy bookkeeping of the generated function -/
theorem gs_bgv_multiply_flat (l : Level) (A B : List RnsPoly) (cf1 cf2 : Nat) (hA : ∀ p, p ∈ A → gs_Shape l p) (hB : ∀ p, p ∈ B → gs_Shape l p)
    (h1 : 1 ≤ A.length) (h2 : 1 ≤ B.length) (hk : 1 ≤ l.size) (hB64 : (A.length + B.length - 1) * (l.size * l.n) < B64)
    (hsB : A.length + B.length < B64) :
    GenC.ct_bgv_multiply (gs_flat l A) A.length cf1 (gs_flat l B) B.length cf2 true true l.qs.toList l.t l.n =
      Except.map (fun c => (gs_flat l c.polys.toList, A.length + B.length - 1, c.cf))
        (bgvMultiply l ⟨A.toArray, true, cf1⟩ ⟨B.toArray, true, cf2⟩) := by
  have hlen := gp_qs_length l
  obtain ⟨s1, _, s3, s4, s5, s6⟩ := gs_sum_pred h1 h2
  unfold GenC.ct_bgv_multiply bgvMultiply ctMultiplyDyadic
  simp only [hlen, List.size_toArray, not_true_eq_false, or_self, if_false, Bool.not_true, Bool.false_eq_true, ckAdd_ok hsB, R.ok_bind',
    ckSub_of_le (a := (A.length + B.length)) (b := 1) s5]
  rw [if_neg s6]
  by_cases hrz : ctResizeRefuses (A.length + B.length - 1) = true
  · have hr := (ctResizeRefuses_eq_true_iff _).mp hrz
    rw [if_pos hrz, if_neg (show ¬¬((A.length + B.length - 1 < 2 ∧ A.length + B.length - 1 ≠ 0) ∨ A.length + B.length - 1 > 16) by omega)]
    rfl
  · have hr := (ctResizeRefuses_eq_false_iff _).mp (by simpa using hrz)
    rw [if_neg hrz, if_pos (show ¬((A.length + B.length - 1 < 2 ∧ A.length + B.length - 1 ≠ 0) ∨ A.length + B.length - 1 > 16) by omega)]
    obtain ⟨m1, m2, m3⟩ := gs_mul_sizes l (A.length + B.length - 1) hk
      (Nat.lt_of_le_of_lt (Nat.le_mul_of_pos_left _ s3) hB64) hB64
    obtain ⟨c, _⟩ := gs_ck_blocks (l.size * l.n) (A.length + B.length - 1) hB64
    simp only [m1, m2, R.ok_bind', gs_flat_resize l A _ s1, gs_flat_zeros]
    rw [gs_mul_loops l A B (GenC.ct_bgv_multiply_loop1 (gs_flat l (A ++ List.replicate (A.length + B.length - 1 - A.length) (rnsZero l)))
        (gs_flat l B) cf2 l.qs.toList l.t l.n (A.length + B.length - 1) cf1 l.n l.size A.length B.length (A.length + B.length - 1))
      hA hB h1 h2 hB64 hsB (fun c i t hi => by
      obtain ⟨b1, _, b3, _⟩ := gs_row_bounds h1 h2 hi
      rw [GenC.ct_bgv_multiply_loop1]
      simp only [ckSub_of_le (b := 1) h1, ckSub_of_le (b := 1) h2, ckSub_of_le (a := i) (Nat.min_le_left _ _), ckSub_of_le b1,
        ckAdd_ok (b := 1) (Nat.lt_of_le_of_lt (Nat.le_trans (Nat.le_add_left _ _) b3) (Nat.lt_of_le_of_lt (Nat.le_add_right _ _) hsB)), m3, R.ok_bind']),
      bind_assoc, R.bind_map]
    refine R.bind_congr _ fun ps hm => ?_
    have hps : ps.length = A.length + B.length - 1 := by rw [R.mapM_length hm, List.length_range]
    have hAZ : (A ++ List.replicate (A.length + B.length - 1 - A.length) (rnsZero l)).length = A.length + B.length - 1 := by
      rw [List.length_append, List.length_replicate]; exact s4
    rw [GenC.ct_bgv_multiply_loop1]
    simp only [hlen, m3, R.ok_bind', c 0 (Nat.zero_le _), c _ (Nat.le_refl _),
      gs_flat_slice l (A ++ List.replicate (A.length + B.length - 1 - A.length) (rnsZero l)) 0 _ (Nat.zero_le _) (Nat.le_of_eq hAZ.symm),
      gs_flat_copy l (A ++ List.replicate (A.length + B.length - 1 - A.length) (rnsZero l)) ps 0 _ (by rw [hps, Nat.sub_zero]),
      gw_multiply_u64_mod_eq, List.take_zero, List.nil_append, Nat.zero_add]
    rw [List.drop_eq_nil_of_le (by rw [hAZ, hps]), List.append_nil]
    cases mulMod cf1 cf2 l.t with
    | error e => rfl
    | ok f => rfl


/-- GENERATED = MODEL (`bgv_multiply`, data and factor): on the flat buffers of two NTT-form ciphertexts of ANY sizes s1, s2 ≥ 1 the code generated from
    `Evaluator::bgv_multiply` (resize, nested loops over the visited pairs with `dyadic_product_p` / `add_inplace_p`, copy back, factor product) returns the
    flattened `bgvMultiply` of the model, the size s1 + s2 − 1 and the model's factor - successes, the `resize` refusal and arithmetic traps alike -/
theorem gs_bgv_multiply_eq (l : Level) (d1 d2 : List Nat) (s1 s2 cf1 cf2 : Nat) (hd1 : d1.length = s1 * (l.size * l.n))
    (hd2 : d2.length = s2 * (l.size * l.n)) (h1 : 1 ≤ s1) (h2 : 1 ≤ s2) (hk : 1 ≤ l.size)
    (hB : (s1 + s2 - 1) * (l.size * l.n) < B64) (hB2 : d2.length < B64) (hsB : s1 + s2 < B64) :
    GenC.ct_bgv_multiply d1 s1 cf1 d2 s2 cf2 true true l.qs.toList l.t l.n =
      Except.map (fun c => (flattenCt l c, s1 + s2 - 1, c.cf))
        (bgvMultiply l (unflattenCt l s1 d1 true cf1) (unflattenCt l s2 d2 true cf2)) := by
  have h := gs_bgv_multiply_flat l ((List.range s1).map (gt_U l d1)) ((List.range s2).map (gt_U l d2)) cf1 cf2
    (gs_buffer_shape l s1 d1) (gs_buffer_shape l s2 d2)
  simp only [List.length_map, List.length_range, gs_flat_unflattenCt l s1 d1 hd1, gs_flat_unflattenCt l s2 d2 hd2] at h
  exact h h1 h2 hk hB hsB

/-- `bgv_square` as the code runs it: the generated dispatch / fast path, and on route 1 the generated `bgv_multiply` on the ciphertext and
    its clone (`self.bgv_multiply(encrypted, &encrypted.clone())`: same buffer, size, factor and representation for both operands) -/
def gs_bgv_square_run (d : List Nat) (size cf : Nat) (ntt : Bool) (mods : List Modulus) (t : Modulus) (n : Nat) : R (List Nat × Nat × Nat) := do
  let r ← GenC.ct_bgv_square d size cf ntt mods t n
  if r.2.2.2 = 1 then GenC.ct_bgv_multiply r.1 r.2.1 r.2.2.1 r.1 r.2.1 r.2.2.1 ntt ntt mods t n
  else pure (r.1, r.2.1, r.2.2.1)

/-- GENERATED = MODEL (`bgv_square`, EVERY size ≥ 1, both representations): the generated code, with the fallback route resolved by the generated
    `bgv_multiply`, returns the flattened `bgvSquare` of the model, the size 2s − 1 and the model's factor; refusals (coefficient form, result
    size > 16) and arithmetic traps included.  With `bgvSquare_eq`: = the flattened product of the ciphertext with itself. -/
theorem gs_bgv_square_run_eq (l : Level) (d : List Nat) (s cf : Nat) (ntt : Bool) (hd : d.length = s * (l.size * l.n)) (h1 : 1 ≤ s)
    (hk : 1 ≤ l.size) (hB : (2 * s - 1) * (l.size * l.n) < B64) (hsB : s + s < B64) :
    gs_bgv_square_run d s cf ntt l.qs.toList l.t l.n =
      Except.map (fun c => (flattenCt l c, 2 * s - 1, c.cf)) (bgvSquare l (unflattenCt l s d ntt cf)) := by
  unfold gs_bgv_square_run
  rw [gs_bgv_square_dispatch]
  cases ntt
  · rw [if_pos rfl, bgvSquare_refuse l _ rfl]; rfl
  · rw [if_neg (by simp)]
    by_cases hs : s = 2
    · subst hs
      rw [if_neg (by simp), gs_bgv_square_eq l d cf hd hk (by omega)]
      cases bgvSquare l (unflattenCt l 2 d true cf) with
      | error e => rfl
      | ok c => rfl
    · rw [if_pos hs]
      simp only [R.ok_bind', if_true]
      have hle : s * (l.size * l.n) ≤ (2 * s - 1) * (l.size * l.n) := Nat.mul_le_mul_right _ (by omega)
      rw [gs_bgv_multiply_eq l d d s s cf cf hd hd h1 h1 hk (by rw [show s + s - 1 = 2 * s - 1 by omega]; exact hB) (by omega) hsB,
        bgvSquare_fallback l _ rfl (by rw [gc_polys_size]; exact hs), show s + s - 1 = 2 * s - 1 by omega]

theorem gs_ckks_loop2_eq (A B : List Nat) (n : Nat) (mods : List Modulus) (i f2 f1 st D : Nat) : ∀ cnt j t p,
    GenC.ct_ckks_multiply_loop2 A B n mods i f2 f1 st D cnt j t p = GenC.ct_bgv_multiply_loop2 A B n mods i f2 f1 st D cnt j t p := by
  intro cnt
  induction cnt with
  | zero => intro j t p; rfl
  | succ c ih =>
    intro j t p
    rw [GenC.ct_ckks_multiply_loop2, GenC.ct_bgv_multiply_loop2]
    simp only [ih]

/-- `Evaluator::ckks_multiply` on buffers in normal form: the product polynomials of `ctMultiplyDyadic` as in `gs_bgv_multiply_flat` (the
    generated inner loop is the BGV one, `gs_ckks_loop2_eq`) and the size / scale verdict of `ckksProductBookkeeping` -/
theorem gs_ckks_multiply_flat (l : Level) (A B : List RnsPoly) (cf1 cf2 : Nat) (okOwn okProd o3 o4 : Bool)
    (hA : ∀ p, p ∈ A → gs_Shape l p) (hB : ∀ p, p ∈ B → gs_Shape l p) (h1 : 1 ≤ A.length) (h2 : 1 ≤ B.length) (hk : 1 ≤ l.size)
    (hB64 : (A.length + B.length - 1) * (l.size * l.n) < B64) (hsB : A.length + B.length < B64) :
    GenC.ct_ckks_multiply (gs_flat l A) A.length (gs_flat l B) B.length true true l.qs.toList l.n okOwn okProd o3 o4 = (do
      let c ← ctMultiplyDyadic l ⟨A.toArray, true, cf1⟩ ⟨B.toArray, true, cf2⟩
      let b ← ckksProductBookkeeping true true A.length B.length okProd
      pure (gs_flat l c.polys.toList, b.1, b.2)) := by
  have hlen := gp_qs_length l
  obtain ⟨s1, _, s3, s4, s5, s6⟩ := gs_sum_pred h1 h2
  unfold GenC.ct_ckks_multiply ctMultiplyDyadic ckksProductBookkeeping
  simp only [hlen, List.size_toArray, not_true_eq_false, or_self, if_false, Bool.not_true, Bool.false_eq_true, ckAdd_ok hsB, R.ok_bind',
    ckSub_of_le (a := (A.length + B.length)) (b := 1) s5, Bool.true_eq_false]
  rw [if_neg s6]
  by_cases hrz : ctResizeRefuses (A.length + B.length - 1) = true
  · have hr := (ctResizeRefuses_eq_true_iff _).mp hrz
    rw [if_pos hrz, if_neg (show ¬¬((A.length + B.length - 1 < 2 ∧ A.length + B.length - 1 ≠ 0) ∨ A.length + B.length - 1 > 16) by omega)]
    rfl
  · have hr := (ctResizeRefuses_eq_false_iff _).mp (by simpa using hrz)
    rw [if_neg hrz, if_neg hrz, if_pos (show ¬((A.length + B.length - 1 < 2 ∧ A.length + B.length - 1 ≠ 0) ∨ A.length + B.length - 1 > 16) by omega)]
    obtain ⟨m1, m2, m3⟩ := gs_mul_sizes l (A.length + B.length - 1) hk
      (Nat.lt_of_le_of_lt (Nat.le_mul_of_pos_left _ s3) hB64) hB64
    simp only [m1, m2, R.ok_bind', gs_flat_resize l A _ s1, gs_flat_zeros]
    rw [gs_mul_loops l A B (GenC.ct_ckks_multiply_loop1 (gs_flat l (A ++ List.replicate (A.length + B.length - 1 - A.length) (rnsZero l)))
        (gs_flat l B) okOwn okProd (A.length + B.length - 1) 0 l.n l.qs.toList l.size A.length B.length (A.length + B.length - 1))
      hA hB h1 h2 hB64 hsB (fun c i t hi => by
      obtain ⟨b1, _, b3, _⟩ := gs_row_bounds h1 h2 hi
      rw [GenC.ct_ckks_multiply_loop1]
      simp only [ckSub_of_le (b := 1) h1, ckSub_of_le (b := 1) h2, ckSub_of_le (a := i) (Nat.min_le_left _ _), ckSub_of_le b1,
        ckAdd_ok (b := 1) (Nat.lt_of_le_of_lt (Nat.le_trans (Nat.le_add_left _ _) b3) (Nat.lt_of_le_of_lt (Nat.le_add_right _ _) hsB)), m3, R.ok_bind',
        gs_ckks_loop2_eq]),
      bind_assoc]
    refine R.bind_congr _ fun ps hm => ?_
    have hps : ps.length = A.length + B.length - 1 := by rw [R.mapM_length hm, List.length_range]
    have hAZ : (A ++ List.replicate (A.length + B.length - 1 - A.length) (rnsZero l)).length = A.length + B.length - 1 := by
      rw [List.length_append, List.length_replicate]; exact s4
    have hsl := gs_flat_slice l (A ++ List.replicate (A.length + B.length - 1 - A.length) (rnsZero l)) 0 _ (Nat.zero_le _) (Nat.le_of_eq hAZ.symm)
    have hcp := gs_flat_copy l (A ++ List.replicate (A.length + B.length - 1 - A.length) (rnsZero l)) ps 0 _ (by rw [hps, Nat.sub_zero])
    have e0 : (gs_flat l (A ++ List.replicate (A.length + B.length - 1 - A.length) (rnsZero l))).length =
        (A.length + B.length - 1) * (l.size * l.n) := by rw [gs_flat_length, hAZ]
    rw [GenC.ct_ckks_multiply_loop1]
    simp only [Nat.zero_mul] at hsl hcp
    simp only [e0, hsl, hcp, R.ok_bind', ckAdd_ok (a := 0) (b := 1) (by simp [B64]), List.take_zero, List.nil_append, Nat.zero_add]
    rw [List.drop_eq_nil_of_le (by rw [hAZ, hps]), List.append_nil]
    cases okProd <;> simp [pure, Except.pure, bind, Except.bind]

/-- GENERATED = MODEL (`ckks_multiply`, data loops + bookkeeping): NTT-form operands of ANY sizes s1, s2 ≥ 1: the flattened `ctMultiplyDyadic` of the
    model, THEN the bookkeeping of a ciphertext product (`ckksProductBookkeeping`: size s1 + s2 − 1, one product recorded, verdict `okProd`) -/
theorem gs_ckks_multiply_eq (l : Level) (d1 d2 : List Nat) (s1 s2 cf1 cf2 : Nat) (okOwn okProd o3 o4 : Bool)
    (hd1 : d1.length = s1 * (l.size * l.n)) (hd2 : d2.length = s2 * (l.size * l.n)) (h1 : 1 ≤ s1) (h2 : 1 ≤ s2) (hk : 1 ≤ l.size)
    (hB : (s1 + s2 - 1) * (l.size * l.n) < B64) (hB2 : d2.length < B64) (hsB : s1 + s2 < B64) :
    GenC.ct_ckks_multiply d1 s1 d2 s2 true true l.qs.toList l.n okOwn okProd o3 o4 = (do
      let c ← ctMultiplyDyadic l (unflattenCt l s1 d1 true cf1) (unflattenCt l s2 d2 true cf2)
      let b ← ckksProductBookkeeping true true s1 s2 okProd
      pure (flattenCt l c, b.1, b.2)) := by
  have h := gs_ckks_multiply_flat l ((List.range s1).map (gt_U l d1)) ((List.range s2).map (gt_U l d2)) cf1 cf2 okOwn okProd o3 o4
    (gs_buffer_shape l s1 d1) (gs_buffer_shape l s2 d2)
  simp only [List.length_map, List.length_range, gs_flat_unflattenCt l s1 d1 hd1, gs_flat_unflattenCt l s2 d2 hd2] at h
  exact h h1 h2 hk hB hsB

/-- `ckks_square` as the code runs it: the generated dispatch / fast path, on route 1 the generated `ckks_multiply` on the ciphertext and its clone -/
def gs_ckks_square_run (d : List Nat) (size : Nat) (ntt : Bool) (mods : List Modulus) (n : Nat) (o1 o2 o3 o4 : Bool) : R (List Nat × Nat × Nat) := do
  let r ← GenC.ct_ckks_square d size ntt mods n o1 o2 o3 o4
  if r.2.2.2 = 1 then GenC.ct_ckks_multiply r.1 r.2.1 r.1 r.2.1 ntt ntt mods n o1 o2 o3 o4
  else pure (r.1, r.2.1, r.2.2.1)

/-- GENERATED = MODEL (`ckks_square`, EVERY size ≥ 1, both representations): the flattened `ckksSquare`, then the product bookkeeping -/
theorem gs_ckks_square_run_eq (l : Level) (d : List Nat) (s cf : Nat) (ntt okOwn okProd o3 o4 : Bool) (hd : d.length = s * (l.size * l.n))
    (h1 : 1 ≤ s) (hk : 1 ≤ l.size) (hB : (2 * s - 1) * (l.size * l.n) < B64) (hsB : s + s < B64) :
    gs_ckks_square_run d s ntt l.qs.toList l.n okOwn okProd o3 o4 = (do
      let c ← ckksSquare l (unflattenCt l s d ntt cf)
      let b ← ckksProductBookkeeping true true s s okProd
      pure (flattenCt l c, b.1, b.2)) := by
  unfold gs_ckks_square_run
  rw [gs_ckks_square_dispatch]
  cases ntt
  · rw [if_pos rfl, ckksSquare_refuse l _ rfl]; rfl
  · rw [if_neg (by simp)]
    by_cases hs : s = 2
    · subst hs
      rw [if_neg (by simp), gs_ckks_square_eq l d cf okOwn okProd o3 o4 hd hk (by omega)]
      cases ckksSquare l (unflattenCt l 2 d true cf) with
      | error e => rfl
      | ok c =>
        simp only [R.ok_bind']
        cases ckksProductBookkeeping true true 2 2 okProd with
        | error e => rfl
        | ok b => rfl
    · rw [if_pos hs]
      simp only [R.ok_bind', if_true]
      rw [gs_ckks_multiply_eq l d d s s cf cf okOwn okProd o3 o4 hd hd h1 h1 hk (by rw [show s + s - 1 = 2 * s - 1 by omega]; exact hB)
        (by have : s * (l.size * l.n) ≤ (2 * s - 1) * (l.size * l.n) := Nat.mul_le_mul_right _ (by omega)
            omega) hsB,
        ckksSquare_fallback l _ rfl (by rw [gc_polys_size]; exact hs)]

end HC
