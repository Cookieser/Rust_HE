/- C08 part L: limb lists as numbers.  `toNat` (Model/Word.lean) is the little-endian value of a list of words, `Limbs l` says every limb is a
   u64; how the value behaves under cons, take / drop, zero padding (the append law `toNat_append` stands in Proofs/Word.lean, where
   C08A reaches it), its bound `2^(64·length)`, and `fromNat`, the inverse (`toNat_fromNat'` the equation, `toNat_fromNat` with length and limbs). -/
import Heathcliff.Proofs.Word
import Mathlib.Tactic.Linarith
import Mathlib.Tactic.LinearCombination
import Mathlib.Tactic.NormNum
import Mathlib.Tactic.Ring
namespace HC

def Limbs (l : List Nat) : Prop := ∀ x ∈ l, x < 2^64

/-! ### basic list/value lemmas -/

theorem Limbs.nil : Limbs [] := by intro x hx; cases hx
theorem limbs_cons {x : Nat} {l : List Nat} : Limbs (x :: l) ↔ x < 2^64 ∧ Limbs l := by
  unfold Limbs; simp
theorem Limbs.tail {l : List Nat} (h : Limbs l) : Limbs l.tail := by
  intro x hx; exact h x (List.mem_of_mem_tail hx)
theorem Limbs.take {l : List Nat} (h : Limbs l) (n : Nat) : Limbs (l.take n) := by
  intro x hx; exact h x (List.mem_of_mem_take hx)
theorem Limbs.drop {l : List Nat} (h : Limbs l) (n : Nat) : Limbs (l.drop n) := by
  intro x hx; exact h x (List.mem_of_mem_drop hx)
theorem Limbs.append {l1 l2 : List Nat} (h1 : Limbs l1) (h2 : Limbs l2) : Limbs (l1 ++ l2) := by
  intro x hx; rcases List.mem_append.mp hx with h | h
  · exact h1 x h
  · exact h2 x h
theorem limbs_append {l1 l2 : List Nat} : Limbs (l1 ++ l2) ↔ Limbs l1 ∧ Limbs l2 := by
  constructor
  · intro h; exact ⟨fun x hx => h x (List.mem_append_left _ hx), fun x hx => h x (List.mem_append_right _ hx)⟩
  · intro h; exact h.1.append h.2
theorem Limbs.replicate_zero (n : Nat) : Limbs (List.replicate n 0) := by
  intro x hx; rw [List.eq_of_mem_replicate hx]; norm_num
theorem Limbs.headD {l : List Nat} (h : Limbs l) : l.headD 0 < 2^64 := by
  cases l with
  | nil => simp
  | cons x xs => exact h x (by simp)
theorem Limbs.getD {l : List Nat} (h : Limbs l) (i : Nat) : l.getD i 0 < 2^64 := by
  rw [List.getD_eq_getElem?_getD]
  by_cases hi : i < l.length
  · rw [List.getElem?_eq_getElem hi]; exact h _ (List.getElem_mem hi)
  · rw [List.getElem?_eq_none (by omega)]; simp

@[simp] theorem toNat_nil : toNat [] = 0 := rfl
@[simp] theorem toNat_cons (x : Nat) (xs : List Nat) : toNat (x :: xs) = x + B64 * toNat xs := rfl

theorem eq_mod_of_add_mul {N M q R : Nat} (h : N + M * q = R) (hlt : N < M) : N = R % M := by
  rw [← h, Nat.add_mul_mod_self_left, Nat.mod_eq_of_lt hlt]

/-- two numbers below `M` that agree up to multiples of `M` (carries, borrows) are equal -/
theorem eq_of_add_mul_eq {a b M c c' : Nat} (h : a + M * c = b + M * c') (ha : a < M) (hb : b < M) : a = b := by
  rw [eq_mod_of_add_mul h ha, Nat.add_mul_mod_self_left, Nat.mod_eq_of_lt hb]

theorem toNat_replicate_zero (n : Nat) : toNat (List.replicate n 0) = 0 := by
  induction n with
  | zero => rfl
  | succ k ih => simp [List.replicate_succ, ih]

theorem add_mul_lt_mul {a x b y : Nat} (ha : a < x) (hb : b < y) : a + x * b < x * y := by
  rw [Nat.add_comm, Nat.mul_comm x b, Nat.mul_comm x y]; exact grid_lt hb ha

theorem toNat_lt {l : List Nat} (h : Limbs l) : toNat l < 2^(64 * l.length) := by
  induction l with
  | nil => simp
  | cons x xs ih =>
    rw [toNat_cons, List.length_cons, pow64_succ]
    exact add_mul_lt_mul (B64_eq ▸ (limbs_cons.mp h).1) (ih (limbs_cons.mp h).2)

theorem toNat_lt_of_length {l : List Nat} {n : Nat} (h : Limbs l) (hl : l.length = n) : toNat l < 2^(64*n) :=
  hl ▸ toNat_lt h

theorem toNat_take_succ (l : List Nat) (n : Nat) :
    toNat (l.take (n+1)) = l.headD 0 + B64 * toNat (l.tail.take n) := by
  cases l <;> simp

theorem toNat_take_add_drop (l : List Nat) (k : Nat) :
    toNat l = toNat (l.take k) + 2^(64*k) * toNat (l.drop k) := by
  induction l generalizing k with
  | nil => simp
  | cons x xs ih =>
    cases k with
    | zero => simp
    | succ k =>
      simp only [List.take_succ_cons, List.drop_succ_cons, toNat_cons, pow64_succ]
      linear_combination B64 * ih k

theorem toNat_take_lt {l : List Nat} (h : Limbs l) (k : Nat) : toNat (l.take k) < 2^(64*k) :=
  lt_of_lt_of_le (toNat_lt (h.take k)) (Nat.pow_le_pow_right (by decide) (Nat.mul_le_mul_left 64 (List.length_take_le k l)))

theorem toNat_take_mod {l : List Nat} (h : Limbs l) (k : Nat) : toNat (l.take k) = toNat l % 2^(64*k) := by
  rw [toNat_take_add_drop l k, Nat.add_mul_mod_self_left, Nat.mod_eq_of_lt (toNat_take_lt h k)]

theorem toNat_drop_div {l : List Nat} (h : Limbs l) (k : Nat) : toNat (l.drop k) = toNat l / 2^(64*k) := by
  conv_rhs => rw [toNat_take_add_drop l k]
  rw [Nat.add_mul_div_left _ _ (by positivity), Nat.div_eq_of_lt (toNat_take_lt h k), Nat.zero_add]

theorem toNat_getD_split (l : List Nat) (i : Nat) :
    toNat (l.take (i+1)) = toNat (l.take i) + 2^(64*i) * l.getD i 0 := by
  induction l generalizing i with
  | nil => simp
  | cons x xs ih =>
    cases i with
    | zero => simp
    | succ j =>
      simp only [List.take_succ_cons, toNat_cons, List.getD_cons_succ, ih j, pow64_succ]
      ring

theorem toNat_eq_zero_iff {l : List Nat} : toNat l = 0 ↔ ∀ x ∈ l, x = 0 := by
  induction l with
  | nil => simp
  | cons x xs ih =>
    simp only [toNat_cons, List.mem_cons, forall_eq_or_imp]
    rw [← ih]
    constructor
    · intro h
      have h1 : x = 0 := by omega
      have h2 : B64 * toNat xs = 0 := by omega
      rcases Nat.mul_eq_zero.mp h2 with h3 | h3
      · exact absurd h3 (by norm_num [B64])
      · exact ⟨h1, h3⟩
    · rintro ⟨h1, h2⟩; simp [h1, h2]

/-! ### fromNat -/

theorem fromNat_length (n v : Nat) : (fromNat n v).length = n := by
  induction n generalizing v with
  | zero => rfl
  | succ k ih => simp [fromNat, ih]

theorem fromNat_limbs (n v : Nat) : Limbs (fromNat n v) := by
  induction n generalizing v with
  | zero => exact Limbs.nil
  | succ k ih =>
    simp only [fromNat]
    exact limbs_cons.mpr ⟨by rw [← B64_eq]; exact Nat.mod_lt _ B64_pos, ih _⟩

theorem toNat_fromNat' (n v : Nat) : toNat (fromNat n v) = v % 2^(64*n) := by
  induction n generalizing v with
  | zero => simp [fromNat, Nat.mod_one]
  | succ k ih =>
    simp only [fromNat, toNat_cons, ih, pow64_succ]
    rw [Nat.mod_mul]

theorem toNat_fromNat (n v : Nat) : toNat (fromNat n v) = v % 2^(64*n) ∧ (fromNat n v).length = n ∧ Limbs (fromNat n v) :=
  ⟨toNat_fromNat' n v, fromNat_length n v, fromNat_limbs n v⟩

/-- a limb list is `fromNat` of its length and value -/
theorem fromNat_toNat : ∀ {l : List Nat}, Limbs l → fromNat l.length (toNat l) = l
  | [], _ => rfl
  | x :: xs, h => by
    have hx : x < B64 := (limbs_cons.mp h).1
    show ((x + B64 * toNat xs) % B64) :: fromNat xs.length ((x + B64 * toNat xs) / B64) = x :: xs
    rw [Nat.add_mul_mod_self_left, Nat.mod_eq_of_lt hx, Nat.add_mul_div_left _ _ B64_pos, Nat.div_eq_of_lt hx, Nat.zero_add,
      fromNat_toNat (limbs_cons.mp h).2]

end HC
