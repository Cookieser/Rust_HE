import Heathcliff.Gen.PolyFns
import Heathcliff.Model.Scheme
import Heathcliff.Proofs.GenWordScalar
import Heathcliff.Proofs.GenLoop
import Heathcliff.Proofs.GenBase
import Heathcliff.Proofs.BaseRns
import Heathcliff.Proofs.GenBlk

/-!
  The coefficient-wise kernels of src/util/polysmallmod.rs (generated into
  `Heathcliff/Gen/PolyFns.lean`, `HC.GenP`) against the per-component operations of the hand model (`zipM'`, `mapM'` of
  Model/RNS.lean, `dyadicProduct` of Model/NTT.lean; `negacyclic_shift` is in Proofs/GenPolyShift.lean).  Every generated kernel is an index loop
  `r[i] := g i r`; `gp_loop_mapM` takes such a loop by its two unfolding equations (Proofs/GenLoop.lean) and turns it into a `List.mapM`
  over the indices, `zipM'_eq` / `mapM'_eq` do the same for the model's `push` folds; `gp_unary_*` / `gp_binary_*` are the four
  shapes of kernel.  Every kernel has its theorem (`…_eq`: the generated function as a `mapM`; `…_model`: as the model's operation), whether or
  not a wrapper tie uses it: the module states what each generated kernel computes.
  The `_p` wrappers walk over the blocks of a flat buffer.  The walk sees the buffer as `pre ++ rest`, `pre` the `i` blocks already written:
  `gp_slice_block` / `gp_splice_block` read and write the first block of `rest` (block `i` of the buffer, `gp_blk` of Proofs/GenBlk.lean), `gp_blocks`
  is the resulting recursion on `rest`, `gp_bloop_blocks` the loop lemma; Proofs/GenPolyRns.lean (`gp_blocks_mapM`) reads `gp_blocks` as a `mapM`
  over the blocks `gp_blk n r j`.  Helper names start with `gp_`.
-/
namespace HC
open HC.GenW HC.GenP

/-- the loop as a `mapM` over the indices, when `g k` depends on the buffer only through its length and position `k` -/
theorem gp_loop_mapM (L : Nat → Nat → List Nat → R (List Nat)) (g : Nat → List Nat → R Nat) (h : Nat → R Nat) (r0 : List Nat) (K : Nat)
    (hK : K ≤ r0.length) (h0 : ∀ i r, L 0 i r = pure r)
    (hs : ∀ n i r, L (n + 1) i r = (do let v ← g i r; let r ← GenW.setIdx r i v; L n (i + 1) r))
    (hg : ∀ k r, k < K → r.length = r0.length → r.getD k 0 = r0.getD k 0 → g k r = h k) :
    L K 0 r0 = (do let vs ← (List.range K).mapM h; pure (vs ++ r0.drop K)) := by
  rw [Loop.write L h .ok 0 0 K r0 h0 (fun n j l _ hj hA => by
      have hl : j < l.length := by rw [hA.length]; omega
      simp only [hs, Nat.zero_add, GenW.setIdx_ok _ _ hl, R.ok_bind,
        hg j l hj hA.length (hA.getD (Or.inr (by omega)) 0)])
    (by omega) K (by omega), ← List.range_eq_range']
  simp only [Nat.zero_add, List.take_zero, List.nil_append]
  rfl

theorem gp_zipM'_take (f : Nat → Nat → R Nat) (a b : List Nat) (n : Nat) (hla : n ≤ a.length) :
    zipM' (a.take n).toArray (b.take n).toArray f =
      (do let vs ← (List.range n).mapM (fun k => f (a.getD k 0) (b.getD k 0)); pure vs.toArray) := by
  rw [zipM'_eq, List.size_toArray, List.length_take, Nat.min_eq_left hla]
  exact congrArg (· >>= _) (R.mapM_congr fun k hk => by
    rw [list_getD_toArray, list_getD_toArray, list_getD_take a 0 (List.mem_range.mp hk), list_getD_take b 0 (List.mem_range.mp hk)])

theorem gp_mapM_take (f : Nat → R Nat) (c : List Nat) (n : Nat) (hl : n ≤ c.length) :
    (List.range n).mapM (fun k => f (c.getD k 0)) = (c.take n).mapM f := by
  rw [← R.mapM_range_getD f 0 (c.take n), List.length_take, Nat.min_eq_left hl]
  exact R.mapM_congr fun k hk => by rw [list_getD_take c 0 (List.mem_range.mp hk)]

/-- finishing step shared by the out-of-place kernels: the whole buffer is overwritten -/
theorem gp_finish (x : R (List Nat)) (r : List Nat) :
    (do let vs ← x; pure (vs ++ r.drop r.length) : R (List Nat)) = Except.map Array.toList (do let vs ← x; pure vs.toArray) := by
  cases x with
  | error e => rfl
  | ok vs => simp [bind, Except.bind, pure, Except.pure, Except.map]

/-- out-of-place unary kernel over `zip` (stops at the shorter side): the first `K = min(result.len(), comp.len())` words of `result`
    are overwritten with the images of `comp`, the rest stays -/
theorem gp_unary_out (L : Nat → Nat → List Nat → R (List Nat)) (F : Nat → R Nat) (c r : List Nat) (K : Nat) (hKr : K ≤ r.length)
    (hKc : K ≤ c.length) (h0 : ∀ i r, L 0 i r = pure r)
    (hs : ∀ n i r, L (n + 1) i r = (do let t ← GenW.idx c i; let v ← F t; let r ← GenW.setIdx r i v; L n (i + 1) r)) :
    L K 0 r = (do let vs ← (c.take K).mapM F; pure (vs ++ r.drop K)) := by
  rw [gp_loop_mapM L (fun i _ => do let t ← GenW.idx c i; F t) (fun k => F (c.getD k 0)) r K hKr h0
    (fun n i r => by rw [hs]; simp only [bind_assoc])
    (fun k r' hk _ _ => by rw [GenW.idx_getD c (i := k) (by omega)]; rfl), gp_mapM_take F c K hKc]

theorem gp_unary_out_model (F : Nat → R Nat) (c r : List Nat) (h : c.length = r.length) :
    (do let vs ← (c.take (min r.length c.length)).mapM F; pure (vs ++ r.drop (min r.length c.length)) : R (List Nat)) =
      Except.map Array.toList (mapM' c.toArray F) := by
  rw [mapM'_eq, h, Nat.min_self, ← h, List.take_length]
  cases c.mapM F with
  | error e => rfl
  | ok vs => simp [bind, Except.bind, pure, Except.pure, Except.map, h]

theorem gp_unary_in (L : Nat → Nat → List Nat → R (List Nat)) (F : Nat → R Nat) (a : List Nat) (h0 : ∀ i r, L 0 i r = pure r)
    (hs : ∀ n i r, L (n + 1) i r = (do let t ← GenW.idx r i; let v ← F t; let r ← GenW.setIdx r i v; L n (i + 1) r)) :
    L a.length 0 a = Except.map Array.toList (mapM' a.toArray F) := by
  rw [gp_loop_mapM L (fun i r => do let t ← GenW.idx r i; F t) (fun k => F (a.getD k 0)) a a.length (Nat.le_refl _) h0
    (fun n i r => by rw [hs]; simp only [bind_assoc])
    (fun k r' hk hl hv => by rw [GenW.idx_getD r' (i := k) (by omega), ← hv]; rfl), R.mapM_range_getD F 0 a, mapM'_eq]
  exact gp_finish _ a

theorem gp_binary_in (L : Nat → Nat → List Nat → R (List Nat)) (f : Nat → Nat → R Nat) (a b : List Nat) (hl : a.length ≤ b.length)
    (h0 : ∀ i r, L 0 i r = pure r)
    (hs : ∀ n i r, L (n + 1) i r =
      (do let t1 ← GenW.idx r i; let t2 ← GenW.idx b i; let v ← f t1 t2; let r ← GenW.setIdx r i v; L n (i + 1) r)) :
    L a.length 0 a = Except.map Array.toList (zipM' a.toArray (b.take a.length).toArray f) := by
  rw [gp_loop_mapM L (fun i r => do let t1 ← GenW.idx r i; let t2 ← GenW.idx b i; f t1 t2) (fun k => f (a.getD k 0) (b.getD k 0)) a
    a.length (Nat.le_refl _) h0 (fun n i r => by rw [hs]; simp only [bind_assoc])
    (fun k r' hk hl' hv => by rw [GenW.idx_getD r' (i := k) (by omega), GenW.idx_getD b (i := k) (by omega), ← hv]; rfl)]
  have := gp_zipM'_take f a b a.length (Nat.le_refl _)
  rw [List.take_length] at this
  rw [this]
  exact gp_finish _ a

/-- out-of-place binary kernel (`result.len()` drives the loop) -/
theorem gp_binary_out (L : Nat → Nat → List Nat → R (List Nat)) (f : Nat → Nat → R Nat) (a b r : List Nat) (hla : r.length ≤ a.length)
    (hlb : r.length ≤ b.length) (h0 : ∀ i r, L 0 i r = pure r)
    (hs : ∀ n i r, L (n + 1) i r =
      (do let t1 ← GenW.idx a i; let t2 ← GenW.idx b i; let v ← f t1 t2; let r ← GenW.setIdx r i v; L n (i + 1) r)) :
    L r.length 0 r = Except.map Array.toList (zipM' (a.take r.length).toArray (b.take r.length).toArray f) := by
  rw [gp_loop_mapM L (fun i _ => do let t1 ← GenW.idx a i; let t2 ← GenW.idx b i; f t1 t2) (fun k => f (a.getD k 0) (b.getD k 0)) r
    r.length (Nat.le_refl _) h0 (fun n i r => by rw [hs]; simp only [bind_assoc])
    (fun k r' hk _ _ => by rw [GenW.idx_getD a (i := k) (by omega), GenW.idx_getD b (i := k) (by omega)]; rfl), gp_zipM'_take f a b _ hla]
  exact gp_finish _ r

/-- `add(comp1, comp2, modulus, result)`: refused (`assert!`) unless both inputs are at least as long as `result`; then `result` becomes
    the coefficient-wise `addMod` of their first `result.len()` words — the hand model's `zipM'` (the body of `rnsAdd`) -/
theorem gp_poly_add_eq (a b : List Nat) (m : Modulus) (r : List Nat) :
    GenP.poly_add a b m r =
      if r.length ≤ a.length ∧ r.length ≤ b.length then
        Except.map Array.toList (zipM' (a.take r.length).toArray (b.take r.length).toArray (fun x y => addMod x y m))
      else .error .refused := by
  unfold GenP.poly_add
  simp only []
  by_cases h : r.length ≤ a.length ∧ r.length ≤ b.length
  · rw [if_pos (show a.length ≥ r.length ∧ b.length ≥ r.length from h), if_pos h]
    exact gp_binary_out _ _ a b r h.1 h.2 (fun _ _ => rfl) fun n i r => by
      rw [GenP.poly_add_loop1]
      simp only [addMod, bind_assoc]
  · rw [if_neg (show ¬ (a.length ≥ r.length ∧ b.length ≥ r.length) from h), if_neg h]

/-- `add_scalar(comp, scalar, modulus, result)`: an out-of-place unary kernel (`gp_unary_out`) with `add_u64_mod(·, scalar, modulus)` -/
theorem gp_poly_add_scalar_eq (c : List Nat) (s : Nat) (m : Modulus) (r : List Nat) :
    GenP.poly_add_scalar c s m r =
      (do let vs ← (c.take (min r.length c.length)).mapM (fun x => addMod x s m); pure (vs ++ r.drop (min r.length c.length))) := by
  unfold GenP.poly_add_scalar
  exact gp_unary_out _ _ c r _ (Nat.min_le_left _ _) (Nat.min_le_right _ _) (fun _ _ => rfl) fun n i r => by
    rw [GenP.poly_add_scalar_loop1]
    simp only [gw_add_u64_mod_eq]

theorem gp_poly_add_scalar_model (c : List Nat) (s : Nat) (m : Modulus) (r : List Nat) (h : c.length = r.length) :
    GenP.poly_add_scalar c s m r = Except.map Array.toList (mapM' c.toArray (fun x => addMod x s m)) := by
  rw [gp_poly_add_scalar_eq, gp_unary_out_model _ c r h]

theorem gp_poly_add_scalar_inplace_eq (a : List Nat) (s : Nat) (m : Modulus) :
    GenP.poly_add_scalar_inplace a s m = Except.map Array.toList (mapM' a.toArray (fun x => addMod x s m)) := by
  unfold GenP.poly_add_scalar_inplace
  exact gp_unary_in _ _ a (fun _ _ => rfl) fun n i r => by
    rw [GenP.poly_add_scalar_inplace_loop1]
    simp only [gw_add_u64_mod_eq]

/-- `sub_scalar(comp, scalar, modulus, result)`: an out-of-place unary kernel (`gp_unary_out`) with `sub_u64_mod(·, scalar, modulus)` -/
theorem gp_poly_sub_scalar_eq (c : List Nat) (s : Nat) (m : Modulus) (r : List Nat) :
    GenP.poly_sub_scalar c s m r =
      (do let vs ← (c.take (min r.length c.length)).mapM (fun x => subMod x s m); pure (vs ++ r.drop (min r.length c.length))) := by
  unfold GenP.poly_sub_scalar
  exact gp_unary_out _ _ c r _ (Nat.min_le_left _ _) (Nat.min_le_right _ _) (fun _ _ => rfl) fun n i r => by
    rw [GenP.poly_sub_scalar_loop1]
    simp only [gw_sub_u64_mod_eq]

theorem gp_poly_sub_scalar_model (c : List Nat) (s : Nat) (m : Modulus) (r : List Nat) (h : c.length = r.length) :
    GenP.poly_sub_scalar c s m r = Except.map Array.toList (mapM' c.toArray (fun x => subMod x s m)) := by
  rw [gp_poly_sub_scalar_eq, gp_unary_out_model _ c r h]

theorem gp_poly_sub_scalar_inplace_eq (a : List Nat) (s : Nat) (m : Modulus) :
    GenP.poly_sub_scalar_inplace a s m = Except.map Array.toList (mapM' a.toArray (fun x => subMod x s m)) := by
  unfold GenP.poly_sub_scalar_inplace
  exact gp_unary_in _ _ a (fun _ _ => rfl) fun n i r => by
    rw [GenP.poly_sub_scalar_inplace_loop1]
    simp only [gw_sub_u64_mod_eq]

/-- `multiply_scalar(comp, scalar, modulus, result)`: an out-of-place unary kernel (`gp_unary_out`) with `multiply_u64_mod(·, scalar, modulus)` -/
theorem gp_poly_multiply_scalar_eq (c : List Nat) (s : Nat) (m : Modulus) (r : List Nat) :
    GenP.poly_multiply_scalar c s m r =
      (do let vs ← (c.take (min r.length c.length)).mapM (fun x => mulMod x s m); pure (vs ++ r.drop (min r.length c.length))) := by
  unfold GenP.poly_multiply_scalar
  exact gp_unary_out _ _ c r _ (Nat.min_le_left _ _) (Nat.min_le_right _ _) (fun _ _ => rfl) fun n i r => by
    rw [GenP.poly_multiply_scalar_loop1]
    simp only [gw_multiply_u64_mod_eq]

theorem gp_poly_multiply_scalar_model (c : List Nat) (s : Nat) (m : Modulus) (r : List Nat) (h : c.length = r.length) :
    GenP.poly_multiply_scalar c s m r = Except.map Array.toList (mapM' c.toArray (fun x => mulMod x s m)) := by
  rw [gp_poly_multiply_scalar_eq, gp_unary_out_model _ c r h]

theorem gp_poly_multiply_scalar_inplace_eq (a : List Nat) (s : Nat) (m : Modulus) :
    GenP.poly_multiply_scalar_inplace a s m = Except.map Array.toList (mapM' a.toArray (fun x => mulMod x s m)) := by
  unfold GenP.poly_multiply_scalar_inplace
  exact gp_unary_in _ _ a (fun _ _ => rfl) fun n i r => by
    rw [GenP.poly_multiply_scalar_inplace_loop1]
    simp only [gw_multiply_u64_mod_eq]

/-- `multiply_operand(comp, scalar, modulus, result)`: an out-of-place unary kernel (`gp_unary_out`) with `multiply_u64operand_mod(·, scalar, modulus)` -/
theorem gp_poly_multiply_operand_eq (c : List Nat) (s : MulOperand) (m : Modulus) (r : List Nat) :
    GenP.poly_multiply_operand c s m r =
      (do let vs ← (c.take (min r.length c.length)).mapM (fun x => mulOperandMod x s m); pure (vs ++ r.drop (min r.length c.length))) := by
  unfold GenP.poly_multiply_operand
  exact gp_unary_out _ _ c r _ (Nat.min_le_left _ _) (Nat.min_le_right _ _) (fun _ _ => rfl) fun n i r => by
    rw [GenP.poly_multiply_operand_loop1]
    simp only [gw_multiply_u64operand_mod_eq]

theorem gp_poly_multiply_operand_model (c : List Nat) (s : MulOperand) (m : Modulus) (r : List Nat) (h : c.length = r.length) :
    GenP.poly_multiply_operand c s m r = Except.map Array.toList (mapM' c.toArray (fun x => mulOperandMod x s m)) := by
  rw [gp_poly_multiply_operand_eq, gp_unary_out_model _ c r h]

theorem gp_poly_multiply_operand_inplace_eq (a : List Nat) (s : MulOperand) (m : Modulus) :
    GenP.poly_multiply_operand_inplace a s m = Except.map Array.toList (mapM' a.toArray (fun x => mulOperandMod x s m)) := by
  unfold GenP.poly_multiply_operand_inplace
  exact gp_unary_in _ _ a (fun _ _ => rfl) fun n i r => by
    rw [GenP.poly_multiply_operand_inplace_loop1]
    simp only [gw_multiply_u64operand_mod_eq]

/-- `modulo(component, modulus, result)`: `Modulus::reduce` (= `barrett_reduce_u64`, generated as `GenP.mod_reduce`) of the first
    `min(result.len(), component.len())` words -/
theorem gp_poly_modulo_eq (c : List Nat) (m : Modulus) (r : List Nat) :
    GenP.poly_modulo c m r =
      (do let vs ← (c.take (min r.length c.length)).mapM (fun x => barrett64 x m); pure (vs ++ r.drop (min r.length c.length))) := by
  unfold GenP.poly_modulo
  exact gp_unary_out _ _ c r _ (Nat.min_le_left _ _) (Nat.min_le_right _ _) (fun _ _ => rfl) fun n i r => by
    rw [GenP.poly_modulo_loop1]
    simp only [GenP.mod_reduce, gw_barrett_reduce_u64_eq]

theorem gp_poly_modulo_model (c : List Nat) (m : Modulus) (r : List Nat) (h : c.length = r.length) :
    GenP.poly_modulo c m r = Except.map Array.toList (mapM' c.toArray (fun x => barrett64 x m)) := by
  rw [gp_poly_modulo_eq, gp_unary_out_model _ c r h]

/-- the inlined `negate_u64_mod` of the two `negate` kernels, in front of the rest `K` of the loop body -/
theorem gp_negate_cell {β : Type} (c : List Nat) (k : Nat) (m : Modulus) (K : Nat → R β) :
    (do let t1 ← GenW.idx c k
        let t3 ← (if t1 ≠ 0 then (do let t2 ← GenW.idx c k; ckSub m.value t2) else pure 0)
        K t3) = (do let t ← GenW.idx c k; let v ← negateMod t m; K v) := by
  cases h : GenW.idx c k with
  | error e => rfl
  | ok x =>
    simp only [bind, Except.bind, negateMod]
    by_cases hx : x = 0
    · simp [hx]
    · simp [hx]

/-- `negate(component, modulus, result)` (`component.iter().zip(result.iter_mut())`) -/
theorem gp_poly_negate_eq (c : List Nat) (m : Modulus) (r : List Nat) :
    GenP.poly_negate c m r =
      (do let vs ← (c.take (min r.length c.length)).mapM (fun x => negateMod x m); pure (vs ++ r.drop (min r.length c.length))) := by
  unfold GenP.poly_negate
  simp only []
  rw [Nat.min_comm c.length r.length]
  exact gp_unary_out _ _ c r _ (Nat.min_le_left _ _) (Nat.min_le_right _ _) (fun _ _ => rfl) fun n i r => by
    rw [GenP.poly_negate_loop1, gp_negate_cell]

theorem gp_poly_negate_model (c : List Nat) (m : Modulus) (r : List Nat) (h : c.length = r.length) :
    GenP.poly_negate c m r = Except.map Array.toList (mapM' c.toArray (fun x => negateMod x m)) := by
  rw [gp_poly_negate_eq, gp_unary_out_model _ c r h]

/-- `negate_inplace(component, modulus)` = the hand model's `mapM' · (negateMod · modulus)` (the body of `rnsNeg`) -/
theorem gp_poly_negate_inplace_eq (a : List Nat) (m : Modulus) :
    GenP.poly_negate_inplace a m = Except.map Array.toList (mapM' a.toArray (fun x => negateMod x m)) := by
  unfold GenP.poly_negate_inplace
  simp only []
  exact gp_unary_in _ _ a (fun _ _ => rfl) fun n i r => by
    rw [GenP.poly_negate_inplace_loop1, gp_negate_cell]

/-- `add_inplace(comp1, comp2, modulus)`: refused unless `comp2` is at least as long as `comp1`; then `comp1` becomes the
    coefficient-wise `addMod` — the hand model's `zipM'` (the body of `rnsAdd`) -/
theorem gp_poly_add_inplace_eq (a b : List Nat) (m : Modulus) :
    GenP.poly_add_inplace a b m =
      if a.length ≤ b.length then Except.map Array.toList (zipM' a.toArray (b.take a.length).toArray (fun x y => addMod x y m))
      else .error .refused := by
  unfold GenP.poly_add_inplace
  simp only []
  by_cases h : a.length ≤ b.length
  · rw [if_pos (show b.length ≥ a.length from h), if_pos h]
    exact gp_binary_in _ _ a b h (fun _ _ => rfl) fun n i r => by
      rw [GenP.poly_add_inplace_loop1]
      simp only [addMod, bind_assoc]
  · rw [if_neg (show ¬ b.length ≥ a.length from h), if_neg h]

theorem gp_sub_cell (x y : Nat) (m : Modulus) :
    (match GenW.sub_u64 x y with
      | (v3, t3) => (pure (if (decide (t3 ≠ 0)) = true then wAdd v3 m.value else v3) : R Nat)) = subMod x y m := by
  unfold GenW.sub_u64 subMod subU64
  simp only []
  by_cases h : y > x
  · simp [h]
  · simp [h]

/-- `sub(comp1, comp2, modulus, result)` = `zipM'` with `subMod` (the body of `rnsSub`), same `assert!` as `add` -/
theorem gp_poly_sub_eq (a b : List Nat) (m : Modulus) (r : List Nat) :
    GenP.poly_sub a b m r =
      if r.length ≤ a.length ∧ r.length ≤ b.length then
        Except.map Array.toList (zipM' (a.take r.length).toArray (b.take r.length).toArray (fun x y => subMod x y m))
      else .error .refused := by
  unfold GenP.poly_sub
  simp only []
  by_cases h : r.length ≤ a.length ∧ r.length ≤ b.length
  · rw [if_pos (show a.length ≥ r.length ∧ b.length ≥ r.length from h), if_pos h]
    exact gp_binary_out _ _ a b r h.1 h.2 (fun _ _ => rfl) fun n i r => by
      rw [GenP.poly_sub_loop1]
      simp only [← gp_sub_cell, pure_bind]
  · rw [if_neg (show ¬ (a.length ≥ r.length ∧ b.length ≥ r.length) from h), if_neg h]

theorem gp_poly_sub_inplace_eq (a b : List Nat) (m : Modulus) :
    GenP.poly_sub_inplace a b m =
      if a.length ≤ b.length then Except.map Array.toList (zipM' a.toArray (b.take a.length).toArray (fun x y => subMod x y m))
      else .error .refused := by
  unfold GenP.poly_sub_inplace
  simp only []
  by_cases h : a.length ≤ b.length
  · rw [if_pos (show b.length ≥ a.length from h), if_pos h]
    exact gp_binary_in _ _ a b h (fun _ _ => rfl) fun n i r => by
      rw [GenP.poly_sub_inplace_loop1]
      simp only [← gp_sub_cell, pure_bind]
  · rw [if_neg (show ¬ b.length ≥ a.length from h), if_neg h]

/-- the six scratch locals of the loop are assigned before they are read: their incoming values do not matter -/
theorem gp_dyadic_dead (a b : List Nat) (v1 v2 v3 : Nat) : ∀ cnt i r z0 z1 t1 t20 t21 c,
    GenP.poly_dyadic_product_loop1 a b v1 v2 v3 cnt i r z0 z1 t1 t20 t21 c =
      GenP.poly_dyadic_product_loop1 a b v1 v2 v3 cnt i r 0 0 0 0 0 0
  | 0, _, _, _, _, _, _, _, _ => rfl
  | _ + 1, _, _, _, _, _, _, _, _ => rfl

theorem gp_dyadicProduct_zipM' (A B : Array Nat) (m : Modulus) : dyadicProduct A B m = zipM' A B (fun x y => mulMod x y m) := rfl

/-- `dyadic_product(comp1, comp2, modulus, result)` (no `assert!`: `result.len()` drives the loop, shorter inputs are an index panic —
    excluded here) = the hand model's `dyadicProduct` (Model/NTT.lean; the body of `rnsDyadic`) -/
theorem gp_poly_dyadic_product_eq (a b : List Nat) (m : Modulus) (r : List Nat) (hla : r.length ≤ a.length) (hlb : r.length ≤ b.length) :
    GenP.poly_dyadic_product a b m r = Except.map Array.toList (dyadicProduct (a.take r.length).toArray (b.take r.length).toArray m) := by
  unfold GenP.poly_dyadic_product
  simp only []
  rw [gp_dyadicProduct_zipM']
  exact gp_binary_out (fun n i r => GenP.poly_dyadic_product_loop1 a b m.value m.cr0 m.cr1 n i r 0 0 0 0 0 0) _ a b r hla hlb
    (fun _ _ => rfl) fun n i r => by
      rw [GenP.poly_dyadic_product_loop1]
      -- the code inlines the Barrett reduction of the 128-bit product: `mulMod`, `barrett128` are unfolded to meet it
      simp only [gw_multiply_u64_u64_eq, gw_multiply_u64_high_word_eq, gw_add_u64_eq, mulMod, barrett128, bind_assoc,
        gp_dyadic_dead a b m.value m.cr0 m.cr1 n]

theorem gp_dyadic_inplace_dead (b : List Nat) (v1 v2 v3 : Nat) : ∀ cnt i r z0 z1 t1 t20 t21 c,
    GenP.poly_dyadic_product_inplace_loop1 b v1 v2 v3 cnt i r z0 z1 t1 t20 t21 c =
      GenP.poly_dyadic_product_inplace_loop1 b v1 v2 v3 cnt i r 0 0 0 0 0 0
  | 0, _, _, _, _, _, _, _, _ => rfl
  | _ + 1, _, _, _, _, _, _, _, _ => rfl

theorem gp_dyadic_inplace_step (b : List Nat) (m : Modulus) (n i : Nat) (r : List Nat) :
    GenP.poly_dyadic_product_inplace_loop1 b m.value m.cr0 m.cr1 (n + 1) i r 0 0 0 0 0 0 =
      (do let t1 ← GenW.idx r i; let t2 ← GenW.idx b i; let v ← mulMod t1 t2 m; let r ← GenW.setIdx r i v
          GenP.poly_dyadic_product_inplace_loop1 b m.value m.cr0 m.cr1 n (i + 1) r 0 0 0 0 0 0) := by
  rw [GenP.poly_dyadic_product_inplace_loop1]
  simp only [gw_multiply_u64_u64_eq, gw_multiply_u64_high_word_eq, gw_add_u64_eq, mulMod, barrett128, bind_assoc,
    gp_dyadic_inplace_dead b m.value m.cr0 m.cr1 n]

theorem gp_poly_dyadic_product_inplace_eq (a b : List Nat) (m : Modulus) (hl : a.length ≤ b.length) :
    GenP.poly_dyadic_product_inplace a b m = Except.map Array.toList (dyadicProduct a.toArray (b.take a.length).toArray m) := by
  unfold GenP.poly_dyadic_product_inplace
  simp only []
  rw [gp_dyadicProduct_zipM']
  exact gp_binary_in (fun n i r => GenP.poly_dyadic_product_inplace_loop1 b m.value m.cr0 m.cr1 n i r 0 0 0 0 0 0) _ a b hl
    (fun _ _ => rfl) (gp_dyadic_inplace_step b m)

/-- `B i` applied to the `cnt` consecutive `n`-blocks of `rest` (block numbers from `i`), the remainder kept -/
def gp_blocks (B : Nat → List Nat → R (List Nat)) (n : Nat) : Nat → Nat → List Nat → R (List Nat)
  | 0, _, rest => pure rest
  | cnt+1, i, rest => do
    let o ← B i (rest.take n)
    let tl ← gp_blocks B n cnt (i + 1) (rest.drop n)
    pure (o ++ tl)

theorem gp_slice_block (pre rest : List Nat) (i n : Nat) (hp : pre.length = i * n) (hn : n ≤ rest.length) :
    GenP.slice (pre ++ rest) (i * n) (i * n + n) = .ok (rest.take n) := by
  rw [gp_slice_blk _ i n (by rw [List.length_append]; omega), gp_blk, ← hp, List.drop_left]

theorem gp_splice_block (pre rest o : List Nat) (i n : Nat) (hp : pre.length = i * n) (ho : o.length = n) :
    GenP.splice (pre ++ rest) (i * n) o = pre ++ o ++ rest.drop n := by
  unfold GenP.splice
  rw [ho, ← hp, List.take_left, List.drop_append, List.drop_eq_nil_of_le (by omega)]
  simp

/-- A wrapper's loop `L` (given by its two equations: `upper = offset + n; r = step i offset upper r; offset = upper`), whose step on
    block `i` of the buffer splices in `B i` of that block, is `gp_blocks B`.  `B` keeps the length of a block of `n` words.  The buffer is shorter
    than `2^64` words (it is a Rust slice): the running offset `offset + n` is a checked addition. -/
theorem gp_bloop_blocks (L : Nat → Nat → List Nat → Nat → R (List Nat)) (step : Nat → Nat → Nat → List Nat → R (List Nat))
    (B : Nat → List Nat → R (List Nat)) (n N : Nat)
    (h0 : ∀ i r off, L 0 i r off = pure r)
    (hs : ∀ c i r off, L (c + 1) i r off = (do let upper ← ckAdd off n; let r ← step i off upper r; L c (i + 1) r upper))
    (hstep : ∀ i pre rest, pre.length = i * n → n ≤ rest.length →
      step i (i * n) (i * n + n) (pre ++ rest) = (do let o ← B i (rest.take n); pure (GenP.splice (pre ++ rest) (i * n) o)))
    (hlen : ∀ i x o, i < N → x.length = n → B i x = .ok o → o.length = n) :
    ∀ cnt i pre rest, i + cnt ≤ N → pre.length = i * n → cnt * n ≤ rest.length → (pre ++ rest).length < B64 →
    L cnt i (pre ++ rest) (i * n) = (do let x ← gp_blocks B n cnt i rest; pure (pre ++ x))
  | 0, i, pre, rest, _, _, _, _ => by rw [h0, gp_blocks]; rfl
  | c + 1, i, pre, rest, hN, hp, hr, hB => by
    have hn : n ≤ rest.length := by rw [Nat.succ_mul] at hr; omega
    have hck : ckAdd (i * n) n = .ok (i * n + n) := if_pos (by rw [List.length_append] at hB; omega)
    rw [hs, gp_blocks, hck, R.ok_bind, hstep i pre rest hp hn, bind_assoc, bind_assoc]
    refine R.bind_congr _ fun o ho => ?_
    have hol : o.length = n := hlen i _ o (by omega) (by rw [List.length_take, Nat.min_eq_left hn]) ho
    rw [R.pure_eq, R.ok_bind, gp_splice_block pre rest o i n hp hol, ← Nat.succ_mul,
      gp_bloop_blocks L step B n N h0 hs hstep hlen c (i + 1) (pre ++ o) (rest.drop n) (by omega)
        (by rw [List.length_append, hp, hol, Nat.succ_mul])
        (by rw [List.length_drop]; rw [Nat.succ_mul] at hr; omega)
        (by simp only [List.length_append, List.length_drop] at hB ⊢; omega), bind_assoc]
    refine R.bind_congr _ fun tl _ => ?_
    rw [List.append_assoc]
    rfl

/-- the kernel call of `multiply_scalar_p` for component `i` (block `i` of `poly`, modulus `moduli[i]`) -/
def gp_msp_block (poly : List Nat) (s n : Nat) (mods : List Modulus) (i : Nat) (x : List Nat) : R (List Nat) := do
  let t1 ← GenP.slice poly (i * n) (i * n + n)
  let t2 ← GenP.idxT mods i
  GenP.poly_multiply_scalar t1 s t2 x

/-- `multiply_scalar_p(poly, scalar, degree, moduli, result)`: the kernel `multiply_scalar` applied, component after component, to
    the consecutive `degree`-blocks of `result` (with block `i` of `poly` and `moduli[i]`); words of `result` beyond the last block
    are kept.  Together with `gp_poly_multiply_scalar_eq` this fixes the function completely on the flat layout. -/
theorem gp_poly_multiply_scalar_p_blocks (poly : List Nat) (s n : Nat) (mods : List Modulus) (r : List Nat)
    (hr : mods.length * n ≤ r.length) (hB : r.length < B64) :
    GenP.poly_multiply_scalar_p poly s n mods r = gp_blocks (gp_msp_block poly s n mods) n mods.length 0 r := by
  unfold GenP.poly_multiply_scalar_p
  simp only []
  have h := gp_bloop_blocks (GenP.poly_multiply_scalar_p_loop1 poly s n mods)
    (fun i off up r => do
      let t1 ← GenP.slice poly off up; let t2 ← GenP.idxT mods i; let t3 ← GenP.slice r off up
      let t4 ← GenP.poly_multiply_scalar t1 s t2 t3; pure (GenP.splice r off t4))
    (gp_msp_block poly s n mods) n mods.length (fun _ _ _ => rfl)
    (fun c i r off => by rw [GenP.poly_multiply_scalar_p_loop1]; simp only [bind_assoc, pure_bind])
    (fun i pre rest hp hn => by simp only [gp_msp_block, gp_slice_block pre rest i n hp hn, R.ok_bind, bind_assoc])
    (fun i x o _ hx ho => by
      obtain ⟨t1, _, ho⟩ := R.bind_eq_ok.mp ho
      obtain ⟨t2, _, ho⟩ := R.bind_eq_ok.mp ho
      rw [gp_poly_multiply_scalar_eq] at ho
      obtain ⟨vs, hvs, ho⟩ := R.bind_eq_ok.mp ho
      cases ho
      rw [List.length_append, R.mapM_length hvs, List.length_take, List.length_drop]
      omega)
    mods.length 0 [] r (Nat.le_of_eq (Nat.zero_add _)) (Nat.zero_mul n).symm hr hB
  rw [Nat.zero_mul, List.nil_append] at h
  rw [h]
  exact bind_pure _
end HC
