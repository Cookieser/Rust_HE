/- C02: ciphertext algebra behind the evaluator — products of ciphertexts of ANY sizes are the Cauchy product, add/sub of
   ciphertexts of different sizes, BGV correction-factor balancing; the integer phase in Horner form and that it is `ctPhase` in ℤ[X]/(X^N+1);
   the geometric sum `c02x_geo` in which the norms of phases are bounded; `Prog` / `prog_hom`: a ring homomorphism commutes with every program of
   ring operations (the abstract form of the program theorems; `Model/Program.lean` has the programs of model operations). -/
import Heathcliff.Model.Evaluator
import Heathcliff.Proofs.NTTDefs
import Heathcliff.Proofs.C08A
import Heathcliff.Proofs.C08B
import Heathcliff.Proofs.BaseMath
import Heathcliff.Proofs.NegRing
import Mathlib.Algebra.BigOperators.Intervals
import Mathlib.Algebra.BigOperators.Ring.Finset
import Mathlib.Data.Int.ModEq
import Mathlib.Tactic.Ring
import Mathlib.Tactic.Linarith
namespace HC
open Finset

theorem mulPairs_spec {n1 n2 i : Nat} (h1 : 1 ≤ n1) (h2 : 1 ≤ n2) (hi : i < n1 + n2 - 1) :
    (mulPairs n1 n2 i).Nodup ∧ ∀ a b, (a, b) ∈ mulPairs n1 n2 i ↔ (a < n1 ∧ b < n2 ∧ a + b = i) := by
  unfold mulPairs
  refine ⟨List.Nodup.map (fun j j' h => Nat.add_left_cancel (Prod.mk.inj h).1) List.nodup_range, fun a b => ?_⟩
  · simp only [List.mem_map, List.mem_range, Prod.mk.injEq]
    constructor
    · rintro ⟨j, hj, rfl, rfl⟩
      omega
    · rintro ⟨ha, hb, rfl⟩
      refine ⟨a - ((a + b) - min (a + b) (n2 - 1)), ?_, ?_, ?_⟩ <;> omega

variable {R : Type} [CommRing R]

/-- phase of a ciphertext of size n: Σ c_i s^i -/
def ctPhase (n : Nat) (c : Nat → R) (s : R) : R := ∑ i ∈ range n, c i * s ^ i

theorem c02k_pairs_sum {n1 n2 i : Nat} (h1 : 1 ≤ n1) (h2 : 1 ≤ n2) (hi : i < n1 + n2 - 1) (g : Nat × Nat → R) :
    ((mulPairs n1 n2 i).map g).sum
      = ∑ a ∈ range n1, ∑ b ∈ range n2, if a + b = i then g (a, b) else 0 := by
  obtain ⟨hnd, hmem⟩ := mulPairs_spec h1 h2 hi
  rw [← List.sum_toFinset g hnd]
  have hset : (mulPairs n1 n2 i).toFinset = (range n1 ×ˢ range n2).filter (fun p => p.1 + p.2 = i) := by
    ext ⟨a, b⟩
    simp only [List.mem_toFinset, Finset.mem_filter, Finset.mem_product, Finset.mem_range, hmem]
    tauto
  rw [hset, Finset.sum_filter, Finset.sum_product]

theorem ct_mul_phase {n1 n2 : Nat} (h1 : 1 ≤ n1) (h2 : 1 ≤ n2) (c e : Nat → R) (s : R) :
    ctPhase (n1 + n2 - 1) (fun i => ((mulPairs n1 n2 i).map (fun p => c p.1 * e p.2)).sum) s
      = ctPhase n1 c s * ctPhase n2 e s := by
  unfold ctPhase
  rw [Finset.sum_mul_sum]
  have hL : ∀ i ∈ range (n1 + n2 - 1),
      ((mulPairs n1 n2 i).map (fun p => c p.1 * e p.2)).sum * s ^ i
        = ∑ a ∈ range n1, ∑ b ∈ range n2, if a + b = i then c a * e b * s ^ i else 0 := by
    intro i hi
    rw [c02k_pairs_sum h1 h2 (Finset.mem_range.mp hi), Finset.sum_mul]
    refine Finset.sum_congr rfl (fun a _ => ?_)
    rw [Finset.sum_mul]
    refine Finset.sum_congr rfl (fun b _ => ?_)
    split <;> simp
  rw [Finset.sum_congr rfl hL, Finset.sum_comm]
  refine Finset.sum_congr rfl (fun a ha => ?_)
  rw [Finset.sum_comm]
  refine Finset.sum_congr rfl (fun b hb => ?_)
  rw [Finset.sum_ite_eq]
  have : a + b ∈ range (n1 + n2 - 1) := by
    simp only [Finset.mem_range] at *; omega
  rw [if_pos this, pow_add]
  ring

/-- value of one term of `translateShape` -/
def trVal (sub : Bool) (a b : Nat → R) : TrTerm → R
  | .both i => if sub then a i - b i else a i + b i
  | .left i => a i
  | .right i => if sub then - b i else b i

theorem c02k_tr_getD (n1 n2 : Nat) (sub : Bool) (a b : Nat → R) {i : Nat} (hi : i < max n1 n2) :
    ((translateShape n1 n2).map (trVal sub a b)).getD i 0
      = (if i < n1 then a i else 0) + (if sub then -(if i < n2 then b i else 0) else (if i < n2 then b i else 0)) := by
  unfold translateShape
  rw [List.getD_eq_getElem?_getD, List.getElem?_eq_getElem (by rw [List.length_map, List.length_map, List.length_range]; exact hi),
    Option.getD_some]
  simp only [List.getElem_map, List.getElem_range]
  by_cases h1 : i < n1 <;> by_cases h2 : i < n2
  · rw [if_pos (by omega), if_pos h1, if_pos h2]
    cases sub <;> simp [trVal, sub_eq_add_neg]
  · rw [if_neg (by omega), if_pos (by omega), if_pos h1, if_neg h2]
    cases sub <;> simp [trVal]
  · rw [if_neg (by omega), if_neg (by omega), if_neg h1, if_pos h2]
    cases sub <;> simp [trVal]
  · omega

theorem c02k_sum_ext {n m : Nat} (h : n ≤ m) (f : Nat → R) (s : R) :
    ∑ i ∈ range m, (if i < n then f i else 0) * s ^ i = ∑ i ∈ range n, f i * s ^ i := by
  have : ∀ i ∈ range m, (if i < n then f i else 0) * s ^ i = if i < n then f i * s ^ i else 0 := by
    intro i _; split <;> simp
  rw [Finset.sum_congr rfl this, ← Finset.sum_filter]
  congr 1
  ext i
  simp only [Finset.mem_filter, Finset.mem_range]
  omega

theorem translate_phase (n1 n2 : Nat) (sub : Bool) (a b : Nat → R) (s : R) :
    ctPhase (max n1 n2) (fun i => ((translateShape n1 n2).map (trVal sub a b)).getD i 0) s
      = if sub then ctPhase n1 a s - ctPhase n2 b s else ctPhase n1 a s + ctPhase n2 b s := by
  unfold ctPhase
  have hL : ∀ i ∈ range (max n1 n2),
      ((translateShape n1 n2).map (trVal sub a b)).getD i 0 * s ^ i
        = (if i < n1 then a i else 0) * s ^ i
          + (if sub then -((if i < n2 then b i else 0) * s ^ i) else (if i < n2 then b i else 0) * s ^ i) := by
    intro i hi
    rw [c02k_tr_getD n1 n2 sub a b (Finset.mem_range.mp hi)]
    cases sub <;> simp only [if_true, if_false, Bool.false_eq_true] <;> ring
  rw [Finset.sum_congr rfl hL, Finset.sum_add_distrib, c02k_sum_ext (le_max_left n1 n2)]
  cases sub
  · simp only [if_false, Bool.false_eq_true]
    rw [c02k_sum_ext (le_max_right n1 n2)]
  · simp only [if_true]
    rw [Finset.sum_neg_distrib, c02k_sum_ext (le_max_right n1 n2), sub_eq_add_neg]

theorem negate_phase (n : Nat) (a : Nat → R) (s : R) : ctPhase n (fun i => - a i) s = - ctPhase n a s := by
  unfold ctPhase
  rw [← Finset.sum_neg_distrib]
  exact Finset.sum_congr rfl (fun i _ => by ring)

theorem mul_plain_phase (n : Nat) (a : Nat → R) (p s : R) : ctPhase n (fun i => a i * p) s = ctPhase n a s * p := by
  unfold ctPhase
  rw [Finset.sum_mul]
  exact Finset.sum_congr rfl (fun i _ => by ring)

theorem add_plain_phase (n : Nat) (hn : 1 ≤ n) (a : Nat → R) (p s : R) :
    ctPhase n (fun i => if i = 0 then a i + p else a i) s = ctPhase n a s + p := by
  unfold ctPhase
  obtain ⟨k, rfl⟩ : ∃ k, n = k + 1 := ⟨n - 1, by omega⟩
  rw [Finset.sum_range_succ', Finset.sum_range_succ']
  have : ∀ i ∈ range k, (if i + 1 = 0 then a (i + 1) + p else a (i + 1)) * s ^ (i + 1) = a (i + 1) * s ^ (i + 1) := by
    intro i _
    rw [if_neg (Nat.succ_ne_zero i)]
  rw [Finset.sum_congr rfl this]
  simp only [if_true, pow_zero, mul_one]
  ring

theorem ctPhase_trunc {n m : Nat} (h : n ≤ m) (f : Nat → R) (s : R) :
    ctPhase m (fun k => if k < n then f k else 0) s = ctPhase n f s := c02k_sum_ext h f s

theorem ctPhase_add (m : Nat) (f g : Nat → R) (s : R) : ctPhase m (fun k => f k + g k) s = ctPhase m f s + ctPhase m g s := by
  unfold ctPhase
  rw [← Finset.sum_add_distrib]
  exact Finset.sum_congr rfl (fun k _ => add_mul _ _ _)

theorem ctPhase_smul (m : Nat) (a : R) (f : Nat → R) (s : R) : ctPhase m (fun k => a * f k) s = a * ctPhase m f s := by
  unfold ctPhase
  rw [Finset.mul_sum]
  exact Finset.sum_congr rfl (fun k _ => mul_assoc _ _ _)

theorem map_ctPhase {A B : Type} [CommRing A] [CommRing B] (φ : A →+* B) (m : Nat) (c : Nat → A) (s : A) :
    φ (ctPhase m c s) = ctPhase m (fun k => φ (c k)) (φ s) := by
  unfold ctPhase
  rw [map_sum]
  exact Finset.sum_congr rfl fun k _ => by rw [map_mul, map_pow]

theorem c03k_ctPhase_two {S : Type} [CommRing S] (c : Nat → S) (s : S) : ctPhase 2 c s = c 0 + c 1 * s := by
  unfold ctPhase
  rw [Finset.sum_range_succ, Finset.sum_range_one]; ring

theorem c03k_ctPhase_three {S : Type} [CommRing S] (c : Nat → S) (s : S) : ctPhase 3 c s = c 0 + c 1 * s + c 2 * (s * s) := by
  unfold ctPhase
  rw [Finset.sum_range_succ, Finset.sum_range_succ, Finset.sum_range_one]; ring

/-! ## the integer phase Σ_k C_k ⋆ s^k over ℤ[X]/(X^n+1) in Horner form, on coefficient functions -/

/-- coefficient function of `C_0 + (C_1 + (C_2 + …)⋆s)⋆s` (m polynomials), ⋆ = negacyclic product `negMulR` over ℤ;
    `c03k_phZ` (C03P) is the same polynomial as an element of the ring, `c02x_toNP_phZ` relates the two -/
def c02x_phZ (n : Nat) (s : Nat → Int) : Nat → (Nat → Nat → Int) → Nat → Int
  | 0, _ => fun _ => 0
  | m+1, C => fun c => C 0 c + negMulR n (c02x_phZ n s m (fun k => C (k+1))) s c

/-- the Horner phase is `ctPhase` in ℤ[X]/(X^n+1) -/
theorem c02x_toNP_phZ (n : Nat) (s : Nat → Int) : ∀ (m : Nat) (C : Nat → Nat → Int),
    c03k_toNP n (c02x_phZ n s m C) = ctPhase m (fun k => c03k_toNP n (C k)) (c03k_toNP n s)
  | 0, _ => c03k_toNP_zero
  | m+1, C => by
    show c03k_toNP n (C 0 + negMulR n (c02x_phZ n s m (fun k => C (k+1))) s) = _
    rw [c03k_toNP_add, c03k_toNP_mul, c02x_toNP_phZ n s m]
    unfold ctPhase
    rw [Finset.sum_range_succ', Finset.sum_mul, pow_zero, mul_one, add_comm]
    exact congrArg (· + c03k_toNP n (C 0)) (Finset.sum_congr rfl fun k _ => by rw [pow_succ, mul_assoc])

/-- coefficient `c` of `Z_k = Σ_{x+y=k} X_x ⋆ Y_y` over ℤ[X]/(X^n+1) -/
def c02w_Z (n1 n2 n : Nat) (X Y : Nat → Nat → Int) (k c : Nat) : Int :=
  ((mulPairs n1 n2 k).map (fun p => negMulR n (X p.1) (Y p.2) c)).sum

/-- geometric sum `Σ_{k<m} S^k` (the norm of `1 + s + … + s^{m-1}` for `‖s‖₁ ≤ S`); `geoSum` of `Model/Program.lean` is the same function
    (the model imports no proofs; `c02p_geoSum_eq`, C02PG) -/
def c02x_geo (S : Nat) : Nat → Nat
  | 0 => 0
  | m+1 => 1 + S * c02x_geo S m

theorem c02x_geo_eq (S m : Nat) : c02x_geo S m = ∑ k ∈ range m, S^k := by
  induction m with
  | zero => rfl
  | succ m ih =>
    rw [c02x_geo, ih, Finset.sum_range_succ', Finset.mul_sum, add_comm]
    congr 1
    apply Finset.sum_congr rfl
    intro k _
    ring

theorem c02x_geo_mono (S : Nat) {m m' : Nat} (h : m ≤ m') : c02x_geo S m ≤ c02x_geo S m' := by
  rw [c02x_geo_eq, c02x_geo_eq]
  exact Finset.sum_le_sum_of_subset (Finset.range_mono h)

theorem c02x_geo_two (S : Nat) : c02x_geo S 2 = 1 + S := by simp [c02x_geo]
theorem c02x_geo_three (S : Nat) : c02x_geo S 3 = 1 + S + S^2 := by simp [c02x_geo]; ring

theorem c02x_geo_le_S (S N : Nat) (hS : S ≤ N) : ∀ m, c02x_geo S m ≤ c02x_geo N m
  | 0 => Nat.le_refl _
  | m+1 => by
    have ih := c02x_geo_le_S S N hS m
    show 1 + S * c02x_geo S m ≤ 1 + N * c02x_geo N m
    exact Nat.add_le_add_left (Nat.mul_le_mul hS ih) 1

theorem c02x_geo_pow (N : Nat) (hN : 2 ≤ N) : ∀ m, c02x_geo N (m+1) + 1 ≤ 2 * N^m
  | 0 => by simp [c02x_geo]
  | m+1 => by
    have ih := c02x_geo_pow N hN m
    have e : c02x_geo N (m+1+1) = 1 + N * c02x_geo N (m+1) := rfl
    have h1 : N * (c02x_geo N (m+1) + 1) ≤ N * (2 * N^m) := Nat.mul_le_mul_left _ ih
    have e2 : N * (2 * N^m) = 2 * N^(m+1) := by ring
    have e3 : N * (c02x_geo N (m+1) + 1) = N * c02x_geo N (m+1) + N := by ring
    omega

theorem c02x_geo_bound {S N : Nat} (hS : S ≤ N) (hN : 2 ≤ N) {m : Nat} (hm : 1 ≤ m) : c02x_geo S m ≤ 2 * N^(m-1) := by
  obtain ⟨m', rfl⟩ : ∃ m', m = m' + 1 := ⟨m - 1, by omega⟩
  have := c02x_geo_pow N hN m'
  have := c02x_geo_le_S S N hS (m'+1)
  simp only [Nat.add_sub_cancel]
  omega

/-! ### BGV correction factors (plaintext = factor^{-1} · phase mod t) -/

/-- reduction of a signed value into [0,t), as done in the loop: reduce |x|, negate if x < 0 -/
def c02k_red (x : Int) (t : Nat) : Nat := if x < 0 then (t - x.natAbs % t) % t else x.natAbs % t

theorem c02k_red_lt {t : Nat} (ht : 0 < t) (x : Int) : c02k_red x t < t := by
  unfold c02k_red; split <;> exact Nat.mod_lt _ ht

theorem c02k_red_modEq {t : Nat} (ht : 0 < t) (x : Int) : (c02k_red x t : Int) ≡ x [ZMOD t] := by
  unfold c02k_red
  split
  · rename_i h
    rw [Int.natCast_mod, Nat.cast_sub (Nat.mod_lt _ ht).le, Int.natCast_mod, Int.natCast_natAbs, abs_of_neg h]
    have := (Int.ModEq.refl (t : Int)).sub (Int.mod_modEq (-x) t)
    rw [sub_neg_eq_add] at this
    exact (Int.mod_modEq _ _).trans (this.trans Int.add_modEq_left)
  · rename_i h
    rw [Int.natCast_mod, Int.natCast_natAbs, abs_of_nonneg (not_lt.mp h)]
    exact Int.mod_modEq _ _

theorem c02k_loop_zero (t : Modulus) (fuel : Nat) (prevA prevB b : Int) (e1 e2 : Nat) (sum : Int) :
    balanceLoop t (fuel + 1) prevA 0 prevB b e1 e2 sum = .ok (e1, e2) := by
  rw [balanceLoop]; rfl

theorem c02k_loop_overflow (t : Modulus) (fuel : Nat) (prevA a prevB b : Int) (e1 e2 : Nat) (sum : Int)
    (ha : a ≠ 0) (hb : ¬ (-(2^63 : Int) ≤ prevB - Int.tdiv prevA a * b ∧ prevB - Int.tdiv prevA a * b < 2^63)) :
    balanceLoop t (fuel + 1) prevA a prevB b e1 e2 sum = .error .overflow := by
  rw [balanceLoop, if_neg ha]
  simp only [ckI64, if_neg hb, R.error_bind']

theorem c02k_loop_step_unit {t : Modulus} (ht : t.WF) (fuel : Nat) (prevA a prevB b : Int) (e1 e2 : Nat) (sum : Int)
    (ha : a ≠ 0) (haa : (Int.tmod prevA a).natAbs < 2^64)
    (hb1 : -(2^63 : Int) ≤ prevB - Int.tdiv prevA a * b) (hb2 : prevB - Int.tdiv prevA a * b < 2^63) :
    ∃ e1' e2' sum', balanceLoop t (fuel + 1) prevA a prevB b e1 e2 sum
        = balanceLoop t fuel a (Int.tmod prevA a) b (prevB - Int.tdiv prevA a * b) e1' e2' sum' ∧
      ((e1' = e1 ∧ e2' = e2) ∨
       (e1' = c02k_red (Int.tmod prevA a) t.value ∧ e2' = c02k_red (prevB - Int.tdiv prevA a * b) t.value ∧
        gcdU64 (c02k_red (Int.tmod prevA a) t.value) t.value = 1)) := by
  have hbb : (prevB - Int.tdiv prevA a * b).natAbs < 2^64 := by omega
  have htpos : 0 < t.value := Nat.lt_of_lt_of_le Nat.zero_lt_two ht.two_le
  have hle1 : (Int.tmod prevA a).natAbs % t.value ≤ t.value := (Nat.mod_lt _ htpos).le
  have hle2 : (prevB - Int.tdiv prevA a * b).natAbs % t.value ≤ t.value := (Nat.mod_lt _ htpos).le
  rw [balanceLoop, if_neg ha]
  simp only [ckI64_ok hb1 hb2, barrett64_exact ht haa, barrett64_exact ht hbb, R.ok_bind']
  -- whatever the reduced values `am`, `bm` are: the new multipliers are the old ones, or `(am, bm)` with `am` a unit
  have fin : ∀ am bm : Nat, ∀ ns : Int, ∀ c d : Prop, ∀ _ : Decidable (c ∧ d), ∃ e1' e2' sum',
      balanceLoop t fuel a (Int.tmod prevA a) b (prevB - Int.tdiv prevA a * b)
        (if c ∧ d then if ns < sum then (am, bm, ns) else (e1, e2, sum) else (e1, e2, sum)).1
        (if c ∧ d then if ns < sum then (am, bm, ns) else (e1, e2, sum) else (e1, e2, sum)).2.1
        (if c ∧ d then if ns < sum then (am, bm, ns) else (e1, e2, sum) else (e1, e2, sum)).2.2
      = balanceLoop t fuel a (Int.tmod prevA a) b (prevB - Int.tdiv prevA a * b) e1' e2' sum' ∧
      ((e1' = e1 ∧ e2' = e2) ∨ (e1' = am ∧ e2' = bm ∧ d)) := by
    intro am bm ns c d _
    refine ⟨_, _, _, rfl, ?_⟩
    split_ifs with h1 h2
    · exact Or.inr ⟨rfl, rfl, h1.2⟩
    · exact Or.inl ⟨rfl, rfl⟩
    · exact Or.inl ⟨rfl, rfl⟩
  unfold c02k_red
  by_cases hn : Int.tmod prevA a < 0 <;> by_cases hn' : prevB - Int.tdiv prevA a * b < 0 <;>
    simp only [hn, hn', if_true, if_false, negateMod_exact ht hle1, negateMod_exact ht hle2, pure, Except.pure] <;>
    exact fin _ _ _ _ _ _

theorem c02k_euclid_step {prevA a : Int} {k : Nat} (ha : 0 < a) (hle : a ≤ prevA) (hm : prevA * a < 2^(k+1)) :
    1 ≤ Int.tdiv prevA a ∧ 0 ≤ Int.tmod prevA a ∧ Int.tmod prevA a < a ∧ a * Int.tmod prevA a < 2^k := by
  rw [Int.tdiv_eq_ediv_of_nonneg (by omega), Int.tmod_eq_emod_of_nonneg (by omega)]
  exact euclid_fuel_int ha hle hm

/-- the invariant of the extended Euclid (cofactors of alternating sign, determinant `t`) that keeps `prev_b − q·b` within
    `[−t, t]`: the `i64` computation of the code cannot wrap -/
theorem c02k_cofactor_step {t prevA a prevB b q a' : Int} (ha : 0 < a) (ha' : 0 ≤ a') (hq : 1 ≤ q) (hdef : a' = prevA - a * q)
    (hinv : (0 ≤ b ∧ prevB ≤ 0 ∧ b * prevA - prevB * a = t) ∨ (b ≤ 0 ∧ 0 ≤ prevB ∧ prevB * a - b * prevA = t)) :
    ((0 ≤ prevB - q * b ∧ b ≤ 0 ∧ (prevB - q * b) * a - b * a' = t) ∨
      (prevB - q * b ≤ 0 ∧ 0 ≤ b ∧ b * a' - (prevB - q * b) * a = t)) ∧
    -t ≤ prevB - q * b ∧ prevB - q * b ≤ t := by
  have hdiv : prevA = a * q + a' := by rw [hdef]; ring
  have hq0 : 0 ≤ q := le_trans Int.one_nonneg hq
  rcases hinv with ⟨hb0, hpb, heq⟩ | ⟨hb0, hpb, heq⟩
  · obtain ⟨h1, h2, h3⟩ := euclid_cofactor_step (Q := t) hdiv ha hq0 ha' hb0 (neg_nonneg.mpr hpb) (by linear_combination heq)
    exact ⟨Or.inr ⟨by linarith, hb0, by linear_combination h3⟩, by linarith, by linarith⟩
  · obtain ⟨h1, h2, h3⟩ := euclid_cofactor_step (Q := t) hdiv ha hq0 ha' (neg_nonneg.mpr hb0) hpb (by linear_combination heq)
    rw [mul_neg] at h1 h2 h3
    exact ⟨Or.inl ⟨by linarith, hb0, by linear_combination h3⟩, by linarith, by linarith⟩

/-- one run of the balancing loop under the invariant of the extended Euclid (pair `a ≤ prevA ≤ t` with product below `2^fuel`,
    cofactors of alternating sign with determinant `t`): it terminates without overflow, and every property `P` of the pair, the
    cofactors and the multipliers that a step preserves — for the multipliers it keeps, and for the new ones
    `(red a', red b')` when `red a'` is a unit — holds at the end -/
theorem c02k_loop_run {t : Modulus} (ht : t.WF) (P : Int → Int → Int → Int → Nat → Nat → Prop)
    (hstep : ∀ prevA a prevB b e1 e2, a ≠ 0 → P prevA a prevB b e1 e2 →
      P a (Int.tmod prevA a) b (prevB - Int.tdiv prevA a * b) e1 e2 ∧
      (gcdU64 (c02k_red (Int.tmod prevA a) t.value) t.value = 1 →
        P a (Int.tmod prevA a) b (prevB - Int.tdiv prevA a * b)
          (c02k_red (Int.tmod prevA a) t.value) (c02k_red (prevB - Int.tdiv prevA a * b) t.value))) :
    ∀ (fuel : Nat) (prevA a prevB b : Int) (e1 e2 : Nat) (sum : Int),
    0 ≤ a → a ≤ prevA → prevA ≤ t.value → prevA * a < 2^fuel →
    ((0 ≤ b ∧ prevB ≤ 0 ∧ b * prevA - prevB * a = t.value) ∨
     (b ≤ 0 ∧ 0 ≤ prevB ∧ prevB * a - b * prevA = t.value)) →
    P prevA a prevB b e1 e2 →
    ∃ r pa pb b', balanceLoop t (fuel + 1) prevA a prevB b e1 e2 sum = .ok r ∧ P pa 0 pb b' r.1 r.2 := by
  have hlt : (t.value : Int) < 2^61 := by exact_mod_cast ht.lt
  intro fuel
  induction fuel with
  | zero =>
    intro prevA a prevB b e1 e2 sum ha0 hale _ hm _ hP
    have : a = 0 := by
      by_contra hne
      have := Int.mul_le_mul hale (show 1 ≤ a by omega) (by omega) (by omega)
      omega
    subst this
    exact ⟨_, _, _, _, c02k_loop_zero _ _ _ _ _ _ _ _, hP⟩
  | succ k ih =>
    intro prevA a prevB b e1 e2 sum ha0 hale hPt hm hinv hP
    by_cases ha : a = 0
    · subst ha
      exact ⟨_, _, _, _, c02k_loop_zero _ _ _ _ _ _ _ _, hP⟩
    · have hapos : 0 < a := by omega
      obtain ⟨hq, hr0, hr1, hm'⟩ := c02k_euclid_step hapos hale hm
      obtain ⟨hinv', hb1, hb2⟩ := c02k_cofactor_step hapos hr0 hq (Int.tmod_def _ _) hinv
      obtain ⟨e1', e2', sum', heq, hcase⟩ := c02k_loop_step_unit ht (k + 1) prevA a prevB b e1 e2 sum ha
        (by omega) (by omega) (by omega)
      rw [heq]
      obtain ⟨hkeep, hnew⟩ := hstep prevA a prevB b e1 e2 ha hP
      refine ih a _ b _ e1' e2' sum' hr0 hr1.le (by omega) hm' hinv' ?_
      rcases hcase with ⟨rfl, rfl⟩ | ⟨rfl, rfl, hg⟩
      · exact hkeep
      · exact hnew hg

theorem c02k_balance_refuse {t : Modulus} (ht : t.WF) {f1 : Nat} (f2 : Nat) (h1 : f1 < 2^63)
    (hc : ¬ Nat.Coprime f1 t.value) : balanceCorrectionFactors f1 f2 t = .error .refused := by
  unfold balanceCorrectionFactors
  rw [(tryInvert_spec_partial ht.two_le ht.lt (by omega) h1).2 (Or.inr hc)]
  rfl

/-- what a run of `balanceCorrectionFactors f1 f2 t` on a unit `f1` returns: with `inv = f1⁻¹ mod t` and the ratio `ρ = inv·f2 mod t`
    the extended Euclid on `(t, ρ)` ends in multipliers `e1 ≡ e2·ρ`, both reduced, and the common factor is `e1·f1 mod t` -/
structure c02k_Balanced (t : Modulus) (f1 f2 inv e1 e2 : Nat) : Prop where
  inv_lt : inv < t.value
  inv_mul : (inv * f1) % t.value = 1
  e1_lt : e1 < t.value
  e2_lt : e2 < t.value
  ratio : (e1 : Int) ≡ e2 * ((inv * f2 % t.value : Nat) : Int) [ZMOD t.value]
  run : balanceCorrectionFactors f1 f2 t = .ok ((e1 * f1) % t.value, e1, e2)
  unit : Nat.Coprime (inv * f2 % t.value) t.value → Nat.Coprime e1 t.value

theorem c02k_balance_run {t : Modulus} (ht : t.WF) {f1 f2 : Nat} (h1 : f1 < t.value) (h2 : f2 < t.value)
    (hc1 : Nat.Coprime f1 t.value) : ∃ inv e1 e2, c02k_Balanced t f1 f2 inv e1 e2 := by
  have h2le := ht.two_le
  have hlt := ht.lt
  have htpos : 0 < t.value := by omega
  have hf1 : f1 ≠ 0 := by
    rintro rfl
    rw [Nat.Coprime, Nat.gcd_zero_left] at hc1
    omega
  obtain ⟨inv, hti, hinvlt, hinv1⟩ := (tryInvert_spec_partial (v := f1) h2le hlt (by omega) (by omega)).1 ⟨hf1, hc1⟩
  have hrlt : inv * f2 % t.value < t.value := Nat.mod_lt _ htpos
  have htI : (t.value : Int) < 2^61 := by exact_mod_cast hlt
  generalize hρ : inv * f2 % t.value = ρ at hrlt
  -- the invariant: pair and multipliers stay in the ratio ρ to the cofactors, the multipliers stay reduced, the first stays a unit
  obtain ⟨r, -, -, -, hL, ⟨-, -, hr1, hr2, hr3, hr4⟩⟩ := c02k_loop_run ht
    (fun prevA a prevB b e1 e2 => prevA ≡ prevB * (ρ : Int) [ZMOD t.value] ∧ a ≡ b * (ρ : Int) [ZMOD t.value] ∧
      e1 < t.value ∧ (e1 : Int) ≡ e2 * (ρ : Int) [ZMOD t.value] ∧ e2 < t.value ∧ (Nat.Coprime ρ t.value → Nat.Coprime e1 t.value))
    (fun prevA a prevB b e1 e2 _ ⟨hPA, hA, he1, hE, he2, hc⟩ => by
      have hA' : Int.tmod prevA a ≡ (prevB - Int.tdiv prevA a * b) * (ρ : Int) [ZMOD t.value] := by
        rw [Int.tmod_def]
        have := hPA.sub (hA.mul_left (Int.tdiv prevA a))
        have e : prevB * (ρ : Int) - Int.tdiv prevA a * (b * ρ) = (prevB - Int.tdiv prevA a * b) * ρ := by ring
        rw [e, mul_comm (Int.tdiv prevA a) a] at this
        exact this
      refine ⟨⟨hA, hA', he1, hE, he2, hc⟩, fun hg => ⟨hA, hA', c02k_red_lt htpos _,
        (c02k_red_modEq htpos _).trans (hA'.trans ((c02k_red_modEq htpos _).symm.mul_right _)), c02k_red_lt htpos _, fun _ => ?_⟩⟩
      rwa [gcdU64_exact (by have := c02k_red_lt htpos (Int.tmod prevA a); omega) (by omega)] at hg)
    199 (t.value : Int) (ρ : Int) 0 1 ρ 1
    (↑(if ρ > t.value / 2 then ((ρ : Nat) : Int) - ↑t.value else ↑ρ).natAbs +
          ↑(if 1 > t.value / 2 then ((1 : Nat) : Int) - ↑t.value else ↑(1 : Nat)).natAbs)
    (Int.natCast_nonneg _) (by exact_mod_cast hrlt.le) le_rfl
    (calc (t.value : Int) * (ρ : Int) ≤ 2^61 * 2^61 :=
          Int.mul_le_mul htI.le (by omega) (Int.natCast_nonneg _) (by norm_num)
      _ < 2^199 := by norm_num)
    (Or.inl ⟨by norm_num, le_rfl, by ring⟩)
    ⟨by simp [Int.ModEq], by simp [Int.ModEq], hrlt, by simp [Int.ModEq], by omega, id⟩
  refine ⟨inv, r.1, r.2, hinvlt, hinv1, hr1, hr3, hρ ▸ hr2, ?_, hρ ▸ hr4⟩
  unfold balanceCorrectionFactors
  rw [hti]
  simp only [mulMod_exact ht (x := inv) (y := f2) (by omega) (by omega), R.ok_bind']
  rw [hρ, hL]
  simp only [R.ok_bind', mulMod_exact ht (x := r.1) (y := f1) (by omega) (by omega)]
  rfl

theorem balance_spec {t : Modulus} (ht : t.WF) {f1 f2 f e1 e2 : Nat} (h1 : f1 < t.value) (h2 : f2 < t.value)
    (h : balanceCorrectionFactors f1 f2 t = .ok (f, e1, e2)) :
    (e1 * f1) % t.value = f ∧ (e2 * f2) % t.value = f ∧ f < t.value := by
  by_cases hc : Nat.Coprime f1 t.value
  · obtain ⟨inv, r1, r2, b⟩ := c02k_balance_run ht h1 h2 hc
    have hinv1 := b.inv_mul
    have hr2 := b.ratio
    rw [b.run] at h
    simp only [Except.ok.injEq, Prod.mk.injEq] at h
    obtain ⟨hf, he1, he2⟩ := h
    subst he1 he2
    have htpos : 0 < t.value := Nat.lt_of_lt_of_le Nat.zero_lt_two ht.two_le
    refine ⟨hf, ?_, by rw [← hf]; exact Nat.mod_lt _ htpos⟩
    rw [← hf]
    have hratio : ((inv * f2 % t.value : Nat) : Int) ≡ (inv : Int) * f2 [ZMOD t.value] := by
      rw [Int.natCast_mod]; push_cast; exact Int.mod_modEq _ _
    have hone : (inv : Int) * f1 ≡ 1 [ZMOD t.value] := by
      have : inv * f1 ≡ 1 [MOD t.value] := by
        unfold Nat.ModEq; rw [hinv1, Nat.mod_eq_of_lt ht.two_le]
      exact_mod_cast Int.natCast_modEq_iff.mpr this
    -- e2·f2 ≡ e2·f2·(inv·f1) = (e2·ratio)·f1 ≡ e1·f1
    have key : ((r2 * f2 : Nat) : Int) ≡ ((r1 * f1 : Nat) : Int) [ZMOD t.value] := by
      push_cast
      calc (r2 : Int) * f2 = r2 * f2 * 1 := by ring
        _ ≡ r2 * f2 * (inv * f1) [ZMOD t.value] := (hone.symm.mul_left _)
        _ = (r2 * (inv * f2)) * f1 := by ring
        _ ≡ (r2 * ((inv * f2 % t.value : Nat) : Int)) * f1 [ZMOD t.value] := ((hratio.symm.mul_left _).mul_right _)
        _ ≡ r1 * f1 [ZMOD t.value] := (hr2.symm.mul_right _)
    exact Int.natCast_modEq_iff.mp key
  · rw [c02k_balance_refuse ht f2 (by have := ht.lt; omega) hc] at h
    cases h

theorem balance_total {t : Modulus} (ht : t.WF) {f1 f2 : Nat} (h1 : f1 < t.value) (h2 : f2 < t.value)
    (hc1 : Nat.Coprime f1 t.value) : ∃ r, balanceCorrectionFactors f1 f2 t = .ok r :=
  let ⟨_, _, _, b⟩ := c02k_balance_run ht h1 h2 hc1
  ⟨_, b.run⟩

theorem bgv_add_balanced {t : Int} {f1 f2 f e1 e2 p1 p2 m1 m2 : Int}
    (hp1 : p1 ≡ f1 * m1 [ZMOD t]) (hp2 : p2 ≡ f2 * m2 [ZMOD t])
    (he1 : e1 * f1 ≡ f [ZMOD t]) (he2 : e2 * f2 ≡ f [ZMOD t]) :
    e1 * p1 + e2 * p2 ≡ f * (m1 + m2) [ZMOD t] :=
  calc e1 * p1 + e2 * p2 ≡ e1 * (f1 * m1) + e2 * (f2 * m2) [ZMOD t] := (hp1.mul_left _).add (hp2.mul_left _)
    _ = (e1 * f1) * m1 + (e2 * f2) * m2 := by ring
    _ ≡ f * m1 + f * m2 [ZMOD t] := (he1.mul_right _).add (he2.mul_right _)
    _ = f * (m1 + m2) := by ring

theorem bgv_mul_factor {t : Int} {f1 f2 p1 p2 m1 m2 : Int}
    (hp1 : p1 ≡ f1 * m1 [ZMOD t]) (hp2 : p2 ≡ f2 * m2 [ZMOD t]) :
    p1 * p2 ≡ (f1 * f2) * (m1 * m2) [ZMOD t] := by
  have := hp1.mul hp2
  rwa [mul_mul_mul_comm] at this

/-- ring-level program syntax (the noise-free idealisation) -/
inductive Prog where
  | input (k : Nat) | plain (k : Nat)
  | neg (p : Prog) | add (p q : Prog) | sub (p q : Prog) | mul (p q : Prog)
  deriving Repr

def Prog.eval {S : Type} [CommRing S] (inp pl : Nat → S) : Prog → S
  | .input k => inp k | .plain k => pl k
  | .neg p => - p.eval inp pl
  | .add p q => p.eval inp pl + q.eval inp pl
  | .sub p q => p.eval inp pl - q.eval inp pl
  | .mul p q => p.eval inp pl * q.eval inp pl

/-- HOMOMORPHISM FOR PROGRAMS (algebraic core, any commutative ring): evaluating a program on phases commutes with
    evaluating it on plaintexts under any ring homomorphism `dec` (e.g. reduction of exact phases Δ·m ↦ m in the noise-free
    idealisation); the noise side condition is tracked separately. -/
theorem prog_hom {S T : Type} [CommRing S] [CommRing T] (dec : S →+* T) (inp pl : Nat → S) (p : Prog) :
    dec (p.eval inp pl) = p.eval (fun k => dec (inp k)) (fun k => dec (pl k)) := by
  induction p with
  | input k => rfl
  | plain k => rfl
  | neg p ih => simp only [Prog.eval, map_neg, ih]
  | add p q ihp ihq => simp only [Prog.eval, map_add, ihp, ihq]
  | sub p q ihp ihq => simp only [Prog.eval, map_sub, ihp, ihq]
  | mul p q ihp ihq => simp only [Prog.eval, map_mul, ihp, ihq]

end HC
