/- C01 part M: the derived readings of the record `MkLevel scheme n qs t l` (C01Q: what a successful `Drv.Sch.mkLevel scheme n qs t = .ok l`
   establishes, `mkLevel_facts`): `MkLevel.size_eq`, `q_value`, `Q`, `t64`, `canon` …, and `mkLevel_prefix'`: the level built on a prefix of the
   modulus list has the SAME `Modulus` and `NTTTables` objects in the common positions, whatever the schemes and plain moduli. -/
import Heathcliff.Proofs.C01Q
namespace HC

namespace MkLevel
variable {scheme : Scheme} {n : Nat} {qs : List Nat} {t : Nat} {l : Level} (m : MkLevel scheme n qs t l)
include m

theorem size_eq : l.size = qs.length := by
  rw [← m.qvals]
  simp [c01p_qvals, Level.size]

/-- (the default 1 is the one with which the driver and the samplers read the list of moduli: `Drv.C01E.bfvConsts`, `Rng.allBelow_getD`) -/
theorem q_value {j : Nat} (hj : j < l.size) : (l.q j).value = qs.getD j 1 := by
  have hj' : j < l.qs.size := hj
  rw [← m.qvals]
  simp [c01p_qvals, Level.q, Array.getD, hj', List.getD]

theorem moduli : l.qs.toList.map (·.value) = qs := m.qvals

theorem prodQ : Spec.prodL (c01p_qvals l) = Spec.prodL qs := by rw [m.qvals]

theorem Q (ht : t ≠ 0) : l.tool.baseQ.prod = Spec.prodL qs := by rw [← c01p_prodL_qvals (m.dec ht), m.qvals]

theorem t64 : l.t.value < 2^64 := by
  rw [m.t_eq]
  exact lt_trans m.t_lt (by norm_num)

theorem q_ge {v : Nat} (hv : v ∈ qs) : 2 ≤ v := (m.q_ok v hv).1

theorem q_lt {v : Nat} (hv : v ∈ qs) : v < 2^61 := (m.q_ok v hv).2.1

/-- canonicity at a built level is a statement about the input moduli -/
theorem canon {p : RnsPoly}
    (hp : p.size = qs.length ∧ ∀ i, i < qs.length → (p.getD i #[]).size = n ∧ ∀ j, j < n → (p.getD i #[]).getD j 0 < qs.getD i 1) :
    RnsCanon l p := by
  rw [← m.size_eq] at hp
  exact ⟨hp.1, fun i hi => by rw [m.n_eq, m.q_value hi]; exact hp.2 i hi⟩

end MkLevel

/-- `mkLevel` on `qs` and on `qs ++ r`, any schemes and plain moduli: same degree, the same `Modulus` and `NTTTables` objects in the common
    positions (the constructors are functions of the modulus value), and the two sizes.  (`mkLevel_prefix`, Proofs/C01U.lean, is the case of
    one scheme and one plain modulus, where the scheme and the plain modulus agree as well.) -/
theorem mkLevel_prefix' {s s' : Scheme} {n : Nat} {qs r : List Nat} {t t' : Nat} {l L : Level}
    (hl : Drv.Sch.mkLevel s n qs t = .ok l) (hL : Drv.Sch.mkLevel s' n (qs ++ r) t' = .ok L) :
    l.n = L.n ∧ (∀ i, i < l.size → l.q i = L.q i) ∧ (∀ i, i < l.size → l.tbl i = L.tbl i) ∧
      l.size = qs.length ∧ L.size = qs.length + r.length := by
  obtain ⟨ms, tm, tbl, q, aux, tool, hms, htm, htbl, -, -, -, rfl⟩ := c01q_mkLevel_inv hl
  obtain ⟨ms', tm', tbl', q', aux', tool', hms', htm', htbl', -, -, -, rfl⟩ := c01q_mkLevel_inv hL
  obtain ⟨ms2, hms2, rfl⟩ := R.mapM_append hms hms'
  obtain ⟨tb2, -, rfl⟩ := R.mapM_append htbl htbl'
  have l1 := (R.mapM_length hms).symm
  have l2 := (R.mapM_length htbl).symm
  have l3 := (R.mapM_length hms2).symm
  have hsz : ∀ (sc : Scheme) (x : List Modulus) (tm : Modulus) (y : List NTTTables) (z : RNSTool),
      (⟨sc, n, Nat.log2 n, x.toArray, tm, y.toArray, z⟩ : Level).size = x.length := fun _ _ _ _ _ => rfl
  refine ⟨rfl, fun i hi => ?_, fun i hi => ?_, by rw [hsz, l1], by rw [hsz, List.length_append, l1, l3]⟩
  · show ms.toArray.getD i default = (ms ++ ms2).toArray.getD i default
    rw [list_getD_toArray, list_getD_toArray, list_getD_append_left ms ms2 default (by rw [hsz] at hi; exact hi)]
  · show tbl.toArray.getD i default = (tbl ++ tb2).toArray.getD i default
    rw [list_getD_toArray, list_getD_toArray, list_getD_append_left tbl tb2 default (by rw [hsz] at hi; omega)]

end HC
