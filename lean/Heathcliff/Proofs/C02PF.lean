/- C02: BFV.  Linear operations of the model on the exact phase of COEFFICIENT-form ciphertexts (helper prefix `c02f_`),
   the invariant-noise algebra of linear combinations, and the program theorem `hom_program_bfv_partial` for negate / add / sub / multiply by
   induction over `FProg`, multiplication through `bfvMultiply_noise` / `bfvMultiply_canon` of C02X / C02W.
   Invariant (`c02f_Enc`): canonical, coefficient form, invariant noise `‖[t·x]_Q‖∞ ≤ V`, `2V < Q`, message part ≡ shadow (mod t). -/
import Heathcliff.Proofs.C02PL
import Heathcliff.Proofs.C01M
import Heathcliff.Proofs.C02X
namespace HC
open Finset

/-- coefficient `j` of the exact (centred) phase of a coefficient-form ciphertext -/
def c02f_ph (l : Level) (sk : Array Int) (ct : Ct) (j : Nat) : Int :=
  (Spec.phase (c01p_qvals l) l.n sk ct.polys.toList).getD j 0

/-- per prime, the exact phase of a coefficient-form ciphertext is C02V's phase at the monomial reading, in Z_q[X]/(X^N+1) -/
theorem c02f_phase_np {l : Level} (hq : c07s_LevelQ l) (sk : Array Int) {ct : Ct} (h1 : 1 ≤ ct.polys.size) {m : Nat} (hm : m < l.size) :
    c03k_red (l.q m).value l.n (c02f_ph l sk ct) = c02v_phase l ct m (c02v_mono (l.q m).value l.n) (c03k_sNP l sk m) := by
  refine (c03k_phaseL_np hq sk (c02x_toList_ne h1) hm).trans ?_
  rw [Array.length_toList, c02v_phase_mono]
  exact c03k_ctPhase_congr _ _ fun k _ => by rw [array_getD_toList]

theorem c02f_negate_ph {l : Level} (hl : l.WF) (hq : c07s_LevelQ l) {sk : Array Int} (hsk : sk.size = l.n) {a r : Ct} (ha : CtCanon l a)
    (hr : ctNegate l a = .ok r) :
    CtCanon l r ∧ r.ntt = a.ntt ∧ r.polys.size = a.polys.size ∧
      ∀ j, j < l.n → c02f_ph l sk r j ≡ - c02f_ph l sk a j [ZMOD l.tool.baseQ.prod] := by
  have hqs := c02v_qsWF_of_levelWF hl
  obtain ⟨r', hr', hcan, hsz, hntt, _, _⟩ := ctNegate_spec hqs ha
  obtain rfl := Except.ok.inj (hr.symm.trans hr')
  refine ⟨hcan, hntt, hsz, ?_⟩
  rw [← c03k_Q_eq hq]
  refine c03k_merge hq (f := c02f_ph l sk r) (g := fun j => - c02f_ph l sk a j) fun m hm => ?_
  rw [c03k_red_neg, c02f_phase_np hq sk (by have := hcan.two_le; omega) hm, c02f_phase_np hq sk (by have := ha.two_le; omega) hm,
    ctNegate_phase hqs ha hr hm (c02v_natCast_self _ _)]

theorem c02f_translate_ph {l : Level} (hl : l.WF) (hq : c07s_LevelQ l) {sk : Array Int} (hsk : sk.size = l.n) {a b r : Ct}
    (ha : CtCanon l a) (hb : CtCanon l b) (hntt : a.ntt = b.ntt) (hcf : a.cf = b.cf) (sub : Bool) (hr : ctTranslate l a b sub = .ok r) :
    CtCanon l r ∧ r.ntt = a.ntt ∧ r.polys.size = max a.polys.size b.polys.size ∧
      ∀ j, j < l.n → c02f_ph l sk r j ≡ c02f_ph l sk a j + (if sub then -1 else 1) * c02f_ph l sk b j [ZMOD l.tool.baseQ.prod] := by
  have hqs := c02v_qsWF_of_levelWF hl
  obtain ⟨r', hr', hcan, hsz, hn, _, _⟩ := ctTranslate_spec hqs ha hb sub hntt hcf
  obtain rfl := Except.ok.inj (hr.symm.trans hr')
  refine ⟨hcan, hn, hsz, ?_⟩
  rw [← c03k_Q_eq hq]
  refine c03k_merge hq (f := c02f_ph l sk r)
    (g := fun j => c02f_ph l sk a j + (if sub then -1 else 1) * c02f_ph l sk b j) fun m hm => ?_
  rw [c02f_phase_np hq sk (by have := hcan.two_le; omega) hm, ctTranslate_phase hqs ha hb hr hm (c02v_natCast_self _ _),
    ← c02f_phase_np hq sk (by have := ha.two_le; omega) hm, ← c02f_phase_np hq sk (by have := hb.two_le; omega) hm]
  cases sub
  · rw [if_neg Bool.false_ne_true, ← c03k_red_add]
    exact congrArg _ (funext fun j => by rw [if_neg Bool.false_ne_true, one_mul])
  · rw [if_pos rfl, ← c03k_red_sub]
    exact congrArg _ (funext fun j => by rw [if_pos rfl, neg_one_mul, sub_eq_add_neg])


/-- a splitting `t·x = Q·m + e` with `2|e| < Q` is THE splitting: `e` the invariant noise, `m` the message part -/
theorem c02f_split_unique {t Q : Nat} {x m e : Int} (h : (t : Int) * x = Q * m + e) (he : 2 * e.natAbs < Q) :
    c07l_v true t Q x = e ∧ c02x_msg t Q x = m := by
  have hQ : 0 < Q := by omega
  have hu := c07s_noise_unique h he
  obtain ⟨er, _⟩ := bfv_noise_split t hQ x
  rw [hu, h] at er
  exact ⟨hu, (Int.eq_of_mul_eq_mul_left (by exact_mod_cast (by omega : Q ≠ 0)) (add_right_cancel er)).symm⟩

/-- if `x_r ≡ α·x_a + β·x_b (mod Q)` and `2(|α|V_a + |β|V_b) < Q` then the invariant noise of `x_r` is at most `|α|V_a + |β|V_b` and its
    message part is `α·msg(x_a) + β·msg(x_b)` modulo t -/
theorem c02f_noise_lin {t Q : Nat} (hQ : 0 < Q) {xa xb xr α β : Int} (h : xr ≡ α * xa + β * xb [ZMOD Q]) {Va Vb : Nat}
    (ha : (c07l_v true t Q xa).natAbs ≤ Va) (hb : (c07l_v true t Q xb).natAbs ≤ Vb)
    (hV : 2 * (α.natAbs * Va + β.natAbs * Vb) < Q) :
    (c07l_v true t Q xr).natAbs ≤ α.natAbs * Va + β.natAbs * Vb ∧
      c02x_msg t Q xr ≡ α * c02x_msg t Q xa + β * c02x_msg t Q xb [ZMOD t] := by
  obtain ⟨ea, _⟩ := bfv_noise_split t hQ xa
  obtain ⟨eb, _⟩ := bfv_noise_split t hQ xb
  obtain ⟨k, hk⟩ := Int.modEq_iff_dvd.mp h.symm
  have hx : xr = α * xa + β * xb + Q * k := by linarith
  have hsplit : (t : Int) * xr = Q * (α * c02x_msg t Q xa + β * c02x_msg t Q xb + t * k)
      + (α * c07l_v true t Q xa + β * c07l_v true t Q xb) := by
    rw [hx]
    have : (t : Int) * (α * xa + β * xb + Q * k) = α * ((t : Int) * xa) + β * ((t : Int) * xb) + Q * (t * k) := by ring
    rw [this, ea, eb]; ring
  have hνb : (α * c07l_v true t Q xa + β * c07l_v true t Q xb).natAbs ≤ α.natAbs * Va + β.natAbs * Vb := by
    refine le_trans (Int.natAbs_add_le _ _) ?_
    rw [Int.natAbs_mul, Int.natAbs_mul]
    exact Nat.add_le_add (Nat.mul_le_mul_left _ ha) (Nat.mul_le_mul_left _ hb)
  obtain ⟨huniq, hm⟩ := c02f_split_unique hsplit (by omega)
  refine ⟨by rw [huniq]; exact hνb, ?_⟩
  rw [hm, Int.modEq_iff_dvd]
  exact ⟨-k, by ring⟩


/-- BFV level bundle: the BEHZ multiplication bundle `MulOK` (C02W; from the constructors: `c02w_mulOK_of_new`), the decryption bundle
    `DecOK` (C01P), the window condition for all sizes ≤ 16 (`c02w_window_of_new`: holds whenever `min(n1,n2)·N ≤ 2^30`) -/
structure c02f_LevelOK (l : Level) (T : Array NTTTables) : Prop where
  mul : MulOK l T
  dec : DecOK l
  bfv : l.scheme = .bfv
  tpos : 0 < l.t.value
  win : ∀ n1 n2, n1 ≤ 16 → n2 ≤ 16 → c02w_Window l n1 n2

theorem c02f_LevelOK.wf {l : Level} {T : Array NTTTables} (h : c02f_LevelOK l T) : l.WF := h.mul.lwf
theorem c02f_LevelOK.lq {l : Level} {T : Array NTTTables} (h : c02f_LevelOK l T) : c07s_LevelQ l := c02x_levelQ h.mul
theorem c02f_LevelOK.qpos {l : Level} {T : Array NTTTables} (h : c02f_LevelOK l T) : 0 < l.tool.baseQ.prod := h.mul.tool.qwf.prod_pos

/-- `ct` encrypts `m`: canonical, coefficient form, invariant noise `‖[t·x]_Q‖∞ ≤ V` with `2V < Q`, message part of the phase ≡ m (mod t) -/
def c02f_Enc (l : Level) (sk : Array Int) (ct : Ct) (m : Nat → Int) (V : Nat) : Prop :=
  CtCanon l ct ∧ ct.ntt = false ∧
  (∀ j, j < l.n → (c07l_v true l.t.value l.tool.baseQ.prod (c02f_ph l sk ct j)).natAbs ≤ V) ∧
  2 * V < l.tool.baseQ.prod ∧
  ∀ j, j < l.n → c02x_msg l.t.value l.tool.baseQ.prod (c02f_ph l sk ct j) ≡ m j [ZMOD l.t.value]

theorem c02f_cf_one {l : Level} (hs : l.scheme = .bfv) {ct : Ct} (h : CtCanon l ct) : ct.cf = 1 := by
  have := h.cf
  unfold c02v_cfOk at this
  rw [hs] at this
  exact this

theorem c02f_canon_fresh {l : Level} (hs : l.scheme = .bfv) {p0 p1 : RnsPoly} (h0 : RnsCanon l p0) (h1 : RnsCanon l p1) (ntt : Bool) :
    CtCanon l ⟨#[p0, p1], ntt, 1⟩ := by
  refine ⟨c02p_polysCanon_pair h0 h1 ntt 1, ?_⟩
  unfold c02v_cfOk
  rw [hs]

theorem c02f_step_neg {l : Level} {T : Array NTTTables} (h : c02f_LevelOK l T) {sk : Array Int} (hsk : sk.size = l.n) {a r : Ct}
    {m : Nat → Int} {V : Nat} (ha : c02f_Enc l sk a m V) (hr : ctNegate l a = .ok r) :
    r.polys.size = a.polys.size ∧ c02f_Enc l sk r (fun j => - m j) V := by
  obtain ⟨ca, na, va, hV, ma⟩ := ha
  obtain ⟨cr, hn, hsz, hph⟩ := c02f_negate_ph h.wf h.lq hsk ca hr (sk := sk)
  have key : ∀ j, j < l.n → _ := fun j hj =>
    c02f_noise_lin (t := l.t.value) h.qpos (xa := c02f_ph l sk a j) (xb := c02f_ph l sk a j) (xr := c02f_ph l sk r j) (α := -1) (β := 0)
      (by have := hph j hj; simpa using this) (va j hj) (va j hj) (by simpa using hV)
  refine ⟨hsz, cr, by rw [hn]; exact na, fun j hj => ?_, hV, fun j hj => ?_⟩
  · have := (key j hj).1
    simpa using this
  · have := (key j hj).2
    refine this.trans ?_
    have := (ma j hj).neg
    simpa using this

theorem c02f_step_tr {l : Level} {T : Array NTTTables} (h : c02f_LevelOK l T) {sk : Array Int} (hsk : sk.size = l.n) {a b r : Ct}
    {ma mb : Nat → Int} {Va Vb : Nat} (ha : c02f_Enc l sk a ma Va) (hb : c02f_Enc l sk b mb Vb) (sub : Bool)
    (hV : 2 * (Va + Vb) < l.tool.baseQ.prod) (hr : ctTranslate l a b sub = .ok r) :
    r.polys.size = max a.polys.size b.polys.size ∧
      c02f_Enc l sk r (fun j => if sub then ma j - mb j else ma j + mb j) (Va + Vb) := by
  obtain ⟨ca, na, va, _, ma'⟩ := ha
  obtain ⟨cb, nb, vb, _, mb'⟩ := hb
  obtain ⟨cr, hn, hsz, hph⟩ := c02f_translate_ph h.wf h.lq hsk ca cb (by rw [na, nb])
    (by rw [c02f_cf_one h.bfv ca, c02f_cf_one h.bfv cb]) sub hr (sk := sk)
  have hσ : (if sub then (-1 : Int) else 1).natAbs = 1 := by cases sub <;> simp
  have key : ∀ j, j < l.n → _ := fun j hj =>
    c02f_noise_lin (t := l.t.value) h.qpos (xa := c02f_ph l sk a j) (xb := c02f_ph l sk b j) (xr := c02f_ph l sk r j) (α := 1)
      (β := if sub then -1 else 1) (by have := hph j hj; rwa [← one_mul (c02f_ph l sk a j)] at this) (va j hj) (vb j hj)
      (by rw [hσ]; simpa using hV)
  refine ⟨hsz, cr, by rw [hn]; exact na, fun j hj => ?_, hV, fun j hj => ?_⟩
  · have := (key j hj).1
    rw [hσ] at this
    simpa using this
  · refine (key j hj).2.trans ?_
    have := ((ma' j hj).mul_left 1).add ((mb' j hj).mul_left (if sub then (-1 : Int) else 1))
    refine this.trans ?_
    cases sub
    · simp
    · simp only [if_true]
      have e : (1 : Int) * ma j + -1 * mb j = ma j - mb j := by ring
      rw [e]

theorem c02f_F_eq (N t K S na nb Va Vb : Nat) : bfvMulF N t K S na nb Va Vb = c02x_F N t K S na nb Va Vb := by
  unfold bfvMulF c02x_F
  rw [c02p_geoSum_eq, c02p_geoSum_eq, c02p_geoSum_eq]

theorem c02f_F_mono_S (N t K : Nat) {S S' : Nat} (hS : S ≤ S') (na nb Va Vb : Nat) :
    c02x_F N t K S na nb Va Vb ≤ c02x_F N t K S' na nb Va Vb := by
  unfold c02x_F
  have g1 := c02x_geo_le_S S S' hS na
  have g2 := c02x_geo_le_S S S' hS nb
  have g3 := c02x_geo_le_S S S' hS (na + nb - 1)
  refine Nat.add_le_add (Nat.add_le_add_right (Nat.mul_le_mul_left _ (Nat.add_le_add
    (Nat.mul_le_mul_right _ (Nat.add_le_add_right (Nat.mul_le_mul_left _ (Nat.mul_le_mul_left _ g1)) _))
    (Nat.mul_le_mul_right _ (Nat.add_le_add_right (Nat.mul_le_mul_left _ (Nat.mul_le_mul_left _ g2)) _)))) _)
    (Nat.mul_le_mul_left _ (Nat.mul_le_mul_left _ g3))

theorem c02f_step_mul {l : Level} {T : Array NTTTables} (h : c02f_LevelOK l T) {sk : Array Int} (hsk : sk.size = l.n) {S : Nat}
    (hS : ∑ k ∈ range l.n, (sk.getD k 0).natAbs ≤ S) {a b r : Ct} {ma mb : Nat → Int} {Va Vb : Nat}
    (ha : c02f_Enc l sk a ma Va) (hb : c02f_Enc l sk b mb Vb)
    (hF : bfvMulF l.n l.t.value l.size S a.polys.size b.polys.size Va Vb < 2^33 * l.tool.baseQ.prod)
    (hr : bfvMultiply l T a b = .ok r) :
    r.polys.size = a.polys.size + b.polys.size - 1 ∧
      c02f_Enc l sk r (negMulR l.n ma mb) (bfvMulF l.n l.t.value l.size S a.polys.size b.polys.size Va Vb / 2^34) := by
  obtain ⟨ca, na, va, _, ma'⟩ := ha
  obtain ⟨cb, nb, vb, _, mb'⟩ := hb
  have hm := h.mul
  have hQ := h.qpos
  have hPQ := c02x_prodL hm
  have h16 := bfvMultiply_ok_le16 hr
  obtain ⟨r', hr', cr, hsz, hn⟩ := bfvMultiply_canon hm ca cb na nb h16
  rw [hr] at hr'
  obtain rfl := Except.ok.inj hr'
  have h2a := ca.two_le; have h2b := cb.two_le
  have hwin := h.win a.polys.size b.polys.size ca.le16 cb.le16
  rw [c02f_F_eq] at hF ⊢
  have hnoise := bfvMultiply_noise hm ca.canon cb.canon na nb (by omega) (by omega) hwin hr hsk (Va := Va) (Vb := Vb)
    (by rw [hPQ]; exact va) (by rw [hPQ]; exact vb)
  rw [hPQ] at hnoise
  have key : ∀ c, c < l.n → (c07l_v true l.t.value l.tool.baseQ.prod (c02f_ph l sk r c)).natAbs ≤
        c02x_F l.n l.t.value l.size S a.polys.size b.polys.size Va Vb / 2^34 ∧
      c02x_msg l.t.value l.tool.baseQ.prod (c02f_ph l sk r c) ≡ negMulR l.n ma mb c [ZMOD l.t.value] := by
    intro c hc
    obtain ⟨μ, ν, e1, e2, e3⟩ := hnoise c hc
    have e3' : 2 * 2^33 * ν.natAbs ≤ c02x_F l.n l.t.value l.size S a.polys.size b.polys.size Va Vb :=
      le_trans e3 (c02f_F_mono_S _ _ _ hS _ _ _ _)
    have hν : 2 * ν.natAbs < l.tool.baseQ.prod := by
      have : (2:Nat)^33 = 8589934592 := by norm_num
      rw [this] at e3' hF
      omega
    obtain ⟨huniq, hmsg⟩ := c02f_split_unique (x := c02f_ph l sk r c) e1 hν
    refine ⟨?_, ?_⟩
    · rw [huniq, Nat.le_div_iff_mul_le (by positivity)]
      have : (2:Nat)^34 = 2 * 2^33 := by norm_num
      rw [this, Nat.mul_comm]; exact e3'
    · rw [hmsg]
      exact e2.trans (c04k_negMul_modEq l.n _ hc ma' mb')
  refine ⟨hsz, cr, hn, fun c hc => (key c hc).1, ?_, fun c hc => (key c hc).2⟩
  have := Nat.div_mul_le_self (c02x_F l.n l.t.value l.size S a.polys.size b.polys.size Va Vb) (2^34)
  have e34 : (2:Nat)^34 = 17179869184 := by norm_num
  have e33 : (2:Nat)^33 = 8589934592 := by norm_num
  rw [e34] at this ⊢
  rw [e33] at hF
  omega


def FProg.shadow (n : Nat) (M : Nat → Nat → Int) : FProg → Nat → Int
  | .inp i => M i
  | .neg p => fun j => - p.shadow n M j
  | .add p q => fun j => p.shadow n M j + q.shadow n M j
  | .sub p q => fun j => p.shadow n M j - q.shadow n M j
  | .mul p q => negMulR n (p.shadow n M) (q.shadow n M)

/-- THE INDUCTION (BFV): whenever the model does not refuse and the bookkeeping (which checks `2V < Q` at every node) succeeds, it returns
    the size of the result and a bound on its invariant noise, and the message part of the result's phase is the shadow value modulo t -/
theorem c02f_prog_inv {l : Level} {T : Array NTTTables} (h : c02f_LevelOK l T) {sk : Array Int} (hsk : sk.size = l.n) {S : Nat}
    (hS : ∑ k ∈ range l.n, (sk.getD k 0).natAbs ≤ S) (cts : Nat → Ct) (M : Nat → Nat → Int) (inB : Nat → Nat × Nat) :
    ∀ (prog : FProg) (r : Ct),
      (∀ i ∈ prog.ctInputs, c02f_Enc l sk (cts i) (M i) (inB i).2 ∧ (cts i).polys.size = (inB i).1) →
      prog.eval l T cts = .ok r →
      ∀ s V, prog.noiseUB l.n l.t.value l.size l.tool.baseQ.prod S inB = some (s, V) →
        s = r.polys.size ∧ c02f_Enc l sk r (prog.shadow l.n M) V := by
  intro prog
  induction prog with
  | inp i =>
    intro r hin hev s V hub
    have hr : cts i = r := Except.ok.inj hev
    subst hr
    obtain ⟨he, hsz⟩ := hin i (by simp [FProg.ctInputs])
    rw [FProg.noiseUB] at hub
    have e : inB i = (s, V) := Option.some.inj hub
    rw [e] at he hsz
    exact ⟨hsz.symm, he⟩
  | neg p ih =>
    intro r hin hev s V hub
    rw [FProg.eval] at hev
    obtain ⟨a, hea, hra⟩ := R.bind_eq_ok.mp hev
    rw [FProg.noiseUB] at hub
    obtain ⟨hs, ea⟩ := ih a hin hea s V hub
    obtain ⟨hsz, er⟩ := c02f_step_neg h hsk ea hra
    exact ⟨by rw [hs, hsz], er⟩
  | add p q ihp ihq | sub p q ihp ihq =>
    intro r hin hev s V hub
    rw [FProg.eval] at hev
    obtain ⟨a, hea, hev1⟩ := R.bind_eq_ok.mp hev
    obtain ⟨b, heb, hrb⟩ := R.bind_eq_ok.mp hev1
    rw [FProg.noiseUB] at hub
    cases hp : p.noiseUB l.n l.t.value l.size l.tool.baseQ.prod S inB with
    | none => rw [hp] at hub; simp at hub
    | some x =>
      cases hq : q.noiseUB l.n l.t.value l.size l.tool.baseQ.prod S inB with
      | none => rw [hp, hq] at hub; simp at hub
      | some y =>
        obtain ⟨s1, b1⟩ := x
        obtain ⟨s2, b2⟩ := y
        rw [hp, hq] at hub
        dsimp only at hub
        split at hub
        · rename_i hV
          obtain ⟨rfl, rfl⟩ := Prod.mk.inj (Option.some.inj hub)
          obtain ⟨hs1, ea⟩ := ihp a (fun i hi => hin i (by simp [FProg.ctInputs, hi])) hea s1 b1 hp
          obtain ⟨hs2, eb⟩ := ihq b (fun i hi => hin i (by simp [FProg.ctInputs, hi])) heb s2 b2 hq
          obtain ⟨hsz, er⟩ := c02f_step_tr h hsk ea eb _ hV hrb
          exact ⟨by rw [hs1, hs2, hsz], by simpa [FProg.shadow] using er⟩
        · simp at hub
  | mul p q ihp ihq =>
    intro r hin hev s V hub
    rw [FProg.eval] at hev
    obtain ⟨a, hea, hev1⟩ := R.bind_eq_ok.mp hev
    obtain ⟨b, heb, hrb⟩ := R.bind_eq_ok.mp hev1
    rw [FProg.noiseUB] at hub
    cases hp : p.noiseUB l.n l.t.value l.size l.tool.baseQ.prod S inB with
    | none => rw [hp] at hub; simp at hub
    | some x =>
      cases hq : q.noiseUB l.n l.t.value l.size l.tool.baseQ.prod S inB with
      | none => rw [hp, hq] at hub; simp at hub
      | some y =>
        obtain ⟨s1, b1⟩ := x
        obtain ⟨s2, b2⟩ := y
        rw [hp, hq] at hub
        dsimp only at hub
        split at hub
        · rename_i hF
          obtain ⟨rfl, rfl⟩ := Prod.mk.inj (Option.some.inj hub)
          obtain ⟨rfl, ea⟩ := ihp a (fun i hi => hin i (by simp [FProg.ctInputs, hi])) hea s1 b1 hp
          obtain ⟨rfl, eb⟩ := ihq b (fun i hi => hin i (by simp [FProg.ctInputs, hi])) heb s2 b2 hq
          obtain ⟨hsz, er⟩ := c02f_step_mul h hsk hS ea eb hF hrb
          exact ⟨hsz.symm, er⟩
        · simp at hub

/-- decryption below the BEHZ threshold: `2·γ·V + 2·|q|·Q ≤ Q·γ` (i.e. `V ≤ Q·(1/2 − |q|/γ)`, γ the auxiliary prime of `decryptScaleAndRound`).
    The idea: `c02f_Enc` says t·phase = Q·m + ν with 2|ν| < Q coefficient by coefficient, so rounding t·phase/Q returns m exactly
    (`exact_below_threshold`), and the threshold is what `bfvDecrypt_eq_spec` needs for the model's γ-corrected rounding to be that rounding -/
theorem c02f_decrypt_of_enc {l : Level} {T : Array NTTTables} (h : c02f_LevelOK l T) {sk : Array Int} (hsk : sk.size = l.n) {r : Ct}
    {m : Nat → Int} {V : Nat} (he : c02f_Enc l sk r m V)
    (hγ : 2 * l.tool.gamma.value * V + 2 * l.size * l.tool.baseQ.prod ≤ l.tool.baseQ.prod * l.tool.gamma.value) :
    bfvDecrypt l sk r = .ok (Spec.trim (Array.ofFn (n := l.n) fun j => Spec.imod (m j.val) l.t.value)) := by
  obtain ⟨cr, nr, vr, hV, mr⟩ := he
  have hQ := h.qpos
  have hPQ := h.lq.prodL
  have hr : r = ⟨r.polys, false, r.cf⟩ := by
    cases r with
    | mk polys ntt cf => simp only at nr; subst nr; rfl
  have hν : ∀ j, j < l.n → 2 * (c07l_v true l.t.value l.tool.baseQ.prod (c02f_ph l sk r j)).natAbs < l.tool.baseQ.prod :=
    fun j hj => by have := vr j hj; omega
  rw [hr, bfvDecrypt_eq_spec h.wf h.dec hsk cr.two_le cr.canon r.cf (fun j hj => by
    rw [hPQ]
    obtain ⟨e1, _⟩ := bfv_noise_split l.t.value hQ (c02f_ph l sk r j)
    have hx : (Spec.phase (c01p_qvals l) l.n sk r.polys.toList).getD j 0 = c02f_ph l sk r j := rfl
    rw [hx, exact_below_threshold hQ e1 (hν j hj)]
    have e2 : (l.t.value : Int) * c02f_ph l sk r j - l.tool.baseQ.prod * c02x_msg l.t.value l.tool.baseQ.prod (c02f_ph l sk r j)
        = c07l_v true l.t.value l.tool.baseQ.prod (c02f_ph l sk r j) := by rw [e1]; ring
    rw [e2, Int.abs_eq_natAbs]
    have h1 : 2 * l.tool.gamma.value * (c07l_v true l.t.value l.tool.baseQ.prod (c02f_ph l sk r j)).natAbs
        ≤ 2 * l.tool.gamma.value * V := Nat.mul_le_mul_left _ (vr j hj)
    exact_mod_cast le_trans (Nat.add_le_add_right h1 _) hγ)]
  congr 2
  rw [hPQ]
  have hps := c01p_phase_size (c01p_qvals l) l.n sk r.polys.toList
  apply array_ext_getD (n := l.n) (by simp [Spec.bfvDecode, hps]) (by simp)
  intro j hj
  rw [c02x_decode_msg l.t.value hQ _ (by rw [hps]; exact hj) (hν j hj), array_getD_ofFn _ _ hj]
  exact imod_congr (mr j hj)

/-- inputs: a canonical coefficient-form ciphertext whose exact phase splits as `t·x = Q·m + ν` with `‖ν‖∞ ≤ V`, `2V < Q` -/
theorem c02f_enc_of_split {l : Level} {T : Array NTTTables} (h : c02f_LevelOK l T) {sk : Array Int} {ct : Ct} (hc : CtCanon l ct)
    (hn : ct.ntt = false) (m ν : Nat → Int) (V : Nat)
    (hsp : ∀ j, j < l.n → (l.t.value : Int) * c02f_ph l sk ct j = l.tool.baseQ.prod * m j + ν j)
    (hν : ∀ j, j < l.n → (ν j).natAbs ≤ V) (hV : 2 * V < l.tool.baseQ.prod) : c02f_Enc l sk ct m V := by
  have hu : ∀ j, j < l.n → _ := fun j hj => c02f_split_unique (hsp j hj) (by have := hν j hj; omega)
  exact ⟨hc, hn, fun j hj => by rw [(hu j hj).1]; exact hν j hj, hV, fun j hj => by rw [(hu j hj).2]⟩

/-- THE PROGRAM-LEVEL HOMOMORPHISM THEOREM FOR BFV, ring operations (PARTIAL with respect to the operation list of C02: plaintext operations,
    modulus switching and relinearisation are not composed for BFV; their step lemmas are proved for BGV: C02PH, C02PG, C02PR).  For every BFV level satisfying the constructor bundles, every
    secret with `‖s‖₁ ≤ S`, every program over negate / add / sub / multiply (all size pairs): if the model does not refuse, the bookkeeping
    returns `(s, V)` and `V` is below the BEHZ decryption threshold, then `bfvDecrypt (eval prog)` is the shadow value modulo t. -/
theorem hom_program_bfv_partial {l : Level} {T : Array NTTTables} (h : c02f_LevelOK l T) {sk : Array Int} (hsk : sk.size = l.n) {S : Nat}
    (hS : ∑ k ∈ range l.n, (sk.getD k 0).natAbs ≤ S) (cts : Nat → Ct) (M : Nat → Nat → Int) (inB : Nat → Nat × Nat) (prog : FProg)
    {r : Ct} (hin : ∀ i ∈ prog.ctInputs, c02f_Enc l sk (cts i) (M i) (inB i).2 ∧ (cts i).polys.size = (inB i).1)
    (hev : prog.eval l T cts = .ok r) {s V : Nat}
    (hub : prog.noiseUB l.n l.t.value l.size l.tool.baseQ.prod S inB = some (s, V))
    (hγ : 2 * l.tool.gamma.value * V + 2 * l.size * l.tool.baseQ.prod ≤ l.tool.baseQ.prod * l.tool.gamma.value) :
    bfvDecrypt l sk r = .ok (Spec.trim (Array.ofFn (n := l.n) fun j => Spec.imod (prog.shadow l.n M j.val) l.t.value)) := by
  obtain ⟨_, he⟩ := c02f_prog_inv h hsk hS cts M inB prog r hin hev s V hub
  exact c02f_decrypt_of_enc h hsk he hγ

/-- every BFV level `mkLevel` builds, with Bsk tables built by `NTTTables.new`; `hp`: the auxiliary primes lie in the window of the BEHZ
    conversions (the search only guarantees > 2^60) -/
theorem c02f_levelOK_of_mkLevel {n : Nat} {qs : List Nat} {t : Nat} {l : Level} {T : Array NTTTables}
    (h : Drv.Sch.mkLevel .bfv n qs t = .ok l) (ht : t ≠ 0) (hlen : qs.length ≤ 62) (htb : l.t.value < 2^l.t.bits)
    {aux : List Modulus} (haux : Drv.C10.auxPrimes n (qs.length + 4) = .ok aux) (hp : ∀ m ∈ aux, 2^61 - 2^54 ≤ m.value) (hN : 16 * n ≤ 2^30)
    (hT : ∀ i, i < l.tool.baseBsk.size → ∃ pr root0, root0 < 2^64 ∧
      NTTTables.new l.k (l.tool.baseBsk.q i) pr root0 = .ok (T.getD i default)) : c02f_LevelOK l T := by
  have m := mkLevel_facts h
  have hsz := m.size_eq
  obtain ⟨ms, tm, tbl, q, aux', tool, _, htm, _, hq, haux', hnew, rfl⟩ := c01q_mkLevel_inv h
  have htwf : tm.WF := (Modulus.mk?_wf htm ht).1
  obtain ⟨hqwf, hqbase⟩ := RNSBase.new_wf (ms := ms) (fun m' hm => m.built.mwf m' (by simpa using hm)) (by
    have : ms.length = qs.length := by simpa [Level.size] using hsz
    omega) hq
  have hqsz : q.size = qs.length := by
    unfold RNSBase.size
    rw [hqbase]
    simpa [Level.size] using hsz
  rw [hqsz] at haux'
  obtain rfl : aux' = aux := Except.ok.inj (haux'.symm.trans haux)
  have haux61 : ∀ m' ∈ aux', m'.WF ∧ 2^61 - 2^54 ≤ m'.value := by
    intro m' hm
    obtain ⟨v, hv, hvm⟩ := R.mapM_mem haux' m' hm
    exact ⟨(Modulus.mk?_wf hvm (c01q_getPrimes_ne_zero hv)).1, hp m' hm⟩
  have hq' : RNSBase.new (ms.toArray).toList = .ok q := hq
  have hmul : MulOK _ T := c02w_mulOK_of_new (q := q) (aux := aux') m.wf (by rw [← hsz] at hlen; exact hlen) m.built.klt htwf
    (fun m' hm => ⟨(haux61 m' hm).1, le_trans (by norm_num) (haux61 m' hm).2⟩) hq' hnew hT
  refine ⟨hmul, m.dec ht, m.scheme_eq, by rw [m.t_eq]; omega, fun n1 n2 h1 _ => ?_⟩
  refine c02w_window_of_new (q := q) (aux := aux') hqwf (by omega) htwf htb haux61 hnew ?_
  calc min n1 n2 * n ≤ 16 * n := Nat.mul_le_mul_right _ (le_trans (Nat.min_le_left _ _) h1)
    _ ≤ 2^30 := hN

end HC
