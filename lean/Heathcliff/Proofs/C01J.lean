/- C01: fresh encryptions decrypt to the plaintext — the scalar facts behind it.  Δ(m) is the nearest integer to q·m/t; a coefficient Δ(m) + v (BFV)
   resp. lift(m) + t·v (BGV) decodes to m under a margin on the noise v; the phase of a fresh ciphertext in any commutative ring; the deterministic
   bound on the fresh noise.  `Spec.invMod` is a modular inverse as long as the fuel of `Spec.egcd` suffices (modulus below 2^199) and fails
   beyond it (Fibonacci witness). -/
import Heathcliff.Spec.Scheme
import Heathcliff.Proofs.NTTDefs
import Heathcliff.Proofs.C08A
import Heathcliff.Proofs.Centred
import Heathcliff.Proofs.BaseMath
import Heathcliff.Proofs.NegAlg
import Mathlib.Data.Int.ModEq
import Mathlib.Tactic.Ring
import Mathlib.Tactic.Linarith
import Mathlib.Tactic.Positivity
import Mathlib.Algebra.Order.BigOperators.Group.Finset
namespace HC
open Finset

/-- the scaled plaintext coefficient that `multiply_add_plain` adds: ⌊q/t⌋·m + ⌊((q mod t)·m + ⌊(t+1)/2⌋)/t⌋ -/
def deltaM (q t m : Nat) : Nat := (q / t) * m + ((q % t) * m + (t + 1) / 2) / t

/-- it is the nearest integer to q·m/t (ties up):  ⌊(q·m + ⌊(t+1)/2⌋)/t⌋ -/
theorem deltaM_eq (q t m : Nat) (ht : 0 < t) : deltaM q t m = (q * m + (t + 1) / 2) / t := by
  unfold deltaM
  have h : q * m + (t + 1) / 2 = t * ((q / t) * m) + ((q % t) * m + (t + 1) / 2) := by
    conv_lhs => rw [← Nat.div_add_mod q t]
    ring
  rw [h, Nat.mul_add_div ht]

/-- |t·Δ(m) − q·m| ≤ t/2 + 1/2, i.e. the rounding error of the scaling is at most (t+1)/2 -/
theorem deltaM_err (q t m : Nat) (ht : 0 < t) :
    ((t * deltaM q t m : Nat) : Int) - (q * m : Nat) ≤ (t + 1) / 2 ∧ (q * m : Nat) - ((t * deltaM q t m : Nat) : Int) ≤ t / 2 := by
  rw [deltaM_eq q t m ht]
  have h1 := Nat.div_mul_le_self (q * m + (t + 1) / 2) t
  have h2 := Nat.lt_div_mul_add (a := q * m + (t + 1) / 2) ht
  rw [Nat.mul_comm ((q * m + (t + 1) / 2) / t) t] at h1 h2
  generalize t * ((q * m + (t + 1) / 2) / t) = X at *
  generalize q * m = P at *
  omega

/-- one coefficient of BFV decoding: for x ≡ Δ(m) + v (mod Q) with 2t(|v|+1) < Q, t·x = Q·(m − t·κ) + r with the remainder
    r = (t·Δ(m) − Q·m) + t·v, |r| ≤ t(|v|+1) < Q/2, so rounding t·x/Q gives m − t·κ -/
theorem c01j_bfv_decode {Q t m : Nat} {x v : Int} (ht : 2 ≤ t) (hv : 2 * t * (v.natAbs + 1) < Q)
    (hx : x ≡ (deltaM Q t m : Int) + v [ZMOD (Q : Int)]) :
    ∃ κ r : Int, (t : Int) * x = Q * ((m : Int) - t * κ) + r ∧ r.natAbs ≤ t * (v.natAbs + 1) ∧
      Spec.roundDiv (t * x) Q = (m : Int) - t * κ := by
  obtain ⟨κ, hκ⟩ := Int.modEq_iff_dvd.mp hx
  obtain ⟨e1, e2⟩ := deltaM_err Q t m (by omega)
  have hr : (t : Int) * x = Q * ((m : Int) - t * κ) + (((t * deltaM Q t m : Nat) : Int) - ((Q * m : Nat) : Int) + t * v) := by
    rw [show x = (deltaM Q t m : Int) + v - Q * κ by rw [← hκ]; ring]
    push_cast
    ring
  have hrb : (((t * deltaM Q t m : Nat) : Int) - ((Q * m : Nat) : Int) + t * v).natAbs ≤ t * (v.natAbs + 1) := by
    refine le_trans (Int.natAbs_add_le _ _) ?_
    rw [Int.natAbs_mul, Int.natAbs_natCast, Nat.mul_add, Nat.mul_one, Nat.add_comm]
    exact Nat.add_le_add_left (by omega) _
  generalize ((t * deltaM Q t m : Nat) : Int) - ((Q * m : Nat) : Int) + t * v = r at hr hrb
  exact ⟨κ, r, hr, hrb, by rw [hr]; exact c01j_roundDiv_small _ r (by rw [Nat.mul_assoc] at hv; omega)⟩

/-- BFV SCALE ROUND TRIP: for every q, t ≥ 2, m < t and every noise v with 2·t·(|v| + 1) < q:
    decoding (Δ(m) + v) mod q — centred lift, multiply by t, divide by q with rounding, reduce mod t — returns m.
    Covers upper-half values, q mod t ≠ 0, t a power of two, t larger than a prime factor of q. -/
theorem bfv_scale_round_trip {q t m : Nat} {v : Int} (ht : 2 ≤ t) (hm : m < t) (hv : 2 * t * (v.natAbs + 1) < q) :
    Spec.imod (Spec.roundDiv (t * Spec.centred (Spec.imod ((deltaM q t m : Int) + v) q) q) q) t = m := by
  obtain ⟨κ, hκ⟩ := c01j_centred_imod ((deltaM q t m : Int) + v) (Q := q) (by omega)
  obtain ⟨κ', -, -, -, hw⟩ := c01j_bfv_decode (m := m) (x := Spec.centred (Spec.imod ((deltaM q t m : Int) + v) q) q) ht hv
    (Int.modEq_iff_dvd.mpr ⟨κ, by rw [hκ]; ring⟩)
  rw [hw]
  exact c01j_imod_sub_mul m κ' hm

/-- BGV lift of a plaintext coefficient: m if m < ⌈t/2⌉ else m − t (the `plain_upper_half_threshold/increment` lift) -/
def bgvLift (t m : Nat) : Int := if m ≥ (t + 1) / 2 then (m : Int) - t else m

theorem c01j_bgvLift_bounds {t m : Nat} (hm : m < t) : 2 * (bgvLift t m).natAbs ≤ t := by
  unfold bgvLift
  split <;> omega

theorem c01j_bgvLift_imod {t m : Nat} (hm : m < t) (v : Int) : Spec.imod (bgvLift t m + t * v) t = m := by
  unfold bgvLift
  split
  · have : (m : Int) - t + t * v = (m : Int) + t * (v - 1) := by ring
    rw [this]; exact c01j_imod_add_mul m _ hm
  · exact c01j_imod_add_mul m _ hm

/-- BGV ROUND TRIP: phase = lift(m) + t·v with |lift(m) + t·v| < q/2 decodes (centred mod q, then mod t) to m -/
theorem bgv_round_trip {q t m : Nat} {v : Int} (ht : 2 ≤ t) (hm : m < t) (hq : 2 * (t * (v.natAbs + 1)) < q) :
    Spec.imod (Spec.centred (Spec.imod (bgvLift t m + t * v) q) q) t = m := by
  have hb := c01j_bgvLift_bounds hm
  have hsmall : 2 * (bgvLift t m + t * v).natAbs < q := by
    have h1 := Int.natAbs_add_le (bgvLift t m) (t * v)
    have h2 : ((t : Int) * v).natAbs = t * v.natAbs := by rw [Int.natAbs_mul]; rfl
    have h3 : t * (v.natAbs + 1) = t * v.natAbs + t := by ring
    omega
  rw [c01j_centred_small hsmall]
  exact c01j_bgvLift_imod hm v

/-- correction factor: decoding multiplies by cf^{-1} mod t.
    FALSE without a bound on `t`: `Spec.egcd` runs Euclid's algorithm with fuel 400, so for
    consecutive Fibonacci numbers cf = F₄₀₁, t = F₄₀₂ (279 bits) it runs out of fuel, `Spec.invMod cf t = 0` and the decoded
    value is 0 ≠ m = 1; see `c01j_bgv_round_trip_cf_false`. -/
def bgv_round_trip_cfStatement : Prop :=
  ∀ {q t m cf : Nat} {v : Int}, 2 ≤ t → m < t → Nat.Coprime cf t →
    2 * (t * (v.natAbs + 1)) < q → ∀ {x : Int}, x = bgvLift t ((cf * m) % t) + t * v →
    (Spec.imod (Spec.centred (Spec.imod x q) q) t * Spec.invMod cf t) % t = m

theorem bgv_round_trip_cf_of_inv {q t m cf : Nat} {v : Int} (ht : 2 ≤ t) (hm : m < t)
    (hinv : (Spec.invMod cf t * cf) % t = 1 % t)
    (hq : 2 * (t * (v.natAbs + 1)) < q) {x : Int} (hx : x = bgvLift t ((cf * m) % t) + t * v) :
    (Spec.imod (Spec.centred (Spec.imod x q) q) t * Spec.invMod cf t) % t = m := by
  subst hx
  rw [bgv_round_trip ht (Nat.mod_lt _ (by omega)) hq]
  calc (cf * m) % t * Spec.invMod cf t % t = (cf * m) * Spec.invMod cf t % t := Nat.mod_mul_mod _ _ _
    _ = m * (Spec.invMod cf t * cf) % t := by congr 1; ring
    _ = m * ((Spec.invMod cf t * cf) % t) % t := (Nat.mul_mod_mod _ _ _).symm
    _ = m := by rw [hinv, Nat.mul_mod_mod, Nat.mul_one, Nat.mod_eq_of_lt hm]

/-! ### phase identities in any commutative ring (R = Z_q[X]/(X^N+1)) -/
section ring
variable {R : Type} [CommRing R]

/-- public-key encryption: pk = (−(a·s + e), a), ct = (pk0·u + e0 + M, pk1·u + e1): phase = M − e·u + e0 + e1·s -/
theorem phase_fresh_pk (a s e u e0 e1 M : R) :
    ((-(a * s + e)) * u + e0 + M) + (a * u + e1) * s = M - e * u + e0 + e1 * s := by ring

/-- secret-key encryption: ct = (−(a·s + e) + M, a): phase = M − e -/
theorem phase_fresh_sk (a s e M : R) : (-(a * s + e) + M) + a * s = M - e := by ring

/-- BGV variants: errors enter multiplied by t -/
theorem phase_fresh_pk_bgv (a s e u e0 e1 M t : R) :
    ((-(a * s + t * e)) * u + t * e0 + M) + (a * u + t * e1) * s = M + t * (- e * u + e0 + e1 * s) := by ring
end ring

/-- ‖a·b mod (X^n+1)‖∞ ≤ n·‖a‖∞·‖b‖∞ for integer coefficient vectors (negMulR over ℤ) -/
theorem negMul_norm_le (n : Nat) (a b : Nat → Int) (A B : Nat)
    (ha : ∀ i, i < n → (a i).natAbs ≤ A) (hb : ∀ i, i < n → (b i).natAbs ≤ B) :
    ∀ c, c < n → (negMulR n a b c).natAbs ≤ n * A * B :=
  negMulR_norm_le n a b A B ha hb

/-- FRESH NOISE: with ternary u, s (‖·‖ ≤ 1) and errors bounded by 21 (C16: `cbd_bound`) the fresh public-key noise
    −e·u + e0 + e1·s has infinity norm ≤ 21·(2n + 1); the secret-key noise ≤ 21 -/
theorem fresh_noise_bound (n : Nat) (e u e0 e1 s : Nat → Int)
    (he : ∀ i, i < n → (e i).natAbs ≤ 21) (he0 : ∀ i, i < n → (e0 i).natAbs ≤ 21) (he1 : ∀ i, i < n → (e1 i).natAbs ≤ 21)
    (hu : ∀ i, i < n → (u i).natAbs ≤ 1) (hs : ∀ i, i < n → (s i).natAbs ≤ 1) :
    ∀ c, c < n → (- negMulR n e u c + e0 c + negMulR n e1 s c).natAbs ≤ 21 * (2 * n + 1) := by
  intro c hc
  have h := (Int.natAbs_add_le (- negMulR n e u c + e0 c) (negMulR n e1 s c)).trans
    (Nat.add_le_add_right (Int.natAbs_add_le (- negMulR n e u c) (e0 c)) _)
  rw [Int.natAbs_neg] at h
  exact h.trans ((Nat.add_le_add (Nat.add_le_add (negMul_norm_le n e u 21 1 he hu c hc) (he0 c hc))
    (negMul_norm_le n e1 s 21 1 he1 hs c hc)).trans (by omega))

/-- the margin for the fresh noise bound 21·(2n+1): 2·t·(21·(2n+1) + 1) < q, decidable on the parameter set -/
def FreshOK (n t q : Nat) : Prop := 2 * t * (21 * (2 * n + 1) + 1) < q
instance (n t q : Nat) : Decidable (FreshOK n t q) := by unfold FreshOK; infer_instance

/-- FRESH DECRYPTION (BFV): phase coefficient Δ(m_c) + v_c with the fresh bound decodes to m_c as soon as `FreshOK n t q` -/
theorem decrypt_fresh_bfv {n q t m : Nat} {v : Int} (ht : 2 ≤ t) (hm : m < t) (hok : FreshOK n t q)
    (hv : v.natAbs ≤ 21 * (2 * n + 1)) :
    Spec.imod (Spec.roundDiv (t * Spec.centred (Spec.imod ((deltaM q t m : Int) + v) q) q) q) t = m := by
  apply bfv_scale_round_trip ht hm
  unfold FreshOK at hok
  exact Nat.lt_of_le_of_lt (Nat.mul_le_mul_left _ (by omega)) hok

/-- non-vacuity: N = 8192, three 40-bit primes, t of 20 bits satisfies FreshOK -/
example : FreshOK 8192 (2^20) (2^117) := by unfold FreshOK; norm_num

/-! ### `Spec.invMod` is a modular inverse when the fuel of `Spec.egcd` suffices (modulus below 2^199) -/

theorem c01j_go_zero (r0 r1 s0 s1 : Int) : Spec.egcd.go 0 r0 r1 s0 s1 = (r0, s0) := rfl

theorem c01j_go_succ (f : Nat) (r0 r1 s0 s1 : Int) :
    Spec.egcd.go (f + 1) r0 r1 s0 s1 =
      if r1 = 0 then (r0, s0) else Spec.egcd.go f r1 (r0 - r0 / r1 * r1) s1 (s0 - r0 / r1 * s1) := rfl

theorem c01j_go_stop {x M : Int} (f : Nat) {r0 s0 : Int} (s1 : Int) (h0 : 0 ≤ r0) (d0 : M ∣ r0 - s0 * x)
    (hg : Int.gcd r0 0 = 1) : ∃ a, Spec.egcd.go (f + 1) r0 0 s0 s1 = (1, a) ∧ M ∣ 1 - a * x := by
  rw [Int.gcd_zero_right] at hg
  have : r0 = 1 := by omega
  subst this
  exact ⟨s0, by rw [c01j_go_succ, if_pos rfl], d0⟩

/-- Euclid's loop: with remainders 0 ≤ r1 ≤ r0 coprime, r_i ≡ s_i·x (mod M) and r0·r1 < 2^f, `f + 1` units of fuel
    reach remainder 1 with a Bézout coefficient of x modulo M (the product of the remainders at least halves in a step) -/
theorem c01j_go_spec (x M : Int) : ∀ (f : Nat) (r0 r1 s0 s1 : Int), 0 ≤ r1 → r1 ≤ r0 → r0 * r1 < 2 ^ f →
    M ∣ r0 - s0 * x → M ∣ r1 - s1 * x → Int.gcd r0 r1 = 1 →
    ∃ a, Spec.egcd.go (f + 1) r0 r1 s0 s1 = (1, a) ∧ M ∣ 1 - a * x := by
  intro f
  induction f with
  | zero =>
    intro r0 r1 s0 s1 h1 h10 hp d0 d1 hg
    have hr1 : r1 = 0 := by
      by_contra hne
      have : 1 * 1 ≤ r0 * r1 := mul_le_mul (by omega) (by omega) (by omega) (by omega)
      omega
    subst hr1
    exact c01j_go_stop 0 s1 h10 d0 hg
  | succ f ih =>
    intro r0 r1 s0 s1 h1 h10 hp d0 d1 hg
    by_cases hr1 : r1 = 0
    · subst hr1
      exact c01j_go_stop _ s1 h10 d0 hg
    · have hpos : 0 < r1 := by omega
      have hmod : r0 - r0 / r1 * r1 = r0 % r1 := by
        have := Int.emod_add_mul_ediv r0 r1
        rw [Int.mul_comm (r0 / r1) r1]; omega
      obtain ⟨-, hm0, hm1, hfuel⟩ := euclid_fuel_int hpos h10 hp
      rw [c01j_go_succ, if_neg hr1, hmod]
      apply ih _ _ _ _ hm0 hm1.le hfuel d1 ?_ ?_
      · have : r0 % r1 - (s0 - r0 / r1 * s1) * x = (r0 - s0 * x) - r0 / r1 * (r1 - s1 * x) := by rw [← hmod]; ring
        rw [this]
        exact dvd_sub d0 (Dvd.dvd.mul_left d1 _)
      · rw [← hmod, Int.gcd_sub_mul_right_right, Int.gcd_comm]; exact hg

theorem c01j_egcd_spec {c M : Nat} (hc : c < M) (hM : M < 2 ^ 199) (hg : Nat.gcd c M = 1) :
    ∃ a, Spec.egcd (c : Int) (M : Int) = (1, a) ∧ (M : Int) ∣ 1 - a * c := by
  have hM0 : (M : Int) ≠ 0 := by omega
  have e : Spec.egcd (c : Int) (M : Int) = Spec.egcd.go 399 (M : Int) (c : Int) 0 1 := by
    show Spec.egcd.go (399 + 1) (c : Int) (M : Int) 1 0 = _
    rw [c01j_go_succ, if_neg hM0, Int.ediv_eq_zero_of_lt (by omega) (by omega)]
    simp
  rw [e]
  apply c01j_go_spec (c : Int) (M : Int) 398
  · omega
  · omega
  · have h1 : M * c < 2 ^ 199 * 2 ^ 199 := Nat.mul_lt_mul'' hM (by omega)
    have h2 : (2 : Nat) ^ 199 * 2 ^ 199 = 2 ^ 398 := by rw [← pow_add]
    rw [h2] at h1
    exact_mod_cast h1
  · simp
  · simp
  · rw [Int.gcd_comm]; exact_mod_cast hg

theorem c01j_invMod_spec {cf t : Nat} (ht : 2 ≤ t) (ht199 : t < 2 ^ 199) (hcf : Nat.Coprime cf t) :
    (Spec.invMod cf t * cf) % t = 1 % t := by
  have hg : Nat.gcd (cf % t) t = 1 := by
    rw [← Nat.gcd_rec, Nat.gcd_comm]; exact hcf
  obtain ⟨a, ha, hd⟩ := c01j_egcd_spec (Nat.mod_lt cf (by omega)) ht199 hg
  have hinv : Spec.invMod cf t = (a % (t : Int)).toNat := by
    unfold Spec.invMod
    rw [ha]
    simp
  have hcast : ((Spec.invMod cf t : Nat) : Int) = a % (t : Int) := by
    rw [hinv]; exact Int.toNat_of_nonneg (Int.emod_nonneg _ (by omega))
  have h1 : ((Spec.invMod cf t * cf : Nat) : Int) ≡ ((1 : Nat) : Int) [ZMOD (t : Int)] := by
    push_cast
    rw [hcast]
    have e1 : a % (t : Int) * (cf : Int) ≡ a * ((cf % t : Nat) : Int) [ZMOD (t : Int)] := by
      apply Int.ModEq.mul (Int.mod_modEq a t)
      push_cast
      exact (Int.mod_modEq _ _).symm
    have e2 : a * ((cf % t : Nat) : Int) ≡ 1 [ZMOD (t : Int)] := by
      rw [Int.modEq_iff_dvd]
      exact hd
    exact e1.trans e2
  exact Int.natCast_modEq_iff.mp h1

/-- correction factor: `bgv_round_trip_cfStatement` under the explicit bound t < 2^199 (fuel of `Spec.egcd` suffices) -/
theorem bgv_round_trip_cf_bounded {q t m cf : Nat} {v : Int} (ht : 2 ≤ t) (ht199 : t < 2 ^ 199) (hm : m < t)
    (hcf : Nat.Coprime cf t)
    (hq : 2 * (t * (v.natAbs + 1)) < q) {x : Int} (hx : x = bgvLift t ((cf * m) % t) + t * v) :
    (Spec.imod (Spec.centred (Spec.imod x q) q) t * Spec.invMod cf t) % t = m :=
  bgv_round_trip_cf_of_inv ht hm (c01j_invMod_spec ht ht199 hcf) hq hx

/-! ### the unbounded statement is false: Fibonacci witness exhausting the fuel of `Spec.egcd` -/

/-- F₄₀₁ -/
def c01j_F401 : Nat := 284812298108489611757988937681460995615380088782304890986477195645969271404032323901
/-- F₄₀₂ (279 bits) -/
def c01j_F402 : Nat := 460835978753503578226215883073872246385764472086797082873203188542544616448248343576

theorem c01j_invMod_fib : Spec.invMod c01j_F401 c01j_F402 = 0 := by decide +kernel

theorem c01j_coprime_fib : Nat.Coprime c01j_F401 c01j_F402 := by decide

/-- COUNTEREXAMPLE to `bgv_round_trip_cfStatement`: t = F₄₀₂, cf = F₄₀₁ (coprime), m = 1, v = 0, q = 2t + 1:
    `Spec.invMod cf t = 0` (fuel 400 exhausted), so the left-hand side is 0, not 1. -/
theorem c01j_bgv_round_trip_cf_false : ¬ bgv_round_trip_cfStatement := by
  intro h
  have h1 := @h (2 * c01j_F402 + 1) c01j_F402 1 c01j_F401 0 (by decide) (by decide) c01j_coprime_fib
    (by simp) _ rfl
  rw [c01j_invMod_fib, Nat.mul_zero, Nat.zero_mod] at h1
  exact absurd h1 (by decide)

theorem c01j_wfop_new_eq {mq : Modulus} (h : mq.WF) {o : MulOperand} (ho : WFOp mq o) :
    MulOperand.new o.operand mq = .ok o := by
  obtain ⟨o', h1, h2, h3⟩ := mulOperand_new h ho.1
  rw [h1]
  congr 1
  cases o; cases o'
  simp only [MulOperand.mk.injEq]
  exact ⟨h2, h3.trans ho.2.symm⟩

theorem c01j_add_words {lo hi h P : Nat} (hP : lo + B64 * hi = P) (hS : P + h < B64 * B64) :
    hi + (lo + h) / B64 < B64 ∧ (lo + h) % B64 + B64 * (hi + (lo + h) / B64) = P + h := by
  have e : (lo + h) % B64 + B64 * (hi + (lo + h) / B64) = P + h := by
    have := Nat.mod_add_div (lo + h) B64
    rw [Nat.mul_add]
    omega
  refine ⟨Nat.lt_of_mul_lt_mul_left (a := B64) ?_, e⟩
  omega

/-- MODEL LINK: the coefficient `multiply_add_plain` adds in component j is Δ(m) mod q_j, for a well-formed modulus and
    the context constants ⌊Q/t⌋ mod q_j (as Harvey operand), Q mod t, ⌊(t+1)/2⌋ -/
theorem multiplyAddPlain_coeff {mq : Modulus} (hq : mq.WF) {Q t m d : Nat} (ht : 2 ≤ t) (ht64 : t < 2^61) (hm : m < t)
    (hd : d < mq.value) {op : MulOperand} (hop : WFOp mq op) (hopv : op.operand = (Q / t) % mq.value) :
    (do
      let lo := mulLo m (Q % t)
      let hi := mulHi m (Q % t)
      let (n0, carry) := addU64 lo ((t + 1) / 2)
      let n1 ← ckAdd hi carry
      let fix := ((n0 + B64 * n1) / t) % B64
      let sc ← mulOperandAddMod m op fix mq
      addMod d sc mq) = .ok ((d + deltaM Q t m) % mq.value) := by
  have hr : Q % t < t := Nat.mod_lt _ (by omega)
  have hprod : m * (Q % t) < t * t := Nat.mul_lt_mul'' hm hr
  have htt : t * t + t ≤ t * 2^61 := by rw [← Nat.mul_succ]; exact Nat.mul_le_mul_left _ ht64
  have hB : t * 2^61 < B64 * B64 := by
    rw [B64_eq]; exact Nat.mul_lt_mul'' (by omega) (by norm_num)
  obtain ⟨hn1, hnum⟩ := c01j_add_words (h := (t + 1) / 2) (mulHiLo m (Q % t)) (by omega)
  have hs : addU64 (mulLo m (Q % t)) ((t + 1) / 2) =
      ((mulLo m (Q % t) + (t + 1) / 2) % B64, (mulLo m (Q % t) + (t + 1) / 2) / B64) :=
    Prod.ext (addU64_fst _ _) (addU64_snd (Nat.mod_lt _ B64_pos) (by rw [B64_eq]; omega))
  have hfix : (m * (Q % t) + (t + 1) / 2) / t < 2^61 := Nat.div_lt_of_lt_mul (by omega)
  simp only [hs]
  unfold ckAdd
  rw [if_pos hn1]
  simp only [bind, Except.bind]
  rw [hnum, Nat.mod_eq_of_lt (by rw [B64_eq]; omega),
    mulOperandAddMod_exact hq (by omega) hop.1 (by omega) (c01j_wfop_new_eq hq hop)]
  simp only []
  rw [addMod_exact hq hd (Nat.mod_lt _ (by have := hq.two_le; omega))]
  unfold deltaM
  rw [hopv, Nat.add_mod_mod, Nat.mul_comm m (Q % t), Nat.mul_comm m]
  exact congrArg Except.ok ((((Nat.mod_modEq _ _).mul_right m).add_right _).add_left d)

end HC
