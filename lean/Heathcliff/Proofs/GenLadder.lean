import Heathcliff.Gen.LadderFns
import Heathcliff.Model.Context

/-!
  Translator tie for `HeContext::validate` (src/context.rs): the CONDITIONS of four error returns, generated into
  `Heathcliff/Gen/LadderFns.lean` (namespace `HC.GenL`), against the conditions of `validate` / `validateBfv` of
  `Heathcliff/Model/Context.lean`, and the position of these rungs in the model's ladder.  Helper names start with `gy_`.
-/
namespace HC

theorem gy_cond_size_eq (k : Nat) :
    GenL.cond_InvalidCoeffModulusSize k = decide (k > Gen.HE_COEFF_MOD_COUNT_MAX ∨ k < Gen.HE_COEFF_MOD_COUNT_MIN) := rfl

theorem gy_cond_bits_eq (q : Nat) :
    GenL.cond_InvalidCoeffModulusBitCount q =
      decide (q / 2^Gen.HE_USER_MOD_BIT_COUNT_MAX > 0 ∨ q / 2^(Gen.HE_USER_MOD_BIT_COUNT_MIN - 1) = 0) := by
  unfold GenL.cond_InvalidCoeffModulusBitCount
  simp only [Nat.shiftRight_eq_div_pow]; rfl

theorem gy_cond_degree_eq (n : Nat) :
    GenL.cond_InvalidPolyModulusDegree n = decide (n < Gen.HE_POLY_MOD_DEGREE_MIN ∨ n > Gen.HE_POLY_MOD_DEGREE_MAX) := by
  unfold GenL.cond_InvalidPolyModulusDegree
  have : Gen.HE_POLY_MOD_DEGREE_MIN = 2 := rfl
  have : Gen.HE_POLY_MOD_DEGREE_MAX = 131072 := rfl
  apply decide_eq_decide.mpr; omega

theorem gy_cond_plain_eq (t : Nat) :
    GenL.cond_InvalidPlainModulusBitCount t =
      decide (t / 2^Gen.HE_PLAIN_MOD_BIT_COUNT_MAX > 0 ∨ t / 2^(Gen.HE_PLAIN_MOD_BIT_COUNT_MIN - 1) = 0) := by
  unfold GenL.cond_InvalidPlainModulusBitCount
  simp only [Nat.shiftRight_eq_div_pow]; rfl

open HC.Ctx HC.Gen

theorem gy_any_bits (qs : List Nat) :
    qs.any (fun q => decide (q / 2^HE_USER_MOD_BIT_COUNT_MAX > 0 ∨ q / 2^(HE_USER_MOD_BIT_COUNT_MIN - 1) = 0)) =
      qs.any (fun q => GenL.cond_InvalidCoeffModulusBitCount q) := by
  congr 1; funext q; rw [gy_cond_bits_eq]

/-- rung 2 of the model's ladder fires exactly on the generated condition of the code's `InvalidCoeffModulusSize` return -/
theorem gy_validate_size (isPrime : Nat → Bool) (p : Params) (sec : SecLevel) (hs : p.scheme ≠ .None)
    (h : GenL.cond_InvalidCoeffModulusSize p.q.length = true) :
    validate isPrime p sec = pure { parms := p, err := .InvalidCoeffModulusSize } := by
  rw [gy_cond_size_eq, decide_eq_true_eq] at h
  unfold validate
  simp only [hs, if_false, h, if_true]

theorem gy_validate_bits (isPrime : Nat → Bool) (p : Params) (sec : SecLevel) (hs : p.scheme ≠ .None)
    (h1 : GenL.cond_InvalidCoeffModulusSize p.q.length = false)
    (h2 : p.q.any (fun q => GenL.cond_InvalidCoeffModulusBitCount q) = true) :
    validate isPrime p sec = pure { parms := p, err := .InvalidCoeffModulusBitCount } := by
  rw [gy_cond_size_eq, decide_eq_false_iff_not] at h1
  unfold validate
  simp only [hs, if_false, h1, gy_any_bits, h2, if_true]

theorem gy_validate_degree (isPrime : Nat → Bool) (p : Params) (sec : SecLevel) (hs : p.scheme ≠ .None)
    (h1 : GenL.cond_InvalidCoeffModulusSize p.q.length = false)
    (h2 : p.q.any (fun q => GenL.cond_InvalidCoeffModulusBitCount q) = false)
    (h3 : GenL.cond_InvalidPolyModulusDegree p.n = true) :
    validate isPrime p sec = pure { ctx1 p with err := .InvalidPolyModulusDegree } := by
  rw [gy_cond_size_eq, decide_eq_false_iff_not] at h1
  rw [gy_cond_degree_eq, decide_eq_true_eq] at h3
  unfold validate
  simp only [hs, if_false, h1, gy_any_bits, h2, h3, if_true, Bool.false_eq_true]

theorem gy_validateBfv_plain (isPrime : Nat → Bool) (c : ContextData) (kp Q : Nat)
    (h : GenL.cond_InvalidPlainModulusBitCount c.parms.t = true) :
    validateBfv isPrime c kp Q = pure ({ c with err := .InvalidPlainModulusBitCount }, false) := by
  rw [gy_cond_plain_eq, decide_eq_true_eq] at h
  unfold validateBfv
  simp only [h, if_true]
end HC
