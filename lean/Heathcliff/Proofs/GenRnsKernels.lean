import Heathcliff.Proofs.GenRnsBase

/-!
  The component-wise kernels of src/util/polysmallmod.rs as generated into `Gen/RnsFns.lean` (`add_scalar_inplace`, `sub_scalar_inplace`, `multiply_operand(_inplace)`,
  `multiply_scalar_inplace`, `negate_inplace`, `modulo`, `sub_inplace`) are `List.mapM`s of the hand model's word functions; `util::set_uint`, and
  `util::multiply_uint_u64` / `util::set_zero_uint` (src/util/basic.rs; used by `RNSBase::compose`) EQUAL the hand model's `multiplyUintU64` (C08) for every
  operand, every word and every result buffer.  `subModV`, `mulOpV`: the values of the two word functions that cannot trap.
-/
namespace HC
open HC.GenW HC.GenR

theorem gr_modulus_reduce_eq (m : Modulus) (x : Nat) : GenR.modulus_reduce m x = barrett64 x m := by
  unfold GenR.modulus_reduce; exact gw_barrett_reduce_u64_eq x m

theorem gr_add_scalar_inplace_eq (l : List Nat) (s : Nat) (m : Modulus) :
    GenR.add_scalar_inplace l s m = l.mapM (fun x => addMod x s m) := by
  unfold GenR.add_scalar_inplace
  refine gr_maploop (GenR.add_scalar_inplace_loop1 s m) (fun x => addMod x s m) (fun _ _ => rfl) ?_ l
  intro n i l h
  rw [GenR.add_scalar_inplace_loop1]
  simp only [GenW.idx_ok _ h, bind, Except.bind, gw_add_u64_mod_eq, GenW.setIdx_ok _ _ h]

theorem gr_sub_scalar_inplace_eq (l : List Nat) (s : Nat) (m : Modulus) :
    GenR.sub_scalar_inplace l s m = l.mapM (fun x => subMod x s m) := by
  unfold GenR.sub_scalar_inplace
  refine gr_maploop (GenR.sub_scalar_inplace_loop1 s m) (fun x => subMod x s m) (fun _ _ => rfl) ?_ l
  intro n i l h
  rw [GenR.sub_scalar_inplace_loop1]
  simp only [GenW.idx_ok _ h, bind, Except.bind, gw_sub_u64_mod_eq, GenW.setIdx_ok _ _ h]

theorem gr_multiply_operand_inplace_eq (l : List Nat) (o : MulOperand) (m : Modulus) :
    GenR.multiply_operand_inplace l o m = l.mapM (fun x => mulOperandMod x o m) := by
  unfold GenR.multiply_operand_inplace
  refine gr_maploop (GenR.multiply_operand_inplace_loop1 o m) (fun x => mulOperandMod x o m) (fun _ _ => rfl) ?_ l
  intro n i l h
  rw [GenR.multiply_operand_inplace_loop1]
  simp only [GenW.idx_ok _ h, bind, Except.bind, gw_multiply_u64operand_mod_eq, GenW.setIdx_ok _ _ h]

theorem gr_multiply_scalar_inplace_eq (l : List Nat) (s : Nat) (m : Modulus) :
    GenR.multiply_scalar_inplace l s m = l.mapM (fun x => mulMod x s m) := by
  unfold GenR.multiply_scalar_inplace
  refine gr_maploop (GenR.multiply_scalar_inplace_loop1 s m) (fun x => mulMod x s m) (fun _ _ => rfl) ?_ l
  intro n i l h
  rw [GenR.multiply_scalar_inplace_loop1]
  simp only [GenW.idx_ok _ h, bind, Except.bind, gw_multiply_u64_mod_eq, GenW.setIdx_ok _ _ h]

theorem gr_negate_inplace_eq (l : List Nat) (m : Modulus) :
    GenR.negate_inplace l m = l.mapM (fun x => negateMod x m) := by
  unfold GenR.negate_inplace
  refine gr_maploop (GenR.negate_inplace_loop1 m.value) (fun x => negateMod x m) (fun _ _ => rfl) ?_ l
  intro n i l h
  rw [GenR.negate_inplace_loop1]
  simp only [GenW.idx_ok _ h, bind, Except.bind, GenW.setIdx_ok _ _ h]
  unfold negateMod
  by_cases h0 : l[i] = 0
  · rw [if_neg (by omega), if_pos h0]
  · rw [if_pos h0, if_neg h0]

/-- `modulo(component, modulus, result)` for a result buffer of the component's length: the buffer's old contents are irrelevant -/
theorem gr_modulo_eq (c : List Nat) (m : Modulus) (r : List Nat) (h : r.length = c.length) :
    GenR.modulo c m r = c.mapM (fun x => barrett64 x m) := by
  unfold GenR.modulo
  rw [h, Nat.min_self]
  refine gr_fillloop (GenR.modulo_loop1 c m) (fun x => barrett64 x m) c (fun _ _ => rfl) ?_ r h
  intro n i l hi hc
  rw [GenR.modulo_loop1]
  simp only [GenW.idx_ok _ hc, bind, Except.bind, gr_modulus_reduce_eq, GenW.setIdx_ok _ _ hi]

theorem gr_multiply_operand_eq (c : List Nat) (o : MulOperand) (m : Modulus) (r : List Nat) (h : r.length = c.length) :
    GenR.multiply_operand c o m r = c.mapM (fun x => mulOperandMod x o m) := by
  unfold GenR.multiply_operand
  rw [h, Nat.min_self]
  refine gr_fillloop (GenR.multiply_operand_loop1 c o m) (fun x => mulOperandMod x o m) c (fun _ _ => rfl) ?_ r h
  intro n i l hi hc
  rw [GenR.multiply_operand_loop1]
  simp only [GenW.idx_ok _ hc, bind, Except.bind, gw_multiply_u64operand_mod_eq, GenW.setIdx_ok _ _ hi]

/-- the VALUE of the model's `subMod`, which never fails (`gr_subMod`); no range assumption on `a`, `b` -/
def subModV (a b : Nat) (m : Modulus) : Nat := if (subU64 a b).2 > 0 then wAdd (subU64 a b).1 m.value else (subU64 a b).1
theorem gr_subMod (a b : Nat) (m : Modulus) : subMod a b m = .ok (subModV a b m) := rfl

/-- `sub_inplace(comp1, comp2, modulus)` for `comp2.len() >= comp1.len()` (the code asserts it) -/
theorem gr_sub_inplace_eq (a b : List Nat) (m : Modulus) (h : a.length ≤ b.length) :
    GenR.sub_inplace a b m = (List.range' 0 a.length).mapM (fun j => subMod (a.getD j 0) (b.getD j 0) m) := by
  unfold GenR.sub_inplace
  dsimp only
  rw [if_pos (by omega)]
  rw [gr_idxloop (GenR.sub_inplace_loop1 b m.value) (fun j x => subMod x (b.getD j 0) m) b.length (fun _ _ => rfl) (by
    intro n i l hi hc
    rw [GenR.sub_inplace_loop1]
    simp only [GenW.idx_ok _ hc, GenW.idx_ok _ hi, bind, Except.bind, GenW.setIdx_ok _ _ hi]
    show GenR.sub_inplace_loop1 b m.value n (i + 1) (l.set i (if decide ((subU64 l[i] b[i]).2 ≠ 0) = true then wAdd (subU64 l[i] b[i]).1 m.value else (subU64 l[i] b[i]).1)) = _
    rw [list_getD_eq_getElem _ 0 hc, gr_subMod]
    unfold subModV
    congr 2
    by_cases hb : (subU64 l[i] b[i]).2 = 0
    · simp [hb]
    · simp [hb, Nat.pos_of_ne_zero hb]) a.length 0 a (by omega) h]
  exact gr_bind_ok _

/-- the VALUE of the model's `mulOperandMod`, which never fails (`gr_mulOperandMod`): the lazy Harvey product with one conditional subtraction -/
def mulOpV (x : Nat) (y : MulOperand) (m : Modulus) : Nat :=
  if mulOperandModLazy x y m ≥ m.value then mulOperandModLazy x y m - m.value else mulOperandModLazy x y m
theorem gr_mulOperandMod (x : Nat) (y : MulOperand) (m : Modulus) : mulOperandMod x y m = .ok (mulOpV x y m) := by
  unfold mulOperandMod mulOpV
  dsimp only
  by_cases h : mulOperandModLazy x y m ≥ m.value
  · rw [if_pos h, if_pos h]; exact ckSub_of_le h
  · rw [if_neg h, if_neg h]; rfl

theorem gr_multiply_operand_inplace_ok (d : List Nat) (o : MulOperand) (b : Modulus) :
    GenR.multiply_operand_inplace d o b = .ok (d.map (fun x => mulOpV x o b)) := by
  rw [gr_multiply_operand_inplace_eq]; exact R.mapM_ok _ _ _ (fun x _ => gr_mulOperandMod _ _ _)

theorem gr_slice_all (l : List Nat) (n : Nat) (h : l.length = n) : GenR.slice l 0 n = .ok l := by
  unfold GenR.slice; rw [if_pos ⟨Nat.zero_le _, by omega⟩, List.drop_zero, Nat.sub_zero, ← h, List.take_length]

theorem gr_set_uint_eq (src tgt : List Nat) (n : Nat) (h1 : src.length = n) (h2 : tgt.length = n) : GenR.set_uint src n tgt = .ok src := by
  unfold GenR.set_uint
  simp only [gr_slice_all _ _ h1, gr_slice_all _ _ h2, bind, Except.bind]
  unfold GenR.copySlice GenR.splice
  rw [if_pos (by omega), List.take_zero, Nat.zero_add, List.drop_eq_nil_of_le (by omega)]; simp

theorem gr_mulOpV_lt (x : Nat) (y : MulOperand) (m : Modulus) : mulOpV x y m < 2^64 := by
  have h : mulOperandModLazy x y m < 2^64 := by
    unfold mulOperandModLazy wSub
    exact Nat.mod_lt _ (by simp [B64])
  unfold mulOpV
  split <;> omega

theorem gr_set_zero_uint_eq (l : List Nat) : GenR.set_zero_uint l = List.replicate l.length 0 := rfl

/-- what the code does after the limb loop: the last carry goes to `result[k]` if there is room -/
def gr_mulFinish (k : Nat) (buf : List Nat) (c : Nat) : R (List Nat) := if k < buf.length then setIdx buf k c else pure buf

theorem gr_mul_loop (a : List Nat) (w k : Nat) : ∀ fuel i (pre rest : List Nat) (carry : Nat), i + fuel = k → k ≤ a.length → pre.length = i →
    fuel ≤ rest.length →
    GenR.multiply_uint_u64_loop1 a w k fuel i (pre ++ rest) carry
      = (mulLimbsU64 (a.drop i) w fuel carry >>= fun p => gr_mulFinish k (pre ++ p.1 ++ rest.drop fuel) p.2) := by
  intro fuel
  induction fuel with
  | zero =>
    intro i pre rest carry _ _ _ _
    rw [GenR.multiply_uint_u64_loop1]
    cases hd : a.drop i <;> simp [mulLimbsU64, gr_mulFinish, R.ok_bind, gr_pure, pure, Except.pure, bind, Except.bind]
  | succ fuel ih =>
    intro i pre rest carry hik hka hpre hrest
    have hi : i < a.length := by omega
    have hdrop : a.drop i = a[i] :: a.drop (i + 1) := by rw [List.drop_eq_getElem_cons hi]
    obtain ⟨r0, rest', rfl⟩ : ∃ r0 rest', rest = r0 :: rest' := by
      cases rest with
      | nil => simp at hrest
      | cons r0 rest' => exact ⟨r0, rest', rfl⟩
    have hlt : i < (pre ++ r0 :: rest').length := by rw [List.length_append, List.length_cons]; omega
    have hset : ∀ t, (pre ++ r0 :: rest').set i t = (pre ++ [t]) ++ rest' := by
      intro t
      rw [List.set_append_right _ _ (by omega), hpre, Nat.sub_self, List.set_cons_zero, List.append_assoc]; rfl
    rw [GenR.multiply_uint_u64_loop1, hdrop, mulLimbsU64]
    simp only [GenW.idx_ok _ hi, R.ok_bind, gw_multiply_u64_u64_eq, gw_add_u64_carry_eq]
    cases hc : ckAdd (mulHi a[i] w) (addU64Carry (mulLo a[i] w) carry 0).2 with
    | error e => rfl
    | ok carry' =>
      simp only [R.ok_bind, GenW.setIdx_ok _ _ hlt, hset]
      rw [ih (i + 1) (pre ++ [(addU64Carry (mulLo a[i] w) carry 0).1]) rest' carry' (by omega) hka (by rw [List.length_append, hpre]; rfl)
        (by simpa using hrest)]
      cases mulLimbsU64 (a.drop (i + 1)) w fuel carry' with
      | error e => rfl
      | ok p =>
        simp only [R.ok_bind, List.drop_succ_cons]
        show gr_mulFinish k _ p.2 = gr_mulFinish k _ p.2
        congr 1
        simp

theorem gr_mulLimbs_length : ∀ (a : List Nat) (w k carry : Nat) (p : List Nat × Nat), k ≤ a.length → mulLimbsU64 a w k carry = .ok p → p.1.length = k := by
  intro a
  induction a with
  | nil =>
    intro w k carry p hk h
    have : k = 0 := by simpa using hk
    subst this
    rw [mulLimbsU64] at h; cases h; rfl
  | cons x xs ih =>
    intro w k carry p hk h
    cases k with
    | zero => rw [mulLimbsU64] at h; cases h; rfl
    | succ k =>
      rw [mulLimbsU64] at h
      simp only [] at h
      cases hc : ckAdd (mulHi x w) (addU64Carry (mulLo x w) carry 0).2 with
      | error e => rw [hc] at h; cases h
      | ok carry' =>
        rw [hc, R.ok_bind] at h
        cases hr : mulLimbsU64 xs w k carry' with
        | error e => rw [hr] at h; cases h
        | ok q =>
          rw [hr, R.ok_bind] at h
          cases h
          have := ih w k carry' q (by simpa using hk) hr
          simp [this]

/-- **`util::multiply_uint_u64` (generated from src/util/basic.rs) = the hand model `multiplyUintU64`** (C08), for every operand, word and result buffer
    (all three branches: zero operand / one-word result / the limb loop with the final carry); `return set_zero_uint(result);` is read as
    `set_zero_uint(result); return;`, `set_zero_uint` = `fill(0)` -/
theorem gr_multiply_uint_u64_eq (a : List Nat) (w : Nat) (r : List Nat) : GenR.multiply_uint_u64 a w r = multiplyUintU64 a w r.length := by
  unfold GenR.multiply_uint_u64 multiplyUintU64
  have hemp : (a.length = 0) ↔ (a.isEmpty = true) := by cases a <;> simp
  by_cases h0 : a.length = 0 ∨ w = 0
  · have h0' : a.isEmpty = true ∨ w = 0 := by
      rcases h0 with h | h
      · exact Or.inl (hemp.mp h)
      · exact Or.inr h
    rw [if_pos h0, if_pos h0']; rfl
  · have h0' : ¬(a.isEmpty = true ∨ w = 0) := by
      intro h
      rcases h with h | h
      · exact h0 (Or.inl (hemp.mpr h))
      · exact h0 (Or.inr h)
    rw [if_neg h0, if_neg h0']
    have ha : 0 < a.length := by omega
    by_cases h1 : r.length = 1
    · rw [if_pos h1, if_pos h1]
      obtain ⟨x, rfl⟩ : ∃ x, r = [x] := by
        match r, h1 with
        | [x], _ => exact ⟨x, rfl⟩
      obtain ⟨y, ys, rfl⟩ : ∃ y ys, a = y :: ys := by
        cases a with
        | nil => simp at ha
        | cons y ys => exact ⟨y, ys, rfl⟩
      simp [GenW.idx, GenW.setIdx, pure, Except.pure, bind, Except.bind]
    · rw [if_neg h1, if_neg h1]
      simp only [gr_set_zero_uint_eq, List.length_replicate]
      have hk : min a.length r.length ≤ a.length := Nat.min_le_left _ _
      have hk2 : min a.length r.length ≤ r.length := Nat.min_le_right _ _
      have hloop := gr_mul_loop a w (min a.length r.length) (min a.length r.length) 0 [] (List.replicate r.length 0) 0 (by omega) hk rfl
        (by rw [List.length_replicate]; exact hk2)
      rw [List.nil_append, List.drop_zero] at hloop
      rw [hloop]
      cases hm : mulLimbsU64 a w (min a.length r.length) 0 with
      | error e => rfl
      | ok p =>
        have hpl := gr_mulLimbs_length a w _ 0 p hk hm
        obtain ⟨rs, cf⟩ := p
        simp only [R.ok_bind, List.nil_append, List.drop_replicate]
        have hpl' : rs.length = min a.length r.length := hpl
        unfold gr_mulFinish
        have hbl : (rs ++ List.replicate (r.length - min a.length r.length) 0).length = r.length := by
          rw [List.length_append, List.length_replicate, hpl']; omega
        rw [hbl]
        by_cases hlt : min a.length r.length < r.length
        · rw [if_pos hlt, if_pos hlt]
          have hidx : min a.length r.length < (rs ++ List.replicate (r.length - min a.length r.length) 0).length := by rw [hbl]; exact hlt
          rw [GenW.setIdx_ok _ _ hidx]
          show Except.ok _ = Except.ok _
          congr 1
          unfold padTo
          rw [List.set_append_right _ _ (by omega), hpl', Nat.sub_self, List.length_append, List.length_singleton, hpl']
          obtain ⟨m, hm'⟩ : ∃ m, r.length - min a.length r.length = m + 1 := ⟨r.length - min a.length r.length - 1, by omega⟩
          rw [hm', List.replicate_succ, List.set_cons_zero, show r.length - (min a.length r.length + 1) = m by omega, List.append_assoc]
          rfl
        · rw [if_neg hlt, if_neg hlt]
          have : r.length - min a.length r.length = 0 := by omega
          rw [this, List.replicate_zero, List.append_nil]

end HC
