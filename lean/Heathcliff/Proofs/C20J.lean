/-
  C20J: outputs re-encoding / decoding over the whole matrix WITH LWE packing (`h.pack = true`): output block `c = d1·obc + d2`
  (row major over the (batch block, output block) grid) is written into packed polynomial `c / ib` at the slot offset `c mod ib`
  (`outPosPacked`), and `decrypt_outputs_*` reads it back from there.  With C20H's theorem for `h.pack = false` this gives the
  round trip in both packing modes (`c20_outputs_encode_decode_both`).  The packing of the product polynomials themselves
  (`pack_outputs`, the model's `packPlain`) is not covered.
-/
import Heathcliff.Proofs.C20H
namespace HC
open Finset HC.MM

variable {S : Type}

/-- the writes into packed polynomial `pid`, in program order -/
def c20_packWs (h : Helper) (y : Nat → S) (pid : Nat) : List (Nat × S) :=
  ((pairs (ceilDiv h.bs h.bb) (ceilDiv h.od h.ob)).filter fun d => (d.1 * ceilDiv h.od h.ob + d.2) / h.ib = pid).flatMap fun d =>
    (pairs (min h.bs (d.1 * h.bb + h.bb) - d.1 * h.bb) (min h.od (d.2 * h.ob + h.ob) - d.2 * h.ob)).map fun p =>
      (outPosPacked h p.1 p.2 ((d.1 * ceilDiv h.od h.ob + d.2) % h.ib), y ((d.1 * h.bb + p.1) * h.od + (d.2 * h.ob + p.2)))

theorem c20_mem_packWs (h : Helper) (y : Nat → S) (pid : Nat) (pv : Nat × S) :
    pv ∈ c20_packWs h y pid ↔ ∃ d ∈ pairs (ceilDiv h.bs h.bb) (ceilDiv h.od h.ob), (d.1 * ceilDiv h.od h.ob + d.2) / h.ib = pid ∧
      ∃ p ∈ pairs (min h.bs (d.1 * h.bb + h.bb) - d.1 * h.bb) (min h.od (d.2 * h.ob + h.ob) - d.2 * h.ob),
        pv = (outPosPacked h p.1 p.2 ((d.1 * ceilDiv h.od h.ob + d.2) % h.ib), y ((d.1 * h.bb + p.1) * h.od + (d.2 * h.ob + p.2))) := by
  unfold c20_packWs
  simp only [List.mem_flatMap, List.mem_filter, List.mem_map, decide_eq_true_eq]
  constructor
  · rintro ⟨d, ⟨hd, hc⟩, p, hp, rfl⟩
    exact ⟨d, hd, hc, p, hp, rfl⟩
  · rintro ⟨d, hd, hc, p, hp, rfl⟩
    exact ⟨d, ⟨hd, hc⟩, p, hp, rfl⟩

theorem c20_outPosPacked_eq (h : Helper) (db dj off : Nat) :
    outPosPacked h db dj off = db * (h.ob * h.ib) + (dj * h.ib + off) := by
  unfold outPosPacked; rw [Nat.mul_assoc, Nat.mul_comm h.ib h.ob]; omega

/-- one packed output polynomial: total, and reading it at the decoder's position of entry (p1, p2) of any block stored in it returns
    that entry -/
theorem c20_packedPoly_spec (zero : S) (h : Helper) (y : Nat → S) (hib : 0 < h.ib) (hfit : h.bb * h.ib * h.ob ≤ h.n) (pid : Nat) :
    ∃ a, scatterA zero h.n h.n (c20_packWs h y pid) = .ok a ∧
      ∀ d1 d2, d1 < ceilDiv h.bs h.bb → d2 < ceilDiv h.od h.ob → (d1 * ceilDiv h.od h.ob + d2) / h.ib = pid →
        ∀ p1 p2, p1 < min h.bs (d1 * h.bb + h.bb) - d1 * h.bb → p2 < min h.od (d2 * h.ob + h.ob) - d2 * h.ob →
          readAt a (outPosPacked h p1 p2 ((d1 * ceilDiv h.od h.ob + d2) % h.ib)) = .ok (y ((d1 * h.bb + p1) * h.od + (d2 * h.ob + p2))) := by
  have hM : h.bb * (h.ob * h.ib) ≤ h.n := by rw [Nat.mul_comm h.ob h.ib, ← Nat.mul_assoc]; exact hfit
  have hbound : ∀ p1 p2 off, p1 < h.bb → p2 < h.ob → off < h.ib → outPosPacked h p1 p2 off < h.n := by
    intro p1 p2 off h1 h2 h3
    rw [c20_outPosPacked_eq]
    exact lt_of_lt_of_le (grid_lt h1 (grid_lt h2 h3)) hM
  have hb : ∀ pv ∈ c20_packWs h y pid, pv.1 < h.n ∧ pv.1 < h.n := by
    intro pv hpv
    obtain ⟨d, _, _, p, hp, rfl⟩ := (c20_mem_packWs h y pid pv).mp hpv
    obtain ⟨hp1, hp2⟩ := c20_mem_pairs.mp hp
    have := hbound p.1 p.2 ((d.1 * ceilDiv h.od h.ob + d.2) % h.ib) (lt_of_lt_of_le hp1 c20_blk_le) (lt_of_lt_of_le hp2 c20_blk_le)
      (Nat.mod_lt _ hib)
    exact ⟨this, this⟩
  -- two writes into the same cell come from the same entry of the same block
  have hsame : ∀ pv ∈ c20_packWs h y pid, ∀ pv' ∈ c20_packWs h y pid, pv.1 = pv'.1 → pv.2 = pv'.2 := by
    intro pv hpv pv' hpv' heq
    obtain ⟨d, hd, hc, p, hp, rfl⟩ := (c20_mem_packWs h y pid pv).mp hpv
    obtain ⟨d', hd', hc', p', hp', rfl⟩ := (c20_mem_packWs h y pid pv').mp hpv'
    obtain ⟨_, hd2⟩ := c20_mem_pairs.mp hd
    obtain ⟨_, hd2'⟩ := c20_mem_pairs.mp hd'
    obtain ⟨_, hp2⟩ := c20_mem_pairs.mp hp
    obtain ⟨_, hp2'⟩ := c20_mem_pairs.mp hp'
    have heq' : outPosPacked h p.1 p.2 ((d.1 * ceilDiv h.od h.ob + d.2) % h.ib)
        = outPosPacked h p'.1 p'.2 ((d'.1 * ceilDiv h.od h.ob + d'.2) % h.ib) := heq
    rw [c20_outPosPacked_eq, c20_outPosPacked_eq] at heq'
    have m1 := Nat.mod_lt (d.1 * ceilDiv h.od h.ob + d.2) hib
    have m2 := Nat.mod_lt (d'.1 * ceilDiv h.od h.ob + d'.2) hib
    obtain ⟨e1, e2⟩ := grid_inj (B := h.ob * h.ib) (grid_lt (lt_of_lt_of_le hp2 c20_blk_le) m1)
      (grid_lt (lt_of_lt_of_le hp2' c20_blk_le) m2) heq'
    obtain ⟨e3, e4⟩ := grid_inj (B := h.ib) m1 m2 e2
    -- same packed polynomial and same offset: same block
    have c1 := Nat.div_add_mod' (d.1 * ceilDiv h.od h.ob + d.2) h.ib
    have c2 := Nat.div_add_mod' (d'.1 * ceilDiv h.od h.ob + d'.2) h.ib
    rw [hc, e4] at c1
    rw [hc'] at c2
    have hcc : d.1 * ceilDiv h.od h.ob + d.2 = d'.1 * ceilDiv h.od h.ob + d'.2 := by omega
    obtain ⟨f1, f2⟩ := grid_inj (B := ceilDiv h.od h.ob) hd2 hd2' hcc
    show y ((d.1 * h.bb + p.1) * h.od + (d.2 * h.ob + p.2)) = y ((d'.1 * h.bb + p'.1) * h.od + (d'.2 * h.ob + p'.2))
    rw [f1, f2, e1, e3]
  obtain ⟨a, ha, hsz, _, hv⟩ := c20_scatter_ws zero h.n h.n (c20_packWs h y pid) hb hsame
  refine ⟨a, ha, ?_⟩
  intro d1 d2 hd1 hd2 hc p1 p2 hp1 hp2
  have hin : (outPosPacked h p1 p2 ((d1 * ceilDiv h.od h.ob + d2) % h.ib), y ((d1 * h.bb + p1) * h.od + (d2 * h.ob + p2)))
      ∈ c20_packWs h y pid :=
    (c20_mem_packWs h y pid _).mpr ⟨(d1, d2), c20_mem_pairs.mpr ⟨hd1, hd2⟩, hc, (p1, p2), c20_mem_pairs.mpr ⟨hp1, hp2⟩, rfl⟩
  rw [c20_readAt_getD zero a (hsz.symm ▸ (hb _ hin).1), hv _ hin]

/-- packed output polynomial number `pid` -/
def c20_packedPoly (zero : S) (h : Helper) (y : Nat → S) (pid : Nat) : Array S :=
  c20_val #[] (scatterA zero h.n h.n (c20_packWs h y pid))

/-- `encode_outputs_*` with LWE packing: total, one row of `⌈bbc·obc / ib⌉` packed polynomials -/
theorem c20_encodeOutputs_packed_ok (zero : S) (h : Helper) (y : Nat → S) (hbb : 0 < h.bb) (hib : 0 < h.ib) (hob : 0 < h.ob)
    (hfit : h.bb * h.ib * h.ob ≤ h.n) (hpack : h.pack = true) :
    encodeOutputs h zero y (h.bs * h.od)
      = .ok [(List.range (ceilDiv (ceilDiv h.bs h.bb * ceilDiv h.od h.ob) h.ib)).map fun pid => c20_packedPoly zero h y pid] := by
  unfold encodeOutputs
  rw [if_neg (by simp), if_neg (by omega)]
  simp only [hpack, Bool.not_true, Bool.false_eq_true, if_false]
  rw [if_neg (by omega)]
  have hrow : (List.range (ceilDiv (ceilDiv h.bs h.bb * ceilDiv h.od h.ob) h.ib)).mapM
      (fun pid => scatterA zero h.n h.n (c20_packWs h y pid))
      = .ok ((List.range (ceilDiv (ceilDiv h.bs h.bb * ceilDiv h.od h.ob) h.ib)).map fun pid => c20_packedPoly zero h y pid) := by
    apply R.mapM_ok
    intro pid _
    obtain ⟨a, ha, _⟩ := c20_packedPoly_spec zero h y hib hfit pid
    exact c20_val_ok #[] ha
  show (do let row ← (List.range _).mapM (fun pid => scatterA zero h.n h.n (c20_packWs h y pid)); pure [row]) = _
  rw [hrow]
  rfl

/-- **outputs: decode ∘ encode = id over the whole matrix, WITH LWE packing** (every shape, every positive block triple with
    `b·i·o ≤ n`, any coefficient type) -/
theorem c20_outputs_encode_decode_packed (zero : S) (h : Helper) (y : Nat → S) (hbb : 0 < h.bb) (hib : 0 < h.ib) (hob : 0 < h.ob)
    (hfit : h.bb * h.ib * h.ob ≤ h.n) (hpack : h.pack = true) :
    ∃ polys dec, encodeOutputs h zero y (h.bs * h.od) = .ok polys ∧ decodeOutputs h zero polys = .ok dec ∧
      dec.size = h.bs * h.od ∧ ∀ k, k < h.bs * h.od → dec.getD k zero = y k := by
  obtain ⟨Y, hY, hsz, hval⟩ := c20_decodeOutputs_spec_packed zero h
    [(List.range (ceilDiv (ceilDiv h.bs h.bb * ceilDiv h.od h.ob) h.ib)).map fun pid => c20_packedPoly zero h y pid]
    (fun row col => y (row * h.od + col)) hbb hib hob hpack
    (by
      intro d1 d2 hd1 hd2
      have hc : d1 * ceilDiv h.od h.ob + d2 < ceilDiv h.bs h.bb * ceilDiv h.od h.ob := by
        have := grid_succ_le (B := ceilDiv h.od h.ob) hd1; omega
      have hpid := c20_div_lt_ceilDiv hib hc
      obtain ⟨a, ha, hread⟩ := c20_packedPoly_spec zero h y hib hfit ((d1 * ceilDiv h.od h.ob + d2) / h.ib)
      have e : c20_packedPoly zero h y ((d1 * ceilDiv h.od h.ob + d2) / h.ib) = a := c20_val_eq #[] ha
      refine ⟨a, ?_, fun p1 p2 hp1 hp2 => hread d1 d2 hd1 hd2 rfl p1 p2 hp1 hp2⟩
      unfold getPoly
      simp only [List.getElem?_cons_zero]
      rw [c20_range_map_getElem? _ _ _ hpid, e])
  exact ⟨_, Y, c20_encodeOutputs_packed_ok zero h y hbb hib hob hfit hpack, hY, hsz, c20_flat_of_grid hval⟩

/-- **outputs: decode ∘ encode = id over the whole matrix, both packing modes** (every coefficient type; no divisibility of `n` by
    `ib` is needed) -/
theorem c20_outputs_encode_decode_both (zero : S) (h : Helper) (y : Nat → S) (hbb : 0 < h.bb) (hib : 0 < h.ib) (hob : 0 < h.ob)
    (hfit : h.bb * h.ib * h.ob ≤ h.n) :
    ∃ polys dec, encodeOutputs h zero y (h.bs * h.od) = .ok polys ∧ decodeOutputs h zero polys = .ok dec ∧
      dec.size = h.bs * h.od ∧ ∀ k, k < h.bs * h.od → dec.getD k zero = y k := by
  cases hp : h.pack with
  | false => exact c20_outputs_encode_decode zero h y hbb hib hob hfit hp
  | true => exact c20_outputs_encode_decode_packed zero h y hbb hib hob hfit hp

end HC
