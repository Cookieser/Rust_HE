/- The three transition systems of `Model/Conc.lean` (power cache, Galois table cache, lock level): an invariant for each, proved for ONE step of one
   thread and carried along arbitrary schedules; progress of the power-cache calls by counting a thread's remaining steps (`PC.rem`).
   No Mathlib. -/
import Heathcliff.Model.Conc
import Heathcliff.Proofs.Base
namespace HC.Conc

variable {P : Type} (A : Alg P)

@[simp] theorem powers_length (n : Nat) : (powers A n).length = n := by simp [powers]

theorem powers_succ (n : Nat) : powers A (n + 1) = powers A n ++ [A.ent n] := by
  simp [powers, List.range_succ]

theorem powers_getElem? (n i : Nat) (h : i < n) : (powers A n)[i]? = some (A.pow (i + 1)) := by
  simp [powers, Alg.pow, h]

theorem take_powers {w n : Nat} (h : w ≤ n) : (powers A n).take w = powers A w := by
  simp [powers, ← List.map_take, List.take_range, Nat.min_eq_left h]

theorem head?_powers (n : Nat) : (powers A (n + 1)).head? = some A.s := by
  simp [powers, List.range_succ_eq_map, Alg.ent]

theorem getLast?_powers (n : Nat) : (powers A (n + 1)).getLast? = some (A.ent n) := by
  rw [powers_succ]; simp

/-- one round of the compute loop appends (last entry) · (first entry): from s, …, s^(n+1) it makes s^(n+2) = s^(n+1) · s -/
theorem extendOnce_powers (n : Nat) : extendOnce A (powers A (n + 1)) = some (powers A (n + 2)) := by
  simp [extendOnce, getLast?_powers, head?_powers, powers_succ A (n + 1), Alg.ent]

/-- the compute loop extends a correct prefix to a correct array (needs a non-empty prefix) -/
theorem extend_powers (k n : Nat) : extend A k (powers A (n + 1)) = some (powers A (n + 1 + k)) := by
  induction k generalizing n with
  | zero => rfl
  | succ k ih =>
    simp only [extend, extendOnce_powers]
    rw [ih (n + 1)]
    congr 2
    omega

theorem powers_inj {a b : Nat} (h : powers A a = powers A b) : a = b := by
  have := congrArg List.length h
  simpa using this

/-- what is known about a thread when the cache holds `n` correct powers -/
def ThrOk (n : Nat) (t : Thr P) : Prop :=
  match t.pc with
  | .R => t.result = none
  | .C => 1 ≤ t.oldR ∧ t.oldR ≤ n ∧ t.oldR < t.want ∧ t.newArr = powers A t.oldR ∧ t.result = none
  | .W => t.oldR ≤ n ∧ t.oldR < t.want ∧ t.newArr = powers A t.want ∧ t.result = none
  | .U => t.want ≤ n ∧ t.result = none
  | .done => t.result = some (powers A t.want)
  | .panicked => False

theorem ThrOk.mono {n m : Nat} {t : Thr P} (h : ThrOk A n t) (hnm : n ≤ m) : ThrOk A m t := by
  unfold ThrOk at *
  cases hp : t.pc <;> simp only [hp] at h ⊢
  · exact h
  · exact ⟨h.1, Nat.le_trans h.2.1 hnm, h.2.2⟩
  · exact ⟨Nat.le_trans h.1 hnm, h.2⟩
  · exact ⟨Nat.le_trans h.1 hnm, h.2⟩
  · exact h

/-- the global invariant: the cache is exactly `[s^1..s^n]`, `n ≥ 1`, every thread is consistent with it -/
def Inv (σ : St P) : Prop :=
  1 ≤ σ.cache.length ∧ σ.cache = powers A σ.cache.length ∧ ∀ t ∈ σ.thr, ThrOk A σ.cache.length t

theorem stepThr_ok {n : Nat} (hn : 1 ≤ n) {t : Thr P} (ht : ThrOk A n t) :
    ∃ m, n ≤ m ∧ (stepThr true A (powers A n) t).1 = powers A m ∧ ThrOk A m (stepThr true A (powers A n) t).2 := by
  unfold ThrOk at ht
  cases hp : t.pc <;> simp only [hp] at ht
  · -- R
    by_cases hw : n = max n t.want
    · refine ⟨n, Nat.le_refl _, ?_, ?_⟩ <;> simp [stepThr, hp, ← hw, ThrOk, ht]
      omega
    · refine ⟨n, Nat.le_refl _, ?_, ?_⟩ <;> simp [stepThr, hp, hw, ThrOk, ht]
      omega
  · -- C
    obtain ⟨h1, h2, h3, h4, h5⟩ := ht
    obtain ⟨o, ho⟩ : ∃ o, t.oldR = o + 1 := ⟨t.oldR - 1, by omega⟩
    have hext : extend A (max t.oldR t.want - t.oldR) t.newArr = some (powers A t.want) := by
      rw [h4, ho, extend_powers]
      congr 2
      omega
    refine ⟨n, Nat.le_refl _, ?_, ?_⟩ <;> simp [stepThr, hp, hext, ThrOk, h5]
    omega
  · -- W
    obtain ⟨h1, h2, h3, h4⟩ := ht
    by_cases hw : n = max n t.want
    · refine ⟨n, Nat.le_refl _, ?_, ?_⟩ <;> simp [stepThr, hp, ← hw, ThrOk, h4]
      omega
    · refine ⟨t.want, by omega, ?_, ?_⟩ <;> simp [stepThr, hp, hw, ThrOk, h3, h4]
  · -- U
    obtain ⟨h1, h2⟩ := ht
    refine ⟨n, Nat.le_refl _, ?_, ?_⟩ <;> simp [stepThr, hp, h1, ThrOk, take_powers A h1]
  · -- done
    exact ⟨n, Nat.le_refl _, by simp [stepThr, hp], by simp [stepThr, hp, ThrOk, ht]⟩

theorem step_inv (i : Nat) {σ : St P} (h : Inv A σ) :
    Inv A (step true A i σ) ∧ σ.cache.length ≤ (step true A i σ).cache.length := by
  obtain ⟨h1, h2, h3⟩ := h
  unfold step
  cases hg : σ.thr[i]? with
  | none => exact ⟨⟨h1, h2, h3⟩, Nat.le_refl _⟩
  | some t =>
    have htm : t ∈ σ.thr := List.mem_of_getElem? hg
    have hs := stepThr_ok A h1 (h3 t htm)
    rw [← h2] at hs
    obtain ⟨m, hm, hc, hk⟩ := hs
    simp only
    have hlen : (stepThr true A σ.cache t).1.length = m := by rw [hc]; simp
    refine ⟨⟨?_, ?_, ?_⟩, ?_⟩
    · rw [hlen]; omega
    · rw [hlen]; exact hc
    · intro u hu
      rw [hlen]
      rcases List.mem_or_eq_of_mem_set hu with hu | hu
      · exact (h3 u hu).mono A hm
      · rw [hu]; exact hk
    · rw [hlen]; exact hm

theorem run_inv (sched : List Nat) {σ : St P} (h : Inv A σ) :
    Inv A (run true A sched σ) ∧ σ.cache.length ≤ (run true A sched σ).cache.length := by
  induction sched generalizing σ with
  | nil => exact ⟨h, Nat.le_refl _⟩
  | cons i is ih =>
    have h1 := step_inv A i h
    have h2 := ih h1.1
    exact ⟨h2.1, Nat.le_trans h1.2 h2.2⟩

theorem init_inv {n0 : Nat} (h : 1 ≤ n0) (wants : List Nat) : Inv A (init A n0 wants) := by
  refine ⟨by simpa [init] using h, by simp [init], ?_⟩
  intro t ht
  simp only [init, List.mem_map] at ht
  obtain ⟨w, _, rfl⟩ := ht
  simp [ThrOk]

theorem run_append (rc : Bool) (s1 s2 : List Nat) (σ : St P) :
    run rc A (s1 ++ s2) σ = run rc A s2 (run rc A s1 σ) := by
  induction s1 generalizing σ with
  | nil => rfl
  | cons i is ih => exact ih _

theorem stepThr_want (rc : Bool) (c : List P) (t : Thr P) : (stepThr rc A c t).2.want = t.want := by
  unfold stepThr
  cases t.pc <;> simp only <;> (try split) <;> simp

theorem step_thr_length (rc : Bool) (i : Nat) (σ : St P) : (step rc A i σ).thr.length = σ.thr.length := by
  unfold step; cases σ.thr[i]? <;> simp

theorem run_thr_length (rc : Bool) (sched : List Nat) (σ : St P) : (run rc A sched σ).thr.length = σ.thr.length := by
  induction sched generalizing σ with
  | nil => rfl
  | cons j js ih => rw [run, ih, step_thr_length]

theorem step_want (rc : Bool) (i j : Nat) (σ : St P) :
    ((step rc A i σ).thr[j]?).map (·.want) = (σ.thr[j]?).map (·.want) := by
  unfold step
  cases hg : σ.thr[i]? with
  | none => rfl
  | some t =>
    simp only
    by_cases hij : i = j
    · subst hij
      have hi : i < σ.thr.length := by
        rcases Nat.lt_or_ge i σ.thr.length with h | h
        · exact h
        · rw [List.getElem?_eq_none h] at hg; cases hg
      rw [List.getElem?_set_self hi, hg]
      simp [stepThr_want]
    · rw [List.getElem?_set_ne hij]

theorem run_want (rc : Bool) (sched : List Nat) (j : Nat) (σ : St P) :
    ((run rc A sched σ).thr[j]?).map (·.want) = (σ.thr[j]?).map (·.want) := by
  induction sched generalizing σ with
  | nil => rfl
  | cons i is ih => rw [run, ih, step_want]

variable {T : Type} (gen : Nat → T)

/-- every generated table is the right one -/
def TabOk (tb : List (Option T)) : Prop := ∀ (i : Nat) (x : T), tb[i]? = some (some x) → x = gen i

/-- tables are only ever added -/
def TabLe (tb tb' : List (Option T)) : Prop :=
  tb.length = tb'.length ∧ ∀ (i : Nat) (x : T), tb[i]? = some (some x) → tb'[i]? = some (some x)

theorem TabLe.refl (tb : List (Option T)) : TabLe tb tb := ⟨rfl, fun _ _ h => h⟩
theorem TabLe.trans {a b c : List (Option T)} (h1 : TabLe a b) (h2 : TabLe b c) : TabLe a c :=
  ⟨h1.1.trans h2.1, fun i x h => h2.2 i x (h1.2 i x h)⟩

/-- a thread of the Galois-table system is consistent with the tables `tb`: its calls index into the table list, what it has seen so far
    are the generated tables of the calls behind it, and in the use phase the table of the current call is there and is the generated one -/
def GThrOk (tb : List (Option T)) (t : GThr T) : Prop :=
  t.pos ≤ t.calls.length ∧ (∀ idx ∈ t.calls, idx < tb.length) ∧
  t.seen = (t.calls.take t.pos).map (fun i => some (gen i)) ∧
  match t.pc with
  | .chk => t.pos < t.calls.length
  | .gen => t.pos < t.calls.length
  | .use => ∃ idx, t.calls[t.pos]? = some idx ∧ tb[idx]? = some (some (gen idx))
  | .done => t.pos = t.calls.length
  | .panicked => False

theorem GThrOk.mono {tb tb' : List (Option T)} {t : GThr T} (h : GThrOk gen tb t) (hle : TabLe tb tb') :
    GThrOk gen tb' t := by
  obtain ⟨h1, h2, h3, h4⟩ := h
  refine ⟨h1, fun idx hi => hle.1 ▸ h2 idx hi, h3, ?_⟩
  cases hp : t.pc <;> simp only [hp] at h4 ⊢
  · exact h4
  · exact h4
  · obtain ⟨idx, ha, hb⟩ := h4
    exact ⟨idx, ha, hle.2 _ _ hb⟩
  · exact h4

/-- the invariant of the Galois-table system: every filled table is the generated one, every thread is consistent with the tables -/
def GInv (σ : GSt T) : Prop := TabOk gen σ.tables ∧ ∀ t ∈ σ.thr, GThrOk gen σ.tables t

theorem gstepThr_ok {tb : List (Option T)} (htb : TabOk gen tb) {t : GThr T} (ht : GThrOk gen tb t) :
    TabOk gen (gstepThr gen tb t).1 ∧ TabLe tb (gstepThr gen tb t).1 ∧
      GThrOk gen (gstepThr gen tb t).1 (gstepThr gen tb t).2 ∧ (gstepThr gen tb t).2.calls = t.calls := by
  obtain ⟨h1, h2, h3, h4⟩ := ht
  unfold gstepThr
  cases hc : t.calls[t.pos]? with
  | none =>
    have hge : t.calls.length ≤ t.pos := by
      rcases Nat.lt_or_ge t.pos t.calls.length with h | h
      · rw [List.getElem?_eq_getElem h] at hc; cases hc
      · exact h
    refine ⟨htb, TabLe.refl _, ⟨h1, h2, h3, ?_⟩, rfl⟩
    simp only; omega
  | some idx =>
    have hlt : t.pos < t.calls.length := by
      rcases Nat.lt_or_ge t.pos t.calls.length with h | h
      · exact h
      · rw [List.getElem?_eq_none h] at hc; cases hc
    have hidx : idx < tb.length := h2 idx (List.mem_of_getElem? hc)
    simp only
    cases hp : t.pc <;> simp only [hp] at h4 ⊢
    · -- chk
      cases he : tb[idx]? with
      | none => rw [List.getElem?_eq_getElem hidx] at he; cases he
      | some e =>
        cases e with
        | none => exact ⟨htb, TabLe.refl _, ⟨h1, h2, h3, by simpa using hlt⟩, rfl⟩
        | some x =>
          refine ⟨htb, TabLe.refl _, ⟨h1, h2, h3, ?_⟩, rfl⟩
          exact ⟨idx, hc, by rw [he, htb idx x he]⟩
    · -- gen
      have hset : ∀ i, (tb.set idx (some (gen idx)))[i]? = if idx = i then some (some (gen idx)) else tb[i]? := by
        intro i
        rw [List.getElem?_set]
        by_cases hi : idx = i
        · subst hi; simp [hidx]
        · simp [hi]
      refine ⟨?_, ⟨by simp, ?_⟩, ⟨h1, ?_, h3, ?_⟩, trivial⟩
      · intro i x hx
        rw [hset] at hx
        by_cases hi : idx = i
        · subst hi; simp at hx; exact hx.symm
        · simp [hi] at hx; exact htb i x hx
      · intro i x hx
        rw [hset]
        by_cases hi : idx = i
        · subst hi; simp; exact (htb idx x hx).symm
        · simp [hi, hx]
      · intro j hj; simp; exact h2 j hj
      · exact ⟨idx, hc, by rw [hset]; simp⟩
    · -- use
      obtain ⟨idx', ha, hb⟩ := h4
      rw [hc] at ha
      cases ha
      simp only [hb]
      refine ⟨htb, TabLe.refl _, ⟨by simp only; omega, h2, ?_, ?_⟩, trivial⟩
      · simp only
        rw [List.take_add_one, hc, h3]
        simp
      · simp only
        by_cases hl : t.pos + 1 < t.calls.length
        · simp [hl]
        · simp [hl]; omega
    · -- done
      exact ⟨htb, TabLe.refl _, ⟨h1, h2, h3, by simp only [hp]; exact h4⟩, trivial⟩

theorem gstep_inv (i : Nat) {σ : GSt T} (h : GInv gen σ) :
    GInv gen (gstep gen i σ) ∧ TabLe σ.tables (gstep gen i σ).tables := by
  obtain ⟨h1, h2⟩ := h
  unfold gstep
  cases hg : σ.thr[i]? with
  | none => exact ⟨⟨h1, h2⟩, TabLe.refl _⟩
  | some t =>
    have htm : t ∈ σ.thr := List.mem_of_getElem? hg
    obtain ⟨ha, hb, hc, _⟩ := gstepThr_ok gen h1 (h2 t htm)
    refine ⟨⟨ha, ?_⟩, hb⟩
    intro u hu
    rcases List.mem_or_eq_of_mem_set hu with hu | hu
    · exact (h2 u hu).mono gen hb
    · rw [hu]; exact hc

theorem grun_inv (sched : List Nat) {σ : GSt T} (h : GInv gen σ) :
    GInv gen (grun gen sched σ) ∧ TabLe σ.tables (grun gen sched σ).tables := by
  induction sched generalizing σ with
  | nil => exact ⟨h, TabLe.refl _⟩
  | cons i is ih =>
    have h1 := gstep_inv gen i h
    have h2 := ih h1.1
    exact ⟨h2.1, h1.2.trans h2.2⟩

theorem ginitTables_getElem? (n : Nat) (pre : List Nat) (i : Nat) (x : T)
    (h : (ginitTables gen n pre)[i]? = some (some x)) : x = gen i := by
  unfold ginitTables at h
  rw [List.getElem?_map] at h
  by_cases hi : i < n
  · rw [List.getElem?_range hi] at h
    simp at h
    exact h.2.symm
  · rw [List.getElem?_eq_none (by simpa using Nat.le_of_not_lt hi)] at h
    simp at h

theorem ginit_inv (n : Nat) (pre : List Nat) (progs : List (List Nat))
    (hp : ∀ p ∈ progs, ∀ idx ∈ p, idx < n) : GInv gen (ginit gen n pre progs) := by
  refine ⟨fun i x h => ginitTables_getElem? gen n pre i x h, ?_⟩
  intro t ht
  simp only [ginit, List.mem_map] at ht
  obtain ⟨c, hc, rfl⟩ := ht
  refine ⟨Nat.zero_le _, ?_, by simp, ?_⟩
  · intro idx hi
    simp [ginit, ginitTables]
    exact hp c hc idx hi
  · cases c with
    | nil => simp
    | cons a l => simp

theorem stepThr_live_pc (rc : Bool) (c : List P) (t : Thr P) (h : t.pc.live = true) :
    (stepThr rc A c t).2.pc ≠ t.pc := by
  unfold stepThr
  cases hp : t.pc <;> simp only [hp, PC.live] at h ⊢ <;> (try split) <;> simp <;> cases h

theorem step_getElem?_self (rc : Bool) (i : Nat) (σ : St P) (t : Thr P) (h : σ.thr[i]? = some t) :
    (step rc A i σ).thr[i]? = some (stepThr rc A σ.cache t).2 := by
  unfold step
  simp only [h]
  exact List.getElem?_set_self (List.getElem?_eq_some_iff.mp h).1

theorem step_getElem?_ne (rc : Bool) {i j : Nat} (hij : i ≠ j) (σ : St P) :
    (step rc A i σ).thr[j]? = σ.thr[j]? := by
  unfold step
  cases hg : σ.thr[i]? with
  | none => rfl
  | some t => simp only; exact List.getElem?_set_ne hij

/-- a live thread's step changes the state (its step is enabled: no step ever waits) -/
theorem step_ne_of_live (rc : Bool) (i : Nat) (σ : St P) (t : Thr P) (h : σ.thr[i]? = some t)
    (hl : t.pc.live = true) : step rc A i σ ≠ σ := by
  intro heq
  have h1 := step_getElem?_self A rc i σ t h
  rw [heq, h] at h1
  have h2 := stepThr_live_pc A rc σ.cache t hl
  injection h1 with h1
  rw [← h1] at h2
  exact h2 rfl

/-- the number of steps a call still takes from a program counter: the four phases R, C, W, U are passed in this order, one step each,
    whatever the other threads do (no step waits); this is the measure of the progress theorems -/
def PC.rem : PC → Nat
  | .R => 4 | .C => 3 | .W => 2 | .U => 1 | .done => 0 | .panicked => 0

/-- remaining own steps of thread `i` (0 for a finished or non-existent thread) -/
def remOf (σ : St P) (i : Nat) : Nat := match σ.thr[i]? with | some t => t.pc.rem | none => 0

theorem stepThr_rem (rc : Bool) (c : List P) (t : Thr P) : (stepThr rc A c t).2.pc.rem ≤ t.pc.rem - 1 := by
  unfold stepThr
  cases hp : t.pc <;> simp only <;> (try split) <;> simp [PC.rem, hp]

theorem remOf_step_self (rc : Bool) (i : Nat) (σ : St P) : remOf (step rc A i σ) i ≤ remOf σ i - 1 := by
  cases hg : σ.thr[i]? with
  | none => simp [remOf, step, hg]
  | some t =>
    have := step_getElem?_self A rc i σ t hg
    simp only [remOf, this, hg]
    exact stepThr_rem A rc σ.cache t

theorem remOf_step_ne (rc : Bool) {i j : Nat} (hij : i ≠ j) (σ : St P) : remOf (step rc A i σ) j = remOf σ j := by
  simp [remOf, step_getElem?_ne A rc hij σ]

theorem remOf_run (rc : Bool) (sched : List Nat) (i : Nat) (σ : St P) :
    remOf (run rc A sched σ) i ≤ remOf σ i - sched.count i := by
  induction sched generalizing σ with
  | nil => simp [run]
  | cons j js ih =>
    rw [run]
    by_cases hji : j = i
    · subst hji
      have h1 := ih (step rc A j σ)
      have h2 := remOf_step_self A rc j σ
      rw [List.count_cons_self]
      omega
    · have h1 := ih (step rc A j σ)
      rw [remOf_step_ne A rc hji] at h1
      rw [List.count_cons_of_ne hji]
      exact h1

theorem remOf_le_four (σ : St P) (i : Nat) : remOf σ i ≤ 4 := by
  unfold remOf; cases σ.thr[i]? with
  | none => simp
  | some t => cases hp : t.pc <;> simp [PC.rem, hp]

theorem sum_set_lt (l : List Nat) (i : Nat) (h : i < l.length) (v : Nat) (hv : v < l[i]) :
    (l.set i v).sum + (l[i] - v) = l.sum := by
  induction l generalizing i with
  | nil => simp at h
  | cons a l ih =>
    cases i with
    | zero => simp at hv ⊢; omega
    | succ i =>
      simp at h hv ⊢
      have := ih i h hv
      omega

/-- total number of steps all threads can still take -/
def measure (σ : St P) : Nat := (σ.thr.map fun t => t.pc.rem).sum

theorem measure_step_live (rc : Bool) (i : Nat) (σ : St P) (t : Thr P) (h : σ.thr[i]? = some t)
    (hl : t.pc.live = true) : measure (step rc A i σ) + 1 ≤ measure σ := by
  have hi := (List.getElem?_eq_some_iff.mp h).1
  have hti : σ.thr[i] = t := by rw [List.getElem?_eq_getElem hi] at h; injection h
  unfold measure step
  simp only [h, List.map_set]
  have hr := stepThr_rem A rc σ.cache t
  have hpos : 1 ≤ t.pc.rem := by cases hp : t.pc <;> simp [hp, PC.live, PC.rem] at hl ⊢
  have hlen : i < (σ.thr.map fun t => t.pc.rem).length := by simpa using hi
  have hget : (σ.thr.map fun t => t.pc.rem)[i] = t.pc.rem := by simp [hti]
  have := sum_set_lt (σ.thr.map fun t => t.pc.rem) i hlen (stepThr rc A σ.cache t).2.pc.rem (by rw [hget]; omega)
  rw [hget] at this
  omega

/-- a schedule that only ever resumes live threads (what a scheduler does) -/
def Productive (rc : Bool) : List Nat → St P → Prop
  | [], _ => True
  | i :: is, σ => (∃ t, σ.thr[i]? = some t ∧ t.pc.live = true) ∧ Productive rc is (step rc A i σ)

theorem productive_length (rc : Bool) (sched : List Nat) (σ : St P) (h : Productive A rc sched σ) :
    sched.length + measure (run rc A sched σ) ≤ measure σ := by
  induction sched generalizing σ with
  | nil => simp [run]
  | cons i is ih =>
    obtain ⟨⟨t, ht, hl⟩, hp⟩ := h
    have h1 := ih _ hp
    have h2 := measure_step_live A rc i σ t ht hl
    rw [run]
    simp only [List.length_cons]
    omega

theorem measure_init (n0 : Nat) (wants : List Nat) : measure (init A n0 wants) = 4 * wants.length := by
  unfold measure init
  rw [List.map_map, Nat.mul_comm]
  exact list_sum_const _ 4 _ fun _ _ => rfl

/-- wait-freedom: whatever the other threads do, a call that is given four steps has finished, with the
    sequential result -/
theorem thread_finishes {σ : St P} (h : Inv A σ) (sched : List Nat) (i : Nat) (t0 : Thr P)
    (h0 : σ.thr[i]? = some t0) (hc : 4 ≤ sched.count i) :
    ∃ t, (run true A sched σ).thr[i]? = some t ∧ t.pc = .done ∧ t.result = some (powers A t0.want) := by
  have hw := run_want A true sched i σ
  rw [h0] at hw
  cases hg : (run true A sched σ).thr[i]? with
  | none => rw [hg] at hw; cases hw
  | some t =>
    rw [hg] at hw
    have hwant : t.want = t0.want := by simpa using hw
    have hr := remOf_run A true sched i σ
    have h4 := remOf_le_four σ i
    have hrem : t.pc.rem = 0 := by
      have : remOf (run true A sched σ) i = t.pc.rem := by simp [remOf, hg]
      omega
    have hinv := (run_inv A sched h).1
    have hok := hinv.2.2 t (List.mem_of_getElem? hg)
    unfold ThrOk at hok
    cases hp : t.pc <;> simp only [hp, PC.rem] at hrem hok <;> try omega
    · exact ⟨t, rfl, hp, by rw [hok, hwant]⟩

theorem seqSchedule_succ (k : Nat) : seqSchedule (k + 1) = seqSchedule k ++ [k, k, k, k] := by
  simp [seqSchedule, List.range_succ, List.flatMap_append]

theorem count_seqSchedule {k i : Nat} (h : i < k) : 4 ≤ (seqSchedule k).count i := by
  induction k with
  | zero => omega
  | succ k ih =>
    rw [seqSchedule_succ, List.count_append]
    by_cases hik : i = k
    · subst hik; simp
    · have := ih (by omega); omega

theorem gstepThr_live_ne (tb : List (Option T)) (t : GThr T) (h : t.pc.live = true) :
    (gstepThr gen tb t).2 ≠ t := by
  intro heq
  -- a step of a live thread changes its program counter, or (leaving the use phase) its position
  have hpc := congrArg GThr.pc heq
  have hpos := congrArg GThr.pos heq
  unfold gstepThr at hpc hpos
  cases hc : t.calls[t.pos]? with
  | none =>
    rw [hc] at hpc
    rw [← hpc] at h
    cases h
  | some idx =>
    rw [hc] at hpc hpos
    cases hp : t.pc <;> rw [hp] at hpc hpos h <;> simp only [GPC.live] at hpc hpos h
    · cases he : tb[idx]? with
      | none => rw [he] at hpc; cases hpc
      | some e => cases e <;> rw [he] at hpc <;> cases hpc
    · cases hpc
    · cases he : tb[idx]? with
      | none => rw [he] at hpc; cases hpc
      | some e => rw [he] at hpos; exact absurd hpos (Nat.succ_ne_self _)
    · cases h
    · cases h

theorem gstep_ne_of_live (i : Nat) (σ : GSt T) (t : GThr T) (h : σ.thr[i]? = some t) (hl : t.pc.live = true) :
    gstep gen i σ ≠ σ := by
  intro heq
  have h1 : (gstep gen i σ).thr[i]? = some (gstepThr gen σ.tables t).2 := by
    unfold gstep; simp only [h]; exact List.getElem?_set_self (List.getElem?_eq_some_iff.mp h).1
  rw [heq, h] at h1
  injection h1 with h1
  exact gstepThr_live_ne gen σ.tables t hl h1.symm

/-- the thread is inside a read region / a write region of the lock -/
def isInR (p : LPC) : Bool := decide (p = .inR)
def isInW (p : LPC) : Bool := decide (p = .inW)

/-- the lock word is consistent with the threads: reader count = threads inside a read region, writer flag =
    some thread inside a write region (at most one), never both -/
def LInv (σ : LSt) : Prop :=
  σ.readers = σ.thr.countP isInR ∧ (if σ.writer then 1 else 0) = σ.thr.countP isInW ∧ (σ.writer = true → σ.readers = 0)

theorem normNext_notIn (nxt : LPC) : isInR (normNext nxt) = false ∧ isInW (normNext nxt) = false := by
  cases nxt <;> simp [normNext, isInR, isInW]

theorem countP_set_add {α : Type} (p : α → Bool) (l : List α) (i : Nat) (hi : i < l.length) (a : α) :
    (l.set i a).countP p + (if p l[i] = true then 1 else 0) = l.countP p + (if p a = true then 1 else 0) := by
  have := List.boole_getElem_le_countP (p := p) hi
  rw [List.countP_set hi]; omega

/-- replacing the program counter of thread `i` keeps the lock word consistent if reader count and writer flag change by the same amounts as
    the numbers of threads inside a read / write region -/
theorem LInv.set {σ : LSt} (h : LInv σ) {i : Nat} (hi : i < σ.thr.length) (pc : LPC) (r : Nat) (w : Bool)
    (hr : r + (if isInR σ.thr[i] = true then 1 else 0) = σ.readers + (if isInR pc = true then 1 else 0))
    (hw : (if w then 1 else 0) + (if isInW σ.thr[i] = true then 1 else 0) = (if σ.writer then 1 else 0) + (if isInW pc = true then 1 else 0))
    (hx : w = true → r = 0) : LInv { readers := r, writer := w, thr := σ.thr.set i pc } := by
  obtain ⟨h1, h2, _⟩ := h
  have eR := countP_set_add isInR σ.thr i hi pc
  have eW := countP_set_add isInW σ.thr i hi pc
  refine ⟨?_, ?_, hx⟩
  · show r = List.countP isInR (σ.thr.set i pc); omega
  · show (if w = true then 1 else 0) = List.countP isInW (σ.thr.set i pc); omega

theorem lstep_inv (nxt : LPC) (i : Nat) {σ : LSt} (h : LInv σ) : LInv (lstep nxt i σ) := by
  unfold lstep
  cases hg : σ.thr[i]? with
  | none => exact h
  | some pc =>
    have hi := (List.getElem?_eq_some_iff.mp hg).1
    have hti : σ.thr[i] = pc := by rw [List.getElem?_eq_getElem hi] at hg; injection hg
    obtain ⟨hn1, hn2⟩ := normNext_notIn nxt
    have h2 := h.2.1
    have h3 := h.2.2
    simp only
    split
    · rename_i hen
      cases pc with
      | wantR =>
        have hw : σ.writer = false := by simpa [lenabled] using hen
        exact h.set hi .inR _ _ (by rw [hti]; rfl) (by rw [hti]; rfl) (fun hw' => by rw [hw] at hw'; cases hw')
      | wantW =>
        simp only [lenabled, Bool.and_eq_true, Bool.not_eq_true', beq_iff_eq] at hen
        exact h.set hi .inW _ _ (by rw [hti]; rfl) (by rw [hti, hen.1]; rfl) (fun _ => hen.2)
      | inR =>
        have : 1 ≤ σ.readers := by have := List.boole_getElem_le_countP (p := isInR) hi; rw [hti] at this; exact h.1 ▸ this
        exact h.set hi _ _ _ (by rw [hti, hn1]; show σ.readers - 1 + 1 = σ.readers + 0; omega) (by rw [hti, hn2]; rfl) (fun hw' => by rw [h3 hw'])
      | inW =>
        have hwr : σ.writer = true := by
          have := List.boole_getElem_le_countP (p := isInW) hi; rw [hti] at this
          cases hw : σ.writer with
          | true => rfl
          | false => rw [hw] at h2; exact absurd (h2 ▸ this) (by decide)
        exact h.set hi _ _ _ (by rw [hti, hn1]; rfl) (by rw [hti, hn2, hwr]; rfl) (fun hw' => by cases hw')
      | fin => exact h
    · exact h

theorem lrun_inv (sched : List (Nat × LPC)) {σ : LSt} (h : LInv σ) : LInv (lrun sched σ) := by
  induction sched generalizing σ with
  | nil => exact h
  | cons a as ih => exact ih (lstep_inv a.2 a.1 h)

theorem linit_inv (k : Nat) : LInv (linit k) := by
  refine ⟨?_, ?_, by simp [linit]⟩ <;> simp [linit, List.countP_replicate, isInR, isInW]

theorem lenabled_exists {σ : LSt} (h : LInv σ) (hl : ∃ pc ∈ σ.thr, pc ≠ LPC.fin) :
    ∃ (i : Nat) (pc : LPC), σ.thr[i]? = some pc ∧ lenabled σ pc = true := by
  obtain ⟨h1, h2, h3⟩ := h
  by_cases hold : ∃ pc ∈ σ.thr, pc = LPC.inR ∨ pc = LPC.inW
  · obtain ⟨pc, hm, hp⟩ := hold
    obtain ⟨i, hi⟩ := List.getElem?_of_mem hm
    exact ⟨i, pc, hi, by rcases hp with rfl | rfl <;> rfl⟩
  · have hR : σ.thr.countP isInR = 0 := by
      rw [List.countP_eq_zero]; intro a ha hc; exact hold ⟨a, ha, Or.inl (by simpa [isInR] using hc)⟩
    have hW : σ.thr.countP isInW = 0 := by
      rw [List.countP_eq_zero]; intro a ha hc; exact hold ⟨a, ha, Or.inr (by simpa [isInW] using hc)⟩
    rw [hR] at h1; rw [hW] at h2
    have hw : σ.writer = false := by cases hw : σ.writer <;> simp [hw] at h2 ⊢
    obtain ⟨pc, hm, hp⟩ := hl
    obtain ⟨i, hi⟩ := List.getElem?_of_mem hm
    refine ⟨i, pc, hi, ?_⟩
    cases pc with
    | wantR => simp [lenabled, hw]
    | wantW => simp [lenabled, hw, h1]
    | inR => exact absurd ⟨_, hm, Or.inl rfl⟩ hold
    | inW => exact absurd ⟨_, hm, Or.inr rfl⟩ hold
    | fin => exact absurd rfl hp

theorem lstep_ne (nxt : LPC) (i : Nat) (σ : LSt) (pc : LPC) (hg : σ.thr[i]? = some pc) (hen : lenabled σ pc = true) :
    lstep nxt i σ ≠ σ := by
  intro heq
  have hi := (List.getElem?_eq_some_iff.mp hg).1
  have hth := congrArg LSt.thr heq
  unfold lstep at hth
  simp only [hg, hen, if_true] at hth
  have hn := normNext_notIn nxt
  cases pc with
  | wantR => simp only at hth; have := congrArg (·[i]?) hth; simp [List.getElem?_set_self hi, hg] at this
  | wantW => simp only at hth; have := congrArg (·[i]?) hth; simp [List.getElem?_set_self hi, hg] at this
  | inR =>
    simp only at hth; have := congrArg (·[i]?) hth
    simp only [List.getElem?_set_self hi, hg] at this
    injection this with this
    have h1 : isInR (normNext nxt) = false := hn.1
    rw [this] at h1; simp [isInR] at h1
  | inW =>
    simp only at hth; have := congrArg (·[i]?) hth
    simp only [List.getElem?_set_self hi, hg] at this
    injection this with this
    have h1 : isInW (normNext nxt) = false := hn.2
    rw [this] at h1; simp [isInW] at h1
  | fin => simp [lenabled] at hen

end HC.Conc
