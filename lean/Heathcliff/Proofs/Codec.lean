/-
  L8: compositional codec laws (DESIGN.md Appendix A.5).  No Mathlib; stands on Proofs/Reader.lean (decoders as programs) and through it on
  Model/Codec.lean only.
  `Lawful c`:  rt   decoding an encoding followed by anything returns the (normalised) object and the rest,
               pre  every strict prefix of an encoding decodes to `eof`,
               len  the encoding has exactly `size` bytes.
  Closed under every combinator of `Model/Codec.lean`: `rt` and `pre` together say that `dec` reads `norm x` from exactly `enc x`
  (`Reads`, Proofs/Reader.lean), and every composite decoder is a `dbind` of its parts, so `Reads.bind` does it.
-/
import Heathcliff.Proofs.Reader
namespace HC.Codec

structure Codec.Lawful {α} (c : Codec α) : Prop where
  rt  : ∀ x, c.valid x → ∀ r, c.dec (c.enc x ++ r) = .ok (c.norm x, r)
  pre : ∀ x, c.valid x → ∀ k, k < (c.enc x).length → ∃ s, c.dec ((c.enc x).take k) = .error (.eof s)
  len : ∀ x, c.valid x → (c.enc x).length = c.size x

theorem flat_append (a b : List Chunk) : flat (a ++ b) = flat a ++ flat b := by
  induction a with
  | nil => rfl
  | cons c cs ih => simp [flat, ih, List.append_assoc]

theorem Codec.Lawful.reads {α} {c : Codec α} (h : c.Lawful) (x : α) (hx : c.valid x) : Reads c.dec (c.enc x) (c.norm x) :=
  ⟨h.rt x hx, h.pre x hx⟩

theorem Codec.Lawful.of_reads {α} {c : Codec α}
    (h : ∀ x, c.valid x → Reads c.dec (c.enc x) (c.norm x) ∧ (c.enc x).length = c.size x) : c.Lawful :=
  ⟨fun x hx => (h x hx).1.ok, fun x hx => (h x hx).1.eof, fun x hx => (h x hx).2⟩

/-! ### little-endian bytes -/

theorem leBytes_length (n v : Nat) : (leBytes n v).length = n := by
  induction n generalizing v with
  | zero => rfl
  | succ n ih => simp [leBytes, ih]

theorem leVal_leBytes (n v : Nat) (h : v < 256 ^ n) : leVal (leBytes n v) = v := by
  induction n generalizing v with
  | zero => simp at h; subst h; rfl
  | succ n ih =>
    have h2 : v / 256 < 256 ^ n := by
      rw [Nat.div_lt_iff_lt_mul (by decide)]; rw [Nat.pow_succ] at h; exact h
    simp only [leBytes, leVal, ih _ h2]
    omega

theorem leBytes_lt (n v : Nat) : ∀ b ∈ leBytes n v, b < 256 := by
  induction n generalizing v with
  | zero => intro b hb; simp [leBytes] at hb
  | succ n ih =>
    intro b hb
    simp only [leBytes, List.mem_cons] at hb
    rcases hb with rfl | hb
    · exact Nat.mod_lt _ (by decide)
    · exact ih _ b hb

theorem leVal_lt (l : List Nat) (h : ∀ b ∈ l, b < 256) : leVal l < 256 ^ l.length := by
  induction l with
  | nil => simp [leVal]
  | cons b r ih =>
    have hb := h b (by simp)
    have hr := ih (fun x hx => h x (by simp [hx]))
    simp only [leVal, List.length_cons, Nat.pow_succ]
    omega

theorem leBytes_leVal (l : List Nat) (h : ∀ b ∈ l, b < 256) : leBytes l.length (leVal l) = l := by
  induction l with
  | nil => rfl
  | cons b r ih =>
    have hb := h b (by simp)
    have hr := ih (fun x hx => h x (by simp [hx]))
    simp only [List.length_cons, leBytes, leVal]
    have h1 : (b + 256 * leVal r) % 256 = b := by omega
    have h2 : (b + 256 * leVal r) / 256 = leVal r := by omega
    rw [h1, h2, hr]

/-! ### scalars -/

theorem scalarC_enc (s : SK) (n v : Nat) : (scalarC s n).enc v = leBytes n v := by
  simp [Codec.enc, scalarC, flat]

theorem scalarC_lawful (s : SK) (n : Nat) : (scalarC s n).Lawful := by
  constructor
  · intro v hv r
    have hl := leBytes_length n v
    simp only [scalarC_enc]
    simp only [scalarC, readExact, List.length_append, hl]
    have : ¬ (n + r.length < n) := by omega
    simp only [this, if_false]
    have h1 : (leBytes n v ++ r).take n = leBytes n v := by
      rw [List.take_append_of_le_length (by omega)]; exact List.take_of_length_le (by omega)
    have h2 : (leBytes n v ++ r).drop n = r := by
      have h := @List.drop_left _ (leBytes n v) r
      rw [hl] at h; exact h
    rw [h1, h2, leVal_leBytes n v hv]
  · intro v _ k hk
    simp only [scalarC_enc, leBytes_length] at hk ⊢
    refine ⟨s, ?_⟩
    simp only [scalarC, readExact, List.length_take, leBytes_length]
    have : min k n < n := by omega
    simp [this]
  · intro v _
    rw [scalarC_enc, leBytes_length]; rfl

theorem u64C_lawful : u64C.Lawful := scalarC_lawful _ _
theorem usizeC_lawful : usizeC.Lawful := scalarC_lawful _ _
theorem u8C_lawful : u8C.Lawful := scalarC_lawful _ _

/-! ### pair / dependent pair -/

theorem depC_enc {α β} (a : Codec α) (b : α → Codec β) (p : α × β) :
    (depC a b).enc p = a.enc p.1 ++ (b p.1).enc p.2 := by
  simp [Codec.enc, depC, flat_append]

theorem depC_lawful {α β} (a : Codec α) (b : α → Codec β) (ha : a.Lawful) (hb : ∀ x, (b x).Lawful) :
    (depC a b).Lawful :=
  .of_reads fun ⟨x, y⟩ ⟨hx, hn, hy⟩ => by
    have h1 := ha.reads x hx
    rw [show a.norm x = x from hn] at h1
    rw [depC_dec, depC_enc]
    exact ⟨h1.bind (((hb x).reads y hy).map _), by rw [List.length_append, ha.len x hx, (hb x).len y hy]; rfl⟩

theorem pairC_enc {α β} (a : Codec α) (b : Codec β) (p : α × β) :
    (pairC a b).enc p = a.enc p.1 ++ b.enc p.2 := by
  simp [Codec.enc, pairC, flat_append]

theorem pairC_lawful {α β} (a : Codec α) (b : Codec β) (ha : a.Lawful) (hb : b.Lawful) :
    (pairC a b).Lawful :=
  .of_reads fun ⟨x, y⟩ ⟨hx, hy⟩ => by
    rw [pairC_dec, pairC_enc]
    exact ⟨(ha.reads x hx).bind ((hb.reads y hy).map _), by rw [List.length_append, ha.len x hx, hb.len y hy]; rfl⟩

/-! ### map / guard -/

theorem mapC_enc {α β} (c : Codec α) (f : β → α) (g : α → β) (y : β) : (mapC c f g).enc y = c.enc (f y) := rfl

theorem mapC_lawful {α β} (c : Codec α) (f : β → α) (g : α → β) (hc : c.Lawful) : (mapC c f g).Lawful :=
  .of_reads fun y hv => by rw [mapC_dec]; exact ⟨(hc.reads (f y) hv).map g, hc.len (f y) hv⟩

theorem guardC_enc {α} (c : Codec α) (p : α → Bool) (x : α) : (guardC c p).enc x = c.enc x := rfl

theorem guardC_lawful {α} (c : Codec α) (p : α → Bool) (hc : c.Lawful) : (guardC c p).Lawful :=
  .of_reads fun x ⟨hx, hp⟩ => by
    rw [guardC_dec]
    have h := (hc.reads x hx).bind (f := fun x => if p x then dpure x else dfail .bad) (by rw [if_pos hp]; exact Reads.pure _)
    rw [List.append_nil] at h
    exact ⟨h, hc.len x hx⟩

theorem depC_dec_error {α β} (a : Codec α) (b : α → Codec β) {bs : Bytes} {e : DErr} (h : a.dec bs = .error e) :
    (depC a b).dec bs = .error e := by
  simp only [depC, h]

theorem mapC_dec_error {α β} (c : Codec α) (f : β → α) (g : α → β) {bs : Bytes} {e : DErr} (h : c.dec bs = .error e) :
    (mapC c f g).dec bs = .error e := by
  simp only [mapC, h]

theorem guardC_dec_error {α} (c : Codec α) (p : α → Bool) {bs : Bytes} {e : DErr} (h : c.dec bs = .error e) :
    (guardC c p).dec bs = .error e := by
  simp only [guardC, h]

theorem restrictC_lawful {α} (c : Codec α) (P : α → Prop) (hc : c.Lawful) : (restrictC c P).Lawful :=
  ⟨fun x hv r => hc.rt x hv.1 r, fun x hv k hk => hc.pre x hv.1 k hk, fun x hv => hc.len x hv.1⟩

/-! ### sequences -/

theorem seqC_enc_cons {α} (c : Codec α) (cs : List (Codec α)) (x : α) (xs : List α) :
    (seqC (c :: cs)).enc (x :: xs) = c.enc x ++ (seqC cs).enc xs := by
  simp [Codec.enc, seqC, seqChunks, flat_append]

theorem seqC_lawful {α} : ∀ (cs : List (Codec α)), (∀ c ∈ cs, c.Lawful) → (seqC cs).Lawful
  | [], _ => .of_reads fun xs hv => by
      cases xs with
      | nil => exact ⟨Reads.pure _, rfl⟩
      | cons _ _ => exact hv.elim
  | c :: cs, h => .of_reads fun xs hv => by
      cases xs with
      | nil => exact hv.elim
      | cons x xs =>
        have hc := h c List.mem_cons_self
        have ih := seqC_lawful cs fun d hd => h d (List.mem_cons_of_mem _ hd)
        rw [seqC_enc_cons]
        show Reads (seqDec (c :: cs)) _ _ ∧ _
        rw [seqDec_cons]
        exact ⟨(hc.reads x hv.1).bind ((ih.reads xs hv.2).map _),
          by rw [List.length_append, hc.len x hv.1, ih.len xs hv.2]; rfl⟩

theorem seqSize_replicate {α} (c : Codec α) (l : List α) :
    seqSize (List.replicate l.length c) l = (l.map c.size).sum := by
  induction l with
  | nil => rfl
  | cons x xs ih => simp only [List.length_cons, List.replicate_succ, seqSize, ih, List.map_cons, List.sum_cons]

theorem repC_lawful {α} (n : Nat) (c : Codec α) (hc : c.Lawful) : (repC n c).Lawful :=
  seqC_lawful _ (fun d hd => by rw [List.eq_of_mem_replicate hd]; exact hc)

theorem vecC_lawful {α} (c : Codec α) (hc : c.Lawful) : (vecC c).Lawful :=
  mapC_lawful _ _ _ (depC_lawful _ _ usizeC_lawful (fun n => repC_lawful n c hc))

/-! ### derived field codecs -/

theorem boolC_lawful : boolC.Lawful := mapC_lawful _ _ _ u8C_lawful
theorem schemeC_lawful : schemeC.Lawful := guardC_lawful _ _ u8C_lawful
theorem pidC_lawful : pidC.Lawful := repC_lawful _ _ u64C_lawful
theorem limC_lawful (l : Nat) : (limC l).Lawful :=
  restrictC_lawful _ _ (mapC_lawful _ _ _ (repC_lawful _ _ u8C_lawful))

theorem extraC_lawful (s : Nat) : (extraC s).Lawful := by
  unfold extraC
  split
  · exact repC_lawful _ _ u64C_lawful
  · split
    · exact repC_lawful _ _ u64C_lawful
    · exact repC_lawful _ _ u64C_lawful

theorem termsPolyC_lawful (t : Nat) (lv : Level) : (termsPolyC t lv).Lawful :=
  seqC_lawful _ (fun c hc => by
    obtain ⟨q, _, rfl⟩ := List.mem_map.mp hc
    exact repC_lawful _ _ (limC_lawful _))

/-- the compact polynomial is the terms polynomial with all `N` terms -/
theorem polyC_lawful (lv : Level) : (polyC lv).Lawful := termsPolyC_lawful lv.n lv

theorem paramsC_lawful : paramsC.Lawful :=
  mapC_lawful _ _ _ (guardC_lawful _ _ (depC_lawful _ _ schemeC_lawful (fun _ =>
    pairC_lawful _ _ usizeC_lawful (pairC_lawful _ _ (vecC_lawful _ u64C_lawful)
      (pairC_lawful _ _ (repC_lawful _ _ u64C_lawful) boolC_lawful)))))

theorem plainC_lawful : plainC.Lawful :=
  mapC_lawful _ _ _ (pairC_lawful _ _ pidC_lawful (pairC_lawful _ _ (vecC_lawful _ u64C_lawful) u64C_lawful))

theorem ctBodyC_lawful (lv : Level) (size : Nat) (first : Codec Poly) (hf : first.Lawful) :
    (ctBodyC lv size first).Lawful :=
  depC_lawful _ _ boolC_lawful (fun seeded =>
    pairC_lawful _ _
      (seqC_lawful _ (fun c hc => by
        split at hc
        · rw [List.mem_singleton.mp hc]; exact hf
        · have hc := List.mem_of_mem_take hc
          rcases List.mem_cons.mp hc with rfl | hc
          · exact hf
          · rw [List.eq_of_mem_replicate hc]; exact polyC_lawful lv))
      (repC_lawful _ _ u64C_lawful))

theorem ctWireC_lawful (ctx : Ctx) (first : Level → Codec Poly) (hf : ∀ lv, (first lv).Lawful) :
    (ctWireC ctx first).Lawful :=
  depC_lawful _ _ (guardC_lawful _ _ pidC_lawful) (fun _ =>
    depC_lawful _ _ usizeC_lawful (fun _ =>
      pairC_lawful _ _ boolC_lawful (pairC_lawful _ _ (extraC_lawful _) (ctBodyC_lawful _ _ _ (hf _)))))

theorem ctC_lawful (ctx : Ctx) (expand : List Nat → Level → Poly) : (ctC ctx expand).Lawful :=
  mapC_lawful _ _ _ (ctWireC_lawful ctx polyC polyC_lawful)

theorem ctRawC_lawful (ctx : Ctx) : (ctRawC ctx).Lawful :=
  mapC_lawful _ _ _ (ctWireC_lawful ctx polyC polyC_lawful)

theorem ctTermsC_lawful (ctx : Ctx) (expand : List Nat → Level → Poly)
    (fwd inv : Level → Nat → List Nat → List Nat) (terms : List Nat) :
    (ctTermsC ctx expand fwd inv terms).Lawful :=
  mapC_lawful _ _ _ (ctWireC_lawful ctx _ (termsPolyC_lawful _))

theorem ctFullC_lawful (ctx : Ctx) (expand : List Nat → Level → List Nat) : (ctFullC ctx expand).Lawful :=
  mapC_lawful _ _ _ (guardC_lawful _ _ (depC_lawful _ _ (guardC_lawful _ _ pidC_lawful) (fun _ =>
    pairC_lawful _ _ usizeC_lawful (pairC_lawful _ _ boolC_lawful
      (pairC_lawful _ _ (extraC_lawful _) (vecC_lawful _ u64C_lawful))))))

theorem kswitchC_lawful {γ} (pk : Codec γ) (h : pk.Lawful) : (kswitchC pk).Lawful :=
  mapC_lawful _ _ _ (pairC_lawful _ _ pidC_lawful (vecC_lawful _ (vecC_lawful _ h)))

theorem c1dC_lawful {γ} (c : Codec γ) (h : c.Lawful) : (c1dC c).Lawful := vecC_lawful _ h
theorem c2dC_lawful {γ} (c : Codec γ) (h : c.Lawful) : (c2dC c).Lawful := vecC_lawful _ (vecC_lawful _ h)
theorem c3dC_lawful {γ} (c : Codec γ) (h : c.Lawful) : (c3dC c).Lawful :=
  vecC_lawful _ (vecC_lawful _ (vecC_lawful _ h))
theorem rnspC_lawful {γ} (cs : List (Codec γ)) (h : ∀ c ∈ cs, c.Lawful) : (rnspC cs).Lawful := seqC_lawful cs h

theorem polySerC_lawful (ctx : Ctx) : (polySerC ctx).Lawful :=
  depC_lawful _ _ (guardC_lawful _ _ pidC_lawful) (fun pid => by
    split
    · exact mapC_lawful _ _ _ (repC_lawful _ _ (limC_lawful _))
    · exact polyC_lawful _)

end HC.Codec
