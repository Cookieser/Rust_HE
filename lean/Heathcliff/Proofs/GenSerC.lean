/-
  Ciphertext level: `Ciphertext::serialize_full` (Gen/SerFns.lean `ct_serialize_full`, translated with the
  context lookup read as the level `lv` and the ciphertext as the view `CtV`) is the chunk program of the model's `ctFullC`.
  Helper prefix `gc_`.
-/
import Heathcliff.Proofs.GenSerP
namespace HC.GS
open HC HC.Codec HC.GenS

variable {S E : Type}

/-- the wire tuple's scheme-dependent field: CKKS scale, BGV correction factor, BFV nothing -/
def schemeExtra (scheme scale cf : Nat) : List Nat :=
  if scheme == 2 then [scale] else if scheme == 3 then [cf] else []

theorem gc_full_chunks (ctx : Ctx) (expand : List Nat → Level → List Nat) (c : CtFull) :
    (ctFullC ctx expand).chunks c =
      pidC.chunks c.pid ++ (usizeC.chunks c.size ++ (boolC.chunks c.ntt ++
        ((extraC ((ctx.find c.pid).getD noLevel).scheme).chunks (schemeExtra ((ctx.find c.pid).getD noLevel).scheme c.scale c.cf) ++
          (vecC u64C).chunks (c.data.take (fullSent ((ctx.find c.pid).getD noLevel) c))))) := rfl

/-- `Ciphertext::serialize_full` = the chunk program of `ctFullC`, for every stream.  Hypotheses: `v` is a view of `c` (same header
    fields and data; `hsent`: the number of words the code sends, computed from `contains_seed()` / `poly(0).len()`, is the model's
    `fullSent`), `lv` is the level the context finds, the writer's own shape check passes (`hchk`), the level's scheme is BFV / CKKS /
    BGV (`hsch`; for `None` see `gc_ct_serialize_full_none`), and the data vector holds the words to be sent (`hle`; else the slice panics). -/
theorem gc_ct_serialize_full (st : WStream S E) (ctx : Ctx) (expand : List Nat → Level → List Nat) (c : CtFull) (lv : Level) (v : CtV)
    (hfind : ctx.find c.pid = some lv)
    (hpid : v.pid = c.pid) (hl : c.pid.length = 4) (hsize : v.size = c.size) (hntt : v.ntt = c.ntt) (hscale : v.scale = c.scale)
    (hcf : v.cf = c.cf) (hdata : v.data = c.data)
    (hchk : v.cms = lv.moduli.length ∧ v.deg = lv.n)
    (hsch : lv.scheme = 1 ∨ lv.scheme = 2 ∨ lv.scheme = 3)
    (hsent : fullSentV v = fullSent lv c) (hle : fullSent lv c ≤ c.data.length) :
    ct_serialize_full st ctx v = runChunks st ((ctFullC ctx expand).chunks c) := by
  have hlv : (ctx.find c.pid).getD noLevel = lv := by rw [hfind]; rfl
  have hlen : (c.data.take (fullSent lv c)).length = fullSent lv c := by rw [List.length_take]; omega
  have hvec : (vecC u64C).chunks (c.data.take (fullSent lv c))
      = usizeC.chunks (fullSent lv c) ++ seqChunks (List.replicate (fullSent lv c) u64C) (c.data.take (fullSent lv c)) := by
    rw (occs := .pos [2, 3]) [← hlen]; rfl
  have hs : (if v.seeded = true then (v.poly 0).length + 1 + (64 + 7) / 8 else c.data.length) = fullSent lv c := by
    rw [← hsent, ← hdata]; rfl
  have hc1 : ((v.cms != lv.moduli.length) || (v.deg != lv.n)) = false := by simp [hchk.1, hchk.2]
  have hloop := gs_item_loop st (ct_serialize_full_loop1 st) _ (fun _ => rfl) (fun _ _ _ => rfl) u64C (c.data.take (fullSent lv c))
    fun x _ => gs_u64_serialize st x
  rw [gc_full_chunks, hlv]
  unfold ct_serialize_full schemeExtra extraC
  -- in each scheme: the branch taken, the field writers as chunk programs, the byte counts added up
  rcases hsch with h | h | h
  all_goals
    simp only [hpid, hfind, hc1, h, Nat.reduceBEq, Bool.false_eq_true, ↓reduceIte, hs, hsize, hntt, hscale, hcf, hdata, hle,
      gs_pid_serialize st _ hl, gs_usize_serialize, gs_bool_serialize, gs_f64_serialize, gs_u64_serialize, hloop, hlen, hvec, f64C,
      repC, seqC, List.replicate, seqChunks, List.append_nil, runChunks_append, runChunks, wbind_assoc, wbind_wpure, Nat.zero_add,
      Nat.add_assoc]

/-- the excluded points.  (1) the writer's shape check fails: `Err(InvalidData)` before anything is written.
    (2) a level whose scheme is `None`: parms id, size and NTT flag ARE written, then `Err(InvalidData)` -/
theorem gc_ct_serialize_full_shape_refused (st : WStream S E) (ctx : Ctx) (lv : Level) (v : CtV) (hfind : ctx.find v.pid = some lv)
    (h : v.cms ≠ lv.moduli.length ∨ v.deg ≠ lv.n) : ct_serialize_full st ctx v = winvalid := by
  have hc1 : ((v.cms != lv.moduli.length) || (v.deg != lv.n)) = true := by
    rcases h with h | h <;> simp [h]
  unfold ct_serialize_full
  simp only [hfind, hc1, if_true]

/-- an unknown parms id: `get_context_data(..).unwrap()` panics before anything is written -/
theorem gc_ct_serialize_full_unknown_pid (st : WStream S E) (ctx : Ctx) (v : CtV) (hfind : ctx.find v.pid = none) :
    ct_serialize_full st ctx v = wpanic := by
  unfold ct_serialize_full
  simp only [hfind]

theorem gc_ct_serialize_full_none (st : WStream S E) (ctx : Ctx) (lv : Level) (v : CtV) (hfind : ctx.find v.pid = some lv)
    (hl : v.pid.length = 4) (hchk : v.cms = lv.moduli.length ∧ v.deg = lv.n) (hs : lv.scheme = 0) :
    ct_serialize_full st ctx v
      = wbind (runChunks st (pidC.chunks v.pid ++ (usizeC.chunks v.size ++ boolC.chunks v.ntt))) fun _ => winvalid := by
  have hc1 : ((v.cms != lv.moduli.length) || (v.deg != lv.n)) = false := by simp [hchk.1, hchk.2]
  unfold ct_serialize_full
  simp only [hfind, hc1, hs, Nat.reduceBEq, Bool.false_eq_true, ↓reduceIte, gs_pid_serialize st _ hl, gs_usize_serialize,
    gs_bool_serialize, runChunks_append, wbind_assoc, wbind_wpure]

/-- the view of a model `CtFull` the code works with: `contains_seed()` = size 2 and the flag word at the start of polynomial 1,
    `poly(i)` = the i-th block of `k·N` words -/
def ctvOfFull (lv : Level) (c : CtFull) : CtV :=
  let kn := lv.moduli.length * lv.n
  { pid := c.pid, size := c.size, ntt := c.ntt, scale := c.scale, cf := c.cf,
    seeded := (c.size == 2 && c.data.getD kn 0 == seedFlag), data := c.data,
    poly := fun i => (c.data.drop (i * kn)).take kn, comp := fun i j => (c.data.drop (i * kn + j * lv.n)).take lv.n,
    cms := lv.moduli.length, deg := lv.n }

theorem gc_sent_view (lv : Level) (c : CtFull) : fullSentV (ctvOfFull lv c) = fullSent lv c := by
  refine ite_congr rfl (fun h => ?_) fun _ => rfl
  -- a flag word at index `k·N` lies inside the data, so polynomial 0 has its full `k·N` words
  have hlt : lv.moduli.length * lv.n < c.data.length := by
    by_contra hge
    rw [List.getD_eq_getElem?_getD, List.getElem?_eq_none (by omega), Bool.and_eq_true] at h
    exact absurd h.2 (by decide)
  show ((c.data.drop (0 * (lv.moduli.length * lv.n))).take (lv.moduli.length * lv.n)).length + 1 + seedWords = _
  rw [Nat.zero_mul, List.drop_zero, List.length_take, Nat.min_eq_left (Nat.le_of_lt hlt)]

theorem gc_ct_serialize_full_view (st : WStream S E) (ctx : Ctx) (expand : List Nat → Level → List Nat) (c : CtFull) (lv : Level)
    (hfind : ctx.find c.pid = some lv) (hl : c.pid.length = 4)
    (hsch : lv.scheme = 1 ∨ lv.scheme = 2 ∨ lv.scheme = 3) (hle : fullSent lv c ≤ c.data.length) :
    ct_serialize_full st ctx (ctvOfFull lv c) = runChunks st ((ctFullC ctx expand).chunks c) :=
  gc_ct_serialize_full st ctx expand c lv _ hfind rfl hl rfl rfl rfl rfl rfl ⟨rfl, rfl⟩ hsch (gc_sent_view _ c) hle

/-- C14: on an in-memory stream the generated `Ciphertext::serialize_full` appends exactly `ctFullC.enc` and returns its length -/
theorem c14g_ct_serialize_full (ctx : Ctx) (expand : List Nat → Level → List Nat) (c : CtFull) (lv : Level)
    (hfind : ctx.find c.pid = some lv) (hl : c.pid.length = 4)
    (hsch : lv.scheme = 1 ∨ lv.scheme = 2 ∨ lv.scheme = 3) (hle : fullSent lv c ≤ c.data.length) (s : Bytes) :
    ct_serialize_full idealStream ctx (ctvOfFull lv c) s
      = (.ok ((ctFullC ctx expand).enc c).length, s ++ (ctFullC ctx expand).enc c) :=
  gs_ideal (ctFullC ctx expand) c _ (gc_ct_serialize_full_view idealStream ctx expand c lv hfind hl hsch hle) s

/-- C15: … and on every faulty sink: complete encoding with the right count, or the stream's error with a prefix (never a panic, never
    the writer's own `InvalidData`) -/
theorem c15g_ct_serialize_full_fails_cleanly (ctx : Ctx) (expand : List Nat → Level → List Nat) (c : CtFull) (lv : Level)
    (hfind : ctx.find c.pid = some lv) (hl : c.pid.length = 4)
    (hsch : lv.scheme = 1 ∨ lv.scheme = 2 ∨ lv.scheme = 3) (hle : fullSent lv c ≤ c.data.length) (s : Sink) :
    let w := ct_serialize_full sinkStream ctx (ctvOfFull lv c)
    (∀ n, (w s).1 = .ok n → n = ((ctFullC ctx expand).enc c).length ∧ (w s).2.out = s.out ++ (ctFullC ctx expand).enc c) ∧
    (∀ e, (w s).1 = .error e → (∃ io, e = .io io) ∧
      ∃ j, j ≤ ((ctFullC ctx expand).enc c).length ∧ (w s).2.out = s.out ++ ((ctFullC ctx expand).enc c).take j) :=
  gs_writer_clean (ctFullC ctx expand) c _ (gc_ct_serialize_full_view sinkStream ctx expand c lv hfind hl hsch hle) s

/-- the writer's refusals: unknown parms id = panic (`unwrap`) with nothing written; shape mismatch = `InvalidData` with NOTHING written; a scheme-`None` level = `InvalidData` AFTER parms id,
    size and NTT flag were written (41 bytes on an in-memory stream) -/
theorem c14g_ct_serialize_full_refusals (ctx : Ctx) (v : CtV) (s : Bytes) :
    (ctx.find v.pid = none → ct_serialize_full idealStream ctx v s = (.error .panic, s)) ∧
    (∀ lv, ctx.find v.pid = some lv → (v.cms ≠ lv.moduli.length ∨ v.deg ≠ lv.n) →
      ct_serialize_full idealStream ctx v s = (.error .invalid, s)) ∧
    (∀ lv, ctx.find v.pid = some lv → v.pid.length = 4 → v.cms = lv.moduli.length ∧ v.deg = lv.n → lv.scheme = 0 →
      ct_serialize_full idealStream ctx v s = (.error .invalid, s ++ (pidC.enc v.pid ++ (usizeC.enc v.size ++ boolC.enc v.ntt)))) := by
  refine ⟨fun h => ?_, fun lv hf h => ?_, fun lv hf hl hchk hs => ?_⟩
  · rw [gc_ct_serialize_full_unknown_pid idealStream ctx v h]; rfl
  · rw [gc_ct_serialize_full_shape_refused idealStream ctx lv v hf h]; rfl
  · rw [gc_ct_serialize_full_none idealStream ctx lv v hf hl hchk hs]
    simp only [wbind, runChunks_ideal, winvalid, flat_append]
    rfl

end HC.GS
