/-
  C20H: whole-matrix statements for the coefficient-packing (Cheetah) matrix product of `Model/Matmul.lean`, composed from the block
  theorems of C20B / C20F / C20G (helpers tagged `c20_`).

    encode inputs (`encodeInputs`), encode weights (`encodeWeights`), multiply every (batch block, input block) polynomial with the
    (input block, output block) polynomial in S[X]/(X^n + 1) and accumulate over the input blocks (`c20_mmEval`: what `matmul` does with
    `multiply_plain` + `add_inplace`), decode (`decodeOutputs`)   =   the plaintext matrix product,

  for EVERY shape and EVERY block triple with `b·i·o ≤ n` and positive blocks (in particular the triple the model's block search
  returns: `c20_cheetah_matmul_search`), in an ARBITRARY commutative ring S (S = ZMod t: the product modulo t).  Also the whole-matrix
  form of "outputs re-encoding is the inverse of outputs decoding" without LWE packing.

  What the statements are about.  The encoders, the decoders and the block searches are the model's (`Model/Matmul.lean`, compared
  with the code by the driver and the tie files GenApp*).  The multiply-accumulate step between them is NOT a function of the
  model: `c20_mmEval` (here) and `c20_cvEval` (C20I) are defined in the proof modules, on plaintext polynomials, with `negMulR` for
  `multiply_plain` and `+` for `add_inplace`; that a ciphertext operation acts on the plaintext in this way is the subject of
  C02 / C04, and no C20 theorem cites those.  Everything in C20 is at the level of plaintexts.  Of the model, no theorem speaks of:
  `packPlain` (`pack_outputs`: with LWE packing only the round trip `encodeOutputs` / `decodeOutputs` is proved, in C20J, and the
  whole-matrix product theorem has `h.pack = false`); `cvEncodeOutputs` and, apart from the tie in GenAppTerms2, `cvOutputTerms`
  (the convolution has no outputs round trip); `rnsSplit` / `rnsMerge` (C20D is about one value).
-/
import Heathcliff.Proofs.C20B
import Heathcliff.Proofs.C20C
import Heathcliff.Proofs.C20F
import Heathcliff.Proofs.C20G
import Mathlib.Data.ZMod.Basic
namespace HC
open Finset HC.MM

/-! ### reading the grid of block polynomials -/

theorem c20_blocks_eq {β : Type} (f : Nat → Nat → β) (t1 b1 t2 b2 : Nat) :
    ((blockStarts t1 b1).map fun li => (blockStarts t2 b2).map fun lj => f li lj)
      = (List.range (ceilDiv t1 b1)).map fun i => (List.range (ceilDiv t2 b2)).map fun j => f (i * b1) (j * b2) := by
  simp only [blockStarts, List.map_map]
  rfl

theorem c20_getPoly_grid {β : Type} (f : Nat → Nat → Array β) (A C d1 d2 : Nat) (h1 : d1 < A) (h2 : d2 < C) :
    getPoly ((List.range A).map fun i => (List.range C).map fun j => f i j) d1 d2 = .ok (f d1 d2) := by
  unfold getPoly
  rw [c20_range_map_getElem? _ _ _ h1]
  dsimp only
  rw [c20_range_map_getElem? _ _ _ h2]

/-! ### the encoders over all blocks -/

variable {S : Type}

/-- encoded input polynomial of the block starting at batch row `li`, input column `lj` -/
def c20_inBlk (zero : S) (h : Helper) (x : Nat → S) (li lj : Nat) : Array S :=
  c20_val #[] (encInputBlock h zero x li (min h.bs (li + h.bb)) lj (min h.id (lj + h.ib)))

/-- encoded weight polynomial of the block starting at input row `li`, output column `lk` -/
def c20_wBlk (zero : S) (h : Helper) (w : Nat → S) (li lk : Nat) : Array S :=
  c20_val #[] (encWeightSmall h zero w li (min h.id (li + h.ib)) lk (min h.od (lk + h.ob)))

/-- encoded output polynomial of the block starting at batch row `li`, output column `lk` -/
def c20_outBlk (zero : S) (h : Helper) (y : Nat → S) (li lk : Nat) : Array S :=
  c20_val #[] (encOutputBlock h zero y li (min h.bs (li + h.bb)) lk (min h.od (lk + h.ob)))

/-- `encode_inputs_*` over all blocks: total, `[batch block][input block]` -/
theorem c20_encodeInputs_ok (zero : S) (h : Helper) (x : Nat → S) (hbb : 0 < h.bb) (hib : 0 < h.ib) (hob : 0 < h.ob)
    (hfit : h.bb * h.ib * h.ob ≤ h.n) :
    encodeInputs h zero x (h.bs * h.id)
      = .ok ((blockStarts h.bs h.bb).map fun li => (blockStarts h.id h.ib).map fun lj => c20_inBlk zero h x li lj) := by
  unfold encodeInputs
  rw [if_neg (by simp), if_neg (by omega)]
  apply R.mapM_ok
  intro li _
  apply R.mapM_ok
  intro lj _
  obtain ⟨px, hpx, _⟩ := c20_encInput_spec zero h x hfit hob li (min h.bs (li + h.bb)) lj (min h.id (lj + h.ib))
    c20_blk_le c20_blk_le
  exact c20_val_ok #[] hpx

/-- `encode_weights_*` over all blocks: total (the `encode_polynomial` size check passes), `[input block][output block]` -/
theorem c20_encodeWeights_ok (zero : S) (h : Helper) (w : Nat → S) (hbb : 0 < h.bb) (hib : 0 < h.ib) (hob : 0 < h.ob)
    (hfit : h.bb * h.ib * h.ob ≤ h.n) :
    encodeWeights h zero w (h.id * h.od)
      = .ok ((blockStarts h.id h.ib).map fun li => (blockStarts h.od h.ob).map fun lk => c20_wBlk zero h w li lk) := by
  unfold encodeWeights
  rw [if_neg (by simp), if_neg (by omega)]
  apply R.mapM_ok
  intro li _
  apply R.mapM_ok
  intro lk _
  obtain ⟨pw, hpw, hsz, _⟩ := c20_encWeight_spec zero h w (c20_fitW hbb hfit) li (min h.id (li + h.ib)) lk (min h.od (lk + h.ob))
    c20_blk_le c20_blk_le
  have e : c20_wBlk zero h w li lk = pw := c20_val_eq #[] hpw
  rw [hpw, e]
  show (if pw.size > h.n then (Except.error Err.refused : R (Array S)) else pure pw) = .ok pw
  rw [if_neg (by rw [hsz]; have := c20_fitW hbb hfit; omega)]
  rfl

theorem c20_blocks_getD {β : Type} (f : Nat → Nat → β) (t1 b1 t2 b2 i j : Nat) (d : β)
    (hi : i < ceilDiv t1 b1) (hj : j < ceilDiv t2 b2) :
    ((((blockStarts t1 b1).map fun li => (blockStarts t2 b2).map fun lj => f li lj).getD i []).getD j d) = f (i * b1) (j * b2) := by
  rw [c20_blocks_eq, list_getD_range_map _ _ hi, list_getD_range_map _ _ hj]

/-! ### decoding over all blocks -/

/-- the index map of `decrypt_outputs_*` in BOTH packing modes (the polynomial looked up and the position read are the model's own
    expressions), for ANY family of decoded polynomials that carries the value `F row col` at the read position of every entry: the
    result is the `bs × od` matrix `F`, row major -/
theorem c20_decodeOutputs_gen (zero : S) (h : Helper) (bufs : List (List (Array S))) (F : Nat → Nat → S)
    (hbb : 0 < h.bb) (hob : 0 < h.ob)
    (hbufs : ∀ d1 d2, d1 < ceilDiv h.bs h.bb → d2 < ceilDiv h.od h.ob → ∃ buf,
      (if !h.pack then getPoly bufs d1 d2
       else (if h.ib = 0 then .error .other else getPoly bufs 0 ((d1 * ceilDiv h.od h.ob + d2) / h.ib))) = .ok buf ∧
      ∀ p1 p2, p1 < min h.bs (d1 * h.bb + h.bb) - d1 * h.bb → p2 < min h.od (d2 * h.ob + h.ob) - d2 * h.ob →
        readAt buf (if !h.pack then outPos h p1 p2 else outPosPacked h p1 p2 ((d1 * ceilDiv h.od h.ob + d2) % h.ib))
          = .ok (F (d1 * h.bb + p1) (d2 * h.ob + p2))) :
    ∃ Y, decodeOutputs h zero bufs = .ok Y ∧ Y.size = h.bs * h.od ∧
      ∀ row col, row < h.bs → col < h.od → Y.getD (row * h.od + col) zero = F row col := by
  -- the list of writes, in program order
  let ws : List (List (Nat × S)) := (pairs (ceilDiv h.bs h.bb) (ceilDiv h.od h.ob)).map fun d =>
    (pairs (min h.bs (d.1 * h.bb + h.bb) - d.1 * h.bb) (min h.od (d.2 * h.ob + h.ob) - d.2 * h.ob)).map fun p =>
      ((d.1 * h.bb + p.1) * h.od + (d.2 * h.ob + p.2), F (d.1 * h.bb + p.1) (d.2 * h.ob + p.2))
  have hmem : ∀ pv, pv ∈ ws.flatten ↔ ∃ d ∈ pairs (ceilDiv h.bs h.bb) (ceilDiv h.od h.ob),
      ∃ p ∈ pairs (min h.bs (d.1 * h.bb + h.bb) - d.1 * h.bb) (min h.od (d.2 * h.ob + h.ob) - d.2 * h.ob),
        pv = ((d.1 * h.bb + p.1) * h.od + (d.2 * h.ob + p.2), F (d.1 * h.bb + p.1) (d.2 * h.ob + p.2)) := by
    intro pv
    simp only [ws, List.mem_flatten, List.mem_map]
    constructor
    · rintro ⟨l, ⟨d, hd, rfl⟩, hpv⟩
      obtain ⟨p, hp, rfl⟩ := List.mem_map.mp hpv
      exact ⟨d, hd, p, hp, rfl⟩
    · rintro ⟨d, hd, p, hp, rfl⟩
      exact ⟨_, ⟨d, hd, rfl⟩, List.mem_map.mpr ⟨p, hp, rfl⟩⟩
  -- the loop nest for ANY way `look` of finding the polynomial of a block and ANY position map `pos`: the two packing modes are two cases
  have hnest : ∀ (look : Nat → Nat → R (Array S)) (pos : Nat → Nat → Nat → Nat → Nat),
      (∀ d1 d2, d1 < ceilDiv h.bs h.bb → d2 < ceilDiv h.od h.ob → ∃ buf, look d1 d2 = .ok buf ∧
        ∀ p1 p2, p1 < min h.bs (d1 * h.bb + h.bb) - d1 * h.bb → p2 < min h.od (d2 * h.ob + h.ob) - d2 * h.ob →
          readAt buf (pos d1 d2 p1 p2) = .ok (F (d1 * h.bb + p1) (d2 * h.ob + p2))) →
      (pairs (ceilDiv h.bs h.bb) (ceilDiv h.od h.ob)).mapM (fun (d : Nat × Nat) => do
          let buf ← look d.1 d.2
          (pairs (min h.bs (d.1 * h.bb + h.bb) - d.1 * h.bb) (min h.od (d.2 * h.ob + h.ob) - d.2 * h.ob)).mapM fun (p : Nat × Nat) => do
            let v ← readAt buf (pos d.1 d.2 p.1 p.2)
            (pure ((d.1 * h.bb + p.1) * h.od + (d.2 * h.ob + p.2), v) : R (Nat × S))) = .ok ws := by
    intro look pos hl
    refine R.mapM_ok _ _ _ fun d hd => ?_
    obtain ⟨hd1, hd2⟩ := c20_mem_pairs.mp hd
    obtain ⟨buf, hbuf, hread⟩ := hl d.1 d.2 hd1 hd2
    rw [hbuf]
    refine R.mapM_ok _ _ _ fun p hp => ?_
    obtain ⟨hp1, hp2⟩ := c20_mem_pairs.mp hp
    rw [hread p.1 p.2 hp1 hp2]
    rfl
  have hrun : decodeOutputs h zero bufs = scatterA zero (h.bs * h.od) (h.bs * h.od) ws.flatten := by
    unfold decodeOutputs
    rw [if_neg (by omega)]
    cases hpk : h.pack with
    | false =>
      simp only [hpk, Bool.not_false, if_true] at hbufs ⊢
      rw [hnest (fun d1 d2 => getPoly bufs d1 d2) (fun _ _ p1 p2 => outPos h p1 p2) hbufs]
      rfl
    | true =>
      simp only [hpk, Bool.not_true, Bool.false_eq_true, if_false] at hbufs ⊢
      rw [hnest (fun d1 d2 => if h.ib = 0 then .error .other else getPoly bufs 0 ((d1 * ceilDiv h.od h.ob + d2) / h.ib))
        (fun d1 d2 p1 p2 => outPosPacked h p1 p2 ((d1 * ceilDiv h.od h.ob + d2) % h.ib)) hbufs]
      rfl
  rw [hrun]
  refine c20_scatter_matrix zero h.bs h.od _ F (fun pv hpv => ?_) fun row col hrow hcol => ?_
  · obtain ⟨d, _, p, hp, rfl⟩ := (hmem pv).mp hpv
    obtain ⟨hp1, hp2⟩ := c20_mem_pairs.mp hp
    exact ⟨_, _, c20_blk_lt hp1, c20_blk_lt hp2, rfl⟩
  · rw [hmem]
    refine ⟨(row / h.bb, col / h.ob), c20_mem_pairs.mpr ⟨c20_div_lt_ceilDiv hbb hrow, c20_div_lt_ceilDiv hob hcol⟩,
      (row % h.bb, col % h.ob), c20_mem_pairs.mpr ⟨c20_mod_in_blk hbb hrow, c20_mod_in_blk hob hcol⟩, ?_⟩
    show _ = ((row / h.bb * h.bb + row % h.bb) * h.od + (col / h.ob * h.ob + col % h.ob),
      F (row / h.bb * h.bb + row % h.bb) (col / h.ob * h.ob + col % h.ob))
    rw [Nat.div_add_mod', Nat.div_add_mod']

/-- ... without LWE packing -/
theorem c20_decodeOutputs_spec (zero : S) (h : Helper) (bufs : List (List (Array S))) (F : Nat → Nat → S)
    (hbb : 0 < h.bb) (hob : 0 < h.ob) (hpack : h.pack = false)
    (hbufs : ∀ d1 d2, d1 < ceilDiv h.bs h.bb → d2 < ceilDiv h.od h.ob → ∃ buf, getPoly bufs d1 d2 = .ok buf ∧
      ∀ p1 p2, p1 < min h.bs (d1 * h.bb + h.bb) - d1 * h.bb → p2 < min h.od (d2 * h.ob + h.ob) - d2 * h.ob →
        readAt buf (outPos h p1 p2) = .ok (F (d1 * h.bb + p1) (d2 * h.ob + p2))) :
    ∃ Y, decodeOutputs h zero bufs = .ok Y ∧ Y.size = h.bs * h.od ∧
      ∀ row col, row < h.bs → col < h.od → Y.getD (row * h.od + col) zero = F row col := by
  apply c20_decodeOutputs_gen zero h bufs F hbb hob
  intro d1 d2 hd1 hd2
  obtain ⟨buf, hbuf, hread⟩ := hbufs d1 d2 hd1 hd2
  refine ⟨buf, by simp only [hpack, Bool.not_false, if_true]; exact hbuf, fun p1 p2 hp1 hp2 => ?_⟩
  simp only [hpack, Bool.not_false, if_true]
  exact hread p1 p2 hp1 hp2

/-- ... with LWE packing: output block `c = d1·obc + d2` lives in packed polynomial `c / ib` at slot offset `c mod ib` -/
theorem c20_decodeOutputs_spec_packed (zero : S) (h : Helper) (bufs : List (List (Array S))) (F : Nat → Nat → S)
    (hbb : 0 < h.bb) (hib : 0 < h.ib) (hob : 0 < h.ob) (hpack : h.pack = true)
    (hbufs : ∀ d1 d2, d1 < ceilDiv h.bs h.bb → d2 < ceilDiv h.od h.ob → ∃ buf,
      getPoly bufs 0 ((d1 * ceilDiv h.od h.ob + d2) / h.ib) = .ok buf ∧
      ∀ p1 p2, p1 < min h.bs (d1 * h.bb + h.bb) - d1 * h.bb → p2 < min h.od (d2 * h.ob + h.ob) - d2 * h.ob →
        readAt buf (outPosPacked h p1 p2 ((d1 * ceilDiv h.od h.ob + d2) % h.ib)) = .ok (F (d1 * h.bb + p1) (d2 * h.ob + p2))) :
    ∃ Y, decodeOutputs h zero bufs = .ok Y ∧ Y.size = h.bs * h.od ∧
      ∀ row col, row < h.bs → col < h.od → Y.getD (row * h.od + col) zero = F row col := by
  apply c20_decodeOutputs_gen zero h bufs F hbb hob
  intro d1 d2 hd1 hd2
  obtain ⟨buf, hbuf, hread⟩ := hbufs d1 d2 hd1 hd2
  refine ⟨buf, by simp only [hpack, Bool.not_true, Bool.false_eq_true, if_false]; rw [if_neg (by omega)]; exact hbuf,
    fun p1 p2 hp1 hp2 => ?_⟩
  simp only [hpack, Bool.not_true, Bool.false_eq_true, if_false]
  exact hread p1 p2 hp1 hp2

/-! ### the plaintext-level evaluation and the whole-matrix theorem -/

/-- what `matmul` computes at plaintext level: output polynomial `[batch block bi][output block oi]` is
    `Σ_ii X[bi][ii] ⋆ W[ii][oi]` in S[X]/(X^n + 1) (`multiply_plain` for each input block, accumulated with `add_inplace`) -/
def c20_mmEvalPoly [CommRing S] (h : Helper) (X W : List (List (Array S))) (bi oi : Nat) : Array S :=
  Array.ofFn (n := h.n) fun p => ∑ ii ∈ range (ceilDiv h.id h.ib),
    negMulR h.n (fun q => ((X.getD bi []).getD ii #[]).getD q 0) (fun q => ((W.getD ii []).getD oi #[]).getD q 0) p.val

def c20_mmEval [CommRing S] (h : Helper) (X W : List (List (Array S))) : List (List (Array S)) :=
  (List.range (ceilDiv h.bs h.bb)).map fun bi => (List.range (ceilDiv h.od h.ob)).map fun oi => c20_mmEvalPoly h X W bi oi

/-- **Cheetah matrix product, whole matrix** (any commutative ring, all shapes, all positive block triples with `b·i·o ≤ n`):
    encoding the inputs and the weights with the model's encoders, multiplying and accumulating over the input blocks in
    S[X]/(X^n + 1), and decoding with the model's decoder returns the plaintext matrix product `x · w` (row major `bs × od`). -/
theorem c20_cheetah_matmul_whole [CommRing S] (h : Helper) (x w : Nat → S) (hbb : 0 < h.bb) (hib : 0 < h.ib) (hob : 0 < h.ob)
    (hfit : h.bb * h.ib * h.ob ≤ h.n) (hpack : h.pack = false) :
    ∃ X W Y, encodeInputs h 0 x (h.bs * h.id) = .ok X ∧ encodeWeights h 0 w (h.id * h.od) = .ok W ∧
      decodeOutputs h 0 (c20_mmEval h X W) = .ok Y ∧ Y.size = h.bs * h.od ∧
      ∀ row col, row < h.bs → col < h.od →
        Y.getD (row * h.od + col) 0 = ∑ j ∈ range h.id, x (row * h.id + j) * w (j * h.od + col) := by
  obtain ⟨Y, hY, hsz, hval⟩ := c20_decodeOutputs_spec (0 : S) h
    (c20_mmEval h ((blockStarts h.bs h.bb).map fun li => (blockStarts h.id h.ib).map fun lj => c20_inBlk 0 h x li lj)
      ((blockStarts h.id h.ib).map fun li => (blockStarts h.od h.ob).map fun lk => c20_wBlk 0 h w li lk))
    (fun row col => ∑ j ∈ range h.id, x (row * h.id + j) * w (j * h.od + col)) hbb hob hpack
    (by
      intro d1 d2 hd1 hd2
      unfold c20_mmEval
      refine ⟨_, c20_getPoly_grid _ _ _ _ _ hd1 hd2, ?_⟩
      · intro p1 p2 hp1 hp2
        have hlt : outPos h p1 p2 < h.n := c20_outPos_lt hib hfit (lt_of_lt_of_le hp1 c20_blk_le) (lt_of_lt_of_le hp2 c20_blk_le)
        unfold c20_mmEvalPoly
        rw [c20_readAt_getD 0 _ (by simpa using hlt), array_getD_ofFn _ _ hlt]
        congr 1
        rw [← c20_sum_blocks (fun j => x ((d1 * h.bb + p1) * h.id + j) * w (j * h.od + (d2 * h.ob + p2))) h.ib h.id hib]
        apply Finset.sum_congr rfl
        intro ii hii
        have hii' : ii < ceilDiv h.id h.ib := Finset.mem_range.mp hii
        obtain ⟨px, pw, hpx, hpw, heq⟩ := c20_cheetah_coeff h x w hfit (d1 * h.bb) (min h.bs (d1 * h.bb + h.bb)) (ii * h.ib)
          (min h.id (ii * h.ib + h.ib)) (d2 * h.ob) (min h.od (d2 * h.ob + h.ob)) c20_blk_le c20_blk_le c20_blk_le p1 p2 hp1 hp2
        rw [c20_blocks_getD _ _ _ _ _ _ _ _ hd1 hii', c20_blocks_getD _ _ _ _ _ _ _ _ hii' hd2]
        have e1 : c20_inBlk 0 h x (d1 * h.bb) (ii * h.ib) = px := c20_val_eq #[] hpx
        have e2 : c20_wBlk 0 h w (ii * h.ib) (d2 * h.ob) = pw := c20_val_eq #[] hpw
        rw [e1, e2]
        exact heq)
  exact ⟨_, _, Y, c20_encodeInputs_ok 0 h x hbb hib hob hfit, c20_encodeWeights_ok 0 h w hbb hib hob hfit, hY, hsz, hval⟩

/-- **... for the blocks the model's search returns**: every admissible shape (positive dimensions below 2^20, `N ≥ 2`), every
    objective: `Helper.new` succeeds and the pipeline computes the matrix product -/
theorem c20_cheetah_matmul_search [CommRing S] (bs id od N : Nat) (obj : Objective) (hN : 2 ≤ N) (hbs : 1 ≤ bs) (hid : 1 ≤ id)
    (hodd : 1 ≤ od) (hsz : bs < 2^20 ∧ id < 2^20 ∧ od < 2^20) (x w : Nat → S) :
    ∃ h X W Y, Helper.new bs id od N obj false = .ok h ∧ encodeInputs h 0 x (bs * id) = .ok X ∧
      encodeWeights h 0 w (id * od) = .ok W ∧ decodeOutputs h 0 (c20_mmEval h X W) = .ok Y ∧ Y.size = bs * od ∧
      ∀ row col, row < bs → col < od → Y.getD (row * od + col) 0 = ∑ j ∈ range id, x (row * id + j) * w (j * od + col) := by
  obtain ⟨b1, _, i1, _, o1, _, hfit⟩ := c20_mmSearch_sound N bs id od obj hN hbs hid hodd hsz
  have hnew : Helper.new bs id od N obj false
      = .ok ⟨bs, id, od, (mmSearch N bs id od obj).b, (mmSearch N bs id od obj).i, (mmSearch N bs id od obj).o, N, false⟩ :=
    c20_helperNew_eq obj false hbs hid hodd (by omega)
  obtain ⟨X, W, Y, hX, hW, hY, hs, hv⟩ := c20_cheetah_matmul_whole
    (⟨bs, id, od, (mmSearch N bs id od obj).b, (mmSearch N bs id od obj).i, (mmSearch N bs id od obj).o, N, false⟩ : Helper)
    x w b1 i1 o1 hfit rfl
  exact ⟨_, X, W, Y, hnew, hX, hW, hY, hs, hv⟩

/-- **modulo t**: the same over `ZMod t` — for integer matrices reduced modulo the plain modulus, the decoded result is the matrix
    product modulo t -/
theorem c20_cheetah_matmul_mod_t (t : Nat) (bs id od N : Nat) (obj : Objective) (hN : 2 ≤ N) (hbs : 1 ≤ bs) (hid : 1 ≤ id)
    (hodd : 1 ≤ od) (hsz : bs < 2^20 ∧ id < 2^20 ∧ od < 2^20) (x w : Nat → Int) :
    ∃ h X W Y, Helper.new bs id od N obj false = .ok h ∧
      encodeInputs h (0 : ZMod t) (fun k => (x k : ZMod t)) (bs * id) = .ok X ∧
      encodeWeights h (0 : ZMod t) (fun k => (w k : ZMod t)) (id * od) = .ok W ∧
      decodeOutputs h 0 (c20_mmEval h X W) = .ok Y ∧
      ∀ row col, row < bs → col < od →
        Y.getD (row * od + col) 0 = ((∑ j ∈ range id, x (row * id + j) * w (j * od + col) : Int) : ZMod t) := by
  obtain ⟨h, X, W, Y, h1, h2, h3, h4, _, h6⟩ := c20_cheetah_matmul_search (S := ZMod t) bs id od N obj hN hbs hid hodd hsz
    (fun k => (x k : ZMod t)) (fun k => (w k : ZMod t))
  refine ⟨h, X, W, Y, h1, h2, h3, h4, fun row col hr hc => ?_⟩
  rw [h6 row col hr hc]
  push_cast
  rfl

/-! ### outputs re-encoding / decoding over the whole matrix (no LWE packing) -/

/-- `encode_outputs_*` over all blocks without LWE packing: total, `[batch block][output block]` -/
theorem c20_encodeOutputs_ok (zero : S) (h : Helper) (y : Nat → S) (hbb : 0 < h.bb) (hib : 0 < h.ib) (hob : 0 < h.ob)
    (hfit : h.bb * h.ib * h.ob ≤ h.n) (hpack : h.pack = false) :
    encodeOutputs h zero y (h.bs * h.od)
      = .ok ((blockStarts h.bs h.bb).map fun li => (blockStarts h.od h.ob).map fun lk => c20_outBlk zero h y li lk) := by
  unfold encodeOutputs
  rw [if_neg (by simp), if_neg (by omega)]
  simp only [hpack, Bool.not_false, if_true]
  apply R.mapM_ok
  intro li _
  apply R.mapM_ok
  intro lk _
  obtain ⟨p, hp, _⟩ := c20_encOutput_spec zero h y hfit hib li (min h.bs (li + h.bb)) lk (min h.od (lk + h.ob))
    c20_blk_le c20_blk_le
  exact c20_val_ok #[] hp

/-- **outputs: decode ∘ encode = id over the whole matrix** (no LWE packing; every shape, every positive block triple with
    `b·i·o ≤ n`, any coefficient type); C20J has the same with LWE packing -/
theorem c20_outputs_encode_decode (zero : S) (h : Helper) (y : Nat → S) (hbb : 0 < h.bb) (hib : 0 < h.ib) (hob : 0 < h.ob)
    (hfit : h.bb * h.ib * h.ob ≤ h.n) (hpack : h.pack = false) :
    ∃ polys dec, encodeOutputs h zero y (h.bs * h.od) = .ok polys ∧ decodeOutputs h zero polys = .ok dec ∧
      dec.size = h.bs * h.od ∧ ∀ k, k < h.bs * h.od → dec.getD k zero = y k := by
  obtain ⟨Y, hY, hsz, hval⟩ := c20_decodeOutputs_spec zero h
    ((blockStarts h.bs h.bb).map fun li => (blockStarts h.od h.ob).map fun lk => c20_outBlk zero h y li lk)
    (fun row col => y (row * h.od + col)) hbb hob hpack
    (by
      intro d1 d2 hd1 hd2
      obtain ⟨p, hp, _, _, hread⟩ := c20_encOutput_spec zero h y hfit hib (d1 * h.bb) (min h.bs (d1 * h.bb + h.bb)) (d2 * h.ob)
        (min h.od (d2 * h.ob + h.ob)) c20_blk_le c20_blk_le
      have e : c20_outBlk zero h y (d1 * h.bb) (d2 * h.ob) = p := c20_val_eq #[] hp
      refine ⟨p, ?_, fun p1 p2 hp1 hp2 => hread p1 p2 hp1 hp2⟩
      rw [c20_blocks_eq, c20_getPoly_grid _ _ _ _ _ hd1 hd2, e])
  exact ⟨_, Y, c20_encodeOutputs_ok zero h y hbb hib hob hfit hpack, hY, hsz, c20_flat_of_grid hval⟩

end HC
