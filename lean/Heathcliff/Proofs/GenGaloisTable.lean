import Heathcliff.Gen.GaloisFns
import Heathcliff.Gen.GaloisPlanFns
import Heathcliff.Model.Galois
import Heathcliff.Proofs.GenGaloisElts
import Heathcliff.Proofs.GenLoop
import Heathcliff.Proofs.C04M

/-!
  Translator tie for the NTT-form Galois action of src/util/galois.rs / src/util/basic.rs: `reverse_bits_u32` (Gen/WordFns.lean) = `brev`
  (`gy_`); `GaloisTool::generate_table_ntt` (Gen/GaloisFns.lean) = `galoisTableNtt` of Model/Galois.lean (`gq_`); the tail of
  `GaloisTool::apply_ntt`, the generated permutation loop `GenGal.galois_apply_ntt_permute` (Gen/GaloisPlanFns.lean; `result[i] =
  operand[table[i]]` after `assert_eq!(result.len(), coeff_count)`) = `galoisApplyNtt`, whatever the initial contents of the result
  buffer (`gp_`).
  The tags `gy_`, `gq_`, `gp_` say in which run of the translator a function was generated, nothing else (`gp_` is otherwise GenPoly's, `gq_`
  GenUint's, `gy_` GenGaloisApply's: other functions).  `4294967296` = 2^32 is the `as u32` of the generated text.
-/
namespace HC

section
open HC.GenG

theorem gy_revBits_eq_brev : ∀ k x, GenW.revBits k x = brev k x := by
  intro k; induction k with
  | zero => intro x; rfl
  | succ k ih => intro x; rw [GenW.revBits, brev, ih]

theorem gy_brev_add (k j x : Nat) (hx : x < 2^k) : brev (k + j) x = brev k x * 2^j := by
  have h := brev_split j k 0 x hx
  rwa [Nat.zero_mul, Nat.zero_add, brev_zero_right, Nat.add_zero, Nat.add_comm] at h

theorem gy_reverse_bits_u32_eq (x bc : Nat) (hbc : bc ≤ 32) (hx : x < 2^bc) :
    GenW.reverse_bits_u32 x bc = .ok (brev bc x) := by
  unfold GenW.reverse_bits_u32
  by_cases h0 : bc = 0
  · subst h0; rw [if_pos rfl]; rfl
  · rw [if_neg h0]
    rw [ckSub_of_le hbc, R.ok_bind', GenW.ckShr_ok (by omega), gy_revBits_eq_brev]
    have := gy_brev_add bc (32 - bc) x hx
    rw [show bc + (32 - bc) = 32 by omega] at this
    rw [this, Nat.shiftRight_eq_div_pow, Nat.mul_div_cancel _ (Nat.two_pow_pos _)]

/-- entry `j` of the permutation table, as a function -/
def gq_entry (k g j : Nat) : Nat := brev k (((g * brev (k+1) (j + 2^k)) / 2) % 2^k)

/-- a `set`-fold keeps the length -/
theorem gq_fold_set_length (f : Nat → Nat) : ∀ (l : List Nat) (res : List Nat),
    (l.foldl (fun r i => r.set i (f i)) res).length = res.length := by
  intro l
  induction l with
  | nil => intro res; rfl
  | cons a tl ih => intro res; rw [List.foldl_cons, ih, List.length_set]

/-- a loop `for j in 0..n { res[j] = f j }`, given by its unfolding equations, is the `List.set` fold over the positions left.
    The `set`-fold is the form in which `gq_table_loop_eq` (and Props/C04 after it) states the table loop for a cursor in the middle;
    `gq_fold_set_all` brings the whole run to `List.ofFn`.  (`Loop.write_all` of GenLoop gives the whole run as a `map` at once, not the middle.) -/
theorem gq_fill_loop {loop : Nat → Nat → List Nat → R (List Nat)} {f : Nat → Nat} {n : Nat}
    (h0 : ∀ j r, loop 0 j r = .ok r)
    (hs : ∀ c j r, r.length = n → j < n → loop (c + 1) j r = loop c (j + 1) (r.set j (f j)))
    (cnt j : Nat) (res : List Nat) (hj : j + cnt = n) (hres : res.length = n) :
      loop cnt j res = .ok ((List.range' j cnt).foldl (fun r i => r.set i (f i)) res) :=
  (Loop.fold loop id (fun r i => r.set i (f i)) (fun _ r => r.length = n) cnt j res hres fun m i r _ _ hr =>
    ⟨hs m i r hr (by omega), by rw [List.length_set]; exact hr⟩).trans (h0 _ _)

theorem gq_fold_set_fill (f : Nat → Nat) : ∀ (post pre : List Nat),
    (List.range' pre.length post.length).foldl (fun r i => r.set i (f i)) (pre ++ post) = pre ++ (List.range' pre.length post.length).map f
  | [], _ => rfl
  | x :: post, pre => by
    have e := gq_fold_set_fill f post (pre ++ [f pre.length])
    rw [List.length_append, List.length_singleton, List.append_assoc, List.singleton_append] at e
    rw [List.length_cons, List.range'_succ, List.foldl_cons, List.set_append_right _ _ (Nat.le_refl _), Nat.sub_self,
      List.set_cons_zero, e, List.map_cons, List.append_assoc, List.singleton_append]

theorem gq_fold_set_all (f : Nat → Nat) (n : Nat) (res : List Nat) (hres : res.length = n) :
    (List.range' 0 n).foldl (fun r i => r.set i (f i)) res = List.ofFn (n := n) (fun i => f i.val) := by
  have e := gq_fold_set_fill f res []
  rw [List.length_nil, hres] at e
  rw [show res = [] ++ res from rfl, e]
  apply List.ext_getElem (by simp)
  intro i h1 h2
  simp

/-- one iteration of the loop up to the write `result[i - coeff_count] = ..`, in front of the rest `c` of the body -/
theorem gq_entry_bind {β : Type} (k g j : Nat) (hk : k ≤ 31) (hg : g * (2^(k+1) - 1) < 2^64) (hj : j < 2^k) (c : Nat → Nat → R β) :
    (do let t1 ← ckAdd k 1
        let v5 ← GenW.reverse_bits_u32 ((2^k + j) % 4294967296) t1
        let t2 ← ckMul g v5
        let v6 := (t2 >>> 1) &&& (2^k - 1)
        let t3 ← GenW.reverse_bits_u32 (v6 % 4294967296) k
        let t4 ← ckSub (2^k + j) (2^k)
        c t4 t3) = c j (gq_entry k g j) := by
  have hpk : (2:Nat)^k ≤ 2^31 := Nat.pow_le_pow_right (by omega) hk
  have hpk1 : (2:Nat)^(k+1) = 2 * 2^k := by rw [Nat.pow_succ]; omega
  have hb1 := brev_lt (k+1) (j + 2^k)
  have hlt : (g * brev (k+1) (j + 2^k)) / 2 % 2^k < 2^k := Nat.mod_lt _ (Nat.two_pow_pos _)
  have hmul : g * brev (k+1) (j + 2^k) ≤ g * (2^(k+1) - 1) := Nat.mul_le_mul_left _ (by omega)
  rw [Nat.add_comm (2^k) j]
  simp only [ckAdd_ok (show k + 1 < 2^64 by omega), Nat.mod_eq_of_lt (show j + 2^k < 4294967296 by omega),
    gy_reverse_bits_u32_eq (j + 2^k) (k + 1) (by omega) (by omega), ckMul_ok (Nat.lt_of_le_of_lt hmul hg),
    Nat.shiftRight_eq_div_pow, Nat.pow_one, Nat.and_two_pow_sub_one_eq_mod,
    Nat.mod_eq_of_lt (show g * brev (k+1) (j + 2^k) / 2 % 2^k < 4294967296 by omega), gy_reverse_bits_u32_eq _ k (by omega) hlt,
    ckSub_of_le (Nat.le_add_left (2^k) j), Nat.add_sub_cancel, R.ok_bind']
  rfl

theorem gq_table_loop_eq (k g : Nat) (hk : k ≤ 31) (hg : g * (2^(k+1) - 1) < 2^64) :
    ∀ cnt j res, j + cnt = 2^k → res.length = 2^k →
    GenG.generate_table_ntt_loop1 g (2^k) (2^k - 1) k cnt (2^k + j) res =
      .ok ((List.range' j cnt).foldl (fun r i => r.set i (gq_entry k g i)) res) :=
  gq_fill_loop (loop := fun c j r => GenG.generate_table_ntt_loop1 g (2^k) (2^k - 1) k c (2^k + j) r) (fun _ _ => rfl)
    (fun c j r hr hj => by
      show GenG.generate_table_ntt_loop1 g (2^k) (2^k - 1) k (c + 1) (2^k + j) r = _
      rw [GenG.generate_table_ntt_loop1, gq_entry_bind k g j hk hg hj,
        GenW.setIdx_ok r _ (hr ▸ hj)]; rfl)

/-- `GaloisTool::generate_table_ntt` (generated; tool fields `coeff_count = 2^k`, `coeff_count_power = k`) = `galoisTableNtt k g`.
    `k ≤ 31`: `reverse_bits_u32(_, k + 1)` computes `32 - (k + 1)` with overflow checks and `i as u32` must not truncate `i < 2^(k+1)`;
    `g·(2^(k+1) − 1) < 2^64`: `galois_elt as u64 * reversed as u64` is overflow-checked and `reversed` reaches `2^(k+1) − 1` at the
    last index. -/
theorem gq_generate_table_ntt_eq (k g : Nat) (hk : k ≤ 31) (hg : g * (2^(k+1) - 1) < 2^64) :
    GenG.generate_table_ntt g (2^k) k = .ok (galoisTableNtt k g).toList := by
  have hpk : (2:Nat)^k ≤ 2^31 := Nat.pow_le_pow_right (by omega) hk
  have hfuel : ((2^k <<< 1) % B64) - 2^k = 2^k := by
    rw [Nat.shiftLeft_eq, Nat.pow_one, B64_eq, Nat.mod_eq_of_lt (by omega)]; omega
  unfold GenG.generate_table_ntt
  simp only [ckSub_of_le (Nat.one_le_two_pow : 1 ≤ 2^k), R.ok_bind', hfuel]
  refine (gq_table_loop_eq k g hk hg (2^k) 0 _ (Nat.zero_add _) (List.length_replicate ..)).trans ?_
  rw [gq_fold_set_all _ _ _ (List.length_replicate ..), galoisTableNtt, Array.toList_ofFn]
  rfl

/-- the hypothesis on `g` at the library's parameters: Galois elements are `< 2N = 2^(k+1)` and `k ≤ 17` -/
theorem gq_generate_table_ntt_eq_lib (k g : Nat) (hk : k ≤ 31) (hg : g < 2^(k+1)) :
    GenG.generate_table_ntt g (2^k) k = .ok (galoisTableNtt k g).toList := by
  apply gq_generate_table_ntt_eq k g hk
  have h1 : (2:Nat)^(k+1) ≤ 2^32 := Nat.pow_le_pow_right (by omega) (by omega)
  have h2 : g * (2^(k+1) - 1) < 2^(k+1) * 2^(k+1) := by
    have : 0 < (2:Nat)^(k+1) := Nat.two_pow_pos _
    calc g * (2^(k+1) - 1) ≤ g * 2^(k+1) := Nat.mul_le_mul_left _ (by omega)
      _ < 2^(k+1) * 2^(k+1) := Nat.mul_lt_mul_of_pos_right hg this
  have h3 : (2:Nat)^(k+1) * 2^(k+1) ≤ 2^32 * 2^32 := Nat.mul_le_mul h1 h1
  omega

/-- the hypotheses are satisfiable and the statement is not vacuous: N = 8, g = 3 -/
example : GenG.generate_table_ntt 3 (2^3) 3 = .ok (galoisTableNtt 3 3).toList :=
  gq_generate_table_ntt_eq 3 3 (by decide) (by decide)

end

/-- the generated permutation on a table of length `n` whose entries index into the operand (otherwise `operand[t]` panics),
    whatever the initial contents of the result buffer -/
theorem gp_permute_eq_map (a0 tab res : List Nat) (n : Nat) (htab : tab.length = n) (hres : res.length = n)
    (hrange : ∀ j, j < n → tab.getD j 0 < a0.length) :
    GenGal.galois_apply_ntt_permute a0 tab res n = .ok (tab.map (fun t => a0.getD t 0)) := by
  have e := gq_fill_loop (loop := GenGal.galois_apply_ntt_permute_loop1 a0 tab) (f := fun j => a0.getD (tab.getD j 0) 0) (n := n)
    (fun _ _ => rfl) (fun c j r hr hj => by
      rw [GenGal.galois_apply_ntt_permute_loop1]
      simp only [GenW.idx_getD tab (htab ▸ hj), GenW.idx_getD a0 (hrange j hj), R.ok_bind',
        GenW.setIdx_ok r _ (hr ▸ hj)])
    n 0 res (Nat.zero_add n) hres
  unfold GenGal.galois_apply_ntt_permute
  rw [if_pos hres, hres, htab, Nat.min_self, e, gq_fold_set_all _ n res hres]
  refine congrArg _ (List.ext_getElem (by simp [htab]) ?_)
  intro i _ h2
  simp [List.getD_eq_getElem?_getD, List.getElem?_eq_getElem (show i < tab.length by simpa using h2)]

theorem gp_table_length (k g : Nat) : (galoisTableNtt k g).toList.length = 2^k := by
  unfold galoisTableNtt; simp

/-- tail of `GaloisTool::apply_ntt` (generated; tool field `coeff_count = 2^k`, `table` = the permutation table of the odd
    element `g`) = `galoisApplyNtt` of the hand model, for ANY initial contents of the result buffer of length `2^k`.
    `2^k ≤ operand.len()`: the table entries range over `0 .. 2^k`, and `operand[t]` panics beyond the operand. -/
theorem gp_apply_ntt_permute_eq (k g : Nat) (hg : g % 2 = 1) (a res : List Nat) (ha : 2^k ≤ a.length)
    (hres : res.length = 2^k) :
    GenGal.galois_apply_ntt_permute a (galoisTableNtt k g).toList res (2^k) = .ok (galoisApplyNtt k a.toArray g).toList := by
  have hrange : ∀ j, j < 2^k → (galoisTableNtt k g).toList.getD j 0 < a.length := by
    intro j hj
    have h := (galoisTable_spec (k := k) (g := g) (i := j) hg hj).2
    have he : (galoisTableNtt k g).toList.getD j 0 = (galoisTableNtt k g).getD j 0 := by simp
    rw [he]; omega
  rw [gp_permute_eq_map a _ res (2^k) (gp_table_length k g) hres hrange]
  unfold galoisApplyNtt
  rw [Array.toList_map]
  congr 2
  funext t
  simp

/-- `assert_eq!(result.len(), self.coeff_count)` -/
theorem gp_apply_ntt_permute_refuses (a tab res : List Nat) (n : Nat) (h : res.length ≠ n) :
    GenGal.galois_apply_ntt_permute a tab res n = .error .refused := by
  unfold GenGal.galois_apply_ntt_permute
  rw [if_neg h]

/-- composed with the generated table (`GaloisTool::generate_table_ntt`, `gq_generate_table_ntt_eq_lib`) -/
theorem gp_apply_ntt_gen (k g : Nat) (hk : k ≤ 31) (hg : g % 2 = 1) (hg2 : g < 2^(k+1)) (a res : List Nat)
    (ha : 2^k ≤ a.length) (hres : res.length = 2^k) :
    (GenG.generate_table_ntt g (2^k) k >>= fun tab => GenGal.galois_apply_ntt_permute a tab res (2^k)) =
      .ok (galoisApplyNtt k a.toArray g).toList := by
  rw [gq_generate_table_ntt_eq_lib k g hk hg2, R.ok_bind']
  exact gp_apply_ntt_permute_eq k g hg a res ha hres

/-- not vacuous: N = 4, g = 3 (table [2, 3, 0, 1]), dirty result buffer -/
example : GenGal.galois_apply_ntt_permute [10, 20, 30, 40] (galoisTableNtt 2 3).toList [9, 9, 9, 9] 4 =
    .ok [30, 40, 10, 20] := by decide

/-- the refusal is reachable: result buffer of the wrong length -/
example : GenGal.galois_apply_ntt_permute [10, 20, 30, 40] (galoisTableNtt 2 3).toList [9, 9, 9] 4 =
    .error .refused := gp_apply_ntt_permute_refuses _ _ _ _ (by decide)

end HC
