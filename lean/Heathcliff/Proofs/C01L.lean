/- C01 part L: the END-TO-END statements per scheme and encryption mode, composed from the dispatch branches (C01G, C01H) and the
   plaintext layers (C01I).  `…_pk` = public key at a level without a previous level, `…_pk_sp` = public key through the previous
   level (special-prime path / lower levels), `…_sk` = secret key and seed-compressed. -/
import Heathcliff.Proofs.C01I
namespace HC
open Finset Polynomial

theorem c01l_t64 {l : Level} (hd : DecOK l) : l.t.value < 2^64 := lt_trans (c01i_t61 hd) (by norm_num)

/-- the bundle of facts about two consecutive levels `pl` (previous; where the encryption of zero is made) and `l` that the
    special-prime path needs; every part is derived from the constructors for the levels the driver builds (`mkLevel_prevLevelOK`, C01U) -/
structure PrevLevelOK (pl l : Level) : Prop where
  plWF : pl.WF
  plQ : c07s_LevelQ pl
  plTool : c05u_ToolOK pl
  plSize : 2 ≤ pl.size
  plBgv : pl.scheme = .bgv → c05u_BgvOK pl
  plT : pl.t.value < 2^64
  lQ : c07s_LevelQ l
  lTool : c05u_ToolOK l
  next : c05u_IsNext pl l
  tbl : ∀ i, i < l.size → l.tbl i = pl.tbl i
  scheme : l.scheme = pl.scheme
  t : l.t = pl.t

/-- the level is a prefix of its previous level: `PkRel` of the previous level carries over (`PkRel.lower`) -/
theorem PrevLevelOK.levelPrefix {pl l : Level} (h : PrevLevelOK pl l) : LevelPrefix l pl :=
  ⟨by have := h.next.size; omega, h.next.n, h.next.q, h.tbl⟩

/-- public key through the previous level, with the standard bounds (ternary s and u, errors ≤ 21, public-key error ≤ 21): a fresh
    encryption of zero at `l` whose noise is at most `spBound q_L (21(2N+1)) slack N` = ⌊(2·21(2N+1) + slack·q_L(1+N)) / (2 q_L)⌋ -/
theorem encryptZeroInternal_fresh_pk_prev_bounded {pl l : Level} (h : PrevLevelOK pl l)
    {sk : Array Int} (hs1 : ∀ p, p < l.n → (sk.getD p 0).natAbs ≤ 1)
    {pk0 pk1 : RnsPoly} {epk : Nat → Int} (hpk : PkRel pl sk (fun c => (encTT pl : Int) * epk c) pk0 pk1)
    (hE : ∀ p, p < l.n → (epk p).natAbs ≤ 21)
    {u e0 e1 : Array Int} (hus : u.size = pl.n) (he0s : e0.size = pl.n) (he1s : e1.size = pl.n)
    (hu1 : ∀ p, p < l.n → (u.getD p 0).natAbs ≤ 1) (he0 : ∀ p, p < l.n → (e0.getD p 0).natAbs ≤ 21)
    (he1 : ∀ p, p < l.n → (e1.getD p 0).natAbs ≤ 21) :
    ∃ ν' : Nat → Int,
      FreshZero l sk (encryptZeroInternal l (.asym (some pl) #[pk0, pk1] (rnsOfInt pl u) #[rnsOfInt pl e0, rnsOfInt pl e1])) ν' ∧
      ∀ c, c < l.n → (ν' c).natAbs ≤ spBound (pl.q (pl.size - 1)).value (21 * (2 * l.n + 1)) (encSlack pl) l.n := by
  obtain ⟨ν', ρ, hf, hb⟩ := encryptZeroInternal_fresh_pk_prev h.plWF h.plQ h.plTool h.plSize h.plBgv h.plT h.lQ h.lTool h.next h.tbl
    h.scheme h.t hpk hus he0s he1s
  have hn := h.next.n
  have hqL : 0 < (pl.q (pl.size - 1)).value := by
    have := (c05u_qwf h.plTool (show pl.size - 1 < pl.size by have := h.plSize; omega)).two_le; omega
  refine ⟨ν', hf, fun c hc => ?_⟩
  obtain ⟨b1, b2⟩ := hb c hc
  have hnb := pkNoise_bound l.n epk (fun p => u.getD p 0) (fun p => e0.getD p 0) (fun p => e1.getD p 0) (fun p => sk.getD p 0)
    hE he0 he1 hu1 hs1 c hc
  rw [← hn] at b1
  exact spBound_le hqL (skNorm1_le l.n sk hs1) b1 hnb b2

/-- END TO END, BFV, PUBLIC KEY (level without a previous level): for every well-formed level with decryption constants
    (`DecOK`, derived from the constructors in C01P/C01Q), scaling constants (`ScalingOK`), a public key that is an encryption of
    zero with error ‖E‖ ≤ 21 (`PkRel`), ternary s and u, errors bounded by 21, every plaintext with coefficients < t, under the
    decidable margin `FreshEncOK l (21(2N+1))`: encryption succeeds and the model's decryption returns the plaintext -/
theorem bfv_encrypt_decrypt_pk {l : Level} (hl : l.WF) (hd : DecOK l) (hb : l.scheme = .bfv) {cdp : Array MulOperand}
    (hsc : ScalingOK l (Spec.prodL (c01p_qvals l)) cdp)
    {sk : Array Int} (hsk : sk.size = l.n) (hs1 : ∀ p, p < l.n → (sk.getD p 0).natAbs ≤ 1)
    {pk0 pk1 : RnsPoly} {E : Nat → Int} (hpk : PkRel l sk E pk0 pk1) (hE : ∀ p, p < l.n → (E p).natAbs ≤ 21)
    {u e0 e1 : Array Int} (hus : u.size = l.n) (he0s : e0.size = l.n) (he1s : e1.size = l.n)
    (hu1 : ∀ p, p < l.n → (u.getD p 0).natAbs ≤ 1) (he0 : ∀ p, p < l.n → (e0.getD p 0).natAbs ≤ 21)
    (he1 : ∀ p, p < l.n → (e1.getD p 0).natAbs ≤ 21)
    {plain : Poly} (hp : plain.size ≤ l.n) (hm : ∀ i, i < plain.size → plain.getD i 0 < l.t.value)
    (hok : FreshEncOK l (21 * (2 * l.n + 1))) :
    ∃ ct, bfvEncrypt l cdp (Spec.prodL (c01p_qvals l) % l.t.value) ((l.t.value + 1) / 2)
        (.asym none #[pk0, pk1] (rnsOfInt l u) #[rnsOfInt l e0, rnsOfInt l e1]) plain = .ok ct ∧
      bfvDecrypt l sk ct = .ok (trimPlain (padPlain l.n plain)) := by
  have hpk' : PkRel l sk (fun c => (encTT l : Int) * E c) pk0 pk1 := by
    rw [c01e_encTT_other (by rw [hb]; decide)]
    simpa only [Nat.cast_one, one_mul] using hpk
  exact bfv_encrypt_decrypt_of_fresh hl hd hb hsc hsk
    (encryptZeroInternal_fresh_pk hl (c01q_levelQ_of_decOK hd) (c01l_t64 hd) hpk' hus he0s he1s)
    (pkNoise_bound l.n E _ _ _ _ hE he0 he1 hu1 hs1) hp hm hok

/-- END TO END, BFV, SECRET KEY (any level; `saveSeed` = the seed-compressed variant, c1 being what `expand_seed`
    regenerates): every mask polynomial `a`, error bounded by B, plaintext coefficients < t, margin `FreshEncOK l B` -/
theorem bfv_encrypt_decrypt_sk {l : Level} (hl : l.WF) (hd : DecOK l) (hb : l.scheme = .bfv) {cdp : Array MulOperand}
    (hsc : ScalingOK l (Spec.prodL (c01p_qvals l)) cdp)
    {sk : Array Int} (hsk : sk.size = l.n) {a : RnsPoly} (ha : RnsCanon l a)
    {e : Array Int} (hes : e.size = l.n) {B : Nat} (he : ∀ p, p < l.n → (e.getD p 0).natAbs ≤ B) (saveSeed : Bool)
    {plain : Poly} (hp : plain.size ≤ l.n) (hm : ∀ i, i < plain.size → plain.getD i 0 < l.t.value)
    (hok : FreshEncOK l B) :
    ∃ ct, bfvEncrypt l cdp (Spec.prodL (c01p_qvals l) % l.t.value) ((l.t.value + 1) / 2)
        (.sym sk a (rnsOfInt l e) saveSeed) plain = .ok ct ∧
      bfvDecrypt l sk ct = .ok (trimPlain (padPlain l.n plain)) :=
  bfv_encrypt_decrypt_of_fresh hl hd hb hsc hsk
    (encryptZeroInternal_fresh_sk hl (c01q_levelQ_of_decOK hd) (c01l_t64 hd) hsk ha hes saveSeed)
    (fun c hc => by rw [Int.natAbs_neg]; exact he c hc) hp hm hok

/-- END TO END, BFV, PUBLIC KEY THROUGH THE SPECIAL PRIME (the default parameters; also every lower level): the model's decryption of
    the model's encryption is the plaintext, under the decidable margin `FreshEncOK l B'` with the explicit rounding term in
    B' = ⌊(2·21(2N+1) + q_L(1+N)) / (2 q_L)⌋ -/
theorem bfv_encrypt_decrypt_pk_sp {pl l : Level} (h : PrevLevelOK pl l) (hl : l.WF) (hd : DecOK l) (hb : l.scheme = .bfv)
    {cdp : Array MulOperand} (hsc : ScalingOK l (Spec.prodL (c01p_qvals l)) cdp)
    {sk : Array Int} (hsk : sk.size = l.n) (hs1 : ∀ p, p < l.n → (sk.getD p 0).natAbs ≤ 1)
    {pk0 pk1 : RnsPoly} {epk : Nat → Int} (hpk : PkRel pl sk (fun c => (encTT pl : Int) * epk c) pk0 pk1)
    (hE : ∀ p, p < l.n → (epk p).natAbs ≤ 21)
    {u e0 e1 : Array Int} (hus : u.size = pl.n) (he0s : e0.size = pl.n) (he1s : e1.size = pl.n)
    (hu1 : ∀ p, p < l.n → (u.getD p 0).natAbs ≤ 1) (he0 : ∀ p, p < l.n → (e0.getD p 0).natAbs ≤ 21)
    (he1 : ∀ p, p < l.n → (e1.getD p 0).natAbs ≤ 21)
    {plain : Poly} (hp : plain.size ≤ l.n) (hm : ∀ i, i < plain.size → plain.getD i 0 < l.t.value)
    (hok : FreshEncOK l (spBound (pl.q (pl.size - 1)).value (21 * (2 * l.n + 1)) 1 l.n)) :
    ∃ ct, bfvEncrypt l cdp (Spec.prodL (c01p_qvals l) % l.t.value) ((l.t.value + 1) / 2)
        (.asym (some pl) #[pk0, pk1] (rnsOfInt pl u) #[rnsOfInt pl e0, rnsOfInt pl e1]) plain = .ok ct ∧
      bfvDecrypt l sk ct = .ok (trimPlain (padPlain l.n plain)) := by
  obtain ⟨ν', hf, hb'⟩ := encryptZeroInternal_fresh_pk_prev_bounded h hs1 hpk hE hus he0s he1s hu1 he0 he1
  have hs : encSlack pl = 1 := by unfold encSlack; rw [if_neg (by rw [← h.scheme, hb]; decide)]
  rw [hs] at hb'
  exact bfv_encrypt_decrypt_of_fresh hl hd hb hsc hsk hf hb' hp hm hok

/-- END TO END, BGV, PUBLIC KEY (level without a previous level) -/
theorem bgv_encrypt_decrypt_pk {l : Level} (hl : l.WF) (hd : DecOK l) (hb : l.scheme = .bgv) {fast : Bool} {thr : Nat}
    {incr : Array Nat} (hlift : BgvLiftOK l fast thr incr)
    {sk : Array Int} (hsk : sk.size = l.n) (hs1 : ∀ p, p < l.n → (sk.getD p 0).natAbs ≤ 1)
    {pk0 pk1 : RnsPoly} {epk : Nat → Int} (hpk : PkRel l sk (fun c => (encTT l : Int) * epk c) pk0 pk1)
    (hE : ∀ p, p < l.n → (epk p).natAbs ≤ 21)
    {u e0 e1 : Array Int} (hus : u.size = l.n) (he0s : e0.size = l.n) (he1s : e1.size = l.n)
    (hu1 : ∀ p, p < l.n → (u.getD p 0).natAbs ≤ 1) (he0 : ∀ p, p < l.n → (e0.getD p 0).natAbs ≤ 21)
    (he1 : ∀ p, p < l.n → (e1.getD p 0).natAbs ≤ 21)
    {plain : Poly} (hp : plain.size ≤ l.n) (hm : ∀ i, i < plain.size → plain.getD i 0 < l.t.value)
    (hok : FreshEncOKBgv l (21 * (2 * l.n + 1))) :
    ∃ ct, bgvEncrypt l fast thr incr (.asym none #[pk0, pk1] (rnsOfInt l u) #[rnsOfInt l e0, rnsOfInt l e1]) plain = .ok ct ∧
      ct.cf = 1 ∧ bgvDecrypt l sk ct = .ok (trimPlain (padPlain l.n plain)) :=
  bgv_encrypt_decrypt_of_fresh hl hd hb hlift hsk
    (encryptZeroInternal_fresh_pk hl (c01q_levelQ_of_decOK hd) (c01l_t64 hd) hpk hus he0s he1s)
    (pkNoise_bound l.n epk _ _ _ _ hE he0 he1 hu1 hs1) hp hm hok

/-- END TO END, BGV, SECRET KEY and SEED-COMPRESSED (any level) -/
theorem bgv_encrypt_decrypt_sk {l : Level} (hl : l.WF) (hd : DecOK l) (hb : l.scheme = .bgv) {fast : Bool} {thr : Nat}
    {incr : Array Nat} (hlift : BgvLiftOK l fast thr incr)
    {sk : Array Int} (hsk : sk.size = l.n) {a : RnsPoly} (ha : RnsCanon l a)
    {e : Array Int} (hes : e.size = l.n) {B : Nat} (he : ∀ p, p < l.n → (e.getD p 0).natAbs ≤ B) (saveSeed : Bool)
    {plain : Poly} (hp : plain.size ≤ l.n) (hm : ∀ i, i < plain.size → plain.getD i 0 < l.t.value)
    (hok : FreshEncOKBgv l B) :
    ∃ ct, bgvEncrypt l fast thr incr (.sym sk a (rnsOfInt l e) saveSeed) plain = .ok ct ∧
      ct.cf = 1 ∧ bgvDecrypt l sk ct = .ok (trimPlain (padPlain l.n plain)) :=
  bgv_encrypt_decrypt_of_fresh hl hd hb hlift hsk
    (encryptZeroInternal_fresh_sk hl (c01q_levelQ_of_decOK hd) (c01l_t64 hd) hsk ha hes saveSeed)
    (fun c hc => by rw [Int.natAbs_neg]; exact he c hc) hp hm hok

/-- END TO END, BGV, PUBLIC KEY THROUGH THE SPECIAL PRIME (and every lower level): margin with the rounding term of the t-compatible
    division, B' = ⌊(2·21(2N+1) + 2 q_L(1+N)) / (2 q_L)⌋ -/
theorem bgv_encrypt_decrypt_pk_sp {pl l : Level} (h : PrevLevelOK pl l) (hl : l.WF) (hd : DecOK l) (hb : l.scheme = .bgv)
    {fast : Bool} {thr : Nat} {incr : Array Nat} (hlift : BgvLiftOK l fast thr incr)
    {sk : Array Int} (hsk : sk.size = l.n) (hs1 : ∀ p, p < l.n → (sk.getD p 0).natAbs ≤ 1)
    {pk0 pk1 : RnsPoly} {epk : Nat → Int} (hpk : PkRel pl sk (fun c => (encTT pl : Int) * epk c) pk0 pk1)
    (hE : ∀ p, p < l.n → (epk p).natAbs ≤ 21)
    {u e0 e1 : Array Int} (hus : u.size = pl.n) (he0s : e0.size = pl.n) (he1s : e1.size = pl.n)
    (hu1 : ∀ p, p < l.n → (u.getD p 0).natAbs ≤ 1) (he0 : ∀ p, p < l.n → (e0.getD p 0).natAbs ≤ 21)
    (he1 : ∀ p, p < l.n → (e1.getD p 0).natAbs ≤ 21)
    {plain : Poly} (hp : plain.size ≤ l.n) (hm : ∀ i, i < plain.size → plain.getD i 0 < l.t.value)
    (hok : FreshEncOKBgv l (spBound (pl.q (pl.size - 1)).value (21 * (2 * l.n + 1)) 2 l.n)) :
    ∃ ct, bgvEncrypt l fast thr incr
        (.asym (some pl) #[pk0, pk1] (rnsOfInt pl u) #[rnsOfInt pl e0, rnsOfInt pl e1]) plain = .ok ct ∧
      ct.cf = 1 ∧ bgvDecrypt l sk ct = .ok (trimPlain (padPlain l.n plain)) := by
  obtain ⟨ν', hf, hb'⟩ := encryptZeroInternal_fresh_pk_prev_bounded h hs1 hpk hE hus he0s he1s hu1 he0 he1
  have hs : encSlack pl = 2 := by unfold encSlack; rw [if_pos (by rw [← h.scheme, hb])]
  rw [hs] at hb'
  exact bgv_encrypt_decrypt_of_fresh hl hd hb hlift hsk hf hb' hp hm hok

/-- CKKS STATEMENT, PUBLIC KEY (level without a previous level): decrypted = plaintext + ν in every RNS component, ‖ν‖∞ ≤ 21(2N+1) -/
theorem ckks_encrypt_decrypt_pk {l : Level} (hl : l.WF) (hq : c07s_LevelQ l) (htool : c05u_ToolOK l) (hc : l.scheme = .ckks)
    (ht : l.t.value < 2^64)
    {sk : Array Int} (hsk : sk.size = l.n) (hs1 : ∀ p, p < l.n → (sk.getD p 0).natAbs ≤ 1)
    {pk0 pk1 : RnsPoly} {epk : Nat → Int} (hpk : PkRel l sk (fun c => (encTT l : Int) * epk c) pk0 pk1)
    (hE : ∀ p, p < l.n → (epk p).natAbs ≤ 21)
    {u e0 e1 : Array Int} (hus : u.size = l.n) (he0s : e0.size = l.n) (he1s : e1.size = l.n)
    (hu1 : ∀ p, p < l.n → (u.getD p 0).natAbs ≤ 1) (he0 : ∀ p, p < l.n → (e0.getD p 0).natAbs ≤ 21)
    (he1 : ∀ p, p < l.n → (e1.getD p 0).natAbs ≤ 21) {plain : RnsPoly} (hpl : RnsCanon l plain) :
    ∃ (ν : Nat → Int) (ct : Ct) (dec : RnsPoly), (∀ c, c < l.n → (ν c).natAbs ≤ 21 * (2 * l.n + 1)) ∧
      ckksEncrypt l (.asym none #[pk0, pk1] (rnsOfInt l u) #[rnsOfInt l e0, rnsOfInt l e1]) plain = .ok ct ∧
      ckksDecrypt l sk ct = .ok dec ∧ RnsCanon l dec ∧
      ∀ i, i < l.size → ∀ c, c < l.n → (((intt (l.tbl i) (dec.getD i #[])).getD c 0 : Nat) : Int) ≡
        (((intt (l.tbl i) (plain.getD i #[])).getD c 0 : Nat) : Int) + ν c [ZMOD ((l.q i).value : Int)] := by
  obtain ⟨ct, dec, h1, h2, h3, h4⟩ := ckks_encrypt_decrypt_of_fresh hl hq htool hc hsk
    (encryptZeroInternal_fresh_pk hl hq ht hpk hus he0s he1s) hpl
  exact ⟨_, ct, dec, pkNoise_bound l.n epk _ _ _ _ hE he0 he1 hu1 hs1, h1, h2, h3, h4⟩

/-- CKKS STATEMENT, SECRET KEY and SEED-COMPRESSED (every level): decrypted = plaintext − e in every RNS component -/
theorem ckks_encrypt_decrypt_sk {l : Level} (hl : l.WF) (hq : c07s_LevelQ l) (htool : c05u_ToolOK l) (hc : l.scheme = .ckks)
    (ht : l.t.value < 2^64) {sk : Array Int} (hsk : sk.size = l.n) {a : RnsPoly} (ha : RnsCanon l a)
    {e : Array Int} (hes : e.size = l.n) (saveSeed : Bool) {plain : RnsPoly} (hpl : RnsCanon l plain) :
    ∃ (ct : Ct) (dec : RnsPoly), ckksEncrypt l (.sym sk a (rnsOfInt l e) saveSeed) plain = .ok ct ∧
      ckksDecrypt l sk ct = .ok dec ∧ RnsCanon l dec ∧
      ∀ i, i < l.size → ∀ c, c < l.n → (((intt (l.tbl i) (dec.getD i #[])).getD c 0 : Nat) : Int) ≡
        (((intt (l.tbl i) (plain.getD i #[])).getD c 0 : Nat) : Int) + - e.getD c 0 [ZMOD ((l.q i).value : Int)] :=
  ckks_encrypt_decrypt_of_fresh hl hq htool hc hsk (encryptZeroInternal_fresh_sk hl hq ht hsk ha hes saveSeed) hpl

/-- CKKS STATEMENT, PUBLIC KEY THROUGH THE SPECIAL PRIME (the first level of the default parameters, and every lower level):
    ‖ν‖∞ ≤ ⌊(2·21(2N+1) + q_L(1+N)) / (2 q_L)⌋ -/
theorem ckks_encrypt_decrypt_pk_sp {pl l : Level} (h : PrevLevelOK pl l) (hl : l.WF) (hc : l.scheme = .ckks)
    {sk : Array Int} (hsk : sk.size = l.n) (hs1 : ∀ p, p < l.n → (sk.getD p 0).natAbs ≤ 1)
    {pk0 pk1 : RnsPoly} {epk : Nat → Int} (hpk : PkRel pl sk (fun c => (encTT pl : Int) * epk c) pk0 pk1)
    (hE : ∀ p, p < l.n → (epk p).natAbs ≤ 21)
    {u e0 e1 : Array Int} (hus : u.size = pl.n) (he0s : e0.size = pl.n) (he1s : e1.size = pl.n)
    (hu1 : ∀ p, p < l.n → (u.getD p 0).natAbs ≤ 1) (he0 : ∀ p, p < l.n → (e0.getD p 0).natAbs ≤ 21)
    (he1 : ∀ p, p < l.n → (e1.getD p 0).natAbs ≤ 21) {plain : RnsPoly} (hpl : RnsCanon l plain) :
    ∃ (ν : Nat → Int) (ct : Ct) (dec : RnsPoly),
      (∀ c, c < l.n → (ν c).natAbs ≤ spBound (pl.q (pl.size - 1)).value (21 * (2 * l.n + 1)) 1 l.n) ∧
      ckksEncrypt l (.asym (some pl) #[pk0, pk1] (rnsOfInt pl u) #[rnsOfInt pl e0, rnsOfInt pl e1]) plain = .ok ct ∧
      ckksDecrypt l sk ct = .ok dec ∧ RnsCanon l dec ∧
      ∀ i, i < l.size → ∀ c, c < l.n → (((intt (l.tbl i) (dec.getD i #[])).getD c 0 : Nat) : Int) ≡
        (((intt (l.tbl i) (plain.getD i #[])).getD c 0 : Nat) : Int) + ν c [ZMOD ((l.q i).value : Int)] := by
  obtain ⟨ν', hf, hb'⟩ := encryptZeroInternal_fresh_pk_prev_bounded h hs1 hpk hE hus he0s he1s hu1 he0 he1
  have hs : encSlack pl = 1 := by unfold encSlack; rw [if_neg (by rw [← h.scheme, hc]; decide)]
  rw [hs] at hb'
  obtain ⟨ct, dec, h1, h2, h3, h4⟩ := ckks_encrypt_decrypt_of_fresh hl h.lQ h.lTool hc hsk hf hpl
  exact ⟨ν', ct, dec, hb', h1, h2, h3, h4⟩

end HC
