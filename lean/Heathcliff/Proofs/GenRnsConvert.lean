import Heathcliff.Proofs.GenRnsView
import Heathcliff.Proofs.C10I
import Heathcliff.Proofs.C10H

/-!
  `BaseConverter::fast_convert_array` (src/util/rns.rs) as generated into `Gen/RnsFns.lean` EQUALS the hand model's `BaseConverter.fastConvertArray`
  (column by column + transpose) on the flat layout, for every converter built by `BaseConverter.new` from well-formed bases, word inputs and ANY
  destination buffer of the right shape.  List level: the scratch buffer `temp` is written with stride `ibase_size` (`gr_strideloop`, the buffer after
  the first phase by extensionality); the second phase reads the rows `temp[j*k .. (j+1)*k]` and writes `output[i * count + j]`.  `gr_convF`: the generated
  conversion of a model converter, as the BEHZ routines call it.  `gr_fast_convert_array_crt`: the generated routine returns the residues of `x + α·Q`
  (`fastConvertArray_ent` of Proofs/C10I.lean read through the tie).
-/
namespace HC
open HC.GenW HC.GenR

/-! ### first phase: `temp[j * k + i] = scaled residue of input[i * n + j]` -/

/-- the inner loop of the first phase, of this conversion and of `exact_convey_array` (GenRnsDecrypt): `temp[j * k + i] = f input[i * n + j]` for
    `j = 0, 1, …`; `f` = the generated Barrett reduction, or the generated multiplication by the inverse of the punctured product.  The loop is a
    variable given by its two equations: each of the four generated loops is an instance with `fun _ _ => rfl`, `fun _ _ _ => rfl` -/
theorem gr_scaleloop (loop : Nat → Nat → List Nat → R (List Nat)) (f : Nat → R Nat) (inp : List (List Nat)) (k n i : Nat) (T : Nat → Nat)
    (hi : i < k) (hkn : k * n < 2^64) (hinp : inp.length = k) (hin : ∀ c ∈ inp, c.length = n)
    (h0 : ∀ j l, loop 0 j l = .ok l)
    (hs : ∀ fu j l, loop (fu+1) j l = (do
      let a ← ckMul i n; let b ← ckAdd a j; let x ← idx inp.flatten b; let y ← f x
      let c ← ckMul j k; let d ← ckAdd c i; let l ← setIdx l d y; loop fu (j+1) l))
    (hT : ∀ j, j < n → f ((inp.getD i []).getD j 0) = .ok (T j)) (temp : List Nat) (htl : temp.length = n * k) :
    ∃ t', loop n 0 temp = .ok t' ∧ t'.length = n * k ∧
      ∀ pos, t'.getD pos 0 = if pos % k = i ∧ pos / k < n then T (pos / k) else temp.getD pos 0 := by
  refine gr_strideloop loop T k i n hi h0 ?_ temp htl
  intro fu j l hl hj
  obtain ⟨e1, e2, e3⟩ := gr_read_ok n inp hin (hinp.symm ▸ hi) hj (hinp.symm ▸ hkn)
  obtain ⟨e4, e5⟩ := gr_addr_ok hj hi (by rw [Nat.mul_comm]; exact hkn)
  rw [hs]
  simp only [e1, e2, e3, e4, e5, hT j hj, GenW.setIdx_ok _ _ hl, R.ok_bind]

/-- the scratch buffer after the first phase: position `pos` holds `T (pos % k) (pos / k)` -/
def gr_fcaTemp (T : Nat → Nat → Nat) (k n : Nat) : List Nat := (List.range' 0 (n * k)).map (fun pos => T (pos % k) (pos / k))

/-- an outer loop whose step `i` writes the residues `T i ·` with stride `k` ends in its continuation `K` (emitted inside the loop's definition at
    exhaustion) run on the completed scratch buffer -/
theorem gr_fcaTemp_loop (loop : Nat → Nat → List Nat → R (List Nat)) (K : List Nat → R (List Nat)) (k n : Nat) (T : Nat → Nat → Nat)
    (h0 : ∀ i temp, loop 0 i temp = K temp)
    (hs : ∀ f i (temp : List Nat), i < k → temp.length = n * k → ∃ t', loop (f+1) i temp = loop f (i+1) t' ∧ t'.length = n * k ∧
      ∀ pos, t'.getD pos 0 = if pos % k = i ∧ pos / k < n then T i (pos / k) else temp.getD pos 0) :
    ∀ f i (temp : List Nat), i + f = k → temp.length = n * k →
      (∀ pos, pos < n * k → pos % k < i → temp.getD pos 0 = T (pos % k) (pos / k)) →
      loop f i temp = K (gr_fcaTemp T k n) := by
  intro f
  induction f with
  | zero =>
    intro i temp hif htl hinv
    have : temp = gr_fcaTemp T k n := by
      apply list_eq_of_getD 0
      · rw [htl]; unfold gr_fcaTemp; rw [List.length_map, List.length_range']
      · intro pos hpos
        rw [htl] at hpos
        have hk : 0 < k := by
          rcases Nat.eq_zero_or_pos k with h | h
          · rw [h, Nat.mul_zero] at hpos; omega
          · exact h
        unfold gr_fcaTemp
        rw [gr_getD_map_range' _ _ _ _ hpos]
        exact hinv pos hpos (by have := Nat.mod_lt pos hk; omega)
    rw [h0, this]
  | succ f ih =>
    intro i temp hif htl hinv
    obtain ⟨t', e, hlen, hp⟩ := hs f i temp (by omega) htl
    rw [e]
    refine ih (i + 1) t' (by omega) hlen (fun pos hpos hlt => ?_)
    rw [hp pos]
    by_cases c : pos % k = i
    · rw [if_pos ⟨c, Nat.div_lt_of_lt_mul (by rw [Nat.mul_comm]; exact hpos)⟩, c]
    · rw [if_neg (fun h => c h.1)]
      exact hinv pos hpos (by omega)

/-- the outer loop of the first phase ends in the second phase (`loop4`) run on the completed scratch buffer -/
theorem gr_fca_loop1 (inp : List (List Nat)) (out : List Nat) (k m n : Nat) (qs : List Modulus) (ops : List MulOperand)
    (rows : List (List Nat)) (ps : List Modulus) (T : Nat → Nat → Nat)
    (hkn : k * n < 2^64) (hinp : inp.length = k) (hin : ∀ c ∈ inp, c.length = n)
    (hqs : qs.length = k) (hops : ops.length = k)
    (hT1 : ∀ i j, i < k → j < n → (ops.getD i default).operand = 1 → barrett64 ((inp.getD i []).getD j 0) (qs.getD i gr_dflt) = .ok (T i j))
    (hT2 : ∀ i j, i < k → j < n → (ops.getD i default).operand ≠ 1 →
      mulOperandMod ((inp.getD i []).getD j 0) (ops.getD i default) (qs.getD i gr_dflt) = .ok (T i j)) :
    GenR.fast_convert_array_loop1 inp.flatten out k m n ops qs rows ps k 0 (List.replicate (n * k) 0)
      = GenR.fast_convert_array_loop4 k m n (gr_fcaTemp T k n) rows ps m 0 out := by
  refine gr_fcaTemp_loop (GenR.fast_convert_array_loop1 inp.flatten out k m n ops qs rows ps)
    (fun temp => GenR.fast_convert_array_loop4 k m n temp rows ps m 0 out) k n T (fun _ _ => rfl) ?_ k 0 _ (by omega)
    List.length_replicate (fun pos _ h => by omega)
  intro f i temp hi htl
  rw [GenR.fast_convert_array_loop1]
  simp only [gr_idxOp_ok ops i default (hops.symm ▸ hi), gr_idxMod_ok qs i gr_dflt (hqs.symm ▸ hi), R.ok_bind]
  by_cases hop : (ops.getD i default).operand = 1
  · obtain ⟨t', e, h⟩ := gr_scaleloop (GenR.fast_convert_array_loop2 inp.flatten k n i (qs.getD i gr_dflt))
      (fun x => GenW.barrett_reduce_u64 x _) inp k n i (T i) hi hkn hinp hin
      (fun _ _ => rfl) (fun _ _ _ => rfl) (fun j hj => (gw_barrett_reduce_u64_eq _ _).trans (hT1 i j hi hj hop)) temp htl
    exact ⟨t', by rw [if_pos hop, e, R.ok_bind], h⟩
  · obtain ⟨t', e, h⟩ := gr_scaleloop (GenR.fast_convert_array_loop3 inp.flatten k n i (ops.getD i default) (qs.getD i gr_dflt))
      (fun x => GenW.multiply_u64operand_mod x _ _) inp k n i (T i) hi hkn hinp hin
      (fun _ _ => rfl) (fun _ _ _ => rfl) (fun j hj => (gw_multiply_u64operand_mod_eq _ _ _).trans (hT2 i j hi hj hop)) temp htl
    exact ⟨t', by rw [if_neg hop, e, R.ok_bind], h⟩

/-! ### second phase: `output[i * n + j] = dot_product_mod(temp[j*k .. (j+1)*k], matrix[i], obase[i])` -/

theorem gr_fcaTemp_slice (T : Nat → Nat → Nat) (k n j : Nat) (hj : j < n) :
    GenR.slice (gr_fcaTemp T k n) (j * k) (j * k + k) = .ok ((List.range' 0 k).map (fun i => T i j)) := by
  have hlen : (gr_fcaTemp T k n).length = n * k := by unfold gr_fcaTemp; rw [List.length_map, List.length_range']
  have hle : j * k + k ≤ n * k := by
    have := Nat.mul_le_mul_right k (Nat.succ_le_of_lt hj); rw [Nat.succ_mul] at this; exact this
  unfold GenR.slice
  rw [if_pos ⟨by omega, by omega⟩, Nat.add_sub_cancel_left]
  congr 1
  apply list_eq_of_getD 0
  · rw [List.length_take, List.length_drop, List.length_map, List.length_range', hlen]; omega
  · intro i hi
    rw [List.length_take, List.length_drop, hlen] at hi
    have hik : i < k := by omega
    rw [gr_getD_map_range' _ _ _ _ hik, List.getD_eq_getElem?_getD, List.getElem?_take_of_lt hik, List.getElem?_drop, ← List.getD_eq_getElem?_getD]
    unfold gr_fcaTemp
    rw [gr_getD_map_range' _ _ _ _ (by omega), grid_mod j hik, grid_div j hik]

/-- the inner loop of the second phase of `fast_convert_array`: output component `i` := the dot products `D j` of the scratch rows with matrix row `i` -/
theorem gr_fca_loop5 (ds : List (List Nat)) (k m n i : Nat) (rows : List (List Nat)) (ps : List Modulus) (T : Nat → Nat → Nat) (D : Nat → Nat)
    (hi : i < m) (hnk : n * k < 2^64) (hmn : m * n < 2^64) (hn64 : n < 2^64)
    (hrows : rows.length = m) (hps : ps.length = m) (hds : ds.length = m) (hdn : ∀ c ∈ ds, c.length = n)
    (hD : ∀ j, j < n → dotProductMod ((List.range' 0 k).map (fun i' => T i' j)) (rows.getD i []) (ps.getD i gr_dflt) = .ok (D j)) :
    GenR.fast_convert_array_loop5 k n (gr_fcaTemp T k n) i rows ps n 0 ds.flatten
      = .ok (ds.set i ((List.range' 0 n).map D)).flatten := by
  rw [gr_coefloop (GenR.fast_convert_array_loop5 k n (gr_fcaTemp T k n) i rows ps) (fun j _ => .ok (D j)) n i ds hdn (hds.symm ▸ hi) (fun _ _ => rfl) (by
      intro f j l hl hj _ _
      obtain ⟨e1, e2, e3⟩ := gr_bounds_ok (n := k) hj hnk hn64
      obtain ⟨e7, e8⟩ := gr_addr_ok hi hj hmn
      rw [GenR.fast_convert_array_loop5]
      simp only [e1, e2, e3, gr_fcaTemp_slice T k n j hj, gr_idxRow_ok rows i (hrows.symm ▸ hi), gr_idxMod_ok ps i gr_dflt (hps.symm ▸ hi), e7, e8,
        gw_dot_product_mod_eq, hD j hj, GenW.setIdx_ok _ _ hl, R.ok_bind]),
    R.mapM_ok _ D _ (fun j _ => rfl)]
  rfl

/-- the outer loop of the second phase: one `gr_fca_loop5` per output component, as a fold over the components of the destination -/
theorem gr_fca_loop4 (k m n : Nat) (rows : List (List Nat)) (ps : List Modulus) (T : Nat → Nat → Nat) (D : Nat → Nat → Nat)
    (hnk : n * k < 2^64) (hmn : m * n < 2^64) (hn64 : n < 2^64) (hrows : rows.length = m) (hps : ps.length = m)
    (hD : ∀ i j, i < m → j < n → dotProductMod ((List.range' 0 k).map (fun i' => T i' j)) (rows.getD i []) (ps.getD i gr_dflt) = .ok (D i j)) :
    ∀ f i (ds : List (List Nat)), i + f = m → ds.length = m → (∀ c ∈ ds, c.length = n) →
      GenR.fast_convert_array_loop4 k m n (gr_fcaTemp T k n) rows ps f i ds.flatten
        = (gr_foldM (fun i _ => .ok ((List.range' 0 n).map (D i))) f i ds >>= fun ds' => .ok ds'.flatten) := by
  intro f
  induction f with
  | zero => intro i ds _ _ _; rfl
  | succ f ih =>
    intro i ds hif hds hdn
    rw [GenR.fast_convert_array_loop4, gr_foldM,
      gr_fca_loop5 ds k m n i rows ps T (D i) (by omega) hnk hmn hn64 hrows hps hds hdn (fun j hj => hD i j (by omega) hj)]
    simp only [R.ok_bind]
    exact ih (i + 1) _ (by omega) (by rw [List.length_set]; exact hds)
      (gr_set_length_mem n ds i _ hdn (by rw [List.length_map, List.length_range']))

/-- the generated `fast_convert_array` on flat buffers: `k` input components of `n` words, ANY destination buffer of `m` components of `n` words
    (old contents irrelevant); `T i j` = scaled residue of coefficient `j` of component `i`, `D i j` = the dot product for output modulus `i` -/
theorem gr_fca_list (inp ds : List (List Nat)) (k m n : Nat) (qs : List Modulus) (ops : List MulOperand) (rows : List (List Nat)) (ps : List Modulus)
    (T D : Nat → Nat → Nat)
    (hk : 1 ≤ k) (hkn : k * n < 2^64) (hmn : m * n < 2^64)
    (hinp : inp.length = k) (hin : ∀ c ∈ inp, c.length = n) (hds : ds.length = m) (hdn : ∀ c ∈ ds, c.length = n)
    (hqs : qs.length = k) (hops : ops.length = k) (hrows : rows.length = m) (hps : ps.length = m)
    (hT1 : ∀ i j, i < k → j < n → (ops.getD i default).operand = 1 → barrett64 ((inp.getD i []).getD j 0) (qs.getD i gr_dflt) = .ok (T i j))
    (hT2 : ∀ i j, i < k → j < n → (ops.getD i default).operand ≠ 1 →
      mulOperandMod ((inp.getD i []).getD j 0) (ops.getD i default) (qs.getD i gr_dflt) = .ok (T i j))
    (hD : ∀ i j, i < m → j < n → dotProductMod ((List.range' 0 k).map (fun i' => T i' j)) (rows.getD i []) (ps.getD i gr_dflt) = .ok (D i j)) :
    GenR.fast_convert_array inp.flatten ds.flatten k m ops qs ps rows
      = .ok ((List.range' 0 m).map (fun i => (List.range' 0 n).map (D i))).flatten := by
  have hfi := Blk.length (D := n) hin
  rw [hinp] at hfi
  have hfd := Blk.length (D := n) hdn
  rw [hds] at hfd
  have hnk : n * k < 2^64 := by rw [Nat.mul_comm]; exact hkn
  have hn64 : n < 2^64 := Nat.lt_of_le_of_lt (Nat.le_mul_of_pos_left n hk) hkn
  have e1 : GenW.ckDiv inp.flatten.length k = .ok n := by
    unfold GenW.ckDiv; rw [if_neg (by omega), hfi, Nat.mul_div_cancel_left n hk]
  have e2 : ckMul n k = .ok (n * k) := ckMul_ok hnk
  have e3 : ckMul n m = .ok (n * m) := ckMul_ok (by rw [B64_eq]; rw [Nat.mul_comm]; exact hmn)
  unfold GenR.fast_convert_array
  simp only [e1, e2, e3, R.ok_bind]
  rw [if_pos (by rw [hfi, Nat.mul_comm]), if_pos (by rw [hfd, Nat.mul_comm]),
    gr_fca_loop1 inp ds.flatten k m n qs ops rows ps T hkn hinp hin hqs hops hT1 hT2,
    gr_fca_loop4 k m n rows ps T D hnk hmn hn64 hrows hps hD m 0 ds (by omega) hds hdn,
    gr_foldM_all _ m ds hds (fun _ _ _ _ _ => rfl), R.mapM_ok _ (fun i => (List.range' 0 n).map (D i)) _ (fun i _ => rfl)]
  rfl

/-- scaled residue `x_i · (Q/q_i)⁻¹ mod q_i` of coefficient `j` of component `i` -/
def gr_fcaT (c : BaseConverter) (p : RnsPoly) (i j : Nat) : Nat :=
  ((p.getD i #[]).getD j 0 * (c.ibase.invPunct.getD i default).operand) % (c.ibase.q i).value

/-- output residue: `(Σ_i T_i · (Q/q_i)) mod p_o` -/
def gr_fcaD (c : BaseConverter) (p : RnsPoly) (o j : Nat) : Nat :=
  ((List.range c.ibase.size).map (fun i => gr_fcaT c p i j * c.ibase.punct.getD i 0)).sum % (c.obase.q o).value

/-- what `BaseConverter.new` establishes about the matrix -/
def gr_MatOK (c : BaseConverter) : Prop :=
  c.matrix.size = c.obase.size ∧ ∀ o, o < c.obase.size → (c.matrix.getD o #[]).toList =
    (List.range c.ibase.size).map (fun i => c.ibase.punct.getD i 0 % (c.obase.q o).value)

theorem gr_matOK_new {ib ob : RNSBase} {c : BaseConverter} (hi : ib.WF) (ho : ob.WF) (hc : BaseConverter.new ib ob = .ok c) :
    c.ibase = ib ∧ c.obase = ob ∧ gr_MatOK c := by
  obtain ⟨rfl, rfl, h1, h2⟩ := RNSH.new_spec hi ho hc
  exact ⟨rfl, rfl, h1, h2⟩

theorem gr_col_getD (p : RnsPoly) (i j : Nat) (hi : i < p.size) : (p.map (fun comp => comp.getD j 0)).getD i 0 = (p.getD i #[]).getD j 0 := by
  simp [Array.getD, hi]

theorem gr_fca_model (c : BaseConverter) (hi : c.ibase.WF) (ho : c.obase.WF) (hM : gr_MatOK c) (p : RnsPoly) (n : Nat)
    (hp : p.size = c.ibase.size) (hw : ∀ i j, i < c.ibase.size → j < n → (p.getD i #[]).getD j 0 < 2^64) :
    c.fastConvertArray p n = .ok (((List.range c.obase.size).map (fun o => ((List.range n).map (fun j => gr_fcaD c p o j)).toArray)).toArray) :=
  RNSH.fastConvertArray_eq c hi ho hM.2 p n hp hw

/-- the generated `fast_convert_array` = the model, for a converter with well-formed bases and the matrix of `BaseConverter.new` -/
theorem gr_fca_core (c : BaseConverter) (hi : c.ibase.WF) (ho : c.obase.WF) (hM : gr_MatOK c) (p d : RnsPoly) (n : Nat)
    (hp : p.size = c.ibase.size) (hpn : ∀ i, i < c.ibase.size → (p.getD i #[]).size = n)
    (hw : ∀ i j, i < c.ibase.size → j < n → (p.getD i #[]).getD j 0 < 2^64)
    (hd : d.size = c.obase.size) (hdn : ∀ i, i < c.obase.size → (d.getD i #[]).size = n)
    (hkn : c.ibase.size * n < 2^64) (hmn : c.obase.size * n < 2^64) :
    GenR.fast_convert_array (flatP p) (flatP d) c.ibase.size c.obase.size c.ibase.invPunct.toList c.ibase.base.toList c.obase.base.toList
        (c.matrix.toList.map Array.toList)
      = (c.fastConvertArray p n).map flatP := by
  rw [gr_fca_model c hi ho hM p n hp hw]
  show _ = Except.ok (flatP _)
  rw [gr_flatP_mk]
  obtain ⟨hp1, hp2⟩ := gr_shape_cs' hp hpn
  obtain ⟨hd1, hd2⟩ := gr_shape_cs' hd hdn
  have hel : ∀ i j, ((p.toList.map Array.toList).getD i []).getD j 0 = (p.getD i #[]).getD j 0 := by
    intro i j; rw [gr_cs_getD, array_getD_toList _ _ 0]
  unfold flatP
  refine gr_fca_list _ _ c.ibase.size c.obase.size n _ _ _ _ (gr_fcaT c p) (gr_fcaD c p) hi.pos hkn hmn hp1 hp2 hd1 hd2
    (by simp [RNSBase.size]) (by rw [Array.length_toList, hi.inv_size]) (by rw [List.length_map, Array.length_toList, hM.1]) (by simp [RNSBase.size]) ?_ ?_ ?_
  · intro i j hi' hj hop
    rw [hel, gr_baseq_toList, gr_ops_toList] at *
    rw [barrett64_exact (hi.mwf i hi') (hw i j hi' hj)]
    unfold gr_fcaT
    rw [hop, Nat.mul_one]
  · intro i j hi' hj _
    rw [hel, gr_baseq_toList, gr_ops_toList]
    exact RNSH.mulOperandMod_wf (hi.mwf i hi') (hi.inv_wf i hi').1 (hw i j hi' hj)
  · intro o j ho' hj
    have hrow : (c.matrix.toList.map Array.toList).getD o [] = (c.matrix.getD o #[]).toList := gr_cs_getD c.matrix o
    rw [hrow, hM.2 o ho', gr_baseq_toList, ← List.range_eq_range',
      RNSH.dot_ok hi (ho.mwf o ho') (fun i' => gr_fcaT c p i' j) (fun i hi' => by
        unfold gr_fcaT; exact Nat.mod_lt _ (by have := (hi.mwf i hi').two_le; omega))]
    rfl

/-- **`BaseConverter::fast_convert_array` (generated from src/util/rns.rs) = the hand model `BaseConverter.fastConvertArray`** on the flat layout
    (component `i`, coefficient `j` at `i·n + j`), for every converter built by `BaseConverter.new` from well-formed bases; the destination is
    ANY buffer of `|obase|` components of `n` words (its old contents are irrelevant: every position is written).  `self.ibase.len()`,
    `self.obase.len()`, `inv_punctured_prod_mod_base()[i]`, `base_at(i)` of both bases and the rows of `base_change_matrix` are inputs of the
    generated function, instantiated with the model converter's fields. -/
theorem gr_fast_convert_array_eq {ib ob : RNSBase} {c : BaseConverter} (hi : ib.WF) (ho : ob.WF) (hc : BaseConverter.new ib ob = .ok c)
    (p d : RnsPoly) (n : Nat)
    (hp : p.size = ib.size) (hpn : ∀ i, i < ib.size → (p.getD i #[]).size = n)
    (hw : ∀ i j, i < ib.size → j < n → (p.getD i #[]).getD j 0 < 2^64)
    (hd : d.size = ob.size) (hdn : ∀ i, i < ob.size → (d.getD i #[]).size = n)
    (hkn : ib.size * n < 2^64) (hmn : ob.size * n < 2^64) :
    GenR.fast_convert_array (flatP p) (flatP d) ib.size ob.size ib.invPunct.toList ib.base.toList ob.base.toList (c.matrix.toList.map Array.toList)
      = (c.fastConvertArray p n).map flatP := by
  obtain ⟨e1, e2, hM⟩ := gr_matOK_new hi ho hc
  subst e1; subst e2
  exact gr_fca_core c hi ho hM p d n hp hpn hw hd hdn hkn hmn

theorem gr_fca_model_shape (c : BaseConverter) (p : RnsPoly) (n : Nat) :
    let convA : RnsPoly := ((List.range c.obase.size).map (fun o => ((List.range n).map (fun j => gr_fcaD c p o j)).toArray)).toArray
    convA.size = c.obase.size ∧ ∀ i, i < c.obase.size → (convA.getD i #[]).size = n := by
  refine ⟨by simp, fun i hi => ?_⟩
  rw [array_getD_range_map _ _ hi]
  simp

/-- END TO END (composition with the C10 theorem): for a polynomial holding residues of integers `X j < Q`, the function generated from the Rust
    source returns, at position `o·n + j`, `(X j + α_j·Q) mod p_o` with ONE `α_j < k` common to all output moduli.  `hX j` is the base-level form of
    `c05u_IsCrt` (Proofs/C01O.lean: `X j < Q` and `X j ≡ p_i[j]` modulo every `q_i`; here for an `RNSBase`, and without asking `p_i[j]` to be reduced). -/
theorem gr_fast_convert_array_crt {ib ob : RNSBase} {c : BaseConverter} (hi : ib.WF) (ho : ob.WF) (hc : BaseConverter.new ib ob = .ok c)
    (p d : RnsPoly) (n : Nat) (X : Nat → Nat)
    (hp : p.size = ib.size) (hpn : ∀ i, i < ib.size → (p.getD i #[]).size = n)
    (hw : ∀ i j, i < ib.size → j < n → (p.getD i #[]).getD j 0 < 2^64)
    (hd : d.size = ob.size) (hdn : ∀ i, i < ob.size → (d.getD i #[]).size = n)
    (hkn : ib.size * n < 2^64) (hmn : ob.size * n < 2^64)
    (hX : ∀ j, j < n → X j < ib.prod ∧ ∀ i, i < ib.size → X j % (ib.q i).value = (p.getD i #[]).getD j 0 % (ib.q i).value) :
    ∃ out, GenR.fast_convert_array (flatP p) (flatP d) ib.size ob.size ib.invPunct.toList ib.base.toList ob.base.toList (c.matrix.toList.map Array.toList)
        = .ok out ∧ out.length = ob.size * n ∧
      ∀ j, j < n → ∃ alpha, alpha < ib.size ∧ ∀ o, o < ob.size → out.getD (o * n + j) 0 = (X j + alpha * ib.prod) % (ob.q o).value := by
  obtain ⟨convA, hmodel, h1, hE⟩ := fastConvertArray_ent hi ho hc p n hp hw
  have h2 : ∀ o, o < ob.size → (convA.getD o #[]).size = n := fun o ho' => (hE o ho').1
  obtain ⟨hg, hrd⟩ := gr_read (gr_fast_convert_array_eq hi ho hc p d n hp hpn hw hd hdn hkn hmn) hmodel (Nat.le_of_eq h1.symm) h2
  obtain ⟨hvs, hvn⟩ := gr_shape_cs' h1 h2
  refine ⟨_, hg, by unfold flatP; rw [Blk.length (D := n) hvn, hvs], fun j hj => ?_⟩
  obtain ⟨alpha, ha, hS⟩ := c02w_crtSum_spec hi (fun i => (p.getD i #[]).getD j 0) (hX j hj).1 (hX j hj).2
  exact ⟨alpha, ha, fun o ho' => (hrd o j ho' hj).trans (((hE o ho').2 j hj).trans (congrArg (· % (ob.q o).value) hS))⟩

/-- the BEHZ routines call `fast_convert_array` on a converter of the tool: in the generated routine the conversion is an abstract function input,
    instantiated with the GENERATED `fast_convert_array` on the model converter's fields -/
def gr_convF (c : BaseConverter) : List Nat → List Nat → R (List Nat) := fun a b =>
  GenR.fast_convert_array a b c.ibase.size c.obase.size c.ibase.invPunct.toList c.ibase.base.toList c.obase.base.toList (c.matrix.toList.map Array.toList)

/-- a converter as `BaseConverter.new` builds it from well-formed bases of the given sizes -/
def gr_ConvOK (c : BaseConverter) (si so : Nat) : Prop := c.ibase.WF ∧ c.obase.WF ∧ gr_MatOK c ∧ c.ibase.size = si ∧ c.obase.size = so

theorem gr_convOK_new {ib ob : RNSBase} {c : BaseConverter} (hi : ib.WF) (ho : ob.WF) (hc : BaseConverter.new ib ob = .ok c) :
    gr_ConvOK c ib.size ob.size := by
  obtain ⟨e1, e2, hM⟩ := gr_matOK_new hi ho hc
  subst e1; subst e2
  exact ⟨hi, ho, hM, rfl, rfl⟩

/-- the generated conversion of a model converter on flat buffers: on word inputs it succeeds, with the flat buffer of the model's result, whatever the
    destination `d` held -/
theorem gr_convF_ok {c : BaseConverter} {si so : Nat} (hc : gr_ConvOK c si so) (p d : RnsPoly) (n : Nat)
    (hp : p.size = si) (hpn : ∀ i, i < si → (p.getD i #[]).size = n) (hw : ∀ i j, i < si → j < n → (p.getD i #[]).getD j 0 < 2^64)
    (hd : d.size = so) (hdn : ∀ i, i < so → (d.getD i #[]).size = n) (hkn : si * n < 2^64) (hmn : so * n < 2^64) :
    ∃ convA : RnsPoly, c.fastConvertArray p n = .ok convA ∧ gr_convF c (flatP p) (flatP d) = .ok (flatP convA) ∧
      convA.size = so ∧ ∀ i, i < so → (convA.getD i #[]).size = n := by
  obtain ⟨hi, ho, hM, rfl, rfl⟩ := hc
  have hmodel := gr_fca_model c hi ho hM p n hp hw
  refine ⟨_, hmodel, ?_, gr_fca_model_shape c p n⟩
  unfold gr_convF
  rw [gr_fca_core c hi ho hM p d n hp hpn hw hd hdn hkn hmn, hmodel]
  rfl

theorem gr_convF_take_ok {c : BaseConverter} {si so : Nat} (hc : gr_ConvOK c si so) (p d : RnsPoly) (n : Nat)
    (hp : si ≤ p.size) (hpn : ∀ i, i < si → (p.getD i #[]).size = n) (hw : ∀ i j, i < si → j < n → (p.getD i #[]).getD j 0 < 2^64)
    (hd : d.size = so) (hdn : ∀ i, i < so → (d.getD i #[]).size = n) (hkn : si * n < 2^64) (hmn : so * n < 2^64) :
    ∃ convA : RnsPoly, c.fastConvertArray (p.extract 0 si) n = .ok convA ∧
      gr_convF c ((p.toList.map Array.toList).take si).flatten (flatP d) = .ok (flatP convA) ∧
      convA.size = so ∧ ∀ i, i < so → (convA.getD i #[]).size = n := by
  rw [← gr_flatP_extract]
  exact gr_convF_ok hc (p.extract 0 si) d n (by simp; omega) (fun i hi => by rw [array_getD_extract p #[] hp hi]; exact hpn i hi)
    (fun i j hi hj => by rw [array_getD_extract p #[] hp hi]; exact hw i j hi hj) hd hdn hkn hmn

end HC
