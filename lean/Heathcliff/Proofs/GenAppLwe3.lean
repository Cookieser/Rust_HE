/-
  The WHOLE plan of `pack_lwe_ciphertexts` (src/app/lwe.rs) as ONE generated function
  `lwe_pack_plan` (Gen/AppLweFns.lean): `[l] ++ leaves ++ butterflies ++ [trace parameter]`, an interpreter of such plans over the
  phase polynomials (`ga_runPack`: the trusted reading of the opaque evaluator steps, the same reading as the effects table), and
  the theorem that interpreting the generated plan IS the model's program `packPoly`.  Helper prefix `ga_`.
-/
import Heathcliff.Proofs.GenAppLwe2

namespace HC
open HC.GenApp

/-! ### the generated whole-plan function = concatenation of the three plans -/

theorem ga_lwe_pack_plan_loop1_eq : lwe_pack_plan_loop1 = lwe_pack_log_loop1 := rfl
theorem ga_lwe_pack_plan_loop2_eq (c l : Nat) : lwe_pack_plan_loop2 c l = lwe_pack_leaves_loop1 l c := rfl
theorem ga_lwe_pack_plan_loop4_eq (n : Nat) (ntt : Bool) (l : Nat) : lwe_pack_plan_loop4 n ntt l = lwe_pack_merge_plan_loop2 l n ntt := rfl

def ga_leavesPlan (l c : Nat) : List Nat := (List.range (2^l)).map fun i => if brev l i < c then brev l i else c

/-- **the whole generated plan of `pack_lwe_ciphertexts`** for `count ≤ 2^62` inputs (the code admits `1 ≤ count ≤ N`): with
    `l = packLog count`, the list `[l] ++ leaves ++ butterflies of layers 0 … l−1 ++ [l]` -/
theorem ga_lwe_pack_plan_eq (c n : Nat) (ntt : Bool) (hc : c ≤ 2^62) :
    lwe_pack_plan c n ntt
      = .ok ([packLog c] ++ ga_leavesPlan (packLog c) c ++ (List.range (packLog c)).flatMap (ga_mergeLayer (packLog c) n) ++ [packLog c]) := by
  have hL : packLog c ≤ 62 := c19_packLog_min c 62 hc
  simp only [lwe_pack_plan, ga_lwe_pack_plan_loop1_eq, ga_lwe_pack_plan_loop2_eq, ga_lwe_pack_plan_loop4_eq,
    ga_lwe_pack_log_run c (Nat.le_trans hc (by decide)), R.ok_bind, ga_ckShl_one (show packLog c ≤ 63 by omega), Nat.sub_zero,
    ga_forUp_push _ (fun i => if brev (packLog c) i < c then brev (packLog c) i else c) (2^(packLog c)) _
      (ga_lwe_pack_leaves_body (packLog c) c (by omega)),
    ga_forUp_push_list _ (ga_mergeLayer (packLog c) n) (packLog c) _
      (fun layer plan h => ga_lwe_pack_merge_layer (packLog c) n ntt hL layer h plan), ga_unit_if, ga_leavesPlan, List.nil_append]
  rfl

/-! ### interpreting a plan over phase polynomials -/

section Interp
variable {α : Type} [Zero α] [Add α] [Sub α] [Neg α] [Mul α]

/-- one butterfly `(odd, shift, even, g)` on the slots: `temp = X^shift·odd; odd' = σ_g(even − temp); even' = (even + temp) + odd'` -/
def ga_bfly (k : Nat) (arr : Nat → Array α) (odd shift even g : Nat) : Nat → Array α :=
  fun i =>
    if i = even then addPoly (2^k) (addPoly (2^k) (arr even) (shiftPoly (2^k) (arr odd) shift))
        (sigmaPoly (2^k) (subPoly (2^k) (arr even) (shiftPoly (2^k) (arr odd) shift)) g)
    else if i = odd then sigmaPoly (2^k) (subPoly (2^k) (arr even) (shiftPoly (2^k) (arr odd) shift)) g
    else arr i

theorem ga_bfly_apply (k : Nat) (arr : Nat → Array α) (odd shift even g i : Nat) :
    ga_bfly k arr odd shift even g i =
      if i = even then addPoly (2^k) (addPoly (2^k) (arr even) (shiftPoly (2^k) (arr odd) shift))
          (sigmaPoly (2^k) (subPoly (2^k) (arr even) (shiftPoly (2^k) (arr odd) shift)) g)
      else if i = odd then sigmaPoly (2^k) (subPoly (2^k) (arr even) (shiftPoly (2^k) (arr odd) shift)) g
      else arr i := rfl

/-- the butterflies of a plan, four numbers each, in order -/
def ga_runBflys (k : Nat) : List Nat → (Nat → Array α) → (Nat → Array α)
  | o :: s :: e :: g :: rest, arr => ga_runBflys k rest (ga_bfly k arr o s e g)
  | _, arr => arr

/-- the slots after the leaf loop: slot `i` = input `leaves[i]` times 1/N, or zero when the entry is not an input index -/
def ga_leafSlots (k : Nat) (ninv : α) (ins : Array (Array α)) (leaves : List Nat) : Nat → Array α :=
  fun i => if leaves.getD i ins.size < ins.size then scalePoly (2^k) ninv (ins.getD (leaves.getD i ins.size) #[]) else Array.replicate (2^k) 0

/-- **interpreter of a `pack_lwe_ciphertexts` plan** `[l] ++ leaves (2^l entries) ++ butterflies ++ [t]`: leaf slots, butterflies in order,
    then the field trace with parameter `t` of slot 0 -/
def ga_runPack (k : Nat) (ninv : α) (ins : Array (Array α)) (plan : List Nat) : Array α :=
  let l := plan.headD 0
  let leaves := (plan.drop 1).take (2^l)
  let merges := (plan.drop (2^l + 1)).dropLast
  fieldTracePoly k (plan.reverse.headD 0) (ga_runBflys k merges (ga_leafSlots k ninv ins leaves) 0)

theorem ga_runBflys_quads (k : Nat) (F : Nat → Nat × Nat × Nat × Nat) : ∀ (qs : List Nat) (rest : List Nat) (f : Nat → Array α),
    ga_runBflys k (qs.flatMap (fun q => [(F q).1, (F q).2.1, (F q).2.2.1, (F q).2.2.2]) ++ rest) f
      = ga_runBflys k rest (qs.foldl (fun f q => ga_bfly k f (F q).1 (F q).2.1 (F q).2.2.1 (F q).2.2.2) f) := by
  intro qs
  induction qs with
  | nil => intro rest f; rfl
  | cons q qs ih =>
    intro rest f
    simp only [List.flatMap_cons, List.cons_append, List.nil_append, List.append_assoc, ga_runBflys, List.foldl_cons]
    exact ih rest _

/-- the slot FUNCTION the interpreter runs on and the slot ARRAY of the model agree on the `2^l` slots -/
def ga_Rel (l : Nat) (f : Nat → Array α) (A : Array (Array α)) : Prop := ∀ i, i < 2^l → f i = A.getD i #[]

/-- slots are told apart by block and offset -/
theorem ga_block_inj {G q r q' r' : Nat} (hr : r < G) (hr' : r' < G) : q * G + r = q' * G + r' ↔ q = q' ∧ r = r' :=
  ⟨grid_inj hr hr', fun h => by rw [h.1, h.2]⟩

/-- one layer: running its butterflies in order on slots that agree with `A` gives slots that agree with `packLayer … A` -/
theorem ga_runLayer (k l layer : Nat) (hlayer : layer < l) (f : Nat → Array α) (A : Array (Array α)) (hR : ga_Rel l f A) :
    ga_Rel l ((List.range (2^l / 2^(layer+1))).foldl (fun f q => ga_bfly k f (q * 2^(layer+1) + 2^layer) (2^k >>> (layer+1))
        (q * 2^(layer+1)) (2^(layer+1) + 1)) f) (packLayer k l layer A) := by
  have hG : 2^(layer+1) = 2 * 2^layer := Nat.pow_succ'
  have hgap : 2^layer < 2^(layer+1) := Nat.pow_lt_pow_right (by omega) (by omega)
  have hpos := Nat.two_pow_pos (layer+1)
  have hm : 2^l / 2^(layer+1) * 2^(layer+1) = 2^l := Nat.div_mul_cancel (Nat.pow_dvd_pow 2 (by omega))
  -- after `j` butterflies the blocks `q < j` are done, the others untouched; slot `q·G + r`, `r < G`, belongs to block `q`
  have inv : ∀ j q r, r < 2^(layer+1) → q * 2^(layer+1) + r < 2^l →
      ((List.range j).foldl (fun f q => ga_bfly k f (q * 2^(layer+1) + 2^layer) (2^k >>> (layer+1)) (q * 2^(layer+1))
          (2^(layer+1) + 1)) f) (q * 2^(layer+1) + r)
        = if q < j then (packLayer k l layer A).getD (q * 2^(layer+1) + r) #[] else A.getD (q * 2^(layer+1) + r) #[] := by
    intro j
    induction j with
    | zero => intro q r _ hi; exact hR _ hi
    | succ j ih =>
      intro q r hr hi
      rw [List.range_succ, List.foldl_append, List.foldl_cons, List.foldl_nil, ga_bfly_apply]
      by_cases hq : q = j
      · subst hq
        have hblk : q * 2^(layer+1) + 2^(layer+1) ≤ 2^l :=
          hm ▸ grid_succ_le (Nat.lt_of_mul_lt_mul_right (hm ▸ Nat.lt_of_le_of_lt (Nat.le_add_right _ r) hi))
        have e0 := ih q 0 hpos (by omega)
        have e1 := ih q (2^layer) hgap (by omega)
        simp only [Nat.add_zero, Nat.lt_irrefl, if_false] at e0 e1
        rw [e0, e1, if_pos (Nat.lt_succ_self q), c19_packLayer_getD k l layer A _ hi, ← hG, Nat.mul_add_mod_self_right,
          Nat.mod_eq_of_lt hr]
        by_cases h0 : r = 0
        · subst h0
          rw [if_pos (Nat.add_zero _), if_pos rfl]
          simp only [packMerge, Nat.shiftRight_eq_div_pow, Nat.add_zero]
        · rw [if_neg (by omega), if_neg h0]
          by_cases h1 : r = 2^layer
          · subst h1
            rw [if_pos rfl, if_pos rfl]
            simp only [packOddAfter, Nat.shiftRight_eq_div_pow, Nat.add_sub_cancel]
          · rw [if_neg (by omega), if_neg h1, ih q r hr hi, if_neg (Nat.lt_irrefl q)]
      · rw [if_neg (show ¬ q * 2^(layer+1) + r = j * 2^(layer+1) from fun h => hq ((ga_block_inj (r' := 0) hr hpos).mp h).1), if_neg (fun h => hq ((ga_block_inj hr hgap).mp h).1), ih q r hr hi]
        by_cases h1 : q < j
        · rw [if_pos h1, if_pos (by omega)]
        · rw [if_neg h1, if_neg (by omega)]
  intro i hi
  have := inv (2^l / 2^(layer+1)) (i / 2^(layer+1)) (i % 2^(layer+1)) (Nat.mod_lt _ hpos)
    (by rw [Nat.div_add_mod']; exact hi)
  rw [Nat.div_add_mod'] at this
  rw [this, if_pos ((Nat.div_lt_iff_lt_mul hpos).mpr (by rw [hm]; exact hi))]
theorem ga_runLayers (k l : Nat) : ∀ (Ls : List Nat), (∀ x ∈ Ls, x < l) → ∀ (f : Nat → Array α) (A : Array (Array α)), ga_Rel l f A →
    ga_Rel l (ga_runBflys k (Ls.flatMap (ga_mergeLayer l (2^k))) f) (Ls.foldl (fun arr layer => packLayer k l layer arr) A) := by
  intro Ls
  induction Ls with
  | nil => intro _ f A hR; exact hR
  | cons a Ls ih =>
    intro hLs f A hR
    rw [List.flatMap_cons, List.foldl_cons, ga_mergeLayer,
      ga_runBflys_quads k (fun q => (q * 2^(a+1) + 2^a, 2^k >>> (a+1), q * 2^(a+1), 2^(a+1) + 1))]
    exact ih (fun x hx => hLs x (List.mem_cons_of_mem _ hx)) _ _ (ga_runLayer k l a (hLs a List.mem_cons_self) f A hR)

theorem ga_leafSlots_rel (k l : Nat) (ninv : α) (ins : Array (Array α)) :
    ga_Rel l (ga_leafSlots k ninv ins (ga_leavesPlan l ins.size)) (packLeaves k l ninv ins) := by
  intro i hi
  have e1 : (ga_leavesPlan l ins.size).getD i ins.size = if brev l i < ins.size then brev l i else ins.size := by
    simp [ga_leavesPlan, List.getD_eq_getElem?_getD, hi]
  rw [c19_packLeaves_getD k l ninv ins i hi]
  unfold ga_leafSlots
  rw [e1]
  by_cases h : brev l i < ins.size
  · simp only [if_pos h]
  · simp only [if_neg h, Nat.lt_irrefl, if_false]

/-- **interpreting the plan the generated code produces IS the model's `packPoly`** (the plan's shift entries are those for `N = 2^k`) -/
theorem ga_runPack_eq (k : Nat) (ninv : α) (ins : Array (Array α)) :
    ga_runPack k ninv ins ([packLog ins.size] ++ ga_leavesPlan (packLog ins.size) ins.size
        ++ (List.range (packLog ins.size)).flatMap (ga_mergeLayer (packLog ins.size) (2^k)) ++ [packLog ins.size])
      = packPoly k ninv ins := by
  generalize hl : packLog ins.size = l
  have hlen : (ga_leavesPlan l ins.size).length = 2^l := by simp [ga_leavesPlan]
  have e1 : ([l] ++ ga_leavesPlan l ins.size ++ (List.range l).flatMap (ga_mergeLayer l (2^k)) ++ [l])
      = l :: (ga_leavesPlan l ins.size ++ ((List.range l).flatMap (ga_mergeLayer l (2^k)) ++ [l])) := by simp
  have hR := ga_runLayers k l (List.range l) (fun x hx => List.mem_range.mp hx) _ _ (ga_leafSlots_rel k l ninv ins)
  unfold ga_runPack packPoly
  rw [e1]
  simp only [List.headD_cons, List.drop_succ_cons, List.drop_zero, List.take_left' hlen, List.drop_left' hlen, List.dropLast_concat, hl]
  have hlast : (l :: (ga_leavesPlan l ins.size ++ ((List.range l).flatMap (ga_mergeLayer l (2^k)) ++ [l]))).reverse.headD 0 = l := by
    simp
  rw [hlast, hR 0 (Nat.two_pow_pos l)]

end Interp

end HC
