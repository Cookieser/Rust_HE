import Heathcliff.Proofs.GenEval
import Heathcliff.Proofs.Walk

/-!
  NTT-form PLAINTEXTS down the modulus chain.  `Evaluator::mod_switch_drop_to_next_plain_internal` and
  `Evaluator::mod_switch_plain_to_inplace` are regenerated from src/evaluator.rs (Gen/EvalFns.lean, skeleton mode) and proved equal to
  `plainDropNextWords` / `plainSwitchToPlan` of Model/Evaluator.lean; the data of the walk is the truncation of the source to the target
  level's RNS components on EVERY chain whose prime counts do not grow downwards (in particular on short BFV / BGV chains, where the
  chain index of a level is not its prime count minus one).  Helper names start with `gq_`.
-/
namespace HC
open HC.GenW

/-- `Evaluator::mod_switch_drop_to_next_plain_internal` = `plainDropNextWords`: the three refusals in the code's order, then the word count -/
theorem gq_plain_drop_next_eq (ntt hasNext okNext : Bool) (n k : Nat) :
    GenE.mod_switch_drop_to_next_plain_internal ntt hasNext okNext n k = plainDropNextWords ntt hasNext okNext n k := by
  unfold GenE.mod_switch_drop_to_next_plain_internal plainDropNextWords
  cases ntt <;> cases hasNext <;> cases okNext <;> simp [R.pure_eq', bind, Except.bind]
  cases ckMul n k <;> rfl

theorem gq_plain_walk_loop_eq (tgt : Nat) : ∀ (fuel cur : Nat) (trace : List Nat), tgt ≤ cur → cur - tgt < fuel →
    GenE.mod_switch_plain_to_inplace_loop1 true tgt trace fuel cur = .ok (trace ++ (List.range (cur - tgt)).map (fun i => cur - 1 - i)) :=
  gy_walk tgt (GenE.mod_switch_plain_to_inplace_loop1 true tgt)
    (fun trace n => by rw [GenE.mod_switch_plain_to_inplace_loop1]; simp)
    (fun trace n cur h => by
      rw [GenE.mod_switch_plain_to_inplace_loop1]
      simp only [ne_eq, Nat.ne_of_gt h, show cur ≠ 0 by omega, not_false_eq_true, if_true, ckSub_of_le (Nat.zero_lt_of_lt h), R.ok_bind'])

/-- with an INVALID object the loop refuses at its first iteration (and returns the empty trace when there is nothing to do) -/
theorem gq_plain_walk_loop_invalid (tgt fuel cur : Nat) (trace : List Nat) (hne : cur ≠ tgt) :
    GenE.mod_switch_plain_to_inplace_loop1 false tgt trace (fuel + 1) cur = .error .refused := by
  rw [GenE.mod_switch_plain_to_inplace_loop1]; simp [hne]

/-- `Evaluator::mod_switch_plain_to_inplace` (decision skeleton over chain indices) = `plainSwitchToPlan` -/
theorem gq_mod_switch_plain_to_eq (valid ntt : Bool) (cur tgt : Nat) (hc : cur < 2^64) :
    GenE.mod_switch_plain_to_inplace valid ntt cur tgt = plainSwitchToPlan valid ntt cur tgt := by
  unfold GenE.mod_switch_plain_to_inplace plainSwitchToPlan switchSteps
  cases ntt
  · simp
  · by_cases h : cur < tgt
    · simp [h]
    · by_cases he : cur = tgt
      · subst he
        simp only [Nat.lt_irrefl, if_false, if_true, Bool.true_eq_false, not_true_eq_false, not_false_eq_true, R.pure_eq']
        -- the fuel of the `while` is the literal 2^64: written as a successor, the loop's defining equation applies once
        rw [show (18446744073709551616 : Nat) = 18446744073709551615 + 1 from rfl, GenE.mod_switch_plain_to_inplace_loop1]
        simp [R.pure_eq']
      · cases valid
        · simp only [h, he, if_false, if_true, Bool.true_eq_false, not_true_eq_false, not_false_eq_true]
          rw [show (18446744073709551616 : Nat) = 18446744073709551615 + 1 from rfl]
          exact gq_plain_walk_loop_invalid tgt _ cur [] he
        · simp only [h, he, if_false, if_true, Bool.true_eq_false, not_true_eq_false, not_false_eq_true, R.pure_eq']
          rw [gq_plain_walk_loop_eq tgt _ cur _ (by omega) (by omega)]
          simp

theorem gq_resize_take (d : List Nat) (m : Nat) (h : m ≤ d.length) : resizeWords d m = d.take m := by
  unfold resizeWords; rw [Nat.sub_eq_zero_of_le h]; simp

/-- walking `j` levels down from `cur`: on a chain whose prime counts do not grow downwards (`kc i ≤ kc (i + 1)`), a buffer of
    `n · kc cur` words becomes its first `n · kc (cur − j)` words -/
theorem gq_plain_walk_data (kc : Nat → Nat) (n : Nat) (hmono : ∀ i, kc i ≤ kc (i + 1)) (cur : Nat) (d : List Nat)
    (hd : d.length = n * kc cur) : ∀ j, j ≤ cur →
    plainWalkData kc n d ((List.range j).map (fun i => cur - 1 - i)) = d.take (n * kc (cur - j)) := by
  have hle : ∀ a b, a ≤ b → kc a ≤ kc b := by
    intro a b hab
    induction hab with
    | refl => exact Nat.le_refl _
    | step _ ih => exact Nat.le_trans ih (hmono _)
  intro j
  induction j with
  | zero => intro _; simp [plainWalkData, ← hd]
  | succ j ih =>
    intro hj
    rw [List.range_succ, List.map_append, plainWalkData, List.foldl_append]
    have := ih (by omega)
    unfold plainWalkData at this
    rw [this]
    simp only [List.map_cons, List.map_nil, List.foldl_cons, List.foldl_nil]
    have e : cur - 1 - j = cur - (j + 1) := by omega
    rw [e]
    have h1 : n * kc (cur - (j + 1)) ≤ n * kc (cur - j) := Nat.mul_le_mul_left _ (hle _ _ (by omega))
    have h2 : n * kc (cur - j) ≤ d.length := by rw [hd]; exact Nat.mul_le_mul_left _ (hle _ _ (by omega))
    rw [gq_resize_take _ _ (by rw [List.length_take]; omega)]
    rw [List.take_take]
    congr 1; omega

/-- END TO END for the plaintext walk: whenever the plan of `mod_switch_plain_to_inplace` (= the generated code, `gq_mod_switch_plain_to_eq`)
    succeeds, the walk ends exactly on the target, has `cur − tgt` steps, and the data is the source truncated to the target's components -/
theorem gq_plain_switch_to_data (kc : Nat → Nat) (n : Nat) (hmono : ∀ i, kc i ≤ kc (i + 1)) (valid : Bool) (cur tgt : Nat)
    (d : List Nat) (hd : d.length = n * kc cur) (steps : List Nat) (h : plainSwitchToPlan valid true cur tgt = .ok steps) :
    tgt ≤ cur ∧ steps.length = cur - tgt ∧ (steps.getLast? = none ∨ steps.getLast? = some tgt) ∧
      plainWalkData kc n d steps = d.take (n * kc tgt) := by
  unfold plainSwitchToPlan at h
  by_cases hlt : cur < tgt
  · simp [hlt] at h
  · by_cases he : cur = tgt
    · subst he
      simp only [Bool.true_eq_false, if_false, Nat.lt_irrefl, if_true] at h
      cases h
      refine ⟨Nat.le_refl _, by simp, Or.inl rfl, ?_⟩
      simp [plainWalkData, ← hd]
    · cases valid
      · simp [hlt, he] at h
      · simp only [Bool.true_eq_false, if_false, hlt, he, switchSteps_down (Nat.le_of_not_lt hlt)] at h
        cases h
        refine ⟨by omega, by simp, Or.inr (steps_getLast (by omega)), ?_⟩
        have := gq_plain_walk_data kc n hmono cur d hd (cur - tgt) (by omega)
        have e : cur - (cur - tgt) = tgt := by omega
        rw [this, e]

end HC
