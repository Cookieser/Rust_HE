/- The GENERATED `ternary` and `uniform` samplers (Gen/RngFns.lean) succeed exactly when `Rng.ternary`, `Rng.uniformPoly` (Model/Rng.lean) do, with
   the same result laid out flat (`gs_ternary_iff`, `gs_uniform_iff`).  `uniform` draws in the model's order, so only its writes have to float
   out of the loops.  Helper prefix `gs_`.  No Mathlib. -/
import Heathcliff.Proofs.GenRng2
namespace HC.GenRng
open HC HC.Rng

/-- `match sampled { -1 => q_j - 1, 0 => 0, 1 => 1, _ => unreachable!() }` as coded (`q_j` is read only in the first arm) -/
def gs_encT (qs : List Nat) (v : Int) (j : Nat) : R Nat :=
  (if v = (-1) then (do let t3 ← idx qs j; let t4 ← ckSub t3 1; pure t4) else if v = 0 then (pure 0) else if v = 1 then (pure 1) else .error .other)

theorem gs_encT_eq {qs : List Nat} {j : Nat} (h : j < qs.length) (v : Int) : gs_encT qs v j = encTernary (qs.getD j 0) v := by
  have e := gs_idx h
  generalize qs.getD j 0 = q at e ⊢
  simp only [gs_encT, e, bind, Except.bind, encTernary, pure, Except.pure]

theorem gs_ternary_iff (U : Uniform) (xof : Xof) (s : St) (n : Nat) (moduli dest : List Nat)
    (hd : dest.length = moduli.length * n) (hB : moduli.length * n < B64) (g' : BlakeRNG) (d' : List Nat) :
    GenRng.ternary (blakeOps U xof) (ofSt s) moduli n dest = .ok (g', d') ↔
      ∃ c s', Rng.ternary U xof s n moduli = .ok (c, s') ∧ g' = ofSt s' ∧ d' = flatCM moduli.length n c := by
  have hu : uniformNewI32 (-1) 1 = .ok (-1, 1) := rfl
  have key := gs_outer_model (ternary_loop1 (blakeOps U xof) moduli n moduli.length (-1, 1)) (fun g => (blakeOps U xof).sample_i32 (-1) 1 g)
    (fun v i d => ternary_loop2 (blakeOps U xof) moduli n i v (moduli.length - 0) 0 d) (gs_encT moduli) moduli n
    (fun _ _ _ => rfl) (fun _ _ _ _ => rfl)
    (fun v i d hi hd => gs_col_eq _ (gs_encT moduli v) moduli.length n i hi hB (fun _ _ => rfl)
      (fun c j d => by simp only [ternary_loop2, gs_encT]) d hd)
    (U.i32 Gen.TERNARY_LOW Gen.TERNARY_HIGH xof) (fun _ => True)
    (fun s _ => blakeOps_i32_okv U xof (-1) 1 s)
    (fun _ _ _ _ _ => trivial) encTernary (fun v j hj => gs_encT_eq hj v) dest hd s trivial g' d'
  unfold GenRng.ternary Rng.ternary
  simp only [hu, R.ok_bind', Nat.sub_zero]
  rw [bind_pair_eta, key]
  exact exists_congr fun _ => exists_congr fun _ => and_congr_left fun _ => sampleEncode_ok_iff.symm

/-! ### `uniform`: component by component, one draw per coefficient, the draws in the model's order -/

/-- the row loop `for i in 0..n { destination[i + j * n] = draw(rng) }`: the writes float out -/
theorem gs_row_eq {σ : Type} (G : RngOps σ) (k n j : Nat) (dist : Nat × Nat) (hj : j < k) (hB : k * n < B64) (g : σ) (d : List Nat)
    (hd : d.length = k * n) :
    uniform_loop2 G n j dist n 0 g d =
      Loop.accM (fun _ g => G.sample_u64 dist.1 dist.2 g >>= fun r => .ok (r.2, r.1)) n 0 g >>= fun q =>
        .ok (q.2, Loop.scat (fun i => i + j * n) 0 q.1 d) :=
  Loop.scatter_acc (fun c i d g => uniform_loop2 G n j dist c i g d) _ (fun i => i + j * n) (fun d g => .ok (g, d)) 0 n d
    (fun _ _ _ => rfl) (fun c i d' g _ hi hU => by
      have hpos := gs_pos_lt hi hj
      have hlt : i + j * n < B64 := Nat.lt_trans hpos hB
      simp only [uniform_loop2, bind_assoc]
      cases G.sample_u64 dist.1 dist.2 g with
      | error e => rfl
      | ok r =>
        simp only [bind, Except.bind, ckMul_ok (Nat.lt_of_le_of_lt (Nat.le_add_left _ _) hlt), ckAdd_ok hlt,
          gs_setIdx ((hU.length.trans hd) ▸ hpos)])
    n 0 d g (Nat.le_refl _) (Nat.le_of_eq (Nat.zero_add n)) (Loop.Untouched.refl _ _ _ _)

theorem accM_draw_okv (drawM : St → R (Nat × St)) (drawG : BlakeRNG → R (BlakeRNG × Nat))
    (hdraw : ∀ s, okv (drawG (ofSt s)) = (okv (drawM s)).map fun r => (ofSt r.2, r.1)) :
    ∀ (c j : Nat) (s : St), okv (Loop.accM (fun _ g => drawG g >>= fun r => .ok (r.2, r.1)) c j (ofSt s)) =
      (okv (sampleMany drawM c s)).map fun r => (r.1, ofSt r.2)
  | 0, _, _ => rfl
  | c + 1, j, s => by
    rw [Loop.accM, sampleMany_succ, okv_bind, okv_bind, okv_bind, hdraw s]
    cases drawM s with
    | error e => rfl
    | ok r =>
      obtain ⟨v, s1⟩ := r
      simp only [okv_ok, Option.map_some, Option.bind_some, okv_bind, accM_draw_okv drawM drawG hdraw c (j + 1) s1, okv_pure]
      cases okv (sampleMany drawM c s1) <;> rfl

/-- all rows: row `j + t` gets `C[t]` -/
def wrows (n : Nat) : Nat → List (List Nat) → List Nat → List Nat := Loop.scat2 fun a b => b + a * n

theorem gs_uniform_loop1_okv (U : Uniform) (xof : Xof) (qs : List Nat) (n : Nat) (hB : qs.length * n < B64) :
    ∀ (c j : Nat) (s : St) (d : List Nat), j + c = qs.length → d.length = qs.length * n →
      okv (uniform_loop1 (blakeOps U xof) qs n c j (ofSt s) d) =
        (okv (uniformPoly U xof s n (qs.drop j))).map fun r => (ofSt r.2, wrows n j r.1 d)
  | 0, j, s, d, hj, _ => by
    rw [List.drop_eq_nil_of_le (i := j) (Nat.le_of_eq hj.symm)]; rfl
  | c + 1, j, s, d, hj, hd => by
    have hjl : j < qs.length := by omega
    have hdrop : qs.drop j = qs.getD j 0 :: qs.drop (j + 1) := by
      rw [List.drop_eq_getElem_cons hjl]; simp [List.getD_eq_getElem?_getD, List.getElem?_eq_getElem hjl]
    rw [hdrop, uniform_loop1, gs_idx hjl]
    generalize qs.getD j 0 = q
    simp only [R.ok_bind', uniformPoly]
    cases ckSub q 1 with
    | error e => rfl
    | ok hi =>
      have hu : uniformNewU64 0 hi = .ok (0, hi) := if_pos (Nat.zero_le hi)
      simp only [R.ok_bind', hu, Nat.sub_zero]
      rw [gs_row_eq _ qs.length n j _ hjl hB (ofSt s) d hd]
      simp only [okv_bind, bind_assoc]
      rw [accM_draw_okv (U.u64 0 hi xof) (fun g => (blakeOps U xof).sample_u64 0 hi g) (blakeOps_u64_okv U xof 0 hi) n 0 s]
      cases sampleMany (U.u64 0 hi xof) n s with
      | error e => rfl
      | ok r =>
        obtain ⟨vs, s1⟩ := r
        simp only [okv_ok, Option.map_some, Option.bind_some]
        rw [gs_uniform_loop1_okv U xof qs n hB c (j + 1) s1 _ (by omega) (by rw [Loop.scat_length]; exact hd)]
        cases uniformPoly U xof s1 n (qs.drop (j + 1)) <;> rfl

theorem wrows_flat (k n : Nat) (C : List (List Nat)) (d : List Nat) (hd : d.length = k * n) (hC : C.length = k)
    (hrow : ∀ j, j < k → (C.getD j []).length = n) : wrows n 0 C d = flatCM k n C :=
  gs_flat_of_pointwise k n C _ (by rw [wrows, Loop.scat2_length, hd]) (fun t j ht hj => by
    have := Loop.scat2_get (fun a b => b + a * n) C 0 d (fun a b a' b' h1 h2 h3 h4 he => by
      simp only [Nat.zero_add] at he
      have := gs_pos_inj (hrow a (hC ▸ h1) ▸ h2) (hrow a' (hC ▸ h3) ▸ h4) he
      exact ⟨this.2, this.1⟩)
      j t (hC ▸ hj) (by rw [hrow j hj]; exact ht) (by simp only [Nat.zero_add]; rw [hd]; exact gs_pos_lt ht hj)
    simp only [Nat.zero_add] at this
    rw [wrows, List.getD_eq_getElem?_getD, this, ← List.getD_eq_getElem?_getD])

theorem gs_uniform_iff (U : Uniform) (xof : Xof) (s : St) (n : Nat) (moduli dest : List Nat)
    (hd : dest.length = moduli.length * n) (hB : moduli.length * n < B64) (g' : BlakeRNG) (d' : List Nat) :
    GenRng.uniform (blakeOps U xof) (ofSt s) moduli n dest = .ok (g', d') ↔
      ∃ c s', uniformPoly U xof s n moduli = .ok (c, s') ∧ g' = ofSt s' ∧ d' = flatCM moduli.length n c := by
  unfold GenRng.uniform
  simp only [Nat.sub_zero]
  rw [bind_pair_eta, ← okv_eq_some, gs_uniform_loop1_okv U xof moduli n hB moduli.length 0 s dest (Nat.zero_add _) hd, List.drop_zero]
  cases h : uniformPoly U xof s n moduli with
  | error e =>
    constructor
    · intro h'; cases h'
    · rintro ⟨c, s', h', _⟩; cases h'
  | ok r =>
    obtain ⟨C, s1⟩ := r
    obtain ⟨hl, hrow⟩ := uniformPoly_shape U xof n moduli s s1 C h
    simp only [okv_ok, Option.map_some, Option.some.injEq, Prod.mk.injEq, Except.ok.injEq]
    rw [wrows_flat moduli.length n C dest hd hl hrow]
    constructor
    · rintro ⟨rfl, rfl⟩; exact ⟨C, s1, ⟨rfl, rfl⟩, rfl, rfl⟩
    · rintro ⟨c, s', ⟨rfl, rfl⟩, rfl, rfl⟩; exact ⟨rfl, rfl⟩

end HC.GenRng
