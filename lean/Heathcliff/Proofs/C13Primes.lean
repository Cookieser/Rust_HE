/- C13 (imports Mathlib: Nat.Prime, finite fields for Fermat): the contract of `get_primes` (`get_primes_spec`: `count` distinct values of exactly the requested bit size, ≡ 1 modulo the factor,
   accepted by the primality test, in descending order — the first `count` accepted members of `candidates`, which lists every such value:
   `candidates_props`, `candidates_complete`) and Miller–Rabin completeness: a prime is never rejected (`isPrimeW_no_false_negative`). -/
import Heathcliff.Model.Context
import Heathcliff.Proofs.C08A
import Heathcliff.Proofs.C08B
import Mathlib.Data.Nat.Prime.Basic
import Mathlib.FieldTheory.Finite.Basic
import Mathlib.Data.ZMod.Basic
import Mathlib.Data.Nat.Log
import Mathlib.Tactic.NormNum.Prime
namespace HC.Ctx
open HC

/-- the values `get_primes` looks at, in the order it looks at them: `value, value - factor, …` while `> lower` -/
def cands (factor lower : Nat) : Nat → Nat → List Nat
  | 0, _ => []
  | fuel+1, value => if value > lower then value :: cands factor lower fuel (value - factor) else []

/-- first candidate: the largest value `≤ 2^b` that is `≡ 1 (mod factor)` -/
def startValue (factor b : Nat) : Nat := (2^b - 1) / factor * factor + 1

/-- the values `get_primes` tries for bit size `b`: the numbers ≡ 1 (mod `factor`) from `startValue` (the largest below 2^b) downwards in steps
    of `factor`, as long as they stay above 2^(b−1) -/
def candidates (factor b : Nat) : List Nat := cands factor (2^(b-1)) (startValue factor b + 1) (startValue factor b)

theorem getPrimesLoop_spec (isPrime : Nat → Bool) (factor lower : Nat) :
    ∀ (fuel value count : Nat) (acc l : List Nat),
      getPrimesLoop isPrime factor lower fuel value count acc = .ok l →
      l = acc ++ ((cands factor lower fuel value).filter isPrime).take count ∧ l.length = acc.length + count := by
  intro fuel
  induction fuel with
  | zero => intro value count acc l h; simp [getPrimesLoop] at h
  | succ fuel ih =>
    intro value count acc l h
    rw [getPrimesLoop] at h
    by_cases hc : count > 0 ∧ value > lower
    · rw [if_pos hc] at h
      split at h
      · cases h
      · simp only [bind, Except.bind] at h
        cases hs : ckSub value factor with
        | error e => rw [hs] at h; cases h
        | ok v' =>
          rw [hs] at h
          simp only at h
          have hv' := (ckSub_eq_ok hs).2
          subst hv'
          have hcd : cands factor lower (fuel+1) value = value :: cands factor lower fuel (value - factor) := by
            rw [cands, if_pos hc.2]
          obtain ⟨c, rfl⟩ : ∃ c, count = c + 1 := ⟨count - 1, by omega⟩
          by_cases hp : isPrime value = true
          · rw [if_pos hp] at h
            obtain ⟨h1, h2⟩ := ih _ _ _ _ h
            rw [hcd, List.filter_cons_of_pos hp, List.take_succ_cons]
            constructor
            · rw [h1]; simp
            · rw [h2]; simp; omega
          · rw [if_neg hp] at h
            obtain ⟨h1, h2⟩ := ih _ _ _ _ h
            rw [hcd, List.filter_cons_of_neg hp]
            exact ⟨h1, h2⟩
    · rw [if_neg hc] at h
      split at h
      · cases h
      · rename_i hc0
        have : count = 0 := by omega
        subst this
        simp only [pure, Except.pure] at h
        injection h with h
        subst h
        simp

theorem getPrimes_eq {isPrime : Nat → Bool} {factor b count : Nat} {l : List Nat}
    (h : getPrimes isPrime factor b count = .ok l) :
    l = ((candidates factor b).filter isPrime).take count ∧ l.length = count := by
  unfold getPrimes at h
  obtain ⟨_, h⟩ := R.guard_eq_ok.mp h
  obtain ⟨_, h⟩ := R.guard_eq_ok.mp h
  obtain ⟨_, h⟩ := R.guard_eq_ok.mp h
  have := getPrimesLoop_spec _ _ _ _ _ _ _ _ h
  simpa [candidates, startValue] using this

theorem cands_mem {factor lower : Nat} (hf : 1 ≤ factor) :
    ∀ (fuel value v : Nat), v ∈ cands factor lower fuel value →
      lower < v ∧ v ≤ value ∧ v % factor = value % factor ∧ (v ≠ value → v + factor ≤ value) := by
  intro fuel
  induction fuel with
  | zero => intro value v h; simp [cands] at h
  | succ fuel ih =>
    intro value v h
    rw [cands] at h
    split at h
    · rename_i hgt
      rcases List.mem_cons.mp h with h | h
      · subst h; exact ⟨hgt, le_refl _, rfl, fun hne => absurd rfl hne⟩
      · obtain ⟨h1, h2, h3, _⟩ := ih _ _ h
        have hfv : factor ≤ value := by omega
        refine ⟨h1, by omega, ?_, fun _ => by omega⟩
        rw [h3]
        exact (Nat.mod_eq_sub_mod hfv).symm
    · simp at h

theorem cands_pairwise {factor lower : Nat} (hf : 1 ≤ factor) :
    ∀ (fuel value : Nat), (cands factor lower fuel value).Pairwise (· > ·) := by
  intro fuel
  induction fuel with
  | zero => intro value; simp [cands]
  | succ fuel ih =>
    intro value
    rw [cands]
    split
    · refine List.Pairwise.cons ?_ (ih _)
      intro v hv
      obtain ⟨h1, h2, _, _⟩ := cands_mem hf _ _ _ hv
      show value > v
      omega
    · exact List.Pairwise.nil

theorem startValue_le {factor b : Nat} : startValue factor b ≤ 2^b := by
  unfold startValue
  have := Nat.div_mul_le_self (2^b - 1) factor
  have : 0 < 2^b := Nat.pow_pos (by norm_num)
  omega

theorem startValue_mod {factor b : Nat} : startValue factor b % factor = 1 % factor := by
  unfold startValue
  exact Nat.mul_add_mod' _ _ _

/-- the candidate list is strictly descending, inside `(2^(b-1), 2^b]`, and every member is `≡ 1 (mod factor)` -/
theorem candidates_props {factor b : Nat} (hf : 1 ≤ factor) :
    (candidates factor b).Pairwise (· > ·) ∧
    ∀ v ∈ candidates factor b, 2^(b-1) < v ∧ v ≤ 2^b ∧ v % factor = 1 % factor := by
  refine ⟨cands_pairwise hf _ _, ?_⟩
  intro v hv
  obtain ⟨h1, h2, h3, _⟩ := cands_mem hf _ _ _ hv
  exact ⟨h1, le_trans h2 startValue_le, h3.trans startValue_mod⟩

theorem step_down {factor v value : Nat} (hlt : v < value) (hm : v % factor = value % factor) :
    v + factor ≤ value := by
  have h1 := Nat.div_add_mod v factor
  have h2 := Nat.div_add_mod value factor
  have h3 : v / factor < value / factor := by
    by_contra hh
    have h4 : value / factor ≤ v / factor := by omega
    have := Nat.mul_le_mul_left factor h4
    omega
  have h5 := Nat.mul_le_mul_left factor (show v / factor + 1 ≤ value / factor from h3)
  rw [Nat.mul_add, Nat.mul_one] at h5
  omega

theorem cands_complete {factor lower : Nat} (hf : 1 ≤ factor) {v : Nat} (hlow : lower < v) :
    ∀ (fuel value : Nat), v ≤ value → value < fuel → v % factor = value % factor →
      v ∈ cands factor lower fuel value := by
  intro fuel
  induction fuel with
  | zero => intro value _ h; omega
  | succ fuel ih =>
    intro value hle hfuel hm
    rw [cands, if_pos (show value > lower by omega)]
    by_cases heq : v = value
    · subst heq; exact List.mem_cons_self
    · have hlt : v < value := by omega
      have hs := step_down hlt hm
      refine List.mem_cons_of_mem _ (ih _ (by omega) (by omega) ?_)
      rw [hm]
      exact Nat.mod_eq_sub_mod (by omega)

theorem le_startValue {factor b v : Nat} (hf : 1 ≤ factor) (h0 : 1 ≤ v) (h2 : v ≤ 2^b)
    (h3 : v % factor = 1 % factor) : v ≤ startValue factor b := by
  unfold startValue
  have hd : factor ∣ v - 1 := (Nat.modEq_iff_dvd' h0).mp h3.symm
  obtain ⟨k, hk⟩ := hd
  have hk' : k * factor ≤ 2^b - 1 := by rw [Nat.mul_comm, ← hk]; omega
  have h4 : k ≤ (2^b - 1) / factor := (Nat.le_div_iff_mul_le hf).mpr hk'
  have h5 := Nat.mul_le_mul_right factor h4
  rw [Nat.mul_comm] at hk
  omega

/-- … and it contains EVERY such value (so "first `count` accepted candidates" means the `count` largest accepted
    values of the residue class in the bit range) -/
theorem candidates_complete {factor b : Nat} (hf : 1 ≤ factor) {v : Nat}
    (h1 : 2^(b-1) < v) (h2 : v ≤ 2^b) (h3 : v % factor = 1 % factor) : v ∈ candidates factor b := by
  unfold candidates
  refine cands_complete hf h1 _ _ (le_startValue hf (Nat.lt_of_le_of_lt (Nat.zero_le _) h1) h2 h3) (Nat.lt_succ_self _) ?_
  rw [h3, startValue_mod]

theorem bitCount_eq_of_range {v b : Nat} (hb1 : 1 ≤ b) (h1 : 2^(b-1) < v) (h2 : v < 2^b) : bitCount v = b := by
  have hv : v ≠ 0 := Nat.ne_of_gt (Nat.lt_of_le_of_lt (Nat.zero_le _) h1)
  unfold bitCount
  rw [if_neg hv]
  have : Nat.log2 v = b - 1 := by
    rw [Nat.log2_eq_iff hv]
    refine ⟨le_of_lt h1, ?_⟩
    rwa [Nat.sub_add_cancel hb1]
  omega

theorem get_primes_spec {isPrime : Nat → Bool} {factor b count : Nat} {l : List Nat}
    (hb1 : 1 ≤ b) (hf : 1 ≤ factor) (h2 : isPrime (2^b) = false)
    (h : getPrimes isPrime factor b count = .ok l) :
    l.length = count ∧ l.Pairwise (· > ·) ∧ l.Nodup ∧
    (∀ v ∈ l, isPrime v = true ∧ v % factor = 1 % factor ∧ 2^(b-1) < v ∧ v < 2^b ∧ bitCount v = b) ∧
    l = ((candidates factor b).filter isPrime).take count := by
  obtain ⟨he, hlen⟩ := getPrimes_eq h
  obtain ⟨hpw, hmem⟩ := candidates_props (factor := factor) (b := b) hf
  have hsub : l.Sublist (candidates factor b) := by
    rw [he]; exact (List.take_sublist _ _).trans List.filter_sublist
  have hpl : l.Pairwise (· > ·) := hpw.sublist hsub
  refine ⟨hlen, hpl, hpl.imp (fun h => ne_of_gt h), ?_, he⟩
  intro v hv
  have hvf : v ∈ (candidates factor b).filter isPrime := by
    rw [he] at hv; exact List.mem_of_mem_take hv
  obtain ⟨hvc, hvp⟩ := List.mem_filter.mp hvf
  obtain ⟨a1, a2, a3⟩ := hmem v hvc
  have hne : v ≠ 2^b := by
    intro heq; rw [heq, h2] at hvp; cases hvp
  have hlt : v < 2^b := lt_of_le_of_ne a2 hne
  exact ⟨hvp, a3, a1, hlt, bitCount_eq_of_range hb1 a1 hlt⟩

/-! ### Miller–Rabin completeness -/

theorem splitPow2_gen : ∀ (f d r : Nat), d ≠ 0 → d < 2^f →
    (splitPow2 f d r).1 * 2^(splitPow2 f d r).2 = d * 2^r ∧ (splitPow2 f d r).1 % 2 = 1 := by
  intro f
  induction f with
  | zero => intro d r h0 h1; simp at h1; exact absurd h1 h0
  | succ f ih =>
    intro d r h0 h1
    rw [splitPow2]
    split
    · rename_i he
      have h2 : d / 2 ≠ 0 := by omega
      have h3 : d / 2 < 2^f := by rw [Nat.pow_succ] at h1; omega
      obtain ⟨a1, a2⟩ := ih (d / 2) (r + 1) h2 h3
      refine ⟨?_, a2⟩
      rw [a1, Nat.pow_succ, ← Nat.mul_assoc, Nat.mul_right_comm, Nat.div_mul_cancel (Nat.dvd_of_mod_eq_zero he)]
    · exact ⟨rfl, by omega⟩

/-- `splitPow2` computes the odd part: `n = 2^r * d`, `d` odd (for `0 < n < 2^64`) -/
theorem splitPow2_spec {n : Nat} (h0 : 0 < n) (h : n < 2^64) :
    (splitPow2 64 n 0).1 * 2^(splitPow2 64 n 0).2 = n ∧ (splitPow2 64 n 0).1 % 2 = 1 := by
  have := splitPow2_gen 64 n 0 (Nat.ne_of_gt h0) h
  simpa using this

theorem sqrt_one {p x : Nat} (hp : p.Prime) (hx : x < p) (h : x * x % p = 1) : x = 1 ∨ x = p - 1 := by
  have : Fact p.Prime := ⟨hp⟩
  have h1 : ((x * x : ℕ) : ZMod p) = ((1 : ℕ) : ZMod p) := by
    rw [ZMod.natCast_eq_natCast_iff']
    rw [h, Nat.mod_eq_of_lt hp.one_lt]
  push_cast at h1
  rcases mul_self_eq_one_iff.mp h1 with h2 | h2
  · left
    have h3 : ((x : ℕ) : ZMod p) = ((1 : ℕ) : ZMod p) := by rw [h2]; simp
    rw [ZMod.natCast_eq_natCast_iff', Nat.mod_eq_of_lt hx, Nat.mod_eq_of_lt hp.one_lt] at h3
    exact h3
  · right
    have h3 : ((x + 1 : ℕ) : ZMod p) = 0 := by push_cast; rw [h2]; ring
    rw [ZMod.natCast_eq_zero_iff] at h3
    have := Nat.le_of_dvd (by omega) h3
    omega

theorem fermat_nat {p a : Nat} (hp : p.Prime) (ha : 0 < a) (hlt : a < p) : a^(p-1) % p = 1 := by
  have hc : Nat.Coprime a p :=
    Nat.Coprime.symm ((Nat.Prime.coprime_iff_not_dvd hp).mpr (Nat.not_dvd_of_pos_of_lt ha hlt))
  have h := Nat.ModEq.pow_totient hc
  rw [Nat.totient_prime hp] at h
  have h' : a^(p-1) % p = 1 % p := h
  rw [h', Nat.mod_eq_of_lt hp.one_lt]

section MR
variable {m : Modulus}

theorem mrInner_ok (hwf : m.WF) (hp : m.value.Prime) {r : Nat} :
    ∀ (k fuel x count : Nat), 2 ≤ k → k ≤ fuel + 1 → count + k = r → x < m.value → x ≠ 1 → x ≠ m.value - 1 →
      x^(2^k) % m.value = 1 → mrInner m fuel x count r = .ok (m.value - 1) := by
  intro k
  induction k with
  | zero => intro fuel x count h; omega
  | succ k ih =>
    intro fuel x count hk hfuel hcr hx hx1 hxm hpow
    have hp61 := hwf.lt
    obtain ⟨f, rfl⟩ : ∃ f, fuel = f + 1 := ⟨fuel - 1, by omega⟩
    rw [mrInner]
    have hx64 : x < 2^64 := by omega
    rw [mulMod_exact hwf hx64 hx64]
    simp only [bind, Except.bind]
    have hx'lt : x * x % m.value < m.value := Nat.mod_lt _ hp.pos
    have hx'pow : (x * x % m.value)^(2^k) % m.value = 1 := by
      rw [← Nat.pow_mod, ← Nat.pow_two, ← Nat.pow_mul, ← Nat.pow_succ'] 
      exact hpow
    have hx'1 : x * x % m.value ≠ 1 := by
      intro h
      rcases sqrt_one hp hx h with h | h
      · exact hx1 h
      · exact hxm h
    by_cases hm1 : x * x % m.value = m.value - 1
    · rw [if_pos (Or.inl hm1)]; simp only [pure, Except.pure, hm1]
    · by_cases hk2 : k = 1
      · exfalso
        subst hk2
        have h2 : (x * x % m.value) * (x * x % m.value) % m.value = 1 := by
          rw [← Nat.pow_two]; simpa using hx'pow
        rcases sqrt_one hp hx'lt h2 with h | h
        · exact hx'1 h
        · exact hm1 h
      · have hnot : ¬ (x * x % m.value = m.value - 1 ∨ count + 2 ≥ r) := by
          intro h; rcases h with h | h
          · exact hm1 h
          · omega
        rw [if_neg hnot]
        exact ih f _ (count + 1) (by omega) (by omega) (by omega) hx'lt hx'1 hm1 hx'pow

theorem mr_round (hwf : m.WF) (hp : m.value.Prime) {d r a : Nat} (hdr : d * 2^r = m.value - 1) (hd : d % 2 = 1)
    (hr : 1 ≤ r) (ha : 0 < a) (hlt : a < m.value) :
    ∃ x, exponentiateMod a d m = .ok x ∧
      (x = 1 ∨ x = m.value - 1 ∨ mrInner m 64 x 0 r = .ok (m.value - 1)) := by
  have hp61 := hwf.lt
  have hpos : 0 < 2^r := Nat.pow_pos (by norm_num)
  have hdle : d ≤ m.value - 1 := by rw [← hdr]; exact Nat.le_mul_of_pos_right _ hpos
  have hexp : exponentiateMod a d m = .ok (a^d % m.value) := by
    rw [exponentiateMod_exact (fun hx hy => mulMod_exact hwf hx hy) hwf (x := a) (e := d) (by omega) (by omega)]
    rw [if_neg (by omega)]
    by_cases h1 : d = 1
    · rw [if_pos h1, h1, Nat.pow_one, Nat.mod_eq_of_lt hlt]
    · rw [if_neg h1]
  refine ⟨_, hexp, ?_⟩
  have hxlt : a^d % m.value < m.value := Nat.mod_lt _ hp.pos
  have hpow : (a^d % m.value)^(2^r) % m.value = 1 := by
    rw [← Nat.pow_mod, ← Nat.pow_mul, hdr]
    exact fermat_nat hp ha hlt
  by_cases h1 : a^d % m.value = 1
  · exact Or.inl h1
  by_cases h2 : a^d % m.value = m.value - 1
  · exact Or.inr (Or.inl h2)
  right; right
  by_cases hr1 : r = 1
  · exfalso
    subst hr1
    have h3 : (a^d % m.value) * (a^d % m.value) % m.value = 1 := by
      rw [← Nat.pow_two]; simpa using hpow
    rcases sqrt_one hp hxlt h3 with h | h
    · exact h1 h
    · exact h2 h
  · have hr61 : r < 64 := by
      by_contra hh
      have : 2^64 ≤ 2^r := Nat.pow_le_pow_right (by norm_num) (by omega)
      have : 2^r ≤ d * 2^r := Nat.le_mul_of_pos_left _ (by omega)
      omega
    exact mrInner_ok hwf hp r 64 _ 0 (by omega) (by omega) (by omega) hxlt h1 h2 hpow

theorem mrRounds_ok (hwf : m.WF) (hp : m.value.Prime) {d r : Nat} (hdr : d * 2^r = m.value - 1) (hd : d % 2 = 1)
    (hr : 1 ≤ r) (h2 : 2 < m.value) (wit : Nat → Nat) (hw : ∀ i, 3 ≤ wit i ∧ wit i < m.value) :
    ∀ (n i : Nat), mrRounds m d r wit n i = .ok true := by
  intro n
  induction n with
  | zero => intro i; rfl
  | succ n ih =>
    intro i
    rw [mrRounds]
    have ha : 0 < (if i = 0 then 2 else wit i) ∧ (if i = 0 then 2 else wit i) < m.value := by
      split
      · exact ⟨by norm_num, h2⟩
      · exact ⟨by have := (hw i).1; omega, (hw i).2⟩
    obtain ⟨x, hx, hcase⟩ := mr_round hwf hp hdr hd hr ha.1 ha.2
    simp only [hx, bind, Except.bind]
    by_cases hc : x = 1 ∨ x = m.value - 1
    · rw [if_pos hc]; exact ih _
    · rw [if_neg hc]
      have hin : mrInner m 64 x 0 r = .ok (m.value - 1) := by
        rcases hcase with h | h | h
        · exact absurd (Or.inl h) hc
        · exact absurd (Or.inr h) hc
        · exact h
      rw [hin]
      simp only [ne_eq, not_true_eq_false, if_false]
      exact ih _

end MR

theorem prime_mod_ne {v q : Nat} (hp : v.Prime) (hq : q.Prime) (hne : ¬ v = q) : ¬ v % q = 0 := by
  intro h
  have := (Nat.prime_dvd_prime_iff_eq hq hp).mp (Nat.dvd_of_mod_eq_zero h)
  exact hne this.symm

/-- a prime is never rejected, whatever witnesses in `[3, v)` the random generator produces -/
theorem isPrimeW_no_false_negative {v : Nat} {m : Modulus} (hm : Modulus.mk? v = .ok m) (hp : v.Prime)
    (wit : Nat → Nat) (hw : ∀ i, 3 ≤ wit i ∧ wit i < v) : isPrimeW m wit = .ok true := by
  obtain ⟨hwf, hv⟩ := Modulus.mk?_wf hm hp.ne_zero
  subst hv
  have hp61 := hwf.lt
  unfold isPrimeW
  simp only
  rw [if_neg (by have := hp.two_le; omega)]
  by_cases h2 : m.value = 2
  · rw [if_pos h2]; rfl
  rw [if_neg h2, if_neg (prime_mod_ne hp Nat.prime_two h2)]
  by_cases h3 : m.value = 3
  · rw [if_pos h3]; rfl
  rw [if_neg h3, if_neg (prime_mod_ne hp Nat.prime_three h3)]
  by_cases h5 : m.value = 5
  · rw [if_pos h5]; rfl
  rw [if_neg h5, if_neg (prime_mod_ne hp Nat.prime_five h5)]
  by_cases h7 : m.value = 7
  · rw [if_pos h7]; rfl
  rw [if_neg h7, if_neg (prime_mod_ne hp (by norm_num) h7)]
  by_cases h11 : m.value = 11
  · rw [if_pos h11]; rfl
  rw [if_neg h11, if_neg (prime_mod_ne hp (by norm_num) h11)]
  by_cases h13 : m.value = 13
  · rw [if_pos h13]; rfl
  rw [if_neg h13, if_neg (prime_mod_ne hp (by norm_num) h13)]
  have hodd := prime_mod_ne hp Nat.prime_two h2
  have hge := hp.two_le
  obtain ⟨s1, s2⟩ := splitPow2_spec (n := m.value - 1) (by omega) (by omega)
  have hr : (splitPow2 64 (m.value - 1) 0).2 ≠ 0 := by
    intro h0
    rw [h0, Nat.pow_zero, Nat.mul_one] at s1
    rw [s1] at s2
    omega
  rw [if_neg hr]
  exact mrRounds_ok hwf hp s1 s2 (by omega) (by omega) wit hw _ _

end HC.Ctx
