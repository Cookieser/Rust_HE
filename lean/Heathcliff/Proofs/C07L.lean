/- C07 (noise budget laws) and C05 (modulus-switch message preservation): integer lemmas; also the home of the `bitCount` facts
   (`bitCount_le_iff`, `bitCount_mono`).
   `Spec.budget bfv t Q ph = (bits Q − bits ‖ν‖∞ − 1).toNat` with ν_c = centred([t·x_c]_Q) (BFV) resp. x_c (BGV), see
   Heathcliff/Spec/Scheme.lean; `bitCount v = 0 if v = 0 else log2 v + 1`. -/
import Heathcliff.Spec.Scheme
import Heathcliff.Proofs.Base
import Heathcliff.Proofs.Centred
import Mathlib.Data.Nat.Log
import Mathlib.Tactic.LinearCombination
namespace HC

theorem bitCount_le_iff (v k : Nat) : bitCount v ≤ k ↔ v < 2^k := bitCount_le_iff_lt

theorem bitCount_mono {a b : Nat} (h : a ≤ b) : bitCount a ≤ bitCount b := bitCount_le_of_le h

/-- the infinity norm the budget is computed from -/
def noiseNorm (bfv : Bool) (t Q : Nat) (ph : Array Int) : Nat :=
  ph.foldl (fun acc x =>
      let v := if bfv then Spec.centred (Spec.imod (t * x) Q) Q else x
      max acc v.natAbs) 0

theorem budget_eq (bfv : Bool) (t Q : Nat) (ph : Array Int) :
    Spec.budget bfv t Q ph = ((bitCount Q : Int) - (bitCount (noiseNorm bfv t Q ph) : Int) - 1).toNat := rfl

/-! ### the centred lift: the representative in (−Q/2, Q/2], hence a smallest one -/

/-- the centred representative is a smallest one: a smaller one would be its own centred lift -/
theorem c07l_centred_le (y : Int) {Q : Nat} (hQ : 0 < Q) : (Spec.centred (Spec.imod y Q) Q).natAbs ≤ y.natAbs := by
  by_contra hlt
  have hb := centred_natAbs_le (Spec.imod y Q) hQ
  rw [c01j_centred_small (by omega)] at hlt
  exact hlt (Nat.le_refl _)

/-- centred(−x) = −centred(x) when Q is odd (coefficient moduli are odd primes) -/
theorem centred_neg {Q : Nat} (hQ : Q % 2 = 1) (x : Int) :
    Spec.centred (Spec.imod (-x) Q) Q = - Spec.centred (Spec.imod x Q) Q := by
  have hb := centred_natAbs_le (Spec.imod x Q) (show 0 < Q by omega)
  -- −x ≡ −c for the lift c of x, and −c is its own lift: 2|c| ≤ Q is strict for odd Q
  rw [← centredZ_congr (centredZ_modEq (by omega) x).neg]
  exact c01j_centred_small (by rw [Int.natAbs_neg]; omega)

theorem c07l_noiseNorm_map_neg (bfv : Bool) {t Q : Nat} (hQ : Q % 2 = 1) (ph : Array Int) :
    noiseNorm bfv t Q (ph.map (fun x => -x)) = noiseNorm bfv t Q ph := by
  unfold noiseNorm
  rw [Array.foldl_map]
  congr 1
  funext acc x
  cases bfv
  · simp
  · simp only [if_true]
    rw [mul_neg, centred_neg hQ, Int.natAbs_neg]

/-- NEGATION preserves the budget exactly (Q odd) -/
theorem budget_negate (bfv : Bool) {t Q : Nat} (hQ : Q % 2 = 1) (ph : Array Int) :
    Spec.budget bfv t Q (ph.map (fun x => -x)) = Spec.budget bfv t Q ph := by
  rw [budget_eq, budget_eq, c07l_noiseNorm_map_neg bfv hQ]

/-- triangle inequality: the sum of the two lifts represents x + y, and the lift of x + y is smallest -/
theorem centred_add_le {Q : Nat} (hQ : 0 < Q) (x y : Int) :
    (Spec.centred (Spec.imod (x + y) Q) Q).natAbs ≤ (Spec.centred (Spec.imod x Q) Q).natAbs + (Spec.centred (Spec.imod y Q) Q).natAbs := by
  rw [centredZ_congr ((centredZ_modEq hQ x).add (centredZ_modEq hQ y)).symm]
  exact Nat.le_trans (c07l_centred_le _ hQ) (Int.natAbs_add_le _ _)

/-- the noise VALUE of one phase coefficient x, the quantity whose largest absolute value `noiseNorm` is (`c07l_noiseNorm_list`):
    for BFV the centred representative of t·x modulo Q (the invariant noise), for BGV x itself.  It is the `let v` inside the fixed
    definition `noiseNorm`, named so that lemmas can speak of it. -/
def c07l_v (bfv : Bool) (t Q : Nat) (x : Int) : Int :=
  if bfv then Spec.centred (Spec.imod (t * x) Q) Q else x

/-- the invariant-noise splitting of a BFV phase coefficient: t·x = Q·m + ν with ν the noise value and m = (t·x − ν)/Q -/
theorem c07l_split (t : Nat) {Q : Nat} (hQ : 0 < Q) (x : Int) :
    (t : Int) * x = Q * (((t : Int) * x - c07l_v true t Q x) / (Q : Int)) + c07l_v true t Q x := by
  obtain ⟨κ, hκ⟩ := Int.modEq_iff_dvd.mp (centredZ_modEq hQ ((t : Int) * x))
  rw [show c07l_v true t Q x = _ from if_pos rfl, hκ, Int.mul_ediv_cancel_left _ (by omega), ← hκ]
  ring

theorem c07l_noiseNorm_list (bfv : Bool) (t Q : Nat) (ph : Array Int) :
    noiseNorm bfv t Q ph = ph.toList.foldl (fun acc x => max acc (c07l_v bfv t Q x).natAbs) 0 := by
  unfold noiseNorm c07l_v
  rw [Array.foldl_toList]

theorem c07l_foldl_max_le_iff {α : Type} (g : α → Nat) (l : List α) (a c : Nat) :
    l.foldl (fun acc x => max acc (g x)) a ≤ c ↔ a ≤ c ∧ ∀ x ∈ l, g x ≤ c := by
  induction l generalizing a with
  | nil => simp
  | cons y l ih =>
    rw [List.foldl_cons, ih]
    simp only [List.mem_cons, forall_eq_or_imp, Nat.max_le]
    tauto

theorem c07l_noiseNorm_le_iff (bfv : Bool) (t Q : Nat) (ph : Array Int) (c : Nat) :
    noiseNorm bfv t Q ph ≤ c ↔ ∀ x ∈ ph.toList, (c07l_v bfv t Q x).natAbs ≤ c := by
  rw [c07l_noiseNorm_list, c07l_foldl_max_le_iff]
  simp

theorem c07l_v_zero (bfv : Bool) (t Q : Nat) : c07l_v bfv t Q 0 = 0 := by
  unfold c07l_v
  cases bfv
  · simp
  · simp [Spec.imod, Spec.centred]

theorem c07l_v_add (bfv : Bool) {t Q : Nat} (hQ : 0 < Q) (x y : Int) :
    (c07l_v bfv t Q (x + y)).natAbs ≤ (c07l_v bfv t Q x).natAbs + (c07l_v bfv t Q y).natAbs := by
  unfold c07l_v
  cases bfv
  · simpa using Int.natAbs_add_le x y
  · simp only [if_true]
    rw [mul_add]
    exact centred_add_le hQ _ _

theorem c07l_v_sum_le (bfv : Bool) {t Q : Nat} (hQ : 0 < Q) {α : Type} (f : α → Int) (c : Nat) (l : List α)
    (h : ∀ a ∈ l, (c07l_v bfv t Q (f a)).natAbs ≤ c) :
    (c07l_v bfv t Q ((l.map f).sum)).natAbs ≤ l.length * c := by
  induction l with
  | nil => simp [c07l_v_zero]
  | cons a l ih =>
    rw [List.map_cons, List.sum_cons, List.length_cons]
    have h1 := c07l_v_add bfv (t := t) hQ (f a) ((l.map f).sum)
    have h2 := h a (List.mem_cons_self ..)
    have h3 := ih (fun b hb => h b (List.mem_cons_of_mem _ hb))
    have : (l.length + 1) * c = l.length * c + c := by ring
    omega

theorem c07l_getD_le (bfv : Bool) (t Q : Nat) (ph : Array Int) (j : Nat) :
    (c07l_v bfv t Q (ph.getD j 0)).natAbs ≤ noiseNorm bfv t Q ph := by
  by_cases hj : j < ph.size
  · have hmem : ph.getD j 0 ∈ ph.toList := by
      simp [Array.getD, hj]
    exact (c07l_noiseNorm_le_iff bfv t Q ph _).1 (Nat.le_refl _) _ hmem
  · have : ph.getD j 0 = 0 := by simp [Array.getD, hj]
    rw [this, c07l_v_zero]; simp

theorem c07l_noiseNorm_sum_le (bfv : Bool) {t Q n : Nat} (hQ : 0 < Q) (phs : List (Array Int)) (c : Nat)
    (hc : ∀ ph ∈ phs, noiseNorm bfv t Q ph ≤ c) :
    noiseNorm bfv t Q (Array.ofFn (n := n) fun j => (phs.map (fun ph => ph.getD j.val 0)).sum) ≤ phs.length * c := by
  rw [c07l_noiseNorm_le_iff]
  intro x hx
  rw [Array.toList_ofFn, List.mem_ofFn] at hx
  obtain ⟨j, rfl⟩ := hx
  apply c07l_v_sum_le bfv hQ
  intro ph hph
  exact Nat.le_trans (c07l_getD_le bfv t Q ph j.val) (hc ph hph)

theorem c07l_le_budget_iff (bfv : Bool) (t Q : Nat) (ph : Array Int) {b : Nat} (hb : 0 < b) :
    b ≤ Spec.budget bfv t Q ph ↔ bitCount (noiseNorm bfv t Q ph) + b < bitCount Q := by
  rw [budget_eq]
  omega

/-- the sharp form: the budget drops by at most ⌈log2 k⌉ (no extra bit, and no size hypothesis needed) -/
theorem c07l_budget_add_k_sharp (bfv : Bool) {t Q n : Nat} (hQ : 0 < Q) (phs : List (Array Int)) (hk : phs ≠ [])
    (b : Nat) (hb : ∀ ph ∈ phs, b ≤ Spec.budget bfv t Q ph) :
    b ≤ Spec.budget bfv t Q (Array.ofFn (n := n) fun j => (phs.map (fun ph => ph.getD j.val 0)).sum)
          + Nat.clog 2 phs.length := by
  rcases Nat.eq_zero_or_pos b with hb0 | hb0
  · omega
  -- bits(Q) = b + e + 1: every operand's norm is below 2^e, so the sum's norm is below k·2^e ≤ 2^(e + ⌈log2 k⌉)
  obtain ⟨e, he⟩ : ∃ e, bitCount Q = b + e + 1 := by
    obtain ⟨ph, hph⟩ := List.exists_mem_of_ne_nil phs hk
    have := (c07l_le_budget_iff bfv t Q ph hb0).1 (hb ph hph)
    exact ⟨bitCount Q - b - 1, by omega⟩
  have hs := c07l_noiseNorm_sum_le bfv (t := t) (n := n) hQ phs (2 ^ e - 1) (fun ph hph => by
    have h1 := (c07l_le_budget_iff bfv t Q ph hb0).1 (hb ph hph)
    have h2 := (bitCount_le_iff (noiseNorm bfv t Q ph) e).1 (by omega)
    omega)
  have hlen : 0 < phs.length := List.length_pos_iff.2 hk
  have hpos : 0 < 2 ^ e := Nat.two_pow_pos _
  have hlt : noiseNorm bfv t Q (Array.ofFn (n := n) fun j => (phs.map (fun ph => ph.getD j.val 0)).sum)
      < 2 ^ (e + Nat.clog 2 phs.length) := by
    calc _ ≤ phs.length * (2 ^ e - 1) := hs
      _ < phs.length * 2 ^ e := Nat.mul_lt_mul_of_pos_left (by omega) hlen
      _ ≤ 2 ^ Nat.clog 2 phs.length * 2 ^ e := Nat.mul_le_mul_right _ (Nat.le_pow_clog (by omega) _)
      _ = 2 ^ (e + Nat.clog 2 phs.length) := by rw [Nat.pow_add, Nat.mul_comm]
  have hbits := (bitCount_le_iff _ _).2 hlt
  rw [budget_eq]
  omega

/-- SUM OF k CIPHERTEXTS: the noise norm of a coefficient-wise sum of k phases is at most k times the largest norm,
    hence the budget drops by at most ⌈log2 k⌉ (the property allows one more bit) -/
theorem budget_add_k (bfv : Bool) {t Q n : Nat} (hQ : 0 < Q) (phs : List (Array Int)) (hk : phs ≠ [])
    (hn : ∀ ph ∈ phs, ph.size = n) (b : Nat) (hb : ∀ ph ∈ phs, b ≤ Spec.budget bfv t Q ph) :
    let sum : Array Int := Array.ofFn (n := n) fun j => (phs.map (fun ph => ph.getD j.val 0)).sum
    b ≤ Spec.budget bfv t Q sum + Nat.clog 2 phs.length + 1 :=
  Nat.le_succ_of_le (c07l_budget_add_k_sharp bfv (t := t) (n := n) hQ phs hk b hb)

/-- EXACTNESS BELOW THE THRESHOLD (BFV): if t·x = Q·m' + ν with 2|ν| < Q then rounding t·x/Q gives m' -/
theorem exact_below_threshold {t Q : Nat} (hQ : 0 < Q) {x m' ν : Int} (h : t * x = Q * m' + ν) (hν : 2 * ν.natAbs < Q) :
    Spec.roundDiv (t * x) Q = m' :=
  h ▸ c01j_roundDiv_small m' ν hν

/-! ### C05: switching down preserves the message -/

/-- BFV: if t·x = Q·m + ν with Q = Q'·q_L, and x' is x divided by q_L up to an error, x = q_L·x' + ρ with |ρ| ≤ q_L·E (E bounds
    the accumulated rounding of the ciphertext polynomials), then t·x' = Q'·m + ν' with |ν'| ≤ |ν|/q_L + t·E -/
theorem bfv_switch_noise {t Q' qL : Nat} (hq : 0 < qL) {x x' m ν ρ : Int} {E : Nat}
    (h : t * x = (Q' * qL : Nat) * m + ν) (hx : x = qL * x' + ρ) (hρ : ρ.natAbs ≤ qL * E) :
    ∃ ν' : Int, t * x' = Q' * m + ν' ∧ ν'.natAbs * qL ≤ ν.natAbs + t * qL * E := by
  refine ⟨t * x' - Q' * m, by ring, ?_⟩
  have key : (t * x' - Q' * m) * (qL : Int) = ν - t * ρ := by
    rw [hx] at h
    push_cast at h
    linear_combination h
  calc (t * x' - Q' * m).natAbs * qL = (ν - t * ρ).natAbs := by rw [← key, Int.natAbs_mul, Int.natAbs_natCast]
    _ ≤ ν.natAbs + ((t : Int) * ρ).natAbs := Int.natAbs_sub_le _ _
    _ = ν.natAbs + t * ρ.natAbs := by rw [Int.natAbs_mul, Int.natAbs_natCast]
    _ ≤ ν.natAbs + t * (qL * E) := Nat.add_le_add_left (Nat.mul_le_mul_left _ hρ) _
    _ = ν.natAbs + t * qL * E := by rw [Nat.mul_assoc]

/-- hence the decrypted message is unchanged as long as the new noise is below the new threshold -/
theorem bfv_switch_message {t Q' qL : Nat} (hq : 0 < qL) (hQ' : 0 < Q') {x x' m ν ρ : Int} {E : Nat}
    (h : t * x = (Q' * qL : Nat) * m + ν) (hx : x = qL * x' + ρ) (hρ : ρ.natAbs ≤ qL * E)
    (hsmall : 2 * (ν.natAbs + t * qL * E) < Q' * qL) :
    Spec.roundDiv (t * x') Q' = m := by
  obtain ⟨ν', h1, h2⟩ := bfv_switch_noise hq h hx hρ
  apply exact_below_threshold hQ' h1
  have : 2 * ν'.natAbs * qL < Q' * qL := by
    have : 2 * ν'.natAbs * qL = 2 * (ν'.natAbs * qL) := by ring
    omega
  exact Nat.lt_of_mul_lt_mul_right this

/-- BGV: x' = (x + δ)/q_L with δ ≡ −x (mod q_L), δ ≡ 0 (mod t) gives x' ≡ q_L^{-1}·x (mod t); with the new correction
    factor f' = f·q_L^{-1} the decoded message f'^{-1}·x' ≡ f^{-1}·x is unchanged -/
theorem bgv_switch_message {t qL : Nat} {x x' δ f f' m iq : Int}
    (hδt : δ ≡ 0 [ZMOD t]) (hdiv : x + δ = qL * x') (hiq : iq * qL ≡ 1 [ZMOD t])
    (hf' : f' ≡ f * iq [ZMOD t]) (hm : x ≡ f * m [ZMOD t]) :
    x' ≡ f' * m [ZMOD t] :=
  calc x' = 1 * x' := (one_mul _).symm
    _ ≡ iq * qL * x' [ZMOD t] := (hiq.mul_right x').symm
    _ = iq * (x + δ) := by rw [hdiv, mul_assoc]
    _ ≡ iq * (f * m + 0) [ZMOD t] := (hm.add hδt).mul_left iq
    _ = f * iq * m := by ring
    _ ≡ f' * m [ZMOD t] := (hf'.mul_right m).symm

/-- CKKS drop: the residues are a prefix, so the phase is the same integer polynomial modulo the smaller product -/
theorem ckks_drop_phase {Q' qL : Nat} (x : Int) : (x % ((Q' * qL : Nat) : Int)) % (Q' : Int) = x % (Q' : Int) := by
  apply Int.emod_emod_of_dvd
  push_cast
  exact Dvd.intro _ rfl

/-- CKKS rescale: |x' − x/q_L| ≤ E when x = q_L·x' + ρ, |ρ| ≤ q_L·E (exact integers) -/
theorem ckks_rescale_error {qL : Nat} (hq : 0 < qL) {x x' ρ : Int} {E : Nat} (hx : x = qL * x' + ρ) (hρ : ρ.natAbs ≤ qL * E) :
    (x' * qL - x).natAbs ≤ qL * E := by
  have : x' * qL - x = -ρ := by rw [hx]; ring
  rw [this, Int.natAbs_neg]; exact hρ

end HC
