import Heathcliff.Proofs.C07S
import Heathcliff.Proofs.C07L
import Heathcliff.Proofs.GenScalingSpec
import Heathcliff.Proofs.C07F
import Heathcliff.Proofs.GenEvalCt
import Heathcliff.Proofs.GenEvalCt3
import Heathcliff.Proofs.GenDecW

/- C07 — the noise budget.  Written out first: the integer laws of the budget (`bitCount`, negation, sum, product, modulus switch;
   proofs in Proofs/C07L).  Then re-exports by `type_of%` with their docstrings: the model's `noiseBudget` against `Spec.budget` of the
   exact phase and what a positive budget gives (Proofs/C07S), fresh budgets (Proofs/C07F), the translator ties for the code that builds
   and measures the ciphertexts (scaled plaintext, negate / translate, the decryptor's norm and budget routines), and their witnesses. -/
namespace HC.C07
open HC
variable {m : Modulus}

/-- bit count is monotone and characterised by powers of two -/
theorem bitCount_le_iff (v k : Nat) : bitCount v ≤ k ↔ v < 2^k := HC.bitCount_le_iff v k

theorem bitCount_mono {a b : Nat} (h : a ≤ b) : bitCount a ≤ bitCount b := HC.bitCount_mono h

theorem budget_eq (bfv : Bool) (t Q : Nat) (ph : Array Int) :
    Spec.budget bfv t Q ph = ((bitCount Q : Int) - (bitCount (noiseNorm bfv t Q ph) : Int) - 1).toNat := HC.budget_eq bfv t Q ph

/-- centred lift is odd for odd moduli (coefficient moduli are odd primes) -/
theorem centred_neg {Q : Nat} (hQ : Q % 2 = 1) (x : Int) :
    Spec.centred (Spec.imod (-x) Q) Q = - Spec.centred (Spec.imod x Q) Q := HC.centred_neg hQ x

/-- NEGATION preserves the budget exactly (Q odd) -/
theorem budget_negate (bfv : Bool) {t Q : Nat} (hQ : Q % 2 = 1) (ph : Array Int) :
    Spec.budget bfv t Q (ph.map (fun x => -x)) = Spec.budget bfv t Q ph := HC.budget_negate bfv hQ ph

/-- triangle inequality for the centred reduction -/
theorem centred_add_le {Q : Nat} (hQ : 0 < Q) (x y : Int) :
    (Spec.centred (Spec.imod (x + y) Q) Q).natAbs ≤ (Spec.centred (Spec.imod x Q) Q).natAbs + (Spec.centred (Spec.imod y Q) Q).natAbs := HC.centred_add_le hQ x y

/-- SUM OF k CIPHERTEXTS: the noise norm of a coefficient-wise sum of k phases is at most k times the largest norm,
    hence the budget drops by at most ⌈log2 k⌉ (the property allows one more bit) -/
theorem budget_add_k (bfv : Bool) {t Q n : Nat} (hQ : 0 < Q) (phs : List (Array Int)) (hk : phs ≠ [])
    (hn : ∀ ph ∈ phs, ph.size = n) (b : Nat) (hb : ∀ ph ∈ phs, b ≤ Spec.budget bfv t Q ph) :
    let sum : Array Int := Array.ofFn (n := n) fun j => (phs.map (fun ph => ph.getD j.val 0)).sum
    b ≤ Spec.budget bfv t Q sum + Nat.clog 2 phs.length + 1 := HC.budget_add_k bfv hQ phs hk hn b hb

/-- EXACTNESS BELOW THE THRESHOLD (BFV): if t·x = Q·m' + ν with 2|ν| < Q then rounding t·x/Q gives m' -/
theorem exact_below_threshold {t Q : Nat} (hQ : 0 < Q) {x m' ν : Int} (h : t * x = Q * m' + ν) (hν : 2 * ν.natAbs < Q) :
    Spec.roundDiv (t * x) Q = m' := HC.exact_below_threshold hQ h hν


/-! ### the model's noise budget = Spec.budget of the exact phase (all sizes), refusals, positive budget ⇒ exact decoding
    (statements, hypothesis bundles and non-vacuity instances: Heathcliff/Proofs/C07S.lean, section "Property theorems") -/

/-- NOISE BUDGET, size 2: on a coefficient-form ciphertext (c0, c1) of a BFV or BGV level the model's `noiseBudget` succeeds and
    returns exactly the budget of the definition, `Spec.budget`, evaluated on the exact big-integer phase `Spec.phase` -/
theorem noiseBudget_size2_eq_spec : type_of% @HC.noiseBudget_size2_eq_spec := @HC.noiseBudget_size2_eq_spec

/-- the same, with the hypothesis bundle discharged by the constructor: `l.tool.baseQ` is what `RNSBase.new` returns on the
    level's moduli (this is how `RNSTool.new` is fed) -/
theorem noiseBudget_size2_eq_spec_of_new : type_of% @HC.noiseBudget_size2_eq_spec_of_new := @HC.noiseBudget_size2_eq_spec_of_new

/-- NOISE BUDGET, any size ≥ 3 (coefficient form): the model's `noiseBudget` returns the budget of the definition on the
    exact phase Σ c_k s^k -/
theorem noiseBudget_gen_eq_spec : type_of% @HC.noiseBudget_gen_eq_spec := @HC.noiseBudget_gen_eq_spec

/-- NOISE BUDGET, any size ≥ 2 -/
theorem noiseBudget_eq_spec : type_of% @HC.noiseBudget_eq_spec := @HC.noiseBudget_eq_spec

/-- REFUSAL: a ciphertext in NTT form -/
theorem noiseBudget_refuses_ntt : type_of% @HC.noiseBudget_refuses_ntt := @HC.noiseBudget_refuses_ntt

/-- REFUSAL: CKKS levels -/
theorem noiseBudget_refuses_ckks : type_of% @HC.noiseBudget_refuses_ckks := @HC.noiseBudget_refuses_ckks

/-- REFUSAL: fewer than two polynomials -/
theorem noiseBudget_refuses_small : type_of% @HC.noiseBudget_refuses_small := @HC.noiseBudget_refuses_small

/-- a positive budget puts every noise value strictly below Q/2 -/
theorem budget_pos_noise_lt : type_of% @HC.budget_pos_noise_lt := @HC.budget_pos_noise_lt

/-- POSITIVE BUDGET ⇒ EXACT ROUNDING (BFV): with a positive budget every coefficient splits as t·x = Q·m' + ν with ν the measured noise,
    2|ν| < Q, and rounding t·x/Q returns the noiseless message m' -/
theorem budget_pos_bfv_round : type_of% @HC.budget_pos_bfv_round := @HC.budget_pos_bfv_round

/-- BFV decoding under a positive budget: for ANY message/noise splitting t·x_c = Q·m_c + e_c with 2|e_c| < Q of the phase
    coefficients, the decoded coefficient is m_c mod t; and such a splitting exists for every coefficient (`budget_pos_bfv_round`) -/
theorem budget_pos_bfvDecode : type_of% @HC.budget_pos_bfvDecode := @HC.budget_pos_bfvDecode

/-- model-level corollary: when the MODEL reports a positive budget on a BFV ciphertext (c0, c1), exact decoding of the phase
    returns the message part of every coefficient, and every noise value is below Q/2 -/
theorem noiseBudget_pos_bfvDecode : type_of% @HC.noiseBudget_pos_bfvDecode := @HC.noiseBudget_pos_bfvDecode

/-! ### translator tie: the scaled plaintext inside every fresh BFV ciphertext whose budget is measured -/

/-- the code generated from `multiply_add_plain` (src/util/scaling_variant.rs) adds exactly Δ(m_i) = round(Q·m_i/t) modulo q_j
    (= `HC.C01.gen_multiply_add_plain_spec`): the message part t·Δ(m) ≡ Q·m + (rounding ≤ t/2) that `noiseBudget` assumes -/
theorem gen_multiply_add_plain_spec : type_of% @HC.gen_multiply_add_plain_spec := @HC.gen_multiply_add_plain_spec

/-- … and it is the hand model `multiplyAddPlain` on the flat buffer (= `HC.C01.gen_multiply_add_plain_eq`) -/
theorem gen_multiply_add_plain_eq : type_of% @HC.gz_multiply_add_plain_eq := @HC.gz_multiply_add_plain_eq

/-! ### fresh budgets meet the worst-case bound (the clause "at least the budget implied by the deterministic bounds") -/

/-- BFV: every phase coefficient is Δ(m_c) + v_c (mod Q) with |v_c| ≤ B ⇒ budget ≥ bits(Q) − bits(t·(B+1)) − 1: the bound the
    `fresh_budget` oracle of the driver enforces with B = 21(2N+1) + N -/
theorem fresh_budget_bfv {Q t B : Nat} (hQ : 0 < Q) (ht : 0 < t) (ph : Array Int)
    (hph : ∀ x ∈ ph.toList, ∃ (m : Nat) (v : Int), v.natAbs ≤ B ∧ x = Spec.centred (Spec.imod ((deltaM Q t m : Int) + v) Q) Q) :
    (bitCount Q : Int) - (bitCount (t * (B + 1)) : Int) - 1 ≤ (Spec.budget true t Q ph : Int) := HC.fresh_budget_bfv hQ ht ph hph

/-- BGV: every phase coefficient is m_c + t·e_c (mod Q), m_c < t, |e_c| ≤ B ⇒ the same bound -/
theorem fresh_budget_bgv {Q t B : Nat} (hQ : 0 < Q) (ph : Array Int)
    (hph : ∀ x ∈ ph.toList, ∃ (m : Nat) (e : Int), m < t ∧ e.natAbs ≤ B ∧ x = Spec.centred (Spec.imod ((m : Int) + t * e) Q) Q) :
    (bitCount Q : Int) - (bitCount (t * (B + 1)) : Int) - 1 ≤ (Spec.budget false t Q ph : Int) := HC.fresh_budget_bgv hQ ph hph

/-- public-key BFV encryption, hypotheses discharged by `fresh_noise_bound`: ternary u, s and errors bounded by 21 (C16 `cbd_bound`) -/
theorem fresh_budget_bfv_pk : type_of% @HC.fresh_budget_bfv_pk := @HC.fresh_budget_bfv_pk

/-- the centred representative is a smallest one in absolute value (what makes the measured noise ≤ any noise decomposition) -/
theorem centred_le (y : Int) {Q : Nat} (hQ : 0 < Q) : (Spec.centred (Spec.imod y Q) Q).natAbs ≤ y.natAbs := HC.c07l_centred_le y hQ

/-! ### translator tie: the ciphertexts whose budget is measured are built by `negate_inplace` / `translate_inplace` -/

/-- `Evaluator::negate_inplace` (skeleton over the flat buffer) = `ctNegate` -/
theorem gen_ct_negate_inplace_eq : type_of% @HC.gc_negate_inplace_eq := @HC.gc_negate_inplace_eq

/-- … an invalid ciphertext is refused -/
theorem gen_ct_negate_inplace_refuses : type_of% @HC.gc_negate_inplace_refuses := @HC.gc_negate_inplace_refuses

/-- `Evaluator::translate_inplace` (add / sub), equal factors and equal sizes = `ctTranslate` -/
theorem gen_ct_translate_inplace_same_size : type_of% @HC.gc_translate_inplace_same_size := @HC.gc_translate_inplace_same_size

/-- flat level, one branch of the routine (unequal factors): both operands scaled over all their polynomials, then the equal-factor routine -/
theorem gen_ct_translate_inplace_balance_partial : type_of% @HC.gc_translate_inplace_balance_partial := @HC.gc_translate_inplace_balance_partial

/-- flat level, one branch of the routine (`size1 < size2`, subtraction): common part subtracted, tail copied and negated -/
theorem gen_ct_translate_inplace_sub_tail_partial : type_of% @HC.gc_translate_inplace_sub_tail_partial := @HC.gc_translate_inplace_sub_tail_partial

/-! ### translator tie: `Evaluator::translate_inplace` = `ctTranslate` / `ctTranslateBalanced` for all size pairs and unequal
     correction factors (Proofs/GenEvalCt3.lean; witnesses in Props/C02.lean) -/
theorem gen_ct_translate_inplace_eq_general : type_of% @HC.gt_translate_inplace_eq_general := @HC.gt_translate_inplace_eq_general
theorem gen_ct_translate_inplace_balanced : type_of% @HC.gt_translate_inplace_balanced := @HC.gt_translate_inplace_balanced

/-! ### translator tie (tools/rs2lean_dec.py, Gen/DecFns.lean): the decryptor's norm / budget / correction-factor code of src/encryptor.rs tied to the source -/
/-- GENERATED `bgv_decrypt` (skeleton: opaque steps 1 = phase, 2 = inverse NTT, 3 = `decrypt_mod_t`) = the model's correction-factor fix-up + trimming -/
theorem gen_bgv_decrypt_eq : type_of% @HC.gd_bgv_decrypt_eq := @HC.gd_bgv_decrypt_eq
/-- the `if ct.cf ≠ 1` block of `bgvDecrypt` (Model/Scheme.lean) is `bgvFixupL` -/
theorem bgvFixup_is_model : type_of% @HC.gd_bgvFixup_model := @HC.gd_bgvFixup_model
/-- EVERY plain modulus 2 ≤ t < 2^61, COMPOSITE included, every cf ≠ 1 coprime to t: every coefficient is multiplied by the inverse of cf mod t -/
theorem bgvFixup_spec : type_of% @HC.gd_bgvFixup_spec := @HC.gd_bgvFixup_spec
theorem bgvFixup_refuses : type_of% @HC.gd_bgvFixup_refuses := @HC.gd_bgvFixup_refuses
/-- witnesses: composite t = 12, cf = 5 -/
theorem bgv_decrypt_witness : type_of% @HC.gd_bgv_witness := @HC.gd_bgv_witness
theorem bgvFixup_witness : type_of% @HC.gd_bgvFixup_witness := @HC.gd_bgvFixup_witness
/-- GENERATED `invariant_noise_budget` (skeleton): refusals, plan, norm, bit counts, `bits(Q) - bits(norm) - 1` clamped at 0 -/
theorem gen_invariant_noise_budget_eq : type_of% @HC.gd_invariant_noise_budget_eq := @HC.gd_invariant_noise_budget_eq
theorem gen_budget_arith : type_of% @HC.gd_budget_arith := @HC.gd_budget_arith
theorem gen_budget_witness : type_of% @HC.gd_budget_witness := @HC.gd_budget_witness
/-- GENERATED `poly_infty_norm`: its frame, and the value-level meaning of one coefficient step (centred lift with `≥`, running maximum) -/
theorem gen_poly_infty_norm_unfold : type_of% @HC.gd_poly_infty_norm_unfold := @HC.gd_poly_infty_norm_unfold
theorem normStepW_spec : type_of% @HC.gd_normStepW_spec := @HC.gd_normStepW_spec
theorem gen_norm_witness : type_of% @HC.gd_norm_witness := @HC.gd_norm_witness

/-- GENERATED loop of `poly_infty_norm` = one `normStepW` per coefficient; the whole routine = the model's norm fold of the coefficient values -/
theorem gen_norm_loop_succ : type_of% @HC.gd_norm_loop_succ := @HC.gd_norm_loop_succ
theorem gen_poly_infty_norm_spec : type_of% @HC.gd_poly_infty_norm_spec := @HC.gd_poly_infty_norm_spec
/-- the counting helpers and the rounding helper of src/util/basic.rs, regenerated, = the hand models (C08) -/
theorem gen_get_significant_uint64_count_uint_eq : type_of% @HC.gd_get_significant_uint64_count_uint_eq := @HC.gd_get_significant_uint64_count_uint_eq
theorem gen_get_significant_bit_count_uint_eq : type_of% @HC.gd_get_significant_bit_count_uint_eq := @HC.gd_get_significant_bit_count_uint_eq
theorem gen_add_uint_u64_inplace_eq : type_of% @HC.gd_add_uint_u64_inplace_eq := @HC.gd_add_uint_u64_inplace_eq
theorem gen_half_round_up_uint_eq : type_of% @HC.gd_half_round_up_uint_eq := @HC.gd_half_round_up_uint_eq
theorem gen_threshold_spec : type_of% @HC.gd_threshold_spec := @HC.gd_threshold_spec
theorem gen_bgv_trim_eq : type_of% @HC.gd_bgv_trim_eq := @HC.gd_bgv_trim_eq
/-- the last lines of the model's `noiseBudget` in the vocabulary of the source tie (`budgetOfBits`, `normFoldV`) -/
theorem noiseBudget_unfold : type_of% @HC.gd_noiseBudget_unfold := @HC.gd_noiseBudget_unfold
/-- SOURCE → MODEL: generated `invariant_noise_budget` on the composed noise = plan of the opaque steps + the model's budget of the
    coefficient values (threshold `(Q+1)/2` with `≥`, `bits(Q) − bits(norm) − 1`, clamp at 0); with `noiseBudget_eq_spec` above: → the definition -/
theorem gen_budget_source_spec : type_of% @HC.gd_budget_source_spec_full := @HC.gd_budget_source_spec_full
theorem gen_budget_source_witness : type_of% @HC.gd_budget_source_witness := @HC.gd_budget_source_witness
/-- GENERATED `dot_product_ct_sk_array` (skeleton): order of the kernel calls and flat offsets for EVERY size ≥ 2, both representations;
    stride of the key powers = n · (prime count of the KEY level) -/
theorem gen_dot_product_plan_eq : type_of% @HC.gd_dot_product_plan_eq := @HC.gd_dot_product_plan_eq
theorem gen_dot_plan_witness : type_of% @HC.gd_dot_plan_witness := @HC.gd_dot_plan_witness
theorem gen_dot_plan_witness2 : type_of% @HC.gd_dot_plan_witness2 := @HC.gd_dot_plan_witness2
theorem gen_dot_plan_witness16 : type_of% @HC.gd_dot_plan_witness16 := @HC.gd_dot_plan_witness16

/-- GENERATED `bfv_decrypt` / `ckks_decrypt` / `decrypt` (skeletons): refusals, order of the opaque steps, destination sizes, trimming, dispatch -/
theorem gen_bfv_decrypt_eq : type_of% @HC.gd_bfv_decrypt_eq := @HC.gd_bfv_decrypt_eq
theorem gen_ckks_decrypt_eq : type_of% @HC.gd_ckks_decrypt_eq := @HC.gd_ckks_decrypt_eq
theorem gen_decrypt_dispatch_eq : type_of% @HC.gd_decrypt_dispatch_eq := @HC.gd_decrypt_dispatch_eq
theorem gen_bfv_witness : type_of% @HC.gd_bfv_witness := @HC.gd_bfv_witness
/-- `trimPlain` (Model/Scheme.lean) on lists is the `resize(max(sigWords, 1))` of the generated code (non-empty plaintexts) -/
theorem trimPlain_toList : type_of% @HC.gd_trimPlain_toList := @HC.gd_trimPlain_toList

end HC.C07
