/- C08 part B: exponentiation (`exponentiate_u64_mod`, src/util/uintsmallmod.rs), gcd, extended gcd / inversion, NAF (src/util/number_theory.rs).
   The square-and-multiply loop is proved for any `mulMod` that is exact on words (hypothesis `hmul`); callers pass `mulMod_exact h` (C08A).
   Fuels: every loop of the model runs on a counter, and each proof shows that the counter of the code suffices — 64 halvings of an exponent
   below 2^64; Euclid on words at least halves the product `x·y < 2^128` each round (`euclid_fuel`), 200 rounds allowed; 40 halvings for a NAF
   input below 2^31.
   `TryInvertStatement` (all `v < 2^64`) is false for `v ≥ 2^63` (i64 overflow in `xgcd`): `tryInvertStatement_false`;
   under `v < 2^63` it is `tryInvert_spec_partial`. -/
import Heathcliff.Proofs.Word
import Mathlib.Data.Nat.GCD.Basic
import Mathlib.Data.Nat.ModEq
import Mathlib.Tactic.LinearCombination
namespace HC

variable {m : Modulus}

theorem exp_step_odd (p i h q : Nat) :
    ((p * i) % q * ((p * p) % q) ^ h) % q = (i * p ^ (2 * h + 1)) % q := by
  have h1 : ((p * i) % q * ((p * p) % q) ^ h) ≡ (p * i) * (p * p) ^ h [MOD q] :=
    (Nat.mod_modEq _ _).mul ((Nat.mod_modEq _ _).pow h)
  have h2 : (p * i) * (p * p) ^ h = i * p ^ (2 * h + 1) := by
    rw [← pow_two, ← pow_mul]; ring
  rw [← h2]; exact h1

theorem exp_step_even (p i h q : Nat) :
    (i * ((p * p) % q) ^ h) % q = (i * p ^ (2 * h)) % q := by
  have h1 : (i * ((p * p) % q) ^ h) ≡ i * (p * p) ^ h [MOD q] :=
    (Nat.ModEq.refl i).mul ((Nat.mod_modEq _ _).pow h)
  have h2 : i * (p * p) ^ h = i * p ^ (2 * h) := by
    rw [← pow_two, ← pow_mul]
  rw [← h2]; exact h1

theorem expLoop_exact
    (hmul : ∀ {x y : Nat}, x < 2^64 → y < 2^64 → mulMod x y m = .ok ((x * y) % m.value))
    (h : m.WF) : ∀ (fuel p e i : Nat), p < 2^64 → i < 2^64 → 0 < e → e < 2^fuel →
      expLoop m fuel p e i = .ok ((i * p ^ e) % m.value) := by
  have hq : m.value < 2^64 := lt_trans h.lt (by norm_num)
  have hq0 : 0 < m.value := lt_of_lt_of_le (by norm_num) h.two_le
  intro fuel
  induction fuel with
  | zero => intro p e i _ _ he0 he; simp at he; omega
  | succ n ih =>
    intro p e i hp hi he0 he
    have hmod : ∀ z, z % m.value < 2^64 := fun z => lt_trans (Nat.mod_lt _ hq0) hq
    rw [expLoop]
    have hdm := Nat.div_add_mod e 2
    by_cases hodd : e % 2 = 1
    · simp only [hodd, if_true, hmul hp hi, bind, Except.bind, pure, Except.pure]
      by_cases he' : e / 2 = 0
      · have : e = 1 := by omega
        subst this
        simp [Nat.mul_comm]
      · rw [if_neg he', hmul hp hp]
        simp only []
        rw [ih _ _ _ (hmod _) (hmod _) (by omega) (by rw [pow_succ] at he; omega)]
        rw [exp_step_odd]
        have : 2 * (e / 2) + 1 = e := by omega
        rw [this]
    · simp only [hodd, if_false, bind, Except.bind, pure, Except.pure]
      have he' : e / 2 ≠ 0 := by omega
      rw [if_neg he', hmul hp hp]
      simp only []
      rw [ih _ _ _ (hmod _) hi (by omega) (by rw [pow_succ] at he; omega)]
      rw [exp_step_even]
      have : 2 * (e / 2) = e := by omega
      rw [this]

/-- exponentiation (operands already reduced): exponent 0 ↦ 1, exponent 1 ↦ the operand itself (unreduced, as coded),
    otherwise x^e mod q -/
theorem exponentiateMod_exact
    (hmul : ∀ {x y : Nat}, x < 2^64 → y < 2^64 → mulMod x y m = .ok ((x * y) % m.value))
    (h : m.WF) {x e : Nat} (hx : x < 2^64) (he : e < 2^64) :
    exponentiateMod x e m = .ok (if e = 0 then 1 else if e = 1 then x else (x ^ e) % m.value) := by
  unfold exponentiateMod
  by_cases h0 : e = 0
  · simp [h0, pure, Except.pure]
  · by_cases h1 : e = 1
    · simp [h1, pure, Except.pure]
    · rw [if_neg h0, if_neg h1, if_neg h0, if_neg h1]
      rw [expLoop_exact hmul h 64 x e 1 hx (by norm_num) (by omega) he]
      simp

/-! ### gcd -/

theorem euclid_end {x y : Nat} (hyx : y ≤ x) (h : x * y < 2^0) : y = 0 := by
  by_contra h0
  have := Nat.mul_pos (lt_of_lt_of_le (Nat.pos_of_ne_zero h0) hyx) (Nat.pos_of_ne_zero h0)
  omega

/-- one Euclid step at least halves the product of the pair, which is what the fuel counts -/
theorem euclid_fuel {x y n : Nat} (hyx : y ≤ x) (hy : y ≠ 0) (h : x * y < 2^(n+1)) : y * (x % y) < 2^n := by
  have h1 := Nat.div_add_mod x y
  have h2 : y * 1 ≤ y * (x / y) := Nat.mul_le_mul_left _ (Nat.div_pos hyx (by omega))
  have h3 : y * (2 * (x % y)) ≤ y * x := Nat.mul_le_mul_left _ (by have := Nat.mod_lt x (Nat.pos_of_ne_zero hy); omega)
  rw [pow_succ] at h
  rw [Nat.mul_comm y x, Nat.mul_left_comm] at h3
  omega

theorem gcdLoop_exact : ∀ (fuel x y : Nat), y ≤ x → x * y < 2^fuel → gcdLoop (fuel+1) x y = Nat.gcd x y := by
  intro fuel
  induction fuel with
  | zero =>
    intro x y hyx h
    obtain rfl := euclid_end hyx h
    simp [gcdLoop]
  | succ n ih =>
    intro x y hyx h
    rw [gcdLoop]
    rw [if_neg (by omega)]
    by_cases hy : y = 0
    · subst hy; simp
    · rw [if_neg hy]
      have hrec : Nat.gcd x y = Nat.gcd y (x % y) := by
        rw [Nat.gcd_comm, Nat.gcd_rec, Nat.gcd_comm]
      by_cases hf : x % y = 0
      · simp only [hf, if_true]
        rw [hrec, hf, Nat.gcd_zero_right]
      · simp only [hf, if_false]
        rw [hrec]
        exact ih _ _ (Nat.mod_lt _ (Nat.pos_of_ne_zero hy)).le (euclid_fuel hyx hy h)

theorem gcdU64_exact {x y : Nat} (hx : x < 2^64) (hy : y < 2^64) : gcdU64 x y = Nat.gcd x y := by
  have hxy : x * y < 2^64 * 2^64 := by
    rcases Nat.eq_zero_or_pos y with h0 | h0
    · subst h0; simp
    · exact Nat.mul_lt_mul'' hx hy
  unfold gcdU64
  by_cases hlt : x < y
  · rw [gcdLoop, if_pos hlt, Nat.gcd_comm]
    apply gcdLoop_exact _ _ _ (by omega)
    rw [Nat.mul_comm]
    calc x * y < 2^64 * 2^64 := hxy
      _ ≤ 2^198 := by norm_num
  · apply gcdLoop_exact _ _ _ (by omega)
    calc x * y < 2^64 * 2^64 := hxy
      _ ≤ 2^199 := by norm_num

/-! ### extended gcd / inversion -/

theorem ckI64_ok {v : Int} (h1 : -(2^63 : Int) ≤ v) (h2 : v < 2^63) : ckI64 v = .ok v := by
  unfold ckI64; rw [if_pos ⟨h1, h2⟩]; rfl

theorem xgcdLoop_zero_y (fuel x : Nat) (pa a pb b : Int) :
    xgcdLoop (fuel+1) x 0 pa a pb b = .ok (x, pa, pb) := by
  rw [xgcdLoop]; simp [pure, Except.pure]

theorem xgcdLoop_succ (fuel x y : Nat) (pa a pb b : Int) (hy : y ≠ 0) (ht : x / y < 2^63)
    (h1 : -(2^63 : Int) ≤ (x / y : Nat) * a ∧ ((x / y : Nat) : Int) * a < 2^63)
    (h2 : -(2^63 : Int) ≤ pa - (x / y : Nat) * a ∧ pa - ((x / y : Nat) : Int) * a < 2^63)
    (h3 : -(2^63 : Int) ≤ (x / y : Nat) * b ∧ ((x / y : Nat) : Int) * b < 2^63)
    (h4 : -(2^63 : Int) ≤ pb - (x / y : Nat) * b ∧ pb - ((x / y : Nat) : Int) * b < 2^63) :
    xgcdLoop (fuel+1) x y pa a pb b =
      xgcdLoop fuel y (x % y) a (pa - (x / y : Nat) * a) b (pb - (x / y : Nat) * b) := by
  rw [xgcdLoop, if_neg hy, asI64_small ht]
  simp only [bind, Except.bind, ckI64_ok h1.1 h1.2, ckI64_ok h2.1 h2.2, ckI64_ok h3.1 h3.2,
    ckI64_ok h4.1 h4.2]

theorem natCast_div_add_mod (x y : Nat) : (x : Int) = y * (x / y : Nat) + (x % y : Nat) := by
  exact_mod_cast (Nat.div_add_mod x y).symm

theorem bound_helper {y A c Q : Int} (hy : 1 ≤ y) (hA : 0 ≤ A) (hc : 0 ≤ c) (h : y * A + c = Q) :
    A ≤ Q := by
  nlinarith [mul_nonneg (sub_nonneg.2 hy) hA]

/-- invariant of `xgcdLoop` started on `(V, Q)`: `(x, y)` is the current pair, `(pa, pb)` and `(a, b)` are the cofactors of `x` and of `y`.
    `sg` is why no `i64` operation overflows: the four cofactors alternate in sign (one sign `s` serves all), and their absolute values
    satisfy `|a|·x + |pa|·y = Q` and `|b|·x + |pb|·y = V`, so the cofactors of `V` stay within `Q < 2^61` and those of `Q` within `V < 2^63`
    (`euclid_cofactor_step`). -/
structure XInv (V Q x y : Nat) (pa a pb b : Int) : Prop where
  xpos : 0 < x
  xlt : x < 2^63
  ylt : y < 2^63
  gcd_eq : Nat.gcd x y = Nat.gcd V Q
  hx : (x : Int) = pa * V + pb * Q
  hy : (y : Int) = a * V + b * Q
  sg : ∃ s : Int, (s = 1 ∨ s = -1) ∧ 0 ≤ s * pa ∧ s * a ≤ 0 ∧ s * pb ≤ 0 ∧ 0 ≤ s * b ∧
        (-(s * a)) * x + (s * pa) * y = Q ∧ (s * b) * x + (-(s * pb)) * y = V ∧ s * pa ≤ Q

/-- one step of the extended Euclid on absolute values: the pair `(x, y)` with cofactors `(A, PA)` and `A·x + PA·y = Q`
    becomes `(y, r)` with cofactors `(PA + t·A, A)` and the same `Q`, so every cofactor stays within `Q` (no `i64` overflow).
    Nothing is said of which division produced `t` and `r`. -/
theorem euclid_cofactor_step {x y t r A PA Q : Int} (hdiv : x = y * t + r) (hy : 1 ≤ y) (ht : 0 ≤ t) (hr : 0 ≤ r)
    (hA : 0 ≤ A) (hPA : 0 ≤ PA) (h : A * x + PA * y = Q) :
    0 ≤ t * A ∧ PA + t * A ≤ Q ∧ (PA + t * A) * y + A * r = Q := by
  have htA : 0 ≤ t * A := mul_nonneg ht hA
  have hk : (PA + t * A) * y + A * r = Q := by linear_combination h - A * hdiv
  exact ⟨htA, bound_helper hy (by linarith) (mul_nonneg hA hr) (by linear_combination hk), hk⟩

theorem sign_range {s z B : Int} (hs : s = 1 ∨ s = -1) (h1 : -B < s * z) (h2 : s * z < B) : -B ≤ z ∧ z < B := by
  rcases hs with rfl | rfl
  · constructor <;> linarith
  · constructor <;> linarith

theorem XInv.ranges {V Q x y : Nat} {pa a pb b : Int} (hQ : Q < 2^61) (hV : V < 2^63)
    (inv : XInv V Q x y pa a pb b) (hy0 : y ≠ 0) :
    (-(2^63 : Int) ≤ (x / y : Nat) * a ∧ ((x / y : Nat) : Int) * a < 2^63) ∧
    (-(2^63 : Int) ≤ pa - (x / y : Nat) * a ∧ pa - ((x / y : Nat) : Int) * a < 2^63) ∧
    (-(2^63 : Int) ≤ (x / y : Nat) * b ∧ ((x / y : Nat) : Int) * b < 2^63) ∧
    (-(2^63 : Int) ≤ pb - (x / y : Nat) * b ∧ pb - ((x / y : Nat) : Int) * b < 2^63) := by
  obtain ⟨s, hs, h1, h2, h3, h4, eA, eB, hle⟩ := inv.sg
  have hy1 : (1 : Int) ≤ y := by omega
  have ht : (0 : Int) ≤ (x / y : Nat) := Int.natCast_nonneg _
  have hr : (0 : Int) ≤ (x % y : Nat) := Int.natCast_nonneg _
  have hQ' : (Q : Int) < 2^61 := by exact_mod_cast hQ
  have hV' : (V : Int) < 2^63 := by exact_mod_cast hV
  obtain ⟨cA1, cA2, -⟩ := euclid_cofactor_step (natCast_div_add_mod x y) hy1 ht hr (by linarith : 0 ≤ -(s * a)) h1 eA
  obtain ⟨cB1, cB2, -⟩ := euclid_cofactor_step (natCast_div_add_mod x y) hy1 ht hr h4 (by linarith : 0 ≤ -(s * pb)) eB
  generalize ((x / y : Nat) : Int) = t at *
  -- up to the sign `s` the four values are `-(t·|a|)`, `|pa| + t·|a|`, `t·|b|`, `-(|pb| + t·|b|)`
  exact ⟨sign_range hs (by linarith) (by linarith), sign_range hs (by linarith) (by linarith),
    sign_range hs (by linarith) (by linarith), sign_range hs (by linarith) (by linarith)⟩

theorem XInv.step {V Q x y : Nat} {pa a pb b : Int}
    (inv : XInv V Q x y pa a pb b) (hy0 : y ≠ 0) :
    XInv V Q y (x % y) a (pa - (x / y : Nat) * a) b (pb - (x / y : Nat) * b) := by
  obtain ⟨s, hs, h1, h2, h3, h4, eA, eB, hle⟩ := inv.sg
  have hdiv := natCast_div_add_mod x y
  have hx1 : (1 : Int) ≤ x := by have := inv.xpos; omega
  have ht : (0 : Int) ≤ (x / y : Nat) := Int.natCast_nonneg _
  have hyy : (0 : Int) ≤ y := by omega
  have hlt : x % y < y := Nat.mod_lt _ (by omega)
  refine ⟨by omega, inv.ylt, by have := inv.ylt; omega, ?_, inv.hy, ?_, ?_⟩
  · rw [← inv.gcd_eq, Nat.gcd_comm y, Nat.gcd_comm x, Nat.gcd_rec y x]
  · linear_combination inv.hx - hdiv - ((x / y : Nat) : Int) * inv.hy
  · generalize ((x / y : Nat) : Int) = t at *
    generalize ((x % y : Nat) : Int) = r at *
    have hta : 0 ≤ t * -(s * a) := mul_nonneg ht (by linarith)
    have htb : 0 ≤ t * (s * b) := mul_nonneg ht h4
    refine ⟨-s, by omega, by linarith, by linarith, by linarith, by linarith, ?_, ?_, ?_⟩
    · linear_combination eA + (s * a) * hdiv
    · linear_combination eB - (s * b) * hdiv
    · exact bound_helper hx1 (by linarith : 0 ≤ -s * a) (mul_nonneg h1 hyy) (by linear_combination eA)

theorem XInv.run {V Q : Nat} (hQ : Q < 2^61) (hV : V < 2^63) :
    ∀ (fuel x y : Nat) (pa a pb b : Int), XInv V Q x y pa a pb b → y ≤ x → x * y < 2^fuel →
      ∃ pa' pb' : Int, xgcdLoop (fuel+1) x y pa a pb b = .ok (Nat.gcd V Q, pa', pb') ∧
        ((Nat.gcd V Q : Nat) : Int) = pa' * V + pb' * Q ∧ -(Q : Int) ≤ pa' ∧ pa' ≤ Q := by
  have base : ∀ (fuel x : Nat) (pa a pb b : Int), XInv V Q x 0 pa a pb b →
      ∃ pa' pb' : Int, xgcdLoop (fuel+1) x 0 pa a pb b = .ok (Nat.gcd V Q, pa', pb') ∧
        ((Nat.gcd V Q : Nat) : Int) = pa' * V + pb' * Q ∧ -(Q : Int) ≤ pa' ∧ pa' ≤ Q := by
    intro fuel x pa a pb b inv
    have hg : Nat.gcd V Q = x := by rw [← inv.gcd_eq, Nat.gcd_zero_right]
    obtain ⟨s, hs, h1, _, _, _, _, _, hle⟩ := inv.sg
    refine ⟨pa, pb, by rw [xgcdLoop_zero_y, hg], by rw [hg]; exact inv.hx, ?_, ?_⟩
    · rcases hs with rfl | rfl <;> linarith
    · rcases hs with rfl | rfl <;> linarith
  intro fuel
  induction fuel with
  | zero =>
    intro x y pa a pb b inv hyx h
    obtain rfl := euclid_end hyx h
    exact base _ _ _ _ _ _ inv
  | succ n ih =>
    intro x y pa a pb b inv hyx h
    by_cases hy : y = 0
    · subst hy; exact base _ _ _ _ _ _ inv
    · obtain ⟨r1, r2, r3, r4⟩ := inv.ranges hQ hV hy
      have ht : x / y < 2^63 := lt_of_le_of_lt (Nat.div_le_self _ _) inv.xlt
      rw [xgcdLoop_succ _ _ _ _ _ _ _ hy ht r1 r2 r3 r4]
      exact ih _ _ _ _ _ _ (inv.step hy) (Nat.mod_lt _ (Nat.pos_of_ne_zero hy)).le (euclid_fuel hyx hy h)

theorem XInv.init {V Q : Nat} (hV0 : V ≠ 0) (hV : V < 2^63) (hQ2 : 2 ≤ Q) (hQ : Q < 2^61) :
    XInv V Q V Q 1 0 0 1 := by
  refine ⟨by omega, hV, by omega, rfl, by ring, by ring, 1, Or.inl rfl, by norm_num, by norm_num,
    by norm_num, by norm_num, by ring, by ring, ?_⟩
  have : (2 : Int) ≤ Q := by exact_mod_cast hQ2
  linarith

theorem xgcd_spec {V Q : Nat} (hV0 : V ≠ 0) (hV : V < 2^63) (hQ2 : 2 ≤ Q) (hQ : Q < 2^61) :
    ∃ pa' pb' : Int, xgcd V Q = .ok (Nat.gcd V Q, pa', pb') ∧
        ((Nat.gcd V Q : Nat) : Int) = pa' * V + pb' * Q ∧ -(Q : Int) ≤ pa' ∧ pa' ≤ Q := by
  have inv := XInv.init hV0 hV hQ2 hQ
  have hVQ : V * Q < 2^63 * 2^61 := Nat.mul_lt_mul'' hV hQ
  unfold xgcd
  by_cases hlt : V < Q
  · obtain ⟨r1, r2, r3, r4⟩ := inv.ranges hQ hV (by omega)
    have ht : V / Q < 2^63 := lt_of_le_of_lt (Nat.div_le_self _ _) hV
    rw [xgcdLoop_succ 199 _ _ _ _ _ _ (by omega) ht r1 r2 r3 r4]
    have inv' := inv.step (by omega : Q ≠ 0)
    rw [Nat.mod_eq_of_lt hlt] at inv' ⊢
    apply XInv.run hQ hV 198 _ _ _ _ _ _ inv' (by omega)
    rw [Nat.mul_comm]
    calc V * Q < 2^63 * 2^61 := hVQ
      _ ≤ 2^198 := by norm_num
  · apply XInv.run hQ hV 199 _ _ _ _ _ _ inv (by omega)
    calc V * Q < 2^63 * 2^61 := hVQ
      _ ≤ 2^199 := by norm_num


theorem inv_mod_aux {r v q : Nat} {k : Int} (hq2 : 2 ≤ q) (h : (r : Int) * v = 1 + q * k) :
    (r * v) % q = 1 := by
  have h1 : ((r : Int) * v) % q = 1 := by
    rw [h, Int.add_mul_emod_self_left]
    have : (2 : Int) ≤ q := by exact_mod_cast hq2
    exact Int.emod_eq_of_lt (by norm_num) (by linarith)
  exact_mod_cast h1

/-- inversion, restricted to `v < 2^63` (the documented operand range is `v < q`): for 2 ≤ q < 2^61
    returns the inverse in [0,q) iff gcd(v,q) = 1 (and v ≠ 0), and never overflows the i64 arithmetic -/
theorem tryInvert_spec_partial {v q : Nat} (hq2 : 2 ≤ q) (hq : q < 2^61) (hv : v < 2^64)
    (hv' : v < 2^63) :
    (v ≠ 0 ∧ Nat.gcd v q = 1 → ∃ r, tryInvert v q = .ok (some r) ∧ r < q ∧ (r * v) % q = 1) ∧
    (v = 0 ∨ Nat.gcd v q ≠ 1 → tryInvert v q = .ok none) := by
  have _ := hv   -- implied by `hv'`
  constructor
  · rintro ⟨hv0, hg⟩
    obtain ⟨pa, pb, hx, hlin, hlo, hhi⟩ := xgcd_spec hv0 hv' hq2 hq
    rw [hg] at hx hlin
    have hq' : (q : Int) < 2^61 := by exact_mod_cast hq
    unfold tryInvert
    rw [if_neg hv0, hx]
    simp only [bind, Except.bind, ne_eq, not_true_eq_false, if_false]
    by_cases hneg : pa < 0
    · rw [if_pos hneg]
      have hr : ckI64 (Int.ofNat q + pa) = .ok (Int.ofNat q + pa) := by
        apply ckI64_ok
        · simp only [Int.ofNat_eq_natCast]; linarith
        · simp only [Int.ofNat_eq_natCast]; linarith
      rw [hr]
      refine ⟨(Int.ofNat q + pa).toNat, rfl, ?_, ?_⟩
      · simp only [Int.ofNat_eq_natCast]; omega
      · apply inv_mod_aux hq2 (k := (v : Int) - pb)
        have : (((Int.ofNat q + pa).toNat : Nat) : Int) = q + pa := by
          simp only [Int.ofNat_eq_natCast]; omega
        rw [this]
        push_cast at hlin
        linear_combination -hlin
    · rw [if_neg hneg]
      have hcast : ((pa.toNat : Nat) : Int) = pa := by omega
      have hmod : (pa.toNat * v) % q = 1 := by
        apply inv_mod_aux hq2 (k := -pb)
        rw [hcast]
        push_cast at hlin
        linear_combination -hlin
      refine ⟨pa.toNat, rfl, ?_, hmod⟩
      have hle : pa.toNat ≤ q := by omega
      rcases Nat.lt_or_ge pa.toNat q with h | h
      · exact h
      · have : pa.toNat = q := by omega
        rw [this, Nat.mul_mod_right] at hmod
        omega
  · intro h
    unfold tryInvert
    by_cases hv0 : v = 0
    · rw [if_pos hv0]; rfl
    · rw [if_neg hv0]
      have hg : Nat.gcd v q ≠ 1 := by
        rcases h with h | h
        · exact absurd h hv0
        · exact h
      obtain ⟨pa, pb, hx, _⟩ := xgcd_spec hv0 hv' hq2 hq
      rw [hx]
      simp only [bind, Except.bind, ne_eq, hg, not_false_eq_true, if_true]
      rfl

theorem tryInvert_some {v q r : Nat} (hq2 : 2 ≤ q) (hq : q < 2^61) (hv : v < 2^63)
    (h : tryInvert v q = .ok (some r)) : r < q ∧ (r * v) % q = 1 := by
  have hs := tryInvert_spec_partial hq2 hq (show v < 2^64 by omega) hv
  by_cases hc : v ≠ 0 ∧ Nat.gcd v q = 1
  · obtain ⟨r', h1, h2, h3⟩ := hs.1 hc
    rw [h] at h1
    injection h1 with h1; injection h1 with h1
    subst h1; exact ⟨h2, h3⟩
  · have h1 := hs.2 (by tauto)
    rw [h] at h1
    injection h1 with h1; cases h1

/-- FALSE:
    for `v ≥ 2^63` the `i64` product `q * b` in `xgcd` can overflow, see `tryInvert_overflow_witness`
    and `tryInvertStatement_false`. -/
def TryInvertStatement : Prop :=
  ∀ {v q : Nat}, 2 ≤ q → q < 2^61 → v < 2^64 →
    (v ≠ 0 ∧ Nat.gcd v q = 1 → ∃ r, tryInvert v q = .ok (some r) ∧ r < q ∧ (r * v) % q = 1) ∧
    (v = 0 ∨ Nat.gcd v q ≠ 1 → tryInvert v q = .ok none)

theorem tryInvert_overflow_witness : tryInvert (2^64-1) 2 = .error .overflow := by decide

theorem tryInvertStatement_false : ¬ TryInvertStatement := by
  intro h
  have h1 := (@h (2^64-1) 2 (by norm_num) (by norm_num) (by norm_num)).1 ⟨by norm_num, by decide⟩
  obtain ⟨r, hr, _⟩ := h1
  rw [tryInvert_overflow_witness] at hr
  cases hr


/-! ### non-adjacent form -/

/-- the sign flag of `naf` (`true` for a negative input) as a factor -/
def sgn (sign : Bool) : Int := if sign then -1 else 1

theorem nafLoop_zero (fuel i : Nat) (sign : Bool) (acc : List Int) :
    nafLoop fuel 0 i sign acc = acc.reverse := by
  cases fuel <;> simp [nafLoop]

theorem nafLoop_even (fuel v i : Nat) (sign : Bool) (acc : List Int) (hv : v ≠ 0) (h2 : v % 2 = 0) :
    nafLoop (fuel+1) v i sign acc = nafLoop fuel (v / 2) (i+1) sign acc := by
  rw [nafLoop, if_neg hv]
  have h1 : ¬ (v % 2 = 1) := by omega
  simp only [h1, if_false, sub_zero, ne_eq, not_true_eq_false]
  congr 1

theorem nafLoop_one (fuel v i : Nat) (sign : Bool) (acc : List Int) (h4 : v % 4 = 1) :
    nafLoop (fuel+1) v i sign acc = nafLoop fuel (v / 2) (i+1) sign ((sgn sign * 2^i) :: acc) := by
  have hv : v ≠ 0 := by omega
  rw [nafLoop, if_neg hv]
  have h1 : v % 2 = 1 := by omega
  simp only [h1, if_true, h4]
  have e1 : ((Int.ofNat v - (2 - Int.ofNat 1)) / 2).toNat = v / 2 := by
    simp only [Int.ofNat_eq_natCast]; omega
  rw [e1]
  congr 1

theorem nafLoop_three (fuel v i : Nat) (sign : Bool) (acc : List Int) (h4 : v % 4 = 3) :
    nafLoop (fuel+1) v i sign acc = nafLoop fuel ((v+1) / 2) (i+1) sign ((-(sgn sign * 2^i)) :: acc) := by
  have hv : v ≠ 0 := by omega
  rw [nafLoop, if_neg hv]
  have h1 : v % 2 = 1 := by omega
  simp only [h1, if_true, h4]
  have e1 : ((Int.ofNat v - (2 - Int.ofNat 3)) / 2).toNat = (v + 1) / 2 := by
    simp only [Int.ofNat_eq_natCast]; omega
  rw [e1]
  congr 1
  cases sign <;> simp [sgn]

theorem natAbs_pm_pow {d : Int} {j : Nat} (h : d = 2^j ∨ d = -(2^j : Int)) : d.natAbs = 2^j := by
  rcases h with h | h <;> subst h <;> simp [Int.natAbs_pow]

theorem sgn_pm (sign : Bool) (i : Nat) : sgn sign * 2^i = 2^i ∨ sgn sign * 2^i = -(2^i : Int) := by
  cases sign <;> simp [sgn]

theorem sgn_pm' (sign : Bool) (i : Nat) : -(sgn sign * 2^i) = 2^i ∨ -(sgn sign * 2^i) = -(2^i : Int) := by
  cases sign <;> simp [sgn]

theorem naf_sep {d : Int} {i : Nat} (hd : d = 2^i ∨ d = -(2^i : Int)) {L : List Int}
    (hmem : ∀ b ∈ L, ∃ j, i + 2 ≤ j ∧ (b = 2^j ∨ b = -(2^j : Int))) :
    ∀ b ∈ L, 4 * d.natAbs ≤ b.natAbs := by
  intro b hb
  obtain ⟨j, hj, hbj⟩ := hmem b hb
  rw [natAbs_pm_pow hd, natAbs_pm_pow hbj]
  calc 4 * 2^i = 2^(i+2) := by ring
    _ ≤ 2^j := Nat.pow_le_pow_right (by norm_num) hj

/-- what `nafLoop` appends when it stands at bit `i` with `v` left to expand: digits `±2^j`, `j ≥ i` (`j ≥ i+1` if `v` is even: this
    gap is what separates a new digit from the next), summing to `±v·2^i`, each at least 4 times the one before in absolute value -/
def NafOut (v i : Nat) (sign : Bool) (L : List Int) : Prop :=
  L.sum = sgn sign * v * 2^i ∧
  (∀ d ∈ L, ∃ j, i ≤ j ∧ (v % 2 = 0 → i + 1 ≤ j) ∧ (d = 2^j ∨ d = -(2^j : Int))) ∧
  L.Pairwise (fun a b => 4 * a.natAbs ≤ b.natAbs)

theorem nafOut_even {v i : Nat} {sign : Bool} {L : List Int} (h2 : v % 2 = 0)
    (h : NafOut (v / 2) (i + 1) sign L) : NafOut v i sign L := by
  obtain ⟨hs, hm, hp⟩ := h
  refine ⟨?_, ?_, hp⟩
  · rw [hs]
    have : (v : Int) = 2 * ((v / 2 : Nat) : Int) := by omega
    rw [this, pow_succ]; ring
  · intro d hd
    obtain ⟨j, hj, _, hdj⟩ := hm d hd
    exact ⟨j, by omega, fun _ => hj, hdj⟩

theorem nafOut_cons {v v' i : Nat} {sign : Bool} {L : List Int} {d : Int}
    (hd : d = 2^i ∨ d = -(2^i : Int)) (hodd : v % 2 = 1) (hev : v' % 2 = 0)
    (hsum : d + sgn sign * v' * 2^(i+1) = sgn sign * v * 2^i)
    (h : NafOut v' (i + 1) sign L) : NafOut v i sign (d :: L) := by
  obtain ⟨hs, hm, hp⟩ := h
  refine ⟨?_, ?_, ?_⟩
  · rw [List.sum_cons, hs, hsum]
  · intro b hb
    rcases List.mem_cons.mp hb with hb | hb
    · subst hb; exact ⟨i, le_refl _, fun h => by omega, hd⟩
    · obtain ⟨j, hj, _, hbj⟩ := hm b hb
      exact ⟨j, by omega, fun h => by omega, hbj⟩
  · refine List.pairwise_cons.mpr ⟨?_, hp⟩
    apply naf_sep hd
    intro b hb
    obtain ⟨j, _, hj, hbj⟩ := hm b hb
    exact ⟨j, hj hev, hbj⟩

theorem nafLoop_spec : ∀ (fuel v i : Nat) (sign : Bool), 2 * v ≤ 2^fuel →
    ∃ L : List Int, (∀ acc, nafLoop fuel v i sign acc = acc.reverse ++ L) ∧ NafOut v i sign L := by
  intro fuel
  induction fuel with
  | zero =>
    intro v i sign h
    have hv : v = 0 := by simp at h; omega
    subst hv
    exact ⟨[], fun acc => by simp [nafLoop], by simp [NafOut]⟩
  | succ n ih =>
    intro v i sign h
    rw [pow_succ] at h
    by_cases hv : v = 0
    · subst hv
      exact ⟨[], fun acc => by simp [nafLoop], by simp [NafOut]⟩
    by_cases h2 : v % 2 = 0
    · obtain ⟨L, hL, hO⟩ := ih (v / 2) (i + 1) sign (by omega)
      exact ⟨L, fun acc => by rw [nafLoop_even _ _ _ _ _ hv h2, hL], nafOut_even h2 hO⟩
    by_cases h4 : v % 4 = 1
    · obtain ⟨L, hL, hO⟩ := ih (v / 2) (i + 1) sign (by omega)
      refine ⟨(sgn sign * 2^i) :: L, fun acc => by rw [nafLoop_one _ _ _ _ _ h4, hL]; simp, ?_⟩
      refine nafOut_cons (sgn_pm sign i) (by omega) (by omega) ?_ hO
      have : (v : Int) = 2 * ((v / 2 : Nat) : Int) + 1 := by omega
      rw [this, pow_succ]; ring
    · have h4' : v % 4 = 3 := by omega
      have hn : 2 * ((v + 1) / 2) ≤ 2 ^ n := by
        cases n with
        | zero => omega
        | succ k => rw [pow_succ] at h ⊢; omega
      obtain ⟨L, hL, hO⟩ := ih ((v + 1) / 2) (i + 1) sign hn
      refine ⟨(-(sgn sign * 2^i)) :: L, fun acc => by rw [nafLoop_three _ _ _ _ _ h4', hL]; simp, ?_⟩
      refine nafOut_cons (sgn_pm' sign i) (by omega) (by omega) ?_ hO
      have : ((v : Int) + 1) = 2 * (((v + 1) / 2 : Nat) : Int) := by omega
      have h' : (v : Int) = 2 * (((v + 1) / 2 : Nat) : Int) - 1 := by omega
      rw [h', pow_succ]; ring

/-- non-adjacent form: digits sum to the value, each digit is ± a power of two with strictly increasing
    exponents differing by at least 2 -/
theorem naf_spec {v : Int} (hv : -(2^31 : Int) < v ∧ v < 2^31) :
    ∃ ds, naf v = .ok ds ∧ ds.sum = v ∧
      (∀ d ∈ ds, ∃ i : Nat, d = 2^i ∨ d = -(2^i : Int)) ∧
      List.Pairwise (fun a b => 4 * a.natAbs ≤ b.natAbs) ds := by
  have hb : 2 * v.natAbs ≤ 2^40 := by omega
  obtain ⟨L, hL, hs, hm, hp⟩ := nafLoop_spec 40 v.natAbs 0 (decide (v < 0)) hb
  refine ⟨L, ?_, ?_, ?_, hp⟩
  · unfold naf
    rw [if_neg (by omega)]
    simp only [pure, Except.pure]
    rw [hL]; simp
  · rw [hs]
    by_cases h0 : v < 0
    · simp only [sgn, decide_eq_true_eq, h0, if_true, pow_zero, mul_one]; omega
    · simp only [sgn, decide_eq_true_eq, h0, if_false, pow_zero, mul_one]; omega
  · intro d hd
    obtain ⟨j, _, _, hdj⟩ := hm d hd
    exact ⟨j, hdj⟩

end HC
