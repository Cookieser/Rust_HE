/- Non-vacuity of the rotation theorems of C04R: the NonVac world one level down (N = 4, q = 97, P = 113, t = 17) with a Galois key for
   g = 3 that satisfies the key equation with s' = σ_3(s) exactly (error e = 0, so the noise hypotheses hold with Be = V = 0).
   No Lean file imports this module and it is not under `Heathcliff.lean`: it is built by the runner's witness step
   (tools/runner.py, `lake build … Heathcliff.Proofs.C04RW …`) and by the complete build of all modules, not by the default target. -/
import Heathcliff.Proofs.C04R
import Heathcliff.Proofs.NonVac
namespace HC
open Finset

/-- the hypotheses of `batchDecode_rotate_rows` / `batchDecode_swap_rows` on a table: N = 4, t = 17 (`nv_t17`, returned by `NTTTables.new 2 nv_m17 true 2`) -/
example : nv_t17.WF ∧ 2 ≤ nv_t17.k := ⟨nv_t17_wf, by decide⟩

/-! ## one concrete world for the slot theorems and for `c04r_rotate_bfv` / `c04r_rotatePlan_bfv` — the NonVac world one level down (N = 4, q = 97, special prime P = 113, t = 17),
    secret s = X, a noise-free Galois key for g = 3 = `eltFromStep 1`, a ciphertext of the plaintext 1 + 2X + 3X³ -/

def c04r_exSk : Array Int := #[0, 1, 0, 0]
/-- k1 = a = 1 + 2X + 3X² + 4X³, k0 = P·σ_3(s) − a⋆s (e = 0), stored in NTT form per key-level modulus -/
def c04r_exKey : KSKey := #[#[#[#[53, 61, 42, 54], #[35, 33, 77, 97]], #[#[30, 7, 64, 0], #[42, 96, 30, 62]]]]
def c04r_exPolys : Array RnsPoly := #[#[#[35, 7, 87, 92]], #[#[3, 10, 20, 30]]]

attribute [local instance] nv_decRnsCanon nv_decWFOp nv_decModWF

theorem c04r_exLevelOf : c04k_LevelOf nv_kl nv_level1 := ⟨rfl, rfl, nv_lt1 rfl⟩

theorem c04r_exKLOK : c04r_KLOK nv_kl nv_level1 :=
  ⟨nv_ksinput.hkl, nv_ksinput.hsz, nv_ksinput.hd, nv_ksinput.hov, nv_ksinput.hinv⟩

theorem c04r_exGalKey : c04r_GalKey nv_kl nv_level1 c04r_exSk 3 c04r_exKey (fun _ _ => 0) (fun _ => 1) := by
  refine ⟨by decide, rfl, by unfold c04t_KeyCanonAt; decide +kernel, ⟨by decide +kernel, fun idx hu i hi c hc => ?_⟩⟩
  -- the key equation k0 + k1 ⋆ s ≡ P·σ_3(s) modulo 97 and modulo 113, coefficient by coefficient
  have h : ∀ idx, idx < 2 → ∀ c, c < nv_kl.n →
      c04k_keyI nv_kl c04r_exKey idx 0 0 c + negMulR nv_kl.n (c04k_keyI nv_kl c04r_exKey idx 0 1) (fun p => c04r_exSk.getD p 0) c
        ≡ 0 + (nv_kl.c04t_P : Int) * 1 * c04k_sigma nv_kl.n 3 (fun p => c04r_exSk.getD p 0) c [ZMOD ((nv_kl.m idx).value : Int)] := by
    decide +kernel
  obtain rfl : i = 0 := Nat.lt_one_iff.mp hi
  exact h idx (by rcases hu with h | h; exact Nat.lt_succ_of_lt h; rw [h]; decide) c hc

theorem c04r_exCanon : ∀ k, k < 2 → RnsCanon nv_level1 (c04r_exPolys.getD k #[]) := by decide +kernel

/-- the input noise: |t·x − Q·round(t·x/Q)| ≤ 36 for every coefficient of the exact phase (5, 10, 0, 15) -/
theorem c04r_exNoise : ∀ c, c < nv_level1.n → (c04r_bfvNoise nv_level1.t.value (Spec.prodL (c01p_qvals nv_level1))
    ((Spec.phase (c01p_qvals nv_level1) nv_level1.n c04r_exSk c04r_exPolys.toList).getD c 0)).natAbs ≤ 36 := by
  unfold c04r_bfvNoise
  decide +kernel

theorem c04r_exV : (nv_level1.size * (97 * (nv_kl.n * 0)) + nv_kl.c04t_P / 2 *
    (1 + ∑ p ∈ range nv_kl.n, (c04r_exSk.getD p 0).natAbs)) / nv_kl.c04t_P ≤ 0 := by
  decide +kernel

theorem c04r_exMargin (len : Nat) : 2 * nv_level1.tool.gamma.value * (36 + len * (nv_level1.t.value * 0))
    + 2 * nv_level1.size * Spec.prodL (c01p_qvals nv_level1) ≤ Spec.prodL (c01p_qvals nv_level1) * nv_level1.tool.gamma.value := by
  rw [nv_tool1_shape.2.2.2.1, Nat.mul_zero, Nat.mul_zero, Nat.add_zero]
  decide +kernel

/-- NON-VACUITY, single step: all hypotheses of `c04r_rotate_bfv` hold on the concrete world, for `rotate_rows(1)` -/
theorem c04r_rotate_bfv_nonvacuous :
    ∃ ct' m m', applyGalois nv_kl nv_level1 .bfv ⟨c04r_exPolys, false, 1⟩ 3 c04r_exKey = .ok ct' ∧
      bfvDecrypt nv_level1 c04r_exSk ⟨c04r_exPolys, false, 1⟩ = .ok m ∧ bfvDecrypt nv_level1 c04r_exSk ct' = .ok m' ∧
      ∀ i, i < nv_level1.n → (batchDecode nv_t17 m').getD i 0 = (batchDecode nv_t17 m).getD (c04r_slotIdx nv_level1.k 1 i) 0 := by
  have hin := c04r_ksinput c04r_exLevelOf c04r_exKLOK c04r_exGalKey (polys := c04r_exPolys) false 1 c04r_exCanon
  refine c04r_rotate_bfv nv_level1_wf nv_decOK1 c04r_exLevelOf nv_t17_wf rfl rfl (by decide) (step := 1) (by decide) rfl
    c04r_exCanon hin rfl rfl c04r_exGalKey.hke (fun _ _ => rfl) (E := 36) (V := 0) c04r_exNoise ?_ ?_
  · intro c hc
    exact le_trans (c04r_step_noise c04r_exLevelOf c04r_exKLOK (by decide) c04r_exGalKey 1 c04r_exCanon (A := 97) (Be := 0)
      (nv_lt1 (le_refl _)) (fun _ _ _ _ => le_refl _) c hc) c04r_exV
  · have := c04r_exMargin 0
    simpa using this

/-- NON-VACUITY, composed: `rotatePlan` with the single key element 3 for step 1, executed as a chain -/
theorem c04r_rotatePlan_bfv_nonvacuous :
    rotatePlan nv_level1.k [3] 1 1 = .ok [3] ∧
    ∃ ct' m m', c04r_applyChain nv_kl nv_level1 .bfv (fun _ => c04r_exKey) [3] ⟨c04r_exPolys, false, 1⟩ = .ok ct' ∧
      bfvDecrypt nv_level1 c04r_exSk ⟨c04r_exPolys, false, 1⟩ = .ok m ∧ bfvDecrypt nv_level1 c04r_exSk ct' = .ok m' ∧
      ∀ i, i < nv_level1.n → (batchDecode nv_t17 m').getD i 0 =
        (batchDecode nv_t17 m).getD (c04r_rotIdx nv_level1.k (c04r_stepExp nv_level1.k 1) i) 0 := by
  have hplan : rotatePlan nv_level1.k [3] 1 1 = .ok [3] := by decide
  refine ⟨hplan, ?_⟩
  exact (c04r_rotatePlan_bfv nv_level1_wf nv_decOK1 c04r_exLevelOf c04r_exKLOK nv_t17_wf rfl rfl (by decide) rfl
    (fun _ => c04r_exKey) (fun _ _ _ => 0) (fun _ _ => 1) (A := 97) (Be := 0) (V := 0)
    (nv_lt1 (le_refl _)) c04r_exV
    (keys := [3]) (fun g hg => by
      rw [List.mem_singleton] at hg; subst hg
      exact ⟨c04r_exGalKey, fun _ _ _ _ => le_refl _⟩)
    hplan rfl c04r_exCanon c04r_exNoise (c04r_exMargin _)).2.2


/-- the BGV-specific bundles are satisfiable on the same world: same tables, `c04t_BgvData` (14·113 ≡ 1 mod 17), plain modulus -/
example : c04r_SameTables nv_kl nv_level1 ∧ c04t_BgvData nv_kl ∧ nv_kl.t.value = nv_level1.t.value := by
  exact ⟨nv_lt1 rfl, ⟨nv_m17_wf, by decide, by decide⟩, rfl⟩

/-! ## the two witnesses under the names of the theorems they witness (restated in no Props file: the module is outside the import graph) -/

/-- NON-VACUITY: all hypotheses hold on the concrete world N = 4, q = 97, P = 113, t = 17 -/
theorem rotate_rows_bfv_nonvacuous : type_of% @c04r_rotate_bfv_nonvacuous := @c04r_rotate_bfv_nonvacuous
theorem rotatePlan_rotate_bfv_nonvacuous : type_of% @c04r_rotatePlan_bfv_nonvacuous := @c04r_rotatePlan_bfv_nonvacuous

end HC
