/- C01/C02: the MODEL of `dot_product_ct_sk_array` on a size-2 ciphertext computes the phase c0 + c1·s, per RNS component as a negacyclic product,
   in both representations; `RnsCanon` (all residues reduced, all sizes right) is closed under the level's operations; `cview`, the coefficient view of a
   polynomial held in either form, with its size, entries and canonicity; and the scalar algebra of the key-switching gadget.
   Names: a prefix here is that of the file a notion serves, not of this file: `c01o_` (the dot product, the zip layer), `c07s_…_canon`
   (closure of `RnsCanon` under add, dyadic product, the transforms, zero, the key's NTT form), `c01p_rnsIntt_*`, `c05u_CtCanon` / `c05u_Q` /
   `c05u_IsCrt`, `c01e_cview_*`; `Level.WF` and `RnsCanon` have none. -/
import Heathcliff.Spec.Scheme
import Heathcliff.Proofs.C01J
import Heathcliff.Proofs.C09G
import Heathcliff.Proofs.C10H
import Heathcliff.Proofs.BaseRns
import Mathlib.Tactic.Ring
import Mathlib.Tactic.Linarith
namespace HC
open Finset

/-- a level whose NTT tables are the well-formed tables of its moduli -/
structure Level.WF (l : Level) : Prop where
  npow : l.n = 2^l.k
  tsize : l.tables.size = l.qs.size
  twf : ∀ i, i < l.size → (l.tbl i).WF ∧ (l.tbl i).modulus = l.q i ∧ (l.tbl i).k = l.k

/-- canonical RNS polynomial at level l -/
def RnsCanon (l : Level) (p : RnsPoly) : Prop :=
  p.size = l.size ∧ ∀ i, i < l.size → (p.getD i #[]).size = l.n ∧ ∀ j, j < l.n → (p.getD i #[]).getD j 0 < (l.q i).value

/-- canonical ciphertext at level `l` (any number of polynomials) -/
def c05u_CtCanon (l : Level) (ct : Ct) : Prop := ∀ k, k < ct.polys.size → RnsCanon l (ct.polys.getD k #[])

/-- the product of the level's moduli -/
def c05u_Q (l : Level) : Nat := l.tool.baseQ.prod

/-- `X` is the CRT value of coefficient `j` of the RNS polynomial `p` -/
def c05u_IsCrt (l : Level) (p : RnsPoly) (j X : Nat) : Prop :=
  X < c05u_Q l ∧ ∀ i, i < l.size → X % (l.q i).value = (p.getD i #[]).getD j 0

/-- residues of the secret key in component i -/
def skRes (l : Level) (sk : Array Int) (i : Nat) : Array Nat := sk.map fun c => (c % ((l.q i).value : Int)).toNat

/-- the value of a component-wise zip over `k` components when the scalar operation is total on the data -/
def c01o_zipVal (k : Nat) (a b : RnsPoly) (g : Nat → Nat → Nat → Nat) : RnsPoly :=
  ((List.range k).map fun i =>
    ((List.range (a.getD i #[]).size).map fun j => g i ((a.getD i #[]).getD j 0) ((b.getD i #[]).getD j 0)).toArray).toArray

/-- the fold of `rnsZip l` (`k = l.size`, `q = l.q`) and of `compsZip ms` (`k = ms.size`, `q i = ms.getD i default`) -/
theorem c01o_zipFold_ok {k : Nat} {q : Nat → Modulus} {a b : RnsPoly} {f : Nat → Nat → Modulus → R Nat} (g : Nat → Nat → Nat → Nat)
    (h : ∀ i, i < k → ∀ j, j < (a.getD i #[]).size →
      f ((a.getD i #[]).getD j 0) ((b.getD i #[]).getD j 0) (q i) = .ok (g i ((a.getD i #[]).getD j 0) ((b.getD i #[]).getD j 0))) :
    (List.range k).foldlM (fun acc i => do
      let c ← zipM' (a.getD i #[]) (b.getD i #[]) (fun x y => f x y (q i))
      pure (acc.push c)) #[] = .ok (c01o_zipVal k a b g) := by
  unfold c01o_zipVal
  rw [R.foldlM_push_ok (fun i => zipM' (a.getD i #[]) (b.getD i #[]) (fun x y => f x y (q i))) _ (List.range k)
    (fun i hi => zipM'_ok (g i) (h i (List.mem_range.mp hi)))]
  simp

theorem c01o_rnsZip_ok {l : Level} {a b : RnsPoly} {f : Nat → Nat → Modulus → R Nat} (g : Nat → Nat → Nat → Nat)
    (h : ∀ i, i < l.size → ∀ j, j < (a.getD i #[]).size →
      f ((a.getD i #[]).getD j 0) ((b.getD i #[]).getD j 0) (l.q i) = .ok (g i ((a.getD i #[]).getD j 0) ((b.getD i #[]).getD j 0))) :
    rnsZip l a b f = .ok (c01o_zipVal l.size a b g) :=
  c01o_zipFold_ok (q := l.q) g h

theorem c01o_zipVal_size (k : Nat) (a b : RnsPoly) (g : Nat → Nat → Nat → Nat) : (c01o_zipVal k a b g).size = k := by
  simp [c01o_zipVal]

theorem c01o_zipVal_getD (k : Nat) (a b : RnsPoly) (g : Nat → Nat → Nat → Nat) {i : Nat} (hi : i < k) :
    (c01o_zipVal k a b g).getD i #[] =
      ((List.range (a.getD i #[]).size).map fun j => g i ((a.getD i #[]).getD j 0) ((b.getD i #[]).getD j 0)).toArray := by
  unfold c01o_zipVal
  exact array_getD_range_map _ _ hi

theorem c01o_zipVal_comp_size (k : Nat) (a b : RnsPoly) (g : Nat → Nat → Nat → Nat) {i : Nat} (hi : i < k) :
    ((c01o_zipVal k a b g).getD i #[]).size = (a.getD i #[]).size := by
  rw [c01o_zipVal_getD k a b g hi]; simp

theorem c01o_zipVal_coeff (k : Nat) (a b : RnsPoly) (g : Nat → Nat → Nat → Nat) {i j : Nat} (hi : i < k)
    (hj : j < (a.getD i #[]).size) :
    ((c01o_zipVal k a b g).getD i #[]).getD j 0 = g i ((a.getD i #[]).getD j 0) ((b.getD i #[]).getD j 0) := by
  rw [c01o_zipVal_getD k a b g hi]
  exact array_getD_range_map _ 0 hj

/-- a zip whose first operand has `k` components of size `n` and whose values are below `B i` is canonical for `(k, n, B)`
    (`RnsCanon l` for `(l.size, l.n, (l.q ·).value)`) -/
theorem c01o_zipVal_canon {k n : Nat} {B : Nat → Nat} {a : RnsPoly} (b : RnsPoly) {g : Nat → Nat → Nat → Nat}
    (ha : ∀ i, i < k → (a.getD i #[]).size = n)
    (hg : ∀ i, i < k → ∀ j, j < n → g i ((a.getD i #[]).getD j 0) ((b.getD i #[]).getD j 0) < B i) :
    (c01o_zipVal k a b g).size = k ∧ ∀ i, i < k → ((c01o_zipVal k a b g).getD i #[]).size = n ∧
      ∀ j, j < n → ((c01o_zipVal k a b g).getD i #[]).getD j 0 < B i :=
  ⟨c01o_zipVal_size k a b g, fun i hi => ⟨(c01o_zipVal_comp_size k a b g hi).trans (ha i hi), fun j hj => by
    rw [c01o_zipVal_coeff k a b g hi (by rw [ha i hi]; exact hj)]; exact hg i hi j hj⟩⟩

theorem c01o_skNtt_getD (l : Level) (sk : Array Int) {i : Nat} (hi : i < l.size) :
    (skNtt l sk).getD i #[] = ntt (l.tbl i) (skRes l sk i) := by
  unfold skNtt
  rw [array_getD_ofFn _ _ hi]
  rfl

theorem c01o_rnsNtt_getD (l : Level) (a : RnsPoly) {i : Nat} (hi : i < l.size) :
    (rnsNtt l a).getD i #[] = ntt (l.tbl i) (a.getD i #[]) := by
  unfold rnsNtt
  rw [array_getD_ofFn _ _ hi]

theorem c01o_rnsIntt_getD (l : Level) (a : RnsPoly) {i : Nat} (hi : i < l.size) :
    (rnsIntt l a).getD i #[] = intt (l.tbl i) (a.getD i #[]) := by
  unfold rnsIntt
  rw [array_getD_ofFn _ _ hi]

theorem c01o_skRes_size (l : Level) (sk : Array Int) (i : Nat) : (skRes l sk i).size = sk.size := by
  simp [skRes]

theorem c01o_skRes_lt (l : Level) (sk : Array Int) (i : Nat) (hq : 0 < (l.q i).value) {j : Nat} (hj : j < sk.size) :
    (skRes l sk i).getD j 0 < (l.q i).value := by
  have e : (skRes l sk i).getD j 0 = (sk[j] % ((l.q i).value : Int)).toNat := by
    simp [skRes, Array.getD, hj]
  rw [e]
  have hqz : (0 : Int) < ((l.q i).value : Int) := by exact_mod_cast hq
  have h1 := Int.emod_nonneg sk[j] (ne_of_gt hqz)
  have h2 := Int.emod_lt_of_pos sk[j] hqz
  omega

theorem c01o_intt_add {t : NTTTables} (hw : t.WF) {x y z : Array Nat}
    (hx : x.size = 2^t.k) (hy : y.size = 2^t.k) (hz : z.size = 2^t.k)
    (hxl : ∀ j, j < 2^t.k → x.getD j 0 < t.modulus.value) (hyl : ∀ j, j < 2^t.k → y.getD j 0 < t.modulus.value)
    (hzv : ∀ j, j < 2^t.k → z.getD j 0 = (x.getD j 0 + y.getD j 0) % t.modulus.value) :
    ∀ j, j < 2^t.k → (intt t z).getD j 0 = ((intt t x).getD j 0 + (intt t y).getD j 0) % t.modulus.value := by
  have hq2 := hw.mwf.two_le
  have hzl : ∀ j, j < 2^t.k → z.getD j 0 < 2 * t.modulus.value := fun j hj => by
    rw [hzv j hj]; exact Nat.lt_trans (Nat.mod_lt _ (by omega)) (by omega)
  intro j hj
  refine cast_inj_lt ((intt_sim hw z hz hzl).2 j hj).1 (Nat.mod_lt _ (by omega)) ?_
  rw [intt_lin hw hx hy hz (fun j hj => by have := hxl j hj; omega) (fun j hj => by have := hyl j hj; omega) hzl 1 1
    (fun j hj => by rw [hzv j hj, ZMod.natCast_mod, Nat.cast_add, one_mul, one_mul]) j hj,
    ZMod.natCast_mod, Nat.cast_add, one_mul, one_mul]

/-- pointwise product with a transform = negacyclic product after `intt` -/
theorem c01o_conv {t : NTTTables} (hw : t.WF) {x b d : Array Nat}
    (hx : x.size = 2^t.k) (hb : b.size = 2^t.k) (hd : d.size = 2^t.k)
    (hxl : ∀ j, j < 2^t.k → x.getD j 0 < t.modulus.value) (hbl : ∀ j, j < 2^t.k → b.getD j 0 < t.modulus.value)
    (hdv : ∀ j, j < 2^t.k → d.getD j 0 = (x.getD j 0 * (ntt t b).getD j 0) % t.modulus.value) :
    ∀ c, c < 2^t.k → (intt t d).getD c 0 = negMulNat (2^t.k) t.modulus.value (intt t x) b c := by
  have hq61 := hw.mwf.lt
  obtain ⟨a1, a2⟩ := intt_sim hw x hx (fun j hj => by have := hxl j hj; omega)
  obtain ⟨n1, n2⟩ := ntt_sim hw b hb (fun j hj => by have := hbl j hj; omega)
  obtain ⟨p, hp, _, hpv⟩ := ntt_convolution_api hw (intt t x) b a1 hb (fun j hj => (a2 j hj).1) hbl
  rw [ntt_intt hw x hx hxl] at hp
  obtain ⟨p', hp', hps', hpv'⟩ := dyadicProduct_spec hw.mwf x (ntt t b)
    (fun i hi => by have := hxl i (by omega); omega)
    (fun i hi => by have := (n2 i (by omega)).2.1; omega)
  have hpp : p = p' := by
    rw [hp] at hp'
    exact Except.ok.inj hp'
  have hdp : d = p' := array_ext_getD hd (hps'.trans hx) (fun j hj => by rw [hdv j hj, hpv' j (by omega)])
  intro c hc
  rw [hdp, ← hpp]
  exact hpv c hc

theorem c01o_comp_ntt {t : NTTTables} (hw : t.WF) {q N : Nat} (hq : t.modulus.value = q) (hN : 2^t.k = N)
    {x0 x1 b d ph : Array Nat}
    (hx0 : x0.size = N) (hx1 : x1.size = N) (hb : b.size = N) (hd : d.size = N) (hph : ph.size = N)
    (hx0l : ∀ j, j < N → x0.getD j 0 < q) (hx1l : ∀ j, j < N → x1.getD j 0 < q) (hbl : ∀ j, j < N → b.getD j 0 < q)
    (hdv : ∀ j, j < N → d.getD j 0 = (x1.getD j 0 * (ntt t b).getD j 0) % q)
    (hphv : ∀ j, j < N → ph.getD j 0 = (d.getD j 0 + x0.getD j 0) % q) :
    ∀ j, j < N → (intt t ph).getD j 0 = ((intt t x0).getD j 0 + negMulNat N q (intt t x1) b j) % q := by
  subst hq hN
  have hq2 := hw.mwf.two_le
  intro j hj
  have hdl : ∀ j, j < 2^t.k → d.getD j 0 < t.modulus.value := by
    intro j hj; rw [hdv j hj]; exact Nat.mod_lt _ (by omega)
  rw [c01o_intt_add hw hd hx0 hph hdl hx0l hphv j hj, c01o_conv hw hx1 hb hd hx1l hbl hdv j hj, Nat.add_comm]

theorem c01o_comp_coeff {t : NTTTables} (hw : t.WF) {q N : Nat} (hq : t.modulus.value = q) (hN : 2^t.k = N)
    {x1 b d : Array Nat}
    (hx1 : x1.size = N) (hb : b.size = N) (hd : d.size = N)
    (hx1l : ∀ j, j < N → x1.getD j 0 < q) (hbl : ∀ j, j < N → b.getD j 0 < q)
    (hdv : ∀ j, j < N → d.getD j 0 = ((ntt t x1).getD j 0 * (ntt t b).getD j 0) % q) :
    (intt t d).size = N ∧ ∀ j, j < N → (intt t d).getD j 0 = negMulNat N q x1 b j ∧ (intt t d).getD j 0 < q := by
  subst hq hN
  have hq2 := hw.mwf.two_le
  obtain ⟨n1, n2⟩ := ntt_sim hw x1 hx1 (fun j hj => by have := hx1l j hj; omega)
  have hdl : ∀ j, j < 2^t.k → d.getD j 0 < 2 * t.modulus.value := by
    intro j hj; rw [hdv j hj]
    have := Nat.mod_lt ((ntt t x1).getD j 0 * (ntt t b).getD j 0) (show 0 < t.modulus.value by omega)
    omega
  obtain ⟨a1, a2⟩ := intt_sim hw d hd hdl
  refine ⟨a1, fun j hj => ⟨?_, (a2 j hj).1⟩⟩
  have := c01o_conv hw n1 hb hd (fun j hj => (n2 j hj).2.1) hbl hdv j hj
  rw [intt_ntt hw x1 hx1 hx1l] at this
  exact this

theorem c01o_dot_ntt_eq (l : Level) (sk : Array Int) (c0 c1 : RnsPoly) :
    dotProductCtSk l sk ⟨#[c0, c1], true, 1⟩ = (do
      let d ← rnsDyadic l c1 (skNtt l sk)
      rnsAdd l d c0) := rfl

theorem c01o_dot_coeff_eq (l : Level) (sk : Array Int) (c0 c1 : RnsPoly) :
    dotProductCtSk l sk ⟨#[c0, c1], false, 1⟩ = (do
      let d ← rnsDyadic l (rnsNtt l c1) (skNtt l sk)
      rnsAdd l (rnsIntt l d) c0) := rfl

theorem c01o_level_comp {l : Level} (hl : l.WF) {i : Nat} (hi : i < l.size) :
    (l.tbl i).WF ∧ (l.tbl i).modulus.value = (l.q i).value ∧ 2^(l.tbl i).k = l.n ∧ (l.q i).WF := by
  obtain ⟨h1, h2, h3⟩ := hl.twf i hi
  refine ⟨h1, by rw [h2], by rw [h3, hl.npow], ?_⟩
  rw [← h2]; exact h1.mwf

theorem c01o_sk_comp {l : Level} (hl : l.WF) {sk : Array Int} (hsk : sk.size = l.n) {i : Nat} (hi : i < l.size) :
    (skRes l sk i).size = l.n ∧ (∀ j, j < l.n → (skRes l sk i).getD j 0 < (l.q i).value) ∧
    (ntt (l.tbl i) (skRes l sk i)).size = l.n ∧ ∀ j, j < l.n → (ntt (l.tbl i) (skRes l sk i)).getD j 0 < (l.q i).value := by
  obtain ⟨htw, htm, htn, hqw⟩ := c01o_level_comp hl hi
  have hq2 := hqw.two_le
  have h1 : (skRes l sk i).size = l.n := by rw [c01o_skRes_size, hsk]
  have h2 : ∀ j, j < l.n → (skRes l sk i).getD j 0 < (l.q i).value :=
    fun j hj => c01o_skRes_lt l sk i (by omega) (by omega)
  obtain ⟨n1, n2⟩ := ntt_sim htw (skRes l sk i) (by rw [h1, htn]) (fun j hj => by
    have := h2 j (by omega); omega)
  refine ⟨h1, h2, by rw [n1, htn], fun j hj => ?_⟩
  have := (n2 j (by omega)).2.1
  omega

theorem c01o_rnsDyadic_ok {l : Level} (hl : l.WF) {a b : RnsPoly}
    (ha : ∀ i, i < l.size → ∀ j, j < (a.getD i #[]).size → (a.getD i #[]).getD j 0 < 2^64)
    (hb : ∀ i, i < l.size → ∀ j, j < (a.getD i #[]).size → (b.getD i #[]).getD j 0 < 2^64) :
    rnsDyadic l a b = .ok (c01o_zipVal l.size a b (fun i x y => (x * y) % (l.q i).value)) := by
  unfold rnsDyadic
  apply c01o_rnsZip_ok
  intro i hi j hj
  exact mulMod_exact (c01o_level_comp hl hi).2.2.2 (ha i hi j hj) (hb i hi j hj)

/-! ### `RnsCanon` is closed under the level's operations -/

theorem c07s_dyadic_canon {l : Level} (hl : l.WF) {a b : RnsPoly} (ha : RnsCanon l a) (hb : RnsCanon l b) :
    rnsDyadic l a b = .ok (c01o_zipVal l.size a b (fun i x y => (x * y) % (l.q i).value)) ∧
    RnsCanon l (c01o_zipVal l.size a b (fun i x y => (x * y) % (l.q i).value)) := by
  have hw := fun i hi => (c01o_level_comp hl (i := i) hi).2.2.2
  have h64 : ∀ {c : RnsPoly}, RnsCanon l c → ∀ i, i < l.size → ∀ j, j < (a.getD i #[]).size → (c.getD i #[]).getD j 0 < 2^64 :=
    fun hc i hi j hj => Nat.lt_trans ((hc.2 i hi).2 j ((ha.2 i hi).1 ▸ hj)) (Nat.lt_trans (hw i hi).lt (by norm_num))
  exact ⟨c01o_rnsDyadic_ok hl (h64 ha) (h64 hb), c01o_zipVal_canon b (fun i hi => (ha.2 i hi).1)
    fun i hi j hj => Nat.mod_lt _ (Nat.zero_lt_of_lt ((ha.2 i hi).2 j hj))⟩

theorem c07s_add_canon {l : Level} (hl : l.WF) {a b : RnsPoly} (ha : RnsCanon l a) (hb : RnsCanon l b) :
    rnsAdd l a b = .ok (c01o_zipVal l.size a b (fun i x y => (x + y) % (l.q i).value)) ∧
    RnsCanon l (c01o_zipVal l.size a b (fun i x y => (x + y) % (l.q i).value)) :=
  ⟨c01o_rnsZip_ok _ fun i hi j hj => addMod_exact (c01o_level_comp hl hi).2.2.2
      ((ha.2 i hi).2 j ((ha.2 i hi).1 ▸ hj)) ((hb.2 i hi).2 j ((ha.2 i hi).1 ▸ hj)),
    c01o_zipVal_canon b (fun i hi => (ha.2 i hi).1) fun i hi j hj => Nat.mod_lt _ (Nat.zero_lt_of_lt ((ha.2 i hi).2 j hj))⟩

theorem c07s_rnsNtt_canon {l : Level} (hl : l.WF) {c : RnsPoly} (hc : RnsCanon l c) : RnsCanon l (rnsNtt l c) := by
  refine ⟨by simp [rnsNtt], fun i hi => ?_⟩
  obtain ⟨htw, htm, htn, _⟩ := c01o_level_comp hl hi
  rw [c01o_rnsNtt_getD l c hi]
  obtain ⟨n1, n2⟩ := ntt_sim htw (c.getD i #[]) (by rw [(hc.2 i hi).1, htn]) (fun j hj => by
    have := (hc.2 i hi).2 j (by omega); omega)
  exact ⟨by rw [n1, htn], fun j hj => by have := (n2 j (by omega)).2.1; omega⟩

theorem c01p_rnsIntt_size (l : Level) (a : RnsPoly) : (rnsIntt l a).size = l.size := by
  simp [rnsIntt]

theorem c01p_rnsIntt_canon {l : Level} (hl : l.WF) {a : RnsPoly} (ha : RnsCanon l a) : RnsCanon l (rnsIntt l a) := by
  refine ⟨c01p_rnsIntt_size l a, fun i hi => ?_⟩
  obtain ⟨htw, htm, htn, hqw⟩ := c01o_level_comp hl hi
  rw [c01o_rnsIntt_getD l a hi]
  obtain ⟨a1, a2⟩ := intt_sim htw (a.getD i #[]) (by rw [(ha.2 i hi).1, htn]) (fun j hj => by
    have := (ha.2 i hi).2 j (by omega)
    omega)
  exact ⟨by rw [a1, htn], fun j hj => by have := (a2 j (by omega)).1; omega⟩

/-- coefficient view of a ciphertext polynomial -/
def cview (l : Level) (ntt : Bool) (p : RnsPoly) : RnsPoly := if ntt then rnsIntt l p else p

theorem c01e_cview_size {l : Level} {ntt : Bool} {p : RnsPoly} (hp : p.size = l.size) : (cview l ntt p).size = l.size := by
  unfold cview; split
  · exact c01p_rnsIntt_size l p
  · exact hp

theorem c01e_cview_coeff (l : Level) (p : RnsPoly) : cview l false p = p := rfl

theorem c01e_cview_ntt (l : Level) (p : RnsPoly) {i : Nat} (hi : i < l.size) :
    (cview l true p).getD i #[] = intt (l.tbl i) (p.getD i #[]) := c01o_rnsIntt_getD l p hi

theorem c01e_cview_getD (l : Level) (ntt : Bool) (p : RnsPoly) {i : Nat} (hi : i < l.size) :
    (cview l ntt p).getD i #[] = if ntt then intt (l.tbl i) (p.getD i #[]) else p.getD i #[] := by
  cases ntt
  exacts [rfl, c01e_cview_ntt l p hi]

theorem c01e_cview_canon {l : Level} (hl : l.WF) {ntt : Bool} {p : RnsPoly} (hp : RnsCanon l p) : RnsCanon l (cview l ntt p) := by
  unfold cview; split
  · exact c01p_rnsIntt_canon hl hp
  · exact hp

theorem c01e_cview_map_coeff (l : Level) (L : List RnsPoly) : L.map (cview l false) = L :=
  List.map_id' L

theorem c07s_rnsIntt_canon {l : Level} (hl : l.WF) {c : RnsPoly} (hc : RnsCanon l c) : RnsCanon l (rnsIntt l c) :=
  c01p_rnsIntt_canon hl hc

theorem c07s_rnsZero_canon {l : Level} (hl : l.WF) : RnsCanon l (rnsZero l) := by
  refine ⟨by simp [rnsZero], fun i hi => ?_⟩
  have e : (rnsZero l).getD i #[] = Array.replicate l.n 0 := by simp [rnsZero, Array.getD, hi]
  rw [e]
  refine ⟨by simp, fun j hj => ?_⟩
  have := (c01o_level_comp hl hi).2.2.2.two_le
  simp [Array.getD, hj]; omega

theorem c07s_skNtt_canon {l : Level} (hl : l.WF) {sk : Array Int} (hsk : sk.size = l.n) : RnsCanon l (skNtt l sk) := by
  refine ⟨by simp [skNtt], fun i hi => ?_⟩
  rw [c01o_skNtt_getD l sk hi]
  exact (c01o_sk_comp hl hsk hi).2.2

/-- PHASE, NTT form, size 2: the model returns (in NTT form) the polynomial whose coefficient form is c0 + c1·s mod (X^N+1, q_i)
    in every component, where c0, c1 are the coefficient forms of the inputs -/
theorem dotProduct_size2_ntt {l : Level} (hl : l.WF) {sk : Array Int} (hsk : sk.size = l.n) {c0 c1 : RnsPoly}
    (h0 : RnsCanon l c0) (h1 : RnsCanon l c1) :
    ∃ ph, dotProductCtSk l sk ⟨#[c0, c1], true, 1⟩ = .ok ph ∧ RnsCanon l ph ∧
      ∀ i, i < l.size → ∀ j, j < l.n →
        (intt (l.tbl i) (ph.getD i #[])).getD j 0 =
          ((intt (l.tbl i) (c0.getD i #[])).getD j 0 +
            negMulNat l.n (l.q i).value (intt (l.tbl i) (c1.getD i #[])) (skRes l sk i) j) % (l.q i).value := by
  obtain ⟨hd, hdc⟩ := c07s_dyadic_canon hl h1 (c07s_skNtt_canon hl hsk)
  obtain ⟨ha, hpc⟩ := c07s_add_canon hl hdc h0
  refine ⟨_, by rw [c01o_dot_ntt_eq, hd]; exact ha, hpc, fun i hi => ?_⟩
  obtain ⟨htw, htm, htn, _⟩ := c01o_level_comp hl hi
  obtain ⟨s1, s2, _, _⟩ := c01o_sk_comp hl hsk hi
  exact c01o_comp_ntt htw htm htn (h0.2 i hi).1 (h1.2 i hi).1 s1 (hdc.2 i hi).1 (hpc.2 i hi).1 (h0.2 i hi).2 (h1.2 i hi).2 s2
    (fun j hj => by rw [c01o_zipVal_coeff _ _ _ _ hi (by rw [(h1.2 i hi).1]; exact hj), c01o_skNtt_getD l sk hi])
    (fun j hj => by rw [c01o_zipVal_coeff _ _ _ _ hi (by rw [(hdc.2 i hi).1]; exact hj)])

/-- PHASE, coefficient form, size 2 (BFV): the model returns c0 + c1·s mod (X^N+1, q_i) in coefficient form -/
theorem dotProduct_size2_coeff {l : Level} (hl : l.WF) {sk : Array Int} (hsk : sk.size = l.n) {c0 c1 : RnsPoly}
    (h0 : RnsCanon l c0) (h1 : RnsCanon l c1) :
    ∃ ph, dotProductCtSk l sk ⟨#[c0, c1], false, 1⟩ = .ok ph ∧ RnsCanon l ph ∧
      ∀ i, i < l.size → ∀ j, j < l.n →
        (ph.getD i #[]).getD j 0 =
          ((c0.getD i #[]).getD j 0 + negMulNat l.n (l.q i).value (c1.getD i #[]) (skRes l sk i) j) % (l.q i).value := by
  have hn1 := c07s_rnsNtt_canon hl h1
  obtain ⟨hd, hdc⟩ := c07s_dyadic_canon hl hn1 (c07s_skNtt_canon hl hsk)
  have hic := c01p_rnsIntt_canon hl hdc
  obtain ⟨ha, hpc⟩ := c07s_add_canon hl hic h0
  refine ⟨_, by rw [c01o_dot_coeff_eq, hd]; exact ha, hpc, fun i hi j hj => ?_⟩
  obtain ⟨htw, htm, htn, _⟩ := c01o_level_comp hl hi
  obtain ⟨s1, s2, _, _⟩ := c01o_sk_comp hl hsk hi
  have hI := (c01o_comp_coeff htw htm htn (h1.2 i hi).1 s1 (hdc.2 i hi).1 (h1.2 i hi).2 s2
    (fun j hj => by
      rw [c01o_zipVal_coeff _ _ _ _ hi (by rw [(hn1.2 i hi).1]; exact hj), c01o_rnsNtt_getD l c1 hi, c01o_skNtt_getD l sk hi])).2 j hj
  rw [c01o_zipVal_coeff _ _ _ _ hi (by rw [(hic.2 i hi).1]; exact hj), c01o_rnsIntt_getD l _ hi, hI.1, Nat.add_comm]

/-! ### key switching: gadget identity and phase algebra -/

/-- each gadget element is ≡ 1 modulo its own prime and ≡ 0 modulo the others — this is why the key generator adds P·s' only to
    component j of key j -/
theorem gadget_delta {b : RNSBase} (hb : b.WF) {i j : Nat} (hi : i < b.size) (hj : j < b.size) :
    (b.punct.getD j 0 * (b.invPunct.getD j default).operand) % (b.q i).value = if i = j then 1 % (b.q i).value else 0 := by
  by_cases hij : i = j
  · subst hij
    rw [if_pos rfl, ← (hb.inv_wf i hi).2, Nat.mod_mul_mod]
  · rw [if_neg hij]
    exact Nat.mod_eq_zero_of_dvd (Dvd.dvd.mul_right (hb.q_dvd_punct hj hi (Ne.symm hij)) _)

/-- CRT GADGET: the digits c mod q_j recombine with the gadget elements g_j = (Q/q_j)·[(Q/q_j)^{-1}]_{q_j} -/
theorem gadget_crt {b : RNSBase} (hb : b.WF) (c : Nat) :
    (∑ j ∈ range b.size, (c % (b.q j).value) * (b.punct.getD j 0 * (b.invPunct.getD j default).operand)) % b.prod = c % b.prod := by
  apply hb.crt_modEq
  intro i hi
  have h2 := (hb.mwf i hi).two_le
  rw [Finset.sum_nat_mod]
  have hterm : ∀ j ∈ range b.size,
      ((c % (b.q j).value) * (b.punct.getD j 0 * (b.invPunct.getD j default).operand)) % (b.q i).value
        = if i = j then c % (b.q i).value else 0 := by
    intro j hj
    rw [Nat.mul_mod, gadget_delta hb hi (mem_range.mp hj)]
    by_cases hij : i = j
    · subst hij
      rw [if_pos rfl, if_pos rfl, Nat.mod_mod, Nat.mod_eq_of_lt (show 1 < (b.q i).value by omega),
        Nat.mul_one, Nat.mod_mod]
    · rw [if_neg hij, if_neg hij, Nat.mul_zero, Nat.zero_mod]
  rw [Finset.sum_congr rfl hterm, Finset.sum_ite_eq, if_pos (mem_range.mpr hi), Nat.mod_mod]

/-- KEY-SWITCH PHASE (any commutative ring): if every key satisfies k0_j + k1_j·s = e_j + P·g_j·s' and Σ_j d_j·g_j = c then
    (Σ_j d_j·k0_j) + (Σ_j d_j·k1_j)·s = P·c·s' + Σ_j d_j·e_j -/
theorem keyswitch_phase {R : Type} [CommRing R] (k : Nat) (d g e k0 k1 : Nat → R) (s s' P c : R)
    (hkey : ∀ j, j < k → k0 j + k1 j * s = e j + P * g j * s') (hg : ∑ j ∈ range k, d j * g j = c) :
    (∑ j ∈ range k, d j * k0 j) + (∑ j ∈ range k, d j * k1 j) * s = P * c * s' + ∑ j ∈ range k, d j * e j := by
  rw [← hg, Finset.sum_mul, ← Finset.sum_add_distrib, Finset.mul_sum, Finset.sum_mul, ← Finset.sum_add_distrib]
  apply Finset.sum_congr rfl
  intro j hj
  have := hkey j (mem_range.mp hj)
  linear_combination d j * this

/-- MOD-DOWN by the special prime with rounding (scalar): X = P·Y + E ⇒ round(X/P) = Y + round(E/P), and |round(E/P)| ≤ |E|/P + 1 -/
theorem moddown_round {P : Nat} (hP : 0 < P) (X Y E : Int) (h : X = P * Y + E) :
    Spec.roundDiv X P = Y + Spec.roundDiv E P ∧ (Spec.roundDiv E P).natAbs * P ≤ E.natAbs + P := by
  constructor
  · rw [h, add_comm, c01j_roundDiv_add_mul E Y hP, add_comm]
  · obtain ⟨h1, h2⟩ := c01j_roundDiv_spec E hP
    have e : (Spec.roundDiv E P).natAbs * P = (P * Spec.roundDiv E P).natAbs := by
      rw [Int.natAbs_mul, Int.natAbs_natCast, Nat.mul_comm]
    rw [e]
    omega

end HC
