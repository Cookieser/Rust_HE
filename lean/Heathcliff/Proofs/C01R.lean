/- C01: the exact phase `Spec.phase` and the model's dot product with the secret key.
   `Spec.phase qs n sk polys` has size `n`, every coefficient is the centred lift of a number below Q, and read modulo q_i it is the phase
   Σ_k c_k s^k of the residues of `polys` in Z_{q_i}[X]/(X^n+1) (`c01p_phase_size`, `c01p_phase_getD`, `c01p_phase_res`) — the value `c07s_dot_form` finds in
   component i of `dotProductCtSk`.  Hence `c01_dot_phase`: for either representation and every size ≥ 2 the exact phase of the coefficient forms of
   a ciphertext is the centred CRT lift `c01p_lift` of the coefficient form of the model's dot product.  Decryption (C01P, C01Q) and the noise budget
   (C07S) are this plus a statement about one canonical RNS polynomial and its lift.
   Names: the prefix is `c01p_` as in C01N (`c01_dot_phase` apart); `c07s_LevelQ.qvals`, `c07s_LevelQ.prodL` are the two readings of C07D's bundle
   `c07s_LevelQ` that need `c01p_qvals`. -/
import Heathcliff.Proofs.C01N
import Heathcliff.Proofs.C07D
namespace HC
open Finset

theorem c01p_crtPolys_ok (qs : List Nat) (n : Nat) (polys : List RnsPoly) :
    ∀ z ∈ polys.map (fun p => Spec.crtPoly qs p n), z.size = n ∧ ∀ j, 0 ≤ z.getD j 0 := by
  intro z hz
  obtain ⟨p, _, rfl⟩ := List.mem_map.mp hz
  refine ⟨c01p_crtPoly_size _ _ _, fun j => ?_⟩
  by_cases hj : j < n
  · rw [c01p_crtPoly_getD _ _ _ hj]; exact Int.natCast_nonneg _
  · rw [array_getD_of_ge _ _ (by rw [c01p_crtPoly_size]; exact Nat.le_of_not_lt hj)]

theorem c01p_evalO_size (sk : Array Int) (Q n : Nat) : ∀ (zs : List (Array Int)), (∀ z ∈ zs, z.size = n) → zs ≠ [] →
    ∃ H, c07s_evalO sk Q zs = some H ∧ H.size = n
  | [], _, h => absurd rfl h
  | z :: zs, hz, _ => by
    rw [c07s_evalO_cons]
    by_cases hnil : zs = []
    · subst hnil; exact ⟨z, rfl, hz z (by simp)⟩
    · obtain ⟨a, e, ha⟩ := c01p_evalO_size sk Q n zs (fun z' hz' => hz z' (by simp [hz'])) hnil
      rw [e]
      exact ⟨_, rfl, by rw [c01p_zAdd_size, c01p_zNegMul_size, ha]⟩

/-- `Spec.phase` is the coefficient-wise centred lift of an array of size `n`: the Horner accumulator, or zero for the empty list -/
theorem c01p_phase_map (qs : List Nat) (n : Nat) (sk : Array Int) (polys : List RnsPoly) :
    ∃ A : Array Int, A.size = n ∧
      (polys ≠ [] → c07s_evalO sk (Spec.prodL qs) (polys.map fun p => Spec.crtPoly qs p n) = some A) ∧
      Spec.phase qs n sk polys = A.map fun x => Spec.centred x.toNat (Spec.prodL qs) := by
  rw [c07s_phase_unfold]
  by_cases hne : polys = []
  · subst hne
    exact ⟨Array.replicate n 0, by simp, fun h => absurd rfl h, rfl⟩
  · obtain ⟨H, e, hH⟩ := c01p_evalO_size sk (Spec.prodL qs) n (polys.map fun p => Spec.crtPoly qs p n)
      (fun z hz => (c01p_crtPolys_ok qs n polys z hz).1) (by simpa using hne)
    exact ⟨H, hH, fun _ => e, by rw [e, Option.getD_some]⟩

theorem c01p_phase_size (qs : List Nat) (n : Nat) (sk : Array Int) (polys : List RnsPoly) :
    (Spec.phase qs n sk polys).size = n := by
  obtain ⟨A, hA, -, e⟩ := c01p_phase_map qs n sk polys
  rw [e, Array.size_map, hA]

theorem c01p_phase_getD (qs : List Nat) (n : Nat) (sk : Array Int) (polys : List RnsPoly) (hQ : 0 < Spec.prodL qs) {j : Nat} (hj : j < n) :
    ∃ X, X < Spec.prodL qs ∧ (Spec.phase qs n sk polys).getD j 0 = Spec.centred X (Spec.prodL qs) := by
  obtain ⟨A, hA, -, e⟩ := c01p_phase_map qs n sk polys
  refine ⟨(A.getD j 0).toNat % Spec.prodL qs, Nat.mod_lt _ hQ, ?_⟩
  rw [e, array_getD_map _ _ 0 0 (by rw [hA]; exact hj)]
  unfold Spec.centred
  rw [Nat.mod_mod]

theorem c01p_phase_centred (qs : List Nat) (n : Nat) (sk : Array Int) (polys : List RnsPoly) (hQ : 0 < Spec.prodL qs) {j : Nat}
    (hj : j < n) :
    - (Spec.prodL qs : Int) < 2 * (Spec.phase qs n sk polys).getD j 0 ∧
      2 * (Spec.phase qs n sk polys).getD j 0 ≤ (Spec.prodL qs : Int) := by
  obtain ⟨X, -, e⟩ := c01p_phase_getD qs n sk polys hQ hj
  rw [e]
  exact centred_range X hQ

/-- RESIDUES of the exact phase: modulo a prime of the base the exact phase is Σ_k c_k s^k of the residues of `polys`, in the ring
    Z_{q_i}[X]/(X^n+1) -/
theorem c01p_phase_res {b : RNSBase} (hb : b.WF) (n : Nat) (sk : Array Int) {polys : List RnsPoly} (hne : polys ≠ [])
    {i : Nat} (hi : i < b.size) :
    c03k_toNP n (fun j => (((Spec.phase (c07s_qsv b) n sk polys).getD j 0 : Int) : ZMod (b.q i).value)) =
      ctPhase polys.length (fun k => c03k_toNP n (c07s_vecN (b.q i).value ((polys.getD k #[]).getD i #[])))
        (c03k_toNP n (c07s_vecZ (b.q i).value sk)) := by
  have hQ := hb.prod_pos
  have hdvd : (b.q i).value ∣ b.prod := hb.q_dvd_prod hi
  obtain ⟨H, e1, e2, e3, e4⟩ := c07s_evalO_spec hdvd hQ sk _ (c01p_crtPolys_ok (c07s_qsv b) n polys) (by simpa using hne)
  rw [List.length_map] at e4
  refine (c03k_toNP_congr fun j hj => ?_).trans (e4.trans (c03k_ctPhase_congr _ _ fun k hk => c03k_toNP_congr fun j hj => ?_))
  · -- centring changes the value by a multiple of Q, and q_i divides Q
    rw [c07s_phase_unfold, c07s_prodL_qsv hb, e1, Option.getD_some, array_getD_map _ _ 0 0 (by rw [e2]; exact hj),
      c03k_centred_cast hdvd, c07s_cast_toNat (e3 j)]
    rfl
  · rw [list_getD_map _ _ #[] _ hk]
    unfold c07s_vecZ c07s_vecN
    rw [c01p_crtPoly_getD _ _ _ hj, Int.cast_natCast]
    have := c07s_crt_cast hb ((polys.getD k #[]).toList.map (fun comp => comp.getD j 0)) hi
    rw [c07s_listcol_getD] at this
    exact this

theorem c07s_LevelQ.qvals {l : Level} (hq : c07s_LevelQ l) : c01p_qvals l = c07s_qsv l.tool.baseQ := by
  unfold c01p_qvals c07s_qsv; rw [hq.base]

theorem c07s_LevelQ.prodL {l : Level} (hq : c07s_LevelQ l) : Spec.prodL (c01p_qvals l) = l.tool.baseQ.prod := by
  rw [hq.qvals, c07s_prodL_qsv hq.bwf]

/-- the centred CRT lift of an RNS polynomial: coefficient j is the representative in (-Q/2, Q/2] of the residues `p_i[j]`
    (it is `Spec.phase` of the one-element list `[p]`) -/
def c01p_lift (l : Level) (p : RnsPoly) : Spec.ZPoly :=
  (Spec.crtPoly (c01p_qvals l) p l.n).map fun x => Spec.centred x.toNat (Spec.prodL (c01p_qvals l))

theorem c01p_lift_size (l : Level) (p : RnsPoly) : (c01p_lift l p).size = l.n := by
  unfold c01p_lift
  rw [Array.size_map, c01p_crtPoly_size]

theorem c01p_lift_getD (l : Level) (p : RnsPoly) {j : Nat} (hj : j < l.n) :
    (c01p_lift l p).getD j 0 =
      Spec.centred (Spec.crt (c01p_qvals l) (p.toList.map fun c => c.getD j 0)) (Spec.prodL (c01p_qvals l)) := by
  unfold c01p_lift
  rw [array_getD_map _ _ 0 0 (by rw [c01p_crtPoly_size]; exact hj), c01p_crtPoly_getD _ _ _ hj]
  rfl

/-- the lift of a canonical polynomial, in the form the tool lemmas take it: a number below Q with the residues `p_i[j]`, and its centred value -/
theorem c01p_lift_crt {l : Level} (hq : c07s_LevelQ l) {p : RnsPoly} (hp : RnsCanon l p) {j : Nat} (hj : j < l.n) :
    c05u_IsCrt l p j (Spec.crt (c01p_qvals l) (p.toList.map fun c => c.getD j 0)) ∧
    (c01p_lift l p).getD j 0 = Spec.centred (Spec.crt (c01p_qvals l) (p.toList.map fun c => c.getD j 0)) l.tool.baseQ.prod := by
  have h := c01p_lift_getD l p hj
  rw [hq.prodL] at h
  rw [hq.qvals]
  obtain ⟨h1, h2⟩ := c07s_crt_spec hq.bwf (p.toList.map fun c => c.getD j 0)
  refine ⟨⟨h1, fun i hi => ?_⟩, by rw [← hq.qvals]; exact h⟩
  have := h2 i (by rw [hq.size_eq]; exact hi)
  rw [hq.q_eq hi, c07s_listcol_getD] at this
  rw [this, Nat.mod_eq_of_lt ((hp.2 i hi).2 j hj)]

/-- EXACT SIDE: if `ph` is, prime by prime, the phase Σ_k c_k s^k of `polys` in Z_{q_i}[X]/(X^N+1) (what `c07s_dot_form` proves of
    `dotProductCtSk`), then `Spec.phase … polys` is the centred CRT lift of `ph` -/
theorem c01p_phase_eq_lift {l : Level} (hq : c07s_LevelQ l) (sk : Array Int) {polys : List RnsPoly} (hne : polys ≠ []) {ph : RnsPoly}
    (hpv : ∀ i, i < l.size → c03k_toNP l.n (c07s_vecN (l.q i).value (ph.getD i #[])) =
      ctPhase polys.length (fun k => c03k_toNP l.n (c07s_vecN (l.q i).value ((polys.getD k #[]).getD i #[])))
        (c03k_toNP l.n (c07s_vecZ (l.q i).value sk))) :
    Spec.phase (c01p_qvals l) l.n sk polys = c01p_lift l ph := by
  have hb := hq.bwf
  have hQ : 0 < Spec.prodL (c01p_qvals l) := by rw [hq.prodL]; exact hb.prod_pos
  apply Array.ext (by rw [c01p_phase_size, c01p_lift_size])
  intro j hj1 _
  have hj : j < l.n := by rw [c01p_phase_size] at hj1; exact hj1
  have e0 : ∀ (A : Spec.ZPoly) (h : j < A.size), A[j] = A.getD j 0 := fun A h => by simp [Array.getD, h]
  obtain ⟨X, hX, eX⟩ := c01p_phase_getD (c01p_qvals l) l.n sk polys hQ hj
  rw [e0, e0, c01p_lift_getD l ph hj, eX]
  congr 1
  -- both numbers are below Q and have the same residues
  rw [hq.prodL] at hX eX
  have hY := (c07s_crt_spec hb (ph.toList.map fun c => c.getD j 0)).1
  rw [hq.qvals]
  apply c07s_crt_unique_cast hb hX hY
  intro i hi
  have hi' : i < l.size := by rw [← hq.size_eq]; exact hi
  have hdvd : (l.tool.baseQ.q i).value ∣ l.tool.baseQ.prod := hb.q_dvd_prod hi
  have hres := congrArg (fun x => x.co j) (c01p_phase_res hb l.n sk hne hi)
  simp only [c03k_toNP_co _ hj] at hres
  rw [← hq.qvals, eX, c03k_centred_cast hdvd] at hres
  rw [hres, c07s_crt_cast hb _ hi, c07s_listcol_getD, hq.q_eq hi', ← hpv i hi', c03k_toNP_co _ hj]
  rfl

/-- THE PHASE THEOREM: for either representation and every size ≥ 2 the model's dot product with the secret key succeeds, is canonical, and the
    exact phase of the coefficient forms of the input is the centred CRT lift of the coefficient form of the result -/
theorem c01_dot_phase {l : Level} (hl : l.WF) (hq : c07s_LevelQ l) {sk : Array Int} (hsk : sk.size = l.n) (nf : Bool)
    {polys : Array RnsPoly} (h2 : 2 ≤ polys.size) (hc : ∀ k, k < polys.size → RnsCanon l (polys.getD k #[])) (cf : Nat) :
    ∃ ph, dotProductCtSk l sk ⟨polys, nf, cf⟩ = .ok ph ∧ RnsCanon l ph ∧
      Spec.phase (c01p_qvals l) l.n sk (polys.toList.map (cview l nf)) = c01p_lift l (cview l nf ph) := by
  obtain ⟨ph, hd, hpc, hpv⟩ := c07s_dot_form hl hsk nf h2 hc cf
  have hne : polys.toList.map (cview l nf) ≠ [] := by
    intro h
    have h1 := congrArg List.length h
    rw [List.length_map, Array.length_toList, List.length_nil] at h1
    omega
  refine ⟨ph, hd, hpc, c01p_phase_eq_lift hq sk hne fun i hi => ?_⟩
  rw [c01e_cview_getD l nf ph hi, List.length_map, Array.length_toList]
  refine (hpv i hi).trans (c03k_ctPhase_congr _ _ fun k hk => ?_)
  rw [list_getD_map _ _ #[] _ (by rw [Array.length_toList]; exact hk), array_getD_toList, c01e_cview_getD l nf _ hi]
  rfl

theorem c01p_hornerRes_cons (n q : Nat) (skr : Array Nat) (c : Array Nat) (cs : List (Array Nat)) :
    c01p_hornerRes n q skr (c :: cs) = c01p_rStep n q skr (c01p_hornerRes n q skr cs) c := by
  unfold c01p_hornerRes
  rw [List.reverse_cons, List.foldl_append]
  rfl

/-- `c01p_hornerRes` is Σ_k c_k s^k in Z_q[X]/(X^n+1) -/
theorem c01p_hornerRes_vec {n q : Nat} (hq : 0 < q) (skr : Array Nat) (cs : List (Array Nat)) (hne : cs ≠ []) :
    ∃ a, c01p_hornerRes n q skr cs = some a ∧ c03k_toNP n (c07s_vecN q a) =
      ctPhase cs.length (fun k => c03k_toNP n (c07s_vecN q (cs.getD k #[]))) (c03k_toNP n (c07s_vecN q skr)) := by
  induction cs with
  | nil => exact absurd rfl hne
  | cons c cs ih =>
    rw [c01p_hornerRes_cons, List.length_cons, c03k_ctPhase_succ]
    by_cases hnil : cs = []
    · subst hnil
      refine ⟨c, rfl, ?_⟩
      rw [List.length_nil, ctPhase, Finset.sum_range_zero, mul_zero, add_zero]
      rfl
    · obtain ⟨a, e1, e3⟩ := ih hnil
      rw [e1]
      refine ⟨_, rfl, ?_⟩
      rw [c07s_vec2 (n := n) hq (c0 := c) (c1 := a) (skr := skr) (fun j hj => by rw [array_getD_ofFn _ _ hj, Nat.add_comm]),
        e3, mul_comm]
      rfl

/-- the hypothesis `hres` of the `_of_phase` theorems (the model's phase has, prime by prime, the residues of `c01p_hornerRes`) gives the
    exact phase as the lift of the model's phase -/
theorem c01p_phase_of_hres {l : Level} (hq : c07s_LevelQ l) (sk : Array Int) {polys : List RnsPoly} (hne : polys ≠ []) {ph : RnsPoly}
    (hres : ∀ i, i < l.size → ∃ a, c01p_hornerRes l.n (l.q i).value (skRes l sk i) (polys.map (fun p => p.getD i #[])) = some a ∧
      ∀ j, j < l.n → (ph.getD i #[]).getD j 0 = a.getD j 0 % (l.q i).value) :
    Spec.phase (c01p_qvals l) l.n sk polys = c01p_lift l ph := by
  apply c01p_phase_eq_lift hq sk hne
  intro i hi
  have hq0 : 0 < (l.q i).value := by
    have := (hq.bwf.mwf i (by rw [hq.size_eq]; exact hi)).two_le
    rw [hq.q_eq hi] at this; omega
  obtain ⟨a, a1, a2⟩ := hres i hi
  obtain ⟨a', b1, b2⟩ := c01p_hornerRes_vec (n := l.n) hq0 (skRes l sk i) (polys.map (fun p => p.getD i #[])) (by simpa using hne)
  obtain rfl : a = a' := Option.some.inj (a1.symm.trans b1)
  -- the residues of the key, as natural numbers and as integers, are the same elements of `ZMod q_i`
  have hs : c03k_toNP l.n (c07s_vecN (l.q i).value (skRes l sk i)) = c03k_toNP l.n (c07s_vecZ (l.q i).value sk) :=
    c03k_toNP_congr fun k _ => by
      have := (ZMod.intCast_eq_intCast_iff _ _ _).mpr (c01p_skResQ_modEq sk hq0 k)
      rw [Int.cast_natCast] at this
      exact this
  rw [c03k_toNP_congr (g := c07s_vecN (l.q i).value a) fun j hj => by unfold c07s_vecN; rw [a2 j hj, ZMod.natCast_mod],
    b2, hs, List.length_map]
  exact c03k_ctPhase_congr _ _ fun k hk => by rw [list_getD_map _ _ #[] _ hk]

end HC
