import Heathcliff.Proofs.GenCkks

/- Translator tie, encoder mode, the array entry points: the DISPATCH of the generated `encode_internal_c64_array` /
   `encode_internal_f64_polynomial` (Gen/CkksFns.lean) as an equality (`gk_c64_array_unfold`, `gk_f64_polynomial_unfold`), their refusals, and
   the assembled integer stage for the ≤ 64-bit and ≤ 128-bit paths (`gk_stage_coeffToRns` and the two `…_integer_stage_partial`).
   `gkRow64` / `gkRow128` / `gkRowBig` are the row bodies EXACTLY as generated (copied text; the unfolding theorems below are `rfl`, so any
   change of the generated dispatch or of a row body breaks them).  The inputs `cb`, `rc`, `scale_ok`, `total_bits`, `decompose`, `nttP` and
   the assumed float fact `hmag` are explained in the head of GenCkks.lean. -/
namespace HC
open Ckks GenK

/-- the six inner `for j` bodies, EXACTLY as generated (i = coefficient index, cc = coeff_count) -/
def gkNeg64 (moduli : List Modulus) (v2 v5 v8 : Nat) (v9 : Nat) (dest : List Nat) : R (List Nat) := do
  let t5 ← ckMul v9 v2
  let t6 ← ckAdd v5 t5
  let t7 ← idxT moduli v9
  let t8 ← GenP.mod_reduce t7 v8
  let t9 ← idxT moduli v9
  let t10 ← GenW.negate_u64_mod t8 t9
  let dest ← setIdx dest t6 t10
  pure dest
def gkPos64 (moduli : List Modulus) (v2 v5 v8 : Nat) (v10 : Nat) (dest : List Nat) : R (List Nat) := do
  let t11 ← ckMul v10 v2
  let t12 ← ckAdd v5 t11
  let t13 ← idxT moduli v10
  let t14 ← GenP.mod_reduce t13 v8
  let dest ← setIdx dest t12 t14
  pure dest
def gkNeg128 (moduli : List Modulus) (v2 v11 : Nat) (v12 : Int) (v14 : Nat) (dest : List Nat) : R (List Nat) := do
  let t16 ← ckMul v14 v2
  let t17 ← ckAdd v11 t16
  let t18 ← idxT moduli v14
  let t19 ← GenW.barrett_reduce_u128 (fToU64 (fmod64 v12)) (fToU64 (fdiv64 v12)) t18
  let t20 ← idxT moduli v14
  let t21 ← GenW.negate_u64_mod t19 t20
  let dest ← setIdx dest t17 t21
  pure dest
def gkPos128 (moduli : List Modulus) (v2 v11 : Nat) (v12 : Int) (v15 : Nat) (dest : List Nat) : R (List Nat) := do
  let t22 ← ckMul v15 v2
  let t23 ← ckAdd v11 t22
  let t24 ← idxT moduli v15
  let t25 ← GenW.barrett_reduce_u128 (fToU64 (fmod64 v12)) (fToU64 (fdiv64 v12)) t24
  let dest ← setIdx dest t23 t25
  pure dest

def gkRow64 (moduli : List Modulus) (v2 : Nat) (rc : List Int) (v5 : Nat) (dest : List Nat) : R (List Nat) := do
  let v1 : Nat := moduli.length
  let t4 ← idxI rc v5
  let v6 : Int := t4
  let v7 : Bool := decide (v6 < 0)
  let v8 : Nat := (fToU64 (fabs v6))
  let dest ← (if (v7 = true) then (do
      let dest ← forRange 0 v1 dest (gkNeg64 moduli v2 v5 v8)
      pure dest
    ) else (do
      let dest ← forRange 0 v1 dest (gkPos64 moduli v2 v5 v8)
      pure dest
    ) : R (List Nat))
  pure dest

def gkRow128 (moduli : List Modulus) (v2 : Nat) (rc : List Int) (v11 : Nat) (dest : List Nat) : R (List Nat) := do
  let v1 : Nat := moduli.length
  let t15 ← idxI rc v11
  let v12 : Int := t15
  let v13 : Bool := decide (v12 < 0)
  let v12 : Int := (fabs v12)
  let dest ← (if (v13 = true) then (do
      let dest ← forRange 0 v1 dest (gkNeg128 moduli v2 v11 v12)
      pure dest
    ) else (do
      let dest ← forRange 0 v1 dest (gkPos128 moduli v2 v11 v12)
      pure dest
    ) : R (List Nat))
  pure dest

def gkRowBig (moduli : List Modulus) (v2 : Nat) (rc : List Int) (decompose : List Nat → R (List Nat)) (v16 : Nat) (dest : List Nat) : R (List Nat) := do
  let v1 : Nat := moduli.length
  let t26 ← idxI rc v16
  let v17 : Int := t26
  let v18 : Bool := decide (v17 < 0)
  let v17 : Int := (fabs v17)
  let v19 : List Nat := (List.replicate v1 0)
  let v20 : Nat := 0
  let (v19, v17, v20) ← whileFuel (fun (v19, v17, v20) => decide (v17 ≥ 1)) (fun (v19, v17, v20) => do
      let v19 ← setIdx v19 v20 (fToU64 (fmod64 v17))
      let v17 : Int := (fdiv64 v17)
      let t27 ← ckAdd v20 1
      let v20 : Nat := t27
      pure (v19, v17, v20)
    ) (Int.natAbs v17 + 1) (v19, v17, v20)
  let t28 ← decompose v19
  let v19 : List Nat := t28
  let dest ← (if (v18 = true) then (do
      let dest ← forRange 0 v1 dest (fun v21 dest => do
          let t29 ← ckMul v21 v2
          let t30 ← ckAdd v16 t29
          let t31 ← idx v19 v21
          let t32 ← idxT moduli v21
          let t33 ← GenW.negate_u64_mod t31 t32
          let dest ← setIdx dest t30 t33
          pure dest
        )
      pure dest
    ) else (do
      let dest ← forRange 0 v1 dest (fun v22 dest => do
          let t34 ← ckMul v22 v2
          let t35 ← ckAdd v16 t34
          let t36 ← idx v19 v22
          let dest ← setIdx dest t35 t36
          pure dest
        )
      pure dest
    ) : R (List Nat))
  pure dest

/-- the three-way selection on the bit count, EXACTLY as generated: `<= 64`, else `<= 128`, else the multi-word rows -/
def gkStageRaw (bits n : Nat) (moduli : List Modulus) (cc : Nat) (rc : List Int) (decompose : List Nat → R (List Nat)) (dest : List Nat) : R (List Nat) :=
  (if (bits ≤ 64) then (do
      let dest ← forRange 0 n dest (gkRow64 moduli cc rc)
      pure dest
    ) else (do
      let dest ← (if (bits ≤ 128) then (do
          let dest ← forRange 0 n dest (gkRow128 moduli cc rc)
          pure dest
        ) else (do
          let dest ← forRange 0 n dest (gkRowBig moduli cc rc decompose)
          pure dest
        ) : R (List Nat))
      pure dest
    ) : R (List Nat))

/-- … the same without the administrative `pure`s -/
def gkStage (bits n : Nat) (moduli : List Modulus) (cc : Nat) (rc : List Int) (decompose : List Nat → R (List Nat)) (dest : List Nat) : R (List Nat) :=
  if bits ≤ 64 then forRange 0 n dest (gkRow64 moduli cc rc)
  else if bits ≤ 128 then forRange 0 n dest (gkRow128 moduli cc rc)
  else forRange 0 n dest (gkRowBig moduli cc rc decompose)

theorem gkStageRaw_eq (bits n : Nat) (moduli : List Modulus) (cc : Nat) (rc : List Int) (decompose : List Nat → R (List Nat)) (dest : List Nat) :
    gkStageRaw bits n moduli cc rc decompose dest = gkStage bits n moduli cc rc decompose dest := by
  unfold gkStageRaw gkStage
  by_cases h1 : bits ≤ 64 <;> by_cases h2 : bits ≤ 128 <;> simp only [h1, h2, if_true, if_false]

theorem gk_c64_array_unfold (valid is_ckks : Bool) (nvalues slots : Nat) (scale_ok : Bool) (total_bits : Nat) (moduli : List Modulus)
    (degree ntt_len : Nat) (cb : List Nat) (rc : List Int) (decompose : List Nat → R (List Nat)) (nttP : List Nat → Nat → R (List Nat)) (dest : List Nat) :
    encode_internal_c64_array valid is_ckks nvalues slots scale_ok total_bits moduli degree ntt_len cb rc decompose nttP dest =
      (if ¬ (valid = true) then .error .refused else
       if ¬ (is_ckks = true) then .error .refused else
       if nvalues > slots then .error .refused else
       if ¬ (scale_ok = true) then .error .refused else do
       let n ← ckMul slots 2
       let mb ← maxAll cb
       if satAdd mb 1 ≥ total_bits then .error .refused else do
       let sz ← ckMul degree moduli.length
       let d ← gkStageRaw (satAdd mb 1) n moduli degree rc decompose (resizeL dest sz)
       if ntt_len ≠ moduli.length then .error .refused else
       (nttP d degree >>= fun t => pure t)) := rfl

theorem gk_f64_polynomial_unfold (valid is_ckks : Bool) (nvalues slots : Nat) (scale_ok : Bool) (total_bits : Nat) (moduli : List Modulus)
    (degree ntt_len : Nat) (cb : List Nat) (rc : List Int) (decompose : List Nat → R (List Nat)) (nttP : List Nat → Nat → R (List Nat)) (dest : List Nat) :
    encode_internal_f64_polynomial valid is_ckks nvalues slots scale_ok total_bits moduli degree ntt_len cb rc decompose nttP dest =
      (if ¬ (valid = true) then .error .refused else
       if ¬ (is_ckks = true) then .error .refused else do
       let n2 ← ckMul slots 2
       if nvalues > n2 then .error .refused else
       if ¬ (scale_ok = true) then .error .refused else do
       let sz ← ckMul degree moduli.length
       let mb ← maxAll cb
       if satAdd mb 1 ≥ total_bits then .error .refused else do
       let d ← gkStageRaw (satAdd mb 1) nvalues moduli degree rc decompose (fillL (resizeL dest sz) 0)
       if ntt_len ≠ moduli.length then .error .refused else
       (nttP d degree >>= fun t => pure t)) := rfl

/-! ### refusal -/

theorem gk_c64_array_refuses {cb : List Nat} {mb total_bits slots nvalues : Nat} (hm : maxAll cb = .ok mb)
    (ht : total_bits < 2^64) (h : mb + 1 ≥ total_bits) (hs : slots * 2 < 2^64) (hv : nvalues ≤ slots)
    (moduli : List Modulus) (degree ntt_len : Nat) (rc : List Int) (decompose : List Nat → R (List Nat))
    (nttP : List Nat → Nat → R (List Nat)) (dest : List Nat) :
    encode_internal_c64_array true true nvalues slots true total_bits moduli degree ntt_len cb rc decompose nttP dest
      = .error .refused := by
  rw [gk_c64_array_unfold]
  have h1 : ¬ nvalues > slots := by omega
  simp only [not_true_eq_false, if_false, h1, ckMul_ok hs, hm, bind, Except.bind, if_pos (gk_satAdd_ge ht h)]

theorem gk_f64_polynomial_refuses {cb : List Nat} {mb total_bits slots nvalues : Nat} (hm : maxAll cb = .ok mb)
    (ht : total_bits < 2^64) (h : mb + 1 ≥ total_bits) (hs : slots * 2 < 2^64) (hv : nvalues ≤ slots * 2)
    (moduli : List Modulus) (degree ntt_len : Nat) (hd : degree * moduli.length < 2^64) (rc : List Int) (decompose : List Nat → R (List Nat))
    (nttP : List Nat → Nat → R (List Nat)) (dest : List Nat) :
    encode_internal_f64_polynomial true true nvalues slots true total_bits moduli degree ntt_len cb rc decompose nttP dest
      = .error .refused := by
  rw [gk_f64_polynomial_unfold]
  have h1 : ¬ nvalues > slots * 2 := by omega
  simp only [not_true_eq_false, if_false, h1, ckMul_ok hs, ckMul_ok hd, hm, bind, Except.bind, if_pos (gk_satAdd_ge ht h)]

/-! ### the rows compute c mod q_j -/

section rows
variable {moduli : List Modulus} {cc i : Nat}

theorem gk_pos_cks (hi : i < cc) {j : Nat} (hj : j < moduli.length) (hsz : cc * moduli.length < 2^64) :
    ckMul j cc = .ok (j * cc) ∧ ckAdd i (j * cc) = .ok (i + j * cc) := by
  have := gk_pos_lt hi hj
  exact ⟨ckMul_ok (by rw [B64_eq]; omega), ckAdd_ok (by rw [B64_eq]; omega)⟩

/-- an element body of row `i` for the coefficient `c`: it stores `c mod q_j` at `i + j·cc` -/
def GkBodyOk (moduli : List Modulus) (cc i : Nat) (c : Int) (body : Nat → List Nat → R (List Nat)) : Prop :=
  ∀ j (hj : j < moduli.length) (d : List Nat), d.length = cc * moduli.length →
    body j d = .ok (d.set (i + j * cc) (c12_res c moduli[j].value))

theorem gkNeg64_ok (hwf : ∀ j (h : j < moduli.length), moduli[j].WF) (hi : i < cc) (hsz : cc * moduli.length < 2^64)
    {c : Int} (hneg : c < 0) (hc : c.natAbs < 2^64) : GkBodyOk moduli cc i c (gkNeg64 moduli cc i (fToU64 (fabs c))) := by
  intro j hj d hd
  obtain ⟨e1, e2⟩ := gk_pos_cks hi hj hsz
  have e3 := gk_setIdx_ok (l := d) (c12_res c moduli[j].value) (by rw [hd]; exact gk_pos_lt hi hj)
  simp only [gkNeg64, e1, e2, gk_idxT_ok hj, gk_reduce64 (hwf j hj) hc, gk_negate_res (hwf j hj) hneg, e3, bind, Except.bind]

theorem gkPos64_ok (hwf : ∀ j (h : j < moduli.length), moduli[j].WF) (hi : i < cc) (hsz : cc * moduli.length < 2^64)
    {c : Int} (hpos : ¬ c < 0) (hc : c.natAbs < 2^64) : GkBodyOk moduli cc i c (gkPos64 moduli cc i (fToU64 (fabs c))) := by
  intro j hj d hd
  obtain ⟨e1, e2⟩ := gk_pos_cks hi hj hsz
  have e3 := gk_setIdx_ok (l := d) (c12_res c moduli[j].value) (by rw [hd]; exact gk_pos_lt hi hj)
  rw [← gk_pos_res hpos] at e3 ⊢
  simp only [gkPos64, e1, e2, gk_idxT_ok hj, gk_reduce64 (hwf j hj) hc, e3, bind, Except.bind]

theorem gkNeg128_ok (hwf : ∀ j (h : j < moduli.length), moduli[j].WF) (hi : i < cc) (hsz : cc * moduli.length < 2^64)
    {c : Int} (hneg : c < 0) (hc : c.natAbs < 2^128) : GkBodyOk moduli cc i c (gkNeg128 moduli cc i (fabs c)) := by
  intro j hj d hd
  obtain ⟨e1, e2⟩ := gk_pos_cks hi hj hsz
  have e3 := gk_setIdx_ok (l := d) (c12_res c moduli[j].value) (by rw [hd]; exact gk_pos_lt hi hj)
  simp only [gkNeg128, e1, e2, gk_idxT_ok hj, gk_reduce128 (hwf j hj) hc, gk_negate_res (hwf j hj) hneg, e3, bind, Except.bind]

theorem gkPos128_ok (hwf : ∀ j (h : j < moduli.length), moduli[j].WF) (hi : i < cc) (hsz : cc * moduli.length < 2^64)
    {c : Int} (hpos : ¬ c < 0) (hc : c.natAbs < 2^128) : GkBodyOk moduli cc i c (gkPos128 moduli cc i (fabs c)) := by
  intro j hj d hd
  obtain ⟨e1, e2⟩ := gk_pos_cks hi hj hsz
  have e3 := gk_setIdx_ok (l := d) (c12_res c moduli[j].value) (by rw [hd]; exact gk_pos_lt hi hj)
  rw [← gk_pos_res hpos] at e3 ⊢
  simp only [gkPos128, e1, e2, gk_idxT_ok hj, gk_reduce128 (hwf j hj) hc, e3, bind, Except.bind]

/-- the property of one finished row -/
def GkRowDone (moduli : List Modulus) (cc i : Nat) (c : Int) (d d' : List Nat) : Prop :=
  d'.length = cc * moduli.length ∧ (∀ j (hj : j < moduli.length), d'[i + j * cc]? = some (c12_res c moduli[j].value)) ∧
    (∀ p, p % cc ≠ i → d'[p]? = d[p]?)

/-- a sign-dispatching row: read `c = rc[i]`, run the loop over the moduli with the element body of the sign -/
theorem gk_signRow_spec {moduli : List Modulus} {cc i : Nat} {c : Int} (row : List Nat → R (List Nat)) (neg pos : Nat → List Nat → R (List Nat))
    (hrow : ∀ d, row d = if c < 0 then forRange 0 moduli.length d neg else forRange 0 moduli.length d pos)
    (hneg : c < 0 → GkBodyOk moduli cc i c neg) (hpos : ¬ c < 0 → GkBodyOk moduli cc i c pos)
    (hi : i < cc) (d : List Nat) (hd : d.length = cc * moduli.length) :
    ∃ d', row d = .ok d' ∧ GkRowDone moduli cc i c d d' := by
  have hf : ∀ j (hj : j < moduli.length), c12_res c (moduli.getD j default).value = c12_res c moduli[j].value := by
    intro j hj; rw [list_getD_eq_getElem moduli default hj]
  have key : ∀ body, GkBodyOk moduli cc i c body → ∃ d', forRange 0 moduli.length d body = .ok d' ∧ GkRowDone moduli cc i c d d' := by
    intro body hb
    obtain ⟨d', e, hl, h1, h2⟩ := gk_row_spec (cc := cc) (k := moduli.length) (i := i)
      (fun j => c12_res c (moduli.getD j default).value) body d
      (by intro j d1 hj hd1; rw [hf j hj]; exact hb j hj d1 hd1) hi hd
    exact ⟨d', e, hl, fun j hj => by rw [h1 j hj, hf j hj], h2⟩
  rw [hrow]
  by_cases hc : c < 0
  · rw [if_pos hc]; exact key neg (hneg hc)
  · rw [if_neg hc]; exact key pos (hpos hc)

theorem gkRow64_spec (hwf : ∀ j (h : j < moduli.length), moduli[j].WF) (hi : i < cc) (hsz : cc * moduli.length < 2^64)
    {rc : List Int} (hir : i < rc.length) (hc : rc[i].natAbs < 2^64) (d : List Nat) (hd : d.length = cc * moduli.length) :
    ∃ d', gkRow64 moduli cc rc i d = .ok d' ∧ GkRowDone moduli cc i rc[i] d d' :=
  gk_signRow_spec (gkRow64 moduli cc rc i) (gkNeg64 moduli cc i (fToU64 (fabs rc[i]))) (gkPos64 moduli cc i (fToU64 (fabs rc[i])))
    (fun d => by by_cases h : rc[i] < 0 <;> simp [gkRow64, gk_idxI_ok hir, bind, Except.bind, h])
    (fun hn => gkNeg64_ok hwf hi hsz hn hc) (fun hp => gkPos64_ok hwf hi hsz hp hc) hi d hd

theorem gkRow128_spec (hwf : ∀ j (h : j < moduli.length), moduli[j].WF) (hi : i < cc) (hsz : cc * moduli.length < 2^64)
    {rc : List Int} (hir : i < rc.length) (hc : rc[i].natAbs < 2^128) (d : List Nat) (hd : d.length = cc * moduli.length) :
    ∃ d', gkRow128 moduli cc rc i d = .ok d' ∧ GkRowDone moduli cc i rc[i] d d' :=
  gk_signRow_spec (gkRow128 moduli cc rc i) (gkNeg128 moduli cc i (fabs rc[i])) (gkPos128 moduli cc i (fabs rc[i]))
    (fun d => by by_cases h : rc[i] < 0 <;> simp [gkRow128, gk_idxI_ok hir, bind, Except.bind, h])
    (fun hn => gkNeg128_ok hwf hi hsz hn hc) (fun hp => gkPos128_ok hwf hi hsz hp hc) hi d hd


end rows

/-! ### the stage (≤ 64-bit and ≤ 128-bit paths) -/

/-- all rows: a loop whose body finishes row `i` for `c = rc[i]` leaves `c_i mod q_j` at `i + j·cc` for every `i < n` -/
theorem gk_rowsDone {moduli : List Modulus} {cc n : Nat} {rc : List Int} (row : Nat → List Nat → R (List Nat)) (hn : n ≤ cc) (hrc : n ≤ rc.length)
    (hrow : ∀ i (hi : i < rc.length) (d1 : List Nat), i < n → d1.length = cc * moduli.length →
      ∃ d2, row i d1 = .ok d2 ∧ GkRowDone moduli cc i rc[i] d1 d2)
    (d : List Nat) (hd : d.length = cc * moduli.length) :
    ∃ d', forRange 0 n d row = .ok d' ∧ d'.length = cc * moduli.length ∧
      (∀ i j (hi : i < rc.length) (hj : j < moduli.length), i < n → d'[i + j * cc]? = some (c12_res rc[i] moduli[j].value)) ∧
      (∀ p, n ≤ p % cc → d'[p]? = d[p]?) := by
  have conv : ∀ i j (hi : i < rc.length) (hj : j < moduli.length),
      c12_res (rc.getD i 0) (moduli.getD j default).value = c12_res rc[i] moduli[j].value := by
    intro i j hi hj; rw [list_getD_eq_getElem moduli default hj]; simp [List.getD, List.getElem?_eq_getElem hi]
  obtain ⟨d', e, hl, h1, h2⟩ := gk_rows_spec (cc := cc) (k := moduli.length) (n := n)
    (fun i j => c12_res (rc.getD i 0) (moduli.getD j default).value) row d
    (by
      intro i d1 hi hd1
      have hir : i < rc.length := by omega
      obtain ⟨d2, e2, hl2, r1, r2⟩ := hrow i hir d1 hi hd1
      exact ⟨d2, e2, hl2, fun j hj => by rw [r1 j hj, conv i j hir hj], r2⟩) hn hd
  exact ⟨d', e, hl, fun i j hi hj hin => by rw [h1 i j hin hj, conv i j hi hj], h2⟩

/-- the three-way selection, for bit counts up to 128: every coefficient that fits the selected path ends up as c_i mod q_j at i + j·N -/
theorem gkStage_small_spec {moduli : List Modulus} (hwf : ∀ j (h : j < moduli.length), moduli[j].WF) {cc n bits : Nat} (hn : n ≤ cc)
    (hsz : cc * moduli.length < 2^64) {rc : List Int} (hrc : n ≤ rc.length) (hb : bits ≤ 128)
    (h64 : bits ≤ 64 → ∀ i (h : i < rc.length), i < n → rc[i].natAbs < 2^64)
    (h128 : ∀ i (h : i < rc.length), i < n → rc[i].natAbs < 2^128)
    (decompose : List Nat → R (List Nat)) (d : List Nat) (hd : d.length = cc * moduli.length) :
    ∃ d', gkStage bits n moduli cc rc decompose d = .ok d' ∧ d'.length = cc * moduli.length ∧
      (∀ i j (hi : i < rc.length) (hj : j < moduli.length), i < n → d'[i + j * cc]? = some (c12_res rc[i] moduli[j].value)) ∧
      (∀ p, n ≤ p % cc → d'[p]? = d[p]?) := by
  unfold gkStage
  by_cases hs : bits ≤ 64
  · rw [if_pos hs]
    exact gk_rowsDone (gkRow64 moduli cc rc) hn hrc
      (fun i hir d1 hi hd1 => gkRow64_spec hwf (by omega : i < cc) hsz hir (h64 hs i hir hi) d1 hd1) d hd
  · rw [if_neg hs, if_pos hb]
    exact gk_rowsDone (gkRow128 moduli cc rc) hn hrc
      (fun i hir d1 hi hd1 => gkRow128_spec hwf (by omega : i < cc) hsz hir (h128 i hir hi) d1 hd1) d hd

theorem gk_satAdd_small {mb : Nat} (h : mb + 1 ≤ 128) : satAdd mb 1 = mb + 1 := by
  unfold satAdd; rw [if_pos (by rw [B64_eq]; omega)]

theorem gk_resizeL_length (l : List Nat) (n : Nat) : (resizeL l n).length = n := by
  unfold resizeL; simp; omega

theorem gk_mag_lt {c : Int} {b mb e : Nat} (hc : c.natAbs ≤ 2^b) (hb : b ≤ mb) (he : mb + 1 ≤ e) : c.natAbs < 2^e := by
  have h1 : 2^b ≤ 2^mb := Nat.pow_le_pow_right (by norm_num) hb
  have h2 : 2^mb < 2^e := Nat.pow_lt_pow_right (by norm_num) (by omega)
  omega

theorem gk_base_q {b : RNSBase} {j : Nat} (hj : j < b.base.toList.length) : b.base.toList[j] = b.q j := by
  have hj' : j < b.base.size := by simpa using hj
  simp [RNSBase.q, Array.getD, hj']

theorem gk_fillL_length (l : List Nat) (v : Nat) : (fillL l v).length = l.length := by unfold fillL; simp

/-- the integer stage on ANY start buffer `d0` and count `n`: what the two entry points share -/
theorem gk_stage_coeffToRns {b : RNSBase} (hb : b.WF) {cc n mb : Nat} (hn : n ≤ cc) (hsz : cc * b.base.toList.length < 2^64)
    {cb : List Nat} {rc : List Int} (hcb : cb.length = rc.length) (hrc : n ≤ rc.length)
    (hmag : ∀ i (h1 : i < cb.length) (h2 : i < rc.length), rc[i].natAbs ≤ 2^cb[i])
    (hm : maxAll cb = .ok mb) (hsmall : mb + 1 ≤ 128)
    (decompose : List Nat → R (List Nat)) (d0 : List Nat) (hd0 : d0.length = cc * b.base.toList.length) :
    ∃ d', gkStage (mb + 1) n b.base.toList cc rc decompose d0 = .ok d' ∧ d'.length = cc * b.size ∧
      (∀ i (hi : i < rc.length), i < n → ∃ rs, coeffToRns b (mb + 1) rc[i] = .ok rs ∧ rs.size = b.size ∧
         ∀ j, j < b.size → d'[i + j * cc]? = some (rs.getD j 0) ∧ rs.getD j 0 = c12_res rc[i] (b.q j).value) ∧
      (∀ p, n ≤ p % cc → d'[p]? = d0[p]?) := by
  have hk : b.base.toList.length = b.size := by simp [RNSBase.size]
  have hne : cb ≠ [] := by intro h; rw [h] at hm; simp [maxAll] at hm
  obtain ⟨mb', hm', hbound⟩ := gk_maxAll_spec hne
  obtain rfl : mb' = mb := by rw [hm] at hm'; exact (Except.ok.inj hm').symm
  have hwf : ∀ j (h : j < b.base.toList.length), b.base.toList[j].WF := by
    intro j h; rw [gk_base_q h]; exact hb.mwf j (by omega)
  have hlt : ∀ e, mb' + 1 ≤ e → ∀ i (h : i < rc.length), rc[i].natAbs < 2^e := by
    intro e he i h
    exact gk_mag_lt (hmag i (by omega) h) (hbound i (by omega)) he
  obtain ⟨d', e, hl, hcont, hrest⟩ := gkStage_small_spec hwf (n := n) (cc := cc) (bits := mb' + 1) hn hsz
    (rc := rc) hrc hsmall (fun hs i h _ => hlt 64 hs i h) (fun i h _ => hlt 128 hsmall i h) decompose d0 hd0
  refine ⟨d', e, by rw [hl, hk], fun i hi hin => ?_, hrest⟩
  obtain ⟨rs, e1, e2, e3⟩ := coeffToRns_spec hb (bits := mb' + 1) (c := rc[i]) (fun h => hlt 64 h i hi)
    (fun _ h => hlt 128 h i hi) (fun h => absurd hsmall (by omega))
  refine ⟨rs, e1, e2, fun j hj => ⟨?_, e3 j hj⟩⟩
  have hj' : j < b.base.toList.length := by omega
  rw [hcont i j hi hj' hin, e3 j hj, gk_base_q hj']

/-- `encode_internal_c64_array` on a valid CKKS level, accepted scale, `nvalues ≤ slots`, maximal bit count `mb` with `mb + 1 < total_bits`
    and `mb + 1 ≤ 128` (PARTIAL: the > 128-bit path is not covered): the function is `nttP` applied to a buffer `d'` that holds, for EVERY
    coefficient i < 2·slots and every prime j, the residue `coeffToRns` of the model returns for `rc[i]`, at position i + j·N -/
theorem gk_c64_array_integer_stage_partial {b : RNSBase} (hb : b.WF) {cc slots nvalues total_bits mb : Nat}
    (hcc : slots * 2 = cc) (hsz : cc * b.base.toList.length < 2^64) (hv : nvalues ≤ slots)
    {cb : List Nat} {rc : List Int} (hcb : cb.length = cc) (hrc : rc.length = cc)
    (hmag : ∀ i (h1 : i < cb.length) (h2 : i < rc.length), rc[i].natAbs ≤ 2^cb[i])
    (hm : maxAll cb = .ok mb) (hfit : mb + 1 < total_bits) (hsmall : mb + 1 ≤ 128)
    (decompose : List Nat → R (List Nat)) (nttP : List Nat → Nat → R (List Nat)) (dest : List Nat) :
    ∃ d', d'.length = cc * b.size ∧
      (∀ i (hi : i < rc.length), ∃ rs, coeffToRns b (mb + 1) rc[i] = .ok rs ∧ rs.size = b.size ∧
         ∀ j, j < b.size → d'[i + j * cc]? = some (rs.getD j 0) ∧ rs.getD j 0 = c12_res rc[i] (b.q j).value) ∧
      encode_internal_c64_array true true nvalues slots true total_bits b.base.toList cc b.base.toList.length cb rc decompose nttP dest
        = nttP d' cc := by
  have hpos := hb.pos
  have hk : b.base.toList.length = b.size := by simp [RNSBase.size]
  subst hcc
  have hcc64 : slots * 2 < 2^64 := by
    have : slots * 2 ≤ slots * 2 * b.base.toList.length := Nat.le_mul_of_pos_right _ (by omega)
    omega
  obtain ⟨d', e, hl, hcont, _⟩ := gk_stage_coeffToRns hb (Nat.le_refl (slots * 2)) hsz (by omega) (by omega) hmag hm hsmall decompose
    (resizeL dest (slots * 2 * b.base.toList.length)) (gk_resizeL_length _ _)
  refine ⟨d', hl, fun i hi => hcont i hi (by omega), ?_⟩
  rw [gk_c64_array_unfold]
  have h1 : ¬ nvalues > slots := by omega
  have h2 : ¬ mb + 1 ≥ total_bits := by omega
  simp only [not_true_eq_false, if_false, h1, ckMul_ok hcc64, ckMul_ok hsz, hm, bind, Except.bind, gk_satAdd_small hsmall, h2,
    gkStageRaw_eq, e, ne_eq, not_true_eq_false, if_false]
  cases nttP d' (slots * 2) <;> rfl

/-- `encode_internal_f64_polynomial` under the same hypotheses (PARTIAL in the same sense), `nvalues ≤ N` coefficients given: positions of the
    given coefficients hold the model's residues, the rows above `nvalues` are zero (the function clears the buffer first) -/
theorem gk_f64_polynomial_integer_stage_partial {b : RNSBase} (hb : b.WF) {cc slots nvalues total_bits mb : Nat}
    (hcc : slots * 2 = cc) (hsz : cc * b.base.toList.length < 2^64) (hv : nvalues ≤ cc)
    {cb : List Nat} {rc : List Int} (hcb : cb.length = nvalues) (hrc : rc.length = nvalues)
    (hmag : ∀ i (h1 : i < cb.length) (h2 : i < rc.length), rc[i].natAbs ≤ 2^cb[i])
    (hm : maxAll cb = .ok mb) (hfit : mb + 1 < total_bits) (hsmall : mb + 1 ≤ 128)
    (decompose : List Nat → R (List Nat)) (nttP : List Nat → Nat → R (List Nat)) (dest : List Nat) :
    ∃ d', d'.length = cc * b.size ∧
      (∀ i (hi : i < rc.length), ∃ rs, coeffToRns b (mb + 1) rc[i] = .ok rs ∧ rs.size = b.size ∧
         ∀ j, j < b.size → d'[i + j * cc]? = some (rs.getD j 0) ∧ rs.getD j 0 = c12_res rc[i] (b.q j).value) ∧
      (∀ i j, nvalues ≤ i → i < cc → j < b.size → d'[i + j * cc]? = some 0) ∧
      encode_internal_f64_polynomial true true nvalues slots true total_bits b.base.toList cc b.base.toList.length cb rc decompose nttP dest
        = nttP d' cc := by
  have hpos := hb.pos
  have hk : b.base.toList.length = b.size := by simp [RNSBase.size]
  subst hcc
  have hcc64 : slots * 2 < 2^64 := by
    have : slots * 2 ≤ slots * 2 * b.base.toList.length := Nat.le_mul_of_pos_right _ (by omega)
    omega
  obtain ⟨d', e, hl, hcont, hrest⟩ := gk_stage_coeffToRns hb hv hsz (by omega) (by omega) hmag hm hsmall decompose
    (fillL (resizeL dest (slots * 2 * b.base.toList.length)) 0) (by rw [gk_fillL_length, gk_resizeL_length])
  refine ⟨d', hl, fun i hi => hcont i hi (by omega), fun i j hi1 hi2 hj => ?_, ?_⟩
  · have hj' : j < b.base.toList.length := by omega
    rw [hrest _ (by rw [gk_pos_mod hi2]; exact hi1)]
    unfold fillL
    rw [List.getElem?_replicate, if_pos (by rw [gk_resizeL_length]; exact gk_pos_lt hi2 hj')]
  · rw [gk_f64_polynomial_unfold]
    have h1 : ¬ nvalues > slots * 2 := by omega
    have h2 : ¬ mb + 1 ≥ total_bits := by omega
    simp only [not_true_eq_false, if_false, h1, ckMul_ok hcc64, ckMul_ok hsz, hm, bind, Except.bind, gk_satAdd_small hsmall, h2,
      gkStageRaw_eq, e, ne_eq, not_true_eq_false, if_false]
    cases nttP d' (slots * 2) <;> rfl

end HC
