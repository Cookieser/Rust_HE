/-
  The `receive` / `finish` skeletons generated from src/multiparty/participant.rs (Gen/MpFns.lean; the docstring of each generated function
  names the Rust method it comes from) are the operations of the model's reveal object (`Reveal.receive`, `Reveal.finish`,
  `Reveal.receiveAll` of Model/Multiparty.lean): a protocol's `receive` hands the next polynomial of the stream to its reveal object, its
  `finish` sums the slots and adds the sum where the protocol says.  The ties of the round functions (`pkShare`, `rlkRound1` …) to the
  generated `Participant::…` functions are stated in Props/C18.lean (`gen_*`); Proofs/GenMpRlk.lean has the lemmas for the relinearization
  rounds.  Helper prefix `genmp_`.
-/
import Heathcliff.Gen.MpFns
namespace HC
open HC.MP

variable {α : Type}

@[simp] theorem genmp_ok_bind {β γ : Type} (a : β) (f : β → R γ) : ((Except.ok a : R β) >>= f) = f a := rfl

/-- a tape whose next entry is of the kind asked for delivers it -/
theorem genmp_draw_hit (k : DrawKind) (x : α) (rest : Tape α) : draw k ((k, x) :: rest) = .ok (x, rest) := by
  simp [draw]

/-- `PolynomialRevelationProtocol::receive` on a non-empty stream is the model's `Reveal.receive` of its first polynomial -/
theorem genmp_reveal_receive (p : Reveal α) (sender : Nat) (m : α) (rest : List α) :
    GenMp.reveal_receive p sender (m :: rest) = (do let p' ← p.receive sender m; pure (p', rest)) := by
  unfold GenMp.reveal_receive Reveal.receive nextPoly setP
  by_cases h : sender < p.slots.length <;> simp [h, bind, Except.bind, pure, Except.pure]

/-- the `enumerate().all(..)` closure of the completeness assertion in `finish` is the model's `allSentFrom` -/
theorem genmp_allSent (id : Nat) (l : List (Option α)) : ∀ i,
    enumAllFrom (fun i (x : Option α) => x.isSome || i == id) i l = allSentFrom id i l := by
  induction l with
  | nil => intro i; rfl
  | cons x xs ih => intro i; simp [enumAllFrom, allSentFrom, ih]

/-- once all have sent, the `for (i, slot) in slots.enumerate()` loop of `finish` (an empty slot is tolerated only at the own index) is
    the model's `sumSlots` -/
theorem genmp_sumSlots (add : α → α → R α) (id : Nat) (l : List (Option α)) : ∀ i acc, allSentFrom id i l = true →
    enumForFrom (fun i x acc => match x with | some m => add acc m | none => do need (i == id); pure acc) i l acc
      = sumSlots add acc l := by
  induction l with
  | nil => intro i acc _; rfl
  | cons x xs ih =>
    intro i acc h
    simp only [allSentFrom, Bool.and_eq_true, Bool.or_eq_true] at h
    cases x with
    | none =>
      have hi : (i == id) = true := by simpa using h.1
      simp only [enumForFrom, sumSlots, need, hi, genmp_ok_bind, ite_true, pure, Except.pure]
      exact ih (i + 1) acc h.2
    | some m =>
      simp only [enumForFrom, sumSlots]
      cases add acc m with
      | error e => rfl
      | ok a => exact ih (i + 1) a h.2

/-- `PolynomialRevelationProtocol::finish` in the ciphertext-space variant (`parmsIdZero = false`; the plaintext-space addition
    `plainAdd` is then not called, which is why the finish ties below hold for any `pa`) is the model's `Reveal.finish` -/
theorem genmp_reveal_finish (o : Ops α) (plainAdd : α → α → R α) (p : Reveal α) :
    GenMp.reveal_finish o plainAdd false p = p.finish o := by
  unfold GenMp.reveal_finish Reveal.finish Reveal.allSent
  rw [genmp_allSent]
  by_cases h : allSentFrom p.id 0 p.slots = true
  · simp only [h, need, ite_true, genmp_ok_bind, Bool.not_false]
    exact genmp_sumSlots o.add p.id p.slots 0 p.own h
  · simp only [h, need]; rfl

/-- the four protocols' `finish`: the reveal object's `finish`, then the sum goes where the protocol puts it -/
theorem genmp_key_switch_finish (o : Ops α) (pa : α → α → R α) (c0 c1 : α) (p : Reveal α) :
    GenMp.key_switch_finish o c0 c1 pa p = (do let h ← p.finish o; let c ← addToC0 o c0 h; pure (c, c1)) := by
  unfold GenMp.key_switch_finish addToC0; rw [genmp_reveal_finish]

theorem genmp_decrypt_finish (o : Ops α) (pa : α → α → R α) (c0 c1 : α) (p : Reveal α) :
    GenMp.decrypt_finish o c0 c1 pa p = (do let h ← p.finish o; addToC0 o c0 h) := by
  unfold GenMp.decrypt_finish addToC0; rw [genmp_reveal_finish]

theorem genmp_public_key_switch_finish (o : Ops α) (pa : α → α → R α) (c0 c1 : α) (p0 p1 : Reveal α) :
    GenMp.public_key_switch_finish o c0 c1 pa p0 p1
      = (do let h0 ← p0.finish o; let h1 ← p1.finish o; let c ← addToC0 o c0 h0; pure (c, h1)) := by
  unfold GenMp.public_key_switch_finish addToC0; simp only [genmp_reveal_finish]

theorem genmp_public_key_finish (o : Ops α) (pa : α → α → R α) (c0 c1 : α) (p : Reveal α) :
    GenMp.public_key_finish o c0 c1 pa p = (do let h ← p.finish o; pure (h, c1)) := by
  unfold GenMp.public_key_finish; rw [genmp_reveal_finish]

/-! ### receive wrappers and a whole delivery history through the GENERATED `receive` -/

/-- `KeySwitchProtocol`, `DecryptionProtocol`, `PublicKeyGenerationProtocol`: `receive` is that of the one reveal object -/

theorem genmp_key_switch_receive (p : Reveal α) (sender : Nat) (m : α) (rest : List α) :
    GenMp.key_switch_receive p sender (m :: rest) = (do let p' ← p.receive sender m; pure (p', rest)) := by
  unfold GenMp.key_switch_receive; rw [genmp_reveal_receive]; simp

theorem genmp_decrypt_receive (p : Reveal α) (sender : Nat) (m : α) (rest : List α) :
    GenMp.decrypt_receive p sender (m :: rest) = (do let p' ← p.receive sender m; pure (p', rest)) := by
  unfold GenMp.decrypt_receive; rw [genmp_reveal_receive]; simp

theorem genmp_public_key_receive (p : Reveal α) (sender : Nat) (m : α) (rest : List α) :
    GenMp.public_key_receive p sender (m :: rest) = (do let p' ← p.receive sender m; pure (p', rest)) := by
  unfold GenMp.public_key_receive; rw [genmp_reveal_receive]; simp

/-- a delivery history fed message by message to the generated `receive` -/
def genRecvAll (p : Reveal α) : List (Nat × α) → R (Reveal α)
  | [] => .ok p
  | (s, m) :: rest => match GenMp.reveal_receive p s [m] with
    | .ok (p', _) => genRecvAll p' rest
    | .error e => .error e

theorem genmp_recvAll (d : List (Nat × α)) : ∀ p : Reveal α, genRecvAll p d = p.receiveAll d := by
  induction d with
  | nil => intro p; rfl
  | cons x xs ih =>
    intro p; obtain ⟨s, m⟩ := x
    simp only [genRecvAll, Reveal.receiveAll, genmp_reveal_receive]
    cases p.receive s m with
    | error e => rfl
    | ok q => simp [genmp_ok_bind, pure, Except.pure, ih]
