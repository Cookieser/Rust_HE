/- C13: soundness of `validate` — an accepted parameter set is `Accepted` and its level is `level` (`validate_accepts`), what that gives
   (`validate_sound`, `validate_sound_spec`, `Accepted.validParams`), the per-level constants (`constants_common`, `constants_bfv`,
   `constants_ckks`), and that the parameter id has one pre-image (`schemeCode_injective`, `preimage_injective`). -/
import Heathcliff.Proofs.C13Ladder
import Heathcliff.Proofs.C08L
namespace HC.Ctx
open HC

/-! ### id pre-image -/

theorem schemeCode_injective : ∀ a b : Scheme, a.code = b.code → a = b := by
  intro a b h; cases a <;> cases b <;> simp [Gen.SchemeType.code] at h <;> rfl

theorem preimage_injective {p p' : Params} (h : p.preimage = p'.preimage) :
    p.scheme = p'.scheme ∧ p.n = p'.n ∧ p.q = p'.q ∧ p.t = p'.t := by
  simp only [Params.preimage, List.cons.injEq] at h
  obtain ⟨h1, h2, h3⟩ := h
  have h4 := List.append_inj' h3 rfl
  exact ⟨schemeCode_injective _ _ h1, h2, h4.1, List.singleton_inj.1 h4.2⟩

/-! ### an accepted parameter set -/

theorem ctx2_err (p : Params) (sec : SecLevel) : (ctx2 p sec).err = .Success := rfl

/-- an accepted parameter set satisfies every condition, and the level returned is `level` -/
theorem validate_accepts {isPrime : Nat → Bool} {p : Params} {sec : SecLevel} {c : ContextData}
    (h : validate isPrime p sec = .ok c) (hs : c.err = .Success) : Accepted isPrime p sec ∧ c = level isPrime p sec := by
  rcases validate_eval isPrime p sec with ⟨c1, h1, _, hne, _⟩ | ⟨a, _, hv⟩
  · rw [h] at h1
    cases h1
    exact absurd hs hne
  · rcases toolStep_ok (hv ▸ h) with ⟨_, rfl⟩ | ⟨_, rfl⟩
    · cases hs
    · exact ⟨a, rfl⟩

/-! ### soundness -/

theorem validate_sound {isPrime : Nat → Bool} {p : Params} {sec : SecLevel} {c : ContextData}
    (h : validate isPrime p sec = .ok c) (hs : c.err = .Success) :
    (∃ e, 1 ≤ e ∧ e ≤ 17 ∧ p.n = 2^e) ∧
    (1 ≤ p.q.length ∧ p.q.length ≤ 64) ∧
    (∀ q ∈ p.q, 2 ≤ q ∧ q < 2^60) ∧
    p.q.Pairwise Nat.Coprime ∧
    (∀ q ∈ p.q, isPrime q = true ∧ q % (2 * p.n) = 1) ∧
    PlainOk p ∧
    (sec = .None ∨ bitCount (prodL p.q) ≤ Gen.maxBitCount sec p.n) := by
  obtain ⟨a, _⟩ := validate_accepts h hs
  exact ⟨⟨_, a.log_range.1, a.log_range.2, a.pow⟩, a.count, a.range, a.coprime, a.ntt, a.plain, a.secure⟩

/-! ### the constants of an accepted level -/

theorem toNat_fromNat (k v : Nat) : toNat (fromNat k v) = v % B64^k := by rw [toNat_fromNat', pow_mul, B64_eq]

theorem prodL_le_pow (b : Nat) : ∀ (l : List Nat), (∀ q ∈ l, q < 2^b) → prodL l ≤ 2^(b * l.length)
  | [], _ => by simp [prodL]
  | x :: xs, h => by
    have ih := prodL_le_pow b xs (fun q hq => h q (by simp [hq]))
    rw [prodL, List.length_cons, Nat.mul_succ, Nat.pow_add, Nat.mul_comm (2^(b * xs.length))]
    exact Nat.mul_le_mul (Nat.le_of_lt (h x (by simp))) ih

theorem prodL_lt_B64 {l : List Nat} (h : ∀ q ∈ l, q < 2^60) (hl : 1 ≤ l.length) : prodL l + 1 < B64^l.length := by
  have h1 := prodL_le_pow 60 l h
  have h2 : (2:Nat)^(60 * l.length) * 2 ≤ B64^l.length := by
    rw [B64_eq, ← pow_mul]
    calc (2:Nat)^(60 * l.length) * 2 = 2^(60 * l.length + 1) := by rw [pow_succ]
      _ ≤ 2^(64 * l.length) := Nat.pow_le_pow_right (by norm_num) (by omega)
  have h0 : (2:Nat)^1 ≤ 2^(60 * l.length) := Nat.pow_le_pow_right (by norm_num) (by omega)
  omega

theorem constants_bfv {isPrime : Nat → Bool} {p : Params} {sec : SecLevel} {c : ContextData}
    (h : validate isPrime p sec = .ok c) (hs : c.err = .Success) (hsch : p.scheme = .BFV ∨ p.scheme = .BGV) :
    c.coeffDivPlain = p.q.map (fun q => ⟨(prodL p.q / p.t) % q, ((prodL p.q / p.t) % q) * 2^64 / q⟩) ∧
    c.qModT = prodL p.q % p.t ∧
    c.upperHalfIncrement = p.q.map (fun q => prodL p.q % p.t % q) ∧
    c.plainUpperHalfThreshold = (p.t + 1) / 2 ∧
    c.plainUpperHalfIncrement = (if p.q.all (fun q => decide (p.t < q)) then p.q.map (fun q => q - p.t)
                                  else fromNat p.q.length (prodL p.q - p.t)) ∧
    c.upperHalfThreshold = [] ∧
    c.batching = (isPrime p.t && decide (p.t % (2 * p.n) = 1)) ∧
    c.fastLift = p.q.all (fun q => decide (p.t < q)) := by
  obtain ⟨a, rfl⟩ := validate_accepts h hs
  -- the batching flag: `(t − 1) mod 2N = 0` is `t mod 2N = 1`
  have ht : 2 ≤ p.t := (a.plain.bfv hsch).1.1
  have hb : nttOk isPrime (Nat.log2 p.n) p.t = (isPrime p.t && decide (p.t % (2 * p.n) = 1)) := by
    rw [Bool.eq_iff_iff, nttOk_iff (by omega), ← a.pow, Bool.and_eq_true, decide_eq_true_eq]
  unfold level schemeLevel
  rcases hsch with hsch | hsch <;> rw [hsch] <;> exact ⟨rfl, rfl, rfl, rfl, rfl, rfl, hb, rfl⟩

theorem constants_ckks {isPrime : Nat → Bool} {p : Params} {sec : SecLevel} {c : ContextData}
    (h : validate isPrime p sec = .ok c) (hs : c.err = .Success) (hsch : p.scheme = .CKKS) :
    c.coeffDivPlain = [] ∧ c.qModT = 0 ∧ c.upperHalfIncrement = [] ∧
    c.plainUpperHalfThreshold = 2^63 ∧
    c.plainUpperHalfIncrement = p.q.map (fun q => (q - 2^64 % q) % q) ∧
    c.upperHalfThreshold = fromNat p.q.length ((prodL p.q + 1) / 2) ∧
    toNat c.upperHalfThreshold = (prodL p.q + 1) / 2 ∧
    c.batching = true ∧ c.fastLift = false := by
  obtain ⟨a, rfl⟩ := validate_accepts h hs
  have hlt := prodL_lt_B64 (fun q hq => (a.range q hq).2) a.count.1
  unfold level schemeLevel
  rw [hsch]
  refine ⟨rfl, rfl, rfl, rfl, rfl, ?_, ?_, rfl, rfl⟩
  · show fromNat p.q.length (((prodL p.q + 1) % B64^p.q.length) / 2) = _
    rw [Nat.mod_eq_of_lt hlt]
  · show toNat (fromNat p.q.length (((prodL p.q + 1) % B64^p.q.length) / 2)) = _
    rw [Nat.mod_eq_of_lt hlt, toNat_fromNat]
    exact Nat.mod_eq_of_lt (by omega)

theorem constants_common {isPrime : Nat → Bool} {p : Params} {sec : SecLevel} {c : ContextData}
    (h : validate isPrime p sec = .ok c) (hs : c.err = .Success) :
    c.parms = p ∧ c.total = fromNat p.q.length (prodL p.q) ∧ toNat c.total = prodL p.q ∧
    c.totalBits = bitCount (prodL p.q) ∧ c.fft = true ∧ c.ntt = true ∧ c.descending = descendingB p.q ∧
    c.sec = (if bitCount (prodL p.q) > Gen.maxBitCount sec p.n then .None else sec) := by
  obtain ⟨a, rfl⟩ := validate_accepts h hs
  have hlt := prodL_lt_B64 (fun q hq => (a.range q hq).2) a.count.1
  have htn : toNat (fromNat p.q.length (prodL p.q)) = prodL p.q := by
    rw [toNat_fromNat]
    exact Nat.mod_eq_of_lt (by omega)
  unfold level schemeLevel
  cases p.scheme <;> exact ⟨rfl, rfl, htn, rfl, rfl, rfl, rfl, rfl⟩

/-- the accept/reject oracle of the correspondence driver is the decidable form of `Accepted` -/
theorem Accepted.validParams {isPrime : Nat → Bool} {p : Params} {sec : SecLevel} (a : Accepted isPrime p sec) :
    Spec.Ctx.validParams isPrime p sec = true := by
  have he : Nat.log2 p.n < 18 := Nat.lt_succ_of_le a.log_range.2
  have hplain := a.plain
  unfold Spec.Ctx.validParams
  simp only [Bool.and_eq_true, decide_eq_true_eq, Bool.or_eq_true, List.all_eq_true]
  refine ⟨⟨⟨⟨⟨⟨⟨⟨a.scheme, a.count⟩, a.range⟩, a.degree⟩, ⟨_, List.mem_range.2 he, a.pow⟩⟩, a.secure⟩, a.coprime⟩, a.ntt⟩, ?_⟩
  unfold PlainOk at hplain
  cases hs' : p.scheme <;> simp only [hs'] at hplain ⊢
  · simp only [Bool.and_eq_true, decide_eq_true_eq, List.all_eq_true]
    exact ⟨⟨hplain.1, fun q hq' => hplain.2.1 q hq'⟩, hplain.2.2⟩
  · simpa using hplain
  · simp only [Bool.and_eq_true, decide_eq_true_eq, List.all_eq_true]
    exact ⟨⟨hplain.1, fun q hq' => hplain.2.1 q hq'⟩, hplain.2.2⟩

theorem validate_sound_spec {isPrime : Nat → Bool} {p : Params} {sec : SecLevel} {c : ContextData}
    (h : validate isPrime p sec = .ok c) (hs : c.err = .Success) : Spec.Ctx.validParams isPrime p sec = true :=
  (validate_accepts h hs).1.validParams

end HC.Ctx
