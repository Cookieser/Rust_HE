import Heathcliff.Proofs.C05U
import Heathcliff.Proofs.C05D
import Heathcliff.Model.Evaluator
import Heathcliff.Proofs.C07L
import Heathcliff.Proofs.GenEval
import Heathcliff.Proofs.GenRnsDivide
import Heathcliff.Proofs.GenEval2
import Heathcliff.Proofs.GenEval3
namespace HC.C05
/-- the level walk of `mod_switch_to` / `rescale_to` refuses upward targets -/
theorem switch_up_refused {cur tgt : Nat} (h : cur < tgt) : switchSteps cur tgt = .error .refused :=
  HC.switchSteps_up h

/-- the level walk visits exactly the levels cur-1, …, tgt (so it ends on the requested level) and has cur - tgt steps:
    termination is by construction (structural recursion over `List.range`) -/
theorem switch_steps {cur tgt : Nat} (h : tgt ≤ cur) :
    ∃ l, switchSteps cur tgt = .ok l ∧ l.length = cur - tgt ∧ (cur ≠ tgt → l.getLast? = some tgt) :=
  ⟨_, HC.switchSteps_down h, by rw [List.length_map, List.length_range], fun hne => HC.steps_getLast (by omega)⟩


/-- BFV: dividing the phase by q_L with rounding keeps round(t·x/Q): if t·x = Q·m + ν with Q = Q'·q_L and
    x' = (x + δ)/q_L·… precisely x' = x/q_L + ε with 2|ε|·… we state it on integers: x = q_L·x' + ρ, |ρ| ≤ q_L·E
    (E bounds the accumulated rounding of the ciphertext polynomials), then t·x' = Q'·m + ν' with |ν'| ≤ |ν|/q_L + t·E + 1 -/
theorem bfv_switch_noise {t Q' qL : Nat} (hq : 0 < qL) {x x' m ν ρ : Int} {E : Nat}
    (h : t * x = (Q' * qL : Nat) * m + ν) (hx : x = qL * x' + ρ) (hρ : ρ.natAbs ≤ qL * E) :
    ∃ ν' : Int, t * x' = Q' * m + ν' ∧ ν'.natAbs * qL ≤ ν.natAbs + t * qL * E := HC.bfv_switch_noise hq h hx hρ

/-- hence the decrypted message is unchanged as long as the new noise is below the new threshold -/
theorem bfv_switch_message {t Q' qL : Nat} (hq : 0 < qL) (hQ' : 0 < Q') {x x' m ν ρ : Int} {E : Nat}
    (h : t * x = (Q' * qL : Nat) * m + ν) (hx : x = qL * x' + ρ) (hρ : ρ.natAbs ≤ qL * E)
    (hsmall : 2 * (ν.natAbs + t * qL * E) < Q' * qL) :
    Spec.roundDiv (t * x') Q' = m := HC.bfv_switch_message hq hQ' h hx hρ hsmall

/-- BGV: x' = (x + δ)/q_L with δ ≡ −x (mod q_L), δ ≡ 0 (mod t) gives x' ≡ q_L^{-1}·x (mod t); with the new correction
    factor f' = f·q_L^{-1} the decoded message f'^{-1}·x' ≡ f^{-1}·x is unchanged -/
theorem bgv_switch_message {t qL : Nat} {x x' δ f f' m iq : Int}
    (hδt : δ ≡ 0 [ZMOD t]) (hdiv : x + δ = qL * x') (hiq : iq * qL ≡ 1 [ZMOD t])
    (hf' : f' ≡ f * iq [ZMOD t]) (hm : x ≡ f * m [ZMOD t]) :
    x' ≡ f' * m [ZMOD t] := HC.bgv_switch_message hδt hdiv hiq hf' hm

/-- CKKS drop: the residues are a prefix, so the phase is the same integer polynomial modulo the smaller product -/
theorem ckks_drop_phase {Q' qL : Nat} (x : Int) : (x % ((Q' * qL : Nat) : Int)) % (Q' : Int) = x % (Q' : Int) := HC.ckks_drop_phase x

/-- CKKS rescale: |x' − x/q_L| ≤ E when x = q_L·x' + ρ, |ρ| ≤ q_L·E (exact integers) -/
theorem ckks_rescale_error {qL : Nat} (hq : 0 < qL) {x x' ρ : Int} {E : Nat} (hx : x = qL * x' + ρ) (hρ : ρ.natAbs ≤ qL * E) :
    (x' * qL - x).natAbs ≤ qL * E := HC.ckks_rescale_error hq hx hρ



/-! ### modulus switching / rescaling of the model at ciphertext level (rounding division per coefficient, BGV correction, drop), phase consequences, level walk
    (statements, hypothesis bundles and non-vacuity instances: Heathcliff/Proofs/C05U.lean; the three phase-level statements for two polynomials:
    Proofs/C05D.lean, from `c05d_phase_switch`) -/

/-- BFV `mod_switch_to_next`: for a canonical coefficient-form ciphertext at a level with ≥ 2 moduli the model returns a
    ciphertext with the same number of polynomials, coefficient form, same correction factor, `l.size - 1` components of `l.n`
    coefficients, and coefficient j of component i of polynomial k equals ⌊(X + q_L/2)/q_L⌋ mod q_i for the CRT value X of the
    source coefficient (`c05u_RoundDivOf`); a CRT value exists and is unique (`c05u_crt_exists`, `c05u_crt_unique`) -/
theorem modSwitchScaleNext_bfv_spec : type_of% @HC.modSwitchScaleNext_bfv_spec := @HC.modSwitchScaleNext_bfv_spec

/-- CKKS `rescale_to_next`: NTT-form input and output; the output is canonical and its coefficient form (INTT) is the rounding
    division of the CRT value of the input's coefficient form (`c05u_RoundDivOfNtt`) -/
theorem modSwitchScaleNext_ckks_spec : type_of% @HC.modSwitchScaleNext_ckks_spec := @HC.modSwitchScaleNext_ckks_spec

/-- BGV `mod_switch_to_next`: NTT-form input and output, new correction factor cf·q_L^{-1} mod t, the output is canonical and
    its coefficient form is Y mod q_i, Y = (X − [X]_{q_L})/q_L − [−X·q_L^{-1}]_t (`c05u_BgvDivOfNtt`, `c05u_bgvY`) -/
theorem modSwitchScaleNext_bgv_spec : type_of% @HC.modSwitchScaleNext_bgv_spec := @HC.modSwitchScaleNext_bgv_spec

/-- the results of the three divisions are canonical ciphertexts of the next level -/
theorem modSwitchScaleNext_next_canon : type_of% @HC.modSwitchScaleNext_next_canon := @HC.modSwitchScaleNext_next_canon

/-- phase level (size 2, integer polynomials, any secret s): q_L·phase(ct') = phase(ct) + ρ, 2‖ρ‖∞ ≤ q_L·(1 + ‖s‖₁) -/
theorem modSwitchScaleNext_round_phase : type_of% @HC.modSwitchScaleNext_round_phase := @HC.modSwitchScaleNext_round_phase

/-- phase level (size 2): q_L·phase(ct') = phase(ct) + δ with t ∣ δ, ‖δ‖∞ ≤ q_L·t·(1 + ‖s‖₁) -/
theorem modSwitchScaleNext_bgv_phase : type_of% @HC.modSwitchScaleNext_bgv_phase := @HC.modSwitchScaleNext_bgv_phase

/-- message preservation: phase ≡ cf·m (mod t) before ⇒ phase' ≡ cf'·m (mod t) after, cf' the model's new correction factor -/
theorem modSwitchScaleNext_bgv_message : type_of% @HC.modSwitchScaleNext_bgv_message := @HC.modSwitchScaleNext_bgv_message

/-- REFUSALS of `modSwitchScaleNext`: last level; BFV in NTT form; CKKS / BGV in coefficient form -/
theorem modSwitchScaleNext_refusals : type_of% @HC.modSwitchScaleNext_refusals := @HC.modSwitchScaleNext_refusals

/-- `mod_switch_drop_to_next`: succeeds (for CKKS: on NTT form), same number of polynomials, representation and correction
    factor, one component fewer, every remaining residue unchanged, canonical at the next level -/
theorem modSwitchDropNext_spec : type_of% @HC.modSwitchDropNext_spec := @HC.modSwitchDropNext_spec

/-- value: the CRT value of every coefficient after the drop is the old one modulo Q' = Q/q_L, so the phase is unchanged mod Q' -/
theorem modSwitchDropNext_crt : type_of% @HC.modSwitchDropNext_crt := @HC.modSwitchDropNext_crt

/-- REFUSALS of `modSwitchDropNext`: last level; CKKS in coefficient form -/
theorem modSwitchDropNext_refusals : type_of% @HC.modSwitchDropNext_refusals := @HC.modSwitchDropNext_refusals

/-- the level walk along `switchSteps` refuses upward targets, is the identity on the current level, and otherwise is one
    step at the current level followed by the walk from the level below (iterating "next") -/
theorem switchTo_walk : type_of% @HC.switchTo_walk := @HC.switchTo_walk

/-- on a well-formed chain every downward walk succeeds and ends exactly on the target level (canonical there), for the plain
    drop and for the three scheme-specific switches -/
theorem switchTo_ends_on_target : type_of% @HC.switchTo_ends_on_target := @HC.switchTo_ends_on_target

/-! ### translator tie: the decision skeleton of `Evaluator::mod_switch_to_inplace` (src/evaluator.rs) generated into
     Gen/EvalFns.lean equals `switchSteps` (Proofs/GenEval.lean).  The ciphertext / context objects are opaque to the translator; the
     table of `tools/rs2lean.py` spells out the TRUSTED reading of the accessors (levels are identified by their chain index; one
     `mod_switch_to_next_inplace` moves the ciphertext exactly one chain index down or panics).  Tied by the proof: the guard and its
     direction (`cur < tgt` refused), the loop condition, one step per iteration, the visited indices and the final level.
     `cur < 2^64`: a chain index is a `usize` (the fuel of the generated loop). -/
theorem gen_mod_switch_to_inplace_eq (cur tgt : Nat) (hc : cur < 2^64) :
    HC.GenE.mod_switch_to_inplace cur tgt = HC.switchSteps cur tgt := HC.gy_mod_switch_to_inplace_eq cur tgt hc

/-- translator tie: the routine behind BFV `mod_switch_to_next` (division by the dropped prime with rounding), generated from
    src/util/rns.rs, equals the hand model on flat buffers -/
theorem gen_divide_and_round_q_last_inplace_eq : type_of% @HC.gr_divide_and_round_q_last_inplace_eq := @HC.gr_divide_and_round_q_last_inplace_eq
/-- … and the routine behind BGV `mod_switch_to_next` (NTT form; the (i)NTT calls are abstract inputs instantiated with the model's transforms) -/
theorem gen_mod_t_and_divide_q_last_ntt_inplace_eq : type_of% @HC.gr_mod_t_and_divide_q_last_ntt_inplace_eq :=
  @HC.gr_mod_t_and_divide_q_last_ntt_inplace_eq

/-- the routine behind CKKS `rescale_to_next` / NTT-form division with rounding, generated from the source, equals the hand model -/
theorem gen_divide_and_round_q_last_ntt_inplace_eq : type_of% @HC.gr_divide_and_round_q_last_ntt_inplace_eq := @HC.gr_divide_and_round_q_last_ntt_inplace_eq
/-- END TO END (BGV `mod_switch_to_next`): on a well-formed BGV level the function generated from the Rust source returns the flat buffer of a polynomial
    whose first size−1 components are the BGV division by the dropped prime of the input (`c05u_BgvDivOfNtt`), and y·q_L ≡ X (mod t) -/
theorem gen_mod_t_and_divide_q_last_ntt_inplace_bgv : type_of% @HC.gr_mod_t_and_divide_q_last_ntt_inplace_bgv := @HC.gr_mod_t_and_divide_q_last_ntt_inplace_bgv

/-! ### translator tie: decision skeletons of `Evaluator::mod_switch_to_next`, `rescale_to_next`, `rescale_to` and of the refusals of
     `mod_switch_drop_to_next_internal` (src/evaluator.rs; Gen/EvalFns.lean) = the decision functions of Model/Evaluator.lean
     (Proofs/GenEval2.lean).  TRUSTED table reading: levels are chain indices, the last level has index 0, one internal routine moves one
     index down.  Tied by the proofs: validity check first, last level refused, the scheme dispatch (BFV / BGV: dividing routine, CKKS: drop;
     rescale: CKKS only - ALSO when the target is the current level), direction guard, loop condition, one step per iteration, and that the
     scale of a dropped CKKS ciphertext is checked against the level it ARRIVES at. -/
theorem gen_mod_switch_to_next_eq : type_of% @HC.gl_mod_switch_to_next_eq := @HC.gl_mod_switch_to_next_eq
theorem gen_rescale_to_next_eq : type_of% @HC.gl_rescale_to_next_eq := @HC.gl_rescale_to_next_eq
theorem gen_rescale_to_eq : type_of% @HC.gl_rescale_to_eq := @HC.gl_rescale_to_eq
theorem gen_mod_switch_drop_decision_eq : type_of% @HC.gl_mod_switch_drop_decision_eq := @HC.gl_mod_switch_drop_decision_eq
theorem gen_mod_switch_drop_decision_bits : type_of% @HC.gl_mod_switch_drop_decision_bits := @HC.gl_mod_switch_drop_decision_bits
theorem gen_modSwitchDropDecision_model : type_of% @HC.gl_modSwitchDropDecision_model := @HC.gl_modSwitchDropDecision_model
theorem gen_mod_switch_drop_refuses_unfit : type_of% @HC.gl_mod_switch_drop_refuses_unfit := @HC.gl_mod_switch_drop_refuses_unfit
/-- non-vacuity: a CKKS ciphertext on level 2 walks 2 -> 1 -> 0; a BFV "rescale" to the level it is on is refused -/
example : HC.GenE.rescale_to true 2 0 .ckks = .ok [1, 0] := by rw [HC.gl_rescale_to_eq _ _ _ _ (by norm_num)]; rfl
example : HC.GenE.rescale_to true 2 2 .bfv = .error .refused := by rw [HC.gl_rescale_to_eq _ _ _ _ (by norm_num)]; rfl

/-! ### NTT-form plaintexts down the chain (translator tie; `Proofs/GenEval3.lean`) -/

/-- TRANSLATOR TIE: `Evaluator::mod_switch_drop_to_next_plain_internal` (regenerated from src/evaluator.rs on every run) = `plainDropNextWords`:
    a coefficient-form plaintext, the last level and a scale that does not fit the NEXT level are refused, otherwise the buffer has
    degree × (prime count of the next level) words -/
theorem gen_plain_drop_next_eq : type_of% @HC.gq_plain_drop_next_eq := @HC.gq_plain_drop_next_eq
/-- TRANSLATOR TIE: `Evaluator::mod_switch_plain_to_inplace` = `plainSwitchToPlan` (coefficient form and upward targets refused, same
    level = identity, otherwise the walk cur − 1, …, tgt of valid objects) -/
theorem gen_mod_switch_plain_to_eq : type_of% @HC.gq_mod_switch_plain_to_eq := @HC.gq_mod_switch_plain_to_eq
/-- on EVERY chain whose prime counts do not grow downwards (short BFV / BGV chains included: no relation between the chain index and the
    prime count is assumed) a walk of j levels truncates the buffer to the j-th lower level's components -/
theorem plain_walk_data : type_of% @HC.gq_plain_walk_data := @HC.gq_plain_walk_data
/-- END TO END: whenever the plan succeeds, the walk ends exactly on the target after cur − tgt steps and the data is the source truncated
    to the target level's RNS components (= the same polynomial modulo the remaining primes) -/
theorem plain_switch_to_data : type_of% @HC.gq_plain_switch_to_data := @HC.gq_plain_switch_to_data
/-- non-vacuity: a SHORT chain (levels 2, 1, 0 hold 4, 3, 2 primes: chain index ≠ prime count − 1), N = 2; the generated walk from level 2 to
    level 0 visits 1, 0 and leaves the first 2·2 words; an upward request, a coefficient-form plaintext and the last level are refused -/
example : HC.GenE.mod_switch_plain_to_inplace true true 2 0 = .ok [1, 0] := by rw [HC.gq_mod_switch_plain_to_eq _ _ _ _ (by norm_num)]; rfl
example : HC.plainWalkData (fun i => i + 2) 2 [1, 2, 3, 4, 5, 6, 7, 8] [1, 0] = [1, 2, 3, 4] := by decide
example : HC.GenE.mod_switch_plain_to_inplace true true 0 1 = .error .refused := by rw [HC.gq_mod_switch_plain_to_eq _ _ _ _ (by norm_num)]; rfl
example : HC.GenE.mod_switch_plain_to_inplace true false 2 0 = .error .refused := by rw [HC.gq_mod_switch_plain_to_eq _ _ _ _ (by norm_num)]; rfl
example : HC.GenE.mod_switch_drop_to_next_plain_internal true false true 2 3 = .error .refused := by rw [HC.gq_plain_drop_next_eq]; rfl
example : HC.GenE.mod_switch_drop_to_next_plain_internal true true true 2 3 = .ok 6 := by rw [HC.gq_plain_drop_next_eq]; rfl

end HC.C05
