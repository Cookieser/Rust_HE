import Heathcliff.Gen.ValidFns
import Heathcliff.Model.Evaluator
import Heathcliff.Proofs.ValidParts

/-!
  Translator tie for decision logic: `Evaluator::is_scale_within_bounds` (src/evaluator.rs) and
  `Ciphertext::is_metadata_valid_for` / `is_buffer_valid` (src/valcheck.rs), generated into `Heathcliff/Gen/ValidFns.lean`
  (namespace `HC.GenV`; the accessor chains on contexts / ciphertexts / floats are INPUTS of the generated functions, TRANSLATOR.md),
  against `ckksScaleOk` and `ctValid` of `Heathcliff/Model/Evaluator.lean` (`ctValid` through its metadata and shape factors of
  `Proofs/ValidParts.lean`).  Helper names start with `gx_`.
-/
namespace HC
open HC.GenV

/-! ### is_scale_within_bounds -/

/-- the decision of `is_scale_within_bounds` on the two facts it extracts from the float: `scale <= 0.0` and `scale.log2() as isize` -/
def gx_scaleOk (nonPos : Bool) (l2 : Int) (bound : Int) : Bool := !nonPos && decide (l2 < bound)

theorem gx_asI64_small (b : Nat) (hb : b < 2^63) : asI64 b = (b : Int) := by
  unfold asI64; rw [if_pos hb]; rfl

/-- the generated function is `gx_scaleOk` with the scheme's bound: plain-modulus bits (BFV/BGV), total coefficient-modulus bits (CKKS).
    (`as isize` of a bit count: exact below 2^63.) -/
theorem gx_is_scale_within_bounds_eq (s : Scheme) (plainBits totalBits : Nat) (nonPos : Bool) (l2 : Int)
    (hp : plainBits < 2^63) (ht : totalBits < 2^63) :
    GenV.is_scale_within_bounds s plainBits totalBits nonPos l2 =
      gx_scaleOk nonPos l2 (match s with | .bfv | .bgv => (plainBits : Int) | .ckks => (totalBits : Int)) := by
  unfold GenV.is_scale_within_bounds gx_scaleOk
  rw [gx_asI64_small _ hp, gx_asI64_small _ ht]
  cases s <;> cases nonPos <;> simp <;> omega

/-- against the hand model `ckksScaleOk` (which tests `scale < 2^bits` on the float instead of taking a logarithm).  Lean's `Float` is
    opaque to the kernel, so the one float fact the two formulations differ by is an explicit hypothesis:
    `scale < 2^bits  ↔  (scale.log2() as isize) < bits`  (true for positive finite doubles; exercised by the C03 correspondence runs). -/
theorem gx_is_scale_within_bounds_ckks (scale : Float) (plainBits totalBits : Nat) (l2 : Int) (ht : totalBits < 2^63) (hp : plainBits < 2^63)
    (hfl : (scale < Float.ofScientific 1 false 0 * (Float.ofNat 2) ^ (Float.ofNat totalBits)) ↔ l2 < (totalBits : Int)) :
    GenV.is_scale_within_bounds .ckks plainBits totalBits (decide (scale ≤ 0.0)) l2 = ckksScaleOk scale totalBits := by
  rw [gx_is_scale_within_bounds_eq _ _ _ _ _ hp ht]
  unfold gx_scaleOk ckksScaleOk
  simp only [hfl]

/-! ### Ciphertext::is_metadata_valid_for -/

/-- the generated `is_metadata_valid_for`, on a context whose parameters are set and that knows the ciphertext's parms id, at a level that is
    not a pure key level (or with pure key levels allowed), for a ciphertext whose declared shape (`coeff_modulus_size`, `poly_modulus_degree`)
    is the level's: exactly the metadata part of the hand model's `ctValid`. -/
theorem gx_ct_is_metadata_valid_for_eq (l : Level) (ct : Ct) (s1 s0 allow : Bool) (chain first : Nat)
    (hk : allow = true ∨ chain ≤ first) :
    GenV.ct_is_metadata_valid_for allow true false chain first l.size l.n l.size l.n ct.polys.size
        (decide (l.scheme = .bfv)) (decide (l.scheme = .bgv)) (decide (l.scheme = .ckks)) (!s1) s0 ct.cf l.t.value =
      gx_ctMetaValid l ct s1 s0 := by
  unfold GenV.ct_is_metadata_valid_for gx_ctMetaValid
  have hk' : ¬ ((¬ allow = true) ∧ decide (chain > first) = true) := by
    rw [decide_eq_true_eq]; rcases hk with h | h
    · exact fun h' => h'.1 h
    · exact fun h' => Nat.not_lt.mpr h h'.2
  simp only [hk', if_false, ne_eq, not_true_eq_false, Bool.false_eq_true]
  generalize ct.polys.size = n
  have hsz : decide (n = 0 ∨ (2 ≤ n ∧ n ≤ 16)) = (!decide (n < 2 ∧ n ≠ 0) && !decide (n > 16)) := by
    rw [Bool.eq_iff_iff]; simp; omega
  rw [hsz]
  cases hs : l.scheme <;> simp [Bool.and_assoc, ← Nat.not_le]

/-- hence `ctValid` = generated metadata check ∧ shape/data part -/
theorem gx_ctValid_eq_gen (l : Level) (ct : Ct) (s1 s0 allow : Bool) (chain first : Nat) (hk : allow = true ∨ chain ≤ first) :
    ctValid l ct s1 s0 =
      (GenV.ct_is_metadata_valid_for allow true false chain first l.size l.n l.size l.n ct.polys.size
        (decide (l.scheme = .bfv)) (decide (l.scheme = .bgv)) (decide (l.scheme = .ckks)) (!s1) s0 ct.cf l.t.value
       && gx_ctShapeOk l ct) := by
  rw [gx_ctValid_split, gx_ct_is_metadata_valid_for_eq l ct s1 s0 allow chain first hk]

/-- refusals of the generated check that the hand model takes as given (it is only applied to ciphertexts of a known level):
    parameters not set, unknown parms id, pure key level without permission, declared shape different from the level's -/
theorem gx_ct_is_metadata_valid_for_refuses (allow pset missing : Bool) (chain first ls ln cc cn sz : Nat) (b1 b2 b3 sn sz0 : Bool) (cf t : Nat)
    (h : pset = false ∨ missing = true ∨ (allow = false ∧ chain > first) ∨ cc ≠ ls ∨ cn ≠ ln) :
    GenV.ct_is_metadata_valid_for allow pset missing chain first ls ln cc cn sz b1 b2 b3 sn sz0 cf t = false := by
  unfold GenV.ct_is_metadata_valid_for
  rcases h with h | h | ⟨h1, h2⟩ | h | h
  · simp [h]
  · cases pset <;> simp [h]
  · cases pset <;> cases missing <;> simp [h1, h2]
  · cases pset <;> cases missing <;> simp [h]
  · cases pset <;> cases missing <;> simp [h]

/-! ### Ciphertext::is_buffer_valid -/
/-- `data.len() == coeff_modulus_size * size * poly_modulus_degree` with checked products -/
theorem gx_ct_is_buffer_valid_eq (dataLen cc sz n : Nat) (h1 : cc * sz < 2^64) (h : cc * sz * n < 2^64) :
    GenV.ct_is_buffer_valid dataLen cc sz n = .ok (decide (dataLen = cc * sz * n)) := by
  have e1 : ckMul cc sz = .ok (cc * sz) := if_pos (show cc * sz < B64 from h1)
  have e2 : ckMul (cc * sz) n = .ok (cc * sz * n) := if_pos (show cc * sz * n < B64 from h)
  simp only [GenV.ct_is_buffer_valid, e1, e2, bind, Except.bind]; rfl

end HC
