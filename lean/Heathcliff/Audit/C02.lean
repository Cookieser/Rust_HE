/- Audit of property C02: `#print axioms` for every property theorem of Props/C02.lean; `audit()` of tools/runner.py elaborates this file
   and compares each axiom list with the three standard axioms. -/
import Heathcliff.Props.C02
#print axioms HC.C02.mulPairs_spec
#print axioms HC.C02.ct_mul_phase
#print axioms HC.C02.translate_phase
#print axioms HC.C02.negate_phase
#print axioms HC.C02.mul_plain_phase
#print axioms HC.C02.add_plain_phase
#print axioms HC.C02.balance_spec
#print axioms HC.C02.balance_total
#print axioms HC.C02.bgv_add_balanced
#print axioms HC.C02.bgv_mul_factor
#print axioms HC.C02.prog_hom
#print axioms HC.C02.ctNegate_spec
#print axioms HC.C02.ctNegate_phase
#print axioms HC.C02.ctTranslate_spec
#print axioms HC.C02.ctTranslate_phase
#print axioms HC.C02.ctTranslate_refuse_ntt
#print axioms HC.C02.ctTranslate_error_cf
#print axioms HC.C02.ctMultiplyDyadic_refuse
#print axioms HC.C02.ctMultiplyDyadic_spec
#print axioms HC.C02.ctMultiplyDyadic_phase
#print axioms HC.C02.ctMultiplyDyadic_slot
#print axioms HC.C02.ctMultiplyDyadic_coeff
#print axioms HC.C02.ctMultiplyPlainNtt_refuse
#print axioms HC.C02.ctMultiplyPlainNtt_spec
#print axioms HC.C02.ctMultiplyPlainNtt_phase
#print axioms HC.C02.bgvMultiply_spec
#print axioms HC.C02.bgvMultiply_refuse
#print axioms HC.C02.bgvMultiply_canon
#print axioms HC.C02.ctTranslateBalanced_same
#print axioms HC.C02.ctTranslateBalanced_refuse
#print axioms HC.C02.ctTranslateBalanced_spec
#print axioms HC.C02.ctTranslateBalanced_phase
#print axioms HC.C02.ctTranslateBalanced_total
#print axioms HC.C02.bgvDecode_balanced
#print axioms HC.C02.bgvDecode_mul
#print axioms HC.C02.bgvDecode_balanced_poly
#print axioms HC.C02.CtCanon_of_ctValid
#print axioms HC.C02.bfvMultiply_ok
#print axioms HC.C02.bfvMultiply_canon
#print axioms HC.C02.bfvMultiply_refuse_ntt
#print axioms HC.C02.bfvMultiply_refuse_empty
#print axioms HC.C02.bfvLift_spec
#print axioms HC.C02.bfvMultiply_coeff
#print axioms HC.C02.bfvMultiply_coeff_of_new
#print axioms HC.C02.bfvMultiply_phase
#print axioms HC.C02.gen_balance_correction_factors_eq
#print axioms HC.C02.gen_balance_sum_abs_eq
#print axioms HC.C02.gen_balance_loop_eq
#print axioms HC.C02.bfv_noise_split
#print axioms HC.C02.bfvMultiply_noise
#print axioms HC.C02.bfvMultiply_noise_2x2
#print axioms HC.C02.bfvMultiply_decode
#print axioms HC.C02.bfvDecrypt_bfvMultiply
#print axioms HC.C02.c02x_noiseNorm_half
#print axioms HC.C02.bfvMultiply_budget
#print axioms HC.C02.bfvMultiply_decode_of_budget
#print axioms HC.C02.pred_mul_sound_2x2
#print axioms HC.C02.bfvDecrypt_bfvMultiply_of_new
#print axioms HC.C02.pred_mul_sound_general
#print axioms HC.C02.bfvDecrypt_bfvMultiply_of_budget
#print axioms HC.C02.pred_mul_decrypt_2x2_of_new
#print axioms HC.C02.c02x_noiseLe_norm
#print axioms HC.C02.bfvMultiply_budget_split
#print axioms HC.C02.bfvMultiply_decode_of_budget_split
#print axioms HC.C02.pred_mul_sound_small
#print axioms HC.C02.bfvMultiply_noiseLe
#print axioms HC.C02.bfvDecrypt_bfvMultiply_refuses_1x1
#print axioms HC.C02.bfvDecrypt_bfvMultiply_refuses_ntt
#print axioms HC.C02.c02x_threshold_example
#print axioms HC.C02.bfvMultiply_refuse_size
#print axioms HC.C02.ctMultiplyDyadic_refuse_size
#print axioms HC.C02.gen_multiply_sub_plain_eq
#print axioms HC.C02.gen_multiply_sub_plain_spec
#print axioms HC.C02.gen_multiply_add_plain_spec
#print axioms HC.C02.gen_poly_add_eq
#print axioms HC.C02.gen_poly_add_inplace_eq
#print axioms HC.C02.gen_poly_sub_eq
#print axioms HC.C02.gen_poly_negate_eq
#print axioms HC.C02.gen_poly_negate_model
#print axioms HC.C02.gen_poly_add_scalar_eq
#print axioms HC.C02.gen_poly_sub_scalar_eq
#print axioms HC.C02.gen_poly_multiply_scalar_eq
#print axioms HC.C02.gen_poly_multiply_scalar_model
#print axioms HC.C02.gen_poly_multiply_operand_eq
#print axioms HC.C02.gen_poly_dyadic_product_eq
#print axioms HC.C02.gen_poly_dyadic_product_inplace_eq
#print axioms HC.C02.gen_poly_multiply_scalar_p_blocks
#print axioms HC.C02.gen_poly_add_spec
#print axioms HC.C02.gen_poly_add_inplace_spec
#print axioms HC.C02.gen_poly_sub_spec
#print axioms HC.C02.gen_poly_negate_inplace_spec
#print axioms HC.C02.gen_poly_multiply_scalar_spec
#print axioms HC.C02.gen_poly_dyadic_product_spec
#print axioms HC.C02.gen_poly_add_inplace_p_model
#print axioms HC.C02.gen_poly_sub_inplace_p_model
#print axioms HC.C02.gen_poly_negate_inplace_p_model
#print axioms HC.C02.gen_poly_dyadic_product_inplace_p_model
#print axioms HC.C02.gen_poly_multiply_scalar_inplace_p_model
#print axioms HC.C02.gen_poly_add_inplace_ps_model
#print axioms HC.C02.gen_poly_sub_inplace_ps_model
#print axioms HC.C02.gen_poly_negate_inplace_ps_model
#print axioms HC.C02.gen_poly_multiply_scalar_inplace_ps_model
#print axioms HC.C02.flattenRns_blocks
#print axioms HC.C02.gen_ct_negate_inplace_eq
#print axioms HC.C02.gen_ct_negate_inplace_refuses
#print axioms HC.C02.gen_ct_translate_inplace_same_size
#print axioms HC.C02.gen_ct_translate_inplace_balance_partial
#print axioms HC.C02.gen_ct_translate_inplace_sub_tail_partial
#print axioms HC.C02.gen_ct_translate_inplace_eq_general
#print axioms HC.C02.gen_ct_translate_inplace_balanced
#print axioms HC.C02.gen_ct_translate_inplace_top_eq
#print axioms HC.C02.gen_ct_translate_inplace_refuses_size
#print axioms HC.C02.hom_program_bgv
#print axioms HC.C02.hom_program_bgv_noiseUB
#print axioms HC.C02.ctNegate_exact_phase
#print axioms HC.C02.ctTranslateBalanced_exact_phase
#print axioms HC.C02.bgvMultiply_exact_phase
#print axioms HC.C02.ctMultiplyPlainNtt_exact_phase
#print axioms HC.C02.bgvDecrypt_of_enc
#print axioms HC.C02.enc_of_fresh
#print axioms HC.C02.levelOK_of_built
#print axioms HC.C02.hom_program_bgv_example
#print axioms HC.C02.hom_program_bgv_example_val
#print axioms HC.C02.modSwitchScaleNext_exact_phase
#print axioms HC.C02.modSwitchScaleNext_enc
#print axioms HC.C02.hom_program_bgv_levelled
#print axioms HC.C02.hom_program_bgv_levelled_inv
#print axioms HC.C02.hom_program_bgv_levelled_example
#print axioms HC.C02.hom_program_bgv_levelled_example_val
#print axioms HC.C02.chainOK_example
#print axioms HC.C02.relinearize_exact_phase
#print axioms HC.C02.relinearize_enc
#print axioms HC.C02.hom_program_bfv_partial
#print axioms HC.C02.hom_program_bfv_inv
#print axioms HC.C02.ctNegate_exact_phase_coeff
#print axioms HC.C02.ctTranslate_exact_phase_coeff
#print axioms HC.C02.bfv_noise_linear
#print axioms HC.C02.bfvMultiply_enc
#print axioms HC.C02.bfvDecrypt_of_enc
#print axioms HC.C02.bfv_enc_of_split
#print axioms HC.C02.bfv_levelOK_example
#print axioms HC.C02.hom_program_bfv_example
#print axioms HC.C02.hom_program_bfv_example_val
#print axioms HC.C02.relinKeyEq_example
#print axioms HC.C02.relinOK_example
#print axioms HC.C02.keyLevelOf_example
#print axioms HC.C02.hom_program_bgv_relin_example
#print axioms HC.C02.hom_program_bgv_relin_example_val
#print axioms HC.C02.bgvSquare_eq
#print axioms HC.C02.ckksSquare_eq
#print axioms HC.C02.ckksSquare_spec
#print axioms HC.C02.ckksSquare_phase
#print axioms HC.C02.bgvSquare_spec
#print axioms HC.C02.bgvSquare_phase
#print axioms HC.C02.bgvSquare_cf
#print axioms HC.C02.bgvSquare_refuse
#print axioms HC.C02.bgvSquare_refuse_size
#print axioms HC.C02.ckksSquare_refuse
#print axioms HC.C02.ckksSquare_refuse_size
#print axioms HC.C02.bgvSquare_witness_fast
#print axioms HC.C02.bgvSquare_witness_fallback
#print axioms HC.C02.gen_poly_dyadic_product_p_model
#print axioms HC.C02.gen_ct_bgv_square_dispatch
#print axioms HC.C02.bgvSquare_fallback
#print axioms HC.C02.gen_ct_bgv_square_eq
#print axioms HC.C02.bfvSquare_eq
#print axioms HC.C02.bfvSquare_ok
#print axioms HC.C02.bfvSquare_refuse_ntt
#print axioms HC.C02.bfvSquare_refuse_size
#print axioms HC.C02.gen_ct_bgv_multiply_eq
#print axioms HC.C02.gen_ct_bgv_square_all
