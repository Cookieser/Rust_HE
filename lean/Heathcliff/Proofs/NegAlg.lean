/- The negacyclic product `negMulR` (coefficient c of a·b mod Xⁿ+1, on coefficient functions `Nat → R`): bilinearity, the norm
   bound ‖a⋆b‖∞ ≤ ‖a‖∞‖b‖₁, monomials `c04k_chi n t` = Xᵗ mod Xⁿ+1 with X^t₁·X^t₂ = X^(t₁+t₂) and (Xᵗ)ʰ = X^(th) for odd h, from which
   commutativity, associativity and multiplicativity of σ_g : X ↦ X^g follow.  The ring built on it is in `NegRing.lean`.
   Names: `c05u_negMul_*` bilinearity / congruence / divisibility / the ℤ-norm bound; `c04k_negMul_*` congruence modulo q and vanishing;
   `c04k_chi*` monomials; `c04k_form … c04k_map` the bilinear form and the ring laws on coefficients; `c04k_sigma*` the maps σ_g;
   `negMulR_*` products with a monomial, the right-hand forms without side condition, norm bounds in any ordered ring (the two ℤ-norm bounds
   `c05u_negMul_bound`, `negMulR_norm_le` are their readings with `natAbs`).  The prefixes `c05u_`, `c04k_` name facts, not files: every lemma of the
   negacyclic algebra is in this module. -/
import Heathcliff.Proofs.NTTDefs
import Mathlib.Algebra.BigOperators.ModEq
import Mathlib.Algebra.Order.BigOperators.Group.Finset
import Mathlib.Algebra.Order.Ring.Abs
import Mathlib.Tactic.Ring
import Mathlib.Tactic.Linarith
namespace HC
open Finset

/-! ## bilinearity, divisibility, norm -/
theorem c05u_negMul_add {R : Type} [CommRing R] (n : Nat) (a a' b : Nat → R) (c : Nat) :
    negMulR n (fun i => a i + a' i) b c = negMulR n a b c + negMulR n a' b c := by
  unfold negMulR
  rw [← Finset.sum_add_distrib]
  apply Finset.sum_congr rfl
  intro i _
  split <;> ring

theorem c05u_negMul_smul {R : Type} [CommRing R] (n : Nat) (k : R) (a b : Nat → R) (c : Nat) :
    negMulR n (fun i => k * a i) b c = k * negMulR n a b c := by
  unfold negMulR
  rw [Finset.mul_sum]
  apply Finset.sum_congr rfl
  intro i _
  split <;> ring

theorem c05u_negMul_congr {R : Type} [CommRing R] (n : Nat) (a a' b : Nat → R) (c : Nat) (h : ∀ i, i < n → a i = a' i) :
    negMulR n a b c = negMulR n a' b c := by
  unfold negMulR
  apply Finset.sum_congr rfl
  intro i hi
  rw [h i (mem_range.mp hi)]

theorem c05u_negMul_dvd (n : Nat) (t : Int) (a b : Nat → Int) (c : Nat) (h : ∀ i, i < n → t ∣ a i) :
    t ∣ negMulR n a b c := by
  unfold negMulR
  apply Finset.dvd_sum
  intro i hi
  have := h i (mem_range.mp hi)
  split
  · exact Dvd.dvd.mul_right this _
  · exact (Int.dvd_neg).mpr (Dvd.dvd.mul_right this _)

/-- the index map i ↦ c − i (resp. n + c − i) of the negacyclic product is an involution of [0, n) -/
theorem c05u_refl_lt {n c i : Nat} (hc : c < n) (hi : i < n) : (if i ≤ c then c - i else n + c - i) < n := by
  split <;> omega

theorem c05u_refl_refl {n c i : Nat} (hc : c < n) (hi : i < n) :
    (if (if i ≤ c then c - i else n + c - i) ≤ c then c - (if i ≤ c then c - i else n + c - i)
      else n + c - (if i ≤ c then c - i else n + c - i)) = i := by
  by_cases h : i ≤ c
  · rw [if_pos h, if_pos (by omega)]; omega
  · rw [if_neg h, if_neg (by omega)]; omega

theorem c05u_sum_perm (n c : Nat) (hc : c < n) (f : Nat → Nat) :
    ∑ i ∈ range n, f (if i ≤ c then c - i else n + c - i) = ∑ k ∈ range n, f k :=
  Finset.sum_nbij' (fun i => if i ≤ c then c - i else n + c - i) (fun i => if i ≤ c then c - i else n + c - i)
    (fun _ hi => mem_range.mpr (c05u_refl_lt hc (mem_range.mp hi))) (fun _ hi => mem_range.mpr (c05u_refl_lt hc (mem_range.mp hi)))
    (fun _ hi => c05u_refl_refl hc (mem_range.mp hi)) (fun _ hi => c05u_refl_refl hc (mem_range.mp hi)) (fun _ _ => rfl)

/-- the triangle inequality for the negacyclic product, termwise, in any linearly ordered commutative ring -/
theorem negMulR_abs_le_sum {R : Type} [CommRing R] [LinearOrder R] [IsStrictOrderedRing R] (n : Nat) (a b : Nat → R) (c : Nat) :
    |negMulR n a b c| ≤ ∑ i ∈ range n, |a i| * |b (if i ≤ c then c - i else n + c - i)| := by
  unfold negMulR
  refine (Finset.abs_sum_le_sum_abs _ _).trans (Finset.sum_le_sum fun i _ => ?_)
  split
  · rw [abs_mul]
  · rw [abs_neg, abs_mul]

theorem negMulR_abs_le {R : Type} [CommRing R] [LinearOrder R] [IsStrictOrderedRing R] (n : Nat) (a b : Nat → R) (A B : R)
    (ha : ∀ i, i < n → |a i| ≤ A) (hb : ∀ i, i < n → |b i| ≤ B) {c : Nat} (hc : c < n) :
    |negMulR n a b c| ≤ n * (A * B) := by
  refine (negMulR_abs_le_sum n a b c).trans ?_
  have hA : 0 ≤ A := (abs_nonneg _).trans (ha c hc)
  calc ∑ i ∈ range n, |a i| * |b (if i ≤ c then c - i else n + c - i)| ≤ ∑ _i ∈ range n, A * B :=
        Finset.sum_le_sum fun i hi =>
          mul_le_mul (ha i (mem_range.mp hi)) (hb _ (c05u_refl_lt hc (mem_range.mp hi))) (abs_nonneg _) hA
    _ = n * (A * B) := by rw [Finset.sum_const, Finset.card_range, nsmul_eq_mul]

/-- ‖a ⋆ b‖∞ ≤ ‖a‖∞ · ‖b‖₁ for the negacyclic product -/
theorem c05u_negMul_bound (n : Nat) (a b : Nat → Int) (A c : Nat) (hc : c < n) (ha : ∀ i, i < n → (a i).natAbs ≤ A) :
    (negMulR n a b c).natAbs ≤ A * ∑ k ∈ range n, (b k).natAbs := by
  have h : |negMulR n a b c| ≤ ((A * ∑ i ∈ range n, (b (if i ≤ c then c - i else n + c - i)).natAbs : Nat) : Int) := by
    rw [Finset.mul_sum, Nat.cast_sum]
    refine (negMulR_abs_le_sum n a b c).trans (Finset.sum_le_sum fun i hi => ?_)
    rw [Nat.cast_mul, Int.natCast_natAbs]
    exact mul_le_mul_of_nonneg_right (show |a i| ≤ (A : Int) by rw [← Int.natCast_natAbs]; exact_mod_cast ha i (mem_range.mp hi))
      (abs_nonneg _)
  rw [← Int.natCast_natAbs, c05u_sum_perm n c hc (fun k => (b k).natAbs)] at h
  exact Nat.cast_le.mp h

/-- ‖a⋆b‖∞ ≤ n‖a‖∞‖b‖∞ -/
theorem negMulR_norm_le (n : Nat) (a b : Nat → Int) (A B : Nat)
    (ha : ∀ i, i < n → (a i).natAbs ≤ A) (hb : ∀ i, i < n → (b i).natAbs ≤ B) :
    ∀ c, c < n → (negMulR n a b c).natAbs ≤ n * A * B := fun c hc => by
  zify
  rw [mul_assoc]
  exact negMulR_abs_le n a b A B (fun i hi => show |a i| ≤ (A : Int) by rw [← Int.natCast_natAbs]; exact_mod_cast ha i hi)
    (fun i hi => show |b i| ≤ (B : Int) by rw [← Int.natCast_natAbs]; exact_mod_cast hb i hi) hc

theorem c04k_negMul_modEq (n : Nat) (q : Int) {a a' b b' : Nat → Int} {c : Nat} (hc : c < n)
    (ha : ∀ i, i < n → a i ≡ a' i [ZMOD q]) (hb : ∀ i, i < n → b i ≡ b' i [ZMOD q]) :
    negMulR n a b c ≡ negMulR n a' b' c [ZMOD q] := by
  unfold negMulR
  apply Int.ModEq.sum
  intro i hi
  have hi' := mem_range.mp hi
  split
  · exact (ha i hi').mul (hb _ (by omega))
  · exact ((ha i hi').mul (hb _ (by omega))).neg

theorem c04k_negMul_zero {R : Type} [CommRing R] (n : Nat) (a b : Nat → R) (c : Nat) (h : ∀ i, i < n → a i = 0) :
    negMulR n a b c = 0 := by
  unfold negMulR
  apply Finset.sum_eq_zero
  intro i hi
  rw [h i (mem_range.mp hi)]
  split <;> simp

/-! ## negacyclic algebra in a commutative ring: monomials modulo X^n + 1, bilinear form, commutativity, associativity -/

section negalg
variable {R : Type} [CommRing R]

/-- coefficient of X^c in X^t modulo X^n + 1 (any t) -/
def c04k_chi (n t c : Nat) : R := if t % n = c then (-1) ^ (t / n) else 0

theorem c04k_chi_add {n : Nat} (hn : 0 < n) (v u c : Nat) : (c04k_chi n (v + n * u) c : R) = (-1) ^ u * c04k_chi n v c := by
  unfold c04k_chi
  rw [Nat.add_mul_mod_self_left, Nat.add_mul_div_left _ _ hn]
  split
  · rw [pow_add]; ring
  · rw [mul_zero]

theorem c04k_chi_single {n : Nat} (hn : 0 < n) (t : Nat) (f : Nat → R) :
    ∑ p ∈ range n, f p * c04k_chi n t p = f (t % n) * (-1) ^ (t / n) := by
  rw [Finset.sum_eq_single (t % n)]
  · unfold c04k_chi; rw [if_pos rfl]
  · intro p _ hne
    unfold c04k_chi; rw [if_neg (Ne.symm hne), mul_zero]
  · intro h; exact absurd (mem_range.mpr (Nat.mod_lt _ hn)) h

/-- X^t₁ · X^t₂ = X^(t₁ + t₂), on coefficients -/
theorem c04k_chi_mul {n : Nat} (hn : 0 < n) (t1 t2 c : Nat) :
    ∑ m ∈ range n, (c04k_chi n t1 m : R) * c04k_chi n (m + t2) c = c04k_chi n (t1 + t2) c := by
  have e : t1 + t2 = (t1 % n + t2) + n * (t1 / n) := by rw [Nat.add_right_comm, Nat.mod_add_div]
  rw [Finset.sum_congr rfl (fun m _ => mul_comm _ _), c04k_chi_single hn t1 (fun m => c04k_chi n (m + t2) c), e,
    c04k_chi_add hn, mul_comm]

/-- (X^t)^h = X^(t·h) for odd h, on coefficients -/
theorem c04k_chi_pow {n h : Nat} (hn : 0 < n) (hh : h % 2 = 1) (t c : Nat) :
    ∑ m ∈ range n, (c04k_chi n t m : R) * c04k_chi n (m * h) c = c04k_chi n (t * h) c := by
  have e : t * h = (t % n) * h + n * ((t / n) * h) := by rw [← Nat.mul_assoc, ← Nat.add_mul, Nat.mod_add_div]
  rw [Finset.sum_congr rfl (fun m _ => mul_comm _ _), c04k_chi_single hn t (fun m => c04k_chi n (m * h) c), e,
    c04k_chi_add hn, pow_mul', Odd.neg_one_pow (Nat.odd_iff.mpr hh), mul_comm]

theorem c04k_chi_lt {n t c : Nat} (ht : t < 2 * n) (hc : c < n) :
    (c04k_chi n t c : R) = if t = c then 1 else if t = c + n then -1 else 0 := by
  unfold c04k_chi
  by_cases h : t < n
  · rw [Nat.mod_eq_of_lt h, Nat.div_eq_of_lt h, pow_zero, if_neg (show ¬ t = c + n by omega)]
  · obtain ⟨d, rfl⟩ : ∃ d, t = n + d := ⟨t - n, by omega⟩
    have hd : d < n := by omega
    rw [Nat.add_mod_left, Nat.mod_eq_of_lt hd, Nat.add_div_left _ (by omega), Nat.div_eq_of_lt hd, zero_add, pow_one,
      if_neg (show ¬ n + d = c by omega)]
    by_cases h1 : d = c
    · rw [if_pos h1, if_pos (by omega)]
    · rw [if_neg h1, if_neg (by omega)]

theorem c04k_row (n : Nat) (x : R) (b : Nat → R) {i c : Nat} (hi : i < n) (hc : c < n) :
    ∑ j ∈ range n, c04k_chi n (i + j) c * (x * b j) = if i ≤ c then x * b (c - i) else -(x * b (n + c - i)) := by
  have h0 : ∀ j, (i + j < 2 * n ∧ i + j ≠ c ∧ i + j ≠ c + n) → (c04k_chi n (i + j) c : R) * (x * b j) = 0 := fun j h => by
    rw [c04k_chi_lt h.1 hc, if_neg h.2.1, if_neg h.2.2, zero_mul]
  by_cases hic : i ≤ c
  · rw [if_pos hic, Finset.sum_eq_single (c - i) (fun j hj hne => h0 j (by have := mem_range.mp hj; omega))
      (fun h => absurd (mem_range.mpr (Nat.lt_of_le_of_lt (Nat.sub_le _ _) hc)) h), Nat.add_sub_cancel' hic,
      c04k_chi_lt (Nat.lt_of_lt_of_le hc (Nat.le_mul_of_pos_left n Nat.zero_lt_two)) hc, if_pos rfl, one_mul]
  · have e : i + (n + c - i) = c + n := by omega
    rw [if_neg hic, Finset.sum_eq_single (n + c - i) (fun j hj hne => h0 j (by have := mem_range.mp hj; omega))
      (fun h => absurd (mem_range.mpr (by omega)) h), e, c04k_chi_lt (by omega) hc, if_neg (by omega), if_pos rfl]
    ring

theorem c04k_form (n : Nat) (a b : Nat → R) {c : Nat} (hc : c < n) :
    negMulR n a b c = ∑ i ∈ range n, ∑ j ∈ range n, c04k_chi n (i + j) c * (a i * b j) := by
  unfold negMulR
  apply Finset.sum_congr rfl
  intro i hi
  rw [c04k_row n (a i) b (mem_range.mp hi) hc]

theorem c04k_comm (n : Nat) (a b : Nat → R) {c : Nat} (hc : c < n) : negMulR n a b c = negMulR n b a c := by
  rw [c04k_form n a b hc, c04k_form n b a hc, Finset.sum_comm]
  apply Finset.sum_congr rfl; intro i _
  apply Finset.sum_congr rfl; intro j _
  rw [Nat.add_comm, mul_comm (a j)]

theorem c04k_sum4_swap (t : Finset Nat) (F : Nat → Nat → Nat → Nat → R) :
    ∑ p ∈ t, ∑ q ∈ t, ∑ i ∈ t, ∑ j ∈ t, F p q i j = ∑ i ∈ t, ∑ j ∈ t, ∑ p ∈ t, ∑ q ∈ t, F p q i j :=
  (Finset.sum_congr rfl fun _ _ => Finset.sum_comm).trans (Finset.sum_comm.trans
    ((Finset.sum_congr rfl fun _ _ => Finset.sum_congr rfl fun _ _ => Finset.sum_comm).trans
      (Finset.sum_congr rfl fun _ _ => Finset.sum_comm)))

theorem c04k_triple (n : Nat) (a b s : Nat → R) {c : Nat} (hc : c < n) :
    negMulR n (negMulR n a b) s c =
      ∑ i ∈ range n, ∑ j ∈ range n, ∑ l ∈ range n, c04k_chi n (i + j + l) c * (a i * b j * s l) := by
  have hn : 0 < n := by omega
  rw [c04k_form n _ s hc]
  calc ∑ m ∈ range n, ∑ l ∈ range n, c04k_chi n (m + l) c * (negMulR n a b m * s l)
      = ∑ m ∈ range n, ∑ l ∈ range n, ∑ i ∈ range n, ∑ j ∈ range n,
          c04k_chi n (i + j) m * c04k_chi n (m + l) c * (a i * b j * s l) := by
        apply Finset.sum_congr rfl; intro m hm
        apply Finset.sum_congr rfl; intro l _
        rw [c04k_form n a b (mem_range.mp hm), Finset.sum_mul, Finset.mul_sum]
        apply Finset.sum_congr rfl; intro i _
        rw [Finset.sum_mul, Finset.mul_sum]
        apply Finset.sum_congr rfl; intro j _
        ring
    _ = ∑ i ∈ range n, ∑ j ∈ range n, ∑ l ∈ range n, ∑ m ∈ range n,
          c04k_chi n (i + j) m * c04k_chi n (m + l) c * (a i * b j * s l) :=
        (c04k_sum4_swap _ _).trans (Finset.sum_congr rfl fun _ _ => Finset.sum_congr rfl fun _ _ => Finset.sum_comm)
    _ = _ := by
        apply Finset.sum_congr rfl; intro i _
        apply Finset.sum_congr rfl; intro j _
        apply Finset.sum_congr rfl; intro l _
        rw [← Finset.sum_mul, c04k_chi_mul hn]

theorem c04k_congr_right (n : Nat) (a b b' : Nat → R) {c : Nat} (hc : c < n) (h : ∀ i, i < n → b i = b' i) :
    negMulR n a b c = negMulR n a b' c := by
  rw [c04k_comm n a b hc, c04k_comm n a b' hc]
  exact c05u_negMul_congr n b b' a c h

theorem c04k_assoc (n : Nat) (a b s : Nat → R) {c : Nat} (hc : c < n) :
    negMulR n (negMulR n a b) s c = negMulR n a (negMulR n b s) c := by
  have h2 : negMulR n a (negMulR n b s) c = negMulR n (negMulR n b s) a c := c04k_comm n _ _ hc
  rw [h2, c04k_triple n a b s hc, c04k_triple n b s a hc]
  -- i j l  vs  j l i
  calc ∑ i ∈ range n, ∑ j ∈ range n, ∑ l ∈ range n, c04k_chi n (i + j + l) c * (a i * b j * s l)
      = ∑ j ∈ range n, ∑ i ∈ range n, ∑ l ∈ range n, c04k_chi n (i + j + l) c * (a i * b j * s l) := Finset.sum_comm
    _ = ∑ j ∈ range n, ∑ l ∈ range n, ∑ i ∈ range n, c04k_chi n (i + j + l) c * (a i * b j * s l) :=
        Finset.sum_congr rfl (fun _ _ => Finset.sum_comm)
    _ = _ := by
        apply Finset.sum_congr rfl; intro j _
        apply Finset.sum_congr rfl; intro l _
        apply Finset.sum_congr rfl; intro i _
        rw [show j + l + i = i + j + l by omega]; ring

theorem c04k_sub_left (n : Nat) (a a' b : Nat → R) (c : Nat) :
    negMulR n (fun i => a i - a' i) b c = negMulR n a b c - negMulR n a' b c := by
  have := c05u_negMul_add n (fun i => a i - a' i) a' b c
  simp only [sub_add_cancel] at this
  rw [this]; ring

theorem c04k_sum_left (n m : Nat) (a : Nat → Nat → R) (b : Nat → R) (c : Nat) :
    negMulR n (fun p => ∑ i ∈ range m, a i p) b c = ∑ i ∈ range m, negMulR n (a i) b c := by
  induction m with
  | zero =>
    simp only [Finset.range_zero, Finset.sum_empty]
    unfold negMulR
    apply Finset.sum_eq_zero; intro i _; split <;> ring
  | succ m ih =>
    simp only [Finset.sum_range_succ]
    rw [c05u_negMul_add n (fun p => ∑ i ∈ range m, a i p) (a m) b c, ih]

theorem c04k_map {S : Type} [CommRing S] (f : R →+* S) (n : Nat) (a b : Nat → R) (c : Nat) :
    f (negMulR n a b c) = negMulR n (fun i => f (a i)) (fun i => f (b i)) c := by
  unfold negMulR
  rw [map_sum]
  apply Finset.sum_congr rfl
  intro i _
  split
  · rw [f.map_mul]
  · rw [f.map_neg, f.map_mul]

end negalg

/-! ## the automorphism σ_g : X ↦ X^g of R[X]/(X^n+1) on coefficient functions; it is multiplicative -/

section sigma
variable {R : Type} [CommRing R]

/-- σ_g(a) = a(X^g) modulo X^n + 1 -/
def c04k_sigma (n g : Nat) (a : Nat → R) (c : Nat) : R := ∑ i ∈ range n, c04k_chi n (i * g) c * a i

theorem c04k_sigma_add (n g : Nat) (a b : Nat → R) (c : Nat) :
    c04k_sigma n g (fun i => a i + b i) c = c04k_sigma n g a c + c04k_sigma n g b c := by
  unfold c04k_sigma
  rw [← Finset.sum_add_distrib]
  apply Finset.sum_congr rfl; intro i _; ring

theorem c04k_sigma_congr (n g : Nat) (a b : Nat → R) (c : Nat) (h : ∀ i, i < n → a i = b i) :
    c04k_sigma n g a c = c04k_sigma n g b c := by
  unfold c04k_sigma
  apply Finset.sum_congr rfl; intro i hi; rw [h i (mem_range.mp hi)]

theorem c04k_chi_mul₂ {n : Nat} (hn : 0 < n) (t1 t2 c : Nat) :
    ∑ p ∈ range n, ∑ q ∈ range n, (c04k_chi n (p + q) c : R) * (c04k_chi n t1 p * c04k_chi n t2 q) = c04k_chi n (t1 + t2) c := by
  have h1 : ∀ p ∈ range n, ∑ q ∈ range n, (c04k_chi n (p + q) c : R) * (c04k_chi n t1 p * c04k_chi n t2 q)
      = c04k_chi n t1 p * c04k_chi n (p + t2) c := by
    intro p _
    rw [Nat.add_comm p t2, ← c04k_chi_mul hn t2 p c, Finset.mul_sum]
    apply Finset.sum_congr rfl; intro q _
    rw [Nat.add_comm q p]; ring
  rw [Finset.sum_congr rfl h1, c04k_chi_mul hn]

theorem c04k_sigma_mul {n g : Nat} (hg : g % 2 = 1) (a b : Nat → R) {c : Nat} (hc : c < n) :
    c04k_sigma n g (negMulR n a b) c = negMulR n (c04k_sigma n g a) (c04k_sigma n g b) c := by
  have hn : 0 < n := by omega
  have hL : c04k_sigma n g (negMulR n a b) c = ∑ i ∈ range n, ∑ j ∈ range n, c04k_chi n ((i + j) * g) c * (a i * b j) := by
    unfold c04k_sigma
    calc ∑ m ∈ range n, c04k_chi n (m * g) c * negMulR n a b m
        = ∑ m ∈ range n, ∑ i ∈ range n, ∑ j ∈ range n,
            c04k_chi n (i + j) m * c04k_chi n (m * g) c * (a i * b j) := by
          apply Finset.sum_congr rfl; intro m hm
          rw [c04k_form n a b (mem_range.mp hm), Finset.mul_sum]
          apply Finset.sum_congr rfl; intro i _
          rw [Finset.mul_sum]
          apply Finset.sum_congr rfl; intro j _
          ring
      _ = ∑ i ∈ range n, ∑ j ∈ range n, ∑ m ∈ range n,
            c04k_chi n (i + j) m * c04k_chi n (m * g) c * (a i * b j) :=
          Finset.sum_comm.trans (Finset.sum_congr rfl fun _ _ => Finset.sum_comm)
      _ = _ := by
          apply Finset.sum_congr rfl; intro i _
          apply Finset.sum_congr rfl; intro j _
          rw [← Finset.sum_mul, c04k_chi_pow hn hg]
  rw [hL, c04k_form n _ _ hc]
  unfold c04k_sigma
  symm
  calc ∑ p ∈ range n, ∑ q ∈ range n, c04k_chi n (p + q) c *
          ((∑ i ∈ range n, c04k_chi n (i * g) p * a i) * (∑ j ∈ range n, c04k_chi n (j * g) q * b j))
      = ∑ p ∈ range n, ∑ q ∈ range n, ∑ i ∈ range n, ∑ j ∈ range n,
          c04k_chi n (p + q) c * (c04k_chi n (i * g) p * c04k_chi n (j * g) q) * (a i * b j) := by
        apply Finset.sum_congr rfl; intro p _
        apply Finset.sum_congr rfl; intro q _
        rw [Finset.sum_mul, Finset.mul_sum]
        apply Finset.sum_congr rfl; intro i _
        rw [Finset.mul_sum, Finset.mul_sum]
        apply Finset.sum_congr rfl; intro j _
        ring
    _ = ∑ i ∈ range n, ∑ j ∈ range n, ∑ p ∈ range n, ∑ q ∈ range n,
          c04k_chi n (p + q) c * (c04k_chi n (i * g) p * c04k_chi n (j * g) q) * (a i * b j) := c04k_sum4_swap _ _
    _ = _ := by
        apply Finset.sum_congr rfl; intro i _
        apply Finset.sum_congr rfl; intro j _
        rw [Nat.add_mul, ← c04k_chi_mul₂ hn, Finset.sum_mul]
        apply Finset.sum_congr rfl; intro p _
        rw [Finset.sum_mul]

theorem c04k_sigma_map {S : Type} [CommRing S] (f : R →+* S) (n g : Nat) (a : Nat → R) (c : Nat) :
    f (c04k_sigma n g a c) = c04k_sigma n g (fun i => f (a i)) c := by
  have hchi : ∀ t, f (c04k_chi n t c) = c04k_chi n t c := fun t => by
    unfold c04k_chi
    split
    · rw [f.map_pow, f.map_neg, f.map_one]
    · rw [f.map_zero]
  unfold c04k_sigma
  rw [map_sum]
  exact Finset.sum_congr rfl fun i _ => by rw [f.map_mul, hchi]

end sigma

/-! ## products with a monomial; the right-hand forms without side condition -/

section mono
variable {R : Type} [CommRing R]

/-- Xᵗ ⋆ a, coefficientwise: a shift by t mod n, the sign (-1)^(t/n), wrapped coefficients negated -/
theorem negMulR_chi_left {n : Nat} (hn : 0 < n) (t : Nat) (a : Nat → R) (c : Nat) :
    negMulR n (c04k_chi n t) a c =
      if t % n ≤ c then (-1) ^ (t / n) * a (c - t % n) else -((-1) ^ (t / n) * a (n + c - t % n)) := by
  unfold negMulR
  rw [Finset.sum_eq_single (t % n)]
  · unfold c04k_chi; rw [if_pos rfl]
  · intro i _ hne
    unfold c04k_chi; rw [if_neg (Ne.symm hne)]; split <;> simp
  · intro h; exact absurd (mem_range.mpr (Nat.mod_lt _ hn)) h

theorem negMulR_smul_right (n : Nat) (k : R) (a b : Nat → R) (c : Nat) :
    negMulR n a (fun i => k * b i) c = k * negMulR n a b c := by
  unfold negMulR
  rw [Finset.mul_sum]
  exact Finset.sum_congr rfl fun i _ => by split <;> ring

theorem negMulR_add_right (n : Nat) (a b b' : Nat → R) (c : Nat) :
    negMulR n a (fun i => b i + b' i) c = negMulR n a b c + negMulR n a b' c := by
  unfold negMulR
  rw [← Finset.sum_add_distrib]
  exact Finset.sum_congr rfl fun i _ => by split <;> ring

/-- the difference of two products: a⋆b − a'⋆b' = (a − a')⋆b + a'⋆(b − b') -/
theorem negMulR_sub_sub (n : Nat) (a a' b b' : Nat → R) (c : Nat) :
    negMulR n a b c - negMulR n a' b' c = negMulR n (fun i => a i - a' i) b c + negMulR n a' (fun i => b i - b' i) c := by
  unfold negMulR
  rw [← Finset.sum_sub_distrib, ← Finset.sum_add_distrib]
  exact Finset.sum_congr rfl fun i _ => by split <;> ring

end mono

end HC
