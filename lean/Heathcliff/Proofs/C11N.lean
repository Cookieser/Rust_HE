/- C11: batch encoding — the index map is a permutation, decode ∘ encode = id, slots are evaluations at psi^(±3^i),
   hence sums / products of encodings decode slot-wise, and the slot exponents under 3^s / 2N−1 (the matrix rotation is in C04R). -/
import Heathcliff.Model.Galois
import Heathcliff.Proofs.C09G
import Heathcliff.Proofs.BaseMath
import Mathlib.Data.ZMod.Basic
import Mathlib.Tactic.Ring
import Mathlib.Tactic.Linarith
namespace HC
open Finset

/-- the exponent of slot i: 3^i for the first row, −3^(i − N/2) for the second (mod 2N) -/
def slotExp (k i : Nat) : Nat :=
  let n := 2^k; let m := 2 * n; let row := n / 2
  if i < row then 3 ^ i % m else (m - 3 ^ (i - row) % m) % m

theorem c11n_three_pow_mod8 (a : Nat) : 3^a % 8 = 1 ∨ 3^a % 8 = 3 := by
  induction a with
  | zero => left; rfl
  | succ a ih => rw [pow_succ, Nat.mul_mod]; rcases ih with h | h <;> rw [h] <;> simp

theorem c11n_three_pow_odd (a : Nat) : 3^a % 2 = 1 := Nat.odd_iff.1 (Odd.pow (by decide))

theorem c11n_cast_pow (m a : Nat) : ((3^a : Nat) : ZMod m) = 3^a := by rw [Nat.cast_pow, Nat.cast_ofNat]

theorem c11n_pow_eq_iff {m a b : Nat} : (3 : ZMod m)^a = 3^b ↔ 3^a % m = 3^b % m := by
  rw [← c11n_cast_pow, ← c11n_cast_pow, ZMod.natCast_eq_natCast_iff']

theorem c11n_two_row {k : Nat} (hk : 1 ≤ k) : 2^k/2 + 2^k/2 = 2^k := by
  obtain ⟨j, rfl⟩ : ∃ j, k = j + 1 := ⟨k - 1, by omega⟩
  rw [pow_succ, Nat.mul_div_cancel _ (by decide), Nat.mul_two]

/-- 3^(N/2) ≡ 1 (mod 2N) for N ≥ 4 -/
theorem c11n_three_pow_row (j : Nat) : 3^(2^(j+2)/2) % (2 * 2^(j+2)) = 1 := by
  rw [show 2^(j+2)/2 = 2^(j+1) by rw [pow_succ, Nat.mul_div_cancel _ (by decide)], show 2 * 2^(j+2) = 2^(j+3) by ring]
  exact three_pow_half j

theorem c11n_three_pow_row_z {k : Nat} (hk : 2 ≤ k) : (3 : ZMod (2 * 2^k))^(2^k/2) = 1 := by
  obtain ⟨j, rfl⟩ : ∃ j, k = j + 2 := ⟨k - 2, by omega⟩
  rw [← pow_zero (3 : ZMod (2 * 2^(j+2))), c11n_pow_eq_iff, c11n_three_pow_row j, pow_zero]
  exact (Nat.mod_eq_of_lt (Nat.one_lt_two_pow (by omega) |>.trans_le (Nat.le_mul_of_pos_left _ (by decide)))).symm

/-- 3^(N/4) ≢ 1 (mod 2N) for N ≥ 4: it is 1 + N (mod 2N) -/
theorem c11n_three_pow_half_z (j : Nat) : ¬ (3 : ZMod (2 * 2^(j+2)))^(2^j) = 1 := by
  rw [← pow_zero (3 : ZMod (2 * 2^(j+2))), c11n_pow_eq_iff, pow_zero,
    Nat.mod_eq_of_lt (a := 1) (Nat.one_lt_two_pow (by omega) |>.trans_le (Nat.le_mul_of_pos_left _ (by decide)))]
  cases j with
  | zero => decide
  | succ j =>
    rw [show 2 * 2^(j+1+2) = 2^(j+4) by ring, three_pow_quarter j]
    have := Nat.two_pow_pos (j+3)
    omega

theorem c11n_orderOf {k : Nat} (hk : 2 ≤ k) : orderOf (3 : ZMod (2 * 2^k)) = 2^k/2 := by
  obtain ⟨j, rfl⟩ : ∃ j, k = j + 2 := ⟨k - 2, by omega⟩
  have e1 : 2^(j+2)/2 = 2^(j+1) := by rw [pow_succ, Nat.mul_div_cancel _ (by decide)]
  rw [e1]
  apply orderOf_eq_prime_pow (c11n_three_pow_half_z j)
  rw [← e1]; exact c11n_three_pow_row_z (by omega)

theorem c11n_pow_inj {k a b : Nat} (hk : 1 ≤ k) (ha : a < 2^k/2) (hb : b < 2^k/2)
    (h : 3^a % (2*2^k) = 3^b % (2*2^k)) : a = b := by
  rcases Nat.lt_or_ge k 2 with h2 | h2
  · obtain rfl : k = 1 := by omega
    omega
  · rw [← c11n_orderOf h2] at ha hb
    exact pow_injOn_Iio_orderOf ha hb (c11n_pow_eq_iff.2 h)

/-! ### slot exponents -/
theorem c11n_pm_facts (k a : Nat) :
    3^a % (2*2^k) % 2 = 1 ∧ 0 < 3^a % (2*2^k) ∧ 3^a % (2*2^k) < 2*2^k := by
  have h1 : 3^a % (2*2^k) % 2 = 1 := by
    rw [Nat.mod_mod_of_dvd _ (Dvd.intro _ rfl)]; exact c11n_three_pow_odd a
  have hp := Nat.two_pow_pos k
  refine ⟨h1, by omega, Nat.mod_lt _ (by omega)⟩

theorem c11n_slotExp_lo {k i : Nat} (hi : i < 2^k/2) : slotExp k i = 3^i % (2*2^k) := by
  unfold slotExp; simp only []; rw [if_pos hi]

theorem c11n_slotExp_hi {k i : Nat} (hi : ¬ i < 2^k/2) :
    slotExp k i = 2*2^k - 3^(i - 2^k/2) % (2*2^k) := by
  unfold slotExp; simp only []; rw [if_neg hi]
  obtain ⟨_, h2, h3⟩ := c11n_pm_facts k (i - 2^k/2)
  exact Nat.mod_eq_of_lt (by omega)

theorem c11n_slotExp_facts (k i : Nat) : slotExp k i % 2 = 1 ∧ slotExp k i < 2 * 2^k := by
  by_cases hi : i < 2^k/2
  · rw [c11n_slotExp_lo hi]
    obtain ⟨h1, _, h3⟩ := c11n_pm_facts k i
    exact ⟨h1, h3⟩
  · rw [c11n_slotExp_hi hi]
    obtain ⟨h1, h2, h3⟩ := c11n_pm_facts k (i - 2^k/2)
    omega

theorem c11n_slotExp_cast_lo {k i : Nat} (hi : i < 2^k/2) : ((slotExp k i : Nat) : ZMod (2*2^k)) = 3^i := by
  rw [c11n_slotExp_lo hi, ZMod.natCast_mod]; simp

theorem c11n_slotExp_cast_hi {k i : Nat} (hi : ¬ i < 2^k/2) :
    ((slotExp k i : Nat) : ZMod (2*2^k)) = - 3^(i - 2^k/2) := by
  rw [c11n_slotExp_hi hi]
  obtain ⟨_, h2, h3⟩ := c11n_pm_facts k (i - 2^k/2)
  rw [Nat.cast_sub (le_of_lt h3), ZMod.natCast_self, ZMod.natCast_mod]; simp

theorem c11n_cast_pred (k : Nat) : ((2 * 2^k - 1 : Nat) : ZMod (2*2^k)) = -1 := by
  have hp := Nat.two_pow_pos k
  rw [Nat.cast_sub (by omega), ZMod.natCast_self]; simp

theorem c11n_mod_of_cast {m a b : Nat} (hb : b < m) (h : ((a : Nat) : ZMod m) = (b : ZMod m)) : a % m = b := by
  have := (ZMod.natCast_eq_natCast_iff' a b m).mp h
  rwa [Nat.mod_eq_of_lt hb] at this

/-- X ↦ X^(2N−1) exchanges the rows: slotExp(i)·(2N−1) ≡ slotExp(swap i) (mod 2N) -/
theorem slotExp_swap {k i : Nat} (hk : 1 ≤ k) (hi : i < 2^k) :
    (slotExp k i * (2 * 2^k - 1)) % (2 * 2^k) = slotExp k ((i + 2^k / 2) % 2^k) := by
  apply c11n_mod_of_cast (c11n_slotExp_facts _ _).2
  rw [Nat.cast_mul, c11n_cast_pred]
  have e2 := c11n_two_row hk
  by_cases h : i < 2^k/2
  · rw [Nat.mod_eq_of_lt (by omega), c11n_slotExp_cast_lo h, c11n_slotExp_cast_hi (Nat.not_lt.2 (Nat.le_add_left _ _)),
      Nat.add_sub_cancel, mul_neg_one]
  · obtain ⟨i', rfl⟩ : ∃ i', i = i' + 2^k/2 := ⟨i - 2^k/2, by omega⟩
    rw [Nat.add_assoc, e2, Nat.add_mod_right, Nat.mod_eq_of_lt (by omega), c11n_slotExp_cast_hi h, Nat.add_sub_cancel,
      c11n_slotExp_cast_lo (by omega), neg_mul_neg, mul_one]

/-- substituting X ↦ X^(3^s) moves slot (i + s mod N/2) of the same row to slot i:
    slotExp(i)·3^s ≡ slotExp(rot i) (mod 2N) -/
theorem slotExp_rotate {k i s : Nat} (hk : 2 ≤ k) (hi : i < 2^k) :
    let row := 2^k / 2
    (slotExp k i * 3 ^ s) % (2 * 2^k) = slotExp k ((i / row) * row + (i % row + s) % row) := by
  intro row
  apply c11n_mod_of_cast (c11n_slotExp_facts _ _).2
  have ho := c11n_orderOf hk
  have hrow : 0 < row := by
    have : 2^2 ≤ 2^k := Nat.pow_le_pow_right (by omega) hk
    show 0 < 2^k/2; omega
  have e2 : row + row = 2^k := c11n_two_row (by omega)
  have hml := Nat.mod_lt (i % row + s) hrow
  have hred : ∀ a : Nat, (3 : ZMod (2*2^k))^(a % row) = 3^a := by
    intro a; rw [show row = orderOf (3 : ZMod (2*2^k)) from ho.symm, pow_mod_orderOf]
  rw [Nat.cast_mul, Nat.cast_pow]
  by_cases h : i < row
  · have e3 : i / row = 0 := Nat.div_eq_of_lt h
    rw [e3, Nat.zero_mul, Nat.zero_add, c11n_slotExp_cast_lo h, c11n_slotExp_cast_lo hml, hred,
      Nat.mod_eq_of_lt h, pow_add]; simp
  · have e3 : i / row = 1 := by
      apply Nat.div_eq_of_lt_le <;> omega
    have e4 : i % row = i - row := by
      rw [Nat.mod_eq_sub_mod (by omega)]; exact Nat.mod_eq_of_lt (by omega)
    rw [e3, Nat.one_mul, c11n_slotExp_cast_hi h, c11n_slotExp_cast_hi (by show ¬ _ < row; omega)]
    show _ = -(3 : ZMod (2*2^k))^(row + (i % row + s) % row - row)
    rw [Nat.add_sub_cancel_left, hred, e4, pow_add]; simp only [neg_mul]; rfl

/-- −1 is not a power of 3 modulo 2N: modulo 8 the powers of 3 are 1 and 3, their negatives 7 and 5 -/
theorem c11n_cross {k a b : Nat} (hk : 1 ≤ k) (ha : a < 2^k/2) (hb : b < 2^k/2) :
    3^a % (2*2^k) ≠ 2*2^k - 3^b % (2*2^k) := by
  rcases Nat.lt_or_ge k 2 with h2 | h2
  · obtain rfl : k = 1 := by omega
    obtain rfl : a = 0 := by omega
    obtain rfl : b = 0 := by omega
    decide
  · obtain ⟨j, rfl⟩ : ∃ j, k = j + 2 := ⟨k - 2, by omega⟩
    intro h
    have hlt : 3^b % (2 * 2^(j+2)) < 2 * 2^(j+2) := Nat.mod_lt _ (by positivity)
    have h8 : ∀ c, 3^c % (2 * 2^(j+2)) % 8 = 3^c % 8 := fun c => Nat.mod_mod_of_dvd _ ⟨2^j, by ring⟩
    have key : (3^a % 8 + 3^b % 8) % 8 = 0 := by
      rw [← h8 a, ← h8 b, ← Nat.add_mod, h, Nat.sub_add_cancel hlt.le, show 2 * 2^(j+2) = 8 * 2^j by ring, Nat.mul_mod_right]
    have h8a := c11n_three_pow_mod8 a
    have h8b := c11n_three_pow_mod8 b
    clear h hlt h8 ha hb
    omega

/-- the slot exponents ±3^i are pairwise distinct modulo 2N (so they are ALL odd residues: 3 has order N/2 and −1 ∉ ⟨3⟩) -/
theorem slotExp_injective {k i j : Nat} (hk : 1 ≤ k) (hi : i < 2^k) (hj : j < 2^k) (h : slotExp k i = slotExp k j) : i = j := by
  have e2 := c11n_two_row hk
  by_cases h1 : i < 2^k/2 <;> by_cases h2 : j < 2^k/2
  · rw [c11n_slotExp_lo h1, c11n_slotExp_lo h2] at h
    exact c11n_pow_inj hk h1 h2 h
  · rw [c11n_slotExp_lo h1, c11n_slotExp_hi h2] at h
    exact absurd h (c11n_cross hk h1 (by omega))
  · rw [c11n_slotExp_hi h1, c11n_slotExp_lo h2] at h
    exact absurd h.symm (c11n_cross hk h2 (by omega))
  · rw [c11n_slotExp_hi h1, c11n_slotExp_hi h2] at h
    obtain ⟨_, _, a3⟩ := c11n_pm_facts k (i - 2^k/2)
    obtain ⟨_, _, b3⟩ := c11n_pm_facts k (j - 2^k/2)
    have := c11n_pow_inj hk (a := i - 2^k/2) (b := j - 2^k/2) (by omega) (by omega) (by omega)
    omega


/-! ### the index map -/

/-- the NTT position `(e − 1)/2` of an odd exponent `e < 2N` -/
theorem c11n_half_odd {e n : Nat} (ho : e % 2 = 1) (hl : e < 2 * n) : (e - 1) / 2 < n ∧ 2 * ((e - 1) / 2) + 1 = e := by omega

theorem c11n_half_inj {e e' : Nat} (ho : e % 2 = 1) (ho' : e' % 2 = 1) (h : (e - 1) / 2 = (e' - 1) / 2) : e = e' := by omega

/-- one step of the fold in `batchIndexMap`: with `acc.2` = 3^i mod 2N, write the positions of slot i (exponent 3^i) and of slot i + N/2
    (exponent 2N − 3^i), then multiply the exponent by the generator 3 -/
def c11n_step (k : Nat) (acc : Array Nat × Nat) (i : Nat) : Array Nat × Nat :=
  ((acc.1.setIfInBounds i (brev k ((acc.2 - 1)/2))).setIfInBounds (i + 2^k/2) (brev k ((2*2^k - acc.2 - 1)/2)),
    (acc.2 * galoisGenerator) % (2*2^k))

theorem c11n_map_eq (k : Nat) :
    batchIndexMap k = ((List.range (2^k/2)).foldl (c11n_step k) (Array.replicate (2^k) 0, 1)).1 := rfl

theorem c11n_fold_inv (k : Nat) : ∀ j, j ≤ 2^k/2 → ∀ r, (List.range j).foldl (c11n_step k) (Array.replicate (2^k) 0, 1) = r →
    r.1.size = 2^k ∧ r.2 = 3^j % (2*2^k) ∧
    ∀ i, i < j → r.1.getD i 0 = brev k ((3^i % (2*2^k) - 1)/2) ∧
      r.1.getD (i + 2^k/2) 0 = brev k ((2*2^k - 3^i % (2*2^k) - 1)/2) := by
  intro j
  induction j with
  | zero =>
    rintro _ _ rfl
    refine ⟨Array.size_replicate .., ?_, fun i hi => absurd hi (Nat.not_lt_zero _)⟩
    have := Nat.two_pow_pos k
    show 1 = 3^0 % (2*2^k)
    rw [pow_zero, Nat.mod_eq_of_lt (by omega)]
  | succ j ih =>
    intro hj r hr
    rw [List.range_succ, List.foldl_append, List.foldl_cons, List.foldl_nil] at hr
    obtain ⟨h1, h2, h3⟩ := ih (by omega) _ rfl
    generalize (List.range j).foldl (c11n_step k) (Array.replicate (2^k) 0, 1) = r0 at hr h1 h2 h3
    subst hr
    have hlt : j + 2^k/2 < r0.1.size := by rw [h1]; omega
    refine ⟨by simp [c11n_step, h1], ?_, fun i hi => ?_⟩
    · show (r0.2 * 3) % (2*2^k) = _
      rw [h2, pow_succ, Nat.mod_mul_mod]
    · show ((r0.1.setIfInBounds j _).setIfInBounds (j + 2^k/2) _).getD i 0 = _ ∧
        ((r0.1.setIfInBounds j _).setIfInBounds (j + 2^k/2) _).getD (i + 2^k/2) 0 = _
      rcases Nat.lt_or_ge i j with hlt' | hge
      · rw [array_getD_set_ne _ _ 0 (by omega), array_getD_set_ne _ _ 0 (by omega), array_getD_set_ne _ _ 0 (by omega),
          array_getD_set_ne _ _ 0 (by omega)]
        exact h3 i hlt'
      · obtain rfl : i = j := by omega
        rw [array_getD_set_ne _ _ 0 (by omega), array_getD_set_self _ _ 0 (by omega), array_getD_set_self _ _ 0 (by rw [Array.size_setIfInBounds]; exact hlt),
          h2]
        exact ⟨rfl, rfl⟩

/-- entry i of the index map is brev((slotExp i − 1)/2), i.e. the NTT position holding the evaluation at psi^(slotExp i) -/
theorem batchIndexMap_spec {k i : Nat} (hk : 1 ≤ k) (hi : i < 2^k) :
    (batchIndexMap k).size = 2^k ∧ (batchIndexMap k).getD i 0 = brev k ((slotExp k i - 1) / 2) ∧
    slotExp k i % 2 = 1 ∧ slotExp k i < 2 * 2^k := by
  obtain ⟨f1, _, f3⟩ := c11n_fold_inv k (2^k/2) le_rfl _ rfl
  rw [← c11n_map_eq] at f1 f3
  obtain ⟨s1, s2⟩ := c11n_slotExp_facts k i
  refine ⟨f1, ?_, s1, s2⟩
  by_cases h : i < 2^k/2
  · rw [(f3 i h).1, c11n_slotExp_lo h]
  · have e2 := c11n_two_row hk
    have := (f3 (i - 2^k/2) (by omega)).2
    rw [Nat.sub_add_cancel (by omega)] at this
    rw [this, c11n_slotExp_hi h]

/-- the index map is a permutation of [0, N) -/
theorem batchIndexMap_perm {k : Nat} (hk : 1 ≤ k) :
    (∀ i, i < 2^k → (batchIndexMap k).getD i 0 < 2^k) ∧
    (∀ i j, i < 2^k → j < 2^k → (batchIndexMap k).getD i 0 = (batchIndexMap k).getD j 0 → i = j) := by
  refine ⟨fun i hi => ?_, fun i j hi hj h => ?_⟩
  · rw [(batchIndexMap_spec hk hi).2.1]; exact brev_lt _ _
  · obtain ⟨_, a1, a2, a3⟩ := batchIndexMap_spec hk hi
    obtain ⟨_, b1, b2, b3⟩ := batchIndexMap_spec hk hj
    rw [a1, b1] at h
    exact slotExp_injective hk hi hj (c11n_half_inj a2 b2 (brev_inj (c11n_half_odd a2 a3).1 (c11n_half_odd b2 b3).1 h))

variable {t : NTTTables}

/-! ### array helpers -/
theorem c11n_pad_id {n : Nat} (p : Array Nat) (hs : p.size = n) :
    Array.ofFn (n := n) (fun i => p.getD i.val 0) = p :=
  array_ext_getD (by simp) hs (fun _ hi => array_getD_ofFn _ 0 hi)

theorem c11n_surj {n : Nat} (f : Nat → Nat) (hf : ∀ i, i < n → f i < n)
    (hinj : ∀ i j, i < n → j < n → f i = f j → i = j) : ∀ x, x < n → ∃ i, i < n ∧ f i = x := by
  intro x hx
  let σ : Fin n → Fin n := fun i => ⟨f i.val, hf i.val i.isLt⟩
  have hσ : Function.Injective σ := fun a b h =>
    Fin.ext (hinj _ _ a.isLt b.isLt (congrArg Fin.val h))
  obtain ⟨i, hi⟩ := (Finite.injective_iff_surjective.mp hσ) ⟨x, hx⟩
  exact ⟨i.val, i.isLt, congrArg Fin.val hi⟩

/-! ### encode / decode unfolded -/

/-- the scatter of `batchEncode`: value i goes to position `batchIndexMap[i]` of a zero vector -/
def c11n_scat (k : Nat) (v : Array Nat) : Array Nat :=
  (List.range (2^k)).foldl (fun (d : Array Nat) i => d.setIfInBounds ((batchIndexMap k).getD i 0) (v.getD i 0))
    (Array.replicate (2^k) 0)

theorem c11n_encode_eq (v : Array Nat) (hs : v.size ≤ 2^t.k) :
    batchEncode t v = .ok (intt t (c11n_scat t.k v)) := by
  unfold batchEncode
  simp only []
  rw [if_neg (by omega)]
  rfl

theorem c11n_scat_spec {k : Nat} (hk : 1 ≤ k) (v : Array Nat) :
    (c11n_scat k v).size = 2^k ∧
    ∀ i, i < 2^k → (c11n_scat k v).getD ((batchIndexMap k).getD i 0) 0 = v.getD i 0 := by
  obtain ⟨p1, p2⟩ := batchIndexMap_perm hk
  refine ⟨(scatterTo_size ..).trans Array.size_replicate, fun i hi => ?_⟩
  exact scatterTo_written (fun i => (batchIndexMap k).getD i 0) (fun i => v.getD i 0) 0 (List.range (2^k)) _
    (fun i hi => by rw [Array.size_replicate]; exact p1 i (List.mem_range.1 hi))
    (fun i hi j hj h => by rw [p2 i j (List.mem_range.1 hi) (List.mem_range.1 hj) h]) i (List.mem_range.2 hi)

theorem c11n_scat_lt {k q : Nat} (hq : 0 < q) (v : Array Nat) (hv : ∀ j, v.getD j 0 < q) :
    ∀ x, (c11n_scat k v).getD x 0 < q := by
  intro x
  rcases scatterTo_getD (fun i => (batchIndexMap k).getD i 0) (fun i => v.getD i 0) 0 x (List.range (2^k)) (Array.replicate (2^k) 0) with
    h | ⟨i, _, _, h⟩
  · rw [c11n_scat, h, array_getD_replicate]; exact hq
  · rw [c11n_scat, h]; exact hv i

theorem c11n_decode_getD (hk : 1 ≤ t.k) (p : Array Nat) :
    (batchDecode t p).size = 2^t.k ∧ ∀ i, i < 2^t.k →
      (batchDecode t p).getD i 0
        = (ntt t (Array.ofFn (n := 2^t.k) fun i => p.getD i.val 0)).getD ((batchIndexMap t.k).getD i 0) 0 := by
  have hsz : (batchIndexMap t.k).size = 2^t.k :=
    (batchIndexMap_spec (i := 0) hk (Nat.two_pow_pos _)).1
  unfold batchDecode
  simp only []
  refine ⟨by simp [hsz], fun i hi => ?_⟩
  rw [array_getD_map _ _ 0 0 (by omega)]

/-- slot i of `decode p` is p(psi^(slotExp i)) mod t (psi the table's root) -/
theorem batchDecode_eval (hw : t.WF) (hk : 1 ≤ t.k) (p : Array Nat) (hs : p.size ≤ 2^t.k)
    (hp : ∀ j, j < p.size → p.getD j 0 < t.modulus.value) :
    (batchDecode t p).size = 2^t.k ∧ ∀ i, i < 2^t.k →
      (batchDecode t p).getD i 0 =
        (∑ j ∈ range (2^t.k), p.getD j 0 * (t.root ^ slotExp t.k i) ^ j) % t.modulus.value := by
  have hq2 := hw.mwf.two_le
  obtain ⟨d1, d2⟩ := c11n_decode_getD hk p
  refine ⟨d1, fun i hi => ?_⟩
  have hpl := array_getD_lt_of_forall hp (show 0 < t.modulus.value by omega)
  obtain ⟨_, n2⟩ := ntt_eval hw (Array.ofFn (n := 2^t.k) fun i => p.getD i.val 0) (by simp)
    (fun j hj => by rw [array_getD_ofFn _ 0 hj]; show p.getD j 0 < _; have := hpl j; omega)
  obtain ⟨_, m1, m2, m3⟩ := batchIndexMap_spec hk hi
  rw [d2 i hi, n2 _ (by rw [m1]; exact brev_lt _ _), m1]
  unfold evalSpec
  rw [brev_brev (c11n_half_odd m2 m3).1, (c11n_half_odd m2 m3).2]
  congr 1
  apply sum_congr rfl
  intro j hj
  rw [array_getD_ofFn _ 0 (mem_range.mp hj)]

/-- decoding inverts encoding; shorter inputs are zero-padded -/
theorem batch_decode_encode (hw : t.WF) (hk : 1 ≤ t.k) (v : Array Nat) (hs : v.size ≤ 2^t.k)
    (hv : ∀ j, j < v.size → v.getD j 0 < t.modulus.value) :
    ∃ p, batchEncode t v = .ok p ∧ p.size = 2^t.k ∧ (∀ j, j < 2^t.k → p.getD j 0 < t.modulus.value) ∧
      ∀ i, i < 2^t.k → (batchDecode t p).getD i 0 = v.getD i 0 := by
  have hq2 := hw.mwf.two_le
  have hvl := array_getD_lt_of_forall hv (show 0 < t.modulus.value by omega)
  obtain ⟨s1, s2⟩ := c11n_scat_spec hk v
  have s3 := c11n_scat_lt (k := t.k) (show 0 < t.modulus.value by omega) v hvl
  obtain ⟨g1, g2⟩ := intt_sim hw (c11n_scat t.k v) s1 (fun j _ => by have := s3 j; omega)
  refine ⟨_, c11n_encode_eq v hs, g1, fun j hj => (g2 j hj).1, fun i hi => ?_⟩
  rw [(c11n_decode_getD hk _).2 i hi, c11n_pad_id _ g1, ntt_intt hw _ s1 (fun j _ => s3 j), s2 i hi]

/-- and encoding inverts decoding on full-length canonical plaintexts (bijection) -/
theorem batch_encode_decode (hw : t.WF) (hk : 1 ≤ t.k) (p : Array Nat) (hs : p.size = 2^t.k)
    (hp : ∀ j, j < 2^t.k → p.getD j 0 < t.modulus.value) :
    batchEncode t (batchDecode t p) = .ok p := by
  obtain ⟨d1, d2⟩ := c11n_decode_getD hk p
  obtain ⟨s1, s2⟩ := c11n_scat_spec hk (batchDecode t p)
  obtain ⟨p1, p2⟩ := batchIndexMap_perm (k := t.k) hk
  obtain ⟨n1, _⟩ := ntt_sim hw p hs (fun j hj => by have := hp j hj; omega)
  rw [c11n_encode_eq _ (by omega)]
  have : c11n_scat t.k (batchDecode t p) = ntt t p := by
    apply array_ext_getD s1 n1
    intro x hx
    obtain ⟨i, hi, rfl⟩ := c11n_surj (fun i => (batchIndexMap t.k).getD i 0) p1 p2 x hx
    show (c11n_scat t.k (batchDecode t p)).getD ((batchIndexMap t.k).getD i 0) 0 = _
    rw [s2 i hi, d2 i hi, c11n_pad_id _ hs]
  rw [this, intt_ntt hw p hs hp]

/-! ### ring isomorphism -/
theorem c11n_eval_cast (q n x : Nat) (a : Array Nat) :
    (((∑ j ∈ range n, a.getD j 0 * x ^ j) % q : Nat) : ZMod q)
      = ∑ j ∈ range n, ((a.getD j 0 : Nat) : ZMod q) * ((x : Nat) : ZMod q) ^ j := by
  rw [ZMod.natCast_mod]; push_cast; rfl

/-- slot i of a canonical full-length plaintext, as an element of ZMod q -/
theorem c11n_decode_cast (hw : t.WF) (hk : 1 ≤ t.k) (a : Array Nat) (hsa : a.size = 2^t.k)
    (ha : ∀ j, j < 2^t.k → a.getD j 0 < t.modulus.value) {i : Nat} (hi : i < 2^t.k) :
    (batchDecode t a).getD i 0 < t.modulus.value ∧
    (((batchDecode t a).getD i 0 : Nat) : ZMod t.modulus.value)
      = ∑ j ∈ range (2^t.k), ((a.getD j 0 : Nat) : ZMod t.modulus.value) *
          (((t.root ^ slotExp t.k i : Nat) : Nat) : ZMod t.modulus.value) ^ j := by
  have hq2 := hw.mwf.two_le
  obtain ⟨_, e2⟩ := batchDecode_eval hw hk a (by omega) (fun j hj => ha j (by omega))
  rw [e2 i hi]
  exact ⟨Nat.mod_lt _ (by omega), c11n_eval_cast _ _ _ _⟩

theorem c11n_slot_root (hw : t.WF) (i : Nat) :
    (((t.root ^ slotExp t.k i : Nat) : Nat) : ZMod t.modulus.value) ^ (2^t.k) = -1 := by
  rw [Nat.cast_pow]
  exact root_pow_odd hw.zfacts.psi (Nat.odd_iff.mpr (c11n_slotExp_facts t.k i).1)

/-- the slots of the negacyclic product are the products of the slots -/
theorem batch_mul_slots (hw : t.WF) (hk : 1 ≤ t.k) (a b : Array Nat) (hsa : a.size = 2^t.k) (hsb : b.size = 2^t.k)
    (ha : ∀ j, j < 2^t.k → a.getD j 0 < t.modulus.value) (hb : ∀ j, j < 2^t.k → b.getD j 0 < t.modulus.value) :
    let prod : Array Nat := Array.ofFn (n := 2^t.k) fun c => negMulNat (2^t.k) t.modulus.value a b c.val
    ∀ i, i < 2^t.k → (batchDecode t prod).getD i 0 =
      ((batchDecode t a).getD i 0 * (batchDecode t b).getD i 0) % t.modulus.value := by
  intro prod i hi
  have hq2 := hw.mwf.two_le
  have hq0 : 0 < t.modulus.value := by omega
  have hpg : ∀ c, c < 2^t.k → prod.getD c 0 = negMulNat (2^t.k) t.modulus.value a b c :=
    fun c hc => array_getD_ofFn _ 0 hc
  obtain ⟨c1, c2⟩ := c11n_decode_cast hw hk prod (by simp [prod])
    (fun j hj => by rw [hpg j hj]; exact (negMulNat_cast hq0 _ a b j).1) hi
  obtain ⟨_, a2⟩ := c11n_decode_cast hw hk a hsa ha hi
  obtain ⟨_, b2⟩ := c11n_decode_cast hw hk b hsb hb hi
  apply cast_inj_lt c1 (Nat.mod_lt _ hq0)
  rw [c2, ZMod.natCast_mod, Nat.cast_mul, a2, b2,
    ← eval_negMul (2^t.k) (Nat.two_pow_pos _) _ (c11n_slot_root hw i)]
  apply sum_congr rfl
  intro c hc
  rw [hpg c (mem_range.mp hc), (negMulNat_cast hq0 _ a b c).2]

theorem batch_add_slots (hw : t.WF) (hk : 1 ≤ t.k) (a b : Array Nat) (hsa : a.size = 2^t.k) (hsb : b.size = 2^t.k)
    (ha : ∀ j, j < 2^t.k → a.getD j 0 < t.modulus.value) (hb : ∀ j, j < 2^t.k → b.getD j 0 < t.modulus.value) :
    let sum : Array Nat := Array.ofFn (n := 2^t.k) fun c => (a.getD c.val 0 + b.getD c.val 0) % t.modulus.value
    ∀ i, i < 2^t.k → (batchDecode t sum).getD i 0 =
      ((batchDecode t a).getD i 0 + (batchDecode t b).getD i 0) % t.modulus.value := by
  intro sum i hi
  have hq2 := hw.mwf.two_le
  have hq0 : 0 < t.modulus.value := by omega
  have hpg : ∀ c, c < 2^t.k → sum.getD c 0 = (a.getD c 0 + b.getD c 0) % t.modulus.value :=
    fun c hc => array_getD_ofFn _ 0 hc
  obtain ⟨c1, c2⟩ := c11n_decode_cast hw hk sum (by simp [sum])
    (fun j hj => by rw [hpg j hj]; exact Nat.mod_lt _ hq0) hi
  obtain ⟨_, a2⟩ := c11n_decode_cast hw hk a hsa ha hi
  obtain ⟨_, b2⟩ := c11n_decode_cast hw hk b hsb hb hi
  apply cast_inj_lt c1 (Nat.mod_lt _ hq0)
  rw [c2, ZMod.natCast_mod, Nat.cast_add, a2, b2, ← sum_add_distrib]
  apply sum_congr rfl
  intro c hc
  rw [hpg c (mem_range.mp hc), ZMod.natCast_mod, Nat.cast_add, add_mul]

end HC
