import Heathcliff.Proofs.GenRnsDecrypt
import Heathcliff.Proofs.GenRnsBehz
import Heathcliff.Proofs.GenRnsCompose
import Heathcliff.Proofs.NonVac

/-!
  Non-vacuity of the hypotheses under which the translator ties of Proofs/GenRnsDecrypt.lean, GenRnsBehz.lean, GenRnsCompose.lean and
  (`grw_eca_…`) GenRnsConvert.lean are stated, in the concrete world of Proofs/World.lean
  (`RNSTool::new(4, {97, 113}, 17)`), on the phase `nv_phase` of a genuine BFV encryption of 3 + 16X + 9X³ (Proofs/NonVac.lean) and a DIRTY destination buffer.
-/
namespace HC
-- the `nv_dec…` are plain definitions, made instances only locally (Lean warns about definitions of class type that are not instances)
set_option warn.classDefReducibility false
attribute [local instance] nv_decRnsCanon nv_decWFOp nv_decModWF nv_decModulus nv_decMulOperand nv_decRNSBase

theorem grw_dsr_sizes : nv_tool.prodTGammaModQ.size = nv_tool.baseQ.size ∧ nv_tool.negInvQModTGamma.size = 2 :=
  gr_dsr_sizes_of_new nv_m17_wf (by simp [nv_a0_wf, nv_a1_wf, nv_a2_wf, nv_a3_wf]) nv_tool_new

/-- `gr_decrypt_scale_and_round_rounds` applies: all its hypotheses hold for the phase of a genuine encryption (CRT values 1939, 10309, 21, 5801),
    and the generated function overwrites the dirty destination with the message 3 + 16X + 9X³ -/
theorem grw_dsr_rounds : ∃ btg conv ig, nv_tool.baseTGamma = some btg ∧ nv_tool.qToTGamma = some conv ∧ nv_tool.invGammaModT = some ig ∧
    GenR.decrypt_scale_and_round (flatP nv_phase) [9, 9, 9, 9] nv_tool.baseQ.size nv_tool.baseQ.base.toList btg.size btg.base.toList nv_tool.n
        nv_tool.prodTGammaModQ.toList nv_tool.negInvQModTGamma.toList nv_tool.t nv_tool.gamma ig (gr_convF conv) = .ok [3, 16, 0, 9] := by
  have hsz := grw_dsr_sizes
  rw [nv_tool_eq] at hsz ⊢
  obtain ⟨btg, conv, ig, h1, h2, h3, out, hok, hlen, hv⟩ := gr_decrypt_scale_and_round_rounds (l := nv_levelV) (nv_level_eq ▸ nv_decOK)
    (ph := nv_phase) (by decide +kernel) #[9, 9, 9, 9] rfl hsz.1.ge hsz.2.ge (by decide) (by decide) (by decide)
    (fun j => [1939, 10309, 21, 5801].getD j 0) (by decide +kernel) (by decide +kernel)
  refine ⟨btg, conv, ig, h1, h2, h3, hok.trans (congrArg Except.ok ?_)⟩
  have h4 : out.length = 4 := hlen
  apply list_eq_of_getD 0 h4
  intro j hj
  rw [h4] at hj
  rw [hv j hj]
  interval_cases j <;> decide +kernel

/-! ### `fastbconv_sk`: the Shenoy–Kumaresan conversion of ⌊·/Q⌋ = (−1, −1, 0, −1) (the fast-floor output `nv_p4` of NonVac.lean) back to base q -/

/-- `gr_fastbconv_sk_exact` applies (all hypotheses hold for `nv_p4`, V = (−1, −1, 0, −1), a DIRTY destination), and the generated function returns
    −1, −1, 0, −1 modulo 97 and modulo 113 -/
theorem grw_sk_exact : GenR.fastbconv_sk (flatP nv_p4) (flatP #[#[9, 9, 9, 9], #[9, 9, 9, 9]]) nv_tool.baseQ.size nv_tool.baseB.size nv_tool.n nv_tool.mSk
      nv_tool.invProdBModMsk nv_tool.baseQ.base.toList nv_tool.prodBModQ.toList (gr_convF nv_tool.bToQ) (gr_convF nv_tool.bToMsk)
    = .ok [96, 96, 0, 96, 112, 112, 0, 112] := by
  rw [nv_tool_eq]
  obtain ⟨bMsk, hMs, hMs1, hMs0, hcm⟩ := nv_toolMulOK.bToMsk
  obtain ⟨out, hok, -⟩ := gr_fastbconv_sk_exact nv_toolV nv_p4 #[#[9, 9, 9, 9], #[9, 9, 9, 9]] (fun j => ([-1, -1, 0, -1] : List Int).getD j 0)
    nv_toolMulOK.bwf nv_toolMulOK.qwf hMs hMs1 hMs0 nv_toolMulOK.bToQ hcm rfl (by decide) rfl (by decide) rfl (by decide) (by decide)
    nv_toolMulOK.mskwf nv_toolMulOK.invB.1 nv_toolMulOK.invB.2 (by decide +kernel) (nv_all2 (by decide +kernel)) (by decide +kernel) (by decide +kernel)
  exact hok.trans (congrArg Except.ok (nv_val_of_ok hok (by decide +kernel)))

/-! ### `fastbconv_m_tilde` on the canonical polynomial `nv_c0` (CRT values 10960, 1363, 2134, 7122) -/

/-- `gr_fastbconv_m_tilde_crt` applies to `nv_c0` and a DIRTY destination; the generated function returns the flat form of `nv_p1` (NonVac.lean) -/
theorem grw_mt_crt : GenR.fastbconv_m_tilde (flatP nv_c0) (flatP #[#[9, 9, 9, 9], #[9, 9, 9, 9], #[9, 9, 9, 9], #[9, 9, 9, 9]]) nv_tool.baseQ.size
      nv_tool.baseBsk.size nv_tool.n nv_tool.mTilde nv_tool.baseQ.base.toList (gr_convF nv_tool.qToBsk) (gr_convF nv_tool.qToMt) = .ok (flatP nv_p1) := by
  rw [nv_tool_eq]
  obtain ⟨bMt, hMt, hMt1, hMt0, hc2⟩ := nv_toolMulOK.qToMt
  obtain ⟨out, hok, -⟩ := gr_fastbconv_m_tilde_crt nv_toolV nv_c0 #[#[9, 9, 9, 9], #[9, 9, 9, 9], #[9, 9, 9, 9], #[9, 9, 9, 9]]
    (fun j => [10960, 1363, 2134, 7122].getD j 0) nv_toolMulOK.qwf nv_toolMulOK.bskwf hMt hMt1 hMt0 nv_toolMulOK.qToBsk hc2 rfl (by decide) rfl
    (by decide) (by decide) (by decide) (by decide) (by decide +kernel)
  exact hok.trans (congrArg Except.ok (nv_val_of_ok hok (by decide +kernel)))

/-! ### `RNSBase::decompose` / `decompose_array` on the base {97, 113}: 5000 = (53, 28), 10960 = (96, 112) -/

theorem grw_decompose : GenR.rnsbase_decompose [5000, 0] nv_base.size nv_base.base.toList = .ok [53, 28] := by
  obtain ⟨out, hok, hlen, hv⟩ := gr_rnsbase_decompose_residues nv_base_wf [5000, 0] rfl (by decide) (Or.inl (by decide))
  rw [hok]
  congr 1
  have h2 : out.length = 2 := hlen
  apply list_eq_of_getD 0 h2
  intro j hj
  rw [h2] at hj
  rw [hv j hj]
  interval_cases j <;> rfl

theorem grw_decompose_refuses : GenR.rnsbase_decompose [5000, 0, 0] nv_base.size nv_base.base.toList = .error .refused :=
  gr_rnsbase_decompose_refuses nv_base [5000, 0, 0] (by decide)

theorem grw_decompose_array : GenR.rnsbase_decompose_array [5000, 0, 10960, 0] nv_base.size nv_base.base.toList = .ok [53, 96, 28, 112] := by
  obtain ⟨out, hok, hlen, hv⟩ := gr_rnsbase_decompose_array_residues nv_base_wf [[5000, 0], [10960, 0]] 2 (by decide) rfl (by decide) (by decide) (by decide)
  have h4 : out.length = 4 := hlen
  refine hok.trans (congrArg Except.ok (list_eq_of_getD 0 h4 fun p hp => ?_))
  rw [h4] at hp
  -- position p = i·2 + j holds the residue of value j modulo q_i
  interval_cases p
  exacts [hv 0 0 (by decide) (by decide), hv 0 1 (by decide) (by decide), hv 1 0 (by decide) (by decide), hv 1 1 (by decide) (by decide)]

/-! ### `exact_convey_array` / `decrypt_mod_t`: {97, 113} → {17} on `nv_c0` (CRT values 10960, 1363, 2134, 7122), DIRTY output buffer; the erased f64
    pipeline is instantiated with the exact rational rounding (cut to a u64) -/

theorem grw_eca_eq : GenR.exact_convey_array (flatP nv_c0) [9, 9, 9, 9] nv_conv.ibase.size nv_conv.obase.size nv_conv.ibase.invPunct.toList
      nv_conv.ibase.base.toList nv_conv.obase.base.toList (limbsOf nv_conv.ibase.size nv_conv.ibase.prod) (nv_conv.matrix.toList.map Array.toList)
      (fun l => exactRound nv_conv l % 2^64)
    = ((transpose nv_c0 4).toList.mapM (fun x => nv_conv.exactConvey x)) := by
  exact gr_exact_convey_array_eq nv_conv nv_base_wf nv_base17_wf (gr_matOK_new nv_base_wf nv_base17_wf nv_conv_new).2.2 rfl nv_c0 #[9, 9, 9, 9] 4 _
    rfl (by decide) (nv_all2 (by decide)) rfl (by decide) (fun l => Nat.mod_lt _ (by norm_num)) (by decide +kernel)

/-- the values: −1, 1363, 2134, −3839 (centred) modulo 17 -/
theorem grw_eca_val : GenR.exact_convey_array (flatP nv_c0) [9, 9, 9, 9] nv_conv.ibase.size nv_conv.obase.size nv_conv.ibase.invPunct.toList
      nv_conv.ibase.base.toList nv_conv.obase.base.toList (limbsOf nv_conv.ibase.size nv_conv.ibase.prod) (nv_conv.matrix.toList.map Array.toList)
      (fun l => exactRound nv_conv l % 2^64) = .ok [16, 3, 9, 3] := by
  rw [grw_eca_eq]; decide +kernel

/-! ### `fast_floor` end to end: Y = (−1, 1363, 2134, −3839) in base q ∪ Bsk (`nv_c0 ++ nv_p2` of NonVac.lean), dirty destination -/

theorem grw_ff_floor : ∃ out, GenR.fast_floor (flatP (nv_c0 ++ nv_p2)) (flatP #[#[9, 9, 9, 9], #[9, 9, 9, 9], #[9, 9, 9, 9]]) nv_tool.baseQ.size nv_tool.baseBsk.size
      nv_tool.n nv_tool.baseBsk.base.toList nv_tool.invProdQModBsk.toList (gr_convF nv_tool.qToBsk) = .ok out ∧
    ∀ j, j < nv_tool.n → ∃ alpha : Nat, alpha < nv_tool.baseQ.size ∧ ∀ i, i < nv_tool.baseBsk.size →
      ((out.getD (i * nv_tool.n + j) 0 : Nat) : Int) = (([-1, 1363, 2134, -3839] : List Int).getD j 0 / nv_tool.baseQ.prod - alpha) % (nv_tool.baseBsk.q i).value := by
  rw [nv_tool_eq]
  exact gr_fast_floor_floor nv_toolV (nv_c0 ++ nv_p2) #[#[9, 9, 9, 9], #[9, 9, 9, 9], #[9, 9, 9, 9]] (fun j => ([-1, 1363, 2134, -3839] : List Int).getD j 0)
    nv_toolMulOK.qwf nv_toolMulOK.bskwf nv_toolMulOK.qToBsk rfl (by decide) rfl (by decide) (by decide) (by decide)
    (fun i hi => (nv_toolMulOK.bsk i hi).2.2.2.2) (nv_all2 (by decide +kernel)) (nv_all2 (by decide +kernel))

/-! ### `RNSBase::compose` on {97, 113}: (53, 28) ↦ the limbs of 5000, and back -/

theorem grw_compose : GenR2.rnsbase_compose [53, 28] nv_base.size nv_base.base.toList nv_base.invPunct.toList (gr_punctRows nv_base) (limbsOf nv_base.size nv_base.prod)
    = .ok [5000, 0] := by
  obtain ⟨out, hok, -⟩ := gr_rnsbase_compose_crt nv_base_wf [53, 28] rfl (by decide)
  exact hok.trans (congrArg Except.ok (nv_val_of_ok hok (by decide +kernel)))

theorem grw_decompose_compose : ∃ out, GenR2.rnsbase_compose [53, 28] nv_base.size nv_base.base.toList nv_base.invPunct.toList (gr_punctRows nv_base)
      (limbsOf nv_base.size nv_base.prod) = .ok out ∧ GenR.rnsbase_decompose out nv_base.size nv_base.base.toList = .ok [53, 28] :=
  gr_decompose_compose_gen nv_base_wf [53, 28] rfl (by decide)

end HC
