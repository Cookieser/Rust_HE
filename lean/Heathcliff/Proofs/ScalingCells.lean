import Heathcliff.Proofs.C01J
import Heathcliff.Model.Scheme

/-!
  One cell of `multiply_add_plain` / `multiply_sub_plain` (src/util/scaling_variant.rs) and the hand model's traversal of cells: the scaled, rounded
  plaintext coefficient `Δ(m) = round(Q·m/t)` modulo `q_j`, added to / subtracted from a destination word (`gz_cell`, exact: `gz_sc_exact` with
  the arithmetic of Proofs/C01J.lean), the model functions `multiplyAddPlain` / `multiplySubPlain` (Model/Scheme.lean) as one traversal with the last
  step abstract (`gz_model`), and what a BFV level provides to it (`ScalingOK`).  No generated code is spoken of here: the model theorem of
  `multiplyAddPlain` (Proofs/C01I.lean) and the ties of the generated loops (Proofs/GenScaling.lean) both rest on this module.  Helper names start
  with `gz_`.
-/
namespace HC

/-- one scaled coefficient combined with one destination word (the body of the hand model's inner loop) -/
def gz_cell (f : Nat → Nat → Modulus → R Nat) (t qModT upperHalf : Nat) (q : Modulus) (op : MulOperand) (m d : Nat) : R Nat := do
  let lo := mulLo m qModT
  let hi := mulHi m qModT
  let (n0, carry) := addU64 lo upperHalf
  let n1 ← ckAdd hi carry
  if t = 0 then .error .other else
  let fix := ((n0 + B64 * n1) / t) % B64
  let sc ← mulOperandAddMod m op fix q
  f d sc q

def gz_model (f : Nat → Nat → Modulus → R Nat) (l : Level) (cdp : Array MulOperand) (qModT upperHalf : Nat)
    (plain : Poly) (dest : RnsPoly) : R RnsPoly :=
  if plain.size > l.n then .error .refused else
  (List.range l.size).foldlM (fun acc j => do
    let x ← (List.range l.n).foldlM (fun (c : Array Nat) i => do
      let v ← (if i < plain.size then
          gz_cell f l.t.value qModT upperHalf (l.q j) (cdp.getD j default) (plain.getD i 0) ((dest.getD j #[]).getD i 0)
        else pure ((dest.getD j #[]).getD i 0))
      pure (c.push v)) #[]
    pure (acc.push x)) #[]

theorem gz_model_add (l : Level) (cdp : Array MulOperand) (qModT upperHalf : Nat) (plain : Poly) (dest : RnsPoly) :
    multiplyAddPlain l cdp qModT upperHalf plain dest = gz_model addMod l cdp qModT upperHalf plain dest := by
  unfold multiplyAddPlain gz_model gz_cell
  simp only [← R.ite_bind, bind_assoc, pure_bind, R.error_bind']

theorem gz_model_sub (l : Level) (cdp : Array MulOperand) (qModT upperHalf : Nat) (plain : Poly) (dest : RnsPoly) :
    multiplySubPlain l cdp qModT upperHalf plain dest = gz_model subMod l cdp qModT upperHalf plain dest := by
  unfold multiplySubPlain gz_model gz_cell
  simp only [← R.ite_bind, bind_assoc, pure_bind, R.error_bind']

/-- a cell of the hand model: under the plaintext the scaled coefficient combined with the destination word, beyond it that word -/
def gz_mcell (f : Nat → Nat → Modulus → R Nat) (l : Level) (cdp : Array MulOperand) (qModT upperHalf : Nat) (plain : Poly) (dest : RnsPoly)
    (j i : Nat) : R Nat :=
  if i < plain.size then
    gz_cell f l.t.value qModT upperHalf (l.q j) (cdp.getD j default) (plain.getD i 0) ((dest.getD j #[]).getD i 0)
  else pure ((dest.getD j #[]).getD i 0)

theorem gz_model_mapM (f : Nat → Nat → Modulus → R Nat) (l : Level) (cdp : Array MulOperand) (qModT upperHalf : Nat)
    (plain : Poly) (dest : RnsPoly) (hp : plain.size ≤ l.n) :
    gz_model f l cdp qModT upperHalf plain dest =
      Except.map (fun rows => (rows.map List.toArray).toArray)
        ((List.range l.size).mapM fun j => (List.range l.n).mapM fun i => gz_mcell f l cdp qModT upperHalf plain dest j i) := by
  unfold gz_model
  rw [if_neg (by omega)]
  simp only [R.foldlM_push, R.mapM_map_after, gz_mcell]
  cases (List.range l.size).mapM fun j => (List.range l.n).mapM fun i =>
      if i < plain.size then
        gz_cell f l.t.value qModT upperHalf (l.q j) (cdp.getD j default) (plain.getD i 0) ((dest.getD j #[]).getD i 0)
      else pure ((dest.getD j #[]).getD i 0) with
  | error e => rfl
  | ok rows => simp [Except.map, R.ok_bind]

theorem gz_model_ok (f : Nat → Nat → Modulus → R Nat) (l : Level) (cdp : Array MulOperand) (qModT upperHalf : Nat)
    (plain : Poly) (dest : RnsPoly) (V : Nat → Nat → Nat) (hp : plain.size ≤ l.n)
    (h : ∀ j, j < l.size → ∀ i, i < plain.size →
      gz_cell f l.t.value qModT upperHalf (l.q j) (cdp.getD j default) (plain.getD i 0) ((dest.getD j #[]).getD i 0) = .ok (V i j)) :
    gz_model f l cdp qModT upperHalf plain dest =
      .ok ((List.range l.size).map fun j =>
        ((List.range l.n).map fun i => if i < plain.size then V i j else (dest.getD j #[]).getD i 0).toArray).toArray := by
  rw [gz_model_mapM f l cdp qModT upperHalf plain dest hp,
    R.mapM_ok _ (fun j => (List.range l.n).map fun i => if i < plain.size then V i j else (dest.getD j #[]).getD i 0) _ (fun j hj =>
      R.mapM_ok _ _ _ (fun i _ => by
        unfold gz_mcell
        by_cases hi : i < plain.size
        · rw [if_pos hi, if_pos hi]; exact h j (List.mem_range.mp hj) i hi
        · rw [if_neg hi, if_neg hi]; rfl))]
  simp only [Except.map, List.map_map]
  rfl

/-- the second half of a cell: scaled coefficient (with the rounding fix-up `fix` already computed) combined with the destination word -/
def gz_cell2 (f : Nat → Nat → Modulus → R Nat) (q : Modulus) (op : MulOperand) (m fix d : Nat) : R Nat := do
  let sc ← mulOperandAddMod m op fix q
  f d sc q

/-- the rounding fix-up ⌊((q mod t)·m + upperHalf) / t⌋ as the code computes it (two-word numerator, low word of the quotient) -/
def gz_fix (t qModT upperHalf m : Nat) : Nat :=
  (((addU64 (mulLo m qModT) upperHalf).1 + B64 * (mulHi m qModT + (addU64 (mulLo m qModT) upperHalf).2)) / t) % B64

theorem gz_ckAdd_hi {m qModT : Nat} (hm : m < 2^64) (hq : qModT < 2^64) (upperHalf : Nat) :
    ckAdd (mulHi m qModT) (addU64 (mulLo m qModT) upperHalf).2 = .ok (mulHi m qModT + (addU64 (mulLo m qModT) upperHalf).2) := by
  have hc : (addU64 (mulLo m qModT) upperHalf).2 ≤ 1 := by
    unfold addU64; simp only []; split <;> omega
  have hh : mulHi m qModT < B64 - 1 := by
    unfold mulHi
    apply Nat.div_lt_of_lt_mul
    have h1 : m * qModT ≤ (2^64 - 1) * (2^64 - 1) := Nat.mul_le_mul (by omega) (by omega)
    have h2 : (2^64 - 1) * (2^64 - 1) < B64 * (B64 - 1) := by decide
    omega
  unfold ckAdd
  rw [if_pos (by omega)]

theorem gz_cell_eq (f : Nat → Nat → Modulus → R Nat) {t qModT m : Nat} (ht : t ≠ 0) (hm : m < 2^64) (hq : qModT < 2^64)
    (upperHalf : Nat) (q : Modulus) (op : MulOperand) (d : Nat) :
    gz_cell f t qModT upperHalf q op m d = gz_cell2 f q op m (gz_fix t qModT upperHalf m) d := by
  unfold gz_cell gz_cell2 gz_fix
  simp only [gz_ckAdd_hi hm hq upperHalf, if_neg ht, bind, Except.bind]

/-- the scaled, rounded coefficient the code computes for one plaintext word in one component: `Δ(m) mod q_j` -/
theorem gz_sc_exact {mq : Modulus} (hq : mq.WF) {Q t m : Nat} (ht : 2 ≤ t) (ht64 : t < 2^61) (hm : m < t)
    {op : MulOperand} (hop : WFOp mq op) (hopv : op.operand = (Q / t) % mq.value) :
    mulOperandAddMod m op (gz_fix t (Q % t) ((t + 1) / 2) m) mq = .ok (deltaM Q t m % mq.value) := by
  have hlo : mulLo m (Q % t) < B64 := Nat.mod_lt _ B64_pos
  have hr : Q % t < t := Nat.mod_lt _ (by omega)
  have hh : (t + 1) / 2 < B64 := by rw [B64_eq]; omega
  have e := mulHiLo m (Q % t)
  have hprod : m * (Q % t) < t * t := Nat.mul_lt_mul'' hm hr
  have htt : t * t < 2^61 * 2^61 := Nat.mul_lt_mul'' ht64 ht64
  have hhi : mulHi m (Q % t) < 2^58 := by
    unfold mulHi
    apply Nat.div_lt_of_lt_mul
    rw [B64_eq]; omega
  have hs : addU64 (mulLo m (Q % t)) ((t + 1) / 2) =
      ((mulLo m (Q % t) + (t + 1) / 2) % B64, (mulLo m (Q % t) + (t + 1) / 2) / B64) :=
    Prod.ext (addU64_fst _ _) (addU64_snd hlo hh)
  unfold gz_fix
  rw [hs]
  simp only []
  have hnum : (mulLo m (Q % t) + (t + 1) / 2) % B64 +
      B64 * (mulHi m (Q % t) + (mulLo m (Q % t) + (t + 1) / 2) / B64) = (Q % t) * m + (t + 1) / 2 := by
    have := Nat.mod_add_div (mulLo m (Q % t) + (t + 1) / 2) B64
    rw [Nat.mul_add, Nat.mul_comm (Q % t) m, ← e]
    omega
  rw [hnum]
  have hfix : ((Q % t) * m + (t + 1) / 2) / t < 2^61 + 1 := by
    apply Nat.div_lt_of_lt_mul
    have h1 : (Q % t) * m + (t + 1) / 2 < t * t + t := by rw [Nat.mul_comm (Q % t) m]; omega
    have h2 : t * t + t = t * (t + 1) := by ring
    have h3 : t * (t + 1) ≤ t * (2^61 + 1) := Nat.mul_le_mul_left _ (by omega)
    omega
  rw [Nat.mod_eq_of_lt (by rw [B64_eq]; omega)]
  rw [mulOperandAddMod_exact hq (by omega) hop.1 (by omega) (c01j_wfop_new_eq hq hop)]
  have key : (m * (Q / t % mq.value) + ((Q % t) * m + (t + 1) / 2) / t) % mq.value =
      (Q / t * m + ((Q % t) * m + (t + 1) / 2) / t) % mq.value := by
    rw [Nat.add_mod, Nat.mul_mod_mod, ← Nat.add_mod, Nat.mul_comm]
  unfold deltaM
  rw [hopv, key]

/-- what the context of a BFV level provides to the scaling: well-formed moduli, a plain modulus `2 ≤ t < 2^61`, and for every
    component the Harvey operand of `⌊Q/t⌋ mod q_j` (`coeff_div_plain_modulus`; C13 ties these constants to their definitions) -/
structure ScalingOK (l : Level) (Q : Nat) (cdp : Array MulOperand) : Prop where
  qwf : ∀ j, j < l.size → (l.q j).WF
  t2 : 2 ≤ l.t.value
  t61 : l.t.value < 2^61
  cdpSize : l.size ≤ cdp.size
  op : ∀ j, j < l.size → WFOp (l.q j) (cdp.getD j default) ∧ (cdp.getD j default).operand = (Q / l.t.value) % (l.q j).value

end HC
