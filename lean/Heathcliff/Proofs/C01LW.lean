/- C01 part LW, non-vacuity: concrete two-level worlds built by the driver's own constructor `Drv.Sch.mkLevel` (Proofs/World.lean:
   N = 4, previous level q = {97, 113, 193}, level q = {97, 113}; t = 17 for BFV / BGV, t = 101 for the multi-word BGV lift, CKKS),
   with a GENUINE public key produced by the model's key generation.  Every hypothesis bundle of C01F–C01L is inhabited. -/
import Heathcliff.Proofs.C01V
import Heathcliff.Proofs.C01M
import Heathcliff.Proofs.World
namespace HC
open Finset

theorem c01w_n {s : Scheme} {qs : List Nat} {t : Nat} {l : Level} (h : Drv.Sch.mkLevel s 4 qs t = .ok l) : l.n = 4 :=
  (mkLevel_facts h).n_eq

theorem c01w_pl_ok_bfv : Drv.Sch.mkLevel .bfv 4 [97, 113, 193] 17 = .ok (c01w_pl .bfv 17) := c01w_lv_mk .bfv [97, 113, 193] 17
theorem c01w_l_ok_bfv : Drv.Sch.mkLevel .bfv 4 [97, 113] 17 = .ok (c01w_l .bfv 17) := c01w_lv_mk .bfv [97, 113] 17

theorem c01w_prev_bfv : PrevLevelOK (c01w_pl .bfv 17) (c01w_l .bfv 17) :=
  mkLevel_prevLevelOK c01w_l_ok_bfv c01w_pl_ok_bfv (by decide)

def c01w_sk : Array Int := #[1, 0, -1, 1]
def c01w_a : RnsPoly := #[#[5, 96, 3, 0], #[112, 7, 0, 1], #[100, 3, 192, 17]]
def c01w_epk : Array Int := #[1, -2, 0, 3]
def c01w_u : Array Int := #[1, 0, -1, 1]
def c01w_e0 : Array Int := #[-3, 21, 0, 2]
def c01w_e1 : Array Int := #[4, -21, 1, 0]
def c01w_plain : Poly := #[3, 16, 0, 9]

/-- polynomial 0 of the public key the model's key generation produces at level `kl` -/
def c01w_pk0 (kl : Level) : RnsPoly :=
  ((genPublicKey kl c01w_sk (c01w_a.extract 0 kl.size) (rnsOfInt kl c01w_epk) false).toOption.map (fun c => c.polys.getD 0 #[])).getD #[]

theorem c01w_natAbs_le {a : Array Int} {B : Nat} (h : ∀ p, p < a.size → (a.getD p 0).natAbs ≤ B) (n : Nat) :
    ∀ p, p < n → (a.getD p 0).natAbs ≤ B := by
  intro p _
  by_cases hp : p < a.size
  · exact h p hp
  · simp [Array.getD, hp]

theorem c01w_sk_tern (n : Nat) : ∀ p, p < n → (c01w_sk.getD p 0).natAbs ≤ 1 := c01w_natAbs_le (by decide) n
theorem c01w_epk_le (n : Nat) : ∀ p, p < n → (c01w_epk.getD p 0).natAbs ≤ 21 := c01w_natAbs_le (by decide) n
theorem c01w_u_tern (n : Nat) : ∀ p, p < n → (c01w_u.getD p 0).natAbs ≤ 1 := c01w_natAbs_le (by decide) n
theorem c01w_e0_le (n : Nat) : ∀ p, p < n → (c01w_e0.getD p 0).natAbs ≤ 21 := c01w_natAbs_le (by decide) n
theorem c01w_e1_le (n : Nat) : ∀ p, p < n → (c01w_e1.getD p 0).natAbs ≤ 21 := c01w_natAbs_le (by decide) n

theorem c01w_a_canon {s : Scheme} {qs : List Nat} {t : Nat} {l : Level} (h : Drv.Sch.mkLevel s 4 qs t = .ok l)
    (hqs : qs = [97, 113, 193] ∨ qs = [97, 113]) : RnsCanon l (c01w_a.extract 0 l.size) := by
  have m := mkLevel_facts h
  rw [m.size_eq]
  rcases hqs with rfl | rfl <;> exact m.canon (by decide)

/-- `PkRel` by the THEOREM `genPublicKey_pkRel`, not by evaluation -/
theorem c01w_genPk {s : Scheme} {qs : List Nat} {t : Nat} {kl : Level} (h : Drv.Sch.mkLevel s 4 qs t = .ok kl)
    (hqs : qs = [97, 113, 193] ∨ qs = [97, 113]) :
    genPublicKey kl c01w_sk (c01w_a.extract 0 kl.size) (rnsOfInt kl c01w_epk) false
        = .ok ⟨#[c01w_pk0 kl, c01w_a.extract 0 kl.size], true, 1⟩ ∧
      PkRel kl c01w_sk (fun c => (encTT kl : Int) * (fun p => c01w_epk.getD p 0) c) (c01w_pk0 kl) (c01w_a.extract 0 kl.size) := by
  obtain ⟨pk0, hg, -, hrel⟩ := genPublicKey_pkRel (mkLevel_facts h).wf (mkLevel_facts h).t64 (sk := c01w_sk) (by rw [c01w_n h]; rfl)
    (c01w_a_canon h hqs) (e := c01w_epk) (by rw [c01w_n h]; rfl) false
  have : c01w_pk0 kl = pk0 := by unfold c01w_pk0; rw [hg]; rfl
  rw [this]
  exact ⟨hg, hrel⟩

def c01w_cdp : Array MulOperand := #[⟨62, 11790702397628785568⟩, ⟨79, 12896396299319067058⟩]

theorem c01w_scalingOK : ScalingOK (c01w_l .bfv 17) (Spec.prodL (c01p_qvals (c01w_l .bfv 17))) c01w_cdp := by
  have m := mkLevel_facts c01w_l_ok_bfv
  refine ⟨fun j hj => (c01o_level_comp m.wf hj).2.2.2, by rw [m.t_eq]; decide, by rw [m.t_eq]; decide, by rw [m.size_eq]; decide,
    fun j hj => ?_⟩
  unfold WFOp
  rw [m.qvals, m.t_eq, m.q_value hj]
  rw [m.size_eq] at hj
  revert j
  decide

/-- NON-VACUITY of `bfv_encrypt_decrypt_pk_sp` (and of `PrevLevelOK`, `encryptZeroInternal_fresh_pk_prev(_bounded)`,
    `encDivideQLast_fresh`, `genPublicKey_pkRel`): all hypotheses hold simultaneously in the concrete world, hence the conclusion -/
theorem c01w_bfv_sp_hypotheses_satisfiable :
    ∃ ct, bfvEncrypt (c01w_l .bfv 17) c01w_cdp (Spec.prodL (c01p_qvals (c01w_l .bfv 17)) % (c01w_l .bfv 17).t.value)
        (((c01w_l .bfv 17).t.value + 1) / 2)
        (.asym (some (c01w_pl .bfv 17)) #[c01w_pk0 (c01w_pl .bfv 17), c01w_a.extract 0 (c01w_pl .bfv 17).size]
          (rnsOfInt (c01w_pl .bfv 17) c01w_u) #[rnsOfInt (c01w_pl .bfv 17) c01w_e0, rnsOfInt (c01w_pl .bfv 17) c01w_e1]) c01w_plain
        = .ok ct ∧
      bfvDecrypt (c01w_l .bfv 17) c01w_sk ct = .ok (trimPlain (padPlain (c01w_l .bfv 17).n c01w_plain)) := by
  have a := mkLevel_facts c01w_pl_ok_bfv
  have b := mkLevel_facts c01w_l_ok_bfv
  refine bfv_encrypt_decrypt_pk_sp c01w_prev_bfv b.wf (b.dec (by decide)) b.scheme_eq c01w_scalingOK (by rw [b.n_eq]; rfl)
    (c01w_sk_tern _) (c01w_genPk c01w_pl_ok_bfv (.inl rfl)).2 (c01w_epk_le _)
    (by rw [a.n_eq]; rfl) (by rw [a.n_eq]; rfl) (by rw [a.n_eq]; rfl)
    (c01w_u_tern _) (c01w_e0_le _) (c01w_e1_le _)
    (by rw [b.n_eq]; decide) (by rw [b.t_eq]; decide) ?_
  rw [c01v_last_q (lqs := [97, 113]) a.qvals, b.n_eq]
  exact mkLevel_freshEncOK c01w_l_ok_bfv (by decide) (by decide)

theorem c01w_pl_ok_bgv : Drv.Sch.mkLevel .bgv 4 [97, 113, 193] 17 = .ok (c01w_pl .bgv 17) := c01w_lv_mk .bgv [97, 113, 193] 17
theorem c01w_l_ok_bgv : Drv.Sch.mkLevel .bgv 4 [97, 113] 17 = .ok (c01w_l .bgv 17) := c01w_lv_mk .bgv [97, 113] 17
theorem c01w_pl_ok_bgv101 : Drv.Sch.mkLevel .bgv 4 [97, 113, 193] 101 = .ok (c01w_pl .bgv 101) :=
  c01w_lv_mk .bgv [97, 113, 193] 101
theorem c01w_l_ok_bgv101 : Drv.Sch.mkLevel .bgv 4 [97, 113] 101 = .ok (c01w_l .bgv 101) :=
  c01w_lv_mk .bgv [97, 113] 101

theorem c01w_prev_bgv : PrevLevelOK (c01w_pl .bgv 17) (c01w_l .bgv 17) :=
  mkLevel_prevLevelOK c01w_l_ok_bgv c01w_pl_ok_bgv (by decide)

theorem c01w_liftOK_fast : BgvLiftOK (c01w_l .bgv 17) true 9 #[80, 96] := bgvIncr_liftOK c01w_l_ok_bgv (by decide)
theorem c01w_liftOK_multiword : BgvLiftOK (c01w_l .bgv 101) false 51 #[10860, 0] := bgvIncr_liftOK c01w_l_ok_bgv101 (by decide)

/-- NON-VACUITY of `bgv_encrypt_decrypt_pk` (fast plaintext lift) -/
theorem c01w_bgv_pk_hypotheses_satisfiable :
    ∃ ct, bgvEncrypt (c01w_l .bgv 17) true 9 #[80, 96]
        (.asym none #[c01w_pk0 (c01w_l .bgv 17), c01w_a.extract 0 (c01w_l .bgv 17).size]
          (rnsOfInt (c01w_l .bgv 17) c01w_u) #[rnsOfInt (c01w_l .bgv 17) c01w_e0, rnsOfInt (c01w_l .bgv 17) c01w_e1]) c01w_plain = .ok ct ∧
      ct.cf = 1 ∧ bgvDecrypt (c01w_l .bgv 17) c01w_sk ct = .ok (trimPlain (padPlain (c01w_l .bgv 17).n c01w_plain)) := by
  have b := mkLevel_facts c01w_l_ok_bgv
  exact bgv_encrypt_decrypt_pk b.wf (b.dec (by decide)) b.scheme_eq c01w_liftOK_fast (by rw [b.n_eq]; rfl)
    (c01w_sk_tern _) (c01w_genPk c01w_l_ok_bgv (.inr rfl)).2 (c01w_epk_le _)
    (by rw [b.n_eq]; rfl) (by rw [b.n_eq]; rfl) (by rw [b.n_eq]; rfl)
    (c01w_u_tern _) (c01w_e0_le _) (c01w_e1_le _)
    (by rw [b.n_eq]; decide) (by rw [b.t_eq]; decide) (by rw [b.n_eq]; exact (mkLevel_freshEncOKBgv c01w_l_ok_bgv).2 (by decide))

/-- NON-VACUITY of `bgv_encrypt_decrypt_pk_sp` -/
theorem c01w_bgv_sp_hypotheses_satisfiable :
    ∃ ct, bgvEncrypt (c01w_l .bgv 17) true 9 #[80, 96]
        (.asym (some (c01w_pl .bgv 17)) #[c01w_pk0 (c01w_pl .bgv 17), c01w_a.extract 0 (c01w_pl .bgv 17).size]
          (rnsOfInt (c01w_pl .bgv 17) c01w_u) #[rnsOfInt (c01w_pl .bgv 17) c01w_e0, rnsOfInt (c01w_pl .bgv 17) c01w_e1]) c01w_plain
        = .ok ct ∧
      ct.cf = 1 ∧ bgvDecrypt (c01w_l .bgv 17) c01w_sk ct = .ok (trimPlain (padPlain (c01w_l .bgv 17).n c01w_plain)) := by
  have a := mkLevel_facts c01w_pl_ok_bgv
  have b := mkLevel_facts c01w_l_ok_bgv
  refine bgv_encrypt_decrypt_pk_sp c01w_prev_bgv b.wf (b.dec (by decide)) b.scheme_eq c01w_liftOK_fast (by rw [b.n_eq]; rfl)
    (c01w_sk_tern _) (c01w_genPk c01w_pl_ok_bgv (.inl rfl)).2 (c01w_epk_le _)
    (by rw [a.n_eq]; rfl) (by rw [a.n_eq]; rfl) (by rw [a.n_eq]; rfl)
    (c01w_u_tern _) (c01w_e0_le _) (c01w_e1_le _)
    (by rw [b.n_eq]; decide) (by rw [b.t_eq]; decide) ?_
  rw [c01v_last_q (lqs := [97, 113]) a.qvals, b.n_eq]
  exact (mkLevel_freshEncOKBgv c01w_l_ok_bgv).2 (by decide)

def c01w_plain101 : Poly := #[3, 100, 50, 51]
def c01w_esmall : Array Int := #[1, -1, 0, 1]

/-- NON-VACUITY of `bgv_encrypt_decrypt_sk` with the MULTI-WORD plaintext lift (t = 101 ≥ q_0 = 97), both seed variants -/
theorem c01w_bgv_sk_hypotheses_satisfiable (saveSeed : Bool) :
    ∃ ct, bgvEncrypt (c01w_l .bgv 101) false 51 #[10860, 0]
        (.sym c01w_sk (c01w_a.extract 0 (c01w_l .bgv 101).size) (rnsOfInt (c01w_l .bgv 101) c01w_esmall) saveSeed) c01w_plain101 = .ok ct ∧
      ct.cf = 1 ∧ bgvDecrypt (c01w_l .bgv 101) c01w_sk ct = .ok (trimPlain (padPlain (c01w_l .bgv 101).n c01w_plain101)) := by
  have b := mkLevel_facts c01w_l_ok_bgv101
  exact bgv_encrypt_decrypt_sk b.wf (b.dec (by decide)) b.scheme_eq c01w_liftOK_multiword (by rw [b.n_eq]; rfl)
    (c01w_a_canon c01w_l_ok_bgv101 (.inr rfl)) (by rw [b.n_eq]; rfl) (c01w_natAbs_le (B := 1) (by decide) _) saveSeed
    (by rw [b.n_eq]; decide) (by rw [b.t_eq]; decide) ((mkLevel_freshEncOKBgv c01w_l_ok_bgv101).2 (by decide))

theorem c01w_pl_ok_ckks : Drv.Sch.mkLevel .ckks 4 [97, 113, 193] 0 = .ok (c01w_pl .ckks 0) :=
  c01w_lv_mk .ckks [97, 113, 193] 0
theorem c01w_l_ok_ckks : Drv.Sch.mkLevel .ckks 4 [97, 113] 0 = .ok (c01w_l .ckks 0) := c01w_lv_mk .ckks [97, 113] 0

theorem c01w_prev_ckks : PrevLevelOK (c01w_pl .ckks 0) (c01w_l .ckks 0) :=
  mkLevel_prevLevelOK c01w_l_ok_ckks c01w_pl_ok_ckks (by decide)

def c01w_ckksPlain : RnsPoly := #[#[1, 2, 3, 4], #[5, 6, 7, 8]]

theorem c01w_ckksPlain_canon : RnsCanon (c01w_l .ckks 0) c01w_ckksPlain := (mkLevel_facts c01w_l_ok_ckks).canon (by decide)

/-- NON-VACUITY of `ckks_encrypt_decrypt_pk_sp` -/
theorem c01w_ckks_sp_hypotheses_satisfiable :
    ∃ (ν : Nat → Int) (ct : Ct) (dec : RnsPoly),
      (∀ c, c < (c01w_l .ckks 0).n → (ν c).natAbs ≤
        spBound ((c01w_pl .ckks 0).q ((c01w_pl .ckks 0).size - 1)).value (21 * (2 * (c01w_l .ckks 0).n + 1)) 1 (c01w_l .ckks 0).n) ∧
      ckksEncrypt (c01w_l .ckks 0)
        (.asym (some (c01w_pl .ckks 0)) #[c01w_pk0 (c01w_pl .ckks 0), c01w_a.extract 0 (c01w_pl .ckks 0).size]
          (rnsOfInt (c01w_pl .ckks 0) c01w_u) #[rnsOfInt (c01w_pl .ckks 0) c01w_e0, rnsOfInt (c01w_pl .ckks 0) c01w_e1])
        c01w_ckksPlain = .ok ct ∧
      ckksDecrypt (c01w_l .ckks 0) c01w_sk ct = .ok dec ∧ RnsCanon (c01w_l .ckks 0) dec ∧
      ∀ i, i < (c01w_l .ckks 0).size → ∀ c, c < (c01w_l .ckks 0).n →
        (((intt ((c01w_l .ckks 0).tbl i) (dec.getD i #[])).getD c 0 : Nat) : Int) ≡
          (((intt ((c01w_l .ckks 0).tbl i) (c01w_ckksPlain.getD i #[])).getD c 0 : Nat) : Int) + ν c
          [ZMOD (((c01w_l .ckks 0).q i).value : Int)] := by
  have a := mkLevel_facts c01w_pl_ok_ckks
  have b := mkLevel_facts c01w_l_ok_ckks
  exact ckks_encrypt_decrypt_pk_sp c01w_prev_ckks b.wf b.scheme_eq (by rw [b.n_eq]; rfl)
    (c01w_sk_tern _) (c01w_genPk c01w_pl_ok_ckks (.inl rfl)).2 (c01w_epk_le _)
    (by rw [a.n_eq]; rfl) (by rw [a.n_eq]; rfl) (by rw [a.n_eq]; rfl)
    (c01w_u_tern _) (c01w_e0_le _) (c01w_e1_le _) c01w_ckksPlain_canon

/-- NON-VACUITY of `ckks_encrypt_decrypt_sk` / `ckks_encrypt_decrypt_pk` hypotheses (level bundles, canonical plaintext) -/
theorem c01w_ckks_sk_hypotheses_satisfiable (saveSeed : Bool) :
    ∃ (ct : Ct) (dec : RnsPoly),
      ckksEncrypt (c01w_l .ckks 0) (.sym c01w_sk (c01w_a.extract 0 (c01w_l .ckks 0).size) (rnsOfInt (c01w_l .ckks 0) c01w_esmall) saveSeed)
        c01w_ckksPlain = .ok ct ∧
      ckksDecrypt (c01w_l .ckks 0) c01w_sk ct = .ok dec ∧ RnsCanon (c01w_l .ckks 0) dec ∧
      ∀ i, i < (c01w_l .ckks 0).size → ∀ c, c < (c01w_l .ckks 0).n →
        (((intt ((c01w_l .ckks 0).tbl i) (dec.getD i #[])).getD c 0 : Nat) : Int) ≡
          (((intt ((c01w_l .ckks 0).tbl i) (c01w_ckksPlain.getD i #[])).getD c 0 : Nat) : Int) + - c01w_esmall.getD c 0
          [ZMOD (((c01w_l .ckks 0).q i).value : Int)] := by
  have b := mkLevel_facts c01w_l_ok_ckks
  exact ckks_encrypt_decrypt_sk b.wf b.lq b.tool b.scheme_eq b.t64 (by rw [b.n_eq]; rfl)
    (c01w_a_canon c01w_l_ok_ckks (.inr rfl)) (by rw [b.n_eq]; rfl) saveSeed c01w_ckksPlain_canon

/-- NON-VACUITY of `ckks_encrypt_decrypt_pk` (level without a previous level) -/
theorem c01w_ckks_pk_hypotheses_satisfiable :
    ∃ (ν : Nat → Int) (ct : Ct) (dec : RnsPoly), (∀ c, c < (c01w_l .ckks 0).n → (ν c).natAbs ≤ 21 * (2 * (c01w_l .ckks 0).n + 1)) ∧
      ckksEncrypt (c01w_l .ckks 0)
        (.asym none #[c01w_pk0 (c01w_l .ckks 0), c01w_a.extract 0 (c01w_l .ckks 0).size]
          (rnsOfInt (c01w_l .ckks 0) c01w_u) #[rnsOfInt (c01w_l .ckks 0) c01w_e0, rnsOfInt (c01w_l .ckks 0) c01w_e1])
        c01w_ckksPlain = .ok ct ∧
      ckksDecrypt (c01w_l .ckks 0) c01w_sk ct = .ok dec ∧ RnsCanon (c01w_l .ckks 0) dec ∧
      ∀ i, i < (c01w_l .ckks 0).size → ∀ c, c < (c01w_l .ckks 0).n →
        (((intt ((c01w_l .ckks 0).tbl i) (dec.getD i #[])).getD c 0 : Nat) : Int) ≡
          (((intt ((c01w_l .ckks 0).tbl i) (c01w_ckksPlain.getD i #[])).getD c 0 : Nat) : Int) + ν c
          [ZMOD (((c01w_l .ckks 0).q i).value : Int)] := by
  have b := mkLevel_facts c01w_l_ok_ckks
  exact ckks_encrypt_decrypt_pk b.wf b.lq b.tool b.scheme_eq b.t64 (by rw [b.n_eq]; rfl)
    (c01w_sk_tern _) (c01w_genPk c01w_l_ok_ckks (.inr rfl)).2 (c01w_epk_le _)
    (by rw [b.n_eq]; rfl) (by rw [b.n_eq]; rfl) (by rw [b.n_eq]; rfl)
    (c01w_u_tern _) (c01w_e0_le _) (c01w_e1_le _) c01w_ckksPlain_canon

/-- NON-VACUITY of `LevelPrefix` / `PkRel.lower`: the relation of the key generated at the previous level {97, 113, 193} holds at the
    level {97, 113} for the same key polynomials (what `encrypt_zero_at` uses at a lower level) -/
theorem c01w_pkRel_lower :
    PkRel (c01w_l .bfv 17) c01w_sk (fun c => (encTT (c01w_pl .bfv 17) : Int) * (fun p => c01w_epk.getD p 0) c)
      (c01w_pk0 (c01w_pl .bfv 17)) (c01w_a.extract 0 (c01w_pl .bfv 17).size) :=
  PkRel.lower c01w_prev_bfv.levelPrefix (c01w_genPk c01w_pl_ok_bfv (.inl rfl)).2

end HC
