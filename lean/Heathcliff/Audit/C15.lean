/- Audit of property C15: `#print axioms` for every property theorem of Props/C15.lean; `audit()` of tools/runner.py elaborates this file
   and compares each axiom list with the three standard axioms. -/
import Heathcliff.Props.C15
#print axioms HC.C15.gen_field_order_agrees
#print axioms HC.C15.gen_writers_use_write_all
#print axioms HC.C15.gen_readers_propagate
#print axioms HC.C15.gen_no_raw_io_elsewhere
#print axioms HC.C15.write_all_total
#print axioms HC.C15.write_all_succeeds
#print axioms HC.C15.serialize_faulty
#print axioms HC.C15.serialize_faulty_chunks
#print axioms HC.C15.pinned_writers_violate
#print axioms HC.C15.truncation_is_error
#print axioms HC.C15.truncation_is_eof
#print axioms HC.C15.modelled_types_lawful
#print axioms HC.C15.write_all_interrupts_invisible
#print axioms HC.C15.serialize_interrupts_invisible
#print axioms HC.C15.serialize_faulty_interrupting
#print axioms HC.C15.pinned_writers_not_interrupt_safe
#print axioms HC.C15.gen_source_writers_are_model_serialize
#print axioms HC.C15.gen_source_writers_fail_cleanly
#print axioms HC.C15.gen_source_readers_truncation
#print axioms HC.C15.gen_limited_writer_panics_after_writing
#print axioms HC.C15.gen_source_mode_is_table_mode
#print axioms HC.C15.gen_ct_serialize_full_fails_cleanly
#print axioms HC.C15.gen_ct_serialize_fails_cleanly
#print axioms HC.C15.gen_kswitch_serialize_fails_cleanly
#print axioms HC.C15.gen_source_writers_interrupting
#print axioms HC.C15.gen_params_writer_interrupt_safe
#print axioms HC.C15.gen_ct_full_reader_truncation
#print axioms HC.C15.gen_reader_truncation_of_monotone
#print axioms HC.C15.gen_ct_reader_truncation_partial
