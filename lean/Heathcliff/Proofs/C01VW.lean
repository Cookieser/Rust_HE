/- C01 part V, non-vacuity: the hypotheses of the driver-object end-to-end theorems (`DrvCtx`, every constructor of `DrvMode`, the
   margins) are inhabited simultaneously in the concrete worlds of C01LW (N = 4, key level q = {97, 113, 193}, GENUINE public key from the
   model's key generation): BFV / BGV / CKKS × {public key at the head of the chain, through the special prime, at a lower level,
   secret key, seed-compressed}. -/
import Heathcliff.Proofs.C01V
import Heathcliff.Proofs.C01LW
namespace HC
open Finset

theorem c01vw_ctx {s : Scheme} {t : Nat} (hkl : Drv.Sch.mkLevel s 4 [97, 113, 193] t = .ok (c01w_pl s t)) (hbgv : s = .bgv → t ≠ 0) :
    DrvCtx s 4 t [97, 113, 193] (c01w_pl s t) c01w_sk (c01w_pk0 (c01w_pl s t)) (c01w_a.extract 0 (c01w_pl s t).size) :=
  ⟨hkl, hbgv, rfl, by decide, c01w_epk, false, rfl, by decide, c01w_a_canon hkl (.inl rfl), (c01w_genPk hkl (.inl rfl)).1⟩

theorem c01vw_ctx_bfv : DrvCtx .bfv 4 17 [97, 113, 193] (c01w_pl .bfv 17) c01w_sk (c01w_pk0 (c01w_pl .bfv 17))
    (c01w_a.extract 0 (c01w_pl .bfv 17).size) := c01vw_ctx c01w_pl_ok_bfv (by decide)
theorem c01vw_ctx_bgv : DrvCtx .bgv 4 17 [97, 113, 193] (c01w_pl .bgv 17) c01w_sk (c01w_pk0 (c01w_pl .bgv 17))
    (c01w_a.extract 0 (c01w_pl .bgv 17).size) := c01vw_ctx c01w_pl_ok_bgv (by decide)
theorem c01vw_ctx_ckks : DrvCtx .ckks 4 0 [97, 113, 193] (c01w_pl .ckks 0) c01w_sk (c01w_pk0 (c01w_pl .ckks 0))
    (c01w_a.extract 0 (c01w_pl .ckks 0).size) := c01vw_ctx c01w_pl_ok_ckks (by decide)

/-- special-prime path: level {97, 113}, previous level = key level {97, 113, 193} (r = []) -/
theorem c01vw_mode_sp {s : Scheme} {t : Nat} {pk0 pk1 : RnsPoly} (hpl : Drv.Sch.mkLevel s 4 [97, 113, 193] t = .ok (c01w_pl s t)) :
    DrvMode s 4 t [97, 113, 193] c01w_sk pk0 pk1 [97, 113] (c01w_l s t)
      (.asym (some (c01w_pl s t)) #[pk0, pk1] (rnsOfInt (c01w_pl s t) c01w_u) #[rnsOfInt (c01w_pl s t) c01w_e0, rnsOfInt (c01w_pl s t) c01w_e1])
      (spBound 193 (21 * (2 * 4 + 1)) (drvSlack s) 4) :=
  DrvMode.pkPrev (qL := 193) (r := []) rfl hpl rfl rfl rfl (by decide) (by decide) (by decide)

/-- head of the chain: level = key level {97, 113, 193}, no previous level (r = []) -/
theorem c01vw_mode_head (s : Scheme) (t : Nat) (pk0 pk1 : RnsPoly) :
    DrvMode s 4 t [97, 113, 193] c01w_sk pk0 pk1 [97, 113, 193] (c01w_pl s t)
      (.asym none #[pk0, pk1] (rnsOfInt (c01w_pl s t) c01w_u) #[rnsOfInt (c01w_pl s t) c01w_e0, rnsOfInt (c01w_pl s t) c01w_e1])
      (21 * (2 * 4 + 1)) :=
  DrvMode.pk (r := []) rfl rfl rfl rfl (by decide) (by decide) (by decide)

/-- a LOWER level: level {97}, previous level {97, 113}, key level {97, 113, 193} (r = [193]) -/
theorem c01vw_mode_lower {s : Scheme} {t : Nat} {pk0 pk1 : RnsPoly} (hpl : Drv.Sch.mkLevel s 4 [97, 113] t = .ok (c01w_l s t)) :
    DrvMode s 4 t [97, 113, 193] c01w_sk pk0 pk1 [97] (c01w_lv s [97] t)
      (.asym (some (c01w_l s t)) #[pk0, pk1] (rnsOfInt (c01w_l s t) c01w_u) #[rnsOfInt (c01w_l s t) c01w_e0, rnsOfInt (c01w_l s t) c01w_e1])
      (spBound 113 (21 * (2 * 4 + 1)) (drvSlack s) 4) :=
  DrvMode.pkPrev (qL := 113) (r := [193]) rfl hpl rfl rfl rfl (by decide) (by decide) (by decide)

/-- secret key / seed-compressed at level {97, 113} -/
theorem c01vw_mode_sk {s : Scheme} {t : Nat} (pk0 pk1 : RnsPoly) (hl : Drv.Sch.mkLevel s 4 [97, 113] t = .ok (c01w_l s t))
    (saveSeed : Bool) :
    DrvMode s 4 t [97, 113, 193] c01w_sk pk0 pk1 [97, 113] (c01w_l s t)
      (.sym c01w_sk (c01w_a.extract 0 (c01w_l s t).size) (rnsOfInt (c01w_l s t) c01w_e0) saveSeed) 21 :=
  DrvMode.sk (e := c01w_e0) (c01w_a_canon hl (.inr rfl)) rfl (by decide) saveSeed

/-- NON-VACUITY of `drv_bfv_encrypt_decrypt`, special-prime path (B = 3; margin on the inputs: 4·17·4 ≤ 97·113) -/
theorem c01vw_bfv_sp :
    ∃ cdp ct, Drv.C01E.bfvConsts (c01w_l .bfv 17) [97, 113] 17 = .ok cdp ∧
      bfvEncrypt (c01w_l .bfv 17) cdp (Spec.prodL [97, 113] % 17) ((17 + 1) / 2)
        (.asym (some (c01w_pl .bfv 17)) #[c01w_pk0 (c01w_pl .bfv 17), c01w_a.extract 0 (c01w_pl .bfv 17).size]
          (rnsOfInt (c01w_pl .bfv 17) c01w_u) #[rnsOfInt (c01w_pl .bfv 17) c01w_e0, rnsOfInt (c01w_pl .bfv 17) c01w_e1]) c01w_plain = .ok ct ∧
      bfvDecrypt (c01w_l .bfv 17) c01w_sk ct = .ok (trimPlain (padPlain 4 c01w_plain)) :=
  drv_bfv_encrypt_decrypt c01vw_ctx_bfv c01w_l_ok_bfv (by decide) (c01vw_mode_sp c01w_pl_ok_bfv) (by decide) (by decide)
    (mkLevel_freshEncOK c01w_l_ok_bfv (by decide) (by decide))

/-- NON-VACUITY of `drv_bfv_encrypt_decrypt_inputs`, head of the chain (margin on the inputs: 4·17·190 ≤ 97·113·193) -/
theorem c01vw_bfv_head :
    ∃ cdp ct, Drv.C01E.bfvConsts (c01w_pl .bfv 17) [97, 113, 193] 17 = .ok cdp ∧
      bfvEncrypt (c01w_pl .bfv 17) cdp (Spec.prodL [97, 113, 193] % 17) ((17 + 1) / 2)
        (.asym none #[c01w_pk0 (c01w_pl .bfv 17), c01w_a.extract 0 (c01w_pl .bfv 17).size]
          (rnsOfInt (c01w_pl .bfv 17) c01w_u) #[rnsOfInt (c01w_pl .bfv 17) c01w_e0, rnsOfInt (c01w_pl .bfv 17) c01w_e1]) c01w_plain = .ok ct ∧
      bfvDecrypt (c01w_pl .bfv 17) c01w_sk ct = .ok (trimPlain (padPlain 4 c01w_plain)) :=
  drv_bfv_encrypt_decrypt_inputs c01vw_ctx_bfv c01w_pl_ok_bfv (by decide) (c01vw_mode_head _ _ _ _) (by decide) (by decide) (by decide)

/-- NON-VACUITY, secret key and seed-compressed (margin on the inputs: 4·17·22 ≤ 97·113) -/
theorem c01vw_bfv_sk (saveSeed : Bool) :
    ∃ cdp ct, Drv.C01E.bfvConsts (c01w_l .bfv 17) [97, 113] 17 = .ok cdp ∧
      bfvEncrypt (c01w_l .bfv 17) cdp (Spec.prodL [97, 113] % 17) ((17 + 1) / 2)
        (.sym c01w_sk (c01w_a.extract 0 (c01w_l .bfv 17).size) (rnsOfInt (c01w_l .bfv 17) c01w_e0) saveSeed) c01w_plain = .ok ct ∧
      bfvDecrypt (c01w_l .bfv 17) c01w_sk ct = .ok (trimPlain (padPlain 4 c01w_plain)) :=
  drv_bfv_encrypt_decrypt_inputs c01vw_ctx_bfv c01w_l_ok_bfv (by decide) (c01vw_mode_sk _ _ c01w_l_ok_bfv saveSeed)
    (by decide) (by decide) (by decide)

/-- NON-VACUITY of `drv_bfv_encrypt_zero_decrypt` (`encrypt_zero_at` through the special prime decrypts to the zero plaintext) -/
theorem c01vw_bfv_zero :
    ∃ z, encryptZeroInternal (c01w_l .bfv 17)
        (.asym (some (c01w_pl .bfv 17)) #[c01w_pk0 (c01w_pl .bfv 17), c01w_a.extract 0 (c01w_pl .bfv 17).size]
          (rnsOfInt (c01w_pl .bfv 17) c01w_u) #[rnsOfInt (c01w_pl .bfv 17) c01w_e0, rnsOfInt (c01w_pl .bfv 17) c01w_e1]) = .ok z ∧
      bfvDecrypt (c01w_l .bfv 17) c01w_sk z = .ok #[0] :=
  drv_bfv_encrypt_zero_decrypt c01vw_ctx_bfv c01w_l_ok_bfv (by decide) (c01vw_mode_sp c01w_pl_ok_bfv)
    (mkLevel_freshEncOK c01w_l_ok_bfv (by decide) (by decide))

/-- NON-VACUITY of `drv_bgv_encrypt_decrypt`: special-prime path -/
theorem c01vw_bgv_sp :
    ∃ ct, bgvEncrypt (c01w_l .bgv 17) (Drv.C01E.bgvIncr [97, 113] 17).1 ((17 + 1) / 2) (Drv.C01E.bgvIncr [97, 113] 17).2
        (.asym (some (c01w_pl .bgv 17)) #[c01w_pk0 (c01w_pl .bgv 17), c01w_a.extract 0 (c01w_pl .bgv 17).size]
          (rnsOfInt (c01w_pl .bgv 17) c01w_u) #[rnsOfInt (c01w_pl .bgv 17) c01w_e0, rnsOfInt (c01w_pl .bgv 17) c01w_e1]) c01w_plain = .ok ct ∧
      ct.cf = 1 ∧ bgvDecrypt (c01w_l .bgv 17) c01w_sk ct = .ok (trimPlain (padPlain 4 c01w_plain)) :=
  drv_bgv_encrypt_decrypt c01vw_ctx_bgv c01w_l_ok_bgv (c01vw_mode_sp c01w_pl_ok_bgv) (by decide) (by decide) (by decide)

/-- … head of the chain -/
theorem c01vw_bgv_head :
    ∃ ct, bgvEncrypt (c01w_pl .bgv 17) (Drv.C01E.bgvIncr [97, 113, 193] 17).1 ((17 + 1) / 2) (Drv.C01E.bgvIncr [97, 113, 193] 17).2
        (.asym none #[c01w_pk0 (c01w_pl .bgv 17), c01w_a.extract 0 (c01w_pl .bgv 17).size]
          (rnsOfInt (c01w_pl .bgv 17) c01w_u) #[rnsOfInt (c01w_pl .bgv 17) c01w_e0, rnsOfInt (c01w_pl .bgv 17) c01w_e1]) c01w_plain = .ok ct ∧
      ct.cf = 1 ∧ bgvDecrypt (c01w_pl .bgv 17) c01w_sk ct = .ok (trimPlain (padPlain 4 c01w_plain)) :=
  drv_bgv_encrypt_decrypt c01vw_ctx_bgv c01w_pl_ok_bgv (c01vw_mode_head _ _ _ _) (by decide) (by decide) (by decide)

/-- … a LOWER level ({97}, below {97, 113}, key level {97, 113, 193}), t = 17 < 97: margin 2·17·(B+1) < 97 with B = 5 fails (204 > 97):
    the zero-encryption statement at this level is therefore shown for CKKS below; BGV here at level {97, 113} with the secret key and
    both seed variants -/
theorem c01vw_bgv_sk (saveSeed : Bool) :
    ∃ ct, bgvEncrypt (c01w_l .bgv 17) (Drv.C01E.bgvIncr [97, 113] 17).1 ((17 + 1) / 2) (Drv.C01E.bgvIncr [97, 113] 17).2
        (.sym c01w_sk (c01w_a.extract 0 (c01w_l .bgv 17).size) (rnsOfInt (c01w_l .bgv 17) c01w_e0) saveSeed) c01w_plain = .ok ct ∧
      ct.cf = 1 ∧ bgvDecrypt (c01w_l .bgv 17) c01w_sk ct = .ok (trimPlain (padPlain 4 c01w_plain)) :=
  drv_bgv_encrypt_decrypt c01vw_ctx_bgv c01w_l_ok_bgv (c01vw_mode_sk _ _ c01w_l_ok_bgv saveSeed) (by decide) (by decide) (by decide)

/-- … the MULTI-WORD plaintext lift chosen BY THE DRIVER'S OWN RULE (t = 101 ≥ q_0 = 97: `bgvIncr` takes the non-fast path), special-prime
    path, margin 2·101·6 < 97·113 -/
theorem c01vw_bgv_sp_multiword :
    (Drv.C01E.bgvIncr [97, 113] 101).1 = false ∧
    ∃ ct, bgvEncrypt (c01w_l .bgv 101) (Drv.C01E.bgvIncr [97, 113] 101).1 ((101 + 1) / 2) (Drv.C01E.bgvIncr [97, 113] 101).2
        (.asym (some (c01w_pl .bgv 101)) #[c01w_pk0 (c01w_pl .bgv 101), c01w_a.extract 0 (c01w_pl .bgv 101).size]
          (rnsOfInt (c01w_pl .bgv 101) c01w_u) #[rnsOfInt (c01w_pl .bgv 101) c01w_e0, rnsOfInt (c01w_pl .bgv 101) c01w_e1]) c01w_plain101 = .ok ct ∧
      ct.cf = 1 ∧ bgvDecrypt (c01w_l .bgv 101) c01w_sk ct = .ok (trimPlain (padPlain 4 c01w_plain101)) :=
  ⟨by decide, drv_bgv_encrypt_decrypt (c01vw_ctx c01w_pl_ok_bgv101 (by decide)) c01w_l_ok_bgv101
    (c01vw_mode_sp c01w_pl_ok_bgv101) (by decide) (by decide) (by decide)⟩

/-- NON-VACUITY of `drv_bgv_encrypt_zero_decrypt` -/
theorem c01vw_bgv_zero :
    ∃ z, encryptZeroInternal (c01w_l .bgv 17)
        (.asym (some (c01w_pl .bgv 17)) #[c01w_pk0 (c01w_pl .bgv 17), c01w_a.extract 0 (c01w_pl .bgv 17).size]
          (rnsOfInt (c01w_pl .bgv 17) c01w_u) #[rnsOfInt (c01w_pl .bgv 17) c01w_e0, rnsOfInt (c01w_pl .bgv 17) c01w_e1]) = .ok z ∧
      z.cf = 1 ∧ bgvDecrypt (c01w_l .bgv 17) c01w_sk z = .ok #[0] :=
  drv_bgv_encrypt_zero_decrypt c01vw_ctx_bgv c01w_l_ok_bgv (c01vw_mode_sp c01w_pl_ok_bgv) (by decide)

def c01vw_M : Array Int := #[3, -2, 0, 5]

theorem c01vw_l97_ok_ckks : Drv.Sch.mkLevel .ckks 4 [97] 0 = .ok (c01w_lv .ckks [97] 0) :=
  c01w_lv_mk .ckks [97] 0

/-- NON-VACUITY of `drv_ckks_encrypt_decrypt`: special-prime path, 2(|M_c| + 3) < 97·113 -/
theorem c01vw_ckks_sp :
    ∃ (ν : Nat → Int) (ct : Ct) (dec : RnsPoly), (∀ c, c < 4 → (ν c).natAbs ≤ spBound 193 (21 * (2 * 4 + 1)) (drvSlack .ckks) 4) ∧
      ckksEncrypt (c01w_l .ckks 0)
        (.asym (some (c01w_pl .ckks 0)) #[c01w_pk0 (c01w_pl .ckks 0), c01w_a.extract 0 (c01w_pl .ckks 0).size]
          (rnsOfInt (c01w_pl .ckks 0) c01w_u) #[rnsOfInt (c01w_pl .ckks 0) c01w_e0, rnsOfInt (c01w_pl .ckks 0) c01w_e1])
        (ckksPlainOfInt (c01w_l .ckks 0) c01vw_M) = .ok ct ∧
      ckksDecrypt (c01w_l .ckks 0) c01w_sk ct = .ok dec ∧ RnsCanon (c01w_l .ckks 0) dec ∧
      (∀ c, c < 4 → (Drv.Sch.exactPhase (c01w_l .ckks 0) [97, 113] c01w_sk ct).getD c 0 = c01vw_M.getD c 0 + ν c) ∧
      ∀ i, i < (c01w_l .ckks 0).size → ∀ c, c < 4 →
        (intt ((c01w_l .ckks 0).tbl i) (dec.getD i #[])).getD c 0 = Spec.imod (c01vw_M.getD c 0 + ν c) ((c01w_l .ckks 0).q i).value :=
  drv_ckks_encrypt_decrypt c01vw_ctx_ckks c01w_l_ok_ckks (c01vw_mode_sp c01w_pl_ok_ckks) rfl (by decide)

/-- … at a LOWER level ({97} below {97, 113}; the key level is {97, 113, 193}, r = [193]): 2(|M_c| + 4) < 97 -/
theorem c01vw_ckks_lower :
    ∃ (ν : Nat → Int) (ct : Ct) (dec : RnsPoly), (∀ c, c < 4 → (ν c).natAbs ≤ spBound 113 (21 * (2 * 4 + 1)) (drvSlack .ckks) 4) ∧
      ckksEncrypt (c01w_lv .ckks [97] 0)
        (.asym (some (c01w_l .ckks 0)) #[c01w_pk0 (c01w_pl .ckks 0), c01w_a.extract 0 (c01w_pl .ckks 0).size]
          (rnsOfInt (c01w_l .ckks 0) c01w_u) #[rnsOfInt (c01w_l .ckks 0) c01w_e0, rnsOfInt (c01w_l .ckks 0) c01w_e1])
        (ckksPlainOfInt (c01w_lv .ckks [97] 0) c01vw_M) = .ok ct ∧
      ckksDecrypt (c01w_lv .ckks [97] 0) c01w_sk ct = .ok dec ∧ RnsCanon (c01w_lv .ckks [97] 0) dec ∧
      (∀ c, c < 4 → (Drv.Sch.exactPhase (c01w_lv .ckks [97] 0) [97] c01w_sk ct).getD c 0 = c01vw_M.getD c 0 + ν c) ∧
      ∀ i, i < (c01w_lv .ckks [97] 0).size → ∀ c, c < 4 →
        (intt ((c01w_lv .ckks [97] 0).tbl i) (dec.getD i #[])).getD c 0 =
          Spec.imod (c01vw_M.getD c 0 + ν c) ((c01w_lv .ckks [97] 0).q i).value :=
  drv_ckks_encrypt_decrypt c01vw_ctx_ckks c01vw_l97_ok_ckks (c01vw_mode_lower c01w_l_ok_ckks) rfl (by decide)

/-- … secret key / seed-compressed -/
theorem c01vw_ckks_sk (saveSeed : Bool) :
    ∃ (ν : Nat → Int) (ct : Ct) (dec : RnsPoly), (∀ c, c < 4 → (ν c).natAbs ≤ 21) ∧
      ckksEncrypt (c01w_l .ckks 0)
        (.sym c01w_sk (c01w_a.extract 0 (c01w_l .ckks 0).size) (rnsOfInt (c01w_l .ckks 0) c01w_e0) saveSeed)
        (ckksPlainOfInt (c01w_l .ckks 0) c01vw_M) = .ok ct ∧
      ckksDecrypt (c01w_l .ckks 0) c01w_sk ct = .ok dec ∧ RnsCanon (c01w_l .ckks 0) dec ∧
      (∀ c, c < 4 → (Drv.Sch.exactPhase (c01w_l .ckks 0) [97, 113] c01w_sk ct).getD c 0 = c01vw_M.getD c 0 + ν c) ∧
      ∀ i, i < (c01w_l .ckks 0).size → ∀ c, c < 4 →
        (intt ((c01w_l .ckks 0).tbl i) (dec.getD i #[])).getD c 0 = Spec.imod (c01vw_M.getD c 0 + ν c) ((c01w_l .ckks 0).q i).value :=
  drv_ckks_encrypt_decrypt c01vw_ctx_ckks c01w_l_ok_ckks (c01vw_mode_sk _ _ c01w_l_ok_ckks saveSeed) rfl (by decide)

/-- NON-VACUITY of `drv_ckks_encrypt_zero_decrypt` at the LOWER level {97}: 2·4 < 97 -/
theorem c01vw_ckks_zero_lower :
    ∃ (ν : Nat → Int) (z : Ct) (dec : RnsPoly), (∀ c, c < 4 → (ν c).natAbs ≤ spBound 113 (21 * (2 * 4 + 1)) (drvSlack .ckks) 4) ∧
      encryptZeroInternal (c01w_lv .ckks [97] 0)
        (.asym (some (c01w_l .ckks 0)) #[c01w_pk0 (c01w_pl .ckks 0), c01w_a.extract 0 (c01w_pl .ckks 0).size]
          (rnsOfInt (c01w_l .ckks 0) c01w_u) #[rnsOfInt (c01w_l .ckks 0) c01w_e0, rnsOfInt (c01w_l .ckks 0) c01w_e1]) = .ok z ∧
      ckksDecrypt (c01w_lv .ckks [97] 0) c01w_sk z = .ok dec ∧ RnsCanon (c01w_lv .ckks [97] 0) dec ∧
      (∀ c, c < 4 → (Drv.Sch.exactPhase (c01w_lv .ckks [97] 0) [97] c01w_sk z).getD c 0 = ν c) ∧
      ∀ i, i < (c01w_lv .ckks [97] 0).size → ∀ c, c < 4 →
        (intt ((c01w_lv .ckks [97] 0).tbl i) (dec.getD i #[])).getD c 0 = Spec.imod (ν c) ((c01w_lv .ckks [97] 0).q i).value :=
  drv_ckks_encrypt_zero_decrypt c01vw_ctx_ckks c01vw_l97_ok_ckks (c01vw_mode_lower c01w_l_ok_ckks) (by decide)

/-! ### the margins at a realistic size (pure arithmetic; the level bundles at this size cannot be evaluated by the kernel, they are
    THEOREMS for whatever `mkLevel` returns): N = 8192, three 40-bit primes ≡ 1 mod 2N (the last one the special prime), t = 786433
    (20 bits, ≡ 1 mod 2N) -/

/-- noise bound through the special prime at N = 8192: BFV / CKKS 4096, BGV 8193 -/
example : spBound 1099510824961 (21 * (2 * 8192 + 1)) 1 8192 = 4096 ∧ spBound 1099510824961 (21 * (2 * 8192 + 1)) 2 8192 = 8193 := by
  unfold spBound; decide

/-- BFV margin on the inputs (`drv_bfv_encrypt_decrypt_inputs`) through the special prime, and at the head of the chain -/
example : 4 * (786433 * (spBound 1099510824961 (21 * (2 * 8192 + 1)) 1 8192 + 1)) ≤ Spec.prodL [1099511480321, 1099510890497] ∧
    4 * (786433 * (21 * (2 * 8192 + 1) + 1)) ≤ Spec.prodL [1099511480321, 1099510890497, 1099510824961] := by
  unfold spBound; decide

/-- BGV margin (`drv_bgv_encrypt_decrypt`) through the special prime -/
example : 2 * (786433 * (spBound 1099510824961 (21 * (2 * 8192 + 1)) 2 8192 + 1)) < Spec.prodL [1099511480321, 1099510890497] := by
  unfold spBound; decide

/-- CKKS (`drv_ckks_encrypt_decrypt`): plaintext coefficients up to 2^60 through the special prime -/
example : 2 * (2^60 + spBound 1099510824961 (21 * (2 * 8192 + 1)) 1 8192) < Spec.prodL [1099511480321, 1099510890497] := by
  unfold spBound; decide

end HC
