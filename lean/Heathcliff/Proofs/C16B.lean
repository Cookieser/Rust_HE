/- What the samplers of Model/Rng.lean return.  The generator stays a byte generator; `cbdValue` lies in `[-21, 21]`; the RNS encodings are the
   canonical residues of the signed values; hence the three samplers deliver one signed value per coefficient, the same in every component
   (`ternary_spec`, `centeredBinomial_spec`, `uniformPoly_spec`), under the documented contract of `rand`'s `Uniform` (`Uniform.Contract`),
   which the modelled algorithm of rand 0.8.5 meets.  Last part: the entropy requests of the generator factory along a history of operations. -/
import Heathcliff.Proofs.C16
namespace HC.Rng
open HC

variable {xof : Xof}

/-- every entry is a byte.  The invariant this file carries: the generator's buffer only ever holds bytes (`ByteSt`) because the
    block function returns bytes (`ByteXof`) -/
def ByteArr (b : Array Nat) : Prop := ∀ i, b.getD i 0 < 256
/-- BLAKE3 output consists of bytes -/
def ByteXof (xof : Xof) : Prop := ∀ seed c, ByteArr (xof seed c)
/-- the generator's buffer holds bytes -/
def ByteSt (s : St) : Prop := ByteArr s.buffer

theorem byteSt_fromSeed (seed : Seed) : ByteSt (fromSeed seed) := by
  intro i
  simp only [fromSeed, Array.getD_eq_getD_getElem?, Array.getElem?_replicate]
  split <;> simp

theorem byte_fillBytes (hx : ByteXof xof) {s : St} (hs : ByteSt s) (n : Nat) :
    (∀ b ∈ (fillBytes xof s n).1, b < 256) ∧ ByteSt (fillBytes xof s n).2 := by
  refine ⟨?_, bufQ_fillBytes ByteArr hx n hs⟩
  induction n generalizing s with
  | zero => simp [fillBytes_zero]
  | succ n ih =>
    rw [fillBytes_succ]
    intro b hb
    rcases List.mem_cons.1 hb with rfl | hb
    · exact bufQ_preFill ByteArr hx hs _
    · exact ih (s := (readByte xof s).2) (bufQ_preFill ByteArr hx hs) b hb

theorem foldr_bytes_lt (f : Nat → Nat) (l : List Nat) (h : ∀ k ∈ l, f k < 256) :
    l.foldr (fun k acc => f k + 256 * acc) 0 < 256 ^ l.length := by
  induction l with
  | nil => simp
  | cons a l ih =>
    have h1 := h a (by simp)
    have h2 := ih (fun k hk => h k (by simp [hk]))
    simp only [List.foldr_cons, List.length_cons, Nat.pow_succ]
    omega

theorem leRead_lt {b : Array Nat} (hb : ByteArr b) (p w : Nat) : leRead b p w < 256 ^ w := by
  have := foldr_bytes_lt (fun k => b.getD (p + k) 0) (List.range w) (fun k _ => hb _)
  simpa [leRead] using this

theorem byte_takeWord (hx : ByteXof xof) {s : St} (hs : ByteSt s) (w : Nat) :
    (takeWord w xof s).1 < 256 ^ w ∧ ByteSt (takeWord w xof s).2 := by
  have h2 : ByteSt (if s.pos + w > BUF then refill xof s else s) := by
    split
    · exact hx _ _
    · exact hs
  exact ⟨leRead_lt h2 _ _, h2⟩

theorem byte_nextU32 (hx : ByteXof xof) {s : St} (hs : ByteSt s) :
    (nextU32 xof s).1 < 2 ^ 32 ∧ ByteSt (nextU32 xof s).2 := by
  have e : nextU32 xof s = takeWord 4 xof { s with pos := (s.pos + 3) / 4 * 4 } := rfl
  rw [e]
  have := byte_takeWord hx (s := { s with pos := (s.pos + 3) / 4 * 4 }) hs 4
  exact ⟨by have := this.1; omega, this.2⟩

theorem byte_nextU64 (hx : ByteXof xof) {s : St} (hs : ByteSt s) :
    (nextU64 xof s).1 < 2 ^ 64 ∧ ByteSt (nextU64 xof s).2 := by
  have e : nextU64 xof s = takeWord 8 xof { s with pos := (s.pos + 7) / 8 * 8 } := rfl
  rw [e]
  have := byte_takeWord hx (s := { s with pos := (s.pos + 7) / 8 * 8 }) hs 8
  exact ⟨by have := this.1; omega, this.2⟩

/-- number of set bits of a byte, bit by bit (what `hamming_weight_popcount` in Props/C16 compares `hammingWeight` with) -/
def popcount8 (x : Nat) : Nat :=
  x % 2 + x / 2 % 2 + x / 4 % 2 + x / 8 % 2 + x / 16 % 2 + x / 32 % 2 + x / 64 % 2 + x / 128 % 2

theorem hammingWeight_le8 : ∀ x, x < 256 → hammingWeight x ≤ 8 := by decide +kernel

theorem hammingWeight_mask_le5 : ∀ x, x < 256 → hammingWeight (x &&& 31) ≤ 5 := by decide +kernel

theorem cbdValue_six (b0 b1 b2 b3 b4 b5 : Nat) :
    cbdValue [b0, b1, b2, b3, b4, b5] =
      (hammingWeight b0 : Int) + hammingWeight b1 + hammingWeight (b2 &&& 31)
        - hammingWeight b3 - hammingWeight b4 - hammingWeight (b5 &&& 31) := by
  simp [cbdValue, applyMasks, Gen.CBD_MASKS, Gen.CBD_TERMS]
  omega

theorem cbdValue_bound (bytes : List Nat) (hl : bytes.length = 6) (hb : ∀ b ∈ bytes, b < 256) :
    -21 ≤ cbdValue bytes ∧ cbdValue bytes ≤ 21 := by
  rcases bytes with _ | ⟨b0, _ | ⟨b1, _ | ⟨b2, _ | ⟨b3, _ | ⟨b4, _ | ⟨b5, _ | ⟨b6, r⟩⟩⟩⟩⟩⟩⟩ <;> simp at hl
  rw [cbdValue_six]
  have h0 := hammingWeight_le8 b0 (hb b0 (by simp))
  have h1 := hammingWeight_le8 b1 (hb b1 (by simp))
  have h2 := hammingWeight_mask_le5 b2 (hb b2 (by simp))
  have h3 := hammingWeight_le8 b3 (hb b3 (by simp))
  have h4 := hammingWeight_le8 b4 (hb b4 (by simp))
  have h5 := hammingWeight_mask_le5 b5 (hb b5 (by simp))
  omega

/-! ### `Uniform`: the contract the sampler theorems assume, and rand 0.8.5's algorithm meets it -/

/-- documented contract of `rand::distributions::Uniform` for the two integer types used: the sample lies in
    `[lo, hi]` (and the generator stays a byte generator) -/
structure Uniform.Contract (U : Uniform) : Prop where
  i32 : ∀ (lo hi : Int) (xof : Xof) (s : St) (v : Int) (s' : St), ByteXof xof → ByteSt s → -2^31 ≤ lo → hi < 2^31 →
    U.i32 lo hi xof s = .ok (v, s') → lo ≤ v ∧ v ≤ hi ∧ ByteSt s'
  u64 : ∀ (lo hi : Nat) (xof : Xof) (s : St) (v : Nat) (s' : St), ByteXof xof → ByteSt s → hi < 2^64 →
    U.u64 lo hi xof s = .ok (v, s') → lo ≤ v ∧ v ≤ hi ∧ ByteSt s'

theorem randLoop_spec (next : Xof → St → Nat × St) (range zone W : Nat) (hr : 0 < range)
    (hnext : ∀ s, ByteSt s → (next xof s).1 < W ∧ ByteSt (next xof s).2) :
    ∀ (fuel : Nat) (s : St) (h : Nat) (s' : St), ByteSt s → randLoop next range zone W xof fuel s = .ok (h, s') →
      h < range ∧ ByteSt s' := by
  intro fuel
  induction fuel with
  | zero => intro s h s' _ he; simp [randLoop] at he
  | succ f ih =>
    intro s h s' hs he
    obtain ⟨h1, h2⟩ := hnext s hs
    simp only [randLoop] at he
    split at he
    · simp only [Except.ok.injEq, Prod.mk.injEq] at he
      obtain ⟨rfl, rfl⟩ := he
      refine ⟨?_, h2⟩
      apply Nat.div_lt_of_lt_mul
      exact Nat.mul_lt_mul_of_lt_of_le h1 (Nat.le_refl _) hr
    · exact ih _ _ _ h2 he

theorem wrapI32_id {x : Int} (h1 : -2^31 ≤ x) (h2 : x < 2^31) : wrapI32 x = x := by
  unfold wrapI32; omega

theorem wrapI32_range (x : Int) : -2^31 ≤ wrapI32 x ∧ wrapI32 x < 2^31 := by
  unfold wrapI32; omega

theorem randI32_spec (lo hi : Int) (s : St) (v : Int) (s' : St) (hx : ByteXof xof) (hs : ByteSt s)
    (hlo : -2^31 ≤ lo) (hhi : hi < 2^31) (he : randI32 lo hi xof s = .ok (v, s')) : lo ≤ v ∧ v ≤ hi ∧ ByteSt s' := by
  unfold randI32 at he
  split at he
  · simp at he
  · rename_i hle
    simp only at he
    split at he
    · rename_i hr0
      simp only [Except.ok.injEq, Prod.mk.injEq] at he
      obtain ⟨rfl, rfl⟩ := he
      have hw := wrapI32_range ((nextU32 xof s).1 : Int)
      refine ⟨by omega, by omega, (byte_nextU32 hx hs).2⟩
    · rename_i hr0
      split at he
      · rename_i h s1 heq
        simp only [Except.ok.injEq, Prod.mk.injEq] at he
        obtain ⟨rfl, rfl⟩ := he
        have hpos : 0 < ((hi - lo + 1) % 2 ^ 32).toNat := Nat.pos_of_ne_zero hr0
        obtain ⟨h1, h2⟩ := randLoop_spec nextU32 _ _ (2^32) hpos (fun s hs => byte_nextU32 hx hs) _ _ _ _ hs heq
        have : wrapI32 (lo + (h : Int)) = lo + h := wrapI32_id (by omega) (by omega)
        rw [this]
        exact ⟨by omega, by omega, h2⟩
      · simp at he

theorem randU64_spec (lo hi : Nat) (s : St) (v : Nat) (s' : St) (hx : ByteXof xof) (hs : ByteSt s)
    (hhi : hi < 2^64) (he : randU64 lo hi xof s = .ok (v, s')) : lo ≤ v ∧ v ≤ hi ∧ ByteSt s' := by
  unfold randU64 at he
  split at he
  · simp at he
  · rename_i hle
    simp only at he
    split at he
    · rename_i hr0
      simp only [Except.ok.injEq, Prod.mk.injEq] at he
      obtain ⟨rfl, rfl⟩ := he
      have hb := byte_nextU64 hx hs
      simp only [B64] at hr0
      refine ⟨by omega, by have := hb.1; omega, hb.2⟩
    · rename_i hr0
      split at he
      · rename_i h s1 heq
        simp only [Except.ok.injEq, Prod.mk.injEq] at he
        obtain ⟨rfl, rfl⟩ := he
        have hpos : 0 < (hi - lo + 1) % B64 := Nat.pos_of_ne_zero hr0
        obtain ⟨h1, h2⟩ := randLoop_spec nextU64 _ _ B64 hpos
          (fun s hs => by have := byte_nextU64 hx hs; simp only [B64]; exact this) _ _ _ _ hs heq
        simp only [B64] at h1 ⊢
        exact ⟨by omega, by omega, h2⟩
      · simp at he

/-- rand 0.8.5's `UniformInt::sample` (as modelled) meets the contract -/
theorem randUniform_contract : randUniform.Contract where
  i32 := fun lo hi _ s v s' hx hs h1 h2 he => randI32_spec lo hi s v s' hx hs h1 h2 he
  u64 := fun lo hi _ s v s' hx hs h2 he => randU64_spec lo hi s v s' hx hs h2 he

theorem sampleMany_spec {α : Type} (draw : St → R (α × St)) (P : α → Prop)
    (hd : ∀ s v s', ByteSt s → draw s = .ok (v, s') → P v ∧ ByteSt s') :
    ∀ (n : Nat) (s : St) (vs : List α) (s' : St), ByteSt s → sampleMany draw n s = .ok (vs, s') →
      vs.length = n ∧ (∀ v ∈ vs, P v) ∧ ByteSt s' := by
  intro n
  induction n with
  | zero =>
    intro s vs s' hs he
    simp only [sampleMany, Except.ok.injEq, Prod.mk.injEq] at he
    obtain ⟨rfl, rfl⟩ := he
    simp [hs]
  | succ n ih =>
    intro s vs s' hs he
    simp only [sampleMany] at he
    split at he
    · simp at he
    · rename_i v s1 h1
      obtain ⟨p1, b1⟩ := hd _ _ _ hs h1
      split at he
      · simp at he
      · rename_i vs2 s2 h2
        obtain ⟨l2, p2, b2⟩ := ih _ _ _ b1 h2
        simp only [Except.ok.injEq, Prod.mk.injEq] at he
        obtain ⟨rfl, rfl⟩ := he
        refine ⟨by simp [l2], ?_, b2⟩
        intro x hx
        simp only [List.mem_cons] at hx
        rcases hx with rfl | hx
        · exact p1
        · exact p2 x hx

theorem mapR_eq_mapM {α β : Type} (f : α → R β) : ∀ l : List α, mapR f l = l.mapM f
  | [] => rfl
  | a :: l => by
    rw [List.mapM_cons, mapR, ← mapR_eq_mapM f l]
    cases f a with
    | error e => rfl
    | ok b => cases mapR f l <;> rfl

theorem encodeAll_eq_mapM (enc : Nat → Int → R Nat) (moduli : List Nat) (vs : List Int) :
    encodeAll enc moduli vs = moduli.mapM fun q => vs.mapM (enc q) := by
  simp only [encodeAll, mapR_eq_mapM]

theorem sampleMany_succ {α : Type} (draw : St → R (α × St)) (n : Nat) (s : St) :
    sampleMany draw (n + 1) s = (do let r ← draw s; let r2 ← sampleMany draw n r.2; pure (r.1 :: r2.1, r2.2)) := by
  cases h : draw s with
  | error e => simp [sampleMany, h, bind, Except.bind]
  | ok r =>
    obtain ⟨v, s1⟩ := r
    cases h2 : sampleMany draw n s1 <;> simp [sampleMany, h, h2, bind, Except.bind, pure, Except.pure]

theorem sampleMany_length {α : Type} (draw : St → R (α × St)) : ∀ (n : Nat) (s : St) (vs : List α) (s' : St),
    sampleMany draw n s = .ok (vs, s') → vs.length = n
  | 0, _, _, _, h => by
    simp only [sampleMany, Except.ok.injEq, Prod.mk.injEq] at h
    rw [← h.1]; rfl
  | n + 1, s, vs, s', h => by
    rw [sampleMany_succ] at h
    obtain ⟨r, _, h⟩ := R.bind_eq_ok.1 h
    obtain ⟨r2, h2, h⟩ := R.bind_eq_ok.1 h
    simp only [pure, Except.pure, Except.ok.injEq, Prod.mk.injEq] at h
    rw [← h.1, List.length_cons, sampleMany_length draw n r.2 r2.1 r2.2 h2]

/-- the shape shared by `ternary` and `centeredBinomial`: draw all, then encode all -/
theorem sampleEncode_ok_iff {draw : St → R (Int × St)} {enc : Nat → Int → R Nat} {n : Nat} {s s' : St} {moduli : List Nat}
    {c : List (List Nat)} :
    (match sampleMany draw n s with
      | .error e => .error e
      | .ok (vs, s') =>
        match encodeAll enc moduli vs with
        | .error e => .error e
        | .ok c => .ok (c, s') : R (List (List Nat) × St)) = .ok (c, s') ↔
      ∃ vs, sampleMany draw n s = .ok (vs, s') ∧ encodeAll enc moduli vs = .ok c := by
  constructor
  · intro h
    split at h
    · cases h
    · rename_i vs s1 m1
      split at h
      · cases h
      · rename_i c' m2
        simp only [Except.ok.injEq, Prod.mk.injEq] at h
        obtain ⟨rfl, rfl⟩ := h
        exact ⟨vs, m1, m2⟩
  · rintro ⟨vs, m1, m2⟩
    simp only [m1, m2]

theorem encTernary_eq {q : Nat} (hq : 2 ≤ q) {v : Int} (h1 : -1 ≤ v) (h2 : v ≤ 1) :
    encTernary q v = .ok (v % (q : Int)).toNat := by
  unfold encTernary
  have hv : v = -1 ∨ v = 0 ∨ v = 1 := by omega
  rcases hv with rfl | rfl | rfl
  · simp only [if_true, ckSub]
    rw [if_pos (by omega)]
    congr 1
    have : (-1 : Int) % (q : Int) = (q : Int) - 1 := by
      rw [Int.emod_def]
      have : (-1 : Int) / (q : Int) = -1 := by
        apply Int.ediv_eq_neg_one_of_neg_of_le <;> omega
      rw [this]; omega
    rw [this]; omega
  · simp
  · simp only [show ((1 : Int) = -1) = False by simp, show ((1:Int) = 0) = False by simp, if_false, if_true]
    congr 1
    have : (1 : Int) % (q : Int) = 1 := Int.emod_eq_of_lt (by omega) (by omega)
    rw [this]; rfl

theorem neg_emod_nat (n q : Nat) (hq : 0 < q) :
    (-(n : Int)) % (q : Int) = if n % q = 0 then 0 else ((q - n % q : Nat) : Int) := by
  have hd : q * (n / q) + n % q = n := Nat.div_add_mod n q
  have hm : n % q < q := Nat.mod_lt n hq
  have hdi : (n : Int) = (q : Int) * ((n / q : Nat) : Int) + ((n % q : Nat) : Int) := by
    rw [← Int.natCast_mul, ← Int.natCast_add, hd]
  by_cases h0 : n % q = 0
  · rw [if_pos h0]
    rw [h0] at hdi
    have : -(n : Int) = (q : Int) * (-((n / q : Nat) : Int)) := by rw [hdi]; simp [Int.mul_neg]
    rw [this, Int.mul_emod_right]
  · rw [if_neg h0]
    have e : -(n : Int) = ((q - n % q : Nat) : Int) + (q : Int) * (-((n / q : Nat) : Int) - 1) := by
      rw [Int.mul_sub, Int.mul_neg, Int.mul_one, Int.natCast_sub (Nat.le_of_lt hm)]
      rw [hdi]; omega
    rw [e, Int.add_mul_emod_self_left]
    exact Int.emod_eq_of_lt (by omega) (by omega)

/-- the (repaired) error encoding is the canonical residue of the signed value, for EVERY modulus `q ≥ 1`
    and every value (no bound needed) -/
theorem encError_eq {q : Nat} (hq : 0 < q) (v : Int) :
    encError q v = .ok (v % (q : Int)).toNat := by
  unfold encError
  rw [if_neg (by omega)]
  have hm : v.natAbs % q < q := Nat.mod_lt _ hq
  by_cases hv : v ≥ 0
  · rw [if_pos (Or.inl hv)]
    have e : v = ((v.natAbs : Nat) : Int) := (Int.natAbs_of_nonneg hv).symm
    congr 1
    conv => rhs; rw [e, ← Int.natCast_emod, Int.toNat_natCast]
  · have e : v = -((v.natAbs : Nat) : Int) := Int.eq_neg_natAbs_of_nonpos (by omega)
    have hn := neg_emod_nat v.natAbs q hq
    rw [← e] at hn
    by_cases h0 : v.natAbs % q = 0
    · rw [if_pos (Or.inr h0), hn, if_pos h0, h0]; rfl
    · rw [if_neg (by intro h; rcases h with h | h; exact hv h; exact h0 h)]
      simp only [ckSub]
      rw [if_pos (Nat.le_of_lt hm), hn, if_neg h0, Int.toNat_natCast]

theorem encodeAll_eq (enc : Nat → Int → R Nat) (g : Nat → Int → Nat) (moduli : List Nat) (vs : List Int)
    (h : ∀ q ∈ moduli, ∀ v ∈ vs, enc q v = .ok (g q v)) :
    encodeAll enc moduli vs = .ok (moduli.map fun q => vs.map (g q)) := by
  unfold encodeAll
  rw [mapR_eq_mapM]
  refine R.mapM_ok _ _ _ fun q hq => ?_
  rw [mapR_eq_mapM]
  exact R.mapM_ok _ _ _ (h q hq)

theorem ternary_spec (U : Uniform) (hU : U.Contract) (hx : ByteXof xof) {s s' : St} (hs : ByteSt s) {n : Nat}
    {moduli : List Nat} {c : List (List Nat)} (hq : ∀ q ∈ moduli, 2 ≤ q)
    (h : ternary U xof s n moduli = .ok (c, s')) :
    ∃ vs : List Int, vs.length = n ∧ (∀ v ∈ vs, -1 ≤ v ∧ v ≤ 1) ∧
      c = moduli.map (fun (q : Nat) => vs.map fun v => (v % (q : Int)).toNat) ∧ ByteSt s' := by
  unfold ternary at h
  split at h
  · simp at h
  · rename_i vs s1 h1
    obtain ⟨l1, p1, b1⟩ := sampleMany_spec (U.i32 Gen.TERNARY_LOW Gen.TERNARY_HIGH xof) (fun v => -1 ≤ v ∧ v ≤ 1)
      (fun s v s' hs he => by
        obtain ⟨a, b, c⟩ := hU.i32 Gen.TERNARY_LOW Gen.TERNARY_HIGH xof s v s' hx hs (by decide) (by decide) he
        exact ⟨⟨a, b⟩, c⟩) n s vs s1 hs h1
    have he := encodeAll_eq encTernary (fun q v => (v % (q : Int)).toNat) moduli vs
      (fun q hq' v hv => encTernary_eq (hq q hq') (p1 v hv).1 (p1 v hv).2)
    rw [he] at h
    simp only [Except.ok.injEq, Prod.mk.injEq] at h
    obtain ⟨rfl, rfl⟩ := h
    exact ⟨vs, l1, p1, rfl, b1⟩

theorem cbdDraw_spec (hx : ByteXof xof) (s : St) (v : Int) (s' : St) (hs : ByteSt s)
    (he : cbdDraw xof s = .ok (v, s')) : (-21 ≤ v ∧ v ≤ 21) ∧ ByteSt s' := by
  simp only [cbdDraw, Except.ok.injEq, Prod.mk.injEq] at he
  obtain ⟨rfl, rfl⟩ := he
  obtain ⟨h1, h2⟩ := byte_fillBytes hx hs Gen.CBD_BYTES
  exact ⟨cbdValue_bound _ (fillBytes_length s _) h1, h2⟩

theorem centeredBinomial_spec (hx : ByteXof xof) {s s' : St} (hs : ByteSt s) {n : Nat}
    {moduli : List Nat} {c : List (List Nat)} (hq : ∀ q ∈ moduli, 2 ≤ q)
    (h : centeredBinomial xof s n moduli = .ok (c, s')) :
    ∃ vs : List Int, vs.length = n ∧ (∀ v ∈ vs, -21 ≤ v ∧ v ≤ 21) ∧
      c = moduli.map (fun (q : Nat) => vs.map fun v => (v % (q : Int)).toNat) ∧ ByteSt s' := by
  unfold centeredBinomial at h
  rw [if_neg (by decide), if_neg (by decide)] at h
  split at h
  · simp at h
  · rename_i vs s1 h1
    obtain ⟨l1, p1, b1⟩ := sampleMany_spec (cbdDraw xof) (fun v => -21 ≤ v ∧ v ≤ 21)
      (fun s v s' hs he => cbdDraw_spec hx s v s' hs he) n s vs s1 hs h1
    have he := encodeAll_eq encError (fun q v => (v % (q : Int)).toNat) moduli vs
      (fun q hq' v _ => encError_eq (by have := hq q hq'; omega) v)
    rw [he] at h
    simp only [Except.ok.injEq, Prod.mk.injEq] at h
    obtain ⟨rfl, rfl⟩ := h
    exact ⟨vs, l1, p1, rfl, b1⟩

theorem sampleMany_cbd_total (xof : Xof) : ∀ (n : Nat) (s : St), ∃ vs s', sampleMany (cbdDraw xof) n s = .ok (vs, s')
  | 0, s => ⟨[], s, rfl⟩
  | n + 1, s => by
    obtain ⟨vs, s', h⟩ := sampleMany_cbd_total xof n (fillBytes xof s Gen.CBD_BYTES).2
    exact ⟨cbdValue (fillBytes xof s Gen.CBD_BYTES).1 :: vs, s', by simp only [sampleMany, cbdDraw, h]⟩

/-- `sample::centered_binomial` has no rejection loop and no fuel: on non-zero moduli every generator state yields an error polynomial -/
theorem centeredBinomial_total (xof : Xof) (s : St) (n : Nat) {moduli : List Nat} (hq : ∀ q ∈ moduli, 0 < q) :
    ∃ c s', centeredBinomial xof s n moduli = .ok (c, s') := by
  obtain ⟨vs, s', h⟩ := sampleMany_cbd_total xof n s
  have he := encodeAll_eq encError (fun q v => (v % (q : Int)).toNat) moduli vs (fun q hq' v _ => encError_eq (hq q hq') v)
  unfold centeredBinomial
  rw [if_neg (by decide), if_neg (by decide), h]
  simp only [he]
  exact ⟨_, _, rfl⟩

theorem uniformPoly_shape (U : Uniform) (xof : Xof) (n : Nat) : ∀ (qs : List Nat) (s s' : St) (C : List (List Nat)),
    uniformPoly U xof s n qs = .ok (C, s') → C.length = qs.length ∧ ∀ j, j < qs.length → (C.getD j []).length = n
  | [], s, s', C, h => by
    simp only [uniformPoly, Except.ok.injEq, Prod.mk.injEq] at h
    rw [← h.1]; exact ⟨rfl, fun j hj => absurd hj (Nat.not_lt_zero j)⟩
  | q :: qs, s, s', C, h => by
    simp only [uniformPoly] at h
    split at h
    · cases h
    · split at h
      · cases h
      · rename_i vs s1 h1
        split at h
        · cases h
        · rename_i rest s2 h2
          simp only [Except.ok.injEq, Prod.mk.injEq] at h
          obtain ⟨rfl, rfl⟩ := h
          obtain ⟨a, b⟩ := uniformPoly_shape U xof n qs s1 s2 rest h2
          refine ⟨by simp [a], fun j hj => ?_⟩
          cases j with
          | zero => exact sampleMany_length _ n s vs s1 h1
          | succ j => exact b j (Nat.lt_of_succ_lt_succ hj)

/-- component `j` has `n` coefficients, all below `q_j` -/
def AllBelow (n : Nat) : List Nat → List (List Nat) → Prop
  | [], [] => True
  | q :: qs, p :: ps => (p.length = n ∧ ∀ x ∈ p, x < q) ∧ AllBelow n qs ps
  | _, _ => False

/-- `AllBelow` place by place -/
theorem allBelow_getD {n : Nat} : ∀ {qs : List Nat} {c : List (List Nat)}, AllBelow n qs c →
    c.length = qs.length ∧ ∀ i, i < qs.length → (c.getD i []).length = n ∧ ∀ j, j < n → (c.getD i []).getD j 0 < qs.getD i 1
  | [], [], _ => ⟨rfl, fun _ hi => absurd hi (Nat.not_lt_zero _)⟩
  | [], _ :: _, h => False.elim h
  | _ :: _, [], h => False.elim h
  | q :: qs, p :: ps, ⟨⟨h1, h2⟩, h3⟩ => by
    obtain ⟨ih1, ih2⟩ := allBelow_getD h3
    refine ⟨congrArg (· + 1) ih1, fun i hi => ?_⟩
    cases i with
    | zero => exact ⟨h1, fun j hj => h2 _ (list_getD_mem 0 (h1 ▸ hj))⟩
    | succ i => exact ih2 i (Nat.lt_of_succ_lt_succ hi)

theorem uniformPoly_spec (U : Uniform) (hU : U.Contract) (hx : ByteXof xof) {n : Nat} :
    ∀ (moduli : List Nat) (s s' : St) (c : List (List Nat)), ByteSt s → (∀ q ∈ moduli, q ≤ 2^64) →
      uniformPoly U xof s n moduli = .ok (c, s') →
      AllBelow n moduli c ∧ ByteSt s' := by
  intro moduli
  induction moduli with
  | nil =>
    intro s s' c hs _ h
    simp only [uniformPoly, Except.ok.injEq, Prod.mk.injEq] at h
    obtain ⟨rfl, rfl⟩ := h
    exact ⟨trivial, hs⟩
  | cons q qs ih =>
    intro s s' c hs hq h
    simp only [uniformPoly] at h
    split at h
    · simp at h
    · rename_i hi hsub
      simp only [ckSub] at hsub
      split at hsub
      · rename_i hq1
        simp only [Except.ok.injEq] at hsub
        subst hsub
        have hq64 := hq q (by simp)
        split at h
        · simp at h
        · rename_i vs s1 h1
          obtain ⟨l1, p1, b1⟩ := sampleMany_spec (U.u64 0 (q - 1) xof) (fun v => v ≤ q - 1)
            (fun s v s' hs he => by
              obtain ⟨_, b, c⟩ := hU.u64 0 (q - 1) xof s v s' hx hs (by omega) he
              exact ⟨b, c⟩) n s vs s1 hs h1
          split at h
          · simp at h
          · rename_i rest s2 h2
            obtain ⟨f2, b2⟩ := ih s1 s2 rest b1 (fun x hx' => hq x (by simp [hx'])) h2
            simp only [Except.ok.injEq, Prod.mk.injEq] at h
            obtain ⟨rfl, rfl⟩ := h
            refine ⟨⟨⟨l1, ?_⟩, f2⟩, b2⟩
            intro x hx'
            have := p1 x hx'
            omega
      · simp at hsub

/-! ### factory: every generator creation is a new entropy request -/

theorem factory_new_random : Factory.new.useRandomSeed = true := rfl

/-- number of generators an operation takes from the factory -/
def HOp.cnt : HOp → Nat
  | .keygen => 1 | .symmetric => 2 | .symmetricWith _ => 1 | .asymmetric => 2 | .asymmetricWith _ => 1

theorem getRng_new (ent : Entropy) (w : Nat) : Factory.new.getRng ent w = (fromSeed (ent w), w + 1) := rfl

theorem fromSeed_seed (x : Seed) : (fromSeed x).seed = x := rfl

theorem hstep_fresh (U : Uniform) (P : Parms) (ent : Entropy) (w : Nat) (o : HOp) :
    (hstep U xof P Factory.new ent w o).2 = w + o.cnt ∧
      (hstep U xof P Factory.new ent w o).1.factorySeeds = (List.range o.cnt).map fun i => ent (w + i) := by
  cases o <;> simp [hstep, getRng_new, fromSeed_seed, HOp.cnt, symCore, asymCore, List.range_succ]

/-- the seeds of all generators the factory created along a history of draws, in order -/
def allFactorySeeds (ds : List Draw) : List Seed := (ds.map Draw.factorySeeds).flatten

/-- number of generators a history of operations takes from the factory -/
def totalCnt (ops : List HOp) : Nat := (ops.map HOp.cnt).sum

theorem nodup_map_of_injective {α β : Type} (f : α → β) (hf : Function.Injective f) (l : List α) (h : l.Nodup) : (l.map f).Nodup :=
  List.Pairwise.map f (fun _ _ hab e => hab (hf e)) h

/-- entropy indices of the c1 generators of the factory-seeded symmetric operations of a history -/
def symIdx : Nat → List HOp → List Nat
  | _, [] => []
  | w, .symmetric :: os => w :: symIdx (w + 2) os
  | w, o :: os => symIdx (w + o.cnt) os

/-- public (stored) seeds of the factory-seeded symmetric operations -/
def symPublicSeeds : List HOp → List Draw → List Seed
  | .symmetric :: os, d :: ds => (match d.publicSeed with | some s => [s] | none => []) ++ symPublicSeeds os ds
  | _ :: os, _ :: ds => symPublicSeeds os ds
  | _, _ => []

/-- first 64 bytes of the stream of a seed: what `c1_prng.fill_bytes(public_prng_seed)` yields for a fresh generator -/
def firstBytes (xof : Xof) (seed : Seed) : Seed := (fillBytes xof (fromSeed seed) Gen.PRNG_SEED_BYTES).1

theorem symIdx_ge : ∀ (ops : List HOp) (w : Nat), ∀ i ∈ symIdx w ops, w ≤ i := by
  intro ops
  induction ops with
  | nil => intro w i h; simp [symIdx] at h
  | cons o os ih =>
    intro w i h
    cases o <;> simp only [symIdx, List.mem_cons] at h
    case symmetric =>
      rcases h with rfl | h
      · exact Nat.le_refl _
      · have := ih _ _ h; omega
    all_goals (have := ih _ _ h; omega)

theorem symIdx_nodup : ∀ (ops : List HOp) (w : Nat), (symIdx w ops).Nodup := by
  intro ops
  induction ops with
  | nil => intro w; simp [symIdx]
  | cons o os ih =>
    intro w
    cases o <;> simp only [symIdx]
    case symmetric =>
      rw [List.nodup_cons]
      refine ⟨?_, ih _⟩
      intro h
      have := symIdx_ge os (w + 2) w h
      omega
    all_goals exact ih _

theorem symPublicSeeds_eq (U : Uniform) (P : Parms) (ent : Entropy) :
    ∀ (ops : List HOp) (w : Nat),
      symPublicSeeds ops (hrun U xof P Factory.new ent w ops).1 = (symIdx w ops).map fun i => firstBytes xof (ent i) := by
  intro ops
  induction ops with
  | nil => intro w; simp [symPublicSeeds, symIdx]
  | cons o os ih =>
    intro w
    have hs := (hstep_fresh (xof := xof) U P ent w o).1
    cases o
    case symmetric =>
      simp only [hrun, symPublicSeeds, symIdx, List.map_cons]
      rw [hs, ih]
      simp [hstep, symCore, getRng_new, firstBytes, HOp.cnt]
    all_goals
      simp only [hrun, symPublicSeeds, symIdx]
      rw [hs, ih]

end HC.Rng
