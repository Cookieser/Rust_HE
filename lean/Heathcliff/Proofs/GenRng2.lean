/- The GENERATED samplers of Gen/RngFns.lean run on the generated `BlakeRNG` return what the hand model of Model/Rng.lean returns, laid out
   flat (`flatCM`: component `j`, coefficient `i` at position `i + j·n`).  This file: the machinery shared by the coefficient-major samplers
   (`gs_outer_model`) and `centered_binomial` = `centeredBinomial` (`gs_centered_binomial_iff`); `ternary` and `uniform` are in GenRng3.  In range the writes never fail, so they float out of each loop
   (an equation in `R`); the remaining effects are compared with the model under the success view `okv`; what the writes leave in the
   buffer is read pointwise.  Helper prefix `gs_`.  No Mathlib.
   `gs_cbdTail`, `gs_encCB` (here), `gs_encT` (GenRng3) are pieces of the generated text copied BY HAND, tied to it by `rfl` / `simp only [bind_assoc]`
   (`gs_closure_tail`, the `hs` arguments of `gs_col_eq`): they break, loudly, when the generator changes its naming of temporaries. -/
import Heathcliff.Proofs.GenRng
import Heathcliff.Proofs.GenLoop
namespace HC.GenRng
open HC HC.Rng

/-- `fill_bytes` is the GENERATED function; `rng.sample(Uniform)` is the model's abstract `Uniform` on the corresponding state -/
def blakeOps (U : Uniform) (xof : Xof) : RngOps BlakeRNG where
  fill_bytes := fun g dest => fill_bytes (xofL xof) g dest
  sample_i32 := fun lo hi g => match U.i32 lo hi xof (toSt g) with | .ok (v, s') => .ok (ofSt s', v) | .error e => .error e
  sample_u64 := fun lo hi g => match U.u64 lo hi xof (toSt g) with | .ok (v, s') => .ok (ofSt s', v) | .error e => .error e

/-- the flat destination buffer of the samplers: component `x / n`, coefficient `x % n` -/
def flatCM (k n : Nat) (c : List (List Nat)) : List Nat := (List.range (k * n)).map fun x => (c.getD (x / n) []).getD (x % n) 0

theorem gs_pos_lt {i j k n : Nat} (hi : i < n) (hj : j < k) : i + j * n < k * n := Nat.add_comm _ _ ▸ grid_lt hj hi

theorem gs_pos_inj {i i' j j' n : Nat} (hi : i < n) (hi' : i' < n) (h : i + j * n = i' + j' * n) : i = i' ∧ j = j' := by
  rw [Nat.add_comm i, Nat.add_comm i'] at h
  exact (grid_inj hi hi' h).symm

theorem gs_setIdx {d : List Nat} {p v : Nat} (h : p < d.length) : setIdx d p v = .ok (d.set p v) := if_pos h
theorem gs_idx {l : List Nat} {i : Nat} (h : i < l.length) : idx l i = .ok (l.getD i 0) := by
  simp [idx, List.getD_eq_getElem?_getD, List.getElem?_eq_getElem h]
/-! ### the success view of `R`: what a run returns if it returns.  `okv` maps `>>=` to `Option.bind`, under which independent effects commute -/

section okv
variable {α β : Type}

def okv (x : R α) : Option α := match x with | .ok a => some a | .error _ => none

theorem okv_ok (a : α) : okv (.ok a : R α) = some a := rfl
theorem okv_pure (a : α) : okv (pure a : R α) = some a := rfl

theorem okv_bind (x : R α) (f : α → R β) : okv (x >>= f) = (okv x).bind fun a => okv (f a) := by
  cases x <;> rfl

theorem okv_eq_some {x : R α} {a : α} : okv x = some a ↔ x = .ok a := by
  cases x <;> simp [okv]

theorem bind_pair_eta (x : R (α × β)) : (do let (p, q) ← x; (pure (p, q) : R (α × β))) = x := by
  cases x <;> rfl

end okv

/-- how `blakeOps` is used: on a state of the model its draws return what the model's `Uniform` returns, as far as success goes -/
theorem blakeOps_i32_okv (U : Uniform) (xof : Xof) (lo hi : Int) (s : St) :
    okv ((blakeOps U xof).sample_i32 lo hi (ofSt s)) = (okv (U.i32 lo hi xof s)).map fun r => (ofSt r.2, r.1) := by
  show okv (match U.i32 lo hi xof (toSt (ofSt s)) with | .ok (v, s') => .ok (ofSt s', v) | .error e => .error e) = _
  rw [toSt_ofSt]; cases U.i32 lo hi xof s <;> rfl

theorem blakeOps_u64_okv (U : Uniform) (xof : Xof) (lo hi : Nat) (s : St) :
    okv ((blakeOps U xof).sample_u64 lo hi (ofSt s)) = (okv (U.u64 lo hi xof s)).map fun r => (ofSt r.2, r.1) := by
  show okv (match U.u64 lo hi xof (toSt (ofSt s)) with | .ok (v, s') => .ok (ofSt s', v) | .error e => .error e) = _
  rw [toSt_ofSt]; cases U.u64 lo hi xof s <;> rfl

/-! ### coefficient-major samplers (`ternary`, `centered_binomial`): one draw per coefficient, written to every component.
    The loops are variables given by their unfolding equations (`Proofs/GenLoop.lean`) -/

/-- the column loop `for j in 0..k { destination[i + j * n] = enc(j) }`: the writes float out -/
theorem gs_col_eq (loop : Nat → Nat → List Nat → R (List Nat)) (encJ : Nat → R Nat) (k n i : Nat) (hi : i < n) (hB : k * n < B64)
    (h0 : ∀ j d, loop 0 j d = pure d)
    (hs : ∀ c j d, loop (c + 1) j d = (do
      let val ← encJ j
      let t ← ckMul j n
      let p ← ckAdd i t
      let d ← setIdx d p val
      loop c (j + 1) d))
    (d : List Nat) (hd : d.length = k * n) :
    loop k 0 d = (List.range' 0 k).mapM encJ >>= fun ys => .ok (Loop.scat (fun j => i + j * n) 0 ys d) :=
  Loop.scatter loop encJ (fun j => i + j * n) .ok 0 k d h0 (fun c j d' _ hj hU => by
    have hpos := gs_pos_lt hi hj
    have hlt : i + j * n < B64 := Nat.lt_trans hpos hB
    rw [hs]
    simp only [bind, Except.bind, ckMul_ok (Nat.lt_of_le_of_lt (Nat.le_add_left _ _) hlt), ckAdd_ok hlt,
      gs_setIdx ((hU.length.trans hd) ▸ hpos)])
    k 0 d (Nat.le_refl _) (Nat.le_of_eq (Nat.zero_add k)) (Loop.Untouched.refl _ _ _ _)

/-- the effects of the coefficient loop `for i in 0..n { v = draw(rng); for j in 0..k { destination[i + j * n] = enc(v, j) } }`, in the
    loop's own order, without the writes -/
def drawEncs {σ : Type} (draw : σ → R (σ × Int)) (encJ : Int → Nat → R Nat) (k : Nat) : Nat → σ → R (σ × List (List Nat))
  | 0, g => pure (g, [])
  | c + 1, g => do
      let (g, v) ← draw g
      let xs ← (List.range' 0 k).mapM (encJ v)
      let (g, C) ← drawEncs draw encJ k c g
      pure (g, xs :: C)

/-- all columns: column `i + t` gets `C[t]` -/
def wcols (n : Nat) : Nat → List (List Nat) → List Nat → List Nat := Loop.scat2 fun a b => a + b * n

theorem gs_outer_eq {σ : Type} (loop : Nat → Nat → σ → List Nat → R (σ × List Nat)) (draw : σ → R (σ × Int))
    (col : Int → Nat → List Nat → R (List Nat)) (encJ : Int → Nat → R Nat) (k n : Nat)
    (h0 : ∀ i g d, loop 0 i g d = pure (g, d))
    (hs : ∀ c i g d, loop (c + 1) i g d = (do let (g, v) ← draw g; let d ← col v i d; loop c (i + 1) g d))
    (hcol : ∀ v i d, i < n → d.length = k * n →
      col v i d = (List.range' 0 k).mapM (encJ v) >>= fun ys => .ok (Loop.scat (fun j => i + j * n) 0 ys d)) :
    ∀ (c i : Nat) (g : σ) (d : List Nat), i + c = n → d.length = k * n →
      loop c i g d = (do let r ← drawEncs draw encJ k c g; pure (r.1, wcols n i r.2 d))
  | 0, i, g, d, _, _ => by rw [h0]; rfl
  | c + 1, i, g, d, hin, hd => by
    rw [hs, drawEncs]
    cases draw g with
    | error e => rfl
    | ok r =>
      obtain ⟨g1, v⟩ := r
      simp only [R.ok_bind']
      rw [hcol v i d (by omega) hd]
      cases (List.range' 0 k).mapM (encJ v) with
      | error e => rfl
      | ok xs =>
        simp only [R.ok_bind']
        rw [gs_outer_eq loop draw col encJ k n h0 hs hcol c (i + 1) g1 _ (by omega) (by rw [Loop.scat_length]; exact hd)]
        cases drawEncs draw encJ k c g1 <;> rfl

/-- generated draws interleaved with encodings = the model's "draw all, then encode all", as far as success goes; `hdraw`: the generated draw
    simulates the model's under the invariant -/
theorem drawEncs_okv (drawM : St → R (Int × St)) (drawG : BlakeRNG → R (BlakeRNG × Int)) (Inv : St → Prop)
    (hdraw : ∀ s, Inv s → okv (drawG (ofSt s)) = (okv (drawM s)).map fun r => (ofSt r.2, r.1))
    (hinv : ∀ s v s1, Inv s → drawM s = .ok (v, s1) → Inv s1) (encJ : Int → Nat → R Nat) (k : Nat) :
    ∀ (c : Nat) (s : St), Inv s →
      okv (drawEncs drawG encJ k c (ofSt s)) =
        okv (do let r ← sampleMany drawM c s
                let C ← r.1.mapM (fun v => (List.range' 0 k).mapM (encJ v))
                pure (ofSt r.2, C))
  | 0, s, _ => rfl
  | c + 1, s, hs => by
    rw [drawEncs, sampleMany_succ, okv_bind, hdraw s hs]
    cases hd : drawM s with
    | error e => rfl
    | ok r =>
      obtain ⟨v, s1⟩ := r
      have ih := drawEncs_okv drawM drawG Inv hdraw hinv encJ k c s1 (hinv s v s1 hs hd)
      simp only [okv_ok, Option.map_some, Option.bind_some, okv_bind, ih, okv_pure]
      cases hx : okv ((List.range' 0 k).mapM (encJ v)) <;> cases okv (sampleMany drawM c s1) <;>
        simp [okv_bind, hx]
      rename_i xs r2
      cases r2.1.mapM (fun v => (List.range' 0 k).mapM (encJ v)) <;> rfl

/-- a buffer that holds `c[j][t]` at every position `t + j·n` IS the flat layout of `c` -/
theorem gs_flat_of_pointwise (k n : Nat) (c : List (List Nat)) (d' : List Nat) (hl : d'.length = k * n)
    (h : ∀ t j, t < n → j < k → d'.getD (t + j * n) 0 = (c.getD j []).getD t 0) : d' = flatCM k n c := by
  apply List.ext_getElem
  · simp [flatCM, hl]
  · intro p h1 h2
    simp only [flatCM, List.getElem_map, List.getElem_range]
    have hp : p < k * n := by rw [← hl]; exact h1
    have hn : 0 < n := by
      rcases n with _ | n
      · simp at hp
      · omega
    have hq : p / n < k := (Nat.div_lt_iff_lt_mul hn).2 hp
    have := h (p % n) (p / n) (Nat.mod_lt _ hn) hq
    rw [Nat.mod_add_div'] at this
    rw [← this]
    simp [List.getD_eq_getElem?_getD, List.getElem?_eq_getElem h1]

theorem wcols_flat (k n : Nat) (C : List (List Nat)) (c : List (List Nat)) (d : List Nat) (hd : d.length = k * n) (hC : C.length = n)
    (hrow : ∀ t, t < n → (C.getD t []).length = k)
    (h : ∀ t j, t < n → j < k → (C.getD t []).getD j 0 = (c.getD j []).getD t 0) : wcols n 0 C d = flatCM k n c :=
  gs_flat_of_pointwise k n c _ (by rw [wcols, Loop.scat2_length, hd]) (fun t j ht hj => by
    have := Loop.scat2_get (fun a b => a + b * n) C 0 d (fun t b t' b' h1 _ h3 _ he => by
      simp only [Nat.zero_add] at he; exact gs_pos_inj (hC ▸ h1) (hC ▸ h3) he)
      t j (hC ▸ ht) (by rw [hrow t ht]; exact hj) (by simp only [Nat.zero_add]; rw [hd]; exact gs_pos_lt ht hj)
    simp only [Nat.zero_add] at this
    rw [wcols, List.getD_eq_getElem?_getD, this, ← List.getD_eq_getElem?_getD, h t j ht hj])

theorem getD_range' (k j : Nat) (h : j < k) : (List.range' 0 k).getD j 0 = j := by
  simp [List.getD_eq_getElem?_getD, h]

/-- the code encodes per coefficient, the model per component: the two orders succeed together, with transposed results -/
theorem encode_transpose (enc : Nat → Int → R Nat) (encJ : Int → Nat → R Nat) (moduli : List Nat)
    (henc : ∀ v j, j < moduli.length → encJ v j = enc (moduli.getD j 0) v) (vs : List Int) (d : List Nat)
    (hd : d.length = moduli.length * vs.length) (d' : List Nat) :
    (∃ C, vs.mapM (fun v => (List.range' 0 moduli.length).mapM (encJ v)) = .ok C ∧ d' = wcols vs.length 0 C d) ↔
      ∃ c, encodeAll enc moduli vs = .ok c ∧ d' = flatCM moduli.length vs.length c := by
  rw [encodeAll_eq_mapM]
  constructor
  · rintro ⟨C, hC, rfl⟩
    obtain ⟨hl, hrow⟩ := (R.mapM_eq_ok_iff _ 0 [] vs C).1 hC
    have hr := fun t ht => (R.mapM_eq_ok_iff _ 0 0 _ _).1 (hrow t ht)
    refine ⟨(List.range moduli.length).map fun j => (List.range vs.length).map fun t => (C.getD t []).getD j 0, ?_, ?_⟩
    · refine (R.mapM_eq_ok_iff _ 0 [] moduli _).2 ⟨by simp, fun j hj => (R.mapM_eq_ok_iff _ 0 0 vs _).2 ?_⟩
      rw [list_getD_range_map _ _ hj]
      refine ⟨by simp, fun t ht => ?_⟩
      rw [list_getD_range_map _ _ ht, ← henc _ _ hj]
      have := (hr t ht).2 j (by simpa using hj)
      rwa [getD_range' _ _ hj] at this
    · refine wcols_flat _ _ C _ d hd hl (fun t ht => by simpa using (hr t ht).1) (fun t j ht hj => ?_)
      rw [list_getD_range_map _ _ hj, list_getD_range_map _ _ ht]
  · rintro ⟨c, hc, rfl⟩
    obtain ⟨hl, hcol⟩ := (R.mapM_eq_ok_iff _ 0 [] moduli c).1 hc
    have hr := fun j hj => (R.mapM_eq_ok_iff _ 0 0 _ _).1 (hcol j hj)
    refine ⟨(List.range vs.length).map fun t => (List.range moduli.length).map fun j => (c.getD j []).getD t 0, ?_, ?_⟩
    · refine (R.mapM_eq_ok_iff _ 0 [] vs _).2 ⟨by simp, fun t ht => (R.mapM_eq_ok_iff _ 0 0 _ _).2 ?_⟩
      rw [list_getD_range_map _ _ ht]
      refine ⟨by simp, fun j hj => ?_⟩
      have hj' : j < moduli.length := by simpa using hj
      rw [list_getD_range_map _ _ hj', getD_range' _ _ hj', henc _ _ hj']
      exact (hr j hj').2 t ht
    · refine (wcols_flat _ _ _ c d hd (by simp) (fun t ht => by rw [list_getD_range_map _ _ ht]; simp) (fun t j ht hj => ?_)).symm
      rw [list_getD_range_map _ _ ht, list_getD_range_map _ _ hj]

/-- THE equivalence for the coefficient-major samplers (`ternary`, `centered_binomial`): a loop nest of the generated shape (draw, then one
    column of encodings) succeeds exactly when the model's "draw all, then encode all" does, with the model's result laid out flat -/
theorem gs_outer_model (loop : Nat → Nat → BlakeRNG → List Nat → R (BlakeRNG × List Nat)) (drawG : BlakeRNG → R (BlakeRNG × Int))
    (col : Int → Nat → List Nat → R (List Nat)) (encJ : Int → Nat → R Nat) (moduli : List Nat) (n : Nat)
    (h0 : ∀ i g d, loop 0 i g d = pure (g, d))
    (hs : ∀ c i g d, loop (c + 1) i g d = (do let (g, v) ← drawG g; let d ← col v i d; loop c (i + 1) g d))
    (hcol : ∀ v i d, i < n → d.length = moduli.length * n →
      col v i d = (List.range' 0 moduli.length).mapM (encJ v) >>= fun ys => .ok (Loop.scat (fun j => i + j * n) 0 ys d))
    (drawM : St → R (Int × St)) (Inv : St → Prop)
    (hdraw : ∀ s, Inv s → okv (drawG (ofSt s)) = (okv (drawM s)).map fun r => (ofSt r.2, r.1))
    (hinv : ∀ s v s1, Inv s → drawM s = .ok (v, s1) → Inv s1)
    (enc : Nat → Int → R Nat) (henc : ∀ v j, j < moduli.length → encJ v j = enc (moduli.getD j 0) v)
    (d : List Nat) (hd : d.length = moduli.length * n) (s : St) (hs' : Inv s) (g' : BlakeRNG) (d' : List Nat) :
    loop n 0 (ofSt s) d = .ok (g', d') ↔
      ∃ c s', (∃ vs, sampleMany drawM n s = .ok (vs, s') ∧ encodeAll enc moduli vs = .ok c) ∧ g' = ofSt s' ∧ d' = flatCM moduli.length n c := by
  rw [gs_outer_eq loop drawG col encJ moduli.length n h0 hs hcol n 0 (ofSt s) d (Nat.zero_add n) hd]
  have hE := drawEncs_okv drawM drawG Inv hdraw hinv encJ moduli.length n s hs'
  constructor
  · intro h
    obtain ⟨⟨g1, C⟩, h1, h2⟩ := R.bind_eq_ok.1 h
    simp only [pure, Except.pure, Except.ok.injEq, Prod.mk.injEq] at h2
    obtain ⟨rfl, rfl⟩ := h2
    rw [okv_eq_some.2 h1] at hE
    obtain ⟨⟨vs, s'⟩, m1, m2⟩ := R.bind_eq_ok.1 (okv_eq_some.1 hE.symm)
    obtain ⟨C', m3, m4⟩ := R.bind_eq_ok.1 m2
    simp only [pure, Except.pure, Except.ok.injEq, Prod.mk.injEq] at m4
    obtain ⟨rfl, rfl⟩ := m4
    have hl := sampleMany_length _ n s vs s' m1
    subst hl
    obtain ⟨c, hc, hd'⟩ := (encode_transpose enc encJ moduli henc vs d hd _).1 ⟨C', m3, rfl⟩
    exact ⟨c, s', ⟨vs, m1, hc⟩, rfl, hd'⟩
  · rintro ⟨c, s', ⟨vs, m1, hc⟩, rfl, rfl⟩
    have hl := sampleMany_length _ n s vs s' m1
    subst hl
    obtain ⟨C, m3, hw⟩ := (encode_transpose enc encJ moduli henc vs d hd _).2 ⟨c, hc, rfl⟩
    have : okv (drawEncs drawG encJ moduli.length vs.length (ofSt s)) = some (ofSt s', C) := by
      rw [hE, okv_eq_some]; simp only [m1, m3, R.ok_bind']; rfl
    rw [okv_eq_some.1 this, hw]; rfl

theorem gs_ckI32 {v : Int} {B : Nat} (h : v.natAbs ≤ B) (hB : B < 2^31) : ckI32 v = .ok v := by
  unfold ckI32; rw [if_pos ⟨by omega, by omega⟩]; rfl

-- `id rfl`, not `rfl`: a plain `rfl` proof makes `simp only` rewrite with these by unfolding, and on the 21 binds of `gs_cbdTail` the kernel then
-- ends in `deep recursion` (see the note at `gs_cbdTail_eq`)
theorem gs_idx6_0 (a b c d e f : Nat) : idx [a, b, c, d, e, f] 0 = .ok a := id rfl
theorem gs_idx6_1 (a b c d e f : Nat) : idx [a, b, c, d, e, f] 1 = .ok b := id rfl
theorem gs_idx6_2 (a b c d e f : Nat) : idx [a, b, c, d, e, f] 2 = .ok c := id rfl
theorem gs_idx6_3 (a b c d e f : Nat) : idx [a, b, c, d, e, f] 3 = .ok d := id rfl
theorem gs_idx6_4 (a b c d e f : Nat) : idx [a, b, c, d, e, f] 4 = .ok e := id rfl
theorem gs_idx6_5 (a b c d e f : Nat) : idx [a, b, c, d, e, f] 5 = .ok f := id rfl
theorem gs_set6_2 (a b c d e f v : Nat) : setIdx [a, b, c, d, e, f] 2 v = .ok [a, b, v, d, e, f] := id rfl
theorem gs_set6_5 (a b c d e f v : Nat) : setIdx [a, b, c, d, e, f] 5 v = .ok [a, b, c, d, e, v] := id rfl

/-- the part of the `cbd` closure after `rng.fill_bytes(&mut x)` -/
def gs_cbdTail (v3 : List Nat) : R Int := do
  let t1 ← idx v3 2
  let v3 ← setIdx v3 2 (t1 &&& 31)
  let t2 ← idx v3 5
  let v3 ← setIdx v3 5 (t2 &&& 31)
  let t3 ← idx v3 0
  let t4 ← hamming_weight t3
  let t5 ← idx v3 1
  let t6 ← hamming_weight t5
  let t7 ← ckI32 (t4 + t6)
  let t8 ← idx v3 2
  let t9 ← hamming_weight t8
  let t10 ← ckI32 (t7 + t9)
  let t11 ← idx v3 3
  let t12 ← hamming_weight t11
  let t13 ← ckI32 (t10 - t12)
  let t14 ← idx v3 4
  let t15 ← hamming_weight t14
  let t16 ← ckI32 (t13 - t15)
  let t17 ← idx v3 5
  let t18 ← hamming_weight t17
  let t19 ← ckI32 (t16 - t18)
  pure t19

theorem gs_closure_tail {σ : Type} (G : RngOps σ) (g : σ) :
    centered_binomial_closure1 G g = (do let (g, x) ← G.fill_bytes g [0, 0, 0, 0, 0, 0]; let v ← gs_cbdTail x; pure (g, v)) := by
  simp only [centered_binomial_closure1, gs_cbdTail, bind_assoc]

theorem gs_cbdTail_eq (b0 b1 b2 b3 b4 b5 : Nat) (h0 : b0 < 256) (h1 : b1 < 256) (h3 : b3 < 256) (h4 : b4 < 256) :
    gs_cbdTail [b0, b1, b2, b3, b4, b5] = .ok (cbdValue [b0, b1, b2, b3, b4, b5]) := by
  have m2 : b2 &&& 31 < 256 := Nat.lt_of_le_of_lt Nat.and_le_right (by decide)
  have m5 : b5 &&& 31 < 256 := Nat.lt_of_le_of_lt Nat.and_le_right (by decide)
  have e0 := gn_hamming_weight_eq b0 h0
  have e1 := gn_hamming_weight_eq b1 h1
  have e2 := gn_hamming_weight_eq _ m2
  have e3 := gn_hamming_weight_eq b3 h3
  have e4 := gn_hamming_weight_eq b4 h4
  have e5 := gn_hamming_weight_eq _ m5
  -- every weight is at most 8, so the partial sums stay below 16, 24, …, 48 in absolute value: no checked `i32` operation traps
  have w : ∀ {x}, x < 256 → (Int.ofNat (hammingWeight x)).natAbs ≤ 8 := fun h => hammingWeight_le8 _ h
  have a1 := Nat.le_trans (Int.natAbs_add_le _ _) (Nat.add_le_add (w h0) (w h1))
  have a2 := Nat.le_trans (Int.natAbs_add_le _ _) (Nat.add_le_add a1 (w m2))
  have a3 := Nat.le_trans (Int.natAbs_sub_le _ _) (Nat.add_le_add a2 (w h3))
  have a4 := Nat.le_trans (Int.natAbs_sub_le _ _) (Nat.add_le_add a3 (w h4))
  have a5 := Nat.le_trans (Int.natAbs_sub_le _ _) (Nat.add_le_add a4 (w m5))
  rw [cbdValue_six]
  -- `R.ok_bind'`, not the `rfl` lemma: on the definitional path through these 21 binds the kernel ends in `deep recursion`
  simp only [gs_cbdTail, R.ok_bind', gs_idx6_0, gs_idx6_1, gs_idx6_2, gs_idx6_3, gs_idx6_4, gs_idx6_5, gs_set6_2, gs_set6_5,
    e0, e1, e2, e3, e4, e5, gs_ckI32 a1 (by decide), gs_ckI32 a2 (by decide), gs_ckI32 a3 (by decide), gs_ckI32 a4 (by decide),
    gs_ckI32 a5 (by decide)]
  rfl

/-- the per-component encoding as coded -/
def gs_encCB (qs : List Nat) (v : Int) (j : Nat) : R Nat := do
  let t21 ← idx qs j
  let t22 ← ckMod (Int.natAbs v) t21
  let t24 ← (if ((v ≥ 0) ∨ (t22 = 0)) then (pure t22) else (do let t23 ← ckSub t21 t22; pure t23))
  pure t24

theorem gs_encCB_eq {qs : List Nat} {j : Nat} (h : j < qs.length) (v : Int) : gs_encCB qs v j = encError (qs.getD j 0) v := by
  have e := gs_idx h
  generalize qs.getD j 0 = q at e ⊢
  simp only [gs_encCB, e, bind, Except.bind, ckMod, encError, pure, Except.pure]
  by_cases hq : q = 0
  · simp [hq]
  · simp only [hq, if_false]

theorem gs_cbd_closure_eq (U : Uniform) {xof : Xof} (hx : SizedXof xof) (hbx : ByteXof xof) (s : St) (hs : SizedSt s) (hbs : ByteSt s) :
    centered_binomial_closure1 (blakeOps U xof) (ofSt s) = .ok (ofSt (fillBytes xof s 6).2, cbdValue (fillBytes xof s 6).1) := by
  have hf := gn_fill_bytes_eq hx s hs [0, 0, 0, 0, 0, 0] (by simp)
  have hl := fillBytes_length (xof := xof) s 6
  obtain ⟨hb, _⟩ := byte_fillBytes hbx hbs 6
  simp only [List.length_cons, List.length_nil] at hf
  generalize fillBytes xof s 6 = r at hf hl hb
  obtain ⟨bytes, s1⟩ := r
  simp only at hf hl hb ⊢
  rcases bytes with _ | ⟨b0, _ | ⟨b1, _ | ⟨b2, _ | ⟨b3, _ | ⟨b4, _ | ⟨b5, _ | ⟨b6, r⟩⟩⟩⟩⟩⟩⟩ <;> simp at hl
  have ht := gs_cbdTail_eq b0 b1 b2 b3 b4 b5 (hb b0 (by simp)) (hb b1 (by simp)) (hb b3 (by simp)) (hb b4 (by simp))
  rw [gs_closure_tail]
  simp only [blakeOps, hf, bind, Except.bind, ht, pure, Except.pure]

theorem gs_centered_binomial_iff (U : Uniform) {xof : Xof} (hx : SizedXof xof) (hbx : ByteXof xof) (s : St) (hs : SizedSt s) (hbs : ByteSt s)
    (n : Nat) (moduli dest : List Nat) (hd : dest.length = moduli.length * n) (hB : moduli.length * n < B64) (g' : BlakeRNG) (d' : List Nat) :
    centered_binomial (blakeOps U xof) (ofSt s) moduli n dest = .ok (g', d') ↔
      ∃ c s', centeredBinomial xof s n moduli = .ok (c, s') ∧ g' = ofSt s' ∧ d' = flatCM moduli.length n c := by
  have key := gs_outer_model (centered_binomial_loop1 (blakeOps U xof) moduli n moduli.length) (centered_binomial_closure1 (blakeOps U xof))
    (fun v i d => centered_binomial_loop2 (blakeOps U xof) moduli n i v (moduli.length - 0) 0 d) (gs_encCB moduli) moduli n
    (fun _ _ _ => rfl) (fun _ _ _ _ => rfl)
    (fun v i d hi hd => gs_col_eq _ (gs_encCB moduli v) moduli.length n i hi hB (fun _ _ => rfl)
      (fun c j d => by simp only [centered_binomial_loop2, gs_encCB, bind_assoc]) d hd)
    (cbdDraw xof) (fun s => SizedSt s ∧ ByteSt s)
    (fun s hi => by rw [gs_cbd_closure_eq U hx hbx s hi.1 hi.2]; rfl)
    (fun s v s1 hi he => by
      simp only [cbdDraw, Except.ok.injEq, Prod.mk.injEq] at he
      rw [← he.2]; exact ⟨sizedSt_fillBytes hx 6 s hi.1, (byte_fillBytes hbx hi.2 6).2⟩)
    encError (fun v j hj => gs_encCB_eq hj v) dest hd s ⟨hs, hbs⟩ g' d'
  unfold centered_binomial centeredBinomial
  simp only [Nat.sub_zero]
  rw [if_neg (by decide), if_neg (by decide), if_neg (by decide), if_neg (by decide), bind_pair_eta, key]
  exact exists_congr fun _ => exists_congr fun _ => and_congr_left fun _ => sampleEncode_ok_iff.symm

end HC.GenRng
