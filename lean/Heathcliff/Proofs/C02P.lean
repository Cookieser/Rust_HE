/- C02: the integer Horner phase `c02x_phZ` and the integer lifts of a ciphertext (`c02p_Lift`) with their algebra, stated on the ring of
   `NegRing.lean`.  These are the integer-level statements that the entry of the C02 check names (`c02p_phZ_*`, `c02p_lift_exists`,
   `c02p_phase_of_lift`, the `negMulR` bounds under the prefix): every operation acts on the integer Horner phase as the ring operation, an
   integer lift of a ciphertext exists, and the exact phase is the Horner phase of any lift modulo Q.  The program theorems (C02PL … C02PF) read
   the phase in the ring directly (C03P) and import nothing of this module; `c02p_ph`, `c02p_sk`, `c02p_LevelOK`, `c02p_Good` are in C02PL,
   `c02p_Enc` in C02PH.  Helper prefix `c02p_`.

   A ciphertext of `m` polynomials is read through integer coefficient functions `A k c` (polynomial k, coefficient c); its phase for
   the integer secret `s` is `c02x_phZ n s m A` (coefficient function of Σ_k A_k ⋆ s^k over ℤ[X]/(X^n+1), ⋆ = `negMulR`).  The
   operations on readings (`c02p_trZ`: balanced add / sub of any two sizes, `c02w_Z`: Cauchy product, `c02p_plZ`: product with one
   polynomial) act on the phase as the ring operations.  Method: in the ring `c03k_NP ℤ n` = ℤ[X]/(X^n+1) the Horner phase is `ctPhase`
   (`c02x_toNP_phZ`, C02K), so the C02K ring identities (`ct_mul_phase`, `mul_plain_phase`) apply; an equation in the ring is read back
   at a coefficient by `c03k_toNP_inj`.
   `c02p_Lift l ct A`: the integer coefficient functions `A k c` agree with the COEFFICIENT form (`intt`) of polynomial k modulo every q_i
   (`c02p_LiftR`: the same for any way of reading residues); such readings exist (`c02p_lift_exists`), and the exact phase `c02p_ph` is
   the Horner phase of any of them modulo Q (`c02p_phase_of_lift`).  Last: the norm bound and right-homogeneity of `negMulR` under the
   prefix, and two casts to `ZMod q`. -/
import Heathcliff.Proofs.C02PL
import Heathcliff.Proofs.C02K
import Heathcliff.Proofs.NegRing
namespace HC
open Finset

/-- reading of `e1·a ± e2·b` for operands of `n1`, `n2` polynomials (absent polynomials are zero) -/
def c02p_trZ (sub : Bool) (e1 e2 : Int) (n1 n2 : Nat) (A B : Nat → Nat → Int) (k c : Nat) : Int :=
  (if k < n1 then e1 * A k c else 0) + (if k < n2 then (if sub then -e2 else e2) * B k c else 0)

/-- reading of the product with one polynomial `P` -/
def c02p_plZ (n : Nat) (A : Nat → Nat → Int) (P : Nat → Int) (k c : Nat) : Int := negMulR n (A k) P c

theorem c02p_toNP_smul (n : Nat) (a : Int) (F : Nat → Int) : c03k_toNP n (fun c => a * F c) = (a : c03k_NP Int n) * c03k_toNP n F := by
  rw [c03k_toNP_zsmul, zsmul_eq_mul]

/-- an equation in ℤ[X]/(Xⁿ+1) between truncated coefficient functions, read at the coefficients -/
theorem c02p_pull {n : Nat} {F G : Nat → Int} (h : c03k_toNP n F = c03k_toNP n G) : ∀ c, c < n → F c = G c :=
  fun _ hc => c03k_toNP_inj h hc

theorem c02p_toNP_add (n : Nat) (F G : Nat → Int) : c03k_toNP n (fun c => F c + G c) = c03k_toNP n F + c03k_toNP n G :=
  c03k_toNP_add F G

theorem c02p_phZ_tr {n : Nat} (hn : 0 < n) (s : Nat → Int) (sub : Bool) (e1 e2 : Int) (n1 n2 : Nat) (A B : Nat → Nat → Int) :
    ∀ c, c < n → c02x_phZ n s (max n1 n2) (c02p_trZ sub e1 e2 n1 n2 A B) c =
      e1 * c02x_phZ n s n1 A c + (if sub then -e2 else e2) * c02x_phZ n s n2 B c := by
  apply c02p_pull
  have e : (fun k => c03k_toNP n (c02p_trZ sub e1 e2 n1 n2 A B k)) =
      fun k => (if k < n1 then (e1 : c03k_NP Int n) * c03k_toNP n (A k) else 0) +
        (if k < n2 then (((if sub then -e2 else e2) : Int) : c03k_NP Int n) * c03k_toNP n (B k) else 0) := by
    funext k
    unfold c02p_trZ
    rw [c02p_toNP_add]
    congr 1
    · split
      · exact c02p_toNP_smul _ _ _
      · exact c03k_toNP_zero
    · split
      · exact c02p_toNP_smul _ _ _
      · exact c03k_toNP_zero
  rw [c02x_toNP_phZ, c02p_toNP_add, c02p_toNP_smul, c02p_toNP_smul, c02x_toNP_phZ, c02x_toNP_phZ, e, ctPhase_add,
    ctPhase_trunc (Nat.le_max_left _ _), ctPhase_trunc (Nat.le_max_right _ _), ctPhase_smul, ctPhase_smul]

theorem c02p_phZ_mul {n : Nat} (hn : 0 < n) (s : Nat → Int) {n1 n2 : Nat} (h1 : 1 ≤ n1) (h2 : 1 ≤ n2) (A B : Nat → Nat → Int) :
    ∀ c, c < n → c02x_phZ n s (n1 + n2 - 1) (c02w_Z n1 n2 n A B) c =
      negMulR n (c02x_phZ n s n1 A) (c02x_phZ n s n2 B) c := by
  apply c02p_pull
  rw [c02x_toNP_phZ, c03k_toNP_mul, c02x_toNP_phZ, c02x_toNP_phZ, ← ct_mul_phase h1 h2]
  congr 1
  funext k
  show c03k_toNP n (fun c => ((mulPairs n1 n2 k).map (fun p => negMulR n (A p.1) (B p.2) c)).sum) = _
  rw [c03k_toNP_listsum]
  exact congrArg List.sum (List.map_congr_left fun p _ => c03k_toNP_mul _ _)

theorem c02p_phZ_pl {n : Nat} (hn : 0 < n) (s : Nat → Int) (m : Nat) (A : Nat → Nat → Int) (P : Nat → Int) :
    ∀ c, c < n → c02x_phZ n s m (c02p_plZ n A P) c = negMulR n (c02x_phZ n s m A) P c := by
  apply c02p_pull
  rw [c02x_toNP_phZ, c03k_toNP_mul, c02x_toNP_phZ, ← mul_plain_phase]
  exact congrArg (fun f => ctPhase m f _) (funext fun k => c03k_toNP_mul _ _)

theorem c02p_phZ_congr (n : Nat) (s : Nat → Int) : ∀ (m : Nat) (A B : Nat → Nat → Int),
    (∀ k, k < m → ∀ c, c < n → A k c = B k c) → ∀ c, c < n → c02x_phZ n s m A c = c02x_phZ n s m B c
  | 0, _, _, _, _, _ => rfl
  | m+1, A, B, h, c, hc => by
    show A 0 c + negMulR n (c02x_phZ n s m (fun k => A (k+1))) s c = B 0 c + negMulR n (c02x_phZ n s m (fun k => B (k+1))) s c
    rw [h 0 (by omega) c hc]
    congr 1
    exact c05u_negMul_congr n _ _ _ c (fun i hi => c02p_phZ_congr n s m _ _ (fun k hk c' hc' => h (k+1) (by omega) c' hc') i hi)

theorem c02p_phZ_add {n : Nat} (hn : 0 < n) (s : Nat → Int) (m : Nat) (A B : Nat → Nat → Int) :
    ∀ c, c < n → c02x_phZ n s m (fun k c => A k c + B k c) c = c02x_phZ n s m A c + c02x_phZ n s m B c := by
  apply c02p_pull
  rw [c02x_toNP_phZ, c02p_toNP_add, c02x_toNP_phZ, c02x_toNP_phZ, ← ctPhase_add]
  exact congrArg (fun f => ctPhase m f _) (funext fun k => c02p_toNP_add n (A k) (B k))

theorem c02p_phZ_smul {n : Nat} (hn : 0 < n) (s : Nat → Int) (m : Nat) (a : Int) (A : Nat → Nat → Int) :
    ∀ c, c < n → c02x_phZ n s m (fun k c => a * A k c) c = a * c02x_phZ n s m A c := by
  apply c02p_pull
  rw [c02x_toNP_phZ, c02p_toNP_smul, c02x_toNP_phZ, ← ctPhase_smul]
  exact congrArg (fun f => ctPhase m f _) (funext fun k => c02p_toNP_smul n a (A k))

theorem c02p_phZ_dvd (n : Nat) (s : Nat → Int) (t : Int) : ∀ (m : Nat) (A : Nat → Nat → Int),
    (∀ k, k < m → ∀ c, c < n → t ∣ A k c) → ∀ c, c < n → t ∣ c02x_phZ n s m A c
  | 0, _, _, _, _ => by simp [c02x_phZ]
  | m+1, A, h, c, hc => by
    show t ∣ A 0 c + negMulR n (c02x_phZ n s m (fun k => A (k+1))) s c
    exact dvd_add (h 0 (by omega) c hc)
      (c05u_negMul_dvd n t _ s c (fun i hi => c02p_phZ_dvd n s t m _ (fun k hk c' hc' => h (k+1) (by omega) c' hc') i hi))

theorem c02p_negMul_bound (n : Nat) (a b : Nat → Int) (Ba Bb c : Nat) (hc : c < n) (ha : ∀ i, i < n → (a i).natAbs ≤ Ba)
    (hb : ∀ i, i < n → (b i).natAbs ≤ Bb) : (negMulR n a b c).natAbs ≤ n * Ba * Bb :=
  negMulR_norm_le n a b Ba Bb ha hb c hc

theorem c02p_negMul_smul_right {R : Type} [CommRing R] (n : Nat) (k : R) (a b : Nat → R) (c : Nat) :
    negMulR n a (fun i => k * b i) c = k * negMulR n a b c :=
  negMulR_smul_right n k a b c

/-! ## integer lifts of a ciphertext -/

/-- coefficient `c` of RNS component `i` of the coefficient form of polynomial `k` -/
def c02p_coef (l : Level) (ct : Ct) (k i c : Nat) : Nat := (intt (l.tbl i) ((ct.polys.getD k #[]).getD i #[])).getD c 0

/-- integer reading of the coefficient form of an NTT-form ciphertext -/
def c02p_Lift (l : Level) (ct : Ct) (A : Nat → Nat → Int) : Prop :=
  ∀ k, k < ct.polys.size → ∀ i, i < l.size → ∀ c, c < l.n → ((c02p_coef l ct k i c : Nat) : Int) ≡ A k c [ZMOD (l.q i).value]

theorem c02p_lift_exists {l : Level} (hq : c07s_LevelQ l) (ct : Ct) : ∃ A, c02p_Lift l ct A := by
  have h : ∀ k c, ∃ x : Nat, ∀ i, i < l.size → x % (l.q i).value = c02p_coef l ct k i c % (l.q i).value := by
    intro k c
    obtain ⟨x, -, hx⟩ := RNSBase.WF.crt_exists hq.bwf (fun i => c02p_coef l ct k i c)
    refine ⟨x, fun i hi => ?_⟩
    have := hx i (by rw [hq.size_eq]; exact hi)
    rwa [hq.q_eq hi] at this
  choose X hX using h
  exact ⟨fun k c => (X k c : Int), fun k _ i hi c _ => (Int.natCast_modEq_iff.mpr (hX k c i hi)).symm⟩

theorem c02p_phase_of_lift {l : Level} (hl : l.WF) (hq : c07s_LevelQ l) {sk : Array Int} (hsk : sk.size = l.n) {ct : Ct}
    (hc : c02v_PolysCanon l ct) {A : Nat → Nat → Int} (hA : c02p_Lift l ct A) {j : Nat} (hj : j < l.n) :
    c02p_ph l sk ct j ≡ c02x_phZ l.n (c02p_sk sk) ct.polys.size A j [ZMOD l.tool.baseQ.prod] := by
  have hne : ct.polys.toList.map (rnsIntt l) ≠ [] := by simpa using c01q_polys_ne hc.two_le
  have hlen : (ct.polys.toList.map (rnsIntt l)).length = ct.polys.size := by simp
  have h := c02x_phase_lift hq (sk := sk) hne A (fun k hk i hi c hc' => by
    have hk' : k < ct.polys.toList.length := by simpa using hk
    rw [list_getD_map (rnsIntt l) ct.polys.toList #[] #[] hk', array_getD_toList, c01o_rnsIntt_getD l _ hi]
    exact hA k (by simpa using hk) i hi c hc') hj
  rw [hlen] at h
  exact h

theorem c02p_cast_sub {q : Nat} (u v : Nat) (hv : v ≤ u + q) :
    (((u + q - v) % q : Nat) : ZMod q) = (u : ZMod q) - (v : ZMod q) := by
  rw [ZMod.natCast_mod, Nat.cast_sub hv, Nat.cast_add, ZMod.natCast_self, add_zero]

theorem c02p_cast_neg {q : Nat} (v : Nat) (hv : v ≤ q) : (((q - v) % q : Nat) : ZMod q) = - (v : ZMod q) :=
  c02v_neg_cast (ZMod.natCast_self q) hv

end HC
