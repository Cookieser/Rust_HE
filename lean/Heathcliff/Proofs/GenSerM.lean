/-
  PREFIX MONOTONICITY of reader programs.  A reader built from `rpure`, `rfail`, `read_exact`,
  `rbind`, conditionals and the generated loops only looks at the bytes it consumes; hence, if it SUCCEEDS on a stream `p ++ t`, then
  on the prefix `p` it either succeeds with the same value (having consumed the same bytes) or reports `UnexpectedEof` — never a
  panic, never `InvalidData`.  This is what turns "accepts the full encoding" into C15's truncation clause for the generated readers.
  Helper prefix `gm_`.
-/
import Heathcliff.Proofs.GenSerF
namespace HC.GS
open HC HC.Codec HC.GenS

structure RMono {α} (m : Rd α) : Prop where
  mono : ∀ (p t : Bytes) (v : α) (r : Bytes), m (p ++ t) = .ok (v, r) →
    (∃ r', m p = .ok (v, r') ∧ r = r' ++ t) ∨ (∃ s, m p = .error (.eof s))

theorem gm_pure {α} (a : α) : RMono (rpure a) :=
  ⟨fun p t v r h => by cases h; exact .inl ⟨p, rfl, rfl⟩⟩

theorem gm_fail {α} (e : DErr) : RMono (rfail e : Rd α) :=
  ⟨fun p t v r h => nomatch h⟩

theorem gm_readExact (k : SK) (n : Nat) : RMono (rreadExact k n) := by
  refine ⟨fun p t v r h => ?_⟩
  unfold rreadExact readExact at h ⊢
  by_cases hp : p.length < n
  · exact .inr ⟨k, if_pos hp⟩
  · have hn : n ≤ p.length := Nat.le_of_not_lt hp
    rw [if_neg (by rw [List.length_append]; omega), List.take_append_of_le_length hn, List.drop_append_of_le_length hn] at h
    cases h
    exact .inl ⟨p.drop n, if_neg hp, rfl⟩

theorem gm_bind {α β} {m : Rd α} {f : α → Rd β} (hm : RMono m) (hf : ∀ a, RMono (f a)) : RMono (rbind m f) := by
  refine ⟨fun p t v r h => ?_⟩
  unfold rbind at h ⊢
  cases h1 : m (p ++ t) with
  | error e => rw [h1] at h; cases h
  | ok q =>
    obtain ⟨a, r1⟩ := q
    rw [h1] at h
    rcases hm.mono p t a r1 h1 with ⟨r1', hp, rfl⟩ | ⟨s, hp⟩
    · rw [hp]
      exact (hf a).mono r1' t v r h
    · exact .inr ⟨s, by rw [hp]⟩

theorem gm_ite {α} (c : Prop) [Decidable c] {a b : Rd α} (ha : RMono a) (hb : RMono b) : RMono (if c then a else b) := by
  split
  · exact ha
  · exact hb

theorem gm_level {α} (o : Option Level) {f : Level → Rd α} {g : Rd α} (hf : ∀ lv, RMono (f lv)) (hg : RMono g) :
    RMono (match o with | some lv => f lv | none => g) := by
  cases o
  · exact hg
  · exact hf _

theorem gm_lift {α} : ∀ x : R α, RMono (rlift x)
  | .error _ => ⟨fun p t v r h => nomatch h⟩
  | .ok a => gm_pure a

theorem gm_rfill (f : Nat → Rd Nat) (hf : ∀ x, RMono (f x)) : ∀ l, RMono (rfill f l)
  | [] => gm_pure _
  | x :: xs => gm_bind (hf x) fun _ => gm_bind (gm_rfill f hf xs) fun _ => gm_pure _

theorem gm_u64 : RMono u64_deserialize := gm_bind (gm_readExact _ _) fun _ => gm_pure _
theorem gm_usize : RMono usize_deserialize := gm_bind (gm_readExact _ _) fun _ => gm_pure _
theorem gm_u8 : RMono u8_deserialize := gm_bind (gm_readExact _ _) fun _ => gm_pure _
theorem gm_bool : RMono bool_deserialize := gm_bind gm_u8 fun _ => gm_pure _
theorem gm_f64 : RMono f64_deserialize := gm_bind gm_u64 fun _ => gm_pure _
theorem gm_pid : RMono pid_deserialize := gm_bind (gm_rfill _ (fun _ => gm_bind gm_u64 fun _ => gm_pure _) _) fun _ => gm_pure _

/-- the common end of both ciphertext readers: `contains_seed`, then `expand_seed` on a seeded ciphertext -/
theorem gm_finish (expand : List Nat → Level → List Nat) (ctx : Ctx) (ret : CtFlat) :
    RMono (match ctfContainsSeed ret with
      | some b => if b then (match ctfExpandSeed expand ctx ret with | some t => rpure t | none => rfail .bad) else rpure ret
      | none => rfail .bad) := by
  cases ctfContainsSeed ret with
  | none => exact gm_fail _
  | some b =>
    refine gm_ite _ ?_ (gm_pure ret)
    cases ctfExpandSeed expand ctx ret with
    | none => exact gm_fail _
    | some t => exact gm_pure t

theorem gm_full_loop (expand : List Nat → Level → List Nat) : ∀ (l : List Nat) (data : List Nat),
    RMono (ct_deserialize_full_loop1 expand l data)
  | [], _ => gm_pure _
  | _ :: rest, _ => gm_bind gm_u64 fun _ => gm_ite _ (gm_full_loop expand rest _) (gm_fail _)

theorem gm_ct_deserialize_full (expand : List Nat → Level → List Nat) (ctx : Ctx) : RMono (ct_deserialize_full expand ctx) := by
  refine gm_bind gm_pid fun pid => gm_level _ (fun lv => ?_) (gm_fail _)
  refine gm_bind gm_usize fun size => gm_bind gm_bool fun ntt => ?_
  refine gm_ite _ (gm_bind gm_f64 fun _ => gm_ite _ (gm_bind gm_u64 fun _ => ?_) ?_) (gm_ite _ (gm_bind gm_u64 fun _ => ?_) ?_)
  -- after the optional `scale` and `correction_factor` the generated code has the same continuation four times
  all_goals exact gm_bind gm_usize fun _ => gm_bind (gm_full_loop expand _ _) fun _ => gm_finish expand ctx _

theorem gm_limited_loop : ∀ (l : List Nat) (value : Nat), RMono (read_u64_limited_loop1 l value)
  | [], _ => gm_pure _
  | _ :: rest, _ => gm_bind gm_u8 fun _ => gm_ite _ (gm_limited_loop rest _) (gm_fail _)

theorem gm_limited (limit : Nat) : RMono (read_u64_limited limit) :=
  gm_bind (gm_limited_loop _ _) fun _ => gm_pure _

theorem gm_chunks (n : Nat) (f : Nat → List Nat → Rd (List Nat)) (hf : ∀ j c, RMono (f j c)) :
    ∀ (fuel j : Nat) (v : List Nat), RMono (rchunksM n f fuel j v)
  | 0, _, _ => gm_pure _
  | fuel + 1, j, _ => gm_ite _ (gm_pure _) (gm_bind (hf j _) fun _ => gm_bind (gm_chunks n f hf fuel _ _) fun _ => gm_pure _)

theorem gm_ct_loop (expand : List Nat → Level → List Nat) (k n : Nat) (limits : List Nat) :
    ∀ (l : List Nat) (data : List Nat), RMono (ct_deserialize_loop1 expand k n limits l data)
  | [], _ => gm_pure _
  | _ :: rest, _ =>
    gm_ite _ (gm_ite _ (gm_fail _)
        (gm_bind (gm_chunks n _ (fun _ _ => gm_bind (gm_rfill _ (fun _ => gm_bind (gm_lift _) fun _ => gm_bind (gm_limited _) fun _ =>
            gm_pure _) _) fun _ => gm_pure _) _ _ _) fun _ => gm_ct_loop expand k n limits rest _))
      (gm_fail _)

theorem gm_ct_deserialize (expand : List Nat → Level → List Nat) (ctx : Ctx) : RMono (ct_deserialize expand ctx) := by
  refine gm_bind gm_pid fun pid => gm_level _ (fun lv => ?_) (gm_fail _)
  refine gm_bind gm_usize fun size => gm_bind gm_bool fun ntt => ?_
  refine gm_ite _ (gm_bind gm_f64 fun _ => gm_ite _ (gm_bind gm_u64 fun _ => ?_) ?_) (gm_ite _ (gm_bind gm_u64 fun _ => ?_) ?_)
  all_goals
    refine gm_bind gm_bool fun _ => gm_bind (gm_lift _) fun _ => gm_bind (gm_ct_loop expand _ _ _ _ _) fun _ =>
      gm_ite _ ?_ (gm_finish expand ctx _)
    exact gm_ite _ (gm_ite _ (gm_bind (gm_rfill _ (fun _ => gm_bind gm_u64 fun _ => gm_pure _) _) fun _ =>
      gm_ite _ (gm_finish expand ctx _) (gm_fail _)) (gm_fail _)) (gm_fail _)

/-- THE TRUNCATION CLAUSE from monotonicity: a reader that accepts `e` and consumes all of it answers `UnexpectedEof` on every strict
    prefix of `e` -/
theorem gm_truncation {α} (m : Rd α) (hm : RMono m) (e : Bytes) (v : α) (h : m e = .ok (v, [])) (k : Nat) (hk : k < e.length) :
    ∃ s, m (e.take k) = .error (.eof s) := by
  rw [← List.take_append_drop k e] at h
  rcases hm.mono _ _ v [] h with ⟨r', _, hr⟩ | hs
  · -- the empty remainder would end in the nonempty `e.drop k`
    have := congrArg List.length hr
    rw [List.length_append, List.length_drop, List.length_nil] at this
    omega
  · exact hs

/-- C14, FROM SOURCE TO SOURCE (flat-word format): what the generated `deserialize_full` reads back from the bytes the generated
    `serialize_full` wrote (followed by anything) is the model's round-trip value `norm c` (the ciphertext itself; its seed-expanded form
    for a seeded one) as the flat record `from_members` builds, and exactly those bytes are consumed -/
theorem c14g_ct_full_source_round_trip (ctx : Ctx) (expand : List Nat → Level → List Nat)
    (hpos : ∀ pid lv, ctx.find pid = some lv → 0 < lv.moduli.length * lv.n) (c : CtFull) (lv : Level)
    (hv : (ctFullC ctx expand).valid c) (hfind : ctx.find c.pid = some lv) (hl : c.pid.length = 4)
    (hsch : lv.scheme = 1 ∨ lv.scheme = 2 ∨ lv.scheme = 3) (hle : fullSent lv c ≤ c.data.length) (rest : Bytes) :
    ct_deserialize_full expand ctx ((ct_serialize_full idealStream ctx (ctvOfFull lv c) []).2 ++ rest)
      = .ok (flatOfFull ((ctx.find ((ctFullC ctx expand).norm c).pid).getD noLevel) ((ctFullC ctx expand).norm c), rest) := by
  rw [c14g_ct_serialize_full ctx expand c lv hfind hl hsch hle []]
  simp only [List.nil_append]
  exact gf_full_ok ctx expand hpos _ _ _ ((ctFullC_lawful ctx expand).rt c hv rest)

/-- C15, the truncation clause for the generated reader: on every strict prefix of a valid encoding `deserialize_full` returns
    `Err(UnexpectedEof)` — no object, no panic (in particular none of its index / slice / `unwrap` panics can fire) -/
theorem c15g_ct_full_reader_truncation (ctx : Ctx) (expand : List Nat → Level → List Nat)
    (hpos : ∀ pid lv, ctx.find pid = some lv → 0 < lv.moduli.length * lv.n) (c : CtFull)
    (hv : (ctFullC ctx expand).valid c) (k : Nat) (hk : k < ((ctFullC ctx expand).enc c).length) :
    ∃ s, ct_deserialize_full expand ctx (((ctFullC ctx expand).enc c).take k) = .error (.eof s) := by
  have hrt := (ctFullC_lawful ctx expand).rt c hv []
  rw [List.append_nil] at hrt
  exact gm_truncation _ (gm_ct_deserialize_full expand ctx) _ _ (gf_full_ok ctx expand hpos _ _ _ hrt) k hk

end HC.GS
