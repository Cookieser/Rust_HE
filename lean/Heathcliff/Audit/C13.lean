/- Audit of property C13: `#print axioms` for every property theorem of Props/C13.lean; `audit()` of tools/runner.py elaborates this file
   and compares each axiom list with the three standard axioms. -/
import Heathcliff.Props.C13
#print axioms HC.C13.ladder_order_in_source
#print axioms HC.C13.ladder_matches_source
#print axioms HC.C13.validate_sound
#print axioms HC.C13.validate_sound_spec
#print axioms HC.C13.error_ladder
#print axioms HC.C13.rnsBaseNew_eq
#print axioms HC.C13.validate_parms
#print axioms HC.C13.constants_eq_definitions
#print axioms HC.C13.chain_wellformed
#print axioms HC.C13.parms_id_preimage_injective
#print axioms HC.C13.parms_id_collision_free
#print axioms HC.C13.chain_ids_distinct
#print axioms HC.C13.get_primes_spec
#print axioms HC.C13.candidates_spec
#print axioms HC.C13.create_spec
#print axioms HC.C13.batching_spec
#print axioms HC.C13.is_prime_no_false_negative
#print axioms HC.C13.is_prime_converse_fails_for_some_witnesses
#print axioms HC.C13.gen_cond_size_eq
#print axioms HC.C13.gen_cond_bits_eq
#print axioms HC.C13.gen_cond_degree_eq
#print axioms HC.C13.gen_cond_plain_eq
#print axioms HC.C13.gen_validate_size
#print axioms HC.C13.gen_validate_bits
#print axioms HC.C13.gen_validate_degree
#print axioms HC.C13.gen_validateBfv_plain
#print axioms HC.C13.validate_total_classified
#print axioms HC.C13.validate_total_early
#print axioms HC.C13.createNext_total
#print axioms HC.C13.new_total
#print axioms HC.C13.gen_security_table_is_the_standard
#print axioms HC.C13.standard_monotone
#print axioms HC.C13.gen_decompose_eq
#print axioms HC.C13.gen_validate_total_eq
#print axioms HC.C13.gen_validate_bfv_consts_eq
#print axioms HC.C13.gen_plain_upper_half_increment_multiword
#print axioms HC.C13.gen_level_constants
#print axioms HC.C13.gen_validate_ckks_consts_eq
#print axioms HC.C13.gen_level_constants_ckks
#print axioms HC.C13.gen_create_next_eq
#print axioms HC.C13.gen_create_next_refuses
#print axioms HC.C13.chain_level_primes
#print axioms HC.C13.chain_from_first
#print axioms HC.C13.WordConsts_partial
#print axioms HC.C13.gen_new_first_eq
