/-
  C11P: the batching round trip of the MODEL (`batchEncode` / `batchDecode` of Model/Galois.lean) for tables produced by the MODEL's
  constructor `NTTTables.new` — i.e. for every degree N = 2^k (1 ≤ k ≤ 60) and every plain modulus the constructor accepts (it
  refuses unless its primality flag `pr` — the model's reading of the cached Miller–Rabin verdict `modulus.is_prime()` — is set and
  2N | t − 1: `NTTTables.new_inv`; nothing in this file ties the flag to `Nat.Prime t`), with any admissible starting root.  Composition of `NTTTables.new_wf_u64`
  (C09G) with the round-trip theorems of C11N (which use `intt_ntt` / `ntt_intt` and the index-map permutation theorem).
-/
import Heathcliff.Proofs.C11N
namespace HC

/-- **model encode, then model decode = identity with zero padding**, tables from the constructor: for every k in [1, 60], every
    well-formed modulus m and every table `NTTTables.new k m pr root0` returns, every vector of at most N = 2^k residues encodes to a
    canonical plaintext of N coefficients whose decoding returns the vector, followed by zeros (`getD`) -/
theorem batch_round_trip_of_new {k : Nat} {m : Modulus} {pr : Bool} {root0 : Nat} {t : NTTTables}
    (hm : m.WF) (hk1 : 1 ≤ k) (hk : k ≤ 60) (hr0 : root0 < 2^64) (h : NTTTables.new k m pr root0 = .ok t)
    (v : Array Nat) (hs : v.size ≤ 2^k) (hv : ∀ j, j < v.size → v.getD j 0 < m.value) :
    ∃ p, batchEncode t v = .ok p ∧ p.size = 2^k ∧ (∀ j, j < 2^k → p.getD j 0 < m.value) ∧
      (∀ i, i < 2^k → (batchDecode t p).getD i 0 = v.getD i 0) ∧
      (∀ i, v.size ≤ i → i < 2^k → (batchDecode t p).getD i 0 = 0) := by
  obtain ⟨hw, htk, htm, _⟩ := NTTTables.new_wf_u64 hm hk hr0 h
  obtain ⟨p, hp, hsz, hlt, hrt⟩ := batch_decode_encode hw (by rw [htk]; exact hk1) v (by rw [htk]; exact hs)
    (by rw [htm]; exact hv)
  rw [htk] at hsz hlt hrt
  rw [htm] at hlt
  refine ⟨p, hp, hsz, hlt, hrt, fun i hi hlt' => ?_⟩
  rw [hrt i hlt']
  simp [Array.getD, Nat.not_lt.mpr hi]

/-- ... and model decode, then model encode = identity on canonical plaintexts of full length (so the pair is a bijection between
    canonical plaintexts and slot vectors) -/
theorem batch_encode_decode_of_new {k : Nat} {m : Modulus} {pr : Bool} {root0 : Nat} {t : NTTTables}
    (hm : m.WF) (hk1 : 1 ≤ k) (hk : k ≤ 60) (hr0 : root0 < 2^64) (h : NTTTables.new k m pr root0 = .ok t)
    (p : Array Nat) (hs : p.size = 2^k) (hp : ∀ j, j < 2^k → p.getD j 0 < m.value) :
    batchEncode t (batchDecode t p) = .ok p := by
  obtain ⟨hw, htk, htm, _⟩ := NTTTables.new_wf_u64 hm hk hr0 h
  exact batch_encode_decode hw (by rw [htk]; exact hk1) p (by rw [htk]; exact hs) (by rw [htk, htm]; exact hp)

/-- a table exists only if the primality flag `pr` passed to the constructor is `true` and 2N | t − 1 -/
theorem batch_tables_only_for_batching_primes {k : Nat} {m : Modulus} {pr : Bool} {root0 : Nat} {t : NTTTables}
    (h : NTTTables.new k m pr root0 = .ok t) : pr = true ∧ (m.value - 1) % (2 * 2^k) = 0 := by
  obtain ⟨hpr, _, hdiv, _⟩ := NTTTables.new_inv h
  exact ⟨hpr, hdiv⟩

end HC
