import Heathcliff.Proofs.C09D
import Heathcliff.Proofs.C09E
import Heathcliff.Proofs.C09F
import Heathcliff.Proofs.C09G
import Heathcliff.Proofs.GenNttArith
import Heathcliff.Proofs.GenNttHarvey
import Heathcliff.Proofs.GenPolyLazy

/- C09 — the number-theoretic transform of src/util/ntt.rs / dwthandler.rs is the evaluation map it is documented to be.
   The property itself is, on the tables of a successful `NTTTables.new` (`NTTTables.WF`): `ntt_eval` (output i = the input polynomial at
   ψ^(2·brev i + 1) mod q), `intt_ntt` / `ntt_intt` (mutually inverse), `ntt_convolution_api` (pointwise product ↔ product modulo
   X^N + 1), the ranges of the lazy forms (`nttLazy_spec`, `inttLazy_range`), and `root_deterministic_pow2` (the root depends on N and q
   only, for prime q).  What stands before them are the steps they are made of, re-exported because other properties build on them:
   bit reversal, the generic network over any commutative ring (`fwd_eval`, `inv_fwd`, `eval_negMul`), the lazy instance against the exact
   one (`fwd_lazy_sim`, `inv_lazy_sim`), the table link (`NTTTables.new_wf_u64`).  Proofs: Proofs/C09D–G.
   The `gen_…` theorems of the second half say that the functions generated from the Rust source equal the hand model. -/
namespace HC.C09
open HC
variable {m : Modulus}
open Finset
variable {R : Type} [CommRing R]

theorem brev_lt (k i : Nat) : brev k i < 2^k := HC.brev_lt k i

theorem brev_brev {k i : Nat} (h : i < 2^k) : brev k (brev k i) = i := HC.brev_brev h

theorem brev_two_mul (k m : Nat) : brev (k+1) (2*m) = brev k m := HC.brev_two_mul k m

theorem brev_two_mul_add_one (k m : Nat) : brev (k+1) (2*m+1) = 2^k + brev k m := HC.brev_two_mul_add_one k m

/-- a value that fits in k bits, reversed in a (k+1)-bit window, is doubled -/
theorem brev_succ_of_lt {k m : Nat} (h : m < 2^k) : brev (k+1) m = 2 * brev k m := HC.brev_succ_of_lt h

/-- index identity linking the scrambled inverse table to the bit-reversed forward table -/
theorem brev_pred {k l i : Nat} (hl : l < k) (hi : i < 2^l) :
    brev k (brev k (2^l + i) - 1) = 2^k - 2^(l+1) + i := HC.brev_pred hl hi

/-- the network only looks at indices below 2^k -/
theorem runFwd_congr (k : Nat) (roots : Nat → R) (a a' : Nat → R) (h : ∀ p, p < 2^k → a p = a' p) :
    ∀ l, l ≤ k → ∀ p, p < 2^k → runFwd (exactArith R) k roots a l p = runFwd (exactArith R) k roots a' l p := HC.runFwd_congr k roots a a' h

theorem runInv_congr (k : Nat) (roots : Nat → R) (a a' : Nat → R) (h : ∀ p, p < 2^k → a p = a' p) :
    ∀ l, l ≤ k → ∀ p, p < 2^k → runInv (exactArith R) k roots a l p = runInv (exactArith R) k roots a' l p := HC.runInv_congr k roots a a' h

/-- FORWARD: output i is the evaluation of the input polynomial at psi^(2·brev k i + 1) -/
theorem fwd_eval (k : Nat) (ψ : R) (hψ : ψ^(2^k) = -1) (roots : Nat → R)
    (hroots : ∀ j, 0 < j → j < 2^k → roots j = ψ^(brev k j)) (a : Nat → R) :
    ∀ i, i < 2^k → runFwd (exactArith R) k roots a k i = ∑ j ∈ range (2^k), a j * (ψ^(2 * brev k i + 1))^j := HC.fwd_eval k ψ hψ roots hroots a

/-- INVERSE ∘ FORWARD = 2^k · id (the remaining factor is cancelled by the scalar n^{-1}) -/
theorem inv_fwd (k : Nat) (ψ ψi : R) (hinv : ψ * ψi = 1) (roots iroots : Nat → R)
    (hroots : ∀ j, 0 < j → j < 2^k → roots j = ψ^(brev k j))
    (hiroots : ∀ p, 0 < p → p < 2^k → iroots p = ψi^(brev k (p-1) + 1)) (a : Nat → R) :
    ∀ p, p < 2^k → runInv (exactArith R) k iroots (runFwd (exactArith R) k roots a k) k p = 2^k * a p := HC.inv_fwd k ψ ψi hinv roots iroots hroots hiroots a

/-- FORWARD ∘ INVERSE = 2^k · id -/
theorem fwd_inv (k : Nat) (ψ ψi : R) (hinv : ψ * ψi = 1) (roots iroots : Nat → R)
    (hroots : ∀ j, 0 < j → j < 2^k → roots j = ψ^(brev k j))
    (hiroots : ∀ p, 0 < p → p < 2^k → iroots p = ψi^(brev k (p-1) + 1)) (a : Nat → R) :
    ∀ p, p < 2^k → runFwd (exactArith R) k roots (runInv (exactArith R) k iroots a k) k p = 2^k * a p := HC.fwd_inv k ψ ψi hinv roots iroots hroots hiroots a

/-- evaluation at a root of X^n + 1 is multiplicative for the negacyclic product -/
theorem eval_negMul (n : Nat) (hn : 0 < n) (x : R) (hx : x^n = -1) (a b : Nat → R) :
    ∑ c ∈ range n, negMulR n a b c * x^c = (∑ i ∈ range n, a i * x^i) * (∑ j ∈ range n, b j * x^j) := HC.eval_negMul n hn x hx a b

/-- CONVOLUTION: inverse transform of the pointwise product of transforms = 2^k · negacyclic product -/
theorem ntt_convolution (k : Nat) (ψ ψi : R) (hψ : ψ^(2^k) = -1) (hinv : ψ * ψi = 1) (roots iroots : Nat → R)
    (hroots : ∀ j, 0 < j → j < 2^k → roots j = ψ^(brev k j))
    (hiroots : ∀ p, 0 < p → p < 2^k → iroots p = ψi^(brev k (p-1) + 1)) (a b : Nat → R) :
    ∀ c, c < 2^k →
      runInv (exactArith R) k iroots
        (fun i => runFwd (exactArith R) k roots a k i * runFwd (exactArith R) k roots b k i) k c
      = 2^k * negMulR (2^k) a b c := HC.ntt_convolution k ψ ψi hψ hinv roots iroots hroots hiroots a b

/-- lazy multiplication by a well-formed operand: < 2q and congruent, for every x < 2^64 -/
theorem mulRoot_lazy (h : m.WF) {o : MulOperand} (ho : WFOp m o) {x : Nat} (hx : x < 2^64) :
    (modArithLazy m).mulRoot x o < 2 * m.value ∧
    (((modArithLazy m).mulRoot x o : Nat) : ZMod m.value) = (x : ZMod m.value) * (o.operand : ZMod m.value) := HC.mulRoot_lazy h ho hx

/-- FORWARD lazy network: inputs < 4q ⇒ every intermediate and output value < 4q (< 2^63: no overflow in `a + b`,
    `a + 2q - b`), and it computes the exact network modulo q -/
theorem fwd_lazy_sim (h : m.WF) (k : Nat) (roots : Nat → MulOperand)
    (hr : ∀ j, 0 < j → j < 2^k → WFOp m (roots j)) (a : Nat → Nat) (ha : ∀ p, p < 2^k → a p < 4 * m.value) :
    ∀ l, l ≤ k → ∀ p, p < 2^k →
      runFwd (modArithLazy m) k roots a l p < 4 * m.value ∧
      ((runFwd (modArithLazy m) k roots a l p : Nat) : ZMod m.value)
        = runFwd (exactArith (ZMod m.value)) k (fun j => ((roots j).operand : ZMod m.value))
            (fun p => (a p : ZMod m.value)) l p := HC.fwd_lazy_sim h k roots hr a ha

/-- INVERSE lazy network: inputs < 2q ⇒ every intermediate and output value < 2q, exact modulo q -/
theorem inv_lazy_sim (h : m.WF) (k : Nat) (roots : Nat → MulOperand)
    (hr : ∀ j, 0 < j → j < 2^k → WFOp m (roots j)) (a : Nat → Nat) (ha : ∀ p, p < 2^k → a p < 2 * m.value) :
    ∀ l, l ≤ k → ∀ p, p < 2^k →
      runInv (modArithLazy m) k roots a l p < 2 * m.value ∧
      ((runInv (modArithLazy m) k roots a l p : Nat) : ZMod m.value)
        = runInv (exactArith (ZMod m.value)) k (fun j => ((roots j).operand : ZMod m.value))
            (fun p => (a p : ZMod m.value)) l p := HC.inv_lazy_sim h k roots hr a ha

/-- the array-cached executable network is the function-level network -/
theorem runFwdA_eq {α ρ : Type} [Inhabited α] (A : Arith α ρ) (k : Nat) (roots : Nat → ρ) (a : Array α)
    (hs : a.size = 2^k) : ∀ l, l ≤ k →
      (runFwdA A k roots a l).size = 2^k ∧
      ∀ p, p < 2^k → arrFn (runFwdA A k roots a l) p = runFwd A k roots (arrFn a) l p := HC.runFwdA_eq A k roots a hs

theorem runInvA_eq {α ρ : Type} [Inhabited α] (A : Arith α ρ) (k : Nat) (roots : Nat → ρ) (a : Array α)
    (hs : a.size = 2^k) : ∀ l, l ≤ k →
      (runInvA A k roots a l).size = 2^k ∧
      ∀ p, p < 2^k → arrFn (runInvA A k roots a l) p = runInv A k roots (arrFn a) l p := HC.runInvA_eq A k roots a hs

/-- final reductions of the non-lazy wrappers -/
theorem reduce4 {q x : Nat} (hq : 0 < q) (hx : x < 4 * q) :
    (let y := if x ≥ 2*q then x - 2*q else x; if y ≥ q then y - q else y) = x % q := HC.reduce4 hq hx

theorem reduce2 {q x : Nat} (hq : 0 < q) (hx : x < 2 * q) : (if x ≥ q then x - q else x) = x % q := HC.reduce2 hq hx

theorem isPrimitiveRoot_spec (h : m.WF) {n g : Nat} (hg : g < m.value) (hn0 : 0 < n) (hn : 2 * n < 2^64) :
    ∃ b, isPrimitiveRoot g (2*n) m = .ok b ∧ (b = true ↔ IsPrim n m.value g) := HC.isPrimitiveRoot_spec h hg hn0 hn

/-- odd powers of a primitive root are primitive -/
theorem isPrim_odd_pow {n q g : Nat} (hq : 2 < q) (hn : 0 < n) (hg : IsPrim n q g) (j : Nat) :
    IsPrim n q (g^(2*j+1) % q) := HC.isPrim_odd_pow hq hn hg j

/-- the value `minimalRootFrom` returns: the minimum of the N odd powers g^1, g^3, …, g^(2N-1) (mod q) -/
theorem minimalRootFrom_spec (h : m.WF) {n g : Nat} (hn : 0 < n) (hg : g < m.value) :
    ∃ r, minimalRootFrom (2*n) m g = .ok r ∧
      (∃ j, j < n ∧ r = g^(2*j+1) % m.value) ∧ (∀ j, j < n → r ≤ g^(2*j+1) % m.value) := HC.minimalRootFrom_spec h hn hg

/-- the determinism genuinely needs primality: for q = 85 = 5·17, N = 2, both 13 and 38 are primitive and minimal
    for their own orbit of odd powers (this is the defect repaired in NTTTables::new) -/
theorem composite_counterexample :
    IsPrim 2 85 13 ∧ IsPrim 2 85 38 ∧
    (∀ j, j < 2 → 13 ≤ 13^(2*j+1) % 85) ∧ (∀ j, j < 2 → 38 ≤ 38^(2*j+1) % 85) := HC.composite_counterexample 

/-! ### API level: the tables `NTTTables::new` builds, and `ntt` / `intt` / `dyadic_product` on arrays -/
variable {t : NTTTables}

/-- TABLE LINK: every successfully constructed table (root0 a `u64`) is well formed: bit-reversed powers of the root,
    scrambled powers of its inverse, n^-1 — for every modulus and every degree 2^k, k ≤ 60.  `pr` is the verdict of `is_prime()` the
    caller hands in (cached Miller–Rabin); `pr = true` says the constructor refuses on `false`, not that `m.value` is prime. -/
theorem NTTTables.new_wf_u64 {k : Nat} {m : Modulus} {pr : Bool} {root0 : Nat} {t : NTTTables}
    (hm : m.WF) (hk : k ≤ 60) (hr0 : root0 < 2^64) (h : NTTTables.new k m pr root0 = .ok t) :
    t.WF ∧ t.k = k ∧ t.modulus = m ∧ pr = true := HC.NTTTables.new_wf_u64 hm hk hr0 h


/-- FORWARD, lazy form: inputs < 4q ⇒ outputs < 4q and congruent to the evaluations -/
theorem nttLazy_spec (hw : t.WF) (a : Array Nat) (hs : a.size = 2^t.k) (ha : ∀ j, j < 2^t.k → a.getD j 0 < 4 * t.modulus.value) :
    (nttLazy t a).size = 2^t.k ∧ ∀ i, i < 2^t.k →
      (nttLazy t a).getD i 0 < 4 * t.modulus.value ∧ (nttLazy t a).getD i 0 % t.modulus.value = evalSpec t a i := HC.nttLazy_spec hw a hs ha

/-- FORWARD: `ntt` returns the canonical residues of the evaluations at ψ^(2·brev(i)+1) -/
theorem ntt_eval (hw : t.WF) (a : Array Nat) (hs : a.size = 2^t.k) (ha : ∀ j, j < 2^t.k → a.getD j 0 < 4 * t.modulus.value) :
    (ntt t a).size = 2^t.k ∧ ∀ i, i < 2^t.k → (ntt t a).getD i 0 = evalSpec t a i := HC.ntt_eval hw a hs ha

/-- INVERSE, lazy form: inputs < 2q ⇒ outputs < 2q -/
theorem inttLazy_range (hw : t.WF) (a : Array Nat) (hs : a.size = 2^t.k) (ha : ∀ j, j < 2^t.k → a.getD j 0 < 2 * t.modulus.value) :
    (inttLazy t a).size = 2^t.k ∧ ∀ i, i < 2^t.k → (inttLazy t a).getD i 0 < 2 * t.modulus.value := HC.inttLazy_range hw a hs ha

/-- INVERSE ∘ FORWARD = id on canonical vectors -/
theorem intt_ntt (hw : t.WF) (a : Array Nat) (hs : a.size = 2^t.k) (ha : ∀ j, j < 2^t.k → a.getD j 0 < t.modulus.value) :
    intt t (ntt t a) = a := HC.intt_ntt hw a hs ha

/-- FORWARD ∘ INVERSE = id on canonical vectors -/
theorem ntt_intt (hw : t.WF) (a : Array Nat) (hs : a.size = 2^t.k) (ha : ∀ j, j < 2^t.k → a.getD j 0 < t.modulus.value) :
    ntt t (intt t a) = a := HC.ntt_intt hw a hs ha

/-- CONVOLUTION: pointwise multiplication of transforms corresponds to multiplication modulo X^N + 1 -/
theorem ntt_convolution_api (hw : t.WF) (a b : Array Nat) (hsa : a.size = 2^t.k) (hsb : b.size = 2^t.k)
    (ha : ∀ j, j < 2^t.k → a.getD j 0 < t.modulus.value) (hb : ∀ j, j < 2^t.k → b.getD j 0 < t.modulus.value) :
    ∃ p, dyadicProduct (ntt t a) (ntt t b) t.modulus = .ok p ∧
      (intt t p).size = 2^t.k ∧ ∀ c, c < 2^t.k → (intt t p).getD c 0 = negMulNat (2^t.k) t.modulus.value a b c := HC.ntt_convolution_api hw a b hsa hsb ha hb


/-! ### root determinism (the degree N is a power of two, as everywhere in the library).
    The statements for ARBITRARY n > 0 are false (q = 7, n = 3: 6 and 3 both satisfy x^3 = -1 but 3 is not an odd power of 6):
    the `…Statement` definitions of Proofs/C09F.lean with their refutations `…Statement_false`. -/

theorem prim_is_odd_power_pow2 {n q g g' : Nat} (hp : Nat.Prime q) (hn2 : ∃ k, n = 2^k)
    (hg : IsPrim n q g) (hg' : IsPrim n q g') : ∃ j, j < n ∧ g' = g^(2*j+1) % q :=
  HC.prim_is_odd_power_pow2 hp hn2 hg hg'

/-- ROOT DETERMINISM: for prime q the minimal root does not depend on which primitive root the random search found -/
theorem root_deterministic_pow2 (h : m.WF) (hp : Nat.Prime m.value) {n g g' : Nat} (hn2 : ∃ k, n = 2^k)
    (hg : IsPrim n m.value g) (hg' : IsPrim n m.value g') :
    minimalRootFrom (2*n) m g = minimalRootFrom (2*n) m g' := HC.root_deterministic_pow2 h hp hn2 hg hg'

theorem minimalRoot_least_pow2 (h : m.WF) (hp : Nat.Prime m.value) {n g : Nat} (hn2 : ∃ k, n = 2^k)
    (hg : IsPrim n m.value g) :
    ∃ r, minimalRootFrom (2*n) m g = .ok r ∧ IsPrim n m.value r ∧ ∀ x, IsPrim n m.value x → r ≤ x :=
  HC.minimalRoot_least_pow2 h hp hn2 hg

theorem root_deterministic_general_false : ¬ HC.root_deterministicStatement := HC.root_deterministicStatement_false

/-! ### translator tie: `impl Arithmetic for ModArithLazy`, `ModArithLazy::new` (src/util/ntt.rs) generated into Gen/NttFns.lean
     equal the instance `modArithLazy` the layers `fwdLayer`/`invLayer` are run with (Proofs/GenNttArith.lean).  The hypotheses say exactly
     that the overflow-checked `+`/`-` of the code do not trap (the hand model uses unbounded `Nat`). -/
theorem gen_mal_new_modulus (m : Modulus) : (GenN.mal_new m).modulus = m := HC.gx_mal_new_modulus m
theorem gen_mal_new_two (m : Modulus) (hm : m.value < 2^63) : (GenN.mal_new m).two_times_modulus = 2 * m.value := HC.gx_mal_new_two m hm
theorem gen_mal_add_eq (s : GenN.ModArithLazy) (m : Modulus) (a b : Nat) (h : a + b < 2^64) :
    GenN.mal_add s a b = .ok ((modArithLazy m).add a b) := HC.gx_mal_add_eq s m a b h
theorem gen_mal_sub_eq (s : GenN.ModArithLazy) (m : Modulus) (a b : Nat) (hs : s.two_times_modulus = 2 * m.value)
    (h1 : a + 2 * m.value < 2^64) (h2 : b ≤ a + 2 * m.value) :
    GenN.mal_sub s a b = .ok ((modArithLazy m).sub a b) := HC.gx_mal_sub_eq s m a b hs h1 h2
theorem gen_mal_mul_root_eq (s : GenN.ModArithLazy) (m : Modulus) (a : Nat) (r : MulOperand) (hs : s.modulus = m) :
    GenN.mal_mul_root s a r = (modArithLazy m).mulRoot a r := HC.gx_mal_mul_root_eq s m a r hs
theorem gen_mal_mul_scalar_eq (s : GenN.ModArithLazy) (m : Modulus) (a : Nat) (r : MulOperand) (hs : s.modulus = m) :
    GenN.mal_mul_scalar s a r = (modArithLazy m).mulRoot a r := HC.gx_mal_mul_scalar_eq s m a r hs
theorem gen_mal_guard_eq (s : GenN.ModArithLazy) (m : Modulus) (a : Nat) (hs : s.two_times_modulus = 2 * m.value) :
    GenN.mal_guard s a = .ok ((modArithLazy m).guard a) := HC.gx_mal_guard_eq s m a hs
theorem gen_new_add_eq (m : Modulus) (a b : Nat) (h : a + b < 2^64) :
    GenN.mal_add (GenN.mal_new m) a b = .ok ((modArithLazy m).add a b) := HC.gx_new_add_eq m a b h
theorem gen_new_sub_eq (m : Modulus) (hm : m.value < 2^63) (a b : Nat) (h1 : a + 2 * m.value < 2^64) (h2 : b ≤ a + 2 * m.value) :
    GenN.mal_sub (GenN.mal_new m) a b = .ok ((modArithLazy m).sub a b) := HC.gx_new_sub_eq m hm a b h1 h2
theorem gen_new_mul_root_eq (m : Modulus) (a : Nat) (r : MulOperand) :
    GenN.mal_mul_root (GenN.mal_new m) a r = (modArithLazy m).mulRoot a r := HC.gx_new_mul_root_eq m a r
theorem gen_new_mul_scalar_eq (m : Modulus) (a : Nat) (r : MulOperand) :
    GenN.mal_mul_scalar (GenN.mal_new m) a r = (modArithLazy m).mulRoot a r := HC.gx_new_mul_scalar_eq m a r
theorem gen_new_guard_eq (m : Modulus) (hm : m.value < 2^63) (a : Nat) :
    GenN.mal_guard (GenN.mal_new m) a = .ok ((modArithLazy m).guard a) := HC.gx_new_guard_eq m hm a

theorem gen_is_primitive_root_eq (root degree : Nat) (m : Modulus) (hm : 1 ≤ m.value) :
    GenN.is_primitive_root root degree m = isPrimitiveRoot root degree m := HC.gx_is_primitive_root_eq root degree m hm

/-! ### translator tie: the butterfly NETWORK itself.  `DWTHandler::transform_to_rev` / `transform_from_rev`
     (src/util/dwthandler.rs; generic over `trait Arithmetic`, closures mutating the captured `offset`, iterator chains over sub-slices)
     and the wrappers of src/util/ntt.rs are regenerated from the source into Gen/DwtFns.lean (`HC.GenD`) and proved EQUAL to the hand
     model (`runFwdA` / `runInvA`, `nttLazy` / `ntt` / `inttLazy` / `intt`) - Proofs/GenDwt.lean, Proofs/GenNttHarvey.lean.
     `RealFwd A' A P Q`: the (possibly panicking) generated operations `A'` return the values of the total arithmetic `A` on every
     butterfly whose inputs satisfy `P` and whose root satisfies `Q`.  Hypotheses forced by the proof: `log_n < 64` (`1 << log_n`
     traps at 64), input length `2^log_n`, the table has at least `2^log_n` entries, and the range invariant `P` on every layer. -/

/-- GENERATED = MODEL (forward), any realised arithmetic -/
theorem gen_transform_to_rev_eq {α ρ σ : Type} {A' : GenD.Arithmetic α ρ σ} {A : Arith α ρ} {P : α → Prop} {Q : ρ → Prop} [Inhabited α]
    (h : RealFwd A' A P Q) (k : Nat) (hk : k < 64) (vals : List α) (hv : vals.length = 2^k)
    (roots : List ρ) (rf : Nat → ρ) (hrf : ∀ j, j < 2^k → roots[j]? = some (rf j)) (hQ : ∀ j, 0 < j → j < 2^k → Q (rf j))
    (hP : ∀ l, l < k → ∀ p, p < 2^k → P (arrFn (runFwdA A k rf vals.toArray l) p))
    (sc : Option σ) (ms : α → σ → α)
    (hs : ∀ s, sc = some s → ∀ p, p < 2^k → A'.mul_scalar (arrFn (runFwdA A k rf vals.toArray k) p) s
            = .ok (ms (arrFn (runFwdA A k rf vals.toArray k) p) s)) :
    GenD.transform_to_rev A' vals k roots sc = .ok (gd_scaled ms sc (runFwdA A k rf vals.toArray k).toList) :=
  HC.gd_transform_to_rev_eq h k hk vals hv roots rf hrf hQ hP sc ms hs

/-- GENERATED = MODEL (inverse), any realised arithmetic -/
theorem gen_transform_from_rev_eq {α ρ σ : Type} {A' : GenD.Arithmetic α ρ σ} {A : Arith α ρ} {P : α → Prop} {Q : ρ → Prop} [Inhabited α]
    (h : RealInv A' A P Q) (k : Nat) (hk : k < 64) (vals : List α) (hv : vals.length = 2^k)
    (roots : List ρ) (rf : Nat → ρ) (hrf : ∀ j, j < 2^k → roots[j]? = some (rf j)) (hQ : ∀ j, 0 < j → j < 2^k → Q (rf j))
    (hP : ∀ l, l < k → ∀ p, p < 2^k → P (arrFn (runInvA A k rf vals.toArray l) p))
    (sc : Option σ) (ms : α → σ → α)
    (hs : ∀ s, sc = some s → ∀ p, p < 2^k → A'.mul_scalar (arrFn (runInvA A k rf vals.toArray k) p) s
            = .ok (ms (arrFn (runInvA A k rf vals.toArray k) p) s)) :
    GenD.transform_from_rev A' vals k roots sc = .ok (gd_scaled ms sc (runInvA A k rf vals.toArray k).toList) :=
  HC.gd_transform_from_rev_eq h k hk vals hv roots rf hrf hQ hP sc ms hs

/-- for ANY arithmetic structure with total operations: no hypothesis beyond the shapes -/
theorem gen_transform_to_rev_total {α ρ σ : Type} [Inhabited α] (A : Arith α ρ) (ms : α → σ → α) (k : Nat) (hk : k < 64) (vals : List α)
    (hv : vals.length = 2^k) (roots : List ρ) (rf : Nat → ρ) (hrf : ∀ j, j < 2^k → roots[j]? = some (rf j)) (sc : Option σ) :
    GenD.transform_to_rev (gd_total A ms) vals k roots sc = .ok (gd_scaled ms sc (runFwdA A k rf vals.toArray k).toList) :=
  HC.gd_transform_to_rev_total A ms k hk vals hv roots rf hrf sc

theorem gen_transform_from_rev_total {α ρ σ : Type} [Inhabited α] (A : Arith α ρ) (ms : α → σ → α) (k : Nat) (hk : k < 64) (vals : List α)
    (hv : vals.length = 2^k) (roots : List ρ) (rf : Nat → ρ) (hrf : ∀ j, j < 2^k → roots[j]? = some (rf j)) (sc : Option σ) :
    GenD.transform_from_rev (gd_total A ms) vals k roots sc = .ok (gd_scaled ms sc (runInvA A k rf vals.toArray k).toList) :=
  HC.gd_transform_from_rev_total A ms k hk vals hv roots rf hrf sc

/-- the lazy modular instance realises `modArithLazy` on `[0, 4q)` (forward) and `[0, 2q)` (inverse): none of the checked `+` / `-` traps -/
theorem gen_lazy_fwd_realised (hm : m.WF) (s : GenN.ModArithLazy) (hs1 : s.modulus = m) (hs2 : s.two_times_modulus = 2 * m.value) :
    RealFwd (GenD.arith_ModArithLazy s) (modArithLazy m) (fun x => x < 4 * m.value) (WFOp m) := HC.gd_lazy_fwd hm s hs1 hs2

theorem gen_lazy_inv_realised (hm : m.WF) (s : GenN.ModArithLazy) (hs1 : s.modulus = m) (hs2 : s.two_times_modulus = 2 * m.value) :
    RealInv (GenD.arith_ModArithLazy s) (modArithLazy m) (fun x => x < 2 * m.value) (WFOp m) := HC.gd_lazy_inv hm s hs1 hs2

/-- GENERATED = MODEL for the lazy modular instance (partial, checked operations), forward: inputs `< 4q` (the invariant of `fwd_lazy_sim`) -/
theorem gen_lazy_transform_to_rev (hm : m.WF) (s : GenN.ModArithLazy) (hs1 : s.modulus = m) (hs2 : s.two_times_modulus = 2 * m.value)
    (k : Nat) (hk : k < 64) (vals : List Nat) (hv : vals.length = 2^k) (ha : ∀ x ∈ vals, x < 4 * m.value)
    (roots : List MulOperand) (rf : Nat → MulOperand) (hrf : ∀ j, j < 2^k → roots[j]? = some (rf j))
    (hQ : ∀ j, 0 < j → j < 2^k → WFOp m (rf j)) :
    GenD.transform_to_rev (GenD.arith_ModArithLazy s) vals k roots none = .ok (runFwdA (modArithLazy m) k rf vals.toArray k).toList :=
  HC.gd_lazy_transform_to_rev hm s hs1 hs2 k hk vals hv ha roots rf hrf hQ

/-- … inverse: inputs `< 2q` (the invariant of `inv_lazy_sim`), scalar pass included -/
theorem gen_lazy_transform_from_rev (hm : m.WF) (s : GenN.ModArithLazy) (hs1 : s.modulus = m) (hs2 : s.two_times_modulus = 2 * m.value)
    (k : Nat) (hk : k < 64) (vals : List Nat) (hv : vals.length = 2^k) (ha : ∀ x ∈ vals, x < 2 * m.value)
    (roots : List MulOperand) (rf : Nat → MulOperand) (hrf : ∀ j, j < 2^k → roots[j]? = some (rf j))
    (hQ : ∀ j, 0 < j → j < 2^k → WFOp m (rf j)) (sc : MulOperand) :
    GenD.transform_from_rev (GenD.arith_ModArithLazy s) vals k roots (some sc)
      = .ok ((runInvA (modArithLazy m) k rf vals.toArray k).toList.map (fun x => (modArithLazy m).mulRoot x sc)) :=
  HC.gd_lazy_transform_from_rev hm s hs1 hs2 k hk vals hv ha roots rf hrf hQ sc

/-- the wrappers of src/util/ntt.rs (handler call + final correction loop) on the fields of a well-formed table = the model functions -/
theorem gen_ntt_lazy_eq (hw : t.WF) (a : List Nat) (hs : a.length = 2^t.k) (ha : ∀ x ∈ a, x < 4 * t.modulus.value) :
    GenD.ntt_negacyclic_harvey_lazy (gd_view t) a = .ok (nttLazy t a.toArray).toList := HC.gd_ntt_lazy_eq hw a hs ha
theorem gen_ntt_eq (hw : t.WF) (a : List Nat) (hs : a.length = 2^t.k) (ha : ∀ x ∈ a, x < 4 * t.modulus.value) :
    GenD.ntt_negacyclic_harvey (gd_view t) a = .ok (ntt t a.toArray).toList := HC.gd_ntt_eq hw a hs ha
theorem gen_intt_lazy_eq (hw : t.WF) (a : List Nat) (hs : a.length = 2^t.k) (ha : ∀ x ∈ a, x < 2 * t.modulus.value) :
    GenD.inverse_ntt_negacyclic_harvey_lazy (gd_view t) a = .ok (inttLazy t a.toArray).toList := HC.gd_intt_lazy_eq hw a hs ha
theorem gen_intt_eq (hw : t.WF) (a : List Nat) (hs : a.length = 2^t.k) (ha : ∀ x ∈ a, x < 2 * t.modulus.value) :
    GenD.inverse_ntt_negacyclic_harvey (gd_view t) a = .ok (intt t a.toArray).toList := HC.gd_intt_eq hw a hs ha

/-- FROM SOURCE TO MATHEMATICS, one statement.  For tables built by `NTTTables.new` (any WF modulus, any degree 2^k, k ≤ 60): ψ = `t.root`
    is a primitive 2N-th root of unity mod q (ψ^N = -1), and the function GENERATED from the Rust source of
    `NTTTables::ntt_negacyclic_harvey` (butterfly network `DWTHandler::transform_to_rev` run with `ModArithLazy`, then the correction loop)
    maps the canonical coefficient vector `a` of a polynomial to its evaluations at ψ^(2·brev(i)+1), and the function generated from
    `inverse_ntt_negacyclic_harvey` maps these evaluations back to `a`. -/
theorem gen_ntt_source_to_math {k : Nat} {m : Modulus} {pr : Bool} {root0 : Nat} {t : NTTTables}
    (hm : m.WF) (hk : k ≤ 60) (hr0 : root0 < 2^64) (h : NTTTables.new k m pr root0 = .ok t)
    (a : List Nat) (hs : a.length = 2^k) (ha : ∀ x ∈ a, x < m.value) :
    t.k = k ∧ t.modulus = m ∧ t.root ^ (2^k) % m.value = m.value - 1 ∧
    ∃ out, GenD.ntt_negacyclic_harvey (gd_view t) a = .ok out ∧ out.length = 2^k ∧
      (∀ i, i < 2^k → out[i]? = some ((∑ j ∈ range (2^k), a.toArray.getD j 0 * (t.root ^ (2 * brev k i + 1)) ^ j) % m.value)) ∧
      GenD.inverse_ntt_negacyclic_harvey (gd_view t) out = .ok a := by
  obtain ⟨hw, rfl, rfl, _⟩ := HC.NTTTables.new_wf_u64 hm hk hr0 h
  exact ⟨rfl, rfl, hw.root_pow, HC.gd_source_roundtrip hw a hs ha⟩

/-- the inverse statement: the generated inverse transform maps canonical evaluations `b` to the canonical coefficient vector whose
    evaluations at ψ^(2·brev(i)+1) they are (and the generated forward transform maps it back to `b`) -/
theorem gen_intt_source_to_math {k : Nat} {m : Modulus} {pr : Bool} {root0 : Nat} {t : NTTTables}
    (hm : m.WF) (hk : k ≤ 60) (hr0 : root0 < 2^64) (h : NTTTables.new k m pr root0 = .ok t)
    (b : List Nat) (hs : b.length = 2^k) (hb : ∀ x ∈ b, x < m.value) :
    ∃ a, GenD.inverse_ntt_negacyclic_harvey (gd_view t) b = .ok a ∧ a.length = 2^k ∧ (∀ x ∈ a, x < m.value) ∧
      GenD.ntt_negacyclic_harvey (gd_view t) a = .ok b ∧
      ∀ i, i < 2^k → b[i]? = some ((∑ j ∈ range (2^k), a.toArray.getD j 0 * (t.root ^ (2 * brev k i + 1)) ^ j) % m.value) := by
  obtain ⟨hw, rfl, rfl, _⟩ := HC.NTTTables.new_wf_u64 hm hk hr0 h
  exact HC.gd_source_inverse hw b hs hb

/-- the same two statements for any well-formed table -/
theorem gen_ntt_source_eval (hw : t.WF) (a : List Nat) (hs : a.length = 2^t.k) (ha : ∀ x ∈ a, x < 4 * t.modulus.value) :
    ∃ out, GenD.ntt_negacyclic_harvey (gd_view t) a = .ok out ∧ out.length = 2^t.k ∧
      ∀ i, i < 2^t.k → out[i]? = some (evalSpec t a.toArray i) := HC.gd_ntt_source_eval hw a hs ha

/-- non-vacuity of the generic bundle and a run of the generated code inside the kernel: the total arithmetic of `Nat`
    (guard = id, root multiplication = `*`), N = 4, table [1, 2, 3, 5]: layer 0 uses root 2 on the halves, layer 1 roots 3 and 5 -/
example : RealFwd (gd_total (⟨(· + ·), (· - ·), (· * ·), id⟩ : Arith Nat Nat) (fun a (s : Nat) => a * s))
    ⟨(· + ·), (· - ·), (· * ·), id⟩ (fun _ => True) (fun _ => True) := HC.gd_total_fwd _ _
example : GenD.transform_to_rev (gd_total (⟨(· + ·), (· - ·), (· * ·), id⟩ : Arith Nat Nat) (fun a (s : Nat) => a * s))
    [100, 10, 1, 0] 2 [1, 2, 3, 5] (some 2) = .ok [264, 144, 296, 96] := by decide

/-- non-vacuity: q = 17, N = 4 (2N = 8 divides 16): 2 is a primitive 8th root (2^4 = 16 = -1) -/
example : IsPrim 4 17 2 := by unfold IsPrim; decide

/-! ### pointwise products on LAZY operands, from the source (`Proofs/GenPolyLazy.lean`) -/

/-- SOURCE TO MATHEMATICS: the generated `dyadic_product_inplace` (src/util/polysmallmod.rs, regenerated on every run) turns position i into
    comp1[i] · comp2[i] mod q for ANY 64-bit words — in particular for the unreduced output (< 4q) of the lazy forward transform that
    `multiply_plain` feeds into it; no "operands below q" hypothesis, every modulus with 2 ≤ q < 2^61 -/
theorem gen_dyadic_product_inplace_any_operands : type_of% @HC.gpl_dyadic_inplace_any := @HC.gpl_dyadic_inplace_any
/-- the same for `dyadic_product` into a destination with arbitrary old contents -/
theorem gen_dyadic_product_any_operands : type_of% @HC.gpl_dyadic_any := @HC.gpl_dyadic_any

end HC.C09
