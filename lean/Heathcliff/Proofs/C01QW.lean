/- C01 part Q, non-vacuity: the driver's constructor succeeds on concrete inputs (so `c01q_Built` and all bundles of `MkLevel` are inhabited),
   and a complete concrete instance (a ciphertext of size 3) on the level the driver builds for N = 4, q = {97, 113}, t = 17.  The two levels
   are those evaluated once in Proofs/World.lean; everything else about `c01q_exL` is read off the theorems of Proofs/C01Q.lean. -/
import Heathcliff.Proofs.C01M
import Heathcliff.Proofs.World
namespace HC
open Finset

def c01q_exL : Level := (Drv.Sch.mkLevel .bfv 4 [97, 113] 17).toOption.getD default

theorem c01q_exL_ok : Drv.Sch.mkLevel .bfv 4 [97, 113] 17 = .ok c01q_exL :=
  c01w_lv_ok (nv_mkLevel2 .bfv)

theorem c01q_mkLevel_ex0 : ∃ l, Drv.Sch.mkLevel .ckks 4 [97, 113] 0 = .ok l :=
  ⟨_, nv_mkLevel2c .ckks⟩

theorem c01q_built_satisfiable : ∃ l, c01q_Built l ∧ l.t.WF ∧ c01p_qvals l = [97, 113] ∧ l.n = 4 := by
  have m := mkLevel_facts c01q_exL_ok
  exact ⟨_, m.built, m.t_wf (by decide), m.qvals, m.n_eq⟩

def c01q_exSk : Array Int := #[1, 0, -1, 1]
def c01q_exPolys : Array RnsPoly :=
  #[#[#[5, 96, 3, 0], #[112, 7, 0, 1]], #[#[1, 2, 3, 4], #[4, 3, 2, 1]], #[#[0, 1, 0, 96], #[1, 0, 112, 0]]]

theorem c01q_ex_canon : ∀ k, k < c01q_exPolys.size → RnsCanon c01q_exL (c01q_exPolys.getD k #[]) := by
  intro k hk
  apply (mkLevel_facts c01q_exL_ok).canon
  revert k
  decide

theorem c01q_exL_behz {ph : Spec.ZPoly} (hs : ph.size = 4) (hsafe : Drv.Sch.bfvSafe 17 (Spec.prodL [97, 113]) ph = true) :
    BehzDecryptOK c01q_exL ph := by
  have m := mkLevel_facts c01q_exL_ok
  refine c01q_behz_of_bfvSafe (m.gamma (by decide)) (c01q_built_size_le m.built) ?_ ?_ ?_
  · rw [m.qvals]; decide
  · rw [m.n_eq]; exact hs
  · rw [m.qvals, m.t_eq]; exact hsafe

theorem c01q_ex_behz :
    BehzDecryptOK c01q_exL (Drv.Sch.exactPhase c01q_exL [97, 113] c01q_exSk ⟨c01q_exPolys, false, 1⟩) := by
  unfold Drv.Sch.exactPhase
  rw [c01q_coeffPolys_false, (mkLevel_facts c01q_exL_ok).n_eq]
  exact c01q_exL_behz (by decide +kernel) (by decide +kernel)

/-- all hypotheses of `mkLevel_bfvDecrypt_eq_oracle` hold simultaneously for a size-3 ciphertext on a level the driver builds -/
theorem c01q_hypotheses_satisfiable :
    ∃ (l : Level) (sk : Array Int) (polys : Array RnsPoly), Drv.Sch.mkLevel .bfv 4 [97, 113] 17 = .ok l ∧ sk.size = 4 ∧
      polys.size = 3 ∧ (∀ k, k < polys.size → RnsCanon l (polys.getD k #[])) ∧
      BehzDecryptOK l (Drv.Sch.exactPhase l [97, 113] sk ⟨polys, false, 1⟩) :=
  ⟨c01q_exL, c01q_exSk, c01q_exPolys, c01q_exL_ok, rfl, rfl, c01q_ex_canon, c01q_ex_behz⟩

/-- all hypotheses of `bfvDecrypt_size2_eq_spec` hold simultaneously: the first two polynomials of the instance above -/
theorem c01p_hypotheses_satisfiable :
    ∃ (l : Level) (sk : Array Int) (c0 c1 : RnsPoly), l.WF ∧ DecOK l ∧ sk.size = l.n ∧ RnsCanon l c0 ∧ RnsCanon l c1 ∧
      BehzDecryptOK l (Spec.phase (c01p_qvals l) l.n sk [c0, c1]) := by
  have m := mkLevel_facts c01q_exL_ok
  refine ⟨c01q_exL, c01q_exSk, _, _, m.wf, m.dec (by decide), m.n_eq.symm, c01q_ex_canon 0 (by decide), c01q_ex_canon 1 (by decide), ?_⟩
  rw [m.n_eq, m.qvals]
  exact c01q_exL_behz (by decide +kernel) (by decide +kernel)

theorem c01q_ex_decrypt :
    bfvDecrypt c01q_exL c01q_exSk ⟨c01q_exPolys, false, 1⟩ =
      .ok (Spec.trim (Spec.bfvDecode 17 (Spec.prodL [97, 113])
        (Drv.Sch.exactPhase c01q_exL [97, 113] c01q_exSk ⟨c01q_exPolys, false, 1⟩))) :=
  mkLevel_bfvDecrypt_eq_oracle c01q_exL_ok (by decide) rfl (by decide) c01q_ex_canon 1 c01q_ex_behz

end HC
