/- C07 part S: the MODEL's `noiseBudget` (dot product, factor t for BFV, `compose` per coefficient, centred infinity norm,
   bit-count difference) equals the definition `Spec.budget` evaluated on the exact big-integer phase `Spec.phase`. -/
import Heathcliff.Spec.Scheme
import Heathcliff.Proofs.C01O
import Heathcliff.Proofs.C01J
import Heathcliff.Proofs.C01P
import Heathcliff.Proofs.C07L
import Heathcliff.Proofs.C07D
import Mathlib.Algebra.BigOperators.Intervals
import Mathlib.Algebra.BigOperators.Ring.Finset
import Mathlib.Data.ZMod.Basic
import Mathlib.Tactic.Ring
import Mathlib.Tactic.Linarith
namespace HC
open Finset

/-! ### the model pipeline -/

/-- the BFV factor t, component by component (the identity for BGV) -/
def c07s_scale (l : Level) (ph : RnsPoly) : R RnsPoly :=
  if l.scheme = .bfv then
      (List.range l.size).foldlM (fun acc i => do
        let c ← mapM' (ph.getD i #[]) (fun x => mulMod x l.t.value (l.q i))
        pure (acc.push c)) (#[] : RnsPoly)
    else pure ph

/-- centred absolute value as the model computes it -/
def c07s_abs (Q v : Nat) : Nat := if v ≥ (Q + 1) / 2 then Q - v else v

/-- the model's infinity-norm fold -/
def c07s_norm (Q : Nat) (vals : List Nat) : Nat :=
  vals.foldl (fun acc v => if c07s_abs Q v > acc then c07s_abs Q v else acc) 0

theorem c07s_noiseBudget_eq (l : Level) (sk : Array Int) (ct : Ct) (h1 : ct.ntt = false) (h2 : l.scheme ≠ .ckks) :
    noiseBudget l sk ct = (do
      let ph ← dotProductCtSk l sk ct
      let ph ← c07s_scale l ph
      let vals ← (transpose ph l.n).toList.mapM (fun col => l.tool.baseQ.compose col)
      pure (((bitCount l.tool.baseQ.prod : Int) - (bitCount (c07s_norm l.tool.baseQ.prod vals) : Int) - 1).toNat)) := by
  unfold noiseBudget
  rw [h1]
  simp only [Bool.false_eq_true, if_false, if_neg h2]
  congr 1
  funext ph
  unfold c07s_scale
  split <;> rfl

theorem c07s_dot_cf (l : Level) (sk : Array Int) (polys : Array RnsPoly) (ntt : Bool) (cf : Nat) :
    dotProductCtSk l sk ⟨polys, ntt, cf⟩ = dotProductCtSk l sk ⟨polys, ntt, 1⟩ := rfl

/-- the value of `c07s_scale` -/
def c07s_scaled (l : Level) (ph : RnsPoly) : RnsPoly :=
  if l.scheme = .bfv then
    ((List.range l.size).map (fun i => (ph.getD i #[]).map (fun x => (x * l.t.value) % (l.q i).value))).toArray
  else ph

theorem c07s_scale_ok {l : Level} (hl : l.WF) (ht : l.scheme = .bfv → l.t.value < 2^64) {ph : RnsPoly} (hp : RnsCanon l ph) :
    c07s_scale l ph = .ok (c07s_scaled l ph) := by
  unfold c07s_scale c07s_scaled
  by_cases hs : l.scheme = .bfv
  · rw [if_pos hs, if_pos hs]
    rw [R.foldlM_push_ok (fun i => mapM' (ph.getD i #[]) (fun x => mulMod x l.t.value (l.q i)))
      (fun i => (ph.getD i #[]).map (fun x => (x * l.t.value) % (l.q i).value)) (List.range l.size)]
    · simp
    · intro i hi
      have hi' := List.mem_range.mp hi
      have hqw := (c01o_level_comp hl hi').2.2.2
      have h61 := hqw.lt
      apply mapM'_ok
      intro x hx
      have hlt := mem_lt_of_getD (a := ph.getD i #[]) (B := (l.q i).value)
        (fun j hj => (hp.2 i hi').2 j (by rw [← (hp.2 i hi').1]; exact hj)) x hx
      exact mulMod_exact hqw (by omega) (ht hs)
  · rw [if_neg hs, if_neg hs]; rfl

theorem c07s_scaled_coeff {l : Level} {ph : RnsPoly} (hp : RnsCanon l ph) {i j : Nat} (hi : i < l.size) (hj : j < l.n) :
    ((c07s_scaled l ph).getD i #[]).getD j 0 =
      if l.scheme = .bfv then ((ph.getD i #[]).getD j 0 * l.t.value) % (l.q i).value else (ph.getD i #[]).getD j 0 := by
  unfold c07s_scaled
  by_cases hs : l.scheme = .bfv
  · rw [if_pos hs, if_pos hs, array_getD_range_map _ _ hi]
    exact array_getD_map _ _ 0 0 (by rw [(hp.2 i hi).1]; exact hj)
  · rw [if_neg hs, if_neg hs]

theorem c07s_scaled_canon {l : Level} (hl : l.WF) {ph : RnsPoly} (hp : RnsCanon l ph) : RnsCanon l (c07s_scaled l ph) := by
  refine ⟨?_, fun i hi => ⟨?_, fun j hj => ?_⟩⟩
  · unfold c07s_scaled
    split
    · simp
    · exact hp.1
  · unfold c07s_scaled
    split
    · rw [array_getD_range_map _ _ hi, Array.size_map]; exact (hp.2 i hi).1
    · exact (hp.2 i hi).1
  · rw [c07s_scaled_coeff hp hi hj]
    have h2 := (c01o_level_comp hl hi).2.2.2.two_le
    split
    · exact Nat.mod_lt _ (by omega)
    · exact (hp.2 i hi).2 j hj

theorem c07s_vals_ok {l : Level} (hq : c07s_LevelQ l) {p : RnsPoly} (hp : RnsCanon l p) :
    (transpose p l.n).toList.mapM (fun col => l.tool.baseQ.compose col) =
      .ok ((List.range l.n).map (fun j => Spec.crt (c07s_qsv l.tool.baseQ) (p.toList.map (fun c => c.getD j 0)))) := by
  rw [transpose_toList,
    R.mapM_ok _ (fun col => Spec.crt (c07s_qsv l.tool.baseQ) col.toList), List.map_map]
  · congr 1
    apply List.map_congr_left
    intro j _
    simp [Function.comp]
  · intro col hcol
    obtain ⟨j, hj, rfl⟩ := List.mem_map.mp hcol
    have hj' := List.mem_range.mp hj
    apply c07s_compose_eq_crt hq.bwf
    · rw [Array.size_map, hp.1, hq.size_eq]
    · intro i hi
      have hi' : i < l.size := by rw [← hq.size_eq]; exact hi
      rw [array_getD_map _ p #[] 0 (by rw [hp.1]; exact hi'), hq.q_eq hi']
      exact (hp.2 i hi').2 j hj'

/-! ### refusals -/

/-- REFUSAL: a ciphertext in NTT form -/
theorem noiseBudget_refuses_ntt (l : Level) (sk : Array Int) (ct : Ct) (h : ct.ntt = true) :
    noiseBudget l sk ct = .error .refused := by
  unfold noiseBudget
  rw [h]; rfl

/-- REFUSAL: CKKS levels -/
theorem noiseBudget_refuses_ckks (l : Level) (sk : Array Int) (ct : Ct) (h : l.scheme = .ckks) :
    noiseBudget l sk ct = .error .refused := by
  unfold noiseBudget
  cases ct.ntt
  · simp only [Bool.false_eq_true, if_false, if_pos h]
  · rfl

/-- REFUSAL: fewer than two polynomials -/
theorem noiseBudget_refuses_small (l : Level) (sk : Array Int) (ct : Ct) (h : ct.polys.size < 2) :
    noiseBudget l sk ct = .error .refused := by
  by_cases h1 : ct.ntt = true
  · exact noiseBudget_refuses_ntt l sk ct h1
  by_cases h2 : l.scheme = .ckks
  · exact noiseBudget_refuses_ckks l sk ct h2
  rw [c07s_noiseBudget_eq l sk ct (by simpa using h1) h2]
  have : dotProductCtSk l sk ct = .error .refused := by
    unfold dotProductCtSk
    simp only [if_pos h]
  rw [this]; rfl

/-! ### centred norm: model fold = definition -/

theorem c07s_abs_centred {Q v : Nat} (hv : v < Q) : c07s_abs Q v = (Spec.centred v Q).natAbs := by
  unfold c07s_abs Spec.centred
  rw [Nat.mod_eq_of_lt hv]
  split_ifs <;> omega

theorem c07s_fold_congr {ι : Type} (L : List ι) (X : ι → Nat) (Z : ι → Int) (A : Nat → Nat) (V : Int → Nat)
    (h : ∀ j ∈ L, A (X j) = V (Z j)) (acc : Nat) :
    (L.map X).foldl (fun acc v => if A v > acc then A v else acc) acc =
      (L.map Z).foldl (fun acc x => max acc (V x)) acc := by
  induction L generalizing acc with
  | nil => rfl
  | cons a L ih =>
    simp only [List.map_cons, List.foldl_cons]
    rw [h a (by simp)]
    have e : (if V (Z a) > acc then V (Z a) else acc) = max acc (V (Z a)) := by
      rw [Nat.max_def]; split_ifs <;> omega
    rw [e]
    exact ih (fun j hj => h j (by simp [hj])) _

/-! ### general size: the noise budget -/

/-- one coefficient, abstractly: W is any number below Q with the residues of the model's phase -/
theorem c07s_coeff_gen {l : Level} (hq : c07s_LevelQ l) {ph : RnsPoly} (hp : RnsCanon l ph) {j : Nat} (hj : j < l.n)
    {W : Nat} (hWl : W < l.tool.baseQ.prod)
    (hWc : ∀ m, m < l.size → ((W : Nat) : ZMod (l.q m).value) = (((ph.getD m #[]).getD j 0 : Nat) : ZMod (l.q m).value)) :
    c07s_abs l.tool.baseQ.prod (Spec.crt (c07s_qsv l.tool.baseQ) ((c07s_scaled l ph).toList.map (fun c => c.getD j 0))) =
      (c07l_v (decide (l.scheme = .bfv)) l.t.value l.tool.baseQ.prod (Spec.centred W l.tool.baseQ.prod)).natAbs := by
  have hb := hq.bwf
  have hQ := hb.prod_pos
  generalize hX : Spec.crt (c07s_qsv l.tool.baseQ) ((c07s_scaled l ph).toList.map (fun c => c.getD j 0)) = X
  have hdvd : ∀ m, m < l.size → (l.q m).value ∣ l.tool.baseQ.prod := fun m hm => by
    rw [← hq.q_eq hm]; exact hb.q_dvd_prod (by rw [hq.size_eq]; exact hm)
  have hXl : X < l.tool.baseQ.prod := by rw [← hX]; exact (c07s_crt_spec hb _).1
  have hXc : ∀ m, m < l.size →
      ((X : Nat) : ZMod (l.q m).value) = ((((c07s_scaled l ph).getD m #[]).getD j 0 : Nat) : ZMod (l.q m).value) := by
    intro m hm
    have := c07s_crt_cast hb ((c07s_scaled l ph).toList.map (fun c => c.getD j 0)) (i := m) (by rw [hq.size_eq]; exact hm)
    rw [hq.q_eq hm, c07s_listcol_getD, hX] at this
    exact this
  unfold c07l_v
  by_cases hs : l.scheme = .bfv
  · simp only [hs, decide_true, if_true]
    have e : X = Spec.imod ((l.t.value : Int) * Spec.centred W l.tool.baseQ.prod) l.tool.baseQ.prod := by
      apply c07s_crt_unique_cast hb hXl (c01j_imod_lt _ hQ)
      intro i hi
      have hi' : i < l.size := by rw [← hq.size_eq]; exact hi
      rw [hq.q_eq hi', hXc i hi', c07s_scaled_coeff hp hi' hj, if_pos hs, ZMod.natCast_mod, Nat.cast_mul,
        imod_cast (hdvd i hi') hQ, Int.cast_mul, c03k_centred_cast (hdvd i hi') _, hWc i hi', Int.cast_natCast,
        mul_comm]
    rw [e]
    exact c07s_abs_centred (c01j_imod_lt _ hQ)
  · simp only [hs, decide_false, Bool.false_eq_true, if_false]
    have e : X = W := by
      apply c07s_crt_unique_cast hb hXl hWl
      intro i hi
      have hi' : i < l.size := by rw [← hq.size_eq]; exact hi
      rw [hq.q_eq hi', hXc i hi', c07s_scaled_coeff hp hi' hj, if_neg hs, hWc i hi']
    rw [e]
    exact c07s_abs_centred hWl

theorem c07s_map_as_range {β : Type} (A : Array Int) {n : Nat} (hA : A.size = n) (f : Int → β) :
    A.map f = ((List.range n).map (fun j => f (A.getD j 0))).toArray := by
  apply Array.ext'
  rw [Array.toList_map, array_toList_range A (0 : Int), hA, List.map_map]
  rfl

theorem c07s_centred_mod (x Q : Nat) : Spec.centred x Q = Spec.centred (x % Q) Q := by
  unfold Spec.centred
  rw [Nat.mod_mod]

theorem c07s_vecZ_crtPoly {l : Level} (hq : c07s_LevelQ l) {p : RnsPoly} (hp : RnsCanon l p) {m : Nat} (hm : m < l.size) :
    c07s_vecZ (l.q m).value (Spec.crtPoly (c07s_qsv l.tool.baseQ) p l.n) = c07s_vecN (l.q m).value (p.getD m #[]) := by
  funext j
  by_cases hj : j < l.n
  · unfold c07s_vecZ c07s_vecN
    rw [c01p_crtPoly_getD _ _ _ hj, Int.cast_natCast]
    have := c07s_crt_cast hq.bwf (p.toList.map (fun comp => comp.getD j 0)) (i := m) (by rw [hq.size_eq]; exact hm)
    rw [hq.q_eq hm, c07s_listcol_getD] at this
    exact this
  · rw [c07s_vecN_oob _ _ (by rw [(hp.2 m hm).1]; exact hj)]
    unfold c07s_vecZ
    rw [array_getD_of_ge _ _ (by rw [c01p_crtPoly_size]; exact Nat.le_of_not_lt hj)]
    simp

/-! ## Property theorems -/

/-- NOISE BUDGET, any size ≥ 2: on a coefficient-form ciphertext of a BFV or BGV level the model's `noiseBudget` succeeds and
    returns exactly the budget of the definition, `Spec.budget`, evaluated on the exact big-integer phase `Spec.phase` = Σ c_k s^k -/
theorem noiseBudget_eq_spec {l : Level} (hl : l.WF) (hq : c07s_LevelQ l) (hs : l.scheme = .bfv ∨ l.scheme = .bgv)
    (ht : l.scheme = .bfv → l.t.value < 2^64) {sk : Array Int} (hsk : sk.size = l.n) {polys : Array RnsPoly}
    (h2 : 2 ≤ polys.size) (hc : ∀ k, k < polys.size → RnsCanon l (polys.getD k #[])) (cf : Nat) :
    noiseBudget l sk ⟨polys, false, cf⟩ =
      .ok (Spec.budget (l.scheme = .bfv) l.t.value (Spec.prodL (l.qs.toList.map (·.value)))
        (Spec.phase (l.qs.toList.map (·.value)) l.n sk polys.toList)) := by
  obtain ⟨ph, hd, hpc, hph⟩ := c01_dot_phase hl hq hsk false h2 hc cf
  rw [c01e_cview_map_coeff] at hph
  change _ = c01p_lift l ph at hph
  have hck : l.scheme ≠ .ckks := by rcases hs with h | h <;> rw [h] <;> decide
  show _ = Except.ok (Spec.budget _ _ (Spec.prodL (c01p_qvals l)) (Spec.phase (c01p_qvals l) l.n sk polys.toList))
  rw [hph, hq.qvals, c07s_prodL_qsv hq.bwf, ← Array.map_id (c01p_lift l ph), c07s_map_as_range _ (c01p_lift_size l ph) id,
    c07s_noiseBudget_eq _ _ _ rfl hck, hd]
  simp only [bind, Except.bind]
  rw [c07s_scale_ok hl ht hpc]
  simp only
  rw [c07s_vals_ok hq (c07s_scaled_canon hl hpc)]
  simp only [pure, Except.pure]
  rw [budget_eq, c07l_noiseNorm_list]
  unfold c07s_norm
  rw [c07s_fold_congr (List.range l.n) _ _ (c07s_abs l.tool.baseQ.prod)
    (fun x => (c07l_v (decide (l.scheme = .bfv)) l.t.value l.tool.baseQ.prod x).natAbs)]
  intro j hj
  obtain ⟨⟨x1, x2⟩, x3⟩ := c01p_lift_crt hq hpc (List.mem_range.mp hj)
  rw [x3]
  exact c07s_coeff_gen hq hpc (List.mem_range.mp hj) x1 (fun m hm => by rw [← x2 m hm, ZMod.natCast_mod])


/-- NOISE BUDGET, any size ≥ 3 (coefficient form): the model's `noiseBudget` returns the budget of the definition on the
    exact phase Σ c_k s^k -/
theorem noiseBudget_gen_eq_spec {l : Level} (hl : l.WF) (hq : c07s_LevelQ l) (hs : l.scheme = .bfv ∨ l.scheme = .bgv)
    (ht : l.scheme = .bfv → l.t.value < 2^64) {sk : Array Int} (hsk : sk.size = l.n) {polys : Array RnsPoly}
    (h3 : 3 ≤ polys.size) (hc : ∀ k, k < polys.size → RnsCanon l (polys.getD k #[])) (cf : Nat) :
    noiseBudget l sk ⟨polys, false, cf⟩ =
      .ok (Spec.budget (l.scheme = .bfv) l.t.value (Spec.prodL (l.qs.toList.map (·.value)))
        (Spec.phase (l.qs.toList.map (·.value)) l.n sk polys.toList)) :=
  noiseBudget_eq_spec hl hq hs ht hsk (Nat.le_of_succ_le h3) hc cf

theorem noiseBudget_size2_eq_spec {l : Level} (hl : l.WF) (hq : c07s_LevelQ l) (hs : l.scheme = .bfv ∨ l.scheme = .bgv)
    (ht : l.scheme = .bfv → l.t.value < 2^64) {sk : Array Int} (hsk : sk.size = l.n) {c0 c1 : RnsPoly}
    (h0 : RnsCanon l c0) (h1 : RnsCanon l c1) (cf : Nat) :
    noiseBudget l sk ⟨#[c0, c1], false, cf⟩ =
      .ok (Spec.budget (l.scheme = .bfv) l.t.value (Spec.prodL (l.qs.toList.map (·.value)))
        (Spec.phase (l.qs.toList.map (·.value)) l.n sk [c0, c1])) :=
  noiseBudget_eq_spec hl hq hs ht hsk (polys := #[c0, c1]) (Nat.le_refl 2)
    (fun k hk => by
      have : k = 0 ∨ k = 1 := by have : (#[c0, c1] : Array RnsPoly).size = 2 := rfl; omega
      rcases this with rfl | rfl
      · exact h0
      · exact h1) cf

/-- the same, with the hypothesis bundle discharged by the constructor: `l.tool.baseQ` is what `RNSBase.new` returns on the
    level's moduli (this is how `RNSTool.new` is fed) -/
theorem noiseBudget_size2_eq_spec_of_new {l : Level} (hl : l.WF) (h64 : l.qs.size ≤ 64)
    (hq : RNSBase.new l.qs.toList = .ok l.tool.baseQ) (hs : l.scheme = .bfv ∨ l.scheme = .bgv) (ht : l.t.WF)
    {sk : Array Int} (hsk : sk.size = l.n) {c0 c1 : RnsPoly} (h0 : RnsCanon l c0) (h1 : RnsCanon l c1) (cf : Nat) :
    noiseBudget l sk ⟨#[c0, c1], false, cf⟩ =
      .ok (Spec.budget (l.scheme = .bfv) l.t.value (Spec.prodL (l.qs.toList.map (·.value)))
        (Spec.phase (l.qs.toList.map (·.value)) l.n sk [c0, c1])) :=
  noiseBudget_size2_eq_spec hl (c07s_levelQ_of_new hl h64 hq) hs (fun _ => by have := ht.lt; omega) hsk h0 h1 cf

/-- a positive budget puts every noise value strictly below Q/2 -/
theorem budget_pos_noise_lt (bfv : Bool) {t Q : Nat} (ph : Array Int) (hb : 0 < Spec.budget bfv t Q ph) :
    ∀ x ∈ ph.toList, 2 * (c07l_v bfv t Q x).natAbs < Q := by
  -- the norm has at least two bits fewer than Q: norm < 2^e with 2^(e+1) ≤ Q
  have hk := (c07l_le_budget_iff bfv t Q ph Nat.one_pos).1 hb
  obtain ⟨e, he⟩ : ∃ e, bitCount Q = e + 2 := ⟨bitCount Q - 2, by omega⟩
  have hNl := (bitCount_le_iff (noiseNorm bfv t Q ph) e).1 (by omega)
  have hQl : 2 ^ (e + 1) ≤ Q := by
    by_contra hc
    have := (bitCount_le_iff Q (e + 1)).2 (by omega)
    omega
  rw [pow_succ] at hQl
  intro x hx
  have := (c07l_noiseNorm_le_iff bfv t Q ph _).1 (Nat.le_refl _) x hx
  omega

/-- POSITIVE BUDGET ⇒ EXACT ROUNDING (BFV): with a positive budget every coefficient splits as t·x = Q·m' + ν with ν the measured noise,
    2|ν| < Q, and rounding t·x/Q returns the noiseless message m' -/
theorem budget_pos_bfv_round {t Q : Nat} (hQ : 0 < Q) (ph : Array Int) (hb : 0 < Spec.budget true t Q ph) :
    ∀ x ∈ ph.toList, ∃ m' : Int, (t : Int) * x = Q * m' + c07l_v true t Q x ∧ 2 * (c07l_v true t Q x).natAbs < Q ∧
      Spec.roundDiv (t * x) Q = m' := by
  intro x hx
  have hlt := budget_pos_noise_lt true ph hb x hx
  exact ⟨_, c07l_split t hQ x, hlt, exact_below_threshold hQ (c07l_split t hQ x) hlt⟩

/-- any splitting t·x = Q·m + e with 2|e| < Q is the one the budget measures: e is the noise value -/
theorem c07s_noise_unique {t Q : Nat} {x m e : Int} (h : (t : Int) * x = Q * m + e) (he : 2 * e.natAbs < Q) :
    c07l_v true t Q x = e :=
  (if_pos rfl).trans ((centredZ_congr (Int.modEq_iff_dvd.mpr ⟨-m, by rw [h]; ring⟩)).trans (c01j_centred_small he))

/-- BFV decoding under a positive budget: for ANY message/noise splitting t·x_c = Q·m_c + e_c with 2|e_c| < Q of the phase
    coefficients, the decoded coefficient is m_c mod t; and such a splitting exists for every coefficient (`budget_pos_bfv_round`) -/
theorem budget_pos_bfvDecode {t Q : Nat} (hQ : 0 < Q) (ph : Array Int) (hb : 0 < Spec.budget true t Q ph) :
    Spec.bfvDecode t Q ph =
      ph.map (fun x => Spec.imod (((t : Int) * x - c07l_v true t Q x) / (Q : Int)) t) :=
  Array.map_congr_left fun x hx => congrArg (Spec.imod · t)
    (exact_below_threshold hQ (c07l_split t hQ x) (budget_pos_noise_lt true ph hb x (Array.mem_toList_iff.mpr hx)))

/-- model-level corollary: when the MODEL reports a positive budget on a BFV ciphertext (c0, c1), exact decoding of the phase
    returns the message part of every coefficient, and every noise value is below Q/2 -/
theorem noiseBudget_pos_bfvDecode {l : Level} (hl : l.WF) (hq : c07s_LevelQ l) (hs : l.scheme = .bfv)
    (ht : l.t.value < 2^64) {sk : Array Int} (hsk : sk.size = l.n) {c0 c1 : RnsPoly}
    (h0 : RnsCanon l c0) (h1 : RnsCanon l c1) (cf : Nat) {b : Nat}
    (hb : noiseBudget l sk ⟨#[c0, c1], false, cf⟩ = .ok b) (hpos : 0 < b) :
    let Q := Spec.prodL (l.qs.toList.map (·.value))
    let ph := Spec.phase (l.qs.toList.map (·.value)) l.n sk [c0, c1]
    (∀ x ∈ ph.toList, 2 * (c07l_v true l.t.value Q x).natAbs < Q) ∧
    Spec.bfvDecode l.t.value Q ph = ph.map (fun x => Spec.imod (((l.t.value : Int) * x - c07l_v true l.t.value Q x) / (Q : Int)) l.t.value) := by
  intro Q ph
  have hm := noiseBudget_size2_eq_spec hl hq (Or.inl hs) (fun _ => ht) hsk h0 h1 cf
  rw [hb] at hm
  have hbe : b = Spec.budget true l.t.value Q ph := by
    have := Except.ok.inj hm
    simpa [hs] using this
  have hQ : 0 < Q := by
    have hqs : l.qs.toList.map (·.value) = c07s_qsv l.tool.baseQ := by unfold c07s_qsv; rw [hq.base]
    show 0 < Spec.prodL (l.qs.toList.map (·.value))
    rw [hqs, c07s_prodL_qsv hq.bwf]; exact hq.bwf.prod_pos
  rw [hbe] at hpos
  exact ⟨budget_pos_noise_lt true ph hpos, budget_pos_bfvDecode hQ ph hpos⟩

end HC
