/- C06: VALIDITY (`ctValid`, the model of `Ciphertext::is_valid_for`) is preserved by every modelled operation.
   `ctValid` = size 0 or 2..16 ∧ all polynomials canonical ∧ scale flags ∧ correction factor in range (`ctValid_iff`), read off the two factors into
   which `Proofs/ValidParts.lean` splits the model's `ctValid` (`gx_ctValid_split`: metadata ∧ shape; the tie with the generated
   `is_metadata_valid_for` in `Proofs/GenValid.lean` reads the same split), so that the model's predicate is taken apart once; for non-empty ciphertexts
   `ctValid ↔ CtCanon ∧ scale condition`: the only difference to `CtCanon` is the empty ciphertext.
   Negate, add / sub (plain and balanced), dyadic / BGV / plain multiply, the three scheme-specific modulus switches, the drop, switchKey,
   relinearize, applyGalois are total on valid operands in the prescribed representation with a result valid at the result level — including
   operands of size 0; for BGV with the exact condition on the correction factors (units modulo t), witnesses at a COMPOSITE plain modulus that
   it is needed, and the strong closure (no unit hypothesis) for PRIME t (`*_valid_prime`).  The accepted BGV range is 1 ≤ cf ≤ t − 1
   (`is_metadata_valid_for`, comparison `>=`; `ctValid_rejects_cf_t`).
   Refusals on representation / scheme / level-count / size mismatches (`evaluator_refusals`), and what the model does not check.
   The size law n1 + n2 − 1 of the products; the model refuses sizes > 16 as `resize` does.
   The witnesses, findings and non-vacuity examples in the constructor-built world of `NonVac` are in `Proofs/C06YW.lean`. -/
import Heathcliff.Proofs.C02V
import Heathcliff.Proofs.C02W
import Heathcliff.Proofs.C05U
import Heathcliff.Proofs.C04T
import Heathcliff.Proofs.Base
import Heathcliff.Proofs.ValidParts
import Mathlib.Data.Nat.Prime.Basic
namespace HC

/-! ## `ctValid` versus `CtCanon` -/

/-- the scale part of `Ciphertext::is_valid_for`: scale = 1.0 (BFV / BGV, flag `s1`) resp. scale ≠ 0 (CKKS, flag `s2` = "scale is zero") -/
def c06y_scaleOk (l : Level) (s1 s2 : Bool) : Prop :=
  match l.scheme with
  | .bfv | .bgv => s1 = true
  | .ckks => s2 = false

/-- the propositional content of `ctValid`: size 0 or 2..16, every polynomial canonical at the level, scale condition,
    correction factor in the accepted range -/
structure c06y_Valid (l : Level) (ct : Ct) (s1 s2 : Bool) : Prop where
  size : ct.polys.size = 0 ∨ (2 ≤ ct.polys.size ∧ ct.polys.size ≤ 16)
  canon : c05u_CtCanon l ct
  scale : c06y_scaleOk l s1 s2
  cf : c02v_cfOk l ct.cf

theorem c06y_all_lt (c : Array Nat) (q : Nat) : c.all (· < q) = true ↔ ∀ j, j < c.size → c.getD j 0 < q := by
  rw [Array.all_eq_true]
  constructor
  · intro h j hj
    have := h j hj
    simpa [Array.getD, hj] using this
  · intro h j hj
    have := h j hj
    simpa [Array.getD, hj] using this

theorem c06y_poly_iff (l : Level) (p : RnsPoly) :
    (decide (p.size = l.size ∧
      ((List.range l.size).all fun i => let c := p.getD i #[]; decide (c.size = l.n ∧ c.all (· < (l.q i).value) = true)) = true)) = true
      ↔ RnsCanon l p := by
  simp only [decide_eq_true_eq, List.all_eq_true, List.mem_range, c06y_all_lt]
  unfold RnsCanon
  constructor
  · rintro ⟨h1, h2⟩
    exact ⟨h1, fun i hi => ⟨(h2 i hi).1, fun j hj => (h2 i hi).2 j (by rw [(h2 i hi).1]; exact hj)⟩⟩
  · rintro ⟨h1, h2⟩
    exact ⟨h1, fun i hi => ⟨(h2 i hi).1, fun j hj => (h2 i hi).2 j (by rw [← (h2 i hi).1]; exact hj)⟩⟩

theorem c06y_shapeOk_iff (l : Level) (ct : Ct) : gx_ctShapeOk l ct = true ↔ c05u_CtCanon l ct := by
  unfold gx_ctShapeOk c05u_CtCanon
  rw [Array.all_eq_true]
  constructor
  · intro h k hk
    have := (c06y_poly_iff l ct.polys[k]).mp (h k hk)
    simpa [Array.getD, hk] using this
  · intro h k hk
    apply (c06y_poly_iff l ct.polys[k]).mpr
    have := h k hk
    simpa [Array.getD, hk] using this

theorem c06y_metaValid_iff (l : Level) (ct : Ct) (s1 s2 : Bool) :
    gx_ctMetaValid l ct s1 s2 = true ↔
      (ct.polys.size = 0 ∨ (2 ≤ ct.polys.size ∧ ct.polys.size ≤ 16)) ∧ c06y_scaleOk l s1 s2 ∧ c02v_cfOk l ct.cf := by
  unfold gx_ctMetaValid c06y_scaleOk c02v_cfOk
  cases l.scheme <;> simp [and_assoc]

theorem c06y_ctValid_iff (l : Level) (ct : Ct) (s1 s2 : Bool) : ctValid l ct s1 s2 = true ↔ c06y_Valid l ct s1 s2 := by
  rw [gx_ctValid_split, Bool.and_eq_true, c06y_metaValid_iff, c06y_shapeOk_iff]
  exact ⟨fun ⟨⟨a, c, d⟩, b⟩ => ⟨a, b, c, d⟩, fun ⟨a, b, c, d⟩ => ⟨⟨a, c, d⟩, b⟩⟩

theorem c06y_valid_parts {l : Level} {ct : Ct} {s1 s2 : Bool} (h : ctValid l ct s1 s2 = true) : c06y_Valid l ct s1 s2 :=
  (c06y_ctValid_iff l ct s1 s2).mp h

theorem c06y_valid_mk {l : Level} {ct : Ct} {s1 s2 : Bool}
    (hsz : ct.polys.size = 0 ∨ (2 ≤ ct.polys.size ∧ ct.polys.size ≤ 16)) (hc : c05u_CtCanon l ct)
    (hs : c06y_scaleOk l s1 s2) (hcf : c02v_cfOk l ct.cf) : ctValid l ct s1 s2 = true :=
  (c06y_ctValid_iff l ct s1 s2).mpr ⟨hsz, hc, hs, hcf⟩

theorem c06y_Valid.keep {l : Level} {a r : Ct} {s1 s2 : Bool} (v : c06y_Valid l a s1 s2) (cr : c05u_CtCanon l r)
    (sr : r.polys.size = a.polys.size) (fr : r.cf = a.cf) : ctValid l r s1 s2 = true :=
  c06y_valid_mk (sr ▸ v.size) cr v.scale (fr ▸ v.cf)

theorem c06y_canon_of_valid {l : Level} {ct : Ct} {s1 s2 : Bool} (h : c06y_Valid l ct s1 s2) (h0 : ct.polys.size ≠ 0) :
    CtCanon l ct :=
  ⟨⟨by have := h.size; omega, by have := h.size; omega, h.canon⟩, h.cf⟩

theorem c06y_of_ok {α} {x : R α} {r : α} {P : α → Prop} (hr : x = .ok r) (h : ∃ r', x = .ok r' ∧ P r') : P r := by
  obtain ⟨r', hr', hp⟩ := h
  rw [hr] at hr'; cases hr'; exact hp

/-- a condition whose failure makes the operation fail holds whenever the operation succeeds -/
theorem c06y_guard_of_ok {α} {x : R α} {r : α} (hr : x = .ok r) {c : Prop} {e : Err} (h : ¬ c → x = .error e) : c := by
  by_contra hc
  rw [h hc] at hr; cases hr

theorem c06y_ok_or_refused {α} {x : R α} {P : α → Prop} {bad : Prop} (hb : bad → x = .error .refused)
    (hg : ¬ bad → ∃ r, x = .ok r ∧ P r) :
    ((∃ r, x = .ok r ∧ P r) ∨ x = .error .refused) ∧ (x = .error .refused ↔ bad) := by
  by_cases h : bad
  · exact ⟨Or.inr (hb h), fun _ => h, fun _ => hb h⟩
  · obtain ⟨r, hr, hp⟩ := hg h
    exact ⟨Or.inl ⟨r, hr, hp⟩, fun he => (by rw [hr] at he; cases he), fun hbad => absurd hbad h⟩

theorem c06y_size_max {m n : Nat} (hm : m = 0 ∨ (2 ≤ m ∧ m ≤ 16)) (hn : n = 0 ∨ (2 ≤ n ∧ n ≤ 16)) :
    max m n = 0 ∨ (2 ≤ max m n ∧ max m n ≤ 16) := by omega

/-- the balancing branch of `ctTranslateBalanced` on any two numbers of canonical polynomials -/
theorem c06y_balanced_core {l : Level} (hq : c02v_QsWF l) (ht : l.t.WF) {a b : Ct} (ha : c05u_CtCanon l a)
    (hb : c05u_CtCanon l b) (sub : Bool) (hntt : a.ntt = b.ntt) (hne : a.cf ≠ b.cf) (h1 : a.cf < l.t.value)
    (h2 : b.cf < l.t.value) {f e1 e2 : Nat} (hbal : balanceCorrectionFactors a.cf b.cf l.t = .ok (f, e1, e2)) :
    ∃ r, ctTranslateBalanced l a b sub = .ok r ∧ c05u_CtCanon l r ∧ r.polys.size = max a.polys.size b.polys.size ∧
      r.ntt = a.ntt ∧ r.cf = f := by
  obtain ⟨a', b', heq, ⟨ca, sa, na, fa, -⟩, cb, sb, nb, fb, -⟩ := c02v_balanced_decomp hq ht ha hb sub hne h1 h2 hbal
  obtain ⟨r, hr, cr, sr, nr, fr, -⟩ := c02v_ctTranslate_core hq ca cb sub (by rw [na, nb, hntt]) (by rw [fa, fb])
  exact ⟨r, heq ▸ hr, cr, by rw [sr, sa, sb], by rw [nr, na], by rw [fr, fa]⟩

theorem c06y_bgv_of_cf_ne {l : Level} {f1 f2 : Nat} (h1 : c02v_cfOk l f1) (h2 : c02v_cfOk l f2) (hne : f1 ≠ f2) :
    l.scheme = .bgv ∧ f1 ≠ 0 ∧ f1 < l.t.value ∧ f2 ≠ 0 ∧ f2 < l.t.value := by
  unfold c02v_cfOk at h1 h2
  cases hs : l.scheme <;> rw [hs] at h1 h2 <;> simp only at h1 h2
  · omega
  · omega
  · exact ⟨rfl, h1.1, h1.2, h2.1, h2.2⟩

theorem c06y_cfOk_bgv {l : Level} (hs : l.scheme = .bgv) (f : Nat) : c02v_cfOk l f ↔ f ≠ 0 ∧ f < l.t.value := by
  unfold c02v_cfOk
  rw [hs]

/-- for a PRIME modulus every factor in the accepted range 1 ≤ f < t is a unit -/
theorem c06y_coprime_of_prime {f t : Nat} (hp : Nat.Prime t) (h0 : f ≠ 0) (hlt : f < t) : Nat.Coprime f t :=
  ((Nat.Prime.coprime_iff_not_dvd hp).mpr (Nat.not_dvd_of_pos_of_lt (Nat.pos_of_ne_zero h0) hlt)).symm

theorem c06y_ne_zero_of_coprime {f t : Nat} (h2 : 2 ≤ t) (hc : Nat.Coprime f t) : f ≠ 0 := by
  rintro rfl
  rw [Nat.Coprime, Nat.gcd_zero_left] at hc
  omega

/-! ## levels: the next level of the chain, for validity -/

/-- `l'` is the level below `l` for the purposes of validity: the moduli are the prefix without the last prime (`c05u_IsNext`),
    same scheme, same plain modulus value -/
structure c06y_NextLevel (l l' : Level) : Prop extends c05u_IsNext l l' where
  scheme : l'.scheme = l.scheme
  t : l'.t.value = l.t.value

theorem c06y_next_scale {l l' : Level} (hn : c06y_NextLevel l l') {s1 s2 : Bool} (h : c06y_scaleOk l s1 s2) :
    c06y_scaleOk l' s1 s2 := by
  unfold c06y_scaleOk at h ⊢
  rw [hn.scheme]; exact h

theorem c06y_next_cf {l l' : Level} (hn : c06y_NextLevel l l') {f : Nat} (h : c02v_cfOk l f) : c02v_cfOk l' f := by
  unfold c02v_cfOk at h ⊢
  rw [hn.scheme, hn.t]; exact h

theorem c06y_Valid.keep_next {l l' : Level} (hn : c06y_NextLevel l l') {a r : Ct} {s1 s2 : Bool} (v : c06y_Valid l a s1 s2)
    (cr : c05u_CtCanon l' r) (sr : r.polys.size = a.polys.size) (fr : r.cf = a.cf) : ctValid l' r s1 s2 = true :=
  c06y_valid_mk (sr ▸ v.size) cr (c06y_next_scale hn v.scale) (fr ▸ c06y_next_cf hn v.cf)

theorem c06y_unit_cancel {cf invt qL t : Nat} (h1 : (invt * qL) % t = 1) (h0 : (cf * invt) % t = 0) : cf % t = 0 := by
  have e : cf % t = ((cf * invt) % t * qL) % t := by
    rw [Nat.mod_mul_mod, Nat.mul_assoc, ← Nat.mul_mod_mod, h1, Nat.mul_one]
  rw [e, h0, Nat.zero_mul, Nat.zero_mod]

/-- the new BGV correction factor `cf·q_L^{-1} mod t` of a factor in [1, t − 1] never vanishes (q_L^{-1} is a unit) -/
theorem c06y_bgv_cf_next {cf invt qL t : Nat} (h1 : (invt * qL) % t = 1) (hc0 : cf ≠ 0) (hct : cf < t) :
    (cf * invt) % t ≠ 0 := by
  intro h0
  have := c06y_unit_cancel h1 h0
  rw [Nat.mod_eq_of_lt hct] at this
  exact hc0 this

theorem c06y_scale_ntt {l : Level} {f e : Nat} {c r : Ct} (h : c02v_scale l f c e = .ok r) : r.ntt = c.ntt := by
  unfold c02v_scale at h
  obtain ⟨ps, _, h⟩ := R.bind_eq_ok.mp h
  cases h; rfl

/-! ## key switching: the ciphertext level inside the key level -/

/-- the ciphertext level `l` consists of the first `l.size` moduli of the key level `kl` (same degree) -/
structure c06y_KeyLevelOf (kl : KeyLevel) (l : Level) : Prop where
  n : kl.n = l.n
  q : ∀ j, j < l.size → (kl.m j).value = (l.q j).value

theorem c06y_canon_to_ks {kl : KeyLevel} {l : Level} (hk : c06y_KeyLevelOf kl l) {p : RnsPoly} (hp : RnsCanon l p) :
    c04t_Canon kl l.size p := by
  intro j hj
  rw [hk.n, hk.q j hj]
  exact hp.2 j hj

/-- the frame of `switchKey` (`c04t_Frame`, whatever else it says about the corrections δ) gives canonicity of the updated ciphertext at
    the level `l` -/
theorem c06y_ks_frame {kl : KeyLevel} {l : Level} (hk : c06y_KeyLevelOf kl l) (hpos : ∀ j, j < l.size → 0 < (kl.m j).value)
    {ct r : Ct} {kcc : Nat} {Sem : Nat → Nat → Poly → Prop} (hc : c05u_CtCanon l ct) (f : c04t_Frame kl l.size kcc ct r Sem) :
    c05u_CtCanon l r := by
  obtain ⟨-, -, hsz, hrest, hnew⟩ := f
  intro k hk'
  rw [hsz] at hk'
  by_cases hkk : k < kcc
  · obtain ⟨h1, h2⟩ := hnew k hkk hk'
    refine ⟨h1, fun j hj => ?_⟩
    obtain ⟨δ, _, _, h3, h4, _⟩ := h2 j hj
    refine ⟨by rw [h3, hk.n], fun i hi => ?_⟩
    rw [h4 i (by rw [hk.n]; exact hi), ← hk.q j hj]
    exact Nat.mod_lt _ (hpos j hj)
  · rw [hrest k (by omega)]
    exact hc k hk'

/-- the ciphertext-independent part of `c04t_KSInput`: key level and digit count -/
structure c06y_KLOK (kl : KeyLevel) (dsz : Nat) : Prop where
  hkl : kl.WF
  hsz : 2 ≤ kl.ms.size
  hd : dsz + 1 ≤ kl.ms.size
  hov : ∀ i, i ≤ dsz →
    dsz * (4 * (kl.m (c04t_keyIndex kl dsz i)).value * (kl.m (c04t_keyIndex kl dsz i)).value) < 2^128
  hinv : c04t_InvP kl dsz

/-- the key-only part of `c04t_KSInput`: enough digits, at most two key components (the code always has two), canonical residues -/
structure c06y_KeyOK (kl : KeyLevel) (dsz : Nat) (key : KSKey) : Prop where
  hks : dsz ≤ key.size
  kcc : (key.getD 0 #[]).size ≤ 2
  hkey : ∀ i, i ≤ dsz → c04t_KeyCanonAt kl dsz (key.getD 0 #[]).size key (c04t_keyIndex kl dsz i)

/-- `c04t_KSInput` assembled from its independent parts and the canonicity of ciphertext and target -/
theorem c06y_ksinput {kl : KeyLevel} {l : Level} (hk : c06y_KeyLevelOf kl l) (ho : c06y_KLOK kl l.size) {key : KSKey}
    (hkey : c06y_KeyOK kl l.size key) {ct : Ct} (hc : c05u_CtCanon l ct) (h2 : 2 ≤ ct.polys.size) {target : RnsPoly}
    (ht : RnsCanon l target) : c04t_KSInput kl l.size ct target key :=
  ⟨ho.hkl, ho.hsz, ho.hd, hkey.hks, c06y_canon_to_ks hk ht, hkey.hkey, ho.hov,
    fun k hk' => c06y_canon_to_ks hk (hc k (by have := hkey.kcc; omega)), ho.hinv⟩

/-! ## Property theorems -/

/-- `ctValid` is exactly: size 0 or 2..16, all polynomials canonical, scale condition, correction factor in range -/
theorem ctValid_iff (l : Level) (ct : Ct) (s1 s2 : Bool) : ctValid l ct s1 s2 = true ↔ c06y_Valid l ct s1 s2 :=
  c06y_ctValid_iff l ct s1 s2

/-- converse of `CtCanon.of_ctValid`: a canonical ciphertext with the right scale flags is valid -/
theorem ctValid_of_CtCanon {l : Level} {ct : Ct} {s1 s2 : Bool} (h : CtCanon l ct) (hs : c06y_scaleOk l s1 s2) :
    ctValid l ct s1 s2 = true :=
  c06y_valid_mk (Or.inr ⟨h.two_le, h.le16⟩) h.canon hs h.cf

/-- for a NON-EMPTY ciphertext, validity is canonicity plus the scale condition (an iff: the correction-factor ranges of the two
    predicates coincide, for BGV both are 1 ≤ cf ≤ t − 1) -/
theorem ctValid_iff_CtCanon {l : Level} {ct : Ct} {s1 s2 : Bool} (h0 : ct.polys.size ≠ 0) :
    ctValid l ct s1 s2 = true ↔ CtCanon l ct ∧ c06y_scaleOk l s1 s2 :=
  ⟨fun h => ⟨c06y_canon_of_valid (c06y_valid_parts h) h0, (c06y_valid_parts h).scale⟩, fun h => ctValid_of_CtCanon h.1 h.2⟩

/-- the only difference: the EMPTY ciphertext (size 0) is valid (with the right flags and correction factor) but not `CtCanon` -/
theorem ctValid_empty {l : Level} {ct : Ct} {s1 s2 : Bool} (h0 : ct.polys.size = 0) :
    (ctValid l ct s1 s2 = true ↔ c06y_scaleOk l s1 s2 ∧ c02v_cfOk l ct.cf) ∧ ¬ CtCanon l ct :=
  ⟨⟨fun h => ⟨(c06y_valid_parts h).scale, (c06y_valid_parts h).cf⟩,
    fun h => c06y_valid_mk (Or.inl h0) (fun k hk => by omega) h.1 h.2⟩, fun h => by have := h.two_le; omega⟩

/-- the polynomial / size / correction-factor part of validity does not depend on the scale flags -/
theorem ctValid_flags {l : Level} {ct : Ct} {s1 s2 s1' s2' : Bool} (h : ctValid l ct s1 s2 = true)
    (hs : c06y_scaleOk l s1' s2') : ctValid l ct s1' s2' = true :=
  let v := c06y_valid_parts h
  c06y_valid_mk v.size v.canon hs v.cf

/-- for BGV a correction factor EQUAL to `t` (≡ 0, not a unit modulo t) is rejected, whatever the rest of
    the ciphertext is -/
theorem ctValid_rejects_cf_t {l : Level} {ct : Ct} {s1 s2 : Bool} (hs : l.scheme = .bgv) :
    ctValid l { ct with cf := l.t.value } s1 s2 = false := by
  cases h : ctValid l { ct with cf := l.t.value } s1 s2
  · rfl
  · exact absurd ((c06y_cfOk_bgv hs _).mp (c06y_valid_parts h).cf).2 (Nat.lt_irrefl _)

/-- for BGV the accepted correction factors are exactly 1 ≤ cf ≤ t − 1: replacing the factor of a valid ciphertext by `f` keeps it
    valid iff `f ≠ 0 ∧ f < t` -/
theorem ctValid_bgv_cf_range {l : Level} {ct : Ct} {s1 s2 : Bool} (hs : l.scheme = .bgv) (h : ctValid l ct s1 s2 = true) (f : Nat) :
    ctValid l { ct with cf := f } s1 s2 = true ↔ f ≠ 0 ∧ f < l.t.value :=
  let v := c06y_valid_parts h
  ⟨fun h' => (c06y_cfOk_bgv hs _).mp (c06y_valid_parts h').cf,
   fun hf => c06y_valid_mk v.size v.canon v.scale ((c06y_cfOk_bgv hs _).mpr hf)⟩

/-- `negate`: total on valid ciphertexts, result valid (same size, representation, correction factor) -/
theorem ctNegate_valid {l : Level} (hq : c02v_QsWF l) {a : Ct} {s1 s2 : Bool} (ha : ctValid l a s1 s2 = true) :
    ∃ r, ctNegate l a = .ok r ∧ ctValid l r s1 s2 = true ∧ r.polys.size = a.polys.size ∧ r.ntt = a.ntt ∧ r.cf = a.cf :=
  let v := c06y_valid_parts ha
  let ⟨r, hr, cr, sr, nr, fr, _⟩ := c02v_ctNegate_core hq v.canon
  ⟨r, hr, v.keep cr sr fr, sr, nr, fr⟩

theorem ctNegate_preserves_valid {l : Level} (hq : c02v_QsWF l) {a r : Ct} {s1 s2 : Bool} (ha : ctValid l a s1 s2 = true)
    (hr : ctNegate l a = .ok r) : ctValid l r s1 s2 = true :=
  (c06y_of_ok hr (ctNegate_valid hq ha)).1

/-- `add` / `sub` (equal correction factors): total on valid operands in the same representation, result valid, size max -/
theorem ctTranslate_valid {l : Level} (hq : c02v_QsWF l) {a b : Ct} {s1 s2 s1' s2' : Bool} (ha : ctValid l a s1 s2 = true)
    (hb : ctValid l b s1' s2' = true) (sub : Bool) (hntt : a.ntt = b.ntt) (hcf : a.cf = b.cf) :
    ∃ r, ctTranslate l a b sub = .ok r ∧ ctValid l r s1 s2 = true ∧ r.polys.size = max a.polys.size b.polys.size ∧
      r.ntt = a.ntt ∧ r.cf = a.cf := by
  have va := c06y_valid_parts ha
  have vb := c06y_valid_parts hb
  obtain ⟨r, hr, cr, sr, nr, fr, -⟩ := c02v_ctTranslate_core hq va.canon vb.canon sub hntt hcf
  exact ⟨r, hr, c06y_valid_mk (by rw [sr]; exact c06y_size_max va.size vb.size) cr va.scale (by rw [fr]; exact va.cf), sr, nr, fr⟩

theorem ctTranslate_preserves_valid {l : Level} (hq : c02v_QsWF l) {a b r : Ct} {s1 s2 s1' s2' : Bool}
    (ha : ctValid l a s1 s2 = true) (hb : ctValid l b s1' s2' = true) {sub : Bool} (hr : ctTranslate l a b sub = .ok r) :
    ctValid l r s1 s2 = true := by
  have hntt : a.ntt = b.ntt := c06y_guard_of_ok hr (ctTranslate_refuse_ntt l a b sub)
  have hcf : a.cf = b.cf := c06y_guard_of_ok hr (ctTranslate_error_cf l a b sub hntt)
  exact (c06y_of_ok hr (ctTranslate_valid hq ha hb sub hntt hcf)).1

/-- `add` / `sub` with balancing: total on valid operands in the same representation whose correction factors are equal or
    both UNITS modulo t; the result is valid.  (For BFV / CKKS validity forces both factors to be 1, so the unit hypothesis is
    vacuous there; `ht` is only used when the factors differ, which forces BGV.) -/
theorem ctTranslateBalanced_valid {l : Level} (hq : c02v_QsWF l) (ht : l.scheme = .bgv → l.t.WF) {a b : Ct}
    {s1 s2 s1' s2' : Bool} (ha : ctValid l a s1 s2 = true) (hb : ctValid l b s1' s2' = true) (sub : Bool)
    (hntt : a.ntt = b.ntt)
    (hu : a.cf ≠ b.cf → Nat.Coprime a.cf l.t.value ∧ Nat.Coprime b.cf l.t.value) :
    ∃ r, ctTranslateBalanced l a b sub = .ok r ∧ ctValid l r s1 s2 = true ∧
      r.polys.size = max a.polys.size b.polys.size ∧ r.ntt = a.ntt := by
  have va := c06y_valid_parts ha
  have vb := c06y_valid_parts hb
  by_cases hcf : a.cf = b.cf
  · rw [ctTranslateBalanced_same l a b sub hcf]
    obtain ⟨r, hr, hv, sr, nr, _⟩ := ctTranslate_valid hq ha hb sub hntt hcf
    exact ⟨r, hr, hv, sr, nr⟩
  · obtain ⟨hs, _, a1, _, b1⟩ := c06y_bgv_of_cf_ne va.cf vb.cf hcf
    obtain ⟨ca, cb⟩ := hu hcf
    have htw := ht hs
    have h2 := htw.two_le
    obtain ⟨⟨f, e1, e2⟩, hbal⟩ := balance_total htw a1 b1 ca
    obtain ⟨r, hr, cr, sr, nr, fr⟩ := c06y_balanced_core hq htw va.canon vb.canon sub hntt hcf a1 b1 hbal
    obtain ⟨_, _, flt⟩ := balance_spec htw a1 b1 hbal
    obtain ⟨_, _, _, i4⟩ := c02v_balance_inv htw a1 b1 hbal
    have fc := (i4 cb).2
    refine ⟨r, hr, c06y_valid_mk (by rw [sr]; exact c06y_size_max va.size vb.size) cr va.scale ?_, sr, nr⟩
    rw [fr]
    exact (c06y_cfOk_bgv hs f).mpr ⟨c06y_ne_zero_of_coprime h2 fc, flt⟩

/-- operands in different representations are never accepted by the balanced add / sub either (on the balancing path the
    error is the first one met: a failed balancing, or the representation check after the scaling) -/
theorem ctTranslateBalanced_refuse_ntt (l : Level) (a b : Ct) (sub : Bool) (h : a.ntt ≠ b.ntt) :
    ∃ e, ctTranslateBalanced l a b sub = .error e := by
  by_cases hcf : a.cf = b.cf
  · rw [ctTranslateBalanced_same l a b sub hcf, ctTranslate_refuse_ntt l a b sub h]
    exact ⟨_, rfl⟩
  · rw [c02v_balanced_eq l a b sub hcf]
    cases hb : balanceCorrectionFactors a.cf b.cf l.t with
    | error e => exact ⟨e, rfl⟩
    | ok r =>
      simp only [bind, Except.bind]
      cases ha' : c02v_scale l r.1 a r.2.1 with
      | error e => exact ⟨e, rfl⟩
      | ok a' =>
        cases hb' : c02v_scale l r.1 b r.2.2 with
        | error e => exact ⟨e, rfl⟩
        | ok b' =>
          show ∃ e, ctTranslate l a' b' sub = .error e
          rw [ctTranslate_refuse_ntt l a' b' sub (by rw [c06y_scale_ntt ha', c06y_scale_ntt hb']; exact h)]
          exact ⟨_, rfl⟩

/-- `.ok` form: whenever the balanced add / sub of valid operands succeeds and (in case the factors differ) the SECOND factor
    is a unit, the result is valid (success already certifies that the first factor is a unit) -/
theorem ctTranslateBalanced_preserves_valid {l : Level} (hq : c02v_QsWF l) (ht : l.scheme = .bgv → l.t.WF) {a b r : Ct}
    {s1 s2 s1' s2' : Bool} (ha : ctValid l a s1 s2 = true) (hb : ctValid l b s1' s2' = true) {sub : Bool}
    (hu : a.cf ≠ b.cf → Nat.Coprime b.cf l.t.value) (hr : ctTranslateBalanced l a b sub = .ok r) :
    ctValid l r s1 s2 = true := by
  have va := c06y_valid_parts ha
  have vb := c06y_valid_parts hb
  by_cases hcf : a.cf = b.cf
  · rw [ctTranslateBalanced_same l a b sub hcf] at hr
    exact ctTranslate_preserves_valid hq ha hb hr
  · obtain ⟨hs, _, a1, _, _⟩ := c06y_bgv_of_cf_ne va.cf vb.cf hcf
    have htw := ht hs
    have hlt := htw.lt
    have ca : Nat.Coprime a.cf l.t.value := c06y_guard_of_ok hr (ctTranslateBalanced_refuse htw a b sub hcf (by omega))
    have hntt : a.ntt = b.ntt := by
      by_contra hn
      obtain ⟨e, he⟩ := ctTranslateBalanced_refuse_ntt l a b sub hn
      rw [he] at hr; cases hr
    exact (c06y_of_ok hr (ctTranslateBalanced_valid hq ht ha hb sub hntt fun h => ⟨ca, hu h⟩)).1

/-- `add` / `sub` with balancing, PRIME plain modulus: strong closure — total on valid operands in the same representation, the
    result is valid; no unit hypothesis (every accepted factor 1 ≤ cf ≤ t − 1 is a unit modulo a prime) -/
theorem ctTranslateBalanced_valid_prime {l : Level} (hq : c02v_QsWF l) (ht : l.scheme = .bgv → l.t.WF)
    (hp : l.scheme = .bgv → Nat.Prime l.t.value) {a b : Ct} {s1 s2 s1' s2' : Bool} (ha : ctValid l a s1 s2 = true)
    (hb : ctValid l b s1' s2' = true) (sub : Bool) (hntt : a.ntt = b.ntt) :
    ∃ r, ctTranslateBalanced l a b sub = .ok r ∧ ctValid l r s1 s2 = true ∧
      r.polys.size = max a.polys.size b.polys.size ∧ r.ntt = a.ntt :=
  ctTranslateBalanced_valid hq ht ha hb sub hntt (fun hne => by
    obtain ⟨hs, a0, a1, b0, b1⟩ := c06y_bgv_of_cf_ne (c06y_valid_parts ha).cf (c06y_valid_parts hb).cf hne
    exact ⟨c06y_coprime_of_prime (hp hs) a0 a1, c06y_coprime_of_prime (hp hs) b0 b1⟩)

/-- an empty operand is refused by the dyadic product -/
theorem ctMultiplyDyadic_refuse_empty (l : Level) (a b : Ct) (hna : a.ntt = true) (hnb : b.ntt = true)
    (h0 : a.polys.size = 0 ∨ b.polys.size = 0) : ctMultiplyDyadic l a b = .error .refused := by
  unfold ctMultiplyDyadic
  rw [if_neg (by simp [hna, hnb])]
  simp only []
  rw [if_pos (by omega)]

/-- `multiply` (CKKS product / dyadic step): on valid non-empty NTT-form operands whose product fits
    (`n1 + n2 − 1 ≤ 16`) the model succeeds, and the result has `n1 + n2 − 1` canonical polynomials and is VALID.  (Oversize
    products are refused, as `Ciphertext::resize` does in the code: `ctMultiplyDyadic_valid_or_refused`.) -/
theorem ctMultiplyDyadic_valid {l : Level} (hq : c02v_QsWF l) {a b : Ct} {s1 s2 s1' s2' : Bool} (ha : ctValid l a s1 s2 = true)
    (hb : ctValid l b s1' s2' = true) (hna : a.ntt = true) (hnb : b.ntt = true) (h0a : a.polys.size ≠ 0)
    (h0b : b.polys.size ≠ 0) (h16 : a.polys.size + b.polys.size - 1 ≤ 16) :
    ∃ r, ctMultiplyDyadic l a b = .ok r ∧ r.polys.size = a.polys.size + b.polys.size - 1 ∧ r.ntt = true ∧ r.cf = a.cf ∧
      c05u_CtCanon l r ∧ ctValid l r s1 s2 = true := by
  have va := c06y_valid_parts ha
  have vb := c06y_valid_parts hb
  have ca := c06y_canon_of_valid va h0a
  have cb := c06y_canon_of_valid vb h0b
  obtain ⟨r, hr, sr, nr, fr, cr, _, _⟩ := ctMultiplyDyadic_spec hq ca cb hna hnb h16
  have crr : c05u_CtCanon l r := fun k hk => cr k (by rw [← sr]; exact hk)
  refine ⟨r, hr, sr, nr, fr, crr, ?_⟩
  have := ca.two_le; have := cb.two_le
  exact c06y_valid_mk (Or.inr (by omega)) crr va.scale (by rw [fr]; exact va.cf)

/-- refusal (size), as in the code (`Ciphertext::resize`: "[Invalid argument] Size invalid."): a product of more than 16
    polynomials is refused, whatever the operands are -/
theorem ctMultiplyDyadic_refuse_oversize (l : Level) (a b : Ct) (h : 16 < a.polys.size + b.polys.size - 1) :
    ctMultiplyDyadic l a b = .error .refused :=
  ctMultiplyDyadic_refuse_size l a b ((ctResizeRefuses_eq_true_iff _).mpr (Or.inr h))

theorem c06y_dyadic_refused (l : Level) (a b : Ct)
    (h : a.ntt = false ∨ b.ntt = false ∨ a.polys.size = 0 ∨ b.polys.size = 0 ∨ 16 < a.polys.size + b.polys.size - 1) :
    ctMultiplyDyadic l a b = .error .refused := by
  by_cases hn : a.ntt = false ∨ b.ntt = false
  · exact ctMultiplyDyadic_refuse l a b hn
  · rw [not_or, Bool.not_eq_false, Bool.not_eq_false] at hn
    rcases h with h | h | h | h | h
    · rw [hn.1] at h; cases h
    · rw [hn.2] at h; cases h
    · exact ctMultiplyDyadic_refuse_empty l a b hn.1 hn.2 (Or.inl h)
    · exact ctMultiplyDyadic_refuse_empty l a b hn.1 hn.2 (Or.inr h)
    · exact ctMultiplyDyadic_refuse_oversize l a b h

theorem c06y_dyadic_of_ok {l : Level} {a b r : Ct} (hr : ctMultiplyDyadic l a b = .ok r) :
    a.ntt = true ∧ b.ntt = true ∧ a.polys.size ≠ 0 ∧ b.polys.size ≠ 0 ∧ a.polys.size + b.polys.size - 1 ≤ 16 := by
  have h : ¬ (a.ntt = false ∨ b.ntt = false ∨ a.polys.size = 0 ∨ b.polys.size = 0 ∨ 16 < a.polys.size + b.polys.size - 1) :=
    fun h => by rw [c06y_dyadic_refused l a b h] at hr; cases hr
  simp only [not_or, Bool.not_eq_false, Nat.not_lt] at h
  exact h

/-- the complete case analysis of `multiply` (CKKS product / dyadic step) on VALID operands: the model either returns a
    VALID result of `n1 + n2 − 1` polynomials or REFUSES (error code `refused`, never another error); it refuses exactly when an
    operand is not in NTT form, an operand is empty, or the product would have more than 16 polynomials.  In particular, for
    non-empty NTT-form valid operands: refused IFF `n1 + n2 − 1 > 16`. -/
theorem ctMultiplyDyadic_valid_or_refused {l : Level} (hq : c02v_QsWF l) {a b : Ct} {s1 s2 s1' s2' : Bool}
    (ha : ctValid l a s1 s2 = true) (hb : ctValid l b s1' s2' = true) :
    ((∃ r, ctMultiplyDyadic l a b = .ok r ∧ ctValid l r s1 s2 = true ∧ r.polys.size = a.polys.size + b.polys.size - 1) ∨
      ctMultiplyDyadic l a b = .error .refused) ∧
    (ctMultiplyDyadic l a b = .error .refused ↔
      (a.ntt = false ∨ b.ntt = false ∨ a.polys.size = 0 ∨ b.polys.size = 0 ∨ 16 < a.polys.size + b.polys.size - 1)) := by
  refine c06y_ok_or_refused (c06y_dyadic_refused l a b) fun h => ?_
  simp only [not_or, Bool.not_eq_false] at h
  obtain ⟨r, hr, sr, _, _, _, hv⟩ := ctMultiplyDyadic_valid hq ha hb h.1 h.2.1 h.2.2.1 h.2.2.2.1 (by omega)
  exact ⟨r, hr, hv, sr⟩

/-- for non-empty NTT-form valid operands: refused IFF the product would have more than 16 polynomials -/
theorem ctMultiplyDyadic_refused_iff {l : Level} (hq : c02v_QsWF l) {a b : Ct} {s1 s2 s1' s2' : Bool}
    (ha : ctValid l a s1 s2 = true) (hb : ctValid l b s1' s2' = true) (hna : a.ntt = true) (hnb : b.ntt = true)
    (h0a : a.polys.size ≠ 0) (h0b : b.polys.size ≠ 0) :
    ctMultiplyDyadic l a b = .error .refused ↔ 16 < a.polys.size + b.polys.size - 1 := by
  rw [(ctMultiplyDyadic_valid_or_refused hq ha hb).2, hna, hnb]
  simp only [Bool.true_eq_false, h0a, h0b, false_or]

theorem ctMultiplyDyadic_preserves_valid {l : Level} (hq : c02v_QsWF l) {a b r : Ct} {s1 s2 s1' s2' : Bool}
    (ha : ctValid l a s1 s2 = true) (hb : ctValid l b s1' s2' = true) (hr : ctMultiplyDyadic l a b = .ok r) :
    ctValid l r s1 s2 = true := by
  obtain ⟨hna, hnb, h0a, h0b, h16⟩ := c06y_dyadic_of_ok hr
  exact (c06y_of_ok hr (ctMultiplyDyadic_valid hq ha hb hna hnb h0a h0b h16)).2.2.2.2

/-- the size law of the product, from `.ok` alone (no validity needed) -/
theorem ctMultiplyDyadic_size {l : Level} {a b r : Ct} (hr : ctMultiplyDyadic l a b = .ok r) :
    r.polys.size = a.polys.size + b.polys.size - 1 ∧ 1 ≤ a.polys.size ∧ 1 ≤ b.polys.size ∧ a.ntt = true ∧ b.ntt = true ∧
      r.ntt = true ∧ r.cf = a.cf ∧ 2 ≤ r.polys.size ∧ r.polys.size ≤ 16 := by
  have hszok := (ctResizeRefuses_eq_false_iff _).mp (ctMultiplyDyadic_ok_size hr)
  obtain ⟨hna, hnb, h0a, h0b, _⟩ := c06y_dyadic_of_ok hr
  unfold ctMultiplyDyadic at hr
  rw [if_neg (by simp [hna, hnb])] at hr
  simp only [] at hr
  rw [if_neg (by omega), if_neg (by rw [Bool.not_eq_true, ctResizeRefuses_eq_false_iff]; exact hszok)] at hr
  obtain ⟨ps, hps, hr⟩ := R.bind_eq_ok.mp hr
  cases hr
  have hlen : ps.toArray.size = a.polys.size + b.polys.size - 1 := by
    rw [List.size_toArray, R.mapM_length hps, List.length_range]
  exact ⟨hlen, by omega, by omega, hna, hnb, hna, rfl, by rw [hlen]; omega, by rw [hlen]; omega⟩

/-- refusal (size) for `bgv_multiply` -/
theorem bgvMultiply_refuse_oversize (l : Level) (a b : Ct) (h : 16 < a.polys.size + b.polys.size - 1) :
    bgvMultiply l a b = .error .refused := by
  unfold bgvMultiply
  rw [ctMultiplyDyadic_refuse_oversize l a b h]
  rfl

/-- `bgv_multiply`: on valid non-empty NTT-form BGV operands whose product fits (`n1 + n2 − 1 ≤ 16`; otherwise refused:
    `bgvMultiply_refuse_oversize`) the model succeeds with correction factor `cf_a·cf_b mod t`; the result is valid IF AND ONLY IF
    that product is non-zero modulo t -/
theorem bgvMultiply_valid_iff {l : Level} (hq : c02v_QsWF l) (ht : l.t.WF) (hs : l.scheme = .bgv) {a b : Ct}
    {s1 s2 s1' s2' : Bool} (ha : ctValid l a s1 s2 = true) (hb : ctValid l b s1' s2' = true) (hna : a.ntt = true)
    (hnb : b.ntt = true) (h0a : a.polys.size ≠ 0) (h0b : b.polys.size ≠ 0) (h16 : a.polys.size + b.polys.size - 1 ≤ 16) :
    ∃ r, bgvMultiply l a b = .ok r ∧ r.polys.size = a.polys.size + b.polys.size - 1 ∧ r.ntt = true ∧
      r.cf = (a.cf * b.cf) % l.t.value ∧
      (ctValid l r s1 s2 = true ↔ (a.cf * b.cf) % l.t.value ≠ 0) := by
  have va := c06y_valid_parts ha
  have vb := c06y_valid_parts hb
  obtain ⟨c, hc, sc, nc, fc, cc, hv⟩ := ctMultiplyDyadic_valid hq ha hb hna hnb h0a h0b h16
  have fa := (c06y_cfOk_bgv hs _).mp va.cf
  have fb := (c06y_cfOk_bgv hs _).mp vb.cf
  have htlt := ht.lt
  have h2 := ht.two_le
  refine ⟨_, bgvMultiply_spec ht hc (by omega) (by omega), sc, nc, rfl, fun hr => ?_, fun hr => ?_⟩
  · have v := c06y_valid_parts hr
    have hcf : (a.cf * b.cf) % l.t.value ≠ 0 ∧ (a.cf * b.cf) % l.t.value < l.t.value := (c06y_cfOk_bgv hs _).mp v.cf
    exact hcf.1
  · have vc := c06y_valid_parts hv
    exact c06y_valid_mk vc.size cc va.scale ((c06y_cfOk_bgv hs _).mpr ⟨hr, Nat.mod_lt _ (by omega)⟩)

/-- `bgv_multiply`, unit correction factors: the result is valid -/
theorem bgvMultiply_valid {l : Level} (hq : c02v_QsWF l) (ht : l.t.WF) (hs : l.scheme = .bgv) {a b : Ct}
    {s1 s2 s1' s2' : Bool} (ha : ctValid l a s1 s2 = true) (hb : ctValid l b s1' s2' = true) (hna : a.ntt = true)
    (hnb : b.ntt = true) (h0a : a.polys.size ≠ 0) (h0b : b.polys.size ≠ 0) (h16 : a.polys.size + b.polys.size - 1 ≤ 16)
    (c1 : Nat.Coprime a.cf l.t.value) (c2 : Nat.Coprime b.cf l.t.value) :
    ∃ r, bgvMultiply l a b = .ok r ∧ ctValid l r s1 s2 = true ∧ r.polys.size = a.polys.size + b.polys.size - 1 ∧
      r.ntt = true ∧ r.cf = (a.cf * b.cf) % l.t.value ∧ Nat.Coprime r.cf l.t.value := by
  obtain ⟨r, hr, sr, nr, fr, hv⟩ := bgvMultiply_valid_iff hq ht hs ha hb hna hnb h0a h0b h16
  have hcop : Nat.Coprime ((a.cf * b.cf) % l.t.value) l.t.value := by
    unfold Nat.Coprime
    rw [← Nat.gcd_rec, Nat.gcd_comm]
    exact Nat.Coprime.mul_left c1 c2
  exact ⟨r, hr, hv.mpr (c06y_ne_zero_of_coprime ht.two_le hcop), sr, nr, fr, by rw [fr]; exact hcop⟩

theorem bgvMultiply_preserves_valid {l : Level} (hq : c02v_QsWF l) (ht : l.t.WF) (hs : l.scheme = .bgv) {a b r : Ct}
    {s1 s2 s1' s2' : Bool} (ha : ctValid l a s1 s2 = true) (hb : ctValid l b s1' s2' = true)
    (hr : bgvMultiply l a b = .ok r)
    (c1 : Nat.Coprime a.cf l.t.value) (c2 : Nat.Coprime b.cf l.t.value) : ctValid l r s1 s2 = true := by
  have hd : ∃ c, ctMultiplyDyadic l a b = .ok c := by
    unfold bgvMultiply at hr
    cases hc : ctMultiplyDyadic l a b with
    | error e => rw [hc] at hr; cases hr
    | ok c => exact ⟨c, rfl⟩
  obtain ⟨c, hc⟩ := hd
  obtain ⟨hna, hnb, h0a, h0b, h16⟩ := c06y_dyadic_of_ok hc
  exact (c06y_of_ok hr (bgvMultiply_valid hq ht hs ha hb hna hnb h0a h0b h16 c1 c2)).1

/-- `bgv_multiply`, PRIME plain modulus: strong closure — valid non-empty NTT-form operands give a valid result (with a unit
    correction factor); no unit hypothesis (every accepted factor 1 ≤ cf ≤ t − 1 is a unit modulo a prime) -/
theorem bgvMultiply_valid_prime {l : Level} (hq : c02v_QsWF l) (ht : l.t.WF) (hp : Nat.Prime l.t.value) (hs : l.scheme = .bgv)
    {a b : Ct} {s1 s2 s1' s2' : Bool} (ha : ctValid l a s1 s2 = true) (hb : ctValid l b s1' s2' = true) (hna : a.ntt = true)
    (hnb : b.ntt = true) (h0a : a.polys.size ≠ 0) (h0b : b.polys.size ≠ 0) (h16 : a.polys.size + b.polys.size - 1 ≤ 16) :
    ∃ r, bgvMultiply l a b = .ok r ∧ ctValid l r s1 s2 = true ∧ r.polys.size = a.polys.size + b.polys.size - 1 ∧
      r.ntt = true ∧ r.cf = (a.cf * b.cf) % l.t.value ∧ Nat.Coprime r.cf l.t.value :=
  have fa := (c06y_cfOk_bgv hs _).mp (c06y_valid_parts ha).cf
  have fb := (c06y_cfOk_bgv hs _).mp (c06y_valid_parts hb).cf
  bgvMultiply_valid hq ht hs ha hb hna hnb h0a h0b h16 (c06y_coprime_of_prime hp fa.1 fa.2) (c06y_coprime_of_prime hp fb.1 fb.2)

/-- `multiply_plain_ntt`: total on valid NTT-form ciphertexts and canonical plaintexts, result valid -/
theorem ctMultiplyPlainNtt_valid {l : Level} (hq : c02v_QsWF l) {a : Ct} {s1 s2 : Bool} (ha : ctValid l a s1 s2 = true)
    (hna : a.ntt = true) {p : RnsPoly} (hp : RnsCanon l p) :
    ∃ r, ctMultiplyPlainNtt l a p = .ok r ∧ ctValid l r s1 s2 = true ∧ r.polys.size = a.polys.size ∧ r.ntt = true ∧
      r.cf = a.cf := by
  have v := c06y_valid_parts ha
  obtain ⟨ys, h1, h3, h2, -⟩ := c02v_mapPolys_spec (g := fun i j x => (x * (p.getD i #[]).getD j 0) % (l.q i).value)
    (fun _ hc => c02v_rnsDyadic_spec hq hc hp) v.canon a.ntt a.cf
  refine ⟨_, ?_, v.keep h3 h2 rfl, h2, hna, rfl⟩
  unfold ctMultiplyPlainNtt
  rw [if_neg (by simp [hna])]
  erw [h1]; rfl

theorem ctMultiplyPlainNtt_preserves_valid {l : Level} (hq : c02v_QsWF l) {a r : Ct} {s1 s2 : Bool}
    (ha : ctValid l a s1 s2 = true) {p : RnsPoly} (hp : RnsCanon l p) (hr : ctMultiplyPlainNtt l a p = .ok r) :
    ctValid l r s1 s2 = true := by
  have hna : a.ntt = true := c06y_guard_of_ok hr fun h => ctMultiplyPlainNtt_refuse l a p (by simpa using h)
  exact (c06y_of_ok hr (ctMultiplyPlainNtt_valid hq ha hna hp)).1

/-! ### the unit hypothesis on BGV correction factors is needed when t is COMPOSITE: validity (1 ≤ cf ≤ t − 1) does not imply that the
      factor is a unit.  Witnesses at the level `c02v_exLevel4` (q = 17·17, N = 2, t = 4; the non-unit factor is 2) -/

/-- `c02v_exCt2` with the correction factor replaced by `f` -/
def c06y_exCt (f : Nat) : Ct := { c02v_exCt2 with cf := f }

theorem c06y_exCt_valid (f : Nat) (h0 : f ≠ 0) (h4 : f < 4) : ctValid c02v_exLevel4 (c06y_exCt f) true false = true :=
  ctValid_of_CtCanon ⟨⟨c02v_exCt2_canon4.two_le, c02v_exCt2_canon4.le16, c02v_exCt2_canon4.canon⟩, ⟨h0, h4⟩⟩ (rfl : true = true)

/-- composite t: `bgv_multiply` of two VALID ciphertexts (t = 4, correction factors 2 and 2, in the accepted
    range but not units) succeeds and returns a ciphertext with correction factor 0, which is NOT valid: validity is not preserved
    without the unit hypothesis when t is composite (for prime t it is: `bgvMultiply_valid_prime`) -/
theorem bgvMultiply_valid_needs_unit :
    ∃ a b r, ctValid c02v_exLevel4 a true false = true ∧ ctValid c02v_exLevel4 b true false = true ∧
      bgvMultiply c02v_exLevel4 a b = .ok r ∧ r.cf = 0 ∧ ctValid c02v_exLevel4 r true false = false := by
  have ha := c06y_exCt_valid 2 (by decide) (by decide)
  obtain ⟨r, hr, _, _, fr, hv⟩ := bgvMultiply_valid_iff c02v_exLevel4_qsWF c02v_exT4_wf rfl ha ha rfl rfl (by decide) (by decide)
    (by decide)
  have f0 : r.cf = 0 := fr
  refine ⟨_, _, r, ha, ha, hr, f0, ?_⟩
  cases h : ctValid c02v_exLevel4 r true false
  · rfl
  · exact absurd f0 ((c06y_cfOk_bgv rfl _).mp (c06y_valid_parts h).cf).1

/-- composite t: a VALID first operand (t = 4, correction factor 2) is REFUSED by the balanced add / sub ("accepted by any
    later operation" fails for the non-unit factors that `ctValid` admits when t is composite) -/
theorem ctTranslateBalanced_refuses_valid (sub : Bool) :
    ∃ a b, ctValid c02v_exLevel4 a true false = true ∧ ctValid c02v_exLevel4 b true false = true ∧ a.ntt = b.ntt ∧
      ctTranslateBalanced c02v_exLevel4 a b sub = .error .refused :=
  ⟨c06y_exCt 2, c06y_exCt 3, c06y_exCt_valid 2 (by decide) (by decide), c06y_exCt_valid 3 (by decide) (by decide), rfl,
    ctTranslateBalanced_refuse c02v_exT4_wf _ _ sub (by decide) (by decide) (by decide)⟩

/-- composite t: with a unit first factor (1) and a VALID non-unit second factor (2, t = 4) the balanced add / sub SUCCEEDS and
    the result is valid, but its correction factor (2) is again not a unit: validity does not imply that the BGV factor is a unit -/
theorem ctTranslateBalanced_valid_nonunit_result (sub : Bool) :
    ∃ a b r, ctValid c02v_exLevel4 a true false = true ∧ ctValid c02v_exLevel4 b true false = true ∧
      ctTranslateBalanced c02v_exLevel4 a b sub = .ok r ∧ ctValid c02v_exLevel4 r true false = true ∧
      ¬ Nat.Coprime r.cf c02v_exLevel4.t.value := by
  have ha := c06y_exCt_valid 1 (by decide) (by decide)
  have hb := c06y_exCt_valid 2 (by decide) (by decide)
  have hbal : balanceCorrectionFactors (c06y_exCt 1).cf (c06y_exCt 2).cf c02v_exLevel4.t = .ok (2, 2, 1) := by decide
  obtain ⟨r, hr, cr, sr, _, fr⟩ := c06y_balanced_core c02v_exLevel4_qsWF c02v_exT4_wf (c06y_valid_parts ha).canon
    (c06y_valid_parts hb).canon sub rfl (by decide) (by decide) (by decide) hbal
  refine ⟨_, _, r, ha, hb, hr, c06y_valid_mk (Or.inr ?_) cr (rfl : true = true) ?_, ?_⟩
  · rw [sr]; decide
  · rw [fr]; exact ⟨by decide, by decide⟩
  · rw [fr]; decide

/-! ### modulus switching: the result is valid at the NEXT level -/

/-- `mod_switch_drop_to_next` (CKKS `mod_switch_to_next`, also the plain drop): total on valid ciphertexts at a level with ≥ 2
    moduli (CKKS: NTT form), the result is valid at the next level -/
theorem modSwitchDropNext_valid {l l' : Level} (hn : c06y_NextLevel l l') (h2 : 2 ≤ l.size) {ct : Ct} {s1 s2 : Bool}
    (hv : ctValid l ct s1 s2 = true) (hs : l.scheme = .ckks → ct.ntt = true) :
    ∃ r, modSwitchDropNext l ct = .ok r ∧ ctValid l' r s1 s2 = true ∧ r.polys.size = ct.polys.size ∧ r.ntt = ct.ntt ∧
      r.cf = ct.cf := by
  have v := c06y_valid_parts hv
  obtain ⟨r, hr, sr, nr, fr, _, cr⟩ := modSwitchDropNext_spec h2 hs v.canon
  exact ⟨r, hr, v.keep_next hn (cr l' hn.toc05u_IsNext) sr fr, sr, nr, fr⟩

theorem modSwitchDropNext_preserves_valid {l l' : Level} (hn : c06y_NextLevel l l') {ct r : Ct} {s1 s2 : Bool}
    (hv : ctValid l ct s1 s2 = true) (hr : modSwitchDropNext l ct = .ok r) : ctValid l' r s1 s2 = true := by
  have h2 : 2 ≤ l.size := c06y_guard_of_ok hr fun h => (modSwitchDropNext_refusals ct).1 (by omega)
  have hs : l.scheme = .ckks → ct.ntt = true := fun hs =>
    c06y_guard_of_ok hr fun h => (modSwitchDropNext_refusals ct).2 hs (by simpa using h)
  exact (c06y_of_ok hr (modSwitchDropNext_valid hn h2 hv hs)).1

/-- BFV `mod_switch_to_next`: total on valid coefficient-form ciphertexts, the result is valid at the next level -/
theorem modSwitchScaleNext_bfv_valid {l l' : Level} (h : c05u_ToolOK l) (hn : c06y_NextLevel l l') (h2 : 2 ≤ l.size)
    (hs : l.scheme = .bfv) {ct : Ct} {s1 s2 : Bool} (hv : ctValid l ct s1 s2 = true) (hntt : ct.ntt = false) :
    ∃ r, modSwitchScaleNext l ct = .ok r ∧ ctValid l' r s1 s2 = true ∧ r.polys.size = ct.polys.size ∧ r.ntt = false ∧
      r.cf = ct.cf := by
  have v := c06y_valid_parts hv
  obtain ⟨r, hr, sr, nr, fr, dr⟩ := modSwitchScaleNext_bfv_spec h h2 hs hntt v.canon
  refine ⟨r, hr, v.keep_next hn (fun k hk => ?_) sr fr, sr, nr, fr⟩
  rw [sr] at hk
  exact (modSwitchScaleNext_next_canon h hn.toc05u_IsNext).1 (v.canon k hk) (dr k hk)

/-- CKKS `rescale_to_next`: total on valid NTT-form ciphertexts, the result is valid at the next level (for the flags of the
    new scale use `ctValid_flags`) -/
theorem modSwitchScaleNext_ckks_valid {l l' : Level} (hl : l.WF) (h : c05u_ToolOK l) (hn : c06y_NextLevel l l')
    (h2 : 2 ≤ l.size) (hs : l.scheme = .ckks) {ct : Ct} {s1 s2 : Bool} (hv : ctValid l ct s1 s2 = true)
    (hntt : ct.ntt = true) :
    ∃ r, modSwitchScaleNext l ct = .ok r ∧ ctValid l' r s1 s2 = true ∧ r.polys.size = ct.polys.size ∧ r.ntt = true ∧
      r.cf = ct.cf := by
  have v := c06y_valid_parts hv
  obtain ⟨r, hr, sr, nr, fr, dr⟩ := modSwitchScaleNext_ckks_spec hl h h2 hs hntt v.canon
  refine ⟨r, hr, v.keep_next hn (fun k hk => ?_) sr fr, sr, nr, fr⟩
  rw [sr] at hk
  exact (modSwitchScaleNext_next_canon (p := ct.polys.getD k #[]) h hn.toc05u_IsNext).2.1 (dr k hk)

/-- BGV `mod_switch_to_next`, strong closure: total on valid NTT-form ciphertexts; the polynomials are canonical at the next level,
    the new correction factor is `cf·q_L^{-1} mod t`, and the result is VALID at the next level — for every valid operand, whatever t is
    (q_L^{-1} is a unit modulo t, so a factor in [1, t − 1] cannot be mapped to 0) -/
theorem modSwitchScaleNext_bgv_valid_closed {l l' : Level} (hl : l.WF) (h : c05u_ToolOK l) (hg : c05u_BgvOK l)
    (hn : c06y_NextLevel l l') (h2 : 2 ≤ l.size) (hs : l.scheme = .bgv) {ct : Ct} {s1 s2 : Bool}
    (hv : ctValid l ct s1 s2 = true) (hntt : ct.ntt = true) :
    ∃ r, modSwitchScaleNext l ct = .ok r ∧ ctValid l' r s1 s2 = true ∧ r.polys.size = ct.polys.size ∧ r.ntt = true ∧
      r.cf = (ct.cf * l.tool.invQLastModT) % l.t.value ∧ c05u_CtCanon l' r := by
  have v := c06y_valid_parts hv
  have fc := (c06y_cfOk_bgv hs _).mp v.cf
  have htlt := hg.twf.lt
  have ht2 := hg.twf.two_le
  have hs' : l'.scheme = .bgv := by rw [hn.scheme, hs]
  obtain ⟨r, hr, sr, nr, fr, dr⟩ := modSwitchScaleNext_bgv_spec hl h hg h2 hs hntt (by omega) v.canon
  have cr : c05u_CtCanon l' r := fun k hk => by
    rw [sr] at hk
    exact (modSwitchScaleNext_next_canon (p := ct.polys.getD k #[]) h hn.toc05u_IsNext).2.2 (dr k hk)
  have key := c06y_bgv_cf_next hg.invt fc.1 fc.2
  refine ⟨r, hr, ?_, sr, nr, fr, cr⟩
  refine c06y_valid_mk (by rw [sr]; exact v.size) cr (c06y_next_scale hn v.scale) ((c06y_cfOk_bgv hs' _).mpr ?_)
  rw [fr, hn.t]
  exact ⟨key, Nat.mod_lt _ (by omega)⟩

/-- BGV `mod_switch_to_next`: total on valid NTT-form ciphertexts; the polynomials are canonical at the next level, the new
    correction factor is `cf·q_L^{-1} mod t`, and the result is valid IF AND ONLY IF `cf ≠ t`.  (`ctValid` rejects `cf = t`, so both sides hold for
    every valid operand: `modSwitchScaleNext_bgv_valid_closed`.) -/
theorem modSwitchScaleNext_bgv_valid_iff {l l' : Level} (hl : l.WF) (h : c05u_ToolOK l) (hg : c05u_BgvOK l)
    (hn : c06y_NextLevel l l') (h2 : 2 ≤ l.size) (hs : l.scheme = .bgv) {ct : Ct} {s1 s2 : Bool}
    (hv : ctValid l ct s1 s2 = true) (hntt : ct.ntt = true) :
    ∃ r, modSwitchScaleNext l ct = .ok r ∧ r.polys.size = ct.polys.size ∧ r.ntt = true ∧
      r.cf = (ct.cf * l.tool.invQLastModT) % l.t.value ∧ c05u_CtCanon l' r ∧
      (ctValid l' r s1 s2 = true ↔ ct.cf ≠ l.t.value) := by
  obtain ⟨r, hr, hv', sr, nr, fr, cr⟩ := modSwitchScaleNext_bgv_valid_closed hl h hg hn h2 hs hv hntt
  have fc := (c06y_cfOk_bgv hs _).mp (c06y_valid_parts hv).cf
  exact ⟨r, hr, sr, nr, fr, cr, fun _ => Nat.ne_of_lt fc.2, fun _ => hv'⟩

/-- the same with a unit hypothesis on the correction factor, which the proof does not use: `modSwitchScaleNext_bgv_valid_closed` is the statement -/
theorem modSwitchScaleNext_bgv_valid {l l' : Level} (hl : l.WF) (h : c05u_ToolOK l) (hg : c05u_BgvOK l)
    (hn : c06y_NextLevel l l') (h2 : 2 ≤ l.size) (hs : l.scheme = .bgv) {ct : Ct} {s1 s2 : Bool}
    (hv : ctValid l ct s1 s2 = true) (hntt : ct.ntt = true) (_hu : Nat.Coprime ct.cf l.t.value) :
    ∃ r, modSwitchScaleNext l ct = .ok r ∧ ctValid l' r s1 s2 = true ∧ r.polys.size = ct.polys.size ∧ r.ntt = true ∧
      r.cf = (ct.cf * l.tool.invQLastModT) % l.t.value := by
  obtain ⟨r, hr, hv', sr, nr, fr, _⟩ := modSwitchScaleNext_bgv_valid_closed hl h hg hn h2 hs hv hntt
  exact ⟨r, hr, hv', sr, nr, fr⟩

/-- BGV `mod_switch_to_next`, PRIME plain modulus: valid operand ⇒ valid result at the next level, and the new correction factor
    is again a unit (no unit hypothesis on the operand) -/
theorem modSwitchScaleNext_bgv_valid_prime {l l' : Level} (hl : l.WF) (h : c05u_ToolOK l) (hg : c05u_BgvOK l)
    (hn : c06y_NextLevel l l') (h2 : 2 ≤ l.size) (hs : l.scheme = .bgv) (hp : Nat.Prime l.t.value) {ct : Ct} {s1 s2 : Bool}
    (hv : ctValid l ct s1 s2 = true) (hntt : ct.ntt = true) :
    ∃ r, modSwitchScaleNext l ct = .ok r ∧ ctValid l' r s1 s2 = true ∧ r.polys.size = ct.polys.size ∧ r.ntt = true ∧
      r.cf = (ct.cf * l.tool.invQLastModT) % l.t.value ∧ Nat.Coprime r.cf l'.t.value := by
  obtain ⟨r, hr, hv', sr, nr, fr, _⟩ := modSwitchScaleNext_bgv_valid_closed hl h hg hn h2 hs hv hntt
  have hs' : l'.scheme = .bgv := by rw [hn.scheme, hs]
  have fc := (c06y_cfOk_bgv hs' _).mp (c06y_valid_parts hv').cf
  exact ⟨r, hr, hv', sr, nr, fr, c06y_coprime_of_prime (by rw [hn.t]; exact hp) fc.1 fc.2⟩

/-- `.ok` form for all three schemes: whenever the scheme-specific switch of a valid ciphertext succeeds (and, for BGV, the
    correction factor is not t), the result is valid at the next level.  `Level.WF` is needed for the NTT-form schemes only.  The side condition on
    the BGV factor follows from validity: `modSwitchScaleNext_preserves_valid_closed` is the statement without it. -/
theorem modSwitchScaleNext_preserves_valid {l l' : Level} (hl : l.scheme ≠ .bfv → l.WF) (h : c05u_ToolOK l)
    (hg : l.scheme = .bgv → c05u_BgvOK l) (hn : c06y_NextLevel l l') {ct r : Ct} {s1 s2 : Bool}
    (hv : ctValid l ct s1 s2 = true) (hcf : l.scheme = .bgv → ct.cf ≠ l.t.value)
    (hr : modSwitchScaleNext l ct = .ok r) : ctValid l' r s1 s2 = true := by
  have h2 : 2 ≤ l.size := c06y_guard_of_ok hr fun h' => (modSwitchScaleNext_refusals ct).1 (by omega)
  cases hs : l.scheme
  · have hntt : ct.ntt = false :=
      c06y_guard_of_ok hr fun h' => (modSwitchScaleNext_refusals ct).2.1 hs (by simpa using h')
    exact (c06y_of_ok hr (modSwitchScaleNext_bfv_valid h hn h2 hs hv hntt)).1
  · have hntt : ct.ntt = true :=
      c06y_guard_of_ok hr fun h' => (modSwitchScaleNext_refusals ct).2.2.1 hs (by simpa using h')
    exact (c06y_of_ok hr (modSwitchScaleNext_ckks_valid (hl (by rw [hs]; decide)) h hn h2 hs hv hntt)).1
  · have hntt : ct.ntt = true :=
      c06y_guard_of_ok hr fun h' => (modSwitchScaleNext_refusals ct).2.2.2 hs (by simpa using h')
    exact (c06y_of_ok hr (modSwitchScaleNext_bgv_valid_iff (hl (by rw [hs]; decide)) h (hg hs) hn h2 hs hv hntt)).2.2.2.2.mpr (hcf hs)

/-- `.ok` form for all three schemes, strong closure: whenever the scheme-specific switch of a valid ciphertext succeeds, the result is
    valid at the next level (no side condition on the BGV correction factor: `ctValid` rejects `cf = t`) -/
theorem modSwitchScaleNext_preserves_valid_closed {l l' : Level} (hl : l.scheme ≠ .bfv → l.WF) (h : c05u_ToolOK l)
    (hg : l.scheme = .bgv → c05u_BgvOK l) (hn : c06y_NextLevel l l') {ct r : Ct} {s1 s2 : Bool}
    (hv : ctValid l ct s1 s2 = true) (hr : modSwitchScaleNext l ct = .ok r) : ctValid l' r s1 s2 = true :=
  modSwitchScaleNext_preserves_valid hl h hg hn hv
    (fun hs => Nat.ne_of_lt ((c06y_cfOk_bgv hs _).mp (c06y_valid_parts hv).cf).2) hr

/-! ### refusals — metadata the operations inspect -/

/-- summary of the representation / scheme / level / size refusals of the modelled operations (a ciphertext of the model has
    no level tag: "operands at different levels" is not representable in the single-level signatures `op (l : Level) a b`;
    representation and scheme mismatches are, and they are refused) -/
theorem evaluator_refusals (l : Level) (a b : Ct) (sub : Bool) (p : RnsPoly) :
    (a.ntt ≠ b.ntt → ctTranslate l a b sub = .error .refused) ∧
    (a.ntt ≠ b.ntt → ∃ e, ctTranslateBalanced l a b sub = .error e) ∧
    (a.ntt = false ∨ b.ntt = false → ctMultiplyDyadic l a b = .error .refused) ∧
    (a.ntt = false ∨ b.ntt = false → bgvMultiply l a b = .error .refused) ∧
    (a.ntt = true → b.ntt = true → a.polys.size = 0 ∨ b.polys.size = 0 → ctMultiplyDyadic l a b = .error .refused) ∧
    (a.ntt = false → ctMultiplyPlainNtt l a p = .error .refused) ∧
    (∀ bsk, a.ntt = true ∨ b.ntt = true → bfvMultiply l bsk a b = .error .refused) ∧
    (l.size < 2 → modSwitchScaleNext l a = .error .refused) ∧
    (l.scheme = .bfv → a.ntt = true → modSwitchScaleNext l a = .error .refused) ∧
    (l.scheme = .ckks → a.ntt = false → modSwitchScaleNext l a = .error .refused) ∧
    (l.scheme = .bgv → a.ntt = false → modSwitchScaleNext l a = .error .refused) ∧
    (l.size < 2 → modSwitchDropNext l a = .error .refused) ∧
    (l.scheme = .ckks → a.ntt = false → modSwitchDropNext l a = .error .refused) :=
  ⟨ctTranslate_refuse_ntt l a b sub, ctTranslateBalanced_refuse_ntt l a b sub, ctMultiplyDyadic_refuse l a b,
    bgvMultiply_refuse l a b, ctMultiplyDyadic_refuse_empty l a b, ctMultiplyPlainNtt_refuse l a p,
    fun bsk => bfvMultiply_refuse_ntt l bsk a b,
    (modSwitchScaleNext_refusals a).1, (modSwitchScaleNext_refusals a).2.1, (modSwitchScaleNext_refusals a).2.2.1,
    (modSwitchScaleNext_refusals a).2.2.2, (modSwitchDropNext_refusals a).1, (modSwitchDropNext_refusals a).2⟩

/-- what the model does NOT do: the operations of the model are the bodies AFTER `check_ciphertext`; they do not re-run the
    validator.  E.g. `ctNegate` of a (canonical) ciphertext with the invalid correction factor 0 succeeds and returns an invalid
    ciphertext — the refusal of invalid operands is `ctValid` itself (`Evaluator::check_ciphertext` panics iff it is false). -/
theorem ctNegate_does_not_validate {l : Level} (hq : c02v_QsWF l) (hs : l.scheme = .bgv) {a : Ct} {s1 s2 : Bool}
    (ha : ctValid l a s1 s2 = true) :
    ctValid l { a with cf := 0 } s1 s2 = false ∧
      ∃ r, ctNegate l { a with cf := 0 } = .ok r ∧ ctValid l r s1 s2 = false := by
  have hbad : ∀ c : Ct, c.cf = 0 → ctValid l c s1 s2 = false := by
    intro c hc
    cases h : ctValid l c s1 s2
    · rfl
    · exact absurd hc ((c06y_cfOk_bgv hs _).mp (c06y_valid_parts h).cf).1
  obtain ⟨r, hr, _, _, _, fr, _⟩ := c02v_ctNegate_core (a := { a with cf := 0 }) hq (c06y_valid_parts ha).canon
  exact ⟨hbad _ rfl, r, hr, hbad r fr⟩

/-! ### key switching -/

/-- `switch_key_inplace`: for inputs satisfying the bundle `c04t_KSInput` of C04T (for BGV also `c04t_BgvData`), a valid ciphertext
    in the representation its scheme prescribes is switched to a VALID ciphertext of the same level (same size, representation,
    correction factor).  The ciphertext level is the first `l.size` moduli of the key level (`c06y_KeyLevelOf`). -/
theorem switchKey_valid {kl : KeyLevel} {l : Level} (hk : c06y_KeyLevelOf kl l) {ct : Ct} {target : RnsPoly} {key : KSKey}
    {s1 s2 : Bool} (hv : ctValid l ct s1 s2 = true) (h : c04t_KSInput kl l.size ct target key)
    (hb : l.scheme = .bgv → c04t_BgvData kl) (hrep : ct.ntt = true ↔ l.scheme ≠ .bfv) :
    ∃ r, switchKey kl l.scheme l.size ct target key = .ok r ∧ ctValid l r s1 s2 = true ∧ r.polys.size = ct.polys.size ∧
      r.ntt = ct.ntt ∧ r.cf = ct.cf := by
  have v := c06y_valid_parts hv
  have hpos : ∀ j, j < l.size → 0 < (kl.m j).value := fun j hj => by
    have := (c04t_kl_comp h.hkl (show j < kl.ms.size by have := h.hd; omega)).2.2.2.two_le
    omega
  -- the mod-down rule of the scheme (BFV: coefficient form, CKKS and BGV: NTT form)
  have hρ : ∃ ρ, c04t_Rule kl l.scheme ct.ntt ρ := by
    cases hs : l.scheme
    · have hn : ct.ntt = false := by
        cases hc : ct.ntt
        · rfl
        · exact absurd hs (hrep.mp hc)
      exact ⟨_, Or.inl ⟨Or.inl ⟨rfl, hn⟩, rfl⟩⟩
    · exact ⟨_, Or.inl ⟨Or.inr ⟨rfl, hrep.mpr (by rw [hs]; decide)⟩, rfl⟩⟩
    · exact ⟨_, Or.inr ⟨rfl, hrep.mpr (by rw [hs]; decide), hb hs, rfl⟩⟩
  obtain ⟨ρ, hρ⟩ := hρ
  obtain ⟨r, hr, f⟩ := c04t_moddown_z h hρ
  exact ⟨r, hr, v.keep (c06y_ks_frame hk hpos v.canon f) f.2.2.1 f.2.1, f.2.2.1, f.1, f.2.1⟩

theorem switchKey_preserves_valid {kl : KeyLevel} {l : Level} (hk : c06y_KeyLevelOf kl l) {ct r : Ct} {target : RnsPoly}
    {key : KSKey} {s1 s2 : Bool} (hv : ctValid l ct s1 s2 = true) (h : c04t_KSInput kl l.size ct target key)
    (hb : l.scheme = .bgv → c04t_BgvData kl) (hr : switchKey kl l.scheme l.size ct target key = .ok r) :
    ctValid l r s1 s2 = true := by
  have hrep : ct.ntt = true ↔ l.scheme ≠ .bfv := by
    constructor
    · intro hn hs
      rw [hs, switchKey_refuses_bfv_ntt kl l.size ct target key hn] at hr; cases hr
    · exact fun hs => c06y_guard_of_ok hr fun hn =>
        switchKey_refuses_coeff_form kl l.scheme hs l.size ct target key (by simpa using hn)
  exact (c06y_of_ok hr (switchKey_valid hk hv h hb hrep)).1

/-- `relinearize` (any size 2..16, enough fuel): with a good key (`c06y_KeyOK`) for every power s^m, 2 ≤ m < size, a valid
    ciphertext (in the prescribed representation if there is anything to switch) is relinearized to a VALID size-2 ciphertext -/
theorem relinearize_valid {kl : KeyLevel} {l : Level} (hk : c06y_KeyLevelOf kl l) (ho : c06y_KLOK kl l.size)
    (hb : l.scheme = .bgv → c04t_BgvData kl) (keys : Nat → Option KSKey) {s1 s2 : Bool} :
    ∀ (fuel : Nat) (ct : Ct), ctValid l ct s1 s2 = true → 2 ≤ ct.polys.size → ct.polys.size ≤ fuel + 1 →
      (2 < ct.polys.size → (ct.ntt = true ↔ l.scheme ≠ .bfv)) →
      (∀ m, 2 ≤ m → m < ct.polys.size → ∃ key, keys m = some key ∧ c06y_KeyOK kl l.size key) →
      ∃ r, relinearize kl l.scheme l.size keys fuel ct = .ok r ∧ ctValid l r s1 s2 = true ∧ r.polys.size = 2 ∧
        r.ntt = ct.ntt ∧ r.cf = ct.cf := by
  intro fuel
  induction fuel with
  | zero => intro ct _ h2 hf; omega
  | succ fuel ih =>
    intro ct hv h2 hf hrep hkeys
    by_cases hsz : ct.polys.size = 2
    · exact ⟨ct, relinearize_size2 kl l.scheme l.size keys fuel ct hsz, hv, hsz, rfl, rfl⟩
    · have h3 : 2 < ct.polys.size := by omega
      have v := c06y_valid_parts hv
      obtain ⟨key, hkm, hkok⟩ := hkeys (ct.polys.size - 1) (by omega) (by omega)
      have hin := c06y_ksinput hk ho hkok v.canon h2 (v.canon (ct.polys.size - 1) (by omega))
      obtain ⟨ct', hs, hv', sr, nr, fr⟩ := switchKey_valid hk hv hin hb (hrep h3)
      have v' := c06y_valid_parts hv'
      rw [c04t_relin_step kl l.scheme l.size keys fuel ct h3 hkm hs]
      have hsz' : ({ ct' with polys := ct'.polys.extract 0 (ct.polys.size - 1) } : Ct).polys.size = ct.polys.size - 1 := by
        simp only [Array.size_extract, sr]; omega
      have hvv : ctValid l { ct' with polys := ct'.polys.extract 0 (ct.polys.size - 1) } s1 s2 = true := by
        refine c06y_valid_mk (by rw [hsz']; have := v.size; omega) (fun k hk' => ?_) v'.scale v'.cf
        rw [hsz'] at hk'
        show RnsCanon l ((ct'.polys.extract 0 (ct.polys.size - 1)).getD k #[])
        rw [array_getD_extract _ _ (by rw [sr]; omega) hk']
        exact v'.canon k (by rw [sr]; omega)
      obtain ⟨r, hr, hvr, szr, nrr, frr⟩ := ih _ hvv (by rw [hsz']; omega) (by rw [hsz']; omega)
        (fun _ => by show ct'.ntt = true ↔ _; rw [nr]; exact hrep h3)
        (fun m hm1 hm2 => hkeys m hm1 (by rw [hsz'] at hm2; omega))
      exact ⟨r, hr, hvr, szr, by rw [nrr]; exact nr, by rw [frr]; exact fr⟩

/-- `apply_galois_inplace` (size 2, odd element ≤ 2N): the Galois images of the two polynomials are canonical, and the key switch of
    (σ(c0), 0) with target σ(c1) returns a VALID ciphertext -/
theorem applyGalois_valid {kl : KeyLevel} {l : Level} (hl : l.WF) (hk : c06y_KeyLevelOf kl l) (ho : c06y_KLOK kl l.size)
    (hb : l.scheme = .bgv → c04t_BgvData kl) {key : KSKey} (hkey : c06y_KeyOK kl l.size key) {ct : Ct} {s1 s2 : Bool}
    (hv : ctValid l ct s1 s2 = true) (hsz : ct.polys.size = 2) (hrep : ct.ntt = true ↔ l.scheme ≠ .bfv) {g : Nat}
    (hg : g % 2 = 1) (hg2 : g ≤ 2 * l.n) :
    ∃ r, applyGalois kl l l.scheme ct g key = .ok r ∧ ctValid l r s1 s2 = true ∧ r.polys.size = 2 ∧ r.ntt = ct.ntt ∧
      r.cf = ct.cf := by
  have v := c06y_valid_parts hv
  have hq : ∀ i, i < l.size → (l.q i).WF := fun i hi => (c01o_level_comp hl hi).2.2.2
  have cc := fun k (hk' : k < 2) => c04t_galRns_canon hq hl.npow.symm ct.ntt hg (v.canon k (by omega)).2
  have hcc : c05u_CtCanon l { ct with polys := #[c04k_galRns l ct.ntt g (ct.polys.getD 0 #[]), rnsZero l] } := by
    intro k hk'
    have hk2 : k < 2 := hk'
    interval_cases k
    · exact cc 0 (by omega)
    · exact c07s_rnsZero_canon hl
  have hv' : ctValid l { ct with polys := #[c04k_galRns l ct.ntt g (ct.polys.getD 0 #[]), rnsZero l] } s1 s2 = true :=
    c06y_valid_mk (Or.inr ⟨Nat.le_refl 2, (by decide : 2 ≤ 16)⟩) hcc v.scale v.cf
  rw [c04t_applyGalois_eq kl l.scheme key hq hl.npow.symm hsz hg hg2 (v.canon 0 (by omega)).2 (v.canon 1 (by omega)).2]
  exact switchKey_valid hk hv' (c06y_ksinput hk ho hkey hcc (Nat.le_refl 2) (cc 1 (by omega))) hb hrep

/-! ### `bfv_multiply`: metadata and size from `.ok` alone (the data part is `bfvMultiply_valid` below, through C02W) -/

/-- for `bfv_multiply`: whenever the model succeeds, both operands are non-empty and in coefficient form, the result has
    `n1 + n2 − 1` polynomials, coefficient form and the correction factor of the first operand -/
theorem bfvMultiply_shape_of_ok {l : Level} {bsk : Array NTTTables} {a b r : Ct} (hr : bfvMultiply l bsk a b = .ok r) :
    r.polys.size = a.polys.size + b.polys.size - 1 ∧ 1 ≤ a.polys.size ∧ 1 ≤ b.polys.size ∧ a.ntt = false ∧ b.ntt = false ∧
      r.ntt = false ∧ r.cf = a.cf := by
  have hn : a.ntt = false ∧ b.ntt = false := c06y_guard_of_ok hr fun h =>
    bfvMultiply_refuse_ntt l bsk a b (by cases ha : a.ntt <;> cases hb : b.ntt <;> simp_all)
  have hszok := bfvMultiply_ok_size hr
  rw [c02w_bfvMultiply_eq, if_neg (by simp [hn.1, hn.2]), if_neg (by simp [hszok])] at hr
  obtain ⟨pa, _, hr⟩ := R.bind_eq_ok.mp hr
  obtain ⟨pb, _, hr⟩ := R.bind_eq_ok.mp hr
  by_cases hsz : a.polys.size < 1 ∨ b.polys.size < 1
  · rw [if_pos hsz] at hr; cases hr
  rw [if_neg hsz] at hr
  obtain ⟨dq, _, hr⟩ := R.bind_eq_ok.mp hr
  obtain ⟨db, _, hr⟩ := R.bind_eq_ok.mp hr
  obtain ⟨outs, houts, hr⟩ := R.bind_eq_ok.mp hr
  cases hr
  have hlen : outs.toArray.size = a.polys.size + b.polys.size - 1 := by
    rw [List.size_toArray, R.mapM_length houts, List.length_range]
  exact ⟨hlen, by omega, by omega, hn.1, hn.2, hn.1, rfl⟩

/-- for `bfv_multiply` at ANY level (no `MulOK`): the result of a successful product of a valid first operand is valid iff its
    polynomials are canonical (the size fits because the model refuses otherwise; scale and correction factor are handled here;
    canonicity of the output of `fastbconvSk` at a `MulOK` level is `bfvMultiply_valid`) -/
theorem bfvMultiply_valid_iff_canon {l : Level} {bsk : Array NTTTables} {a b r : Ct} {s1 s2 : Bool}
    (ha : ctValid l a s1 s2 = true) (hr : bfvMultiply l bsk a b = .ok r) :
    ctValid l r s1 s2 = true ↔ c05u_CtCanon l r := by
  obtain ⟨sr, h1, h2, _, _, _, fr⟩ := bfvMultiply_shape_of_ok hr
  have hszok := (ctResizeRefuses_eq_false_iff _).mp (bfvMultiply_ok_size hr)
  have v := c06y_valid_parts ha
  constructor
  · intro hv
    exact (c06y_valid_parts hv).canon
  · intro hc
    exact c06y_valid_mk (by have := v.size; omega) hc v.scale (by rw [fr]; exact v.cf)

/-! ### "accepted by any later operation": a composed pipeline -/

/-- the product of two valid size-2 NTT-form ciphertexts (CKKS, or the dyadic step of BGV) is valid of size 3, is ACCEPTED by
    `relinearize` with a good key for s², whose result is valid of size 2 and is in turn ACCEPTED by `modSwitchDropNext`, giving a
    valid ciphertext at the next level — every intermediate object satisfies the hypotheses of the next operation -/
theorem multiply_relinearize_drop_valid {kl : KeyLevel} {l l' : Level} (hq : c02v_QsWF l) (hk : c06y_KeyLevelOf kl l)
    (ho : c06y_KLOK kl l.size) (hb : l.scheme = .bgv → c04t_BgvData kl) (hn : c06y_NextLevel l l') (h2 : 2 ≤ l.size)
    (hs : l.scheme ≠ .bfv) {keys : Nat → Option KSKey} {key : KSKey} (hkey : keys 2 = some key)
    (hkok : c06y_KeyOK kl l.size key) {a b : Ct} {s1 s2 s1' s2' : Bool} (ha : ctValid l a s1 s2 = true)
    (hb' : ctValid l b s1' s2' = true) (hna : a.ntt = true) (hnb : b.ntt = true) (sa : a.polys.size = 2)
    (sb : b.polys.size = 2) :
    ∃ c r d, ctMultiplyDyadic l a b = .ok c ∧ ctValid l c s1 s2 = true ∧ c.polys.size = 3 ∧
      relinearize kl l.scheme l.size keys 2 c = .ok r ∧ ctValid l r s1 s2 = true ∧ r.polys.size = 2 ∧
      modSwitchDropNext l r = .ok d ∧ ctValid l' d s1 s2 = true ∧ d.polys.size = 2 ∧ d.cf = a.cf := by
  obtain ⟨c, hc, sc, nc, fc, _, vc⟩ := ctMultiplyDyadic_valid hq ha hb' hna hnb (by omega) (by omega) (by rw [sa, sb]; decide)
  rw [sa, sb] at sc
  obtain ⟨r, hr, vr, sr, nr, fr⟩ := relinearize_valid hk ho hb keys 2 c vc (by omega) (by omega)
    (fun _ => ⟨fun _ => hs, fun _ => nc⟩)
    (fun m h1 h2' => by
      have : m = 2 := by omega
      subst this
      exact ⟨key, hkey, hkok⟩)
  obtain ⟨d, hd, vd, sd, _, fd⟩ := modSwitchDropNext_valid hn h2 vr (fun _ => by rw [nr, nc])
  exact ⟨c, r, d, hc, vc, sc, hr, vr, sr, hd, vd, by rw [sd, sr], by rw [fd, fr, fc]⟩

/-! ### `bgv_multiply` and `bfv_multiply`: valid operands give a valid result or a refusal -/

/-- for `bgv_multiply` with a PRIME plain modulus, the complete case analysis on VALID operands: a VALID result or the
    error `refused`; refused exactly when an operand is not in NTT form, an operand is empty, or the product would have more than 16
    polynomials (so, for non-empty NTT-form valid operands: refused IFF `n1 + n2 − 1 > 16`).  For composite t validity of the result
    additionally needs unit correction factors (`bgvMultiply_valid_needs_unit`). -/
theorem bgvMultiply_valid_or_refused {l : Level} (hq : c02v_QsWF l) (ht : l.t.WF) (hp : Nat.Prime l.t.value) (hs : l.scheme = .bgv)
    {a b : Ct} {s1 s2 s1' s2' : Bool} (ha : ctValid l a s1 s2 = true) (hb : ctValid l b s1' s2' = true) :
    ((∃ r, bgvMultiply l a b = .ok r ∧ ctValid l r s1 s2 = true ∧ r.polys.size = a.polys.size + b.polys.size - 1) ∨
      bgvMultiply l a b = .error .refused) ∧
    (bgvMultiply l a b = .error .refused ↔
      (a.ntt = false ∨ b.ntt = false ∨ a.polys.size = 0 ∨ b.polys.size = 0 ∨ 16 < a.polys.size + b.polys.size - 1)) := by
  refine c06y_ok_or_refused (fun h => ?_) fun h => ?_
  · unfold bgvMultiply
    rw [c06y_dyadic_refused l a b h]; rfl
  · simp only [not_or, Bool.not_eq_false] at h
    obtain ⟨r, hr, hv, sr, _⟩ := bgvMultiply_valid_prime hq ht hp hs ha hb h.1 h.2.1 h.2.2.1 h.2.2.2.1 (by omega)
    exact ⟨r, hr, hv, sr⟩

/-- for `bfv_multiply` (BEHZ), with the data part (C02W): on valid non-empty coefficient-form operands at a level satisfying
    `MulOK` (derived from the constructors: `c02w_mulOK_of_new`) whose product fits, the model succeeds and the result is VALID -/
theorem bfvMultiply_valid {l : Level} {T : Array NTTTables} (hm : MulOK l T) {a b : Ct} {s1 s2 s1' s2' : Bool}
    (ha : ctValid l a s1 s2 = true) (hb : ctValid l b s1' s2' = true) (hna : a.ntt = false) (hnb : b.ntt = false)
    (h0a : a.polys.size ≠ 0) (h0b : b.polys.size ≠ 0) (h16 : a.polys.size + b.polys.size - 1 ≤ 16) :
    ∃ r, bfvMultiply l T a b = .ok r ∧ ctValid l r s1 s2 = true ∧ r.polys.size = a.polys.size + b.polys.size - 1 ∧
      r.ntt = false := by
  have va := c06y_valid_parts ha
  have vb := c06y_valid_parts hb
  obtain ⟨r, hr, cr, sr, nr⟩ := bfvMultiply_canon hm (c06y_canon_of_valid va h0a) (c06y_canon_of_valid vb h0b) hna hnb h16
  exact ⟨r, hr, ctValid_of_CtCanon cr va.scale, sr, nr⟩

/-- for `bfv_multiply`, the complete case analysis on VALID operands at a `MulOK` level: a VALID result or the error
    `refused` (never another error: no overflow / out-of-range branch of the BEHZ pipeline is reachable); refused exactly when an
    operand is in NTT form, an operand is empty, or the product would have more than 16 polynomials -/
theorem bfvMultiply_valid_or_refused {l : Level} {T : Array NTTTables} (hm : MulOK l T) {a b : Ct} {s1 s2 s1' s2' : Bool}
    (ha : ctValid l a s1 s2 = true) (hb : ctValid l b s1' s2' = true) :
    ((∃ r, bfvMultiply l T a b = .ok r ∧ ctValid l r s1 s2 = true ∧ r.polys.size = a.polys.size + b.polys.size - 1) ∨
      bfvMultiply l T a b = .error .refused) ∧
    (bfvMultiply l T a b = .error .refused ↔
      (a.ntt = true ∨ b.ntt = true ∨ a.polys.size = 0 ∨ b.polys.size = 0 ∨ 16 < a.polys.size + b.polys.size - 1)) := by
  have va := c06y_valid_parts ha
  have vb := c06y_valid_parts hb
  refine c06y_ok_or_refused (fun h => ?_) fun h => ?_
  · by_cases hn : a.ntt = true ∨ b.ntt = true
    · exact bfvMultiply_refuse_ntt l T a b hn
    · rw [not_or, Bool.not_eq_true, Bool.not_eq_true] at hn
      rcases h with h | h | h | h | h
      · rw [hn.1] at h; cases h
      · rw [hn.2] at h; cases h
      · exact bfvMultiply_refuse_empty hm va.canon vb.canon hn.1 hn.2 (by omega)
      · exact bfvMultiply_refuse_empty hm va.canon vb.canon hn.1 hn.2 (by omega)
      · exact bfvMultiply_refuse_size l T a b ((ctResizeRefuses_eq_true_iff _).mpr (Or.inr h))
  · simp only [not_or, Bool.not_eq_true] at h
    obtain ⟨r, hr, hv, sr, _⟩ := bfvMultiply_valid hm ha hb h.1 h.2.1 h.2.2.1 h.2.2.2.1 (by omega)
    exact ⟨r, hr, hv, sr⟩

end HC
