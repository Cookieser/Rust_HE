/- `mapM'` and `zipM'` of `Model/RNS.lean` are `List.mapM` followed by `toArray`; their values when every call succeeds.  No Mathlib (see `Proofs/Base.lean`). -/
import Heathcliff.Proofs.Base
import Heathcliff.Model.RNS

namespace HC

theorem mapM'_eq (a : Array Nat) (f : Nat → R Nat) : mapM' a f = (a.toList.mapM f >>= fun ys => .ok ys.toArray) := by
  unfold mapM'
  rw [← Array.foldlM_toList, R.foldlM_push]
  simp only [Array.empty_append]

theorem zipM'_eq (a b : Array Nat) (f : Nat → Nat → R Nat) :
    zipM' a b f = ((List.range a.size).mapM (fun i => f (a.getD i 0) (b.getD i 0)) >>= fun ys => .ok ys.toArray) := by
  unfold zipM'
  rw [R.foldlM_push]
  simp only [Array.empty_append]

theorem mapM'_size {a o : Array Nat} {f : Nat → R Nat} (h : mapM' a f = .ok o) : o.size = a.size := by
  rw [mapM'_eq] at h
  obtain ⟨ys, h1, h2⟩ := R.bind_eq_ok.mp h
  cases h2
  rw [List.size_toArray, R.mapM_length h1, Array.length_toList]

theorem zipM'_size {a b o : Array Nat} {f : Nat → Nat → R Nat} (h : zipM' a b f = .ok o) : o.size = a.size := by
  rw [zipM'_eq] at h
  obtain ⟨ys, h1, h2⟩ := R.bind_eq_ok.mp h
  cases h2
  rw [List.size_toArray, R.mapM_length h1, List.length_range]

theorem mapM'_ok {a : Array Nat} {f : Nat → R Nat} (g : Nat → Nat) (h : ∀ x ∈ a, f x = .ok (g x)) :
    mapM' a f = .ok (a.map g) := by
  unfold mapM'
  rw [← Array.foldlM_toList, R.foldlM_push_ok f g a.toList (fun x hx => h x (by simpa using hx))]
  simp [← Array.toList_map]

theorem zipM'_ok {a b : Array Nat} {f : Nat → Nat → R Nat} (g : Nat → Nat → Nat)
    (h : ∀ i, i < a.size → f (a.getD i 0) (b.getD i 0) = .ok (g (a.getD i 0) (b.getD i 0))) :
    zipM' a b f = .ok ((List.range a.size).map (fun i => g (a.getD i 0) (b.getD i 0))).toArray := by
  unfold zipM'
  rw [R.foldlM_push_ok (fun i => f (a.getD i 0) (b.getD i 0)) (fun i => g (a.getD i 0) (b.getD i 0))
    (List.range a.size) (fun i hi => h i (List.mem_range.mp hi))]
  simp

end HC
