/-
  The loops of the generated code.  A Rust loop is generated as its own recursive definition
  `loop : trip count → index → state → R result` (`| 0, i, s => k s | n+1, i, s => do …; loop n (i+1) s'`; a top-level loop has the
  rest of its function as `k`).  Every lemma here takes such a `loop` as a VARIABLE with its two unfolding equations as hypotheses, so a
  generated loop (and `GenK.forLoop`, `MP.loopFrom`, `GenApp.forUp`) is an instance with `fun _ _ => rfl` and `by rw [X_loop1]; simp only […]`.
  ENTRY POINTS: `inv`, `traj`, `fold` (any state, success path); `scatter_acc`, `scatter` (one cell per step, any positions); `write`,
  `write_inplace`, `write_all`, `write_map_ok` (contiguous positions).  The other lemmas are their steps or the facts about `scat`, `scat2`, `accM`.
  Loops that are compared with another recursion of the model, or that thread a value the shapes here do not carry, keep an induction of their
  own in their module.
  For any state there are the rules of the success path (`inv`, `traj`, `fold`).  For the loops that write one cell of a list per step
  there is ONE induction, `scatter_acc`, an EQUATION in `R` (success and failure at once); contiguous positions (`write` and its forms)
  are its case through `scat_contig`; a loop nest that writes a row per outer step is read with `scat2` (`scat2_frame`, `scat2_get`).
  The step equation is proved under `Untouched` / `Agree`: the buffer has its length and is the original wherever nothing was written
  yet — which is what the bounds of the checked index arithmetic and in-place reads need.
  No Mathlib.
-/
import Heathcliff.Proofs.Base

namespace HC.Loop
open HC

variable {σ ρ β τ γ : Type}

/-- invariant rule: if every step from a state satisfying `Inv` is the loop continued from a state satisfying `Inv`, so are `n` steps -/
theorem inv (loop : Nat → Nat → σ → R β) (Inv : Nat → σ → Prop) :
    ∀ n i s, Inv i s → (∀ m j s, i ≤ j → j < i + n → Inv j s → ∃ s', loop (m+1) j s = loop m (j+1) s' ∧ Inv (j+1) s') →
      ∃ s', loop n i s = loop 0 (i+n) s' ∧ Inv (i+n) s'
  | 0, _, s, h, _ => ⟨s, rfl, h⟩
  | n+1, i, s, h, hb => by
    obtain ⟨s1, e1, h1⟩ := hb n i s (Nat.le_refl _) (by omega) h
    obtain ⟨s', e', h'⟩ := inv loop Inv n (i+1) s1 h1 (fun m j s a b => hb m j s (by omega) (by omega))
    rw [Nat.add_right_comm, Nat.add_assoc] at e' h'
    exact ⟨s', e1.trans e', h'⟩

/-- trajectory rule: the loop runs through the states `S i, S (i+1), …` given in closed form -/
theorem traj (loop : Nat → Nat → σ → R β) (S : Nat → σ) (n i : Nat)
    (h : ∀ m j, i ≤ j → j < i + n → loop (m+1) j (S j) = loop m (j+1) (S (j+1))) : loop n i (S i) = loop 0 (i+n) (S (i+n)) := by
  obtain ⟨s', e, hs'⟩ := inv loop (fun j s => s = S j) n i (S i) rfl fun m j s a b hs => ⟨S (j+1), hs ▸ h m j a b, rfl⟩
  rw [e, hs']

/-- fold rule: every step performs the model step `g` on the model state `t` (seen through `e`, under an invariant): `n` steps are the fold of `g` -/
theorem fold (loop : Nat → Nat → σ → R β) (e : ρ → σ) (g : ρ → Nat → ρ) (Inv : Nat → ρ → Prop) :
    ∀ n i t, Inv i t →
      (∀ m j t, i ≤ j → j < i + n → Inv j t → loop (m+1) j (e t) = loop m (j+1) (e (g t j)) ∧ Inv (j+1) (g t j)) →
      loop n i (e t) = loop 0 (i+n) (e ((List.range' i n).foldl g t))
  | 0, _, _, _, _ => rfl
  | n+1, i, t, hI, h => by
    obtain ⟨e1, h1⟩ := h n i t (Nat.le_refl _) (by omega) hI
    rw [e1, fold loop e g Inv n (i+1) (g t i) h1 (fun m j t a b => h m j t (by omega) (by omega)), List.range'_succ, List.foldl_cons,
      Nat.add_right_comm, Nat.add_assoc]

/-- the values a write loop writes, with the accumulator it threads -/
def accM (V : Nat → γ → R (τ × γ)) : Nat → Nat → γ → R (List τ × γ)
  | 0, _, c => .ok ([], c)
  | k+1, j, c => V j c >>= fun p => accM V k (j+1) p.2 >>= fun q => .ok (p.1 :: q.1, q.2)

theorem accM_unit (V : Nat → R τ) : ∀ k j, accM (fun j (_ : Unit) => V j >>= fun y => .ok (y, ())) k j () =
    ((List.range' j k).mapM V >>= fun ys => .ok (ys, ()))
  | 0, _ => rfl
  | k+1, j => by
    rw [accM, List.range'_succ, R.mapM_cons, bind_assoc, bind_assoc]
    refine R.bind_congr _ fun y _ => ?_
    rw [R.ok_bind, accM_unit V k (j+1), bind_assoc, bind_assoc]
    refine R.bind_congr _ fun ys _ => ?_
    rfl

/-- `d` with `ys[t]` written to position `pos (j + t)` -/
def scat (pos : Nat → Nat) : Nat → List τ → List τ → List τ
  | _, [], d => d
  | j, y :: ys, d => scat pos (j+1) ys (d.set (pos j) y)

theorem scat_length (pos : Nat → Nat) : ∀ (j : Nat) (ys d : List τ), (scat pos j ys d).length = d.length
  | _, [], _ => rfl
  | j, y :: ys, d => by rw [scat, scat_length pos (j+1) ys, List.length_set]

theorem scat_frame (pos : Nat → Nat) (p : Nat) : ∀ (j : Nat) (ys d : List τ), (∀ t, t < ys.length → pos (j + t) ≠ p) → (scat pos j ys d)[p]? = d[p]?
  | _, [], _, _ => rfl
  | j, y :: ys, d, h => by
    rw [scat, scat_frame pos p (j+1) ys _ fun t ht => by rw [Nat.add_right_comm, Nat.add_assoc]; exact h (t+1) (Nat.succ_lt_succ ht),
      List.getElem?_set_ne (Nat.add_zero j ▸ h 0 (Nat.succ_pos _))]

theorem scat_get (pos : Nat → Nat) : ∀ (j : Nat) (ys d : List τ), (∀ t t', t < t' → t' < ys.length → pos (j + t) ≠ pos (j + t')) →
    ∀ t, t < ys.length → pos (j + t) < d.length → (scat pos j ys d)[pos (j + t)]? = ys[t]?
  | _, [], _, _, _, ht, _ => absurd ht (Nat.not_lt_zero _)
  | j, y :: ys, d, hinj, 0, _, hp => by
    rw [scat, scat_frame pos _ (j+1) ys _ fun t ht => by
      rw [Nat.add_right_comm, Nat.add_assoc]; exact (hinj 0 (t+1) (Nat.succ_pos _) (Nat.succ_lt_succ ht)).symm]
    exact List.getElem?_set_self hp
  | j, y :: ys, d, hinj, t+1, ht, hp => by
    have := scat_get pos (j+1) ys (d.set (pos j) y) (fun a b hab hb => by
      rw [Nat.add_right_comm, Nat.add_assoc, Nat.add_right_comm j 1 b, Nat.add_assoc j b 1]
      exact hinj (a+1) (b+1) (Nat.succ_lt_succ hab) (Nat.succ_lt_succ hb)) t (Nat.lt_of_succ_lt_succ ht)
      (by rw [List.length_set, Nat.add_right_comm, Nat.add_assoc]; exact hp)
    rw [Nat.add_right_comm, Nat.add_assoc] at this
    rw [scat, this]; rfl

/-- nested scatter: `d` with row `t` of `C` written to the positions `pos (a + t) b`, `b = 0, 1, …` (`scat` row after row) -/
def scat2 (pos : Nat → Nat → Nat) : Nat → List (List τ) → List τ → List τ
  | _, [], d => d
  | a, xs :: C, d => scat2 pos (a + 1) C (scat (pos a) 0 xs d)

theorem scat2_length (pos : Nat → Nat → Nat) : ∀ (C : List (List τ)) (a : Nat) (d : List τ), (scat2 pos a C d).length = d.length
  | [], _, _ => rfl
  | _ :: C, a, d => by rw [scat2, scat2_length pos C, scat_length]

theorem scat2_frame (pos : Nat → Nat → Nat) (p : Nat) : ∀ (C : List (List τ)) (a : Nat) (d : List τ),
    (∀ t b, t < C.length → b < (C.getD t []).length → pos (a + t) b ≠ p) → (scat2 pos a C d)[p]? = d[p]?
  | [], _, _, _ => rfl
  | xs :: C, a, d, h => by
    rw [scat2, scat2_frame pos p C (a + 1) _ fun t b ht hb => by
      rw [Nat.add_right_comm, Nat.add_assoc]; exact h (t + 1) b (Nat.succ_lt_succ ht) hb]
    exact scat_frame _ p 0 xs d fun b hb => by rw [Nat.zero_add]; exact h 0 b (Nat.succ_pos _) hb

/-- `hinj`: different (row, column) pairs of `C` go to different positions -/
theorem scat2_get (pos : Nat → Nat → Nat) : ∀ (C : List (List τ)) (a : Nat) (d : List τ),
    (∀ t b t' b', t < C.length → b < (C.getD t []).length → t' < C.length → b' < (C.getD t' []).length →
      pos (a + t) b = pos (a + t') b' → t = t' ∧ b = b') →
    ∀ t b, t < C.length → b < (C.getD t []).length → pos (a + t) b < d.length → (scat2 pos a C d)[pos (a + t) b]? = (C.getD t [])[b]?
  | xs :: C, a, d, hinj, 0, b, _, hb, hp => by
    rw [scat2, scat2_frame pos _ C (a + 1) _ fun t b' ht hb' heq => by
      rw [Nat.add_right_comm, Nat.add_assoc] at heq
      exact absurd (hinj (t + 1) b' 0 b (Nat.succ_lt_succ ht) hb' (Nat.succ_pos _) hb heq).1 (Nat.succ_ne_zero t)]
    have := scat_get (pos a) 0 xs d (fun b1 b2 h12 h2 h => by
      rw [Nat.zero_add, Nat.zero_add] at h
      exact absurd (hinj 0 b1 0 b2 (Nat.succ_pos _) (Nat.lt_trans h12 h2) (Nat.succ_pos _) h2 h).2 (Nat.ne_of_lt h12)) b hb
      (by rw [Nat.zero_add]; exact hp)
    rw [Nat.zero_add] at this
    exact this
  | xs :: C, a, d, hinj, t + 1, b, ht, hb, hp => by
    have := scat2_get pos C (a + 1) (scat (pos a) 0 xs d) (fun t b t' b' h1 h2 h3 h4 h => by
      rw [Nat.add_right_comm a 1 t, Nat.add_assoc, Nat.add_right_comm a 1 t', Nat.add_assoc a t'] at h
      have := hinj (t + 1) b (t' + 1) b' (Nat.succ_lt_succ h1) h2 (Nat.succ_lt_succ h3) h4 h
      exact ⟨Nat.succ.inj this.1, this.2⟩) t b (Nat.lt_of_succ_lt_succ ht) hb
      (by rw [scat_length, Nat.add_right_comm, Nat.add_assoc]; exact hp)
    rw [Nat.add_right_comm, Nat.add_assoc] at this
    rw [scat2]; exact this

/-- what a step equation of `scatter_acc` / `scatter` may use about the buffer `d` that step `j` finds: it is `d0` except at the positions the steps
    `j0 ≤ t < j` have written.  Proofs use the fields and `Untouched.getD`, not the shape of the definition. -/
structure Untouched (pos : Nat → Nat) (j0 j : Nat) (d d0 : List τ) : Prop where
  /-- `d` has the length of `d0` -/
  length : d.length = d0.length
  /-- a position that none of the steps `j0 ≤ t < j` has written holds the entry of `d0` -/
  outside : ∀ p, (∀ t, j0 ≤ t → t < j → pos t ≠ p) → d[p]? = d0[p]?

theorem Untouched.getD {pos : Nat → Nat} {j0 j : Nat} {d d0 : List τ} (h : Untouched pos j0 j d d0) {p : Nat}
    (hp : ∀ t, j0 ≤ t → t < j → pos t ≠ p) (x : τ) : d.getD p x = d0.getD p x := by
  rw [List.getD_eq_getElem?_getD, List.getD_eq_getElem?_getD, h.outside p hp]

theorem Untouched.refl (pos : Nat → Nat) (j0 j : Nat) (d : List τ) : Untouched pos j0 j d d := ⟨rfl, fun _ _ => rfl⟩

theorem Untouched.set {pos : Nat → Nat} {j0 j : Nat} {d d0 : List τ} (h : Untouched pos j0 j d d0) (hj : j0 ≤ j) (y : τ) :
    Untouched pos j0 (j+1) (d.set (pos j) y) d0 :=
  ⟨by rw [List.length_set]; exact h.length, fun p hp => by
    rw [List.getElem?_set_ne (hp j hj (Nat.lt_succ_self j))]; exact h.outside p fun t a b => hp t a (Nat.lt_succ_of_lt b)⟩

/-- Step `j < N` writes `(V j c).1` to `pos j` and goes on with the accumulator `(V j c).2`; `V` may fail, the positions are inside the buffer
    (which is what callers know: the step equation is theirs to prove).  `cont` is what the loop does at exhaustion. -/
theorem scatter_acc (loop : Nat → Nat → List τ → γ → R β) (V : Nat → γ → R (τ × γ)) (pos : Nat → Nat) (cont : List τ → γ → R β)
    (j0 N : Nat) (d0 : List τ)
    (h0 : ∀ j d c, loop 0 j d c = cont d c)
    (hs : ∀ k j d c, j0 ≤ j → j < N → Untouched pos j0 j d d0 →
      loop (k+1) j d c = V j c >>= fun p => loop k (j+1) (d.set (pos j) p.1) p.2) :
    ∀ k j d c, j0 ≤ j → j + k ≤ N → Untouched pos j0 j d d0 → loop k j d c = accM V k j c >>= fun q => cont (scat pos j q.1 d) q.2
  | 0, _, d, c, _, _, _ => by rw [h0]; rfl
  | k+1, j, d, c, hj, hk, hd => by
    rw [hs k j d c hj (by omega) hd, accM, bind_assoc]
    refine R.bind_congr _ fun p _ => ?_
    rw [scatter_acc loop V pos cont j0 N d0 h0 hs k (j+1) _ p.2 (by omega) (by omega) (hd.set hj p.1), bind_assoc]
    refine R.bind_congr _ fun q _ => ?_
    rfl

/-- `scatter_acc` without an accumulator: step `j` writes the value `V j` (which may fail) to `pos j` -/
theorem scatter (loop : Nat → Nat → List τ → R β) (V : Nat → R τ) (pos : Nat → Nat) (cont : List τ → R β) (j0 N : Nat) (d0 : List τ)
    (h0 : ∀ j d, loop 0 j d = cont d)
    (hs : ∀ k j d, j0 ≤ j → j < N → Untouched pos j0 j d d0 → loop (k+1) j d = V j >>= fun y => loop k (j+1) (d.set (pos j) y))
    (k j : Nat) (d : List τ) (hj : j0 ≤ j) (hk : j + k ≤ N) (hd : Untouched pos j0 j d d0) :
    loop k j d = (List.range' j k).mapM V >>= fun ys => cont (scat pos j ys d) := by
  have := scatter_acc (fun k j d (_ : Unit) => loop k j d) (fun j _ => V j >>= fun y => .ok (y, ())) pos (fun d _ => cont d) j0 N d0
    (fun j d _ => h0 j d) (fun k j d _ h1 h2 hU => by rw [hs k j d h1 h2 hU, bind_assoc]; rfl) k j d () hj hk hd
  rw [this, accM_unit, bind_assoc]; rfl

theorem scat_contig (off : Nat) : ∀ (j : Nat) (ys l : List τ), off + j + ys.length ≤ l.length →
    scat (fun j => off + j) j ys l = l.take (off+j) ++ ys ++ l.drop (off+j+ys.length)
  | j, [], l, _ => by rw [scat, List.append_nil, List.length_nil, Nat.add_zero, List.take_append_drop]
  | j, y :: ys, l, h => by
    rw [List.length_cons] at h
    rw [scat, scat_contig off (j+1) ys _ (by rw [List.length_set]; omega), ← Nat.add_assoc, list_take_set_succ _ _ (by omega),
      List.drop_set_of_lt (by omega), List.length_cons, show off + j + 1 + ys.length = off + j + (ys.length + 1) by omega]
    simp only [List.append_assoc, List.cons_append, List.nil_append]

/-- what a step equation of `write` and its forms may use about the buffer `l` that the step finds: it is `l0` outside the window `[a, b)` of the
    positions written so far.  Proofs use the fields, `Agree.get` and `Agree.getD`, not the shape of the definition. -/
structure Agree (a b : Nat) (l l0 : List τ) : Prop where
  /-- `l` has the length of `l0` -/
  length : l.length = l0.length
  /-- a position outside the window holds the entry of `l0` -/
  outside : ∀ p, p < a ∨ b ≤ p → l[p]? = l0[p]?

theorem Agree.get {a b : Nat} {l l0 : List τ} (h : Agree a b l l0) {p : Nat} (hp : p < a ∨ b ≤ p) (h1 : p < l.length) :
    l[p] = l0[p]'(h.length ▸ h1) := by
  have := h.outside p hp
  rw [List.getElem?_eq_getElem h1, List.getElem?_eq_getElem (h.length ▸ h1)] at this
  exact Option.some.inj this

theorem Agree.getD {a b : Nat} {l l0 : List τ} (h : Agree a b l l0) {p : Nat} (hp : p < a ∨ b ≤ p) (x : τ) : l.getD p x = l0.getD p x := by
  rw [List.getD_eq_getElem?_getD, List.getD_eq_getElem?_getD, h.outside p hp]

theorem agree_of_untouched {off j0 j : Nat} {l l0 : List τ} (h : Untouched (fun j => off + j) j0 j l l0) : Agree (off+j0) (off+j) l l0 :=
  ⟨h.length, fun p hp => h.outside p fun t _ ht (e : off + t = p) => by omega⟩

/-- step `j` writes `V j` to position `off + j`, and `V j` does not read the cell it overwrites: the window `[off+j0, off+j0+k)` becomes the
    values, the rest of `l0` is kept.  Take this when the step equation can be proved with the values as functions of `j` alone (the step may
    still read other cells: `Agree` says they hold their entries of `l0`) -/
theorem write (loop : Nat → Nat → List τ → R β) (V : Nat → R τ) (cont : List τ → R β) (off j0 N : Nat) (l0 : List τ)
    (h0 : ∀ j l, loop 0 j l = cont l)
    (hs : ∀ k j l, j0 ≤ j → j < N → Agree (off+j0) (off+j) l l0 → loop (k+1) j l = V j >>= fun y => loop k (j+1) (l.set (off+j) y))
    (hN : off + N ≤ l0.length) (k : Nat) (hk : j0 + k ≤ N) :
    loop k j0 l0 = (List.range' j0 k).mapM V >>= fun ys => cont (l0.take (off+j0) ++ ys ++ l0.drop (off+j0+k)) := by
  rw [scatter loop V (fun j => off + j) cont j0 N l0 h0 (fun k j l h1 hj hU => hs k j l h1 hj (agree_of_untouched hU))
    k j0 l0 (Nat.le_refl _) hk (Untouched.refl _ _ _ _)]
  refine R.bind_congr _ fun ys hy => ?_
  have hl := R.mapM_length hy
  rw [List.length_range'] at hl
  rw [scat_contig off j0 ys l0 (by omega), hl]

/-- `write` for a step that READS the cell it overwrites (`l[off+j] := G j l[off+j]`): the values are `G j` of the entries of `l0`; the read is
    spelt with `l0[off+j]?` so that the statement needs no bound on `j` -/
theorem write_inplace (loop : Nat → Nat → List τ → R β) (G : Nat → τ → R τ) (cont : List τ → R β) (off j0 N : Nat) (l0 : List τ)
    (h0 : ∀ j l, loop 0 j l = cont l)
    (hs : ∀ k j l (h : off + j < l.length), j0 ≤ j → j < N → Agree (off+j0) (off+j) l l0 →
      loop (k+1) j l = G j l[off+j] >>= fun y => loop k (j+1) (l.set (off+j) y))
    (hN : off + N ≤ l0.length) (k : Nat) (hk : j0 + k ≤ N) :
    loop k j0 l0 = (List.range' j0 k).mapM (fun j => match l0[off+j]? with | some x => G j x | none => .error .oob) >>=
      fun ys => cont (l0.take (off+j0) ++ ys ++ l0.drop (off+j0+k)) :=
  write loop _ cont off j0 N l0 h0 (fun k j l h1 hj hA => by
    have hl : off + j < l.length := by rw [hA.length]; omega
    rw [hs k j l hl h1 hj hA, hA.get (Or.inr (Nat.le_refl _)) hl, List.getElem?_eq_getElem (hA.length ▸ hl)]) hN k hk

/-- `write` over the whole buffer (`off = 0`, `j0 = 0`, `l0.length` steps): the buffer becomes the values -/
theorem write_all (loop : Nat → Nat → List τ → R β) (V : Nat → R τ) (cont : List τ → R β) (l0 : List τ)
    (h0 : ∀ j l, loop 0 j l = cont l)
    (hs : ∀ k j l, j < l0.length → Agree 0 j l l0 → loop (k+1) j l = V j >>= fun y => loop k (j+1) (l.set j y)) :
    loop l0.length 0 l0 = (List.range' 0 l0.length).mapM V >>= cont := by
  rw [write loop V cont 0 0 l0.length l0 h0 (fun k j l _ hj hA => by
    rw [Nat.zero_add, Nat.zero_add] at hA; rw [hs k j l hj hA, Nat.zero_add]) (by omega) l0.length (by omega)]
  refine R.bind_congr _ fun ys _ => ?_
  rw [Nat.zero_add, Nat.zero_add, List.take_zero, List.drop_length, List.nil_append, List.append_nil]

theorem range'_mapM_getElem (F : τ → R τ) : ∀ (l pre : List τ),
    (List.range' pre.length l.length).mapM (fun j => match (pre ++ l)[j]? with | some x => F x | none => .error .oob) = l.mapM F
  | [], _ => rfl
  | x :: l, pre => by
    have e := range'_mapM_getElem F l (pre ++ [x])
    rw [List.length_append, List.length_singleton, List.append_assoc, List.singleton_append] at e
    rw [List.length_cons, List.range'_succ, R.mapM_cons, R.mapM_cons, e, List.getElem?_append_right (Nat.le_refl _), Nat.sub_self,
      List.getElem?_cons_zero]

/-- an in-place loop over the whole buffer whose step cannot fail on entries satisfying `P`: the buffer becomes `l0.map f` -/
theorem write_map_ok (loop : Nat → Nat → List τ → R β) (f : τ → τ) (P : τ → Prop) (cont : List τ → R β) (l0 : List τ)
    (h0 : ∀ j l, loop 0 j l = cont l)
    (hs : ∀ k j l (h : j < l.length), P l[j] → loop (k+1) j l = loop k (j+1) (l.set j (f l[j]))) (hP : ∀ x ∈ l0, P x) :
    loop l0.length 0 l0 = cont (l0.map f) := by
  rw [write_all loop (fun j => match l0[j]? with | some x => .ok (f x) | none => .error .oob) cont l0 h0 (fun k j l hj hA => by
    have hl : j < l.length := hA.length ▸ hj
    have e := hA.get (Or.inr (Nat.le_refl _)) hl
    rw [hs k j l hl (e ▸ hP _ (List.getElem_mem hj)), e, List.getElem?_eq_getElem hj]; rfl)]
  have := range'_mapM_getElem (fun x => .ok (f x)) l0 []
  rw [List.length_nil, List.nil_append] at this
  rw [this, R.mapM_ok _ f l0 fun _ _ => rfl]; rfl

end HC.Loop
