import Heathcliff.Proofs.C17
import Heathcliff.Proofs.Base
import Heathcliff.Gen.ConcFns

/-!
  The PHASE STRUCTURE of the lock-protected caches, generated from src/encryptor.rs, src/key.rs,
  src/util/galois.rs (Gen/ConcFns.lean: the program of one thread as a function of what it observes in each lock region) against the
  per-thread step functions `stepThr` / `gstepThr` of Model/Conc.lean.  Helper names start with `gq_`.

  `Act` decodes the action codes of tools/rs2lean_conc.py.  `stepActs` reads the actions of ONE model step off the step function's own
  decision (which branch `stepThr` took, the thread-local fields it wrote); `callActs` chains the steps of one call, the environment
  supplying the cache the thread sees in each lock region.  The equality theorems say: for ALL observations, the generated program is the
  model's.

  Where things are: this file DEFINES the whole vocabulary of the lock programs — `Act`, `encode`, `stepActs`, `callActs`, `muls`, the data
  interpreter `execAct` / `execActs`, the lock discipline `lockStep` / `lockRun` / `LockWF`, `gStepActs`, `gCallActs` — because the statements of
  Props/C17.lean are written in it, and proves the loop lemmas about the generated functions; the equality theorems themselves
  (`gen_dec_compute_secret_key_array_eq`, `gen_call_closed_form`, `gen_step_actions_sound`, `gen_apply_ntt_eq`, …) are stated AND proved in
  Props/C17.lean.  The prefix `gq_` is also used by GenEval3, GenUint and GenGaloisTable (it names a translator phase family, not a module).
-/
namespace HC.ConcProg
open HC HC.Conc HC.GenW

/-- one action of a thread (the codes of tools/rs2lean_conc.py) -/
inductive Act
  | acqR | relR | acqW | relW
  | alloc (words : Nat) | copy (words : Nat) | mul (a la b lb c lc : Nat) | store (words : Nat)
  | call (power : Nat) | read (lo hi : Nat) | readFirst | keys (off cnt : Nat)
  | gen (idx : Nat) | use (idx len : Nat)
  deriving DecidableEq, Repr

def Act.code : Act → List Nat
  | .acqR => [1] | .relR => [2] | .acqW => [3] | .relW => [4]
  | .alloc w => [10, w] | .copy w => [11, w] | .mul a la b lb c lc => [12, a, la, b, lb, c, lc] | .store w => [13, w]
  | .call p => [14, p] | .read lo hi => [15, lo, hi] | .readFirst => [16] | .keys o c => [17, o, c]
  | .gen i => [20, i] | .use i l => [21, i, l]

def encode (l : List Act) : List Nat := l.flatMap Act.code

variable {P : Type}

theorem gq_encode_append (a b : List Act) : encode (a ++ b) = encode a ++ encode b := by simp [encode]

/-! ### the secret-key power cache: `compute_secret_key_array` -/

/-- does the write phase of the model keep the shared cache (re-check succeeded)? -/
def wKeeps (rc : Bool) (cache : List P) (t : Thr P) : Bool := rc && decide (cache.length = max cache.length t.want)

theorem gq_stepThr_W (rc : Bool) (A : Alg P) (cache : List P) (t : Thr P) (h : t.pc = .W) :
    stepThr rc A cache t = (if wKeeps rc cache t then cache else t.newArr, { t with pc := .U }) := by
  cases t with
  | mk want pc oldR newArr result =>
    simp only at h; subst h
    cases rc <;> by_cases hc : want ≤ cache.length <;> simp [stepThr, wKeeps, hc] <;> split <;> rfl

/-- the compute loop on an array that holds `L` powers: iteration `i` multiplies the words of entry `L + i − 1` with those of entry 0 into
    entry `L + i` (word offsets and lengths, `d` words per polynomial) -/
def muls (d L cnt : Nat) : List Act := (List.range cnt).map fun i => .mul ((L + i - 1) * d) d 0 d ((L + i) * d) d

/-- the actions of ONE model step of a thread at `t.pc` that sees `cache` (`d` = words per polynomial), read off `stepThr`:
    R: acquire; unless the step went straight to U (early return): allocate `max oldR want` polynomials, copy the `newArr` it took; release.
    C: one MUL per iteration of the count `stepThr` passes to `extend`: entry `oldR + i` := entry `oldR + i − 1` · entry 0 (`muls`).
    W: acquire; publish the local array unless the step kept the cache; release. -/
def stepActs (d : Nat) (rc : Bool) (A : Alg P) (cache : List P) (t : Thr P) : List Act :=
  let r := stepThr rc A cache t
  match t.pc with
  | .R => if r.2.pc = .U then [.acqR, .relR]
          else [.acqR, .alloc (max r.2.oldR t.want * d), .copy (r.2.newArr.length * d), .relR]
  | .C => muls d t.oldR (max t.oldR t.want - t.oldR)
  | .W => if wKeeps rc cache t then [.acqW, .relW] else [.acqW, .store (t.newArr.length * d), .relW]
  | _ => []

/-- one call `compute_secret_key_array(want)` of the model: the thread's R, C, W steps; it sees `cR` in R and `cW` in W (whatever the
    other threads did in between) -/
def callActs (d : Nat) (rc : Bool) (A : Alg P) (want : Nat) (cR cW : List P) : List Act :=
  let t0 : Thr P := { want := want }
  let t1 := (stepThr rc A cR t0).2
  stepActs d rc A cR t0 ++
    (if t1.pc = .U then [] else
      let t2 := (stepThr rc A cR t1).2
      stepActs d rc A cR t1 ++ (if t2.pc = .W then stepActs d rc A cW t2 else []))

theorem gq_extend_length (A : Alg P) : ∀ (k : Nat) (arr a : List P), extend A k arr = some a → a.length = arr.length + k := by
  intro k
  induction k with
  | zero => intro arr a h; simp [extend] at h; subst h; rfl
  | succ k ih =>
    intro arr a h
    unfold extend at h
    cases he : extendOnce A arr with
    | none => simp [he] at h
    | some b =>
      simp only [he] at h
      have hb : b.length = arr.length + 1 := by
        unfold extendOnce at he
        split at he
        · simp at he; subst he; simp
        · simp at he
      rw [ih b a h, hb]; omega

theorem gq_extend_some (A : Alg P) : ∀ (k : Nat) (arr : List P), arr ≠ [] → ∃ a, extend A k arr = some a := by
  intro k
  induction k with
  | zero => intro arr _; exact ⟨arr, rfl⟩
  | succ k ih =>
    intro arr hne
    unfold extend
    obtain ⟨x, xs, rfl⟩ := List.exists_cons_of_ne_nil hne
    have : ∃ b, extendOnce A (x :: xs) = some b ∧ b ≠ [] := by
      cases hl : (x :: xs).getLast? with
      | none => simp at hl
      | some l => exact ⟨(x :: xs) ++ [A.mul l x], by simp [extendOnce, hl], by simp⟩
    obtain ⟨b, hb, hbne⟩ := this
    rw [hb]
    exact ih b hbne

theorem gq_ok_bind {α β : Type} (x : α) (f : α → R β) : (Except.ok x >>= f) = f x := rfl
theorem gq_pure {α : Type} (x : α) : (pure x : R α) = .ok x := rfl

theorem gq_ckMod_mul (x : Nat) {d : Nat} (hd : 0 < d) : ckMod (x * d) d = .ok 0 := by
  unfold ckMod; rw [if_neg (Nat.ne_of_gt hd), Nat.mul_mod_left]
theorem gq_ckDiv_mul (x : Nat) {d : Nat} (hd : 0 < d) : ckDiv (x * d) d = .ok x := by
  unfold ckDiv; rw [if_neg (Nat.ne_of_gt hd), Nat.mul_div_cancel _ hd]

theorem gq_muls_succ (d L cnt : Nat) : muls d L (cnt + 1) = .mul ((L - 1) * d) d 0 d (L * d) d :: muls d (L + 1) cnt := by
  unfold muls
  rw [List.range_succ_eq_map, List.map_cons, List.map_map]
  simp only [Nat.add_zero, Function.comp_def]
  congr 1
  apply List.map_congr_left
  intro j _
  rw [show L + (j + 1) = L + 1 + j by omega]

/-- one iteration of the compute loop of the generated `Decryptor::compute_secret_key_array`: entry `old_size + i ≥ 1` is written, all
    slices inside an array of `v6` words (`v7` words per polynomial).  The arguments are the generated function's locals by position (names
    table in Gen/ConcFns.lean): `a0` = max_power, `a4` = words seen under the write lock, `v1` = the trace so far, `v2` = coeff_modulus_size,
    `v3` = coeff_count, `v4` = old_size, `v5` = new_size, `v6` = arr_len, `v7` = poly_size, `v8` = i -/
theorem gq_dec_loop1_succ (a0 a4 : Nat) (v1 : List Nat) (v2 v3 v4 v5 v6 v7 fuel v8 : Nat) (h1 : 1 ≤ v4 + v8) (hp : 0 < v7)
    (hin : (v4 + v8 + 1) * v7 ≤ v6) (hB : v6 < B64) :
    GenConc.dec_compute_secret_key_array_loop1 a0 a4 v1 v2 v3 v4 v5 v6 v7 (fuel + 1) v8 =
      GenConc.dec_compute_secret_key_array_loop1 a0 a4 (v1 ++ encode [.mul ((v4 + v8 - 1) * v7) v7 0 v7 ((v4 + v8) * v7) v7])
        v2 v3 v4 v5 v6 v7 fuel (v8 + 1) := by
  have lt : ∀ {x}, x ≤ v6 → x < B64 := fun h => Nat.lt_of_le_of_lt h hB
  have l21 : (v4 + v8) * v7 ≤ (v4 + v8 + 1) * v7 := Nat.mul_le_mul_right v7 (Nat.le_succ _)
  have l10 : (v4 + v8 - 1) * v7 ≤ (v4 + v8) * v7 := Nat.mul_le_mul_right v7 (Nat.sub_le _ 1)
  have l1 : (v4 + v8) * v7 ≤ v6 := Nat.le_trans l21 hin
  have lp : v7 ≤ v6 := Nat.le_trans (Nat.le_mul_of_pos_left v7 h1) l1
  have lj : v4 + v8 + 1 ≤ v6 := Nat.le_trans (Nat.le_mul_of_pos_right _ hp) hin
  have hs0 : (v4 + v8 - 1) * v7 + v7 = (v4 + v8) * v7 := by rw [← Nat.succ_mul, Nat.succ_eq_add_one, Nat.sub_add_cancel h1]
  have hs1 : (v4 + v8) * v7 + v7 = (v4 + v8 + 1) * v7 := (Nat.succ_mul _ _).symm
  -- the three slice ends `lo + len`
  have s0 : ckAdd ((v4 + v8 - 1) * v7) v7 = .ok ((v4 + v8) * v7) := (ckAdd_ok (lt (by rw [hs0]; exact l1))).trans (congrArg _ hs0)
  have s1 : ckAdd ((v4 + v8) * v7) v7 = .ok ((v4 + v8 + 1) * v7) := (ckAdd_ok (lt (by rw [hs1]; exact hin))).trans (congrArg _ hs1)
  have s2 : ckAdd 0 v7 = .ok v7 := (ckAdd_ok (lt (by rw [Nat.zero_add]; exact lp))).trans (congrArg _ (Nat.zero_add v7))
  rw [GenConc.dec_compute_secret_key_array_loop1]
  simp only [ckAdd_ok (lt (Nat.le_of_succ_le lj)), ckSub_of_le h1, ckMul_ok (lt (Nat.le_trans l10 l1)), ckMul_ok (lt l1), ckAdd_ok (lt lj),
    ckMul_ok (lt hin), s0, s1, s2, gq_ok_bind, if_pos l10, if_pos l1, if_pos l21, if_pos hin, if_pos lp]
  simp only [encode, List.flatMap_cons, List.flatMap_nil, Act.code, List.append_assoc, List.cons_append, List.nil_append, List.append_nil]

/-- after the last iteration: the write phase (`M` polynomials of `d` words seen under the write lock, `N` in the local array) -/
theorem gq_dec_loop1_zero (w n k M N : Nat) (tr : List Nat) (v4 v5 i : Nat) (hd : 0 < n * k) (hnk : n * k < B64) :
    GenConc.dec_compute_secret_key_array_loop1 w (M * (n * k)) tr k n v4 v5 (N * (n * k)) (n * k) 0 i =
      .ok (tr ++ encode (.acqW :: if M = max M w then [.relW] else [.store (N * (n * k)), .relW])) := by
  rw [GenConc.dec_compute_secret_key_array_loop1]
  simp only [ckMul_ok hnk, gq_ckMod_mul N hd, gq_ckDiv_mul M hd, gq_ok_bind, if_true, gq_pure]
  by_cases hw : M = max M w
  · rw [if_pos hw, if_pos hw, List.append_assoc]; rfl
  · rw [if_neg hw, if_neg hw]; simp only [List.append_assoc]; rfl

/-- the compute loop of the generated `Decryptor::compute_secret_key_array` (array of `N` polynomials of `n·k` words holding `L ≥ 1`
    powers; iterations `i … i + fuel − 1` stay inside the array), followed by the write phase (`M` polynomials seen under the write lock) -/
theorem gq_dec_loop (w n k L N M : Nat) (hd : 0 < n * k) (hnk : n * k < B64) (hA : N * (n * k) < B64) (hL : 1 ≤ L) :
    ∀ (fuel i : Nat) (tr : List Nat), L + i + fuel ≤ N →
    GenConc.dec_compute_secret_key_array_loop1 w (M * (n * k)) tr k n L N (N * (n * k)) (n * k) fuel i =
      .ok (tr ++ encode (muls (n * k) (L + i) fuel ++ .acqW :: if M = max M w then [.relW] else [.store (N * (n * k)), .relW]))
  | 0, i, tr, _ => gq_dec_loop1_zero w n k M N tr L N i hd hnk
  | fuel + 1, i, tr, hN => by
    rw [gq_dec_loop1_succ _ _ _ _ _ _ _ _ _ _ _ (by omega) hd (Nat.mul_le_mul_right _ (by omega)) hA,
      gq_dec_loop w n k L N M hd hnk hA hL fuel (i + 1) _ (by omega), gq_muls_succ, List.append_assoc, ← gq_encode_append]
    rfl

/-- the generated `Decryptor::compute_secret_key_array` up to its compute loop: the read phase (`L` polynomials of `n·k` words in the shared
    vector under the read lock; `a4` = words seen under the write lock later) -/
theorem gq_dec_compute_read (w n k L a4 : Nat) (hd : 0 < n * k) (hnk : n * k < B64) (hA : max L w * n * k < B64) :
    GenConc.dec_compute_secret_key_array w n k (L * (n * k)) a4 =
      if L = max L w then .ok (encode [.acqR, .relR])
      else GenConc.dec_compute_secret_key_array_loop1 w a4 (encode [.acqR, .alloc (max L w * (n * k)), .copy (L * (n * k)), .relR]) k n L (max L w)
        (max L w * (n * k)) (n * k) (max L w - L) 0 := by
  have hLm : L ≤ max L w := Nat.le_max_left _ _
  have hass : max L w * n * k = max L w * (n * k) := Nat.mul_assoc _ _ _
  have hmn : max L w * n < B64 := Nat.lt_of_le_of_lt (Nat.le_mul_of_pos_right _ (Nat.pos_of_mul_pos_left hd)) hA
  have hLle : L * (n * k) ≤ max L w * (n * k) := Nat.mul_le_mul_right _ hLm
  unfold GenConc.dec_compute_secret_key_array
  simp only [ckMul_ok hnk, gq_ckMod_mul L hd, gq_ckDiv_mul L hd, gq_ok_bind, if_true]
  by_cases hr : L = max L w
  · rw [if_pos hr, if_pos hr]; rfl
  · rw [if_neg hr, if_neg hr]
    simp only [ckMul_ok hmn, ckMul_ok hA, hass, ckMul_ok (Nat.lt_of_le_of_lt hLle (hass ▸ hA)), ckSub_of_le hLm, gq_ok_bind, if_true,
      if_pos hLle, if_pos (Nat.le_refl _), List.cons_append, List.nil_append]
    rfl

/-- the two generated copies of `compute_secret_key_array` (src/encryptor.rs, src/key.rs) are the same program -/
theorem gq_kg_loop1_eq_dec (a0 a4 v2 v3 v4 v5 v6 v7 : Nat) : ∀ (fuel : Nat) (v1 : List Nat) (v8 : Nat),
    GenConc.kg_compute_secret_key_array_loop1 a0 a4 v1 v2 v3 v4 v5 v6 v7 fuel v8 =
      GenConc.dec_compute_secret_key_array_loop1 a0 a4 v1 v2 v3 v4 v5 v6 v7 fuel v8
  | 0, _, _ => by rw [GenConc.kg_compute_secret_key_array_loop1, GenConc.dec_compute_secret_key_array_loop1]
  | fuel + 1, v1, v8 => by
    rw [GenConc.kg_compute_secret_key_array_loop1, GenConc.dec_compute_secret_key_array_loop1]
    simp only [gq_kg_loop1_eq_dec a0 a4 v2 v3 v4 v5 v6 v7 fuel]

theorem gq_kg_compute_eq_dec (a0 a1 a2 a3 a4 : Nat) :
    GenConc.kg_compute_secret_key_array a0 a1 a2 a3 a4 = GenConc.dec_compute_secret_key_array a0 a1 a2 a3 a4 := by
  unfold GenConc.kg_compute_secret_key_array GenConc.dec_compute_secret_key_array
  simp only [gq_kg_loop1_eq_dec]

/-! ### what the actions DO: an interpreter, and the model step is the execution of its own actions -/

/-- data semantics of one action on (shared cache, thread-local array); `d` = words per polynomial.
    ALLOC: a fresh zeroed array (nothing valid in it yet).  COPY w: the first `w` words of the shared vector, i.e. `w / d` polynomials.
    MUL a la b lb c lc (word offsets / lengths): the polynomial at `c` := the polynomial at `a` times the polynomial at `b`; all three must be
    whole polynomials, the operands inside the valid part of the array and the result its next entry.
    STORE: the local array replaces the shared one.  Lock operations and reads have no data effect. -/
def execAct (A : Alg P) (d : Nat) : Act → List P × List P → Option (List P × List P)
  | .alloc _, (c, _) => some (c, [])
  | .copy w, (c, _) => some (c, c.take (w / d))
  | .mul a la b lb c lc, (ch, arr) =>
    if la = d ∧ lb = d ∧ lc = d ∧ a % d = 0 ∧ b % d = 0 ∧ c = arr.length * d then
      match arr[a / d]?, arr[b / d]? with
      | some x, some y => some (ch, arr ++ [A.mul x y])
      | _, _ => none
    else none
  | .store _, (_, arr) => some (arr, arr)
  | _, σ => some σ

def execActs (A : Alg P) (d : Nat) : List Act → List P × List P → Option (List P × List P)
  | [], σ => some σ
  | a :: as, σ => (execAct A d a σ).bind (execActs A d as)

/-- the derived compute loop IS the model's `extend`: executing the MULs on a local array of `L` polynomials -/
theorem gq_exec_muls (A : Alg P) (d : Nat) (hd : 0 < d) (ch : List P) : ∀ (cnt : Nat) (arr : List P),
    execActs A d (muls d arr.length cnt) (ch, arr) = (extend A cnt arr).map fun a => (ch, a) := by
  intro cnt
  induction cnt with
  | zero => intro arr; simp [muls, execActs, extend]
  | succ c ih =>
    intro arr
    rw [gq_muls_succ]
    simp only [execActs, execAct, Nat.mul_mod_left, Nat.zero_mod, Nat.mul_div_cancel _ hd, Nat.zero_div, and_self, if_true]
    unfold extend extendOnce
    rw [List.getLast?_eq_getElem?, List.head?_eq_getElem?]
    cases h1 : arr[arr.length - 1]? with
    | none => simp
    | some x =>
      cases h2 : arr[0]? with
      | none => simp
      | some y =>
        simp only [Option.bind]
        have := ih (arr ++ [A.mul x y])
        simp only [List.length_append, List.length_singleton] at this
        exact this

/-! ### lock discipline of a program (the structural assumption of the lock-level model, Part 3 of Model/Conc.lean) -/

/-- where a thread stands with respect to the lock while its program runs -/
inductive Hold | out | r | w
  deriving DecidableEq, Repr

/-- one action under the lock discipline: a lock is acquired only while NONE is held (so a thread never waits for the write lock while it
    holds the read lock), released only by its holder; shared data is read (COPY, READ, READ_FIRST, KEYS, USE) only inside a region,
    written (STORE, GEN) only inside a write region; the computation (ALLOC is local, MUL) and nested calls happen outside any region
    (MUL, CALL) or anywhere (ALLOC) -/
def lockStep : Hold → Act → Option Hold
  | .out, .acqR => some .r
  | .out, .acqW => some .w
  | .r, .relR => some .out
  | .w, .relW => some .out
  | h, .alloc _ => some h
  | .r, .copy _ => some .r | .w, .copy _ => some .w
  | .r, .read _ _ => some .r | .w, .read _ _ => some .w
  | .r, .readFirst => some .r | .w, .readFirst => some .w
  | .r, .keys _ _ => some .r | .w, .keys _ _ => some .w
  | .r, .use _ _ => some .r | .w, .use _ _ => some .w
  | .w, .store _ => some .w
  | .w, .gen _ => some .w
  | .out, .mul _ _ _ _ _ _ => some .out
  | .out, .call _ => some .out
  | _, _ => none

def lockRun : Hold → List Act → Option Hold
  | h, [] => some h
  | h, a :: as => (lockStep h a).bind fun h' => lockRun h' as

/-- a program respects the lock discipline and ends holding nothing -/
def LockWF (acts : List Act) : Prop := lockRun .out acts = some .out

theorem gq_lockRun_append (a b : List Act) : ∀ h, lockRun h (a ++ b) = (lockRun h a).bind fun h' => lockRun h' b := by
  induction a with
  | nil => intro h; rfl
  | cons x xs ih =>
    intro h
    simp only [List.cons_append, lockRun]
    cases lockStep h x with
    | none => rfl
    | some h' => exact ih h'

theorem gq_lockRun_muls (d L cnt : Nat) : lockRun .out (muls d L cnt) = some .out := by
  unfold muls
  induction (List.range cnt) with
  | nil => rfl
  | cons x xs ih => simp only [List.map_cons, lockRun, lockStep, Option.bind]; exact ih

/-- on an empty cache (`old_size = 0`) the first iteration traps in `old_size + i - 1` -/
theorem gq_dec_loop1_empty (a0 a4 : Nat) (v1 : List Nat) (v2 v3 v5 v6 v7 fuel : Nat) :
    GenConc.dec_compute_secret_key_array_loop1 a0 a4 v1 v2 v3 0 v5 v6 v7 (fuel + 1) 0 = .error .overflow := by
  rw [GenConc.dec_compute_secret_key_array_loop1]
  rfl

/-! ### the use phases -/

/-- second loop of `dot_product_ct_sk_array` (the additions: data only) -/
theorem gq_dot_loop2 (tr : List Nat) (v4 : Nat) (v6 : Bool) : ∀ (fuel i : Nat),
    GenConc.dec_dot_product_ct_sk_array_loop2 tr v4 v6 fuel i = .ok (tr ++ encode [.relR]) := by
  intro fuel
  induction fuel with
  | zero => intro i; rfl
  | succ f ih => intro i; rw [GenConc.dec_dot_product_ct_sk_array_loop2]; exact ih _

/-- one iteration of the first loop of `dot_product_ct_sk_array`: the slice `[i·s, i·s + w)` is read if it lies inside the snapshot of `L`
    words -/
theorem gq_dot_loop1_succ (L : Nat) (tr : List Nat) (v4 : Nat) (v6 : Bool) (w s fuel i : Nat) (hB : i * s + w < B64) :
    GenConc.dec_dot_product_ct_sk_array_loop1 L tr v4 v6 w s (fuel + 1) i =
      if i * s + w ≤ L then GenConc.dec_dot_product_ct_sk_array_loop1 L (tr ++ encode [.read (i * s) (i * s + w)]) v4 v6 w s fuel (i + 1)
      else .error .refused := by
  rw [GenConc.dec_dot_product_ct_sk_array_loop1]
  simp only [ckMul_ok (Nat.lt_of_le_of_lt (Nat.le_add_right _ _) hB), ckAdd_ok hB, gq_ok_bind, if_pos (Nat.le_add_right _ _),
    List.append_assoc, List.cons_append, List.nil_append]
  rfl

theorem gq_dot_step_lt {i f s w : Nat} (hB : (i + (f + 1)) * s + w < B64) : i * s + w < B64 :=
  Nat.lt_of_le_of_lt (Nat.add_le_add_right (Nat.mul_le_mul_right _ (Nat.le_add_right _ _)) _) hB

/-- first loop of `dot_product_ct_sk_array`: iteration `j` reads `[j·s, j·s + w)` of the snapshot of `L` words -/
theorem gq_dot_loop1 (L v4 : Nat) (v6 : Bool) (w s : Nat) (h4 : 1 ≤ v4) : ∀ (fuel i : Nat) (tr : List Nat),
    (i + fuel) * s + w < B64 → (∀ j, j < fuel → (i + j) * s + w ≤ L) →
    GenConc.dec_dot_product_ct_sk_array_loop1 L tr v4 v6 w s fuel i =
      .ok (tr ++ encode ((List.range fuel).map (fun j => .read ((i + j) * s) ((i + j) * s + w)) ++ [.relR]))
  | 0, i, tr, _, _ => by
    rw [GenConc.dec_dot_product_ct_sk_array_loop1]
    simp only [ckSub_of_le h4, gq_ok_bind, gq_dot_loop2, List.range_zero, List.map_nil, List.nil_append]
  | f + 1, i, tr, hB, hin => by
    rw [gq_dot_loop1_succ _ _ _ _ _ _ _ _ (gq_dot_step_lt hB), if_pos (show i * s + w ≤ L from hin 0 (Nat.succ_pos f)),
      gq_dot_loop1 L v4 v6 w s h4 f (i + 1) _ (by rwa [Nat.add_right_comm, Nat.add_assoc])
        (fun j hj => by rw [Nat.add_right_comm, Nat.add_assoc]; exact hin (j + 1) (Nat.succ_lt_succ hj)),
      List.range_succ_eq_map, List.map_cons, List.map_map, List.append_assoc, ← gq_encode_append]
    simp only [Nat.add_zero, List.cons_append, List.nil_append, Function.comp_def, Nat.add_right_comm i 1, Nat.add_assoc i]

/-- the first loop refuses as soon as one slice leaves the snapshot -/
theorem gq_dot_loop1_refuses (L v4 : Nat) (v6 : Bool) (w s : Nat) : ∀ (fuel i : Nat) (tr : List Nat),
    (i + fuel) * s + w < B64 → (∃ j, j < fuel ∧ L < (i + j) * s + w) →
    GenConc.dec_dot_product_ct_sk_array_loop1 L tr v4 v6 w s fuel i = .error .refused
  | 0, _, _, _, ⟨_, hj, _⟩ => absurd hj (Nat.not_lt_zero _)
  | f + 1, i, tr, hB, ⟨j, hj, hout⟩ => by
    rw [gq_dot_loop1_succ _ _ _ _ _ _ _ _ (gq_dot_step_lt hB)]
    by_cases h0 : i * s + w ≤ L
    · rw [if_pos h0]
      cases j with
      | zero => exact absurd hout (Nat.not_lt.mpr h0)
      | succ j =>
        exact gq_dot_loop1_refuses L v4 v6 w s f (i + 1) _ (by rwa [Nat.add_right_comm, Nat.add_assoc])
          ⟨j, Nat.lt_of_succ_lt_succ hj, by rwa [Nat.add_right_comm, Nat.add_assoc]⟩
    · rw [if_neg h0]

/-- `dot_product_ct_sk_array` for `size ≥ 3` up to its first loop: nested call, read lock; the slices are `n·k` words at stride `n·kkey` -/
theorem gq_dot_product_read (size n k kkey : Nat) (ntt : Bool) (lenU : Nat) (h3 : 3 ≤ size) (hk : k ≤ kkey) (hB : size * (n * kkey) < B64) :
    GenConc.dec_dot_product_ct_sk_array size n k kkey ntt lenU =
      GenConc.dec_dot_product_ct_sk_array_loop1 lenU (encode [.call (size - 1), .acqR]) size (decide (ntt = true)) (n * k) (n * kkey) (size - 1) 0 := by
  have h2 : n * kkey < B64 := Nat.lt_of_le_of_lt (Nat.le_mul_of_pos_left _ (by omega)) hB
  unfold GenConc.dec_dot_product_ct_sk_array
  simp only [ckSub_of_le (show 1 ≤ size by omega), gq_ok_bind, if_neg (show ¬ size = 2 by omega),
    ckMul_ok (Nat.lt_of_le_of_lt (Nat.mul_le_mul_left _ hk) h2), ckMul_ok h2, List.nil_append, List.cons_append]
  rfl

theorem gq_dot_last_lt {size n k kkey : Nat} (h3 : 3 ≤ size) (hk : k ≤ kkey) (hB : size * (n * kkey) < B64) :
    (0 + (size - 1)) * (n * kkey) + n * k < B64 := by
  rw [Nat.zero_add]
  have : (size - 1) * (n * kkey) + n * kkey = size * (n * kkey) := by rw [← Nat.succ_mul]; congr 1; omega
  have := Nat.mul_le_mul_left n hk
  omega

/-! ### the Galois permutation-table cache: `GaloisTool::apply_ntt` -/

variable {T : Type}

def olen (len : T → Nat) : Option T → Nat
  | none => 0
  | some x => len x

/-- what a thread observes of the table vector: the length of every table -/
def lens (len : T → Nat) (tb : List (Option T)) : List Nat := tb.map (olen len)

/-- the actions of ONE model step of `gstepThr` (the thread sees `tables`) -/
def gStepActs (len : T → Nat) (tables : List (Option T)) (t : GThr T) : List Act :=
  match t.calls[t.pos]?, t.pc with
  | some _, .chk => [.acqR, .relR]
  | some ix, .gen => [.acqW, .gen ix, .relW]
  | some ix, .use => (match tables[ix]? with | some e => [.acqR, .use ix (olen len e), .relR] | none => [])
  | _, _ => []

/-- one call `apply_ntt` for table index `ix` of the model: check step (sees `tK`), generate step if the check asked for it, use step
    (sees `tU`); `none` = the model panics -/
def gCallActs (len : T → Nat) (gen : Nat → T) (ix : Nat) (tK tU : List (Option T)) : Option (List Act) :=
  let t0 : GThr T := { calls := [ix] }
  let t1 := (gstepThr gen tK t0).2
  if t1.pc = .panicked then none else
    let a2 := if t1.pc = .gen then gStepActs len tK t1 else []
    let t2 := if t1.pc = .gen then (gstepThr gen tK t1).2 else t1
    if (gstepThr gen tU t2).2.pc = .panicked then none
    else some (gStepActs len tK t0 ++ a2 ++ gStepActs len tU t2)

theorem gq_lockRun_reads (f : Nat → Act) (hf : ∀ i, ∃ lo hi, f i = .read lo hi) : ∀ (l : List Nat) (rest : List Act),
    lockRun .r (l.map f ++ rest) = lockRun .r rest := by
  intro l
  induction l with
  | nil => intro rest; rfl
  | cons x xs ih =>
    intro rest
    obtain ⟨lo, hi, hx⟩ := hf x
    simp only [List.map_cons, List.cons_append, lockRun, hx, lockStep, Option.bind]
    exact ih rest

end HC.ConcProg
