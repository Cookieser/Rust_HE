/- C09 part E: the lazy modular instance (values in [0,4q) forward, [0,2q) inverse, Harvey multiplication) simulates
   the exact network over ZMod q and stays inside its documented ranges, below 4q < 2^63 (the instance computes in unbounded ℕ; that
   the CHECKED `+` / `-` of the generated code therefore never trap is `gen_lazy_fwd_realised`, Props/C09);
   the array-cached executable form equals the function form.  `WFOp.new_eq` / `WFOp.of_new` tie `WFOp` (NTTDefs), the form every
   theorem from C09 on takes a Harvey operand in, to `MulOperand.new y m = .ok o`, the form of C08A. -/
import Heathcliff.Proofs.C09D
import Heathcliff.Proofs.C08A
import Heathcliff.Proofs.C08B
namespace HC

variable {m : Modulus}

theorem WFOp.new_eq (h : m.WF) {o : MulOperand} (ho : WFOp m o) : MulOperand.new o.operand m = .ok o := by
  obtain ⟨o', h1, h2, h3⟩ := mulOperand_new h ho.1
  rw [h1]
  congr 1
  cases o; cases o'
  simp only [MulOperand.mk.injEq]
  exact ⟨h2, h3.trans ho.2.symm⟩

theorem WFOp.of_new (h : m.WF) {y : Nat} (hy : y < m.value) {o : MulOperand} (ho : MulOperand.new y m = .ok o) :
    WFOp m o ∧ o.operand = y := by
  obtain ⟨e1, e2⟩ := mulOperand_new_eq h hy ho
  exact ⟨⟨e1 ▸ hy, by rw [e2, e1]⟩, e1⟩

/-- lazy multiplication by a well-formed operand: < 2q and congruent, for every x < 2^64 -/
theorem mulRoot_lazy (h : m.WF) {o : MulOperand} (ho : WFOp m o) {x : Nat} (hx : x < 2^64) :
    (modArithLazy m).mulRoot x o < 2 * m.value ∧
    (((modArithLazy m).mulRoot x o : Nat) : ZMod m.value) = (x : ZMod m.value) * (o.operand : ZMod m.value) := by
  obtain ⟨s1, s2⟩ := mulOperandModLazy_spec h hx ho.1 (WFOp.new_eq h ho)
  refine ⟨s1, ?_⟩
  show ((mulOperandModLazy x o m : Nat) : ZMod m.value) = _
  rw [← Nat.cast_mul]
  exact (ZMod.natCast_eq_natCast_iff' _ _ _).mpr s2

/-! ### the lazy operations against the exact ones -/

theorem guard_lazy {a : Nat} (ha : a < 4 * m.value) :
    (modArithLazy m).guard a < 2 * m.value ∧
    (((modArithLazy m).guard a : Nat) : ZMod m.value) = (a : ZMod m.value) := by
  show (if a ≥ 2 * m.value then a - 2 * m.value else a) < _ ∧
    (((if a ≥ 2 * m.value then a - 2 * m.value else a) : Nat) : ZMod m.value) = _
  split
  · rename_i hge
    refine ⟨by omega, ?_⟩
    rw [Nat.cast_sub hge]; simp
  · exact ⟨by omega, rfl⟩

theorem sub_lazy {u w : Nat} (hu : u < 2 * m.value) (hw : w < 2 * m.value) :
    (modArithLazy m).sub u w < 4 * m.value ∧
    (((modArithLazy m).sub u w : Nat) : ZMod m.value) = (u : ZMod m.value) - (w : ZMod m.value) := by
  show u + 2 * m.value - w < _ ∧ ((u + 2 * m.value - w : Nat) : ZMod m.value) = _
  refine ⟨by omega, ?_⟩
  rw [Nat.cast_sub (by omega)]; simp

theorem fwdLayer_lazy (h : m.WF) {k l : Nat} (hl : l < k) (roots : Nat → MulOperand)
    (hr : ∀ j, 0 < j → j < 2^k → WFOp m (roots j)) {v : Nat → Nat} {v' : Nat → ZMod m.value}
    (hv : ∀ p, p < 2^k → v p < 4 * m.value ∧ ((v p : Nat) : ZMod m.value) = v' p) {p : Nat} (hp : p < 2^k) :
    fwdLayer (modArithLazy m) k l roots v p < 4 * m.value ∧
    ((fwdLayer (modArithLazy m) k l roots v p : Nat) : ZMod m.value)
      = fwdLayer (exactArith (ZMod m.value)) k l (fun j => ((roots j).operand : ZMod m.value)) v' p := by
  have hq := h.lt
  have hi := fwd_block_lt hl hp
  have hroot : WFOp m (roots (2^l + p / (2 * 2^(k-l-1)))) := by
    apply hr
    · exact Nat.add_pos_left (Nat.two_pow_pos l) _
    · have : 2^l * 2 ≤ 2^k := by rw [← pow_succ]; exact Nat.pow_le_pow_right (by norm_num) hl
      omega
  unfold fwdLayer
  simp only []
  split
  · rename_i ho
    obtain ⟨g1, g2⟩ := guard_lazy (m := m) (hv p hp).1
    have hpg := fwd_pair_lt hl hp ho
    obtain ⟨m1, m2⟩ := mulRoot_lazy h hroot (x := v (p + 2^(k-l-1))) (by have := (hv _ hpg).1; omega)
    refine ⟨?_, ?_⟩
    · show _ + _ < _; omega
    · show ((_ + _ : Nat) : ZMod m.value) = v' p + v' (p + 2^(k-l-1)) * _
      rw [Nat.cast_add, g2, m2, (hv p hp).2, (hv _ hpg).2]
  · have hpg : p - 2^(k-l-1) < 2^k := Nat.lt_of_le_of_lt (Nat.sub_le _ _) hp
    obtain ⟨g1, g2⟩ := guard_lazy (m := m) (hv _ hpg).1
    obtain ⟨m1, m2⟩ := mulRoot_lazy h hroot (x := v p) (by have := (hv _ hp).1; omega)
    obtain ⟨s1, s2⟩ := sub_lazy g1 m1
    refine ⟨s1, ?_⟩
    show _ = v' (p - 2^(k-l-1)) - v' p * _
    rw [s2, g2, m2, (hv p hp).2, (hv _ hpg).2]

theorem invLayer_lazy (h : m.WF) {k l : Nat} (hl : l < k) (roots : Nat → MulOperand)
    (hr : ∀ j, 0 < j → j < 2^k → WFOp m (roots j)) {v : Nat → Nat} {v' : Nat → ZMod m.value}
    (hv : ∀ p, p < 2^k → v p < 2 * m.value ∧ ((v p : Nat) : ZMod m.value) = v' p) {p : Nat} (hp : p < 2^k) :
    invLayer (modArithLazy m) k l roots v p < 2 * m.value ∧
    ((invLayer (modArithLazy m) k l roots v p : Nat) : ZMod m.value)
      = invLayer (exactArith (ZMod m.value)) k l (fun j => ((roots j).operand : ZMod m.value)) v' p := by
  have hq := h.lt
  have hi := inv_block_lt hl hp
  have hroot : WFOp m (roots (2^k - 2 * 2^(k-1-l) + 1 + p / (2 * 2^l))) := by
    apply hr
    · exact Nat.add_pos_left (Nat.succ_pos _) _
    · have h1 : 0 < 2^(k-1-l) := Nat.two_pow_pos _
      have h2 : 2 * 2^(k-1-l) ≤ 2^k := by
        rw [← pow_succ']; exact Nat.pow_le_pow_right (by norm_num) (by omega)
      omega
  unfold invLayer
  simp only []
  split
  · rename_i ho
    have hpg := inv_pair_lt hl hp ho
    obtain ⟨g1, g2⟩ := guard_lazy (m := m) (a := v p + v (p + 2^l))
      (by have := (hv _ hp).1; have := (hv _ hpg).1; omega)
    refine ⟨g1, ?_⟩
    show (((modArithLazy m).guard (v p + v (p + 2^l)) : Nat) : ZMod m.value) = v' p + v' (p + 2^l)
    rw [g2, Nat.cast_add, (hv p hp).2, (hv _ hpg).2]
  · have hpg : p - 2^l < 2^k := Nat.lt_of_le_of_lt (Nat.sub_le _ _) hp
    obtain ⟨s1, s2⟩ := sub_lazy (m := m) (hv _ hpg).1 (hv _ hp).1
    obtain ⟨m1, m2⟩ := mulRoot_lazy h hroot (x := (modArithLazy m).sub (v (p - 2^l)) (v p)) (by omega)
    refine ⟨m1, ?_⟩
    show _ = (v' (p - 2^l) - v' p) * _
    rw [m2, s2, (hv p hp).2, (hv _ hpg).2]

/-- FORWARD lazy network: inputs < 4q ⇒ every intermediate and output value < 4q (< 2^63: no overflow in `a + b`,
    `a + 2q - b`), and it computes the exact network modulo q -/
theorem fwd_lazy_sim (h : m.WF) (k : Nat) (roots : Nat → MulOperand)
    (hr : ∀ j, 0 < j → j < 2^k → WFOp m (roots j)) (a : Nat → Nat) (ha : ∀ p, p < 2^k → a p < 4 * m.value) :
    ∀ l, l ≤ k → ∀ p, p < 2^k →
      runFwd (modArithLazy m) k roots a l p < 4 * m.value ∧
      ((runFwd (modArithLazy m) k roots a l p : Nat) : ZMod m.value)
        = runFwd (exactArith (ZMod m.value)) k (fun j => ((roots j).operand : ZMod m.value))
            (fun p => (a p : ZMod m.value)) l p := by
  intro l
  induction l with
  | zero => intro _ p hp; exact ⟨ha p hp, rfl⟩
  | succ l ih =>
    intro hl p hp
    exact fwdLayer_lazy h (by omega) roots hr (ih (by omega)) hp

/-- INVERSE lazy network: inputs < 2q ⇒ every intermediate and output value < 2q, exact modulo q -/
theorem inv_lazy_sim (h : m.WF) (k : Nat) (roots : Nat → MulOperand)
    (hr : ∀ j, 0 < j → j < 2^k → WFOp m (roots j)) (a : Nat → Nat) (ha : ∀ p, p < 2^k → a p < 2 * m.value) :
    ∀ l, l ≤ k → ∀ p, p < 2^k →
      runInv (modArithLazy m) k roots a l p < 2 * m.value ∧
      ((runInv (modArithLazy m) k roots a l p : Nat) : ZMod m.value)
        = runInv (exactArith (ZMod m.value)) k (fun j => ((roots j).operand : ZMod m.value))
            (fun p => (a p : ZMod m.value)) l p := by
  intro l
  induction l with
  | zero => intro _ p hp; exact ⟨ha p hp, rfl⟩
  | succ l ih =>
    intro hl p hp
    exact invLayer_lazy h (by omega) roots hr (ih (by omega)) hp

theorem arrFn_ofFn {α : Type} [Inhabited α] {n : Nat} (f : Fin n → α) {p : Nat} (hp : p < n) :
    arrFn (Array.ofFn f) p = f ⟨p, hp⟩ := array_getD_ofFn f default hp

/-- the array-cached executable network is the function-level network -/
theorem runFwdA_eq {α ρ : Type} [Inhabited α] (A : Arith α ρ) (k : Nat) (roots : Nat → ρ) (a : Array α)
    (hs : a.size = 2^k) : ∀ l, l ≤ k →
      (runFwdA A k roots a l).size = 2^k ∧
      ∀ p, p < 2^k → arrFn (runFwdA A k roots a l) p = runFwd A k roots (arrFn a) l p := by
  intro l
  induction l with
  | zero => intro _; exact ⟨hs, fun p _ => rfl⟩
  | succ l ih =>
    intro hl
    obtain ⟨_, ih2⟩ := ih (by omega)
    refine ⟨by simp [runFwdA], fun p hp => ?_⟩
    show arrFn (Array.ofFn (n := 2^k) (fun i => fwdLayer A k l roots (arrFn (runFwdA A k roots a l)) i.val)) p = _
    rw [arrFn_ofFn _ hp]
    exact fwdLayer_congrG A (by omega) roots ih2 hp

theorem runInvA_eq {α ρ : Type} [Inhabited α] (A : Arith α ρ) (k : Nat) (roots : Nat → ρ) (a : Array α)
    (hs : a.size = 2^k) : ∀ l, l ≤ k →
      (runInvA A k roots a l).size = 2^k ∧
      ∀ p, p < 2^k → arrFn (runInvA A k roots a l) p = runInv A k roots (arrFn a) l p := by
  intro l
  induction l with
  | zero => intro _; exact ⟨hs, fun p _ => rfl⟩
  | succ l ih =>
    intro hl
    obtain ⟨_, ih2⟩ := ih (by omega)
    refine ⟨by simp [runInvA], fun p hp => ?_⟩
    show arrFn (Array.ofFn (n := 2^k) (fun i => invLayer A k l roots (arrFn (runInvA A k roots a l)) i.val)) p = _
    rw [arrFn_ofFn _ hp]
    exact invLayer_congrG A (by omega) roots ih2 hp

/-! ### final reductions of the non-lazy wrappers -/

theorem reduce2 {q x : Nat} (hq : 0 < q) (hx : x < 2 * q) : (if x ≥ q then x - q else x) = x % q := by
  have _ := hq   -- follows from `hx`; callers have it at hand
  split
  · rename_i hge
    rw [Nat.mod_eq_sub_mod hge, Nat.mod_eq_of_lt (by omega)]
  · rw [Nat.mod_eq_of_lt (by omega)]

theorem reduce4 {q x : Nat} (hq : 0 < q) (hx : x < 4 * q) :
    (let y := if x ≥ 2*q then x - 2*q else x; if y ≥ q then y - q else y) = x % q := by
  simp only []
  split
  · rename_i hge
    rw [reduce2 hq (by omega)]
    have : x = x - 2*q + q * 2 := by omega
    conv_rhs => rw [this, Nat.add_mul_mod_self_left]
  · exact reduce2 hq (by omega)

end HC
