import Heathcliff.Proofs.C03K
import Heathcliff.Proofs.C03KW
import Heathcliff.Proofs.C03S
import Heathcliff.Proofs.GenEvalSq
import Heathcliff.Proofs.C02K
import Heathcliff.Proofs.C07L
import Heathcliff.Proofs.GenValid
import Heathcliff.Proofs.GenEvalCt2
import Heathcliff.Proofs.C03T
/-
  C03 — CKKS evaluation.  In this order:
  (a) ring level, written out: the theorems of C02 (`ct_mul_phase`, `translate_phase`) hold in any commutative ring and are
      restated because the CKKS evaluator uses the same index arithmetic (`mulPairs`, `translateShape`); two integer lemmas shared
      with C05 (`rescale_error`, which only renames its hypothesis — the rescaling bound of the MODEL is `ckks_rescale_phase` below —
      and `drop_phase`); the free-standing fold `scaleAfter` (tied to no evaluator; the scale statement of the model is the
      `v.scale = r.scale` conjunct of `ckks_program_sound`).
  (b) the MODEL at the integer level (re-exports of Proofs/C03P, C03K, C03S by `type_of%`, with their docstrings): one theorem per
      operation on the exact phase (tag K1), the program theorem against the reference evaluator (K2), refusals (K3), and the lemmas
      the program theorem is assembled from (`c03k_inv_of_modEq`, the `c03k_*_sound` family, `c03k_obind`; re-exported because the
      audit lists them).
  (c) witnesses (Proofs/C03KW).  (d) translator ties (`Evaluator::is_scale_within_bounds`, `ckks_square`, `ckks_multiply`, the scale
      bookkeeping of the generated code: these are about `Float` as the generated code has it).  (e) `are_close_f64` in exact
      arithmetic (Proofs/C03T); no evaluator of the development calls it: the program evaluator of (b) compares exact rational
      scales for equality.
  Encoder error and decoded-slot error over ℂ are outside every theorem.
-/
namespace HC.C03
open HC Finset
variable {R : Type} [CommRing R]

/-- products of CKKS ciphertexts of any sizes multiply the phases exactly (no noise is added by the tensor product) -/
theorem ckks_mul_phase {n1 n2 : Nat} (h1 : 1 ≤ n1) (h2 : 1 ≤ n2) (c e : Nat → R) (s : R) :
    ctPhase (n1 + n2 - 1) (fun i => ((mulPairs n1 n2 i).map (fun p => c p.1 * e p.2)).sum) s
      = ctPhase n1 c s * ctPhase n2 e s := HC.ct_mul_phase h1 h2 c e s

/-- sums / differences of ciphertexts of different sizes add / subtract the phases exactly -/
theorem ckks_translate_phase (n1 n2 : Nat) (sub : Bool) (a b : Nat → R) (s : R) :
    ctPhase (max n1 n2) (fun i => ((translateShape n1 n2).map (trVal sub a b)).getD i 0) s
      = if sub then ctPhase n1 a s - ctPhase n2 b s else ctPhase n1 a s + ctPhase n2 b s := HC.translate_phase n1 n2 sub a b s

/-- RESCALE, the integer identity only: with x = q_L·x' + ρ the difference x'·q_L − x is −ρ, so the bound on ρ is the bound on it.
    (`hq` is not used.)  The rescaling theorem of the model, with its bound q_L·Σ_k ‖s‖₁^k / 2, is `ckks_rescale_phase`. -/
theorem rescale_error {qL : Nat} (hq : 0 < qL) {x x' ρ : Int} {E : Nat} (hx : x = qL * x' + ρ) (hρ : ρ.natAbs ≤ qL * E) :
    (x' * qL - x).natAbs ≤ qL * E := HC.ckks_rescale_error hq hx hρ

/-- LEVEL DROP: the phase is unchanged modulo the smaller product -/
theorem drop_phase {Q' qL : Nat} (x : Int) : (x % ((Q' * qL : Nat) : Int)) % (Q' : Int) = x % (Q' : Int) := HC.ckks_drop_phase x

/-- scale actions of a list of operations, for abstract scale operations `mulS`, `divS`: one multiplication per product, one division
    per dropped prime, nothing for additive operations.  A definition on its own, tied to no evaluator. -/
inductive SOp where | add | mul (other : Nat) | rescale (prime : Nat) | other
def scaleAfter {σ : Type} (mulS : σ → σ → σ) (divS : σ → Nat → σ) (scales : Nat → σ) : σ → List SOp → σ
  | s, [] => s
  | s, .add :: r => scaleAfter mulS divS scales s r
  | s, .other :: r => scaleAfter mulS divS scales s r
  | s, .mul j :: r => scaleAfter mulS divS scales (mulS s (scales j)) r
  | s, .rescale p :: r => scaleAfter mulS divS scales (divS s p) r

/-- additive operations never change the scale; appending programs composes the folds -/
theorem scale_append {σ : Type} (mulS : σ → σ → σ) (divS : σ → Nat → σ) (scales : Nat → σ) (s : σ) (p q : List SOp) :
    scaleAfter mulS divS scales s (p ++ q) = scaleAfter mulS divS scales (scaleAfter mulS divS scales s p) q := by
  induction p generalizing s with
  | nil => rfl
  | cons o r ih => cases o <;> simp [scaleAfter, ih]

/-! ### translator tie: `Evaluator::is_scale_within_bounds` (src/evaluator.rs) generated into Gen/ValidFns.lean (Proofs/GenValid.lean).
     The accessor chains on the context data and the two float facts (`scale <= 0.0`, `scale.log2() as isize`) are inputs of the generated
     function; the float fact linking `log2` to the hand model's `scale < 2^bits` is an explicit hypothesis (Lean's `Float` is opaque). -/
theorem gen_is_scale_within_bounds_eq (s : Scheme) (plainBits totalBits : Nat) (nonPos : Bool) (l2 : Int)
    (hp : plainBits < 2^63) (ht : totalBits < 2^63) :
    GenV.is_scale_within_bounds s plainBits totalBits nonPos l2 =
      HC.gx_scaleOk nonPos l2 (match s with | .bfv | .bgv => (plainBits : Int) | .ckks => (totalBits : Int)) :=
  HC.gx_is_scale_within_bounds_eq s plainBits totalBits nonPos l2 hp ht
theorem gen_is_scale_within_bounds_ckks (scale : Float) (plainBits totalBits : Nat) (l2 : Int) (ht : totalBits < 2^63) (hp : plainBits < 2^63)
    (hfl : (scale < Float.ofScientific 1 false 0 * (Float.ofNat 2) ^ (Float.ofNat totalBits)) ↔ l2 < (totalBits : Int)) :
    GenV.is_scale_within_bounds .ckks plainBits totalBits (decide (scale ≤ 0.0)) l2 = ckksScaleOk scale totalBits :=
  HC.gx_is_scale_within_bounds_ckks scale plainBits totalBits l2 ht hp hfl


/-! ### CKKS evaluation of the MODEL at the integer level: every operation's effect on Spec.phase (add, sub, negate, multiply = negacyclic product, multiply_plain, rescale with explicit rounding error, drop, relinearize + noise), a program-level soundness theorem by induction over programs (model result within the propagated worst-case bound of the exact reference; scales as exact rationals), refusals
    (statements, hypothesis bundles and non-vacuity instances: Heathcliff/Proofs/C03P.lean and Heathcliff/Proofs/C03K.lean) -/

/-- K1 ADD (`ctTranslate … false`, any two sizes): on canonical NTT-form ciphertexts with equal correction factor (CKKS: both 1)
    the model succeeds, the result is canonical of size max(n1, n2), and its exact phase is the sum of the exact phases modulo Q -/
theorem ckks_add_phase : type_of% @HC.ckks_add_phase := @HC.ckks_add_phase

/-- K1 SUB (`ctTranslate … true`): the exact phase of the result is the difference of the exact phases modulo Q -/
theorem ckks_sub_phase : type_of% @HC.ckks_sub_phase := @HC.ckks_sub_phase

/-- K1 NEGATE (`ctNegate`): the exact phase is negated modulo Q -/
theorem ckks_negate_phase : type_of% @HC.ckks_negate_phase := @HC.ckks_negate_phase

/-- K1 MULTIPLY (`ctMultiplyDyadic` = `ckks_multiply`, any sizes n1, n2 in 2..16 with n1 + n2 − 1 ≤ 16 — a larger product is
    refused by `resize`, in the code and in the model): the model succeeds, the result is a canonical ciphertext of n1 + n2 − 1
    polynomials, and its exact phase is the NEGACYCLIC PRODUCT of the exact phases modulo Q: phase(r) ≡ phase(a) ⋆ phase(b).
    No noise is added by the tensor product. -/
theorem ckks_multiply_phase : type_of% @HC.ckks_multiply_phase := @HC.ckks_multiply_phase

/-- K1 MULTIPLY_PLAIN (`ctMultiplyPlainNtt`): for ANY integer lift `M` of the plaintext polynomial (`c03k_PlainLift`; e.g. the CRT
    lift or the centred CRT lift, `c03k_plainLift_crt/_centred`) the exact phase of the result is phase(a) ⋆ M modulo Q -/
theorem ckks_multiply_plain_phase : type_of% @HC.ckks_multiply_plain_phase := @HC.ckks_multiply_plain_phase

/-- every exact phase is the centred representative: coefficients in (−Q/2, Q/2] -/
theorem ckks_phase_centred : type_of% @HC.ckks_phase_centred := @HC.ckks_phase_centred

/-- no wrap-around: a congruence `phase ≡ y (mod Q)` with |y| < Q/2 is an equality of integers -/
theorem ckks_phase_exact : type_of% @HC.ckks_phase_exact := @HC.ckks_phase_exact

/-- K1 DROP (`modSwitchDropNext` = CKKS `mod_switch_to_next`): the last RNS component is removed, nothing else changes; the exact
    phase at the lower level is the old exact phase modulo Q' = Q / q_last (so it is its centred remainder, `ckks_phase_exact`) -/
theorem ckks_mod_switch_drop_phase : type_of% @HC.ckks_mod_switch_drop_phase := @HC.ckks_mod_switch_drop_phase

/-- K1 RESCALE (`modSwitchScaleNext` on a CKKS level = `rescale_to_next`, any size): the model succeeds, the result is canonical at
    the next level, and with the explicit error polynomial ρ = Σ_k ρ_k ⋆ s^k (`c03k_rescaleErr`; ρ_k the rounding remainders of the
    CRT lifts of the polynomials)
        q_L · phase(result) ≡ phase(ct) + ρ   (mod Q),     2‖ρ‖∞ ≤ q_L · Σ_{k<size} ‖s‖₁^k
    (size 2: 2‖ρ‖∞ ≤ q_L(1 + ‖s‖₁)). -/
theorem ckks_rescale_phase : type_of% @HC.ckks_rescale_phase := @HC.ckks_rescale_phase

/-- K1 RELINEARIZE (+ν) (`relinearize` of C04 on a CKKS level, size 3 → 2): with a relinearisation key satisfying the key equation
    for s² → s (`c04k_KeyEq`, hypotheses of C04K's `relinearize_phase`; concrete instance `c04k_exRelinKeyEq`), the model succeeds,
    the result is a canonical size-2 ciphertext and its exact phase is the old exact phase plus the key-switching noise
    ν = `c04k_nuStd` modulo Q; ‖ν‖∞ is bounded by `switchKey_noise_bound` (restated below) -/
theorem ckks_relinearize_phase : type_of% @HC.ckks_relinearize_phase := @HC.ckks_relinearize_phase

/-- the relinearisation noise: P·‖ν‖∞ ≤ dsz·A·n·Be + ⌊P/2⌋·(1 + ‖s‖₁) for level moduli ≤ A and key errors ‖e_i‖∞ ≤ Be -/
theorem ckks_relinearize_noise : type_of% @HC.ckks_relinearize_noise := @HC.ckks_relinearize_noise

/-- K1 RESCALE, exact form: when phase(ct) + ρ does not wrap around modulo Q the congruence is an equality of integers; then
    |q_L·phase(result) − phase(ct)| ≤ (q_L/2)·Σ_{k<size}‖s‖₁^k, i.e. |phase(result) − phase(ct)/q_L| ≤ (1/2)·Σ_{k<size}‖s‖₁^k
    (size 2: (1 + ‖s‖₁)/2) -/
theorem ckks_rescale_phase_exact : type_of% @HC.ckks_rescale_phase_exact := @HC.ckks_rescale_phase_exact

/-- model level: relinearising a size-3 ciphertext without a key for s² is refused; a size-2 ciphertext is returned unchanged;
    fewer than two polynomials are refused -/
theorem ckks_relinearize_refusals : type_of% @HC.ckks_relinearize_refusals := @HC.ckks_relinearize_refusals

/-- the lemmas `ckks_program_inv` is assembled from: the invariant from a congruence, one `_sound` lemma per operation, and two
    helpers (`c03k_abs_natAbs_le`, `c03k_obind` = `Option.bind_eq_some`) -/
theorem c03k_inv_of_modEq : type_of% @HC.c03k_inv_of_modEq := @HC.c03k_inv_of_modEq

theorem c03k_translate_sound : type_of% @HC.c03k_translate_sound := @HC.c03k_translate_sound

theorem c03k_neg_sound : type_of% @HC.c03k_neg_sound := @HC.c03k_neg_sound

theorem c03k_mul_sound : type_of% @HC.c03k_mul_sound := @HC.c03k_mul_sound

theorem c03k_mulPlain_sound : type_of% @HC.c03k_mulPlain_sound := @HC.c03k_mulPlain_sound

theorem c03k_drop_sound : type_of% @HC.c03k_drop_sound := @HC.c03k_drop_sound

theorem c03k_abs_natAbs_le : type_of% @HC.c03k_abs_natAbs_le := @HC.c03k_abs_natAbs_le

theorem c03k_rescale_sound : type_of% @HC.c03k_rescale_sound := @HC.c03k_rescale_sound

theorem c03k_relin_sound : type_of% @HC.c03k_relin_sound := @HC.c03k_relin_sound

theorem c03k_obind : type_of% @HC.c03k_obind := @HC.c03k_obind

/-- K2 (invariant form): if the MODEL evaluation of a program succeeds and the reference evaluation (interval arithmetic) is defined,
    the model's result satisfies the invariant against the reference result -/
theorem ckks_program_inv : type_of% @HC.ckks_program_inv := @HC.ckks_program_inv

/-- K2: the integer-level statement of C03's first sentence.  For every program over add, sub, negate, multiply, multiply_plain,
    rescale, mod-switch, relinearize (the key-switching hypotheses `c03k_RelinOK` are needed only if the program relinearises): if the
    MODEL evaluation succeeds with value `v` AND the reference evaluation is defined and yields `r` (every intermediate interval fits
    the modulus of its level, `c03k_fits` — without this proviso nothing is claimed), then `v` is at the level the reference
    predicts, its recorded scale is EXACTLY the reference scale (products for multiplications, quotients by the dropped primes for
    rescalings), it has the predicted number of polynomials, and every coefficient of its exact phase is within the computed
    worst-case bound `r.err` of the reference polynomial `r.val` (itself bounded by `r.mag`) -/
theorem ckks_program_sound : type_of% @HC.ckks_program_sound := @HC.ckks_program_sound

/-- operands in different representations are refused by add / sub -/
theorem ckks_add_refuses_repr : type_of% @HC.ckks_add_refuses_repr := @HC.ckks_add_refuses_repr

/-- multiply refuses coefficient-form operands -/
theorem ckks_multiply_refuses_coeff : type_of% @HC.ckks_multiply_refuses_coeff := @HC.ckks_multiply_refuses_coeff

/-- K1 SQUARE: `ckksSquare` (the model of `ckks_square`: size-2 fast path `c0², c0·c1 + c0·c1, c1²`, `ckks_multiply(x, x.clone())` otherwise;
    run by the driver for `ct_op square`) IS the product of the ciphertext with itself, for every canonical ciphertext -/
theorem ckksSquare_eq : type_of% @HC.ckksSquare_eq := @HC.ckksSquare_eq

/-- K1 SQUARE, integer level (any size n in 2..8): the exact phase of the square is the negacyclic square of the exact phase modulo Q;
    the result is a canonical ciphertext of 2n − 1 polynomials; no noise is added -/
theorem ckks_square_phase : type_of% @HC.ckks_square_phase := @HC.ckks_square_phase

/-- square refuses a coefficient-form operand, and more than 8 polynomials (result size > 16) -/
theorem ckks_square_refuses_coeff : type_of% @HC.ckks_square_refuses_coeff := @HC.ckks_square_refuses_coeff
theorem ckks_square_refuses_size : type_of% @HC.ckksSquare_refuse_size := @HC.ckksSquare_refuse_size

/-- translator tie: the DATA of `Evaluator::ckks_square`, generated over the flat buffer (`GenC.ct_ckks_square`), fast path (size 2,
    NTT form) = the flattened `ckksSquare` of the model - the in-place order `c2 = c1·c1, c1 = c0·c1, c1 += c1, c0 = c0·c0` -, THEN the
    bookkeeping of a ciphertext product (`ckksProductBookkeeping`) -/
theorem gen_ct_ckks_square_eq : type_of% @HC.gs_ckks_square_eq := @HC.gs_ckks_square_eq

/-- dispatch: coefficient form refused; every size but 2 goes to `ckks_multiply(x, &x.clone())` — as the model by definition -/
theorem gen_ct_ckks_square_dispatch : type_of% @HC.gs_ckks_square_dispatch := @HC.gs_ckks_square_dispatch
theorem ckksSquare_fallback : type_of% @HC.ckksSquare_fallback := @HC.ckksSquare_fallback

/-- translator tie: the DATA LOOPS of `Evaluator::ckks_multiply` (`GenC.ct_ckks_multiply` over the flat buffers: resize, nested loops over the
    visited pairs, copy over the whole buffer, scale bookkeeping) = the flattened `ctMultiplyDyadic` of the model, THEN `ckksProductBookkeeping` — operands
    of ANY sizes s1, s2 ≥ 1; the `resize` refusal and arithmetic traps included -/
theorem gen_ct_ckks_multiply_eq : type_of% @HC.gs_ckks_multiply_eq := @HC.gs_ckks_multiply_eq

/-- GENERATED = MODEL (`ckks_square`, EVERY size ≥ 1, both representations): the generated dispatch / fast path with the fallback route resolved by the
    generated `ckks_multiply` on the ciphertext and its clone (`gs_ckks_square_run`) = the flattened `ckksSquare`, then the product bookkeeping.
    With `ckksSquare_eq` / `ckks_square_phase`: what the code's `ckks_square` returns has the negacyclic square of the exact phase. -/
theorem gen_ct_ckks_square_all : type_of% @HC.gs_ckks_square_run_eq := @HC.gs_ckks_square_run_eq

/-- multiply_plain refuses a coefficient-form ciphertext -/
theorem ckks_multiply_plain_refuses_coeff : type_of% @HC.ckks_multiply_plain_refuses_coeff := @HC.ckks_multiply_plain_refuses_coeff

/-- rescale / mod-switch refuse on the last level and (CKKS) on coefficient-form input -/
theorem ckks_rescale_refusals : type_of% @HC.ckks_rescale_refusals := @HC.ckks_rescale_refusals

/-- the model's float scale predicate `ckksScaleOk` read backwards (its definition unfolded): false exactly when scale ≤ 0 or
    scale ≥ 2^bits in IEEE comparisons -/
theorem ckks_scaleOk_false_iff : type_of% @HC.ckks_scaleOk_false_iff := @HC.ckks_scaleOk_false_iff

theorem c03k_scaleOk_iff : type_of% @HC.c03k_scaleOk_iff := @HC.c03k_scaleOk_iff

/-- program level: operands on different levels are refused by add / sub / multiply / multiply_plain -/
theorem ckks_prog_refuses_levels : type_of% @HC.ckks_prog_refuses_levels := @HC.ckks_prog_refuses_levels

/-- program level: unequal scales (exact rationals; the library tests `are_close_f64`) are refused by add / sub -/
theorem ckks_prog_refuses_scale_mismatch : type_of% @HC.ckks_prog_refuses_scale_mismatch := @HC.ckks_prog_refuses_scale_mismatch

/-- program level: a product scale out of bounds (not 0 < s·s' < 2^bits(Q)) is refused by multiply / multiply_plain -/
theorem ckks_prog_refuses_oversize_scale : type_of% @HC.ckks_prog_refuses_oversize_scale := @HC.ckks_prog_refuses_oversize_scale

/-- program level: invalid operands (`ctValid` false, empty, or coefficient form) are refused by every operation -/
theorem ckks_prog_refuses_invalid : type_of% @HC.ckks_prog_refuses_invalid := @HC.ckks_prog_refuses_invalid

/-- program level: relinearisation refuses invalid operands and sizes other than 3 -/
theorem ckks_prog_relin_refusals : type_of% @HC.ckks_prog_relin_refusals := @HC.ckks_prog_relin_refusals

/-- program level: rescale / mod-switch below level 0 are refused -/
theorem ckks_prog_refuses_last_level : type_of% @HC.ckks_prog_refuses_last_level := @HC.ckks_prog_refuses_last_level

/-! ### witnesses (Proofs/C03KW): every hypothesis bundle of the theorems above holds on concrete objects and the programs run.
     `c03k_ex…` without a digit: the chain N = 4, q = {97, 113} → {97} of World with the program `rescale (mul x x)`; `c03k_exRL…` and the names
     ending in 2 or 1: the key level N = 2, q = 13, P = 17 of C04T / C04K with the program `relin (mul x x)`.  The undocumented lines are
     the steps the documented ones are assembled from (the audit lists them). -/

theorem c03k_exL1_ok : type_of% @HC.c03k_exL1_ok := @HC.c03k_exL1_ok

theorem c03k_exL0_ok : type_of% @HC.c03k_exL0_ok := @HC.c03k_exL0_ok

/-- `c03k_Next` holds between the two levels the driver builds for {97, 113} and {97} -/
theorem c03k_exNext : type_of% @HC.c03k_exNext := @HC.c03k_exNext

/-- `c03k_ChainOK` is satisfiable (all parts except the concrete `Next` come from `mkLevel_facts`, i.e. from the model's constructors) -/
theorem c03k_exChainOK : type_of% @HC.c03k_exChainOK := @HC.c03k_exChainOK

theorem c03k_exPhase : type_of% @HC.c03k_exPhase := @HC.c03k_exPhase

theorem c03k_exPhase0 : type_of% @HC.c03k_exPhase0 := @HC.c03k_exPhase0

theorem c03k_exCanon : type_of% @HC.c03k_exCanon := @HC.c03k_exCanon

theorem c03k_exInv : type_of% @HC.c03k_exInv := @HC.c03k_exInv

/-- an environment with one input ciphertext and no plaintexts -/
theorem c03k_env_single : type_of% @HC.c03k_env_single := @HC.c03k_env_single

/-- `c03k_EnvOK` is satisfiable -/
theorem c03k_exEnv : type_of% @HC.c03k_exEnv := @HC.c03k_exEnv

theorem c03k_exRun_ok : type_of% @HC.c03k_exRun_ok := @HC.c03k_exRun_ok

theorem c03k_exRef_ok : type_of% @HC.c03k_exRef_ok := @HC.c03k_exRef_ok

/-- the main theorem applies to a concrete run: level 0, scale 8·8/113, size 3, and every phase coefficient within the bound -/
theorem c03k_program_nonvacuous : type_of% @HC.c03k_program_nonvacuous := @HC.c03k_program_nonvacuous

theorem c03k_exRL_wf : type_of% @HC.c03k_exRL_wf := @HC.c03k_exRL_wf

theorem c03k_exRL_levelQ : type_of% @HC.c03k_exRL_levelQ := @HC.c03k_exRL_levelQ

/-- `c03k_KeyLevelOf` is satisfiable -/
theorem c03k_exRL_of : type_of% @HC.c03k_exRL_of := @HC.c03k_exRL_of

theorem c03k_exRL_ct : type_of% @HC.c03k_exRL_ct := @HC.c03k_exRL_ct

/-- all hypotheses of `ckks_relinearize_phase` hold simultaneously; its conclusion on the instance -/
theorem c03k_relinearize_nonvacuous : type_of% @HC.c03k_relinearize_nonvacuous := @HC.c03k_relinearize_nonvacuous

theorem c03k_canon_kl : type_of% @HC.c03k_canon_kl := @HC.c03k_canon_kl

theorem c03k_exRL_tool : type_of% @HC.c03k_exRL_tool := @HC.c03k_exRL_tool

theorem c03k_exChain1OK : type_of% @HC.c03k_exChain1OK := @HC.c03k_exChain1OK

theorem c03k_exPhase2 : type_of% @HC.c03k_exPhase2 := @HC.c03k_exPhase2

theorem c03k_exInv2 : type_of% @HC.c03k_exInv2 := @HC.c03k_exInv2

/-- `c03k_RelinOK` is satisfiable -/
theorem c03k_exRelinOK : type_of% @HC.c03k_exRelinOK := @HC.c03k_exRelinOK

theorem c03k_exRun2_ok : type_of% @HC.c03k_exRun2_ok := @HC.c03k_exRun2_ok

theorem c03k_exRef2_ok : type_of% @HC.c03k_exRef2_ok := @HC.c03k_exRef2_ok

/-- the program theorem applies to a concrete run that multiplies and relinearises -/
theorem c03k_program_relin_nonvacuous : type_of% @HC.c03k_program_relin_nonvacuous := @HC.c03k_program_relin_nonvacuous

/-! ### translator tie: the CKKS scale bookkeeping of `Evaluator::ckks_multiply`, `ckks_square`, `multiply_plain_ntt` and the scale
     refusal of `mod_switch_drop_to_next_internal`, generated from src/evaluator.rs (Gen/EvalCtFns.lean, Gen/EvalFns.lean) = the decision
     functions of Model/Evaluator.lean (Proofs/GenEval2.lean, Proofs/GenEvalCt2.lean).  Scales are floats, opaque to the translator: the skeletons
     track WHICH scale the slot holds (own / product) and take the verdicts of `is_scale_within_bounds` about the own and the product scale, at
     the operands' level and at the first level, as separate Boolean inputs.  Tied by the proofs: the product is recorded, the check comes AFTER
     the data, and the verdict consulted is the one about the PRODUCT at the OPERANDS' level (rule of `c03k_opMul` / `c03k_opMulPlain`). -/
theorem gen_ckks_multiply_bookkeeping_eq : type_of% @HC.gl_ckks_multiply_eq := @HC.gl_ckks_multiply_eq
theorem gen_ckks_square_bookkeeping_eq : type_of% @HC.gl_ckks_square_eq := @HC.gl_ckks_square_eq
theorem gen_ckks_multiply_refuses : type_of% @HC.gl_ckks_multiply_refuses := @HC.gl_ckks_multiply_refuses
theorem gen_multiply_plain_ntt_eq : type_of% @HC.gc_multiply_plain_ntt_eq := @HC.gc_multiply_plain_ntt_eq
theorem gen_mod_switch_drop_decision_bits : type_of% @HC.gl_mod_switch_drop_decision_bits := @HC.gl_mod_switch_drop_decision_bits
theorem gen_mod_switch_drop_refuses_unfit : type_of% @HC.gl_mod_switch_drop_refuses_unfit := @HC.gl_mod_switch_drop_refuses_unfit
/-- non-vacuity of the hypothesis bundle of the bookkeeping ties (two fresh ciphertexts, N = 8192, three moduli) -/
example : HC.GenC.ckks_multiply_sk true true 2 2 8192 3 true true true true = .ok (3, 1) := by
  rw [HC.gl_ckks_multiply_eq _ _ _ _ _ _ _ _ _ _ (by norm_num) (by norm_num) (by norm_num) (by norm_num)]; decide

/-- `multiply_plain_normal` (coefficient-form operands): the ROUTE (monomial shortcut / generic NTT route, with / without the fast plain lift; the
    data steps are codes, the last of the generic route being the FULL inverse transform `intt_ps`) and the CKKS scale rule at both exits -/
theorem gen_multiply_plain_normal_plan_eq : type_of% @HC.gl_multiply_plain_normal_plan_eq := @HC.gl_multiply_plain_normal_plan_eq
example : HC.GenC.ckks_square_sk true 2 8192 3 true true true true = .ok (3, 1) := by
  rw [HC.gl_ckks_square_eq _ _ _ _ _ _ _ _ (by norm_num) (by norm_num) (by norm_num) (by norm_num) (by norm_num)]; decide
example : HC.GenC.ct_multiply_plain_normal_plan 5 false true 8192 3 .ckks true false = .error .refused := by
  rw [HC.gl_multiply_plain_normal_plan_eq _ _ _ _ _ _ _ _ (by norm_num)]; rfl
/-! ### scale agreement: `util::are_close_f64` (what `Evaluator::match_scale` calls) in exact arithmetic, `areCloseDy`.  A statement about
     that function alone: the evaluators of the development do not call it (C03K's `c03k_opTranslate` asks for equal rational scales). -/

/-- identical scales are accepted -/
theorem scales_close_self : type_of% @HC.c03t_areClose_self := @HC.c03t_areClose_self
/-- the verdict is symmetric in the operands -/
theorem scales_close_symm : type_of% @HC.c03t_areClose_symm := @HC.c03t_areClose_symm
/-- scales whose relative difference is at least 2^-45 are refused; the statement is in the scaled integers of the definition
    (35184372088832 = 2^45; the definition's tolerance is 2^-52, the range between is left open) -/
theorem scales_far_refused : type_of% @HC.c03t_areClose_far := @HC.c03t_areClose_far
/-- non-vacuity: 2^40 against 2^40·(1 + 2^-30) (mantissas 2^52 and 2^52 + 2^22 at exponent -12) is refused; against itself accepted;
    one unit in the last place apart is still accepted (the tolerance of the code is one machine epsilon) -/
example : HC.areCloseDy 4503599627370496 (-12) 4503599631564800 (-12) = false := by decide
example : HC.areCloseDy 4503599627370496 (-12) 4503599627370496 (-12) = true := by decide
example : HC.areCloseDy 4503599627370496 (-12) 4503599627370497 (-12) = true := by decide
example : HC.areCloseDy 4503599627370496 (-12) 4503599627370498 (-12) = false := by decide

end HC.C03
