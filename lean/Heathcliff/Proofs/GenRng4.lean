/- What every public operation of the generated generator keeps (`GenInv`: buffer of `BUFFER_SIZE` bytes, cursor inside it), and sequences of
   operations on the GENERATED `fill_bytes` / `next_u32` / `next_u64`: one operation is the model's `step` (`gs_genStep_eq`), hence any
   sequence from any state with the invariant is the model's `run` (`gs_genRun_eq`).  Helper prefix `gs_`.  No Mathlib. -/
import Heathcliff.Proofs.GenRng3
namespace HC.GenRng
open HC HC.Rng

theorem gs_flatCM_length (k n : Nat) (c : List (List Nat)) : (flatCM k n c).length = k * n := by simp [flatCM]

theorem gs_fillBytes_pos_le {xof : Xof} : ∀ (n : Nat) (s : St), s.pos ≤ BUF → (fillBytes xof s n).2.pos ≤ BUF := by
  intro n
  induction n with
  | zero => intro s h; rw [fillBytes_zero]; exact h
  | succ n ih =>
    intro s _
    rw [fillBytes_succ]
    apply ih
    have := preFill_pos_lt xof s
    simp only [readByte]; omega

/-- what every public operation keeps: the buffer is a `BUFFER_SIZE` array and the cursor is inside it (or at its end) -/
def GenInv (s : St) : Prop := SizedSt s ∧ s.pos ≤ BUF

theorem genInv_fromSeed (seed : Seed) : GenInv (fromSeed seed) := ⟨sizedSt_fromSeed seed, by simp [fromSeed]⟩

/-- `Op.fill n` asks for a `usize` number of bytes -/
def OpOK : Op → Prop
  | .fill n => n < 2^64
  | _ => True

/-- one operation on the GENERATED functions (`fill n`: a zeroed destination of `n` bytes) -/
def gs_genStep (X : XofL) (g : BlakeRNG) : Op → R (Out × BlakeRNG)
  | .fill n => do let (g, b) ← fill_bytes X g (List.replicate n 0); pure (.bytes b, g)
  | .u32 => do let (g, v) ← next_u32 X g; pure (.word v, g)
  | .u64 => do let (g, v) ← next_u64 X g; pure (.word v, g)

def gs_genRun (X : XofL) : BlakeRNG → List Op → R (List Out × BlakeRNG)
  | g, [] => pure ([], g)
  | g, o :: os => do let (r, g) ← gs_genStep X g o; let (rs, g) ← gs_genRun X g os; pure (r :: rs, g)

theorem gs_genStep_eq {xof : Xof} (hx : SizedXof xof) (s : St) (hs : GenInv s) (o : Op) (ho : OpOK o) :
    gs_genStep (xofL xof) (ofSt s) o = .ok ((step xof s o).1, ofSt (step xof s o).2) ∧ GenInv (step xof s o).2 := by
  cases o with
  | fill n =>
    have h := gn_fill_bytes_eq hx s hs.1 (List.replicate n 0) (by simpa [OpOK] using ho)
    simp only [List.length_replicate] at h
    refine ⟨by simp only [gs_genStep, h, bind, Except.bind, pure, Except.pure, step], ?_⟩
    exact ⟨sizedSt_fillBytes hx n s hs.1, gs_fillBytes_pos_le n s hs.2⟩
  | u32 =>
    refine ⟨by simp only [gs_genStep, gn_next_u32_eq hx s hs.1 hs.2, bind, Except.bind, pure, Except.pure, step], ?_⟩
    exact gn_nextWord_inv _ _ _ (by decide) hx s hs.1
  | u64 =>
    refine ⟨by simp only [gs_genStep, gn_next_u64_eq hx s hs.1 hs.2, bind, Except.bind, pure, Except.pure, step], ?_⟩
    exact gn_nextWord_inv _ _ _ (by decide) hx s hs.1

/-- by induction on the sequence: `gs_genStep_eq` gives the step and hands the invariant on -/
theorem gs_genRun_eq {xof : Xof} (hx : SizedXof xof) (ops : List Op) (s : St) (hs : GenInv s) (hops : ∀ o ∈ ops, OpOK o) :
    gs_genRun (xofL xof) (ofSt s) ops = .ok ((run xof s ops).1, ofSt (run xof s ops).2) := by
  induction ops generalizing s with
  | nil => rfl
  | cons o os ih =>
    obtain ⟨h1, h2⟩ := gs_genStep_eq hx s hs o (hops o List.mem_cons_self)
    have h3 := ih (step xof s o).2 h2 (fun o' ho' => hops o' (List.mem_cons_of_mem _ ho'))
    simp only [gs_genRun, h1, h3, bind, Except.bind, pure, Except.pure, run]

end HC.GenRng
