import Heathcliff.Proofs.C18
import Heathcliff.Proofs.GenMpRlk
import Mathlib.Tactic.Choose

/- C18 — multiparty protocols agree across parties and message orders, keep plaintexts.
   Helper lemmas are in Heathcliff/Proofs/C18.lean (the model) and Heathcliff/Proofs/GenMp*.lean (the generated functions); the theorems about
   `finish` and about the generated protocol functions are PROVED here, where they are stated (`finish_sum`, `recv_finish_sum`, `gen_rlk_*`, …).

   Reading guide.  `revealRun o count id own d` is one party's whole use of `PolynomialRevelationProtocol`: a fresh object holding
   the party's own polynomial, the messages `d = [(sender, polynomial), …]` fed to `receive` IN ARRIVAL ORDER, then `finish`.
   The round functions (`pkShare`, `rlkRound1/2`, `ksShare`, `decShare`, `pksShare`, `c2sShare`, `s2cShare`) are the code's
   formulas, written once over the ring operations (`Ops`); here they are instantiated with an arbitrary commutative ring `A`
   (`Ops.ring`; the NTT is a ring isomorphism, so representation changes are the identity at this level — the RNS/NTT instance
   is tied to the Rust code bit for bit and to exact schoolbook arithmetic in Z_q[X]/(X^N+1) by the correspondence harness, verif/harness/src/c18.rs with lean/Driver/C18.lean).
   `c18_nz sch t e` is the noise term as the code adds it: `t·e` in BGV, `e` otherwise.  Parties are 0..n-1, sums are over `range n`. -/
namespace HC.C18
open HC HC.MP Finset

variable {α : Type} {A : Type} [CommRing A]

/-! ## finish: order independence, agreement, refusal -/

/-- ORDER INDEPENDENCE (any ring operations, any party): two delivery histories that are permutations of each other (each sender
    at most once) leave the party with the same outcome of `finish` — result or refusal. -/
theorem finish_order_independent (o : Ops α) (count id : Nat) (own : α) (d1 d2 : List (Nat × α))
    (hp : d1.Perm d2) (hn : (d1.map Prod.fst).Nodup) :
    revealRun o count id own d1 = revealRun o count id own d2 := by
  unfold revealRun
  rw [c18_receiveAll_perm hp hn]

/-- the fold itself is insensitive to the order of the slots (commutative fold): permuting the filled slots does not change the sum.
    (The code adds in slot order, and different parties skip different slots; this is why they still agree.) -/
theorem finish_fold_perm (l1 l2 : List (Option A)) (hp : l1.Perm l2) (acc : A) :
    sumSlots (Ops.ring (α := A)).add acc l1 = sumSlots (Ops.ring (α := A)).add acc l2 := by
  rw [c18_sumSlots_ring, c18_sumSlots_ring, (hp.filterMap _).sum_eq]

/-- EVERY PARTY COMPUTES THE SAME SUM: party `id` broadcasts `msg id`; once the messages of all other parties have arrived
    (any order, repetitions of the same message allowed) `finish` returns Σ_j msg j — the same value for every party. -/
theorem finish_sum (count id : Nat) (hid : id < count) (msg : Nat → A) (d : List (Nat × A))
    (hr : ∀ x ∈ d, x.1 < count ∧ x.1 ≠ id ∧ x.2 = msg x.1)
    (hall : ∀ j, j < count → j ≠ id → j ∈ d.map Prod.fst) :
    revealRun (Ops.ring (α := A)) count id (msg id) d = .ok (∑ j ∈ range count, msg j) := by
  obtain ⟨p', h1, hA⟩ := c18_receiveAll_state d (Reveal.new count id (msg id))
    (fun x hx => by rw [c18_new_length]; exact (hr x hx).1)
  have hnot : id ∉ d.map Prod.fst := fun hmem => by
    obtain ⟨x, hx, hx2⟩ := List.mem_map.mp hmem
    exact (hr x hx).2.1 hx2
  have hsl : p'.slots = (List.range count).map fun j => if j = id then none else some (msg j) := by
    apply List.ext_getElem?
    intro j
    by_cases hj : j < count
    · by_cases hji : j = id
      · subst hji; rw [hA.frame j hnot]; simp [Reveal.new, hj]
      · rw [hA.hit msg (fun x hx => (hr x hx).2.2) j (hall j hj hji)]; simp [hj, hji]
    · rw [List.getElem?_eq_none (by rw [hA.length, c18_new_length]; exact Nat.le_of_not_lt hj), List.getElem?_eq_none (by simpa using hj)]
  unfold revealRun
  rw [h1]
  simp only [Reveal.finish]
  have hsent : p'.allSent = true := by
    unfold Reveal.allSent
    rw [c18_allSentFrom_iff, hsl, hA.id]
    intro k hk
    have hk' : k < count := by simpa using hk
    by_cases hki : k = id
    · exact Or.inr (by simpa [Reveal.new] using hki)
    · left; simp [hk', hki]
  rw [if_pos hsent, c18_sumSlots_ring, hA.own, hsl, c18_filterMap_range_sum]
  congr 1
  have hterm : ∀ j ∈ range count, (if j = id then none else some (msg j)).getD 0 = msg j - (if j = id then msg id else 0) := by
    intro j _; by_cases hji : j = id <;> simp [hji]
  rw [Finset.sum_congr rfl hterm, Finset.sum_sub_distrib, Finset.sum_ite_eq' (range count) id (fun _ => msg id)]
  simp [hid, Reveal.new]

theorem all_parties_agree (count i k : Nat) (hi : i < count) (hk : k < count) (msg : Nat → A) (di dk : List (Nat × A))
    (hri : ∀ x ∈ di, x.1 < count ∧ x.1 ≠ i ∧ x.2 = msg x.1) (hai : ∀ j, j < count → j ≠ i → j ∈ di.map Prod.fst)
    (hrk : ∀ x ∈ dk, x.1 < count ∧ x.1 ≠ k ∧ x.2 = msg x.1) (hak : ∀ j, j < count → j ≠ k → j ∈ dk.map Prod.fst) :
    revealRun (Ops.ring (α := A)) count i (msg i) di = revealRun (Ops.ring (α := A)) count k (msg k) dk := by
  rw [finish_sum count i hi msg di hri hai, finish_sum count k hk msg dk hrk hak]

/-- REFUSAL (any ring operations): if the message of some other party `j` has not arrived, `finish` refuses. -/
theorem finish_refuses_incomplete (o : Ops α) (count id : Nat) (own : α) (d : List (Nat × α))
    (hr : ∀ x ∈ d, x.1 < count) (j : Nat) (hj : j < count) (hji : j ≠ id) (hmiss : j ∉ d.map Prod.fst) :
    revealRun o count id own d = .error .refused := by
  obtain ⟨p', h1, hA⟩ := c18_receiveAll_state d (Reveal.new count id own) (fun x hx => by rw [c18_new_length]; exact hr x hx)
  unfold revealRun
  rw [h1]
  simp only [Reveal.finish]
  have : p'.allSent ≠ true := by
    intro h
    unfold Reveal.allSent at h
    have hn : (Reveal.new count id own).slots[j]? = some none := by
      simp only [Reveal.new, List.getElem?_replicate, if_pos hj]
    rcases (c18_allSentFrom_iff _ _ _).mp h j (by rw [hA.length, c18_new_length]; exact hj) with h | h
    · rw [hA.frame j hmiss, hn] at h; cases h
    · rw [hA.id, Nat.zero_add] at h; exact hji h
  simp [this]

/-- non-vacuity: three parties, party 1 receives 2 then 0, or 0 then 2: same sum; without party 2's message: refusal -/
example : revealRun (Ops.ring (α := ℤ)) 3 1 10 [(2, 100), (0, 1)] = .ok 111 ∧
          revealRun (Ops.ring (α := ℤ)) 3 1 10 [(0, 1), (2, 100)] = .ok 111 ∧
          revealRun (Ops.ring (α := ℤ)) 3 1 10 [(0, 1)] = .error .refused := by decide

/-! ## collective keys -/

/-- COLLECTIVE PUBLIC KEY: the sum of the broadcast shares p0_i = -(s_i·a + e_i) is exactly the single-party share for the secret
    Σ s_i with noise Σ e_i, and (Σ p0_i, a) satisfies the public-key relation p0 + a·s = -noise. -/
theorem collective_pk (n : Nat) (sch : Scheme) (t : Nat) (s e : Nat → A) (a : A) :
    ∃ p0 : Nat → A, (∀ i, pkShare Ops.ring sch t (s i) a (e i) = .ok (p0 i)) ∧
      pkShare Ops.ring sch t (∑ i ∈ range n, s i) a (∑ i ∈ range n, e i) = .ok (∑ i ∈ range n, p0 i) ∧
      (∑ i ∈ range n, p0 i) + a * (∑ i ∈ range n, s i) = - c18_nz sch t (∑ i ∈ range n, e i) := by
  refine ⟨fun i => -(s i * a + c18_nz sch t (e i)), fun i => c18_pkShare sch t (s i) a (e i), ?_, ?_⟩
  · rw [c18_pkShare, Finset.sum_neg_distrib, c18_sum_mul_add, c18_nz_sum]
  · rw [Finset.sum_neg_distrib, c18_sum_mul_add, c18_nz_sum]; ring

/-- … and every party obtains this key: party `id`, having received all other shares in any order, finishes with Σ p0_i. -/
theorem collective_pk_all_parties (n id : Nat) (hid : id < n) (sch : Scheme) (t : Nat) (s e : Nat → A) (a : A)
    (d : List (Nat × A))
    (hr : ∀ x ∈ d, x.1 < n ∧ x.1 ≠ id ∧ pkShare Ops.ring sch t (s x.1) a (e x.1) = .ok x.2)
    (hall : ∀ j, j < n → j ≠ id → j ∈ d.map Prod.fst) :
    ∃ own, pkShare Ops.ring sch t (s id) a (e id) = .ok own ∧
      (revealRun (Ops.ring (α := A)) n id own d).toOption
        = (pkShare Ops.ring sch t (∑ i ∈ range n, s i) a (∑ i ∈ range n, e i)).toOption := by
  obtain ⟨p0, h1, h2, _⟩ := collective_pk n sch t s e a
  refine ⟨p0 id, h1 id, ?_⟩
  rw [h2, finish_sum n id hid p0 d (fun x hx => ?_) hall]
  obtain ⟨ha, hb, hc⟩ := hr x hx
  refine ⟨ha, hb, ?_⟩
  rw [h1 x.1] at hc
  exact (Except.ok.inj hc).symm

/-- COLLECTIVE RELINEARISATION KEY (two rounds, one decomposition index with gadget element `w`, common `a`):
    with h0 = Σ h0_i, h1 = Σ h1_i of round 1 and h0' = Σ h0'_i, h1' = Σ h1'_i of round 2 (computed from the summed h0, h1),
    the assembled key (k0, k1) = (h0' + h1', h1) satisfies the EXACT identity
        k0 + k1·s = s²·w + ( s·E0 + u·E1 + E2 + E3 ),     s = Σ s_i, u = Σ u_i, Ej = noise(Σ e_j,i):
    it is a key-switching key for s² under s whose noise is the small polynomial in brackets. -/
theorem collective_rlk (n : Nat) (sch : Scheme) (t : Nat) (s u e0 e1 e2 e3 : Nat → A) (a w : A) :
    ∃ (r1 r2 : Nat → A × A) (k : A × A),
      (∀ i, rlkRound1 Ops.ring sch t (s i) a (u i) (e0 i) (e1 i) w = .ok (r1 i)) ∧
      (∀ i, rlkRound2 Ops.ring sch t (s i) (u i) (∑ j ∈ range n, (r1 j).1) (∑ j ∈ range n, (r1 j).2) (e2 i) (e3 i) = .ok (r2 i)) ∧
      rlkFinish Ops.ring (∑ i ∈ range n, (r2 i).1) (∑ i ∈ range n, (r2 i).2) (∑ j ∈ range n, (r1 j).2) = .ok k ∧
      k.1 + k.2 * (∑ i ∈ range n, s i)
        = (∑ i ∈ range n, s i) * (∑ i ∈ range n, s i) * w
          + ((∑ i ∈ range n, s i) * c18_nz sch t (∑ i ∈ range n, e0 i) + (∑ i ∈ range n, u i) * c18_nz sch t (∑ i ∈ range n, e1 i)
             + c18_nz sch t (∑ i ∈ range n, e2 i) + c18_nz sch t (∑ i ∈ range n, e3 i)) := by
  refine ⟨fun i => (-(u i * a) + s i * w + c18_nz sch t (e0 i), s i * a + c18_nz sch t (e1 i)),
          fun i => (s i * (∑ j ∈ range n, (-(u j * a) + s j * w + c18_nz sch t (e0 j))) + c18_nz sch t (e2 i),
                    (u i - s i) * (∑ j ∈ range n, (s j * a + c18_nz sch t (e1 j))) + c18_nz sch t (e3 i)),
          _, fun i => c18_rlkRound1 .., fun i => c18_rlkRound2 .., c18_rlkFinish .., ?_⟩
  simp only
  have h0 : ∑ j ∈ range n, (-(u j * a) + s j * w + c18_nz sch t (e0 j))
      = -((∑ j ∈ range n, u j) * a) + (∑ j ∈ range n, s j) * w + c18_nz sch t (∑ j ∈ range n, e0 j) := by
    rw [Finset.sum_add_distrib, Finset.sum_add_distrib, Finset.sum_neg_distrib, ← Finset.sum_mul, ← Finset.sum_mul, c18_nz_sum]
  have h1 : ∑ j ∈ range n, (s j * a + c18_nz sch t (e1 j)) = (∑ j ∈ range n, s j) * a + c18_nz sch t (∑ j ∈ range n, e1 j) := by
    rw [c18_sum_mul_add, c18_nz_sum]
  rw [h0, h1, c18_sum_mul_add, c18_nz_sum, c18_sum_mul_add, c18_nz_sum, Finset.sum_sub_distrib]
  ring

/-! ## protocols on ciphertexts: new phase = old phase + Σ noise -/

/-- COLLECTIVE DECRYPTION: c0 + Σ h_i = (c0 + c1·s) + noise(Σ e_i), s = Σ s_i -/
theorem decrypt_sum (n : Nat) (sch : Scheme) (t : Nat) (ntt : Bool) (s e : Nat → A) (c0 c1 : A) :
    ∃ h : Nat → A, (∀ i, decShare Ops.ring sch t ntt (s i) c1 (e i) = .ok (h i)) ∧
      c0 + ∑ i ∈ range n, h i = (c0 + c1 * ∑ i ∈ range n, s i) + c18_nz sch t (∑ i ∈ range n, e i) := by
  refine ⟨fun i => s i * c1 + c18_nz sch t (e i), fun i => c18_decShare .., ?_⟩
  rw [c18_sum_mul_add, c18_nz_sum]; ring

/-- KEY SWITCH to s' = Σ s'_i: the new ciphertext (c0 + Σ h_i, c1) has, under s', the old phase under s plus noise(Σ e_i) -/
theorem keyswitch_sum (n : Nat) (sch : Scheme) (t : Nat) (ntt : Bool) (s s' e : Nat → A) (c0 c1 : A) :
    ∃ h : Nat → A, (∀ i, ksShare Ops.ring sch t ntt (s i) (s' i) c1 (e i) = .ok (h i)) ∧
      (c0 + ∑ i ∈ range n, h i) + c1 * (∑ i ∈ range n, s' i)
        = (c0 + c1 * ∑ i ∈ range n, s i) + c18_nz sch t (∑ i ∈ range n, e i) := by
  refine ⟨fun i => (s i - s' i) * c1 + c18_nz sch t (e i), fun i => c18_ksShare .., ?_⟩
  rw [c18_sum_mul_add, c18_nz_sum, Finset.sum_sub_distrib]; ring

/-- PUBLIC-KEY SWITCH to the key (p0', p1') of a receiver with secret `sk'`: the new ciphertext (c0 + Σ h0_i, Σ h1_i) has, under
    sk', the old phase plus u·(p0' + p1'·sk') + E0 + E1·sk' (u = Σ u_i); p0' + p1'·sk' is minus the receiver's key noise. -/
theorem pks_sum (n : Nat) (sch : Scheme) (t : Nat) (ntt : Bool) (s u e0 e1 : Nat → A) (c0 c1 p0 p1 sk' : A) :
    ∃ h : Nat → A × A, (∀ i, pksShare Ops.ring sch t ntt (s i) c1 p0 p1 (u i) (e0 i) (e1 i) = .ok (h i)) ∧
      (c0 + ∑ i ∈ range n, (h i).1) + (∑ i ∈ range n, (h i).2) * sk'
        = (c0 + c1 * ∑ i ∈ range n, s i) + (∑ i ∈ range n, u i) * (p0 + p1 * sk')
          + c18_nz sch t (∑ i ∈ range n, e0 i) + c18_nz sch t (∑ i ∈ range n, e1 i) * sk' := by
  refine ⟨fun i => (s i * c1 + u i * p0 + c18_nz sch t (e0 i), p1 * u i + c18_nz sch t (e1 i)), fun i => c18_pksShare .., ?_⟩
  simp only
  rw [Finset.sum_add_distrib, Finset.sum_add_distrib, Finset.sum_add_distrib, ← Finset.sum_mul, ← Finset.sum_mul,
      ← Finset.mul_sum, c18_nz_sum, c18_nz_sum]
  ring

/-! ## shares -/

/-- CIPHERTEXT → SHARES (aggregator = party 0; `P i` = the scaled plaintext of share i, so party i ≠ 0 adds `-P i`):
    the phase party 0 decodes is (c0 + c1·s) + noise − Σ_{i≠0} P_i -/
theorem c2s_phase (n : Nat) (sch : Scheme) (t : Nat) (ntt : Bool) (s e P : Nat → A) (c0 c1 : A) :
    ∃ h : Nat → A, (∀ i, c2sShare Ops.ring sch t ntt i (s i) c1 (e i) (-(P i)) = .ok (h i)) ∧
      c0 + ∑ i ∈ range n, h i
        = (c0 + c1 * ∑ i ∈ range n, s i) + c18_nz sch t (∑ i ∈ range n, e i) - ∑ i ∈ range n, (if i ≠ 0 then P i else 0) := by
  refine ⟨fun i => s i * c1 + c18_nz sch t (e i) + (if i ≠ 0 then -(P i) else 0), fun i => c18_c2sShare .., ?_⟩
  rw [Finset.sum_add_distrib, c18_sum_mul_add, c18_nz_sum]
  have : ∑ i ∈ range n, (if i ≠ 0 then -(P i) else 0) = -∑ i ∈ range n, (if i ≠ 0 then P i else 0) := by
    rw [← Finset.sum_neg_distrib]; apply Finset.sum_congr rfl; intro i _; split <;> simp
  rw [this]; ring

/-- SHARES → CIPHERTEXT, result of party 0 (own ciphertext (P 0, a), h_i = -s_i·a + e_i (+ P_i for i ≠ 0)):
    (P 0 + Σ h_i) + a·s = Σ_i P_i + noise — an encryption of the sum of all shares under s = Σ s_i -/
theorem s2c_phase (n : Nat) (hn : 0 < n) (sch : Scheme) (t : Nat) (ntt : Bool) (s e P : Nat → A) (a : A) :
    ∃ h : Nat → A, (∀ i, s2cShare Ops.ring sch t ntt i (s i) a (e i) (P i) = .ok (h i)) ∧
      (P 0 + ∑ i ∈ range n, h i) + a * (∑ i ∈ range n, s i)
        = ∑ i ∈ range n, P i + c18_nz sch t (∑ i ∈ range n, e i) := by
  refine ⟨fun i => -(s i) * a + c18_nz sch t (e i) + (if i ≠ 0 then P i else 0), fun i => c18_s2cShare .., ?_⟩
  rw [Finset.sum_add_distrib, c18_sum_mul_add, c18_nz_sum, Finset.sum_neg_distrib]
  have : P 0 + ∑ i ∈ range n, (if i ≠ 0 then P i else 0) = ∑ i ∈ range n, P i := by
    have h0 : ∀ i ∈ range n, (if i ≠ 0 then P i else 0) = P i - (if i = 0 then P 0 else 0) := by
      intro i _; by_cases hi : i = 0 <;> simp [hi]
    rw [Finset.sum_congr rfl h0, Finset.sum_sub_distrib, Finset.sum_ite_eq' (range n) 0 (fun _ => P 0)]
    simp [hn]
  rw [← this]; ring

/-- what the code gives a party k ≠ 0 that calls `finish` on `shares_to_cipher` (the protocol is aggregator-based like
    `cipher_to_shares`; only party 0's result is an encryption of the sum): its own share is counted twice and party 0's is missing -/
theorem s2c_other_party_phase (n k : Nat) (hn : 0 < n) (sch : Scheme) (t : Nat) (ntt : Bool) (s e P : Nat → A) (a : A) :
    ∃ h : Nat → A, (∀ i, s2cShare Ops.ring sch t ntt i (s i) a (e i) (P i) = .ok (h i)) ∧
      (P k + ∑ i ∈ range n, h i) + a * (∑ i ∈ range n, s i)
        = (∑ i ∈ range n, P i + c18_nz sch t (∑ i ∈ range n, e i)) + (P k - P 0) := by
  obtain ⟨h, h1, h2⟩ := s2c_phase n hn sch t ntt s e P a
  refine ⟨h, h1, ?_⟩
  rw [← h2]; ring

/-- ROUND TRIP at the plaintext level (`enc` = the share encoder, an additive bijection between share vectors and plaintexts,
    e.g. the batch encoder for a batching plain modulus): if party 0's share is the decoding of m − Σ_{i≠0} enc(share_i)
    (what `c2s_phase` gives after exact decryption), then the shares add up to dec(m), and the plaintexts that `shares_to_cipher`
    adds up (`s2c_phase`) give back m. -/
theorem shares_roundtrip {S M : Type} [AddCommGroup S] [AddCommGroup M] (enc : S ≃+ M) (n : Nat) (m : M) (sh : Nat → S)
    (h0 : sh 0 = enc.symm (m - ∑ i ∈ range n, enc (sh (i + 1)))) :
    ∑ i ∈ range (n + 1), sh i = enc.symm m ∧ ∑ i ∈ range (n + 1), enc (sh i) = m := by
  have key : ∑ i ∈ range (n + 1), enc (sh i) = m := by
    rw [Finset.sum_range_succ', h0, AddEquiv.apply_symm_apply]; abel
  refine ⟨?_, key⟩
  rw [← key, map_sum]
  simp

/-! ## noise size (exact integers) -/

/-- the summed noise of n parties is at most n times the single-party bound, coefficient by coefficient -/
theorem noise_sum_bound (n N : Nat) (B : ℤ) (e : Nat → Fin N → ℤ) (hb : ∀ i, i < n → ∀ c, |e i c| ≤ B) (c : Fin N) :
    |∑ i ∈ range n, e i c| ≤ n * B := by
  calc |∑ i ∈ range n, e i c| ≤ ∑ i ∈ range n, |e i c| := Finset.abs_sum_le_sum_abs _ _
    _ ≤ ∑ _i ∈ range n, B := Finset.sum_le_sum (fun i hi => hb i (Finset.mem_range.mp hi) c)
    _ = n * B := by simp

/-! ## final decoding = the ordinary decryptor's decoding of the same phase -/

/-- BFV: `decrypt_polynomial` applied to the phase c0 + c1·s is what `Decryptor::bfv_decrypt` computes -/
theorem final_decode_bfv (l : Level) (hs : l.scheme = .bfv) (sk : Array Int) (ct : Ct) (hn : ct.ntt = false) (ph : RnsPoly)
    (hph : dotProductCtSk l sk ct = .ok ph) :
    (bfvDecrypt l sk ct).map PlainOut.coeffs = decryptPolynomial l ct.ntt ct.cf ph := by
  simp only [bfvDecrypt, hn, hph, decryptPolynomial, hs, bind, Except.bind, pure, Except.pure, Except.map, Bool.false_eq_true, if_false]
  cases l.tool.decryptScaleAndRound ph <;> rfl

/-- BGV (repaired `decrypt_polynomial`): the same decoding as `Decryptor::bgv_decrypt` -/
theorem final_decode_bgv (l : Level) (hs : l.scheme = .bgv) (sk : Array Int) (ct : Ct) (hn : ct.ntt = true) (ph : RnsPoly)
    (hph : dotProductCtSk l sk ct = .ok ph) :
    (bgvDecrypt l sk ct).map PlainOut.coeffs = decryptPolynomial l ct.ntt ct.cf ph := by
  simp only [bgvDecrypt, hn, hph, decryptPolynomial, hs, bind, Except.bind, pure, Except.pure, Except.map, Bool.not_true,
    Bool.false_eq_true, if_false, if_true]
  cases l.tool.decryptModT (rnsIntt l ph) with
  | error e => rfl
  | ok d =>
    simp only
    by_cases hcf : ct.cf ≠ 1
    · simp only [hcf, if_true, ne_eq, not_false_eq_true]
      cases tryInvert ct.cf l.t.value with
      | error e => rfl
      | ok v =>
        cases v with
        | none => rfl
        | some fix => simp only; cases mapM' d (fun x => mulMod x fix l.t) <;> rfl
    · simp only [hcf, if_false]

/-- CKKS: the decoding is the phase itself (the plaintext object takes level and scale from the ciphertext) -/
theorem final_decode_ckks (l : Level) (hs : l.scheme = .ckks) (sk : Array Int) (ct : Ct) (hn : ct.ntt = true) :
    (ckksDecrypt l sk ct).map PlainOut.rns = (dotProductCtSk l sk ct).bind (decryptPolynomial l ct.ntt ct.cf) := by
  simp only [ckksDecrypt, hn, Bool.not_true, Bool.false_eq_true, if_false]
  cases dotProductCtSk l sk ct with
  | error e => rfl
  | ok ph => simp [Except.map, Except.bind, decryptPolynomial, hs, pure, Except.pure]


/-! ## the protocol functions GENERATED from src/multiparty/participant.rs (Gen/MpFns.lean, tools/rs2lean_mp.py)

    Skeleton translation: polynomial buffers are values of an abstract type, the `polymod` kernels are the operations of `Ops`, the
    samplers are draws from a tape whose entries carry the sampler's tag (`Tape`, `draw`): a theorem that gives the tape as
    `(.cbd, e) :: rest` says that the function draws exactly ONE centred-binomial polynomial and leaves `rest`. -/

/-- `sample_noise` = `noiseOf`: one centred-binomial draw, transformed, in BGV multiplied by t -/
theorem gen_sample_noise (o : Ops α) (sch : Scheme) (t : Nat) (e : α) (rest : Tape α) :
    GenMp.sample_noise o sch t true ((.cbd, e) :: rest) = (do let x ← noiseOf o sch t e; pure (x, rest)) := by
  unfold GenMp.sample_noise noiseOf
  by_cases h : sch = .bgv <;> simp [h, genmp_draw_hit, bind, Except.bind, pure, Except.pure]

/-- `Participant::key_switch` (any ring operations): a 2-polynomial ciphertext, ONE noise draw; the fresh reveal object holds
    `ksShare` = (s - s')·c1 + noise as own polynomial, one empty slot per participant -/
theorem gen_key_switch (o : Ops α) (sch : Scheme) (t count pid : Nat) (ntt : Bool) (s s' c1 e : α) (rest : Tape α) :
    GenMp.key_switch o sch t count pid 2 ntt s s' c1 ((.cbd, e) :: rest)
      = (do let h ← ksShare o sch t ntt s s' c1 e; pure (Reveal.new count pid h, rest)) := by
  unfold GenMp.key_switch ksShare
  cases ntt <;> simp only [need, Reveal.new, gen_sample_noise, genmp_ok_bind, bind_assoc, pure_bind, beq_self_eq_true, if_true,
    Bool.not_true, Bool.not_false, Bool.false_eq_true, if_false]

/-- `Participant::decrypt` (expanded seed, valid ciphertext of size 2) -/
theorem gen_decrypt (o : Ops α) (sch : Scheme) (t count pid : Nat) (ntt : Bool) (s c1 e : α) (rest : Tape α) :
    GenMp.decrypt o sch t count pid 2 false true ntt s c1 ((.cbd, e) :: rest)
      = (do let h ← decShare o sch t ntt s c1 e; pure (Reveal.new count pid h, rest)) := by
  unfold GenMp.decrypt decShare
  cases ntt <;> simp only [need, Reveal.new, gen_sample_noise, genmp_ok_bind, bind_assoc, pure_bind, beq_self_eq_true, if_true,
    Bool.not_true, Bool.not_false, Bool.false_eq_true, if_false, Gen.HE_CIPHERTEXT_SIZE_MIN, Nat.le_refl, decide_true]

/-- `Participant::public_key_switch`: draws (ternary u, noise e0, noise e1) in this order; both reveal objects -/
theorem gen_public_key_switch (o : Ops α) (sch : Scheme) (t count pid : Nat) (ntt : Bool) (s c1 p0 p1 u e0 e1 : α) (rest : Tape α) :
    GenMp.public_key_switch o sch t count pid 2 ntt s c1 p0 p1 ((.ternary, u) :: (.cbd, e0) :: (.cbd, e1) :: rest)
      = (do let h ← pksShare o sch t ntt s c1 p0 p1 u e0 e1
            pure (Reveal.new count pid h.1, Reveal.new count pid h.2, rest)) := by
  unfold GenMp.public_key_switch pksShare
  cases ntt <;> simp only [need, Reveal.new, genmp_draw_hit, gen_sample_noise, genmp_ok_bind, bind_assoc, pure_bind, beq_self_eq_true, if_true,
    Bool.not_true, Bool.not_false, Bool.false_eq_true, if_false]

/-- a ciphertext that does not have exactly two polynomials is refused by all three constructors -/
theorem gen_constructors_refuse_size (o : Ops α) (sch : Scheme) (t count pid sz : Nat) (hsz : sz ≠ 2) (ntt cs vf : Bool)
    (s s' c1 p0 p1 : α) (tape : Tape α) :
    GenMp.key_switch o sch t count pid sz ntt s s' c1 tape = .error .refused ∧
    GenMp.decrypt o sch t count pid sz cs vf ntt s c1 tape = .error .refused ∧
    GenMp.public_key_switch o sch t count pid sz ntt s c1 p0 p1 tape = .error .refused := by
  have h : (sz == 2) = false := by simpa using hsz
  refine ⟨by simp [GenMp.key_switch, need, h, bind, Except.bind], ?_, by simp [GenMp.public_key_switch, need, h, bind, Except.bind]⟩
  by_cases h2 : 2 ≤ sz <;> cases cs <;> cases vf <;>
    simp [GenMp.decrypt, need, h, h2, bind, Except.bind, Gen.HE_CIPHERTEXT_SIZE_MIN]

/-- `PolynomialRevelationProtocol::receive` / `send` / `finish` = the model (`receive` only overwrites the sender's slot, `send`
    is the own polynomial whatever was received, `finish` = completeness assertion + sum in slot order) -/
theorem gen_reveal (o : Ops α) (pa : α → α → R α) (p : Reveal α) (sender : Nat) (m : α) (rest : List α) :
    GenMp.reveal_receive p sender (m :: rest) = (do let p' ← p.receive sender m; pure (p', rest)) ∧
    (∀ p', p.receive sender m = .ok p' → GenMp.reveal_send p' = GenMp.reveal_send p) ∧
    GenMp.reveal_finish o pa false p = p.finish o :=
  ⟨genmp_reveal_receive p sender m rest, fun p' h => by
    unfold Reveal.receive at h
    by_cases hs : sender < p.slots.length <;> simp [hs] at h
    subst h; rfl, genmp_reveal_finish o pa p⟩

/-- a whole run through the GENERATED functions (fresh object, the deliveries one by one through `receive`, `finish`) = `revealRun`:
    so `finish_order_independent`, `finish_sum`, `all_parties_agree`, `finish_refuses_incomplete` are statements about them -/
theorem gen_run (o : Ops α) (pa : α → α → R α) (count id : Nat) (own : α) (d : List (Nat × α)) :
    (do let p ← genRecvAll (Reveal.new count id own) d; GenMp.reveal_finish o pa false p) = revealRun o count id own d := by
  unfold revealRun; rw [genmp_recvAll]
  cases (Reveal.new count id own).receiveAll d with
  | error e => rfl
  | ok q => simp [genmp_ok_bind, genmp_reveal_finish]

/-- the deliveries of `finish_sum` fed to the generated `receive`: an object that finishes with the sum over all parties -/
theorem recv_finish_sum (n id : Nat) (hid : id < n) (msg : Nat → A) (d : List (Nat × A))
    (hr : ∀ x ∈ d, x.1 < n ∧ x.1 ≠ id ∧ x.2 = msg x.1) (hall : ∀ j, j < n → j ≠ id → j ∈ d.map Prod.fst) :
    ∃ q, genRecvAll (Reveal.new n id (msg id)) d = .ok q ∧ q.finish Ops.ring = .ok (∑ j ∈ range n, msg j) := by
  have hrun := finish_sum n id hid msg d hr hall
  unfold revealRun at hrun
  rw [genmp_recvAll]
  cases hq : (Reveal.new n id (msg id)).receiveAll d with
  | error e => rw [hq] at hrun; cases hrun
  | ok q => rw [hq] at hrun; exact ⟨q, rfl, hrun⟩

/-- the `finish` of the four protocol objects -/
theorem gen_finish (o : Ops α) (pa : α → α → R α) (c0 c1 : α) (p q : Reveal α) :
    GenMp.key_switch_finish o c0 c1 pa p = (do let h ← p.finish o; let c ← addToC0 o c0 h; pure (c, c1)) ∧
    GenMp.decrypt_finish o c0 c1 pa p = (do let h ← p.finish o; addToC0 o c0 h) ∧
    GenMp.public_key_switch_finish o c0 c1 pa p q
      = (do let h0 ← p.finish o; let h1 ← q.finish o; let c ← addToC0 o c0 h0; pure (c, h1)) ∧
    GenMp.public_key_finish o c0 c1 pa p = (do let h ← p.finish o; pure (h, c1)) :=
  ⟨genmp_key_switch_finish o pa c0 c1 p, genmp_decrypt_finish o pa c0 c1 p, genmp_public_key_switch_finish o pa c0 c1 p q,
   genmp_public_key_finish o pa c0 c1 p⟩

/-- relinearisation key, constructor: ONE common uniform a_j per decomposition index j (all K-1 drawn from the common tape before
    anything else), (u_j, e0_j, e1_j) from the own tape per index; pair j = `rlkRound1` with a_j and the gadget element w_j -/
theorem gen_rlk_new (o : Ops α) (sch : Scheme) (t count pid K : Nat) (s : α) (w a u e0 e1 : Nat → α) (r : Nat → α × α)
    (rc rs : Tape α) (hr : ∀ j, j < K - 1 → rlkRound1 o sch t s (a j) (u j) (e0 j) (e1 j) (w j) = .ok (r j)) :
    GenMp.rlk_new o sch t count pid K s w
        (tapeRem (fun j => [(.uniform, a j)]) rc (K - 1) 0)
        (tapeRem (fun j => [(.ternary, u j), (.cbd, e0 j), (.cbd, e1 j)]) rs (K - 1) 0)
      = .ok ((List.range (K - 1)).map (fun j => Reveal.new count pid (r j).1),
             (List.range (K - 1)).map (fun j => Reveal.new count pid (r j).2),
             (List.range (K - 1)).map (fun j => o.toNtt (u j)), rc, rs) := by
  unfold GenMp.rlk_new loopM
  dsimp only
  rw [genmp_loopFrom_inv _ (fun i => (tapeRem (fun j => [(.uniform, a j)]) rc (K - 1 - i) i, (List.range i).map a)) (K - 1) 0]
  · simp only [genmp_ok_bind, Nat.zero_add, Nat.sub_self, tapeRem]
    rw [genmp_loopFrom_inv _ (fun i => (tapeRem (fun j => [(.ternary, u j), (.cbd, e0 j), (.cbd, e1 j)]) rs (K - 1 - i) i,
          (List.range i).map (fun j => o.toNtt (u j)), (List.range i).map (fun j => (r j).1), (List.range i).map (fun j => (r j).2))) (K - 1) 0]
    · simp [genmp_ok_bind, tapeRem, Reveal.new, pure, Except.pure, Function.comp_def]
    · simp
    · intro i _ hi
      have hi' : i < K - 1 := by omega
      refine Eq.trans (b := do
        let p ← rlkRound1 o sch t s (a i) (u i) (e0 i) (e1 i) (w i)
        pure (tapeRem (fun j => [(.ternary, u j), (.cbd, e0 j), (.cbd, e1 j)]) rs (K - 1 - (i + 1)) (i + 1),
          (List.range i).map (fun j => o.toNtt (u j)) ++ [o.toNtt (u i)], (List.range i).map (fun j => (r j).1) ++ [p.1],
          (List.range i).map (fun j => (r j).2) ++ [p.2])) ?_ ?_
      · unfold rlkRound1
        simp only [genmp_tapeRem_step _ _ (K - 1) i hi', genmp_idxP_range a (K - 1) i hi', genmp_ok_bind, List.cons_append, List.nil_append,
          genmp_draw_hit, gen_sample_noise, bind_assoc, pure_bind]
      · rw [hr i hi']
        simp only [genmp_ok_bind, pure, Except.pure, genmp_range_snoc (fun j => o.toNtt (u j)), genmp_range_snoc (fun j => (r j).1),
          genmp_range_snoc (fun j => (r j).2)]
  · simp
  · intro i _ hi
    have hi' : i < K - 1 := by omega
    simp only [genmp_tapeRem_step _ _ (K - 1) i hi', List.cons_append, List.nil_append, genmp_draw_hit, genmp_ok_bind, genmp_range_snoc, pure, Except.pure]

theorem gen_rlk_step2 (o : Ops α) (pa : α → α → R α) (sch : Scheme) (t count pid K : Nat) (s : α) (u e2 e3 H0 H1 d : Nat → α)
    (R0 R1 : Nat → Reveal α) (r : Nat → α × α) (rs : Tape α)
    (hf0 : ∀ j, j < K - 1 → (R0 j).finish o = .ok (H0 j)) (hf1 : ∀ j, j < K - 1 → (R1 j).finish o = .ok (H1 j))
    (hd : ∀ j, j < K - 1 → o.sub (o.toNtt (u j)) s = .ok (d j))
    (hr : ∀ j, j < K - 1 → rlkRound2 o sch t s (u j) (H0 j) (H1 j) (e2 j) (e3 j) = .ok (r j)) :
    GenMp.rlk_step2 o sch t count pid K s pa ((List.range (K - 1)).map R0) ((List.range (K - 1)).map R1)
        ((List.range (K - 1)).map (fun j => o.toNtt (u j)))
        (tapeRem (fun j => [(.cbd, e2 j), (.cbd, e3 j)]) rs (K - 1) 0)
      = .ok ((List.range (K - 1)).map (fun j => Reveal.new count pid (r j).1),
             (List.range (K - 1)).map (fun j => Reveal.new count pid (r j).2),
             (List.range (K - 1)).map d, (List.range (K - 1)).map H1, rs) := by
  unfold GenMp.rlk_step2 loopM
  rw [genmp_mapRM_ok _ R0 H0 _ (fun x hx => by rw [genmp_reveal_finish]; exact hf0 x (List.mem_range.mp hx)),
      genmp_mapRM_ok _ R1 H1 _ (fun x hx => by rw [genmp_reveal_finish]; exact hf1 x (List.mem_range.mp hx))]
  dsimp only [genmp_ok_bind]
  rw [genmp_loopFrom_inv _ (fun i => (tapeRem (fun j => [(.cbd, e2 j), (.cbd, e3 j)]) rs (K - 1 - i) i,
        (List.range (K - 1)).map (fun j => if j < i then d j else o.toNtt (u j)),
        (List.range i).map (fun j => (r j).1), (List.range i).map (fun j => (r j).2))) (K - 1) 0]
  · simp only [genmp_ok_bind, Nat.zero_add, Nat.sub_self, tapeRem, pure, Except.pure]
    simp only [List.map_map, Reveal.new, Function.comp_def]
    have hu : (List.range (K - 1)).map (fun j => if j < K - 1 then d j else o.toNtt (u j)) = (List.range (K - 1)).map d := by
      apply List.map_congr_left
      intro j hj; simp [List.mem_range.mp hj]
    rw [hu]
  · simp
  · intro i _ hi
    have hi' : i < K - 1 := by omega
    refine Eq.trans (b := do
      let p ← rlkRound2 o sch t s (u i) (H0 i) (H1 i) (e2 i) (e3 i)
      pure (tapeRem (fun j => [(.cbd, e2 j), (.cbd, e3 j)]) rs (K - 1 - (i + 1)) (i + 1),
        (List.range (K - 1)).map (fun j => if j < i + 1 then d j else o.toNtt (u j)), (List.range i).map (fun j => (r j).1) ++ [p.1],
        (List.range i).map (fun j => (r j).2) ++ [p.2])) ?_ ?_
    · unfold rlkRound2
      have hset := genmp_prefix_step d (fun j => o.toNtt (u j)) (K - 1) i
      simp only [genmp_tapeRem_step _ _ (K - 1) i hi', genmp_idxP_range _ (K - 1) i hi', genmp_setP_range _ (K - 1) i _ hi', hset,
        Nat.lt_irrefl, ite_false, ite_true, hd i hi',
        genmp_ok_bind, List.cons_append, List.nil_append, gen_sample_noise, bind_assoc, pure_bind]
    · rw [hr i hi']
      simp only [genmp_ok_bind, pure, Except.pure, genmp_range_snoc (fun j => (r j).1), genmp_range_snoc (fun j => (r j).2)]

theorem gen_rlk_finish (o : Ops α) (pa : α → α → R α) (K : Nat) (P0 P1 : Nat → Reveal α) (H0p H1p h1 : Nat → α) (k : Nat → α × α)
    (hf0 : ∀ j, j < K - 1 → (P0 j).finish o = .ok (H0p j)) (hf1 : ∀ j, j < K - 1 → (P1 j).finish o = .ok (H1p j))
    (hk : ∀ j, j < K - 1 → rlkFinish o (H0p j) (H1p j) (h1 j) = .ok (k j)) :
    GenMp.rlk_finish o K pa ((List.range (K - 1)).map P0) ((List.range (K - 1)).map P1) ((List.range (K - 1)).map h1)
      = .ok ((List.range (K - 1)).map k) := by
  unfold GenMp.rlk_finish loopM
  rw [genmp_mapRM_ok _ P0 H0p _ (fun x hx => by rw [genmp_reveal_finish]; exact hf0 x (List.mem_range.mp hx)),
      genmp_mapRM_ok _ P1 H1p _ (fun x hx => by rw [genmp_reveal_finish]; exact hf1 x (List.mem_range.mp hx))]
  dsimp only [genmp_ok_bind]
  rw [genmp_loopFrom_inv _ (fun i => ((List.range (K - 1)).map (fun j => if j < i then (k j).1 else H0p j), (List.range i).map k)) (K - 1) 0]
  · simp only [genmp_ok_bind, Nat.zero_add, pure, Except.pure]
  · simp
  · intro i _ hi
    have hi' : i < K - 1 := by omega
    refine Eq.trans (b := do
      let p ← rlkFinish o (H0p i) (H1p i) (h1 i)
      pure ((List.range (K - 1)).map (fun j => if j = i then p.1 else (if j < i then (k j).1 else H0p j)), (List.range i).map k ++ [p])) ?_ ?_
    · unfold rlkFinish
      simp only [genmp_idxP_range _ (K - 1) i hi', genmp_setP_range _ (K - 1) i _ hi', Nat.lt_irrefl, ↓reduceIte,
        genmp_ok_bind, bind_assoc, pure_bind]
    · rw [hk i hi']
      simp only [genmp_ok_bind, pure, Except.pure, genmp_range_snoc k]
      rw [genmp_prefix_step (fun j => (k j).1) H0p (K - 1) i]

/-- a missing round-1 message makes `step2` refuse (the completeness assertion of the first unfinished reveal object) -/
theorem gen_rlk_step2_refuses (o : Ops α) (pa : α → α → R α) (sch : Scheme) (t count pid K : Nat) (s : α) (p : Reveal α)
    (rest h1d : List (Reveal α)) (u : List α) (tape : Tape α) (hp : p.allSent = false) :
    GenMp.rlk_step2 o sch t count pid K s pa (p :: rest) h1d u tape = .error .refused := by
  unfold GenMp.rlk_step2
  have : GenMp.reveal_finish o pa false p = .error .refused := by
    rw [genmp_reveal_finish]; unfold Reveal.finish; simp [hp]
  simp [mapRM, this, bind, Except.bind]

/-- relin protocol, message flow: `receive_step1` / `receive_step2` hand the first |h0| polynomials of a sender's message to the h0
    objects and the next |h1| to the h1 objects, each into the SENDER's slot (`putSlot`), nothing else changes; `send_step1/2` emit the own
    polynomials in exactly this order. (Hypotheses: the message has one polynomial per object; the sender id is a valid slot - otherwise
    the code's index panic, `Reveal.receive` = `.error .oob`.) -/
theorem gen_rlk_receive_send (sender : Nat) (h0d h1d : List (Reveal α)) (m0 m1 rest : List α)
    (hl0 : m0.length = h0d.length) (hl1 : m1.length = h1d.length)
    (hs0 : ∀ p ∈ h0d, sender < p.slots.length) (hs1 : ∀ p ∈ h1d, sender < p.slots.length) :
    GenMp.rlk_receive_step1 h0d h1d sender (m0 ++ (m1 ++ rest))
      = .ok (List.zipWith (putSlot sender) h0d m0, List.zipWith (putSlot sender) h1d m1, rest) ∧
    GenMp.rlk_receive_step2 h0d h1d sender (m0 ++ (m1 ++ rest))
      = .ok (List.zipWith (putSlot sender) h0d m0, List.zipWith (putSlot sender) h1d m1, rest) ∧
    GenMp.rlk_send_step1 h0d h1d = h0d.map Reveal.own ++ h1d.map Reveal.own ∧
    GenMp.rlk_send_step2 h0d h1d = h0d.map Reveal.own ++ h1d.map Reveal.own := by
  unfold GenMp.rlk_receive_step1 GenMp.rlk_receive_step2
  simp only [genmp_mapStream_receive sender h0d m0 _ hl0 hs0, genmp_mapStream_receive sender h1d m1 _ hl1 hs1, genmp_ok_bind]
  exact ⟨rfl, rfl, rfl, rfl⟩

/-- the two-polynomial message of the public-key switch: first polynomial to the h0 object, second to the h1 object -/
theorem gen_pks_receive (p0 p1 : Reveal α) (sender : Nat) (m0 m1 : α) (rest : List α) :
    GenMp.public_key_switch_receive p0 p1 sender (m0 :: m1 :: rest)
      = (do let p0' ← p0.receive sender m0; let p1' ← p1.receive sender m1; pure (p0', p1', rest)) ∧
    GenMp.public_key_switch_send p0 p1 = [p0.own, p1.own] := by
  refine ⟨?_, rfl⟩
  unfold GenMp.public_key_switch_receive
  rw [genmp_reveal_receive]
  cases p0.receive sender m0 with
  | error e => rfl
  | ok q => simp [genmp_ok_bind, genmp_reveal_receive]

/-! ### composition: the generated functions, run by n parties over a commutative ring -/

/-- COLLECTIVE DECRYPTION through the generated functions: party i calls `decrypt` (one noise draw e_i) and obtains a reveal object
    whose message is h_i; ANY party `id` that has fed the messages of all others (any order) to `receive` and calls `finish` hands
    (c0 + c1·Σs_i) + noise(Σe_i) to the final decoding - the single-party phase for the secret Σ s_i. -/
theorem gen_collective_decrypt (n : Nat) (sch : Scheme) (t : Nat) (ntt : Bool) (s e : Nat → A) (c0 c1 : A) (pa : A → A → R A) :
    ∃ h : Nat → A,
      (∀ i, GenMp.decrypt Ops.ring sch t n i 2 false true ntt (s i) c1 [(.cbd, e i)] = .ok (Reveal.new n i (h i), [])) ∧
      ∀ id, id < n → ∀ d : List (Nat × A),
        (∀ x ∈ d, x.1 < n ∧ x.1 ≠ id ∧ x.2 = GenMp.reveal_send (Reveal.new n x.1 (h x.1))) →
        (∀ j, j < n → j ≠ id → j ∈ d.map Prod.fst) →
        (do let p ← genRecvAll (Reveal.new n id (h id)) d; GenMp.decrypt_finish Ops.ring c0 c1 pa p)
          = .ok ((c0 + c1 * ∑ i ∈ range n, s i) + c18_nz sch t (∑ i ∈ range n, e i)) := by
  obtain ⟨h, hh, hsum⟩ := decrypt_sum n sch t ntt s e c0 c1
  refine ⟨h, fun i => by rw [gen_decrypt, hh i]; rfl, fun id hid d hr hall => ?_⟩
  obtain ⟨q, hq, hf⟩ := recv_finish_sum n id hid h d hr hall
  simp only [hq, genmp_ok_bind, genmp_decrypt_finish, hf, ← hsum]; rfl

/-- COLLECTIVE KEY SWITCH through the generated functions: every party ends with the ciphertext (c0 + Σh_i, c1) whose phase under
    Σ s'_i is the old phase under Σ s_i plus noise(Σ e_i) -/
theorem gen_collective_key_switch (n : Nat) (sch : Scheme) (t : Nat) (ntt : Bool) (s s' e : Nat → A) (c0 c1 : A) (pa : A → A → R A) :
    ∃ h : Nat → A,
      (∀ i, GenMp.key_switch Ops.ring sch t n i 2 ntt (s i) (s' i) c1 [(.cbd, e i)] = .ok (Reveal.new n i (h i), [])) ∧
      ∀ id, id < n → ∀ d : List (Nat × A),
        (∀ x ∈ d, x.1 < n ∧ x.1 ≠ id ∧ x.2 = GenMp.reveal_send (Reveal.new n x.1 (h x.1))) →
        (∀ j, j < n → j ≠ id → j ∈ d.map Prod.fst) →
        ∃ c0', (do let p ← genRecvAll (Reveal.new n id (h id)) d; GenMp.key_switch_finish Ops.ring c0 c1 pa p) = .ok (c0', c1) ∧
          c0' + c1 * (∑ i ∈ range n, s' i) = (c0 + c1 * ∑ i ∈ range n, s i) + c18_nz sch t (∑ i ∈ range n, e i) := by
  obtain ⟨h, hh, hsum⟩ := keyswitch_sum n sch t ntt s s' e c0 c1
  refine ⟨h, fun i => by rw [gen_key_switch, hh i]; rfl, fun id hid d hr hall => ⟨c0 + ∑ i ∈ range n, h i, ?_, hsum⟩⟩
  obtain ⟨q, hq, hf⟩ := recv_finish_sum n id hid h d hr hall
  simp only [hq, genmp_ok_bind, genmp_key_switch_finish, hf]; rfl

/-- COLLECTIVE PUBLIC-KEY SWITCH through the generated functions: party i draws (u_i, e0_i, e1_i), the message is the PAIR (h0_i, h1_i);
    any party that has received all other pairs ends with (c0 + Σh0_i, Σh1_i), whose phase under the receiver's secret sk' is the old
    phase plus u·(p0' + p1'·sk') + E0 + E1·sk' -/
theorem gen_collective_pks (n : Nat) (sch : Scheme) (t : Nat) (ntt : Bool) (s u e0 e1 : Nat → A) (c0 c1 p0 p1 sk' : A) (pa : A → A → R A) :
    ∃ h : Nat → A × A,
      (∀ i, GenMp.public_key_switch Ops.ring sch t n i 2 ntt (s i) c1 p0 p1 [(.ternary, u i), (.cbd, e0 i), (.cbd, e1 i)]
              = .ok (Reveal.new n i (h i).1, Reveal.new n i (h i).2, [])) ∧
      ∀ id, id < n → ∀ d0 d1 : List (Nat × A),
        (∀ x ∈ d0, x.1 < n ∧ x.1 ≠ id ∧ x.2 = (h x.1).1) → (∀ j, j < n → j ≠ id → j ∈ d0.map Prod.fst) →
        (∀ x ∈ d1, x.1 < n ∧ x.1 ≠ id ∧ x.2 = (h x.1).2) → (∀ j, j < n → j ≠ id → j ∈ d1.map Prod.fst) →
        ∃ c0' c1', (do let q0 ← genRecvAll (Reveal.new n id (h id).1) d0
                       let q1 ← genRecvAll (Reveal.new n id (h id).2) d1
                       GenMp.public_key_switch_finish Ops.ring c0 c1 pa q0 q1) = .ok (c0', c1') ∧
          c0' + c1' * sk' = (c0 + c1 * ∑ i ∈ range n, s i) + (∑ i ∈ range n, u i) * (p0 + p1 * sk')
              + c18_nz sch t (∑ i ∈ range n, e0 i) + c18_nz sch t (∑ i ∈ range n, e1 i) * sk' := by
  obtain ⟨h, hh, hsum⟩ := pks_sum n sch t ntt s u e0 e1 c0 c1 p0 p1 sk'
  refine ⟨h, fun i => by rw [gen_public_key_switch, hh i]; rfl, fun id hid d0 d1 hr0 ha0 hr1 ha1 =>
    ⟨c0 + ∑ i ∈ range n, (h i).1, ∑ i ∈ range n, (h i).2, ?_, hsum⟩⟩
  obtain ⟨q0, hq0, hf0⟩ := recv_finish_sum n id hid (fun i => (h i).1) d0 hr0 ha0
  obtain ⟨q1, hq1, hf1⟩ := recv_finish_sum n id hid (fun i => (h i).2) d1 hr1 ha1
  simp only [hq0, hq1, genmp_ok_bind, genmp_public_key_switch_finish, hf0, hf1]; rfl

/-- COLLECTIVE PUBLIC KEY through the generated `generate_public_key` / `finish` (the generator call is an opaque step whose reading
    k0_i = `pkShare (s_i, a, e_i)`, k1 = a is the hypothesis `hk`): the object broadcasts k0_i, and every party that has received all
    other shares ends with the key (Σ k0_i, a) = the single-party key for the secret Σ s_i with noise Σ e_i -/
theorem gen_collective_pk (n : Nat) (sch : Scheme) (t : Nat) (s e : Nat → A) (a : A) (k0 : Nat → A) (pa : A → A → R A)
    (hk : ∀ i, pkShare Ops.ring sch t (s i) a (e i) = .ok (k0 i)) :
    ∀ id, id < n → ∀ d : List (Nat × A),
      (∀ x ∈ d, x.1 < n ∧ x.1 ≠ id ∧ x.2 = GenMp.reveal_send (GenMp.generate_public_key n x.1 (k0 x.1) a).1) →
      (∀ j, j < n → j ≠ id → j ∈ d.map Prod.fst) →
      ∃ p0, (do let q ← genRecvAll (GenMp.generate_public_key n id (k0 id) a).1 d
                GenMp.public_key_finish Ops.ring (GenMp.generate_public_key n id (k0 id) a).2.1 (GenMp.generate_public_key n id (k0 id) a).2.2 pa q)
              = .ok (p0, a) ∧
        pkShare Ops.ring sch t (∑ i ∈ range n, s i) a (∑ i ∈ range n, e i) = .ok p0 ∧
        p0 + a * (∑ i ∈ range n, s i) = - c18_nz sch t (∑ i ∈ range n, e i) := by
  intro id hid d hr hall
  obtain ⟨p0, h1, h2, h3⟩ := collective_pk n sch t s e a
  have hp : ∀ i, p0 i = k0 i := fun i => by have := h1 i; rw [hk i] at this; exact (Except.ok.inj this).symm
  refine ⟨∑ i ∈ range n, p0 i, ?_, h2, h3⟩
  obtain ⟨q, hq, hf⟩ := recv_finish_sum n id hid k0 d hr hall
  simp only [GenMp.generate_public_key]
  rw [show (⟨id, k0 id, List.replicate n none⟩ : Reveal A) = Reveal.new n id (k0 id) from rfl, hq]
  simp only [genmp_ok_bind, genmp_public_key_finish, hf, Finset.sum_congr rfl (fun i _ => hp i)]; rfl

/-- COLLECTIVE RELINEARISATION KEY through the generated `new` / `step2` / `finish` (n parties, K key primes, K-1 decomposition indices;
    common tape = a_0 … a_{K-2}, party i's own tape = (u_ij, e0_ij, e1_ij)_j then (e2_ij, e3_ij)_j; `R0 j`, `R1 j`, `P0 j`, `P1 j` are the
    reveal objects after the deliveries - by `gen_run` + `finish_sum` they finish with the sums over all parties, which is all that is
    assumed about them): all three generated functions succeed, and the assembled key j satisfies
        k0_j + k1_j·s = s²·w_j + ( s·E0_j + u_j·E1_j + E2_j + E3_j ),   s = Σ s_i, u_j = Σ u_ij, E·_j = noise(Σ_i e·_ij) -/
theorem gen_collective_rlk (n K : Nat) (sch : Scheme) (t : Nat) (s w a : Nat → A) (u e0 e1 e2 e3 : Nat → Nat → A) (pa : A → A → R A) :
    ∃ (r1 r2 : Nat → Nat → A × A) (k : Nat → A × A),
      (∀ i, GenMp.rlk_new Ops.ring sch t n i K (s i) w
              (tapeRem (fun j => [(.uniform, a j)]) [] (K - 1) 0)
              (tapeRem (fun j => [(.ternary, u i j), (.cbd, e0 i j), (.cbd, e1 i j)]) [] (K - 1) 0)
            = .ok ((List.range (K - 1)).map (fun j => Reveal.new n i (r1 j i).1),
                   (List.range (K - 1)).map (fun j => Reveal.new n i (r1 j i).2),
                   (List.range (K - 1)).map (fun j => (Ops.ring (α := A)).toNtt (u i j)), [], [])) ∧
      (∀ i (R0 R1 : Nat → Reveal A),
          (∀ j, j < K - 1 → (R0 j).finish Ops.ring = .ok (∑ x ∈ range n, (r1 j x).1)) →
          (∀ j, j < K - 1 → (R1 j).finish Ops.ring = .ok (∑ x ∈ range n, (r1 j x).2)) →
          GenMp.rlk_step2 Ops.ring sch t n i K (s i) pa ((List.range (K - 1)).map R0) ((List.range (K - 1)).map R1)
              ((List.range (K - 1)).map (fun j => (Ops.ring (α := A)).toNtt (u i j)))
              (tapeRem (fun j => [(.cbd, e2 i j), (.cbd, e3 i j)]) [] (K - 1) 0)
            = .ok ((List.range (K - 1)).map (fun j => Reveal.new n i (r2 j i).1),
                   (List.range (K - 1)).map (fun j => Reveal.new n i (r2 j i).2),
                   (List.range (K - 1)).map (fun j => u i j - s i),
                   (List.range (K - 1)).map (fun j => ∑ x ∈ range n, (r1 j x).2), [])) ∧
      (∀ (P0 P1 : Nat → Reveal A),
          (∀ j, j < K - 1 → (P0 j).finish Ops.ring = .ok (∑ x ∈ range n, (r2 j x).1)) →
          (∀ j, j < K - 1 → (P1 j).finish Ops.ring = .ok (∑ x ∈ range n, (r2 j x).2)) →
          GenMp.rlk_finish Ops.ring K pa ((List.range (K - 1)).map P0) ((List.range (K - 1)).map P1)
              ((List.range (K - 1)).map (fun j => ∑ x ∈ range n, (r1 j x).2))
            = .ok ((List.range (K - 1)).map k)) ∧
      ∀ j, (k j).1 + (k j).2 * (∑ i ∈ range n, s i)
        = (∑ i ∈ range n, s i) * (∑ i ∈ range n, s i) * w j
          + ((∑ i ∈ range n, s i) * c18_nz sch t (∑ i ∈ range n, e0 i j) + (∑ i ∈ range n, u i j) * c18_nz sch t (∑ i ∈ range n, e1 i j)
             + c18_nz sch t (∑ i ∈ range n, e2 i j) + c18_nz sch t (∑ i ∈ range n, e3 i j)) := by
  have H := fun j => collective_rlk n sch t s (fun i => u i j) (fun i => e0 i j) (fun i => e1 i j) (fun i => e2 i j) (fun i => e3 i j) (a j) (w j)
  choose r1 r2 k h1 h2 h3 h4 using H
  refine ⟨r1, r2, k, fun i => ?_, fun i R0 R1 hf0 hf1 => ?_, fun P0 P1 hf0 hf1 => ?_, h4⟩
  · exact gen_rlk_new Ops.ring sch t n i K (s i) w a (u i) (e0 i) (e1 i) (fun j => r1 j i) [] [] (fun j _ => h1 j i)
  · exact gen_rlk_step2 Ops.ring pa sch t n i K (s i) (u i) (e2 i) (e3 i) _ _ (fun j => u i j - s i) R0 R1 (fun j => r2 j i) [] hf0 hf1
      (fun j _ => rfl) (fun j _ => h2 j i)
  · exact gen_rlk_finish Ops.ring pa K P0 P1 _ _ _ k hf0 hf1 (fun j _ => h3 j)

/-- non-vacuity of the generated-function theorems: two parties over ℤ (BFV reading: noise added as is), c = (100, 7), secrets 2 and 3,
    noises 1 and -1: both constructors succeed, party 0 after receiving party 1's message hands 100 + 7·5 + 0 = 135 to the decoder;
    without the message `finish` refuses -/
example :
    GenMp.decrypt (Ops.ring (α := ℤ)) .bfv 5 2 0 2 false true true 2 7 [(.cbd, 1)] = .ok (Reveal.new 2 0 15, []) ∧
    GenMp.decrypt (Ops.ring (α := ℤ)) .bfv 5 2 1 2 false true true 3 7 [(.cbd, -1)] = .ok (Reveal.new 2 1 20, []) ∧
    (do let p ← genRecvAll (Reveal.new 2 0 (15 : ℤ)) [(1, 20)]; GenMp.decrypt_finish Ops.ring 100 7 (fun a b => .ok (a + b)) p) = .ok 135 ∧
    (do let p ← genRecvAll (Reveal.new 2 0 (15 : ℤ)) []; GenMp.decrypt_finish Ops.ring 100 7 (fun a b => .ok (a + b)) p) = .error .refused ∧
    GenMp.decrypt (Ops.ring (α := ℤ)) .bfv 5 2 0 2 false true true 2 7 [(.ternary, 1)] = .error .other :=
  ⟨rfl, rfl, rfl, rfl, rfl⟩

/-- non-vacuity (relinearisation key, one party over ℤ, K = 3 key primes = 2 decomposition indices, w_j = j+1): the common tape must
    hold TWO uniform polynomials (3 and 4), the own tape (u, e0, e1) twice; h0_j = -(u_j·a_j) + s·w_j + e0_j, h1_j = s·a_j + e1_j.
    A common tape with one polynomial only is an error (the code draws a fresh a_j per index). -/
example :
    GenMp.rlk_new (Ops.ring (α := ℤ)) .bfv 5 1 0 3 2 (fun j => (j : ℤ) + 1)
        [(.uniform, 3), (.uniform, 4)] [(.ternary, 1), (.cbd, 0), (.cbd, 1), (.ternary, -1), (.cbd, 1), (.cbd, 0)]
      = .ok ([Reveal.new 1 0 (-1), Reveal.new 1 0 9], [Reveal.new 1 0 7, Reveal.new 1 0 8], [1, -1], [], []) ∧
    GenMp.rlk_new (Ops.ring (α := ℤ)) .bfv 5 1 0 3 2 (fun j => (j : ℤ) + 1)
        [(.uniform, 3)] [(.ternary, 1), (.cbd, 0), (.cbd, 1), (.ternary, -1), (.cbd, 1), (.cbd, 0)] = .error .other :=
  ⟨rfl, rfl⟩

end HC.C18
