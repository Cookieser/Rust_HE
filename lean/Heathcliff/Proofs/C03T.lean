import Heathcliff.Model.Evaluator
import Mathlib.Tactic.NormNum

/-!
  C03, scale agreement: the exact-arithmetic model `areCloseDy` (Model/Evaluator) of `util::are_close_f64`, |a − b| < ε·max(a, b, 1) with
  ε = 2^-52, on dyadic rationals m·2^e brought to a common exponent (`closeInts` on the scaled integers).  It accepts identical scales, is
  symmetric, and refuses every pair whose relative difference is at least 2^-45 (a sufficient condition; between 2^-52 and 2^-45 nothing
  is claimed).  4503599627370496 = 2^52, 35184372088832 = 2^45.  No evaluator of the development calls `areCloseDy`.  Helper names start
  with `c03t_`.
-/
namespace HC

/-- the definition of `closeInts` read as a proposition (4503599627370496 = 2^52 = 1/ε) -/
theorem c03t_closeInts_iff (a b one : Int) :
    closeInts a b one = true ↔ ((a - b).natAbs : Int) * 4503599627370496 < max (max a b) one :=
  decide_eq_true_iff

theorem c03t_closeInts_self (a one : Int) (h : 0 < one) : closeInts a a one = true := by
  rw [c03t_closeInts_iff, Int.sub_self, Int.natAbs_zero, Int.natCast_zero, zero_mul]
  exact lt_of_lt_of_le h (le_max_right _ _)

theorem c03t_closeInts_symm (a b one : Int) : closeInts a b one = closeInts b a one := by
  unfold closeInts
  rw [← Int.natAbs_neg (a - b), neg_sub, max_comm a b]

/-- relative difference at least 2^-45 ⇒ not close -/
theorem c03t_closeInts_far (a b one : Int) (h : max (max a b) one ≤ ((a - b).natAbs : Int) * 35184372088832) :
    closeInts a b one = false :=
  decide_eq_false (not_lt.mpr (h.trans (mul_le_mul_of_nonneg_left (by norm_num) (Int.natCast_nonneg _))))

/-- identical scales are accepted, whatever they are -/
theorem c03t_areClose_self (m e : Int) : areCloseDy m e m e = true := by
  unfold areCloseDy
  exact c03t_closeInts_self _ _ (pow_pos (by norm_num) _)

/-- the verdict does not depend on the operand order -/
theorem c03t_areClose_symm (m1 e1 m2 e2 : Int) : areCloseDy m1 e1 m2 e2 = areCloseDy m2 e2 m1 e1 := by
  unfold areCloseDy
  rw [min_comm e1 e2]
  exact c03t_closeInts_symm _ _ _

/-- FAR APART ⇒ REFUSED (in the scaled integers of the definition: `|a − b| · 2^45 ≥ max(a, b, one)`) -/
theorem c03t_areClose_far (m1 e1 m2 e2 : Int)
    (h : max (max (m1 * 2 ^ (e1 - min (min e1 e2) 0).toNat) (m2 * 2 ^ (e2 - min (min e1 e2) 0).toNat)) (2 ^ (-min (min e1 e2) 0).toNat)
          ≤ ((m1 * 2 ^ (e1 - min (min e1 e2) 0).toNat - m2 * 2 ^ (e2 - min (min e1 e2) 0).toNat).natAbs : Int) * 35184372088832) :
    areCloseDy m1 e1 m2 e2 = false := by
  unfold areCloseDy
  exact c03t_closeInts_far _ _ _ h

end HC
