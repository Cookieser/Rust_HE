import Heathcliff.Gen.EvalFns
import Heathcliff.Model.Evaluator
import Heathcliff.Proofs.GenWordScalar
import Heathcliff.Proofs.C02K
import Mathlib.Tactic.Linarith
import Mathlib.Tactic.Ring
import Mathlib.Tactic.NormNum

/-!
  Translator tie for src/evaluator.rs: `Evaluator::balance_correction_factors` generated into
  `Heathcliff/Gen/EvalFns.lean` (namespace `HC.GenE`) against `balanceCorrectionFactors` of `Heathcliff/Model/Evaluator.lean`.
  The code performs ~12 overflow-checked i64 operations per iteration that the hand model does not check (`x as i64 - t as i64`,
  `abs`, `+`, `/`, `%`, `q * b`); the invariants of the extended Euclid (0 ≤ a ≤ prev_a ≤ t, alternating signs with
  |b|·prev_a + |prev_b|·a = t) show that none of them can trap.  At the end: the walk down the modulus chain that `mod_switch_to_inplace`,
  `rescale_to` and the plaintext switch share (`gy_walk`, a loop taken by its two unfoldings) and `mod_switch_to_inplace` = `switchSteps`.
  Helper names start with `gy_`.
-/
namespace HC
open HC.GenE

/-- balanced representative as the code's closure `sum_abs` and the hand model compute it -/
def gy_bal (t x : Nat) : Int := if x > t / 2 then (x : Int) - t else x

theorem gy_bal_bound (t x : Nat) (ht : t < 2^61) (hx : x < 2^62) : (gy_bal t x).natAbs < 2^62 := by
  unfold gy_bal; split <;> omega

theorem gy_balpart (t x : Nat) (ht : t < 2^61) (hx : x < 2^62) :
    (if x > t / 2 then ckI64 ((x : Int) - (t : Int)) else (pure (x : Int) : R Int)) = .ok (gy_bal t x) := by
  unfold gy_bal
  by_cases h : x > t / 2
  · rw [if_pos h, if_pos h, ckI64_ok (by omega) (by omega)]
  · rw [if_neg h, if_neg h]; rfl

theorem gy_absck (v : Int) (h : v.natAbs < 2^62) : ckI64 (Int.ofNat v.natAbs) = .ok (v.natAbs : Int) := by
  rw [ckI64_ok (by simp only [Int.ofNat_eq_natCast]; omega) (by simp only [Int.ofNat_eq_natCast]; omega)]; rfl

theorem gy_closure1_eq (t x y : Nat) (ht : t < 2^61) (hx : x < 2^62) (hy : y < 2^62) :
    GenE.balance_correction_factors_closure1 t (t >>> 1) x y
      = .ok (((gy_bal t x).natAbs + (gy_bal t y).natAbs : Nat) : Int) := by
  have hxa : asI64 x = (x : Int) := asI64_small (by omega)
  have hya : asI64 y = (y : Int) := asI64_small (by omega)
  have hta : asI64 t = (t : Int) := asI64_small (by omega)
  have b1 := gy_bal_bound t x ht hx
  have b2 := gy_bal_bound t y ht hy
  unfold GenE.balance_correction_factors_closure1
  simp only [hxa, hya, hta,Nat.shiftRight_eq_div_pow, Nat.pow_one, gy_balpart t x ht hx, gy_balpart t y ht hy, R.ok_bind',
    gy_absck _ b1, gy_absck _ b2]
  rw [ckI64_ok (by omega) (by omega)]
  simp only [Nat.cast_add]

theorem gy_div_ok (p a : Int) (ha : 0 < a) (hp0 : 0 ≤ p) (hp : p < 2^62) : GenW.ckDivI64 p a = .ok (Int.tdiv p a) := by
  unfold GenW.ckDivI64
  have h0 : 0 ≤ Int.tdiv p a := Int.tdiv_nonneg hp0 ha.le
  have h1 : Int.tdiv p a ≤ p := by
    have := Int.tdiv_le_self (b := a) hp0; exact this
  rw [if_neg (by omega), ckI64_ok (by omega) (by omega)]

theorem gy_mod_ok (p a : Int) (ha : 0 < a) : GenW.ckModI64 p a = .ok (Int.tmod p a) := by
  unfold GenW.ckModI64
  rw [if_neg (by omega), if_neg (by omega)]

/-- the invariant of the extended Euclid in `balance_correction_factors` (signs of the cofactors alternate) -/
def gy_Inv (t : Int) (prevA a prevB b : Int) : Prop :=
  0 ≤ a ∧ a ≤ prevA ∧ prevA ≤ t ∧
  ((0 ≤ b ∧ prevB ≤ 0 ∧ b * prevA - prevB * a = t) ∨ (b ≤ 0 ∧ 0 ≤ prevB ∧ prevB * a - b * prevA = t))

theorem gy_inv_step {t prevA a prevB b : Int} (h : gy_Inv t prevA a prevB b) (ha : a ≠ 0) :
    gy_Inv t a (Int.tmod prevA a) b (prevB - Int.tdiv prevA a * b) ∧
    -t ≤ Int.tdiv prevA a * b ∧ Int.tdiv prevA a * b ≤ t ∧
    -t ≤ prevB - Int.tdiv prevA a * b ∧ prevB - Int.tdiv prevA a * b ≤ t ∧ 0 ≤ Int.tmod prevA a := by
  obtain ⟨ha0, hale, hPt, hinv⟩ := h
  have hapos : 1 ≤ a := by omega
  have hr0 : 0 ≤ Int.tmod prevA a := Int.tmod_nonneg _ (by omega)
  have hr1 : Int.tmod prevA a < a := Int.tmod_lt_of_pos _ hapos
  have hdef : Int.tmod prevA a = prevA - a * Int.tdiv prevA a := Int.tmod_def _ _
  have hq : 0 ≤ Int.tdiv prevA a := Int.tdiv_nonneg (by omega) ha0
  have hdiv : prevA = a * Int.tdiv prevA a + Int.tmod prevA a := by rw [hdef]; ring
  generalize Int.tdiv prevA a = q at *
  generalize Int.tmod prevA a = r at *
  -- the step of the extended Euclid on absolute values (`euclid_cofactor_step`), once for each sign pattern of the cofactors
  rcases hinv with ⟨hb0, hpb, heq⟩ | ⟨hb0, hpb, heq⟩
  · obtain ⟨e1, e2, e3⟩ := euclid_cofactor_step (A := b) (PA := -prevB) (Q := t) hdiv hapos hq hr0 hb0 (by omega)
      (by linear_combination heq)
    have ht : 0 ≤ t := le_trans (add_nonneg (neg_nonneg.mpr hpb) e1) e2
    have hn : prevB - q * b ≤ 0 := sub_nonpos.mpr (le_trans hpb e1)
    exact ⟨⟨hr0, hr1.le, hale.trans hPt, Or.inr ⟨hn, hb0, by linear_combination e3⟩⟩, le_trans (neg_nonpos.mpr ht) e1,
      le_trans (le_add_of_nonneg_left (neg_nonneg.mpr hpb)) e2, by linarith only [e2], le_trans hn ht, hr0⟩
  · obtain ⟨e1, e2, e3⟩ := euclid_cofactor_step (A := -b) (PA := prevB) (Q := t) hdiv hapos hq hr0 (by omega) hpb
      (by linear_combination heq)
    rw [mul_neg] at e1 e2 e3
    have hqb : q * b ≤ 0 := neg_nonneg.mp e1
    have ht : 0 ≤ t := le_trans (add_nonneg hpb e1) e2
    have hp : 0 ≤ prevB - q * b := sub_nonneg.mpr (le_trans hqb hpb)
    exact ⟨⟨hr0, hr1.le, hale.trans hPt, Or.inl ⟨hp, hb0, by linear_combination e3⟩⟩, by linarith only [e2, hpb],
      le_trans hqb ht, le_trans (neg_nonpos.mpr ht) hp, by linarith only [e2], hr0⟩

theorem gy_barrett_ok {t : Modulus} (ht : t.WF) (x : Nat) (hx : x < 2^64) : GenW.barrett_reduce_u64 x t = .ok (x % t.value) := by
  rw [gw_barrett_reduce_u64_eq, barrett64_exact ht hx]

theorem gy_negate_ok {t : Modulus} (ht : t.WF) (x : Nat) (hx : x ≤ t.value) : GenW.negate_u64_mod x t = .ok ((t.value - x) % t.value) := by
  rw [gw_negate_u64_mod_eq, negateMod_exact ht hx]

/-- what the invariant gives for one division step `q = prevA / a`, `r = prevA % a`, `B' = prevB − q·b`: `r` is a nonnegative word, `q·b` and
    `B'` fit an `i64` (they stay within `[−t, t]`, `t < 2^61`), the dividend fits the checked division -/
theorem gy_step_bounds {t : Modulus} (ht : t.WF) {prevA a prevB b : Int} (hI : gy_Inv t.value prevA a prevB b) (hne : a ≠ 0) :
    0 < a ∧ 0 ≤ prevA ∧ prevA < 2^62 ∧ ¬ Int.tmod prevA a < 0 ∧ (Int.tmod prevA a).natAbs < 2^64 ∧
      (prevB - Int.tdiv prevA a * b).natAbs < 2^64 ∧
      (-(2^63 : Int) ≤ Int.tdiv prevA a * b ∧ Int.tdiv prevA a * b < 2^63) ∧
      (-(2^63 : Int) ≤ prevB - Int.tdiv prevA a * b ∧ prevB - Int.tdiv prevA a * b < 2^63) := by
  have htl : (t.value : Int) < 2^61 := by exact_mod_cast ht.lt
  obtain ⟨hI', q1, q2, b1, b2, hr0⟩ := gy_inv_step hI hne
  obtain ⟨ha0, hale, hPt, _⟩ := hI
  have hr1 := hI'.2.1
  generalize Int.tdiv prevA a * b = qb at *
  generalize Int.tmod prevA a = r at *
  refine ⟨by omega, by omega, by omega, by omega, by omega, by omega, ⟨by omega, by omega⟩, ⟨by omega, by omega⟩⟩

def gy_step (t : Modulus) (prevA a prevB b : Int) (e1 e2 : Nat) (sum : Int) : Nat × Nat × Int :=
  if c02k_red (Int.tmod prevA a) t.value ≠ 0 ∧ gcdU64 (c02k_red (Int.tmod prevA a) t.value) t.value = 1 then
    if ((((gy_bal t.value (c02k_red (Int.tmod prevA a) t.value)).natAbs +
          (gy_bal t.value (c02k_red (prevB - Int.tdiv prevA a * b) t.value)).natAbs : Nat) : Int)) < sum then
      (c02k_red (Int.tmod prevA a) t.value, c02k_red (prevB - Int.tdiv prevA a * b) t.value,
        (((gy_bal t.value (c02k_red (Int.tmod prevA a) t.value)).natAbs +
          (gy_bal t.value (c02k_red (prevB - Int.tdiv prevA a * b) t.value)).natAbs : Nat) : Int))
    else (e1, e2, sum)
  else (e1, e2, sum)

theorem gy_step_gen {t : Modulus} (ht : t.WF) (f1 fuel : Nat) (prevA a prevB b : Int) (e1 e2 : Nat) (sum : Int)
    (hI : gy_Inv t.value prevA a prevB b) (hne : a ≠ 0) :
    GenE.balance_correction_factors_loop1 f1 t t.value (t.value >>> 1) (fuel+1) e1 e2 sum prevA prevB a b =
    GenE.balance_correction_factors_loop1 f1 t t.value (t.value >>> 1) fuel
      (gy_step t prevA a prevB b e1 e2 sum).1 (gy_step t prevA a prevB b e1 e2 sum).2.1 (gy_step t prevA a prevB b e1 e2 sum).2.2
      a b (Int.tmod prevA a) (prevB - Int.tdiv prevA a * b) := by
  have htl' := ht.lt
  have htpos : 0 < t.value := Nat.lt_of_lt_of_le (by decide) ht.two_le
  obtain ⟨ha, hp0, hp62, hnn, haa, hbb, hqb, hB'⟩ := gy_step_bounds ht hI hne
  have hra : (Int.tmod prevA a).natAbs % t.value = c02k_red (Int.tmod prevA a) t.value := by unfold c02k_red; rw [if_neg hnn]
  have hle2 : (prevB - Int.tdiv prevA a * b).natAbs % t.value ≤ t.value := (Nat.mod_lt _ htpos).le
  have hrb : (if prevB - Int.tdiv prevA a * b < 0 then GenW.negate_u64_mod ((prevB - Int.tdiv prevA a * b).natAbs % t.value) t
      else Except.ok ((prevB - Int.tdiv prevA a * b).natAbs % t.value)) = .ok (c02k_red (prevB - Int.tdiv prevA a * b) t.value) := by
    unfold c02k_red
    by_cases hn : prevB - Int.tdiv prevA a * b < 0
    · rw [if_pos hn, if_pos hn, gy_negate_ok ht _ hle2]
    · rw [if_neg hn, if_neg hn]
  have ham := c02k_red_lt htpos (Int.tmod prevA a)
  have hbm := c02k_red_lt htpos (prevB - Int.tdiv prevA a * b)
  rw [GenE.balance_correction_factors_loop1]
  simp only [if_pos hne, gy_div_ok prevA a ha hp0 hp62, gy_mod_ok prevA a ha, R.ok_bind',
    ckI64_ok hqb.1 hqb.2, ckI64_ok hB'.1 hB'.2,
    gy_barrett_ok ht _ haa, gy_barrett_ok ht _ hbb, if_neg hnn, R.pure_eq', hra, hrb, gw_gcd_eq,
    gy_closure1_eq t.value _ _ htl' (by omega : c02k_red (Int.tmod prevA a) t.value < 2^62) (by omega : c02k_red (prevB - Int.tdiv prevA a * b) t.value < 2^62)]
  by_cases hc1 : c02k_red (Int.tmod prevA a) t.value ≠ 0
  · by_cases hc2 : gcdU64 (c02k_red (Int.tmod prevA a) t.value) t.value = 1
    · simp only [gy_step, hc1, hc2, if_true, decide_true, R.ok_bind', and_self, ne_eq, not_false_eq_true]
    · simp only [gy_step, hc2, if_false, decide_false, R.ok_bind', and_false, Bool.false_eq_true, ite_self]
  · simp only [gy_step, hc1, if_false, R.ok_bind', false_and, Bool.false_eq_true]

theorem gy_step_model {t : Modulus} (ht : t.WF) (fuel : Nat) (prevA a prevB b : Int) (e1 e2 : Nat) (sum : Int)
    (hI : gy_Inv t.value prevA a prevB b) (hne : a ≠ 0) :
    balanceLoop t (fuel+1) prevA a prevB b e1 e2 sum =
    balanceLoop t fuel a (Int.tmod prevA a) b (prevB - Int.tdiv prevA a * b)
      (gy_step t prevA a prevB b e1 e2 sum).1 (gy_step t prevA a prevB b e1 e2 sum).2.1 (gy_step t prevA a prevB b e1 e2 sum).2.2 := by
  have htpos : 0 < t.value := Nat.lt_of_lt_of_le (by decide) ht.two_le
  obtain ⟨_, _, _, hnn, haa, hbb, _, hB'⟩ := gy_step_bounds ht hI hne
  have hle2 : (prevB - Int.tdiv prevA a * b).natAbs % t.value ≤ t.value := (Nat.mod_lt _ htpos).le
  have hra : (Int.tmod prevA a).natAbs % t.value = c02k_red (Int.tmod prevA a) t.value := by unfold c02k_red; rw [if_neg hnn]
  have hrb : ∀ (h : prevB - Int.tdiv prevA a * b < 0),
      (t.value - (prevB - Int.tdiv prevA a * b).natAbs % t.value) % t.value
      = c02k_red (prevB - Int.tdiv prevA a * b) t.value := fun h => by unfold c02k_red; rw [if_pos h]
  have hrb' : ∀ (h : ¬ prevB - Int.tdiv prevA a * b < 0), (prevB - Int.tdiv prevA a * b).natAbs % t.value
      = c02k_red (prevB - Int.tdiv prevA a * b) t.value := fun h => by unfold c02k_red; rw [if_neg h]
  rw [balanceLoop, if_neg hne]
  simp only [bind, Except.bind, ckI64_ok hB'.1 hB'.2, barrett64_exact ht haa, barrett64_exact ht hbb]
  by_cases hn' : prevB - Int.tdiv prevA a * b < 0 <;>
    simp only [hnn, hn', if_true, if_false, negateMod_exact ht hle2, pure, Except.pure]
  · rw [hra, hrb hn']; rfl
  · rw [hra, hrb' hn']; rfl

theorem gy_loop_eq {t : Modulus} (ht : t.WF) (f1 : Nat) : ∀ (fuel : Nat) (prevA a prevB b : Int) (e1 e2 : Nat) (sum : Int),
    gy_Inv t.value prevA a prevB b →
    GenE.balance_correction_factors_loop1 f1 t t.value (t.value >>> 1) fuel e1 e2 sum prevA prevB a b
    = (balanceLoop t fuel prevA a prevB b e1 e2 sum >>= fun r => mulMod r.1 f1 t >>= fun f => pure (f, r.1, r.2)) := by
  intro fuel
  induction fuel with
  | zero =>
    intro prevA a prevB b e1 e2 sum _
    rw [GenE.balance_correction_factors_loop1, balanceLoop, R.error_bind']
  | succ n ih =>
    intro prevA a prevB b e1 e2 sum hI
    by_cases ha : a = 0
    · subst ha
      rw [c02k_loop_zero, R.ok_bind', GenE.balance_correction_factors_loop1]
      simp only [ne_eq, not_true_eq_false, if_false, gw_multiply_u64_mod_eq]
    · rw [gy_step_gen ht f1 n prevA a prevB b e1 e2 sum hI ha, gy_step_model ht n prevA a prevB b e1 e2 sum hI ha]
      exact ih _ _ _ _ _ _ _ (gy_inv_step hI ha).1

/-- `Evaluator::balance_correction_factors` (generated) = `balanceCorrectionFactors` (hand model).
    Hypotheses: a well-formed plain modulus (`2 ≤ t < 2^61`, Barrett ratio: what `Modulus::new` guarantees), `factor1 < 2^63`
    (domain of the `try_invert_u64_mod_u64` equality: `x as i64` casts) and `factor2 < 2^64` (type of the parameter). -/
theorem gy_balance_correction_factors_eq {t : Modulus} (ht : t.WF) (f1 f2 : Nat) (h1 : f1 < 2^63) (h2 : f2 < 2^64) :
    GenE.balance_correction_factors f1 f2 t = balanceCorrectionFactors f1 f2 t := by
  have h2le := ht.two_le
  have hlt := ht.lt
  have htpos : 0 < t.value := by omega
  have hinv := tryInvert_spec_partial (v := f1) h2le hlt (by omega) (by omega)
  unfold GenE.balance_correction_factors balanceCorrectionFactors GenW.try_invert_u64_mod
  simp only [gw_try_invert_u64_mod_u64_eq f1 t.value 1 h1 h2le hlt]
  by_cases hc : f1 ≠ 0 ∧ Nat.gcd f1 t.value = 1
  · obtain ⟨inv, hti, hinvlt, hinv1⟩ := hinv.1 hc
    have hr : inv * f2 % t.value < t.value := Nat.mod_lt _ htpos
    rw [hti]
    simp only [R.ok_bind', R.pure_eq', decide_true, not_true_eq_false, if_false, gw_multiply_u64_mod_eq,
      mulMod_exact ht (x := inv) (y := f2) (by omega) (by omega),
      gy_closure1_eq t.value _ 1 hlt (by omega : inv * f2 % t.value < 2^62) (by norm_num),
      asI64_small (by omega : t.value < 2^63), asI64_small (by omega : inv * f2 % t.value < 2^63)]
    have hI : gy_Inv t.value (t.value : Int) ((inv * f2 % t.value : Nat) : Int) (Int.ofNat 0) (Int.ofNat 1) := by
      refine ⟨by positivity, by exact_mod_cast hr.le, le_refl _, Or.inl ⟨by decide, by decide, ?_⟩⟩
      simp only [Int.ofNat_eq_natCast, Nat.cast_one, Nat.cast_zero]; ring
    rw [gy_loop_eq ht f1 200 _ _ _ _ _ _ _ hI]
    simp only [gy_bal, Nat.cast_add, Int.ofNat_eq_natCast, Nat.cast_one, Nat.cast_zero, R.pure_eq']
  · rw [hinv.2 (by by_cases h0 : f1 = 0; exact Or.inl h0; exact Or.inr (fun hg => hc ⟨h0, hg⟩))]
    rfl

/-- the generated walks down the modulus chain (`while cur != tgt { cur -= 1; trace.push(cur) }`, three copies in src/evaluator.rs), as
    any loop `L` with these two unfoldings: the trace of the levels passed -/
theorem gy_walk (tgt : Nat) (L : List Nat → Nat → Nat → R (List Nat)) (he : ∀ trace n, L trace (n + 1) tgt = pure trace)
    (hs : ∀ trace n cur, tgt < cur → L trace (n + 1) cur = L (trace ++ [cur - 1]) n (cur - 1)) :
    ∀ (fuel cur : Nat) (trace : List Nat), tgt ≤ cur → cur - tgt < fuel →
    L trace fuel cur = .ok (trace ++ (List.range (cur - tgt)).map (fun i => cur - 1 - i)) := by
  intro fuel
  induction fuel with
  | zero => intro cur trace _ h; omega
  | succ n ih =>
    intro cur trace hle hf
    by_cases hc : cur = tgt
    · subst hc; rw [he]; simp [R.pure_eq']
    · rw [hs _ _ _ (by omega), ih (cur - 1) _ (by omega) (by omega)]
      have : cur - tgt = (cur - 1 - tgt) + 1 := by omega
      rw [this, List.range_succ_eq_map, List.map_cons, List.map_map, List.append_assoc, List.singleton_append, Nat.sub_zero]
      refine congrArg (fun l => (Except.ok (trace ++ (cur - 1) :: l) : R (List Nat))) ?_
      apply List.map_congr_left
      intro i _
      simp only [Function.comp]; omega

theorem gy_walk_loop_eq (tgt : Nat) : ∀ (fuel cur : Nat) (trace : List Nat), tgt ≤ cur → cur - tgt < fuel →
    GenE.mod_switch_to_inplace_loop1 tgt trace fuel cur = .ok (trace ++ (List.range (cur - tgt)).map (fun i => cur - 1 - i)) :=
  gy_walk tgt (GenE.mod_switch_to_inplace_loop1 tgt)
    (fun trace n => by rw [GenE.mod_switch_to_inplace_loop1]; simp)
    (fun trace n cur h => by
      rw [GenE.mod_switch_to_inplace_loop1]; simp only [ne_eq, Nat.ne_of_gt h, not_false_eq_true, if_true, ckSub_of_le (Nat.zero_lt_of_lt h), R.ok_bind'])

/-- `mod_switch_to_inplace` (decision skeleton over chain indices: guard, loop condition, one level down per step) = `switchSteps` -/
theorem gy_mod_switch_to_inplace_eq (cur tgt : Nat) (hc : cur < 2^64) :
    GenE.mod_switch_to_inplace cur tgt = switchSteps cur tgt := by
  unfold GenE.mod_switch_to_inplace switchSteps
  by_cases h : cur < tgt
  · simp only [h, if_true, R.error_bind']
  · simp only [h, if_false, R.pure_eq', R.ok_bind']
    rw [gy_walk_loop_eq tgt _ cur _ (by omega) (by omega)]
    simp

end HC
