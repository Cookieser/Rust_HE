import Heathcliff.Gen.ScalingFns
import Heathcliff.Model.Scheme
import Heathcliff.Proofs.GenWordScalar
import Heathcliff.Proofs.GenLoop
import Heathcliff.Proofs.ScalingCells

/-!
  `multiply_add_plain` / `multiply_sub_plain` (src/util/scaling_variant.rs), generated into
  `Heathcliff/Gen/ScalingFns.lean` (`HC.GenS`), against `multiplyAddPlain` / `multiplySubPlain` of `Heathcliff/Model/Scheme.lean`.

  The code walks coefficient-outer / component-inner over a FLAT destination (`destination[j * coeff_count + i]`), the hand model
  component-outer / coefficient-inner over an `RnsPoly`.  Both are traversals of the same grid of independent cells (one scaled
  coefficient added to / subtracted from one destination word), and every cell either succeeds or fails with `.overflow`.  A traversal of
  such a grid returns the values of all cells if all succeed and `.overflow` otherwise, in whatever order it goes (`gz_mapM_grid`); so
  the two agree on success (same values) and on failure (same error).  The cell and the model's traversal are in Proofs/ScalingCells.lean.
  The first section defines the flat layout of ONE polynomial (`flattenRns` / `unflattenRns`, `flatten_unflatten`, the grid facts `gz_div_lt`,
  `gz_npos`, `gz_div_mod`, `gz_unflatten_getD`); GenPolyRns, GenEvalCt*, GenEvalSq and Props/C01, C02 rest on it.
  Helper names start with `gz_`.
-/
namespace HC
open HC.GenW HC.GenS

/-! ### the flat layout of one polynomial of a ciphertext: component `j`, coefficient `i` at `j * n + i` -/

/-- `RnsPoly` (components × coefficients) ↦ the flat buffer the code works on -/
def flattenRns (size n : Nat) (p : RnsPoly) : List Nat :=
  (List.range (size * n)).map fun x => (p.getD (x / n) #[]).getD (x % n) 0

/-- the flat buffer ↦ `RnsPoly` -/
def unflattenRns (size n : Nat) (d : List Nat) : RnsPoly :=
  ((List.range size).map fun j => ((List.range n).map fun i => d.getD (j * n + i) 0).toArray).toArray

theorem gz_div_lt {x size n : Nat} (h : x < size * n) : x / n < size :=
  Nat.div_lt_of_lt_mul (by rw [Nat.mul_comm]; exact h)

theorem gz_npos {x size n : Nat} (h : x < size * n) : 0 < n := by
  rcases Nat.eq_zero_or_pos n with h0 | h0
  · subst h0; simp at h
  · exact h0

theorem gz_div_mod (x n : Nat) : x / n * n + x % n = x := by
  rw [Nat.mul_comm]; exact Nat.div_add_mod x n

theorem gz_unflatten_getD (size n : Nat) (d : List Nat) {i j : Nat} (hi : i < n) (hj : j < size) :
    ((unflattenRns size n d).getD j #[]).getD i 0 = d.getD (j * n + i) 0 := by
  unfold unflattenRns
  rw [show ∀ (l : List (Array Nat)), l.toArray.getD j #[] = l.getD j #[] from fun l => by simp, list_getD_range_map _ _ hj,
    show ∀ (l : List Nat), l.toArray.getD i 0 = l.getD i 0 from fun l => by simp, list_getD_range_map _ _ hi]

/-- the two layouts are inverse to each other on buffers of the right length -/
theorem flatten_unflatten (size n : Nat) (d : List Nat) (h : d.length = size * n) : flattenRns size n (unflattenRns size n d) = d := by
  apply List.ext_getElem
  · simp [flattenRns, h]
  · intro x h1 h2
    have hx : x < size * n := by simpa [flattenRns] using h1
    have hn := gz_npos hx
    simp only [flattenRns, List.getElem_map, List.getElem_range]
    rw [gz_unflatten_getD size n d (Nat.mod_lt _ hn) (gz_div_lt hx), gz_div_mod]
    simp [List.getD, h2]

def gz_okD {α : Type} (r : R α) (d : α) : α := match r with | .ok v => v | .error _ => d

/-- a traversal of independent computations all of whose failures are `e`: their values if all succeed, else `e` -/
theorem gz_mapM_all {ι α : Type} (g : ι → R α) (d : α) (e : Err) : ∀ (l : List ι), (∀ i, i ∈ l → ∀ x, g i = .error x → x = e) →
    l.mapM g = if ∀ i, i ∈ l → (g i).isOk = true then .ok (l.map fun i => gz_okD (g i) d) else .error e := by
  intro l
  induction l with
  | nil => intro _; simp; rfl
  | cons a t ih =>
    intro hu
    rw [R.mapM_cons]
    cases ha : g a with
    | error x =>
      have hx := hu a List.mem_cons_self x ha
      subst hx
      rw [R.error_bind, if_neg (fun h => by have := h a List.mem_cons_self; rw [ha] at this; cases this)]
    | ok v =>
      rw [R.ok_bind, ih (fun i hi => hu i (List.mem_cons_of_mem _ hi))]
      by_cases hall : ∀ i, i ∈ t → (g i).isOk = true
      · rw [if_pos hall, if_pos (fun i hi => by
          rcases List.mem_cons.mp hi with rfl | h
          · rw [ha]; rfl
          · exact hall i h), R.ok_bind, List.map_cons, ha]
        rfl
      · rw [if_neg hall, if_neg (fun h => hall fun i hi => h i (List.mem_cons_of_mem _ hi))]
        rfl

/-- … for a grid of cells, traversed line by line -/
theorem gz_mapM_grid {α : Type} (c : Nat → Nat → R α) (d : α) (e : Err) (A B : List Nat)
    (hu : ∀ i, i ∈ A → ∀ j, j ∈ B → ∀ x, c i j = .error x → x = e) :
    A.mapM (fun i => B.mapM (c i)) =
      if ∀ i, i ∈ A → ∀ j, j ∈ B → (c i j).isOk = true then .ok (A.map fun i => B.map fun j => gz_okD (c i j) d) else .error e := by
  rw [R.mapM_congr (fun i hi => gz_mapM_all (c i) d e B (hu i hi)),
    gz_mapM_all _ [] e A (fun i _ x hx => by split at hx <;> cases hx; rfl)]
  by_cases hall : ∀ i, i ∈ A → ∀ j, j ∈ B → (c i j).isOk = true
  · rw [if_pos hall, if_pos (fun i hi => by rw [if_pos (hall i hi)]; rfl)]
    refine congrArg Except.ok (List.map_congr_left fun i hi => ?_)
    rw [if_pos (hall i hi)]
    rfl
  · rw [if_neg hall, if_neg (fun h => hall fun i hi => by
      by_contra hc
      have := h i hi
      rw [if_neg hc] at this
      cases this)]

/-- all failures of `r` are `.overflow` -/
def gz_Ov {α : Type} (r : R α) : Prop := ∀ x, r = .error x → x = .overflow

theorem gz_Ov_pure {α : Type} (a : α) : gz_Ov (pure a : R α) := by intro x h; cases h
theorem gz_Ov_ok {α : Type} (a : α) : gz_Ov (.ok a : R α) := by intro x h; cases h
theorem gz_Ov_bind {α β : Type} {r : R α} {k : α → R β} (h1 : gz_Ov r) (h2 : ∀ a, gz_Ov (k a)) : gz_Ov (r >>= k) := by
  intro x h
  cases hr : r with
  | error y =>
    rw [hr] at h
    have hxy : y = x := by cases h; rfl
    rw [← hxy]; exact h1 y hr
  | ok a => rw [hr] at h; exact h2 a x h
theorem gz_Ov_ite {α : Type} {c : Prop} [Decidable c] {a b : R α} (h1 : gz_Ov a) (h2 : gz_Ov b) : gz_Ov (if c then a else b) := by
  split
  · exact h1
  · exact h2
theorem gz_Ov_ckAdd (a b : Nat) : gz_Ov (ckAdd a b) := by
  unfold ckAdd; intro x h; split at h <;> cases h; rfl
theorem gz_Ov_ckSub (a b : Nat) : gz_Ov (ckSub a b) := by
  unfold ckSub; intro x h; split at h <;> cases h; rfl
theorem gz_Ov_ckMul (a b : Nat) : gz_Ov (ckMul a b) := by
  unfold ckMul; intro x h; split at h <;> cases h; rfl
theorem gz_Ov_addMod (a b : Nat) (m : Modulus) : gz_Ov (addMod a b m) :=
  gz_Ov_bind (gz_Ov_ckAdd _ _) fun _ => gz_Ov_ite (gz_Ov_ckSub _ _) (gz_Ov_pure _)
theorem gz_Ov_subMod (a b : Nat) (m : Modulus) : gz_Ov (subMod a b m) := gz_Ov_pure _
theorem gz_Ov_barrett64 (x : Nat) (m : Modulus) : gz_Ov (barrett64 x m) :=
  gz_Ov_bind (gz_Ov_ckMul _ _) fun _ => gz_Ov_bind (gz_Ov_ckSub _ _) fun _ => gz_Ov_ite (gz_Ov_ckSub _ _) (gz_Ov_pure _)
theorem gz_Ov_mulOperandMod (x : Nat) (y : MulOperand) (m : Modulus) : gz_Ov (mulOperandMod x y m) :=
  gz_Ov_ite (gz_Ov_ckSub _ _) (gz_Ov_pure _)
theorem gz_Ov_mulOperandAddMod (a : Nat) (b : MulOperand) (c : Nat) (m : Modulus) : gz_Ov (mulOperandAddMod a b c m) :=
  gz_Ov_bind (gz_Ov_mulOperandMod _ _ _) fun _ => gz_Ov_bind (gz_Ov_barrett64 _ _) fun _ => gz_Ov_addMod _ _ _

theorem gz_Ov_cell {f : Nat → Nat → Modulus → R Nat} (hf : ∀ a b m, gz_Ov (f a b m)) {t : Nat} (ht : t ≠ 0)
    (qModT upperHalf : Nat) (q : Modulus) (op : MulOperand) (m d : Nat) : gz_Ov (gz_cell f t qModT upperHalf q op m d) := by
  unfold gz_cell
  simp only [if_neg ht]
  exact gz_Ov_bind (gz_Ov_ckAdd _ _) fun _ => gz_Ov_bind (gz_Ov_mulOperandAddMod _ _ _ _) fun _ => hf _ _ _

/-! ### the generated loops with the last step abstracted (`f` = `addMod` / `subMod`) -/

/-- the generated inner loop (over the components `j`, at coefficient `i`) -/
def gz_ref2 (f : Nat → Nat → Modulus → R Nat) (cm : List Modulus) (N : Nat) (cdp : List MulOperand) (pd : List Nat) (fix i : Nat) :
    Nat → Nat → List Nat → R (List Nat)
  | 0, _, a => pure a
  | fuel+1, j, a => do
    let t3 ← GenW.idx pd i
    let t4 ← GenS.idxT cdp j
    let t5 ← GenS.idxT cm j
    let v12 ← mulOperandAddMod t3 t4 fix t5
    let t6 ← ckMul j N
    let t7 ← ckAdd t6 i
    let t8 ← GenW.idx a t7
    let t9 ← GenS.idxT cm j
    let t10 ← f t8 v12 t9
    let t11 ← ckMul j N
    let t12 ← ckAdd t11 i
    let a ← GenW.setIdx a t12 t10
    gz_ref2 f cm N cdp pd fix i fuel (j + 1) a

/-- the generated outer loop (over the coefficients `i` of the plaintext) -/
def gz_ref1 (f : Nat → Nat → Modulus → R Nat) (cm : List Modulus) (N : Nat) (cdp : List MulOperand) (pd : List Nat) (t upperHalf qModT : Nat) :
    Nat → Nat → List Nat → R (List Nat)
  | 0, _, a => pure a
  | fuel+1, i, a => do
    let t1 ← GenW.idx pd i
    let (n0, c) := addU64 (mulLo t1 qModT) upperHalf
    let n1 ← ckAdd (mulHi t1 qModT) c
    let (_, _, fix, _) ← GenW.divide_u128_u64_inplace n0 n1 t
    let a ← gz_ref2 f cm N cdp pd fix i cm.length 0 a
    gz_ref1 f cm N cdp pd t upperHalf qModT fuel (i + 1) a

theorem gz_add_loop2_eq (cm : List Modulus) (N v1 : Nat) (cdp : List MulOperand) (pd : List Nat) (fix f1 i : Nat) : ∀ cnt j a,
    GenS.multiply_add_plain_loop2 v1 fix f1 i cm N cdp pd cnt j a = gz_ref2 addMod cm N cdp pd fix i cnt j a := by
  intro cnt
  induction cnt with
  | zero => intro j a; rfl
  | succ n ih =>
    intro j a
    rw [GenS.multiply_add_plain_loop2, gz_ref2]
    simp only [gw_multiply_u64operand_add_u64_mod_eq, gw_add_u64_mod_eq, ih]

theorem gz_add_loop1_eq (v1 : Nat) (cm : List Modulus) (pc N : Nat) (pm : Modulus) (cdp : List MulOperand) (uh qModT : Nat) (pd : List Nat) (hv3 : v1 = cm.length) :
    ∀ cnt i a p0 p1 n0 n1 f0 f1,
    GenS.multiply_add_plain_loop1 v1 cm pc N pm cdp uh qModT pd cnt i a p0 p1 n0 n1 f0 f1 =
      gz_ref1 addMod cm N cdp pd pm.value uh qModT cnt i a := by
  subst hv3
  intro cnt
  induction cnt with
  | zero => intro i a _ _ _ _ _ _; rfl
  | succ n ih =>
    intro i a _ _ _ _ _ _
    rw [GenS.multiply_add_plain_loop1, gz_ref1]
    simp only [gw_multiply_u64_u64_eq, gw_add_u64_eq, gz_add_loop2_eq, ih]
theorem gz_sub_loop2_eq (cm : List Modulus) (N v1 : Nat) (cdp : List MulOperand) (pd : List Nat) (i fix f1 : Nat) : ∀ cnt j a,
    GenS.multiply_sub_plain_loop2 v1 i fix f1 cm N cdp pd cnt j a = gz_ref2 subMod cm N cdp pd fix i cnt j a := by
  intro cnt
  induction cnt with
  | zero => intro j a; rfl
  | succ n ih =>
    intro j a
    rw [GenS.multiply_sub_plain_loop2, gz_ref2]
    simp only [gw_multiply_u64operand_add_u64_mod_eq, gw_sub_u64_mod_eq, ih]

theorem gz_sub_loop1_eq (v1 : Nat) (cm : List Modulus) (pc N : Nat) (pm : Modulus) (cdp : List MulOperand) (uh qModT : Nat) (pd : List Nat) (hv3 : v1 = cm.length) :
    ∀ cnt i a,
    GenS.multiply_sub_plain_loop1 v1 cm pc N pm cdp uh qModT pd cnt i a =
      gz_ref1 subMod cm N cdp pd pm.value uh qModT cnt i a := by
  subst hv3
  intro cnt
  induction cnt with
  | zero => intro i a; rfl
  | succ n ih =>
    intro i a
    rw [GenS.multiply_sub_plain_loop1, gz_ref1]
    simp only [gw_multiply_u64_u64_eq, gw_add_u64_eq, gz_sub_loop2_eq, ih]

theorem gz_idxT_getD {α : Type} [Inhabited α] (l : List α) (i : Nat) (h : i < l.length) : GenS.idxT l i = .ok (l.getD i default) := by
  unfold GenS.idxT; simp [List.getD, h]

theorem gz_ref2_step (f : Nat → Nat → Modulus → R Nat) (cm : List Modulus) (N : Nat) (cdp : List MulOperand) (pd : List Nat) (fix i cnt j : Nat)
    (a : List Nat) (hi : i < pd.length) (hj : j < cm.length) (hj' : j < cdp.length) (hidx : j * N + i < a.length) (ha : a.length < B64) :
    gz_ref2 f cm N cdp pd fix i (cnt + 1) j a =
      (do let v ← gz_cell2 f (cm.getD j default) (cdp.getD j default) (pd.getD i 0) fix (a.getD (j * N + i) 0)
          gz_ref2 f cm N cdp pd fix i cnt (j + 1) (a.set (j * N + i) v)) := by
  rw [gz_ref2]
  have h1 : ckMul j N = .ok (j * N) := ckMul_ok (by omega)
  have h2 : ckAdd (j * N) i = .ok (j * N + i) := ckAdd_ok (by omega)
  simp only [GenW.idx_getD pd hi, gz_idxT_getD cdp j hj', gz_idxT_getD cm j hj, h1, h2, GenW.idx_getD a hidx, bind, Except.bind, gz_cell2]
  cases mulOperandAddMod (pd.getD i 0) (cdp.getD j default) fix (cm.getD j default) with
  | error e => rfl
  | ok sc =>
    simp only []
    cases f (a.getD (j * N + i) 0) sc (cm.getD j default) with
    | error e => rfl
    | ok v =>
      have hs : GenW.setIdx a (j * N + i) v = .ok (a.set (j * N + i) v) := by unfold GenW.setIdx; rw [if_pos hidx]
      simp only [hs]

theorem gz_ref1_step (f : Nat → Nat → Modulus → R Nat) (cm : List Modulus) (N : Nat) (cdp : List MulOperand) (pd : List Nat)
    {t qModT : Nat} (upperHalf cnt i : Nat) (a : List Nat) (ht : t ≠ 0) (hq : qModT < 2^64) (hi : i < pd.length) (hm : pd.getD i 0 < 2^64) :
    gz_ref1 f cm N cdp pd t upperHalf qModT (cnt + 1) i a =
      (do let a' ← gz_ref2 f cm N cdp pd (gz_fix t qModT upperHalf (pd.getD i 0)) i cm.length 0 a
          gz_ref1 f cm N cdp pd t upperHalf qModT cnt (i + 1) a') := by
  rw [gz_ref1]
  have hn0 : (addU64 (mulLo (pd.getD i 0) qModT) upperHalf).1 < 2^64 := by
    unfold addU64 wAdd; simp only []; exact Nat.mod_lt _ (by decide)
  have hc : (addU64 (mulLo (pd.getD i 0) qModT) upperHalf).2 ≤ 1 := by
    unfold addU64; simp only []; split <;> omega
  have hh : mulHi (pd.getD i 0) qModT < B64 - 1 := by
    unfold mulHi
    apply Nat.div_lt_of_lt_mul
    have h1 : pd.getD i 0 * qModT ≤ (2^64 - 1) * (2^64 - 1) := Nat.mul_le_mul (by omega) (by omega)
    have h2 : (2^64 - 1) * (2^64 - 1) < B64 * (B64 - 1) := by decide
    omega
  have hB : B64 = 2^64 := by decide
  have hn1 : mulHi (pd.getD i 0) qModT + (addU64 (mulLo (pd.getD i 0) qModT) upperHalf).2 < 2^64 := by omega
  have hor : ∀ n0 n1 : Nat, n0 < 2^64 → (n1 <<< 64 ||| n0) = n0 + B64 * n1 := by
    intro n0 n1 h0
    rw [Nat.shiftLeft_eq, Nat.mul_comm, ← Nat.two_pow_add_eq_or_of_lt h0, hB, Nat.add_comm]
  simp only [GenW.idx_getD pd hi, gz_ckAdd_hi hm hq upperHalf, gx_divide_u128_u64_inplace_eq _ _ t hn0 hn1, if_neg ht, bind, Except.bind,
    hor _ _ hn0, gz_fix]
/-- a cell of the generated code: coefficient `i` (rounding fix-up `fix`), component `j`, destination word read from `a` -/
def gz_gcell (f : Nat → Nat → Modulus → R Nat) (cm : List Modulus) (N : Nat) (cdp : List MulOperand) (pd : List Nat) (fix i : Nat)
    (a : List Nat) (j : Nat) : R Nat :=
  gz_cell2 f (cm.getD j default) (cdp.getD j default) (pd.getD i 0) fix (a.getD (j * N + i) 0)

/-- the inner loop writes the cells of column `i` to the positions `j·N + i` (`K`: what follows the loop) -/
theorem gz_ref2_eq {β : Type} (f : Nat → Nat → Modulus → R Nat) (cm : List Modulus) (N : Nat) (cdp : List MulOperand) (pd : List Nat)
    (fix i size : Nat) (hcm : cm.length = size) (hcdp : size ≤ cdp.length) (hi : i < pd.length) (hiN : i < N) (a0 : List Nat)
    (hl : a0.length = size * N) (hB : a0.length < B64) (K : List Nat → R β) :
    (gz_ref2 f cm N cdp pd fix i size 0 a0 >>= K) =
      (List.range' 0 size).mapM (gz_gcell f cm N cdp pd fix i a0) >>= fun ys => K (Loop.scat (fun j => j * N + i) 0 ys a0) :=
  Loop.scatter (fun k j d => gz_ref2 f cm N cdp pd fix i k j d >>= K) (gz_gcell f cm N cdp pd fix i a0) (fun j => j * N + i) K 0 size a0
    (fun _ _ => rfl)
    (fun k j d _ hj hU => by
      have hidx : j * N + i < d.length := by rw [hU.length, hl]; exact grid_lt hj hiN
      have hrd := hU.getD (p := j * N + i) (fun t _ ht he => by have := (grid_inj hiN hiN he).1; omega) 0
      rw [gz_ref2_step f cm N cdp pd fix i k j d hi (by omega) (by omega) hidx (by rw [hU.length]; exact hB), hrd, bind_assoc]
      rfl)
    size 0 a0 (Nat.le_refl _) (by omega) (Loop.Untouched.refl _ _ _ _)

theorem gz_col_getD (N i size : Nat) (hiN : i < N) (ys a : List Nat) (hys : ys.length = size) (hl : a.length = size * N) (p : Nat)
    (hp : p < size * N) :
    (Loop.scat (fun j => j * N + i) 0 ys a).getD p 0 = if p % N = i then ys.getD (p / N) 0 else a.getD p 0 := by
  by_cases hc : p % N = i
  · have hpe : p = (0 + p / N) * N + i := by rw [Nat.zero_add, ← hc]; exact (gz_div_mod p N).symm
    have hlt : p / N < ys.length := by rw [hys]; exact gz_div_lt hp
    rw [if_pos hc, List.getD_eq_getElem?_getD, List.getD_eq_getElem?_getD]
    conv_lhs => rw [hpe]
    rw [Loop.scat_get (fun j => j * N + i) 0 ys a (fun t t' htt _ he => by have := (grid_inj hiN hiN he).1; omega) (p / N) hlt
      (by rw [← hpe, hl]; exact hp)]
  · rw [if_neg hc, List.getD_eq_getElem?_getD, List.getD_eq_getElem?_getD,
      Loop.scat_frame (fun j => j * N + i) p 0 ys a fun t _ he => hc (by rw [← he]; exact grid_mod _ hiN)]

/-- the outer loop: column after column; the cells of a column read words no earlier column has written -/
theorem gz_ref1_eq (f : Nat → Nat → Modulus → R Nat) (cm : List Modulus) (N : Nat) (cdp : List MulOperand) (pd : List Nat)
    {t qModT : Nat} (upperHalf size pc : Nat) (hcm : cm.length = size) (hcdp : size ≤ cdp.length) (hpc : pc ≤ pd.length) (hpN : pc ≤ N)
    (ht : t ≠ 0) (hq : qModT < 2^64) (hw : ∀ i, i < pc → pd.getD i 0 < 2^64) :
    ∀ cnt i a, i + cnt = pc → a.length = size * N → a.length < B64 →
    gz_ref1 f cm N cdp pd t upperHalf qModT cnt i a =
      (List.range' i cnt).mapM (fun i' => (List.range' 0 size).mapM
        (gz_gcell f cm N cdp pd (gz_fix t qModT upperHalf (pd.getD i' 0)) i' a)) >>= fun yss =>
        pure ((List.range (size * N)).map fun p =>
          if i ≤ p % N ∧ p % N < i + cnt then (yss.getD (p % N - i) []).getD (p / N) 0 else a.getD p 0) := by
  intro cnt
  induction cnt with
  | zero =>
    intro i a _ hl _
    rw [gz_ref1, List.range'_zero, R.mapM_nil, R.ok_bind]
    refine congrArg pure ?_
    rw [← hl]
    refine (list_map_getD_range a 0).symm.trans (List.map_congr_left fun p _ => ?_)
    rw [if_neg (by omega)]
  | succ c ih =>
    intro i a hi hl hB
    have hip : i < pc := hi ▸ Nat.lt_add_of_pos_right (Nat.succ_pos c)
    have hiN : i < N := Nat.lt_of_lt_of_le hip hpN
    have hipd : i < pd.length := Nat.lt_of_lt_of_le hip hpc
    rw [gz_ref1_step f cm N cdp pd upperHalf c i a ht hq hipd (hw i hip), hcm,
      gz_ref2_eq f cm N cdp pd _ i size hcm hcdp hipd hiN a hl hB, List.range'_succ, R.mapM_cons, bind_assoc]
    refine R.bind_congr _ fun ys hys => ?_
    have hysl : ys.length = size := by rw [R.mapM_length hys, List.length_range']
    have hl' : (Loop.scat (fun j => j * N + i) 0 ys a).length = size * N := by rw [Loop.scat_length, hl]
    rw [ih (i + 1) _ (by rw [Nat.add_assoc, Nat.add_comm 1 c]; exact hi) hl' (by rw [hl', ← hl]; exact hB), bind_assoc,
      R.mapM_congr (g := fun i' => (List.range' 0 size).mapM (gz_gcell f cm N cdp pd (gz_fix t qModT upperHalf (pd.getD i' 0)) i' a))
        (fun i' hi' => R.mapM_congr fun j hj => by
          have h1 := (List.mem_range'_1.mp hi').1
          have h2 := (List.mem_range'_1.mp hj).2
          have hi'N : i' < N := by have := (List.mem_range'_1.mp hi').2; omega
          unfold gz_gcell
          rw [gz_col_getD N i size hiN ys a hysl hl _ (grid_lt (by omega) hi'N), grid_mod _ hi'N, if_neg (by omega)])]
    refine R.bind_congr _ fun yss _ => ?_
    rw [R.ok_bind]
    refine congrArg pure (List.map_congr_left fun p hp => ?_)
    have hp := List.mem_range.mp hp
    rw [gz_col_getD N i size hiN ys a hysl hl p hp]
    by_cases hpi : p % N = i
    · rw [if_neg (by omega), if_pos hpi, if_pos (by omega), hpi, Nat.sub_self, List.getD_cons_zero]
    · by_cases hc1 : i + 1 ≤ p % N ∧ p % N < i + 1 + c
      · rw [if_pos hc1, if_pos (by omega), show p % N - i = (p % N - (i + 1)) + 1 by omega, List.getD_cons_succ]
      · rw [if_neg hc1, if_neg hpi, if_neg (by omega)]

theorem gz_rows_getD (rows : List (List Nat)) (j i : Nat) :
    (((rows.map List.toArray).toArray).getD j #[]).getD i 0 = (rows.getD j []).getD i 0 := by
  have h1 : ((rows.map List.toArray).toArray).getD j #[] = (rows.getD j []).toArray := by
    rw [list_getD_toArray (rows.map List.toArray) j #[]]
    rcases Nat.lt_or_ge j rows.length with h | h
    · rw [list_getD_map List.toArray rows [] #[] h]
    · rw [list_getD_of_ge _ _ (by simpa using h), list_getD_of_ge _ _ h]
  rw [h1, list_getD_toArray]

theorem gz_ref1_eq_model {f : Nat → Nat → Modulus → R Nat} (hf : ∀ a b m, gz_Ov (f a b m)) (l : Level) (cdp : Array MulOperand)
    (qModT upperHalf : Nat) (plain : Poly) (dest : List Nat)
    (hcdp : l.size ≤ cdp.size) (hp : plain.size ≤ l.n) (ht : l.t.value ≠ 0) (hq : qModT < 2^64)
    (hw : ∀ i, i < plain.size → plain.getD i 0 < 2^64) (hl : dest.length = l.size * l.n) (hB : dest.length < B64) :
    gz_ref1 f l.qs.toList l.n cdp.toList plain.toList l.t.value upperHalf qModT plain.size 0 dest =
      Except.map (flattenRns l.size l.n) (gz_model f l cdp qModT upperHalf plain (unflattenRns l.size l.n dest)) := by
  have hcell : ∀ i, i ∈ List.range' 0 plain.size → ∀ j, j ∈ List.range' 0 l.size →
      gz_gcell f l.qs.toList l.n cdp.toList plain.toList (gz_fix l.t.value qModT upperHalf (plain.toList.getD i 0)) i dest j =
        gz_mcell f l cdp qModT upperHalf plain (unflattenRns l.size l.n dest) j i := by
    intro i hi j hj
    have hi := (List.mem_range'_1.mp hi).2
    have hj := (List.mem_range'_1.mp hj).2
    rw [Nat.zero_add] at hi hj
    unfold gz_gcell gz_mcell
    rw [if_pos hi, array_getD_toList, array_getD_toList, array_getD_toList, gz_unflatten_getD _ _ _ (by omega) hj,
      gz_cell_eq f ht (hw i hi) hq]
    rfl
  have hOv : ∀ j i x, gz_mcell f l cdp qModT upperHalf plain (unflattenRns l.size l.n dest) j i = .error x → x = .overflow := by
    intro j i x hx
    unfold gz_mcell at hx
    split at hx
    · exact gz_Ov_cell hf ht _ _ _ _ _ _ x hx
    · cases hx
  rw [gz_ref1_eq f l.qs.toList l.n cdp.toList plain.toList upperHalf l.size plain.size (by simp [Level.size]) (by simpa using hcdp)
      (by simp) hp ht hq (fun i hi => by rw [array_getD_toList]; exact hw i hi) plain.size 0 dest (Nat.zero_add _) hl hB,
    R.mapM_congr (fun i hi => R.mapM_congr (hcell i hi)),
    gz_mapM_grid (fun i j => gz_mcell f l cdp qModT upperHalf plain (unflattenRns l.size l.n dest) j i) 0 .overflow _ _
      (fun i _ j _ => hOv j i),
    gz_model_mapM f l cdp qModT upperHalf plain _ hp,
    gz_mapM_grid (fun j i => gz_mcell f l cdp qModT upperHalf plain (unflattenRns l.size l.n dest) j i) 0 .overflow _ _
      (fun j _ i _ => hOv j i)]
  by_cases hall : ∀ i, i ∈ List.range' 0 plain.size → ∀ j, j ∈ List.range' 0 l.size →
      (gz_mcell f l cdp qModT upperHalf plain (unflattenRns l.size l.n dest) j i).isOk = true
  · rw [if_pos hall, if_pos (fun j hj i hi => by
      by_cases hip : i < plain.size
      · exact hall i (List.mem_range'_1.mpr ⟨Nat.zero_le _, by omega⟩) j (by rw [← List.range_eq_range']; exact hj)
      · unfold gz_mcell; rw [if_neg hip]; rfl)]
    show _ = Except.ok (flattenRns l.size l.n _)
    unfold flattenRns
    refine congrArg Except.ok (List.map_congr_left fun p hp' => ?_)
    have hp' := List.mem_range.mp hp'
    have hn := gz_npos hp'
    have hd := gz_div_lt hp'
    have hm := Nat.mod_lt p hn
    rw [gz_rows_getD, list_getD_range_map _ _ hd, list_getD_range_map _ _ hm, Nat.zero_add, Nat.sub_zero]
    by_cases hc : p % l.n < plain.size
    · rw [if_pos ⟨Nat.zero_le _, hc⟩, ← List.range_eq_range', ← List.range_eq_range', list_getD_range_map _ _ hc,
        list_getD_range_map _ _ hd]
    · rw [if_neg (fun h => hc h.2)]
      unfold gz_mcell
      rw [if_neg hc, gz_unflatten_getD _ _ _ hm hd, gz_div_mod]
      rfl
  · rw [if_neg hall, if_neg (fun h => hall fun i hi j hj =>
      h j (by rw [List.range_eq_range']; exact hj) i (List.mem_range.mpr (by have := (List.mem_range'_1.mp hi).2; omega)))]
    rfl

/-- `multiply_add_plain` (generated from src/util/scaling_variant.rs) on the flat destination buffer IS the hand model
    `multiplyAddPlain` on the corresponding `RnsPoly`, flattened again — successes (same buffer), the refusal of a plaintext longer than
    the degree (`assert!`), and failures (every arithmetic trap of a cell is an overflow on both sides).
    The context getters are instantiated with the level's data: `coeff_modulus()` = the level's moduli, `poly_modulus_degree()` = `l.n`,
    `plain_modulus()` = `l.t`, `coeff_div_plain_modulus()` = `cdp`, `plain.coeff_count()` = `plain.data().len()` = `plain.size`.
    Hypotheses: the buffer has the level's shape and a length that fits a `usize` (true of every slice), one operand per modulus,
    `t ≠ 0` (at `t = 0` the code divides by zero for every coefficient), and the words are words (`u64`). -/
theorem gz_multiply_add_plain_eq (l : Level) (cdp : Array MulOperand) (qModT upperHalf : Nat) (plain : Poly) (dest : List Nat)
    (hcdp : l.size ≤ cdp.size) (ht : l.t.value ≠ 0) (hq : qModT < 2^64)
    (hw : ∀ i, i < plain.size → plain.getD i 0 < 2^64) (hl : dest.length = l.size * l.n) (hB : dest.length < B64) :
    GenS.multiply_add_plain dest l.qs.toList plain.size l.n l.t cdp.toList upperHalf qModT plain.toList =
      Except.map (flattenRns l.size l.n) (multiplyAddPlain l cdp qModT upperHalf plain (unflattenRns l.size l.n dest)) := by
  unfold GenS.multiply_add_plain
  simp only []
  by_cases hp : plain.size ≤ l.n
  · rw [if_pos hp, if_pos (by simp), gz_add_loop1_eq _ _ _ _ _ _ _ _ _ rfl, gz_model_add,
      gz_ref1_eq_model gz_Ov_addMod l cdp qModT upperHalf plain dest hcdp hp ht hq hw hl hB]
  · rw [if_neg hp]
    unfold multiplyAddPlain
    rw [if_pos (by omega)]
    rfl

/-- `multiply_sub_plain` likewise.  The code has NO `assert!` on the plaintext length: for `plain.size > l.n` (excluded here) it
    writes into the neighbouring component and finally panics with an index out of bounds (non-empty chain), where the model refuses. -/
theorem gz_multiply_sub_plain_eq (l : Level) (cdp : Array MulOperand) (qModT upperHalf : Nat) (plain : Poly) (dest : List Nat)
    (hcdp : l.size ≤ cdp.size) (hp : plain.size ≤ l.n) (ht : l.t.value ≠ 0) (hq : qModT < 2^64)
    (hw : ∀ i, i < plain.size → plain.getD i 0 < 2^64) (hl : dest.length = l.size * l.n) (hB : dest.length < B64) :
    GenS.multiply_sub_plain dest l.qs.toList plain.size l.n l.t cdp.toList upperHalf qModT plain.toList =
      Except.map (flattenRns l.size l.n) (multiplySubPlain l cdp qModT upperHalf plain (unflattenRns l.size l.n dest)) := by
  unfold GenS.multiply_sub_plain
  simp only []
  rw [gz_sub_loop1_eq _ _ _ _ _ _ _ _ _ rfl, gz_model_sub,
    gz_ref1_eq_model gz_Ov_subMod l cdp qModT upperHalf plain dest hcdp hp ht hq hw hl hB]

/-- the second `assert!` of `multiply_add_plain`: a coefficient count beyond the data buffer is refused -/
theorem gz_multiply_add_plain_refuses_short (dest : List Nat) (cm : List Modulus) (pc N : Nat) (pm : Modulus) (cdp : List MulOperand)
    (uh qModT : Nat) (pd : List Nat) (h : pd.length < pc) :
    GenS.multiply_add_plain dest cm pc N pm cdp uh qModT pd = .error .refused := by
  unfold GenS.multiply_add_plain
  simp only []
  split
  · rw [if_neg (by omega)]
  · rfl
end HC
