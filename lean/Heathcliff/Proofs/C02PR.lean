/- C02: BGV relinearisation (size 3 → 2) on EXACT phases, from `relinearize_phase_bgv`, `switchKey_noise_bound_bgv`,
   `switchKey_noise_bgv_mod_t` of C04K: phase(r) ≡ phase(a) + ν (mod Q), t ∣ ν, P·‖ν‖∞ ≤ dsz·A·N·Be + P·t·(1 + ‖s‖₁). -/
import Heathcliff.Proofs.C02PH
import Heathcliff.Proofs.C02PM
import Heathcliff.Proofs.C02PK
namespace HC
open Finset

/-- the key level seen from the ciphertext level `l`: `l`'s moduli are the first `l.size` key-level moduli, with the same tables and plain
    modulus -/
structure c02p_KeyLevelOf (kl : KeyLevel) (l : Level) : Prop extends c04k_LevelOf kl l where
  tb : ∀ j, j < l.size → kl.tb j = l.tbl j
  t : kl.t = l.t

/-- the relinearisation key (for s², `dsz` digits) and the key level: the key-dependent fields of `c04t_KSInput`, the BGV constants, the KEY
    EQUATION k0_i + k1_i ⋆ s ≡ e_i + P·g_i·s² with errors `e_i = t·(…)`, `‖e_i‖∞ ≤ Be`, a bound `A` on the moduli, and `hov`: the lazy 128-bit
    accumulation of `switch_key` over `dsz` digits does not overflow -/
structure c02p_RelinOK (kl : KeyLevel) (dsz : Nat) (key : KSKey) (s : Nat → Int) (e : Nat → Nat → Int) (G : Nat → Int) (A Be : Nat) : Prop where
  hkl : kl.WF
  hsz : 2 ≤ kl.ms.size
  hd : dsz + 1 ≤ kl.ms.size
  hks : dsz ≤ key.size
  hkcc : (key.getD 0 #[]).size = 2
  hkey : ∀ i, i ≤ dsz → c04t_KeyCanonAt kl dsz 2 key (c04t_keyIndex kl dsz i)
  hov : ∀ i, i ≤ dsz → dsz * (4 * (kl.m (c04t_keyIndex kl dsz i)).value * (kl.m (c04t_keyIndex kl dsz i)).value) < 2^128
  hinv : c04t_InvP kl dsz
  bgv : c04t_BgvData kl
  keq : c04k_KeyEq kl dsz key s (fun p => negMulR kl.n s s p) e G
  het : ∀ i, i < dsz → ∀ p, p < kl.n → (kl.t.value : Int) ∣ e i p
  heB : ∀ i, i < dsz → ∀ p, p < kl.n → (e i p).natAbs ≤ Be
  hA : ∀ i, i < dsz → (kl.m i).value ≤ A

theorem c02p_keyLevelOf_next {L l : Level} {n : Nat} (hx : c02p_Next L l) (hw : l.WF) (hn : L.n = n) :
    c02p_KeyLevelOf (c02p_keyLevel n L) l :=
  ⟨⟨hx.n.trans hn, by rw [← hw.npow, hx.n]; exact hn, hx.q⟩, fun j hj => (hx.tbl j hj).symm, hx.t.symm⟩

theorem c02p_canon_of_level {kl : KeyLevel} {l : Level} (hk : c02p_KeyLevelOf kl l) {p : RnsPoly} (hp : RnsCanon l p) :
    c04t_Canon kl l.size p := fun j hj => by
  obtain ⟨h1, h2⟩ := hp.2 j hj
  exact ⟨by rw [h1, hk.n], fun c hc => by rw [← hk.q j hj]; exact h2 c (by rw [hk.n]; exact hc)⟩

theorem c02p_relin_ph {l : Level} (h : c02p_LevelOK l) {kl : KeyLevel} (hk : c02p_KeyLevelOf kl l) {key : KSKey} {sk : Array Int}
    (hsk : sk.size = l.n) {e : Nat → Nat → Int} {G : Nat → Int} {A Be : Nat}
    (hr : c02p_RelinOK kl l.size key (c02p_sk sk) e G A Be) {a r : Ct} (ha : c02p_Good l a) (h3 : a.polys.size = 3)
    (keys : Nat → Option KSKey) (hk2 : keys 2 = some key) (fuel : Nat)
    (hrel : relinearize kl .bgv l.size keys (fuel + 2) a = .ok r) :
    c02p_Good l r ∧ r.cf = a.cf ∧ r.polys.size = 2 ∧ ∃ ν : Nat → Int,
      (∀ j, j < l.n → c02p_ph l sk r j ≡ c02p_ph l sk a j + ν j [ZMOD l.tool.baseQ.prod]) ∧
      ∀ j, j < l.n → (l.t.value : Int) ∣ ν j ∧
        (ν j).natAbs * kl.c04t_P ≤ l.size * (A * (l.n * Be)) + kl.c04t_P * l.t.value * (1 + ∑ p ∈ range l.n, (c02p_sk sk p).natAbs) := by
  have hcan2 : ∀ k, k < 3 → c04t_Canon kl l.size (a.polys.getD k #[]) :=
    fun k hk' => c02p_canon_of_level hk (ha.canon.canon k (by omega))
  have hKS : c04t_KSInput kl l.size a (a.polys.getD 2 #[]) key :=
    ⟨hr.hkl, hr.hsz, hr.hd, hr.hks, hcan2 2 (by omega), by rw [hr.hkcc]; exact hr.hkey, hr.hov,
      by rw [hr.hkcc]; exact fun k hk' => hcan2 k (by omega), hr.hinv⟩
  obtain ⟨r', hok, hsz2, hntt, hcf, hcanr, hph⟩ := relinearize_phase_bgv keys fuel h3 hk2 hKS hr.bgv ha.ntt hr.hkcc hr.keq
  rw [hrel] at hok
  obtain rfl := Except.ok.inj hok
  have hrcan : ∀ k, k < r.polys.size → RnsCanon l (r.polys.getD k #[]) := by
    intro k hk'
    rw [hsz2] at hk'
    obtain ⟨s1, s2⟩ := hcanr k hk'
    exact ⟨s1, fun j hj => ⟨by rw [(s2 j hj).1, hk.n], fun c hc => by rw [hk.q j hj]; exact (s2 j hj).2 c (by rw [← hk.n]; exact hc)⟩⟩
  have hgood : c02p_Good l r := by
    refine ⟨⟨⟨by rw [hsz2], by rw [hsz2]; decide, hrcan⟩, by rw [hcf]; exact ha.canon.cf⟩, by rw [hntt]; exact ha.ntt, by rw [hcf]; exact ha.unit⟩
  refine ⟨hgood, hcf, hsz2, c04k_nuBgv kl l.size a.ntt (a.polys.getD 2 #[]) key e (c02p_sk sk), fun j hj => ?_, fun j hj => ?_⟩
  · rw [← c03k_Q_eq h.lq]
    exact c03k_phase32_merge h.wf h.lq sk (.of_ctCanon ha.canon ha.ntt) ⟨hgood.ntt, by rw [hsz2]; decide, hrcan⟩ h3 hsz2 _
      (fun m hm c hc => by
        have hm3 := hph m hm c (hk.n ▸ hc)
        rw [← hk.n, ← hk.q m hm, hk.tb m hm] at hm3
        exact ha.ntt ▸ hm3) j hj
  · have hj' : j < kl.n := by rw [← hk.n]; exact hj
    have d := switchKey_noise_bgv_mod_t hKS hr.bgv hr.keq hr.het j hj'
    have b := switchKey_noise_bound_bgv hKS hr.bgv hr.keq hr.hA hr.heB j hj'
    rw [hk.t] at d b
    rw [← hk.n] at b
    exact ⟨d, b⟩

/-- the a-priori bound on the relinearisation noise: ⌊(dsz·A·N·Be + P·t·(1 + S)) / P⌋ -/
theorem c02p_step_relin {l : Level} (h : c02p_LevelOK l) {kl : KeyLevel} (hk : c02p_KeyLevelOf kl l) {key : KSKey} {sk : Array Int}
    (hsk : sk.size = l.n) {e : Nat → Nat → Int} {G : Nat → Int} {A Be S : Nat}
    (hr : c02p_RelinOK kl l.size key (c02p_sk sk) e G A Be) (hS : ∑ p ∈ range l.n, (c02p_sk sk p).natAbs ≤ S)
    {a r : Ct} {m : Nat → Int} {V : Nat} (ha : c02p_Enc l sk a m V) (h3 : a.polys.size = 3)
    (keys : Nat → Option KSKey) (hk2 : keys 2 = some key) (fuel : Nat)
    (hrel : relinearize kl .bgv l.size keys (fuel + 2) a = .ok r) :
    r.cf = a.cf ∧ r.polys.size = 2 ∧
      c02p_Enc l sk r m (V + (l.size * (A * (l.n * Be)) + kl.c04t_P * l.t.value * (1 + S)) / kl.c04t_P) := by
  obtain ⟨ga, va, a1, a2, a3⟩ := ha
  obtain ⟨gr, hcf, hsz, ν, p1, p2⟩ := c02p_relin_ph h hk hsk hr ga h3 keys hk2 fuel hrel
  have hP0 : 0 < kl.c04t_P := by
    have := (c04t_kl_comp hr.hkl (show kl.ms.size - 1 < kl.ms.size by have := hr.hsz; omega)).2.2.2.two_le
    unfold KeyLevel.c04t_P; omega
  refine ⟨hcf, hsz, gr, fun j => va j + ν j, fun j hj => (p1 j hj).trans ((a1 j hj).add_right _), fun j hj => ?_, fun j hj => ?_⟩
  · rw [hcf]
    have := (Int.modEq_zero_iff_dvd).mpr (p2 j hj).1
    have := (a2 j hj).add this
    rwa [add_zero] at this
  · refine le_trans (Int.natAbs_add_le _ _) (Nat.add_le_add (a3 j hj) ?_)
    rw [Nat.le_div_iff_mul_le hP0]
    refine le_trans (p2 j hj).2 (Nat.add_le_add_left (Nat.mul_le_mul_left _ (Nat.add_le_add_left hS _)) _)

end HC
