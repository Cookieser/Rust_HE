import Heathcliff.Gen.DwtFns
import Heathcliff.Model.NTT
import Heathcliff.Proofs.GenBase
import Heathcliff.Proofs.GenLoop

/-!
  Translator tie for the butterfly NETWORK: `DWTHandler::transform_to_rev` / `transform_from_rev`
  (src/util/dwthandler.rs), generated into `Heathcliff/Gen/DwtFns.lean` (`HC.GenD`) as functions of a structure of possibly
  panicking operations `GenD.Arithmetic α ρ σ`, against the hand model `runFwdA` / `runInvA` of `Heathcliff/Model/NTT.lean`
  (gather form, one `Array.ofFn` per layer).  No Mathlib.

  `RealFwd A' A P Q` / `RealInv A' A P Q`: the generated operations `A'` do not trap and return the values of the total model
  arithmetic `A` on one butterfly whose inputs satisfy `P` (roots: `Q`).  That is all the structures say: that `P` holds again after
  a layer is NOT a field.  The network theorems take it as the hypothesis `hP` about the MODEL run (`P` at every entry of `runFwdA` /
  `runInvA` before every layer), which the caller proves about the model alone.
  For total operations `P = Q = True`; for the lazy modular instance `P = (· < 4q)` resp. `(· < 2q)` and `hP` is the lazy bound of C09
  (Proofs/GenNttHarvey.lean).
  Helper names start with `gd_` (d for DWT), as in GenNttHarvey; the `gd_` of the GenDec modules (d for decryptor) is another family.

  The generated loops are first shown equal to functions on lists (`List.map`, `List.zipWith`, `gd_blocks`: no index arithmetic,
  the loop variable is the length of the part already written); `gd_blocks_get` then reads the block form pointwise as the gather
  form `gd_layer`, which with the forward / inverse butterfly IS `fwdLayer` / `invLayer` (`rfl`).
-/
namespace HC
open HC.GenD

variable {α ρ σ : Type}

/-! ### the prelude of the generated file on its success domain
  `GenD.idxG`, `setIdxG`, `sliceG`, `splitAtG` are the prelude of Gen/DwtFns.lean, polymorphic in the entry type; they are other constants than
  `GenW.idx` / `GenW.setIdx` (lists of words, Gen/WordFns.lean), whose rules are in GenBase, so they get their own four rules here. -/
theorem gd_idxG_ok {τ : Type} {l : List τ} {i : Nat} {x : τ} (h : l[i]? = some x) : idxG l i = .ok x := by
  unfold idxG; rw [h]

theorem gd_setIdxG_ok {τ : Type} {l : List τ} {i : Nat} (v : τ) (h : i < l.length) : setIdxG l i v = .ok (l.set i v) := by
  unfold setIdxG; rw [if_pos h]

theorem gd_sliceG_ok {τ : Type} {l : List τ} {a b : Nat} (h1 : a ≤ b) (h2 : b ≤ l.length) :
    sliceG l a b = .ok ((l.drop a).take (b - a)) := by
  unfold sliceG; rw [if_pos ⟨h1, h2⟩]

theorem gd_splitAtG_ok {τ : Type} {l : List τ} {mid : Nat} (h : mid ≤ l.length) : splitAtG l mid = .ok (l.take mid, l.drop mid) := by
  unfold splitAtG; rw [if_pos h]

theorem gd_sliceG_mid {τ : Type} (done rest : List τ) {w : Nat} (h : w ≤ rest.length) :
    sliceG (done ++ rest) done.length (done.length + w) = .ok (rest.take w) := by
  rw [gd_sliceG_ok (Nat.le_add_right _ _) (by rw [List.length_append]; exact Nat.add_le_add_left h _),
    List.drop_left, Nat.add_sub_cancel_left]

theorem gd_spliceG_mid {τ : Type} (done rest s : List τ) :
    spliceG (done ++ rest) done.length s = done ++ s ++ rest.drop s.length := by
  unfold spliceG; rw [List.take_left, List.drop_length_add_append]

/-! ### an in-place loop over a pair of slices, as a list function

  The generated loop `for (x, y) in left.iter_mut().zip(right.iter_mut())` is a recursion on its trip count that reads and writes index `j`
  of both slices.  With the slices cut at the loop variable, `L = pre ++ post` and `j = pre.len()`, it is an induction on `post`.  The lemma
  takes the loop by its two unfolding equations, so each generated copy is an instance (one slice: `Loop.write_map_ok`). -/

theorem gd_zip_loop {τ : Type} {loop : Nat → Nat → List τ → List τ → R (List τ × List τ)} {f g : τ → τ → τ} {P : τ → Prop}
    (h0 : ∀ j L R, loop 0 j L R = .ok (L, R))
    (hs : ∀ fuel j L R x y, L[j]? = some x → R[j]? = some y → P x → P y →
      loop (fuel + 1) j L R = loop fuel (j + 1) (L.set j (f x y)) (R.set j (g x y))) :
    ∀ (post post' pre pre' : List τ) (j : Nat), post.length = post'.length → pre.length = j → pre'.length = j →
      (∀ x ∈ post, P x) → (∀ y ∈ post', P y) →
      loop post.length j (pre ++ post) (pre' ++ post') = .ok (pre ++ List.zipWith f post post', pre' ++ List.zipWith g post post')
  | [], [], _, _, _, _, _, _, _, _ => h0 _ _ _
  | [], _ :: _, _, _, _, hl, _, _, _, _ => by cases hl
  | _ :: _, [], _, _, _, hl, _, _, _, _ => by cases hl
  | x :: post, y :: post', pre, pre', j, hl, hj, hj', hP, hP' => by
    have e := gd_zip_loop h0 hs post post' (pre ++ [f x y]) (pre' ++ [g x y]) (j + 1) (Nat.succ.inj hl)
      (list_length_snoc hj _) (list_length_snoc hj' _) (fun z hz => hP z (List.mem_cons_of_mem x hz)) (fun z hz => hP' z (List.mem_cons_of_mem y hz))
    simp only [List.append_assoc, List.singleton_append] at e
    rw [List.length_cons, hs _ _ _ _ x y (list_getElem?_mid hj x post) (list_getElem?_mid hj' y post') (hP x List.mem_cons_self) (hP' y List.mem_cons_self),
      list_set_mid hj, list_set_mid hj', e, List.zipWith_cons_cons, List.zipWith_cons_cons]

/-- the butterfly of `transform_to_rev` realised without traps -/
structure RealFwd (A' : GenD.Arithmetic α ρ σ) (A : Arith α ρ) (P : α → Prop) (Q : ρ → Prop) : Prop where
  guard : ∀ x, P x → A'.guard x = .ok (A.guard x)
  mul : ∀ y r, P y → Q r → A'.mul_root y r = .ok (A.mulRoot y r)
  add : ∀ x y r, P x → P y → Q r → A'.add (A.guard x) (A.mulRoot y r) = .ok (A.add (A.guard x) (A.mulRoot y r))
  sub : ∀ x y r, P x → P y → Q r → A'.sub (A.guard x) (A.mulRoot y r) = .ok (A.sub (A.guard x) (A.mulRoot y r))

/-- the butterfly of `transform_from_rev` realised without traps -/
structure RealInv (A' : GenD.Arithmetic α ρ σ) (A : Arith α ρ) (P : α → Prop) (Q : ρ → Prop) : Prop where
  add : ∀ x y, P x → P y → A'.add x y = .ok (A.add x y)
  guard : ∀ x y, P x → P y → A'.guard (A.add x y) = .ok (A.guard (A.add x y))
  sub : ∀ x y, P x → P y → A'.sub x y = .ok (A.sub x y)
  mul : ∀ x y r, P x → P y → Q r → A'.mul_root (A.sub x y) r = .ok (A.mulRoot (A.sub x y) r)

/-! ### the inner loop: `for (x, y) in left.iter_mut().zip(right.iter_mut())` -/

theorem gd_fwd_loop3 {A' : GenD.Arithmetic α ρ σ} {A : Arith α ρ} {P : α → Prop} {Q : ρ → Prop} (h : RealFwd A' A P Q)
    (r : ρ) (hr : Q r) (L R : List α) (hlen : L.length = R.length) (hL : ∀ x ∈ L, P x) (hR : ∀ y ∈ R, P y) :
    transform_to_rev_loop3 A' r (min L.length R.length) 0 L R =
      .ok (List.zipWith (fun x y => A.add (A.guard x) (A.mulRoot y r)) L R,
           List.zipWith (fun x y => A.sub (A.guard x) (A.mulRoot y r)) L R) := by
  rw [← hlen, Nat.min_self]
  refine gd_zip_loop (fun _ _ _ => rfl) (fun fuel j L R x y hx hy px py => ?_) L R [] [] 0 hlen rfl rfl hL hR
  rw [transform_to_rev_loop3]
  simp only [gd_idxG_ok hx, gd_idxG_ok hy, h.guard _ px, h.mul _ _ py hr, h.add _ _ _ px py hr, h.sub _ _ _ px py hr,
    gd_setIdxG_ok _ (list_lt_of_getElem? hx), gd_setIdxG_ok _ (list_lt_of_getElem? hy), bind, Except.bind]

theorem gd_inv_loop3 {A' : GenD.Arithmetic α ρ σ} {A : Arith α ρ} {P : α → Prop} {Q : ρ → Prop} (h : RealInv A' A P Q)
    (r : ρ) (hr : Q r) (L R : List α) (hlen : L.length = R.length) (hL : ∀ x ∈ L, P x) (hR : ∀ y ∈ R, P y) :
    transform_from_rev_loop3 A' r (min L.length R.length) 0 L R =
      .ok (List.zipWith (fun x y => A.guard (A.add x y)) L R, List.zipWith (fun x y => A.mulRoot (A.sub x y) r) L R) := by
  rw [← hlen, Nat.min_self]
  refine gd_zip_loop (fun _ _ _ => rfl) (fun fuel j L R x y hx hy px py => ?_) L R [] [] 0 hlen rfl rfl hL hR
  rw [transform_from_rev_loop3]
  simp only [gd_idxG_ok hx, gd_idxG_ok hy, h.add _ _ px py, h.guard _ _ px py, h.sub _ _ px py, h.mul _ _ _ px py hr,
    gd_setIdxG_ok _ (list_lt_of_getElem? hx), gd_setIdxG_ok _ (list_lt_of_getElem? hy), bind, Except.bind]

/-! ### one layer: `roots[a..b].iter().enumerate().for_each(|(_i, r)| { split_at_mut; inner loop; offset += gap << 1 })` -/

theorem gd_arrFn_get [Inhabited α] (a : Array α) (p : Nat) (h : p < a.size) : a.toList[p]? = some (arrFn a p) := by
  unfold arrFn
  simp [Array.getD, h]

theorem gd_ofFn_get (n : Nat) (F : Nat → α) (p : Nat) (h : p < n) :
    (Array.ofFn (n := n) (fun i => F i.val)).toList[p]? = some (F p) := by
  simp [h]

/-- one block: the upper half becomes `f`, the lower half `g'` of the two halves -/
def gd_block (f g' : α → α → ρ → α) (r : ρ) (L R : List α) : List α :=
  List.zipWith (f · · r) L R ++ List.zipWith (g' · · r) L R

/-- one layer on lists: consecutive blocks of `2 * gap` values, one root per block -/
def gd_blocks (f g' : α → α → ρ → α) (gap : Nat) : List ρ → List α → List α
  | [], a => a
  | r :: rs, a => gd_block f g' r (a.take gap) ((a.drop gap).take gap) ++ gd_blocks f g' gap rs (a.drop (2 * gap))

/-- one layer in gather form: block `p / 2gap` uses root `rsf (p / 2gap)`; upper half `f`, lower half `g'` -/
def gd_layer (f g' : α → α → ρ → α) (gap : Nat) (rsf : Nat → ρ) (v : Nat → α) (p : Nat) : α :=
  if p % (2*gap) < gap then f (v p) (v (p+gap)) (rsf (p / (2*gap))) else g' (v (p-gap)) (v p) (rsf (p / (2*gap)))

theorem gd_halves {a : List α} {gap : Nat} (h : 2 * gap ≤ a.length) :
    splitAtG (a.take (2 * gap)) gap = .ok (a.take gap, (a.drop gap).take gap) ∧
      (a.take gap).length = gap ∧ ((a.drop gap).take gap).length = gap := by
  refine ⟨?_, by rw [List.length_take]; omega, by rw [List.length_take, List.length_drop]; omega⟩
  rw [gd_splitAtG_ok (by rw [List.length_take]; omega), List.take_take, Nat.min_eq_left (by omega), List.drop_take]
  congr 3; omega

theorem gd_block_length (f g' : α → α → ρ → α) (r : ρ) {L R : List α} {gap : Nat} (hL : L.length = gap) (hR : R.length = gap) :
    (gd_block f g' r L R).length = 2 * gap := by
  rw [gd_block, List.length_append, List.length_zipWith, List.length_zipWith, hL, hR, Nat.min_self, Nat.two_mul]

theorem gd_blocks_length (f g' : α → α → ρ → α) (gap : Nat) : ∀ (rs : List ρ) (a : List α),
    a.length = rs.length * (2 * gap) → (gd_blocks f g' gap rs a).length = a.length
  | [], _, _ => rfl
  | r :: rs, a, ha => by
    rw [List.length_cons, Nat.succ_mul] at ha
    have hw : 2 * gap ≤ a.length := by rw [ha]; exact Nat.le_add_left _ _
    rw [gd_blocks, List.length_append, gd_block_length f g' r (gd_halves hw).2.1 (gd_halves hw).2.2,
      gd_blocks_length f g' gap rs _ (by rw [List.length_drop, ha, Nat.add_sub_cancel]), List.length_drop, Nat.add_sub_cancel' hw]

theorem gd_block_get (f g' : α → α → ρ → α) (r : ρ) {a : List α} {gap : Nat} {v : Nat → α} (ha : 2 * gap ≤ a.length)
    (hv : ∀ q, q < a.length → a[q]? = some (v q)) {p : Nat} (hp : p < 2 * gap) :
    (gd_block f g' r (a.take gap) ((a.drop gap).take gap))[p]?
      = some (if p < gap then f (v p) (v (p + gap)) r else g' (v (p - gap)) (v p) r) := by
  have hz : ∀ (h : α → α → ρ → α), (List.zipWith (h · · r) (a.take gap) ((a.drop gap).take gap)).length = gap := fun h => by
    rw [List.length_zipWith, (gd_halves ha).2.1, (gd_halves ha).2.2, Nat.min_self]
  have hget : ∀ (h : α → α → ρ → α) t, t < gap →
      (List.zipWith (h · · r) (a.take gap) ((a.drop gap).take gap))[t]? = some (h (v t) (v (gap + t)) r) := fun h t ht => by
    rw [List.getElem?_zipWith, List.getElem?_take_of_lt ht, List.getElem?_take_of_lt ht, List.getElem?_drop,
      hv t (by omega), hv (gap + t) (by omega)]
  unfold gd_block
  by_cases h1 : p < gap
  · rw [List.getElem?_append_left (by rw [hz]; exact h1), hget f p h1, if_pos h1, Nat.add_comm gap p]
  · rw [List.getElem?_append_right (by rw [hz]; omega), hz, hget g' (p - gap) (by omega), if_neg h1,
      Nat.add_sub_cancel' (Nat.le_of_not_lt h1)]

theorem gd_layer_shift (f g' : α → α → ρ → α) {gap : Nat} (rsf : Nat → ρ) (v : Nat → α) {p : Nat} (hg : 0 < gap) (hp : 2 * gap ≤ p) :
    gd_layer f g' gap (fun i => rsf (i + 1)) (fun q => v (2 * gap + q)) (p - 2 * gap) = gd_layer f g' gap rsf v p := by
  have e1 : 2 * gap + (p - 2 * gap) = p := Nat.add_sub_cancel' hp
  have hle := Nat.mod_le (p - 2 * gap) (2 * gap)
  simp only [gd_layer]
  rw [Nat.mod_eq_sub_mod hp, Nat.div_eq_sub_div (by omega) hp, e1, ← Nat.add_assoc, e1]
  split
  · rfl
  · rw [show 2 * gap + (p - 2 * gap - gap) = p - gap by omega]

theorem gd_blocks_get (f g' : α → α → ρ → α) {gap : Nat} (hg : 0 < gap) : ∀ (rs : List ρ) (a : List α) (rsf : Nat → ρ) (v : Nat → α),
    a.length = rs.length * (2 * gap) → (∀ i, i < rs.length → rs[i]? = some (rsf i)) → (∀ q, q < a.length → a[q]? = some (v q)) →
    ∀ p, p < a.length → (gd_blocks f g' gap rs a)[p]? = some (gd_layer f g' gap rsf v p)
  | [], a, _, _, ha, _, _, p, hp => by rw [ha, List.length_nil, Nat.zero_mul] at hp; exact absurd hp (Nat.not_lt_zero _)
  | r :: rs, a, rsf, v, ha, hrs, hv, p, hp => by
    rw [List.length_cons, Nat.succ_mul] at ha
    have hw : 2 * gap ≤ a.length := by rw [ha]; exact Nat.le_add_left _ _
    have hr : some r = some (rsf 0) := hrs 0 (Nat.zero_lt_succ _)
    have hlen := gd_block_length f g' r (gd_halves hw).2.1 (gd_halves hw).2.2
    rw [gd_blocks]
    by_cases h2 : p < 2 * gap
    · rw [List.getElem?_append_left (by rw [hlen]; exact h2), gd_block_get f g' r hw hv h2, gd_layer, Nat.mod_eq_of_lt h2,
        Nat.div_eq_of_lt h2, ← Option.some.inj hr]
    · rw [List.getElem?_append_right (by rw [hlen]; exact Nat.le_of_not_lt h2), hlen,
        gd_blocks_get f g' hg rs (a.drop (2 * gap)) (fun i => rsf (i + 1)) (fun q => v (2 * gap + q))
          (by rw [List.length_drop, ha, Nat.add_sub_cancel]) (fun i hi => hrs (i + 1) (Nat.succ_lt_succ hi))
          (fun q hq => by rw [List.getElem?_drop]; exact hv _ (by rw [List.length_drop] at hq; omega))
          (p - 2 * gap) (by rw [List.length_drop]; omega),
        gd_layer_shift f g' rsf v hg (Nat.le_of_not_lt h2)]

theorem gd_window {roots : List ρ} {rf : Nat → ρ} {N : Nat} (hrf : ∀ j, j < N → roots[j]? = some (rf j)) {a w : Nat} (h : a + w ≤ N)
    (hN : N ≤ roots.length) :
    ((roots.drop a).take w).length = w ∧ ∀ i, i < w → ((roots.drop a).take w)[i]? = some (rf (a + i)) := by
  refine ⟨by rw [List.length_take, List.length_drop]; omega, fun i hi => ?_⟩
  rw [List.getElem?_take_of_lt hi, List.getElem?_drop]; exact hrf _ (by omega)

theorem gd_roots_length {roots : List ρ} {rf : Nat → ρ} {N : Nat} (hrf : ∀ j, j < N → roots[j]? = some (rf j)) : N ≤ roots.length := by
  cases N with
  | zero => exact Nat.zero_le _
  | succ n => exact list_lt_of_getElem? (hrf n (Nat.lt_succ_self n))

section layer
variable {inner : ρ → Nat → Nat → List α → List α → R (List α × List α)} {f g' : α → α → ρ → α} {P : α → Prop} {Q : ρ → Prop}
  {gap : Nat}
  {loop2 : List ρ → Nat → Nat → List α → Nat → R (List α × Nat)}
  (hin : ∀ r, Q r → ∀ L R : List α, L.length = R.length → (∀ x ∈ L, P x) → (∀ y ∈ R, P y) →
    inner r (min L.length R.length) 0 L R = .ok (List.zipWith (f · · r) L R, List.zipWith (g' · · r) L R))
  (h20 : ∀ rs i a o, loop2 rs 0 i a o = pure (a, o))
  (h2s : ∀ rs fuel i a o, loop2 rs (fuel + 1) i a o = do
    let r ← idxG rs i
    let t8 ← ckMul 2 gap
    let t9 ← ckAdd o t8
    let t10 ← sliceG a o t9
    let (L, R) ← splitAtG t10 gap
    let (L, R) ← inner r (min L.length R.length) 0 L R
    let o' ← ckAdd o ((gap <<< 1) % B64)
    loop2 rs fuel (i + 1) (spliceG a o (L ++ R)) o')
include hin h20 h2s

/-- the layer loop (given by its two unfolding equations: the two generated copies differ only in the inner loop they call) IS `gd_blocks`:
    `done` holds the blocks already written (`offset = done.len()`), `rs0` the roots already used -/
theorem gd_loop2_blocks : ∀ (rs rs0 : List ρ) (done rest : List α) (i : Nat), rs0.length = i → rest.length = rs.length * (2 * gap) →
    done.length + rest.length < 2^64 → (∀ r ∈ rs, Q r) → (∀ x ∈ rest, P x) →
    loop2 (rs0 ++ rs) rs.length i (done ++ rest) done.length
      = .ok (done ++ gd_blocks f g' gap rs rest, done.length + rest.length)
  | [], _, done, rest, _, _, hrest, _, _, _ => by
    rw [List.length_nil, Nat.zero_mul] at hrest
    rw [hrest]; exact h20 _ _ _ _
  | r :: rs, rs0, done, rest, i, hi, hrest, h64, hQ, hP => by
    rw [List.length_cons, Nat.succ_mul] at hrest
    have hw : 2 * gap ≤ rest.length := by rw [hrest]; exact Nat.le_add_left _ _
    have h2g : done.length + 2 * gap < 2^64 := Nat.lt_of_le_of_lt (Nat.add_le_add_left hw _) h64
    obtain ⟨e5, hL, hR⟩ := gd_halves hw
    have e6 := hin r (hQ r List.mem_cons_self) _ _ (hL.trans hR.symm)
      (fun x hx => hP x (List.mem_of_mem_take hx)) (fun y hy => hP y (List.mem_of_mem_drop (List.mem_of_mem_take hy)))
    have hnew := gd_block_length f g' r hL hR
    have ih := gd_loop2_blocks rs (rs0 ++ [r]) (done ++ gd_block f g' r (rest.take gap) ((rest.drop gap).take gap))
      (rest.drop (2 * gap)) (i + 1) (list_length_snoc hi r) (by rw [List.length_drop, hrest, Nat.add_sub_cancel])
      (by rw [List.length_append, hnew, List.length_drop, Nat.add_assoc, Nat.add_sub_cancel' hw]; exact h64)
      (fun q hq => hQ q (List.mem_cons_of_mem r hq)) (fun x hx => hP x (List.mem_of_mem_drop hx))
    rw [List.append_assoc, List.singleton_append, List.length_append, hnew, List.length_drop, Nat.add_assoc,
      Nat.add_sub_cancel' hw] at ih
    rw [List.length_cons, h2s]
    simp only [gd_idxG_ok (list_getElem?_mid hi r rs), ckMul_ok (Nat.lt_of_le_of_lt (Nat.le_add_left _ _) h2g), ckAdd_ok h2g,
      gd_sliceG_mid done rest hw, e5, e6, gd_spliceG_mid, shl_one_mod (Nat.lt_of_le_of_lt (Nat.le_add_left _ _) h2g), bind, Except.bind]
    rw [← gd_block, hnew, ih, gd_blocks, List.append_assoc]

/-- one generated layer, run on an array of the model with the roots `roots[a..a+m]` of a table whose entries below `N` are `rf`,
    is the gather form as an array -/
theorem gd_layer_run [Inhabited α] (hg : 0 < gap) {roots : List ρ} {rf : Nat → ρ} {N a m : Nat}
    (hrf : ∀ j, j < N → roots[j]? = some (rf j)) (hQ : ∀ j, 0 < j → j < N → Q (rf j)) (ha : 0 < a) (ham : a + m ≤ N)
    (prev : Array α) (hn : prev.size = N) (hsz : m * (2 * gap) = N) (h64 : N < 2^64) (hP : ∀ p, p < N → P (arrFn prev p)) :
    loop2 ((roots.drop a).take m) ((roots.drop a).take m).length 0 prev.toList 0
      = .ok ((Array.ofFn (n := N) fun i => gd_layer f g' gap (fun i => rf (a + i)) (arrFn prev) i.val).toList, N) := by
  obtain ⟨hw, hrs⟩ := gd_window hrf ham (gd_roots_length hrf)
  rw [← hw] at hsz
  have hrs : ∀ i, i < ((roots.drop a).take m).length → ((roots.drop a).take m)[i]? = some (rf (a + i)) := fun i hi => hrs i (hw ▸ hi)
  have hlen : prev.toList.length = N := by rw [Array.length_toList, hn]
  have hget : ∀ q, q < prev.toList.length → prev.toList[q]? = some (arrFn prev q) := fun q hq =>
    gd_arrFn_get prev q (Array.length_toList ▸ hq)
  have e := gd_loop2_blocks hin h20 h2s _ [] [] prev.toList 0 rfl (hlen.trans hsz.symm) (by rw [List.length_nil, Nat.zero_add, hlen]; exact h64)
    (list_forall_of_getElem? hrs (fun i hi => hQ _ (by omega) (by rw [hw] at hi; omega))) (list_forall_of_getElem? hget (fun q hq => hP q (hlen ▸ hq)))
  simp only [List.nil_append, List.length_nil, Nat.zero_add, hlen] at e
  rw [e]
  congr 2
  apply list_eq_of_getElem?
  · rw [gd_blocks_length f g' gap _ _ (hlen.trans hsz.symm), hlen, Array.length_toList, Array.size_ofFn]
  · intro p hp
    rw [gd_blocks_length f g' gap _ _ (hlen.trans hsz.symm)] at hp
    rw [gd_blocks_get f g' hg _ prev.toList _ (arrFn prev) (hlen.trans hsz.symm) hrs hget p hp,
      gd_ofFn_get N (gd_layer f g' gap (fun i => rf (a + i)) (arrFn prev)) p (hlen ▸ hp)]

end layer

/-! ### the layer loop `for layer in 0..log_n` against `runFwdA` / `runInvA` -/

theorem gd_runFwdA_size [Inhabited α] (A : Arith α ρ) (k : Nat) (rf : Nat → ρ) (a : Array α) (ha : a.size = 2^k) :
    ∀ l, (runFwdA A k rf a l).size = 2^k
  | 0 => ha
  | l+1 => by simp [runFwdA]

theorem gd_runInvA_size [Inhabited α] (A : Arith α ρ) (k : Nat) (rf : Nat → ρ) (a : Array α) (ha : a.size = 2^k) :
    ∀ l, (runInvA A k rf a l).size = 2^k
  | 0 => ha
  | l+1 => by simp [runInvA]

theorem gd_pow_split {k l : Nat} (hl : l < k) : 2^l * (2 * 2^(k - l - 1)) = 2^k := by
  rw [← Nat.pow_succ', ← Nat.pow_add]; congr 1; omega

/-- `let m = 1 << layer; let gap = n >> (1 + layer)` (forward; the inverse loop calls them `gap` and `m`), in front of the rest `c`
    of the loop body -/
theorem gd_pow_bind {β : Type} {k l : Nat} (hl : l < k) (hk : k < 64) (c : Nat → Nat → R β) :
    (do let v3 ← GenW.ckShl 64 1 l
        let t3 ← ckAdd 1 l
        let v4 ← GenW.ckShr 64 (2^k) t3
        c v3 v4) = c (2^l) (2^(k - l - 1)) := by
  have e : (2^k) >>> (1 + l) = 2^(k - l - 1) := by
    rw [Nat.shiftRight_eq_div_pow, Nat.pow_div (by omega) (by decide)]; congr 1; omega
  simp only [GenW.ckShl_ok (show l < 64 by omega), one_shl_mod (show l < 64 by omega), ckAdd_ok (show 1 + l < 2^64 by omega),
    GenW.ckShr_ok (show 1 + l < 64 by omega), e, bind, Except.bind]

/-- `&roots[m..2 * m]` in front of the rest `c` of the loop body -/
theorem gd_fwd_roots_bind {β : Type} {roots : List ρ} {N m : Nat} (h2m : m + m ≤ N) (hN : N < 2^64) (hroots : N ≤ roots.length)
    (c : List ρ → R β) :
    (do let t5 ← ckMul 2 m
        let t6 ← sliceG roots m t5
        c t6) = c ((roots.drop m).take m) := by
  simp only [ckMul_ok (show 2 * m < 2^64 by omega), gd_sliceG_ok (show m ≤ 2 * m by omega) (show 2 * m ≤ roots.length by omega),
    show 2 * m - m = m by omega, bind, Except.bind]

/-- `&roots[n - 2 * m + 1..n - m + 1]` in front of the rest `c` of the loop body -/
theorem gd_inv_roots_bind {β : Type} {roots : List ρ} {N m : Nat} (hm : 0 < m) (h2m : 2 * m ≤ N) (hN : N < 2^64)
    (hroots : N ≤ roots.length) (c : List ρ → R β) :
    (do let t5 ← ckMul 2 m
        let t6 ← ckSub N t5
        let t7 ← ckAdd t6 1
        let t8 ← ckSub N m
        let t9 ← ckAdd t8 1
        let t10 ← sliceG roots t7 t9
        c t10) = c ((roots.drop (N - 2 * m + 1)).take m) := by
  simp only [ckMul_ok (show 2 * m < 2^64 by omega), ckSub_of_le h2m, ckAdd_ok (show N - 2 * m + 1 < 2^64 by omega),
    ckSub_of_le (show m ≤ N by omega), ckAdd_ok (show N - m + 1 < 2^64 by omega),
    gd_sliceG_ok (show N - 2 * m + 1 ≤ N - m + 1 by omega) (show N - m + 1 ≤ roots.length by omega),
    show N - m + 1 - (N - 2 * m + 1) = m by omega, bind, Except.bind]

theorem gd_fwd_loop1 {A' : GenD.Arithmetic α ρ σ} {A : Arith α ρ} {P : α → Prop} {Q : ρ → Prop} [Inhabited α]
    (h : RealFwd A' A P Q) (k : Nat) (hk : k < 64) (a : Array α) (ha : a.size = 2^k)
    (roots : List ρ) (rf : Nat → ρ) (hrf : ∀ j, j < 2^k → roots[j]? = some (rf j)) (hQ : ∀ j, 0 < j → j < 2^k → Q (rf j))
    (hP : ∀ l, l < k → ∀ p, p < 2^k → P (arrFn (runFwdA A k rf a l) p)) :
    transform_to_rev_loop1 A' roots (2^k) k 0 a.toList = .ok (runFwdA A k rf a k).toList := by
  refine (Loop.traj (transform_to_rev_loop1 A' roots (2^k)) (fun l => (runFwdA A k rf a l).toList) k 0 fun fuel l _ hl => ?_).trans
    (by rw [Nat.zero_add]; rfl)
  · have hlk : l < k := by omega
    have h2m : 2^l + 2^l ≤ 2^k := by
      rw [← Nat.two_mul, ← Nat.pow_succ']; exact Nat.pow_le_pow_right (by decide) hlk
    have e := gd_layer_run (f := fun x y r => A.add (A.guard x) (A.mulRoot y r)) (g' := fun x y r => A.sub (A.guard x) (A.mulRoot y r))
      (loop2 := transform_to_rev_loop2 A' (2^(k - l - 1))) (fun r hr L R => gd_fwd_loop3 h r hr L R) (fun _ _ _ _ => rfl) (fun _ _ _ _ _ => rfl)
      (Nat.pow_pos (by decide) : 0 < 2^(k - l - 1)) hrf hQ (Nat.pow_pos (by decide)) h2m
      (runFwdA A k rf a l) (gd_runFwdA_size A k rf a ha l) (gd_pow_split hlk) (two_pow_lt_64 hk) (hP l hlk)
    rw [transform_to_rev_loop1, gd_pow_bind hlk hk]
    simp only [gd_fwd_roots_bind h2m (two_pow_lt_64 hk) (gd_roots_length hrf), e]
    rfl

theorem gd_inv_loop1 {A' : GenD.Arithmetic α ρ σ} {A : Arith α ρ} {P : α → Prop} {Q : ρ → Prop} [Inhabited α]
    (h : RealInv A' A P Q) (k : Nat) (hk : k < 64) (a : Array α) (ha : a.size = 2^k)
    (roots : List ρ) (rf : Nat → ρ) (hrf : ∀ j, j < 2^k → roots[j]? = some (rf j)) (hQ : ∀ j, 0 < j → j < 2^k → Q (rf j))
    (hP : ∀ l, l < k → ∀ p, p < 2^k → P (arrFn (runInvA A k rf a l) p)) :
    transform_from_rev_loop1 A' roots (2^k) k 0 a.toList = .ok (runInvA A k rf a k).toList := by
  refine (Loop.traj (transform_from_rev_loop1 A' roots (2^k)) (fun l => (runInvA A k rf a l).toList) k 0 fun fuel l _ hl => ?_).trans
    (by rw [Nat.zero_add]; rfl)
  · have hlk : l < k := by omega
    have hmpos : 0 < 2^(k - 1 - l) := Nat.pow_pos (by decide)
    have hsplit : 2^(k - 1 - l) * (2 * 2^l) = 2^k := by
      rw [Nat.mul_left_comm, Nat.mul_comm _ (2^l), ← Nat.mul_left_comm, Nat.sub_right_comm]; exact gd_pow_split hlk
    have h2m : 2 * 2^(k - 1 - l) ≤ 2^k := by
      rw [← Nat.pow_succ']; exact Nat.pow_le_pow_right (by decide) (by omega)
    have e := gd_layer_run (f := fun x y _ => A.guard (A.add x y)) (g' := fun x y r => A.mulRoot (A.sub x y) r)
      (loop2 := transform_from_rev_loop2 A' (2^l)) (fun r hr L R => gd_inv_loop3 h r hr L R) (fun _ _ _ _ => rfl) (fun _ _ _ _ _ => rfl)
      (Nat.pow_pos (by decide) : 0 < 2^l) hrf hQ (Nat.succ_pos _)
      (show 2^k - 2 * 2^(k - 1 - l) + 1 + 2^(k - 1 - l) ≤ 2^k by omega)
      (runInvA A k rf a l) (gd_runInvA_size A k rf a ha l) hsplit (two_pow_lt_64 hk) (hP l hlk)
    rw [transform_from_rev_loop1, gd_pow_bind hlk hk, Nat.sub_right_comm]
    simp only [gd_inv_roots_bind hmpos h2m (two_pow_lt_64 hk) (gd_roots_length hrf), e]
    rfl

/-! ### the scalar pass `if let Some(scalar) = scalar { for value in values.iter_mut() { .. } }` -/

theorem gd_scalar_pass [Inhabited α] {loop4 : Nat → Nat → List α → R (List α)} (A' : GenD.Arithmetic α ρ σ) (s : σ) (ms : α → α)
    (out : Array α) (h0 : ∀ j a, loop4 0 j a = .ok a)
    (h4 : ∀ fuel j a, loop4 (fuel + 1) j a = do
      let x ← idxG a j
      let y ← A'.mul_scalar x s
      let a ← setIdxG a j y
      loop4 fuel (j + 1) a)
    (hs : ∀ p, p < out.size → A'.mul_scalar (arrFn out p) s = .ok (ms (arrFn out p))) :
    loop4 out.toList.length 0 out.toList = .ok (out.toList.map ms) :=
  Loop.write_map_ok loop4 ms (fun x => A'.mul_scalar x s = .ok (ms x)) .ok _ h0
    (fun fuel j a h px => by
      rw [h4]
      simp only [gd_idxG_ok (List.getElem?_eq_getElem h), px, gd_setIdxG_ok _ h, bind, Except.bind])
    (list_forall_of_getElem? (fun i hi => gd_arrFn_get out i (Array.length_toList ▸ hi)) (fun i hi => hs i (Array.length_toList ▸ hi)))

/-- the optional scalar pass on the model side -/
def gd_scaled (ms : α → σ → α) (sc : Option σ) (out : List α) : List α :=
  match sc with
  | none => out
  | some s => out.map (fun x => ms x s)

/-- GENERATED = MODEL, forward: `DWTHandler::transform_to_rev` run with operations `A'` that realise the arithmetic `A` (no trap on any
    butterfly of the run: invariant `P` on the values of every layer, `Q` on the roots used) returns `runFwdA A log_n roots values log_n`;
    with `Some(scalar)` every output is then multiplied by the scalar.  For every `log_n < 64` (`1 << log_n` traps at 64), every table
    whose first `2^log_n` entries are `rf` and every input of length `2^log_n`. -/
theorem gd_transform_to_rev_eq {A' : GenD.Arithmetic α ρ σ} {A : Arith α ρ} {P : α → Prop} {Q : ρ → Prop} [Inhabited α]
    (h : RealFwd A' A P Q) (k : Nat) (hk : k < 64) (vals : List α) (hv : vals.length = 2^k)
    (roots : List ρ) (rf : Nat → ρ) (hrf : ∀ j, j < 2^k → roots[j]? = some (rf j)) (hQ : ∀ j, 0 < j → j < 2^k → Q (rf j))
    (hP : ∀ l, l < k → ∀ p, p < 2^k → P (arrFn (runFwdA A k rf vals.toArray l) p))
    (sc : Option σ) (ms : α → σ → α)
    (hs : ∀ s, sc = some s → ∀ p, p < 2^k → A'.mul_scalar (arrFn (runFwdA A k rf vals.toArray k) p) s
            = .ok (ms (arrFn (runFwdA A k rf vals.toArray k) p) s)) :
    transform_to_rev A' vals k roots sc = .ok (gd_scaled ms sc (runFwdA A k rf vals.toArray k).toList) := by
  have e1 : GenW.ckShl 64 1 k = .ok (2^k) := by rw [GenW.ckShl_ok hk, one_shl_mod hk]
  have e2 : transform_to_rev_loop1 A' roots (2^k) k 0 vals = .ok (runFwdA A k rf vals.toArray k).toList :=
    gd_fwd_loop1 h k hk vals.toArray hv roots rf hrf hQ hP
  unfold transform_to_rev
  cases sc with
  | none => simp only [e1, e2, bind, Except.bind]; rfl
  | some s =>
    simp only [e1, e2, gd_scalar_pass (loop4 := transform_to_rev_loop4 A' s) A' s (ms · s) _ (fun _ _ => rfl) (fun _ _ _ => rfl)
      (fun p hp => hs s rfl p (gd_runFwdA_size A k rf _ hv k ▸ hp)),
      bind, Except.bind]
    rfl

/-- GENERATED = MODEL, inverse: `DWTHandler::transform_from_rev` returns `runInvA A log_n roots values log_n`, then the scalar pass -/
theorem gd_transform_from_rev_eq {A' : GenD.Arithmetic α ρ σ} {A : Arith α ρ} {P : α → Prop} {Q : ρ → Prop} [Inhabited α]
    (h : RealInv A' A P Q) (k : Nat) (hk : k < 64) (vals : List α) (hv : vals.length = 2^k)
    (roots : List ρ) (rf : Nat → ρ) (hrf : ∀ j, j < 2^k → roots[j]? = some (rf j)) (hQ : ∀ j, 0 < j → j < 2^k → Q (rf j))
    (hP : ∀ l, l < k → ∀ p, p < 2^k → P (arrFn (runInvA A k rf vals.toArray l) p))
    (sc : Option σ) (ms : α → σ → α)
    (hs : ∀ s, sc = some s → ∀ p, p < 2^k → A'.mul_scalar (arrFn (runInvA A k rf vals.toArray k) p) s
            = .ok (ms (arrFn (runInvA A k rf vals.toArray k) p) s)) :
    transform_from_rev A' vals k roots sc = .ok (gd_scaled ms sc (runInvA A k rf vals.toArray k).toList) := by
  have e1 : GenW.ckShl 64 1 k = .ok (2^k) := by rw [GenW.ckShl_ok hk, one_shl_mod hk]
  have e2 : transform_from_rev_loop1 A' roots (2^k) k 0 vals = .ok (runInvA A k rf vals.toArray k).toList :=
    gd_inv_loop1 h k hk vals.toArray hv roots rf hrf hQ hP
  unfold transform_from_rev
  cases sc with
  | none => simp only [e1, e2, bind, Except.bind]; rfl
  | some s =>
    simp only [e1, e2, gd_scalar_pass (loop4 := transform_from_rev_loop4 A' s) A' s (ms · s) _ (fun _ _ => rfl) (fun _ _ _ => rfl)
      (fun p hp => hs s rfl p (gd_runInvA_size A k rf _ hv k ▸ hp)),
      bind, Except.bind]
    rfl

/-- total operations as a `GenD.Arithmetic` -/
def gd_total (A : Arith α ρ) (ms : α → σ → α) : GenD.Arithmetic α ρ σ :=
  { add := fun a b => pure (A.add a b), sub := fun a b => pure (A.sub a b), mul_root := fun a r => pure (A.mulRoot a r),
    mul_scalar := fun a s => pure (ms a s), guard := fun a => pure (A.guard a) }

theorem gd_total_fwd (A : Arith α ρ) (ms : α → σ → α) : RealFwd (gd_total A ms) A (fun _ => True) (fun _ => True) :=
  ⟨fun _ _ => rfl, fun _ _ _ _ => rfl, fun _ _ _ _ _ _ => rfl, fun _ _ _ _ _ _ => rfl⟩

theorem gd_total_inv (A : Arith α ρ) (ms : α → σ → α) : RealInv (gd_total A ms) A (fun _ => True) (fun _ => True) :=
  ⟨fun _ _ _ _ => rfl, fun _ _ _ _ => rfl, fun _ _ _ _ => rfl, fun _ _ _ _ _ _ => rfl⟩

/-- for ANY arithmetic structure with total operations the generated forward network IS the model network (no further hypothesis) -/
theorem gd_transform_to_rev_total [Inhabited α] (A : Arith α ρ) (ms : α → σ → α) (k : Nat) (hk : k < 64) (vals : List α)
    (hv : vals.length = 2^k) (roots : List ρ) (rf : Nat → ρ) (hrf : ∀ j, j < 2^k → roots[j]? = some (rf j)) (sc : Option σ) :
    transform_to_rev (gd_total A ms) vals k roots sc = .ok (gd_scaled ms sc (runFwdA A k rf vals.toArray k).toList) :=
  gd_transform_to_rev_eq (gd_total_fwd A ms) k hk vals hv roots rf hrf (fun _ _ _ => trivial) (fun _ _ _ _ => trivial) sc ms
    (fun _ _ _ _ => rfl)

theorem gd_transform_from_rev_total [Inhabited α] (A : Arith α ρ) (ms : α → σ → α) (k : Nat) (hk : k < 64) (vals : List α)
    (hv : vals.length = 2^k) (roots : List ρ) (rf : Nat → ρ) (hrf : ∀ j, j < 2^k → roots[j]? = some (rf j)) (sc : Option σ) :
    transform_from_rev (gd_total A ms) vals k roots sc = .ok (gd_scaled ms sc (runInvA A k rf vals.toArray k).toList) :=
  gd_transform_from_rev_eq (gd_total_inv A ms) k hk vals hv roots rf hrf (fun _ _ _ => trivial) (fun _ _ _ _ => trivial) sc ms
    (fun _ _ _ _ => rfl)

end HC
