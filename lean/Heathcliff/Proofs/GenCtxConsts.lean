import Heathcliff.Gen.ContextFns
import Heathcliff.Model.Context
import Heathcliff.Proofs.GenWordScalar
import Heathcliff.Proofs.GenUint
import Heathcliff.Proofs.GenRnsKernels
import Heathcliff.Proofs.GenLoop
import Heathcliff.Proofs.C08A
import Heathcliff.Proofs.C08C
import Heathcliff.Proofs.C13Validate

/-!
  Translator tie: the pre-computed CONSTANTS of a level.  Three computations of them — the code GENERATED from `HeContext::validate` (src/context.rs)
  and `RNSBase::decompose` (src/util/rns.rs) into `Gen/ContextFns.lean` (`HC.GenX`: `rns_decompose`, `validate_total`, `validate_bfv_consts`,
  `validate_ckks_consts`), the hand model (`Model/Context.lean`, `validate`), and its word-level mirror `wordConsts` (what the correspondence DRIVER
  compares with the code's multi-word constants) — against the same value-level expressions:
  `Π q_i` and its bit count, `⌊Q/t⌋ mod q_i`, `(Q mod t) mod q_i`, `Q mod t`, `⌈t/2⌉`, `q_i − t` or the limbs of `Q − t`; for CKKS `2^63`, `−2^64 mod q_i`, `⌈Q/2⌉`.
  Sections: limbs of a value; the multi-word operations of Model/Word.lean on `fromNat`; the generated functions; generated = model on every accepted
  level; `wordConsts`.  Helper names start with `gcx_`.
  The arguments `tot0`, `c0`, `u0`, `p0` of the generated functions are the output buffers (`total_coeff_modulus`, `coeff_div_plain_modulus`,
  `upper_half_increment`, `plain_upper_half_increment`) as the code finds them: every word is overwritten, so the theorems hold for ANY contents.
  Bounds: a `Modulus` is well-formed below 2^61 (`Modulus.WF`); the `wordConsts` section asks for the user primes' bound `q < 2^60`
  (`HE_USER_MOD_BIT_COUNT_MAX`, the bound `validate` enforces), which is what the Driver's levels satisfy.
  `GenX.idxT` is the prelude constant of Gen/ContextFns.lean, not `GenW.idx`: hence `gcx_idxT_eq` (every generated namespace has its own prelude).
-/
namespace HC
open HC.GenW HC.Ctx

/-! ### lists, and the limbs of a value -/

theorem gcx_idxT_eq {α : Type} (l : List α) (i : Nat) (h : i < l.length) : GenX.idxT l i = .ok l[i] := by
  unfold GenX.idxT; rw [List.getElem?_eq_getElem h]

/-- a limb list is determined by its length and value -/
theorem gcx_eq_fromNat {l : List Nat} {k v : Nat} (hl : Limbs l) (hk : l.length = k) (hv : toNat l = v) : l = fromNat k v := by
  rw [← hk, ← hv, fromNat_toNat hl]

theorem gcx_prodL_foldl (l : List Nat) : l.foldl (· * ·) 1 = prodL l := by
  have : ∀ (l : List Nat) (a : Nat), l.foldl (· * ·) a = a * prodL l := by
    intro l
    induction l with
    | nil => intro a; simp [prodL]
    | cons x xs ih => intro a; rw [List.foldl_cons, ih, prodL, Nat.mul_assoc]
  rw [this, Nat.one_mul]

theorem gcx_forall₂_map {α β : Type} (R : α → β → Prop) (f : α → β) :
    ∀ l : List α, (∀ x ∈ l, R x (f x)) → List.Forall₂ R l (l.map f)
  | [], _ => List.Forall₂.nil
  | x :: xs, h => List.Forall₂.cons (h x (by simp)) (gcx_forall₂_map R f xs (fun y hy => h y (by simp [hy])))

theorem gcx_prodL_lt {qs : List Nat} (hne : qs ≠ []) (h : Limbs qs) : prodL qs < 2^(64 * qs.length) := by
  match qs, hne, h with
  | x :: xs, _, h =>
    have hx : x < 2^64 := (limbs_cons.mp h).1
    have ih := prodL_le_pow 64 xs (limbs_cons.mp h).2
    rw [prodL, List.length_cons, Nat.mul_succ, Nat.pow_add, Nat.mul_comm (2^(64 * xs.length))]
    exact Nat.mul_lt_mul_of_lt_of_le hx ih (Nat.pow_pos (by decide))

/-- the zero-extended plain modulus `wide_plain_modulus` -/
theorem gcx_wide (k t : Nat) (hk : 1 ≤ k) (ht : t < 2^64) :
    GenW.setIdx (List.replicate k 0) 0 t = .ok (t :: List.replicate (k-1) 0) ∧
    Limbs (t :: List.replicate (k-1) 0) ∧ (t :: List.replicate (k-1) 0).length = k ∧ toNat (t :: List.replicate (k-1) 0) = t := by
  obtain ⟨j, rfl⟩ : ∃ j, k = j + 1 := ⟨k - 1, by omega⟩
  refine ⟨?_, ?_, by simp, ?_⟩
  · rw [GenW.setIdx_ok _ _ (by simp)]; simp [List.replicate_succ]
  · exact limbs_cons.mpr ⟨ht, Limbs.replicate_zero _⟩
  · simp [toNat_replicate_zero]

theorem gcx_head_fromNat (k v : Nat) (hk : 1 ≤ k) (hv : v < 2^64) : GenW.idx (fromNat k v) 0 = .ok v ∧ (fromNat k v).headD 0 = v := by
  obtain ⟨j, rfl⟩ : ∃ j, k = j + 1 := ⟨k - 1, by omega⟩
  have : v % B64 = v := Nat.mod_eq_of_lt hv
  constructor
  · show GenW.idx ((v % B64) :: fromNat j (v / B64)) 0 = _
    rw [this]; rfl
  · show ((v % B64) :: fromNat j (v / B64)).headD 0 = v
    rw [this]; rfl

theorem gcx_toNat_fromNat_lt {k v : Nat} (h : v < 2^(64*k)) : toNat (fromNat k v) = v := by
  rw [toNat_fromNat', Nat.mod_eq_of_lt h]

/-! ### the multi-word operations on the limbs of a value -/

theorem gcx_multiplyMany_ok {qs : List Nat} (hne : qs ≠ []) (hq : Limbs qs) :
    multiplyManyU64 qs qs.length = .ok (fromNat qs.length (prodL qs)) := by
  obtain ⟨r, hr, hlen, hlim, hval⟩ := multiplyManyU64_spec hne hq (Nat.le_refl _)
  rw [gcx_prodL_foldl] at hval
  rw [hr, gcx_eq_fromNat hlim hlen hval]

theorem gcx_bitCountUint_ok {k Q : Nat} (hk : 1 ≤ k) (hQ : Q < 2^(64*k)) : bitCountUint (fromNat k Q) = .ok (bitCount Q) := by
  unfold bitCountUint
  have : (fromNat k Q).isEmpty = false := by
    cases hfn : fromNat k Q with
    | nil => have := congrArg List.length hfn; rw [fromNat_length, List.length_nil] at this; omega
    | cons _ _ => rfl
  simp only [this, Bool.false_eq_true, if_false, pure, Except.pure, gcx_toNat_fromNat_lt hQ]

theorem gcx_divideUint_ok {k Q t : Nat} {wideT : List Nat} (hk : 1 ≤ k) (hQ : Q < 2^(64*k))
    (hw : Limbs wideT) (hwl : wideT.length = k) (hwv : toNat wideT = t) (ht : 1 ≤ t) :
    divideUint (fromNat k Q) wideT k = .ok (fromNat k (Q % t), fromNat k (Q / t)) := by
  obtain ⟨r, q, hd, hrl, hql, hrL, hqL, heq, hlt⟩ :=
    divideUint_spec hk (fromNat_limbs k Q) hw (fromNat_length k Q) hwl (by rw [hwv]; omega)
  rw [gcx_toNat_fromNat_lt hQ, hwv] at heq
  rw [hwv] at hlt
  have hdm : Q / t = toNat q ∧ Q % t = toNat r :=
    (Nat.div_mod_unique (by omega : 0 < t)).mpr ⟨by rw [heq, Nat.mul_comm, Nat.add_comm], hlt⟩
  rw [hd, gcx_eq_fromNat hqL hql hdm.1.symm, gcx_eq_fromNat hrL hrl hdm.2.symm]

/-- `sub_uint(total, wide_plain_modulus, result)` with `t ≤ Q`: limbs of `Q − t`, no borrow out — whatever the low word of `Q` is -/
theorem gcx_sub_ok {k Q t : Nat} {wideT : List Nat} (hk : 1 ≤ k) (hQ : Q < 2^(64*k))
    (hw : Limbs wideT) (hwl : wideT.length = k) (hwv : toNat wideT = t) (htQ : t ≤ Q) :
    GenW.sub_uint (fromNat k Q) wideT (List.replicate k 0) = .ok (fromNat k (Q - t), 0) := by
  obtain ⟨r, c, hs, hrl, hrL, hc, heq⟩ :=
    subUint_spec hk (fromNat_limbs k Q) hw (by rw [fromNat_length]) (by omega)
  rw [List.take_of_length_le (by omega), List.take_of_length_le (by rw [fromNat_length]), gcx_toNat_fromNat_lt hQ, hwv] at heq
  have hr := toNat_lt hrL
  rw [hrl] at hr
  have hc0 : c = 0 := by
    rcases Nat.lt_or_ge c 1 with h | h
    · omega
    · have : c = 1 := by omega
      subst this
      omega
  subst hc0
  rw [gx_sub_uint_eq, List.length_replicate, hs, gcx_eq_fromNat hrL hrl (show toNat r = Q - t by omega)]

theorem gcx_subUint_ok {k Q t : Nat} {wideT : List Nat} (hk : 1 ≤ k) (hQ : Q < 2^(64*k))
    (hw : Limbs wideT) (hwl : wideT.length = k) (hwv : toNat wideT = t) (htQ : t ≤ Q) :
    subUint (fromNat k Q) wideT k = .ok (fromNat k (Q - t), 0) := by
  have h := gcx_sub_ok hk hQ hw hwl hwv htQ
  rwa [gx_sub_uint_eq, List.length_replicate] at h

/-- `increment_uint` then `right_shift_uint(.., 1, ..)` on the limbs of `Q`: the limbs of `⌈Q/2⌉`, no carry out -/
theorem gcx_half_up {k Q : Nat} (hk : 1 ≤ k) (hQ1 : Q + 1 < 2^(64 * k)) :
    ∃ inc, addUintU64 (fromNat k Q) 1 k = .ok (inc, 0) ∧ rightShiftUint inc 1 k = .ok (fromNat k ((Q + 1) / 2)) := by
  obtain ⟨r, c, hadd, hrl, hrL, hc, hval⟩ :=
    addUintU64_spec (a := fromNat k Q) (w := 1) (n := k) hk (fromNat_limbs _ _) (by norm_num) (by rw [fromNat_length])
  rw [List.take_of_length_le (by rw [fromNat_length]), gcx_toNat_fromNat_lt (by omega)] at hval
  have hr := toNat_lt hrL
  rw [hrl] at hr
  obtain rfl : c = 0 := by
    rcases Nat.lt_or_ge c 1 with h | h
    · omega
    · obtain rfl : c = 1 := by omega
      omega
  obtain ⟨s, hsh, hsl, hsL, hsv⟩ := rightShiftUint_spec (a := r) (s := 1) (cnt := k) hrL (by omega) (by omega)
  rw [List.take_of_length_le (by omega), show toNat r = Q + 1 by omega] at hsv
  exact ⟨r, hadd, by rw [hsh, gcx_eq_fromNat hsL hsl (show toNat s = (Q + 1) / 2 by rw [hsv, Nat.pow_one])]⟩

/-! ### the generated functions -/

theorem gcx_validate_total_ok {qs tot0 : List Nat} (hne : qs ≠ []) (hq : Limbs qs) :
    GenX.validate_total qs tot0 = .ok (fromNat qs.length (prodL qs), bitCount (prodL qs)) := by
  unfold GenX.validate_total GenX.multiply_many_u64 GenX.get_significant_bit_count_uint
  simp only [List.length_replicate, gcx_multiplyMany_ok hne hq, gcx_bitCountUint_ok (List.length_pos_iff.mpr hne) (gcx_prodL_lt hne hq),
    bind, Except.bind, pure, Except.pure]

/-- a generated loop `for j { a[j] = F(ms[j]) }` over the whole buffer, with the rest of the function as `cont` -/
theorem gcx_fill_loop {α β : Type} [Inhabited α] (ms : List α) (loop : Nat → Nat → List Nat → R β) (F : α → R Nat) (cont : List Nat → R β)
    (h0 : ∀ j l, loop 0 j l = cont l)
    (hs : ∀ n j l (h : j < ms.length), l.length = ms.length → loop (n+1) j l = F ms[j] >>= fun y => loop n (j+1) (l.set j y))
    (a : List Nat) (ha : a.length = ms.length) : loop ms.length 0 a = ms.mapM F >>= cont := by
  rw [← ha, Loop.write_all loop (fun j => F (ms.getD j default)) cont a h0 fun n j l hj hA => by
    have hlt : j < ms.length := ha ▸ hj
    rw [hs n j l hlt (hA.length.trans ha), list_getD_eq_getElem ms default hlt]]
  rw [ha, ← List.range_eq_range', R.mapM_range_getD]

/-- `decompose` on a value with as many limbs as there are moduli: the residues, or the value itself for a single modulus -/
theorem gcx_decompose_ok {ms : List Modulus} {v : List Nat} (hw : ∀ m ∈ ms, m.WF) (hv : Limbs v) (hl : v.length = ms.length) :
    GenX.rns_decompose ms v = .ok (if 1 < ms.length then ms.map (fun m => toNat v % m.value) else v) := by
  unfold GenX.rns_decompose
  rw [if_pos hl]
  by_cases h1 : 1 < ms.length
  · have hne : v ≠ [] := by intro h; rw [h] at hl; simp at hl; omega
    have hgt : ms.length > 1 := h1
    rw [if_pos hgt, if_pos h1]
    show GenX.rns_decompose_loop1 ms v ms.length 0 v = _
    rw [gcx_fill_loop ms (GenX.rns_decompose_loop1 ms v) (GenW.modulo_uint v) pure (fun _ _ => rfl)
      (fun n j l h hj => by
        rw [GenX.rns_decompose_loop1]
        simp only [gcx_idxT_eq ms j h, R.ok_bind, GenW.setIdx_ok l _ (hj ▸ h)]) v hl,
      R.mapM_ok _ (fun m => toNat v % m.value) _ fun m hm => by
        rw [gw_modulo_uint_eq v m hne]
        exact moduloUint_exact (hw m hm) hne hv]
    rfl
  · have hgt : ¬ ms.length > 1 := h1
    simp only [if_neg hgt, pure, Except.pure]

/-- `divide_uint(total, wide_plain_modulus, quotient, remainder)`: limbs of `⌊Q/t⌋` and of `Q mod t` -/
theorem gcx_divide_ok {k Q t : Nat} {wideT : List Nat} (hk : 1 ≤ k) (hQ : Q < 2^(64*k))
    (hw : Limbs wideT) (hwl : wideT.length = k) (hwv : toNat wideT = t) (ht : 1 ≤ t) :
    GenX.divide_uint (fromNat k Q) wideT (List.replicate k 0) (List.replicate k 0) = .ok (fromNat k (Q / t), fromNat k (Q % t)) := by
  unfold GenX.divide_uint
  rw [if_pos ⟨by simp [fromNat_length], by simp [hwl], by simp⟩]
  simp only [List.length_replicate, gcx_divideUint_ok hk hQ hw hwl hwv ht, bind, Except.bind, pure, Except.pure]

/-- the `for each in coeff_modulus` loop that clears `using_fast_plain_lift`: the flag survives iff every remaining modulus exceeds `t` -/
theorem gcx_fast_loop (ms : List Modulus) (t : Nat) (total : List Nat) (k : Nat) :
    ∀ (n i f : Nat), i + n = ms.length →
      GenX.validate_bfv_consts_loop1 ms t total k n i f =
        GenX.validate_bfv_consts_loop1 ms t total k 0 0 (if (ms.drop i).all (fun m => decide (t < m.value)) then f else 0) := by
  intro n
  induction n with
  | zero =>
    intro i f hi
    have hd : ms.drop i = [] := List.drop_eq_nil_of_le (by omega)
    rw [hd]; rfl
  | succ n ih =>
    intro i f hi
    have hlt : i < ms.length := by omega
    rw [List.drop_eq_getElem_cons hlt, List.all_cons]
    conv => lhs; unfold GenX.validate_bfv_consts_loop1
    simp only [gcx_idxT_eq ms i hlt, bind, Except.bind]
    rw [ih (i+1) _ (by omega)]
    by_cases hle : ms[i].value ≤ t
    · have : ¬ t < ms[i].value := by omega
      simp [hle, this]
    · have : t < ms[i].value := by omega
      simp [hle, this]

/-- the fast-lift branch: `plain_upper_half_increment[i] = coeff_modulus[i].value() - plain_modulus.value()` -/
theorem gcx_sub_loop (ms : List Modulus) (t k : Nat) (a : List Nat) (ha : a.length = ms.length) (hm : ∀ m ∈ ms, t ≤ m.value) :
    GenX.validate_bfv_consts_loop2 ms t k ms.length 0 a = .ok (ms.map (fun m => m.value - t)) := by
  rw [gcx_fill_loop ms (GenX.validate_bfv_consts_loop2 ms t k) (fun m => ckSub m.value t) pure (fun _ _ => rfl)
    (fun n j l h hl => by
      rw [GenX.validate_bfv_consts_loop2]
      simp only [gcx_idxT_eq ms j h, R.ok_bind, GenW.setIdx_ok l _ (hl ▸ h)]) a ha,
    R.mapM_ok _ _ _ fun m hmm => ckSub_of_le (hm m hmm)]
  rfl

theorem gcx_validate_bfv_consts_values {ms : List Modulus} {qs : List Nat} {t : Nat} {c0 u0 p0 : List Nat}
    (hms : ms.map (·.value) = qs) (hw : ∀ m ∈ ms, m.WF) (hk : 1 ≤ qs.length) (ht1 : 1 ≤ t) (ht : t + 1 < 2^64) (htQ : t ≤ prodL qs) :
    GenX.validate_bfv_consts ms t (fromNat qs.length (prodL qs)) c0 u0 p0 =
      .ok ((if 1 < qs.length then qs.map (fun q => prodL qs / t % q) else fromNat qs.length (prodL qs / t)),
           (if 1 < qs.length then qs.map (fun q => prodL qs % t % q) else fromNat qs.length (prodL qs % t)),
           (if qs.all (fun q => decide (t < q)) then qs.map (fun q => q - t) else fromNat qs.length (prodL qs - t)),
           (if qs.all (fun q => decide (t < q)) then 1 else 0), prodL qs % t, (t + 1) / 2) := by
  have hlen : qs.length = ms.length := by rw [← hms, List.length_map]
  have hlimb : Limbs qs := by
    intro x hx
    rw [← hms] at hx
    obtain ⟨m, hm, rfl⟩ := List.mem_map.mp hx
    have := (hw m hm).lt
    omega
  have hQlt := gcx_prodL_lt (List.length_pos_iff.mp hk) hlimb
  have e1 : ∀ f : Nat → Nat, qs.map f = ms.map (fun m => f m.value) := by
    intro f; rw [← hms, List.map_map]; rfl
  have e2 : qs.all (fun q => decide (t < q)) = ms.all (fun m => decide (t < m.value)) := by
    rw [← hms, List.all_map]; rfl
  rw [e1, e1, e1, e2, hlen]
  rw [hlen] at hk hQlt
  generalize prodL qs = Q at htQ hQlt ⊢
  obtain ⟨hw1, hw2, hw3, hw4⟩ := gcx_wide ms.length t hk (by omega)
  have hqlt : Q / t < 2^(64 * ms.length) := Nat.lt_of_le_of_lt (Nat.div_le_self _ _) hQlt
  have hrlt : Q % t < 2^(64 * ms.length) := Nat.lt_of_le_of_lt (Nat.mod_le _ _) hQlt
  have hr64 : Q % t < 2^64 := by have := Nat.mod_lt Q (show t > 0 by omega); omega
  have hdq := gcx_decompose_ok hw (fromNat_limbs ms.length (Q / t)) (fromNat_length _ _)
  have hdr := gcx_decompose_ok hw (fromNat_limbs ms.length (Q % t)) (fromNat_length _ _)
  rw [gcx_toNat_fromNat_lt hqlt] at hdq
  rw [gcx_toNat_fromNat_lt hrlt] at hdr
  unfold GenX.validate_bfv_consts
  simp only []
  rw [gcx_fast_loop ms t _ ms.length ms.length 0 1 (by omega), List.drop_zero]
  unfold GenX.validate_bfv_consts_loop1
  simp only [hw1, bind, Except.bind, gcx_divide_ok hk hQlt hw2 hw3 hw4 ht1, (gcx_head_fromNat ms.length (Q % t) hk hr64).1, hdq, hdr,
    ckAdd_ok (show t + 1 < B64 by unfold B64; omega), Nat.shiftRight_eq_div_pow, Nat.pow_one]
  by_cases hf : ms.all (fun m => decide (t < m.value)) = true
  · have hall : ∀ m ∈ ms, t ≤ m.value := fun m hm => Nat.le_of_lt (of_decide_eq_true (List.all_eq_true.mp hf m hm))
    simp only [hf, if_true, gcx_sub_loop ms t ms.length _ List.length_replicate hall, pure, Except.pure]
    simp
  · simp only [hf, gcx_sub_ok hk hQlt hw2 hw3 hw4 htQ, pure, Except.pure]
    simp

/-- `2^64 mod q_i`-based increment for one modulus -/
theorem gcx_ckks_cell {m : Modulus} (hw : m.WF) :
    (GenR.modulus_reduce m ((1 <<< 63) % B64) >>= fun v4 => ckSub m.value 2 >>= fun t3 => GenW.multiply_u64_mod v4 t3 m) =
      .ok ((m.value - 2^64 % m.value) % m.value) := by
  have h2 := hw.two_le
  have h61 := hw.lt
  have e63 : (1 <<< 63) % B64 = 2^63 := by decide
  have hlt : 2^63 % m.value < 2^64 := Nat.lt_of_lt_of_le (Nat.mod_lt _ (by omega)) (by omega)
  rw [e63, gr_modulus_reduce_eq, barrett64_exact hw (by norm_num)]
  simp only [bind, Except.bind, ckSub, if_pos h2, gw_multiply_u64_mod_eq]
  rw [mulMod_exact hw hlt (by omega), neg_two64 h2]

theorem gcx_ckks_loop (ms : List Modulus) (total : List Nat) (puht k : Nat) (hw : ∀ m ∈ ms, m.WF) (a : List Nat) (ha : a.length = ms.length) :
    GenX.validate_ckks_consts_loop1 ms total puht k ms.length 0 a =
      GenX.validate_ckks_consts_loop1 ms total puht k 0 0 (ms.map (fun m => (m.value - 2^64 % m.value) % m.value)) := by
  rw [gcx_fill_loop ms (GenX.validate_ckks_consts_loop1 ms total puht k)
    (fun m => GenR.modulus_reduce m ((1 <<< 63) % B64) >>= fun v4 => ckSub m.value 2 >>= fun t3 => GenW.multiply_u64_mod v4 t3 m)
    (GenX.validate_ckks_consts_loop1 ms total puht k 0 0) (fun _ _ => rfl)
    (fun n j l h hl => by
      rw [GenX.validate_ckks_consts_loop1]
      simp only [gcx_idxT_eq ms j h, R.ok_bind, bind_assoc, GenW.setIdx_ok l _ (hl ▸ h)]) a ha,
    R.mapM_ok _ _ _ fun m hm => gcx_ckks_cell (hw m hm)]
  rfl

theorem gcx_validate_ckks_consts_values {ms : List Modulus} {qs p0 u0 : List Nat} (hms : ms.map (·.value) = qs) (hw : ∀ m ∈ ms, m.WF)
    (hk : 1 ≤ qs.length) :
    GenX.validate_ckks_consts ms (fromNat qs.length (prodL qs)) p0 u0 =
      .ok (qs.map (fun q => (q - 2^64 % q) % q), fromNat qs.length ((prodL qs + 1) / 2), 2^63) := by
  have hlen : qs.length = ms.length := by rw [← hms, List.length_map]
  have h61 : ∀ q ∈ qs, q < 2^61 := by
    intro q hq
    rw [← hms] at hq
    obtain ⟨m, hm, rfl⟩ := List.mem_map.mp hq
    exact (hw m hm).lt
  have hQ := prodL_le_pow 61 _ h61
  rw [show qs.map (fun q => (q - 2^64 % q) % q) = ms.map (fun m => (m.value - 2^64 % m.value) % m.value) by
    rw [← hms, List.map_map]; rfl, hlen]
  rw [hlen] at hk hQ
  have hpow : 2^(61 * ms.length) + 2^(61 * ms.length) ≤ 2^(64 * ms.length) := by
    have e : 2^(64 * ms.length) = 2^(61 * ms.length) * 2^(3 * ms.length) := by rw [← Nat.pow_add]; congr 1; omega
    have h3 : 2 ≤ 2^(3 * ms.length) := by
      calc 2 = 2^1 := rfl
        _ ≤ 2^(3 * ms.length) := Nat.pow_le_pow_right (by decide) (by omega)
    rw [e, ← Nat.mul_two]
    exact Nat.mul_le_mul_left _ h3
  have hone : 1 < 2^(61 * ms.length) := Nat.one_lt_two_pow (by omega)
  generalize prodL qs = Q at hQ ⊢
  have hQ1 : Q + 1 < 2^(64 * ms.length) := by omega
  obtain ⟨r, hadd, hsh⟩ := gcx_half_up hk hQ1
  unfold GenX.validate_ckks_consts
  simp only []
  rw [gcx_ckks_loop ms _ _ _ hw _ List.length_replicate]
  unfold GenX.validate_ckks_consts_loop1
  simp only [gx_add_uint_u64_eq, List.length_replicate, hadd, bind, Except.bind,
    GenX.right_shift_uint_inplace, hsh, pure, Except.pure]
  rfl

/-! ### generated constants = model constants on every accepted level -/

theorem gcx_level_constants {isPrime : Nat → Bool} {p : Params} {sec : SecLevel} {c : ContextData}
    (h : validate isPrime p sec = .ok c) (hs : c.err = .Success) (hsch : p.scheme = .BFV ∨ p.scheme = .BGV)
    {ms : List Modulus} (hms : ms.map (·.value) = p.q) (hw : ∀ m ∈ ms, m.WF) (tot0 c0 u0 p0 : List Nat) :
    GenX.validate_total p.q tot0 = .ok (c.total, c.totalBits) ∧
    GenX.validate_bfv_consts ms p.t c.total c0 u0 p0 =
      .ok (c.coeffDivPlain.map (·.operand), c.upperHalfIncrement, c.plainUpperHalfIncrement, (if c.fastLift then 1 else 0), c.qModT,
           c.plainUpperHalfThreshold) ∧
    List.Forall₂ (fun m o => GenW.mulop_new (prodL p.q / p.t % m.value) m = .ok o) ms c.coeffDivPlain := by
  obtain ⟨a, _⟩ := validate_accepts h hs
  have hk := a.count
  have hq := a.range
  obtain ⟨_, htot, _, hbits, _⟩ := constants_common h hs
  obtain ⟨hcdp, hqmt, huhi, hpuht, hpuhi, _, _, hfast⟩ := constants_bfv h hs hsch
  obtain ⟨⟨ht2, ht60⟩, _, htQ⟩ := a.plain.bfv hsch
  have hne : p.q ≠ [] := by intro e; rw [e] at hk; simp at hk
  have hlimb : Limbs p.q := fun q hq' => by have := (hq q hq').2; omega
  have hq64 : ∀ q ∈ p.q, q < 2^64 := fun q hq' => by have := (hq q hq').2; omega
  refine ⟨?_, ?_, ?_⟩
  · rw [gcx_validate_total_ok hne hlimb, htot, hbits]
  · have hdq : prodL p.q / p.t < prodL p.q := Nat.div_lt_self (by omega) (by omega)
    have hdr : prodL p.q % p.t < prodL p.q := Nat.lt_trans (Nat.mod_lt _ (by omega)) htQ
    rw [htot, gcx_validate_bfv_consts_values hms hw hk.1 (by omega) (by omega) (by omega),
      decompose_eq (fun _ => hdq) hq64, decompose_eq (fun _ => hdr) hq64,
      hcdp, hqmt, huhi, hpuht, hpuhi, hfast, List.map_map]
    rfl
  · rw [hcdp, ← hms, List.map_map]
    refine gcx_forall₂_map _ _ ms (fun m hm => ?_)
    have hm2 := (hw m hm).two_le
    have hm61 := (hw m hm).lt
    have hy : prodL (ms.map (·.value)) / p.t % m.value < m.value := Nat.mod_lt _ (by omega)
    rw [gx_mulop_new_eq _ m (by omega)]
    unfold MulOperand.new
    rw [if_neg (by omega)]
    have : prodL (ms.map (·.value)) / p.t % m.value * B64 / m.value < B64 :=
      Nat.div_lt_of_lt_mul (Nat.mul_lt_mul_of_pos_right hy B64_pos)
    simp only [Function.comp, pure, Except.pure, Nat.mod_eq_of_lt this]
    rfl

theorem gcx_level_constants_ckks {isPrime : Nat → Bool} {p : Params} {sec : SecLevel} {c : ContextData}
    (h : validate isPrime p sec = .ok c) (hs : c.err = .Success) (hsch : p.scheme = .CKKS)
    {ms : List Modulus} (hms : ms.map (·.value) = p.q) (hw : ∀ m ∈ ms, m.WF) (tot0 p0 u0 : List Nat) :
    GenX.validate_total p.q tot0 = .ok (c.total, c.totalBits) ∧
    GenX.validate_ckks_consts ms c.total p0 u0 = .ok (c.plainUpperHalfIncrement, c.upperHalfThreshold, c.plainUpperHalfThreshold) := by
  obtain ⟨a, _⟩ := validate_accepts h hs
  have hk := a.count
  have hq := a.range
  obtain ⟨_, htot, _, hbits, _⟩ := constants_common h hs
  obtain ⟨_, _, _, hpuht, hpuhi, huht, _⟩ := constants_ckks h hs hsch
  have hne : p.q ≠ [] := by intro e; rw [e] at hk; simp at hk
  have hlimb : Limbs p.q := fun q hq' => by have := (hq q hq').2; omega
  exact ⟨by rw [gcx_validate_total_ok hne hlimb, htot, hbits],
    by rw [htot, gcx_validate_ckks_consts_values hms hw hk.1, hpuht, hpuhi, huht]⟩

/-! ### the word-level mirror `wordConsts` -/

theorem gcx_decomposeW_ok {qs : List Nat} {x : Nat} (hq : ∀ q ∈ qs, 2 ≤ q ∧ q < 2^60) (hx : x < 2^(64 * qs.length))
    (hx1 : qs.length ≤ 1 → x < prodL qs) :
    decomposeW qs (fromNat qs.length x) = .ok (qs.map (fun q => x % q)) := by
  unfold decomposeW
  by_cases h1 : qs.length > 1
  · rw [if_pos h1]
    apply R.mapM_ok
    intro q hqm
    obtain ⟨h2, h60⟩ := hq q hqm
    obtain ⟨m, hm, hwf, hv⟩ := mk?_ok h2 (by omega : q < 2^61)
    have hne : fromNat qs.length x ≠ [] := by
      intro e; have := congrArg List.length e; rw [fromNat_length, List.length_nil] at this; omega
    simp only [hm, bind, Except.bind]
    rw [moduloUint_exact hwf hne (fromNat_limbs _ _), gcx_toNat_fromNat_lt hx, hv]
  · rw [if_neg h1]
    have := decompose_eq (qs := qs) (x := x) hx1 (fun q hq' => by have := (hq q hq').2; omega)
    rw [if_neg (by omega)] at this
    simp only [pure, Except.pure, this]

theorem gcx_wordConsts_ok (qs : List Nat) (t : Nat) (hk1 : 1 ≤ qs.length) (hq : ∀ q ∈ qs, 2 ≤ q ∧ q < 2^60) (ht2 : 2 ≤ t) (ht64 : t < 2^64)
    (htQ : t < prodL qs) :
    ∃ w, wordConsts qs t = .ok w ∧ w.total = fromNat qs.length (prodL qs) ∧ w.totalBits = bitCount (prodL qs) ∧
      w.quotDec = qs.map (fun q => prodL qs / t % q) ∧ w.remDec = qs.map (fun q => prodL qs % t % q) ∧
      w.qModT = prodL qs % t ∧ w.puhiSlow = fromNat qs.length (prodL qs - t) ∧
      w.uht = fromNat qs.length ((prodL qs + 1) / 2) := by
  have hne : qs ≠ [] := by intro e; rw [e] at hk1; simp at hk1
  have hlimb : Limbs qs := fun q hq' => by have := (hq q hq').2; omega
  have hQlt := gcx_prodL_lt hne hlimb
  have hQ1 := prodL_lt_B64 (fun q hq' => (hq q hq').2) hk1
  rw [B64_eq, ← Nat.pow_mul] at hQ1
  have hr := gcx_multiplyMany_ok hne hlimb
  generalize hQ : prodL qs = Q at *
  have hbits := gcx_bitCountUint_ok hk1 hQlt
  have hwide : Limbs (t :: List.replicate (qs.length - 1) 0) ∧ (t :: List.replicate (qs.length - 1) 0).length = qs.length ∧
      toNat (t :: List.replicate (qs.length - 1) 0) = t := (gcx_wide qs.length t hk1 ht64).2
  obtain ⟨hw2, hw3, hw4⟩ := hwide
  have hdiv := gcx_divideUint_ok hk1 hQlt hw2 hw3 hw4 (by omega : 1 ≤ t)
  have hsub := gcx_subUint_ok hk1 hQlt hw2 hw3 hw4 (by omega : t ≤ Q)
  have hdq : Q / t < Q := Nat.div_lt_self (by omega) (by omega)
  have hdr : Q % t < Q := Nat.lt_trans (Nat.mod_lt _ (by omega)) htQ
  have hdecq := gcx_decomposeW_ok (x := Q / t) hq (by omega) (fun _ => by rw [hQ]; exact hdq)
  have hdecr := gcx_decomposeW_ok (x := Q % t) hq (by omega) (fun _ => by rw [hQ]; exact hdr)
  obtain ⟨inc, hadd, hsh⟩ := gcx_half_up hk1 (show Q + 1 < 2^(64 * qs.length) by omega)
  have hqm : (fromNat qs.length (Q % t)).headD 0 = Q % t :=
    (gcx_head_fromNat qs.length (Q % t) hk1 (by have := Nat.mod_lt Q (show t > 0 by omega); omega)).2
  refine ⟨⟨fromNat qs.length Q, bitCount Q, qs.map (fun q => Q / t % q), qs.map (fun q => Q % t % q), Q % t, fromNat qs.length (Q - t),
    fromNat qs.length ((Q + 1) / 2)⟩, ?_, rfl, rfl, rfl, rfl, rfl, rfl, rfl⟩
  unfold wordConsts
  simp only [hr, hbits, bind, Except.bind, if_neg (show ¬ t = 0 by omega), hdiv, hdecq, hdecr, hsub, hadd, hsh, pure, Except.pure, hqm]

end HC
