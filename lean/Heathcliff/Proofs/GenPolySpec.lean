import Heathcliff.Proofs.GenPoly
import Heathcliff.Proofs.C08A

/-!
  Composition: the kernels generated from src/util/polysmallmod.rs (`Heathcliff/Gen/PolyFns.lean`) compute, on canonical
  inputs and a well-formed modulus, the coefficient-wise (a + b) mod q, (a − b) mod q, (−a) mod q, a·s mod q, a·b mod q —
  `Proofs/GenPoly.lean` (generated kernel = the hand model's `zipM'` / `mapM'`) composed with the C08 exactness theorems.  Helper prefix `gp_`.
-/
namespace HC
open HC.GenW HC.GenP

theorem gp_zipM'_ok (f : Nat → Nat → R Nat) (a b : List Nat) (n : Nat) (hla : n ≤ a.length) (v : Nat → Nat)
    (h : ∀ k, k < n → f (a.getD k 0) (b.getD k 0) = .ok (v k)) :
    Except.map Array.toList (zipM' (a.take n).toArray (b.take n).toArray f) = .ok ((List.range n).map v) := by
  rw [gp_zipM'_take f a b n hla, R.mapM_ok _ v _ fun k hk => h k (List.mem_range.mp hk)]
  rfl

theorem gp_mapM'_ok (F : Nat → R Nat) (a : List Nat) (v : Nat → Nat) (h : ∀ k, k < a.length → F (a.getD k 0) = .ok (v k)) :
    Except.map Array.toList (mapM' a.toArray F) = .ok ((List.range a.length).map v) := by
  rw [mapM'_eq, ← R.mapM_range_getD F 0 a, R.mapM_ok _ v _ fun k hk => h k (List.mem_range.mp hk)]
  rfl

variable {m : Modulus}

/-- `add`, from the source to the arithmetic: the code generated from `polysmallmod::add` computes the coefficient-wise (a + b) mod q -/
theorem gen_poly_add_spec (hm : m.WF) (a b r : List Nat) (hla : r.length ≤ a.length) (hlb : r.length ≤ b.length)
    (ha : ∀ k, k < r.length → a.getD k 0 < m.value) (hb : ∀ k, k < r.length → b.getD k 0 < m.value) :
    GenP.poly_add a b m r = .ok ((List.range r.length).map fun k => (a.getD k 0 + b.getD k 0) % m.value) := by
  rw [gp_poly_add_eq, if_pos ⟨hla, hlb⟩]
  exact gp_zipM'_ok _ a b _ hla _ fun k hk => addMod_exact hm (ha k hk) (hb k hk)

/-- `add_inplace`, the body of `Evaluator::add`: coefficient-wise (a + b) mod q -/
theorem gen_poly_add_inplace_spec (hm : m.WF) (a b : List Nat) (hl : a.length ≤ b.length)
    (ha : ∀ k, k < a.length → a.getD k 0 < m.value) (hb : ∀ k, k < a.length → b.getD k 0 < m.value) :
    GenP.poly_add_inplace a b m = .ok ((List.range a.length).map fun k => (a.getD k 0 + b.getD k 0) % m.value) := by
  rw [gp_poly_add_inplace_eq, if_pos hl]
  have := gp_zipM'_ok (fun x y => addMod x y m) a b a.length (Nat.le_refl _) _ fun k hk => addMod_exact hm (ha k hk) (hb k hk)
  rwa [List.take_length] at this

/-- `sub`: coefficient-wise (a − b) mod q -/
theorem gen_poly_sub_spec (hm : m.WF) (a b r : List Nat) (hla : r.length ≤ a.length) (hlb : r.length ≤ b.length)
    (ha : ∀ k, k < r.length → a.getD k 0 < m.value) (hb : ∀ k, k < r.length → b.getD k 0 < m.value) :
    GenP.poly_sub a b m r = .ok ((List.range r.length).map fun k => (a.getD k 0 + m.value - b.getD k 0) % m.value) := by
  rw [gp_poly_sub_eq, if_pos ⟨hla, hlb⟩]
  exact gp_zipM'_ok _ a b _ hla _ fun k hk => subMod_exact hm (ha k hk) (hb k hk)

/-- `negate_inplace`, the body of `Evaluator::negate`: coefficient-wise (−a) mod q -/
theorem gen_poly_negate_inplace_spec (hm : m.WF) (a : List Nat) (ha : ∀ k, k < a.length → a.getD k 0 < m.value) :
    GenP.poly_negate_inplace a m = .ok ((List.range a.length).map fun k => (m.value - a.getD k 0) % m.value) := by
  rw [gp_poly_negate_inplace_eq]
  exact gp_mapM'_ok _ a _ fun k hk => negateMod_exact hm (Nat.le_of_lt (ha k hk))

/-- `multiply_scalar`, equal lengths: coefficient-wise a·s mod q (any words: the Barrett reduction is exact on u64 × u64) -/
theorem gen_poly_multiply_scalar_spec (hm : m.WF) (c : List Nat) (s : Nat) (r : List Nat) (hl : c.length = r.length) (hs : s < 2^64)
    (hc : ∀ k, k < c.length → c.getD k 0 < 2^64) :
    GenP.poly_multiply_scalar c s m r = .ok ((List.range r.length).map fun k => (c.getD k 0 * s) % m.value) := by
  rw [gp_poly_multiply_scalar_model c s m r hl, ← hl]
  exact gp_mapM'_ok _ c _ fun k hk => mulMod_exact hm (hc k hk) hs

/-- `dyadic_product`: coefficient-wise a·b mod q -/
theorem gen_poly_dyadic_product_spec (hm : m.WF) (a b r : List Nat) (hla : r.length ≤ a.length) (hlb : r.length ≤ b.length)
    (ha : ∀ k, k < r.length → a.getD k 0 < 2^64) (hb : ∀ k, k < r.length → b.getD k 0 < 2^64) :
    GenP.poly_dyadic_product a b m r = .ok ((List.range r.length).map fun k => (a.getD k 0 * b.getD k 0) % m.value) := by
  rw [gp_poly_dyadic_product_eq a b m r hla hlb, gp_dyadicProduct_zipM']
  exact gp_zipM'_ok _ a b _ hla _ fun k hk => mulMod_exact hm (ha k hk) (hb k hk)

end HC
