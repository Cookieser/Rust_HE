/- C04 part T: key switching of the MODEL (Model/KeySwitch.lean).  `ksAccumulate` is the NTT of the digit–key convolution
   (`ksAccumulate_spec`); the mod-down of `switchKey` adds to every component (X_j − ρ(X_P))·P⁻¹ in Z_{q_j}, ρ the representative the
   branch subtracts (`c04t_moddown_z`, both rules; `moddown_spec` / `moddown_spec_bgv` read it as a rounded division); refusals;
   `relinearize` and `applyGalois` reduced to `switchKey`. -/
import Heathcliff.Model.KeySwitch
import Heathcliff.Proofs.C01O
import Heathcliff.Proofs.Ent
import Heathcliff.Proofs.C01R
import Heathcliff.Proofs.C04M
import Heathcliff.Proofs.DivRule
import Mathlib.Tactic.Ring
import Mathlib.Tactic.Linarith
import Mathlib.Tactic.IntervalCases
namespace HC
open Finset

/-- key level whose NTT tables are the well-formed tables of its moduli, all of degree `n` -/
structure KeyLevel.WF (kl : KeyLevel) : Prop where
  tsize : kl.tables.size = kl.ms.size
  twf : ∀ i, i < kl.ms.size → (kl.tb i).WF ∧ (kl.tb i).modulus = kl.m i ∧ 2^(kl.tb i).k = kl.n

theorem c04t_kl_comp {kl : KeyLevel} (hkl : kl.WF) {i : Nat} (hi : i < kl.ms.size) :
    (kl.tb i).WF ∧ (kl.tb i).modulus.value = (kl.m i).value ∧ 2^(kl.tb i).k = kl.n ∧ (kl.m i).WF := by
  obtain ⟨h1, h2, h3⟩ := hkl.twf i hi
  exact ⟨h1, by rw [h2], h3, h2 ▸ h1.mwf⟩

theorem c04t_Lt_map {a : Array Nat} {n q : Nat} (hs : a.size = n) {f : Nat → Nat} (h : ∀ i, i < n → f (a.getD i 0) < q) :
    c04t_Lt n q (a.map f) :=
  ⟨by rw [Array.size_map, hs], fun i hi => by rw [array_getD_map f _ 0 0 (hs ▸ hi)]; exact h i hi⟩

theorem c04t_map_mod_id {a : Array Nat} {q : Nat} (h : ∀ x ∈ a, x < q) : a.map (fun x => x % q) = a := by
  apply Array.ext (by simp)
  intro i h1 h2
  simp only [Array.getElem_map]
  exact Nat.mod_eq_of_lt (h _ (Array.getElem_mem _))

theorem c04t_mapM_range {β : Type} {n : Nat} {F : Nat → R β} {Q : Nat → β → Prop} {P : List β → Prop} (d : β)
    (h : ∀ j, j < n → ∃ b, F j = .ok b ∧ Q j b) (hP : ∀ bs, bs.length = n → (∀ j, j < n → Q j (bs.getD j d)) → P bs) :
    ∃ bs, (List.range n).mapM F = .ok bs ∧ P bs :=
  let ⟨bs, e, hl, hq⟩ := R.mapM_range_spec F Q n h
  ⟨bs, e, hP bs hl (hq d)⟩

theorem c04t_intt_zero {t : NTTTables} (hw : t.WF) {z : Array Nat} (hz : z.size = 2^t.k)
    (hz0 : ∀ j, j < 2^t.k → z.getD j 0 = 0) : ∀ j, j < 2^t.k → (intt t z).getD j 0 = 0 := by
  have hq0 := c04t_pos hw.mwf
  have hz2 : ∀ j, j < 2^t.k → z.getD j 0 < 2 * t.modulus.value := fun j hj => by rw [hz0 j hj]; omega
  intro j hj
  refine cast_inj_lt ((intt_sim hw z hz hz2).2 j hj).1 hq0 ?_
  rw [intt_lin hw hz hz hz hz2 hz2 hz2 0 0 (fun l hl => by rw [hz0 l hl, Nat.cast_zero, zero_mul, add_zero]) j hj,
    zero_mul, add_zero, Nat.cast_zero]

/-- the key-level modulus index used for RNS index `i` (index `dsz` = special prime) -/
def c04t_keyIndex (kl : KeyLevel) (dsz i : Nat) : Nat := if i = dsz then kl.ms.size - 1 else i

theorem c04t_keyIndex_lt {kl : KeyLevel} {dsz i : Nat} (hd : dsz + 1 ≤ kl.ms.size) (hi : i ≤ dsz) :
    c04t_keyIndex kl dsz i < kl.ms.size := by
  unfold c04t_keyIndex
  split
  · exact Nat.sub_lt (Nat.lt_of_lt_of_le (Nat.succ_pos _) hd) Nat.one_pos
  · exact Nat.lt_of_lt_of_le (Nat.lt_succ_of_le hi) hd

theorem c04t_keyIndex_of_lt (kl : KeyLevel) {dsz i : Nat} (hi : i < dsz) : c04t_keyIndex kl dsz i = i :=
  if_neg (Nat.ne_of_lt hi)

theorem c04t_keyIndex_dsz (kl : KeyLevel) (dsz : Nat) : c04t_keyIndex kl dsz dsz = kl.ms.size - 1 := if_pos rfl

/-- operand `j` of `ksAccumulate` (monadic, as in the model) -/
def c04t_opM (kl : KeyLevel) (dsz : Nat) (isNtt : Bool) (target targetCoef : RnsPoly) (i j : Nat) : R Poly :=
  if isNtt ∧ i = j then pure (target.getD j #[])
  else do
    let src := targetCoef.getD j #[]
    let red ← if (kl.m j).value ≤ (kl.m (c04t_keyIndex kl dsz i)).value then pure src
      else mapM' src (fun x => barrett64 x (kl.m (c04t_keyIndex kl dsz i)))
    pure (nttLazy (kl.tb (c04t_keyIndex kl dsz i)) red)

def c04t_accSum (dsz : Nat) (ops : List Poly) (key : KSKey) (keyIndex k l : Nat) : Nat :=
  (List.range dsz).foldl (fun tot j =>
    tot + (ops.getD j #[]).getD l 0 * (((key.getD j #[]).getD k #[]).getD keyIndex #[]).getD l 0) 0

theorem c04t_ksAccumulate_eq (kl : KeyLevel) (dsz : Nat) (isNtt : Bool) (target targetCoef : RnsPoly) (key : KSKey)
    (i kcc : Nat) :
    ksAccumulate kl dsz isNtt target targetCoef key i kcc = (do
      let ops ← (List.range dsz).mapM (c04t_opM kl dsz isNtt target targetCoef i)
      (List.range kcc).mapM fun k =>
        (List.range kl.n).foldlM (fun (acc : Array Nat) l =>
          if c04t_accSum dsz ops key (c04t_keyIndex kl dsz i) k l ≥ 2^128 then .error .overflow else do
          let r ← barrett128 (c04t_accSum dsz ops key (c04t_keyIndex kl dsz i) k l % B64)
            (c04t_accSum dsz ops key (c04t_keyIndex kl dsz i) k l / B64) (kl.m (c04t_keyIndex kl dsz i))
          pure (acc.push r)) #[]) := rfl

/-- canonical coefficient/NTT data over the first `dsz` key-level moduli -/
def c04t_Canon (kl : KeyLevel) (dsz : Nat) (p : RnsPoly) : Prop :=
  ∀ j, j < dsz → (p.getD j #[]).size = kl.n ∧ ∀ l, l < kl.n → (p.getD j #[]).getD l 0 < (kl.m j).value

/-- operand j of `ksAccumulate` for RNS index i: it exists, is a lazy NTT-form array (entries below 4q), and modulo q it is the NTT
    of digit j reduced modulo q (for i = j in NTT form the target component itself is used) -/
theorem c04t_opM_spec {kl : KeyLevel} (hkl : kl.WF) {dsz : Nat} (hd : dsz + 1 ≤ kl.ms.size) {isNtt : Bool}
    {target targetCoef : RnsPoly} (hc : c04t_Canon kl dsz targetCoef)
    (hT : isNtt = true → c04t_Canon kl dsz target ∧
      ∀ j, j < dsz → targetCoef.getD j #[] = intt (kl.tb j) (target.getD j #[]))
    {i : Nat} (hi : i ≤ dsz) {j : Nat} (hj : j < dsz) :
    ∃ o, c04t_opM kl dsz isNtt target targetCoef i j = .ok o ∧
      c04t_Lt kl.n (4 * (kl.m (c04t_keyIndex kl dsz i)).value) o ∧
      ∀ l, l < kl.n → o.getD l 0 % (kl.m (c04t_keyIndex kl dsz i)).value =
        (ntt (kl.tb (c04t_keyIndex kl dsz i))
          ((targetCoef.getD j #[]).map fun x => x % (kl.m (c04t_keyIndex kl dsz i)).value)).getD l 0 := by
  obtain ⟨htw, htm, htn, hmw⟩ := c04t_kl_comp hkl (c04t_keyIndex_lt hd hi)
  have hq0 := c04t_pos hmw
  have hlt : c04t_Lt kl.n (kl.m j).value (targetCoef.getD j #[]) := hc j hj
  unfold c04t_opM
  by_cases h1 : isNtt = true ∧ i = j
  · rw [if_pos h1]
    obtain ⟨hn, rfl⟩ := h1
    obtain ⟨hTc, hTe⟩ := hT hn
    have hTi : c04t_Lt kl.n (kl.m i).value (target.getD i #[]) := hTc i hj
    rw [c04t_keyIndex_of_lt kl hj] at htw htm htn ⊢
    refine ⟨_, rfl, hTi.mono (Nat.le_mul_of_pos_left _ (by norm_num)), fun l hl => ?_⟩
    rw [c04t_map_mod_id hlt.mem, hTe i hj, ntt_intt htw _ (hTi.1.trans htn.symm) fun l hl => by
      rw [htm]; exact hTi.2 l (htn ▸ hl)]
    exact Nat.mod_eq_of_lt (hTi.2 l hl)
  · rw [if_neg h1]
    have hred : c04t_Lt (2^(kl.tb (c04t_keyIndex kl dsz i)).k) (4 * (kl.tb (c04t_keyIndex kl dsz i)).modulus.value)
        ((targetCoef.getD j #[]).map fun x => x % (kl.m (c04t_keyIndex kl dsz i)).value) := by
      rw [htm]
      exact c04t_Lt_map (hlt.1.trans htn.symm) fun _ _ =>
        Nat.lt_of_lt_of_le (Nat.mod_lt _ hq0) (Nat.le_mul_of_pos_left _ (by norm_num))
    obtain ⟨e1, e2⟩ := nttLazy_sim htw _ hred.1 hred.2
    have hval : (if (kl.m j).value ≤ (kl.m (c04t_keyIndex kl dsz i)).value then pure (targetCoef.getD j #[])
        else mapM' (targetCoef.getD j #[]) (fun x => barrett64 x (kl.m (c04t_keyIndex kl dsz i)))) =
        (.ok ((targetCoef.getD j #[]).map fun x => x % (kl.m (c04t_keyIndex kl dsz i)).value) : R Poly) := by
      obtain ⟨_, _, _, hjw⟩ := c04t_kl_comp hkl (Nat.lt_of_lt_of_le (Nat.lt_succ_of_lt hj) hd)
      by_cases h2 : (kl.m j).value ≤ (kl.m (c04t_keyIndex kl dsz i)).value
      · rw [if_pos h2, c04t_map_mod_id (hlt.mono h2).mem]; rfl
      · rw [if_neg h2]
        exact mapM'_ok _ fun x hx => barrett64_exact hmw (Nat.lt_trans (hlt.mem x hx) (Nat.lt_trans hjw.lt (by norm_num)))
    rw [R.ite_bind, hval, R.ok_bind]
    refine ⟨_, rfl, ⟨e1.trans htn, fun l hl => (e2 l (htn ▸ hl)).1.trans_eq (by rw [htm])⟩, fun l hl => ?_⟩
    have := ((ntt_sim htw _ hred.1 hred.2).2 l (htn ▸ hl)).1.symm
    rw [htm] at this
    exact this

/-- the accumulation identity behind `ksAccumulate`, read in the ring: the transform is a ring homomorphism (`evR`), so
    Σ_j o_j ⊙ K_j is the transform of Σ_j D_j · intt(K_j) -/
theorem c04t_acc_math {t : NTTTables} (hw : t.WF) {q n : Nat} (hm : t.modulus.value = q) (hn : 2^t.k = n) (m : Nat)
    (o K D : Nat → Array Nat) (hD : ∀ j, j < m → (D j).size = n) (hK : ∀ j, j < m → c04t_Lt n q (K j))
    (ho : ∀ j, j < m → ∀ l, l < n → (o j).getD l 0 % q = (ntt t ((D j).map fun x => x % q)).getD l 0)
    {r : Array Nat} (hr : r.size = n)
    (hrv : ∀ l, l < n → r.getD l 0 = (∑ j ∈ range m, (o j).getD l 0 * (K j).getD l 0) % q) :
    ∀ c, c < n → (intt t r).getD c 0 = (∑ j ∈ range m, negMulNat n q (D j) (intt t (K j)) c) % q := by
  subst hm hn
  have hq0 := c04t_pos hw.mwf
  have hrl : ∀ l, l < 2^t.k → r.getD l 0 < t.modulus.value := fun l hl => by rw [hrv l hl]; exact Nat.mod_lt _ hq0
  have key := intt_toNP_unique hw ⟨hr, hrl⟩
    (∑ j ∈ range m, c03k_toNP (2^t.k) (c07s_vecN t.modulus.value (D j)) *
      c03k_toNP (2^t.k) (c07s_vecN t.modulus.value (intt t (K j)))) fun i hi => by
    rw [hrv i hi, ZMod.natCast_mod, Nat.cast_sum, map_sum, Finset.sum_apply]
    refine Finset.sum_congr rfl fun j hj => ?_
    have hj' := mem_range.mp hj
    have hred : c04t_Lt (2^t.k) t.modulus.value ((D j).map fun x => x % t.modulus.value) :=
      c04t_Lt_map (hD j hj') fun _ _ => Nat.mod_lt _ hq0
    rw [map_mul, Pi.mul_apply, evR_intt hw (hK j hj') hi, Nat.cast_mul, ← ZMod.natCast_mod ((o j).getD i 0), ho j hj' i hi,
      (ntt_eval hw _ hred.1 fun l hl => Nat.lt_of_lt_of_le (hred.2 l hl) (Nat.le_mul_of_pos_left _ (by decide))).2 i hi,
      ← evR_vecN hw]
    refine congrArg (fun a => evR hw a i * _) (c03k_toNP_congr fun p hp => ?_)
    · unfold c07s_vecN
      rw [array_getD_map _ _ 0 0 ((hD j hj').symm ▸ hp), ZMod.natCast_mod]
  intro c hc
  have hc0 := congrArg (c03k_coHom (2^t.k) c) key
  rw [map_sum] at hc0
  obtain ⟨a1, a2⟩ := intt_sim hw r hr fun l hl => Nat.lt_of_lt_of_le (hrl l hl) (Nat.le_mul_of_pos_left _ Nat.two_pos)
  refine cast_inj_lt (a2 c hc).1 (Nat.mod_lt _ hq0) ?_
  rw [ZMod.natCast_mod, Nat.cast_sum]
  refine (c03k_toNP_co _ hc).symm.trans (hc0.trans (Finset.sum_congr rfl fun j _ => ?_))
  show (c03k_toNP (2^t.k) (c07s_vecN t.modulus.value (D j)) * c03k_toNP (2^t.k) (c07s_vecN t.modulus.value (intt t (K j)))).co c = _
  rw [c03k_NP.mul_co_lt _ _ hc, (negMulNat_cast hq0 _ _ _ _).2, c05u_negMul_congr _ _ _ _ _ fun i hi => c03k_toNP_co _ hi]
  exact c04k_congr_right _ _ _ _ hc fun i hi => c03k_toNP_co _ hi

def c04t_K (key : KSKey) (j k idx : Nat) : Poly := ((key.getD j #[]).getD k #[]).getD idx #[]

def c04t_KeyCanonAt (kl : KeyLevel) (dsz kcc : Nat) (key : KSKey) (idx : Nat) : Prop :=
  ∀ j, j < dsz → ∀ k, k < kcc → (c04t_K key j k idx).size = kl.n ∧
    ∀ l, l < kl.n → (c04t_K key j k idx).getD l 0 < (kl.m idx).value

theorem c04t_foldl_sum (f : Nat → Nat) (n : Nat) :
    (List.range n).foldl (fun tot j => tot + f j) 0 = ∑ j ∈ range n, f j := by
  induction n with
  | zero => rfl
  | succ n ih => rw [List.range_succ, List.foldl_append, ih, Finset.sum_range_succ]; rfl

theorem c04t_accSum_eq (dsz : Nat) (ops : List Poly) (key : KSKey) (ki k l : Nat) :
    c04t_accSum dsz ops key ki k l = ∑ j ∈ range dsz, (ops.getD j #[]).getD l 0 * (c04t_K key j k ki).getD l 0 := by
  unfold c04t_accSum c04t_K
  exact c04t_foldl_sum _ dsz

theorem c04t_step_ok {m : Modulus} (hm : m.WF) {S : Nat} (hS : S < 2^128) (acc : Array Nat) :
    (if S ≥ 2^128 then (Except.error Err.overflow : R (Array Nat)) else do
      let r ← barrett128 (S % B64) (S / B64) m
      pure (acc.push r)) = .ok (acc.push (S % m.value)) := by
  rw [if_neg (Nat.not_le_of_lt hS)]
  have h0 : S % B64 < 2^64 := by rw [← B64_eq]; exact Nat.mod_lt _ B64_pos
  have h1 : S / B64 < 2^64 := by
    rw [B64_eq]; apply Nat.div_lt_of_lt_mul; rw [← pow_add]; exact hS
  rw [barrett128_exact hm h0 h1, ← B64_eq, Nat.mod_add_div]
  rfl

theorem c04t_sum_bound {dsz q : Nat} (f g : Nat → Nat) (hf : ∀ j, j < dsz → f j < 4 * q) (hg : ∀ j, j < dsz → g j < q)
    (hov : dsz * (4 * q * q) < 2^128) : ∑ j ∈ range dsz, f j * g j < 2^128 := by
  refine Nat.lt_of_le_of_lt ?_ hov
  have : ∑ j ∈ range dsz, f j * g j ≤ ∑ _j ∈ range dsz, 4 * q * q :=
    Finset.sum_le_sum (fun j hj => Nat.mul_le_mul (hf j (mem_range.mp hj)).le (hg j (mem_range.mp hj)).le)
  rwa [Finset.sum_const, Finset.card_range, smul_eq_mul] at this

/-- the accumulated polynomial in coefficient form: Σ_j D_j ⋆ K_{j,k} mod q, with D_j the digit polynomial (component j of
    the coefficient-form target, as integers in [0, q_j)) and K_{j,k} the coefficient form of the key row -/
def c04t_accCoef (kl : KeyLevel) (dsz : Nat) (targetCoef : RnsPoly) (key : KSKey) (idx k c : Nat) : Nat :=
  (∑ j ∈ range dsz, negMulNat kl.n (kl.m idx).value (targetCoef.getD j #[])
      (intt (kl.tb idx) (c04t_K key j k idx)) c) % (kl.m idx).value

/-- the guard `s < 2^128` of the model follows from `dsz ≤ 64` for moduli below 2^60 (the user-modulus bound of the library) -/
theorem c04t_no_overflow_60 {dsz q : Nat} (hd : dsz ≤ 64) (hq : q < 2^60) : dsz * (4 * q * q) < 2^128 := by
  have h1 : q * q ≤ (2^60 - 1) * (2^60 - 1) := Nat.mul_le_mul (Nat.le_pred_of_lt hq) (Nat.le_pred_of_lt hq)
  have h2 : dsz * (4 * q * q) ≤ 64 * (4 * ((2^60 - 1) * (2^60 - 1))) := by
    rw [Nat.mul_assoc 4]
    exact Nat.mul_le_mul hd (Nat.mul_le_mul_left 4 h1)
  refine Nat.lt_of_le_of_lt h2 (by norm_num)

/-- … and from `dsz ≤ 16` for any well-formed modulus (< 2^61) -/
theorem c04t_no_overflow_61 {dsz q : Nat} (hd : dsz ≤ 16) (hq : q < 2^61) : dsz * (4 * q * q) < 2^128 := by
  have h1 : q * q ≤ (2^61 - 1) * (2^61 - 1) := Nat.mul_le_mul (Nat.le_pred_of_lt hq) (Nat.le_pred_of_lt hq)
  have h2 : dsz * (4 * q * q) ≤ 16 * (4 * ((2^61 - 1) * (2^61 - 1))) := by
    rw [Nat.mul_assoc 4]
    exact Nat.mul_le_mul hd (Nat.mul_le_mul_left 4 h1)
  refine Nat.lt_of_le_of_lt h2 (by norm_num)


/-- `ksAccumulate_spec`.  For a well-formed key level (`KeyLevel.WF`), `dsz + 1 ≤ ksz`, an RNS index `i ≤ dsz`
    (index `dsz` = special prime; `c04t_keyIndex` is the key-level modulus used: `if i = dsz then ksz - 1 else i`), canonical
    coefficient-form target digits `targetCoef` (in NTT representation: `target` canonical and `targetCoef = intt target` per
    component, exactly what `switchKey` passes), canonical key residues at the key modulus, and the 128-bit accumulator bound
    `dsz·4q² < 2^128` (see `c04t_no_overflow_60`: implied by dsz ≤ 64 for q < 2^60, `c04t_no_overflow_61`: dsz ≤ 16 for q < 2^61):
    `ksAccumulate` succeeds; component k of the result has size n, canonical values, and is the NTT (w.r.t. the key modulus) of
    Σ_j D_j ⋆ K_{j,k} mod q — i.e. its `intt` is coefficientwise `(Σ_j negMulNat n q D_j (intt K_{j,k}) c) % q`, where D_j is the
    digit polynomial `targetCoef[j]` taken as integers in [0, q_j) (not reduced mod q) and ⋆ the negacyclic product. -/
theorem ksAccumulate_spec {kl : KeyLevel} (hkl : kl.WF) {dsz : Nat} (hd : dsz + 1 ≤ kl.ms.size) {isNtt : Bool}
    {target targetCoef : RnsPoly} (hc : c04t_Canon kl dsz targetCoef)
    (hT : isNtt = true → c04t_Canon kl dsz target ∧
      ∀ j, j < dsz → targetCoef.getD j #[] = intt (kl.tb j) (target.getD j #[]))
    {key : KSKey} {i kcc : Nat} (hi : i ≤ dsz) (hK : c04t_KeyCanonAt kl dsz kcc key (c04t_keyIndex kl dsz i))
    (hov : dsz * (4 * (kl.m (c04t_keyIndex kl dsz i)).value * (kl.m (c04t_keyIndex kl dsz i)).value) < 2^128) :
    ∃ res, ksAccumulate kl dsz isNtt target targetCoef key i kcc = .ok res ∧ res.length = kcc ∧
      ∀ k, k < kcc →
        (res.getD k #[]).size = kl.n ∧
        (∀ l, l < kl.n → (res.getD k #[]).getD l 0 < (kl.m (c04t_keyIndex kl dsz i)).value) ∧
        ∀ c, c < kl.n → (intt (kl.tb (c04t_keyIndex kl dsz i)) (res.getD k #[])).getD c 0 =
          (∑ j ∈ range dsz, negMulNat kl.n (kl.m (c04t_keyIndex kl dsz i)).value (targetCoef.getD j #[])
            (intt (kl.tb (c04t_keyIndex kl dsz i))
              (((key.getD j #[]).getD k #[]).getD (c04t_keyIndex kl dsz i) #[])) c)
            % (kl.m (c04t_keyIndex kl dsz i)).value := by
  obtain ⟨htw, htm, htn, hmw⟩ := c04t_kl_comp hkl (c04t_keyIndex_lt hd hi)
  obtain ⟨ops, e, -, hops⟩ := c04t_mapM_range #[] (fun j hj => c04t_opM_spec hkl hd hc hT hi hj) fun bs hl hq => And.intro hl hq
  rw [c04t_ksAccumulate_eq, e, R.ok_bind]
  -- component k: the loop pushes (Σ_j o_j[l]·K_{j,k}[l]) mod q for l = 0 … n−1
  refine c04t_mapM_range #[] (Q := fun k r => Ent kl.n r fun l =>
      (∑ j ∈ range dsz, (ops.getD j #[]).getD l 0 * (c04t_K key j k (c04t_keyIndex kl dsz i)).getD l 0) %
        (kl.m (c04t_keyIndex kl dsz i)).value)
    (fun k hk => foldPush_ent fun acc l hl => by
      rw [c04t_accSum_eq]
      exact c04t_step_ok hmw (c04t_sum_bound _ _ (fun j hj => (hops j hj).1.2 l hl)
        (fun j hj => (hK j hj k hk).2 l hl) hov) acc)
    fun res hl hres => ⟨hl, fun k hk => ⟨(hres k hk).1, fun l hl => ?_, fun c hcn => ?_⟩⟩
  · rw [(hres k hk).2 l hl]; exact Nat.mod_lt _ (c04t_pos hmw)
  · have h := c04t_acc_math htw htm htn dsz (fun j => ops.getD j #[])
      (fun j => c04t_K key j k (c04t_keyIndex kl dsz i)) (fun j => targetCoef.getD j #[]) (fun j hj => (hc j hj).1)
      (fun j hj => hK j hj k hk) (fun j hj => (hops j hj).2) (hres k hk).1 (hres k hk).2 c hcn
    -- unfolded by hand: left to the unifier, `_ % q` makes it evaluate the sum
    unfold c04t_K at h
    exact h

theorem ksAccumulate_spec_dsz64 {kl : KeyLevel} (hkl : kl.WF) {dsz : Nat} (hd : dsz + 1 ≤ kl.ms.size) (hd64 : dsz ≤ 64)
    {isNtt : Bool} {target targetCoef : RnsPoly} (hc : c04t_Canon kl dsz targetCoef)
    (hT : isNtt = true → c04t_Canon kl dsz target ∧
      ∀ j, j < dsz → targetCoef.getD j #[] = intt (kl.tb j) (target.getD j #[]))
    {key : KSKey} {i kcc : Nat} (hi : i ≤ dsz) (hK : c04t_KeyCanonAt kl dsz kcc key (c04t_keyIndex kl dsz i))
    (hq60 : (kl.m (c04t_keyIndex kl dsz i)).value < 2^60) :
    ∃ res, ksAccumulate kl dsz isNtt target targetCoef key i kcc = .ok res ∧ res.length = kcc ∧
      ∀ k, k < kcc →
        (res.getD k #[]).size = kl.n ∧
        (∀ l, l < kl.n → (res.getD k #[]).getD l 0 < (kl.m (c04t_keyIndex kl dsz i)).value) ∧
        ∀ c, c < kl.n → (intt (kl.tb (c04t_keyIndex kl dsz i)) (res.getD k #[])).getD c 0 =
          (∑ j ∈ range dsz, negMulNat kl.n (kl.m (c04t_keyIndex kl dsz i)).value (targetCoef.getD j #[])
            (intt (kl.tb (c04t_keyIndex kl dsz i))
              (((key.getD j #[]).getD k #[]).getD (c04t_keyIndex kl dsz i) #[])) c)
            % (kl.m (c04t_keyIndex kl dsz i)).value :=
  ksAccumulate_spec hkl hd hc hT hi hK (c04t_no_overflow_60 hd64 hq60)


/-! ## satisfiability of `KeyLevel.WF`: a concrete key level (N = 2, moduli 13 · 17 with special prime 17, t = 5)

   This small world (`c04t_exKL`, with `c04t_exKSInput`, `c04t_exBgvData` further down) is the one C04K, C19K and C03K extend for their
   key-switching witnesses.  Unlike Proofs/World.lean, whose objects are literals, its objects are what the model's constructors return,
   read through `match … | .ok x => x | .error _ => default` (`c04t_exMod`, `c04t_exTbl`, `c04t_exOp`); that the constructors do succeed is
   checked once by `decide` (`c04t_isOk`), and well-formedness then comes from the constructors' own theorems. -/

def c04t_isOk {α : Type} : R α → Bool
  | .ok _ => true
  | .error _ => false

theorem c04t_isOk_ok {α : Type} {x : R α} (h : c04t_isOk x = true) : ∃ v, x = .ok v := by
  cases x with
  | ok v => exact ⟨v, rfl⟩
  | error e => cases h

def c04t_exMod (v : Nat) : Modulus := match Modulus.mk? v with | .ok m => m | .error _ => default
def c04t_exTbl (v r : Nat) : NTTTables :=
  match NTTTables.new 1 (c04t_exMod v) true r with | .ok t => t | .error _ => ⟨0, default, 0, #[], #[], default⟩
def c04t_exOp (y v : Nat) : MulOperand := match MulOperand.new y (c04t_exMod v) with | .ok o => o | .error _ => default

theorem c04t_exMod_wf {v : Nat} (h : c04t_isOk (Modulus.mk? v) = true) (hv : v ≠ 0) :
    (c04t_exMod v).WF ∧ (c04t_exMod v).value = v := by
  obtain ⟨m, hm⟩ := c04t_isOk_ok h
  have : c04t_exMod v = m := by unfold c04t_exMod; rw [hm]
  rw [this]; exact Modulus.mk?_wf hm hv

theorem c04t_exTbl_wf {v r : Nat} (hm : (c04t_exMod v).WF) (hr : r < 2^64)
    (h : c04t_isOk (NTTTables.new 1 (c04t_exMod v) true r) = true) :
    (c04t_exTbl v r).WF ∧ (c04t_exTbl v r).k = 1 ∧ (c04t_exTbl v r).modulus = c04t_exMod v := by
  obtain ⟨t, ht⟩ := c04t_isOk_ok h
  have : c04t_exTbl v r = t := by unfold c04t_exTbl; rw [ht]
  rw [this]
  obtain ⟨h1, h2, h3, _⟩ := NTTTables.new_wf_u64 hm (by norm_num) hr ht
  exact ⟨h1, h2, h3⟩

/-- 5 and 4 are primitive 4th roots of unity modulo 13 and 17 (5² ≡ 4² ≡ −1), 10 = 17⁻¹ mod 13 (`invPModQ`), 3 = 17⁻¹ mod 5 (`invPModT`) -/
def c04t_exKL : KeyLevel :=
  ⟨2, #[c04t_exMod 13, c04t_exMod 17], #[c04t_exTbl 13 5, c04t_exTbl 17 4], #[c04t_exOp 10 13], 3, c04t_exMod 5⟩

theorem c04t_wf_of_two {n : Nat} {m0 m1 : Modulus} {t0 t1 : NTTTables} (ops : Array MulOperand) (it : Nat) (t : Modulus)
    (h0 : t0.WF ∧ t0.modulus = m0 ∧ 2^t0.k = n) (h1 : t1.WF ∧ t1.modulus = m1 ∧ 2^t1.k = n) :
    KeyLevel.WF ⟨n, #[m0, m1], #[t0, t1], ops, it, t⟩ :=
  ⟨rfl, fun i hi => match i, hi with
    | 0, _ => h0
    | 1, _ => h1
    | i + 2, h => absurd h (Nat.not_lt_of_le (Nat.le_add_left 2 i))⟩

theorem c04t_exKL_wf : c04t_exKL.WF := by
  obtain ⟨m13, _⟩ := c04t_exMod_wf (v := 13) (by decide) (by decide)
  obtain ⟨m17, _⟩ := c04t_exMod_wf (v := 17) (by decide) (by decide)
  obtain ⟨a1, a2, a3⟩ := c04t_exTbl_wf (v := 13) (r := 5) m13 (by norm_num) (by decide)
  obtain ⟨b1, b2, b3⟩ := c04t_exTbl_wf (v := 17) (r := 4) m17 (by norm_num) (by decide)
  exact c04t_wf_of_two _ _ _ ⟨a1, a3, congrArg (2 ^ ·) a2⟩ ⟨b1, b3, congrArg (2 ^ ·) b2⟩

theorem c04t_tmp0_ok {mj : Modulus} (hm : mj.WF) {P : Nat} {tLast : Array Nat} (hl : ∀ x ∈ tLast, x < P) (hP : P < 2^64) :
    (if P > mj.value then mapM' tLast (fun x => barrett64 x mj) else pure tLast)
      = .ok (tLast.map (fun x => x % mj.value)) := by
  by_cases h : P > mj.value
  · rw [if_pos h]
    exact mapM'_ok _ (fun x hx => barrett64_exact hm (Nat.lt_trans (hl x hx) hP))
  · rw [if_neg h, c04t_map_mod_id (fun x hx => Nat.lt_of_lt_of_le (hl x hx) (Nat.le_of_not_gt h))]
    rfl

/-- rounding branch, one (k, j) component (monadic, as in the model).  Up to its last line this is, word for word, the `do` block in the
    statement of DivRule's `c04t_roundRow_bind` with `K` = the last line; `c04t_stdPolyM_ent` applies that lemma by unification, so the two
    texts have to change together. -/
def c04t_stdCompM (t : NTTTables) (mj P : Modulus) (op : MulOperand) (isNtt : Bool) (ctkj prodkj tLast : Poly) : R Poly := do
  let tmp0 ← if P.value > mj.value then mapM' tLast (fun x => barrett64 x mj) else pure tLast
  let hm ← barrett64 (P.value / 2) mj
  let fix ← ckSub mj.value hm
  let tmp1 ← mapM' tmp0 (fun x => ckAdd x fix)
  let (tmp2, pp, qiLazy) :=
    if isNtt then (nttLazy t tmp1, prodkj, mj.value * 4)
    else (tmp1, inttLazy t prodkj, mj.value * 2)
  let d ← zipM' pp tmp2 (fun a b => do let z ← ckSub qiLazy b; ckAdd a z)
  let d ← mapM' d (fun x => mulOperandMod x op mj)
  zipM' ctkj d (fun a b => addMod a b mj)

/-- BGV branch, one (k, j) component (monadic, as in the model); `kk` holds the correction digits, `tLast` the residue modulo P -/
def c04t_bgvCompM (t : NTTTables) (mj P : Modulus) (op : MulOperand) (ctkj prodkj tLast kk : Poly) : R Poly := do
  let delta0 ← mapM' kk (fun x => do let y ← barrett64 x mj; mulMod y P.value mj)
  let cmod ← mapM' tLast (fun x => barrett64 x mj)
  let delta1 ← zipM' delta0 cmod (fun a b => addMod a b mj)
  let d ← zipM' prodkj (ntt t delta1) (fun a b => subMod a b mj)
  let d ← mapM' d (fun x => mulOperandMod x op mj)
  zipM' ctkj d (fun a b => addMod a b mj)

/-- BGV branch, one (k, j) component: it succeeds, adds a canonical δ to the ciphertext component, and `intt δ` is, coefficient by
    coefficient in Z_q, (a − (b + P·k))·y with a the accumulated product modulo q, b the one modulo P and k the correction digit -/
theorem c04t_bgvCompM_ent {t : NTTTables} (hw : t.WF) {mj : Modulus} (hm : t.modulus = mj) {n : Nat} (hn : 2^t.k = n)
    {P : Modulus} (hP : P.WF) {op : MulOperand} (hop : WFOp mj op) {ctkj prodkj tLast kk : Poly} {b kf : Nat → Nat}
    (hc : c04t_Lt n mj.value ctkj) (hp : c04t_Lt n mj.value prodkj) (ht : Ent n tLast b) (hb64 : ∀ l, l < n → b l < 2^64)
    (hk : Ent n kk kf) (hk64 : ∀ l, l < n → kf l < 2^64) :
    ∃ out, c04t_bgvCompM t mj P op ctkj prodkj tLast kk = .ok out ∧ ∃ δ, c04t_Lt n mj.value δ ∧
      Ent n out (fun l => (ctkj.getD l 0 + δ.getD l 0) % mj.value) ∧
      ∀ c, c < n → (((intt t δ).getD c 0 : Nat) : ZMod mj.value) =
        ((((intt t prodkj).getD c 0 : Nat) : ZMod mj.value) - ((b c + P.value * kf c : Nat) : ZMod mj.value)) *
          (op.operand : ZMod mj.value) := by
  subst hm hn
  have hmw := hw.mwf
  have hq0 := c04t_pos hmw
  have h2 : t.modulus.value ≤ 2 * t.modulus.value := Nat.le_mul_of_pos_left _ Nat.two_pos
  unfold c04t_bgvCompM
  refine ent_bind (mapM'_ent hk fun l hl => by
    rw [barrett64_exact hmw (hk64 l hl), R.ok_bind]
    exact mulMod_exact hmw (c04t_lt64 hmw (Nat.mod_lt _ hq0).le) (c04t_lt64 hP (Nat.le_refl _))) fun delta0 h0 => ?_
  refine ent_bind (mapM'_ent ht fun l hl => barrett64_exact hmw (hb64 l hl)) fun cmod h1 => ?_
  refine ent_bind (zipM'_ent h0 h1.2 fun l _ => addMod_exact hmw (Nat.mod_lt _ hq0) (Nat.mod_lt _ hq0)) fun delta1 h3 => ?_
  obtain ⟨n1, n2⟩ := ntt_eval hw delta1 h3.1 fun l hl => by
    rw [h3.2 l hl]; exact Nat.lt_of_lt_of_le (Nat.mod_lt _ hq0) (Nat.le_mul_of_pos_left _ (by decide))
  refine ent_bind (zipM'_ent (Ent.of_size hp.1) (b := ntt t delta1) (fun _ _ => rfl) fun l hl =>
    subMod_exact hmw (hp.2 l hl) (by rw [n2 l hl]; exact evalSpec_lt t hq0 _ _)) fun d hd => ?_
  refine ent_bind (mapM'_ent hd fun l _ => mulOperandMod_exact hmw (c04t_lt64 hmw (Nat.mod_lt _ hq0).le) hop.1
    (WFOp.new_eq hmw hop)) fun δ hδ => ?_
  have hδl : c04t_Lt (2^t.k) t.modulus.value δ := ⟨hδ.1, fun l hl => by rw [hδ.2 l hl]; exact Nat.mod_lt _ hq0⟩
  obtain ⟨out, e, ho⟩ := zipM'_ent (f := fun a b => addMod a b t.modulus) (Ent.of_size hc.1) (b := δ) (fun _ _ => rfl)
    fun l hl => addMod_exact hmw (hc.2 l hl) (hδl.2 l hl)
  refine ⟨out, e, δ, hδl, ho, fun c hc => ?_⟩
  rw [intt_affine hw delta1 hp.1 hp.1 hδ.1 (fun l hl => Nat.lt_of_lt_of_le (hp.2 l hl) h2)
    (fun l hl => Nat.lt_of_lt_of_le (hp.2 l hl) h2) (fun l hl => Nat.lt_of_lt_of_le (hδl.2 l hl) h2)
    (op.operand : ZMod t.modulus.value) 0 (-(op.operand : ZMod t.modulus.value)) (fun l hl => by
      have hlt := evalSpec_lt t hq0 delta1 l
      rw [hδ.2 l hl, ZMod.natCast_mod, Nat.cast_mul, ZMod.natCast_mod, n2 l hl, Nat.add_sub_assoc hlt.le,
        c04t_cast_add_sub hlt.le (dvd_refl _)]
      ring) c hc, h3.2 c hc]
  rw [ZMod.natCast_mod, Nat.cast_add, ZMod.natCast_mod, ZMod.natCast_mod, Nat.cast_mul, ZMod.natCast_mod]
  push_cast
  ring

/-- the value of the special prime P, the last modulus of the key level -/
def KeyLevel.c04t_P (kl : KeyLevel) : Nat := (kl.m (kl.ms.size - 1)).value

/-- the P^{-1} operands of the key level -/
def c04t_InvP (kl : KeyLevel) (dsz : Nat) : Prop :=
  ∀ j, j < dsz → WFOp (kl.m j) (kl.invPModQ.getD j default) ∧
    ((kl.invPModQ.getD j default).operand * kl.c04t_P) % (kl.m j).value = 1

def c04t_stdPolyM (kl : KeyLevel) (dsz : Nat) (isNtt : Bool) (ct : Ct) (prods : List (List Poly)) (k : Nat) : R RnsPoly := do
  let tLast ← mapM' (inttLazy (kl.tb (kl.ms.size - 1)) ((prods.getD dsz []).getD k #[]))
    (fun x => do let y ← ckAdd x (kl.c04t_P / 2); barrett64 y (kl.m (kl.ms.size - 1)))
  let comps ← (List.range dsz).mapM fun j =>
    c04t_stdCompM (kl.tb j) (kl.m j) (kl.m (kl.ms.size - 1)) (kl.invPModQ.getD j default) isNtt
      ((ct.polys.getD k #[]).getD j #[]) ((prods.getD j []).getD k #[]) tLast
  pure comps.toArray

def c04t_bgvPolyM (kl : KeyLevel) (dsz : Nat) (ct : Ct) (prods : List (List Poly)) (k : Nat) : R RnsPoly := do
  let tLast := intt (kl.tb (kl.ms.size - 1)) ((prods.getD dsz []).getD k #[])
  let kk0 ← mapM' tLast (fun x => do let y ← barrett64 x kl.t; negateMod y kl.t)
  let kk ← if kl.invPModT ≠ 1 then mapM' kk0 (fun x => mulMod x kl.invPModT kl.t) else pure kk0
  let comps ← (List.range dsz).mapM fun j =>
    c04t_bgvCompM (kl.tb j) (kl.m j) (kl.m (kl.ms.size - 1)) (kl.invPModQ.getD j default) ((ct.polys.getD k #[]).getD j #[])
      ((prods.getD j []).getD k #[]) tLast kk
  pure comps.toArray

/-- the output ciphertext: the first `kcc` polynomials replaced -/
def c04t_updated (ct : Ct) (kcc : Nat) (newPolys : List RnsPoly) : Ct :=
  { ct with polys := ((List.range ct.polys.size).map fun idx =>
      if idx < kcc then newPolys.getD idx #[] else ct.polys.getD idx #[]).toArray }

/-- the coefficient-form target handed to `ksAccumulate` -/
def c04t_targetCoef (kl : KeyLevel) (dsz : Nat) (isNtt : Bool) (target : RnsPoly) : RnsPoly :=
  if isNtt then Array.ofFn (n := dsz) fun j => intt (kl.tb j.val) (target.getD j.val #[]) else target

/-- `switchKey` past its guards: accumulate the products, then assemble every new polynomial with `polyM` -/
def c04t_switchBody (kl : KeyLevel) (dsz : Nat) (ct : Ct) (target : RnsPoly) (key : KSKey)
    (polyM : List (List Poly) → Nat → R RnsPoly) : R Ct := do
  let prods ← (List.range (dsz + 1)).mapM fun i =>
    ksAccumulate kl dsz ct.ntt target (c04t_targetCoef kl dsz ct.ntt target) key i (key.getD 0 #[]).size
  let newPolys ← (List.range (key.getD 0 #[]).size).mapM (polyM prods)
  pure (c04t_updated ct (key.getD 0 #[]).size newPolys)

theorem c04t_switchKey_eq (kl : KeyLevel) (scheme : Scheme) (dsz : Nat) (ct : Ct) (target : RnsPoly) (key : KSKey) :
    switchKey kl scheme dsz ct target key =
      (if kl.ms.size < 2 ∨ dsz + 1 > kl.ms.size ∨ key.size < dsz then .error .refused else do
        (match scheme with
         | .bfv => if ct.ntt then Except.error Err.refused else pure ()
         | _ => if !ct.ntt then Except.error Err.refused else pure ())
        c04t_switchBody kl dsz ct target key fun prods k =>
          match scheme with
          | .bgv => c04t_bgvPolyM kl dsz ct prods k
          | _ => c04t_stdPolyM kl dsz ct.ntt ct prods k) := by
  cases scheme <;> rfl

def c04t_StdMode (scheme : Scheme) (isNtt : Bool) : Prop :=
  (scheme = .bfv ∧ isNtt = false) ∨ (scheme = .ckks ∧ isNtt = true)

/-- everything `switchKey` needs from its inputs (`kcc` = number of key components = `(key[0]).size`) -/
structure c04t_KSInput (kl : KeyLevel) (dsz : Nat) (ct : Ct) (target : RnsPoly) (key : KSKey) : Prop where
  hkl : kl.WF
  hsz : 2 ≤ kl.ms.size
  hd : dsz + 1 ≤ kl.ms.size
  hks : dsz ≤ key.size
  htarget : c04t_Canon kl dsz target
  hkey : ∀ i, i ≤ dsz → c04t_KeyCanonAt kl dsz (key.getD 0 #[]).size key (c04t_keyIndex kl dsz i)
  hov : ∀ i, i ≤ dsz →
    dsz * (4 * (kl.m (c04t_keyIndex kl dsz i)).value * (kl.m (c04t_keyIndex kl dsz i)).value) < 2^128
  hct : ∀ k, k < (key.getD 0 #[]).size → c04t_Canon kl dsz (ct.polys.getD k #[])
  hinv : c04t_InvP kl dsz

theorem c04t_targetCoef_facts {kl : KeyLevel} (hkl : kl.WF) {dsz : Nat} (hd : dsz + 1 ≤ kl.ms.size) (isNtt : Bool)
    {target : RnsPoly} (ht : c04t_Canon kl dsz target) :
    c04t_Canon kl dsz (c04t_targetCoef kl dsz isNtt target) ∧
    (isNtt = true → c04t_Canon kl dsz target ∧
      ∀ j, j < dsz → (c04t_targetCoef kl dsz isNtt target).getD j #[] = intt (kl.tb j) (target.getD j #[])) := by
  cases isNtt with
  | false => exact ⟨ht, fun h => Bool.noConfusion h⟩
  | true =>
    have he : ∀ j, j < dsz → (c04t_targetCoef kl dsz true target).getD j #[] = intt (kl.tb j) (target.getD j #[]) :=
      fun j hj => array_getD_ofFn _ _ hj
    refine ⟨fun j hj => ?_, fun _ => ⟨ht, he⟩⟩
    obtain ⟨htw, htm, htn⟩ := hkl.twf j (Nat.lt_of_lt_of_le (Nat.lt_succ_of_lt hj) hd)
    obtain ⟨a1, a2⟩ := intt_sim htw (target.getD j #[]) ((ht j hj).1.trans htn.symm)
      fun l hl => Nat.lt_of_lt_of_le ((ht j hj).2 l (htn ▸ hl)) (htm ▸ Nat.le_mul_of_pos_left _ Nat.two_pos)
    rw [he j hj, ← htn, ← htm]
    exact ⟨a1, fun l hl => (a2 l hl).1⟩

/-- what the mod-down uses of an accumulated product `p` at key modulus `idx`: the table there is well formed, `p` is canonical,
    and `intt p` is the polynomial Σ_j D_j ⋆ K_{j,k} of `ksAccumulate_spec` -/
def c04t_ProdAt (kl : KeyLevel) (dsz : Nat) (targetCoef : RnsPoly) (key : KSKey) (idx k : Nat) (p : Poly) : Prop :=
  (kl.tb idx).WF ∧ (kl.tb idx).modulus.value = (kl.m idx).value ∧ 2^(kl.tb idx).k = kl.n ∧ c04t_Lt kl.n (kl.m idx).value p ∧
    ∀ c, c < kl.n → (intt (kl.tb idx) p).getD c 0 = c04t_accCoef kl dsz targetCoef key idx k c

theorem c04t_ksAccumulate_prodAt {kl : KeyLevel} {dsz : Nat} {ct : Ct} {target : RnsPoly} {key : KSKey}
    (h : c04t_KSInput kl dsz ct target key) (isNtt : Bool) {i : Nat} (hi : i ≤ dsz) :
    ∃ res, ksAccumulate kl dsz isNtt target (c04t_targetCoef kl dsz isNtt target) key i (key.getD 0 #[]).size = .ok res ∧
      ∀ k, k < (key.getD 0 #[]).size →
        c04t_ProdAt kl dsz (c04t_targetCoef kl dsz isNtt target) key (c04t_keyIndex kl dsz i) k (res.getD k #[]) := by
  obtain ⟨f1, f2⟩ := c04t_targetCoef_facts h.hkl h.hd isNtt h.htarget
  obtain ⟨hw, hm, hn, -⟩ := c04t_kl_comp h.hkl (c04t_keyIndex_lt h.hd hi)
  obtain ⟨res, e, -, hres⟩ := ksAccumulate_spec h.hkl h.hd f1 f2 hi (h.hkey i hi) (h.hov i hi)
  refine ⟨res, e, fun k hk => ⟨hw, hm, hn, ⟨(hres k hk).1, (hres k hk).2.1⟩, fun c hc => ?_⟩⟩
  unfold c04t_accCoef c04t_K
  exact (hres k hk).2.2 c hc

theorem c04t_rows {n : Nat} {F : Nat → R Poly} {Q : Nat → Poly → Prop} (h : ∀ j, j < n → ∃ row, F j = .ok row ∧ Q j row) :
    ∃ out : RnsPoly, ((List.range n).mapM F >>= fun comps => pure comps.toArray) = .ok out ∧ out.size = n ∧
      ∀ j, j < n → Q j (out.getD j #[]) := by
  obtain ⟨bs, e, hl, hq⟩ := c04t_mapM_range #[] h fun bs hl hq => And.intro hl hq
  exact ⟨bs.toArray, by rw [e]; rfl, by rw [List.size_toArray, hl], fun j hj => by rw [list_getD_toArray]; exact hq j hj⟩

/-- `new` is `old` with a canonical δ_j added to component j < dsz (modulo q_j), of which `Sem j δ_j` is known -/
def c04t_Row (kl : KeyLevel) (dsz : Nat) (old new : RnsPoly) (Sem : Nat → Poly → Prop) : Prop :=
  new.size = dsz ∧
  ∀ j, j < dsz → ∃ δ : Poly, δ.size = kl.n ∧ (∀ l, l < kl.n → δ.getD l 0 < (kl.m j).value) ∧
    (new.getD j #[]).size = kl.n ∧
    (∀ l, l < kl.n → (new.getD j #[]).getD l 0 = ((old.getD j #[]).getD l 0 + δ.getD l 0) % (kl.m j).value) ∧
    Sem j δ

/-- the accumulated products handed to the mod-down of polynomial k: at every modulus what `c04t_ProdAt` says -/
def c04t_ProdsAt (kl : KeyLevel) (dsz : Nat) (tc : RnsPoly) (key : KSKey) (prods : List (List Poly)) (k : Nat) : Prop :=
  ∀ i idx, i ≤ dsz → c04t_keyIndex kl dsz i = idx → c04t_ProdAt kl dsz tc key idx k ((prods.getD i []).getD k #[])

theorem c04t_stdPolyM_ent {kl : KeyLevel} (hkl : kl.WF) {dsz : Nat} (hd : dsz + 1 ≤ kl.ms.size) (hinv : c04t_InvP kl dsz)
    (isNtt : Bool) {ct : Ct} {tc : RnsPoly} {key : KSKey} {prods : List (List Poly)} {k : Nat}
    (hct : c04t_Canon kl dsz (ct.polys.getD k #[])) (hpr : c04t_ProdsAt kl dsz tc key prods k) :
    ∃ out, c04t_stdPolyM kl dsz isNtt ct prods k = .ok out ∧ c04t_Row kl dsz (ct.polys.getD k #[]) out fun j δ => ∀ c, c < kl.n →
      (((c04t_coefOf (kl.tb j) isNtt δ).getD c 0 : Nat) : ZMod (kl.m j).value) =
        (((c04t_accCoef kl dsz tc key j k c : Nat) : ZMod (kl.m j).value)
          - ((c04t_center kl.c04t_P (c04t_accCoef kl dsz tc key (kl.ms.size - 1) k c) : Int) : ZMod (kl.m j).value))
        * ((kl.invPModQ.getD j default).operand : ZMod (kl.m j).value) := by
  obtain ⟨hwP, hmP, hnP, P1, P2⟩ := hpr dsz _ (Nat.le_refl _) (c04t_keyIndex_dsz kl dsz)
  have hPw := (c04t_kl_comp hkl (Nat.sub_lt (Nat.lt_of_lt_of_le (Nat.succ_pos _) hd) Nat.one_pos)).2.2.2
  have hp2 : c04t_Lt (2^(kl.tb (kl.ms.size - 1)).k) (2 * (kl.tb (kl.ms.size - 1)).modulus.value) ((prods.getD dsz []).getD k #[]) := by
    rw [hnP, hmP]; exact P1.mono (Nat.le_mul_of_pos_left _ Nat.two_pos)
  obtain ⟨e1, e2⟩ := inttLazy_range hwP _ hp2.1 hp2.2
  unfold c04t_stdPolyM KeyLevel.c04t_P
  refine ent_bind (n := kl.n) (c := fun l => (c04t_accCoef kl dsz tc key (kl.ms.size - 1) k l + (kl.m (kl.ms.size - 1)).value / 2) %
      (kl.m (kl.ms.size - 1)).value)
    (mapM'_ent (Ent.of_size (e1.trans hnP)) fun l hl => by
      have h64 := c04t_add_lt64 hwP.mwf (e2 l (hnP ▸ hl)) (Nat.le_trans (Nat.div_le_self _ 2) (Nat.le_mul_of_pos_left _ (by decide)))
      rw [hmP] at h64
      rw [ckAdd_ok h64, R.ok_bind, barrett64_exact hPw h64, ← P2 l hl, c04t_intt_eq_lazy_mod hwP hp2 (hnP ▸ hl), hmP]
      exact congrArg _ (Nat.mod_add_mod _ _ _).symm) fun tLast ht => ?_
  obtain ⟨out, e, hs, hrow⟩ := c04t_rows (n := dsz) (Q := fun j row => ∃ δ, c04t_Lt kl.n (kl.m j).value δ ∧
      Ent kl.n row (fun l => (((ct.polys.getD k #[]).getD j #[]).getD l 0 + δ.getD l 0) % (kl.m j).value) ∧ _) fun j hj => by
    obtain ⟨hw, hm, hn, p1, p2⟩ := hpr j j hj.le (c04t_keyIndex_of_lt kl hj)
    obtain ⟨htw, htm, htn⟩ := hkl.twf j (Nat.lt_of_lt_of_le (Nat.lt_succ_of_lt hj) hd)
    refine c04t_roundRow_bind hw htm hn hPw (hinv j hj).1 isNtt p1 ht
      (K := fun d => zipM' ((ct.polys.getD k #[]).getD j #[]) d (fun a b => addMod a b (kl.m j))) fun δ hδ hz => ?_
    obtain ⟨row, e, ho⟩ := zipM'_ent (f := fun a b => addMod a b (kl.m j)) (Ent.of_size (hct j hj).1) (b := δ) (fun _ _ => rfl)
      fun l hl => addMod_exact (htm ▸ htw.mwf) ((hct j hj).2 l hl) (hδ.2 l hl)
    exact ⟨row, e, δ, hδ, ho, hz⟩
  refine ⟨out, e, hs, fun j hj => ?_⟩
  obtain ⟨δ, hδ, ho, hz⟩ := hrow j hj
  obtain ⟨-, -, -, -, p2⟩ := hpr j j hj.le (c04t_keyIndex_of_lt kl hj)
  exact ⟨δ, hδ.1, hδ.2, ho.1, ho.2, fun c hc => by rw [← p2 c hc]; exact hz c hc⟩

/-- additional BGV data of the key level: plain modulus and P^{-1} mod t -/
structure c04t_BgvData (kl : KeyLevel) : Prop where
  ht : kl.t.WF
  hit : kl.invPModT < 2^64
  hinvT : (kl.invPModT * kl.c04t_P) % kl.t.value = 1

theorem c04t_bgvPolyM_ent {kl : KeyLevel} (hkl : kl.WF) {dsz : Nat} (hd : dsz + 1 ≤ kl.ms.size) (hinv : c04t_InvP kl dsz)
    (hb : c04t_BgvData kl) {ct : Ct} {tc : RnsPoly} {key : KSKey} {prods : List (List Poly)} {k : Nat}
    (hct : c04t_Canon kl dsz (ct.polys.getD k #[])) (hpr : c04t_ProdsAt kl dsz tc key prods k) :
    ∃ out, c04t_bgvPolyM kl dsz ct prods k = .ok out ∧ c04t_Row kl dsz (ct.polys.getD k #[]) out fun j δ => ∀ c, c < kl.n →
      (((intt (kl.tb j) δ).getD c 0 : Nat) : ZMod (kl.m j).value) =
        (((c04t_accCoef kl dsz tc key j k c : Nat) : ZMod (kl.m j).value)
          - (((c04t_bgvE kl.c04t_P kl.t.value kl.invPModT (c04t_accCoef kl dsz tc key (kl.ms.size - 1) k c) : Nat) : Int) :
              ZMod (kl.m j).value))
        * ((kl.invPModQ.getD j default).operand : ZMod (kl.m j).value) := by
  obtain ⟨hwP, hmP, hnP, P1, P2⟩ := hpr dsz _ (Nat.le_refl _) (c04t_keyIndex_dsz kl dsz)
  have hPw := (c04t_kl_comp hkl (Nat.sub_lt (Nat.lt_of_lt_of_le (Nat.succ_pos _) hd) Nat.one_pos)).2.2.2
  have ht0 := c04t_pos hb.ht
  obtain ⟨a1, -⟩ := intt_sim hwP _ ((P1.1.trans hnP.symm)) fun i hi => by
    rw [hmP]; exact Nat.lt_of_lt_of_le (P1.2 i (hnP ▸ hi)) (Nat.le_mul_of_pos_left _ Nat.two_pos)
  have hT : Ent kl.n (intt (kl.tb (kl.ms.size - 1)) ((prods.getD dsz []).getD k #[]))
      (fun l => c04t_accCoef kl dsz tc key (kl.ms.size - 1) k l) := ⟨a1.trans hnP, P2⟩
  have hb64 : ∀ l, l < kl.n → c04t_accCoef kl dsz tc key (kl.ms.size - 1) k l < 2^64 := fun l _ =>
    c04t_lt64 hPw (Nat.mod_lt _ (c04t_pos hPw)).le
  unfold c04t_bgvPolyM
  dsimp only
  refine ent_bind (mapM'_ent hT fun l hl => by
    rw [barrett64_exact hb.ht (hb64 l hl), R.ok_bind]
    exact negateMod_exact hb.ht (Nat.mod_lt _ ht0).le) fun kk0 h0 => ?_
  rw [R.ite_bind]
  refine ent_bind (n := kl.n)
    (c := fun l => c04t_bgvKK kl.t.value kl.invPModT (c04t_accCoef kl dsz tc key (kl.ms.size - 1) k l)) ?_ fun kk hk => ?_
  · by_cases h1 : kl.invPModT ≠ 1
    · rw [if_pos h1]
      exact mapM'_ent h0 fun l _ => mulMod_exact hb.ht (c04t_lt64 hb.ht (Nat.mod_lt _ ht0).le) hb.hit
    · rw [if_neg h1]
      exact ⟨kk0, rfl, h0.1, fun l hl => (h0.2 l hl).trans (by
        dsimp only
        unfold c04t_bgvKK
        rw [Decidable.not_not.mp h1, Nat.mul_one, Nat.mod_mod])⟩
  obtain ⟨out, e, hs, hrow⟩ := c04t_rows (n := dsz) (Q := fun j row => ∃ δ, c04t_Lt kl.n (kl.m j).value δ ∧
      Ent kl.n row (fun l => (((ct.polys.getD k #[]).getD j #[]).getD l 0 + δ.getD l 0) % (kl.m j).value) ∧ _) fun j hj => by
    obtain ⟨hw, hm, hn, p1, p2⟩ := hpr j j hj.le (c04t_keyIndex_of_lt kl hj)
    obtain ⟨htw, htm, htn⟩ := hkl.twf j (Nat.lt_of_lt_of_le (Nat.lt_succ_of_lt hj) hd)
    exact c04t_bgvCompM_ent hw htm hn hPw (hinv j hj).1 (hct j hj) p1 hT hb64 hk fun l _ =>
      c04t_lt64 hb.ht (Nat.mod_lt _ ht0).le
  refine ⟨out, e, hs, fun j hj => ?_⟩
  obtain ⟨δ, hδ, ho, hz⟩ := hrow j hj
  obtain ⟨-, -, -, -, p2⟩ := hpr j j hj.le (c04t_keyIndex_of_lt kl hj)
  exact ⟨δ, hδ.1, hδ.2, ho.1, ho.2, fun c hc => by rw [← p2 c hc, Int.cast_natCast]; exact hz c hc⟩

theorem c04t_updated_facts (ct : Ct) (kcc : Nat) (newPolys : List RnsPoly) :
    (c04t_updated ct kcc newPolys).ntt = ct.ntt ∧ (c04t_updated ct kcc newPolys).cf = ct.cf ∧
    (c04t_updated ct kcc newPolys).polys.size = ct.polys.size ∧
    (∀ idx, kcc ≤ idx → (c04t_updated ct kcc newPolys).polys.getD idx #[] = ct.polys.getD idx #[]) ∧
    (∀ idx, idx < kcc → idx < ct.polys.size → (c04t_updated ct kcc newPolys).polys.getD idx #[] = newPolys.getD idx #[]) := by
  refine ⟨rfl, rfl, by simp [c04t_updated], fun idx hidx => ?_, fun idx h1 h2 => ?_⟩
  · by_cases h2 : idx < ct.polys.size
    · show (((List.range ct.polys.size).map _).toArray).getD idx #[] = _
      rw [array_getD_range_map _ _ h2, if_neg (by omega)]
    · show (((List.range ct.polys.size).map _).toArray).getD idx #[] = _
      simp [Array.getD, h2]
  · show (((List.range ct.polys.size).map _).toArray).getD idx #[] = _
    rw [array_getD_range_map _ _ h2, if_pos h1]

theorem c04t_hsz_of {kl : KeyLevel} {dsz : Nat} {ct : Ct} {target : RnsPoly} {key : KSKey}
    (h : c04t_KSInput kl dsz ct target key) : ¬ (kl.ms.size < 2 ∨ dsz + 1 > kl.ms.size ∨ key.size < dsz) := by
  have := h.hsz; have := h.hd; have := h.hks; omega

/-- what `switchKey` does to the ciphertext in every branch: flags and size are kept, the polynomials from `kcc` on are kept, and every
    polynomial k < kcc becomes a `c04t_Row` of the old one -/
def c04t_Frame (kl : KeyLevel) (dsz kcc : Nat) (ct ct' : Ct) (Sem : Nat → Nat → Poly → Prop) : Prop :=
  ct'.ntt = ct.ntt ∧ ct'.cf = ct.cf ∧ ct'.polys.size = ct.polys.size ∧
  (∀ idx, kcc ≤ idx → ct'.polys.getD idx #[] = ct.polys.getD idx #[]) ∧
  ∀ k, k < kcc → k < ct.polys.size → c04t_Row kl dsz (ct.polys.getD k #[]) (ct'.polys.getD k #[]) (Sem k)

theorem c04t_Frame.mono {kl : KeyLevel} {dsz kcc : Nat} {ct ct' : Ct} {Sem Sem' : Nat → Nat → Poly → Prop}
    (h : c04t_Frame kl dsz kcc ct ct' Sem) (hs : ∀ k j δ, k < kcc → j < dsz → Sem k j δ → Sem' k j δ) :
    c04t_Frame kl dsz kcc ct ct' Sem' :=
  ⟨h.1, h.2.1, h.2.2.1, h.2.2.2.1, fun k hk hk2 => ⟨(h.2.2.2.2 k hk hk2).1, fun j hj =>
    let ⟨δ, a1, a2, a3, a4, a5⟩ := (h.2.2.2.2 k hk hk2).2 j hj
    ⟨δ, a1, a2, a3, a4, hs k j δ hk hj a5⟩⟩⟩

/-- Once `switchKey` is the accumulation followed by `polyM` per polynomial, and `polyM` returns a `c04t_Row` of polynomial k, the frame
    holds, and whatever is known of the added δ (`Sem`) is passed through. -/
theorem c04t_moddown_frame {kl : KeyLevel} {scheme : Scheme} {dsz : Nat} {ct : Ct} {target : RnsPoly} {key : KSKey}
    (h : c04t_KSInput kl dsz ct target key) {polyM : List (List Poly) → Nat → R RnsPoly}
    (hsw : switchKey kl scheme dsz ct target key = c04t_switchBody kl dsz ct target key polyM)
    {Sem : Nat → Nat → Poly → Prop}
    (hpoly : ∀ prods k, k < (key.getD 0 #[]).size →
      c04t_ProdsAt kl dsz (c04t_targetCoef kl dsz ct.ntt target) key prods k →
      ∃ out, polyM prods k = .ok out ∧ c04t_Row kl dsz (ct.polys.getD k #[]) out (Sem k)) :
    ∃ ct', switchKey kl scheme dsz ct target key = .ok ct' ∧ c04t_Frame kl dsz (key.getD 0 #[]).size ct ct' Sem := by
  obtain ⟨prods, e, -, hp⟩ := c04t_mapM_range (n := dsz + 1) []
    (fun i hi => c04t_ksAccumulate_prodAt h ct.ntt (Nat.le_of_lt_succ hi)) fun bs hl hq => And.intro hl hq
  obtain ⟨outs, e2, -, hq⟩ := c04t_mapM_range #[]
    (fun k hk => hpoly prods k hk fun i idx hi hidx => hidx ▸ hp i (Nat.lt_succ_of_le hi) k hk) fun bs hl hq => And.intro hl hq
  obtain ⟨u1, u2, u3, u4, u5⟩ := c04t_updated_facts ct (key.getD 0 #[]).size outs
  refine ⟨_, ?_, u1, u2, u3, u4, fun k hk hk2 => ?_⟩
  · unfold c04t_switchBody at hsw
    rw [hsw, e, R.ok_bind, e2]
    rfl
  rw [u5 k hk hk2]
  exact hq k hk

theorem c04t_switchKey_std_eq {kl : KeyLevel} {scheme : Scheme} {dsz : Nat} {ct : Ct} (target : RnsPoly) {key : KSKey}
    (hsz : ¬ (kl.ms.size < 2 ∨ dsz + 1 > kl.ms.size ∨ key.size < dsz)) (hmode : c04t_StdMode scheme ct.ntt) :
    switchKey kl scheme dsz ct target key = c04t_switchBody kl dsz ct target key (c04t_stdPolyM kl dsz ct.ntt ct) := by
  rw [c04t_switchKey_eq, if_neg hsz]
  rcases hmode with ⟨rfl, h⟩ | ⟨rfl, h⟩
  · simp only [h]; rfl
  · simp only [h]; rfl

theorem c04t_switchKey_bgv_eq {kl : KeyLevel} {dsz : Nat} {ct : Ct} (target : RnsPoly) {key : KSKey}
    (hsz : ¬ (kl.ms.size < 2 ∨ dsz + 1 > kl.ms.size ∨ key.size < dsz)) (hntt : ct.ntt = true) :
    switchKey kl .bgv dsz ct target key = c04t_switchBody kl dsz ct target key (c04t_bgvPolyM kl dsz ct) := by
  rw [c04t_switchKey_eq, if_neg hsz]
  simp only [hntt]; rfl

/-- refusals of `switch_key_inplace_internal` -/
theorem switchKey_refuses_sizes (kl : KeyLevel) (scheme : Scheme) (dsz : Nat) (ct : Ct) (target : RnsPoly) (key : KSKey)
    (h : kl.ms.size < 2 ∨ dsz + 1 > kl.ms.size ∨ key.size < dsz) :
    switchKey kl scheme dsz ct target key = .error .refused := by
  rw [c04t_switchKey_eq, if_pos h]

theorem switchKey_refuses_bfv_ntt (kl : KeyLevel) (dsz : Nat) (ct : Ct) (target : RnsPoly) (key : KSKey)
    (h : ct.ntt = true) : switchKey kl .bfv dsz ct target key = .error .refused := by
  rw [c04t_switchKey_eq]
  split
  · rfl
  · rw [h]; rfl

theorem switchKey_refuses_coeff_form (kl : KeyLevel) (scheme : Scheme) (hs : scheme ≠ .bfv) (dsz : Nat) (ct : Ct)
    (target : RnsPoly) (key : KSKey) (h : ct.ntt = false) : switchKey kl scheme dsz ct target key = .error .refused := by
  rw [c04t_switchKey_eq]
  split
  · rfl
  · rw [h]
    cases scheme
    · exact absurd rfl hs
    · rfl
    · rfl


/-- the mod-down rule `switchKey` follows for (scheme, representation): `ρ b` is the representative of the residue `b` modulo P
    that is subtracted from an accumulated coefficient before the division by P -/
def c04t_Rule (kl : KeyLevel) (scheme : Scheme) (isNtt : Bool) (ρ : Nat → Int) : Prop :=
  (c04t_StdMode scheme isNtt ∧ ρ = c04t_center kl.c04t_P) ∨
  (scheme = .bgv ∧ isNtt = true ∧ c04t_BgvData kl ∧
    ρ = fun b => ((c04t_bgvE kl.c04t_P kl.t.value kl.invPModT b : Nat) : Int))

/-- For inputs satisfying `c04t_KSInput` and either rule, `switchKey` succeeds with the frame `c04t_Frame`, and the polynomial δ added
    to component (k, j) is, coefficient by coefficient in Z_{q_j} (through `intt` when the data is in NTT form),
    (X_j − ρ(X_P))·P^{-1}, X_* the accumulated polynomials Σ_j D_j ⋆ K_{j,k} of `ksAccumulate_spec` in coefficient form. -/
theorem c04t_moddown_z {kl : KeyLevel} {scheme : Scheme} {dsz : Nat} {ct : Ct} {target : RnsPoly} {key : KSKey}
    (h : c04t_KSInput kl dsz ct target key) {ρ : Nat → Int} (hρ : c04t_Rule kl scheme ct.ntt ρ) :
    ∃ ct', switchKey kl scheme dsz ct target key = .ok ct' ∧
      c04t_Frame kl dsz (key.getD 0 #[]).size ct ct' fun k j δ => ∀ c, c < kl.n →
        (((c04t_coefOf (kl.tb j) ct.ntt δ).getD c 0 : Nat) : ZMod (kl.m j).value) =
          (((c04t_accCoef kl dsz (c04t_targetCoef kl dsz ct.ntt target) key j k c : Nat) : ZMod (kl.m j).value)
            - ((ρ (c04t_accCoef kl dsz (c04t_targetCoef kl dsz ct.ntt target) key (kl.ms.size - 1) k c) : Int) :
                ZMod (kl.m j).value))
          * ((kl.invPModQ.getD j default).operand : ZMod (kl.m j).value) := by
  rcases hρ with ⟨hmode, rfl⟩ | ⟨rfl, hntt, hb, rfl⟩
  · exact c04t_moddown_frame h (c04t_switchKey_std_eq target (c04t_hsz_of h) hmode) fun prods k hk hpr =>
      c04t_stdPolyM_ent h.hkl h.hd h.hinv ct.ntt (h.hct k hk) hpr
  · refine c04t_moddown_frame h (c04t_switchKey_bgv_eq target (c04t_hsz_of h) hntt) fun prods k hk hpr => ?_
    have e : ∀ j δ, c04t_coefOf (kl.tb j) ct.ntt δ = intt (kl.tb j) δ := fun j δ => by unfold c04t_coefOf; rw [if_pos hntt]
    simp only [e]
    exact c04t_bgvPolyM_ent h.hkl h.hd h.hinv hb (h.hct k hk) hpr

theorem c04t_moddown_mods {kl : KeyLevel} {dsz : Nat} {ct : Ct} {target : RnsPoly} {key : KSKey}
    (h : c04t_KSInput kl dsz ct target key) {j : Nat} (hj : j < dsz) :
    0 < kl.c04t_P ∧
    ((kl.invPModQ.getD j default).operand : ZMod (kl.m j).value) * (kl.c04t_P : ZMod (kl.m j).value) = 1 := by
  have hd := h.hd
  have hq2 := (c04t_kl_comp h.hkl (show j < kl.ms.size by omega)).2.2.2.two_le
  exact ⟨c04t_pos (c04t_kl_comp h.hkl (show kl.ms.size - 1 < kl.ms.size by omega)).2.2.2,
    c04t_inv_cast (by rw [(h.hinv j hj).2, Nat.mod_eq_of_lt hq2])⟩

/-- `moddown_spec` (rounding branch: BFV in coefficient form, CKKS in NTT form).  For inputs satisfying `c04t_KSInput`
    (well-formed key level, `dsz + 1 ≤ ksz`, canonical target / key residues / ciphertext residues, 128-bit accumulator bound,
    `invPModQ[j]·P ≡ 1 (mod q_j)`), `switchKey` succeeds; only the first `kcc` polynomials change; and for k < kcc, j < dsz the
    new component is `ct[k][j] + δ (mod q_j)` where, coefficient by coefficient (through `intt` when the data is in NTT form),
    δ ≡ round(X / P) (mod q_j) (`Spec.roundDiv`) for EVERY integer X with X ≡ X_j[c] (mod q_j) and X ≡ X_P[c] (mod P), X_* being
    the accumulated polynomials Σ_j D_j ⋆ K_{j,k} of `ksAccumulate_spec` in coefficient form (`c04t_accCoef`).  `moddown_round` then splits
    round(X/P) for X = P·Y + E.  The conclusion is `c04t_Frame` written out (the statement is the one Props/C04 restates); the proof is
    `c04t_moddown_z` read through `c04t_Frame.mono`, and C04K builds on `c04t_moddown_z` directly. -/
theorem moddown_spec {kl : KeyLevel} {scheme : Scheme} {dsz : Nat} {ct : Ct} {target : RnsPoly} {key : KSKey}
    (h : c04t_KSInput kl dsz ct target key) (hmode : c04t_StdMode scheme ct.ntt) :
    ∃ ct', switchKey kl scheme dsz ct target key = .ok ct' ∧ ct'.ntt = ct.ntt ∧ ct'.cf = ct.cf ∧
      ct'.polys.size = ct.polys.size ∧
      (∀ idx, (key.getD 0 #[]).size ≤ idx → ct'.polys.getD idx #[] = ct.polys.getD idx #[]) ∧
      ∀ k, k < (key.getD 0 #[]).size → k < ct.polys.size →
        (ct'.polys.getD k #[]).size = dsz ∧
        ∀ j, j < dsz → ∃ δ : Poly, δ.size = kl.n ∧ (∀ l, l < kl.n → δ.getD l 0 < (kl.m j).value) ∧
          ((ct'.polys.getD k #[]).getD j #[]).size = kl.n ∧
          (∀ l, l < kl.n → ((ct'.polys.getD k #[]).getD j #[]).getD l 0 =
            (((ct.polys.getD k #[]).getD j #[]).getD l 0 + δ.getD l 0) % (kl.m j).value) ∧
          ∀ c, c < kl.n → ∀ X : Int,
            X % ((kl.m j).value : Int) = (c04t_accCoef kl dsz (c04t_targetCoef kl dsz ct.ntt target) key j k c : Nat) →
            X % (kl.c04t_P : Int) =
              (c04t_accCoef kl dsz (c04t_targetCoef kl dsz ct.ntt target) key (kl.ms.size - 1) k c : Nat) →
            (((c04t_coefOf (kl.tb j) ct.ntt δ).getD c 0 : Nat) : Int) % ((kl.m j).value : Int)
              = Spec.roundDiv X kl.c04t_P % ((kl.m j).value : Int) := by
  obtain ⟨ct', hok, hf⟩ := c04t_moddown_z h (.inl ⟨hmode, rfl⟩)
  refine ⟨ct', hok, hf.mono fun k j δ _ hj hz c hc X hXa hXb => ?_⟩
  obtain ⟨hP, hy⟩ := c04t_moddown_mods h hj
  apply c04t_emod_of_cast
  rw [hz c hc]
  exact c04t_scalar hy (c04t_center_round hP _ X hXb).1 (c04t_cast_of_emod hXa)

/-- BGV branch.  Same frame as `moddown_spec`; the added polynomial δ satisfies, coefficient by coefficient (through `intt`),
    δ ≡ (X − E)/P (mod q_j) for every integer X with X ≡ X_j[c] (mod q_j), X ≡ X_P[c] (mod P), where
    E = X_P[c] + P·((−X_P[c])·P^{-1} mod t) (`c04t_bgvE`) does not depend on j, is ≡ X (mod P), a multiple of t, and 0 ≤ E < P·t:
    the result is X·P^{-1} corrected so that the error is ≡ 0 (mod t). -/
theorem moddown_spec_bgv {kl : KeyLevel} {dsz : Nat} {ct : Ct} {target : RnsPoly} {key : KSKey}
    (h : c04t_KSInput kl dsz ct target key) (hb : c04t_BgvData kl) (hntt : ct.ntt = true) :
    ∃ ct', switchKey kl .bgv dsz ct target key = .ok ct' ∧ ct'.ntt = ct.ntt ∧ ct'.cf = ct.cf ∧
      ct'.polys.size = ct.polys.size ∧
      (∀ idx, (key.getD 0 #[]).size ≤ idx → ct'.polys.getD idx #[] = ct.polys.getD idx #[]) ∧
      ∀ k, k < (key.getD 0 #[]).size → k < ct.polys.size →
        (ct'.polys.getD k #[]).size = dsz ∧
        ∀ j, j < dsz → ∃ δ : Poly, δ.size = kl.n ∧ (∀ l, l < kl.n → δ.getD l 0 < (kl.m j).value) ∧
          ((ct'.polys.getD k #[]).getD j #[]).size = kl.n ∧
          (∀ l, l < kl.n → ((ct'.polys.getD k #[]).getD j #[]).getD l 0 =
            (((ct.polys.getD k #[]).getD j #[]).getD l 0 + δ.getD l 0) % (kl.m j).value) ∧
          ∀ c, c < kl.n → ∀ X : Int,
            X % ((kl.m j).value : Int) = (c04t_accCoef kl dsz (c04t_targetCoef kl dsz ct.ntt target) key j k c : Nat) →
            X % (kl.c04t_P : Int) =
              (c04t_accCoef kl dsz (c04t_targetCoef kl dsz ct.ntt target) key (kl.ms.size - 1) k c : Nat) →
            X = kl.c04t_P * (X / kl.c04t_P - (c04t_bgvKK kl.t.value kl.invPModT
                  (c04t_accCoef kl dsz (c04t_targetCoef kl dsz ct.ntt target) key (kl.ms.size - 1) k c) : Int))
                + (c04t_bgvE kl.c04t_P kl.t.value kl.invPModT
                  (c04t_accCoef kl dsz (c04t_targetCoef kl dsz ct.ntt target) key (kl.ms.size - 1) k c) : Int) ∧
            kl.t.value ∣ c04t_bgvE kl.c04t_P kl.t.value kl.invPModT
                  (c04t_accCoef kl dsz (c04t_targetCoef kl dsz ct.ntt target) key (kl.ms.size - 1) k c) ∧
            c04t_bgvE kl.c04t_P kl.t.value kl.invPModT
                  (c04t_accCoef kl dsz (c04t_targetCoef kl dsz ct.ntt target) key (kl.ms.size - 1) k c)
              < kl.c04t_P * kl.t.value ∧
            (((intt (kl.tb j) δ).getD c 0 : Nat) : Int) % ((kl.m j).value : Int)
              = (X / kl.c04t_P - (c04t_bgvKK kl.t.value kl.invPModT
                  (c04t_accCoef kl dsz (c04t_targetCoef kl dsz ct.ntt target) key (kl.ms.size - 1) k c) : Int))
                % ((kl.m j).value : Int) := by
  obtain ⟨ct', hok, hf⟩ := c04t_moddown_z h (.inr ⟨rfl, hntt, hb, rfl⟩)
  refine ⟨ct', hok, hf.mono fun k j δ _ hj hz c hc X hXa hXb => ?_⟩
  obtain ⟨hP, hy⟩ := c04t_moddown_mods h hj
  obtain ⟨e1, e2, -⟩ := c04t_bgvE_facts (it := kl.invPModT) (c04t_pos hb.ht)
    (by rw [hb.hinvT, Nat.mod_eq_of_lt hb.ht.two_le])
    (show c04t_accCoef kl dsz (c04t_targetCoef kl dsz ct.ntt target) key (kl.ms.size - 1) k c < kl.c04t_P from Nat.mod_lt _ hP)
  refine ⟨c04t_bgvE_split _ _ hXb, e1, e2, c04t_emod_of_cast ?_⟩
  have hz' := hz c hc
  unfold c04t_coefOf at hz'
  rw [if_pos hntt] at hz'
  rw [hz']
  exact c04t_scalar hy (c04t_bgvE_split _ _ hXb) (c04t_cast_of_emod hXa)


/-! ## satisfiability of `c04t_KSInput` / `c04t_BgvData`: concrete instance on `c04t_exKL` (dsz = 1, two key components) -/

def c04t_exTarget : RnsPoly := #[#[1, 2]]
def c04t_exKey : KSKey := #[#[#[#[1, 2], #[3, 4]], #[#[5, 6], #[7, 8]]]]
def c04t_exCt (ntt : Bool) : Ct := ⟨#[#[#[1, 2]], #[#[3, 4]]], ntt, 1⟩

theorem c04t_exOp_wf : WFOp (c04t_exMod 13) (c04t_exOp 10 13) ∧ (c04t_exOp 10 13).operand = 10 := by
  obtain ⟨m13, v13⟩ := c04t_exMod_wf (v := 13) (by decide) (by decide)
  obtain ⟨o, ho⟩ := c04t_isOk_ok (x := MulOperand.new 10 (c04t_exMod 13)) (by decide)
  have : c04t_exOp 10 13 = o := by unfold c04t_exOp; rw [ho]
  rw [this]
  obtain ⟨h1, h2⟩ := mulOperand_new_eq m13 (by rw [v13]; norm_num) ho
  exact ⟨⟨by rw [h1, v13]; norm_num, by rw [h2, h1]⟩, h1⟩

theorem c04t_exKSInput (ntt : Bool) : c04t_KSInput c04t_exKL 1 (c04t_exCt ntt) c04t_exTarget c04t_exKey := by
  obtain ⟨m13, v13⟩ := c04t_exMod_wf (v := 13) (by decide) (by decide)
  obtain ⟨m17, v17⟩ := c04t_exMod_wf (v := 17) (by decide) (by decide)
  have hm0 : (c04t_exKL.m 0).value = 13 := v13
  have hm1 : (c04t_exKL.m 1).value = 17 := v17
  have hk0 : c04t_keyIndex c04t_exKL 1 0 = 0 := rfl
  have hk1 : c04t_keyIndex c04t_exKL 1 1 = 1 := rfl
  refine ⟨c04t_exKL_wf, by decide, by decide, by decide, ?_, ?_, ?_, ?_, ?_⟩
  · intro j hj
    obtain rfl := Nat.lt_one_iff.mp hj
    rw [hm0]
    exact (by decide : c04t_Lt 2 13 #[1, 2])
  · intro i hi j hj k hk
    obtain rfl := Nat.lt_one_iff.mp hj
    have hK : ∀ idx, idx < 2 → ∀ k, k < 2 → c04t_Lt 2 13 (c04t_K c04t_exKey 0 k idx) := by decide
    interval_cases i
    · rw [hk0, hm0]; exact hK 0 (by decide) k hk
    · rw [hk1, hm1]; exact (hK 1 (by decide) k hk).mono (by decide)
  · intro i hi
    interval_cases i
    · rw [hk0, hm0]; norm_num
    · rw [hk1, hm1]; norm_num
  · intro k hk j hj
    obtain rfl := Nat.lt_one_iff.mp hj
    have hk2 : k < 2 := hk
    rw [hm0]
    interval_cases k
    exacts [(by decide : c04t_Lt 2 13 #[1, 2]), (by decide : c04t_Lt 2 13 #[3, 4])]
  · intro j hj
    obtain rfl := Nat.lt_one_iff.mp hj
    obtain ⟨w1, w2⟩ := c04t_exOp_wf
    have hP : c04t_exKL.c04t_P = 17 := v17
    refine ⟨w1, ?_⟩
    show ((c04t_exOp 10 13).operand * c04t_exKL.c04t_P) % (c04t_exKL.m 0).value = 1
    rw [w2, hP, hm0]

theorem c04t_exBgvData : c04t_BgvData c04t_exKL := by
  obtain ⟨m5, v5⟩ := c04t_exMod_wf (v := 5) (by decide) (by decide)
  obtain ⟨_, v17⟩ := c04t_exMod_wf (v := 17) (by decide) (by decide)
  have hP : c04t_exKL.c04t_P = 17 := v17
  have ht : c04t_exKL.t.value = 5 := v5
  refine ⟨m5, by decide, ?_⟩
  rw [hP, ht]; rfl


/-- non-vacuity: the hypotheses of `moddown_spec` / `moddown_spec_bgv` hold on the concrete instance, so the model succeeds there -/
example : ∃ ct', switchKey c04t_exKL .bfv 1 (c04t_exCt false) c04t_exTarget c04t_exKey = .ok ct' :=
  (moddown_spec (c04t_exKSInput false) (Or.inl ⟨rfl, rfl⟩)).imp fun _ h => h.1
example : ∃ ct', switchKey c04t_exKL .ckks 1 (c04t_exCt true) c04t_exTarget c04t_exKey = .ok ct' :=
  (moddown_spec (c04t_exKSInput true) (Or.inr ⟨rfl, rfl⟩)).imp fun _ h => h.1
example : ∃ ct', switchKey c04t_exKL .bgv 1 (c04t_exCt true) c04t_exTarget c04t_exKey = .ok ct' :=
  (moddown_spec_bgv (c04t_exKSInput true) c04t_exBgvData rfl).imp fun _ h => h.1

/-! ## the ring identity behind the mod-down; `relinearize` and `applyGalois` down to `switchKey` -/

/-- In any commutative ring (e.g. ℤ[X]/(X^N+1)): if the key rows satisfy k0_j + k1_j·s = e_j + P·g_j·s', the digits recombine
    (Σ_j d_j·g_j = c), and the two accumulated polynomials are divided by P with remainders r_0, r_1 (X_k = P·Y_k + r_k: the
    mod-down of `moddown_spec`, r_k the centred lift, or E_k in the BGV branch), then
    P·(Y_0 + Y_1·s) = P·c·s' + Σ_j d_j·e_j − (r_0 + r_1·s). -/
theorem keyswitch_moddown_phase_ring {R : Type} [CommRing R] (k : Nat) (d g e k0 k1 : Nat → R) (s s' P c Y0 Y1 r0 r1 : R)
    (hkey : ∀ j, j < k → k0 j + k1 j * s = e j + P * g j * s') (hg : ∑ j ∈ range k, d j * g j = c)
    (h0 : ∑ j ∈ range k, d j * k0 j = P * Y0 + r0) (h1 : ∑ j ∈ range k, d j * k1 j = P * Y1 + r1) :
    P * (Y0 + Y1 * s) = P * c * s' + ∑ j ∈ range k, d j * e j - (r0 + r1 * s) := by
  have h := keyswitch_phase k d g e k0 k1 s s' P c hkey hg
  rw [h0, h1] at h
  linear_combination h

theorem c04t_relin_fuel0 (kl : KeyLevel) (scheme : Scheme) (dsz : Nat) (keys : Nat → Option KSKey) (ct : Ct) :
    relinearize kl scheme dsz keys 0 ct = .error .other := rfl

theorem relinearize_refuses_small (kl : KeyLevel) (scheme : Scheme) (dsz : Nat) (keys : Nat → Option KSKey) (fuel : Nat)
    (ct : Ct) (h : ct.polys.size < 2) : relinearize kl scheme dsz keys (fuel + 1) ct = .error .refused := by
  unfold relinearize
  exact if_pos h

theorem relinearize_size2 (kl : KeyLevel) (scheme : Scheme) (dsz : Nat) (keys : Nat → Option KSKey) (fuel : Nat) (ct : Ct)
    (h : ct.polys.size = 2) : relinearize kl scheme dsz keys (fuel + 1) ct = .ok ct := by
  unfold relinearize
  exact (if_neg (Nat.not_lt_of_le (Nat.le_of_eq h.symm))).trans (if_pos h)

theorem relinearize_refuses_missing_key (kl : KeyLevel) (scheme : Scheme) (dsz : Nat) (keys : Nat → Option KSKey) (fuel : Nat)
    (ct : Ct) (h : 2 < ct.polys.size) (hk : keys (ct.polys.size - 1) = none) :
    relinearize kl scheme dsz keys (fuel + 1) ct = .error .refused := by
  unfold relinearize
  simp only []
  rw [if_neg (Nat.not_lt_of_lt h), if_neg (Nat.ne_of_gt h), hk]

/-- one relinearization step: switch the last polynomial away with the key for its power of s, drop it, continue -/
theorem c04t_relin_step (kl : KeyLevel) (scheme : Scheme) (dsz : Nat) (keys : Nat → Option KSKey) (fuel : Nat) (ct : Ct)
    (h : 2 < ct.polys.size) {key : KSKey} (hk : keys (ct.polys.size - 1) = some key) {ct' : Ct}
    (hs : switchKey kl scheme dsz ct (ct.polys.getD (ct.polys.size - 1) #[]) key = .ok ct') :
    relinearize kl scheme dsz keys (fuel + 1) ct =
      relinearize kl scheme dsz keys fuel { ct' with polys := ct'.polys.extract 0 (ct.polys.size - 1) } := by
  conv_lhs => unfold relinearize
  simp only []
  rw [if_neg (Nat.not_lt_of_lt h), if_neg (Nat.ne_of_gt h), hk]
  simp only []
  rw [hs]
  rfl

/-- `relinearize_internal` on a size-3 ciphertext is one `switchKey` of c2 (key for s²) followed by dropping c2 -/
theorem relinearize_size3 (kl : KeyLevel) (scheme : Scheme) (dsz : Nat) (keys : Nat → Option KSKey) (fuel : Nat) (ct : Ct)
    (h : ct.polys.size = 3) {key : KSKey} (hk : keys 2 = some key) {ct' : Ct}
    (hs : switchKey kl scheme dsz ct (ct.polys.getD 2 #[]) key = .ok ct') (hsz : ct'.polys.size = 3) :
    relinearize kl scheme dsz keys (fuel + 2) ct = .ok { ct' with polys := ct'.polys.extract 0 2 } := by
  have h2 : ct.polys.size - 1 = 2 := by rw [h]
  rw [c04t_relin_step kl scheme dsz keys (fuel + 1) ct (by rw [h]; decide) (by rw [h2]; exact hk) (by rw [h2]; exact hs), h2]
  exact relinearize_size2 _ _ _ _ _ _ (by rw [Array.size_extract, hsz]; rfl)

theorem applyGalois_refuses_size (kl : KeyLevel) (l : Level) (scheme : Scheme) (ct : Ct) (g : Nat) (key : KSKey)
    (h : ct.polys.size ≠ 2) : applyGalois kl l scheme ct g key = .error .refused := by
  unfold applyGalois
  exact if_pos h

theorem applyGalois_refuses_element (kl : KeyLevel) (l : Level) (scheme : Scheme) (ct : Ct) (g : Nat) (key : KSKey)
    (h : g % 2 = 0 ∨ g > 2 * l.n) : applyGalois kl l scheme ct g key = .error .refused := by
  unfold applyGalois
  by_cases h2 : ct.polys.size ≠ 2
  · exact if_pos h2
  · exact (if_neg h2).trans (if_pos h)


/-! ### `applyGalois` is `switchKey` on the Galois images, which are canonical

    stated for a level `l` with well-formed moduli and N = 2^k, and polynomials that are componentwise canonical at `l` (the second
    half of `RnsCanon`) -/

/-- component i of the Galois-permuted RNS polynomial (value of `galoisApply` in coefficient form, `galoisApplyNtt` in NTT form) -/
def c04k_galComp (l : Level) (isNtt : Bool) (g : Nat) (p : RnsPoly) (i : Nat) : Poly :=
  if isNtt then galoisApplyNtt l.k (p.getD i #[]) g else c01p_val (galoisApply l.k (p.getD i #[]) g (l.q i))

def c04k_galRns (l : Level) (isNtt : Bool) (g : Nat) (p : RnsPoly) : RnsPoly :=
  ((List.range l.size).map (c04k_galComp l isNtt g p)).toArray

theorem c04k_galRns_getD (l : Level) (isNtt : Bool) (g : Nat) (p : RnsPoly) {i : Nat} (hi : i < l.size) :
    (c04k_galRns l isNtt g p).getD i #[] = c04k_galComp l isNtt g p i := by
  unfold c04k_galRns
  simp [Array.getD, hi]

theorem c04t_galComp_ok {l : Level} {g : Nat} (hg : g % 2 = 1) {p : RnsPoly} {i : Nat} (hm : (l.q i).WF) (hn : 2^l.k = l.n)
    (hp : (p.getD i #[]).size = l.n ∧ ∀ j, j < l.n → (p.getD i #[]).getD j 0 < (l.q i).value) :
    galoisApply l.k (p.getD i #[]) g (l.q i) = .ok (c04k_galComp l false g p i) := by
  obtain ⟨r, hr, -⟩ := galoisApply_spec (k := l.k) (g := g) hm hg (hp.1.trans hn.symm) (fun j hj => hp.2 j (hn ▸ hj))
  exact c01p_val_ok ⟨r, hr⟩

theorem c04t_galRns_ok {l : Level} (hq : ∀ i, i < l.size → (l.q i).WF) (hn : 2^l.k = l.n) (isNtt : Bool) {g : Nat} (hg : g % 2 = 1)
    {p : RnsPoly} (hp : ∀ i, i < l.size → (p.getD i #[]).size = l.n ∧ ∀ j, j < l.n → (p.getD i #[]).getD j 0 < (l.q i).value) :
    (List.range l.size).foldlM (fun (acc : RnsPoly) i => do
      let c ← if isNtt then pure (galoisApplyNtt l.k (p.getD i #[]) g) else galoisApply l.k (p.getD i #[]) g (l.q i)
      pure (acc.push c)) #[] = .ok (c04k_galRns l isNtt g p) := by
  have hv : (#[] ++ ((List.range l.size).map (c04k_galComp l isNtt g p)).toArray : RnsPoly) = c04k_galRns l isNtt g p := by
    simp [c04k_galRns]
  cases isNtt with
  | true =>
    exact (R.foldlM_push_ok (fun i => pure (galoisApplyNtt l.k (p.getD i #[]) g))
      (c04k_galComp l true g p) (List.range l.size) (fun _ _ => rfl) #[]).trans (congrArg _ hv)
  | false =>
    exact (R.foldlM_push_ok (fun i => galoisApply l.k (p.getD i #[]) g (l.q i))
      (c04k_galComp l false g p) (List.range l.size) (fun i hi => c04t_galComp_ok hg (hq i (List.mem_range.mp hi)) hn (hp i (List.mem_range.mp hi)))
      #[]).trans (congrArg _ hv)

theorem c04t_galRns_canon {l : Level} (hq : ∀ i, i < l.size → (l.q i).WF) (hn : 2^l.k = l.n) (isNtt : Bool) {g : Nat}
    (hg : g % 2 = 1) {p : RnsPoly}
    (hp : ∀ i, i < l.size → (p.getD i #[]).size = l.n ∧ ∀ j, j < l.n → (p.getD i #[]).getD j 0 < (l.q i).value) :
    RnsCanon l (c04k_galRns l isNtt g p) := by
  refine ⟨by simp [c04k_galRns], fun i hi => ?_⟩
  rw [c04k_galRns_getD l isNtt g p hi]
  cases isNtt with
  | true =>
    unfold c04k_galComp galoisApplyNtt
    rw [if_pos rfl]
    have hsz : (galoisTableNtt l.k g).size = l.n := by simp [galoisTableNtt, hn]
    refine ⟨by rw [Array.size_map, hsz], fun x hx => ?_⟩
    rw [array_getD_map _ _ 0 0 (hsz ▸ hx)]
    exact (hp i hi).2 _ (hn ▸ (galoisTable_spec (k := l.k) (g := g) hg (hn ▸ hx)).2)
  | false =>
    obtain ⟨r1, r2⟩ := c04m_galoisApply_lt (hq i hi) hg ((hp i hi).1.trans hn.symm) (fun j hj => (hp i hi).2 j (hn ▸ hj))
      (c04t_galComp_ok hg (hq i hi) hn (hp i hi))
    exact ⟨r1.trans hn, fun j hj => r2 j (hn ▸ hj)⟩

theorem c04t_applyGalois_eq (kl : KeyLevel) {l : Level} (scheme : Scheme) {ct : Ct} (key : KSKey) {g : Nat}
    (hq : ∀ i, i < l.size → (l.q i).WF) (hn : 2^l.k = l.n) (h2 : ct.polys.size = 2) (hg : g % 2 = 1) (hg2 : g ≤ 2 * l.n)
    (hp0 : ∀ i, i < l.size → ((ct.polys.getD 0 #[]).getD i #[]).size = l.n ∧
      ∀ j, j < l.n → ((ct.polys.getD 0 #[]).getD i #[]).getD j 0 < (l.q i).value)
    (hp1 : ∀ i, i < l.size → ((ct.polys.getD 1 #[]).getD i #[]).size = l.n ∧
      ∀ j, j < l.n → ((ct.polys.getD 1 #[]).getD i #[]).getD j 0 < (l.q i).value) :
    applyGalois kl l scheme ct g key =
      switchKey kl scheme l.size { ct with polys := #[c04k_galRns l ct.ntt g (ct.polys.getD 0 #[]), rnsZero l] }
        (c04k_galRns l ct.ntt g (ct.polys.getD 1 #[])) key := by
  unfold applyGalois
  simp only []
  rw [if_neg (by omega), if_neg (by omega), c04t_galRns_ok hq hn ct.ntt hg hp0, c04t_galRns_ok hq hn ct.ntt hg hp1]
  rfl

end HC
