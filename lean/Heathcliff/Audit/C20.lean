/- Audit of property C20: `#print axioms` for every property theorem of Props/C20.lean; `audit()` of tools/runner.py elaborates this file
   and compares each axiom list with the three standard axioms. -/
import Heathcliff.Props.C20
#print axioms HC.C20.cheetah_coeff
#print axioms HC.C20.cheetah_matmul
#print axioms HC.C20.encoded_input_block
#print axioms HC.C20.encoded_weight_block
#print axioms HC.C20.block_search_sound
#print axioms HC.C20.block_search_sound_pack
#print axioms HC.C20.conv_block_search_sound
#print axioms HC.C20.spread_fits
#print axioms HC.C20.spread_overflow_pinned
#print axioms HC.C20.rnsp_crt
#print axioms HC.C20.rnsp_split_merge
#print axioms HC.C20.conv2d_coeff
#print axioms HC.C20.conv2d_sum_channels
#print axioms HC.C20.outputs_encode_decode_block
#print axioms HC.C20.terms_transport
#print axioms HC.C20.bolt_rot_add
#print axioms HC.C20.bolt_rot_bsgs
#print axioms HC.C20.bolt_rot_mod
#print axioms HC.C20.cheetah_matmul_whole
#print axioms HC.C20.cheetah_matmul_search
#print axioms HC.C20.cheetah_matmul_mod_t
#print axioms HC.C20.decode_outputs_whole
#print axioms HC.C20.encode_inputs_whole
#print axioms HC.C20.encode_weights_whole
#print axioms HC.C20.outputs_encode_decode_whole
#print axioms HC.C20.conv2d_whole
#print axioms HC.C20.conv2d_search
#print axioms HC.C20.conv2d_decode_whole
#print axioms HC.C20.conv2d_encode_inputs_whole
#print axioms HC.C20.conv2d_encode_weights_whole
#print axioms HC.C20.outputs_encode_decode_packed
#print axioms HC.C20.packed_poly_spec
#print axioms HC.C20.decode_outputs_gen
#print axioms HC.C20.OutputsEncodeDecodeStatement_proof
#print axioms HC.C20.bolt_rotRows_col
#print axioms HC.C20.bolt_swapRows_col
#print axioms HC.C20.bolt_cp_baby_steps
#print axioms HC.C20.bolt_bsgs_sum
#print axioms HC.C20.bolt_shift_lt
#print axioms HC.C20.bolt_shift_split
#print axioms HC.C20.bolt_shift_step
#print axioms HC.C20.BoltCpStatement_proof
#print axioms HC.C20.bolt_cp_whole
#print axioms HC.C20.bolt_cp_new
#print axioms HC.C20.bolt_cp_new_ok
#print axioms HC.C20.bolt_cp_multiply_spec
#print axioms HC.C20.bolt_cp_tail_spec
#print axioms HC.C20.BoltCcCrStatement_proof
#print axioms HC.C20.bolt_cc_cr_whole
#print axioms HC.C20.bolt_cc_cr_new
#print axioms HC.C20.bolt_cc_cr_new_ok
#print axioms HC.C20.bolt_sum_all_spec
#print axioms HC.C20.bolt_cc_cr_multiply_spec
#print axioms HC.C20.bolt_cc_cr_decode_spec
#print axioms HC.C20.BoltCcDcStatement_proof
#print axioms HC.C20.bolt_cc_dc_r0_refused
#print axioms HC.C20.bolt_cc_dc_whole
#print axioms HC.C20.bolt_cc_dc_new
#print axioms HC.C20.bolt_cc_dc_new_ok
#print axioms HC.C20.bolt_spread_spec
#print axioms HC.C20.bolt_cc_dc_multiply_spec
#print axioms HC.C20.bolt_col_major_encode_spec
#print axioms HC.C20.bolt_col_major_decode_spec
#print axioms HC.C20.gen_ceil_div_eq
#print axioms HC.C20.gen_cv_ceil_div_eq
#print axioms HC.C20.gen_mm_new_eq
#print axioms HC.C20.gen_mm_new_pack_eq
#print axioms HC.C20.gen_cv_new_eq
#print axioms HC.C20.gen_mm_output_terms_eq
#print axioms HC.C20.gen_mm_input_terms_eq
#print axioms HC.C20.gen_mm_new_sound
#print axioms HC.C20.gen_mm_new_pack_sound
#print axioms HC.C20.gen_cv_new_sound
#print axioms HC.C20.gen_cheetah_matmul_search
#print axioms HC.C20.gen_conv2d_search
#print axioms HC.C20.gen_mm_terms_of_new
#print axioms HC.C20.gen_cv_output_terms_eq
#print axioms HC.C20.gen_cv_terms_of_new
#print axioms HC.C20.gen_cv_total_batch_eq
#print axioms HC.C20.gen_mm_weight_positions_eq
#print axioms HC.C20.gen_mm_input_positions_eq
#print axioms HC.C20.gen_encWeightSmall_plan
#print axioms HC.C20.gen_encInputBlock_plan
#print axioms HC.C20.gen_mm_output_positions_eq
