/-
  C20B, coefficient packing (cheetah.rs), one block: the three position maps are four-digit positions with a 1×1 tile
  (`c20_inPos_pos4`, `c20_wPos_pos4`, `c20_outPos_pos4`), whence bounds and injectivity; the encoded input / weight block as a
  function of the position; the sum over the input blocks (`c20_sum_blocks`).  The read-back coefficient of the negacyclic product
  of two encoded blocks is the 1×1 case of the convolution's (C20F).
-/
import Heathcliff.Proofs.C20A

namespace HC
open Finset HC.MM

/-- the three position maps of coefficient packing are four-digit positions with a 1×1 tile: input entry (row `a`, column `c`) -/
theorem c20_inPos_pos4 (h : Helper) (a c : Nat) : inPos h a c = c20_pos4 (h.ib * h.ob) 1 1 a c 0 0 := by
  rw [c20_pos4_one]; unfold inPos; rw [Nat.mul_assoc]

/-- weight entry (output column `a`, input row `c`): the rows reversed -/
theorem c20_wPos_pos4 (h : Helper) (a c : Nat) (hc : c < h.ib) : wPos h a c = c20_pos4 h.ib 1 1 a (h.ib - 1 - c) 0 0 := by
  rw [c20_pos4_one]; unfold wPos; omega

/-- output entry (row `db`, column `dk`): the last input row of output column `db·ob + dk` -/
theorem c20_outPos_pos4 (h : Helper) (db dk : Nat) : outPos h db dk = c20_pos4 h.ib 1 1 (db * h.ob + dk) (h.ib - 1) 0 0 := by
  rw [c20_pos4_one]; unfold outPos
  rcases Nat.eq_zero_or_pos h.ib with h0 | h0
  · simp [h0]
  · rw [Nat.add_mul, Nat.mul_right_comm db]; omega

theorem c20_outPos_lt {h : Helper} (hib : 0 < h.ib) (hfit : h.bb * h.ib * h.ob ≤ h.n) {db dk : Nat} (hdb : db < h.bb)
    (hdk : dk < h.ob) : outPos h db dk < h.n := by
  rw [c20_outPos_pos4]
  exact c20_pos4_bound (bb := h.bb * h.ob) (grid_lt hdb hdk) (Nat.sub_lt hib Nat.one_pos) Nat.one_pos Nat.one_pos
    (by rw [Nat.mul_one, Nat.mul_right_comm]; exact hfit)

/-- the encoded input block as a function of the position (`encode_inputs_*`, one block) -/
theorem c20_encInput_spec {R : Type} (zero : R) (h : Helper) (x : Nat → R) (hfit : h.bb * h.ib * h.ob ≤ h.n) (hob : 0 < h.ob)
    (li ui lj uj : Nat) (hb : ui - li ≤ h.bb) (hi : uj - lj ≤ h.ib) :
    ∃ px, encInputBlock h zero x li ui lj uj = .ok px ∧ px.size = h.n ∧
      (∀ q, (∀ db dj, db < ui - li → dj < uj - lj → inPos h db dj ≠ q) → px.getD q zero = zero) ∧
      (∀ db dj, db < ui - li → dj < uj - lj → px.getD (inPos h db dj) zero = x ((li + db) * h.id + (lj + dj))) := by
  have hcc : uj - lj ≤ h.ib * h.ob := le_trans hi (Nat.le_mul_of_pos_right _ hob)
  obtain ⟨a, hf, hs, hz, hv⟩ := c20_scatter_map zero h.n h.n (pairs (ui - li) (uj - lj))
    (fun p => inPos h p.1 p.2) (fun p => x ((li + p.1) * h.id + (lj + p.2)))
    (fun p hp => by
      obtain ⟨h1, h2⟩ := c20_mem_pairs.mp hp
      have := c20_pos4_bound (hb := 1) (W := 1) (lt_of_lt_of_le h1 hb) (lt_of_lt_of_le h2 hcc) Nat.one_pos Nat.one_pos
        (by simpa [Nat.mul_assoc] using hfit)
      rw [c20_inPos_pos4]
      exact ⟨this, this⟩)
    (fun p hp p' hp' he => by
      simp only [c20_inPos_pos4] at he
      obtain ⟨e1, e2, _, _⟩ := c20_pos4_inj (lt_of_lt_of_le (c20_mem_pairs.mp hp).2 hcc) (lt_of_lt_of_le (c20_mem_pairs.mp hp').2 hcc)
        Nat.one_pos Nat.one_pos Nat.one_pos Nat.one_pos he
      rw [e1, e2])
  exact ⟨a, hf, hs, fun q hq => hz q fun p hp => hq p.1 p.2 (c20_mem_pairs.mp hp).1 (c20_mem_pairs.mp hp).2,
    fun db dj h1 h2 => hv (db, dj) (c20_mem_pairs.mpr ⟨h1, h2⟩)⟩

/-- the weight buffer fits where the input buffer does -/
theorem c20_fitW {h : Helper} (hbb : 0 < h.bb) (hfit : h.bb * h.ib * h.ob ≤ h.n) : h.ib * h.ob ≤ h.n :=
  (Nat.le_mul_of_pos_left _ hbb).trans (Nat.mul_assoc h.bb h.ib h.ob ▸ hfit)

/-- the encoded weight block as a function of the position (`encode_weight_small_*`): rows reversed -/
theorem c20_encWeight_spec {R : Type} (zero : R) (h : Helper) (w : Nat → R) (hfit : h.ib * h.ob ≤ h.n)
    (li ui lk uk : Nat) (hi : ui - li ≤ h.ib) (ho : uk - lk ≤ h.ob) :
    ∃ pw, encWeightSmall h zero w li ui lk uk = .ok pw ∧ pw.size = h.ib * h.ob ∧
      (∀ q, (∀ dk di, dk < uk - lk → di < ui - li → wPos h dk di ≠ q) → pw.getD q zero = zero) ∧
      (∀ dk di, dk < uk - lk → di < ui - li → pw.getD (wPos h dk di) zero = w ((li + di) * h.od + (lk + dk))) := by
  obtain ⟨a, hf, hs, hz, hv⟩ := c20_scatter_map zero (h.ib * h.ob) h.n (pairs (uk - lk) (ui - li))
    (fun p => wPos h p.1 p.2) (fun p => w ((li + p.2) * h.od + (lk + p.1)))
    (fun p hp => by
      obtain ⟨h1, h2⟩ := c20_mem_pairs.mp hp
      have h2' := lt_of_lt_of_le h2 hi
      have := c20_pos4_bound (hb := 1) (W := 1) (n := h.ib * h.ob) (lt_of_lt_of_le h1 ho) (c20_flip h2').1 Nat.one_pos Nat.one_pos
        (by rw [Nat.mul_one, Nat.mul_comm])
      rw [c20_wPos_pos4 h _ _ h2']
      exact ⟨lt_of_lt_of_le this hfit, this⟩)
    (fun p hp p' hp' he => by
      have h2 := lt_of_lt_of_le (c20_mem_pairs.mp hp).2 hi
      have h2' := lt_of_lt_of_le (c20_mem_pairs.mp hp').2 hi
      rw [c20_wPos_pos4 h _ _ h2, c20_wPos_pos4 h _ _ h2'] at he
      obtain ⟨e1, e2, _, _⟩ := c20_pos4_inj (c20_flip h2).1 (c20_flip h2').1 Nat.one_pos Nat.one_pos Nat.one_pos Nat.one_pos he
      rw [e1, ← (c20_flip h2).2, e2, (c20_flip h2').2])
  exact ⟨a, hf, hs, fun q hq => hz q fun p hp => hq p.1 p.2 (c20_mem_pairs.mp hp).1 (c20_mem_pairs.mp hp).2,
    fun dk di h1 h2 => hv (dk, di) (c20_mem_pairs.mpr ⟨h1, h2⟩)⟩

theorem c20_sum_blocks {R : Type} [AddCommMonoid R] (f : Nat → R) (blk total : Nat) (hblk : 0 < blk) :
    ∑ ii ∈ range (ceilDiv total blk), ∑ j ∈ range (min total (ii * blk + blk) - ii * blk), f (ii * blk + j)
      = ∑ j ∈ range total, f j := by
  rw [← c20_sum_pad f total blk hblk]
  refine Finset.sum_congr rfl fun ii _ => ?_
  -- a truncated block is the whole block with the entries from `total` on counted as zero
  rw [← Finset.sum_subset (s₁ := range (min total (ii * blk + blk) - ii * blk)) (s₂ := range blk)
    (fun j hj => Finset.mem_range.mpr (lt_of_lt_of_le (Finset.mem_range.mp hj) c20_blk_le))
    (fun j _ hj => if_neg fun hlt => hj (Finset.mem_range.mpr (by have := Finset.mem_range.mp ‹j ∈ range blk›; omega)))]
  exact Finset.sum_congr rfl fun j hj => (if_pos (c20_blk_lt (Finset.mem_range.mp hj))).symm

end HC
