/- C04 part K: the end-to-end phase theorem of hybrid key switching (MODEL `switchKey`): `c04k_switchKey` for either mod-down rule, with
   `switchKey_phase` / `switchKey_phase_bgv` as its two instances, and the corollaries for `relinearize` (size 3 → 2) and `applyGalois`.
   Builds on C04T (`ksAccumulate_spec`, the mod-down in Z_q `c04t_moddown_z`).

   Phases are stated with integer coefficient functions `Nat → Int` and the negacyclic product `negMulR` over ℤ
   (`c05u_phase2 n c0 c1 s = c0 + c1 ⋆ s`), per level modulus q_j, with ONE integer noise polynomial ν independent of j; the merged
   forms modulo Q_level (`…_crt` for arbitrary integer lifts, `…_spec` for `Spec.phase` / `Spec.crtPoly`) follow by CRT.

   The corollaries (`…_crt`, `…_spec`, `relinearize_phase…`, `applyGalois_phase…`) are stated once per rule, with the noise written as
   `c04k_nuStd` resp. `c04k_nuBgv`, because these statements are the ones Props/C04 restates; the two proofs of a pair are the same
   call of the instance above it.  A lemma for both rules at once is stated with `c04t_Rule` and `c04k_nuOf` (`c04k_nuStd_eq`,
   `c04k_nuBgv_eq` lead back).  The file begins with the index / sign rule of σ_g = `c04k_sigma` (`sigma_index_sign_rule`; the reusable
   direction is `c04k_sigma_of_perm`: whatever is a signed permutation of this shape IS σ_g) and ends with its witnesses on the world
   `c04t_exKL` of C04T. -/
import Heathcliff.Proofs.C04T
import Heathcliff.Proofs.C05U
import Heathcliff.Proofs.C01P
import Heathcliff.Proofs.NegAlg
import Mathlib.Algebra.BigOperators.ModEq
import Mathlib.Tactic.Ring
import Mathlib.Tactic.Linarith
import Mathlib.Tactic.LinearCombination
namespace HC
open Finset

section sigma
variable {R : Type} [CommRing R]

/-- INDEX / SIGN RULE of σ_g (g odd, n = 2^k): coefficient i goes to index i·g mod n, negated when ⌊i·g/n⌋ is odd -/
theorem sigma_index_sign_rule {k g : Nat} (hg : g % 2 = 1) (a : Nat → R) {i : Nat} (hi : i < 2^k) :
    c04k_sigma (2^k) g a ((i * g) % 2^k) = if ((i * g) / 2^k) % 2 = 1 then - a i else a i := by
  unfold c04k_sigma
  rw [Finset.sum_eq_single i]
  · unfold c04k_chi
    rw [if_pos rfl]
    by_cases h : ((i * g) / 2^k) % 2 = 1
    · rw [if_pos h, Odd.neg_one_pow (Nat.odd_iff.mpr h)]; ring
    · rw [if_neg h, Even.neg_one_pow (Nat.even_iff.mpr (by omega))]; ring
  · intro j hj hne
    unfold c04k_chi
    rw [if_neg (fun h => hne (odd_mul_injective hg (mem_range.mp hj) hi h)), zero_mul]
  · intro h; exact absurd (mem_range.mpr hi) h

theorem c04k_sigma_of_perm {k g : Nat} (hg : g % 2 = 1) (a r : Nat → R)
    (hr : ∀ i, i < 2^k → r ((i * g) % 2^k) = (if ((i * g) / 2^k) % 2 = 1 then - a i else a i)) :
    ∀ c, c < 2^k → c04k_sigma (2^k) g a c = r c := by
  intro c hc
  have hc' : c ∈ range (2^k) := mem_range.mpr hc
  rw [← c04m_image_eq (k := k) hg, Finset.mem_image] at hc'
  obtain ⟨i, hi, rfl⟩ := hc'
  rw [sigma_index_sign_rule hg a (mem_range.mp hi), hr i (mem_range.mp hi)]

/-- σ_g for odd g is a signed selection (`i ↦ i·g mod 2^k` is onto): output coefficient c is ± ONE input coefficient, position and sign
    independent of the input -/
theorem c04k_sigma_sel {k g : Nat} (hg : g % 2 = 1) {c : Nat} (hc : c < 2^k) :
    ∃ i, i < 2^k ∧ ∃ ε : R, (ε = 1 ∨ ε = -1) ∧ ∀ a : Nat → R, c04k_sigma (2^k) g a c = ε * a i := by
  have hc' : c ∈ range (2^k) := mem_range.mpr hc
  rw [← c04m_image_eq (k := k) hg, Finset.mem_image] at hc'
  obtain ⟨i, hi, rfl⟩ := hc'
  refine ⟨i, mem_range.mp hi, if (i * g / 2^k) % 2 = 1 then -1 else 1, ?_, fun a => ?_⟩
  · split
    · exact Or.inr rfl
    · exact Or.inl rfl
  · rw [sigma_index_sign_rule hg a (mem_range.mp hi)]
    split
    · rw [neg_one_mul]
    · rw [one_mul]

end sigma

/-- the accumulated pair under the key equation modulo q:
    Σ_i D_i ⋆ K0_i + (Σ_i D_i ⋆ K1_i) ⋆ s ≡ Σ_i D_i ⋆ e_i + P·Σ_i G_i·(D_i ⋆ s') -/
theorem c04k_acc_phase (n dsz : Nat) (q P : Int) (D K0 K1 e : Nat → Nat → Int) (G s s' : Nat → Int)
    (hkey : ∀ i, i < dsz → ∀ c, c < n → K0 i c + negMulR n (K1 i) s c ≡ e i c + P * G i * s' c [ZMOD q]) {c : Nat} (hc : c < n) :
    (∑ i ∈ range dsz, negMulR n (D i) (K0 i) c) + negMulR n (fun p => ∑ i ∈ range dsz, negMulR n (D i) (K1 i) p) s c
      ≡ ∑ i ∈ range dsz, negMulR n (D i) (e i) c + P * ∑ i ∈ range dsz, G i * negMulR n (D i) s' c [ZMOD q] := by
  rw [c04k_sum_left, ← Finset.sum_add_distrib, Finset.mul_sum, ← Finset.sum_add_distrib]
  refine Int.ModEq.sum fun i hi => ?_
  rw [c04k_assoc n _ _ _ hc, ← negMulR_add_right n _ _ _ _]
  refine (c04k_negMul_modEq n q hc (fun _ _ => Int.ModEq.refl _) (hkey i (mem_range.mp hi))).trans ?_
  rw [negMulR_add_right n _ _ _ _, negMulR_smul_right n _ _ _ _, mul_assoc]

/-- The algebra of one key switch modulo one level prime q = q_j, on integer coefficient functions.  Given the key equation
    K0_i + K1_i ⋆ s ≡ e_i + P·G_i·s' with gadget integers G_i ≡ δ_ij, accumulated polynomials A_k ≡ Σ_i D_i ⋆ K_k,i, added polynomials δ_k
    with P·δ_k ≡ A_k − r_k (the mod-down: r_k the representative the rule subtracts) and an integer ν with
    P·ν = Σ_i D_i ⋆ e_i − r_0 − r_1 ⋆ s:  δ_0 + δ_1 ⋆ s ≡ D_j ⋆ s' + ν.  Multiply by P, insert `c04k_acc_phase`, let the gadget pick
    digit j, cancel P⁻¹ = y. -/
theorem c04k_core (n dsz j : Nat) (hj : j < dsz) (q P y : Int) (hy : y * P ≡ 1 [ZMOD q])
    (D K0 K1 e : Nat → Nat → Int) (G s s' r0 r1 A0 A1 δ0 δ1 ν : Nat → Int)
    (hkey : ∀ i, i < dsz → ∀ c, c < n → K0 i c + negMulR n (K1 i) s c ≡ e i c + P * G i * s' c [ZMOD q])
    (hG : ∀ i, i < dsz → G i ≡ (if i = j then 1 else 0) [ZMOD q])
    (hA0 : ∀ c, c < n → A0 c ≡ ∑ i ∈ range dsz, negMulR n (D i) (K0 i) c [ZMOD q])
    (hA1 : ∀ c, c < n → A1 c ≡ ∑ i ∈ range dsz, negMulR n (D i) (K1 i) c [ZMOD q])
    (hδ0 : ∀ c, c < n → P * δ0 c ≡ A0 c - r0 c [ZMOD q]) (hδ1 : ∀ c, c < n → P * δ1 c ≡ A1 c - r1 c [ZMOD q])
    (hν : ∀ c, c < n → P * ν c = ∑ i ∈ range dsz, negMulR n (D i) (e i) c - r0 c - negMulR n r1 s c) :
    ∀ c, c < n → δ0 c + negMulR n δ1 s c ≡ negMulR n (D j) s' c + ν c [ZMOD q] := by
  intro c hc
  have h1 : P * negMulR n δ1 s c
      ≡ negMulR n (fun p => ∑ i ∈ range dsz, negMulR n (D i) (K1 i) p) s c - negMulR n r1 s c [ZMOD q] := by
    rw [← c05u_negMul_smul, ← c04k_sub_left]
    exact c04k_negMul_modEq n q hc (fun p hp => (hδ1 p hp).trans ((hA1 p hp).sub_right _)) (fun _ _ => Int.ModEq.refl _)
  -- the gadget elements pick digit j
  have hcol : ∑ i ∈ range dsz, G i * negMulR n (D i) s' c ≡ negMulR n (D j) s' c [ZMOD q] := by
    refine (Int.ModEq.sum fun i hi => (hG i (mem_range.mp hi)).mul_right _).trans ?_
    rw [Finset.sum_eq_single_of_mem j (mem_range.mpr hj) (fun i _ hij => by rw [if_neg hij, zero_mul]), if_pos rfl, one_mul]
  have h2 := (((c04k_acc_phase n dsz q P D K0 K1 e G s s' hkey hc).trans ((hcol.mul_left P).add_left _)).sub_right
    (r0 c)).sub_right (negMulR n r1 s c)
  have hP : P * (δ0 c + negMulR n δ1 s c) ≡ P * (negMulR n (D j) s' c + ν c) [ZMOD q] := by
    rw [mul_add, mul_add, hν c hc]
    calc P * δ0 c + P * negMulR n δ1 s c
        ≡ ∑ i ∈ range dsz, negMulR n (D i) (K0 i) c - r0 c
          + (negMulR n (fun p => ∑ i ∈ range dsz, negMulR n (D i) (K1 i) p) s c - negMulR n r1 s c) [ZMOD q] :=
          ((hδ0 c hc).trans ((hA0 c hc).sub_right _)).add h1
      _ = _ := by ring
      _ ≡ _ [ZMOD q] := h2
      _ = _ := by ring
  calc δ0 c + negMulR n δ1 s c = 1 * (δ0 c + negMulR n δ1 s c) := (one_mul _).symm
    _ ≡ y * P * (δ0 c + negMulR n δ1 s c) [ZMOD q] := hy.symm.mul_right _
    _ = y * (P * (δ0 c + negMulR n δ1 s c)) := mul_assoc _ _ _
    _ ≡ y * (P * (negMulR n (D j) s' c + ν c)) [ZMOD q] := hP.mul_left _
    _ = y * P * (negMulR n (D j) s' c + ν c) := (mul_assoc _ _ _).symm
    _ ≡ 1 * (negMulR n (D j) s' c + ν c) [ZMOD q] := hy.mul_right _
    _ = _ := one_mul _

/-- coefficient form of key row (digit i, component k) at key-level modulus `idx` (key rows are stored in NTT form) -/
def c04k_keyCoef (kl : KeyLevel) (key : KSKey) (idx i k : Nat) : Poly := intt (kl.tb idx) (c04t_K key i k idx)

/-- digit polynomial i of a coefficient-form RNS polynomial, as an integer coefficient function -/
def c04k_digit (tc : RnsPoly) (i : Nat) : Nat → Int := fun p => (((tc.getD i #[]).getD p 0 : Nat) : Int)

def c04k_keyI (kl : KeyLevel) (key : KSKey) (idx i k : Nat) : Nat → Int :=
  fun p => (((c04k_keyCoef kl key idx i k).getD p 0 : Nat) : Int)

/-- coefficient function of an RNS component given in the working representation (through `intt` when in NTT form) -/
def c04k_polyI (t : NTTTables) (isNtt : Bool) (p : Poly) : Nat → Int :=
  fun c => (((c04t_coefOf t isNtt p).getD c 0 : Nat) : Int)

theorem c04k_polyI_false (t : NTTTables) (P : Poly) : c04k_polyI t false P = fun c => ((P.getD c 0 : Nat) : Int) := rfl

theorem c04k_polyI_true (t : NTTTables) (P : Poly) :
    c04k_polyI t true P = fun c => (((intt t P).getD c 0 : Nat) : Int) := rfl

/-- the key-level modulus indices used with `dsz` digits: the first `dsz` and the special prime -/
def c04k_Used (kl : KeyLevel) (dsz idx : Nat) : Prop := idx < dsz ∨ idx = kl.ms.size - 1

/-- KEY EQUATION of a key-switching key from s' to s, over ℤ[X]/(X^n+1), modulo every used key-level modulus (equivalently, by CRT,
    modulo Q_level·P):  k0_i + k1_i ⋆ s ≡ e_i + P·g_i·s'  with g_i the gadget element of digit i (≡ 1 mod q_i, ≡ 0 mod the other q_j). -/
structure c04k_KeyEq (kl : KeyLevel) (dsz : Nat) (key : KSKey) (s s' : Nat → Int) (e : Nat → Nat → Int) (G : Nat → Int) : Prop where
  hG : ∀ j, j < dsz → ∀ i, i < dsz → G i ≡ (if i = j then 1 else 0) [ZMOD ((kl.m j).value : Int)]
  hkey : ∀ idx, c04k_Used kl dsz idx → ∀ i, i < dsz → ∀ c, c < kl.n →
    c04k_keyI kl key idx i 0 c + negMulR kl.n (c04k_keyI kl key idx i 1) s c
      ≡ e i c + (kl.c04t_P : Int) * G i * s' c [ZMOD ((kl.m idx).value : Int)]

/-- E = Σ_i D_i ⋆ e_i : the key errors weighted by the digits -/
def c04k_E (n dsz : Nat) (tc : RnsPoly) (e : Nat → Nat → Int) (c : Nat) : Int :=
  ∑ i ∈ range dsz, negMulR n (c04k_digit tc i) (e i) c

/-- the key-switching noise polynomial: ν = (E − r0 − r1 ⋆ s) / P (the division is exact) -/
def c04k_nu (n dsz P : Nat) (tc : RnsPoly) (e : Nat → Nat → Int) (r : Nat → Nat → Int) (s : Nat → Int) (c : Nat) : Int :=
  (c04k_E n dsz tc e c - r 0 c - negMulR n (r 1) s c) / (P : Int)

theorem c04k_cast (q n : Nat) (a b : Nat → Int) (c : Nat) :
    ((negMulR n a b c : Int) : ZMod q) = negMulR n (fun i => ((a i : Int) : ZMod q)) (fun i => ((b i : Int) : ZMod q)) c :=
  c04k_map (Int.castRingHom (ZMod q)) n a b c

theorem c04k_accCoef_modEq (kl : KeyLevel) (dsz : Nat) (tc : RnsPoly) (key : KSKey) (idx k c : Nat) (hq : 0 < (kl.m idx).value) :
    ((c04t_accCoef kl dsz tc key idx k c : Nat) : Int) ≡
      ∑ i ∈ range dsz, negMulR kl.n (c04k_digit tc i) (c04k_keyI kl key idx i k) c [ZMOD ((kl.m idx).value : Int)] := by
  apply (ZMod.intCast_eq_intCast_iff _ _ _).mp
  unfold c04t_accCoef
  rw [Int.cast_natCast, ZMod.natCast_mod, Nat.cast_sum, Int.cast_sum]
  apply Finset.sum_congr rfl
  intro i _
  rw [(negMulNat_cast hq _ _ _ _).2, c04k_cast]
  simp only [c04k_digit, c04k_keyI, c04k_keyCoef, Int.cast_natCast]

theorem c04k_accCoef_lt {kl : KeyLevel} (dsz : Nat) (tc : RnsPoly) (key : KSKey) (idx k c : Nat) (hq : 0 < (kl.m idx).value) :
    c04t_accCoef kl dsz tc key idx k c < (kl.m idx).value := by
  unfold c04t_accCoef; exact Nat.mod_lt _ hq

/-- exactness of the division in `c04k_nu`: modulo the special prime the accumulated pair has phase E -/
theorem c04k_nu_dvd {kl : KeyLevel} {dsz : Nat} {key : KSKey} {s s' : Nat → Int} {e : Nat → Nat → Int} {G : Nat → Int}
    (hke : c04k_KeyEq kl dsz key s s' e G) (hP : 0 < kl.c04t_P) (tc : RnsPoly) (r : Nat → Nat → Int)
    (hr : ∀ k, k < 2 → ∀ c, c < kl.n →
      r k c ≡ ((c04t_accCoef kl dsz tc key (kl.ms.size - 1) k c : Nat) : Int) [ZMOD (kl.c04t_P : Int)])
    {c : Nat} (hc : c < kl.n) :
    (kl.c04t_P : Int) ∣ c04k_E kl.n dsz tc e c - r 0 c - negMulR kl.n (r 1) s c := by
  have hP0 : (kl.c04t_P : Int) ≡ 0 [ZMOD (kl.c04t_P : Int)] := Int.emod_self.trans (Int.zero_emod _).symm
  -- modulo P the term P·G_i·s' of the key equation vanishes
  have h2 := c04k_acc_phase kl.n dsz (kl.c04t_P : Int) 0 (c04k_digit tc) (fun i => c04k_keyI kl key (kl.ms.size - 1) i 0)
    (fun i => c04k_keyI kl key (kl.ms.size - 1) i 1) e G s s'
    (fun i hi p hp => (hke.hkey _ (Or.inr rfl) i hi p hp).trans (by
      rw [zero_mul, zero_mul]
      exact Int.ModEq.add_left _ (((hP0.mul_right _).mul_right _).trans (by rw [zero_mul, zero_mul])))) hc
  rw [zero_mul, add_zero] at h2
  have hr0 := (hr 0 Nat.zero_lt_two c hc).trans (c04k_accCoef_modEq kl dsz tc key _ 0 c hP)
  have hr1 := c04k_negMul_modEq kl.n _ hc (b := s) (b' := s)
    (fun p hp => (hr 1 Nat.one_lt_two p hp).trans (c04k_accCoef_modEq kl dsz tc key _ 1 p hP)) (fun _ _ => Int.ModEq.refl _)
  apply Int.modEq_zero_iff_dvd.mp
  calc c04k_E kl.n dsz tc e c - r 0 c - negMulR kl.n (r 1) s c
      ≡ c04k_E kl.n dsz tc e c - _ - _ [ZMOD (kl.c04t_P : Int)] := ((Int.ModEq.refl _).sub hr0).sub hr1
    _ = c04k_E kl.n dsz tc e c - (_ + _) := sub_sub _ _ _
    _ ≡ c04k_E kl.n dsz tc e c - c04k_E kl.n dsz tc e c [ZMOD (kl.c04t_P : Int)] := (Int.ModEq.refl _).sub h2
    _ = 0 := sub_self _

/-- per-modulus conclusion: if the two new components are the old ones plus `dz` with P·dz ≡ (accumulated) − r, the phase changes
    by (digit j) ⋆ s' + ν -/
theorem c04k_finish {kl : KeyLevel} {dsz : Nat} {key : KSKey} {s s' : Nat → Int} {e : Nat → Nat → Int} {G : Nat → Int}
    (hke : c04k_KeyEq kl dsz key s s' e G) (hP : 0 < kl.c04t_P) (tc : RnsPoly) (r : Nat → Nat → Int)
    (hr : ∀ k, k < 2 → ∀ c, c < kl.n →
      r k c ≡ ((c04t_accCoef kl dsz tc key (kl.ms.size - 1) k c : Nat) : Int) [ZMOD (kl.c04t_P : Int)])
    {j : Nat} (hj : j < dsz) (hq : 0 < (kl.m j).value) {y : Nat}
    (hy : (y * kl.c04t_P) % (kl.m j).value = 1 % (kl.m j).value)
    (a a' dz : Nat → Nat → Int)
    (ha : ∀ k, k < 2 → ∀ c, c < kl.n → a' k c ≡ a k c + dz k c [ZMOD ((kl.m j).value : Int)])
    (hdz : ∀ k, k < 2 → ∀ c, c < kl.n →
      (kl.c04t_P : Int) * dz k c ≡ ((c04t_accCoef kl dsz tc key j k c : Nat) : Int) - r k c [ZMOD ((kl.m j).value : Int)]) :
    ∀ c, c < kl.n → c05u_phase2 kl.n (a' 0) (a' 1) s c ≡
      c05u_phase2 kl.n (a 0) (a 1) s c + negMulR kl.n (c04k_digit tc j) s' c
        + c04k_nu kl.n dsz kl.c04t_P tc e r s c [ZMOD ((kl.m j).value : Int)] := by
  intro c hc
  have hcore := c04k_core kl.n dsz j hj ((kl.m j).value : Int) (kl.c04t_P : Int) (y : Int)
    (by exact_mod_cast Int.natCast_modEq_iff.mpr hy) (c04k_digit tc) (fun i => c04k_keyI kl key j i 0)
    (fun i => c04k_keyI kl key j i 1) e G s s' (r 0) (r 1) (fun p => ((c04t_accCoef kl dsz tc key j 0 p : Nat) : Int))
    (fun p => ((c04t_accCoef kl dsz tc key j 1 p : Nat) : Int)) (dz 0) (dz 1) (c04k_nu kl.n dsz kl.c04t_P tc e r s)
    (hke.hkey j (Or.inl hj)) (hke.hG j hj) (fun p _ => c04k_accCoef_modEq kl dsz tc key j 0 p hq)
    (fun p _ => c04k_accCoef_modEq kl dsz tc key j 1 p hq) (hdz 0 Nat.zero_lt_two) (hdz 1 Nat.one_lt_two)
    (fun p hp => Int.mul_ediv_cancel' (c04k_nu_dvd hke hP tc r hr hp)) c hc
  unfold c05u_phase2
  calc a' 0 c + negMulR kl.n (a' 1) s c
      ≡ a 0 c + dz 0 c + negMulR kl.n (fun p => a 1 p + dz 1 p) s c [ZMOD ((kl.m j).value : Int)] :=
        (ha 0 Nat.zero_lt_two c hc).add (c04k_negMul_modEq kl.n _ hc (ha 1 Nat.one_lt_two) (fun _ _ => Int.ModEq.refl _))
    _ = a 0 c + negMulR kl.n (a 1) s c + (dz 0 c + negMulR kl.n (dz 1) s c) := by rw [c05u_negMul_add]; ring
    _ ≡ a 0 c + negMulR kl.n (a 1) s c + (negMulR kl.n (c04k_digit tc j) s' c + c04k_nu kl.n dsz kl.c04t_P tc e r s c)
        [ZMOD ((kl.m j).value : Int)] := hcore.add_left _
    _ = _ := (add_assoc _ _ _).symm

theorem c04k_coef_add {kl : KeyLevel} (hkl : kl.WF) {j : Nat} (hj : j < kl.ms.size) (isNtt : Bool) {x δ z : Poly}
    (hx : x.size = kl.n) (hxl : ∀ l, l < kl.n → x.getD l 0 < (kl.m j).value)
    (hδ : δ.size = kl.n) (hδl : ∀ l, l < kl.n → δ.getD l 0 < (kl.m j).value)
    (hz : z.size = kl.n) (hzv : ∀ l, l < kl.n → z.getD l 0 = (x.getD l 0 + δ.getD l 0) % (kl.m j).value) :
    ∀ c, c < kl.n → c04k_polyI (kl.tb j) isNtt z c ≡
      c04k_polyI (kl.tb j) isNtt x c + c04k_polyI (kl.tb j) isNtt δ c [ZMOD ((kl.m j).value : Int)] := by
  obtain ⟨htw, htm, htn, hmw⟩ := c04t_kl_comp hkl hj
  intro c hc
  unfold c04k_polyI c04t_coefOf
  cases isNtt with
  | false =>
    simp only [Bool.false_eq_true, if_false]
    rw [hzv c hc]
    push_cast
    exact Int.mod_modEq _ _
  | true =>
    simp only [if_true]
    have := c01o_intt_add htw (x := x) (y := δ) (z := z) (by rw [hx, htn]) (by rw [hδ, htn]) (by rw [hz, htn])
      (fun l hl => by rw [htm]; exact hxl l (by rw [← htn]; exact hl))
      (fun l hl => by rw [htm]; exact hδl l (by rw [← htn]; exact hl))
      (fun l hl => by rw [htm]; exact hzv l (by rw [← htn]; exact hl)) c (by rw [htn]; exact hc)
    rw [this, htm]
    push_cast
    exact Int.mod_modEq _ _

theorem c04k_bgvE_rep {kl : KeyLevel} (hd : c04t_BgvData kl) (b : Nat) (hb : b < kl.c04t_P) :
    ((c04t_bgvE kl.c04t_P kl.t.value kl.invPModT b : Nat) : Int) ≡ (b : Int) [ZMOD (kl.c04t_P : Int)] ∧
    ((c04t_bgvE kl.c04t_P kl.t.value kl.invPModT b : Nat) : Int).natAbs ≤ kl.c04t_P * kl.t.value ∧
    (kl.t.value : Int) ∣ ((c04t_bgvE kl.c04t_P kl.t.value kl.invPModT b : Nat) : Int) := by
  have ht2 := hd.ht.two_le
  obtain ⟨e1, e2, e3⟩ := c04t_bgvE_facts (P := kl.c04t_P) (t := kl.t.value) (it := kl.invPModT) (by omega)
    (by rw [hd.hinvT, Nat.mod_eq_of_lt (by omega)]) hb
  exact ⟨Int.natCast_modEq_iff.mpr (e3.trans (Nat.mod_eq_of_lt hb).symm), by rw [Int.natAbs_natCast]; omega,
    Int.natCast_dvd_natCast.mpr e1⟩

theorem c04t_Rule.rep {kl : KeyLevel} {scheme : Scheme} {isNtt : Bool} {ρ : Nat → Int} (h : c04t_Rule kl scheme isNtt ρ)
    (hP : 0 < kl.c04t_P) (b : Nat) (hb : b < kl.c04t_P) : ρ b ≡ (b : Int) [ZMOD (kl.c04t_P : Int)] := by
  rcases h with ⟨-, rfl⟩ | ⟨-, -, hd, rfl⟩
  · exact (c04k_center_mod hP hb).1
  · exact (c04k_bgvE_rep hd b hb).1

theorem c04k_E_bound (n dsz : Nat) (tc : RnsPoly) (e : Nat → Nat → Int) (A Be : Nat)
    (hD : ∀ i, i < dsz → ∀ p, p < n → (c04k_digit tc i p).natAbs ≤ A)
    (he : ∀ i, i < dsz → ∀ p, p < n → (e i p).natAbs ≤ Be) {c : Nat} (hc : c < n) :
    (c04k_E n dsz tc e c).natAbs ≤ dsz * (A * (n * Be)) := by
  unfold c04k_E
  refine le_trans (Int.natAbs_sum_le _ _) ?_
  have : ∀ i ∈ range dsz, (negMulR n (c04k_digit tc i) (e i) c).natAbs ≤ A * (n * Be) := by
    intro i hi
    have hi' := mem_range.mp hi
    refine le_trans (c05u_negMul_bound n _ _ A c hc (hD i hi')) (Nat.mul_le_mul_left _ ?_)
    have h2 : ∑ p ∈ range n, (e i p).natAbs ≤ ∑ _p ∈ range n, Be :=
      Finset.sum_le_sum (fun p hp => he i hi' p (mem_range.mp hp))
    rw [Finset.sum_const, Finset.card_range, smul_eq_mul] at h2
    exact h2
  have h3 := Finset.sum_le_sum this
  rw [Finset.sum_const, Finset.card_range, smul_eq_mul] at h3
  exact h3

theorem c04k_nu_bound (n dsz P : Nat) (tc : RnsPoly) (e r : Nat → Nat → Int) (s : Nat → Int) (A Be Rb : Nat)
    (hD : ∀ i, i < dsz → ∀ p, p < n → (c04k_digit tc i p).natAbs ≤ A)
    (he : ∀ i, i < dsz → ∀ p, p < n → (e i p).natAbs ≤ Be)
    (hr : ∀ k, k < 2 → ∀ p, p < n → (r k p).natAbs ≤ Rb) {c : Nat} (hc : c < n)
    (hν : (P : Int) * c04k_nu n dsz P tc e r s c = c04k_E n dsz tc e c - r 0 c - negMulR n (r 1) s c) :
    (c04k_nu n dsz P tc e r s c).natAbs * P ≤ dsz * (A * (n * Be)) + Rb * (1 + ∑ p ∈ range n, (s p).natAbs) := by
  have h1 := c04k_E_bound n dsz tc e A Be hD he hc
  have h2 := c05u_negMul_bound n (r 1) s Rb c hc (hr 1 (by omega))
  have h3 := hr 0 (by omega) c hc
  have h4 : (c04k_nu n dsz P tc e r s c).natAbs * P = ((P : Int) * c04k_nu n dsz P tc e r s c).natAbs := by
    rw [Int.natAbs_mul, Int.natAbs_natCast, Nat.mul_comm]
  rw [h4, hν]
  have h5 := Int.natAbs_sub_le (c04k_E n dsz tc e c - r 0 c) (negMulR n (r 1) s c)
  have h6 := Int.natAbs_sub_le (c04k_E n dsz tc e c) (r 0 c)
  rw [Nat.mul_add, Nat.mul_one]
  omega

theorem c04k_digit_bound {kl : KeyLevel} {dsz : Nat} {tc : RnsPoly} (hc : c04t_Canon kl dsz tc) {A : Nat}
    (hA : ∀ i, i < dsz → (kl.m i).value ≤ A) : ∀ i, i < dsz → ∀ p, p < kl.n → (c04k_digit tc i p).natAbs ≤ A := by
  intro i hi p hp
  unfold c04k_digit
  rw [Int.natAbs_natCast]
  have := (hc i hi).2 p hp
  have := hA i hi
  omega

theorem c04k_digit_target {kl : KeyLevel} (hkl : kl.WF) {dsz : Nat} (hd : dsz + 1 ≤ kl.ms.size) (isNtt : Bool)
    {target : RnsPoly} (ht : c04t_Canon kl dsz target) {j : Nat} (hj : j < dsz) :
    c04k_digit (c04t_targetCoef kl dsz isNtt target) j = c04k_polyI (kl.tb j) isNtt (target.getD j #[]) := by
  obtain ⟨_, f2⟩ := c04t_targetCoef_facts hkl hd isNtt ht
  funext p
  unfold c04k_digit c04k_polyI c04t_coefOf
  cases isNtt with
  | false => simp [c04t_targetCoef]
  | true => rw [(f2 rfl).2 j hj]; simp

/-- the representatives modulo P of the two accumulated polynomials that the rule ρ subtracts -/
def c04k_rOf (kl : KeyLevel) (dsz : Nat) (tc : RnsPoly) (key : KSKey) (ρ : Nat → Int) : Nat → Nat → Int :=
  fun k c => ρ (c04t_accCoef kl dsz tc key (kl.ms.size - 1) k c)

/-- the key-switching noise polynomial for the rule ρ: ν = (Σ_i D_i ⋆ e_i − r_0 − r_1 ⋆ s) / P, r = `c04k_rOf` -/
def c04k_nuOf (kl : KeyLevel) (dsz : Nat) (isNtt : Bool) (target : RnsPoly) (key : KSKey) (e : Nat → Nat → Int) (ρ : Nat → Int)
    (s : Nat → Int) (c : Nat) : Int :=
  c04k_nu kl.n dsz kl.c04t_P (c04t_targetCoef kl dsz isNtt target) e
    (c04k_rOf kl dsz (c04t_targetCoef kl dsz isNtt target) key ρ) s c

theorem c04k_P_pos {kl : KeyLevel} {dsz : Nat} {ct : Ct} {target : RnsPoly} {key : KSKey}
    (h : c04t_KSInput kl dsz ct target key) : 0 < kl.c04t_P :=
  c04t_pos (c04t_kl_comp h.hkl (Nat.sub_lt (Nat.lt_of_lt_of_le Nat.zero_lt_two h.hsz) Nat.one_pos)).2.2.2

/-- `switchKey` under either rule ρ (`c04t_Rule`): it succeeds; flags, size and the polynomials of index ≥ 2 are kept; the two new
    polynomials are canonical; and for every level modulus q_j
      phase_s(ct'_0, ct'_1) ≡ phase_s(ct_0, ct_1) + target ⋆ s' + ν   (mod q_j),   ν = `c04k_nuOf … ρ`.
    Per modulus this is `c04k_finish` fed with the Z_q statement of the mod-down (`c04t_moddown_z`): P·δ ≡ X_j − ρ(X_P). -/
theorem c04k_switchKey {kl : KeyLevel} {scheme : Scheme} {dsz : Nat} {ct : Ct} {target : RnsPoly} {key : KSKey}
    (h : c04t_KSInput kl dsz ct target key) {ρ : Nat → Int} (hρ : c04t_Rule kl scheme ct.ntt ρ)
    (hkcc : (key.getD 0 #[]).size = 2) (hsz : 2 ≤ ct.polys.size)
    {s s' : Nat → Int} {e : Nat → Nat → Int} {G : Nat → Int} (hke : c04k_KeyEq kl dsz key s s' e G) :
    ∃ ct', switchKey kl scheme dsz ct target key = .ok ct' ∧ ct'.ntt = ct.ntt ∧ ct'.cf = ct.cf ∧
      ct'.polys.size = ct.polys.size ∧
      (∀ idx, 2 ≤ idx → ct'.polys.getD idx #[] = ct.polys.getD idx #[]) ∧
      (∀ k, k < 2 → (ct'.polys.getD k #[]).size = dsz ∧ c04t_Canon kl dsz (ct'.polys.getD k #[])) ∧
      ∀ j, j < dsz → ∀ c, c < kl.n →
        c05u_phase2 kl.n (c04k_polyI (kl.tb j) ct.ntt ((ct'.polys.getD 0 #[]).getD j #[]))
            (c04k_polyI (kl.tb j) ct.ntt ((ct'.polys.getD 1 #[]).getD j #[])) s c
          ≡ c05u_phase2 kl.n (c04k_polyI (kl.tb j) ct.ntt ((ct.polys.getD 0 #[]).getD j #[]))
              (c04k_polyI (kl.tb j) ct.ntt ((ct.polys.getD 1 #[]).getD j #[])) s c
            + negMulR kl.n (c04k_polyI (kl.tb j) ct.ntt (target.getD j #[])) s' c
            + c04k_nuOf kl dsz ct.ntt target key e ρ s c [ZMOD ((kl.m j).value : Int)] := by
  obtain ⟨ct', hok, hn, hcf, hps, hrest, hmain⟩ := c04t_moddown_z h hρ
  rw [hkcc] at hrest hmain
  have hP := c04k_P_pos h
  have hmw : ∀ j, j < dsz → (kl.m j).WF := fun j hj =>
    (c04t_kl_comp h.hkl (Nat.lt_of_lt_of_le hj (Nat.le_of_succ_le h.hd))).2.2.2
  have h2 : ∀ k, k < 2 → k < ct.polys.size := fun k hk => Nat.lt_of_lt_of_le hk hsz
  refine ⟨ct', hok, hn, hcf, hps, hrest, fun k hk => ⟨(hmain k hk (h2 k hk)).1, fun j hj => ?_⟩, fun j hj c hc => ?_⟩
  · obtain ⟨δ, -, -, hz, hzv, -⟩ := (hmain k hk (h2 k hk)).2 j hj
    exact ⟨hz, fun l hl => by rw [hzv l hl]; exact Nat.mod_lt _ (c04t_pos (hmw j hj))⟩
  · have hq := c04t_pos (hmw j hj)
    have hy : ((kl.invPModQ.getD j default).operand * kl.c04t_P) % (kl.m j).value = 1 % (kl.m j).value := by
      rw [(h.hinv j hj).2, Nat.mod_eq_of_lt (hmw j hj).two_le]
    have hδ : ∀ k, k < 2 → _ := fun k hk => (hmain k hk (h2 k hk)).2 j hj
    choose! δ hδs hδl hz hzv hZ using hδ
    have hfin := c04k_finish hke hP (c04t_targetCoef kl dsz ct.ntt target) (c04k_rOf kl dsz _ key ρ)
      (fun k _ c _ => hρ.rep hP _ (c04k_accCoef_lt dsz _ key (kl.ms.size - 1) k c hP)) hj hq hy
      (fun k => c04k_polyI (kl.tb j) ct.ntt ((ct.polys.getD k #[]).getD j #[]))
      (fun k => c04k_polyI (kl.tb j) ct.ntt ((ct'.polys.getD k #[]).getD j #[]))
      (fun k => c04k_polyI (kl.tb j) ct.ntt (δ k))
      (fun k hk => c04k_coef_add h.hkl (Nat.lt_of_lt_of_le hj (Nat.le_of_succ_le h.hd)) ct.ntt (h.hct k (hkcc ▸ hk) j hj).1
        (h.hct k (hkcc ▸ hk) j hj).2 (hδs k hk) (hδl k hk) (hz k hk) (hzv k hk))
      (fun k hk c hc => c04k_dz_z hy (hZ k hk c hc)) c hc
    rw [c04k_digit_target h.hkl h.hd ct.ntt h.htarget hj] at hfin
    exact hfin

theorem c04k_nuOf_mul {kl : KeyLevel} {dsz : Nat} {ct : Ct} {target : RnsPoly} {key : KSKey}
    (h : c04t_KSInput kl dsz ct target key) {ρ : Nat → Int}
    (hρ : ∀ b, b < kl.c04t_P → ρ b ≡ (b : Int) [ZMOD (kl.c04t_P : Int)])
    {s s' : Nat → Int} {e : Nat → Nat → Int} {G : Nat → Int} (hke : c04k_KeyEq kl dsz key s s' e G) {c : Nat} (hc : c < kl.n) :
    (kl.c04t_P : Int) * c04k_nuOf kl dsz ct.ntt target key e ρ s c =
      c04k_E kl.n dsz (c04t_targetCoef kl dsz ct.ntt target) e c
        - c04k_rOf kl dsz (c04t_targetCoef kl dsz ct.ntt target) key ρ 0 c
        - negMulR kl.n (c04k_rOf kl dsz (c04t_targetCoef kl dsz ct.ntt target) key ρ 1) s c :=
  have hP := c04k_P_pos h
  Int.mul_ediv_cancel' (c04k_nu_dvd hke hP _ _ (fun k _ c _ => hρ _ (c04k_accCoef_lt dsz _ key (kl.ms.size - 1) k c hP)) hc)

/-- explicit noise bound for ANY system ρ of representatives modulo P with |ρ| ≤ Rb: with q_i ≤ A for the level moduli and ‖e_i‖∞ ≤ Be,
    P·‖ν‖∞ ≤ dsz·A·n·Be + Rb·(1 + ‖s‖₁) -/
theorem c04k_noise_bound {kl : KeyLevel} {dsz : Nat} {ct : Ct} {target : RnsPoly} {key : KSKey}
    (h : c04t_KSInput kl dsz ct target key) {ρ : Nat → Int} {Rb : Nat}
    (hρ : ∀ b, b < kl.c04t_P → ρ b ≡ (b : Int) [ZMOD (kl.c04t_P : Int)] ∧ (ρ b).natAbs ≤ Rb)
    {s s' : Nat → Int} {e : Nat → Nat → Int} {G : Nat → Int} (hke : c04k_KeyEq kl dsz key s s' e G) {A Be : Nat}
    (hA : ∀ i, i < dsz → (kl.m i).value ≤ A) (he : ∀ i, i < dsz → ∀ p, p < kl.n → (e i p).natAbs ≤ Be) :
    ∀ c, c < kl.n → (c04k_nuOf kl dsz ct.ntt target key e ρ s c).natAbs * kl.c04t_P
      ≤ dsz * (A * (kl.n * Be)) + Rb * (1 + ∑ p ∈ range kl.n, (s p).natAbs) := fun _ hc =>
  have hP := c04k_P_pos h
  c04k_nu_bound kl.n dsz kl.c04t_P _ e _ s A Be Rb
    (c04k_digit_bound (c04t_targetCoef_facts h.hkl h.hd ct.ntt h.htarget).1 hA) he
    (fun k _ p _ => (hρ _ (c04k_accCoef_lt dsz _ key (kl.ms.size - 1) k p hP)).2) hc
    (c04k_nuOf_mul h (fun b hb => (hρ b hb).1) hke hc)

/-- the centred residues modulo P of the two accumulated polynomials (rounding branch) -/
def c04k_rStd (kl : KeyLevel) (dsz : Nat) (tc : RnsPoly) (key : KSKey) : Nat → Nat → Int :=
  fun k c => c04t_center kl.c04t_P (c04t_accCoef kl dsz tc key (kl.ms.size - 1) k c)

/-- the key-switching noise polynomial of the rounding branch:
    ν = (Σ_i D_i ⋆ e_i − r_0 − r_1 ⋆ s) / P,  r_k the centred residue mod P of the k-th accumulated polynomial -/
def c04k_nuStd (kl : KeyLevel) (dsz : Nat) (isNtt : Bool) (target : RnsPoly) (key : KSKey) (e : Nat → Nat → Int)
    (s : Nat → Int) (c : Nat) : Int :=
  c04k_nu kl.n dsz kl.c04t_P (c04t_targetCoef kl dsz isNtt target) e
    (c04k_rStd kl dsz (c04t_targetCoef kl dsz isNtt target) key) s c

/-- the noise of the rounding branch is `c04k_nuOf` at the centred lift: through this equation `c04k_switchKey` and `c04k_noise_bound`
    are read as `switchKey_phase` and `switchKey_noise_bound` -/
theorem c04k_nuStd_eq (kl : KeyLevel) (dsz : Nat) (isNtt : Bool) (target : RnsPoly) (key : KSKey) (e : Nat → Nat → Int) :
    c04k_nuStd kl dsz isNtt target key e = c04k_nuOf kl dsz isNtt target key e (c04t_center kl.c04t_P) := rfl

/-- `switchKey_phase` (rounding branch: BFV in coefficient form, CKKS in NTT form).
    Hypotheses: `c04t_KSInput` (well-formed key level, canonical inputs, accumulator guard, P^{-1} operands — C04T), a two-component
    key (`kcc = 2`), a ciphertext with at least two polynomials, and the KEY EQUATION `c04k_KeyEq`: for integer polynomials
    s, s', e_i and gadget integers G_i (G_i ≡ δ_ij mod q_j), the coefficient forms of the key rows satisfy
    k0_i + k1_i ⋆ s ≡ e_i + P·G_i·s' modulo every used key-level modulus (q_0 … q_{dsz-1} and P), ⋆ the negacyclic product.
    Conclusion: `switchKey` succeeds; representation flag, correction factor, number of polynomials and all polynomials of index ≥ 2
    are unchanged; the two new polynomials are canonical; and for every level modulus q_j and coefficient c (coefficient functions
    through `intt` when the data is in NTT form, `c05u_phase2 n c0 c1 s = c0 + c1 ⋆ s`):
      phase_s(ct'_0, ct'_1) ≡ phase_s(ct_0, ct_1) + target ⋆ s' + ν   (mod q_j)
    with ONE integer polynomial ν = `c04k_nuStd` independent of j: ν = (Σ_i D_i ⋆ e_i − r_0 − r_1 ⋆ s)/P (exact division), D_i the
    digits of the target, r_k the centred residues mod P of the accumulated polynomials. -/
theorem switchKey_phase {kl : KeyLevel} {scheme : Scheme} {dsz : Nat} {ct : Ct} {target : RnsPoly} {key : KSKey}
    (h : c04t_KSInput kl dsz ct target key) (hmode : c04t_StdMode scheme ct.ntt)
    (hkcc : (key.getD 0 #[]).size = 2) (hsz : 2 ≤ ct.polys.size)
    {s s' : Nat → Int} {e : Nat → Nat → Int} {G : Nat → Int} (hke : c04k_KeyEq kl dsz key s s' e G) :
    ∃ ct', switchKey kl scheme dsz ct target key = .ok ct' ∧ ct'.ntt = ct.ntt ∧ ct'.cf = ct.cf ∧
      ct'.polys.size = ct.polys.size ∧
      (∀ idx, 2 ≤ idx → ct'.polys.getD idx #[] = ct.polys.getD idx #[]) ∧
      (∀ k, k < 2 → (ct'.polys.getD k #[]).size = dsz ∧ c04t_Canon kl dsz (ct'.polys.getD k #[])) ∧
      ∀ j, j < dsz → ∀ c, c < kl.n →
        c05u_phase2 kl.n (c04k_polyI (kl.tb j) ct.ntt ((ct'.polys.getD 0 #[]).getD j #[]))
            (c04k_polyI (kl.tb j) ct.ntt ((ct'.polys.getD 1 #[]).getD j #[])) s c
          ≡ c05u_phase2 kl.n (c04k_polyI (kl.tb j) ct.ntt ((ct.polys.getD 0 #[]).getD j #[]))
              (c04k_polyI (kl.tb j) ct.ntt ((ct.polys.getD 1 #[]).getD j #[])) s c
            + negMulR kl.n (c04k_polyI (kl.tb j) ct.ntt (target.getD j #[])) s' c
            + c04k_nuStd kl dsz ct.ntt target key e s c [ZMOD ((kl.m j).value : Int)] :=
  c04k_switchKey h (.inl ⟨hmode, rfl⟩) hkcc hsz hke

/-- explicit noise bound (rounding branch): with q_i ≤ A for the level moduli and ‖e_i‖∞ ≤ Be,
    P·‖ν‖∞ ≤ dsz·A·n·Be + ⌊P/2⌋·(1 + ‖s‖₁),  i.e. ‖ν‖∞ ≤ dsz·n·A·Be/P + (1 + ‖s‖₁)/2 -/
theorem switchKey_noise_bound {kl : KeyLevel} {dsz : Nat} {ct : Ct} {target : RnsPoly} {key : KSKey}
    (h : c04t_KSInput kl dsz ct target key)
    {s s' : Nat → Int} {e : Nat → Nat → Int} {G : Nat → Int} (hke : c04k_KeyEq kl dsz key s s' e G) {A Be : Nat}
    (hA : ∀ i, i < dsz → (kl.m i).value ≤ A) (he : ∀ i, i < dsz → ∀ p, p < kl.n → (e i p).natAbs ≤ Be) :
    ∀ c, c < kl.n → (c04k_nuStd kl dsz ct.ntt target key e s c).natAbs * kl.c04t_P
      ≤ dsz * (A * (kl.n * Be)) + kl.c04t_P / 2 * (1 + ∑ p ∈ range kl.n, (s p).natAbs) :=
  c04k_noise_bound h (fun _ hb => c04k_center_mod (c04k_P_pos h) hb) hke hA he

/-- the multiples of t congruent modulo P to the two accumulated polynomials (BGV branch) -/
def c04k_rBgv (kl : KeyLevel) (dsz : Nat) (tc : RnsPoly) (key : KSKey) : Nat → Nat → Int :=
  fun k c => ((c04t_bgvE kl.c04t_P kl.t.value kl.invPModT (c04t_accCoef kl dsz tc key (kl.ms.size - 1) k c) : Nat) : Int)

/-- the key-switching noise polynomial of the BGV branch: ν = (Σ_i D_i ⋆ e_i − r_0 − r_1 ⋆ s) / P with r_k = `c04k_rBgv` -/
def c04k_nuBgv (kl : KeyLevel) (dsz : Nat) (isNtt : Bool) (target : RnsPoly) (key : KSKey) (e : Nat → Nat → Int)
    (s : Nat → Int) (c : Nat) : Int :=
  c04k_nu kl.n dsz kl.c04t_P (c04t_targetCoef kl dsz isNtt target) e
    (c04k_rBgv kl dsz (c04t_targetCoef kl dsz isNtt target) key) s c

/-- the noise of the BGV branch is `c04k_nuOf` at the multiple-of-t representative -/
theorem c04k_nuBgv_eq (kl : KeyLevel) (dsz : Nat) (isNtt : Bool) (target : RnsPoly) (key : KSKey) (e : Nat → Nat → Int) :
    c04k_nuBgv kl dsz isNtt target key e =
      c04k_nuOf kl dsz isNtt target key e (fun b => ((c04t_bgvE kl.c04t_P kl.t.value kl.invPModT b : Nat) : Int)) := rfl

/-- `switchKey_phase`, BGV branch (NTT form; `c04t_BgvData`: plain modulus t well-formed, `invPModT`·P ≡ 1 mod t).  Same frame;
    ν = `c04k_nuBgv` = (Σ_i D_i ⋆ e_i − r_0 − r_1 ⋆ s)/P with r_k the multiple of t in [0, P·t) congruent to the k-th accumulated
    polynomial modulo P.  The correction factor is unchanged (`ct'.cf = ct.cf`). -/
theorem switchKey_phase_bgv {kl : KeyLevel} {dsz : Nat} {ct : Ct} {target : RnsPoly} {key : KSKey}
    (h : c04t_KSInput kl dsz ct target key) (hb : c04t_BgvData kl) (hntt : ct.ntt = true)
    (hkcc : (key.getD 0 #[]).size = 2) (hsz : 2 ≤ ct.polys.size)
    {s s' : Nat → Int} {e : Nat → Nat → Int} {G : Nat → Int} (hke : c04k_KeyEq kl dsz key s s' e G) :
    ∃ ct', switchKey kl .bgv dsz ct target key = .ok ct' ∧ ct'.ntt = ct.ntt ∧ ct'.cf = ct.cf ∧
      ct'.polys.size = ct.polys.size ∧
      (∀ idx, 2 ≤ idx → ct'.polys.getD idx #[] = ct.polys.getD idx #[]) ∧
      (∀ k, k < 2 → (ct'.polys.getD k #[]).size = dsz ∧ c04t_Canon kl dsz (ct'.polys.getD k #[])) ∧
      ∀ j, j < dsz → ∀ c, c < kl.n →
        c05u_phase2 kl.n (c04k_polyI (kl.tb j) ct.ntt ((ct'.polys.getD 0 #[]).getD j #[]))
            (c04k_polyI (kl.tb j) ct.ntt ((ct'.polys.getD 1 #[]).getD j #[])) s c
          ≡ c05u_phase2 kl.n (c04k_polyI (kl.tb j) ct.ntt ((ct.polys.getD 0 #[]).getD j #[]))
              (c04k_polyI (kl.tb j) ct.ntt ((ct.polys.getD 1 #[]).getD j #[])) s c
            + negMulR kl.n (c04k_polyI (kl.tb j) ct.ntt (target.getD j #[])) s' c
            + c04k_nuBgv kl dsz ct.ntt target key e s c [ZMOD ((kl.m j).value : Int)] :=
  c04k_switchKey h (.inr ⟨rfl, hntt, hb, rfl⟩) hkcc hsz hke

/-- BGV noise: P·‖ν‖∞ ≤ dsz·A·n·Be + P·t·(1 + ‖s‖₁); and if every key error e_i is a multiple of t (BGV keys carry t·e), then
    ν ≡ 0 (mod t): the plaintext residue of the phase modulo t changes exactly by that of target ⋆ s', with the SAME correction factor. -/
theorem switchKey_noise_bound_bgv {kl : KeyLevel} {dsz : Nat} {ct : Ct} {target : RnsPoly} {key : KSKey}
    (h : c04t_KSInput kl dsz ct target key) (hb : c04t_BgvData kl)
    {s s' : Nat → Int} {e : Nat → Nat → Int} {G : Nat → Int} (hke : c04k_KeyEq kl dsz key s s' e G) {A Be : Nat}
    (hA : ∀ i, i < dsz → (kl.m i).value ≤ A) (he : ∀ i, i < dsz → ∀ p, p < kl.n → (e i p).natAbs ≤ Be) :
    ∀ c, c < kl.n → (c04k_nuBgv kl dsz ct.ntt target key e s c).natAbs * kl.c04t_P
      ≤ dsz * (A * (kl.n * Be)) + kl.c04t_P * kl.t.value * (1 + ∑ p ∈ range kl.n, (s p).natAbs) :=
  c04k_noise_bound h (fun b hlt => have r := c04k_bgvE_rep hb b hlt; ⟨r.1, r.2.1⟩) hke hA he

/-- BGV: if every key error e_i is a multiple of t, so is the key-switching noise ν = `c04k_nuBgv` (the message modulo t is untouched) -/
theorem switchKey_noise_bgv_mod_t {kl : KeyLevel} {dsz : Nat} {ct : Ct} {target : RnsPoly} {key : KSKey}
    (h : c04t_KSInput kl dsz ct target key) (hb : c04t_BgvData kl)
    {s s' : Nat → Int} {e : Nat → Nat → Int} {G : Nat → Int} (hke : c04k_KeyEq kl dsz key s s' e G)
    (het : ∀ i, i < dsz → ∀ p, p < kl.n → (kl.t.value : Int) ∣ e i p) :
    ∀ c, c < kl.n → (kl.t.value : Int) ∣ c04k_nuBgv kl dsz ct.ntt target key e s c := by
  intro c hc
  have hP := c04k_P_pos h
  have hr := fun k p => (c04k_bgvE_rep hb _
    (c04k_accCoef_lt dsz (c04t_targetCoef kl dsz ct.ntt target) key (kl.ms.size - 1) k p hP)).2.2
  have heq := c04k_nuOf_mul h (fun b hlt => (c04k_bgvE_rep hb b hlt).1) hke (s := s) hc
  rw [c04k_nuBgv_eq]
  generalize c04k_nuOf kl dsz ct.ntt target key e
    (fun b => ((c04t_bgvE kl.c04t_P kl.t.value kl.invPModT b : Nat) : Int)) s c = ν at heq ⊢
  have h1 : (kl.t.value : Int) ∣ c04k_E kl.n dsz (c04t_targetCoef kl dsz ct.ntt target) e c := by
    unfold c04k_E
    apply Finset.dvd_sum
    intro i hi
    rw [c04k_comm kl.n _ _ hc]
    exact c05u_negMul_dvd kl.n _ _ _ c (het i (mem_range.mp hi))
  have h2 : (kl.t.value : Int) ∣ (kl.c04t_P : Int) * ν := by
    rw [heq]
    exact dvd_sub (dvd_sub h1 (hr 0 c)) (c05u_negMul_dvd kl.n _ _ s c (fun p _ => hr 1 p))
  -- ν = P⁻¹·(P·ν) − t·(…): P is invertible modulo t
  have h3 := Nat.div_add_mod (kl.invPModT * kl.c04t_P) kl.t.value
  rw [hb.hinvT] at h3
  have h4 : ((kl.invPModT : Int)) * (kl.c04t_P : Int) = (kl.t.value : Int) * ((kl.invPModT * kl.c04t_P / kl.t.value : Nat) : Int) + 1 := by
    exact_mod_cast h3.symm
  have h5 : ν = (kl.invPModT : Int) * ((kl.c04t_P : Int) * ν)
      - (kl.t.value : Int) * (((kl.invPModT * kl.c04t_P / kl.t.value : Nat) : Int) * ν) := by
    linear_combination (-ν) * h4
  rw [h5]
  exact dvd_sub (Dvd.dvd.mul_left h2 _) (Dvd.intro _ rfl)

theorem c04k_phase2_modEq (n : Nat) (q : Int) {a0 a1 a0' a1' s : Nat → Int} {c : Nat} (hc : c < n)
    (h0 : ∀ i, i < n → a0 i ≡ a0' i [ZMOD q]) (h1 : ∀ i, i < n → a1 i ≡ a1' i [ZMOD q]) :
    c05u_phase2 n a0 a1 s c ≡ c05u_phase2 n a0' a1' s c [ZMOD q] := by
  unfold c05u_phase2
  exact (h0 c hc).add (c04k_negMul_modEq n q hc h1 (fun _ _ => Int.ModEq.refl _))

/-- an integer polynomial `Z` lifts the RNS polynomial `p` (given in the working representation) over the first `dsz` key-level moduli -/
def c04k_Lifts (kl : KeyLevel) (dsz : Nat) (isNtt : Bool) (p : RnsPoly) (Z : Nat → Int) : Prop :=
  ∀ j, j < dsz → ∀ c, c < kl.n → Z c ≡ c04k_polyI (kl.tb j) isNtt (p.getD j #[]) c [ZMOD ((kl.m j).value : Int)]

/-- the ciphertext level's RNS base is the base of the first `dsz` key-level moduli -/
structure c04k_BaseOf (kl : KeyLevel) (dsz : Nat) (b : RNSBase) : Prop where
  wf : b.WF
  size : b.size = dsz
  q : ∀ j, j < dsz → (b.q j).value = (kl.m j).value

/-- merge of the per-modulus phase congruences into one congruence modulo Q_level = Π_{j<dsz} q_j, for arbitrary integer lifts -/
theorem c04k_merge {kl : KeyLevel} {dsz : Nat} {b : RNSBase} (hb : c04k_BaseOf kl dsz b) (isNtt : Bool)
    {p0 p1 p0' p1' tg : RnsPoly} {s s' ν : Nat → Int}
    (h : ∀ j, j < dsz → ∀ c, c < kl.n →
      c05u_phase2 kl.n (c04k_polyI (kl.tb j) isNtt (p0'.getD j #[])) (c04k_polyI (kl.tb j) isNtt (p1'.getD j #[])) s c
        ≡ c05u_phase2 kl.n (c04k_polyI (kl.tb j) isNtt (p0.getD j #[])) (c04k_polyI (kl.tb j) isNtt (p1.getD j #[])) s c
          + negMulR kl.n (c04k_polyI (kl.tb j) isNtt (tg.getD j #[])) s' c + ν c [ZMOD ((kl.m j).value : Int)])
    {Z0 Z1 Z0' Z1' T : Nat → Int} (l0 : c04k_Lifts kl dsz isNtt p0 Z0) (l1 : c04k_Lifts kl dsz isNtt p1 Z1)
    (l0' : c04k_Lifts kl dsz isNtt p0' Z0') (l1' : c04k_Lifts kl dsz isNtt p1' Z1') (lT : c04k_Lifts kl dsz isNtt tg T) :
    ∀ c, c < kl.n → c05u_phase2 kl.n Z0' Z1' s c ≡
      c05u_phase2 kl.n Z0 Z1 s c + negMulR kl.n T s' c + ν c [ZMOD (b.prod : Int)] := by
  intro c hc
  apply RNSBase.WF.crt_modEq_int hb.wf
  intro j hj
  rw [hb.size] at hj
  rw [hb.q j hj]
  refine Int.ModEq.trans (c04k_phase2_modEq kl.n _ hc (fun i hi => l0' j hj i hi) (fun i hi => l1' j hj i hi)) ?_
  refine Int.ModEq.trans (h j hj c hc) ?_
  refine Int.ModEq.add (Int.ModEq.add ?_ ?_) (Int.ModEq.refl _)
  · exact (c04k_phase2_modEq kl.n _ hc (fun i hi => l0 j hj i hi) (fun i hi => l1 j hj i hi)).symm
  · exact (c04k_negMul_modEq kl.n _ hc (fun i hi => lT j hj i hi) (fun _ _ => Int.ModEq.refl _)).symm

/-- the coefficient-form RNS polynomial (over the first `dsz` key-level moduli) of a polynomial in the working representation -/
def c04k_coefRns (kl : KeyLevel) (dsz : Nat) (isNtt : Bool) (p : RnsPoly) : RnsPoly :=
  Array.ofFn (n := dsz) fun j => c04t_coefOf (kl.tb j.val) isNtt (p.getD j.val #[])

theorem c04k_coefRns_size (kl : KeyLevel) (dsz : Nat) (isNtt : Bool) (p : RnsPoly) : (c04k_coefRns kl dsz isNtt p).size = dsz := by
  simp [c04k_coefRns]

theorem c04k_coefRns_getD (kl : KeyLevel) (dsz : Nat) (isNtt : Bool) (p : RnsPoly) {j : Nat} (hj : j < dsz) :
    (c04k_coefRns kl dsz isNtt p).getD j #[] = c04t_coefOf (kl.tb j) isNtt (p.getD j #[]) := by
  unfold c04k_coefRns
  rw [array_getD_ofFn _ _ hj]

theorem c04k_crtPoly_lifts {kl : KeyLevel} {dsz : Nat} {b : RNSBase} (hb : c04k_BaseOf kl dsz b) (isNtt : Bool) (p : RnsPoly) :
    c04k_Lifts kl dsz isNtt p
      (fun c => (Spec.crtPoly (c01p_bvals b) (c04k_coefRns kl dsz isNtt p) kl.n).getD c 0) := by
  intro j hj c hc
  show (Spec.crtPoly (c01p_bvals b) (c04k_coefRns kl dsz isNtt p) kl.n).getD c 0 ≡ _ [ZMOD _]
  rw [c01p_crtPoly_getD _ _ _ hc]
  have h := (c01p_crt_spec hb.wf ((c04k_coefRns kl dsz isNtt p).toList.map (fun x => x.getD c 0))).2 j
    (by rw [hb.size]; exact hj)
  rw [c01p_toList_map_getD _ _ (by rw [c04k_coefRns_size]; exact hj), c04k_coefRns_getD _ _ _ _ hj, hb.q j hj] at h
  unfold c04k_polyI
  exact Int.natCast_modEq_iff.mpr h

/-- coefficient c of `Spec.phase` of a size-2 ciphertext is, modulo every q_j, the component-wise phase c0 + c1 ⋆ s
    (`c01p_phase_res` read at two polynomials) -/
theorem c04k_phase_res {b : RNSBase} (hb : b.WF) {n : Nat} {sk : Array Int} {C0 C1 : RnsPoly}
    {c : Nat} (hc : c < n) {j : Nat} (hj : j < b.size) :
    (Spec.phase (c01p_bvals b) n sk [C0, C1]).getD c 0 ≡
      c05u_phase2 n (fun p => (((C0.getD j #[]).getD p 0 : Nat) : Int)) (fun p => (((C1.getD j #[]).getD p 0 : Nat) : Int))
        (fun p => sk.getD p 0) c [ZMOD ((b.q j).value : Int)] := by
  apply (ZMod.intCast_eq_intCast_iff _ _ _).mp
  have e : c01p_bvals b = c07s_qsv b := (c07s_qsv_eq_range b).symm
  have h := congrArg (fun x => x.co c) (c01p_phase_res hb n sk (polys := [C0, C1]) (by simp) hj)
  simp only [c03k_toNP_co _ hc] at h
  rw [e, h, show [C0, C1].length = 1 + 1 from rfl, c03k_ctPhase_succ, c03k_ctPhase_succ, ctPhase, Finset.sum_range_zero, mul_zero,
    add_zero, c03k_NP.add_co, mul_comm, c03k_NP.mul_co_lt _ _ hc, c03k_toNP_co _ hc]
  unfold c05u_phase2
  rw [Int.cast_add, c04k_cast, Int.cast_natCast]
  refine congrArg _ ((c05u_negMul_congr n _ _ _ c fun i hi => c03k_toNP_co _ hi).trans
    (c04k_congr_right n _ _ _ hc fun i hi => c03k_toNP_co _ hi) |>.trans ?_)
  simp only [c07s_vecN, c07s_vecZ, Int.cast_natCast]
  rfl

/-- per-modulus congruences of the two-polynomial phase give the congruence of `Spec.phase` modulo the product -/
theorem c04k_phase_crt {b : RNSBase} (hb : b.WF) {n : Nat} {sk : Array Int} {C0 C1 : RnsPoly} {c : Nat} (hc : c < n) {x : Int}
    (h : ∀ j, j < b.size → c05u_phase2 n (fun p => (((C0.getD j #[]).getD p 0 : Nat) : Int))
      (fun p => (((C1.getD j #[]).getD p 0 : Nat) : Int)) (fun p => sk.getD p 0) c ≡ x [ZMOD ((b.q j).value : Int)]) :
    (Spec.phase (c01p_bvals b) n sk [C0, C1]).getD c 0 ≡ x [ZMOD (b.prod : Int)] :=
  RNSBase.WF.crt_modEq_int hb fun j hj => (c04k_phase_res hb hc hj).trans (h j hj)

theorem c04k_merge_spec {kl : KeyLevel} {dsz : Nat} {b : RNSBase} (hb : c04k_BaseOf kl dsz b) (isNtt : Bool)
    {p0 p1 p0' p1' tg : RnsPoly} {sk : Array Int} {s' ν : Nat → Int}
    (h : ∀ j, j < dsz → ∀ c, c < kl.n →
      c05u_phase2 kl.n (c04k_polyI (kl.tb j) isNtt (p0'.getD j #[])) (c04k_polyI (kl.tb j) isNtt (p1'.getD j #[]))
          (fun p => sk.getD p 0) c
        ≡ c05u_phase2 kl.n (c04k_polyI (kl.tb j) isNtt (p0.getD j #[])) (c04k_polyI (kl.tb j) isNtt (p1.getD j #[]))
            (fun p => sk.getD p 0) c
          + negMulR kl.n (c04k_polyI (kl.tb j) isNtt (tg.getD j #[])) s' c + ν c [ZMOD ((kl.m j).value : Int)]) :
    ∀ c, c < kl.n →
      (Spec.phase (c01p_bvals b) kl.n sk [c04k_coefRns kl dsz isNtt p0', c04k_coefRns kl dsz isNtt p1']).getD c 0 ≡
        (Spec.phase (c01p_bvals b) kl.n sk [c04k_coefRns kl dsz isNtt p0, c04k_coefRns kl dsz isNtt p1]).getD c 0
        + negMulR kl.n (fun i => (Spec.crtPoly (c01p_bvals b) (c04k_coefRns kl dsz isNtt tg) kl.n).getD i 0) s' c
        + ν c [ZMOD (b.prod : Int)] := by
  intro c hc
  refine c04k_phase_crt hb.wf hc fun j hj => ?_
  have hj' : j < dsz := by rw [← hb.size]; exact hj
  have e : ∀ p, (fun i => ((((c04k_coefRns kl dsz isNtt p).getD j #[]).getD i 0 : Nat) : Int))
      = c04k_polyI (kl.tb j) isNtt (p.getD j #[]) := fun p => by
    funext i; rw [c04k_coefRns_getD _ _ _ _ hj']; rfl
  have a2 := c04k_phase_res hb.wf (sk := sk) (C0 := c04k_coefRns kl dsz isNtt p0) (C1 := c04k_coefRns kl dsz isNtt p1) hc hj
  rw [e, e] at a2 ⊢
  rw [hb.q j hj'] at a2 ⊢
  refine Int.ModEq.trans (h j hj' c hc) ?_
  refine Int.ModEq.add (Int.ModEq.add a2.symm ?_) (Int.ModEq.refl _)
  exact (c04k_negMul_modEq kl.n _ hc (fun i hi => c04k_crtPoly_lifts hb isNtt tg j hj' i hi)
    (fun _ _ => Int.ModEq.refl _)).symm

/-- phase of a size-3 ciphertext component-wise: c0 + c1 ⋆ s + c2 ⋆ (s ⋆ s) -/
def c04k_phase3 (n : Nat) (c0 c1 c2 s : Nat → Int) (c : Nat) : Int :=
  c0 c + negMulR n c1 s c + negMulR n c2 (fun p => negMulR n s s p) c

theorem c04k_relin_ok {kl : KeyLevel} {scheme : Scheme} {dsz : Nat} {ct : Ct} {key : KSKey}
    (keys : Nat → Option KSKey) (fuel : Nat) (h3 : ct.polys.size = 3) (hk : keys 2 = some key) {ct' : Ct}
    (hok : switchKey kl scheme dsz ct (ct.polys.getD 2 #[]) key = .ok ct') (hps : ct'.polys.size = ct.polys.size) :
    ∃ ct'', relinearize kl scheme dsz keys (fuel + 2) ct = .ok ct'' ∧ ct''.polys.size = 2 ∧ ct''.ntt = ct'.ntt ∧
      ct''.cf = ct'.cf ∧ ∀ k, k < 2 → ct''.polys.getD k #[] = ct'.polys.getD k #[] := by
  have hs3 : ct'.polys.size = 3 := hps.trans h3
  refine ⟨_, relinearize_size3 kl scheme dsz keys fuel ct h3 hk hok hs3, ?_, rfl, rfl,
    fun k hk2 => array_getD_extract _ #[] (by omega) hk2⟩
  show (ct'.polys.extract 0 2).size = 2
  simp; omega

theorem c04k_gal_facts {k g : Nat} {m : Modulus} (hm : m.WF) (hg : g % 2 = 1) {a r : Array Nat} (hs : a.size = 2^k)
    (ha : ∀ i, i < 2^k → a.getD i 0 < m.value) (hr : galoisApply k a g m = .ok r) :
    r.size = 2^k ∧ (∀ c, c < 2^k → r.getD c 0 < m.value) ∧
    (∀ c, c < 2^k → ((r.getD c 0 : Nat) : ZMod m.value)
      = c04k_sigma (2^k) g (fun i => ((a.getD i 0 : Nat) : ZMod m.value)) c) ∧
    ∀ i, i < 2^k → ((r.getD ((i * g) % 2^k) 0 : Nat) : ZMod m.value) =
      (if ((i * g) / 2^k) % 2 = 1 then - ((a.getD i 0 : Nat) : ZMod m.value) else ((a.getD i 0 : Nat) : ZMod m.value)) := by
  obtain ⟨r', hr', hrs, hperm⟩ := galoisApply_zmod (k := k) (g := g) hm hg hs ha
  rw [hr] at hr'
  cases hr'
  refine ⟨hrs, (c04m_galoisApply_lt hm hg hs ha hr).2, fun c hc => ?_, hperm⟩
  · exact (c04k_sigma_of_perm hg (fun i => ((a.getD i 0 : Nat) : ZMod m.value))
      (fun c => ((r.getD c 0 : Nat) : ZMod m.value)) hperm c hc).symm

theorem c04k_pow_mod_period {R : Type} [CommRing R] (ψ : R) {n : Nat} (hψ : ψ ^ n = -1) {e1 e2 : Nat}
    (h : e1 % (2 * n) = e2 % (2 * n)) : ψ ^ e1 = ψ ^ e2 := by
  rw [← root_pow_mod hψ e1, h, root_pow_mod hψ]

/-- NTT form: `galoisApplyNtt` is `galoisApply` conjugated by the transform -/
theorem c04k_gal_ntt {t : NTTTables} (hw : t.WF) {g : Nat} (hg : g % 2 = 1) {x r : Array Nat} (hs : x.size = 2^t.k)
    (hx : ∀ i, i < 2^t.k → x.getD i 0 < t.modulus.value) (hr : galoisApply t.k (intt t x) g t.modulus = .ok r) :
    intt t (galoisApplyNtt t.k x g) = r := by
  have hz := hw.zfacts
  have hq2 := hz.q2
  obtain ⟨a1, a2⟩ := intt_sim hw x hs (fun j hj => by have := hx j hj; omega)
  obtain ⟨r1, r2, _, r4⟩ := c04k_gal_facts hw.mwf hg a1 (fun i hi => (a2 i hi).1) hr
  have hxe : x = ntt t (intt t x) := (ntt_intt hw x hs hx).symm
  have hgal : galoisApplyNtt t.k x g = ntt t r := by
    obtain ⟨n1, n2⟩ := ntt_eval hw r r1 (fun j hj => by have := r2 j hj; omega)
    obtain ⟨m1, m2⟩ := ntt_eval hw (intt t x) a1 (fun j hj => by have := (a2 j hj).1; omega)
    apply array_ext_getD (n := 2^t.k) (by simp [galoisApplyNtt, galoisTableNtt]) n1
    intro i hi
    have hsz : i < (galoisTableNtt t.k g).size := by simp [galoisTableNtt]; exact hi
    have htl := (galoisTable_spec (k := t.k) (g := g) hg hi).2
    unfold galoisApplyNtt
    rw [array_getD_map _ _ 0 0 hsz, n2 i hi]
    conv_lhs => rw [hxe]
    rw [m2 _ htl]
    apply cast_inj_lt (evalSpec_lt t (by omega) _ _) (evalSpec_lt t (by omega) _ _)
    rw [evalSpec_sum, evalSpec_sum]
    have hxp : ((t.root : ZMod t.modulus.value) ^ (2 * brev t.k i + 1)) ^ (2^t.k) = -1 := by
      rw [← pow_mul, Nat.mul_comm, pow_mul, hz.psi]
      exact Odd.neg_one_pow ⟨brev t.k i, rfl⟩
    have hexp : (t.root : ZMod t.modulus.value) ^ (2 * brev t.k ((galoisTableNtt t.k g).getD i 0) + 1)
        = ((t.root : ZMod t.modulus.value) ^ (2 * brev t.k i + 1)) ^ g := by
      rw [← pow_mul]
      apply c04k_pow_mod_period _ hz.psi
      rw [galoisTable_exponent hg hi, Nat.mul_comm g]
    rw [hexp]
    exact (subst_eval hg _ hxp (fun i => (((intt t x).getD i 0 : Nat) : ZMod t.modulus.value))
      (fun c => ((r.getD c 0 : Nat) : ZMod t.modulus.value)) r4).symm
  rw [hgal]
  exact intt_ntt hw r r1 r2

theorem c04k_gal_facts_int {k g : Nat} {m : Modulus} (hm : m.WF) (hg : g % 2 = 1) {a r : Array Nat} (hs : a.size = 2^k)
    (ha : ∀ i, i < 2^k → a.getD i 0 < m.value) (hr : galoisApply k a g m = .ok r) :
    ∀ c, c < 2^k → ((r.getD c 0 : Nat) : Int) ≡ c04k_sigma (2^k) g (fun i => ((a.getD i 0 : Nat) : Int)) c
      [ZMOD (m.value : Int)] := by
  intro c hc
  obtain ⟨_, _, r3, _⟩ := c04k_gal_facts hm hg hs ha hr
  apply (ZMod.intCast_eq_intCast_iff _ _ _).mp
  have e := c04k_sigma_map (Int.castRingHom (ZMod m.value)) (2^k) g (fun i => ((a.getD i 0 : Nat) : Int)) c
  simp only [eq_intCast, Int.cast_natCast] at e
  rw [e, Int.cast_natCast]
  exact r3 c hc

/-- the ciphertext level `l` consists of the first `l.size` key-level moduli, same degree -/
structure c04k_LevelOf (kl : KeyLevel) (l : Level) : Prop where
  n : l.n = kl.n
  k : 2^l.k = kl.n
  q : ∀ i, i < l.size → l.q i = kl.m i

theorem c04k_comp_hyps {kl : KeyLevel} (hkl : kl.WF) {l : Level} (hl : c04k_LevelOf kl l) (hd : l.size + 1 ≤ kl.ms.size)
    {p : RnsPoly} (hp : c04t_Canon kl l.size p) {i : Nat} (hi : i < l.size) :
    (l.q i).WF ∧ (p.getD i #[]).size = 2^l.k ∧ ∀ x, x < 2^l.k → (p.getD i #[]).getD x 0 < (l.q i).value := by
  rw [hl.q i hi, hl.k]
  exact ⟨(c04t_kl_comp hkl (Nat.lt_of_lt_of_le hi (Nat.le_of_succ_le hd))).2.2.2, (hp i hi).1, (hp i hi).2⟩

theorem c04k_comp_canon {kl : KeyLevel} {l : Level} (hl : c04k_LevelOf kl l) {p : RnsPoly} (hp : c04t_Canon kl l.size p) :
    ∀ i, i < l.size → (p.getD i #[]).size = l.n ∧ ∀ j, j < l.n → (p.getD i #[]).getD j 0 < (l.q i).value := fun i hi => by
  rw [hl.q i hi, hl.n]
  exact hp i hi

theorem c04k_canon_to {kl : KeyLevel} {l : Level} (hl : c04k_LevelOf kl l) {p : RnsPoly} (hc : RnsCanon l p) :
    c04t_Canon kl l.size p := fun j hj => by
  rw [← hl.n, ← hl.q j hj]
  exact hc.2 j hj

theorem c04k_galComp_ok {kl : KeyLevel} (hkl : kl.WF) {l : Level} (hl : c04k_LevelOf kl l) (hd : l.size + 1 ≤ kl.ms.size)
    {g : Nat} (hg : g % 2 = 1) {p : RnsPoly} (hp : c04t_Canon kl l.size p) {i : Nat} (hi : i < l.size) :
    galoisApply l.k (p.getD i #[]) g (l.q i) = .ok (c04k_galComp l false g p i) :=
  c04t_galComp_ok hg (c04k_comp_hyps hkl hl hd hp hi).1 (hl.k.trans hl.n.symm) (c04k_comp_canon hl hp i hi)

theorem c04k_gal_canon {kl : KeyLevel} (hkl : kl.WF) {l : Level} (hl : c04k_LevelOf kl l) (hd : l.size + 1 ≤ kl.ms.size)
    (isNtt : Bool) {g : Nat} (hg : g % 2 = 1) {p : RnsPoly} (hp : c04t_Canon kl l.size p) :
    c04t_Canon kl l.size (c04k_galRns l isNtt g p) := fun i hi => by
  have h := (c04t_galRns_canon (fun i hi => (c04k_comp_hyps hkl hl hd hp hi).1) (hl.k.trans hl.n.symm) isNtt hg
    (c04k_comp_canon hl hp)).2 i hi
  rwa [hl.n, hl.q i hi] at h

theorem c04k_applyGalois_eq {kl : KeyLevel} {l : Level} (hl : c04k_LevelOf kl l) {scheme : Scheme} {ct : Ct} {key : KSKey} {g : Nat}
    (h : c04t_KSInput kl l.size ct (ct.polys.getD 1 #[]) key) (h2 : ct.polys.size = 2) (hg : g % 2 = 1) (hg2 : g ≤ 2 * l.n)
    (hkcc : (key.getD 0 #[]).size = 2) :
    applyGalois kl l scheme ct g key =
      switchKey kl scheme l.size { ct with polys := #[c04k_galRns l ct.ntt g (ct.polys.getD 0 #[]), rnsZero l] }
        (c04k_galRns l ct.ntt g (ct.polys.getD 1 #[])) key :=
  c04t_applyGalois_eq kl scheme key (fun i hi => (c04k_comp_hyps h.hkl hl h.hd h.htarget hi).1) (hl.k.trans hl.n.symm) h2 hg hg2
    (c04k_comp_canon hl (h.hct 0 (hkcc ▸ Nat.zero_lt_two))) (c04k_comp_canon hl (h.hct 1 (hkcc ▸ Nat.one_lt_two)))

/-- the second polynomial handed to `switchKey` by `applyGalois` is zero: it drops out of the phase -/
theorem c04k_drop_rnsZero {kl : KeyLevel} (hkl : kl.WF) {l : Level} (hl : c04k_LevelOf kl l) {j : Nat} (hj : j < l.size)
    (hjs : j < kl.ms.size) {isNtt : Bool} {A s : Nat → Int} {c : Nat} {X B ν q : Int}
    (h : X ≡ c05u_phase2 kl.n A (c04k_polyI (kl.tb j) isNtt ((rnsZero l).getD j #[])) s c + B + ν [ZMOD q]) :
    X ≡ A c + B + ν [ZMOD q] := by
  obtain ⟨htw, _, htn, _⟩ := c04t_kl_comp hkl hjs
  have e : (rnsZero l).getD j #[] = Array.replicate kl.n 0 := by simp [rnsZero, Array.getD, hj, hl.n]
  unfold c05u_phase2 at h
  rwa [e, c04k_negMul_zero kl.n _ s c, add_zero] at h
  intro i hi
  unfold c04k_polyI c04t_coefOf
  cases isNtt with
  | false => simp [Array.getD]
  | true =>
    rw [if_pos rfl, c04t_intt_zero htw (by simp [htn]) (fun x _ => by simp [Array.getD]) i (htn ▸ hi)]
    rfl

/-- coefficient form: the Galois-permuted component is X ↦ X^g on the coefficient vector -/
theorem c04k_galRns_coeff {kl : KeyLevel} (hkl : kl.WF) {l : Level} (hl : c04k_LevelOf kl l) (hd : l.size + 1 ≤ kl.ms.size)
    {g : Nat} (hg : g % 2 = 1) {p : RnsPoly} (hp : c04t_Canon kl l.size p) {j : Nat} (hj : j < l.size) :
    ∀ i, i < kl.n → ((c04k_galRns l false g p).getD j #[]).getD ((i * g) % kl.n) 0 =
      (if ((i * g) / kl.n) % 2 = 1 then ((kl.m j).value - (p.getD j #[]).getD i 0) % (kl.m j).value
       else (p.getD j #[]).getD i 0) := by
  intro i hi
  obtain ⟨hm, hs, hb⟩ := c04k_comp_hyps hkl hl hd hp hj
  obtain ⟨r, hr, -, hrv⟩ := galoisApply_spec (g := g) hm hg hs hb
  rw [c04k_galComp_ok hkl hl hd hg hp hj] at hr
  rw [c04k_galRns_getD l false g p hj, Except.ok.inj hr, ← hl.k, hrv i (hl.k ▸ hi), hl.q j hj]

theorem c04k_galois_input {kl : KeyLevel} {l : Level} (hl : c04k_LevelOf kl l) {ct : Ct} {key : KSKey} {g : Nat}
    (h : c04t_KSInput kl l.size ct (ct.polys.getD 1 #[]) key) (hkcc : (key.getD 0 #[]).size = 2) (hg : g % 2 = 1) :
    c04t_KSInput kl l.size { ct with polys := #[c04k_galRns l ct.ntt g (ct.polys.getD 0 #[]), rnsZero l] }
      (c04k_galRns l ct.ntt g (ct.polys.getD 1 #[])) key := by
  refine ⟨h.hkl, h.hsz, h.hd, h.hks, c04k_gal_canon h.hkl hl h.hd ct.ntt hg h.htarget, h.hkey, h.hov, ?_, h.hinv⟩
  intro k hk
  rw [hkcc] at hk
  have hk' : k = 0 ∨ k = 1 := by omega
  rcases hk' with rfl | rfl
  · show c04t_Canon kl l.size (c04k_galRns l ct.ntt g (ct.polys.getD 0 #[]))
    exact c04k_gal_canon h.hkl hl h.hd ct.ntt hg (h.hct 0 (by rw [hkcc]; omega))
  · show c04t_Canon kl l.size (rnsZero l)
    intro j hj
    have hd := h.hd
    obtain ⟨_, _, _, hmw⟩ := c04t_kl_comp h.hkl (show j < kl.ms.size by omega)
    have hq2 := hmw.two_le
    have e : (rnsZero l).getD j #[] = Array.replicate l.n 0 := by simp [rnsZero, Array.getD, hj]
    rw [e]
    refine ⟨by simp [hl.n], fun x hx => ?_⟩
    have : (Array.replicate l.n (0 : Nat)).getD x 0 = 0 := by simp [Array.getD]
    rw [this]; omega

theorem c04k_galRns_sigma {kl : KeyLevel} (hkl : kl.WF) {l : Level} (hl : c04k_LevelOf kl l) (hd : l.size + 1 ≤ kl.ms.size)
    (isNtt : Bool) {g : Nat} (hg : g % 2 = 1) {p : RnsPoly} (hp : c04t_Canon kl l.size p) {j : Nat} (hj : j < l.size) :
    ∀ c, c < kl.n → c04k_polyI (kl.tb j) isNtt ((c04k_galRns l isNtt g p).getD j #[]) c ≡
      c04k_sigma kl.n g (c04k_polyI (kl.tb j) isNtt (p.getD j #[])) c [ZMOD ((kl.m j).value : Int)] := by
  intro c hc
  rw [c04k_galRns_getD l isNtt g p hj]
  unfold c04k_polyI c04t_coefOf
  cases isNtt with
  | false =>
    obtain ⟨hm, hs, hb⟩ := c04k_comp_hyps hkl hl hd hp hj
    have := c04k_gal_facts_int hm hg hs hb (c04k_galComp_ok hkl hl hd hg hp hj) c (hl.k ▸ hc)
    rw [hl.k, hl.q j hj] at this
    exact this
  | true =>
    obtain ⟨htw, htm, htn, -⟩ := c04t_kl_comp hkl (Nat.lt_of_lt_of_le hj (Nat.le_of_succ_le hd))
    have hk : l.k = (kl.tb j).k := Nat.pow_right_injective (le_refl 2) (hl.k.trans htn.symm)
    have hps : (p.getD j #[]).size = 2^(kl.tb j).k := (hp j hj).1.trans htn.symm
    have hpl : ∀ i, i < 2^(kl.tb j).k → (p.getD j #[]).getD i 0 < (kl.tb j).modulus.value := fun i hi => by
      rw [htm]; exact (hp j hj).2 i (htn ▸ hi)
    obtain ⟨a1, a2⟩ := intt_sim htw (p.getD j #[]) hps (fun i hi => Nat.lt_of_lt_of_le (hpl i hi) (Nat.le_mul_of_pos_left _ Nat.zero_lt_two))
    obtain ⟨r, hr, -⟩ := galoisApply_spec (g := g) htw.mwf hg a1 (fun i hi => (a2 i hi).1)
    have := c04k_gal_facts_int htw.mwf hg a1 (fun i hi => (a2 i hi).1) hr c (htn.symm ▸ hc)
    rw [htn, htm] at this
    unfold c04k_galComp
    rw [if_pos rfl, if_pos rfl, if_pos rfl, hk, c04k_gal_ntt htw hg hps hpl hr]
    exact this

/-- σ_g(c0) + σ_g(c1) ⋆ σ_g(s) = σ_g(c0 + c1 ⋆ s), up to congruence of the inputs -/
theorem c04k_sigma_phase {n g : Nat} (hg : g % 2 = 1) (q : Int) {a0 a1 s A0 A1 s' : Nat → Int}
    (h0 : ∀ i, i < n → A0 i ≡ c04k_sigma n g a0 i [ZMOD q]) (h1 : ∀ i, i < n → A1 i ≡ c04k_sigma n g a1 i [ZMOD q])
    (hs' : ∀ i, i < n → s' i = c04k_sigma n g s i) {c : Nat} (hc : c < n) :
    A0 c + negMulR n A1 s' c ≡ c04k_sigma n g (c05u_phase2 n a0 a1 s) c [ZMOD q] := by
  have e : c04k_sigma n g (c05u_phase2 n a0 a1 s) c
      = c04k_sigma n g a0 c + negMulR n (c04k_sigma n g a1) (c04k_sigma n g s) c := by
    rw [← c04k_sigma_mul hg a1 s hc, ← c04k_sigma_add]
    rfl
  rw [e]
  refine Int.ModEq.add (h0 c hc) (c04k_negMul_modEq n q hc h1 (fun i hi => ?_))
  rw [hs' i hi]

/-! ## non-vacuity: a key-switching key that satisfies the key equation with a non-zero error, on the key level `c04t_exKL` of C04T
    (N = 2, q = 13, P = 17, t = 5)

    s = 1 − X, s' = X, mask a = (100, 200) mod 221, error e = 1 − X:  k1 = a,  k0 = −a⋆s + e + P·s' (the P·s' term only modulo 13);
    the key is stored in NTT form. -/

def c04k_exKey : KSKey := #[#[#[#[9, 4], #[11, 3]], #[#[8, 10], #[16, 14]]]]
def c04k_exS : Nat → Int := fun p => if p = 0 then 1 else if p = 1 then -1 else 0
def c04k_exS' : Nat → Int := fun p => if p = 1 then 1 else 0
def c04k_exE : Nat → Nat → Int := fun _ p => if p = 0 then 1 else if p = 1 then -1 else 0
def c04k_exG : Nat → Int := fun _ => 1

theorem c04k_exKeyCoef :
    c04k_keyCoef c04t_exKL c04k_exKey 0 0 0 = #[0, 7] ∧ c04k_keyCoef c04t_exKL c04k_exKey 0 0 1 = #[9, 5] ∧
    c04k_keyCoef c04t_exKL c04k_exKey 1 0 0 = #[7, 1] ∧ c04k_keyCoef c04t_exKL c04k_exKey 1 0 1 = #[15, 13] := by
  decide +kernel

theorem c04k_negMul_two {R : Type} [CommRing R] (a b : Nat → R) :
    negMulR 2 a b 0 = a 0 * b 0 - a 1 * b 1 ∧ negMulR 2 a b 1 = a 0 * b 1 + a 1 * b 0 := by
  unfold negMulR
  simp only [Finset.sum_range_succ, Finset.sum_range_zero]
  constructor <;> norm_num <;> ring

theorem c04k_keyEq_two {kl : KeyLevel} (hn : kl.n = 2) {key : KSKey} {s s' : Nat → Int} {e : Nat → Nat → Int} {G : Nat → Int}
    (hG : G 0 ≡ 1 [ZMOD ((kl.m 0).value : Int)])
    (h : ∀ idx, c04k_Used kl 1 idx →
      c04k_keyI kl key idx 0 0 0 + (c04k_keyI kl key idx 0 1 0 * s 0 - c04k_keyI kl key idx 0 1 1 * s 1)
        ≡ e 0 0 + (kl.c04t_P : Int) * G 0 * s' 0 [ZMOD ((kl.m idx).value : Int)] ∧
      c04k_keyI kl key idx 0 0 1 + (c04k_keyI kl key idx 0 1 0 * s 1 + c04k_keyI kl key idx 0 1 1 * s 0)
        ≡ e 0 1 + (kl.c04t_P : Int) * G 0 * s' 1 [ZMOD ((kl.m idx).value : Int)]) :
    c04k_KeyEq kl 1 key s s' e G := by
  refine ⟨fun j hj i hi => ?_, fun idx hu i hi c hc => ?_⟩
  · obtain rfl : j = 0 := Nat.lt_one_iff.mp hj
    obtain rfl : i = 0 := Nat.lt_one_iff.mp hi
    exact hG
  · obtain rfl : i = 0 := Nat.lt_one_iff.mp hi
    rw [hn] at hc ⊢
    obtain rfl | rfl : c = 0 ∨ c = 1 := by omega
    · rw [(c04k_negMul_two _ _).1]; exact (h idx hu).1
    · rw [(c04k_negMul_two _ _).2]; exact (h idx hu).2

theorem c04k_exKL_vals : (c04t_exKL.m 0).value = 13 ∧ (c04t_exKL.m 1).value = 17 ∧ c04t_exKL.c04t_P = 17 :=
  ⟨(c04t_exMod_wf (v := 13) (by decide) (by decide)).2, (c04t_exMod_wf (v := 17) (by decide) (by decide)).2,
    (c04t_exMod_wf (v := 17) (by decide) (by decide)).2⟩

theorem c04k_exKeyEq : c04k_KeyEq c04t_exKL 1 c04k_exKey c04k_exS c04k_exS' c04k_exE c04k_exG := by
  obtain ⟨k1, k2, k3, k4⟩ := c04k_exKeyCoef
  obtain ⟨hm0, hm1, hP⟩ := c04k_exKL_vals
  refine c04k_keyEq_two rfl (Int.ModEq.refl _) fun idx hu => ?_
  obtain rfl | rfl : idx = 0 ∨ idx = 1 := hu.imp Nat.lt_one_iff.mp id
  · unfold c04k_keyI
    rw [hm0, hP, k1, k2]
    decide
  · unfold c04k_keyI
    rw [hm1, hP, k3, k4]
    decide

theorem c04k_exKSInput (ntt : Bool) : c04t_KSInput c04t_exKL 1 (c04t_exCt ntt) c04t_exTarget c04k_exKey := by
  have h := c04t_exKSInput ntt
  refine ⟨h.hkl, h.hsz, h.hd, by decide, h.htarget, ?_, h.hov, h.hct, h.hinv⟩
  unfold c04t_KeyCanonAt
  decide

/-- the level base {13}, built by the model's constructor -/
def c04k_exBase : RNSBase := match RNSBase.new [c04t_exMod 13] with | .ok b => b | .error _ => default

theorem c04k_exBaseOf : c04k_BaseOf c04t_exKL 1 c04k_exBase := by
  obtain ⟨m13, v13⟩ := c04t_exMod_wf (v := 13) (by decide) (by decide)
  obtain ⟨b, hb⟩ := c04t_isOk_ok (x := RNSBase.new [c04t_exMod 13]) (by decide)
  have e : c04k_exBase = b := by unfold c04k_exBase; rw [hb]
  rw [e]
  obtain ⟨hwf, hbase⟩ := RNSBase.new_wf (ms := [c04t_exMod 13]) (by intro m hm; simp at hm; subst hm; exact m13)
    (by decide) hb
  refine ⟨hwf, by unfold RNSBase.size; rw [hbase]; rfl, fun j hj => ?_⟩
  interval_cases j
  unfold RNSBase.q; rw [hbase]; rfl

/-- the ciphertext level {13} of the example key level -/
def c04k_exLevel : Level := ⟨.bfv, 2, 1, #[c04t_exMod 13], c04t_exMod 5, #[c04t_exTbl 13 5], default⟩

theorem c04k_exLevelOf : c04k_LevelOf c04t_exKL c04k_exLevel := by
  refine ⟨rfl, rfl, fun i hi => ?_⟩
  have : i < 1 := hi
  interval_cases i
  rfl

theorem c04k_exKSInput' (ntt : Bool) :
    c04t_KSInput c04t_exKL c04k_exLevel.size (c04t_exCt ntt) ((c04t_exCt ntt).polys.getD 1 #[]) c04k_exKey := by
  have h := c04k_exKSInput ntt
  exact ⟨h.hkl, h.hsz, h.hd, h.hks, h.hct 1 (by decide), h.hkey, h.hov, h.hct, h.hinv⟩

/-! ### from a key as the library generates it to `c04k_KeyEq` (general lemmas; the witnesses around them set G = 1 by hand) -/

/-- the gadget elements g_i = (Q/q_i)·[(Q/q_i)^{-1}]_{q_i} of the level base satisfy the `hG` field of `c04k_KeyEq` (`gadget_delta`) -/
theorem c04k_gadget_hG {kl : KeyLevel} {dsz : Nat} {b : RNSBase} (hb : c04k_BaseOf kl dsz b) :
    ∀ j, j < dsz → ∀ i, i < dsz →
      ((b.punct.getD i 0 * (b.invPunct.getD i default).operand : Nat) : Int) ≡ (if i = j then 1 else 0)
        [ZMOD ((kl.m j).value : Int)] := by
  intro j hj i hi
  have h := gadget_delta hb.wf (i := j) (j := i) (by rw [hb.size]; exact hj) (by rw [hb.size]; exact hi)
  have hq2 := (hb.wf.mwf j (by rw [hb.size]; exact hj)).two_le
  rw [hb.q j hj] at h hq2
  by_cases hij : i = j
  · subst hij
    rw [if_pos rfl] at h ⊢
    have : ((1 : Nat) : Int) = 1 := rfl
    rw [← this]
    exact Int.natCast_modEq_iff.mpr h
  · rw [if_neg (Ne.symm hij)] at h
    rw [if_neg hij]
    have : ((0 : Nat) : Int) = 0 := rfl
    rw [← this]
    exact Int.natCast_modEq_iff.mpr (by rw [Nat.ModEq, h, Nat.zero_mod])

/-- the key equation stated ONCE over ℤ[X]/(X^n+1) modulo M (e.g. M = Q_key = Q_level·P, or any multiple of the used key-level moduli)
    for integer lifts K_k,i of the key rows implies the per-modulus bundle `c04k_KeyEq` -/
theorem c04k_keyEq_of_int {kl : KeyLevel} {dsz : Nat} {key : KSKey} {s s' : Nat → Int} {e : Nat → Nat → Int} {G : Nat → Int}
    (M : Nat) (hM : ∀ idx, c04k_Used kl dsz idx → (kl.m idx).value ∣ M) (K : Nat → Nat → Nat → Int)
    (hres : ∀ idx, c04k_Used kl dsz idx → ∀ i, i < dsz → ∀ k, k < 2 → ∀ c, c < kl.n →
      K k i c ≡ c04k_keyI kl key idx i k c [ZMOD ((kl.m idx).value : Int)])
    (hG : ∀ j, j < dsz → ∀ i, i < dsz → G i ≡ (if i = j then 1 else 0) [ZMOD ((kl.m j).value : Int)])
    (heq : ∀ i, i < dsz → ∀ c, c < kl.n →
      K 0 i c + negMulR kl.n (K 1 i) s c ≡ e i c + (kl.c04t_P : Int) * G i * s' c [ZMOD (M : Int)]) :
    c04k_KeyEq kl dsz key s s' e G := by
  refine ⟨hG, fun idx hu i hi c hc => ?_⟩
  have h1 := (heq i hi c hc).of_dvd (Int.natCast_dvd_natCast.mpr (hM idx hu))
  refine Int.ModEq.trans ?_ h1
  exact ((hres idx hu i hi 0 (by omega) c hc).add
    (c04k_negMul_modEq kl.n _ hc (fun p hp => hres idx hu i hi 1 (by omega) p hp) (fun _ _ => Int.ModEq.refl _))).symm

/-! ### the world, continued -/

theorem c04k_exS_eq : c04k_exS = fun p => (#[1, -1] : Array Int).getD p 0 := by
  funext p
  match p with
  | 0 => rfl
  | 1 => rfl
  | p + 2 => simp [c04k_exS, Array.getD]

/-! ### a relinearisation key (s' = s ⋆ s = −2X) and a size-3 ciphertext on the same key level -/

def c04k_exRelinKey : KSKey := #[#[#[#[1, 12], #[11, 3]], #[#[8, 10], #[16, 14]]]]
def c04k_exCt3 (ntt : Bool) : Ct := ⟨#[#[#[1, 2]], #[#[3, 4]], #[#[5, 6]]], ntt, 1⟩

theorem c04k_exRelinKeyCoef :
    c04k_keyCoef c04t_exKL c04k_exRelinKey 0 0 0 = #[0, 8] ∧ c04k_keyCoef c04t_exKL c04k_exRelinKey 0 0 1 = #[9, 5] ∧
    c04k_keyCoef c04t_exKL c04k_exRelinKey 1 0 0 = #[7, 1] ∧ c04k_keyCoef c04t_exKL c04k_exRelinKey 1 0 1 = #[15, 13] := by
  decide +kernel

theorem c04k_exRelinKeyEq : c04k_KeyEq c04t_exKL 1 c04k_exRelinKey c04k_exS
    (fun p => negMulR c04t_exKL.n c04k_exS c04k_exS p) c04k_exE c04k_exG := by
  obtain ⟨k1, k2, k3, k4⟩ := c04k_exRelinKeyCoef
  obtain ⟨hm0, hm1, hP⟩ := c04k_exKL_vals
  have hs := c04k_negMul_two c04k_exS c04k_exS
  refine c04k_keyEq_two rfl (Int.ModEq.refl _) fun idx hu => ?_
  change _ ≡ _ + _ * negMulR 2 c04k_exS c04k_exS 0 [ZMOD _] ∧ _ ≡ _ + _ * negMulR 2 c04k_exS c04k_exS 1 [ZMOD _]
  obtain rfl | rfl : idx = 0 ∨ idx = 1 := hu.imp Nat.lt_one_iff.mp id
  · unfold c04k_keyI
    rw [hm0, hP, k1, k2, hs.1, hs.2]
    decide
  · unfold c04k_keyI
    rw [hm1, hP, k3, k4, hs.1, hs.2]
    decide

theorem c04k_exKSInput3 (ntt : Bool) :
    c04t_KSInput c04t_exKL 1 (c04k_exCt3 ntt) ((c04k_exCt3 ntt).polys.getD 2 #[]) c04k_exRelinKey := by
  have h := c04t_exKSInput ntt
  refine ⟨h.hkl, h.hsz, h.hd, by decide, ?_, ?_, h.hov, ?_, h.hinv⟩
  · show c04t_Canon c04t_exKL 1 #[#[5, 6]]
    unfold c04t_Canon; decide
  · unfold c04t_KeyCanonAt; decide
  · show ∀ k, k < 2 → c04t_Canon c04t_exKL 1 ((#[#[#[1, 2]], #[#[3, 4]], #[#[5, 6]]] : Array RnsPoly).getD k #[])
    unfold c04t_Canon; decide

/-- `switchKey_phase` modulo Q_level = Π_{j<dsz} q_j (`b.prod`, `b` the well-formed RNS base of the level moduli): for ARBITRARY
    integer lifts Z_k, Z'_k, T of the old polynomials, the new polynomials and the target (`c04k_Lifts`: congruent to the component
    coefficient functions modulo every q_j — e.g. the CRT lifts `Spec.crtPoly`),
      Z'_0 + Z'_1 ⋆ s ≡ Z_0 + Z_1 ⋆ s + T ⋆ s' + ν   (mod Q_level). -/
theorem switchKey_phase_crt {kl : KeyLevel} {scheme : Scheme} {dsz : Nat} {ct : Ct} {target : RnsPoly} {key : KSKey}
    (h : c04t_KSInput kl dsz ct target key) (hmode : c04t_StdMode scheme ct.ntt)
    (hkcc : (key.getD 0 #[]).size = 2) (hsz : 2 ≤ ct.polys.size)
    {s s' : Nat → Int} {e : Nat → Nat → Int} {G : Nat → Int} (hke : c04k_KeyEq kl dsz key s s' e G)
    {b : RNSBase} (hb : c04k_BaseOf kl dsz b) :
    ∃ ct', switchKey kl scheme dsz ct target key = .ok ct' ∧
      ∀ Z0 Z1 Z0' Z1' T : Nat → Int,
        c04k_Lifts kl dsz ct.ntt (ct.polys.getD 0 #[]) Z0 → c04k_Lifts kl dsz ct.ntt (ct.polys.getD 1 #[]) Z1 →
        c04k_Lifts kl dsz ct.ntt (ct'.polys.getD 0 #[]) Z0' → c04k_Lifts kl dsz ct.ntt (ct'.polys.getD 1 #[]) Z1' →
        c04k_Lifts kl dsz ct.ntt target T →
        ∀ c, c < kl.n → c05u_phase2 kl.n Z0' Z1' s c ≡
          c05u_phase2 kl.n Z0 Z1 s c + negMulR kl.n T s' c + c04k_nuStd kl dsz ct.ntt target key e s c
            [ZMOD (b.prod : Int)] := by
  obtain ⟨ct', hok, _, _, _, _, _, hph⟩ := switchKey_phase h hmode hkcc hsz hke
  exact ⟨ct', hok, fun Z0 Z1 Z0' Z1' T l0 l1 l0' l1' lT => c04k_merge hb ct.ntt hph l0 l1 l0' l1' lT⟩

theorem switchKey_phase_bgv_crt {kl : KeyLevel} {dsz : Nat} {ct : Ct} {target : RnsPoly} {key : KSKey}
    (h : c04t_KSInput kl dsz ct target key) (hbg : c04t_BgvData kl) (hntt : ct.ntt = true)
    (hkcc : (key.getD 0 #[]).size = 2) (hsz : 2 ≤ ct.polys.size)
    {s s' : Nat → Int} {e : Nat → Nat → Int} {G : Nat → Int} (hke : c04k_KeyEq kl dsz key s s' e G)
    {b : RNSBase} (hb : c04k_BaseOf kl dsz b) :
    ∃ ct', switchKey kl .bgv dsz ct target key = .ok ct' ∧
      ∀ Z0 Z1 Z0' Z1' T : Nat → Int,
        c04k_Lifts kl dsz ct.ntt (ct.polys.getD 0 #[]) Z0 → c04k_Lifts kl dsz ct.ntt (ct.polys.getD 1 #[]) Z1 →
        c04k_Lifts kl dsz ct.ntt (ct'.polys.getD 0 #[]) Z0' → c04k_Lifts kl dsz ct.ntt (ct'.polys.getD 1 #[]) Z1' →
        c04k_Lifts kl dsz ct.ntt target T →
        ∀ c, c < kl.n → c05u_phase2 kl.n Z0' Z1' s c ≡
          c05u_phase2 kl.n Z0 Z1 s c + negMulR kl.n T s' c + c04k_nuBgv kl dsz ct.ntt target key e s c
            [ZMOD (b.prod : Int)] := by
  obtain ⟨ct', hok, _, _, _, _, _, hph⟩ := switchKey_phase_bgv h hbg hntt hkcc hsz hke
  exact ⟨ct', hok, fun Z0 Z1 Z0' Z1' T l0 l1 l0' l1' lT => c04k_merge hb ct.ntt hph l0 l1 l0' l1' lT⟩

/-- `switchKey_phase` against the exact specification `Spec.phase` (big-integer phase, centred, of the coefficient forms
    `c04k_coefRns` of the first two polynomials; `c01p_bvals b` = the list of level moduli, `b.prod` = Q_level), secret `sk : Array Int`:
      Spec.phase(ct')[c] ≡ Spec.phase(ct)[c] + (T ⋆ s')[c] + ν[c]   (mod Q_level),  T = `Spec.crtPoly` of the target. -/
theorem switchKey_phase_spec {kl : KeyLevel} {scheme : Scheme} {dsz : Nat} {ct : Ct} {target : RnsPoly} {key : KSKey}
    (h : c04t_KSInput kl dsz ct target key) (hmode : c04t_StdMode scheme ct.ntt)
    (hkcc : (key.getD 0 #[]).size = 2) (hsz : 2 ≤ ct.polys.size)
    {sk : Array Int} {s' : Nat → Int} {e : Nat → Nat → Int} {G : Nat → Int}
    (hke : c04k_KeyEq kl dsz key (fun p => sk.getD p 0) s' e G) {b : RNSBase} (hb : c04k_BaseOf kl dsz b) :
    ∃ ct', switchKey kl scheme dsz ct target key = .ok ct' ∧
      ∀ c, c < kl.n →
        (Spec.phase (c01p_bvals b) kl.n sk [c04k_coefRns kl dsz ct.ntt (ct'.polys.getD 0 #[]),
            c04k_coefRns kl dsz ct.ntt (ct'.polys.getD 1 #[])]).getD c 0 ≡
          (Spec.phase (c01p_bvals b) kl.n sk [c04k_coefRns kl dsz ct.ntt (ct.polys.getD 0 #[]),
            c04k_coefRns kl dsz ct.ntt (ct.polys.getD 1 #[])]).getD c 0
          + negMulR kl.n (fun i => (Spec.crtPoly (c01p_bvals b) (c04k_coefRns kl dsz ct.ntt target) kl.n).getD i 0) s' c
          + c04k_nuStd kl dsz ct.ntt target key e (fun p => sk.getD p 0) c [ZMOD (b.prod : Int)] := by
  obtain ⟨ct', hok, _, _, _, _, _, hph⟩ := switchKey_phase h hmode hkcc hsz hke
  exact ⟨ct', hok, c04k_merge_spec hb ct.ntt hph⟩

theorem switchKey_phase_spec_bgv {kl : KeyLevel} {dsz : Nat} {ct : Ct} {target : RnsPoly} {key : KSKey}
    (h : c04t_KSInput kl dsz ct target key) (hbg : c04t_BgvData kl) (hntt : ct.ntt = true)
    (hkcc : (key.getD 0 #[]).size = 2) (hsz : 2 ≤ ct.polys.size)
    {sk : Array Int} {s' : Nat → Int} {e : Nat → Nat → Int} {G : Nat → Int}
    (hke : c04k_KeyEq kl dsz key (fun p => sk.getD p 0) s' e G) {b : RNSBase} (hb : c04k_BaseOf kl dsz b) :
    ∃ ct', switchKey kl .bgv dsz ct target key = .ok ct' ∧ ct'.cf = ct.cf ∧
      ∀ c, c < kl.n →
        (Spec.phase (c01p_bvals b) kl.n sk [c04k_coefRns kl dsz ct.ntt (ct'.polys.getD 0 #[]),
            c04k_coefRns kl dsz ct.ntt (ct'.polys.getD 1 #[])]).getD c 0 ≡
          (Spec.phase (c01p_bvals b) kl.n sk [c04k_coefRns kl dsz ct.ntt (ct.polys.getD 0 #[]),
            c04k_coefRns kl dsz ct.ntt (ct.polys.getD 1 #[])]).getD c 0
          + negMulR kl.n (fun i => (Spec.crtPoly (c01p_bvals b) (c04k_coefRns kl dsz ct.ntt target) kl.n).getD i 0) s' c
          + c04k_nuBgv kl dsz ct.ntt target key e (fun p => sk.getD p 0) c [ZMOD (b.prod : Int)] := by
  obtain ⟨ct', hok, _, hcf, _, _, _, hph⟩ := switchKey_phase_bgv h hbg hntt hkcc hsz hke
  exact ⟨ct', hok, hcf, c04k_merge_spec hb ct.ntt hph⟩

/-- `relinearize_phase` (rounding branch): a size-3 ciphertext (c0, c1, c2) relinearised with a key `keys 2` from s² to s
    (key equation with s' = s ⋆ s) becomes a size-2 ciphertext whose phase under s is c0 + c1 ⋆ s + c2 ⋆ s² + ν modulo every q_j,
    ν = `c04k_nuStd … (target := c2)` (bounded by `switchKey_noise_bound`). -/
theorem relinearize_phase {kl : KeyLevel} {scheme : Scheme} {dsz : Nat} {ct : Ct} {key : KSKey}
    (keys : Nat → Option KSKey) (fuel : Nat) (h3 : ct.polys.size = 3) (hk : keys 2 = some key)
    (h : c04t_KSInput kl dsz ct (ct.polys.getD 2 #[]) key) (hmode : c04t_StdMode scheme ct.ntt)
    (hkcc : (key.getD 0 #[]).size = 2)
    {s : Nat → Int} {e : Nat → Nat → Int} {G : Nat → Int}
    (hke : c04k_KeyEq kl dsz key s (fun p => negMulR kl.n s s p) e G) :
    ∃ ct'', relinearize kl scheme dsz keys (fuel + 2) ct = .ok ct'' ∧ ct''.polys.size = 2 ∧ ct''.ntt = ct.ntt ∧
      ct''.cf = ct.cf ∧
      (∀ k, k < 2 → (ct''.polys.getD k #[]).size = dsz ∧ c04t_Canon kl dsz (ct''.polys.getD k #[])) ∧
      ∀ j, j < dsz → ∀ c, c < kl.n →
        c05u_phase2 kl.n (c04k_polyI (kl.tb j) ct.ntt ((ct''.polys.getD 0 #[]).getD j #[]))
            (c04k_polyI (kl.tb j) ct.ntt ((ct''.polys.getD 1 #[]).getD j #[])) s c
          ≡ c04k_phase3 kl.n (c04k_polyI (kl.tb j) ct.ntt ((ct.polys.getD 0 #[]).getD j #[]))
              (c04k_polyI (kl.tb j) ct.ntt ((ct.polys.getD 1 #[]).getD j #[]))
              (c04k_polyI (kl.tb j) ct.ntt ((ct.polys.getD 2 #[]).getD j #[])) s c
            + c04k_nuStd kl dsz ct.ntt (ct.polys.getD 2 #[]) key e s c [ZMOD ((kl.m j).value : Int)] :=
  by
  obtain ⟨ct', hok, hn, hcf, hps, -, hcan, hph⟩ := switchKey_phase h hmode hkcc (by omega) hke
  obtain ⟨ct'', r1, r2, r3, r4, r5⟩ := c04k_relin_ok keys fuel h3 hk hok hps
  refine ⟨ct'', r1, r2, r3.trans hn, r4.trans hcf, fun k hk2 => by rw [r5 k hk2]; exact hcan k hk2, fun j hj c hc => ?_⟩
  rw [r5 0 Nat.zero_lt_two, r5 1 Nat.one_lt_two]
  exact hph j hj c hc

/-- `relinearize_phase`, BGV branch (ν = `c04k_nuBgv`, ≡ 0 mod t when t ∣ e: `switchKey_noise_bgv_mod_t`; `cf` unchanged) -/
theorem relinearize_phase_bgv {kl : KeyLevel} {dsz : Nat} {ct : Ct} {key : KSKey}
    (keys : Nat → Option KSKey) (fuel : Nat) (h3 : ct.polys.size = 3) (hk : keys 2 = some key)
    (h : c04t_KSInput kl dsz ct (ct.polys.getD 2 #[]) key) (hb : c04t_BgvData kl) (hntt : ct.ntt = true)
    (hkcc : (key.getD 0 #[]).size = 2)
    {s : Nat → Int} {e : Nat → Nat → Int} {G : Nat → Int}
    (hke : c04k_KeyEq kl dsz key s (fun p => negMulR kl.n s s p) e G) :
    ∃ ct'', relinearize kl .bgv dsz keys (fuel + 2) ct = .ok ct'' ∧ ct''.polys.size = 2 ∧ ct''.ntt = ct.ntt ∧
      ct''.cf = ct.cf ∧
      (∀ k, k < 2 → (ct''.polys.getD k #[]).size = dsz ∧ c04t_Canon kl dsz (ct''.polys.getD k #[])) ∧
      ∀ j, j < dsz → ∀ c, c < kl.n →
        c05u_phase2 kl.n (c04k_polyI (kl.tb j) ct.ntt ((ct''.polys.getD 0 #[]).getD j #[]))
            (c04k_polyI (kl.tb j) ct.ntt ((ct''.polys.getD 1 #[]).getD j #[])) s c
          ≡ c04k_phase3 kl.n (c04k_polyI (kl.tb j) ct.ntt ((ct.polys.getD 0 #[]).getD j #[]))
              (c04k_polyI (kl.tb j) ct.ntt ((ct.polys.getD 1 #[]).getD j #[]))
              (c04k_polyI (kl.tb j) ct.ntt ((ct.polys.getD 2 #[]).getD j #[])) s c
            + c04k_nuBgv kl dsz ct.ntt (ct.polys.getD 2 #[]) key e s c [ZMOD ((kl.m j).value : Int)] :=
  by
  obtain ⟨ct', hok, hn, hcf, hps, -, hcan, hph⟩ := switchKey_phase_bgv h hb hntt hkcc (by omega) hke
  obtain ⟨ct'', r1, r2, r3, r4, r5⟩ := c04k_relin_ok keys fuel h3 hk hok hps
  refine ⟨ct'', r1, r2, r3.trans hn, r4.trans hcf, fun k hk2 => by rw [r5 k hk2]; exact hcan k hk2, fun j hj c hc => ?_⟩
  rw [r5 0 Nat.zero_lt_two, r5 1 Nat.one_lt_two]
  exact hph j hj c hc

/-- `applyGalois_phase` (rounding branch: BFV coefficient form / CKKS NTT form).  `l` is the ciphertext level (`c04k_LevelOf`: its
    moduli are the first `l.size` key-level moduli), `g` an odd Galois element ≤ 2N, `key` a key from s' (= σ_g(s) for a Galois key)
    to s.  `applyGalois` succeeds and, with σ(c_k) = `c04k_galRns l ct.ntt g c_k` the component-wise Galois-permuted polynomials
    (coefficient form: exactly X ↦ X^g, `c04k_galRns_coeff`; NTT form: the table permutation `galoisApplyNtt`),
      phase_s(result) ≡ σ(c0) + σ(c1) ⋆ s' + ν   (mod q_j),   ν = `c04k_nuStd … (target := σ(c1))`. -/
theorem applyGalois_phase {kl : KeyLevel} {l : Level} (hl : c04k_LevelOf kl l) {scheme : Scheme} {ct : Ct} {key : KSKey}
    {g : Nat} (h : c04t_KSInput kl l.size ct (ct.polys.getD 1 #[]) key) (hmode : c04t_StdMode scheme ct.ntt)
    (h2 : ct.polys.size = 2) (hg : g % 2 = 1) (hg2 : g ≤ 2 * l.n) (hkcc : (key.getD 0 #[]).size = 2)
    {s s' : Nat → Int} {e : Nat → Nat → Int} {G : Nat → Int} (hke : c04k_KeyEq kl l.size key s s' e G) :
    ∃ ct', applyGalois kl l scheme ct g key = .ok ct' ∧ ct'.ntt = ct.ntt ∧ ct'.cf = ct.cf ∧ ct'.polys.size = 2 ∧
      (∀ k, k < 2 → (ct'.polys.getD k #[]).size = l.size ∧ c04t_Canon kl l.size (ct'.polys.getD k #[])) ∧
      ∀ j, j < l.size → ∀ c, c < kl.n →
        c05u_phase2 kl.n (c04k_polyI (kl.tb j) ct.ntt ((ct'.polys.getD 0 #[]).getD j #[]))
            (c04k_polyI (kl.tb j) ct.ntt ((ct'.polys.getD 1 #[]).getD j #[])) s c
          ≡ c04k_polyI (kl.tb j) ct.ntt ((c04k_galRns l ct.ntt g (ct.polys.getD 0 #[])).getD j #[]) c
            + negMulR kl.n (c04k_polyI (kl.tb j) ct.ntt ((c04k_galRns l ct.ntt g (ct.polys.getD 1 #[])).getD j #[])) s' c
            + c04k_nuStd kl l.size ct.ntt (c04k_galRns l ct.ntt g (ct.polys.getD 1 #[])) key e s c
              [ZMOD ((kl.m j).value : Int)] := by
  obtain ⟨ct', a1, a2, a3, a4, -, a6, a7⟩ := switchKey_phase (c04k_galois_input hl h hkcc hg) hmode hkcc (by simp) hke
  refine ⟨ct', (c04k_applyGalois_eq hl h h2 hg hg2 hkcc).trans a1, a2, a3, by rw [a4]; simp, a6, fun j hj c hc => ?_⟩
  exact c04k_drop_rnsZero h.hkl hl hj (Nat.lt_of_lt_of_le hj (Nat.le_of_succ_le h.hd)) (a7 j hj c hc)

theorem applyGalois_phase_bgv {kl : KeyLevel} {l : Level} (hl : c04k_LevelOf kl l) {ct : Ct} {key : KSKey}
    {g : Nat} (h : c04t_KSInput kl l.size ct (ct.polys.getD 1 #[]) key) (hb : c04t_BgvData kl) (hntt : ct.ntt = true)
    (h2 : ct.polys.size = 2) (hg : g % 2 = 1) (hg2 : g ≤ 2 * l.n) (hkcc : (key.getD 0 #[]).size = 2)
    {s s' : Nat → Int} {e : Nat → Nat → Int} {G : Nat → Int} (hke : c04k_KeyEq kl l.size key s s' e G) :
    ∃ ct', applyGalois kl l .bgv ct g key = .ok ct' ∧ ct'.ntt = ct.ntt ∧ ct'.cf = ct.cf ∧ ct'.polys.size = 2 ∧
      (∀ k, k < 2 → (ct'.polys.getD k #[]).size = l.size ∧ c04t_Canon kl l.size (ct'.polys.getD k #[])) ∧
      ∀ j, j < l.size → ∀ c, c < kl.n →
        c05u_phase2 kl.n (c04k_polyI (kl.tb j) ct.ntt ((ct'.polys.getD 0 #[]).getD j #[]))
            (c04k_polyI (kl.tb j) ct.ntt ((ct'.polys.getD 1 #[]).getD j #[])) s c
          ≡ c04k_polyI (kl.tb j) ct.ntt ((c04k_galRns l ct.ntt g (ct.polys.getD 0 #[])).getD j #[]) c
            + negMulR kl.n (c04k_polyI (kl.tb j) ct.ntt ((c04k_galRns l ct.ntt g (ct.polys.getD 1 #[])).getD j #[])) s' c
            + c04k_nuBgv kl l.size ct.ntt (c04k_galRns l ct.ntt g (ct.polys.getD 1 #[])) key e s c
              [ZMOD ((kl.m j).value : Int)] := by
  obtain ⟨ct', a1, a2, a3, a4, -, a6, a7⟩ :=
    switchKey_phase_bgv (c04k_galois_input hl h hkcc hg) hb hntt hkcc (by simp) hke
  refine ⟨ct', (c04k_applyGalois_eq hl h h2 hg hg2 hkcc).trans a1, a2, a3, by rw [a4]; simp, a6, fun j hj c hc => ?_⟩
  exact c04k_drop_rnsZero h.hkl hl hj (Nat.lt_of_lt_of_le hj (Nat.le_of_succ_le h.hd)) (a7 j hj c hc)

/-- `applyGalois_phase` with s' = σ_g(s) substituted: for a Galois key from s' = σ_g(s) to s (σ_g = `c04k_sigma n g`: X ↦ X^g on integer
    coefficient functions, multiplicative by `c04k_sigma_mul`), in BOTH representations (coefficient form via `galoisApply`, NTT form via
    `galoisApplyNtt` = `galoisApply` conjugated by the transform, `c04k_gal_ntt`):
      phase_s(result) ≡ σ_g(phase_s(ct)) + ν   (mod q_j),   phase_s(ct) = c0 + c1 ⋆ s. -/
theorem applyGalois_phase_sigma {kl : KeyLevel} {l : Level} (hl : c04k_LevelOf kl l) {scheme : Scheme} {ct : Ct} {key : KSKey}
    {g : Nat} (h : c04t_KSInput kl l.size ct (ct.polys.getD 1 #[]) key) (hmode : c04t_StdMode scheme ct.ntt)
    (h2 : ct.polys.size = 2) (hg : g % 2 = 1) (hg2 : g ≤ 2 * l.n) (hkcc : (key.getD 0 #[]).size = 2)
    {s s' : Nat → Int} {e : Nat → Nat → Int} {G : Nat → Int} (hke : c04k_KeyEq kl l.size key s s' e G)
    (hs' : ∀ p, p < kl.n → s' p = c04k_sigma kl.n g s p) :
    ∃ ct', applyGalois kl l scheme ct g key = .ok ct' ∧ ct'.ntt = ct.ntt ∧ ct'.cf = ct.cf ∧ ct'.polys.size = 2 ∧
      (∀ k, k < 2 → (ct'.polys.getD k #[]).size = l.size ∧ c04t_Canon kl l.size (ct'.polys.getD k #[])) ∧
      ∀ j, j < l.size → ∀ c, c < kl.n →
        c05u_phase2 kl.n (c04k_polyI (kl.tb j) ct.ntt ((ct'.polys.getD 0 #[]).getD j #[]))
            (c04k_polyI (kl.tb j) ct.ntt ((ct'.polys.getD 1 #[]).getD j #[])) s c
          ≡ c04k_sigma kl.n g (c05u_phase2 kl.n (c04k_polyI (kl.tb j) ct.ntt ((ct.polys.getD 0 #[]).getD j #[]))
              (c04k_polyI (kl.tb j) ct.ntt ((ct.polys.getD 1 #[]).getD j #[])) s) c
            + c04k_nuStd kl l.size ct.ntt (c04k_galRns l ct.ntt g (ct.polys.getD 1 #[])) key e s c
              [ZMOD ((kl.m j).value : Int)] := by
  obtain ⟨ct', a1, a2, a3, a4, a5, a6⟩ := applyGalois_phase hl h hmode h2 hg hg2 hkcc hke
  refine ⟨ct', a1, a2, a3, a4, a5, fun j hj c hc => ?_⟩
  refine Int.ModEq.trans (a6 j hj c hc) (Int.ModEq.add ?_ (Int.ModEq.refl _))
  exact c04k_sigma_phase hg _
    (c04k_galRns_sigma h.hkl hl h.hd ct.ntt hg (h.hct 0 (by rw [hkcc]; omega)) hj)
    (c04k_galRns_sigma h.hkl hl h.hd ct.ntt hg (h.hct 1 (by rw [hkcc]; omega)) hj) hs' hc

theorem applyGalois_phase_sigma_bgv {kl : KeyLevel} {l : Level} (hl : c04k_LevelOf kl l) {ct : Ct} {key : KSKey}
    {g : Nat} (h : c04t_KSInput kl l.size ct (ct.polys.getD 1 #[]) key) (hb : c04t_BgvData kl) (hntt : ct.ntt = true)
    (h2 : ct.polys.size = 2) (hg : g % 2 = 1) (hg2 : g ≤ 2 * l.n) (hkcc : (key.getD 0 #[]).size = 2)
    {s s' : Nat → Int} {e : Nat → Nat → Int} {G : Nat → Int} (hke : c04k_KeyEq kl l.size key s s' e G)
    (hs' : ∀ p, p < kl.n → s' p = c04k_sigma kl.n g s p) :
    ∃ ct', applyGalois kl l .bgv ct g key = .ok ct' ∧ ct'.ntt = ct.ntt ∧ ct'.cf = ct.cf ∧ ct'.polys.size = 2 ∧
      (∀ k, k < 2 → (ct'.polys.getD k #[]).size = l.size ∧ c04t_Canon kl l.size (ct'.polys.getD k #[])) ∧
      ∀ j, j < l.size → ∀ c, c < kl.n →
        c05u_phase2 kl.n (c04k_polyI (kl.tb j) ct.ntt ((ct'.polys.getD 0 #[]).getD j #[]))
            (c04k_polyI (kl.tb j) ct.ntt ((ct'.polys.getD 1 #[]).getD j #[])) s c
          ≡ c04k_sigma kl.n g (c05u_phase2 kl.n (c04k_polyI (kl.tb j) ct.ntt ((ct.polys.getD 0 #[]).getD j #[]))
              (c04k_polyI (kl.tb j) ct.ntt ((ct.polys.getD 1 #[]).getD j #[])) s) c
            + c04k_nuBgv kl l.size ct.ntt (c04k_galRns l ct.ntt g (ct.polys.getD 1 #[])) key e s c
              [ZMOD ((kl.m j).value : Int)] := by
  obtain ⟨ct', a1, a2, a3, a4, a5, a6⟩ := applyGalois_phase_bgv hl h hb hntt h2 hg hg2 hkcc hke
  refine ⟨ct', a1, a2, a3, a4, a5, fun j hj c hc => ?_⟩
  refine Int.ModEq.trans (a6 j hj c hc) (Int.ModEq.add ?_ (Int.ModEq.refl _))
  exact c04k_sigma_phase hg _
    (c04k_galRns_sigma h.hkl hl h.hd ct.ntt hg (h.hct 0 (by rw [hkcc]; omega)) hj)
    (c04k_galRns_sigma h.hkl hl h.hd ct.ntt hg (h.hct 1 (by rw [hkcc]; omega)) hj) hs' hc

/-- NON-VACUITY: the hypothesis bundles (`c04t_KSInput`, `c04k_KeyEq`, `c04k_BaseOf`, `c04t_BgvData`) hold on the concrete world
    `c04t_exKL` (N = 2, q = 13, P = 17, t = 5) with the genuine key `c04k_exKey` (s = 1 − X, s' = X, e = 1 − X), so the three branches
    of `switchKey_phase` and `applyGalois_phase` (with `c04k_LevelOf`, g = 3) apply there; the noise bound gives 17·|ν| ≤ 1·(13·(2·1)) + 8·(1 + 2) = 50, i.e. |ν| ≤ 2. -/
theorem switchKey_phase_nonvacuous :
    (∃ ct', switchKey c04t_exKL .bfv 1 (c04t_exCt false) c04t_exTarget c04k_exKey = .ok ct') ∧
    (∃ ct', switchKey c04t_exKL .ckks 1 (c04t_exCt true) c04t_exTarget c04k_exKey = .ok ct') ∧
    (∃ ct', switchKey c04t_exKL .bgv 1 (c04t_exCt true) c04t_exTarget c04k_exKey = .ok ct') ∧
    (∃ ct', applyGalois c04t_exKL c04k_exLevel .bfv (c04t_exCt false) 3 c04k_exKey = .ok ct') ∧
    (∃ ct', applyGalois c04t_exKL c04k_exLevel .bgv (c04t_exCt true) 3 c04k_exKey = .ok ct') ∧
    (∀ fuel keys, keys 2 = some c04k_exRelinKey →
      ∃ ct', relinearize c04t_exKL .bfv 1 keys (fuel + 2) (c04k_exCt3 false) = .ok ct') ∧
    (∀ fuel keys, keys 2 = some c04k_exRelinKey →
      ∃ ct', relinearize c04t_exKL .bgv 1 keys (fuel + 2) (c04k_exCt3 true) = .ok ct') ∧
    (∃ ct', switchKey c04t_exKL .bfv 1 (c04t_exCt false) c04t_exTarget c04k_exKey = .ok ct' ∧ ∀ c, c < 2 →
      (Spec.phase (c01p_bvals c04k_exBase) 2 #[1, -1] [c04k_coefRns c04t_exKL 1 false (ct'.polys.getD 0 #[]),
          c04k_coefRns c04t_exKL 1 false (ct'.polys.getD 1 #[])]).getD c 0 ≡
        (Spec.phase (c01p_bvals c04k_exBase) 2 #[1, -1] [c04k_coefRns c04t_exKL 1 false ((c04t_exCt false).polys.getD 0 #[]),
          c04k_coefRns c04t_exKL 1 false ((c04t_exCt false).polys.getD 1 #[])]).getD c 0
        + negMulR 2 (fun i => (Spec.crtPoly (c01p_bvals c04k_exBase) (c04k_coefRns c04t_exKL 1 false c04t_exTarget) 2).getD i 0)
            c04k_exS' c
        + c04k_nuStd c04t_exKL 1 false c04t_exTarget c04k_exKey c04k_exE (fun p => (#[1, -1] : Array Int).getD p 0) c
          [ZMOD (c04k_exBase.prod : Int)]) ∧
    (∀ c, c < 2 → (c04k_nuStd c04t_exKL 1 false c04t_exTarget c04k_exKey c04k_exE c04k_exS c).natAbs * c04t_exKL.c04t_P
      ≤ 1 * (13 * (2 * 1)) + c04t_exKL.c04t_P / 2 * (1 + ∑ p ∈ range 2, (c04k_exS p).natAbs)) ∧
    c04k_BaseOf c04t_exKL 1 c04k_exBase := by
  refine ⟨(switchKey_phase (c04k_exKSInput false) (Or.inl ⟨rfl, rfl⟩) rfl (by decide) c04k_exKeyEq).imp fun _ h => h.1,
    (switchKey_phase (c04k_exKSInput true) (Or.inr ⟨rfl, rfl⟩) rfl (by decide) c04k_exKeyEq).imp fun _ h => h.1,
    (switchKey_phase_bgv (c04k_exKSInput true) c04t_exBgvData rfl rfl (by decide) c04k_exKeyEq).imp fun _ h => h.1,
    (applyGalois_phase c04k_exLevelOf (c04k_exKSInput' false) (Or.inl ⟨rfl, rfl⟩) rfl (by decide) (by decide) rfl
      c04k_exKeyEq).imp fun _ h => h.1,
    (applyGalois_phase_bgv c04k_exLevelOf (c04k_exKSInput' true) c04t_exBgvData rfl rfl (by decide) (by decide) rfl
      c04k_exKeyEq).imp fun _ h => h.1,
    fun fuel keys hk => (relinearize_phase keys fuel rfl hk (c04k_exKSInput3 false) (Or.inl ⟨rfl, rfl⟩) rfl
      c04k_exRelinKeyEq).imp fun _ h => h.1,
    fun fuel keys hk => (relinearize_phase_bgv keys fuel rfl hk (c04k_exKSInput3 true) c04t_exBgvData rfl rfl
      c04k_exRelinKeyEq).imp fun _ h => h.1,
    switchKey_phase_spec (c04k_exKSInput false) (Or.inl ⟨rfl, rfl⟩) rfl (by decide) (c04k_exS_eq ▸ c04k_exKeyEq)
      c04k_exBaseOf,
    ?_, c04k_exBaseOf⟩
  exact switchKey_noise_bound (c04k_exKSInput false) c04k_exKeyEq (A := 13) (Be := 1)
    (fun i hi => by obtain rfl : i = 0 := Nat.lt_one_iff.mp hi; exact le_of_eq c04k_exKL_vals.1)
    (fun i _ p _ => by unfold c04k_exE; split <;> [decide; (split <;> decide)])

end HC
