import Heathcliff.Proofs.C20B
import Heathcliff.Proofs.C20C
import Heathcliff.Proofs.C20D
import Heathcliff.Proofs.C20F
import Heathcliff.Proofs.C20G
import Heathcliff.Proofs.C20H
import Heathcliff.Proofs.C20I
import Heathcliff.Proofs.C20J
import Heathcliff.Proofs.C20K
import Heathcliff.Proofs.C20M
import Heathcliff.Proofs.C20N
import Heathcliff.Proofs.C20O
import Heathcliff.Proofs.GenAppC20
import Heathcliff.Proofs.GenAppEnc

/- Property C20: homomorphic matrix products and convolutions equal plaintext ones, all shapes.
   The statements that stand for the property are the whole-pipeline ones — `cheetah_matmul_whole` / `_search` / `_mod_t`,
   `conv2d_whole` / `_search`, `OutputsEncodeDecodeStatement`, `BoltCpStatement`, `BoltCcCrStatement`, `BoltCcDcStatement` — with the
   block searches (`block_search_sound`, `block_search_sound_pack`, `conv_block_search_sound`), `rnsp_crt` and the `gen_*` ties to
   the translated code.  The other theorems state the steps these are composed from (the block coefficient theorems, the encoder
   and decoder specifications, the slot algebra of the BOLT schedules), each readable on its own.  A theorem given as
   `type_of% @HC.c20_x` has the statement of `c20_x` in Heathcliff/Proofs/C20*.lean.  Proofs are the helper lemmas there (for the
   translator tie those of Heathcliff/Proofs/GenApp*.lean).  Everything is at the level of plaintext polynomials and slot vectors;
   the head of Proofs/C20H.lean says what of the model no theorem speaks of. -/
namespace HC.C20
open HC HC.MM Finset

/-- **coefficient packing, one block pair** (all shapes, all blocks with `b·i·o ≤ N`, any commutative ring): the coefficient of
    the negacyclic product of the encoded input block (batch rows `li..ui`, input columns `lj..uj`) and the encoded weight block
    (rows `lj..uj`, output columns `lk..uk`) read at the output position of entry (`db`, `dk`) is the partial dot product
    `Σ_j x[li+db][lj+j]·w[lj+j][lk+dk]`.  No other pair of coefficients and no wrap-around term contributes; a partial last block
    (`uj − lj < i` etc.) behaves as zero padding (the sum ranges over the entries that exist). -/
theorem cheetah_coeff {R : Type} [CommRing R] (h : Helper) (x w : Nat → R) (hfit : h.bb * h.ib * h.ob ≤ h.n)
    (li ui lj uj lk uk : Nat) (hb : ui - li ≤ h.bb) (hi : uj - lj ≤ h.ib) (ho : uk - lk ≤ h.ob)
    (db dk : Nat) (hdb : db < ui - li) (hdk : dk < uk - lk) :
    ∃ px pw, encInputBlock h 0 x li ui lj uj = .ok px ∧ encWeightSmall h 0 w lj uj lk uk = .ok pw ∧
      negMulR h.n (fun p => px.getD p 0) (fun p => pw.getD p 0) (outPos h db dk)
        = ∑ j ∈ range (uj - lj), x ((li + db) * h.id + (lj + j)) * w ((lj + j) * h.od + (lk + dk)) :=
  HC.c20_cheetah_coeff h x w hfit li ui lj uj lk uk hb hi ho db dk hdb hdk

/-- summing the block results over the input blocks `[ii·i, min(input_dims, ii·i + i))` (what `matmul` does with `add_inplace`)
    gives the entry of the matrix product -/
theorem cheetah_matmul {R : Type} [CommRing R] (x w : Nat → R) (id od ib row col : Nat) (hib : 0 < ib) :
    ∑ ii ∈ range (ceilDiv id ib), ∑ j ∈ range (min id (ii * ib + ib) - ii * ib),
        x (row * id + (ii * ib + j)) * w ((ii * ib + j) * od + col)
      = ∑ j ∈ range id, x (row * id + j) * w (j * od + col) :=
  HC.c20_sum_blocks (fun j => x (row * id + j) * w (j * od + col)) ib id hib

/-- the encoded input block (`encode_inputs_*`, batch rows `li..ui`, input columns `lj..uj`) as a function of the position: total, of
    `n` coefficients, entry (`db`, `dj`) at `inPos h db dj`, zero at every other position -/
theorem encoded_input_block {R : Type} (zero : R) (h : Helper) (x : Nat → R) (hfit : h.bb * h.ib * h.ob ≤ h.n) (hob : 0 < h.ob)
    (li ui lj uj : Nat) (hb : ui - li ≤ h.bb) (hi : uj - lj ≤ h.ib) :
    ∃ px, encInputBlock h zero x li ui lj uj = .ok px ∧ px.size = h.n ∧
      (∀ q, (∀ db dj, db < ui - li → dj < uj - lj → inPos h db dj ≠ q) → px.getD q zero = zero) ∧
      (∀ db dj, db < ui - li → dj < uj - lj → px.getD (inPos h db dj) zero = x ((li + db) * h.id + (lj + dj))) :=
  HC.c20_encInput_spec zero h x hfit hob li ui lj uj hb hi

/-- the encoded weight block (`encode_weight_small_*`, input rows `li..ui`, output columns `lk..uk`): total, of `ib·ob` coefficients,
    entry (`di`, `dk`) at `wPos h dk di` (the rows of a column reversed), zero at every other position -/
theorem encoded_weight_block {R : Type} (zero : R) (h : Helper) (w : Nat → R) (hfit : h.ib * h.ob ≤ h.n)
    (li ui lk uk : Nat) (hi : ui - li ≤ h.ib) (ho : uk - lk ≤ h.ob) :
    ∃ pw, encWeightSmall h zero w li ui lk uk = .ok pw ∧ pw.size = h.ib * h.ob ∧
      (∀ q, (∀ dk di, dk < uk - lk → di < ui - li → wPos h dk di ≠ q) → pw.getD q zero = zero) ∧
      (∀ dk di, dk < uk - lk → di < ui - li → pw.getD (wPos h dk di) zero = w ((li + di) * h.od + (lk + dk))) :=
  HC.c20_encWeight_spec zero h w hfit li ui lk uk hi ho

/-- **block search, coefficient packing**: for every admissible shape (positive dimensions below 2^20, `N ≥ 2`) and objective the
    returned blocks are non-zero, within the matrix and satisfy `b·i·o ≤ N` -/
theorem block_search_sound (N bs id od : Nat) (obj : Objective) (hN : 2 ≤ N) (hbs : 1 ≤ bs) (hid : 1 ≤ id) (hod : 1 ≤ od)
    (hsz : bs < 2^20 ∧ id < 2^20 ∧ od < 2^20) :
    let st := mmSearch N bs id od obj
    1 ≤ st.b ∧ st.b ≤ bs ∧ 1 ≤ st.i ∧ st.i ≤ id ∧ 1 ≤ st.o ∧ st.o ≤ od ∧ st.b * st.i * st.o ≤ N :=
  HC.c20_mmSearch_sound N bs id od obj hN hbs hid hod hsz

/-- with LWE packing the input block is the fixed power of two `packI` (it may exceed `input_dims`: zero padding) -/
theorem block_search_sound_pack (N bs id od : Nat) (obj : Objective) (hN : 1 ≤ N) (hbs : 1 ≤ bs) (hod : 1 ≤ od)
    (hsz : bs < 2^20 ∧ id < 2^20 ∧ od < 2^20) :
    let st := mmPackSearch N bs id od obj
    1 ≤ st.b ∧ st.b ≤ bs ∧ st.i = packI N id ∧ 1 ≤ st.i ∧ 1 ≤ st.o ∧ st.o ≤ od ∧ st.b * st.i * st.o ≤ N :=
  HC.c20_mmPackSearch_sound N bs id od obj hN hbs hod hsz

/-- **block search, convolution**: for every admissible shape (kernel inside the image, `kh·kw ≤ N`, dimensions ≤ 2^15) the returned
    blocks are non-zero, contain the kernel, lie within the tensor and satisfy `b·ci·co·h·w ≤ N` -/
theorem conv_block_search_sound (S : ConvShape) (N : Nat) (obj : Objective) (hb : 1 ≤ S.b) (hci : 1 ≤ S.ci) (hco : 1 ≤ S.co)
    (hkh : 1 ≤ S.kh) (hkw : 1 ≤ S.kw) (hh : S.kh ≤ S.h) (hw : S.kw ≤ S.w) (hN : S.kh * S.kw ≤ N)
    (hsz : S.b ≤ 2^15 ∧ S.ci ≤ 2^15 ∧ S.co ≤ 2^15 ∧ S.h ≤ 2^15 ∧ S.w ≤ 2^15) :
    let st := cvSearch S N obj
    1 ≤ st.b ∧ st.b ≤ S.b ∧ S.kh ≤ st.h ∧ st.h ≤ S.h ∧ S.kw ≤ st.w ∧ st.w ≤ S.w ∧ 1 ≤ st.ci ∧ st.ci ≤ S.ci ∧ 1 ≤ st.co ∧ st.co ≤ S.co
      ∧ st.ci * st.co * st.w * st.h * st.b ≤ N :=
  HC.c20_cvSearch_sound S N obj hb hci hco hkh hkw hh hw hN hsz

/-- **the weight buffer fits**: for the blocks the search returns, the buffer `spread` written by `encode_weights_*` (sized with the
    height *block*) has at most `N` entries, as `encode_polynomial` requires; so has a whole encoded input polynomial -/
theorem spread_fits (S : ConvShape) (N : Nat) (obj : Objective) (hb : 1 ≤ S.b) (hci : 1 ≤ S.ci) (hco : 1 ≤ S.co)
    (hkh : 1 ≤ S.kh) (hkw : 1 ≤ S.kw) (hh : S.kh ≤ S.h) (hw : S.kw ≤ S.w) (hN : S.kh * S.kw ≤ N)
    (hsz : S.b ≤ 2^15 ∧ S.ci ≤ 2^15 ∧ S.co ≤ 2^15 ∧ S.h ≤ 2^15 ∧ S.w ≤ 2^15) :
    (CHelper.new S N obj).spreadSize ≤ N ∧
    (CHelper.new S N obj).bb * (CHelper.new S N obj).cib * (CHelper.new S N obj).cob * (CHelper.new S N obj).blockSize ≤ N :=
  HC.c20_spread_fits S N obj (HC.c20_cvSearch_sound S N obj hb hci hco hkh hkw hh hw hN hsz)

/-- the sizing of the pinned code (`image_height` instead of `image_height_block`) violates that obligation: batch 1, 1→1
    channels, image 40×4, kernel 3×3, N = 64 picks the blocks (1, 16, 4, 1, 1) and builds a 160-entry buffer -/
theorem spread_overflow_pinned :
    let h := CHelper.new ⟨1, 1, 1, 40, 4, 3, 3⟩ 64 .cipherPlain
    (h.bb, h.hb, h.wb, h.cib, h.cob) = (1, 16, 4, 1, 1) ∧ h.pinnedSpreadSize = 160 ∧ h.n < h.pinnedSpreadSize ∧ h.spreadSize = 64 := by
  decide +kernel

/-- **RNS plaintexts compute modulo Π t_i** (any operation compatible with reduction: `+`, `·`, ...; inputs need not be reduced) -/
theorem rnsp_crt {b : RNSBase} (hb : b.WF) (hk : 1 < b.size) (op : Nat → Nat → Nat)
    (hop : ∀ m x y, 0 < m → op (x % m) (y % m) % m = op x y % m)
    {u v : Nat} (hu : u < 2^(64 * b.size)) (hv : v < 2^(64 * b.size)) :
    ∃ ru rv, b.decompose u = .ok ru ∧ b.decompose v = .ok rv ∧
      ∀ rs : Array Nat, rs.size = b.size →
        (∀ i, i < b.size → rs.getD i 0 = op (ru.getD i 0) (rv.getD i 0) % (b.q i).value) →
        b.compose rs = .ok (op u v % b.prod) := HC.c20_rnsp_crt hb hk op hop hu hv

theorem rnsp_split_merge {b : RNSBase} (hb : b.WF) (hk : 1 < b.size) {u : Nat} (hu : u < 2^(64 * b.size)) :
    ∃ ru, b.decompose u = .ok ru ∧ b.compose ru = .ok (u % b.prod) := HC.c20_rnsp_split_merge hb hk hu

/-- `+` and `·` satisfy the compatibility hypothesis of `rnsp_crt` -/
example : ∀ m x y, 0 < m → (x % m + y % m) % m = (x + y) % m := fun m x y _ => (Nat.add_mod x y m).symm
example : ∀ m x y, 0 < m → (x % m * (y % m)) % m = (x * y) % m := fun m x y _ => (Nat.mul_mod x y m).symm

/-- **convolution, one (tile, input-channel block, output-channel block)** (all shapes, all blocks with `b·ci·co·h·w ≤ N`, any
    commutative ring): the coefficient of the negacyclic product of the encoded input tile (batch rows `lb..ub`, input channels
    `lci..uci`, image rows `si..ui`, columns `sj..uj`) and the encoded weight block (output channels `loc..uoc`, the same input
    channels; kernel stored flipped, channels reversed) read at the output position of (`db`, `dc`, `i`, `j`) is the valid
    cross-correlation `Σ_ic Σ_ki Σ_kj x[lb+db][lci+ic][si+i+ki][sj+j+kj]·w[loc+dc][lci+ic][ki][kj]` for every output entry whose
    window lies inside the tile.  No other pair of coefficients and no wrap-around term contributes. -/
theorem conv2d_coeff {R : Type} [CommRing R] (h : CHelper) (x w : Nat → R)
    (hfit : h.bb * (h.cib * h.cob) * (h.hb * h.wb) ≤ h.n)
    (hkh : 1 ≤ h.S.kh) (hkw : 1 ≤ h.S.kw) (hkhb : h.S.kh ≤ h.hb) (hkwb : h.S.kw ≤ h.wb)
    (lb ub lci uci si ui sj uj loc uoc : Nat)
    (hb : ub - lb ≤ h.bb) (hc : uci - lci ≤ h.cib) (hr : ui - si ≤ h.hb) (hs : uj - sj ≤ h.wb) (ho : uoc - loc ≤ h.cob)
    (db dc i j : Nat) (hdb : db < ub - lb) (hdc : dc < uoc - loc) (hi : i + h.S.kh ≤ ui - si) (hj : j + h.S.kw ≤ uj - sj) :
    ∃ px pw, cvEncInputBlock h 0 x lb ub lci uci si ui sj uj = .ok px ∧ cvEncWeightBlock h 0 w loc uoc lci uci = .ok pw ∧
      negMulR h.n (fun p => px.getD p 0) (fun p => pw.getD p 0) (cyPos h db dc i j)
        = ∑ ic ∈ range (uci - lci), ∑ ki ∈ range h.S.kh, ∑ kj ∈ range h.S.kw,
            x ((lb + db) * h.S.ci * (h.S.h * h.S.w) + (lci + ic) * (h.S.h * h.S.w) + (si + (i + ki)) * h.S.w + (sj + (j + kj)))
              * w (((loc + dc) * h.S.ci + (lci + ic)) * (h.S.kh * h.S.kw) + ki * h.S.kw + kj) :=
  HC.c20_conv2d_coeff h x w hfit hkh hkw hkhb hkwb lb ub lci uci si ui sj uj loc uoc hb hc hr hs ho db dc i j hdb hdc hi hj

/-- summing the block results over the input-channel blocks (what `conv2d` does with `add_inplace`) gives the full sum over the
    input channels -/
theorem conv2d_sum_channels {R : Type} [CommRing R] (f : Nat → R) (ci cib : Nat) (hcib : 0 < cib) :
    ∑ g ∈ range (ceilDiv ci cib), ∑ ic ∈ range (min ci (g * cib + cib) - g * cib), f (g * cib + ic) = ∑ ic ∈ range ci, f ic :=
  HC.c20_sum_blocks f cib ci hcib

/-- **2-D convolution, whole tensor** (any commutative ring, ALL shapes with the kernel inside the image, ALL block tuples with positive
    blocks, kernel inside the tile and `b·ci·co·h·w ≤ n` — the bundle `c20_CvOK`): encode the image tiles (`cvEncodeInputs`: batch
    blocks × overlapping tiles × input-channel blocks, flattened as in the code) and the weights (`cvEncodeWeights`), multiply and
    accumulate over the input-channel blocks in S[X]/(X^n + 1) (`c20_cvEval`), decode (`cvDecodeOutputs`): the result is the VALID
    cross-correlation `y[b][c][i][j] = Σ_ic Σ_ki Σ_kj x[b][ic][i+ki][j+kj]·w[c][ic][ki][kj]` (`c20_xcorr`), row major.  Includes the
    tile / flatten index arithmetic (group index ↔ (batch block, tile row, tile column)) and the coverage of every output entry. -/
theorem conv2d_whole : type_of% @HC.c20_conv2d_whole := @HC.c20_conv2d_whole

/-- ... for the block tuple the model's search returns: every admissible shape (positive dimensions ≤ 2^15, kernel inside the image,
    `kh·kw ≤ N`), every objective -/
theorem conv2d_search : type_of% @HC.c20_conv2d_search := @HC.c20_conv2d_search

/-- the index map of `decrypt_outputs_*` (conv2d) over ALL groups and output-channel blocks, for any family of decoded polynomials -/
theorem conv2d_decode_whole : type_of% @HC.c20_cvDecode_spec := @HC.c20_cvDecode_spec

/-- `encode_inputs_*` / `encode_weights_*` (conv2d) over ALL blocks are total; the input groups are the flattened grid -/
theorem conv2d_encode_inputs_whole : type_of% @HC.c20_cvEncodeInputs_ok := @HC.c20_cvEncodeInputs_ok
theorem conv2d_encode_weights_whole : type_of% @HC.c20_cvEncodeWeights_ok := @HC.c20_cvEncodeWeights_ok

/-- **output re-encoding is the inverse of output decoding** (block level, both for any coefficient type): `encode_outputs_*` writes
    entry (db, dj) of a block exactly at the position `decrypt_outputs_*` reads for it, distinct entries go to distinct positions
    inside the polynomial, and every other coefficient is zero -/
theorem outputs_encode_decode_block {R : Type} (zero : R) (h : Helper) (y : Nat → R) (hfit : h.bb * h.ib * h.ob ≤ h.n) (hib : 0 < h.ib)
    (li ui lj uj : Nat) (hb : ui - li ≤ h.bb) (ho : uj - lj ≤ h.ob) :
    ∃ p, encOutputBlock h zero y li ui lj uj = .ok p ∧ p.size = h.n ∧
      (∀ q, (∀ db dj, db < ui - li → dj < uj - lj → outPos h db dj ≠ q) → p.getD q zero = zero) ∧
      (∀ db dj, db < ui - li → dj < uj - lj → readAt p (outPos h db dj) = .ok (y ((li + db) * h.od + (lj + dj)))) :=
  HC.c20_encOutput_spec zero h y hfit hib li ui lj uj hb ho

/-- **Cheetah matrix product, whole matrix** (any commutative ring, ALL shapes, ALL positive block triples with `b·i·o ≤ n`, no LWE
    packing): encode the inputs (`encodeInputs`) and the weights (`encodeWeights`) with the model's encoders, multiply every
    (batch block, input block) polynomial with the (input block, output block) polynomial in S[X]/(X^n + 1) and accumulate over the
    input blocks (`c20_mmEval`: `multiply_plain` + `add_inplace` of `matmul`), decode with the model's decoder (`decodeOutputs`):
    the result is the plaintext matrix product `x · w`, row major `bs × od`. -/
theorem cheetah_matmul_whole : type_of% @HC.c20_cheetah_matmul_whole := @HC.c20_cheetah_matmul_whole

/-- ... for the block triple the model's block search returns: every admissible shape (positive dimensions below 2^20, `N ≥ 2`), every
    objective — `Helper.new` succeeds and the pipeline computes the matrix product -/
theorem cheetah_matmul_search : type_of% @HC.c20_cheetah_matmul_search := @HC.c20_cheetah_matmul_search

/-- ... modulo t (S = ZMod t): for integer matrices, the decoded result is the matrix product reduced modulo the plain modulus -/
theorem cheetah_matmul_mod_t : type_of% @HC.c20_cheetah_matmul_mod_t := @HC.c20_cheetah_matmul_mod_t

/-- the index map of `decrypt_outputs_*` over ALL blocks (no LWE packing), for any family of decoded polynomials carrying `F row col`
    at the read position of every entry: the result is the `bs × od` matrix `F` -/
theorem decode_outputs_whole : type_of% @HC.c20_decodeOutputs_spec := @HC.c20_decodeOutputs_spec

/-- `encode_inputs_*` / `encode_weights_*` over ALL blocks are total (incl. the `encode_polynomial` size check of the weights) -/
theorem encode_inputs_whole : type_of% @HC.c20_encodeInputs_ok := @HC.c20_encodeInputs_ok
theorem encode_weights_whole : type_of% @HC.c20_encodeWeights_ok := @HC.c20_encodeWeights_ok

/-- **outputs: decode ∘ encode = id over the whole matrix** (no LWE packing; every shape, every positive block triple with
    `b·i·o ≤ n`, any coefficient type) -/
theorem outputs_encode_decode_whole : type_of% @HC.c20_outputs_encode_decode := @HC.c20_outputs_encode_decode

/-- **outputs: decode ∘ encode = id over the whole matrix WITH LWE packing** (`h.pack = true`): output block `c = d1·obc + d2` is written
    into packed polynomial `c / ib` at slot offset `c mod ib` and read back from there; every shape, every positive block triple with
    `b·i·o ≤ n`, any coefficient type -/
theorem outputs_encode_decode_packed : type_of% @HC.c20_outputs_encode_decode_packed := @HC.c20_outputs_encode_decode_packed

/-- one packed output polynomial as a function of the position (total; reading at the decoder's position returns the entry) -/
theorem packed_poly_spec : type_of% @HC.c20_packedPoly_spec := @HC.c20_packedPoly_spec

/-- the index map of `decrypt_outputs_*` over ALL blocks in BOTH packing modes -/
theorem decode_outputs_gen : type_of% @HC.c20_decodeOutputs_gen := @HC.c20_decodeOutputs_gen

/-- the whole-matrix form for BOTH packing modes (all blocks, through `encodeOutputs` / `decodeOutputs`).  The proof does not
    use the hypothesis `h.pack = true → h.n % h.ib = 0`: `outputs_encode_decode_whole` and `outputs_encode_decode_packed` above are
    the two packing modes without it, for every coefficient type. -/
def OutputsEncodeDecodeStatement : Prop :=
  ∀ (h : Helper) (y : Nat → Nat), 0 < h.bb → 0 < h.ib → 0 < h.ob → h.bb * h.ib * h.ob ≤ h.n → (h.pack = true → h.n % h.ib = 0) →
    ∃ polys dec, encodeOutputs h 0 y (h.bs * h.od) = .ok polys ∧ decodeOutputs h 0 polys = .ok dec ∧
      ∀ k, k < h.bs * h.od → dec.getD k 0 = y k

theorem OutputsEncodeDecodeStatement_proof : OutputsEncodeDecodeStatement := by
  intro h y hbb hib hob hfit _
  obtain ⟨polys, dec, h1, h2, _, h4⟩ := HC.c20_outputs_encode_decode_both (0 : Nat) h y hbb hib hob hfit
  exact ⟨polys, dec, h1, h2, h4⟩

/-- selected-terms transport: the transported coefficient set (`output_terms`) contains every position the decoder reads -/
theorem terms_transport (h : Helper) (db dj : Nat) (hdb : db < h.bb) (hdj : dj < h.ob) : outPos h db dj ∈ outputTerms h :=
  HC.c20_terms_superset h db dj hdb hdj

/-! ### rotations of one row of slots (`c20_rot`, on functions `Nat → α`): additivity, the baby-step / giant-step split, periodicity.
    The BOLT theorems below do not rest on these three: they follow the model's two-row slot vectors through `rotRows` /
    `swapRows` and `boltShift`. -/

/-- rotations of a slot row compose additively modulo the row length -/
theorem bolt_rot_add {α : Type} (n a b : Nat) (v : Nat → α) (i : Nat) :
    c20_rot n b (c20_rot n a v) i = c20_rot n (a + b) v i := HC.c20_rot_add n a b v i

/-- baby-step / giant-step: `rot(x, g·a + b) = rot(rot(x, b), g·a)` -/
theorem bolt_rot_bsgs {α : Type} (n g a b : Nat) (v : Nat → α) (i : Nat) :
    c20_rot n (g * a) (c20_rot n b v) i = c20_rot n (g * a + b) v i := HC.c20_rot_bsgs n g a b v i

theorem bolt_rot_mod {α : Type} (n s : Nat) (v : Nat → α) (i : Nat) : c20_rot n (s % n) v i = c20_rot n s v i :=
  HC.c20_rot_mod n s v i

/-! ### BOLT slot packing: the MODEL of the three helpers (`Model/Matmul.lean`: encode maps, rotation schedules on slot vectors,
     decode maps) is compared with the code bit for bit (`bolt_*_encx/encw/enco/run` lines).  Proved about the model: the slot
     actions, the baby-step / giant-step algebra of `boltShift` (the column index the code calls `a_shift_index`) and the
     end-to-end statements `BoltCpStatement`, `BoltCcCrStatement`, `BoltCcDcStatement`, each with its proof. -/

/-- `rotate_rows` by `a` whole columns, read at column `c`, entry `j` (slot = column·gap + entry, N = 2·half·gap) -/
theorem bolt_rotRows_col : type_of% @HC.c20_rotRows_col := @HC.c20_rotRows_col
/-- `rotate_columns`, read at column `c` -/
theorem bolt_swapRows_col : type_of% @HC.c20_swapRows_col := @HC.c20_swapRows_col

/-- **baby steps of `bolt_cp`**: after `ir` steps of the model's input-rotation loop, column `c` of the rotated input polynomial
    holds the original column `boltShift half c ir` (the index `a_shift_index` that `encode_weights` assumes) -/
theorem bolt_cp_baby_steps : type_of% @HC.c20_boltCpRotIn_col := @HC.c20_boltCpRotIn_col

/-- **baby-step / giant-step re-indexing**: as the total rotation runs over all `s = 2·half` values, the column read at column `k`
    runs over all columns exactly once: `Σ_rot f(boltShift half k rot) = Σ_c f(c)` -/
theorem bolt_bsgs_sum : type_of% @HC.c20_bolt_bsgs_sum := @HC.c20_bolt_bsgs_sum

/-- `boltShift half k rot` is a column, with row digit `(rot / half + k / half) mod 2` and column digit `(rot + k) mod half`; a rotation
    by one column inside the row followed by the shift by `ir` is the shift by `ir + 1` (for `ir + 1 ≠ half`, where the baby steps
    reload the input with exchanged rows instead) -/
theorem bolt_shift_lt : type_of% @HC.c20_boltShift_lt := @HC.c20_boltShift_lt
theorem bolt_shift_split : type_of% @HC.c20_boltShift_split := @HC.c20_boltShift_split
theorem bolt_shift_step : type_of% @HC.c20_shift_step := @HC.c20_shift_step

/-- End-to-end statement for `MatmulBoltCp` over the MODEL, any commutative ring (S = ZMod t: the product modulo t), for every helper
    the model's constructor accepts, with the baby-step / giant-step split its search returns.  `N < 2^64` is the `usize` range (the
    model's `ceilTwoPower` makes at most 64 doublings, as the code's arithmetic lives in `usize`). -/
def BoltCpStatement : Prop :=
  ∀ (S : Type) [CommRing S] (m r n N : Nat) (h : BoltCp) (x w : Nat → S), BoltCp.new m r n N = .ok h → (∃ e, N = 2^e) → N < 2^64 →
    ∃ X W Y out, boltCpEncodeInputs h 0 x (m * r) = .ok X ∧ boltCpEncodeWeights h 0 w (r * n) = .ok W ∧
      boltCpMultiply h (· + ·) (· * ·) 0 X W = .ok Y ∧ boltCpDecodeOutputs h 0 Y = .ok out ∧
      ∀ i j, i < m → j < n → out.getD (i * n + j) 0 = ∑ k ∈ range r, x (i * r + k) * w (k * n + j)

theorem BoltCpStatement_proof : BoltCpStatement := by
  intro S _ m r n N h x w hnew hpow hN
  obtain ⟨X, W, Y, out, h1, h2, h3, h4, _, h6⟩ := HC.c20_boltCp_new hnew hpow hN x w
  exact ⟨X, W, Y, out, h1, h2, h3, h4, h6⟩

/-- **`MatmulBoltCp`, whole pipeline** for EVERY helper with `N = s·gap`, `s = irc·orc = 2·half`, `orc` even, `0 < m ≤ gap`
    (the bundle `c20_CpOK`: any shape, any such split, not only the searched one): encode inputs → encode weights → the
    rotate-multiply-accumulate schedule of `multiply` (baby steps on the inputs, one product per rotation class and polynomial pair,
    optional accumulators, giant-step tail with the half sum) → decode  =  `x · w` -/
theorem bolt_cp_whole : type_of% @HC.c20_boltCp_whole := @HC.c20_boltCp_whole
/-- ... for the helpers `MatmulBoltCp::new` returns (the split search returns a power of two below `s`) -/
theorem bolt_cp_new : type_of% @HC.c20_boltCp_new := @HC.c20_boltCp_new
/-- `MatmulBoltCp::new` establishes `c20_CpOK` -/
theorem bolt_cp_new_ok : type_of% @HC.c20_boltCpNew_ok := @HC.c20_boltCpNew_ok
/-- `MatmulBoltCpSmall::multiply` on arbitrary input / weight polynomials -/
theorem bolt_cp_multiply_spec : type_of% @HC.c20_cpMulPart_spec := @HC.c20_cpMulPart_spec
/-- the giant-step tail of `multiply` -/
theorem bolt_cp_tail_spec : type_of% @HC.c20_cpTail_spec := @HC.c20_cpTail_spec

/-- non-vacuity: the constructor accepts, e.g., 3×9·9×9 at N = 32 with (gap, s, irc, orc) = (4, 8, 2, 4) (baby steps, rotating giant
    steps and the half sum all occur); the hypotheses of `bolt_cp_new` are satisfiable -/
example : BoltCp.new 3 9 9 32 = .ok ⟨32, 3, 3, 9, 9, 4, 8, 2, 4⟩ := by rfl
example (x w : Nat → ℤ) := bolt_cp_new (show BoltCp.new 3 9 9 32 = .ok ⟨32, 3, 3, 9, 9, 4, 8, 2, 4⟩ by rfl) ⟨5, rfl⟩
  (by decide) x w
/-- ... over ℤ/t (slot vectors of a BFV plaintext): the product modulo the plain modulus -/
example (t : Nat) (x w : Nat → ZMod t) := bolt_cp_new (show BoltCp.new 3 9 9 32 = .ok ⟨32, 3, 3, 9, 9, 4, 8, 2, 4⟩ by rfl) ⟨5, rfl⟩
  (by decide) x w
/-- ... and the model's pipeline on that shape over ℤ/97 (x[i] = 7i + 3, w[i] = 11i + 5): entry (2, 8) is Σ_k x[2·9 + k]·w[9k + 8] -/
example : (do
    let h ← BoltCp.new 3 9 9 32
    let X ← boltCpEncodeInputs h 0 (fun i => (7 * i + 3) % 97) 27
    let W ← boltCpEncodeWeights h 0 (fun i => (11 * i + 5) % 97) 81
    let Y ← boltCpMultiply h (fun a b => (a + b) % 97) (fun a b => (a * b) % 97) 0 X W
    let out ← boltCpDecodeOutputs h 0 Y
    pure (out.getD 26 0)) = .ok (((List.range 9).map fun k => ((7 * (18 + k) + 3) % 97) * ((11 * (9 * k + 8) + 5) % 97)).sum % 97) := by
  decide +kernel

/-- ... for `MatmulBoltCcCr` (LHS column-major, RHS row-major, product collected by diagonals); `N < 2^64` as for `bolt_cp` -/
def BoltCcCrStatement : Prop :=
  ∀ (S : Type) [CommRing S] (m r n N : Nat) (h : BoltCc) (x w : Nat → S), BoltCc.newCr m r n N = .ok h → (∃ e, N = 2^e) → N < 2^64 →
    ∃ X W Y out, boltCrEncodeInputs h 0 x (m * r) = .ok X ∧ boltCrEncodeWeights h 0 w (r * n) = .ok W ∧
      boltCrMultiply h (· + ·) (· * ·) 0 X W = .ok Y ∧ boltCrDecodeOutputs h 0 Y = .ok out ∧
      ∀ i j, i < m → j < n → out.getD (i * n + j) 0 = ∑ k ∈ range r, x (i * r + k) * w (k * n + j)

theorem BoltCcCrStatement_proof : BoltCcCrStatement := by
  intro S _ m r n N h x w hnew hpow hN
  obtain ⟨X, W, Y, out, h1, h2, h3, h4, _, h6⟩ := HC.c20_boltCr_new hnew hpow hN x w
  exact ⟨X, W, Y, out, h1, h2, h3, h4, h6⟩

/-- **`MatmulBoltCcCr`, whole pipeline** for EVERY helper with `N = gsc·gap`, `gsc = 2^(g+1)`, `0 < m ≤ gap` (the bundle `c20_CcOK`)
    and `r > 0`: all block pairs, `multiply` of the small helper (rotate the RHS by the shift, multiply, `sum_inplace`, mask the
    diagonal segment, optional accumulators; the wrapped part of a diagonal from the rotation by `shift − m`), decode by diagonals -/
theorem bolt_cc_cr_whole : type_of% @HC.c20_boltCr_whole := @HC.c20_boltCr_whole
theorem bolt_cc_cr_new : type_of% @HC.c20_boltCr_new := @HC.c20_boltCr_new
theorem bolt_cc_cr_new_ok : type_of% @HC.c20_boltCrNew_ok := @HC.c20_boltCrNew_ok
/-- `sum_inplace`: after log-many rotations (the last one across the rows) every column holds the sum of all columns -/
theorem bolt_sum_all_spec : type_of% @HC.c20_boltSumAll_spec := @HC.c20_boltSumAll_spec
/-- `MatmulBoltCcCrSmall::multiply` on arbitrary polynomials: diagonal `sh` at polynomial `sh / gsc`, column `sh mod gsc` -/
theorem bolt_cc_cr_multiply_spec : type_of% @HC.c20_crMulSmall_spec := @HC.c20_crMulSmall_spec
/-- the index map of `decode_outputs` (cc_cr) over all blocks -/
theorem bolt_cc_cr_decode_spec : type_of% @HC.c20_boltCrDecode_spec := @HC.c20_boltCrDecode_spec

/-- non-vacuity: the constructor accepts 5×7·7×3 at N = 16 (block side 5, gap 8, two columns per polynomial) and 3×5·5×3 at N = 32
    (gap 4, eight columns: three rotations in `sum_inplace`); the hypotheses of `bolt_cc_cr_new` are satisfiable -/
example : BoltCc.newCr 5 7 3 16 = .ok ⟨16, 5, 7, 3, 5, 8, 2⟩ := by rfl
example : BoltCc.newCr 3 5 3 32 = .ok ⟨32, 3, 5, 3, 3, 4, 8⟩ := by rfl
example (x w : Nat → ℤ) := bolt_cc_cr_new (show BoltCc.newCr 3 5 3 32 = .ok ⟨32, 3, 5, 3, 3, 4, 8⟩ by rfl) ⟨5, rfl⟩ (by decide) x w
/-- ... and the model's pipeline on 3×5·5×3 at N = 32 over ℤ/97: entry (2, 1) -/
example : (do
    let h ← BoltCc.newCr 3 5 3 32
    let X ← boltCrEncodeInputs h 0 (fun i => (7 * i + 3) % 97) 15
    let W ← boltCrEncodeWeights h 0 (fun i => (11 * i + 5) % 97) 15
    let Y ← boltCrMultiply h (fun a b => (a + b) % 97) (fun a b => (a * b) % 97) 0 X W
    let out ← boltCrDecodeOutputs h 0 Y
    pure (out.getD 7 0)) = .ok (((List.range 5).map fun k => ((7 * (10 + k) + 3) % 97) * ((11 * (3 * k + 1) + 5) % 97)).sum % 97) := by
  decide +kernel

/-- ... for `MatmulBoltCcDc` (LHS by diagonals, RHS column-major), under
    `N < 2^64` (as above) and `0 < r`: the constructor accepts `r = 0` but `multiply` fails on the empty list of block products
    (`bolt_cc_dc_r0_refused` below; the code panics in the same place, `item.unwrap()` — harness line `bolt_ccdc_r0`) -/
def BoltCcDcStatement : Prop :=
  ∀ (S : Type) [CommRing S] (m r n N : Nat) (h : BoltCc) (x w : Nat → S), BoltCc.newDc m r n N = .ok h → (∃ e, N = 2^e) → N < 2^64 →
    0 < r →
    ∃ X W Y out, boltDcEncodeInputs h 0 x (m * r) = .ok X ∧ boltDcEncodeWeights h 0 w (r * n) = .ok W ∧
      boltDcMultiply h (· + ·) (· * ·) 0 X W = .ok Y ∧ boltDcDecodeOutputs h 0 Y = .ok out ∧
      ∀ i j, i < m → j < n → out.getD (i * n + j) 0 = ∑ k ∈ range r, x (i * r + k) * w (k * n + j)

theorem BoltCcDcStatement_proof : BoltCcDcStatement := by
  intro S _ m r n N h x w hnew hpow hN hr
  obtain ⟨X, W, Y, out, h1, h2, h3, h4, _, h6⟩ := HC.c20_boltDc_new hnew hpow hN hr x w
  exact ⟨X, W, Y, out, h1, h2, h3, h4, h6⟩

/-- why `0 < r` is assumed: m = 1, r = 0, n = 1, N = 2 is accepted by the constructor and the
    model's `multiply` refuses (over ℕ with arithmetic modulo 17) -/
theorem bolt_cc_dc_r0_refused :
    (BoltCc.newDc 1 0 1 2).toOption.isSome = true ∧
    (do let h ← BoltCc.newDc 1 0 1 2
        let X ← boltDcEncodeInputs h 0 (fun _ => 0) 0
        let W ← boltDcEncodeWeights h 0 (fun _ => 0) 0
        boltDcMultiply h (fun a b => (a + b) % 17) (fun a b => (a * b) % 17) 0 X W) = .error .other := by
  decide +kernel

/-- **`MatmulBoltCcDc`, whole pipeline** for EVERY helper with `N = gsc·gap`, `gsc = 2^(g+1)`, `0 < m ≤ gap` (`c20_CcOK`) and `r > 0`:
    all block pairs, `multiply` of the small helper (left shifts, then right shifts of the RHS; `spread_inputs` of the masked diagonal
    segment; optional accumulators), `add_inplace` of the block products, column-major decode -/
theorem bolt_cc_dc_whole : type_of% @HC.c20_boltDc_whole := @HC.c20_boltDc_whole
theorem bolt_cc_dc_new : type_of% @HC.c20_boltDc_new := @HC.c20_boltDc_new
theorem bolt_cc_dc_new_ok : type_of% @HC.c20_boltDcNew_ok := @HC.c20_boltDcNew_ok
/-- `spread_inputs`: the masked segment of one column is copied onto every column -/
theorem bolt_spread_spec : type_of% @HC.c20_boltSpread_spec := @HC.c20_boltSpread_spec
/-- `MatmulBoltCcDcSmall::multiply` on arbitrary polynomials -/
theorem bolt_cc_dc_multiply_spec : type_of% @HC.c20_dcMulSmall_spec := @HC.c20_dcMulSmall_spec
/-- the column-major encoder / decoder shared by the helpers -/
theorem bolt_col_major_encode_spec : type_of% @HC.c20_boltColMajor_spec := @HC.c20_boltColMajor_spec
theorem bolt_col_major_decode_spec : type_of% @HC.c20_boltColMajorDecode_spec := @HC.c20_boltColMajorDecode_spec

/-- non-vacuity: the constructor accepts 3×5·5×3 at N = 32 (block side 5, gap 8, four columns: two doublings in `spread_inputs`) and
    5×3·3×7 at N = 16 (block side 5, gap 8, two columns, one block); the hypotheses of `bolt_cc_dc_new` are satisfiable -/
example : BoltCc.newDc 3 5 3 32 = .ok ⟨32, 3, 5, 3, 5, 8, 4⟩ := by rfl
example : BoltCc.newDc 5 3 7 16 = .ok ⟨16, 5, 3, 7, 5, 8, 2⟩ := by rfl
example (x w : Nat → ℤ) := bolt_cc_dc_new (show BoltCc.newDc 3 5 3 32 = .ok ⟨32, 3, 5, 3, 5, 8, 4⟩ by rfl) ⟨5, rfl⟩ (by decide)
  (by decide) x w
/-- ... and the model's pipeline on 3×5·5×3 at N = 32 over ℤ/97: entry (2, 1) -/
example : (do
    let h ← BoltCc.newDc 3 5 3 32
    let X ← boltDcEncodeInputs h 0 (fun i => (7 * i + 3) % 97) 15
    let W ← boltDcEncodeWeights h 0 (fun i => (11 * i + 5) % 97) 15
    let Y ← boltDcMultiply h (fun a b => (a + b) % 97) (fun a b => (a * b) % 97) 0 X W
    let out ← boltDcDecodeOutputs h 0 Y
    pure (out.getD 7 0)) = .ok (((List.range 5).map fun k => ((7 * (10 + k) + 3) % 97) * ((11 * (3 * k + 1) + 5) % 97)).sum % 97) := by
  decide +kernel

/-- the model's `bolt_cp` pipeline on a concrete instance (N = 8, 3×2·2×3 over ℤ/17): the schedule computes the product -/
example : (do
    let h ← BoltCp.new 3 2 3 8
    let X ← boltCpEncodeInputs h 0 (fun i => [1, 2, 3, 4, 5, 6].getD i 0) 6
    let W ← boltCpEncodeWeights h 0 (fun i => [7, 8, 9, 10, 11, 12].getD i 0) 6
    let Y ← boltCpMultiply h (fun a b => (a + b) % 17) (fun a b => (a * b) % 17) 0 X W
    boltCpDecodeOutputs h 0 Y) = .ok #[27 % 17, 30 % 17, 33 % 17, 61 % 17, 68 % 17, 75 % 17, 95 % 17, 106 % 17, 117 % 17] := by
  decide +kernel

/-! ### translator tie (app mode): the block searches and term lists are REGENERATED from src/app/matmul/cheetah.rs and
    src/app/conv2d.rs on every run (`Gen/AppFns.lean`, namespace `HC.GenApp`) and proved equal to the hand model -/

/-- `ceil_div` (cheetah.rs): the checked `(a + b - 1) / b` is `ceilDiv` whenever it does not trap -/
theorem gen_ceil_div_eq {a b : Nat} (hb : 1 ≤ b) (h : a + b < 2^64) : GenApp.mm_ceil_div a b = .ok (ceilDiv a b) :=
  HC.ga_mm_ceil_div hb h
/-- `ceil_div` (conv2d.rs, a second copy of the function) -/
theorem gen_cv_ceil_div_eq {a b : Nat} (hb : 1 ≤ b) (h : a + b < 2^64) : GenApp.cv_ceil_div a b = .ok (ceilDiv a b) :=
  HC.ga_cv_ceil_div hb h

/-- **`MatmulHelper::new` (no LWE packing), generated = model**: every shape below 2^20 (zero dimensions included: both refuse), every
    degree, every objective; the struct the code builds is the model's `Helper` (+ the objective) -/
theorem gen_mm_new_eq : type_of% @HC.ga_mm_new_eq := @HC.ga_mm_new_eq
/-- ... with LWE packing, at the exact values of the two `f64` expressions (inputs of the generated function) -/
theorem gen_mm_new_pack_eq : type_of% @HC.ga_mm_new_pack_eq := @HC.ga_mm_new_pack_eq
/-- **`Conv2dHelper::new`, generated = model** (dimensions ≤ 2^15 — above, the cost products can overflow a word —, non-empty kernel) -/
theorem gen_cv_new_eq : type_of% @HC.ga_cv_new_eq := @HC.ga_cv_new_eq
/-- `MatmulHelper::output_terms` / `input_terms`, generated = model -/
theorem gen_mm_output_terms_eq : type_of% @HC.ga_mm_output_terms_eq := @HC.ga_mm_output_terms_eq
theorem gen_mm_input_terms_eq : type_of% @HC.ga_mm_input_terms_eq := @HC.ga_mm_input_terms_eq

/-- `Conv2dHelper::output_terms`, generated = model (blocks contain a non-empty kernel, non-zero channel / batch blocks, product fits a word) -/
theorem gen_cv_output_terms_eq : type_of% @HC.ga_cv_output_terms_eq := @HC.ga_cv_output_terms_eq
/-- ... for the helper the generated conv2d search returns -/
theorem gen_cv_terms_of_new : type_of% @HC.ga_cv_terms_of_new := @HC.ga_cv_terms_of_new

/-- `Conv2dHelper::get_total_batch_size`, generated = `CHelper.totalBatch` (the group count `encode_inputs_*` / `decrypt_outputs_*` iterate over) -/
theorem gen_cv_total_batch_eq : type_of% @HC.ga_cv_total_batch_eq := @HC.ga_cv_total_batch_eq

/-- positions written by the encoders (fragments of `encode_weight_small_bfv` / `encode_inputs_bfv`; plan = position, source
    index, …): generated = `wPos` / `inPos` with the model's source indices -/
theorem gen_mm_weight_positions_eq : type_of% @HC.ga_mm_weight_positions_eq := @HC.ga_mm_weight_positions_eq
theorem gen_mm_input_positions_eq : type_of% @HC.ga_mm_input_positions_eq := @HC.ga_mm_input_positions_eq
/-- positions READ by `decrypt_outputs_bfv` (non-packed branch, one polynomial): generated (destination, position) pairs = `outPos` -/
theorem gen_mm_output_positions_eq : type_of% @HC.ga_mm_output_positions_eq := @HC.ga_mm_output_positions_eq
/-- ... and the model's block encoders (the ones `gen_cheetah_matmul_search` runs) ARE the scatter of the generated plan -/
theorem gen_encWeightSmall_plan : type_of% @HC.ga_encWeightSmall_plan := @HC.ga_encWeightSmall_plan
theorem gen_encInputBlock_plan : type_of% @HC.ga_encInputBlock_plan := @HC.ga_encInputBlock_plan

/-- **composed with `block_search_sound`**: the GENERATED search returns admissible blocks for every admissible shape -/
theorem gen_mm_new_sound : type_of% @HC.ga_mm_new_sound := @HC.ga_mm_new_sound
theorem gen_mm_new_pack_sound : type_of% @HC.ga_mm_new_pack_sound := @HC.ga_mm_new_pack_sound
theorem gen_cv_new_sound : type_of% @HC.ga_cv_new_sound := @HC.ga_cv_new_sound
/-- **one statement from source to mathematics**: generated search → encode → multiply-accumulate → decode = `x · w` -/
theorem gen_cheetah_matmul_search : type_of% @HC.ga_cheetah_matmul_search := @HC.ga_cheetah_matmul_search
/-- ... and for the convolution: generated search → … = valid cross-correlation -/
theorem gen_conv2d_search : type_of% @HC.ga_conv2d_search := @HC.ga_conv2d_search
/-- the term lists of the helper the generated search returns (composed with `terms_transport`) -/
theorem gen_mm_terms_of_new : type_of% @HC.ga_mm_terms_of_new := @HC.ga_mm_terms_of_new

/-! non-vacuity of the ties: the generated functions run on concrete shapes and return what the model returns -/
example : (GenApp.mm_new 3 4 2 8 .cipherPlain false 0 0).map ga_toHelper = .ok ⟨3, 4, 2, 3, 1, 2, 8, false⟩ := by rfl
example : (GenApp.mm_new 4 3 2 32 .cipherPlain true (packExp 32) 2).map ga_toHelper = .ok ⟨4, 3, 2, 4, 2, 2, 32, true⟩ := by rfl
example : (GenApp.cv_new 1 1 1 40 4 3 3 64 .cipherPlain).map ga_toCHelper = .ok ⟨⟨1, 1, 1, 40, 4, 3, 3⟩, 1, 16, 4, 1, 1, 64⟩ := by
  rfl
example : GenApp.mm_output_terms ⟨3, 4, 2, 3, 1, 2, 8, .cipherPlain, false⟩ = .ok [0, 1, 2, 3, 4, 5] := by rfl
example : GenApp.cv_output_terms ⟨1, 1, 1, 4, 4, 3, 3, 16, 1, 1, 1, 4, 4, .cipherPlain⟩ = .ok [10, 11, 14, 15] := by rfl
example : GenApp.cv_total_batch ⟨1, 1, 1, 40, 4, 3, 3, 64, 1, 1, 1, 16, 4, .cipherPlain⟩ = .ok 3 := by rfl
example : GenApp.mm_weight_positions ⟨3, 4, 2, 3, 1, 2, 8, .cipherPlain, false⟩ 1 2 0 2 = .ok [0, 2, 1, 3] := by rfl
example : GenApp.mm_input_positions ⟨3, 4, 2, 3, 1, 2, 8, .cipherPlain, false⟩ 0 3 1 2 = .ok [0, 1, 2, 5, 4, 9] := by rfl
example (x w : Nat → ℤ) := gen_cheetah_matmul_search 3 4 2 8 .cipherPlain 0 0 (by decide) (by decide) (by decide) (by decide)
  (by decide) x w
example (x w : Nat → ℤ) := gen_conv2d_search ⟨2, 3, 2, 6, 5, 3, 2⟩ 64 .cipherPlain (by decide) (by decide) (by decide) (by decide)
  (by decide) (by decide) (by decide) (by decide) (by decide) x w
example := gen_mm_new_pack_sound 4 3 2 32 .cipherPlain (packExp 32) 2 (by decide) (by decide) (by decide) (by decide) (by decide)
  (by decide) rfl (by decide)

/-! non-vacuity: concrete shapes satisfy the hypotheses and the searches return the blocks the code returns -/
example : mmSearch 8 3 4 2 .cipherPlain = ⟨3, 1, 2, 5⟩ := by decide
example : (mmPackSearch 32 4 3 2 .cipherPlain).b = 4 ∧ (mmPackSearch 32 4 3 2 .cipherPlain).i = 2 ∧ (mmPackSearch 32 4 3 2 .cipherPlain).o = 2 := by decide

/-- the hypotheses of `cheetah_coeff` are satisfiable: the blocks (3,1,2) the search returns for a 3×4·4×2 product at N = 8,
    full first blocks, entry (2,1) -/
example (x w : Nat → ℤ) := cheetah_coeff ⟨3, 4, 2, 3, 1, 2, 8, false⟩ x w (by decide) 0 3 0 1 0 2 (by decide) (by decide) (by decide)
  2 1 (by decide) (by decide)
/-- ... and a partial last input block (columns 3..4 of 4 with input block 3 would be `lj = 3, uj = 4`) -/
example (x w : Nat → ℤ) := cheetah_coeff ⟨2, 4, 2, 1, 3, 2, 8, false⟩ x w (by decide) 1 2 3 4 0 2 (by decide) (by decide) (by decide)
  0 1 (by decide) (by decide)
/-- the hypotheses of `cheetah_matmul_whole` are satisfiable (the blocks (3,1,2) of the 3×4·4×2 product at N = 8), and so are those of
    `cheetah_matmul_search` -/
example (x w : Nat → ℤ) := cheetah_matmul_whole ⟨3, 4, 2, 3, 1, 2, 8, false⟩ x w (by decide) (by decide) (by decide)
  (by decide) rfl
example (x w : Nat → ℤ) := cheetah_matmul_search 3 4 2 8 .cipherPlain (by decide) (by decide) (by decide) (by decide)
  (by decide) x w
/-- the hypotheses of `conv2d_whole` are satisfiable (the witness shape of the pinned defect with its searched blocks (1,16,4,1,1):
    three overlapping tiles in height) -/
example (x w : Nat → ℤ) := conv2d_whole ⟨⟨1, 1, 1, 40, 4, 3, 3⟩, 1, 16, 4, 1, 1, 64⟩ x w
  ⟨by decide, by decide, by decide, by decide, by decide, by decide, by decide, by decide⟩ (by decide) (by decide)
example (x w : Nat → ℤ) := conv2d_search ⟨2, 3, 2, 6, 5, 3, 2⟩ 64 .cipherPlain (by decide) (by decide) (by decide) (by decide)
  (by decide) (by decide) (by decide) (by decide) (by decide) x w
/-- the hypotheses of `conv2d_coeff` are satisfiable: the witness shape of the pinned defect (image 40×4, kernel 3×3, N = 64,
    blocks (1,16,4,1,1)), first tile, last output row / column of the tile -/
example (x w : Nat → ℤ) := conv2d_coeff ⟨⟨1, 1, 1, 40, 4, 3, 3⟩, 1, 16, 4, 1, 1, 64⟩ x w (by decide) (by decide) (by decide) (by decide)
  (by decide) 0 1 0 1 0 16 0 4 0 1 (by decide) (by decide) (by decide) (by decide) (by decide) 0 0 13 1 (by decide) (by decide)
  (by decide) (by decide)

end HC.C20
