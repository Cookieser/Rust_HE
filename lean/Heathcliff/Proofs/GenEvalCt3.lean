import Heathcliff.Proofs.GenEvalCt
import Heathcliff.Proofs.GenEval

/-!
  `Evaluator::translate_inplace` (generated skeleton over the flat buffers, Gen/EvalCtFns.lean) = `ctTranslate` /
  `ctTranslateBalanced` of Model/Evaluator.lean for ALL size pairs and for unequal correction factors.  Both are proved for buffers in
  normal form (`gt_translate_flat`, `gt_translate_balanced_flat`: the operands are lists of shaped polynomials); the statements about
  raw buffers are their instances.  Helper names start with `gt_`.
-/
namespace HC
open HC.GenW HC.GenP HC.GenC

theorem gt_shape_mapM {β : Type} (f : TrTerm → R β) (s1 s2 : Nat) :
    (translateShape s1 s2).mapM f =
      (do let xs ← (List.range (min s1 s2)).mapM (fun i => f (.both i))
          let ys ← (List.range' (min s1 s2) (max s1 s2 - min s1 s2)).mapM (fun i => f (if s1 > s2 then .left i else .right i))
          pure (xs ++ ys)) := by
  unfold translateShape
  have hr : List.range (max s1 s2) = List.range (min s1 s2) ++ List.range' (min s1 s2) (max s1 s2 - min s1 s2) := by
    rw [List.range_eq_range', List.range_eq_range']
    have h := List.range'_append_1 (s := 0) (m := min s1 s2) (n := max s1 s2 - min s1 s2)
    rw [Nat.zero_add] at h
    rw [h]
    congr 1; omega
  rw [hr, List.map_append, List.mapM_append, R.mapM_map, R.mapM_map]
  rw [R.mapM_congr (g := fun i => f (.both i)) (l := List.range (min s1 s2)) (by
        intro i hi; rw [if_pos (List.mem_range.mp hi)]),
      R.mapM_congr (g := fun i => f (if s1 > s2 then .left i else .right i)) (l := List.range' (min s1 s2) (max s1 s2 - min s1 s2)) (by
        intro i hi
        have := (List.mem_range'_1.mp hi).1
        rw [if_neg (by omega)])]

theorem gt_ctTranslate_lists (l : Level) (A B : List RnsPoly) (ntt : Bool) (cf : Nat) (sub : Bool) :
    ctTranslate l ⟨A.toArray, ntt, cf⟩ ⟨B.toArray, ntt, cf⟩ sub =
      (do let xs ← (List.range (min A.length B.length)).mapM (fun i =>
            if sub then rnsSub l (A.getD i #[]) (B.getD i #[]) else rnsAdd l (A.getD i #[]) (B.getD i #[]))
          let ys ← (if A.length < B.length then (B.drop A.length).mapM (fun p => if sub then rnsNeg l p else pure p)
            else pure (A.drop B.length))
          pure ⟨(xs ++ ys).toArray, ntt, cf⟩) := by
  unfold ctTranslate
  simp only [ne_eq, not_true_eq_false, if_false, List.size_toArray, gt_shape_mapM, list_getD_toArray, bind_assoc]
  refine bind_congr fun xs => ?_
  by_cases hlt : A.length < B.length
  · have hmin : min A.length B.length = A.length := Nat.min_eq_left (Nat.le_of_lt hlt)
    have hmax : max A.length B.length = B.length := Nat.max_eq_right (Nat.le_of_lt hlt)
    simp only [hlt, if_true, show ¬ A.length > B.length from Nat.lt_asymm hlt, if_false, hmin, hmax]
    rw [← gs_range'_getD B #[] A.length, R.mapM_map]
    simp only [pure_bind]
  · have hmin : min A.length B.length = B.length := Nat.min_eq_right (Nat.le_of_not_lt hlt)
    have hmax : max A.length B.length = A.length := Nat.max_eq_left (Nat.le_of_not_lt hlt)
    simp only [hlt, if_false, hmin, hmax, pure_bind]
    by_cases hgt : A.length > B.length
    · simp only [hgt, if_true, List.mapM_pure, gs_range'_getD, pure_bind]
    · have he : List.range' B.length (A.length - B.length) = [] := by rw [show A.length - B.length = 0 by omega]; rfl
      rw [he, List.mapM_nil, List.drop_eq_nil_of_le (by omega)]
      rfl

/-- what the generated routine does with the extra polynomials of a LONGER second operand, on the buffer `O ++ Z` (`O` = the common part
    already computed, `Z` = the padding of the resize): they are copied and, in a subtraction, negated -/
theorem gt_tail_flat (l : Level) (O Z B : List RnsPoly) (s1 s2 : Nat) (sub : Bool) (hlt : s1 < s2) (hO : O.length = s1)
    (hZ : Z.length = s2 - s1) (hB : B.length = s2) (hBs : ∀ p, p ∈ B → gs_Shape l p) (hpl : l.n * l.size < B64)
    (hB64 : s2 * (l.size * l.n) < B64) :
    (do let _ ← GenP.slice (gs_flat l (O ++ Z)) (s1 * (l.size * l.n)) (s2 * (l.size * l.n))
        let src ← GenP.slice (gs_flat l B) (s1 * (l.size * l.n)) (s2 * (l.size * l.n))
        let a ← GenP.copySlice (gs_flat l (O ++ Z)) (s1 * (l.size * l.n)) (s2 * (l.size * l.n)) src
        if sub = true then
          (do let tl ← GenP.slice a (s1 * (l.size * l.n)) (s2 * (l.size * l.n))
              let t ← ckSub s2 s1
              let o ← GenP.poly_negate_inplace_ps tl t l.n l.qs.toList
              pure (GenP.splice a (s1 * (l.size * l.n)) o))
        else pure a : R (List Nat)) =
      (do let ys ← (B.drop s1).mapM (fun p => if sub then rnsNeg l p else pure p)
          pure (gs_flat l (O ++ ys))) := by
  have hle : s1 ≤ s2 := Nat.le_of_lt hlt
  have hT : (B.drop s1).length = s2 - s1 := by rw [List.length_drop, hB]
  have hTs : ∀ p, p ∈ B.drop s1 → gs_Shape l p := fun p hp => hBs p (List.mem_of_mem_drop hp)
  have e2 : GenP.slice (gs_flat l B) (s1 * (l.size * l.n)) (s2 * (l.size * l.n)) = .ok (gs_flat l (B.drop s1)) := by
    rw [gs_flat_slice l B _ _ hle (by rw [hB]), List.take_of_length_le (by rw [hT])]
  generalize B.drop s1 = T at hT hTs e2
  have hOZ : (O ++ Z).length = s2 := by rw [List.length_append, hO, hZ]; omega
  have hOT : (O ++ T).length = s2 := by rw [List.length_append, hO, hT]; omega
  have e1 := gs_flat_slice l (O ++ Z) s1 s2 hle (by rw [hOZ])
  have e3 : GenP.copySlice (gs_flat l (O ++ Z)) (s1 * (l.size * l.n)) (s2 * (l.size * l.n)) (gs_flat l T) = .ok (gs_flat l (O ++ T)) := by
    rw [gs_flat_copy l _ T _ _ hT, ← hO, List.take_left, hT, hO, Nat.add_sub_cancel' hle, List.drop_eq_nil_of_le (by rw [hOZ]), List.append_nil]
  have e4 : GenP.slice (gs_flat l (O ++ T)) (s1 * (l.size * l.n)) (s2 * (l.size * l.n)) = .ok (gs_flat l T) := by
    rw [gs_flat_slice l _ _ _ hle (by rw [hOT]), ← hO, List.drop_left, List.take_of_length_le (by rw [hT, hO])]
  simp only [e1, e2, e3, R.ok_bind']
  cases sub with
  | false =>
    simp only [Bool.false_eq_true, if_false, List.mapM_pure (f := fun p : RnsPoly => p), List.map_id', pure_bind]
  | true =>
    have e5 := gs_negate_ps_flat l T hTs hpl (by rw [hT]; exact Nat.lt_of_le_of_lt (Nat.mul_le_mul_right _ (Nat.sub_le _ _)) hB64)
    rw [hT] at e5
    simp only [if_true, e4, R.ok_bind', ckSub_of_le hle, e5, bind_assoc]
    refine R.bind_congr _ fun negs hn => ?_
    have hnl : negs.length = s2 - s1 := by rw [R.mapM_length hn, hT]
    rw [pure_bind, gs_flat_splice, ← hO, List.take_left, hO, hnl, Nat.add_sub_cancel' hle, List.drop_eq_nil_of_le (by rw [hOT]),
      List.append_nil]

/-- **`Evaluator::translate_inplace` = `ctTranslate`, all size pairs** (add / sub, equal correction factors, checks passed), on buffers in
    normal form: the first buffer is resized to the larger size, the common polynomials are added / subtracted, the remaining ones of the
    first operand kept, those of a longer second operand copied and - in a subtraction - negated.  Both sides work through the
    polynomials left to right, so they agree on failures too.  `GenC.ct_translate_inplace_eq` is the generated ROUTINE for equal correction
    factors (a function; `_eq` is part of its Rust name); its Boolean arguments after `sub` are: first / second ciphertext valid, same
    parameters, NTT forms differ, scales match — `true true true false true` is "every check passed"; `2` and `16` are
    `HE_CIPHERTEXT_SIZE_MIN` / `_MAX` (Gen/Constants.lean). -/
theorem gt_translate_flat (l : Level) (A B : List RnsPoly) (ntt : Bool) (cf : Nat) (sub : Bool) (t : Modulus)
    (hA : ∀ p, p ∈ A → gs_Shape l p) (hB : ∀ p, p ∈ B → gs_Shape l p)
    (hs : max A.length B.length = 0 ∨ (2 ≤ max A.length B.length ∧ max A.length B.length ≤ 16)) (hl1 : 1 ≤ l.size)
    (hpl : l.n * l.size < B64) (hB64 : max A.length B.length * (l.size * l.n) < B64) :
    GenC.ct_translate_inplace_eq (gs_flat l A) A.length cf (gs_flat l B) B.length cf sub true true true false true l.qs.toList t l.n =
      Except.map (fun c => (gs_flat l c.polys.toList, max A.length B.length, cf))
        (ctTranslate l ⟨A.toArray, ntt, cf⟩ ⟨B.toArray, ntt, cf⟩ sub) := by
  have hlen := gp_qs_length l
  generalize hM : max A.length B.length = M at *
  have hAM : A.length ≤ M := hM ▸ Nat.le_max_left _ _
  have hBM : B.length ≤ M := hM ▸ Nat.le_max_right _ _
  have hmM : min A.length B.length ≤ M := Nat.le_trans (Nat.min_le_left _ _) hAM
  obtain ⟨hck1, hck2, hckD⟩ := gs_mul_sizes l M hl1 (by rw [Nat.mul_comm]; exact hpl) hB64
  have hsz : ¬ ((M < 2 ∧ M ≠ 0) ∨ M > 16) := by omega
  have c (i : Nat) (hi : i ≤ M) : ckMul i (l.size * l.n) = .ok (i * (l.size * l.n)) :=
    ckMul_ok (Nat.lt_of_le_of_lt (Nat.mul_le_mul_right _ hi) hB64)
  have hAZ : (A ++ List.replicate (M - A.length) (rnsZero l)).length = M := by
    rw [List.length_append, List.length_replicate, Nat.add_sub_cancel' hAM]
  have hZs : ∀ p, p ∈ A ++ List.replicate (M - A.length) (rnsZero l) → gs_Shape l p := by
    intro p hp
    rcases List.mem_append.mp hp with h | h
    · exact hA p h
    · rw [(List.mem_replicate.mp h).2]; exact gs_zero_shape l
  have hcommon := gs_common_ps_flat l _ B (min A.length B.length) sub hZs hB (by rw [hAZ]; exact hmM) (Nat.min_le_right _ _) hpl
    (by rw [hAZ]; exact hB64)
  rw [R.mapM_congr (g := fun i => if sub then rnsSub l (A.getD i #[]) (B.getD i #[]) else rnsAdd l (A.getD i #[]) (B.getD i #[]))
    (l := List.range (min A.length B.length)) (fun i hi => by
      have : i < A.length := Nat.lt_of_lt_of_le (List.mem_range.mp hi) (Nat.min_le_left _ _)
      simp [List.getD, List.getElem?_append_left this])] at hcommon
  unfold GenC.ct_translate_inplace_eq
  simp only [if_true, hM, ne_eq, not_true_eq_false, if_false, hsz, not_false_eq_true, hlen, hck1, hck2, hckD, c _ hAM, c _ hBM, R.ok_bind',
    R.pure_eq', Bool.false_eq_true, gs_flat_resize l A M hAM]
  rw [hcommon, gt_ctTranslate_lists]
  simp only [bind_assoc, R.pure_eq', R.ok_bind', R.bind_map]
  refine R.bind_congr _ fun outs hm => ?_
  have hol : outs.length = min A.length B.length := by rw [R.mapM_length hm, List.length_range]
  by_cases hlt : A.length < B.length
  · have hMB : M = B.length := hM ▸ Nat.max_eq_right (Nat.le_of_lt hlt)
    have hmin : min A.length B.length = A.length := Nat.min_eq_left (Nat.le_of_lt hlt)
    rw [hmin] at hol
    have h := gt_tail_flat l outs (List.replicate (B.length - A.length) (rnsZero l)) B A.length B.length sub hlt hol
      (List.length_replicate ..) rfl hB hpl (hMB ▸ hB64)
    simp only [R.pure_eq'] at h
    rw [if_pos hlt, if_pos hlt, hMB, hmin, List.drop_left, h]
    simp only [bind_assoc, R.ok_bind']
    refine bind_congr fun ys => ?_
    rfl
  · have hMA : M = A.length := hM ▸ Nat.max_eq_left (Nat.le_of_not_lt hlt)
    have hmin : min A.length B.length = B.length := Nat.min_eq_right (Nat.le_of_not_lt hlt)
    rw [if_neg hlt, if_neg hlt, hMA, Nat.sub_self, hmin]
    simp only [List.replicate_zero, List.append_nil, R.ok_bind']
    rfl

/-- **`Evaluator::translate_inplace` = `ctTranslate`, all size pairs.**  The function generated from src/evaluator.rs (skeleton over the
    flat buffers; ciphertext checks, parameter / NTT-form / scale comparisons passed, EQUAL correction factors) equals the hand model on
    `unflattenCt`, for every pair of sizes whose maximum `Ciphertext::resize` accepts (0 or 2..16; otherwise the code panics in `resize`,
    a check the model does not have): result buffer = the flattened model result, new size = the maximum, factor unchanged.  Both sides
    work through the polynomials left to right, so they agree on failures too (no range hypothesis on the coefficients).
    Hypotheses: buffer lengths = size × (components × degree) (the shape `is_buffer_valid` checks), at least one modulus, and the longer
    buffer's length fits a usize. -/
theorem gt_translate_inplace_eq_general (l : Level) (d1 d2 : List Nat) (s1 s2 : Nat) (ntt : Bool) (cf : Nat) (sub : Bool) (t : Modulus)
    (hs : max s1 s2 = 0 ∨ (2 ≤ max s1 s2 ∧ max s1 s2 ≤ 16)) (hl1 : 1 ≤ l.size)
    (h1 : d1.length = s1 * (l.size * l.n)) (h2 : d2.length = s2 * (l.size * l.n)) (hpl : l.n * l.size < B64)
    (hB : max s1 s2 * (l.size * l.n) < B64) :
    GenC.ct_translate_inplace_eq d1 s1 cf d2 s2 cf sub true true true false true l.qs.toList t l.n =
      Except.map (fun c => (flattenCt l c, max s1 s2, cf)) (ctTranslate l (unflattenCt l s1 d1 ntt cf) (unflattenCt l s2 d2 ntt cf) sub) := by
  have h := gt_translate_flat l ((List.range s1).map (gt_U l d1)) ((List.range s2).map (gt_U l d2)) ntt cf sub t
    (gs_buffer_shape l s1 d1) (gs_buffer_shape l s2 d2)
  simp only [List.length_map, List.length_range, gs_flat_unflattenCt l s1 d1 h1, gs_flat_unflattenCt l s2 d2 h2] at h
  exact h hs hl1 hpl hB

/-- `translate_inplace` (add / sub of two ciphertexts), equal correction factors and EQUAL sizes, all checks passed: the generated
    function on the flat buffers IS the hand model's `ctTranslate`; size and correction factor are unchanged -/
theorem gc_translate_inplace_same_size (l : Level) (d1 d2 : List Nat) (size : Nat) (ntt : Bool) (cf : Nat) (sub : Bool) (t : Modulus)
    (hs : size = 0 ∨ (2 ≤ size ∧ size ≤ 16)) (hl1 : 1 ≤ l.size)
    (h1 : d1.length = size * (l.size * l.n)) (h2 : d2.length = size * (l.size * l.n)) (hpl : l.n * l.size < B64) (hB : d1.length < B64) :
    GenC.ct_translate_inplace_eq d1 size cf d2 size cf sub true true true false true l.qs.toList t l.n =
      Except.map (fun c => (flattenCt l c, size, cf)) (ctTranslate l (unflattenCt l size d1 ntt cf) (unflattenCt l size d2 ntt cf) sub) := by
  have h := gt_translate_inplace_eq_general l d1 d2 size size ntt cf sub t (by rwa [Nat.max_self]) hl1 h1 h2 hpl
    (by rw [Nat.max_self, ← h1]; exact hB)
  rwa [Nat.max_self] at h

/-- the size `resize` refuses (1, or more than 16 polynomials) is refused by the generated function whatever the data is -/
theorem gt_translate_inplace_refuses_size (d1 d2 : List Nat) (s1 s2 cf : Nat) (sub : Bool) (mods : List Modulus) (t : Modulus) (n : Nat)
    (h : (max s1 s2 < 2 ∧ max s1 s2 ≠ 0) ∨ max s1 s2 > 16) :
    GenC.ct_translate_inplace_eq d1 s1 cf d2 s2 cf sub true true true false true mods t n = .error .refused := by
  unfold GenC.ct_translate_inplace_eq
  simp only [if_true, ne_eq, not_true_eq_false, if_false, Bool.false_eq_true, bind, Except.bind, pure, Except.pure, h]

/-- the top-level generated function with EQUAL factors is the equal-factor routine (its balancing branch is not entered) -/
theorem gt_translate_inplace_top_eq (d1 d2 : List Nat) (s1 s2 cf : Nat) (sub v1 v2 sp nd ss : Bool) (mods : List Modulus) (t : Modulus) (n : Nat) :
    GenC.ct_translate_inplace d1 s1 cf d2 s2 cf sub v1 v2 sp nd ss mods t n =
      GenC.ct_translate_inplace_eq d1 s1 cf d2 s2 cf sub v1 v2 sp nd ss mods t n := by
  unfold GenC.ct_translate_inplace GenC.ct_translate_inplace_eq
  simp only [ne_eq, not_true_eq_false, if_false]

theorem gt_ctBalanced_lists (l : Level) (A B : List RnsPoly) (ntt : Bool) (cf1 cf2 : Nat) (sub : Bool) (hcf : cf1 ≠ cf2) :
    ctTranslateBalanced l ⟨A.toArray, ntt, cf1⟩ ⟨B.toArray, ntt, cf2⟩ sub =
      (do let r ← balanceCorrectionFactors cf1 cf2 l.t
          let o1 ← A.mapM (fun p => compsMap l.qs p (fun x m => mulMod x r.2.1 m))
          let o2 ← B.mapM (fun p => compsMap l.qs p (fun x m => mulMod x r.2.2 m))
          ctTranslate l ⟨o1.toArray, ntt, r.1⟩ ⟨o2.toArray, ntt, r.1⟩ sub) := by
  unfold ctTranslateBalanced
  simp only [hcf, if_false, bind_assoc, pure_bind]

/-- **`Evaluator::translate_inplace` with UNEQUAL correction factors (BGV) = `ctTranslateBalanced`**, all size pairs, on buffers in normal
    form: the factors are balanced (`balance_correction_factors`, tied in Proofs/GenEval.lean), ALL polynomials of both operands scaled
    (`multiply_scalar_inplace_ps` with each operand's OWN size), and the equal-factor routine run at the common factor. -/
theorem gt_translate_balanced_flat (l : Level) (A B : List RnsPoly) (ntt : Bool) (cf1 cf2 : Nat) (sub : Bool)
    (hA : ∀ p, p ∈ A → gs_Shape l p) (hB : ∀ p, p ∈ B → gs_Shape l p)
    (hcf : cf1 ≠ cf2) (ht : l.t.WF) (hc1 : cf1 < 2^63) (hc2 : cf2 < 2^64)
    (hs : max A.length B.length = 0 ∨ (2 ≤ max A.length B.length ∧ max A.length B.length ≤ 16)) (hl1 : 1 ≤ l.size)
    (hpl : l.n * l.size < B64) (hB64 : max A.length B.length * (l.size * l.n) < B64) :
    GenC.ct_translate_inplace (gs_flat l A) A.length cf1 (gs_flat l B) B.length cf2 sub true true true false true l.qs.toList l.t l.n =
      Except.map (fun c => (gs_flat l c.polys.toList, max A.length B.length, c.cf))
        (ctTranslateBalanced l ⟨A.toArray, ntt, cf1⟩ ⟨B.toArray, ntt, cf2⟩ sub) := by
  have hBA : A.length * (l.size * l.n) < B64 := Nat.lt_of_le_of_lt (Nat.mul_le_mul_right _ (Nat.le_max_left _ _)) hB64
  have hBB : B.length * (l.size * l.n) < B64 := Nat.lt_of_le_of_lt (Nat.mul_le_mul_right _ (Nat.le_max_right _ _)) hB64
  rw [gc_translate_inplace_balance_partial _ _ _ _ cf1 cf2 sub _ _ _ hcf, gy_balance_correction_factors_eq ht cf1 cf2 hc1 hc2,
    gt_ctBalanced_lists l A B ntt cf1 cf2 sub hcf, R.bind_map]
  refine R.bind_congr _ fun r _ => ?_
  obtain ⟨f, e1, e2⟩ := r
  simp only [gs_scale_ps_flat l A e1 hA hpl hBA, gs_scale_ps_flat l B e2 hB hpl hBB, bind_assoc, pure_bind, R.bind_map]
  refine R.bind_congr _ fun o1 hm1 => R.bind_congr _ fun o2 hm2 => ?_
  have hl1' : o1.length = A.length := R.mapM_length hm1
  have hl2' : o2.length = B.length := R.mapM_length hm2
  have hsh1 : ∀ p, p ∈ o1 → gs_Shape l p := fun o ho =>
    let ⟨p, hp, hpo⟩ := R.mapM_mem hm1 o ho; gs_shape_compsMap l p _ o hpo (hA p hp)
  have hsh2 : ∀ p, p ∈ o2 → gs_Shape l p := fun o ho =>
    let ⟨p, hp, hpo⟩ := R.mapM_mem hm2 o ho; gs_shape_compsMap l p _ o hpo (hB p hp)
  have h := gt_translate_flat l o1 o2 ntt f sub l.t hsh1 hsh2 (by rw [hl1', hl2']; exact hs) hl1 hpl (by rw [hl1', hl2']; exact hB64)
  rw [hl1', hl2'] at h
  rw [h, gt_ctTranslate_lists]
  simp only [R.bind_map]
  rfl

/-- **`Evaluator::translate_inplace` with UNEQUAL correction factors (BGV) = `ctTranslateBalanced`**, all size pairs.  The top-level
    generated function balances the factors (`balance_correction_factors`, tied in Proofs/GenEval.lean), scales ALL polynomials of both
    operands (`multiply_scalar_inplace_ps` with each operand's OWN size), sets the common factor and runs the equal-factor routine; the
    result is the flattened model result, the new size the maximum, the new factor the model's.
    Hypotheses: those of `gt_translate_inplace_eq_general` for both buffers, and those of the balance tie (`l.t.WF`: 2 ≤ t < 2^61 with
    its Barrett ratio; `cf1 < 2^63`, `cf2 < 2^64`). -/
theorem gt_translate_inplace_balanced (l : Level) (d1 d2 : List Nat) (s1 s2 : Nat) (ntt : Bool) (cf1 cf2 : Nat) (sub : Bool)
    (hcf : cf1 ≠ cf2) (ht : l.t.WF) (hc1 : cf1 < 2^63) (hc2 : cf2 < 2^64)
    (hs : max s1 s2 = 0 ∨ (2 ≤ max s1 s2 ∧ max s1 s2 ≤ 16)) (hl1 : 1 ≤ l.size)
    (h1 : d1.length = s1 * (l.size * l.n)) (h2 : d2.length = s2 * (l.size * l.n)) (hpl : l.n * l.size < B64)
    (hB : max s1 s2 * (l.size * l.n) < B64) :
    GenC.ct_translate_inplace d1 s1 cf1 d2 s2 cf2 sub true true true false true l.qs.toList l.t l.n =
      Except.map (fun c => (flattenCt l c, max s1 s2, c.cf))
        (ctTranslateBalanced l (unflattenCt l s1 d1 ntt cf1) (unflattenCt l s2 d2 ntt cf2) sub) := by
  have h := gt_translate_balanced_flat l ((List.range s1).map (gt_U l d1)) ((List.range s2).map (gt_U l d2)) ntt cf1 cf2 sub
    (gs_buffer_shape l s1 d1) (gs_buffer_shape l s2 d2) hcf ht hc1 hc2
  simp only [List.length_map, List.length_range, gs_flat_unflattenCt l s1 d1 h1, gs_flat_unflattenCt l s2 d2 h2] at h
  exact h hs hl1 hpl hB

end HC
