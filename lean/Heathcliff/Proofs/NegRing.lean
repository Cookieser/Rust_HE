/- The ring R[X]/(Xⁿ+1) as coefficient functions supported on [0, n) (`c03k_NP R n`): the product is `negMulR`, the ring axioms are
   `c04k_comm` / `c04k_assoc` of `NegAlg.lean`.  `c03k_toNP` truncates a coefficient function into the ring and turns `negMulR`, sums and
   scalar multiples into ring operations, so that identities between coefficient functions are proved by `ring` here and read back
   at a coefficient (`c03k_toNP_inj`, `.co`).
   Names: `c03k_NP.*` the structure, its operations and `*_co` readings; `c03k_toNP_*` what truncation does to each operation;
   `c03k_C` constants; `c03k_NP.map` / `c03k_map_co` coefficient-wise ring homomorphisms; `c03k_coHom`, `c03k_*_co` coefficients of sums;
   `c03k_red*` integer coefficient functions reduced into Z_q[X]/(X^n+1), with the congruence they stand for;
   `evAt` evaluation at a root of X^n+1, the ring homomorphism behind every transform and every reading of coefficient vectors. -/
import Heathcliff.Proofs.NegAlg
import Heathcliff.Proofs.C09D
import Mathlib.Algebra.Ring.MinimalAxioms
namespace HC
open Finset

/-- coefficient functions supported on [0, n): the elements of R[X]/(X^n + 1) -/
@[ext] structure c03k_NP (R : Type) [CommRing R] (n : Nat) where
  co : Nat → R
  supp : ∀ i, n ≤ i → co i = 0

namespace c03k_NP
variable {R : Type} [CommRing R] {n : Nat}

instance : Zero (c03k_NP R n) := ⟨⟨fun _ => 0, fun _ _ => rfl⟩⟩
instance : Add (c03k_NP R n) := ⟨fun a b => ⟨fun i => a.co i + b.co i, fun i hi => by rw [a.supp i hi, b.supp i hi, add_zero]⟩⟩
instance : Neg (c03k_NP R n) := ⟨fun a => ⟨fun i => - a.co i, fun i hi => by rw [a.supp i hi, neg_zero]⟩⟩
instance : Mul (c03k_NP R n) :=
  ⟨fun a b => ⟨fun c => if c < n then negMulR n a.co b.co c else 0, fun i hi => by rw [if_neg (by omega)]⟩⟩
instance : One (c03k_NP R n) := ⟨⟨fun c => if c = 0 ∧ 0 < n then 1 else 0, fun i hi => by rw [if_neg (by omega)]⟩⟩

theorem zero_co (i : Nat) : (0 : c03k_NP R n).co i = 0 := rfl
theorem add_co (a b : c03k_NP R n) (i : Nat) : (a + b).co i = a.co i + b.co i := rfl
theorem neg_co (a : c03k_NP R n) (i : Nat) : (-a).co i = - a.co i := rfl
theorem mul_co (a b : c03k_NP R n) (c : Nat) : (a * b).co c = if c < n then negMulR n a.co b.co c else 0 := rfl
theorem one_co (c : Nat) : (1 : c03k_NP R n).co c = if c = 0 ∧ 0 < n then 1 else 0 := rfl

theorem mul_co_lt (a b : c03k_NP R n) {c : Nat} (hc : c < n) : (a * b).co c = negMulR n a.co b.co c := by
  rw [mul_co, if_pos hc]

end c03k_NP

section
variable {R : Type} [CommRing R] {n : Nat}

theorem c03k_np_ext {a b : c03k_NP R n} (h : ∀ j, j < n → a.co j = b.co j) : a = b := by
  ext j
  by_cases hj : j < n
  · exact h j hj
  · rw [a.supp j (by omega), b.supp j (by omega)]

end

/-- truncation of a coefficient function to an element of R[X]/(X^n+1) -/
def c03k_toNP {R : Type} [CommRing R] (n : Nat) (f : Nat → R) : c03k_NP R n :=
  ⟨fun i => if i < n then f i else 0, fun i hi => by rw [if_neg (by omega)]⟩

theorem c03k_toNP_co {R : Type} [CommRing R] {n : Nat} (f : Nat → R) {i : Nat} (hi : i < n) : (c03k_toNP n f).co i = f i :=
  if_pos hi

/-- constants of R[X]/(X^n+1) -/
def c03k_C {R : Type} [CommRing R] (n : Nat) (x : R) : c03k_NP R n := c03k_toNP n (fun i => if i = 0 then x else 0)

theorem c03k_C_mul {R : Type} [CommRing R] {n : Nat} (x : R) (a : c03k_NP R n) {c : Nat} (hc : c < n) :
    (c03k_C n x * a).co c = x * a.co c := by
  rw [c03k_NP.mul_co_lt _ _ hc]
  unfold negMulR
  rw [Finset.sum_eq_single_of_mem 0 (mem_range.mpr (by omega)), if_pos (Nat.zero_le c), Nat.sub_zero, c03k_C,
    c03k_toNP_co _ (by omega), if_pos rfl]
  intro i hi hi0
  rw [c03k_C, c03k_toNP_co _ (mem_range.mp hi), if_neg hi0]
  split <;> simp

namespace c03k_NP
variable {R : Type} [CommRing R] {n : Nat}

theorem c03k_one_mul (a : c03k_NP R n) : 1 * a = a := by
  have h1 : (1 : c03k_NP R n) = c03k_C n 1 :=
    c03k_np_ext fun c hc => (if_congr (and_iff_left (by omega)) rfl rfl).trans
      (c03k_toNP_co (fun i => if i = 0 then (1 : R) else 0) hc).symm
  exact c03k_np_ext fun c hc => by rw [h1, c03k_C_mul _ _ hc, one_mul]

theorem c03k_mul_comm (a b : c03k_NP R n) : a * b = b * a :=
  c03k_np_ext fun c hc => by rw [mul_co_lt _ _ hc, mul_co_lt _ _ hc, c04k_comm n _ _ hc]

theorem c03k_mul_assoc (a b s : c03k_NP R n) : a * b * s = a * (b * s) := by
  refine c03k_np_ext fun c hc => ?_
  rw [mul_co_lt _ _ hc, mul_co_lt _ _ hc, c05u_negMul_congr n _ _ _ c (fun i hi => mul_co_lt a b hi),
    c04k_congr_right n _ _ _ hc (fun i hi => mul_co_lt b s hi), c04k_assoc n _ _ _ hc]

theorem c03k_left_distrib (a b s : c03k_NP R n) : a * (b + s) = a * b + a * s := by
  refine c03k_np_ext fun c hc => ?_
  rw [add_co, mul_co_lt _ _ hc, mul_co_lt _ _ hc, mul_co_lt _ _ hc]
  exact negMulR_add_right n a.co b.co s.co c

instance : CommRing (c03k_NP R n) :=
  CommRing.ofMinimalAxioms
    (fun a b c => by ext i; simp only [add_co]; ring)
    (fun a => by ext i; simp only [add_co, zero_co]; ring)
    (fun a => by ext i; simp only [add_co, neg_co, zero_co]; ring)
    c03k_mul_assoc c03k_mul_comm c03k_one_mul c03k_left_distrib

theorem sub_co (a b : c03k_NP R n) (i : Nat) : (a - b).co i = a.co i - b.co i := by
  rw [sub_eq_add_neg, add_co, neg_co, sub_eq_add_neg]

end c03k_NP

section toNP
variable {R : Type} [CommRing R] {n : Nat}

theorem c03k_toNP_congr {f g : Nat → R} (h : ∀ i, i < n → f i = g i) : c03k_toNP n f = c03k_toNP n g :=
  c03k_np_ext fun i hi => by rw [c03k_toNP_co f hi, c03k_toNP_co g hi, h i hi]

theorem c03k_toNP_inj {f g : Nat → R} (h : c03k_toNP n f = c03k_toNP n g) {i : Nat} (hi : i < n) : f i = g i := by
  rw [← c03k_toNP_co f hi, h, c03k_toNP_co g hi]

theorem c03k_toNP_zero : c03k_toNP n (0 : Nat → R) = 0 :=
  c03k_np_ext fun _ hi => c03k_toNP_co _ hi

theorem c03k_toNP_add (f g : Nat → R) : c03k_toNP n (f + g) = c03k_toNP n f + c03k_toNP n g :=
  c03k_np_ext fun i hi => by rw [c03k_NP.add_co, c03k_toNP_co _ hi, c03k_toNP_co _ hi, c03k_toNP_co _ hi, Pi.add_apply]

theorem c03k_toNP_neg (f : Nat → R) : c03k_toNP n (fun i => - f i) = - c03k_toNP n f :=
  c03k_np_ext fun i hi => by rw [c03k_NP.neg_co, c03k_toNP_co _ hi, c03k_toNP_co _ hi]

theorem c03k_toNP_sub (f g : Nat → R) : c03k_toNP n (fun i => f i - g i) = c03k_toNP n f - c03k_toNP n g :=
  c03k_np_ext fun i hi => by rw [c03k_NP.sub_co, c03k_toNP_co _ hi, c03k_toNP_co _ hi, c03k_toNP_co _ hi]

theorem c03k_toNP_mul (f g : Nat → R) : c03k_toNP n (negMulR n f g) = c03k_toNP n f * c03k_toNP n g := by
  refine c03k_np_ext fun c hc => ?_
  rw [c03k_toNP_co _ hc, c03k_NP.mul_co_lt _ _ hc, c05u_negMul_congr n _ _ _ c (fun i hi => c03k_toNP_co f hi)]
  exact (c04k_congr_right n f _ _ hc (fun i hi => c03k_toNP_co g hi)).symm

theorem c03k_toNP_map {S : Type} [CommRing S] (φ : R →+* S) (f g : Nat → R) :
    c03k_toNP n (fun i => φ (negMulR n f g i)) = c03k_toNP n (fun i => φ (f i)) * c03k_toNP n (fun i => φ (g i)) := by
  rw [← c03k_toNP_mul]
  exact c03k_toNP_congr fun i _ => c04k_map φ n f g i

end toNP

/-- a ring homomorphism acts coefficient-wise on R[X]/(X^n+1) -/
def c03k_NP.map {R S : Type} [CommRing R] [CommRing S] {n : Nat} (φ : R →+* S) : c03k_NP R n →+* c03k_NP S n where
  toFun a := ⟨fun i => φ (a.co i), fun i hi => by rw [a.supp i hi, map_zero]⟩
  map_one' := by
    ext c
    show φ (if c = 0 ∧ 0 < n then 1 else 0) = if c = 0 ∧ 0 < n then 1 else 0
    rw [apply_ite φ, map_one, map_zero]
  map_mul' a b := by
    ext c
    show φ (if c < n then negMulR n a.co b.co c else 0) = if c < n then negMulR n (fun i => φ (a.co i)) (fun i => φ (b.co i)) c else 0
    rw [apply_ite φ, map_zero, c04k_map]
  map_zero' := c03k_NP.ext (funext fun _ => map_zero φ)
  map_add' a b := c03k_NP.ext (funext fun _ => map_add φ _ _)

theorem c03k_map_co {R S : Type} [CommRing R] [CommRing S] {n : Nat} (φ : R →+* S) (a : c03k_NP R n) (i : Nat) :
    (c03k_NP.map φ a).co i = φ (a.co i) := rfl

theorem c03k_listsum_co {R : Type} [CommRing R] {n : Nat} {ι : Type} (L : List ι) (F : ι → c03k_NP R n) (c : Nat) :
    ((L.map F).sum).co c = (L.map (fun p => (F p).co c)).sum := by
  induction L with
  | nil => rfl
  | cons x L ih => rw [List.map_cons, List.sum_cons, c03k_NP.add_co, ih, List.map_cons, List.sum_cons]

/-! ## coefficients of sums and integer multiples -/

section co
variable {R : Type} [CommRing R] {n : Nat}

/-- coefficient `i` as an additive map, so that `map_sum`, `map_zsmul` speak about `.co` -/
def c03k_coHom (n : Nat) (i : Nat) : c03k_NP R n →+ R where
  toFun a := a.co i
  map_zero' := rfl
  map_add' _ _ := rfl

theorem c03k_zsmul_co (z : Int) (a : c03k_NP R n) (i : Nat) : (z • a).co i = z • a.co i :=
  map_zsmul (c03k_coHom n i) z a

theorem c03k_nsmul_co (k : Nat) (a : c03k_NP R n) (i : Nat) : (k • a).co i = k • a.co i :=
  map_nsmul (c03k_coHom n i) k a

theorem c03k_toNP_zsmul (z : Int) (F : Nat → Int) : c03k_toNP n (fun c => z * F c) = z • c03k_toNP n F :=
  c03k_np_ext fun i hi => by rw [c03k_zsmul_co, c03k_toNP_co _ hi, c03k_toNP_co _ hi, smul_eq_mul]

theorem c03k_toNP_listsum {ι : Type} (L : List ι) (F : ι → Nat → R) :
    c03k_toNP n (fun c => (L.map (fun p => F p c)).sum) = (L.map (fun p => c03k_toNP n (F p))).sum :=
  c03k_np_ext fun i hi => by
    rw [c03k_listsum_co, c03k_toNP_co _ hi]
    exact congrArg List.sum (List.map_congr_left fun p _ => (c03k_toNP_co _ hi).symm)

end co

/-! ## reduction of integer coefficient functions modulo q -/

def c03k_red (q n : Nat) (f : Nat → Int) : c03k_NP (ZMod q) n := c03k_toNP n (fun j => ((f j : Int) : ZMod q))

theorem c03k_modEq_of_red {q n : Nat} {f g : Nat → Int} (h : c03k_red q n f = c03k_red q n g) {j : Nat} (hj : j < n) :
    f j ≡ g j [ZMOD (q : Int)] :=
  (ZMod.intCast_eq_intCast_iff _ _ _).mp (c03k_toNP_inj h hj)

theorem c03k_red_of_modEq {q n : Nat} {f g : Nat → Int} (h : ∀ j, j < n → f j ≡ g j [ZMOD (q : Int)]) :
    c03k_red q n f = c03k_red q n g := by
  unfold c03k_red
  exact c03k_toNP_congr (fun j hj => (ZMod.intCast_eq_intCast_iff _ _ _).mpr (h j hj))

theorem c03k_red_add (q n : Nat) (f g : Nat → Int) :
    c03k_red q n (fun j => f j + g j) = c03k_red q n f + c03k_red q n g := by
  unfold c03k_red
  rw [← c03k_toNP_add]
  exact c03k_toNP_congr (fun i _ => by push_cast; rfl)

theorem c03k_red_sub (q n : Nat) (f g : Nat → Int) :
    c03k_red q n (fun j => f j - g j) = c03k_red q n f - c03k_red q n g := by
  unfold c03k_red
  rw [← c03k_toNP_sub]
  exact c03k_toNP_congr (fun i _ => by push_cast; rfl)

theorem c03k_red_neg (q n : Nat) (f : Nat → Int) :
    c03k_red q n (fun j => - f j) = - c03k_red q n f := by
  unfold c03k_red
  rw [← c03k_toNP_neg]
  exact c03k_toNP_congr (fun i _ => by push_cast; rfl)

theorem c03k_red_mul (q n : Nat) (f g : Nat → Int) :
    c03k_red q n (negMulR n f g) = c03k_red q n f * c03k_red q n g :=
  c03k_toNP_map (Int.castRingHom (ZMod q)) f g

/-! ## evaluation at a root of X^n + 1 -/

section evAt
variable {S : Type} [CommRing S] {n : Nat}

/-- a root `ξ` of `X^n + 1` in `S` is a ring homomorphism S[X]/(X^n+1) → S: evaluation at `ξ` (multiplicative by `eval_negMul`) -/
def evAt (hn : 0 < n) (ξ : S) (hξ : ξ^n = -1) : c03k_NP S n →+* S where
  toFun a := ∑ j ∈ range n, a.co j * ξ^j
  map_one' := by
    rw [Finset.sum_eq_single_of_mem 0 (mem_range.mpr hn)
      (fun c _ hc => by rw [c03k_NP.one_co, if_neg (fun h => hc h.1), zero_mul]), c03k_NP.one_co, if_pos ⟨rfl, hn⟩,
      pow_zero, mul_one]
  map_mul' a b := by
    rw [← eval_negMul n hn ξ hξ a.co b.co]
    exact Finset.sum_congr rfl fun j hj => by rw [c03k_NP.mul_co_lt _ _ (mem_range.mp hj)]
  map_zero' := Finset.sum_eq_zero fun j _ => zero_mul _
  map_add' a b := by
    show ∑ j ∈ range n, (a.co j + b.co j) * ξ^j = _
    simp only [add_mul, Finset.sum_add_distrib]

theorem evAt_apply (hn : 0 < n) (ξ : S) (hξ : ξ^n = -1) (a : c03k_NP S n) :
    evAt hn ξ hξ a = ∑ j ∈ range n, a.co j * ξ^j := rfl

end evAt

end HC
