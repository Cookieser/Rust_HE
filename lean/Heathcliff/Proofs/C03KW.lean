/-
  C03KW — witnesses for C03K: the hypothesis bundles of the CKKS theorems hold on concrete objects and the programs run.
  (1) The two-level CKKS chain N = 4, q = {97, 113} of `World.lean` with a size-2 input and the program `rescale (mul x x)`.
  (2) The key level of C04T / C04K (N = 2, q = 13, P = 17) with a CKKS level on it, for `ckks_relinearize_phase`.
  (3) The one-level chain {13} with that key level and the program `relin (mul x x)`.
-/
import Heathcliff.Proofs.C03K
import Heathcliff.Proofs.World

namespace HC
open Finset

/-! ### non-vacuity: a concrete two-level CKKS chain built by the driver's constructor (N = 4, q = {97, 113}), a size-2 input with
     non-trivial phase, and the program `rescale (mul x x)`: all hypothesis bundles hold, the model evaluation succeeds and the
     reference evaluation is defined -/

@[instance_reducible] def c03k_decRnsCanon (l : Level) (p : RnsPoly) : Decidable (RnsCanon l p) :=
  inferInstanceAs (Decidable (p.size = l.size ∧ ∀ i, i < l.size → (p.getD i #[]).size = l.n ∧
    ∀ j, j < l.n → (p.getD i #[]).getD j 0 < (l.q i).value))
attribute [local instance] c03k_decRnsCanon

def c03k_exL1 : Level := (Drv.Sch.mkLevel .ckks 4 [97, 113] 0).toOption.getD default
def c03k_exL0 : Level := (Drv.Sch.mkLevel .ckks 4 [97] 0).toOption.getD default

def c03k_exChain : Nat → Level := fun c => if c = 0 then c03k_exL0 else c03k_exL1

def c03k_exSk : Array Int := #[1, 0, -1, 1]

/-- coefficient forms c0 = 20 − 3X + 7X², c1 = 1, transformed by the model's `rnsNtt`: phase = c0 + c1·s = 21 − 3X + 6X² + X³ -/
def c03k_exCt : Ct :=
  ⟨#[rnsNtt c03k_exL1 #[#[20, 94, 7, 0], #[20, 110, 7, 0]], rnsNtt c03k_exL1 #[#[1, 0, 0, 0], #[1, 0, 0, 0]]], true, 1⟩

def c03k_exVal : c03k_Val := ⟨1, c03k_exCt, 8⟩

def c03k_exRef : Nat → c03k_Ref := fun _ =>
  ⟨1, fun j => ((c03k_phase c03k_exL1 c03k_exSk c03k_exCt j : Int) : ℚ), 21, 0, 8, 2⟩

def c03k_exProg : c03k_Prog := .rescale (.mul (.input 0) (.input 0))

theorem c03k_exL1_ok : Drv.Sch.mkLevel .ckks 4 [97, 113] 0 = .ok c03k_exL1 := c01w_lv_ok (nv_mkLevel2c .ckks)

theorem c03k_exL0_ok : Drv.Sch.mkLevel .ckks 4 [97] 0 = .ok c03k_exL0 := c01w_lv_ok (nv_mkLevel1c .ckks)

/-- all that is evaluated about the instance -/
structure c03k_ExEval : Prop where
  canon : ∀ k, k < c03k_exCt.polys.size → RnsCanon c03k_exL1 (c03k_exCt.polys.getD k #[])
  phase : ∀ j, j < 4 → c03k_phase c03k_exL1 c03k_exSk c03k_exCt j = [21, -3, 6, 1].getD j 0
  fits : c03k_fits c03k_exChain (c03k_exRef 0) = true
  run : (c03k_run c03k_exChain #[c03k_exVal] #[] default (fun _ => none) c03k_exProg).toOption.isSome = true
  ref : (c03k_ref c03k_exChain 4 (c03k_skL1 4 c03k_exSk) c03k_exRef #[] (fun _ => ⟨fun _ => 0, 0⟩) (fun _ => 0) c03k_exProg).isSome = true

/-- ONE evaluation, on the written-out levels of Proofs/World.lean (evaluating the levels themselves would run the driver's constructor: the
    search for the auxiliary primes and the RNS tools) -/
theorem c03k_ex_eval : c03k_ExEval :=
  have h : _ ∧ _ ∧ _ ∧ _ ∧ _ := by
    unfold c03k_exChain c03k_exRef c03k_exVal c03k_exCt
    rw [show c03k_exL1 = nv_lv2c .ckks from c01w_lv2c .ckks, show c03k_exL0 = nv_lv1c .ckks from c01w_lv1c .ckks]
    decide +kernel
  ⟨h.1, h.2.1, h.2.2.1, h.2.2.2.1, h.2.2.2.2⟩

theorem c03k_exNext : c03k_Next c03k_exL1 c03k_exL0 := c03k_next_of_mkLevel (qs := [97]) c03k_exL1_ok c03k_exL0_ok

theorem c03k_exChain_cases {P : Level → Prop} (h0 : P c03k_exL0) (h1 : P c03k_exL1) (c : Nat) : P (c03k_exChain c) := by
  show P (if c = 0 then c03k_exL0 else c03k_exL1)
  split
  · exact h0
  · exact h1

/-- `c03k_ChainOK` is satisfiable (all parts except the concrete `Next` come from `mkLevel_facts`, i.e. from the model's constructors) -/
theorem c03k_exChainOK : c03k_ChainOK c03k_exChain 1 4 := by
  have a := mkLevel_facts c03k_exL1_ok
  have b := mkLevel_facts c03k_exL0_ok
  refine ⟨fun c _ => c03k_exChain_cases b.wf a.wf c, fun c _ => c03k_exChain_cases b.tool a.tool c,
    fun c _ => c03k_exChain_cases (P := fun l => l.scheme = .ckks) b.scheme_eq a.scheme_eq c,
    fun c _ => c03k_exChain_cases (P := fun l => l.n = 4) b.n_eq a.n_eq c, fun c hc => ?_⟩
  obtain rfl : c = 0 := by omega
  exact c03k_exNext

theorem c03k_exPhase : ∀ j, j < 4 → (c03k_phase c03k_exL1 c03k_exSk c03k_exCt j).natAbs ≤ 21 := by
  intro j hj
  rw [c03k_ex_eval.phase j hj]
  revert j
  decide

theorem c03k_exPhase0 : c03k_phase c03k_exL1 c03k_exSk c03k_exCt 0 = 21 ∧ c03k_phase c03k_exL1 c03k_exSk c03k_exCt 3 = 1 :=
  ⟨c03k_ex_eval.phase 0 (by decide), c03k_ex_eval.phase 3 (by decide)⟩

theorem c03k_exCanon : c03k_Canon c03k_exL1 c03k_exCt :=
  ⟨rfl, by decide, c03k_ex_eval.canon⟩

theorem c03k_exInv : c03k_Inv c03k_exChain 1 4 c03k_exSk c03k_exVal (c03k_exRef 0) :=
  c03k_inv_exact (by decide) c03k_exCanon rfl (by norm_num) (fun j hj => by exact_mod_cast c03k_exPhase j hj)
    c03k_ex_eval.fits

/-- `c03k_EnvOK` is satisfiable -/
theorem c03k_exEnv : c03k_EnvOK c03k_exChain 1 4 c03k_exSk #[c03k_exVal] c03k_exRef #[] (fun _ => ⟨fun _ => 0, 0⟩) :=
  c03k_env_single c03k_exInv

theorem c03k_exRun_ok : (c03k_run c03k_exChain #[c03k_exVal] #[] default (fun _ => none) c03k_exProg).toOption.isSome = true :=
  c03k_ex_eval.run

theorem c03k_exRef_ok :
    (c03k_ref c03k_exChain 4 (c03k_skL1 4 c03k_exSk) c03k_exRef #[] (fun _ => ⟨fun _ => 0, 0⟩) (fun _ => 0) c03k_exProg).isSome = true :=
  c03k_ex_eval.ref

/-- the main theorem applies to a concrete run: level 0, scale 8·8/113, size 3, and every phase coefficient within the bound -/
theorem c03k_program_nonvacuous :
    ∃ v r, c03k_run c03k_exChain #[c03k_exVal] #[] default (fun _ => none) c03k_exProg = .ok v ∧
      c03k_ref c03k_exChain 4 (c03k_skL1 4 c03k_exSk) c03k_exRef #[] (fun _ => ⟨fun _ => 0, 0⟩) (fun _ => 0) c03k_exProg = some r ∧
      v.lv = r.lv ∧ v.scale = r.scale ∧ v.ct.polys.size = r.size ∧
      ∀ j, j < 4 → |((c03k_phase (c03k_exChain v.lv) c03k_exSk v.ct j : Int) : ℚ) - r.val j| ≤ r.err ∧ |r.val j| ≤ r.mag := by
  have hv := R.eq_ok_of_isSome c03k_exRun_ok c03k_exVal
  obtain ⟨r, hr⟩ := Option.isSome_iff_exists.mp c03k_exRef_ok
  obtain ⟨a, b, c, _, d⟩ := ckks_program_sound c03k_exChainOK c03k_exEnv (key := #[]) (e := fun _ _ => 0) (G := fun _ _ => 0)
    (A := 0) (Be := 0) c03k_exProg (fun h => by cases h) hv hr
  exact ⟨_, r, hv, hr, a, b, c, d⟩

/-! ### non-vacuity of `ckks_relinearize_phase`: the key level of C04T/C04K (N = 2, q = 13, P = 17), a CKKS level on it whose tool
     carries the base built by `RNSBase.new`, the size-3 ciphertext and the relinearisation key of C04K -/

def c03k_exRL : Level :=
  ⟨.ckks, 2, 1, #[c04t_exMod 13], c04t_exMod 5, #[c04t_exTbl 13 5], { (default : RNSTool) with baseQ := c04k_exBase, n := 2 }⟩

theorem c03k_exRL_wf : c03k_exRL.WF := by
  refine ⟨rfl, rfl, fun i hi => ?_⟩
  have : i < 1 := hi
  interval_cases i
  obtain ⟨h1, h2, h3⟩ := c04t_exKL_wf.twf 0 (by decide)
  refine ⟨h1, h2, ?_⟩
  have : (2 : Nat) ^ (c04t_exKL.tb 0).k = 2 ^ 1 := h3
  exact Nat.pow_right_injective (le_refl 2) this

theorem c03k_exRL_levelQ : c07s_LevelQ c03k_exRL := by
  obtain ⟨b, hb⟩ := c04t_isOk_ok (x := RNSBase.new [c04t_exMod 13]) (by decide)
  have e : c04k_exBase = b := by unfold c04k_exBase; rw [hb]
  refine ⟨c04k_exBaseOf.wf, ?_⟩
  show c04k_exBase.base = #[c04t_exMod 13]
  rw [e, c01q_base_of_new hb]

/-- `c03k_KeyLevelOf` is satisfiable -/
theorem c03k_exRL_of : c03k_KeyLevelOf c04t_exKL c03k_exRL := by
  refine ⟨⟨rfl, rfl, fun i hi => ?_⟩, fun i hi => ?_⟩
  · have : i < 1 := hi
    interval_cases i
    rfl
  · have : i < 1 := hi
    interval_cases i
    rfl

theorem c03k_exRL_ct : CtCanon c03k_exRL (c04k_exCt3 true) := by
  refine ⟨⟨by decide, by decide, by decide +kernel⟩, ?_⟩
  show (1 : Nat) = 1
  rfl

theorem c03k_exKeyEq : c04k_KeyEq c04t_exKL 1 c04k_exRelinKey (c03k_skf #[1, -1])
    (fun p => negMulR c04t_exKL.n (c03k_skf #[1, -1]) (c03k_skf #[1, -1]) p) c04k_exE c04k_exG := by
  have h := c04k_exRelinKeyEq
  rwa [c04k_exS_eq] at h

/-- all hypotheses of `ckks_relinearize_phase` hold simultaneously; its conclusion on the instance -/
theorem c03k_relinearize_nonvacuous (keys : Nat → Option KSKey) (hk : keys 2 = some c04k_exRelinKey) (fuel : Nat) :
    ∃ r, relinearize c04t_exKL .ckks 1 keys (fuel + 2) (c04k_exCt3 true) = .ok r ∧ CtCanon c03k_exRL r ∧ r.polys.size = 2 ∧
      ∀ j, j < 2 → c03k_phase c03k_exRL #[1, -1] r j ≡ c03k_phase c03k_exRL #[1, -1] (c04k_exCt3 true) j
        + c04k_nuStd c04t_exKL 1 true ((c04k_exCt3 true).polys.getD 2 #[]) c04k_exRelinKey c04k_exE (c03k_skf #[1, -1]) j
          [ZMOD (c03k_Q c03k_exRL : Int)] := by
  obtain ⟨r, h1, h2, _, _, h5, h6⟩ := ckks_relinearize_phase c03k_exRL_wf c03k_exRL_levelQ c03k_exRL_of #[1, -1] c03k_exRL_ct rfl rfl
    keys fuel hk (c04k_exKSInput3 true) (by decide) c03k_exKeyEq
  exact ⟨r, h1, h2, h5, h6⟩

/-! ### non-vacuity of the program theorem WITH relinearisation: the one-level chain {13} (N = 2), key level {13, 17}, the
     relinearisation key of C04K, input phase 1 (c0 = X, c1 = 1, s = 1 − X), program `relin (mul x x)` -/

theorem c03k_exRL_tool : c05u_ToolOK c03k_exRL :=
  ⟨c03k_exRL_levelQ.bwf, c03k_exRL_levelQ.base, rfl, fun i hi => by
    have : c03k_exRL.size = 1 := rfl
    omega⟩

def c03k_exChain1 : Nat → Level := fun _ => c03k_exRL

theorem c03k_exChain1OK : c03k_ChainOK c03k_exChain1 0 2 :=
  ⟨fun _ _ => c03k_exRL_wf, fun _ _ => c03k_exRL_tool, fun _ _ => rfl, fun _ _ => rfl, fun c hc => by omega⟩

def c03k_exKeys : Nat → Option KSKey := fun i => if i = 2 then some c04k_exRelinKey else none

def c03k_exCt2 : Ct := ⟨#[rnsNtt c03k_exRL #[#[0, 1]], rnsNtt c03k_exRL #[#[1, 0]]], true, 1⟩
def c03k_exVal2 : c03k_Val := ⟨0, c03k_exCt2, 2⟩
def c03k_exRef2 : Nat → c03k_Ref := fun _ => ⟨0, fun j => ((c03k_phase c03k_exRL #[1, -1] c03k_exCt2 j : Int) : ℚ), 1, 0, 2, 2⟩
def c03k_exProg2 : c03k_Prog := .relin (.mul (.input 0) (.input 0))
def c03k_exBnu : Nat → ℚ := fun _ => 50 / 17

/-- all that is evaluated about the second instance -/
structure c03k_Ex2Eval : Prop where
  canon : ∀ k, k < c03k_exCt2.polys.size → RnsCanon c03k_exRL (c03k_exCt2.polys.getD k #[])
  phase : ∀ j, j < 2 → (c03k_phase c03k_exRL #[1, -1] c03k_exCt2 j).natAbs ≤ 1
  fits : c03k_fits c03k_exChain1 (c03k_exRef2 0) = true
  run : (c03k_run c03k_exChain1 #[c03k_exVal2] #[] c04t_exKL c03k_exKeys c03k_exProg2).toOption.isSome = true
  ref : (c03k_ref c03k_exChain1 2 (c03k_skL1 2 #[1, -1]) c03k_exRef2 #[] (fun _ => ⟨fun _ => 0, 0⟩) c03k_exBnu c03k_exProg2).isSome = true
  m0 : (c04t_exKL.m 0).value ≤ 13
  bnu : (((c03k_exRL.size * (13 * (c04t_exKL.n * 1)) + c04t_exKL.c04t_P / 2 * (1 + c03k_skL1 c04t_exKL.n #[1, -1]) : Nat) : ℚ))
        / (c04t_exKL.c04t_P : ℚ) ≤ 50 / 17

theorem c03k_ex2_eval : c03k_Ex2Eval :=
  have h : _ ∧ _ ∧ _ ∧ _ ∧ _ ∧ _ ∧ _ := by decide +kernel
  ⟨h.1, h.2.1, h.2.2.1, h.2.2.2.1, h.2.2.2.2.1, h.2.2.2.2.2.1, h.2.2.2.2.2.2⟩

theorem c03k_exPhase2 : ∀ j, j < 2 → (c03k_phase c03k_exRL #[1, -1] c03k_exCt2 j).natAbs ≤ 1 := c03k_ex2_eval.phase

theorem c03k_exInv2 : c03k_Inv c03k_exChain1 0 2 #[1, -1] c03k_exVal2 (c03k_exRef2 0) :=
  c03k_inv_exact (by decide) ⟨rfl, by decide, c03k_ex2_eval.canon⟩ rfl (by norm_num) (fun j hj => by exact_mod_cast c03k_exPhase2 j hj)
    c03k_ex2_eval.fits

/-- `c03k_RelinOK` is satisfiable -/
theorem c03k_exRelinOK :
    c03k_RelinOK c03k_exChain1 0 2 #[1, -1] c04t_exKL c03k_exKeys c04k_exRelinKey c04k_exE (fun _ => c04k_exG) 13 1 c03k_exBnu := by
  have h := c04k_exKSInput3 true
  refine ⟨fun _ _ => c03k_exRL_of, rfl, by decide, fun lv _ ct hc h3 => ?_, fun _ _ => c03k_exKeyEq, fun lv _ i hi => ?_,
    fun lv _ i hi p hp => ?_, fun _ _ => c03k_ex2_eval.bnu⟩
  · exact ⟨h.hkl, h.hsz, h.hd, h.hks, c03k_canon_kl c03k_exRL_of (hc.canon 2 (by omega)), h.hkey, h.hov,
      fun k hk => c03k_canon_kl c03k_exRL_of (hc.canon k (by
        have : (c04k_exRelinKey.getD 0 #[]).size = 2 := by decide
        omega)), h.hinv⟩
  · obtain rfl : i = 0 := Nat.lt_one_iff.mp hi
    exact c03k_ex2_eval.m0
  · have hp2 : p < 2 := hp
    interval_cases p
    · show ((1 : Int)).natAbs ≤ 1
      decide
    · show ((-1 : Int)).natAbs ≤ 1
      decide

theorem c03k_exRun2_ok : (c03k_run c03k_exChain1 #[c03k_exVal2] #[] c04t_exKL c03k_exKeys c03k_exProg2).toOption.isSome = true :=
  c03k_ex2_eval.run

theorem c03k_exRef2_ok :
    (c03k_ref c03k_exChain1 2 (c03k_skL1 2 #[1, -1]) c03k_exRef2 #[] (fun _ => ⟨fun _ => 0, 0⟩) c03k_exBnu c03k_exProg2).isSome = true :=
  c03k_ex2_eval.ref

/-- the program theorem applies to a concrete run that multiplies and relinearises -/
theorem c03k_program_relin_nonvacuous :
    ∃ v r, c03k_run c03k_exChain1 #[c03k_exVal2] #[] c04t_exKL c03k_exKeys c03k_exProg2 = .ok v ∧
      c03k_ref c03k_exChain1 2 (c03k_skL1 2 #[1, -1]) c03k_exRef2 #[] (fun _ => ⟨fun _ => 0, 0⟩) c03k_exBnu c03k_exProg2 = some r ∧
      v.lv = r.lv ∧ v.scale = r.scale ∧ v.ct.polys.size = 2 ∧ r.size = 2 ∧
      ∀ j, j < 2 → |((c03k_phase (c03k_exChain1 v.lv) #[1, -1] v.ct j : Int) : ℚ) - r.val j| ≤ r.err ∧ |r.val j| ≤ r.mag := by
  have hv := R.eq_ok_of_isSome c03k_exRun2_ok c03k_exVal2
  obtain ⟨r, hr⟩ := Option.isSome_iff_exists.mp c03k_exRef2_ok
  obtain ⟨a, b, c, _, d⟩ := ckks_program_sound c03k_exChain1OK (c03k_env_single c03k_exInv2) c03k_exProg2
    (fun _ => c03k_exRelinOK) hv hr
  have hr2 : r.size = 2 := by
    rw [c03k_exProg2, c03k_ref] at hr
    obtain ⟨x, _, g⟩ := c03k_obind hr
    obtain ⟨rfl, _⟩ := c03k_guard_some g
    rfl
  exact ⟨_, r, hv, hr, a, b, c.trans hr2, hr2, d⟩

end HC
