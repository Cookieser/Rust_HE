/- Arrays known entry by entry.  `Ent n a c`: the array `a` has `n` entries and entry `j` is `c j`.  A per-coefficient routine of the model is a
   chain of stages (`mapM'`, `zipM'`, a pushing fold, a `mapM` over the rows of a polynomial); a stage never needs its input as an explicit array,
   only its size and its entries, and `Ent` carries exactly that from stage to stage: `mapM'_ent`, `zipM'_ent`, `foldPush_ent` run a stage,
   `ent_bind` goes on with the rest of the routine, `rangeMapM_rows` / `rangeMapM_ent` put rows together.  The entry function of a stage's result
   is found by unification with the scalar exactness lemma that proves the stage.  Users: the RNSTool routines (C10I), the divisions by the last
   prime (DivRule, C05U), the mod-down of key switching (C04T). -/
import Heathcliff.Proofs.BaseRns
import Mathlib.Tactic.Choose
namespace HC

theorem getD_push_rangeMap {β : Type} (n : Nat) (F : Nat → β) (y d : β) {i : Nat} (hi : i < n) :
    (((List.range n).map F).toArray.push y).getD i d = F i := by
  simp [Array.getD, hi]
  intro h; omega

/-! ### arrays known entry by entry

   A stage of a routine (`mapM'`, `zipM'`, a pushing fold) never needs its input as an explicit array, only its size and its
   entries; `Ent` carries exactly that from stage to stage, and the entry function of a stage's result is found by unification
   with the scalar exactness lemma that proves the stage. -/

/-- `a` has `n` entries, entry `j` being `c j` -/
def Ent (n : Nat) (a : Array Nat) (c : Nat → Nat) : Prop := a.size = n ∧ ∀ j, j < n → a.getD j 0 = c j

theorem Ent.of_size {a : Array Nat} {n : Nat} (h : a.size = n) : Ent n a (fun j => a.getD j 0) := ⟨h, fun _ _ => rfl⟩

theorem foldPush_ent {n : Nat} {step : Array Nat → Nat → R (Array Nat)} {c : Nat → Nat}
    (h : ∀ acc j, j < n → step acc j = .ok (acc.push (c j))) :
    ∃ a, (List.range n).foldlM step #[] = .ok a ∧ Ent n a c :=
  ⟨_, R.foldlM_push_step c _ #[] (fun acc j hj => h acc j (List.mem_range.mp hj)),
    by rw [Array.empty_append, List.size_toArray, List.length_map, List.length_range],
    fun j hj => by rw [Array.empty_append]; exact array_getD_range_map _ 0 hj⟩

/-- `zipM'` runs over `a.size` and reads `b` by index: nothing is asked of `b.size` -/
theorem zipM'_ent {n : Nat} {a b : Array Nat} {f : Nat → Nat → R Nat} {ca cb c : Nat → Nat}
    (ha : Ent n a ca) (hb : ∀ j, j < n → b.getD j 0 = cb j) (h : ∀ j, j < n → f (ca j) (cb j) = .ok (c j)) :
    ∃ r, zipM' a b f = .ok r ∧ Ent n r c := by
  unfold zipM'
  rw [ha.1]
  exact foldPush_ent (fun acc j hj => by rw [ha.2 j hj, hb j hj, h j hj]; rfl)

theorem mapM'_ent {n : Nat} {a : Array Nat} {f : Nat → R Nat} {ca c : Nat → Nat}
    (ha : Ent n a ca) (h : ∀ j, j < n → f (ca j) = .ok (c j)) :
    ∃ r, mapM' a f = .ok r ∧ Ent n r c := by
  obtain ⟨r, e, hr⟩ := foldPush_ent (n := n) (step := fun acc j => do let y ← f (a.getD j 0); pure (acc.push y))
    (fun acc j hj => by rw [ha.2 j hj, h j hj]; rfl)
  refine ⟨r, ?_, hr⟩
  -- `mapM'` folds over the array itself: read the array as the list of its entries by index
  unfold mapM'
  rw [← e, ← Array.foldlM_toList, ← ha.1]
  conv => lhs; rw [array_toList_range a 0]
  rw [List.foldlM_map]

/-- run a stage whose result is known entry by entry, and go on with the rest of the routine -/
theorem ent_bind {β : Type} {n : Nat} {c : Nat → Nat} {X : R (Array Nat)} {K : Array Nat → R β} {P : β → Prop}
    (hX : ∃ a, X = .ok a ∧ Ent n a c) (hK : ∀ a, Ent n a c → ∃ out, K a = .ok out ∧ P out) :
    ∃ out, (X >>= K) = .ok out ∧ P out := by
  obtain ⟨a, e, h⟩ := hX
  rw [e]
  exact hK a h

/-- the rows of a polynomial computed one after the other, `Q i` known of row i; `K` puts the rows together -/
theorem rangeMapM_rows {n s : Nat} {F : Nat → R (Array Nat)} {Q : Nat → Array Nat → Prop} (K : List (Array Nat) → RnsPoly)
    (hKs : ∀ l : List (Array Nat), l.length = n → (K l).size = s)
    (hK : ∀ G : Nat → Array Nat, ∀ i, i < n → (K ((List.range n).map G)).getD i #[] = G i)
    (h : ∀ i, i < n → ∃ row, F i = .ok row ∧ Q i row) :
    ∃ out, ((List.range n).mapM F >>= fun outs => pure (K outs)) = .ok out ∧ out.size = s ∧ ∀ i, i < n → Q i (out.getD i #[]) := by
  choose! rows hrows using h
  refine ⟨_, by rw [R.mapM_ok F rows _ (fun i hi => (hrows i (List.mem_range.mp hi)).1)]; rfl,
    hKs _ (by rw [List.length_map, List.length_range]), fun i hi => ?_⟩
  rw [hK rows i hi]
  exact (hrows i hi).2

theorem rangeMapM_ent {n m s : Nat} {F : Nat → R (Array Nat)} {C : Nat → Nat → Nat} (K : List (Array Nat) → RnsPoly)
    (hKs : ∀ l : List (Array Nat), l.length = n → (K l).size = s)
    (hK : ∀ G : Nat → Array Nat, ∀ i, i < n → (K ((List.range n).map G)).getD i #[] = G i)
    (h : ∀ i, i < n → ∃ row, F i = .ok row ∧ Ent m row (C i)) :
    ∃ out, ((List.range n).mapM F >>= fun outs => pure (K outs)) = .ok out ∧ out.size = s ∧
      ∀ i, i < n → Ent m (out.getD i #[]) (C i) :=
  rangeMapM_rows (Q := fun i row => Ent m row (C i)) K hKs hK h

end HC
