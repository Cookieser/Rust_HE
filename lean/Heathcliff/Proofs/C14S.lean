/-
  C14S: serialization — closed-form sizes, the selected-terms mask identity, what the byte-width rule of the compact format
  (CodecExact) means for round trips, stream framing as a monoid law, and the validity predicate of the ciphertext body and
  wire tuple in plain terms (IFF; its instances for the two ciphertext formats are in C14T).
  Also here: the general size law `Codec.Sized c s` (every valid value of `c` takes `s` bytes) with `scalarC_sized`, `repC_sized`, and
  the bundle `c14t_CtWFw` that `ctWireC_valid_iff` is stated with (its readings per ciphertext format are C14T's).
  Only the section "instantiation with the model's NTT" uses theorems about the model outside the codec: those of C09
  (`intt_ntt`, `ntt_intt`, `intt_sim`, `NTTTables.new_wf_u64`).
  The last part, "Property theorems", holds the statements that Props/C14.lean and Props/C15.lean publish by `type_of%`.
-/
import Heathcliff.Proofs.Codec
import Heathcliff.Proofs.CodecExact
import Heathcliff.Proofs.C09G
namespace HC.Codec

/-! ## the byte-width rule `get_u64_limit` -/

theorem c14s_u64Limit_eq_iff (q w : Nat) (hq : q ≠ 0) :
    u64Limit q = w ↔ (1 ≤ w ∧ 256 ^ (w - 1) ≤ q ∧ q < 256 ^ w) := by
  constructor
  · intro h; subst h
    exact ⟨u64Limit_pos q hq, u64Limit_lower q hq, u64Limit_upper q⟩
  · intro ⟨h1, h2, h3⟩
    have a : u64Limit q ≤ w := (u64Limit_le_iff q w).mpr h3
    have b : ¬ u64Limit q ≤ w - 1 := by
      intro hb
      have := (u64Limit_le_iff q (w - 1)).mp hb
      omega
    omega

theorem c14s_u64Limit_mono (a b : Nat) (h : a ≤ b) : u64Limit a ≤ u64Limit b :=
  (u64Limit_le_iff a _).mpr (Nat.lt_of_le_of_lt h (u64Limit_upper b))

/-- the admissible moduli `2 ≤ q < 2^61` get between 1 and 8 bytes -/
theorem c14s_u64Limit_range (q : Nat) (h2 : 2 ≤ q) (h61 : q < 2 ^ 61) : 1 ≤ u64Limit q ∧ u64Limit q ≤ 8 :=
  ⟨u64Limit_pos q (by omega), u64Limit_le_8 q (by omega)⟩

/-- what the reader gets back from `w` bytes: the value modulo `256^w` -/
theorem c14s_leVal_leBytes_mod (w v : Nat) : leVal (leBytes w v) = v % 256 ^ w := by
  induction w generalizing v with
  | zero => simp [leBytes, leVal, Nat.mod_one]
  | succ n ih =>
    simp only [leBytes, leVal, ih]
    rw [Nat.pow_succ, Nat.mul_comm (256 ^ n) 256, Nat.mod_mul]

theorem c14s_u8_valid_of_lt (b : Nat) (h : b < 256) : u8C.valid b := by
  show b < 256 ^ 1; simpa using h

theorem c14s_leBytes_valid (w v : Nat) : (repC w u8C).valid (leBytes w v) :=
  repC_valid_of u8C w (leBytes w v) (leBytes_length w v) (fun b hb => c14s_u8_valid_of_lt b (leBytes_lt w v b hb))

/-- `read_u64_limited` after the byte loop of `write_u64_limited` with ANY width `w` and ANY value
    (ignoring the writer's final assertion): the value modulo `256^w` -/
theorem c14s_limC_dec_enc (w v : Nat) (rest : Bytes) :
    (limC w).dec ((limC w).enc v ++ rest) = .ok (v % 256 ^ w, rest) := by
  have hv := c14s_leBytes_valid w v
  have h := (mapC_lawful (repC w u8C) (leBytes w) leVal (repC_lawful w u8C u8C_lawful)).rt v hv rest
  have h2 : (mapC (repC w u8C) (leBytes w) leVal).norm v = v % 256 ^ w := by
    show leVal ((repC w u8C).norm (leBytes w v)) = _
    rw [repC_exact w u8C u8C_exact (leBytes w v) hv, c14s_leVal_leBytes_mod]
  rw [h2] at h
  exact h

/-- a width is lossless for a value iff the value is below `256^w` -/
theorem c14s_limC_lossless_iff (w v : Nat) (rest : Bytes) :
    (limC w).dec ((limC w).enc v ++ rest) = .ok (v, rest) ↔ v < 256 ^ w := by
  rw [c14s_limC_dec_enc]
  constructor
  · intro h
    have h1 : v % 256 ^ w = v := by injection h with h; injection h
    rw [← h1]; exact Nat.mod_lt _ (Nat.pow_pos (by decide))
  · intro h; rw [Nat.mod_eq_of_lt h]

/-- the largest residue `q - 1` survives `w` bytes iff `q ≤ 256^w` -/
theorem c14s_largest_residue_lossless_iff (q w : Nat) (hq : 1 ≤ q) (rest : Bytes) :
    (limC w).dec ((limC w).enc (q - 1) ++ rest) = .ok (q - 1, rest) ↔ q ≤ 256 ^ w := by
  rw [c14s_limC_lossless_iff]; omega

/-- if `q` is not a power of 256, the chosen width is exactly the number of bytes the largest residue needs -/
theorem c14s_width_exact (q w : Nat) (hq : 1 ≤ q) (hp : ∀ m, q ≠ 256 ^ m) (rest : Bytes) :
    (limC w).dec ((limC w).enc (q - 1) ++ rest) = .ok (q - 1, rest) ↔ u64Limit q ≤ w := by
  rw [c14s_largest_residue_lossless_iff q w hq, u64Limit_le_iff]
  have := hp w
  omega

/-- in particular no smaller width is lossless -/
theorem c14s_width_tight (q w : Nat) (hq : 1 ≤ q) (hp : ∀ m, q ≠ 256 ^ m) (hw : w < u64Limit q) (rest : Bytes) :
    (limC w).dec ((limC w).enc (q - 1) ++ rest) ≠ .ok (q - 1, rest) := by
  intro h
  have := (c14s_width_exact q w hq hp rest).mp h
  omega

/-- the reading "least `w` with `q ≤ 256^w`" is NOT what the code does -/
def c14s_WidthLeStatement : Prop :=
  ∀ q w : Nat, 2 ≤ q → q < 2 ^ 61 → (u64Limit q ≤ w ↔ q ≤ 256 ^ w)

theorem c14s_WidthLeStatement_false : ¬ c14s_WidthLeStatement := by
  intro h
  have := (h 256 1 (by decide) (by decide)).mpr (by decide)
  revert this; decide

/-- … and "no smaller width is lossless for the largest residue" fails exactly at powers of 256 -/
def c14s_WidthTightStatement : Prop :=
  ∀ q w : Nat, 2 ≤ q → q < 2 ^ 61 → w < u64Limit q → ∀ rest,
    (limC w).dec ((limC w).enc (q - 1) ++ rest) ≠ .ok (q - 1, rest)

theorem c14s_WidthTightStatement_false : ¬ c14s_WidthTightStatement := by
  intro h
  have h1 : u64Limit 256 = 2 := by decide
  have := h 256 1 (by decide) (by decide) (by rw [h1]; decide) []
  exact this ((c14s_largest_residue_lossless_iff 256 1 (by decide) []).mpr (by decide))

/-! ## closed-form sizes -/

theorem c14s_repC_valid_length {α} (n : Nat) (c : Codec α) (l : List α) (h : (repC n c).valid l) : l.length = n :=
  ((repC_valid_iff c n l).mp h).1

/-- `n` items without a length prefix: the sum of the item sizes -/
theorem c14s_repC_size {α} (n : Nat) (c : Codec α) (l : List α) (h : l.length = n) :
    (repC n c).size l = (l.map c.size).sum := by
  subst h; exact seqSize_replicate c l

theorem c14s_repC_size_const {α} (n : Nat) (c : Codec α) (l : List α) (s : Nat) (h : l.length = n)
    (hs : ∀ x ∈ l, c.size x = s) : (repC n c).size l = n * s := by
  rw [c14s_repC_size n c l h, list_sum_const c.size s l hs, h]

/-- a codec all of whose valid values take `s` bytes: the size law of a format, beside `Lawful.len` (the encoding of `x` has `size x`
    bytes).  It stands in this module and not in Codec / CodecExact because `repC_sized` sums with `list_sum_const` of Proofs/Base.lean,
    which those two do not import (they stand on Reader and the model alone) -/
def Codec.Sized {α} (c : Codec α) (s : Nat) : Prop := ∀ x, c.valid x → c.size x = s

theorem scalarC_sized (k : SK) (n : Nat) : (scalarC k n).Sized n := fun _ _ => rfl

theorem repC_sized {α} {c : Codec α} {s : Nat} (h : c.Sized s) (n : Nat) : (repC n c).Sized (n * s) := fun l hl =>
  have ⟨hn, hm⟩ := (repC_valid_iff c n l).mp hl
  c14s_repC_size_const n c l s hn fun x hx => h x (hm x hx)

/-- `Vec<I>`: 8 bytes of length, then the items -/
theorem c14s_vecC_size {α} (c : Codec α) (l : List α) : (vecC c).size l = 8 + (l.map c.size).sum := by
  show usizeC.size l.length + (repC l.length c).size l = _
  rw [c14s_repC_size _ _ _ rfl]; rfl

theorem c14s_vecC_size_const {α} (c : Codec α) (l : List α) (s : Nat) (hs : ∀ x ∈ l, c.size x = s) :
    (vecC c).size l = 8 + l.length * s := by
  rw [c14s_vecC_size, list_sum_const c.size s l hs]

theorem c14s_scalarC_size (k : SK) (n v : Nat) : (scalarC k n).size v = n := rfl
theorem c14s_boolC_size (b : Bool) : boolC.size b = 1 := rfl
theorem c14s_schemeC_size (v : Nat) : schemeC.size v = 1 := rfl

theorem c14s_repC_u64_size (n : Nat) (l : List Nat) (h : l.length = n) : (repC n u64C).size l = n * 8 :=
  c14s_repC_size_const n u64C l 8 h (fun _ _ => rfl)

theorem c14s_pidC_size (pid : List Nat) (h : pid.length = 4) : pidC.size pid = 32 :=
  c14s_repC_u64_size 4 pid h

theorem c14s_pidC_valid_length (pid : List Nat) (h : pidC.valid pid) : pid.length = 4 :=
  c14s_repC_valid_length 4 u64C pid h

/-- one residue in the compact format: `limit` bytes, whatever the value -/
theorem c14s_limC_size (l v : Nat) : (limC l).size v = l := by
  show (repC l u8C).size (leBytes l v) = l
  rw [c14s_repC_size_const l u8C (leBytes l v) 1 (leBytes_length l v) (fun _ _ => rfl), Nat.mul_one]

/-- `m` coefficients per component, `limit(q_j)` bytes each -/
theorem c14s_compSeq_size (m : Nat) : ∀ (qs : List Nat) (p : Poly),
    seqValid (qs.map fun q => repC m (limC (u64Limit q))) p →
    seqSize (qs.map fun q => repC m (limC (u64Limit q))) p = m * (qs.map u64Limit).sum
  | [], [], _ => rfl
  | [], _ :: _, h => h.elim
  | _ :: _, [], h => h.elim
  | q :: qs, comp :: p, h => by
    have hs := repC_sized (fun x _ => c14s_limC_size (u64Limit q) x) m comp h.1
    show (repC m (limC (u64Limit q))).size comp + seqSize (qs.map fun q => repC m (limC (u64Limit q))) p = _
    rw [hs, c14s_compSeq_size m qs p h.2, List.map_cons, List.sum_cons, Nat.mul_add]

/-- one polynomial, compact format: `N · Σ_j limit(q_j)` -/
theorem c14s_polyC_size (lv : Level) : (polyC lv).Sized (lv.n * sumLimits lv) := c14s_compSeq_size lv.n lv.moduli

/-- polynomial 0 of the terms format: `|T| · Σ_j limit(q_j)` -/
theorem c14s_termsPolyC_size (t : Nat) (lv : Level) : (termsPolyC t lv).Sized (t * sumLimits lv) := c14s_compSeq_size t lv.moduli

theorem c14s_extraC_size (s : Nat) : (extraC s).Sized (if s == 2 || s == 3 then 8 else 0) := by
  unfold extraC
  by_cases h2 : s = 2
  · subst h2; exact repC_sized (scalarC_sized _ _) 1
  by_cases h3 : s = 3
  · subst h3; exact repC_sized (scalarC_sized _ _) 1
  rw [beq_false_of_ne h2, beq_false_of_ne h3]
  exact repC_sized (scalarC_sized _ _) 0

/-- bytes of the polynomial block + seed block of a ciphertext body whose polynomial 0 takes `f0` bytes -/
def c14s_bodyBytes (lv : Level) (size : Nat) (seeded : Bool) (f0 : Nat) : Nat :=
  if seeded then f0 + 64 else if size = 0 then 0 else f0 + (size - 1) * (lv.n * sumLimits lv)

theorem c14s_bodyCodecs (lv : Level) (first : Codec Poly) (size : Nat) (seeded : Bool) :
    (if seeded then [first] else (first :: List.replicate (size - 1) (polyC lv)).take size)
      = if seeded = true ∨ size ≠ 0 then first :: List.replicate (if seeded then 0 else size - 1) (polyC lv) else [] := by
  cases seeded
  · cases size
    · rfl
    · simp
  · rfl

/-- the body when polynomial 0 always takes `f0` bytes in the format `first` -/
theorem c14s_ctBodyC_size (lv : Level) (size : Nat) (first : Codec Poly) (w : Bool × List Poly × List Nat)
    (hv : (ctBodyC lv size first).valid w) (f0 : Nat) (hf : first.Sized f0) :
    (ctBodyC lv size first).size w = 1 + c14s_bodyBytes lv size w.1 f0 := by
  obtain ⟨seeded, polys, seed⟩ := w
  obtain ⟨_, _, hp, hs⟩ := hv
  have hp' : seqValid (if seeded then [first] else (first :: List.replicate (size - 1) (polyC lv)).take size) polys := hp
  show 1 + (seqSize (if seeded then [first] else (first :: List.replicate (size - 1) (polyC lv)).take size) polys
    + (repC _ u64C).size seed) = _
  rw [c14s_repC_u64_size _ seed (c14s_repC_valid_length _ _ _ hs)]
  rw [c14s_bodyCodecs] at hp' ⊢
  by_cases h : seeded = true ∨ size ≠ 0
  · rw [if_pos h] at hp' ⊢
    obtain _ | ⟨p0, ps⟩ := polys
    · exact hp'.elim
    · have hsz : seqSize (List.replicate (if seeded then 0 else size - 1) (polyC lv)) ps
          = (if seeded then 0 else size - 1) * (lv.n * sumLimits lv) := repC_sized (c14s_polyC_size lv) _ ps hp'.2
      simp only [seqSize, hsz, hf p0 hp'.1, c14s_bodyBytes]
      cases seeded
      · have : size ≠ 0 := by simpa using h
        simp [this]
      · simp [seedWords]
  · rw [if_neg h] at hp' ⊢
    obtain ⟨rfl, rfl⟩ : seeded = false ∧ size = 0 := by simpa using h
    obtain _ | ⟨p0, ps⟩ := polys
    · rfl
    · exact hp'.elim

theorem c14s_guard_pid_valid_length (g : List Nat → Bool) (pid : List Nat) (h : (guardC pidC g).valid pid) :
    pid.length = 4 := c14s_pidC_valid_length pid h.1

/-- the compact / terms wire formats: header (parms id, size, NTT flag, scheme field), seed flag, body -/
theorem c14s_ctWireC_total (ctx : Ctx) (first : Level → Codec Poly) (w : CtWire) (hv : (ctWireC ctx first).valid w)
    (f0 : Nat)
    (hf : (first ((ctx.find w.1).getD noLevel)).Sized f0) :
    (ctWireC ctx first).size w
      = headerSize ((ctx.find w.1).getD noLevel) + 1
        + c14s_bodyBytes ((ctx.find w.1).getD noLevel) w.2.1 w.2.2.2.2.1 f0 := by
  obtain ⟨pid, size, ntt, extra, body⟩ := w
  obtain ⟨hpid, _, _, _, _, hex, hb⟩ := hv
  simp only at hpid hex hb hf
  have h1 := c14s_pidC_size pid (c14s_guard_pid_valid_length _ pid hpid)
  have h2 := c14s_extraC_size _ extra hex
  show pidC.size pid + (8 + (1 + ((extraC _).size extra + (ctBodyC _ size (first _)).size body))) = _
  rw [h1, h2, c14s_ctBodyC_size _ _ _ _ hb f0 hf]
  simp only [headerSize]
  omega

/-- closed form of the compact ciphertext size -/
def c14s_ctSize (lv : Level) (size : Nat) (seeded : Bool) : Nat :=
  headerSize lv + 1 + (if seeded then 1 else size) * (lv.n * sumLimits lv) + (if seeded then 64 else 0)

theorem c14s_bodyBytes_compact (lv : Level) (size : Nat) (seeded : Bool) :
    c14s_bodyBytes lv size seeded (lv.n * sumLimits lv)
      = (if seeded then 1 else size) * (lv.n * sumLimits lv) + (if seeded then 64 else 0) := by
  unfold c14s_bodyBytes
  cases seeded with
  | true => simp
  | false =>
    cases size with
    | zero => simp
    | succ k => simp [Nat.succ_mul, Nat.add_comm]

/-- the Rust formula `Ciphertext::serialized_size` in closed form -/
theorem c14s_ctSerializedSize_eq (lv : Level) (size : Nat) (seeded : Bool) :
    ctSerializedSize lv size seeded = c14s_ctSize lv size seeded := by
  unfold ctSerializedSize c14s_ctSize sumLimits
  rw [list_sum_map_mul ((if seeded then 1 else size) * lv.n) u64Limit lv.moduli, Nat.mul_assoc]
  rfl

theorem c14s_ctToWire_pid (ctx : Ctx) (tr : Level → Bool → Poly → Poly) (c : Ct) : (ctToWire ctx tr c).1 = c.pid := rfl
theorem c14s_ctToWire_size (ctx : Ctx) (tr : Level → Bool → Poly → Poly) (c : Ct) : (ctToWire ctx tr c).2.1 = c.size := rfl
theorem c14s_ctToWire_seeded (ctx : Ctx) (tr : Level → Bool → Poly → Poly) (c : Ct) :
    (ctToWire ctx tr c).2.2.2.2.1 = c.seeded := rfl

/-- compact format = `Ciphertext`, `PublicKey`: model size = closed form -/
theorem c14s_ctC_size (ctx : Ctx) (expand : List Nat → Level → Poly) (c : Ct) (hv : (ctC ctx expand).valid c) :
    (ctC ctx expand).size c = c14s_ctSize ((ctx.find c.pid).getD noLevel) c.size c.seeded := by
  have h := c14s_ctWireC_total ctx polyC (ctToWire ctx (fun _ _ p => p) c) hv
    (((ctx.find c.pid).getD noLevel).n * sumLimits ((ctx.find c.pid).getD noLevel))
    (c14s_polyC_size _)
  rw [c14s_ctToWire_pid, c14s_ctToWire_size, c14s_ctToWire_seeded, c14s_bodyBytes_compact] at h
  show (ctWireC ctx polyC).size _ = _
  rw [h]; unfold c14s_ctSize; omega

/-- closed form of the selected-terms size -/
def c14s_ctTermsSize (lv : Level) (size : Nat) (seeded : Bool) (nTerms : Nat) : Nat :=
  headerSize lv + 1 +
    (if seeded then nTerms * sumLimits lv + 64
     else if size = 0 then 0 else nTerms * sumLimits lv + (size - 1) * (lv.n * sumLimits lv))

/-- selected-terms format -/
theorem c14s_ctTermsC_size (ctx : Ctx) (expand : List Nat → Level → Poly)
    (fwd inv : Level → Nat → List Nat → List Nat) (terms : List Nat) (c : Ct)
    (hv : (ctTermsC ctx expand fwd inv terms).valid c) :
    (ctTermsC ctx expand fwd inv terms).size c
      = c14s_ctTermsSize ((ctx.find c.pid).getD noLevel) c.size c.seeded terms.length := by
  have h := c14s_ctWireC_total ctx (termsPolyC terms.length) _ hv
    (terms.length * sumLimits ((ctx.find c.pid).getD noLevel))
    (c14s_termsPolyC_size _ _)
  rw [c14s_ctToWire_pid, c14s_ctToWire_size, c14s_ctToWire_seeded] at h
  show (ctWireC ctx (termsPolyC terms.length)).size _ = _
  rw [h]; rfl

/-- the Rust formula `serialized_terms_size` agrees with the bytes written whenever the ciphertext is
    seeded or has at least one polynomial -/
theorem c14s_ctSerializedTermsSize_eq (lv : Level) (size : Nat) (seeded : Bool) (nTerms : Nat)
    (h : seeded = true ∨ size ≠ 0) :
    ctSerializedTermsSize lv size seeded nTerms = c14s_ctTermsSize lv size seeded nTerms := by
  unfold ctSerializedTermsSize c14s_ctTermsSize
  rw [list_sum_map_mul (nTerms + ((if seeded then 1 else size) - 1) * lv.n) u64Limit lv.moduli]
  show _ + _ * sumLimits lv + _ = _
  cases seeded with
  | true => simp [seedWords]; omega
  | false =>
    have hs : size ≠ 0 := by simpa using h
    simp only [Bool.false_eq_true, if_false, hs, Nat.add_mul, Nat.mul_assoc, Nat.add_zero]

/-- … and does NOT at `size = 0` (model: saturating `upper - 1`; in Rust `usize` underflow) -/
def c14s_TermsSizeStatement : Prop :=
  ∀ (lv : Level) (size : Nat) (seeded : Bool) (nTerms : Nat),
    ctSerializedTermsSize lv size seeded nTerms = c14s_ctTermsSize lv size seeded nTerms

theorem c14s_TermsSizeStatement_false : ¬ c14s_TermsSizeStatement := by
  intro h
  have := h ⟨[0, 0, 0, 0], 1, 2, [17]⟩ 0 false 1
  revert this; decide

/-! ### full format, parameters, plaintexts -/

theorem c14s_vec_u64_size (l : List Nat) : (vecC u64C).size l = 8 + l.length * 8 :=
  c14s_vecC_size_const u64C l 8 (fun _ _ => rfl)

/-- number of `u64` words the full format puts on the wire -/
def c14s_fullWords (lv : Level) (c : CtFull) : Nat := min (fullSent lv c) c.data.length

/-- full format: header + 8 (length) + 8 per word sent = the Rust `serialized_full_size` -/
theorem c14s_ctFullC_size (ctx : Ctx) (expand : List Nat → Level → List Nat) (c : CtFull)
    (hv : (ctFullC ctx expand).valid c) :
    (ctFullC ctx expand).size c
      = ctSerializedFullSize ((ctx.find c.pid).getD noLevel) (c14s_fullWords ((ctx.find c.pid).getD noLevel) c) := by
  obtain ⟨⟨hpid, _, _, _, hex, _⟩, _⟩ := hv
  simp only at hpid hex
  have h1 := c14s_pidC_size c.pid (c14s_guard_pid_valid_length _ c.pid hpid)
  have h2 := c14s_extraC_size _ _ hex
  show pidC.size c.pid + (8 + (1 + ((extraC _).size _ + (vecC u64C).size (c.data.take _)))) = _
  rw [h1, h2, c14s_vec_u64_size, List.length_take]
  simp only [ctSerializedFullSize, headerSize, c14s_fullWords]
  omega

/-- an expanded (or size ≠ 2) ciphertext sends its whole buffer -/
theorem c14s_fullWords_unseeded (lv : Level) (c : CtFull)
    (h : ¬ (c.size = 2 ∧ c.data.getD (lv.moduli.length * lv.n) 0 = seedFlag)) :
    c14s_fullWords lv c = c.data.length := by
  unfold c14s_fullWords fullSent
  have : (c.size == 2 && c.data.getD (lv.moduli.length * lv.n) 0 == seedFlag) = false := by
    cases hb : (c.size == 2 && c.data.getD (lv.moduli.length * lv.n) 0 == seedFlag) with
    | false => rfl
    | true =>
      simp only [Bool.and_eq_true, beq_iff_eq] at hb
      exact absurd hb h
  simp only [this, Bool.false_eq_true, if_false, Nat.min_self]

/-- a flagged size-2 ciphertext with a full buffer sends `k·N + 1 + 8` words -/
theorem c14s_fullWords_seeded (lv : Level) (c : CtFull)
    (h : c.size = 2 ∧ c.data.getD (lv.moduli.length * lv.n) 0 = seedFlag)
    (hl : lv.moduli.length * lv.n + 9 ≤ c.data.length) :
    c14s_fullWords lv c = lv.moduli.length * lv.n + 9 := by
  unfold c14s_fullWords fullSent
  have : (c.size == 2 && c.data.getD (lv.moduli.length * lv.n) 0 == seedFlag) = true := by
    simp only [Bool.and_eq_true, beq_iff_eq]; exact h
  simp only [this, if_true, seedWords]
  omega

/-- `EncryptionParameters`: the Rust formula, unconditionally -/
theorem c14s_paramsC_size (p : Params) : paramsC.size p = paramsSerializedSize p := by
  show 1 + (8 + ((vecC modulusC).size p.coeffMod
      + ((repC (if hasPlain p.scheme then 1 else 0) modulusC).size (if hasPlain p.scheme then [p.plainMod] else []) + 1))) = _
  have h1 : (vecC modulusC).size p.coeffMod = 8 + p.coeffMod.length * 8 :=
    c14s_vecC_size_const modulusC p.coeffMod 8 (fun _ _ => rfl)
  have h2 : (repC (if hasPlain p.scheme then 1 else 0) modulusC).size (if hasPlain p.scheme then [p.plainMod] else [])
      = if hasPlain p.scheme then 8 else 0 := by
    cases hasPlain p.scheme <;> rfl
  rw [h1, h2]; unfold paramsSerializedSize; omega

/-- `Plaintext`, `SecretKey`: 32 + 8 + 8·|data| + 8 -/
theorem c14s_plainC_size (p : Plain) (hv : plainC.valid p) : plainC.size p = plainSerializedSize p := by
  have h1 := c14s_pidC_size p.pid (c14s_pidC_valid_length p.pid hv.1)
  show pidC.size p.pid + ((vecC u64C).size p.data + 8) = _
  rw [h1, c14s_vec_u64_size]; unfold plainSerializedSize; omega

/-! ### key sets and containers -/

theorem c14s_sum_rows' {γ} (s : Nat) : ∀ (rows : List (List γ)),
    (rows.map (fun r => 8 + r.length * s)).sum = 8 * rows.length + s * (rows.map List.length).sum := by
  intro rows
  induction rows with
  | nil => simp
  | cons r rs ih =>
    simp only [List.map_cons, List.sum_cons, List.length_cons, ih, Nat.mul_add, Nat.mul_comm r.length s]
    omega

/-- `Vec<Vec<I>>` in general: 8 + Σ_rows (8 + Σ items) -/
theorem c14s_vec2_size {γ} (c : Codec γ) (rows : List (List γ)) :
    (vecC (vecC c)).size rows = 8 + (rows.map (fun r => 8 + (r.map c.size).sum)).sum := by
  rw [c14s_vecC_size]
  congr 1
  exact congrArg List.sum (List.map_congr_left fun r _ => c14s_vecC_size c r)

/-- `Vec<Vec<I>>` with items of one size `s` (rows may be empty = missing keys, or ragged):
    8 + 8·rows + s·(total number of items) -/
theorem c14s_vec2_size_const {γ} (c : Codec γ) (rows : List (List γ)) (s : Nat)
    (hs : ∀ r ∈ rows, ∀ x ∈ r, c.size x = s) :
    (vecC (vecC c)).size rows = 8 + (8 * rows.length + s * (rows.map List.length).sum) := by
  rw [c14s_vecC_size]
  congr 1
  rw [List.map_congr_left fun r hr => c14s_vecC_size_const c r s (hs r hr)]
  exact c14s_sum_rows' s rows

/-- `KSwitchKeys` = `RelinKeys` = `GaloisKeys`: parms id, outer length, one length word per entry
    (present or missing), then the keys -/
theorem c14s_kswitchC_size {γ} (pk : Codec γ) (k : KSwitch γ) (s : Nat) (hv : (kswitchC pk).valid k)
    (hs : ∀ r ∈ k.keys, ∀ x ∈ r, pk.size x = s) :
    (kswitchC pk).size k = 32 + 8 + 8 * k.keys.length + s * (k.keys.map List.length).sum := by
  have h1 := c14s_pidC_size k.pid (c14s_pidC_valid_length k.pid hv.1)
  show pidC.size k.pid + (vecC (vecC pk)).size k.keys = _
  rw [h1, c14s_vec2_size_const pk k.keys s hs]; omega

/-- an entry that is missing costs exactly the 8 bytes of its (zero) length -/
theorem c14s_kswitch_missing_entry {γ} (pk : Codec γ) : (vecC pk).size [] = 8 := by
  rw [c14s_vecC_size]; rfl

/-- `Cipher1d` / `Plain1d` -/
theorem c14s_c1dC_size {γ} (c : Codec γ) (l : List γ) (s : Nat) (hs : ∀ x ∈ l, c.size x = s) :
    (c1dC c).size l = 8 + l.length * s := c14s_vecC_size_const c l s hs

/-- `Cipher2d` / `Plain2d` of dimensions `d1 × d2` -/
theorem c14s_c2dC_size {γ} (c : Codec γ) (l : List (List γ)) (s d2 : Nat)
    (hd : ∀ r ∈ l, r.length = d2) (hs : ∀ r ∈ l, ∀ x ∈ r, c.size x = s) :
    (c2dC c).size l = 8 + l.length * (8 + d2 * s) :=
  c14s_vecC_size_const (vecC c) l (8 + d2 * s) (fun r hr => by
    rw [c14s_vecC_size_const c r s (hs r hr), hd r hr])

/-- `Cipher3d` / `Plain3d` of dimensions `d1 × d2 × d3` -/
theorem c14s_c3dC_size {γ} (c : Codec γ) (l : List (List (List γ))) (s d2 d3 : Nat)
    (hd2 : ∀ m ∈ l, m.length = d2) (hd3 : ∀ m ∈ l, ∀ r ∈ m, r.length = d3)
    (hs : ∀ m ∈ l, ∀ r ∈ m, ∀ x ∈ r, c.size x = s) :
    (c3dC c).size l = 8 + l.length * (8 + d2 * (8 + d3 * s)) :=
  c14s_vecC_size_const (vecC (vecC c)) l (8 + d2 * (8 + d3 * s)) (fun m hm =>
    c14s_c2dC_size c m s d3 (hd3 m hm) (hs m hm) |>.trans (by rw [hd2 m hm]))

/-- rns_plain objects, any fixed sequence: the sum of the component sizes -/
theorem c14s_seqC_size {α} : ∀ (cs : List (Codec α)) (xs : List α),
    (seqC cs).size xs = ((cs.zip xs).map (fun p => p.1.size p.2)).sum := by
  intro cs
  induction cs with
  | nil => intro xs; cases xs <;> rfl
  | cons c cs ih =>
    intro xs
    cases xs with
    | nil => rfl
    | cons x xs =>
      show c.size x + (seqC cs).size xs = _
      rw [ih xs]; rfl

theorem c14s_rnspC_size {γ} (cs : List (Codec γ)) (xs : List γ) :
    (rnspC cs).size xs = ((cs.zip xs).map (fun p => p.1.size p.2)).sum := c14s_seqC_size cs xs

/-- `PolynomialSerializer`: parms id + `N` plaintext coefficients of `limit(t)` bytes, or one compact polynomial -/
theorem c14s_polySerC_size (ctx : Ctx) (w : List Nat × Poly) (hv : (polySerC ctx).valid w) :
    (polySerC ctx).size w
      = 32 + (if w.1 == pidZero then ctx.firstN * u64Limit ctx.plainMod
              else ((ctx.find w.1).getD noLevel).n * sumLimits ((ctx.find w.1).getD noLevel)) := by
  obtain ⟨pid, p⟩ := w
  obtain ⟨hpid, _, hp⟩ := hv
  simp only at hpid hp
  have h1 := c14s_pidC_size pid (c14s_guard_pid_valid_length _ pid hpid)
  show pidC.size pid + (if pid == pidZero then _ else _ : Codec Poly).size p = _
  rw [h1]
  congr 1
  by_cases hz : (pid == pidZero) = true
  · simp only [hz, if_true]
    exact c14s_repC_size_const _ _ _ _ (by simp; omega) (fun x _ => c14s_limC_size _ x)
  · simp only [hz] at hp ⊢
    exact c14s_polyC_size _ p hp

/-! ### monotonicity facts -/

theorem c14s_sumLimits_le (lv : Level) (h : ∀ q ∈ lv.moduli, q < 2 ^ 64) : sumLimits lv ≤ 8 * lv.moduli.length := by
  unfold sumLimits
  generalize lv.moduli = qs at h
  induction qs with
  | nil => simp
  | cons q qs ih =>
    have h1 := u64Limit_le_8 q (h q (by simp))
    have h2 := ih (fun x hx => h x (by simp [hx]))
    simp only [List.map_cons, List.sum_cons, List.length_cons]
    omega

theorem c14s_sumLimits_ge (lv : Level) (h : ∀ q ∈ lv.moduli, q ≠ 0) : lv.moduli.length ≤ sumLimits lv := by
  unfold sumLimits
  generalize lv.moduli = qs at h
  induction qs with
  | nil => simp
  | cons q qs ih =>
    have h1 := u64Limit_pos q (h q (by simp))
    have h2 := ih (fun x hx => h x (by simp [hx]))
    simp only [List.map_cons, List.sum_cons, List.length_cons]
    omega

/-- compact < full: an expanded ciphertext of `size` polynomials (buffer of `k·N·size` words) -/
theorem c14s_compact_lt_full (lv : Level) (size : Nat) (h : ∀ q ∈ lv.moduli, q < 2 ^ 64) :
    c14s_ctSize lv size false < ctSerializedFullSize lv (lv.moduli.length * lv.n * size) := by
  have h1 := c14s_sumLimits_le lv h
  have h2 : size * (lv.n * sumLimits lv) ≤ size * (lv.n * (8 * lv.moduli.length)) :=
    Nat.mul_le_mul_left _ (Nat.mul_le_mul_left _ h1)
  have h3 : size * (lv.n * (8 * lv.moduli.length)) = lv.moduli.length * lv.n * size * 8 := by
    ac_rfl
  unfold c14s_ctSize ctSerializedFullSize
  simp only [Bool.false_eq_true, if_false]
  omega

/-- the compact format saves exactly `8·k·N·size − size·N·Σ limit + 7` bytes -/
theorem c14s_compact_le_full (lv : Level) (size : Nat) (h : ∀ q ∈ lv.moduli, q < 2 ^ 64) :
    c14s_ctSize lv size false ≤ ctSerializedFullSize lv (lv.moduli.length * lv.n * size) :=
  Nat.le_of_lt (c14s_compact_lt_full lv size h)

/-- seeded vs expanded size-2 ciphertext (compact format): smaller exactly when one polynomial is more than 64 bytes -/
theorem c14s_seeded_lt_expanded_iff (lv : Level) :
    c14s_ctSize lv 2 true < c14s_ctSize lv 2 false ↔ 64 < lv.n * sumLimits lv := by
  unfold c14s_ctSize
  simp only [if_true, Bool.false_eq_true, if_false]
  omega

/-- in particular for every level with `N ≥ 65` and at least one non-zero modulus -/
theorem c14s_seeded_lt_expanded (lv : Level) (hn : 65 ≤ lv.n) (hk : lv.moduli ≠ []) (hq : ∀ q ∈ lv.moduli, q ≠ 0) :
    c14s_ctSize lv 2 true < c14s_ctSize lv 2 false := by
  rw [c14s_seeded_lt_expanded_iff]
  have h1 := c14s_sumLimits_ge lv hq
  have h2 : 1 ≤ lv.moduli.length := by
    cases hm : lv.moduli with
    | nil => exact absurd hm hk
    | cons _ _ => simp
  have h3 : lv.n * 1 ≤ lv.n * sumLimits lv := Nat.mul_le_mul_left _ (by omega)
  omega

/-- the saving of the seed: one polynomial minus 64 bytes -/
theorem c14s_seeded_saving (lv : Level) :
    c14s_ctSize lv 2 true + lv.n * sumLimits lv = c14s_ctSize lv 2 false + 64 := by
  unfold c14s_ctSize
  simp only [if_true, Bool.false_eq_true, if_false]
  omega

/-- terms ≤ compact as soon as no more than `N` terms are selected -/
theorem c14s_terms_le_compact (lv : Level) (size : Nat) (seeded : Bool) (nTerms : Nat) (h : nTerms ≤ lv.n) :
    c14s_ctTermsSize lv size seeded nTerms ≤ c14s_ctSize lv size seeded := by
  have h1 : nTerms * sumLimits lv ≤ lv.n * sumLimits lv := Nat.mul_le_mul_right _ h
  unfold c14s_ctTermsSize c14s_ctSize
  cases seeded with
  | true => simp only [if_true]; omega
  | false =>
    simp only [Bool.false_eq_true, if_false]
    cases size with
    | zero => simp
    | succ k =>
      simp only [Nat.succ_ne_zero, if_false, Nat.add_sub_cancel, Nat.succ_mul]
      omega

/-- the terms format with all `N` terms costs exactly the compact size (seeded or `size ≥ 1`) -/
theorem c14s_terms_all_eq_compact (lv : Level) (size : Nat) (seeded : Bool) (h : seeded = true ∨ size ≠ 0) :
    c14s_ctTermsSize lv size seeded lv.n = c14s_ctSize lv size seeded := by
  unfold c14s_ctTermsSize c14s_ctSize
  cases seeded with
  | true => simp only [if_true]; omega
  | false =>
    have hs : size ≠ 0 := by simpa using h
    obtain ⟨k, rfl⟩ := Nat.exists_eq_succ_of_ne_zero hs
    simp only [Bool.false_eq_true, if_false, Nat.succ_ne_zero, Nat.succ_sub_one, Nat.succ_mul]
    omega

/-- terms size is monotone in the number of terms -/
theorem c14s_terms_mono (lv : Level) (size : Nat) (seeded : Bool) (a b : Nat) (h : a ≤ b) :
    c14s_ctTermsSize lv size seeded a ≤ c14s_ctTermsSize lv size seeded b := by
  have h1 : a * sumLimits lv ≤ b * sumLimits lv := Nat.mul_le_mul_right _ h
  unfold c14s_ctTermsSize
  cases seeded with
  | true => simp only [if_true]; omega
  | false =>
    simp only [Bool.false_eq_true, if_false]
    by_cases hs : size = 0
    · simp [hs]
    · simp only [hs, if_false]; omega

/-- full format: a flagged (seeded) size-2 buffer is shorter than the expanded one iff `k·N > 9` -/
theorem c14s_full_seeded_lt_iff (lv : Level) :
    ctSerializedFullSize lv (lv.moduli.length * lv.n + 9) < ctSerializedFullSize lv (lv.moduli.length * lv.n * 2)
      ↔ 9 < lv.moduli.length * lv.n := by
  unfold ctSerializedFullSize; omega

/-! ## the selected-terms format: mask identity -/

/-- keep the coefficients whose index is in `T` (and below `n`), zero elsewhere; length `n` -/
def c14s_mask (n : Nat) (T v : List Nat) : List Nat :=
  (List.range n).map (fun i => if i ∈ T then v.getD i 0 else 0)

theorem c14s_mask_length (n : Nat) (T v : List Nat) : (c14s_mask n T v).length = n := by
  simp [c14s_mask]

theorem c14s_mask_getElem? (n : Nat) (T v : List Nat) (i : Nat) :
    (c14s_mask n T v)[i]? = if i < n then some (if i ∈ T then v.getD i 0 else 0) else none := by
  unfold c14s_mask
  by_cases h : i < n
  · simp [h]
  · simp [h]

/-- coefficient view: the selected coefficient on `T`, zero elsewhere -/
theorem c14s_mask_getD (n : Nat) (T v : List Nat) (i : Nat) :
    (c14s_mask n T v).getD i 0 = if i < n ∧ i ∈ T then v.getD i 0 else 0 := by
  rw [List.getD_eq_getElem?_getD, c14s_mask_getElem?]
  by_cases h : i < n <;> by_cases h2 : i ∈ T <;> simp [h, h2]

theorem c14s_fold_set_length : ∀ (tv : List (Nat × Nat)) (acc : List Nat),
    (tv.foldl (fun acc tv => acc.set tv.1 tv.2) acc).length = acc.length := by
  intro tv
  induction tv with
  | nil => intro acc; rfl
  | cons x xs ih => intro acc; simp only [List.foldl_cons, ih, List.length_set]

theorem c14s_fold_set_get (f : Nat → Nat) : ∀ (T : List Nat) (acc : List Nat) (i : Nat), i < acc.length →
    ((T.zip (T.map f)).foldl (fun acc tv => acc.set tv.1 tv.2) acc)[i]?
      = if i ∈ T then some (f i) else acc[i]? := by
  intro T
  induction T with
  | nil => intro acc i _; simp
  | cons t T ih =>
    intro acc i hi
    simp only [List.map_cons, List.zip_cons_cons, List.foldl_cons]
    rw [ih (acc.set t (f t)) i (by rw [List.length_set]; exact hi)]
    by_cases h1 : i ∈ T
    · simp [h1]
    · by_cases h2 : i = t
      · subst h2; simp [h1, hi]
      · have h3 : ¬ t = i := fun e => h2 e.symm
        simp [h1, h2, h3]

/-- `TermsMaskStatement` of Props/C14 (without its side conditions, which are not needed):
    scattering the gathered coefficients into a zero vector is masking -/
theorem c14s_scatter_gather (n : Nat) (T v : List Nat) : scatter n T (gather T v) = c14s_mask n T v := by
  apply List.ext_getElem?
  intro i
  rw [c14s_mask_getElem?]
  unfold scatter gather
  by_cases h : i < n
  · rw [c14s_fold_set_get (fun t => v.getD t 0) T (List.replicate n 0) i (by simpa using h)]
    by_cases h2 : i ∈ T <;> simp [h, h2]
  · rw [if_neg h]
    apply List.getElem?_eq_none
    rw [c14s_fold_set_length]; simp; omega

theorem c14s_mask_idem (n : Nat) (T v : List Nat) : c14s_mask n T (c14s_mask n T v) = c14s_mask n T v := by
  apply List.ext_getElem?
  intro i
  rw [c14s_mask_getElem?, c14s_mask_getElem?, c14s_mask_getD]
  by_cases h : i < n <;> by_cases h2 : i ∈ T <;> simp [h, h2]

/-- selecting every index below `n` changes nothing -/
theorem c14s_mask_all (n : Nat) (T v : List Nat) (hl : v.length = n) (hT : ∀ i, i < n → i ∈ T) :
    c14s_mask n T v = v := by
  apply List.ext_getElem?
  intro i
  rw [c14s_mask_getElem?]
  by_cases h : i < n
  · have hi : i < v.length := by omega
    simp [h, hT i h, List.getD_eq_getElem?_getD, List.getElem?_eq_getElem hi]
  · rw [if_neg h]; symm; apply List.getElem?_eq_none; omega

theorem c14s_mapIdx_mapIdx {α β γ} (f : Nat → α → β) (g : Nat → β → γ) : ∀ (p : List α) (i : Nat),
    mapIdx g i (mapIdx f i p) = mapIdx (fun j x => g j (f j x)) i p := by
  intro p
  induction p with
  | nil => intro i; rfl
  | cons x xs ih => intro i; simp only [mapIdx, ih]

theorem c14s_mapIdx_congr {α β} (f g : Nat → α → β) : ∀ (p : List α) (i : Nat),
    (∀ j x, p[j]? = some x → f (i + j) x = g (i + j) x) → mapIdx f i p = mapIdx g i p
  | [], _, _ => rfl
  | x :: xs, i, h => by
    rw [mapIdx, mapIdx, show f i x = g i x from h 0 x rfl, c14s_mapIdx_congr f g xs (i + 1) fun j y hy => by
      rw [Nat.add_assoc, Nat.add_comm 1 j]; exact h (j + 1) y hy]

theorem c14s_mapIdx_id {α} (f : Nat → α → α) (p : List α) (i : Nat)
    (h : ∀ j x, p[j]? = some x → f (i + j) x = x) : mapIdx f i p = p := by
  rw [c14s_mapIdx_congr f (fun _ x => x) p i h]
  clear h
  induction p generalizing i with
  | nil => rfl
  | cons x xs ih => simp only [mapIdx, ih]

/-- polynomial 0 after a terms round trip: per component, mask in coefficient form -/
def c14s_maskPoly (lv : Level) (fwd inv : Level → Nat → List Nat → List Nat) (T : List Nat) (ntt : Bool) (p : Poly) : Poly :=
  mapIdx (fun j comp => if ntt then fwd lv j (c14s_mask lv.n T (inv lv j comp)) else c14s_mask lv.n T comp) 0 p

/-- the object `deserialize_terms ∘ serialize_terms` returns: polynomial 0 masked, all other polynomials
    and header fields as they are, a seed expanded (as in the compact format), scheme-foreign header fields
    (scale outside CKKS, correction factor outside BGV) at their defaults -/
def c14s_maskTerms (ctx : Ctx) (expand : List Nat → Level → Poly)
    (fwd inv : Level → Nat → List Nat → List Nat) (T : List Nat) (c : Ct) : Ct :=
  let lv := (ctx.find c.pid).getD noLevel
  { pid := c.pid, size := c.size, ntt := c.ntt,
    scale := if lv.scheme == 2 then c.scale else oneF64,
    cf := if lv.scheme == 3 then c.cf else 1,
    polys := (match c.polys with
        | [] => []
        | p0 :: ps => c14s_maskPoly lv fwd inv T c.ntt p0 :: ps) ++ (if c.seeded then [expand c.seed lv] else []),
    seed := [] }

theorem c14s_terms_tr (lv : Level) (fwd inv : Level → Nat → List Nat → List Nat) (T : List Nat) (ntt : Bool) (p : Poly) :
    mapIdx (fun j vals =>
        let comp := scatter lv.n T vals
        if ntt then fwd lv j comp else comp) 0
      (mapIdx (fun j comp => gather T (if ntt then inv lv j comp else comp)) 0 p)
      = c14s_maskPoly lv fwd inv T ntt p := by
  rw [c14s_mapIdx_mapIdx]
  unfold c14s_maskPoly
  apply c14s_mapIdx_congr
  intro j x _
  cases ntt <;> simp [c14s_scatter_gather]

/-- `decodeTerms (encodeTerms ct T ++ rest) = (maskTerms ct T, rest)` -/
theorem c14s_terms_mask_identity (ctx : Ctx) (expand : List Nat → Level → Poly)
    (fwd inv : Level → Nat → List Nat → List Nat) (T : List Nat) (c : Ct)
    (hv : (ctTermsC ctx expand fwd inv T).valid c) (rest : Bytes) :
    (ctTermsC ctx expand fwd inv T).dec ((ctTermsC ctx expand fwd inv T).enc c ++ rest)
      = .ok (c14s_maskTerms ctx expand fwd inv T c, rest) := by
  rw [(ctTermsC_lawful ctx expand fwd inv T).rt c hv rest, ctTermsC_norm ctx expand fwd inv T c hv,
    ctOfWire_toWire]
  unfold c14s_maskTerms
  cases hp : c.polys with
  | nil => rfl
  | cons p0 ps => simp only [c14s_terms_tr]

/-- `inv ∘ fwd` is the identity on the masked coefficient vectors of `p` (all that idempotence needs;
    for the real transforms: C09 `intt_ntt` on reduced vectors of length `N`) -/
def c14s_InvFwdOnMasked (lv : Level) (fwd inv : Level → Nat → List Nat → List Nat) (T : List Nat) (p : Poly) : Prop :=
  ∀ j comp, p[j]? = some comp →
    inv lv j (fwd lv j (c14s_mask lv.n T (inv lv j comp))) = c14s_mask lv.n T (inv lv j comp)

theorem c14s_maskPoly_idem (lv : Level) (fwd inv : Level → Nat → List Nat → List Nat) (T : List Nat) (ntt : Bool)
    (p : Poly) (h : ntt = true → c14s_InvFwdOnMasked lv fwd inv T p) :
    c14s_maskPoly lv fwd inv T ntt (c14s_maskPoly lv fwd inv T ntt p) = c14s_maskPoly lv fwd inv T ntt p := by
  unfold c14s_maskPoly
  rw [c14s_mapIdx_mapIdx]
  apply c14s_mapIdx_congr
  intro j x hx
  rw [Nat.zero_add]
  cases ntt with
  | false => simp [c14s_mask_idem]
  | true =>
    simp only [if_true]
    rw [h rfl j x hx, c14s_mask_idem]

/-- idempotence: masking twice = masking once.  Needs only: a seeded object has its polynomial 0
    (always true of valid objects), and for NTT-form objects `inv ∘ fwd = id` on the masked vectors. -/
theorem c14s_maskTerms_idem (ctx : Ctx) (expand : List Nat → Level → Poly)
    (fwd inv : Level → Nat → List Nat → List Nat) (T : List Nat) (c : Ct)
    (hne : c.polys ≠ [] ∨ c.seed = [])
    (h : c.ntt = true → ∀ p0, c.polys.head? = some p0 →
      c14s_InvFwdOnMasked ((ctx.find c.pid).getD noLevel) fwd inv T p0) :
    c14s_maskTerms ctx expand fwd inv T (c14s_maskTerms ctx expand fwd inv T c)
      = c14s_maskTerms ctx expand fwd inv T c := by
  obtain ⟨pid, size, ntt, scale, cf, polys, seed⟩ := c
  have hdef : ∀ (b : Bool) (x d : Nat), (if b then (if b then x else d) else d) = if b then x else d :=
    fun b x d => by cases b <;> rfl
  cases polys with
  | nil =>
    have hs : seed = [] := by simpa using hne
    subst hs
    simp only [c14s_maskTerms, Ct.seeded, List.isEmpty_nil, Bool.not_true, Bool.false_eq_true, if_false, List.append_nil, hdef]
  | cons p0 ps =>
    have hi := c14s_maskPoly_idem ((ctx.find pid).getD noLevel) fwd inv T ntt p0 (fun e => h e p0 rfl)
    simp only [c14s_maskTerms, Ct.seeded, List.isEmpty_nil, Bool.not_true, Bool.false_eq_true, if_false,
      List.append_nil, List.cons_append, hi, hdef]

/-- uniform sufficient condition: `inv ∘ fwd = id` on all vectors of length `N` -/
theorem c14s_invFwdOnMasked_of_length (lv : Level) (fwd inv : Level → Nat → List Nat → List Nat) (T : List Nat) (p : Poly)
    (h : ∀ j x, x.length = lv.n → inv lv j (fwd lv j x) = x) : c14s_InvFwdOnMasked lv fwd inv T p :=
  fun j _ _ => h j _ (c14s_mask_length _ _ _)

/-- sufficient condition matching the real transforms: `inv ∘ fwd = id` on reduced vectors of length `N`,
    and `inv` returns reduced values (`0 < q_j`) -/
theorem c14s_invFwdOnMasked_of_reduced (lv : Level) (fwd inv : Level → Nat → List Nat → List Nat) (T : List Nat) (p : Poly)
    (h : ∀ j x, j < p.length → x.length = lv.n → (∀ i, x.getD i 0 < lv.moduli.getD j 0) → inv lv j (fwd lv j x) = x)
    (hr : ∀ j x i, j < p.length → (inv lv j x).getD i 0 < lv.moduli.getD j 0) :
    c14s_InvFwdOnMasked lv fwd inv T p := by
  intro j comp hj
  have hjl : j < p.length := by
    rcases Nat.lt_or_ge j p.length with h1 | h1
    · exact h1
    · rw [List.getElem?_eq_none h1] at hj; cases hj
  apply h j _ hjl (c14s_mask_length _ _ _)
  intro i
  rw [c14s_mask_getD]
  have h0 := hr j comp i hjl
  by_cases hc : i < lv.n ∧ i ∈ T
  · rw [if_pos hc]; exact h0
  · rw [if_neg hc]; omega

theorem c14s_maskPoly_all (lv : Level) (fwd inv : Level → Nat → List Nat → List Nat) (T : List Nat) (ntt : Bool) (p : Poly)
    (hT : ∀ i, i < lv.n → i ∈ T)
    (hlen : ntt = false → ∀ comp ∈ p, comp.length = lv.n)
    (hntt : ntt = true → ∀ j comp, p[j]? = some comp →
      (inv lv j comp).length = lv.n ∧ fwd lv j (inv lv j comp) = comp) :
    c14s_maskPoly lv fwd inv T ntt p = p := by
  unfold c14s_maskPoly
  apply c14s_mapIdx_id
  intro j x hx
  rw [Nat.zero_add]
  cases ntt with
  | false =>
    simp only [Bool.false_eq_true, if_false]
    exact c14s_mask_all _ _ _ (hlen rfl x (List.mem_of_getElem? hx)) hT
  | true =>
    simp only [if_true]
    obtain ⟨h1, h2⟩ := hntt rfl j x hx
    rw [c14s_mask_all _ _ _ h1 hT, h2]

/-- `T = all`: selecting every coefficient restores exactly what the compact format restores
    (`(ctC ctx expand).norm c`: the object itself with a seed expanded) -/
theorem c14s_maskTerms_all (ctx : Ctx) (expand : List Nat → Level → Poly)
    (fwd inv : Level → Nat → List Nat → List Nat) (T : List Nat) (c : Ct)
    (hT : ∀ i, i < ((ctx.find c.pid).getD noLevel).n → i ∈ T)
    (hlen : c.ntt = false → ∀ p0, c.polys.head? = some p0 → ∀ comp ∈ p0, comp.length = ((ctx.find c.pid).getD noLevel).n)
    (hntt : c.ntt = true → ∀ p0, c.polys.head? = some p0 → ∀ j comp, p0[j]? = some comp →
      (inv ((ctx.find c.pid).getD noLevel) j comp).length = ((ctx.find c.pid).getD noLevel).n ∧
      fwd ((ctx.find c.pid).getD noLevel) j (inv ((ctx.find c.pid).getD noLevel) j comp) = comp) :
    c14s_maskTerms ctx expand fwd inv T c
      = ctOfWire ctx expand (fun _ _ p => p) (ctToWire ctx (fun _ _ p => p) c) := by
  rw [ctOfWire_toWire]
  unfold c14s_maskTerms
  cases hp : c.polys with
  | nil => rfl
  | cons p0 ps =>
    have := c14s_maskPoly_all ((ctx.find c.pid).getD noLevel) fwd inv T c.ntt p0 hT
      (fun e => hlen e p0 (by rw [hp]; rfl)) (fun e => hntt e p0 (by rw [hp]; rfl))
    simp only [this]

/-! ## stream framing as a monoid law -/

/-- items written back to back (no prefix): what `for x in xs { x.serialize(stream) }` produces -/
def c14s_encodeMany {α} (c : Codec α) (xs : List α) : Bytes := (xs.map c.enc).flatten

/-- read `n` items back to back (`for _ in 0..n { deserialize(stream) }`) — the model's `repC` reader -/
def c14s_decodeMany {α} (c : Codec α) (n : Nat) (bs : Bytes) : Except DErr (List α × Bytes) := (repC n c).dec bs

theorem c14s_encodeMany_nil {α} (c : Codec α) : c14s_encodeMany c [] = [] := rfl

theorem c14s_encodeMany_cons {α} (c : Codec α) (x : α) (xs : List α) :
    c14s_encodeMany c (x :: xs) = c.enc x ++ c14s_encodeMany c xs := by
  simp [c14s_encodeMany]

/-- the monoid law -/
theorem c14s_encodeMany_append {α} (c : Codec α) (xs ys : List α) :
    c14s_encodeMany c (xs ++ ys) = c14s_encodeMany c xs ++ c14s_encodeMany c ys := by
  simp [c14s_encodeMany]

theorem c14s_encodeMany_length {α} (c : Codec α) (hc : c.Lawful) : ∀ (xs : List α), (∀ x ∈ xs, c.valid x) →
    (c14s_encodeMany c xs).length = (xs.map c.size).sum := by
  intro xs
  induction xs with
  | nil => intro _; rfl
  | cons x xs ih =>
    intro h
    rw [c14s_encodeMany_cons, List.length_append, hc.len x (h x (by simp)), ih (fun y hy => h y (by simp [hy]))]
    simp

theorem c14s_seqC_enc_nil {α} : (seqC ([] : List (Codec α))).enc [] = [] := rfl

/-- the model's fixed-count writer is `encodeMany` -/
theorem c14s_repC_enc {α} (c : Codec α) (n : Nat) (xs : List α) (h : xs.length = n) :
    (repC n c).enc xs = c14s_encodeMany c xs := by
  subst h
  induction xs with
  | nil => rfl
  | cons x xs ih =>
    unfold repC at ih ⊢
    rw [List.length_cons, List.replicate_succ, seqC_enc_cons, ih, c14s_encodeMany_cons]

/-- heterogeneous sequences (RNS components, rns_plain objects): concatenation of formats = concatenation of bytes -/
theorem c14s_seqC_enc_append {α} : ∀ (cs ds : List (Codec α)) (xs ys : List α), xs.length = cs.length →
    (seqC (cs ++ ds)).enc (xs ++ ys) = (seqC cs).enc xs ++ (seqC ds).enc ys
  | [], _, [], _, _ => rfl
  | [], _, _ :: _, _, h => nomatch h
  | _ :: _, _, [], _, h => nomatch h
  | c :: cs, ds, x :: xs, ys, h => by
    simp only [List.cons_append, seqC_enc_cons, c14s_seqC_enc_append cs ds xs ys (Nat.succ.inj h), List.append_assoc]

theorem c14s_repC_enc_append {α} (c : Codec α) (m n : Nat) (xs ys : List α) (hx : xs.length = m) (hy : ys.length = n) :
    (repC (m + n) c).enc (xs ++ ys) = (repC m c).enc xs ++ (repC n c).enc ys := by
  rw [c14s_repC_enc c (m + n) (xs ++ ys) (by simp [hx, hy]), c14s_repC_enc c m xs hx, c14s_repC_enc c n ys hy,
    c14s_encodeMany_append]

/-- `Vec<I>` (and `Cipher1d`, …): the 8-byte length, then `encodeMany`; only the item part is a homomorphism -/
theorem c14s_vecC_enc {α} (c : Codec α) (l : List α) : (vecC c).enc l = leBytes 8 l.length ++ c14s_encodeMany c l := by
  show (depC usizeC (fun n => repC n c)).enc (l.length, l) = _
  rw [depC_enc]
  show usizeC.enc l.length ++ (repC l.length c).enc l = _
  rw [c14s_repC_enc c l.length l rfl]
  show (scalarC .usize 8).enc l.length ++ _ = _
  rw [scalarC_enc]

theorem c14s_vecC_enc_append {α} (c : Codec α) (xs ys : List α) :
    (vecC c).enc (xs ++ ys)
      = leBytes 8 (xs.length + ys.length) ++ ((vecC c).enc xs).drop 8 ++ ((vecC c).enc ys).drop 8 := by
  have hd : ∀ l : List α, ((vecC c).enc l).drop 8 = c14s_encodeMany c l := by
    intro l
    rw [c14s_vecC_enc]
    have := @List.drop_left _ (leBytes 8 l.length) (c14s_encodeMany c l)
    rw [leBytes_length] at this; exact this
  rw [hd xs, hd ys, c14s_vecC_enc, c14s_encodeMany_append, List.length_append, List.append_assoc]

theorem c14s_seqNorm_replicate {α} (c : Codec α) (n : Nat) (xs : List α) (h : xs.length = n) :
    seqNorm (List.replicate n c) xs = xs.map c.norm := by
  subst h
  induction xs with
  | nil => rfl
  | cons x xs ih => simp only [List.length_cons, List.replicate_succ, seqNorm, ih, List.map_cons]

/-- `decodeMany (encodeMany xs ++ rest) = (xs (normalised), rest)` -/
theorem c14s_decodeMany_encodeMany {α} (c : Codec α) (hc : c.Lawful) (xs : List α) (hv : ∀ x ∈ xs, c.valid x)
    (rest : Bytes) :
    c14s_decodeMany c xs.length (c14s_encodeMany c xs ++ rest) = .ok (xs.map c.norm, rest) := by
  have hval := repC_valid_of c xs.length xs rfl hv
  have h := (repC_lawful xs.length c hc).rt xs hval rest
  rw [c14s_repC_enc c xs.length xs rfl] at h
  unfold c14s_decodeMany
  rw [h]
  show Except.ok (seqNorm (List.replicate xs.length c) xs, rest) = _
  rw [c14s_seqNorm_replicate c xs.length xs rfl]

/-- for exact item formats the items themselves come back -/
theorem c14s_decodeMany_encodeMany_exact {α} (c : Codec α) (hc : c.Lawful) (he : c.Exact) (xs : List α)
    (hv : ∀ x ∈ xs, c.valid x) (rest : Bytes) :
    c14s_decodeMany c xs.length (c14s_encodeMany c xs ++ rest) = .ok (xs, rest) := by
  rw [c14s_decodeMany_encodeMany c hc xs hv rest, List.map_congr_left fun x hx => he x (hv x hx), List.map_id']

/-- reading a prefix of a longer stream: the first `|xs|` items, and the untouched encoding of the others -/
theorem c14s_decodeMany_prefix {α} (c : Codec α) (hc : c.Lawful) (xs ys : List α) (hv : ∀ x ∈ xs, c.valid x)
    (rest : Bytes) :
    c14s_decodeMany c xs.length (c14s_encodeMany c (xs ++ ys) ++ rest)
      = .ok (xs.map c.norm, c14s_encodeMany c ys ++ rest) := by
  rw [c14s_encodeMany_append, List.append_assoc]
  exact c14s_decodeMany_encodeMany c hc xs hv _

/-- reading `m + n` items = reading `m`, then `n` from what is left -/
theorem c14s_decodeMany_add {α} (c : Codec α) : ∀ (m n : Nat) (bs : Bytes),
    c14s_decodeMany c (m + n) bs = (match c14s_decodeMany c m bs with
      | .error e => .error e
      | .ok (xs, r) => match c14s_decodeMany c n r with
        | .error e => .error e
        | .ok (ys, r') => .ok (xs ++ ys, r')) := by
  intro m n bs
  show seqDec (List.replicate (m + n) c) bs = _
  rw [List.replicate_add, seqDec_append]
  show dbind (c14s_decodeMany c m) (fun xs => dbind (c14s_decodeMany c n) fun ys => dpure (xs ++ ys)) bs = _
  unfold dbind
  cases c14s_decodeMany c m bs with
  | error e => rfl
  | ok q => obtain ⟨xs, r⟩ := q; dsimp only; cases c14s_decodeMany c n r <;> rfl

/-! ## validity in plain terms (what the `valid` hypotheses of the size and selected-terms theorems ask) -/

/-- one component per modulus, `m` coefficients each, every coefficient below `bound q_j` -/
def c14s_CompsFit (m : Nat) (bound : Nat → Nat) : List Nat → Poly → Prop
  | [], [] => True
  | q :: qs, comp :: p => (comp.length = m ∧ ∀ v ∈ comp, v < bound q) ∧ c14s_CompsFit m bound qs p
  | _, _ => False

/-- a polynomial fits the compact layout: every coefficient representable in `limit(q_j)` bytes -/
def c14s_PolyFits (m : Nat) (qs : List Nat) (p : Poly) : Prop := c14s_CompsFit m (fun q => 256 ^ u64Limit q) qs p

/-- the compact polynomial codec accepts exactly the polynomials that fit -/
theorem polyFits_iff (m : Nat) : ∀ (qs : List Nat) (p : Poly),
    seqValid (qs.map fun q => repC m (limC (u64Limit q))) p ↔ c14s_PolyFits m qs p
  | [], [] => Iff.rfl
  | [], _ :: _ => Iff.rfl
  | _ :: _, [] => Iff.rfl
  | q :: qs, comp :: p => by
    show ((repC m (limC (u64Limit q))).valid comp ∧ _) ↔ ((comp.length = m ∧ ∀ v ∈ comp, v < 256 ^ u64Limit q) ∧ _)
    simp only [repC_valid_iff, limC_valid_iff, polyFits_iff m qs p]
    rfl

/-- residues below their modulus always fit -/
theorem c14s_polyFits_of_reduced (m : Nat) : ∀ (qs : List Nat) (p : Poly),
    c14s_CompsFit m (fun q => q) qs p → c14s_PolyFits m qs p
  | [], [], _ => trivial
  | [], _ :: _, h => h.elim
  | _ :: _, [], h => h.elim
  | _ :: qs, _ :: p, h => ⟨⟨h.1.1, fun v hv => u64Limit_width _ v (h.1.2 v hv)⟩, c14s_polyFits_of_reduced m qs p h.2⟩

theorem c14s_boolC_valid (b : Bool) : boolC.valid b := by
  cases b
  · show (0 : Nat) < 256 ^ 1; decide
  · show (1 : Nat) < 256 ^ 1; decide

theorem c14s_boolC_norm (b : Bool) : boolC.norm b = b := by cases b <;> rfl

/-- the scheme-dependent header field constrains exactly the field that is on the wire -/
theorem extraC_valid_iff (s scale cf : Nat) :
    (extraC s).valid (if s == 2 then [scale] else if s == 3 then [cf] else []) ↔
      ((s = 2 → scale < 2 ^ 64) ∧ (s = 3 → cf < 2 ^ 64)) := by
  unfold extraC
  by_cases e2 : s = 2
  · subst e2; simp [f64C, repC_u64_valid_iff]
  · by_cases e3 : s = 3
    · subst e3; simp [repC_u64_valid_iff]
    · simp [e2, e3, repC_u64_valid_iff]

theorem seed_valid_iff (seed : List Nat) :
    (repC (if (!seed.isEmpty) then seedWords else 0) u64C).valid seed ↔ (seed = [] ∨ (seed.length = 8 ∧ ∀ w ∈ seed, w < 2 ^ 64)) := by
  rw [repC_u64_valid_iff]
  cases seed <;> simp [seedWords]

/-- THE BODY, for any codec `first` of polynomial 0: count right for the seed flag, seed 8 words or absent, polynomial 0 valid for
    `first`, every other polynomial fits the level -/
theorem ctBodyC_valid_iff (lv : Level) (first : Codec Poly) (size : Nat) (polys : List Poly) (seed : List Nat) :
    (ctBodyC lv size first).valid (!seed.isEmpty, polys, seed) ↔
      (polys.length = (if (!seed.isEmpty) then 1 else size) ∧
       (seed = [] ∨ (seed.length = 8 ∧ ∀ w ∈ seed, w < 2 ^ 64)) ∧
       (∀ p0, polys.head? = some p0 → first.valid p0) ∧
       (∀ p ∈ polys.tail, c14s_PolyFits lv.n lv.moduli p)) := by
  show (boolC.valid _ ∧ boolC.norm _ = _ ∧
    seqValid (if (!seed.isEmpty) then [first] else (first :: List.replicate (size - 1) (polyC lv)).take size) polys ∧
    (repC (if (!seed.isEmpty) then seedWords else 0) u64C).valid seed) ↔ _
  rw [c14s_bodyCodecs, seed_valid_iff]
  simp only [c14s_boolC_valid, c14s_boolC_norm, true_and]
  -- what is left: the polynomial list against `first :: replicate _ (polyC lv)` (or `[]` for an empty unseeded object)
  have hps : ∀ k ps, seqValid (List.replicate k (polyC lv)) ps ↔ (ps.length = k ∧ ∀ p ∈ ps, c14s_PolyFits lv.n lv.moduli p) :=
    fun k ps => (repC_valid_iff (polyC lv) k ps).trans
      (and_congr_right fun _ => forall₂_congr fun p _ => polyFits_iff lv.n lv.moduli p)
  generalize (!seed.isEmpty) = b
  obtain _ | ⟨p0, ps⟩ := polys
  · cases b
    · by_cases h0 : size = 0 <;> simp [seqValid, h0, eq_comm]
    · simp [seqValid]
  · have hcons : ∀ k, seqValid (first :: List.replicate k (polyC lv)) (p0 :: ps) ↔
        (first.valid p0 ∧ ps.length = k ∧ ∀ p ∈ ps, c14s_PolyFits lv.n lv.moduli p) :=
      fun k => and_congr_right fun _ => hps k ps
    cases b
    · by_cases h0 : size = 0
      · simp [seqValid, h0]
      · have e : ps.length = size - 1 ↔ ps.length + 1 = size := by omega
        simp only [h0, Bool.false_eq_true, false_or, ne_eq, not_false_eq_true, if_true, if_false, hcons, e, List.length_cons,
          List.head?_cons, Option.some.injEq, forall_eq', List.tail_cons]
        exact ⟨fun ⟨⟨a, b, c⟩, d⟩ => ⟨b, d, a, c⟩, fun ⟨b, d, a, c⟩ => ⟨⟨a, b, c⟩, d⟩⟩
    · simp only [true_or, if_true, hcons, List.length_cons, List.head?_cons, Option.some.injEq, forall_eq', List.tail_cons,
        Nat.succ_inj]
      exact ⟨fun ⟨⟨a, b, c⟩, d⟩ => ⟨b, d, a, c⟩, fun ⟨b, d, a, c⟩ => ⟨⟨a, b, c⟩, d⟩⟩

theorem guard_pid_valid_iff (g : List Nat → Bool) (pid : List Nat) :
    ((guardC pidC g).valid pid ∧ (guardC pidC g).norm pid = pid) ↔ (pid.length = 4 ∧ (∀ w ∈ pid, w < 2 ^ 64) ∧ g pid = true) := by
  show ((pidC.valid pid ∧ g (pidC.norm pid) = true) ∧ pidC.norm pid = pid) ↔ _
  rw [show pidC.valid pid ↔ _ from repC_u64_valid_iff 4 pid]
  constructor
  · rintro ⟨⟨hv, hg⟩, hn⟩; rw [hn] at hg; exact ⟨hv.1, hv.2, hg⟩
  · rintro ⟨hl, hu, hg⟩
    have hn : pidC.norm pid = pid := pidC_exact pid ((repC_u64_valid_iff 4 pid).mpr ⟨hl, hu⟩)
    exact ⟨⟨⟨hl, hu⟩, by rw [hn]; exact hg⟩, hn⟩

/-- header and shape conditions common to the compact and the terms format -/
structure c14s_CtWF (ctx : Ctx) (c : Ct) : Prop where
  pid_len : c.pid.length = 4
  pid_u64 : ∀ w ∈ c.pid, w < 2 ^ 64
  known : (ctx.find c.pid).isSome = true
  size_u64 : c.size < 2 ^ 64
  scale_u64 : c.scale < 2 ^ 64
  cf_u64 : c.cf < 2 ^ 64
  count : c.polys.length = if c.seeded then 1 else c.size
  seed_ok : c.seed = [] ∨ (c.seed.length = 8 ∧ ∀ w ∈ c.seed, w < 2 ^ 64)
  tail_fit : ∀ p ∈ c.polys.tail,
    c14s_PolyFits ((ctx.find c.pid).getD noLevel).n ((ctx.find c.pid).getD noLevel).moduli p

/-- `c14s_CtWF` with the two header word bounds required only where the level's scheme serializes the field
    (scheme 2 = CKKS: the scale; scheme 3 = BGV: the correction factor).  It is the well-formedness that `valid` of the two ciphertext
    formats amounts to; the tag is C14T's, where its readings per format stand, and the structure is here because `c14t_CtWF_iff` and
    `ctWireC_valid_iff` below are stated with it -/
structure c14t_CtWFw (ctx : Ctx) (c : Ct) : Prop where
  pid_len : c.pid.length = 4
  pid_u64 : ∀ w ∈ c.pid, w < 2 ^ 64
  known : (ctx.find c.pid).isSome = true
  size_u64 : c.size < 2 ^ 64
  scale_u64 : ((ctx.find c.pid).getD noLevel).scheme = 2 → c.scale < 2 ^ 64
  cf_u64 : ((ctx.find c.pid).getD noLevel).scheme = 3 → c.cf < 2 ^ 64
  count : c.polys.length = if c.seeded then 1 else c.size
  seed_ok : c.seed = [] ∨ (c.seed.length = 8 ∧ ∀ w ∈ c.seed, w < 2 ^ 64)
  tail_fit : ∀ p ∈ c.polys.tail,
    c14s_PolyFits ((ctx.find c.pid).getD noLevel).n ((ctx.find c.pid).getD noLevel).moduli p

theorem c14t_CtWF_iff (ctx : Ctx) (c : Ct) :
    c14s_CtWF ctx c ↔ (c14t_CtWFw ctx c ∧ c.scale < 2 ^ 64 ∧ c.cf < 2 ^ 64) :=
  ⟨fun h => ⟨⟨h.pid_len, h.pid_u64, h.known, h.size_u64, fun _ => h.scale_u64, fun _ => h.cf_u64, h.count, h.seed_ok,
      h.tail_fit⟩, h.scale_u64, h.cf_u64⟩,
   fun h => ⟨h.1.pid_len, h.1.pid_u64, h.1.known, h.1.size_u64, h.2.1, h.2.2, h.1.count, h.1.seed_ok, h.1.tail_fit⟩⟩

/-- THE WIRE TUPLE of the compact and the terms format (`first` = the codec of polynomial 0, `tr` = what the writer does to it):
    the header words that are on the wire in range, the parms id known, and the body as above -/
theorem ctWireC_valid_iff (ctx : Ctx) (first : Level → Codec Poly) (tr : Level → Bool → Poly → Poly) (c : Ct) :
    (ctWireC ctx first).valid (ctToWire ctx tr c) ↔
      (c14t_CtWFw ctx c ∧ ∀ p0, c.polys.head? = some p0 →
        (first ((ctx.find c.pid).getD noLevel)).valid (tr ((ctx.find c.pid).getD noLevel) c.ntt p0)) := by
  show ((guardC pidC fun pid => (ctx.find pid).isSome).valid c.pid ∧ (guardC pidC fun pid => (ctx.find pid).isSome).norm c.pid = c.pid ∧
    (scalarC .usize 8).valid c.size ∧ c.size = c.size ∧ boolC.valid c.ntt ∧
    (extraC ((ctx.find c.pid).getD noLevel).scheme).valid
      (if ((ctx.find c.pid).getD noLevel).scheme == 2 then [c.scale]
       else if ((ctx.find c.pid).getD noLevel).scheme == 3 then [c.cf] else []) ∧
    (ctBodyC ((ctx.find c.pid).getD noLevel) c.size (first ((ctx.find c.pid).getD noLevel))).valid
      (!c.seed.isEmpty, (match c.polys with | [] => [] | p0 :: ps => tr ((ctx.find c.pid).getD noLevel) c.ntt p0 :: ps), c.seed)) ↔ _
  rw [← and_assoc, guard_pid_valid_iff, extraC_valid_iff, ctBodyC_valid_iff,
    show (scalarC .usize 8).valid c.size ↔ c.size < 2 ^ 64 from u64C_valid_iff c.size]
  -- the bundle, as the conjunction in wire order with the condition `P` on polynomial 0 in its place
  have hw : ∀ P : Prop, (c14t_CtWFw ctx c ∧ P) ↔ ((c.pid.length = 4 ∧ (∀ w ∈ c.pid, w < 2 ^ 64) ∧ (ctx.find c.pid).isSome = true) ∧
      c.size < 2 ^ 64 ∧ ((((ctx.find c.pid).getD noLevel).scheme = 2 → c.scale < 2 ^ 64) ∧
        (((ctx.find c.pid).getD noLevel).scheme = 3 → c.cf < 2 ^ 64)) ∧
      c.polys.length = (if (!c.seed.isEmpty) then 1 else c.size) ∧
      (c.seed = [] ∨ (c.seed.length = 8 ∧ ∀ w ∈ c.seed, w < 2 ^ 64)) ∧ P ∧
      ∀ p ∈ c.polys.tail, c14s_PolyFits ((ctx.find c.pid).getD noLevel).n ((ctx.find c.pid).getD noLevel).moduli p) :=
    fun P => ⟨fun ⟨h, p⟩ => ⟨⟨h.pid_len, h.pid_u64, h.known⟩, h.size_u64, ⟨h.scale_u64, h.cf_u64⟩, h.count, h.seed_ok, p, h.tail_fit⟩,
      fun ⟨⟨a, b, c'⟩, d, ⟨e, f⟩, g, h, p, i⟩ => ⟨⟨a, b, c', d, e, f, g, h, i⟩, p⟩⟩
  rw [hw]
  cases c.polys
  · simp only [Nat.reducePow, c14s_boolC_valid, List.length_nil, Bool.not_eq_eq_eq_not, Bool.not_true,
      List.isEmpty_eq_false_iff, ne_eq, ite_not, List.head?_nil, reduceCtorEq, IsEmpty.forall_iff, implies_true,
      List.tail_nil, List.not_mem_nil, and_self, and_true, true_and]
  · simp only [Nat.reducePow, c14s_boolC_valid, List.length_cons, Bool.not_eq_eq_eq_not, Bool.not_true,
      List.isEmpty_eq_false_iff, ne_eq, ite_not, List.head?_cons, Option.some.injEq, forall_eq', List.tail_cons, true_and]

/-- discharge of `(ctC ctx expand).valid c`: header fields are `u64`s, the parms id is known to the context,
    the polynomial count matches, every polynomial has the level's shape with representable coefficients -/
theorem c14s_ctC_valid (ctx : Ctx) (expand : List Nat → Level → Poly) (c : Ct) (hw : c14s_CtWF ctx c)
    (h0 : ∀ p0, c.polys.head? = some p0 →
      c14s_PolyFits ((ctx.find c.pid).getD noLevel).n ((ctx.find c.pid).getD noLevel).moduli p0) :
    (ctC ctx expand).valid c :=
  (ctWireC_valid_iff ctx polyC (fun _ _ p => p) c).mpr
    ⟨((c14t_CtWF_iff ctx c).mp hw).1, fun p0 hp => (polyFits_iff _ _ p0).mpr (h0 p0 hp)⟩

/-- discharge of `(ctTermsC …).valid c`: as above, with polynomial 0 judged on its gathered coefficients -/
theorem c14s_ctTermsC_valid (ctx : Ctx) (expand : List Nat → Level → Poly)
    (fwd inv : Level → Nat → List Nat → List Nat) (T : List Nat) (c : Ct) (hw : c14s_CtWF ctx c)
    (h0 : ∀ p0, c.polys.head? = some p0 →
      c14s_PolyFits T.length ((ctx.find c.pid).getD noLevel).moduli
        (mapIdx (fun j comp => gather T (if c.ntt then inv ((ctx.find c.pid).getD noLevel) j comp else comp)) 0 p0)) :
    (ctTermsC ctx expand fwd inv T).valid c :=
  (ctWireC_valid_iff ctx (termsPolyC T.length) _ c).mpr
    ⟨((c14t_CtWF_iff ctx c).mp hw).1, fun p0 hp => (polyFits_iff _ _ _).mpr (h0 p0 hp)⟩

/-! ### non-vacuity: a concrete context, ciphertexts and term set satisfying every hypothesis bundle -/

/-- one BFV level, `N = 4`, moduli 17 (1 byte) and 257 (2 bytes) -/
def c14s_exCtx : Ctx := ⟨[⟨[1, 2, 3, 4], 1, 4, [17, 257]⟩], 5, 4⟩

/-- a size-2 ciphertext of `c14s_exCtx`, not seeded, both polynomials on the wire; coefficients 16 < 17 and 256 < 257 are the largest
    of their byte widths -/
def c14s_exCt : Ct :=
  ⟨[1, 2, 3, 4], 2, false, oneF64, 1, [[[1, 2, 3, 16], [0, 256, 5, 7]], [[4, 5, 6, 7], [8, 9, 10, 11]]], []⟩

/-- seeded, NTT form -/
def c14s_exCtSeeded : Ct :=
  ⟨[1, 2, 3, 4], 2, true, oneF64, 1, [[[1, 2, 3, 16], [0, 256, 5, 7]]], [1, 2, 3, 4, 5, 6, 7, 8]⟩

theorem c14s_exCt_wf : c14s_CtWF c14s_exCtx c14s_exCt where
  pid_len := rfl
  pid_u64 := by decide
  known := by decide
  size_u64 := by decide
  scale_u64 := by decide
  cf_u64 := by decide
  count := rfl
  seed_ok := Or.inl rfl
  tail_fit := by
    intro p hp
    have : p = [[4, 5, 6, 7], [8, 9, 10, 11]] := by simpa [c14s_exCt] using hp
    subst this
    exact ⟨⟨rfl, by decide⟩, ⟨rfl, by decide⟩, trivial⟩

theorem c14s_exCtSeeded_wf : c14s_CtWF c14s_exCtx c14s_exCtSeeded where
  pid_len := rfl
  pid_u64 := by decide
  known := by decide
  size_u64 := by decide
  scale_u64 := by decide
  cf_u64 := by decide
  count := rfl
  seed_ok := Or.inr ⟨rfl, by decide⟩
  tail_fit := by
    intro p hp
    simp [c14s_exCtSeeded] at hp

theorem c14s_exCt_valid (expand : List Nat → Level → Poly) : (ctC c14s_exCtx expand).valid c14s_exCt :=
  c14s_ctC_valid _ _ _ c14s_exCt_wf (by
    intro p0 hp
    cases hp
    exact ⟨⟨rfl, by decide⟩, ⟨rfl, by decide⟩, trivial⟩)

theorem c14s_exCt_terms_valid (expand : List Nat → Level → Poly) (fwd inv : Level → Nat → List Nat → List Nat) :
    (ctTermsC c14s_exCtx expand fwd inv [0, 2]).valid c14s_exCt :=
  c14s_ctTermsC_valid _ _ _ _ _ _ c14s_exCt_wf (by
    intro p0 hp
    cases hp
    show c14s_PolyFits 2 [17, 257] [[1, 3], [0, 5]]
    exact ⟨⟨rfl, by decide⟩, ⟨rfl, by decide⟩, trivial⟩)

/-- seeded NTT-form instance with the (trivially invertible) transforms `fwd = inv = reverse` -/
theorem c14s_exCtSeeded_terms_valid (expand : List Nat → Level → Poly) :
    (ctTermsC c14s_exCtx expand (fun _ _ x => x.reverse) (fun _ _ x => x.reverse) [0, 2]).valid c14s_exCtSeeded :=
  c14s_ctTermsC_valid _ _ _ _ _ _ c14s_exCtSeeded_wf (by
    intro p0 hp
    cases hp
    exact ⟨⟨rfl, by decide⟩, ⟨rfl, by decide⟩, trivial⟩)

/-- what the mask is on the instance: coefficients 0 and 2 of polynomial 0 survive, polynomial 1 untouched -/
example (expand : List Nat → Level → Poly) (fwd inv : Level → Nat → List Nat → List Nat) :
    c14s_maskTerms c14s_exCtx expand fwd inv [0, 2] c14s_exCt
      = { c14s_exCt with polys := [[[1, 0, 3, 0], [0, 0, 5, 0]], [[4, 5, 6, 7], [8, 9, 10, 11]]] } := by
  rfl

/-- sizes on the instance: 32+8+1 header, 1 flag, 2·4·(1+2) coefficient bytes = 66; terms {0,2}: 2·3 + 4·3 = 18 → 60 -/
example (expand : List Nat → Level → Poly) : ((ctC c14s_exCtx expand).enc c14s_exCt).length = 66 := by
  rw [(ctC_lawful _ _).len _ (c14s_exCt_valid expand), c14s_ctC_size _ _ _ (c14s_exCt_valid expand)]
  decide

example (expand : List Nat → Level → Poly) (fwd inv : Level → Nat → List Nat → List Nat) :
    ((ctTermsC c14s_exCtx expand fwd inv [0, 2]).enc c14s_exCt).length = 60 := by
  rw [(ctTermsC_lawful _ _ _ _ _).len _ (c14s_exCt_terms_valid expand fwd inv),
    c14s_ctTermsC_size _ _ _ _ _ _ (c14s_exCt_terms_valid expand fwd inv)]
  decide

/-- the idempotence hypothesis is satisfiable for NTT-form objects (`reverse ∘ reverse = id`) -/
example (p : Poly) : c14s_InvFwdOnMasked (⟨[1, 2, 3, 4], 1, 4, [17, 257]⟩ : Level)
    (fun _ _ x => x.reverse) (fun _ _ x => x.reverse) [0, 2] p :=
  c14s_invFwdOnMasked_of_length _ _ _ _ _ (fun _ x _ => List.reverse_reverse x)

/-! ### validity of vectors, plaintexts and key sets in plain terms -/

theorem c14s_plainC_valid (p : Plain) (h1 : p.pid.length = 4) (h2 : ∀ w ∈ p.pid, w < 2 ^ 64)
    (h3 : p.data.length < 2 ^ 64) (h4 : ∀ w ∈ p.data, w < 2 ^ 64) (h5 : p.scale < 2 ^ 64) : plainC.valid p :=
  ⟨(repC_u64_valid_iff 4 _).mpr ⟨h1, h2⟩, (vecC_valid_iff u64C _).mpr ⟨h3, fun w hw => (u64C_valid_iff w).mpr (h4 w hw)⟩,
    (u64C_valid_iff _).mpr h5⟩

theorem c14s_kswitchC_valid {γ} (pk : Codec γ) (k : KSwitch γ) (h1 : k.pid.length = 4) (h2 : ∀ w ∈ k.pid, w < 2 ^ 64)
    (h3 : k.keys.length < 2 ^ 64) (h4 : ∀ r ∈ k.keys, r.length < 2 ^ 64) (h5 : ∀ r ∈ k.keys, ∀ x ∈ r, pk.valid x) :
    (kswitchC pk).valid k :=
  ⟨(repC_u64_valid_iff 4 _).mpr ⟨h1, h2⟩,
    (vecC_valid_iff (vecC pk) _).mpr ⟨h3, fun r hr => (vecC_valid_iff pk r).mpr ⟨h4 r hr, h5 r hr⟩⟩⟩

/-! ## instantiation with the model's NTT (C09): the `fwd` / `inv` the driver plugs in -/

/-- forward / inverse negacyclic NTT of component `j` through the C09 model, for a family of tables -/
def c14s_nttFwd (tab : Level → Nat → HC.NTTTables) (lv : Level) (j : Nat) (x : List Nat) : List Nat :=
  (HC.ntt (tab lv j) x.toArray).toList
/-- the inverse transform, same shape -/
def c14s_nttInv (tab : Level → Nat → HC.NTTTables) (lv : Level) (j : Nat) (x : List Nat) : List Nat :=
  (HC.intt (tab lv j) x.toArray).toList

/-- the tables belong to the level: well formed (what `NTTTables.new` establishes, `NTTTables.new_wf_u64`),
    degree `N`, modulus `q_j` -/
structure c14s_TablesFor (tab : Level → Nat → HC.NTTTables) (lv : Level) : Prop where
  wf : ∀ j, j < lv.moduli.length → (tab lv j).WF
  deg : ∀ j, j < lv.moduli.length → 2 ^ (tab lv j).k = lv.n
  q : ∀ j, j < lv.moduli.length → (tab lv j).modulus.value = lv.moduli.getD j 0

theorem c14s_intt_list (t : HC.NTTTables) (hw : t.WF) (x : List Nat) (hl : x.length = 2 ^ t.k)
    (hx : ∀ i, x.getD i 0 < 2 * t.modulus.value) :
    (HC.intt t x.toArray).toList.length = 2 ^ t.k ∧ ∀ i, (HC.intt t x.toArray).toList.getD i 0 < t.modulus.value := by
  obtain ⟨g1, g2⟩ := HC.intt_sim hw x.toArray (by simpa using hl) (fun j _ => by simpa using hx j)
  refine ⟨by simpa using g1, fun i => ?_⟩
  by_cases hi : i < 2 ^ t.k
  · have := (g2 i hi).1
    simpa using this
  · have h2 := hw.mwf.two_le
    have hlen : (HC.intt t x.toArray).toList.length ≤ i := by simp [g1]; omega
    rw [List.getD_eq_getElem?_getD, List.getElem?_eq_none hlen]
    show 0 < t.modulus.value
    omega

theorem c14s_intt_ntt_list (t : HC.NTTTables) (hw : t.WF) (y : List Nat) (hl : y.length = 2 ^ t.k)
    (hy : ∀ i, y.getD i 0 < t.modulus.value) :
    (HC.intt t (HC.ntt t y.toArray).toList.toArray).toList = y := by
  simp [HC.intt_ntt hw y.toArray (by simpa using hl) (fun j _ => by simpa using hy j)]

theorem c14s_ntt_intt_list (t : HC.NTTTables) (hw : t.WF) (y : List Nat) (hl : y.length = 2 ^ t.k)
    (hy : ∀ i, y.getD i 0 < t.modulus.value) :
    (HC.ntt t (HC.intt t y.toArray).toList.toArray).toList = y := by
  simp [HC.ntt_intt hw y.toArray (by simpa using hl) (fun j _ => by simpa using hy j)]

/-- with the real transforms the idempotence hypothesis holds as soon as polynomial 0 has the level's shape
    and lazily reduced (`< 2 q_j`) components -/
theorem c14s_ntt_invFwdOnMasked (tab : Level → Nat → HC.NTTTables) (lv : Level) (ht : c14s_TablesFor tab lv)
    (T : List Nat) (p : Poly) (hp : p.length ≤ lv.moduli.length)
    (hc : ∀ j comp, p[j]? = some comp → comp.length = lv.n ∧ ∀ i, comp.getD i 0 < 2 * lv.moduli.getD j 0) :
    c14s_InvFwdOnMasked lv (c14s_nttFwd tab) (c14s_nttInv tab) T p := by
  intro j comp hj
  have hjk : j < lv.moduli.length := Nat.lt_of_lt_of_le (list_lt_of_getElem? hj) hp
  obtain ⟨hcl, hcv⟩ := hc j comp hj
  have hw := ht.wf j hjk
  have hd := ht.deg j hjk
  have hq := ht.q j hjk
  obtain ⟨_, h2⟩ := c14s_intt_list (tab lv j) hw comp (by rw [hd]; exact hcl) (fun i => by rw [hq]; exact hcv i)
  unfold c14s_nttFwd c14s_nttInv
  apply c14s_intt_ntt_list (tab lv j) hw
  · rw [c14s_mask_length, hd]
  · intro i
    rw [c14s_mask_getD]
    have h0 := hw.mwf.two_le
    by_cases hcnd : i < lv.n ∧ i ∈ T
    · rw [if_pos hcnd]; exact h2 i
    · rw [if_neg hcnd]; omega

/-- … and the `T = all` hypotheses hold for reduced components -/
theorem c14s_ntt_fwd_inv (tab : Level → Nat → HC.NTTTables) (lv : Level) (ht : c14s_TablesFor tab lv)
    (p : Poly) (hp : p.length ≤ lv.moduli.length)
    (hc : ∀ j comp, p[j]? = some comp → comp.length = lv.n ∧ ∀ i, comp.getD i 0 < lv.moduli.getD j 0) :
    ∀ j comp, p[j]? = some comp →
      (c14s_nttInv tab lv j comp).length = lv.n ∧ c14s_nttFwd tab lv j (c14s_nttInv tab lv j comp) = comp := by
  intro j comp hj
  have hjk : j < lv.moduli.length := Nat.lt_of_lt_of_le (list_lt_of_getElem? hj) hp
  obtain ⟨hcl, hcv⟩ := hc j comp hj
  have hw := ht.wf j hjk
  have hd := ht.deg j hjk
  have hq := ht.q j hjk
  obtain ⟨h1, _⟩ := c14s_intt_list (tab lv j) hw comp (by rw [hd]; exact hcl)
    (fun i => by rw [hq]; have := hcv i; omega)
  refine ⟨by unfold c14s_nttInv; rw [h1, hd], ?_⟩
  unfold c14s_nttFwd c14s_nttInv
  exact c14s_ntt_intt_list (tab lv j) hw comp (by rw [hd]; exact hcl) (fun i => by rw [hq]; exact hcv i)

/-- the modulus 97 as `Modulus.mk?` returns it (`c14s_m97_mk`).  It is `nv_m97` of Proofs/World.lean, and `c14s_t97` below is `nv_t97`,
    written again here: importing World would bring `HC.Level` of Model/Evaluator.lean into every module above this one, and the serializer
    ties (`namespace HC.GS` with `open HC.Codec`) would read it in place of the codec's `Level` -/
def c14s_m97 : HC.Modulus := ⟨97, 11600529778312192253, 190172619316593315, 35, 7⟩
theorem c14s_m97_mk : HC.Modulus.mk? 97 = .ok c14s_m97 := by rfl
theorem c14s_m97_wf : c14s_m97.WF := (HC.Modulus.mk?_wf c14s_m97_mk (by decide)).1

/-- a concrete table built by `NTTTables.new` (`c14s_t97_new`): `N = 4`, `q = 97`, primitive 8th root handed in: 64 -/
def c14s_t97 : HC.NTTTables :=
  (HC.NTTTables.new 2 c14s_m97 true 64).toOption.getD ⟨0, c14s_m97, 0, #[], #[], ⟨0, 0⟩⟩

theorem c14s_t97_new : HC.NTTTables.new 2 c14s_m97 true 64 = .ok c14s_t97 := by
  have h : (HC.NTTTables.new 2 c14s_m97 true 64).toOption.isSome = true := by decide +kernel
  unfold c14s_t97
  cases hr : HC.NTTTables.new 2 c14s_m97 true 64 with
  | error e => rw [hr] at h; simp [Except.toOption] at h
  | ok b => simp [Except.toOption]

theorem c14s_t97_facts : c14s_t97.WF ∧ c14s_t97.k = 2 ∧ c14s_t97.modulus = c14s_m97 := by
  obtain ⟨h1, h2, h3, _⟩ := HC.NTTTables.new_wf_u64 c14s_m97_wf (by decide) (by decide) c14s_t97_new
  exact ⟨h1, h2, h3⟩

/-- the example: the table `c14s_t97` for every level and component, and one BFV level `N = 4`, `q = 97` as the codec sees a level
    (parms id, scheme, degree, moduli) -/
def c14s_exTab : Level → Nat → HC.NTTTables := fun _ _ => c14s_t97
def c14s_exLevelNtt : Level := ⟨[1, 2, 3, 4], 1, 4, [97]⟩

theorem c14s_exTab_for : c14s_TablesFor c14s_exTab c14s_exLevelNtt where
  wf := fun _ _ => c14s_t97_facts.1
  deg := by
    intro j _
    show 2 ^ c14s_t97.k = 4
    rw [c14s_t97_facts.2.1]; rfl
  q := by
    intro j hj
    have hj1 : j < 1 := hj
    have : j = 0 := by omega
    subst this
    show c14s_t97.modulus.value = 97
    rw [c14s_t97_facts.2.2]; rfl

/-! ## Property theorems -/

/-! ### `(encode x).length = closed form` -/

/-- scalars: `u64`/`usize`/`f64`/`Modulus` 8 bytes, `u8`/`bool`/`SchemeType` 1 byte, `ParmsID` 32 bytes -/
theorem c14s_len_scalars :
    (∀ v, (u64C.enc v).length = 8) ∧ (∀ v, (usizeC.enc v).length = 8) ∧ (∀ v, (f64C.enc v).length = 8) ∧
    (∀ v, (modulusC.enc v).length = 8) ∧ (∀ v, (u8C.enc v).length = 1) ∧ (∀ b, (boolC.enc b).length = 1) ∧
    (∀ v, (schemeC.enc v).length = 1) ∧ (∀ pid, pid.length = 4 → (pidC.enc pid).length = 32) := by
  have e : ∀ k n v, ((scalarC k n).enc v).length = n := fun k n v => (scalarC_enc k n v).symm ▸ leBytes_length n v
  refine ⟨e _ _, e _ _, e _ _, e _ _, e _ _, fun b => e .u8 1 _, e _ _, fun pid h => ?_⟩
  match pid, h with
  | [a, b, c, d], _ => rfl

/-- a residue written with width `w` takes `w` bytes (whatever its value) -/
theorem c14s_len_residue (w v : Nat) : ((limC w).enc v).length = w := by
  have h := (repC_lawful w u8C u8C_lawful).len (leBytes w v) (c14s_leBytes_valid w v)
  have h2 : (repC w u8C).size (leBytes w v) = w := c14s_limC_size w v
  show ((repC w u8C).enc (leBytes w v)).length = w
  rw [h, h2]

/-- `Vec<I>` and the 1-d containers: 8 + the item sizes -/
theorem c14s_len_vec {α} (c : Codec α) (hc : c.Lawful) (l : List α) (hv : (vecC c).valid l) :
    ((vecC c).enc l).length = 8 + (l.map c.size).sum := by
  rw [(vecC_lawful c hc).len l hv, c14s_vecC_size]

/-- `EncryptionParameters`: 1 + 8 + (8 + 8k) + [8 if BFV/BGV] + 1 -/
theorem c14s_len_params (p : Params) (hv : paramsC.valid p) :
    (paramsC.enc p).length = 1 + 8 + (8 + 8 * p.coeffMod.length) + (if hasPlain p.scheme then 8 else 0) + 1 := by
  rw [paramsC_lawful.len p hv, c14s_paramsC_size]; rfl

/-- `Plaintext` / `SecretKey`: 32 + (8 + 8·|data|) + 8 -/
theorem c14s_len_plain (p : Plain) (hv : plainC.valid p) : (plainC.enc p).length = 32 + (8 + 8 * p.data.length) + 8 := by
  rw [plainC_lawful.len p hv, c14s_plainC_size p hv]; rfl

/-- one polynomial in the compact format: `N · Σ_j limit(q_j)` -/
theorem c14s_len_poly (lv : Level) (p : Poly) (hv : (polyC lv).valid p) :
    ((polyC lv).enc p).length = lv.n * (lv.moduli.map u64Limit).sum := by
  rw [(polyC_lawful lv).len p hv, c14s_polyC_size lv p hv]; rfl

/-- `Ciphertext` / `PublicKey`, compact format, fully explicit:
    32 (parms id) + 8 (size) + 1 (NTT flag) + [8 scale/correction factor if CKKS/BGV] + 1 (seed flag)
    + (1 if seeded else size) · N · Σ_j limit(q_j) + [64 seed bytes if seeded] -/
theorem c14s_len_ct (ctx : Ctx) (expand : List Nat → Level → Poly) (c : Ct) (hv : (ctC ctx expand).valid c) :
    ((ctC ctx expand).enc c).length
      = 32 + 8 + 1 + (if ((ctx.find c.pid).getD noLevel).scheme == 2 || ((ctx.find c.pid).getD noLevel).scheme == 3 then 8 else 0)
        + 1 + (if c.seeded then 1 else c.size)
            * (((ctx.find c.pid).getD noLevel).n * (((ctx.find c.pid).getD noLevel).moduli.map u64Limit).sum)
        + (if c.seeded then 64 else 0) := by
  rw [(ctC_lawful ctx expand).len c hv, c14s_ctC_size ctx expand c hv]; rfl

/-- … and this is the Rust `Ciphertext::serialized_size` -/
theorem c14s_len_ct_rust (ctx : Ctx) (expand : List Nat → Level → Poly) (c : Ct) (hv : (ctC ctx expand).valid c) :
    ((ctC ctx expand).enc c).length = ctSerializedSize ((ctx.find c.pid).getD noLevel) c.size c.seeded := by
  rw [(ctC_lawful ctx expand).len c hv, c14s_ctC_size ctx expand c hv, c14s_ctSerializedSize_eq]

/-- selected-terms format: header + 1 + |T|·Σ limit for polynomial 0 + (size−1)·N·Σ limit for the others
    (seeded: |T|·Σ limit + 64) -/
theorem c14s_len_ct_terms (ctx : Ctx) (expand : List Nat → Level → Poly)
    (fwd inv : Level → Nat → List Nat → List Nat) (T : List Nat) (c : Ct)
    (hv : (ctTermsC ctx expand fwd inv T).valid c) :
    ((ctTermsC ctx expand fwd inv T).enc c).length
      = 32 + 8 + 1 + (if ((ctx.find c.pid).getD noLevel).scheme == 2 || ((ctx.find c.pid).getD noLevel).scheme == 3 then 8 else 0)
        + 1 + (if c.seeded then T.length * (((ctx.find c.pid).getD noLevel).moduli.map u64Limit).sum + 64
               else if c.size = 0 then 0
               else T.length * (((ctx.find c.pid).getD noLevel).moduli.map u64Limit).sum
                    + (c.size - 1) * (((ctx.find c.pid).getD noLevel).n * (((ctx.find c.pid).getD noLevel).moduli.map u64Limit).sum)) := by
  rw [(ctTermsC_lawful ctx expand fwd inv T).len c hv, c14s_ctTermsC_size ctx expand fwd inv T c hv]; rfl

/-- … which is the Rust `serialized_terms_size` except at `size = 0` unseeded (see `c14s_TermsSizeStatement_false`) -/
theorem c14s_len_ct_terms_rust (ctx : Ctx) (expand : List Nat → Level → Poly)
    (fwd inv : Level → Nat → List Nat → List Nat) (T : List Nat) (c : Ct)
    (hv : (ctTermsC ctx expand fwd inv T).valid c) (h : c.seeded = true ∨ c.size ≠ 0) :
    ((ctTermsC ctx expand fwd inv T).enc c).length
      = ctSerializedTermsSize ((ctx.find c.pid).getD noLevel) c.size c.seeded T.length := by
  rw [(ctTermsC_lawful ctx expand fwd inv T).len c hv, c14s_ctTermsC_size ctx expand fwd inv T c hv,
    c14s_ctSerializedTermsSize_eq _ _ _ _ h]

/-- full format: header + 8 (word count) + 8 per word sent -/
theorem c14s_len_ct_full (ctx : Ctx) (expand : List Nat → Level → List Nat) (c : CtFull)
    (hv : (ctFullC ctx expand).valid c) :
    ((ctFullC ctx expand).enc c).length
      = 32 + 8 + 1 + (if ((ctx.find c.pid).getD noLevel).scheme == 2 || ((ctx.find c.pid).getD noLevel).scheme == 3 then 8 else 0)
        + 8 + min (fullSent ((ctx.find c.pid).getD noLevel) c) c.data.length * 8 := by
  rw [(ctFullC_lawful ctx expand).len c hv, c14s_ctFullC_size ctx expand c hv]; rfl

/-- key sets: 32 + 8 + 8 per entry (present or missing) + `s` per key, all keys of size `s` -/
theorem c14s_len_kswitch {γ} (pk : Codec γ) (hpk : pk.Lawful) (k : KSwitch γ) (s : Nat) (hv : (kswitchC pk).valid k)
    (hs : ∀ r ∈ k.keys, ∀ x ∈ r, pk.size x = s) :
    ((kswitchC pk).enc k).length = 32 + 8 + 8 * k.keys.length + s * (k.keys.map List.length).sum := by
  rw [(kswitchC_lawful pk hpk).len k hv, c14s_kswitchC_size pk k s hv hs]

/-- containers of dimensions `d1`, `d1 × d2`, `d1 × d2 × d3` with items of size `s` -/
theorem c14s_len_c1d {γ} (c : Codec γ) (hc : c.Lawful) (l : List γ) (s : Nat) (hv : (c1dC c).valid l)
    (hs : ∀ x ∈ l, c.size x = s) : ((c1dC c).enc l).length = 8 + l.length * s := by
  rw [(c1dC_lawful c hc).len l hv, c14s_c1dC_size c l s hs]

theorem c14s_len_c2d {γ} (c : Codec γ) (hc : c.Lawful) (l : List (List γ)) (s d2 : Nat) (hv : (c2dC c).valid l)
    (hd : ∀ r ∈ l, r.length = d2) (hs : ∀ r ∈ l, ∀ x ∈ r, c.size x = s) :
    ((c2dC c).enc l).length = 8 + l.length * (8 + d2 * s) := by
  rw [(c2dC_lawful c hc).len l hv, c14s_c2dC_size c l s d2 hd hs]

theorem c14s_len_c3d {γ} (c : Codec γ) (hc : c.Lawful) (l : List (List (List γ))) (s d2 d3 : Nat) (hv : (c3dC c).valid l)
    (hd2 : ∀ m ∈ l, m.length = d2) (hd3 : ∀ m ∈ l, ∀ r ∈ m, r.length = d3)
    (hs : ∀ m ∈ l, ∀ r ∈ m, ∀ x ∈ r, c.size x = s) :
    ((c3dC c).enc l).length = 8 + l.length * (8 + d2 * (8 + d3 * s)) := by
  rw [(c3dC_lawful c hc).len l hv, c14s_c3dC_size c l s d2 d3 hd2 hd3 hs]

/-- rns_plain objects: the component sizes added up -/
theorem c14s_len_rnsp {γ} (cs : List (Codec γ)) (hc : ∀ c ∈ cs, c.Lawful) (xs : List γ) (hv : (rnspC cs).valid xs) :
    ((rnspC cs).enc xs).length = ((cs.zip xs).map (fun p => p.1.size p.2)).sum := by
  rw [(rnspC_lawful cs hc).len xs hv, c14s_rnspC_size]

/-- `PolynomialSerializer` -/
theorem c14s_len_polySer (ctx : Ctx) (w : List Nat × Poly) (hv : (polySerC ctx).valid w) :
    ((polySerC ctx).enc w).length
      = 32 + (if w.1 == pidZero then ctx.firstN * u64Limit ctx.plainMod
              else ((ctx.find w.1).getD noLevel).n * (((ctx.find w.1).getD noLevel).moduli.map u64Limit).sum) := by
  rw [(polySerC_lawful ctx).len w hv, c14s_polySerC_size ctx w hv]; rfl

/-- monotonicity facts (see also `c14s_terms_le_compact`, `c14s_terms_mono`, `c14s_seeded_saving`,
    `c14s_full_seeded_lt_iff`): compact < full for `u64` moduli; seeded < expanded iff a polynomial exceeds 64 bytes -/
theorem c14s_size_monotonicity (lv : Level) :
    ((∀ q ∈ lv.moduli, q < 2 ^ 64) → ∀ size,
        ctSerializedSize lv size false < ctSerializedFullSize lv (lv.moduli.length * lv.n * size)) ∧
    (ctSerializedSize lv 2 true < ctSerializedSize lv 2 false ↔ 64 < lv.n * sumLimits lv) ∧
    (∀ size seeded nTerms, nTerms ≤ lv.n →
        c14s_ctTermsSize lv size seeded nTerms ≤ ctSerializedSize lv size seeded) := by
  refine ⟨fun h size => ?_, ?_, fun size seeded nTerms h => ?_⟩
  · rw [c14s_ctSerializedSize_eq]; exact c14s_compact_lt_full lv size h
  · rw [c14s_ctSerializedSize_eq, c14s_ctSerializedSize_eq]; exact c14s_seeded_lt_expanded_iff lv
  · rw [c14s_ctSerializedSize_eq]; exact c14s_terms_le_compact lv size seeded nTerms h

/-! ### selected terms -/

/-- `decodeTerms (encodeTerms ct T ++ rest) = (maskTerms ct T, rest)`; `maskTerms` idempotent; `T ⊇ [0, N)` ⇒ identity -/
theorem c14s_terms_format (ctx : Ctx) (expand : List Nat → Level → Poly)
    (fwd inv : Level → Nat → List Nat → List Nat) (T : List Nat) (c : Ct)
    (hv : (ctTermsC ctx expand fwd inv T).valid c) :
    (∀ rest, (ctTermsC ctx expand fwd inv T).dec ((ctTermsC ctx expand fwd inv T).enc c ++ rest)
        = .ok (c14s_maskTerms ctx expand fwd inv T c, rest)) ∧
    ((c.ntt = true → ∀ p0, c.polys.head? = some p0 →
        c14s_InvFwdOnMasked ((ctx.find c.pid).getD noLevel) fwd inv T p0) →
      c14s_maskTerms ctx expand fwd inv T (c14s_maskTerms ctx expand fwd inv T c)
        = c14s_maskTerms ctx expand fwd inv T c) := by
  refine ⟨fun rest => c14s_terms_mask_identity ctx expand fwd inv T c hv rest, fun h => ?_⟩
  apply c14s_maskTerms_idem ctx expand fwd inv T c _ h
  -- a valid seeded object has its polynomial 0
  by_cases hs : c.seed = []
  · exact Or.inr hs
  · refine Or.inl fun hpn => ?_
    have h := ((ctWireC_valid_iff ctx _ _ c).mp hv).1.count
    cases hsd : c.seed with
    | nil => exact hs hsd
    | cons _ _ => simp [hpn, Ct.seeded, hsd] at h

/-- `T ⊇ [0, N)`: the terms format restores what the compact format restores; on an unseeded API-built
    object that is the object itself -/
theorem c14s_terms_all (ctx : Ctx) (expand : List Nat → Level → Poly)
    (fwd inv : Level → Nat → List Nat → List Nat) (T : List Nat) (c : Ct)
    (hT : ∀ i, i < ((ctx.find c.pid).getD noLevel).n → i ∈ T)
    (hlen : c.ntt = false → ∀ p0, c.polys.head? = some p0 → ∀ comp ∈ p0, comp.length = ((ctx.find c.pid).getD noLevel).n)
    (hntt : c.ntt = true → ∀ p0, c.polys.head? = some p0 → ∀ j comp, p0[j]? = some comp →
      (inv ((ctx.find c.pid).getD noLevel) j comp).length = ((ctx.find c.pid).getD noLevel).n ∧
      fwd ((ctx.find c.pid).getD noLevel) j (inv ((ctx.find c.pid).getD noLevel) j comp) = comp) :
    c14s_maskTerms ctx expand fwd inv T c = ctOfWire ctx expand (fun _ _ p => p) (ctToWire ctx (fun _ _ p => p) c) ∧
    (CtDefaults ctx c → c.seed = [] → c14s_maskTerms ctx expand fwd inv T c = c) :=
  ⟨c14s_maskTerms_all ctx expand fwd inv T c hT hlen hntt,
   fun hd hs => by rw [c14s_maskTerms_all ctx expand fwd inv T c hT hlen hntt, ctOfWire_toWire_id ctx expand c hd hs]⟩

/-- the two statements of Props/C14, verbatim -/
theorem c14s_TermsMaskStatement_proof :
    ∀ (n : Nat) (terms v : List Nat), v.length = n → (∀ t ∈ terms, t < n) →
      scatter n terms (gather terms v) = (List.range n).map (fun i => if i ∈ terms then v.getD i 0 else 0) :=
  fun n terms v _ _ => c14s_scatter_gather n terms v

theorem c14s_SizeClosedFormStatement_proof :
    ∀ (ctx : Ctx) (expand : List Nat → Level → Poly) (c : Ct), (ctC ctx expand).valid c →
      (ctC ctx expand).size c = ctSerializedSize ((ctx.find c.pid).getD noLevel) c.size c.seeded :=
  fun ctx expand c hv => by rw [c14s_ctC_size ctx expand c hv, c14s_ctSerializedSize_eq]

/-! ### the byte-width rule -/

/-- for every admissible modulus `2 ≤ q < 2^61`: `get_u64_limit q` is the least `w` with `q < 256^w`, lies in
    `[1, 8]`, every residue round-trips with it, and — unless `q` is a power of 256 — a width is lossless for
    the largest residue `q − 1` iff it is at least `get_u64_limit q` -/
theorem c14s_width_rule (q : Nat) (h2 : 2 ≤ q) (h61 : q < 2 ^ 61) :
    (∀ w, u64Limit q ≤ w ↔ q < 256 ^ w) ∧
    (1 ≤ u64Limit q ∧ u64Limit q ≤ 8) ∧
    (∀ v, v < q → ∀ rest, (limC (u64Limit q)).dec ((limC (u64Limit q)).enc v ++ rest) = .ok (v, rest)) ∧
    ((∀ m, q ≠ 256 ^ m) → ∀ w rest,
      ((limC w).dec ((limC w).enc (q - 1) ++ rest) = .ok (q - 1, rest) ↔ u64Limit q ≤ w)) :=
  ⟨u64Limit_le_iff q, c14s_u64Limit_range q h2 h61,
   fun v hv rest => (c14s_limC_lossless_iff _ v rest).mpr (u64Limit_width q v hv),
   fun hp w rest => c14s_width_exact q w (by omega) hp rest⟩

/-! ### framing as a monoid law -/

theorem c14s_framing_monoid {α} (c : Codec α) :
    c14s_encodeMany c [] = [] ∧
    (∀ xs ys, c14s_encodeMany c (xs ++ ys) = c14s_encodeMany c xs ++ c14s_encodeMany c ys) ∧
    (∀ n xs, xs.length = n → (repC n c).enc xs = c14s_encodeMany c xs) ∧
    (∀ l, (vecC c).enc l = leBytes 8 l.length ++ c14s_encodeMany c l) ∧
    (c.Lawful → ∀ xs, (∀ x ∈ xs, c.valid x) → ∀ rest,
      c14s_decodeMany c xs.length (c14s_encodeMany c xs ++ rest) = .ok (xs.map c.norm, rest)) ∧
    (c.Lawful → c.Exact → ∀ xs, (∀ x ∈ xs, c.valid x) → ∀ rest,
      c14s_decodeMany c xs.length (c14s_encodeMany c xs ++ rest) = .ok (xs, rest)) :=
  ⟨rfl, c14s_encodeMany_append c, c14s_repC_enc c, c14s_vecC_enc c,
   fun hc xs hv rest => c14s_decodeMany_encodeMany c hc xs hv rest,
   fun hc he xs hv rest => c14s_decodeMany_encodeMany_exact c hc he xs hv rest⟩

/-! ## refusals (error branches of the readers / writers, stated separately) -/

/-- the writer's `assert_eq!(value, 0)`: a value that does not fit the width is outside the writer's domain -/
theorem c14s_limC_refuses (w v : Nat) (h : 256 ^ w ≤ v) : ¬ (limC w).valid v :=
  fun hv => absurd hv.2 (by omega)

/-- any strict prefix of any valid encoding is refused with `UnexpectedEof` (every lawful format) -/
theorem c14s_truncated_eof {α} (c : Codec α) (hc : c.Lawful) (x : α) (hx : c.valid x) (k : Nat)
    (hk : k < (c.enc x).length) : ∃ s, c.dec ((c.enc x).take k) = .error (.eof s) := hc.pre x hx k hk

theorem c14s_guard_pid_dec_bad (g : List Nat → Bool) (pid : List Nat) (hv : pidC.valid pid) (hg : g pid = false)
    (rest : Bytes) : (guardC pidC g).dec (pidC.enc pid ++ rest) = .error .bad := by
  have h1 := pidC_lawful.rt pid hv rest
  have h2 := pidC_exact pid hv
  simp only [guardC, h1, h2, hg]
  rfl

/-- a parms id unknown to the context is refused by every ciphertext reader (compact, terms, full)
    right after the 32 id bytes, whatever follows -/
theorem c14s_unknown_pid_refused (ctx : Ctx) (pid : List Nat) (hv : pidC.valid pid) (hn : ctx.find pid = none)
    (rest : Bytes) :
    (∀ expand, (ctC ctx expand).dec (pidC.enc pid ++ rest) = .error .bad) ∧
    (∀ expand fwd inv T, (ctTermsC ctx expand fwd inv T).dec (pidC.enc pid ++ rest) = .error .bad) ∧
    (∀ expand, (ctFullC ctx expand).dec (pidC.enc pid ++ rest) = .error .bad) := by
  have hg := c14s_guard_pid_dec_bad (fun pid => (ctx.find pid).isSome) pid hv (by rw [hn]; rfl) rest
  exact ⟨fun _ => mapC_dec_error _ _ _ (depC_dec_error _ _ hg), fun _ _ _ _ => mapC_dec_error _ _ _ (depC_dec_error _ _ hg),
    fun _ => mapC_dec_error _ _ _ (guardC_dec_error _ _ (depC_dec_error _ _ hg))⟩

/-- a scheme byte above 3 is refused (`SchemeType::from` panics) -/
theorem c14s_scheme_refused (v : Nat) (h1 : 3 < v) (h2 : v < 256) (rest : Bytes) :
    schemeC.dec (u8C.enc v ++ rest) = .error .bad := by
  have hv : u8C.valid v := c14s_u8_valid_of_lt v h2
  have h := u8C_lawful.rt v hv rest
  have hn : u8C.norm v = v := rfl
  have hd : decide (v ≤ 3) = false := by simp; omega
  simp only [schemeC, guardC, h, hn, hd]
  rfl

/-- a key set of expanded public keys at one level: every present key costs the compact size of a
    size-2 ciphertext -/
theorem c14s_kswitch_ct_size (ctx : Ctx) (expand : List Nat → Level → Poly) (k : KSwitch Ct) (lv : Level)
    (hv : (kswitchC (ctC ctx expand)).valid k)
    (hk : ∀ r ∈ k.keys, ∀ x ∈ r, (ctC ctx expand).valid x ∧ (ctx.find x.pid).getD noLevel = lv ∧ x.size = 2 ∧ x.seeded = false) :
    ((kswitchC (ctC ctx expand)).enc k).length
      = 32 + 8 + 8 * k.keys.length + c14s_ctSize lv 2 false * (k.keys.map List.length).sum := by
  apply c14s_len_kswitch _ (ctC_lawful ctx expand) k _ hv
  intro r hr x hx
  obtain ⟨h1, h2, h3, h4⟩ := hk r hr x hx
  rw [c14s_ctC_size ctx expand x h1, h2, h3, h4]

/-! ### selected terms with the model's NTT -/

/-- for the transforms the driver uses (C09 `ntt` / `intt` on tables belonging to the level) and an NTT- or
    coefficient-form ciphertext whose polynomial 0 has reduced components of length `N`: masking is idempotent,
    and selecting all terms restores what the compact format restores -/
theorem c14s_terms_format_ntt (ctx : Ctx) (expand : List Nat → Level → Poly) (tab : Level → Nat → HC.NTTTables)
    (T : List Nat) (c : Ct)
    (ht : c14s_TablesFor tab ((ctx.find c.pid).getD noLevel))
    (hne : c.polys ≠ [] ∨ c.seed = [])
    (hp0 : ∀ p0, c.polys.head? = some p0 → p0.length ≤ ((ctx.find c.pid).getD noLevel).moduli.length ∧
      ∀ j comp, p0[j]? = some comp → comp.length = ((ctx.find c.pid).getD noLevel).n ∧
        ∀ i, comp.getD i 0 < ((ctx.find c.pid).getD noLevel).moduli.getD j 0) :
    c14s_maskTerms ctx expand (c14s_nttFwd tab) (c14s_nttInv tab) T
        (c14s_maskTerms ctx expand (c14s_nttFwd tab) (c14s_nttInv tab) T c)
      = c14s_maskTerms ctx expand (c14s_nttFwd tab) (c14s_nttInv tab) T c ∧
    ((∀ i, i < ((ctx.find c.pid).getD noLevel).n → i ∈ T) →
      c14s_maskTerms ctx expand (c14s_nttFwd tab) (c14s_nttInv tab) T c
        = ctOfWire ctx expand (fun _ _ p => p) (ctToWire ctx (fun _ _ p => p) c)) := by
  refine ⟨?_, fun hT => ?_⟩
  · apply c14s_maskTerms_idem ctx expand _ _ T c hne
    intro _ p0 hp
    obtain ⟨hl, hc⟩ := hp0 p0 hp
    exact c14s_ntt_invFwdOnMasked tab _ ht T p0 hl
      (fun j comp hj => ⟨(hc j comp hj).1, fun i => by have := (hc j comp hj).2 i; omega⟩)
  · apply c14s_maskTerms_all ctx expand _ _ T c hT
    · intro _ p0 hp comp hcomp
      obtain ⟨_, hc⟩ := hp0 p0 hp
      obtain ⟨j, hj⟩ := List.getElem?_of_mem hcomp
      exact (hc j comp hj).1
    · intro _ p0 hp
      obtain ⟨hl, hc⟩ := hp0 p0 hp
      exact c14s_ntt_fwd_inv tab _ ht p0 hl hc

/-- (a list fact and a step of the example below; both are published in Props/C14.lean) -/
theorem c14s_getD_lt_of_all (l : List Nat) (q : Nat) (hq : 0 < q) (h : ∀ v ∈ l, v < q) : ∀ i, l.getD i 0 < q :=
  list_getD_lt_of_forall h hq

/-- the context of the example: the one level `c14s_exLevelNtt` -/
def c14s_exCtxNtt : Ctx := ⟨[c14s_exLevelNtt], 17, 4⟩

/-- NTT-form, seeded, reduced residues mod 97 -/
def c14s_exCtNtt : Ct :=
  ⟨[1, 2, 3, 4], 2, true, oneF64, 1, [[[96, 5, 0, 41]]], [1, 2, 3, 4, 5, 6, 7, 8]⟩

theorem c14s_exCtNtt_hp0 : ∀ p0, c14s_exCtNtt.polys.head? = some p0 →
    p0.length ≤ ((c14s_exCtxNtt.find c14s_exCtNtt.pid).getD noLevel).moduli.length ∧
    ∀ j comp, p0[j]? = some comp → comp.length = ((c14s_exCtxNtt.find c14s_exCtNtt.pid).getD noLevel).n ∧
      ∀ i, comp.getD i 0 < ((c14s_exCtxNtt.find c14s_exCtNtt.pid).getD noLevel).moduli.getD j 0 := by
  intro p0 hp
  cases hp
  refine ⟨by decide, ?_⟩
  intro j comp hj
  have hj1 : j < 1 := list_lt_of_getElem? hj
  have : j = 0 := by omega
  subst this
  have : comp = [96, 5, 0, 41] := by
    have h : some [96, 5, 0, 41] = some comp := hj
    injection h with h; exact h.symm
  subst this
  exact ⟨rfl, c14s_getD_lt_of_all _ 97 (by decide) (by decide)⟩

/-- the hypotheses of `c14s_terms_format_ntt` hold on a concrete NTT-form seeded ciphertext with tables built by `NTTTables.new` -/
theorem c14s_ex_ntt_instance (expand : List Nat → Level → Poly) (T : List Nat) :
    c14s_maskTerms c14s_exCtxNtt expand (c14s_nttFwd c14s_exTab) (c14s_nttInv c14s_exTab) T
        (c14s_maskTerms c14s_exCtxNtt expand (c14s_nttFwd c14s_exTab) (c14s_nttInv c14s_exTab) T c14s_exCtNtt)
      = c14s_maskTerms c14s_exCtxNtt expand (c14s_nttFwd c14s_exTab) (c14s_nttInv c14s_exTab) T c14s_exCtNtt :=
  (c14s_terms_format_ntt c14s_exCtxNtt expand c14s_exTab T c14s_exCtNtt c14s_exTab_for
    (Or.inl (by decide)) c14s_exCtNtt_hp0).1

end HC.Codec
