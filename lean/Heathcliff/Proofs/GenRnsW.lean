import Heathcliff.Proofs.NonVac
import Heathcliff.Proofs.GenRnsDivide
import Heathcliff.Proofs.GenRnsBehz
import Heathcliff.Proofs.GenRnsW2

/-!
  Non-vacuity of the hypotheses under which the translator ties of Proofs/GenRnsDivide.lean, GenRnsBehz.lean and (`grw_fca_…`)
  GenRnsConvert.lean are stated, in the concrete world of Proofs/World.lean (`RNSTool::new(4, {97, 113}, 17)`, tables for 97 and 113) on the
  canonical polynomial `nv_c0` of Proofs/NonVac.lean.  The second half is Proofs/GenRnsW2.lean, imported here only so that the witness step of tools/runner.py, which builds this module, reaches both.
-/
namespace HC
attribute [local instance] nv_decWFOp nv_decModWF

theorem grw_shape : gr_Shape nv_toolV nv_c0 := by unfold gr_Shape; decide +kernel

/-- `nv_c0` holds the residues of 10960, 1363, 2134, 7122 -/
theorem grw_crt : ∀ i j, i < nv_toolV.baseQ.size → j < nv_toolV.n →
    (nv_c0.getD i #[]).getD j 0 = [10960, 1363, 2134, 7122].getD j 0 % (nv_toolV.baseQ.q i).value := nv_all2 (by decide +kernel)

/-- `gr_divide_and_round_q_last_inplace_eq` applies -/
theorem grw_dar_eq : GenR.divide_and_round_q_last_inplace (flatP nv_c0) nv_tool.baseQ.size nv_tool.baseQ.base.toList nv_tool.n nv_tool.invQLastModQ.toList
    = (nv_tool.divideAndRoundQLast nv_c0).map flatP := by
  rw [nv_tool_eq]
  exact gr_divide_and_round_q_last_inplace_eq nv_toolV nv_c0 (by decide) nv_base_wf.mwf (by decide) (by decide) (by decide) grw_shape

/-- `gr_divide_and_round_q_last_inplace_rounds` applies -/
theorem grw_dar_rounds : ∃ out, GenR.divide_and_round_q_last_inplace (flatP nv_c0) nv_tool.baseQ.size nv_tool.baseQ.base.toList nv_tool.n nv_tool.invQLastModQ.toList = .ok out ∧
    ∀ i j, i < nv_tool.baseQ.size - 1 → j < nv_tool.n →
      out.getD (i * nv_tool.n + j) 0 = (([10960, 1363, 2134, 7122].getD j 0 + (nv_tool.baseQ.q (nv_tool.baseQ.size - 1)).value / 2)
        / (nv_tool.baseQ.q (nv_tool.baseQ.size - 1)).value) % (nv_tool.baseQ.q i).value := by
  rw [nv_tool_eq]
  exact gr_divide_and_round_q_last_inplace_rounds nv_toolV nv_c0 (fun j => [10960, 1363, 2134, 7122].getD j 0)
    nv_base_wf.mwf (by decide) nv_toolV_inv (by decide) (by decide) (by decide) grw_shape grw_crt

/-- `gr_mod_t_and_divide_q_last_ntt_inplace_eq` applies (tables of the NonVac level) -/
theorem grw_mtdn_eq : GenR.mod_t_and_divide_q_last_ntt_inplace (flatP nv_c0) nv_tool.baseQ.size nv_tool.baseQ.base.toList nv_tool.n nv_tool.invQLastModQ.toList
      nv_tool.t nv_tool.invQLastModT (fun i x => .ok (gr_IT #[nv_t97, nv_t113] i x)) (fun i x => .ok (gr_NT #[nv_t97, nv_t113] i x))
    = (nv_tool.modTAndDivideQLastNtt #[nv_t97, nv_t113] nv_c0).map flatP := by
  rw [nv_tool_eq]
  refine gr_mod_t_and_divide_q_last_ntt_inplace_eq nv_toolV #[nv_t97, nv_t113] nv_c0 (by decide) nv_base_wf.mwf nv_m17_wf (by decide)
    (by decide) (by decide) (by decide) grw_shape (by decide +kernel) (by decide +kernel) ?_
  intro i a hi ha hb
  have hi0 : i = 0 := Nat.lt_one_iff.mp hi
  subst hi0
  refine (ntt_sim nv_t97_wf a ha ?_).1
  intro j _
  have := getD_lt_of_forall (B := 2 * 97) hb (by norm_num) j
  exact Nat.lt_of_lt_of_le this (by decide)

/-- `gr_divide_and_round_q_last_ntt_inplace_eq` applies -/
theorem grw_darn_eq : GenR.divide_and_round_q_last_ntt_inplace (flatP nv_c0) nv_tool.baseQ.size nv_tool.baseQ.base.toList nv_tool.n nv_tool.invQLastModQ.toList
      (fun i x => .ok (gr_IT #[nv_t97, nv_t113] i x)) (fun i x => .ok (gr_NL #[nv_t97, nv_t113] i x))
    = (nv_tool.divideAndRoundQLastNtt #[nv_t97, nv_t113] nv_c0).map flatP := by
  rw [nv_tool_eq]
  exact gr_divide_and_round_q_last_ntt_inplace_eq nv_toolV #[nv_t97, nv_t113] nv_c0 (by decide) nv_base_wf.mwf (by decide) (by decide)
    (by decide) grw_shape (by decide +kernel)

/-- `gr_mod_t_and_divide_q_last_inplace_eq` / `_bgv` apply -/
theorem grw_mtd_eq : GenR.mod_t_and_divide_q_last_inplace (flatP nv_c0) nv_tool.baseQ.size nv_tool.baseQ.base.toList nv_tool.n nv_tool.invQLastModQ.toList
      nv_tool.t nv_tool.invQLastModT = (nv_tool.modTAndDivideQLast nv_c0).map flatP := by
  rw [nv_tool_eq]
  exact gr_mod_t_and_divide_q_last_inplace_eq nv_toolV nv_c0 (by decide) nv_base_wf.mwf nv_m17_wf (by decide) (by decide) (by decide)
    (by decide) grw_shape (by decide +kernel)

theorem grw_mtd_bgv : ∃ out, GenR.mod_t_and_divide_q_last_inplace (flatP nv_c0) nv_tool.baseQ.size nv_tool.baseQ.base.toList nv_tool.n
    nv_tool.invQLastModQ.toList nv_tool.t nv_tool.invQLastModT = .ok out := by
  rw [nv_tool_eq]
  obtain ⟨out, h, _⟩ := gr_mod_t_and_divide_q_last_inplace_bgv nv_toolV nv_c0 (fun j => [10960, 1363, 2134, 7122].getD j 0)
    nv_base_wf.mwf (by decide) nv_m17_wf nv_toolV_inv (by decide) (by decide) (by decide) (by decide) (by decide) grw_shape grw_crt
  exact ⟨out, h⟩

/-- `gr_mod_t_and_divide_q_last_ntt_inplace_bgv` applies to the NonVac level -/
theorem grw_mtdn_bgv : ∃ out : RnsPoly, c05u_BgvDivOfNtt nv_level nv_c0 (out.extract 0 (nv_level.size - 1)) := by
  obtain ⟨out, _, h, _⟩ := gr_mod_t_and_divide_q_last_ntt_inplace_bgv nv_level_wf nv_toolOK nv_bgvOK (by decide) (by decide)
    (by rw [nv_level_tool]; decide) nv_c0_canon
  exact ⟨out, h⟩

/-- `gr_sm_mrq_eq` applies: a 4-component input (|Bsk| = 3, plus the m̃ component) and a zero destination -/
theorem grw_sm_eq : GenR.sm_mrq (flatP #[#[1,2,3,4],#[5,6,7,8],#[9,10,11,12],#[13,14,15,16]]) (flatP #[#[0,0,0,0],#[0,0,0,0],#[0,0,0,0]])
      nv_tool.baseBsk.size nv_tool.baseBsk.base.toList nv_tool.n nv_tool.mTilde nv_tool.negInvProdQModMt nv_tool.prodQModBsk.toList nv_tool.invMtModBsk.toList
    = (nv_tool.smMrq #[#[1,2,3,4],#[5,6,7,8],#[9,10,11,12],#[13,14,15,16]]).map flatP := by
  rw [nv_tool_eq]
  exact gr_sm_mrq_eq nv_toolV _ _ rfl (by decide) rfl (by decide) rfl (by decide +kernel) (by decide) (by decide) (by decide)

/-- `gr_fast_convert_array_eq` applies to the converter {97, 113} → {17}, the canonical polynomial `nv_c0` and a DIRTY destination buffer -/
theorem grw_fca_eq : GenR.fast_convert_array (flatP nv_c0) (flatP #[#[9, 9, 9, 9]]) nv_base.size nv_base17.size nv_base.invPunct.toList nv_base.base.toList
      nv_base17.base.toList (nv_conv.matrix.toList.map Array.toList) = (nv_conv.fastConvertArray nv_c0 4).map flatP :=
  gr_fast_convert_array_eq nv_base_wf nv_base17_wf nv_conv_new nv_c0 #[#[9, 9, 9, 9]] 4 rfl (by decide) (nv_all2 (by decide)) rfl
    (by decide) (by decide) (by decide)

/-- … and the values: the generated function overwrites the dirty buffer with the four converted coefficients -/
theorem grw_fca_val : GenR.fast_convert_array (flatP nv_c0) (flatP #[#[9, 9, 9, 9]]) nv_base.size nv_base17.size nv_base.invPunct.toList nv_base.base.toList
      nv_base17.base.toList (nv_conv.matrix.toList.map Array.toList) = .ok [12, 16, 9, 16] := by
  rw [grw_fca_eq]; decide +kernel

end HC
