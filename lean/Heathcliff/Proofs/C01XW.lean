/- C01 part X, non-vacuity: the seed-compressed pipeline in the concrete world of C01LW at the key level {97, 113, 193}, N = 4 (12 words ≥ 9:
   the seed is saved; at {97, 113} it would NOT be: 8 < 9, `c01xw_not_saved`), with the driver's own rejection sampler `Rng.randUniform`
   on a concrete byte stream. -/
import Heathcliff.Proofs.C01Y
import Heathcliff.Proofs.C01VW
namespace HC
open Finset

def c01xw_xof : Rng.Xof := fun _ c => ((List.range Rng.BUF).map fun i => (37 * i + 11 * c + 5) % 256).toArray

def c01xw_seed : Rng.Seed := List.replicate 64 1

def c01xw_draw : R (List (List Nat) × Rng.St) :=
  Rng.uniformPoly Rng.randUniform c01xw_xof (Rng.fromSeed c01xw_seed) 4 [97, 113, 193]

/-- the mask the seed expands to -/
def c01xw_a : RnsPoly := toRns ((c01xw_draw.toOption.map (·.1)).getD [])

theorem c01xw_draw_ok : ∃ c st, Rng.uniformPoly Rng.randUniform c01xw_xof (Rng.fromSeed c01xw_seed) 4 [97, 113, 193] = .ok (c, st) ∧
    c01xw_a = toRns c := by
  obtain ⟨r, hd⟩ := (R.isSome_toOption (x := c01xw_draw)).mp (by decide +kernel)
  refine ⟨r.1, r.2, hd, ?_⟩
  unfold c01xw_a
  rw [hd]
  rfl

theorem c01yw_byteXof : Rng.ByteXof c01xw_xof := by
  intro seed c i
  unfold c01xw_xof
  by_cases hi : i < Rng.BUF
  · simp [Array.getD, hi]
    omega
  · simp [Array.getD, hi]

theorem c01xw_a_canon {s : Scheme} {t : Nat} (hkl : Drv.Sch.mkLevel s 4 [97, 113, 193] t = .ok (c01w_pl s t)) :
    RnsCanon (c01w_pl s t) c01xw_a := by
  obtain ⟨c, st, hd, ha⟩ := c01xw_draw_ok
  rw [ha]
  exact (uniform_tape Rng.randUniform_contract c01yw_byteXof hkl (Rng.byteSt_fromSeed _) hd).1

theorem c01xw_expands (s : Scheme) (t : Nat) (hkl : Drv.Sch.mkLevel s 4 [97, 113, 193] t = .ok (c01w_pl s t)) :
    SeedExpands Rng.randUniform c01xw_xof (c01w_pl s t) c01xw_seed c01xw_a := by
  obtain ⟨c, st, hd, ha⟩ := c01xw_draw_ok
  refine ⟨st, ?_⟩
  rw [c01w_n hkl, (c01y_moduli hkl).1, ha, c01e_ofRns_toRns]
  exact hd

theorem c01xw_seedSaved {s : Scheme} {qs : List Nat} {t : Nat} {l : Level} (h : Drv.Sch.mkLevel s 4 qs t = .ok l) :
    seedSaved l true = !decide (4 * qs.length < (Gen.PRNG_SEED_BYTES + 7) / 8 + 1) := by
  have m := mkLevel_facts h
  unfold seedSaved
  rw [m.n_eq, ← m.size_eq]
  rfl

/-- at {97, 113}, N = 4 the flag word and the seed do not fit into one polynomial: the seed is NOT saved (the code falls back silently) -/
theorem c01xw_not_saved : seedSaved (c01w_l .bfv 17) true = false := c01xw_seedSaved c01w_l_ok_bfv

/-- NON-VACUITY of `drv_bfv_encrypt_decrypt_seeded` -/
theorem c01xw_bfv_seeded :
    ∃ cdp ct, Drv.C01E.bfvConsts (c01w_pl .bfv 17) [97, 113, 193] 17 = .ok cdp ∧
      bfvEncrypt (c01w_pl .bfv 17) cdp (Spec.prodL [97, 113, 193] % 17) ((17 + 1) / 2)
        (.sym c01w_sk c01xw_a (rnsOfInt (c01w_pl .bfv 17) c01w_e0) true) c01w_plain = .ok ct ∧
      expandSeed Rng.randUniform c01xw_xof (c01w_pl .bfv 17) (ct.toSeeded c01xw_seed) = .ok ct ∧
      bfvDecrypt (c01w_pl .bfv 17) c01w_sk ct = .ok (trimPlain (padPlain 4 c01w_plain)) :=
  drv_bfv_encrypt_decrypt_seeded c01vw_ctx_bfv c01w_pl_ok_bfv (by decide) (e := c01w_e0) (c01xw_a_canon c01w_pl_ok_bfv) rfl (by decide)
    (c01xw_seedSaved c01w_pl_ok_bfv) (c01xw_expands _ _ c01w_pl_ok_bfv) (by decide) (by decide)
    (mkLevel_freshEncOK c01w_pl_ok_bfv (by decide) (by decide))

/-- NON-VACUITY of `drv_bgv_encrypt_decrypt_seeded` -/
theorem c01xw_bgv_seeded :
    ∃ ct, bgvEncrypt (c01w_pl .bgv 17) (Drv.C01E.bgvIncr [97, 113, 193] 17).1 ((17 + 1) / 2) (Drv.C01E.bgvIncr [97, 113, 193] 17).2
        (.sym c01w_sk c01xw_a (rnsOfInt (c01w_pl .bgv 17) c01w_e0) true) c01w_plain = .ok ct ∧
      ct.cf = 1 ∧ expandSeed Rng.randUniform c01xw_xof (c01w_pl .bgv 17) (ct.toSeeded c01xw_seed) = .ok ct ∧
      bgvDecrypt (c01w_pl .bgv 17) c01w_sk ct = .ok (trimPlain (padPlain 4 c01w_plain)) :=
  drv_bgv_encrypt_decrypt_seeded c01vw_ctx_bgv c01w_pl_ok_bgv (e := c01w_e0) (c01xw_a_canon c01w_pl_ok_bgv) rfl (by decide)
    (c01xw_seedSaved c01w_pl_ok_bgv) (c01xw_expands _ _ c01w_pl_ok_bgv) (by decide) (by decide) (by decide)

/-- NON-VACUITY of `drv_ckks_encrypt_decrypt_seeded` -/
theorem c01xw_ckks_seeded :
    ∃ (ν : Nat → Int) (ct : Ct) (dec : RnsPoly), (∀ c, c < 4 → (ν c).natAbs ≤ 21) ∧
      ckksEncrypt (c01w_pl .ckks 0) (.sym c01w_sk c01xw_a (rnsOfInt (c01w_pl .ckks 0) c01w_e0) true)
        (ckksPlainOfInt (c01w_pl .ckks 0) c01vw_M) = .ok ct ∧
      expandSeed Rng.randUniform c01xw_xof (c01w_pl .ckks 0) (ct.toSeeded c01xw_seed) = .ok ct ∧
      ckksDecrypt (c01w_pl .ckks 0) c01w_sk ct = .ok dec ∧ RnsCanon (c01w_pl .ckks 0) dec ∧
      (∀ c, c < 4 → (Drv.Sch.exactPhase (c01w_pl .ckks 0) [97, 113, 193] c01w_sk ct).getD c 0 = c01vw_M.getD c 0 + ν c) ∧
      ∀ i, i < (c01w_pl .ckks 0).size → ∀ c, c < 4 →
        (intt ((c01w_pl .ckks 0).tbl i) (dec.getD i #[])).getD c 0 = Spec.imod (c01vw_M.getD c 0 + ν c) ((c01w_pl .ckks 0).q i).value :=
  drv_ckks_encrypt_decrypt_seeded c01vw_ctx_ckks c01w_pl_ok_ckks (e := c01w_e0) (c01xw_a_canon c01w_pl_ok_ckks) rfl (by decide)
    (c01xw_seedSaved c01w_pl_ok_ckks) (c01xw_expands _ _ c01w_pl_ok_ckks) rfl (by decide)

end HC
