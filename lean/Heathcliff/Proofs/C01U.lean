/- C01 part U: the hypothesis bundles of the end-to-end encryption theorems (C01L) FROM THE CONSTRUCTORS, on the driver's own objects:
   •   two levels built by `Drv.Sch.mkLevel` on a modulus list and on a prefix of it are related by `LevelPrefix` (same moduli, same
       tables, same plain modulus): `mkLevel_prefix`; dropping exactly one modulus gives the whole bundle `PrevLevelOK` of the
       special-prime path: `mkLevel_prevLevelOK`;
   •   the BFV constants the driver computes from their definitions (`Drv.C01E.bfvConsts`: Harvey operands of ⌊Q/t⌋ mod q_j) satisfy
       `ScalingOK`: `bfvConsts_scalingOK`;
   •   the BGV lift constants the driver computes (`Drv.C01E.bgvIncr`: fast path iff every q_i > t, increments q_i − t, else the
       multi-word value Q − t) satisfy `BgvLiftOK`: `bgvIncr_liftOK`. -/
import Heathcliff.Proofs.C01L
import Heathcliff.Proofs.C01M
import Driver.C01E
namespace HC
open Finset

/-- `mkLevel` on `qs` and on `qs ++ r` (same scheme, degree, plain modulus): the first level is a prefix of the second — the
    SAME `Modulus` and `NTTTables` objects in the common positions (the constructors are functions of the modulus value) -/
theorem mkLevel_prefix {scheme : Scheme} {n : Nat} {qs r : List Nat} {t : Nat} {l L : Level}
    (hl : Drv.Sch.mkLevel scheme n qs t = .ok l) (hL : Drv.Sch.mkLevel scheme n (qs ++ r) t = .ok L) :
    LevelPrefix l L ∧ l.scheme = L.scheme ∧ l.t = L.t ∧ l.size = qs.length ∧ L.size = qs.length + r.length := by
  obtain ⟨h1, h2, h3, h4, h5⟩ := mkLevel_prefix' hl hL
  have ht : l.t = L.t := by
    obtain ⟨_, tm, _, _, _, _, _, htm, _, _, _, _, rfl⟩ := c01q_mkLevel_inv hl
    obtain ⟨_, tm', _, _, _, _, _, htm', _, _, _, _, rfl⟩ := c01q_mkLevel_inv hL
    exact Except.ok.inj (htm.symm.trans htm')
  exact ⟨⟨by omega, h1, h2, h3⟩, (mkLevel_facts hl).scheme_eq.trans (mkLevel_facts hL).scheme_eq.symm, ht, h4, h5⟩

/-- the bundle of the special-prime path / of encryption below the first level, for the two levels the driver builds: the level
    `l` on `qs` (at least one modulus — `mkLevel` refuses the empty list) and the previous level `pl` on `qs ++ [qL]`.  The only input
    hypothesis: a BGV level has a plain modulus (t ≠ 0; with t = 0 the tool has no BGV constants, `mkLevel_t0`). -/
theorem mkLevel_prevLevelOK {scheme : Scheme} {n : Nat} {qs : List Nat} {qL t : Nat} {l pl : Level}
    (hl : Drv.Sch.mkLevel scheme n qs t = .ok l) (hpl : Drv.Sch.mkLevel scheme n (qs ++ [qL]) t = .ok pl)
    (hbgv : scheme = .bgv → t ≠ 0) : PrevLevelOK pl l := by
  obtain ⟨hp, hs, ht, hsz, hsz'⟩ := mkLevel_prefix hl hpl
  have a := mkLevel_facts hpl
  have b := mkLevel_facts hl
  have h1 := b.qs_pos
  simp only [List.length_singleton] at hsz'
  exact ⟨a.wf, a.lq, a.tool, by omega, fun hb => a.bgv (hbgv (by rw [← a.scheme_eq, hb])), a.t64, b.lq, b.tool,
    ⟨by omega, hp.n, hp.q⟩, hp.tbl, hs, ht⟩

/-- the constants `Drv.C01E.bfvConsts` computes for a BFV level the driver builds (t ≥ 2) exist and satisfy `ScalingOK` -/
theorem bfvConsts_scalingOK {scheme : Scheme} {n : Nat} {qs : List Nat} {t : Nat} {l : Level}
    (hl : Drv.Sch.mkLevel scheme n qs t = .ok l) (ht2 : 2 ≤ t) :
    ∃ cdp, Drv.C01E.bfvConsts l qs t = .ok cdp ∧ ScalingOK l (Spec.prodL (c01p_qvals l)) cdp := by
  have m := mkLevel_facts hl
  have hlen := m.size_eq
  have hqwf : ∀ j, j < l.size → (l.q j).WF := fun j hj => (c01o_level_comp m.wf hj).2.2.2
  have hex : ∀ j, ∃ o, j < l.size → MulOperand.new ((Spec.prodL qs / t) % qs.getD j 1) (l.q j) = .ok o ∧ WFOp (l.q j) o ∧
      o.operand = (Spec.prodL qs / t) % (l.q j).value := by
    intro j
    by_cases hj : j < l.size
    · have hw := hqwf j hj
      have hy : (Spec.prodL qs / t) % qs.getD j 1 < (l.q j).value := by
        rw [← m.q_value hj]; exact Nat.mod_lt _ (by have := hw.two_le; omega)
      obtain ⟨o, h1, h2, h3⟩ := mulOperand_new hw hy
      exact ⟨o, fun _ => ⟨h1, ⟨by rw [h2]; exact hy, by rw [h3, h2]⟩, by rw [h2, m.q_value hj]⟩⟩
    · exact ⟨default, fun h => absurd h hj⟩
  choose g hg using hex
  refine ⟨((List.range qs.length).map g).toArray, ?_, ?_⟩
  · unfold Drv.C01E.bfvConsts
    simp only []
    rw [R.mapM_ok _ g _ (fun j hj => (hg j (by have := List.mem_range.mp hj; omega)).1)]
    rfl
  · rw [m.qvals]
    refine ⟨hqwf, by rw [m.t_eq]; exact ht2, by rw [m.t_eq]; exact m.t_lt, by simp [hlen], fun j hj => ?_⟩
    rw [array_getD_range_map _ _ (show j < qs.length by omega), m.t_eq]
    exact (hg j hj).2

/-- the BGV lift constants `Drv.C01E.bgvIncr` computes for a level the driver builds, with t < Q, satisfy `BgvLiftOK` (threshold
    ⌊(t+1)/2⌋; either path) -/
theorem bgvIncr_liftOK {scheme : Scheme} {n : Nat} {qs : List Nat} {t : Nat} {l : Level}
    (hl : Drv.Sch.mkLevel scheme n qs t = .ok l) (htQ : t < Spec.prodL qs) :
    BgvLiftOK l (Drv.C01E.bgvIncr qs t).1 ((t + 1) / 2) (Drv.C01E.bgvIncr qs t).2 := by
  have m := mkLevel_facts hl
  have hlen := m.size_eq
  unfold BgvLiftOK
  refine ⟨by rw [m.t_eq], ?_⟩
  by_cases hfast : qs.all (fun q => !(decide (q ≤ t))) = true
  · have e : Drv.C01E.bgvIncr qs t = (true, (qs.map (fun q => q - t)).toArray) := by
      unfold Drv.C01E.bgvIncr
      simp only [hfast, ↓reduceIte]
    rw [e]
    simp only [↓reduceIte]
    intro i hi
    have hi' : i < qs.length := by omega
    have hv := m.q_value hi
    have hmem : qs.getD i 1 ∈ qs := by
      rw [list_getD_eq_getElem qs 1 hi']; exact List.getElem_mem _
    have hlt : t < qs.getD i 1 := by
      have := List.all_eq_true.mp hfast _ hmem
      simpa using this
    rw [m.t_eq, hv]
    refine ⟨hlt, ?_⟩
    simp [Array.getD, hi']
  · have e : Drv.C01E.bgvIncr qs t = (false, (fromNat qs.length (Spec.prodL qs - t)).toArray) := by
      unfold Drv.C01E.bgvIncr
      simp only [hfast, Bool.false_eq_true, ↓reduceIte]
    rw [e]
    simp only [Bool.false_eq_true, ↓reduceIte]
    rw [m.qvals, m.t_eq]
    refine ⟨htQ, ?_⟩
    have htake : (fromNat qs.length (Spec.prodL qs - t)).take l.size = fromNat qs.length (Spec.prodL qs - t) := by
      apply List.take_of_length_le
      rw [fromNat_length]; omega
    rw [htake, RNSH.toNat_fromNat]
    apply Nat.mod_eq_of_lt
    -- Q is the product of the tool's base q, below 2^(64·size)
    have hp := m.lq.bwf.prod_lt
    rw [m.lq.size_eq, hlen, show l.tool.baseQ.prod = Spec.prodL qs by rw [← m.qvals, m.lq.prodL]] at hp
    omega

end HC
