/-
  C20O: `MatmulBoltCcDc` end to end over the model (`Model/Matmul.lean`): LHS packed by diagonals, RHS column-major, outputs
  column-major.

  `spread_inputs` masks one segment of one column and copies it onto every column by log-many rotations whose direction follows the
  bits of the column index, the last one across the rows (`c20_boltSpread_spec`); `multiply` multiplies the spread diagonal with
  the RHS rotated inside its columns and sums (`c20_dcMulSmall_spec`); the block products are accumulated with `add_inplace`
  (`c20_zipFold_get`).  The end-to-end theorems need `r > 0`: the constructor accepts `r = 0`, `multiply` does not.
-/
import Heathcliff.Proofs.C20K
import Heathcliff.Proofs.C20L
namespace HC
open Finset HC.MM

variable {S : Type}

/-! ### block arithmetic of `spread_inputs` -/

/-- a rotation by `a` blocks of `B` columns inside a row of `nb` blocks, on block indices -/
theorem c20_colrot_block {B nb a c : Nat} (hB : 0 < B) (hnb : 0 < nb) :
    (c / (nb * B) * (nb * B) + (c % (nb * B) + a * B) % (nb * B)) / B = c / B / nb * nb + (c / B % nb + a) % nb := by
  have e1 : c / (nb * B) = c / B / nb := by rw [Nat.div_div_eq_div_mul, Nat.mul_comm]
  have e2 : c % (nb * B) = c / B % nb * B + c % B := by
    rw [Nat.mul_comm nb B, Nat.mod_mul]; ring
  have hlt : c % B < B := Nat.mod_lt _ hB
  have e3 : c / B % nb * B + c % B + a * B = (c / B % nb + a) * B + c % B := by ring
  rw [e1, e2, e3, (c20_col_divmod (x := c / B % nb + a) (w := nb) hnb hlt).2]
  have e4 : c / B / nb * (nb * B) + ((c / B % nb + a) % nb * B + c % B) = (c / B / nb * nb + (c / B % nb + a) % nb) * B + c % B := by
    ring
  rw [e4]
  exact grid_div _ hlt

/-- `u'` is the other member of the pair `{2s, 2s+1}` holding `us` exactly when `u` is in it, if `u'` is the neighbour of `u` on the
    side given by the parity of `us` or, where the step wraps around a row of even length, has the other parity than `u` -/
theorem c20_pair_sibling {u u' us : Nat}
    (h : if us % 2 = 0 then u' + 1 = u ∨ (u % 2 = 0 ∧ u' % 2 = 1) else u' = u + 1 ∨ (u % 2 = 1 ∧ u' % 2 = 0)) :
    (u = us → u' ≠ us) ∧ ((u = us ∨ u' = us) ↔ u / 2 = us / 2) := by
  split at h
  · omega
  · omega

/-- one doubling of `spread_inputs` on block indices: the block `u'` read by the rotation is the sibling of `u` exactly when needed -/
theorem c20_spread_blocks {nb' u us : Nat} (hnb : 0 < nb') :
    let u' := u / (2 * nb') * (2 * nb') + (u % (2 * nb') + (if us % 2 = 0 then 2 * nb' - 1 else 1)) % (2 * nb')
    (u = us → u' ≠ us) ∧ ((u = us ∨ u' = us) ↔ u / 2 = us / 2) := by
  intro u'
  apply c20_pair_sibling
  have hv := Nat.mod_lt u (by omega : 0 < 2 * nb')
  have hu := Nat.div_add_mod' u (2 * nb')
  have hq : u / (2 * nb') * (2 * nb') = 2 * (u / (2 * nb') * nb') := by ring
  generalize u / (2 * nb') * nb' = Q at hq
  by_cases hpar : us % 2 = 0
  · have hu' : u' = u / (2 * nb') * (2 * nb') + (u % (2 * nb') + (2 * nb' - 1)) % (2 * nb') := by
      show _ + (_ + (if us % 2 = 0 then 2 * nb' - 1 else 1)) % _ = _; rw [if_pos hpar]
    rw [if_pos hpar]
    rcases Nat.eq_zero_or_pos (u % (2 * nb')) with hz | hp
    · rw [hz, Nat.zero_add, Nat.mod_eq_of_lt (by omega : 2 * nb' - 1 < 2 * nb')] at hu'
      right; omega
    · have e : u % (2 * nb') + (2 * nb' - 1) = (u % (2 * nb') - 1) + 2 * nb' := by omega
      rw [e, Nat.add_mod_right, Nat.mod_eq_of_lt (by omega)] at hu'
      left; omega
  · have hu' : u' = u / (2 * nb') * (2 * nb') + (u % (2 * nb') + 1) % (2 * nb') := by
      show _ + (_ + (if us % 2 = 0 then 2 * nb' - 1 else 1)) % _ = _; rw [if_neg hpar]
    rw [if_neg hpar]
    rcases Nat.lt_or_ge (u % (2 * nb') + 1) (2 * nb') with hlt | hge
    · rw [Nat.mod_eq_of_lt hlt] at hu'
      left; omega
    · have e : u % (2 * nb') + 1 = 2 * nb' := by omega
      rw [e, Nat.mod_self] at hu'
      right; omega

/-! ### `spread_inputs` -/

theorem c20_spread_go_succ (add : S → S → S) (z : S) (N f rc sid : Nat) (a : Array S) :
    boltSpread.go add z N (f+1) rc sid a = if rc = N then a else
      boltSpread.go add z N f (2 * rc) (sid / 2) (slotZip add z N a
        (if rc < N / 2 then (if sid % 2 = 0 then rotRows z N (N / 2 - rc) a else rotRows z N rc a) else swapRows z N a)) := rfl

/-- the rotation phase of `spread_inputs`: after the doublings up to a whole row, the column `σ` has been copied onto its row -/
theorem c20_spread_phase [AddCommMonoid S] (gap g σ : Nat) (hgap : 0 < gap) (v : Nat → S) :
    ∀ j k f (ak : Array S), k + j = g →
      (∀ c t, c < 2 * 2^g → t < gap → ak.getD (c * gap + t) 0 = if c / 2^k = σ / 2^k then v t else 0) →
      ∃ a', boltSpread.go (· + ·) 0 (2 * (2^g * gap)) (f + j) (2^k * gap) (σ / 2^k) ak
          = boltSpread.go (· + ·) 0 (2 * (2^g * gap)) f (2^g * gap) (σ / 2^g) a' ∧
        ∀ c t, c < 2 * 2^g → t < gap → a'.getD (c * gap + t) 0 = if c / 2^g = σ / 2^g then v t else 0 := by
  have hhp : 0 < 2^g := Nat.two_pow_pos g
  intro j
  induction j with
  | zero =>
    intro k f ak hk hak
    have : k = g := by omega
    subst this
    exact ⟨ak, rfl, hak⟩
  | succ j ih =>
    intro k f ak hk hak
    have hkg : k < g := by omega
    have hBp : 0 < 2^k := Nat.two_pow_pos k
    have hlt : 2^k * gap < 2^g * gap :=
      Nat.mul_lt_mul_of_pos_right (Nat.pow_lt_pow_right (by decide) hkg) hgap
    -- the row holds `2·nb'` blocks of `2^k` columns
    have hnb : 2^g = 2 * 2^(g-k-1) * 2^k := by
      rw [Nat.mul_comm 2, ← Nat.pow_succ, ← Nat.pow_add]; congr 1; omega
    have hnbp : 0 < 2^(g-k-1) := Nat.two_pow_pos _
    show ∃ a', boltSpread.go (· + ·) 0 (2 * (2^g * gap)) ((f + j) + 1) (2^k * gap) (σ / 2^k) ak = _ ∧ _
    rw [c20_spread_go_succ, if_neg (by omega), Nat.mul_div_cancel_left _ (by decide : 0 < 2), if_pos hlt]
    have e2 : 2 * (2^k * gap) = 2^(k+1) * gap := by rw [Nat.pow_succ]; ring
    have e3 : σ / 2^k / 2 = σ / 2^(k+1) := by rw [Nat.div_div_eq_div_mul, Nat.pow_succ]
    rw [e2, e3]
    apply ih (k+1) f _ (by omega)
    intro c t hc ht
    have hp : c * gap + t < 2 * (2^g * gap) := by rw [← Nat.mul_assoc]; exact grid_lt hc ht
    have hrot : (if σ / 2^k % 2 = 0 then rotRows 0 (2 * (2^g * gap)) (2^g * gap - 2^k * gap) ak
          else rotRows 0 (2 * (2^g * gap)) (2^k * gap) ak).getD (c * gap + t) 0
        = ak.getD ((c / 2^g * 2^g + (c % 2^g + (if σ / 2^k % 2 = 0 then 2 * 2^(g-k-1) - 1 else 1) * 2^k) % 2^g) * gap + t) 0 := by
      have hiter : ∀ amt, c20_rho (2^g * gap) (amt * gap) (c * gap + t)
          = (c / 2^g * 2^g + (c % 2^g + amt) % 2^g) * gap + t := by
        intro amt
        have := c20_rho_iter_col (irc := amt) hhp 1 c t hc ht
        rw [Function.iterate_one, Nat.one_mul] at this
        exact this
      split
      · rw [c20_rotRows_get 0 _ _ ak hp]
        have e : 2^g * gap - 2^k * gap = ((2 * 2^(g-k-1) - 1) * 2^k) * gap := by
          rw [← Nat.sub_mul]; congr 1
          rw [Nat.sub_mul, Nat.one_mul, ← hnb]
        rw [e, hiter]
      · rw [c20_rotRows_get 0 _ _ ak hp]
        have e : 2^k * gap = (1 * 2^k) * gap := by rw [Nat.one_mul]
        rw [e, hiter]
    rw [c20_slotZip_get _ _ _ _ _ hp, hrot, hak c t hc ht]
    have hc' : c / 2^g * 2^g + (c % 2^g + (if σ / 2^k % 2 = 0 then 2 * 2^(g-k-1) - 1 else 1) * 2^k) % 2^g < 2 * 2^g := by
      have h1 : c / 2^g < 2 := (Nat.div_lt_iff_lt_mul hhp).mpr hc
      have := grid_succ_le (B := 2^g) h1
      have := Nat.mod_lt (c % 2^g + (if σ / 2^k % 2 = 0 then 2 * 2^(g-k-1) - 1 else 1) * 2^k) hhp
      omega
    rw [hak _ t hc' ht]
    have hblk := c20_colrot_block (B := 2^k) (nb := 2 * 2^(g-k-1)) (a := if σ / 2^k % 2 = 0 then 2 * 2^(g-k-1) - 1 else 1) (c := c)
      hBp (by omega)
    rw [← hnb] at hblk
    rw [hblk]
    obtain ⟨hx1, hx2⟩ := c20_spread_blocks (nb' := 2^(g-k-1)) (u := c / 2^k) (us := σ / 2^k) hnbp
    have e4 : c / 2^(k+1) = c / 2^k / 2 := by rw [Nat.div_div_eq_div_mul, Nat.pow_succ]
    have e5 : σ / 2^(k+1) = σ / 2^k / 2 := by rw [Nat.div_div_eq_div_mul, Nat.pow_succ]
    rw [e4, e5]
    by_cases h1 : c / 2^k = σ / 2^k
    · rw [if_pos h1, if_neg (hx1 h1), add_zero, if_pos (hx2.mp (Or.inl h1))]
    · rw [if_neg h1, zero_add]
      by_cases h2 : c / 2 ^ k / (2 * 2 ^ (g - k - 1)) * (2 * 2 ^ (g - k - 1)) +
          (c / 2 ^ k % (2 * 2 ^ (g - k - 1)) + if σ / 2 ^ k % 2 = 0 then 2 * 2 ^ (g - k - 1) - 1 else 1) % (2 * 2 ^ (g - k - 1))
          = σ / 2^k
      · rw [if_pos h2, if_pos (hx2.mp (Or.inr h2))]
      · rw [if_neg h2, if_neg (fun h3 => by rcases hx2.mpr h3 with h4 | h4; exact h1 h4; exact h2 h4)]

/-- **`spread_inputs`**: the segment `[lo, hi)` (inside column `σ = lo / gap`) of the input is kept and copied onto every column -/
theorem c20_boltSpread_spec [AddCommMonoid S] (half gap g : Nat) (hhalf : half = 2^g) (hg : g ≤ 63) (hgap : 0 < gap) (a : Array S)
    (lo hi σ : Nat) (hσ : σ < 2 * half) (hlo : σ * gap ≤ lo) (hlh : lo < hi) (hhi : hi ≤ σ * gap + gap) :
    ∃ r, boltSpread (· + ·) 0 (2 * (half * gap)) gap lo hi a = .ok r ∧ r.size = 2 * (half * gap) ∧
      ∀ c t, c < 2 * half → t < gap →
        r.getD (c * gap + t) 0 = if lo ≤ σ * gap + t ∧ σ * gap + t < hi then a.getD (σ * gap + t) 0 else 0 := by
  subst hhalf
  have hhp : 0 < 2^g := Nat.two_pow_pos g
  have hH : 0 < 2^g * gap := Nat.mul_pos hhp hgap
  have hlog : lo / gap = σ := Nat.div_eq_of_lt_le (by rw [Nat.mul_comm] at hlo; rw [Nat.mul_comm]; exact hlo)
    (by rw [Nat.succ_mul]; omega)
  have hhig : (hi - 1) / gap = σ := Nat.div_eq_of_lt_le (by omega) (by rw [Nat.succ_mul]; omega)
  unfold boltSpread
  rw [if_neg (by rw [hlog, hhig]; omega), hlog]
  have hmask : ∀ c t, c < 2 * 2^g → t < gap →
      (slotMask 0 (2 * (2^g * gap)) lo hi a).getD (c * gap + t) 0
        = if c / 2^0 = σ / 2^0 then (if lo ≤ σ * gap + t ∧ σ * gap + t < hi then a.getD (σ * gap + t) 0 else 0) else 0 := by
    intro c t hc ht
    have hp : c * gap + t < 2 * (2^g * gap) := by rw [← Nat.mul_assoc]; exact grid_lt hc ht
    rw [c20_slotMask_get _ _ _ _ _ hp, Nat.pow_zero, Nat.div_one, Nat.div_one]
    by_cases hcs : c = σ
    · rw [if_pos hcs, hcs]
    · rw [if_neg hcs, if_neg]
      rintro ⟨c1, c2⟩
      exact hcs (c20_col_eq ht (by omega) (by omega))
  obtain ⟨a', hgo, ha'⟩ := c20_spread_phase gap g σ hgap
    (fun t => if lo ≤ σ * gap + t ∧ σ * gap + t < hi then a.getD (σ * gap + t) 0 else 0) g 0 (63 - g + 1) _ (by omega) hmask
  have e64 : 64 = (63 - g + 1) + g := by omega
  rw [Nat.pow_zero, Nat.one_mul, Nat.div_one] at hgo
  have hrun : boltSpread.go (· + ·) 0 (2 * (2^g * gap)) 64 gap σ (slotMask 0 (2 * (2^g * gap)) lo hi a)
      = slotZip (· + ·) 0 (2 * (2^g * gap)) a' (swapRows 0 (2 * (2^g * gap)) a') := by
    rw [e64, hgo, c20_spread_go_succ, if_neg (by omega), Nat.mul_div_cancel_left _ (by decide : 0 < 2), if_neg (by omega)]
    cases (63 - g) with
    | zero => rfl
    | succ f => rw [c20_spread_go_succ, if_pos rfl]
  refine ⟨_, by rw [hrun], c20_slotZip_size _ _ _ _ _, ?_⟩
  intro c t hc ht
  have hp : c * gap + t < 2 * (2^g * gap) := by rw [← Nat.mul_assoc]; exact grid_lt hc ht
  rw [c20_slotZip_get _ _ _ _ _ hp, c20_swapRows_get 0 _ a' hp, c20_sigma_col hhp c t ht, ha' c t hc ht,
    ha' _ t (Nat.mod_lt _ (Nat.mul_pos (by decide) hhp)) ht]
  have hq : c / 2^g < 2 := (Nat.div_lt_iff_lt_mul hhp).mpr hc
  have hqs : σ / 2^g < 2 := (Nat.div_lt_iff_lt_mul hhp).mpr hσ
  have hother : (c + 2^g) % (2 * 2^g) / 2^g = 1 - c / 2^g := by
    rcases Nat.lt_or_ge c (2^g) with hlt | hge
    · rw [Nat.mod_eq_of_lt (by omega), Nat.div_eq_of_lt hlt]; exact c20_div_half (by omega) (by omega)
    · have e : c + 2^g = c - 2^g + 2 * 2^g := by omega
      rw [e, Nat.add_mod_right, Nat.mod_eq_of_lt (by omega), c20_div_half hge hc]
      exact Nat.div_eq_of_lt (by omega)
  rw [hother]
  generalize c / 2^g = q at hq ⊢
  generalize σ / 2^g = qs at hqs ⊢
  by_cases h1 : q = qs
  · rw [if_pos h1, if_neg (show ¬ (1 - q = qs) by omega), add_zero]
  · rw [if_neg h1, if_pos (show 1 - q = qs by omega), zero_add]

/-! ### the accepted helpers and the encoders -/

theorem c20_boltDcNew_ok {m r n N : Nat} {h : BoltCc} (hnew : BoltCc.newDc m r n N = .ok h) (hpow : ∃ e, N = 2^e) (hN64 : N < 2^64) :
    h.N = N ∧ h.mAll = m ∧ h.r = r ∧ h.nAll = n ∧ 0 < n ∧ ∃ half g, c20_CcOK h half g :=
  c20_boltCcNew_ok hnew hpow hN64

/-- `MatmulBoltCcDcSmall::encode_inputs`: column `c` of polynomial `i` holds diagonal `i·gsc + c` of the block: entry `k` is
    `a[sy + k][sx + (i·gsc + k + c) mod m]` (for every `k < gap` with the row inside the matrix) -/
theorem c20_boltDcEncIn_spec (z : S) (h : BoltCc) {half g : Nat} (ok : c20_CcOK h half g) (a : Nat → S) (sy sx i : Nat) :
    ∃ arr, boltDcEncIn h z a sy sx i = .ok arr ∧ arr.size = h.N ∧
      ∀ c k, c < h.gsc → k < h.gap → arr.getD (c * h.gap + k) z =
        if sy + k < h.mAll ∧ sx + (i * h.gsc + k + c) % h.m < h.r then a ((sy + k) * h.r + (sx + (i * h.gsc + k + c) % h.m)) else z := by
  obtain ⟨arr, hok, hsz, hv, _⟩ := c20_scatter_cols z h.N h.gap h.gsc h.gap h.gsc
    (fun jk => sy + jk.2 < h.mAll ∧ sx + (i * h.gsc + jk.2 + jk.1) % h.m < h.r) (fun c => c)
    (fun jk => a ((sy + jk.2) * h.r + (sx + (i * h.gsc + jk.2 + jk.1) % h.m)))
    (fun _ h => h) (fun _ _ _ _ e => e) (le_refl _) (le_of_eq ok.hN.symm)
  refine ⟨arr, hok, hsz, fun c k hc hk => ?_⟩
  rw [hv c k hc hk]
  simp only [hk, true_and, decide_eq_true_eq]

/-- `MatmulBoltCcDcSmall::encode_weights`: column-major rows `sy ..` of the RHS, columns `i·gsc ..` -/
theorem c20_boltDcEncW_spec (z : S) (h : BoltCc) {half g : Nat} (ok : c20_CcOK h half g) (b : Nat → S) (sy i : Nat) :
    ∃ arr, boltDcEncW h z b sy i = .ok arr ∧ arr.size = h.N ∧
      ∀ c k, c < h.gsc → k < h.gap → arr.getD (c * h.gap + k) z =
        if k < h.m ∧ sy + k < h.r ∧ i * h.gsc + c < h.nAll then b ((sy + k) * h.nAll + (i * h.gsc + c)) else z := by
  obtain ⟨arr, hok, hsz, hv, hz⟩ := c20_scatter_cols z h.N h.gap (min h.nAll (i * h.gsc + h.gsc) - i * h.gsc) h.m h.gsc
    (fun ck => sy + ck.2 < h.r ∧ i * h.gsc + ck.1 < h.nAll) (fun c => c)
    (fun ck => b ((sy + ck.2) * h.nAll + (i * h.gsc + ck.1)))
    (fun _ h => lt_of_lt_of_le h c20_blk_le) (fun _ _ _ _ e => e) ok.hmg (le_of_eq ok.hN.symm)
  refine ⟨arr, hok, hsz, fun c k hc hk => ?_⟩
  by_cases hA : c < min h.nAll (i * h.gsc + h.gsc) - i * h.gsc
  · rw [hv c k hA hk]
    simp only [decide_eq_true_eq]
  · rw [hz c k hk fun a ha e => hA (e ▸ ha), if_neg fun hc' => hA (by omega)]

/-- the LHS polynomial `ii` of block (`i`, `j`) and the RHS polynomial `i` of row part `p` -/
def c20_dcIn (z : S) (h : BoltCc) (x : Nat → S) (i j ii : Nat) : Array S := c20_val #[] (boltDcEncIn h z x (i * h.m) (j * h.m) ii)
def c20_dcW (z : S) (h : BoltCc) (w : Nat → S) (p i : Nat) : Array S := c20_val #[] (boltDcEncW h z w (p * h.m) i)

theorem c20_boltDcEncodeInputs_ok (z : S) (h : BoltCc) {half g : Nat} (ok : c20_CcOK h half g) (x : Nat → S) :
    boltDcEncodeInputs h z x (h.mAll * h.r)
      = .ok ((pairs (ceilDiv h.mAll h.m) (ceilDiv h.r h.m)).map fun ij => (List.range (ceilDiv h.m h.gsc)).map fun ii =>
          c20_dcIn z h x ij.1 ij.2 ii) := by
  unfold boltDcEncodeInputs
  rw [if_neg (by simp)]
  apply R.mapM_ok
  intro ij _
  apply R.mapM_ok
  intro ii _
  obtain ⟨arr, hok, _⟩ := c20_boltDcEncIn_spec z h ok x (ij.1 * h.m) (ij.2 * h.m) ii
  exact c20_val_ok #[] hok

theorem c20_boltDcEncodeWeights_ok (z : S) (h : BoltCc) {half g : Nat} (ok : c20_CcOK h half g) (w : Nat → S) :
    boltDcEncodeWeights h z w (h.r * h.nAll)
      = .ok ((List.range (ceilDiv h.r h.m)).map fun p => (List.range (ceilDiv h.nAll h.gsc)).map fun i => c20_dcW z h w p i) := by
  unfold boltDcEncodeWeights
  rw [if_neg (by simp)]
  apply R.mapM_ok
  intro p _
  apply R.mapM_ok
  intro i _
  obtain ⟨arr, hok, _⟩ := c20_boltDcEncW_spec z h ok w (p * h.m) i
  exact c20_val_ok #[] hok

theorem c20_dcIn_get (z : S) (h : BoltCc) {half g : Nat} (ok : c20_CcOK h half g) (x : Nat → S) (i j ii : Nat) {c k : Nat}
    (hc : c < h.gsc) (hk : k < h.gap) :
    (c20_dcIn z h x i j ii).getD (c * h.gap + k) z =
      if i * h.m + k < h.mAll ∧ j * h.m + (ii * h.gsc + k + c) % h.m < h.r
      then x ((i * h.m + k) * h.r + (j * h.m + (ii * h.gsc + k + c) % h.m)) else z :=
  (c20_val_spec #[] (c20_boltDcEncIn_spec z h ok x (i * h.m) (j * h.m) ii)).2.2 c k hc hk

theorem c20_dcW_get (z : S) (h : BoltCc) {half g : Nat} (ok : c20_CcOK h half g) (w : Nat → S) (p i : Nat) {c k : Nat}
    (hc : c < h.gsc) (hk : k < h.gap) :
    (c20_dcW z h w p i).getD (c * h.gap + k) z =
      if k < h.m ∧ p * h.m + k < h.r ∧ i * h.gsc + c < h.nAll then w ((p * h.m + k) * h.nAll + (i * h.gsc + c)) else z :=
  (c20_val_spec #[] (c20_boltDcEncW_spec z h ok w (p * h.m) i)).2.2 c k hc hk

/-! ### `MatmulBoltCcDcSmall::multiply` -/

/-- the spread polynomial (value of `spread_inputs`) -/
def c20_dcSP [Add S] [Zero S] (h : BoltCc) (lo hi : Nat) (ai : Array S) : Array S :=
  c20_val #[] (boltSpread (· + ·) 0 h.N h.gap lo hi ai)

theorem c20_dcSP_get [AddCommMonoid S] (h : BoltCc) {half g : Nat} (ok : c20_CcOK h half g) (ai : Array S) (lo hi σ : Nat)
    (hσ : σ < h.gsc) (hlo : σ * h.gap ≤ lo) (hlh : lo < hi) (hhi : hi ≤ σ * h.gap + h.gap) :
    boltSpread (· + ·) 0 h.N h.gap lo hi ai = .ok (c20_dcSP h lo hi ai) ∧ (c20_dcSP h lo hi ai).size = h.N ∧
      ∀ c t, c < h.gsc → t < h.gap →
        (c20_dcSP h lo hi ai).getD (c * h.gap + t) 0 = if lo ≤ σ * h.gap + t ∧ σ * h.gap + t < hi then ai.getD (σ * h.gap + t) 0 else 0 := by
  obtain ⟨r, hr, hsz, hget⟩ := c20_boltSpread_spec half h.gap g ok.hhalf ok.hg ok.gap_pos ai lo hi σ (by rw [← ok.hgsc]; exact hσ)
    hlo hlh hhi
  rw [← ok.hN2] at hr hsz
  have e : c20_dcSP h lo hi ai = r := c20_val_eq #[] hr
  rw [e]
  exact ⟨hr, hsz, fun c t hc ht => hget c t (by rw [← ok.hgsc]; exact hc) ht⟩

/-- the two segments of column `σ` that `multiply` spreads for the shift `sh`: entries `[0, m - sh)`, met by the left rotation, and
    entries `[m - sh, m)`, met by the right one -/
theorem c20_dcSP_left [AddCommMonoid S] (h : BoltCc) {half g : Nat} (ok : c20_CcOK h half g) (ai : Array S) {sh σ : Nat}
    (hsh : sh < h.m) (hσ : σ < h.gsc) :
    boltSpread (· + ·) 0 h.N h.gap (σ * h.gap) (σ * h.gap + (h.m - sh)) ai
        = .ok (c20_dcSP h (σ * h.gap) (σ * h.gap + (h.m - sh)) ai) ∧
      ∀ c t, c < h.gsc → t < h.gap → (c20_dcSP h (σ * h.gap) (σ * h.gap + (h.m - sh)) ai).getD (c * h.gap + t) 0
        = if t < h.m - sh then ai.getD (σ * h.gap + t) 0 else 0 := by
  have hmg := ok.hmg
  obtain ⟨h1, _, h3⟩ := c20_dcSP_get h ok ai (σ * h.gap) (σ * h.gap + (h.m - sh)) σ hσ (le_refl _) (by omega) (by omega)
  refine ⟨h1, fun c t hc ht => ?_⟩
  rw [h3 c t hc ht]
  simp only [Nat.le_add_right, true_and, Nat.add_lt_add_iff_left]

theorem c20_dcSP_right [AddCommMonoid S] (h : BoltCc) {half g : Nat} (ok : c20_CcOK h half g) (ai : Array S) {sh σ : Nat}
    (hsh : sh < h.m) (hsh0 : sh ≠ 0) (hσ : σ < h.gsc) :
    boltSpread (· + ·) 0 h.N h.gap (σ * h.gap + (h.m - sh)) (σ * h.gap + (h.m - sh) + sh) ai
        = .ok (c20_dcSP h (σ * h.gap + (h.m - sh)) (σ * h.gap + (h.m - sh) + sh) ai) ∧
      ∀ c t, c < h.gsc → t < h.gap → (c20_dcSP h (σ * h.gap + (h.m - sh)) (σ * h.gap + (h.m - sh) + sh) ai).getD (c * h.gap + t) 0
        = if h.m - sh ≤ t ∧ t < h.m then ai.getD (σ * h.gap + t) 0 else 0 := by
  have hmg := ok.hmg
  obtain ⟨h1, _, h3⟩ := c20_dcSP_get h ok ai (σ * h.gap + (h.m - sh)) (σ * h.gap + (h.m - sh) + sh) σ hσ (by omega) (by omega)
    (by omega)
  refine ⟨h1, fun c t hc ht => ?_⟩
  rw [h3 c t hc ht]
  simp only [Nat.add_assoc, Nat.sub_add_cancel (Nat.le_of_lt hsh), Nat.add_le_add_iff_left, Nat.add_lt_add_iff_left]

/-- **`MatmulBoltCcDcSmall::multiply`** on ANY LHS polynomials `fa ii` (diagonals `ii·gsc ..` of the block) and RHS polynomials `fb o`
    (column-major): never fails; column `c`, entry `k < m` of output polynomial `o` holds
    `Σ_sh (fb o)[c][(k + sh) mod m] · (fa (sh / gsc))[sh mod gsc][k]` -/
theorem c20_dcMulSmall_spec [CommRing S] (h : BoltCc) {half g : Nat} (ok : c20_CcOK h half g) (fa fb : Nat → Array S) :
    ∃ Yq, boltDcMulSmall h (· + ·) (· * ·) 0 ((List.range (ceilDiv h.m h.gsc)).map fa) ((List.range (ceilDiv h.nAll h.gsc)).map fb)
        = .ok Yq ∧ Yq.length = ceilDiv h.nAll h.gsc ∧
      ∀ o, o < ceilDiv h.nAll h.gsc → ∃ v, Yq[o]? = some v ∧ v.size = h.N ∧ ∀ c k, c < h.gsc → k < h.m →
        v.getD (c * h.gap + k) 0
          = ∑ sh ∈ range h.m, (fb o).getD (c * h.gap + (k + sh) % h.m) 0 * (fa (sh / h.gsc)).getD (sh % h.gsc * h.gap + k) 0 := by
  have hh := ok.half_pos
  have hgs := ok.gsc_pos
  have hmg := ok.hmg
  have hm0 := ok.hm0
  have hH : h.N / 2 = half * h.gap := ok.hNdiv
  unfold boltDcMulSmall
  simp only [List.length_map, List.length_range, ne_eq, not_true_eq_false, or_self, if_false]
  refine c20_mapM_range _ _ _ fun o ho' => ?_
  rw [c20_getSlots_map _ _ _ ho']
  simp only [R.ok_bind]
  have hstep : ∀ (rot lo hi sh : Nat) (acc : Option (Array S)), sh < h.m →
      boltSpread (· + ·) 0 h.N h.gap lo hi (fa (sh / h.gsc)) = .ok (c20_dcSP h lo hi (fa (sh / h.gsc))) →
      (do
        let ai ← getSlots ((List.range (ceilDiv h.m h.gsc)).map fa) (sh / h.gsc)
        let ma ← boltSpread (· + ·) 0 h.N h.gap lo hi ai
        (pure (accAdd (· + ·) 0 h.N acc (slotZip (· * ·) 0 h.N (rotRows 0 h.N rot (fb o)) ma)) : R (Option (Array S))))
      = .ok (accAdd (· + ·) 0 h.N acc (slotZip (· * ·) 0 h.N (rotRows 0 h.N rot (fb o)) (c20_dcSP h lo hi (fa (sh / h.gsc))))) := by
    intro rot lo hi sh acc hsh hsp
    rw [c20_getSlots_map _ _ _ (c20_div_lt_ceilDiv hgs hsh)]
    simp only [R.ok_bind]
    rw [hsp]
    rfl
  rw [R.foldlM_ok (fun acc sh => accAdd (· + ·) 0 h.N acc (slotZip (· * ·) 0 h.N (rotRows 0 h.N (sh % (h.N / 2)) (fb o))
    (c20_dcSP h (sh % h.gsc * h.gap) (sh % h.gsc * h.gap + (h.m - sh)) (fa (sh / h.gsc))))) _
    (fun sh hsh st => by
      have hsh' := List.mem_range.mp hsh
      exact hstep _ _ _ sh st hsh' (c20_dcSP_left h ok _ hsh' (Nat.mod_lt _ hgs)).1)]
  simp only [R.ok_bind]
  rw [R.foldlM_ok (fun acc sh => accAdd (· + ·) 0 h.N acc (slotZip (· * ·) 0 h.N
      (rotRows 0 h.N ((h.N / 2 - (h.m - sh) % (h.N / 2)) % (h.N / 2)) (fb o))
      (c20_dcSP h (sh % h.gsc * h.gap + (h.m - sh)) (sh % h.gsc * h.gap + (h.m - sh) + sh) (fa (sh / h.gsc))))) _
    (fun sh hsh st => by
      rw [List.mem_filter, List.mem_reverse, List.mem_range, decide_eq_true_eq] at hsh
      exact hstep _ _ _ sh st hsh.1 (c20_dcSP_right h ok _ hsh.1 hsh.2 (Nat.mod_lt _ hgs)).1)]
  have hl1 : List.range h.m ≠ [] := by intro h0; have := congrArg List.length h0; simp at this; omega
  obtain ⟨v1, hv1, hs1, hval1⟩ := c20_accFold_some h.N
    (fun sh => slotZip (· * ·) 0 h.N (rotRows 0 h.N (sh % (h.N / 2)) (fb o))
      (c20_dcSP h (sh % h.gsc * h.gap) (sh % h.gsc * h.gap + (h.m - sh)) (fa (sh / h.gsc))))
    (List.range h.m) none (Or.inl hl1) (fun _ _ => c20_slotZip_size _ _ _ _ _) (c20_accSized_none _)
  obtain ⟨v, hv, hs, hval⟩ := c20_accFold_some h.N
    (fun sh => slotZip (· * ·) 0 h.N (rotRows 0 h.N ((h.N / 2 - (h.m - sh) % (h.N / 2)) % (h.N / 2)) (fb o))
      (c20_dcSP h (sh % h.gsc * h.gap + (h.m - sh)) (sh % h.gsc * h.gap + (h.m - sh) + sh) (fa (sh / h.gsc))))
    ((List.range h.m).reverse.filter fun sh => sh ≠ 0) (some v1) (Or.inr (Option.some_ne_none v1))
    (fun _ _ => c20_slotZip_size _ _ _ _ _) (fun w hw => by cases hw; exact hs1)
  rw [hv1, hv]
  refine ⟨v, rfl, hs, ?_⟩
  intro c k hc hk
  have hkg : k < h.gap := by omega
  have hp : c * h.gap + k < h.N := by rw [ok.hN]; exact grid_lt hc hkg
  have hp2 : c * h.gap + k < 2 * (half * h.gap) := by rw [← ok.hN2]; exact hp
  rw [hval _ hp]
  show v1.getD _ 0 + _ = _
  rw [hval1 _ hp, c20_list_sum_filter (fun sh => sh ≠ 0),
    List.map_reverse, List.sum_reverse, list_sum_range, list_sum_range]
  show 0 + _ + _ = _
  rw [zero_add, ← Finset.sum_add_distrib]
  apply Finset.sum_congr rfl
  intro sh hsh
  have hsh' := Finset.mem_range.mp hsh
  have hσ := Nat.mod_lt sh hgs
  rw [c20_slotZip_get _ _ _ _ _ hp, c20_slotZip_get _ _ _ _ _ hp, (c20_dcSP_left h ok (fa (sh / h.gsc)) hsh' hσ).2 c k hc hkg]
  have hcyc := c20_rho_cyc (c := c) hh hmg hsh' hk
  rw [← hH] at hcyc
  rcases Nat.lt_or_ge k (h.m - sh) with hlo | hhi
  · -- reached by the left shift
    have h2z : (if sh ≠ 0 then (rotRows 0 h.N ((h.N / 2 - (h.m - sh) % (h.N / 2)) % (h.N / 2)) (fb o)).getD (c * h.gap + k) 0 *
        (c20_dcSP h (sh % h.gsc * h.gap + (h.m - sh)) (sh % h.gsc * h.gap + (h.m - sh) + sh) (fa (sh / h.gsc))).getD (c * h.gap + k) 0
        else (0 : S)) = 0 := by
      by_cases hne0 : sh ≠ 0
      · rw [if_pos hne0, (c20_dcSP_right h ok (fa (sh / h.gsc)) hsh' hne0 hσ).2 c k hc hkg,
          if_neg (fun hc' => Nat.not_le_of_lt hlo hc'.1), mul_zero]
      · rw [if_neg hne0]
    rw [if_pos hlo] at hcyc
    rw [h2z, add_zero, if_pos hlo, ← hcyc, hH, ok.hN2, c20_rotRows_get 0 _ _ _ hp2]
  · -- reached by the right shift
    have hsh0 : sh ≠ 0 := fun h0 => by rw [h0] at hhi; exact absurd hk (Nat.not_lt.mpr hhi)
    rw [if_neg (Nat.not_lt_of_le hhi)] at hcyc
    rw [if_neg (Nat.not_lt_of_le hhi), mul_zero, zero_add, if_pos hsh0,
      (c20_dcSP_right h ok (fa (sh / h.gsc)) hsh' hsh0 hσ).2 c k hc hkg, if_pos ⟨hhi, hk⟩, ← hcyc, hH, ok.hN2,
      c20_rotRows_get 0 _ _ _ hp2]

/-! ### accumulation of the block products, end to end -/

/-- `Cipher1d::add_inplace` folded over the block products: polynomial `o` of the result is the slot-wise sum -/
theorem c20_zipFold_get [AddCommMonoid S] (N L : Nat) :
    ∀ (rest : List (List (Array S))) (acc : List (Array S)), acc.length = L → (∀ p ∈ rest, p.length = L) → ∀ o, o < L →
      ∃ v, (rest.foldl (fun acc p => (acc.zip p).map fun ap => slotZip (· + ·) 0 N ap.1 ap.2) acc)[o]? = some v ∧
        ((acc.getD o #[]).size = N → v.size = N) ∧
        (∀ q, q < N → v.getD q 0 = (acc.getD o #[]).getD q 0 + (rest.map fun p => (p.getD o #[]).getD q 0).sum)
  | [], acc, hacc, _, o, ho => by
    refine ⟨acc[o]'(by omega), by simp, ?_, ?_⟩
    · intro hs; simpa [List.getD, List.getElem?_eq_getElem (by omega : o < acc.length)] using hs
    · intro q _; simp [List.getD, List.getElem?_eq_getElem (by omega : o < acc.length)]
  | p :: rest, acc, hacc, hrest, o, ho => by
    have hp : p.length = L := hrest p (by simp)
    have hlen : ((acc.zip p).map fun ap => slotZip (· + ·) 0 N ap.1 ap.2).length = L := by simp [hacc, hp]
    obtain ⟨v, hv, hsz, hval⟩ := c20_zipFold_get N L rest _ hlen (fun p' hp' => hrest p' (by simp [hp'])) o ho
    have hget : (((acc.zip p).map fun ap => slotZip (· + ·) 0 N ap.1 ap.2).getD o #[])
        = slotZip (· + ·) 0 N (acc.getD o #[]) (p.getD o #[]) := by
      simp [List.getD, List.getElem?_map, List.getElem?_eq_getElem (by omega : o < acc.length),
        List.getElem?_eq_getElem (by omega : o < p.length), List.getElem?_eq_getElem (by simp [hacc, hp]; omega : o < (acc.zip p).length)]
    refine ⟨v, by rw [List.foldl_cons]; exact hv, fun _ => hsz (by rw [hget]; exact c20_slotZip_size _ _ _ _ _), ?_⟩
    intro q hq
    rw [hval q hq, hget, c20_slotZip_get _ _ _ _ _ hq, List.map_cons, List.sum_cons, add_assoc]

/-- ... and has as many polynomials as each block product -/
theorem c20_zipFold_length (L : Nat) (f : Array S → Array S → Array S) :
    ∀ (rest : List (List (Array S))) (acc : List (Array S)), acc.length = L → (∀ p ∈ rest, p.length = L) →
      (rest.foldl (fun acc p => (acc.zip p).map fun (ap : Array S × Array S) => f ap.1 ap.2) acc).length = L
  | [], _, hacc, _ => hacc
  | p :: rest, acc, hacc, hrest => by
    rw [List.foldl_cons]
    exact c20_zipFold_length L f rest _ (by simp [hacc, hrest p (by simp)]) (fun p' hp' => hrest p' (by simp [hp']))

/-- **`MatmulBoltCcDc`, whole pipeline** (any commutative ring, every helper satisfying `c20_CcOK`, `r > 0`): encode the LHS blocks by
    diagonals and the RHS row parts column-major, run `multiply` of the small helper for every block pair (rotate the RHS by the shift,
    `spread_inputs` of the masked diagonal segment, multiply, accumulate; then the right shifts), add the block products, decode
    column-major: the result is `x · w`, row major `m × n` -/
theorem c20_boltDc_whole [CommRing S] (h : BoltCc) {half g : Nat} (ok : c20_CcOK h half g) (hr : 0 < h.r) (x w : Nat → S) :
    ∃ X W Y out, boltDcEncodeInputs h 0 x (h.mAll * h.r) = .ok X ∧ boltDcEncodeWeights h 0 w (h.r * h.nAll) = .ok W ∧
      boltDcMultiply h (· + ·) (· * ·) 0 X W = .ok Y ∧ boltDcDecodeOutputs h 0 Y = .ok out ∧ out.size = h.mAll * h.nAll ∧
      ∀ i j, i < h.mAll → j < h.nAll → out.getD (i * h.nAll + j) 0 = ∑ k ∈ range h.r, x (i * h.r + k) * w (k * h.nAll + j) := by
  have hgs := ok.gsc_pos
  have hm0 := ok.hm0
  have hmg := ok.hmg
  have hR : 0 < ceilDiv h.r h.m := c20_ceilDiv_pos hr hm0
  let Xr : Nat × Nat → List (Array S) := fun ij => (List.range (ceilDiv h.m h.gsc)).map fun ii => c20_dcIn 0 h x ij.1 ij.2 ii
  let Wr : Nat → List (Array S) := fun p => (List.range (ceilDiv h.nAll h.gsc)).map fun i => c20_dcW 0 h w p i
  let YQ : Nat → Nat → List (Array S) := fun i j => c20_val [] (boltDcMulSmall h (· + ·) (· * ·) 0 (Xr (i, j)) (Wr j))
  have hYQ : ∀ i j, boltDcMulSmall h (· + ·) (· * ·) 0 (Xr (i, j)) (Wr j) = .ok (YQ i j) ∧ (YQ i j).length = ceilDiv h.nAll h.gsc ∧
      ∀ o, o < ceilDiv h.nAll h.gsc → ∃ v, (YQ i j)[o]? = some v ∧ v.size = h.N ∧ ∀ c k, c < h.gsc → k < h.m →
        v.getD (c * h.gap + k) 0 = ∑ sh ∈ range h.m, (c20_dcW 0 h w j o).getD (c * h.gap + (k + sh) % h.m) 0
          * (c20_dcIn 0 h x i j (sh / h.gsc)).getD (sh % h.gsc * h.gap + k) 0 := fun i j =>
    c20_val_spec [] (c20_dcMulSmall_spec h ok (fun ii => c20_dcIn 0 h x i j ii) (fun o => c20_dcW 0 h w j o))
  -- the multiplication: every output part is the sum of the block products
  have hmulE : ∃ Y, boltDcMultiply h (· + ·) (· * ·) 0 ((pairs (ceilDiv h.mAll h.m) (ceilDiv h.r h.m)).map Xr)
        ((List.range (ceilDiv h.r h.m)).map Wr) = .ok Y ∧ Y.length = ceilDiv h.mAll h.m ∧
      ∀ i, i < ceilDiv h.mAll h.m → ∃ part, Y[i]? = some part ∧ part.length = ceilDiv h.nAll h.gsc ∧
        ∀ o, o < ceilDiv h.nAll h.gsc → ∃ v, part[o]? = some v ∧ v.size = h.N ∧ ∀ q, q < h.N →
          v.getD q 0 = ∑ j ∈ range (ceilDiv h.r h.m), ((YQ i j).getD o #[]).getD q 0 := by
    unfold boltDcMultiply
    have hlenA : ((pairs (ceilDiv h.mAll h.m) (ceilDiv h.r h.m)).map Xr).length = ceilDiv h.mAll h.m * ceilDiv h.r h.m := by
      rw [List.length_map, c20_pairs_eq, List.length_map, List.length_range]
    simp only [hlenA, List.length_map, List.length_range, ne_eq, not_true_eq_false, or_self, if_false]
    refine c20_mapM_range _ _ _ fun i hi' => ?_
    have hparts : (List.range (ceilDiv h.r h.m)).mapM (fun j => do
          let a ← getRow ((pairs (ceilDiv h.mAll h.m) (ceilDiv h.r h.m)).map Xr) (i * ceilDiv h.r h.m + j)
          let b ← getRow ((List.range (ceilDiv h.r h.m)).map Wr) j
          boltDcMulSmall h (· + ·) (· * ·) 0 a b) = .ok ((List.range (ceilDiv h.r h.m)).map fun j => YQ i j) := by
      apply R.mapM_ok
      intro j hj
      have hj' := List.mem_range.mp hj
      have h1 : getRow ((pairs (ceilDiv h.mAll h.m) (ceilDiv h.r h.m)).map Xr) (i * ceilDiv h.r h.m + j) = .ok (Xr (i, j)) :=
        c20_getRow_of (c20_pairs_map_getElem? _ _ _ _ _ hi' hj')
      rw [h1, c20_getRow_map _ _ _ hj']
      simp only [R.ok_bind]
      exact (hYQ i j).1
    rw [hparts]
    simp only [R.ok_bind]
    obtain ⟨R', hR'⟩ : ∃ R', ceilDiv h.r h.m = R' + 1 := ⟨ceilDiv h.r h.m - 1, by omega⟩
    rw [hR', List.range_succ_eq_map, List.map_cons, List.map_map]
    have hrestlen : ∀ p ∈ (List.range R').map ((fun j => YQ i j) ∘ Nat.succ), p.length = ceilDiv h.nAll h.gsc := by
      intro p hp
      obtain ⟨j, _, rfl⟩ := List.mem_map.mp hp
      exact (hYQ i _).2.1
    refine ⟨_, rfl, c20_zipFold_length _ _ _ _ (hYQ i 0).2.1 hrestlen, ?_⟩
    intro o ho
    obtain ⟨v, hv, hsz, hval⟩ := c20_zipFold_get h.N (ceilDiv h.nAll h.gsc) _ (YQ i 0) (hYQ i 0).2.1 hrestlen o ho
    obtain ⟨v0, hv0, hv0s, _⟩ := (hYQ i 0).2.2 o ho
    have hg0 : (YQ i 0).getD o #[] = v0 := by simp [List.getD, hv0]
    refine ⟨v, hv, hsz (by rw [hg0]; exact hv0s), ?_⟩
    intro q hq
    rw [hval q hq, List.map_map, list_sum_range, Finset.sum_range_succ', add_comm]
    rfl
  obtain ⟨Y, hmul, hYlen, hYall⟩ := hmulE
  have hany : (Y.any fun p => p.length ≠ ceilDiv h.nAll h.gsc) = false :=
    c20_any_length_ne fun p hp => (hYall p (hYlen ▸ hp)).imp fun _ hp => ⟨hp.1, hp.2.1⟩
  obtain ⟨out, hout, hosz, hoval⟩ := c20_boltColMajorDecode_spec (0 : S) h.gap h.gsc h.m h.mAll h.nAll Y
    (fun row col => ∑ k ∈ range h.r, x (row * h.r + k) * w (k * h.nAll + col)) hm0 hYlen
    (by
      intro p hp
      obtain ⟨part, hpart, _, hpv⟩ := hYall p hp
      refine ⟨part, c20_getRow_of hpart, ?_⟩
      intro k col hk hcol
      have hco : col / h.gsc < ceilDiv h.nAll h.gsc := c20_div_lt_ceilDiv hgs hcol
      have hcc : col % h.gsc < h.gsc := Nat.mod_lt _ hgs
      have hkm : k < h.m := by omega
      have hkg : k < h.gap := by omega
      obtain ⟨v, hv, hvs, hvv⟩ := hpv (col / h.gsc) hco
      refine ⟨v, c20_getSlots_of hv, ?_⟩
      have hlt : col % h.gsc * h.gap + k < h.N := by rw [ok.hN]; exact grid_lt hcc hkg
      rw [c20_readAt_getD 0 v (by rw [hvs]; exact hlt), hvv _ hlt]
      refine congrArg Except.ok ?_
      have ecol : col / h.gsc * h.gsc + col % h.gsc = col := Nat.div_add_mod' col h.gsc
      let G : Nat → S := fun q => if q < h.r then w (q * h.nAll + col) * x ((p * h.m + k) * h.r + q) else 0
      have hblock : ∀ j, ((YQ p j).getD (col / h.gsc) #[]).getD (col % h.gsc * h.gap + k) 0 = ∑ t ∈ range h.m, G (j * h.m + t) := by
        intro j
        obtain ⟨vj, hvj, _, hvjv⟩ := (hYQ p j).2.2 (col / h.gsc) hco
        have hgj : (YQ p j).getD (col / h.gsc) #[] = vj := by simp [List.getD, hvj]
        rw [hgj, hvjv _ _ hcc hkm, ← c20_sum_rot (fun t => G (j * h.m + t)) h.m k]
        apply Finset.sum_congr rfl
        intro sh hsh
        have hsh' := Finset.mem_range.mp hsh
        have htm : (k + sh) % h.m < h.m := Nat.mod_lt _ hm0
        have esh : sh / h.gsc * h.gsc + k + sh % h.gsc = k + sh := by have := Nat.div_add_mod' sh h.gsc; omega
        rw [c20_dcW_get 0 h ok w j (col / h.gsc) hcc (by omega : (k + sh) % h.m < h.gap),
          c20_dcIn_get 0 h ok x p j (sh / h.gsc) (Nat.mod_lt _ hgs) hkg, esh, ecol, Nat.add_comm sh k]
        show _ = if _ < h.r then _ else 0
        by_cases hq : j * h.m + (k + sh) % h.m < h.r
        · rw [if_pos ⟨htm, hq, hcol⟩, if_pos ⟨by omega, hq⟩, if_pos hq]
        · rw [if_neg (fun hc' => hq hc'.2.1), if_neg hq, zero_mul]
      rw [Finset.sum_congr rfl (fun j _ => hblock j)]
      exact (c20_sum_pad (fun q => w (q * h.nAll + col) * x ((p * h.m + k) * h.r + q)) h.r h.m hm0).trans
        (Finset.sum_congr rfl fun q _ => mul_comm _ _))
  refine ⟨_, _, Y, out, c20_boltDcEncodeInputs_ok 0 h ok x, c20_boltDcEncodeWeights_ok 0 h ok w, hmul, ?_, hosz, hoval⟩
  unfold boltDcDecodeOutputs
  rw [if_neg (by rw [hany]; simp [hYlen])]
  exact hout

/-- **... for every helper `MatmulBoltCcDc::new` accepts, with `r > 0`** (`N` a power of two in the `usize` range).  For `r = 0` the
    constructor still accepts (`BoltCc.newDc 1 0 1 2` is `ok`), but `multiply` fails on the empty list of block products
    (`item.unwrap()` on `None` in the code): the hypothesis `0 < r` cannot be dropped -/
theorem c20_boltDc_new [CommRing S] {m r n N : Nat} {h : BoltCc} (hnew : BoltCc.newDc m r n N = .ok h) (hpow : ∃ e, N = 2^e)
    (hN64 : N < 2^64) (hr0 : 0 < r) (x w : Nat → S) :
    ∃ X W Y out, boltDcEncodeInputs h 0 x (m * r) = .ok X ∧ boltDcEncodeWeights h 0 w (r * n) = .ok W ∧
      boltDcMultiply h (· + ·) (· * ·) 0 X W = .ok Y ∧ boltDcDecodeOutputs h 0 Y = .ok out ∧ out.size = m * n ∧
      ∀ i j, i < m → j < n → out.getD (i * n + j) 0 = ∑ k ∈ range r, x (i * r + k) * w (k * n + j) := by
  obtain ⟨_, hm, hr, hn, _, half, g, ok⟩ := c20_boltDcNew_ok hnew hpow hN64
  have := c20_boltDc_whole h ok (by rw [hr]; exact hr0) x w
  rw [hm, hr, hn] at this
  exact this

end HC
