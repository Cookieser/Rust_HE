/- C01 part I: the PLAINTEXT layers on top of a fresh encryption of zero (`FreshZero`, any dispatch branch).  For each scheme two lemmas — the
   layer adds the encoding of the plaintext to the exact phase; a canonical (c0, c1) whose phase is encoding + noise within the margin decrypts to
   the plaintext — and their composition `…_encrypt_decrypt_of_fresh`:
   •   BFV: `multiplyAddPlain_spec` (Δ(m) is added in every component), `c01e_decrypt_of_phase` (margin `FreshEncOK l B`);
   •   BGV: the plaintext lift `bgvLiftPlain` (fast per-component increments and the multi-word path) ≡ the centred lift of m modulo every q_i,
       `c01i_bgv_decrypt_of_phase` (margin `FreshEncOKBgv l B`, noise t·ν, correction factor 1);
   •   CKKS: `c01i_ckks_add_of_fresh`, `c01i_ckks_decrypt_of_phase`: decrypted RNS plaintext = plaintext + ONE integer noise vector ν in every component;
       over the integers (`ckks_encrypt_decrypt_int_of_fresh`, plaintext `ckksPlainOfInt` of an integer polynomial).
   The zero plaintext: `bfv_decrypt_fresh_zero`, `bgv_decrypt_fresh_zero` (a fresh encryption of zero decrypts to zero).
   Where a result about encryption is stated: on ANY fresh encryption of zero here (`…_of_fresh`: hypothesis `FreshZero`, no mode, no driver); per
   dispatch branch with the standard bounds in C01L (`PrevLevelOK`, `…_pk`, `…_sk`, `…_pk_sp`); on the driver's own objects in C01V (`DrvCtx`,
   `DrvMode`, margins on the inputs).  A new plaintext layer or scheme goes here; C01L and C01V instantiate it.
   Helper names carry the prefix `c01i_` (the BFV decoding lemmas `c01e_`). -/
import Heathcliff.Proofs.C01H
import Heathcliff.Proofs.ScalingCells
namespace HC
open Finset Polynomial

theorem c01i_t2 {l : Level} (hd : DecOK l) : 2 ≤ l.t.value := by
  have := hd.tool.twf.two_le
  rw [hd.t_eq] at this
  exact this

theorem c01i_t61 {l : Level} (hd : DecOK l) : l.t.value < 2^61 := by
  have := hd.tool.twf.lt
  rw [hd.t_eq] at this
  exact this

/-- the plaintext padded with zeros to the degree (what decryption reconstructs before trimming) -/
def padPlain (n : Nat) (p : Poly) : Poly := Array.ofFn (n := n) fun c => p.getD c.val 0

theorem c01e_plain_lt {plain : Poly} {t : Nat} (ht : 0 < t) (hm : ∀ i, i < plain.size → plain.getD i 0 < t) (c : Nat) :
    plain.getD c 0 < t := by
  by_cases hc : c < plain.size
  · exact hm c hc
  · rw [array_getD_of_ge plain 0 (Nat.le_of_not_lt hc)]; exact ht

theorem c01e_trim_pad {n : Nat} {d : Array Nat} {plain : Poly} (hs : d.size = n) (hv : ∀ c, c < n → d.getD c 0 = plain.getD c 0) :
    Spec.trim d = trimPlain (padPlain n plain) := by
  unfold Spec.trim
  congr 1
  apply array_ext_getD hs (by simp [padPlain])
  intro c hc
  rw [hv c hc]
  simp [padPlain, Array.getD, hc]

/-- a phase coefficient congruent to a small value IS that value: the exact phase is the centred representative -/
theorem c01i_phase_eq_of_small {qs : List Nat} {n : Nat} {sk : Array Int} {polys : List RnsPoly} {c : Nat} (hc : c < n) {x : Int}
    (hs : 2 * x.natAbs < Spec.prodL qs) (h : (Spec.phase qs n sk polys).getD c 0 ≡ x [ZMOD (Spec.prodL qs : Int)]) :
    (Spec.phase qs n sk polys).getD c 0 = x :=
  c03k_eq_of_small h (c01p_phase_centred qs n sk polys (by omega) hc) hs

theorem c01i_add_plain {l : Level} (hl : l.WF) (hq : c07s_LevelQ l) {sk : Array Int} {c0 c1 P : RnsPoly} (hC0 : RnsCanon l c0)
    (hP : RnsCanon l P) {M : Nat → Int}
    (hM : ∀ i, i < l.size → ∀ c, c < l.n → (((intt (l.tbl i) (P.getD i #[])).getD c 0 : Nat) : Int) ≡ M c [ZMOD ((l.q i).value : Int)]) :
    ∃ c0', rnsAdd l c0 P = .ok c0' ∧ RnsCanon l c0' ∧ ∀ c, c < l.n →
      (Spec.phase (c01p_qvals l) l.n sk [rnsIntt l c0', rnsIntt l c1]).getD c 0 ≡
        (Spec.phase (c01p_qvals l) l.n sk [rnsIntt l c0, rnsIntt l c1]).getD c 0 + M c [ZMOD (Spec.prodL (c01p_qvals l) : Int)] := by
  obtain ⟨c0', hadd, hC0', hav⟩ := c01e_view_add hl true hC0 hP
  refine ⟨c0', hadd, hC0', c01g_phase_add_c0 hq (c01p_rnsIntt_size l _) (c01p_rnsIntt_size l _) (c01p_rnsIntt_size l _)
    (fun i hi c hc => ?_)⟩
  have h : ((rnsIntt l c0').getD i #[]).getD c 0 =
      (((rnsIntt l c0).getD i #[]).getD c 0 + ((rnsIntt l P).getD i #[]).getD c 0) % (l.q i).value := hav i hi c hc
  rw [h, c01o_rnsIntt_getD l P hi]
  refine (cast_mod_modEq _ _).trans ?_
  rw [Nat.cast_add]
  exact Int.ModEq.add (Int.ModEq.refl _) (hM i hi c hc)

/-- one coefficient: a phase value x ≡ Δ(m) + v (mod Q) with 2t(|v|+1) < Q decodes to m, and its BFV noise
    t·x − Q·round(t·x/Q) is (t·Δ(m) − Q·m) + t·v, of magnitude ≤ t(|v|+1) -/
theorem c01e_bfv_decode {Q t m : Nat} {x v : Int} (ht : 2 ≤ t) (hm : m < t) (hv : 2 * t * (v.natAbs + 1) < Q)
    (hx : x ≡ (deltaM Q t m : Int) + v [ZMOD (Q : Int)]) :
    Spec.imod (Spec.roundDiv (t * x) Q) t = m ∧ (c04r_bfvNoise t Q x).natAbs ≤ t * (v.natAbs + 1) := by
  obtain ⟨κ, r, hr, hrb, hw⟩ := c01j_bfv_decode (m := m) ht hv hx
  refine ⟨by rw [hw]; exact c01j_imod_sub_mul m κ hm, ?_⟩
  unfold c04r_bfvNoise
  rw [hw, hr, add_sub_cancel_left]
  exact hrb

theorem c01e_deltaM_zero (Q : Nat) {t : Nat} (ht : 2 ≤ t) : deltaM Q t 0 = 0 := by
  unfold deltaM
  simp only [Nat.mul_zero, Nat.zero_add]
  exact Nat.div_eq_of_lt (by omega)

/-- `multiplyAddPlain` on a whole canonical polynomial: coefficient i of component j becomes (d + Δ(m_i)) mod q_j
    (m_i = 0 beyond the plaintext's length) -/
theorem multiplyAddPlain_spec {l : Level} {Q : Nat} {cdp : Array MulOperand} (h : ScalingOK l Q cdp) {plain : Poly} {dest : RnsPoly}
    (hp : plain.size ≤ l.n) (hm : ∀ i, i < plain.size → plain.getD i 0 < l.t.value) (hd : RnsCanon l dest) :
    ∃ r, multiplyAddPlain l cdp (Q % l.t.value) ((l.t.value + 1) / 2) plain dest = .ok r ∧ RnsCanon l r ∧
      ∀ j, j < l.size → ∀ i, i < l.n →
        (r.getD j #[]).getD i 0 = ((dest.getD j #[]).getD i 0 + deltaM Q l.t.value (plain.getD i 0)) % (l.q j).value := by
  have ht2 := h.t2
  have ht61 := h.t61
  have hcell : ∀ j, j < l.size → ∀ i, i < plain.size →
      gz_cell addMod l.t.value (Q % l.t.value) ((l.t.value + 1) / 2) (l.q j) (cdp.getD j default) (plain.getD i 0)
        ((dest.getD j #[]).getD i 0) =
      .ok (((dest.getD j #[]).getD i 0 + deltaM Q l.t.value (plain.getD i 0)) % (l.q j).value) := by
    intro j hj i hi
    have hmi := hm i hi
    have hq0 : 0 < (l.q j).value := by have := (h.qwf j hj).two_le; omega
    rw [gz_cell_eq addMod (by omega) (by omega) (by have := Nat.mod_lt Q (show 0 < l.t.value by omega); omega)]
    unfold gz_cell2
    rw [gz_sc_exact (h.qwf j hj) ht2 ht61 hmi (h.op j hj).1 (h.op j hj).2, R.ok_bind,
      addMod_exact (h.qwf j hj) ((hd.2 j hj).2 i (by omega)) (Nat.mod_lt _ hq0), Nat.add_mod_mod]
  have hok := gz_model_ok addMod l cdp (Q % l.t.value) ((l.t.value + 1) / 2) plain dest
    (fun i j => ((dest.getD j #[]).getD i 0 + deltaM Q l.t.value (plain.getD i 0)) % (l.q j).value) hp hcell
  rw [← gz_model_add] at hok
  refine ⟨_, hok, ?_, ?_⟩
  · refine ⟨by simp only [List.size_toArray, List.length_map, List.length_range], fun j hj => ?_⟩
    rw [array_getD_range_map _ _ hj]
    have hq0 : 0 < (l.q j).value := by have := (h.qwf j hj).two_le; omega
    refine ⟨by simp only [List.size_toArray, List.length_map, List.length_range], fun i hi => ?_⟩
    rw [array_getD_range_map _ 0 hi]
    split
    · exact Nat.mod_lt _ hq0
    · exact (hd.2 j hj).2 i hi
  · intro j hj i hi
    rw [array_getD_range_map _ _ hj, array_getD_range_map _ 0 hi]
    split
    · rfl
    · rename_i hi'
      rw [c01e_deltaM_zero Q ht2, Nat.add_zero, Nat.mod_eq_of_lt ((hd.2 j hj).2 i hi)]

/-- the margin the end-to-end theorems need at a BFV level with fresh-noise bound B: the BEHZ γ-condition for noise t·(B+1),
    2γ·t·(B+1) + 2·|q|·Q ≤ Q·γ  (it implies `FreshOK`-style 2t(B+1) < Q) -/
def FreshEncOK (l : Level) (B : Nat) : Prop :=
  2 * l.tool.gamma.value * (l.t.value * (B + 1)) + 2 * l.size * Spec.prodL (c01p_qvals l)
    ≤ Spec.prodL (c01p_qvals l) * l.tool.gamma.value

instance (l : Level) (B : Nat) : Decidable (FreshEncOK l B) := by unfold FreshEncOK; exact inferInstance

theorem c01e_decrypt_of_phase {l : Level} (hl : l.WF) (hd : DecOK l) {sk : Array Int} (hsk : sk.size = l.n) {c0 c1 : RnsPoly}
    (h0 : RnsCanon l c0) (h1 : RnsCanon l c1) {plain : Poly} (hm : ∀ i, i < plain.size → plain.getD i 0 < l.t.value)
    {v : Nat → Int} {B : Nat} (hv : ∀ c, c < l.n → (v c).natAbs ≤ B) (hok : FreshEncOK l B)
    (hph : ∀ c, c < l.n → (Spec.phase (c01p_qvals l) l.n sk [c0, c1]).getD c 0 ≡
      (deltaM (Spec.prodL (c01p_qvals l)) l.t.value (plain.getD c 0) : Int) + v c [ZMOD (Spec.prodL (c01p_qvals l) : Int)]) :
    bfvDecrypt l sk ⟨#[c0, c1], false, 1⟩ = .ok (trimPlain (padPlain l.n plain)) := by
  have hq := c01q_levelQ_of_decOK hd
  have ht2 := c01i_t2 hd
  have hQ : 0 < Spec.prodL (c01p_qvals l) := by rw [c01p_prodL_qvals hd]; exact hq.bwf.prod_pos
  have hk0 : 0 < l.size := by rw [← hq.size_eq]; exact hq.bwf.pos
  have hlt := c04r_lt_of_margin hk0 hQ hok
  have hdec : ∀ c, c < l.n →
      Spec.imod (Spec.roundDiv (l.t.value * (Spec.phase (c01p_qvals l) l.n sk [c0, c1]).getD c 0) (Spec.prodL (c01p_qvals l))) l.t.value
        = plain.getD c 0 ∧
      (c04r_bfvNoise l.t.value (Spec.prodL (c01p_qvals l)) ((Spec.phase (c01p_qvals l) l.n sk [c0, c1]).getD c 0)).natAbs
        ≤ l.t.value * (B + 1) := by
    intro c hc
    have hvc := hv c hc
    have hvm : 2 * l.t.value * ((v c).natAbs + 1) < Spec.prodL (c01p_qvals l) := by
      have : l.t.value * ((v c).natAbs + 1) ≤ l.t.value * (B + 1) := Nat.mul_le_mul_left _ (by omega)
      have e : 2 * l.t.value * ((v c).natAbs + 1) = 2 * (l.t.value * ((v c).natAbs + 1)) := by ring
      omega
    obtain ⟨d1, d2⟩ := c01e_bfv_decode ht2 (c01e_plain_lt (by omega) hm c) hvm (hph c hc)
    exact ⟨d1, le_trans d2 (Nat.mul_le_mul_left _ (by omega))⟩
  have hbehz : BehzDecryptOK l (Spec.phase (c01p_qvals l) l.n sk [c0, c1]) :=
    c04r_behz_of_bound (fun j hj => (hdec j hj).2) hok
  rw [bfvDecrypt_size2_eq_spec hl hd hsk h0 h1 hbehz]
  exact congrArg _ (c01e_trim_pad (by rw [c01p_bfvDecode_size, c01p_phase_size]) fun c hc => by
    rw [c01p_bfvDecode_getD _ _ _ (by rw [c01p_phase_size]; exact hc), (hdec c hc).1])

/-- BFV, any encryption mode / dispatch branch: if the encryption of zero is fresh with ‖ν‖∞ ≤ B and the margin `FreshEncOK l B` holds,
    encryption of a plaintext succeeds (`multiply_add_plain` adds Δ(m) to the phase) and the model's decryption returns the plaintext -/
theorem bfv_encrypt_decrypt_of_fresh {l : Level} (hl : l.WF) (hd : DecOK l) (hb : l.scheme = .bfv) {cdp : Array MulOperand}
    (hsc : ScalingOK l (Spec.prodL (c01p_qvals l)) cdp) {sk : Array Int} (hsk : sk.size = l.n) {mode : EncMode} {ν : Nat → Int}
    (hf : FreshZero l sk (encryptZeroInternal l mode) ν) {B : Nat} (hν : ∀ c, c < l.n → (ν c).natAbs ≤ B)
    {plain : Poly} (hp : plain.size ≤ l.n) (hm : ∀ i, i < plain.size → plain.getD i 0 < l.t.value) (hok : FreshEncOK l B) :
    ∃ ct, bfvEncrypt l cdp (Spec.prodL (c01p_qvals l) % l.t.value) ((l.t.value + 1) / 2) mode plain = .ok ct ∧
      bfvDecrypt l sk ct = .ok (trimPlain (padPlain l.n plain)) := by
  obtain ⟨c0, c1, hz, hC0, hC1, hph⟩ := hf.bfv hb
  obtain ⟨c0', hmul, hC0', hmv⟩ := multiplyAddPlain_spec hsc hp hm hC0
  refine ⟨⟨#[c0', c1], false, 1⟩, ?_, ?_⟩
  · unfold bfvEncrypt
    rw [hz, R.ok_bind]
    show (do let c0 ← multiplyAddPlain l cdp (Spec.prodL (c01p_qvals l) % l.t.value) ((l.t.value + 1) / 2) plain c0
             pure (⟨(#[c0, c1] : Array RnsPoly).setIfInBounds 0 c0, false, 1⟩ : Ct)) = _
    rw [hmul]; rfl
  · apply c01e_decrypt_of_phase hl hd hsk hC0' hC1 hm hν hok
    intro c hc
    rw [add_comm]
    exact (c01g_phase_add_c0 (c01q_levelQ_of_decOK hd) hC0.1 hC0'.1 hC1.1
      (M := fun c => (deltaM (Spec.prodL (c01p_qvals l)) l.t.value (plain.getD c 0) : Int))
      (fun i hi c hc => by rw [hmv i hi c hc, ← Nat.cast_add]; exact cast_mod_modEq _ _) c hc).trans
      (Int.ModEq.add (hph c hc) (Int.ModEq.refl _))

/-- BFV: on ANY fresh encryption of zero within the margin the model's decryption returns the zero plaintext -/
theorem bfv_decrypt_fresh_zero {l : Level} (hl : l.WF) (hd : DecOK l) (hb : l.scheme = .bfv) {sk : Array Int} (hsk : sk.size = l.n)
    {r : R Ct} {ν : Nat → Int} (hf : FreshZero l sk r ν) {B : Nat} (hν : ∀ c, c < l.n → (ν c).natAbs ≤ B) (hok : FreshEncOK l B) :
    ∃ z, r = .ok z ∧ bfvDecrypt l sk z = .ok (trimPlain (padPlain l.n #[])) := by
  have ht2 := c01i_t2 hd
  obtain ⟨c0, c1, hz, hC0, hC1, hph⟩ := hf.bfv hb
  refine ⟨_, hz, c01e_decrypt_of_phase hl hd hsk hC0 hC1 (plain := #[]) (fun i hi => absurd hi (by simp)) hν hok (fun c hc => ?_)⟩
  rw [show (#[] : Poly).getD c 0 = 0 by simp, c01e_deltaM_zero _ ht2, Nat.cast_zero, zero_add]
  exact hph c hc

theorem c01v_sig_replicate (k : Nat) : sigWords (List.replicate k 0) = 0 := by
  unfold sigWords
  rw [List.reverse_replicate]
  induction k with
  | zero => rfl
  | succ k ih => rw [List.replicate_succ, List.dropWhile_cons_of_pos (by simp)]; exact ih

/-- the zero plaintext as the decryptor returns it: one zero coefficient -/
theorem trimPlain_padPlain_empty {n : Nat} (hn : 0 < n) : trimPlain (padPlain n #[]) = #[0] := by
  have hz : padPlain n #[] = Array.replicate n 0 := by
    apply array_ext_getD (n := n) (by simp [padPlain]) (by simp)
    intro c hc
    simp [padPlain, Array.getD, hc]
  rw [hz]
  unfold trimPlain
  simp only [Array.toList_replicate, c01v_sig_replicate, Nat.max_eq_right (Nat.zero_le 1)]
  apply array_ext_getD (n := 1) (by simp; omega) (by simp)
  intro c hc
  have : c = 0 := by omega
  subst this
  simp [Array.getD, hn]


/-- what `encrypt_internal` is handed for the BGV plaintext lift: threshold ⌊(t+1)/2⌋; fast path: every q_i > t and the increments
    q_i − t; multi-word path: t < Q and the increment Q − t as `l.size` limbs -/
def BgvLiftOK (l : Level) (fast : Bool) (thr : Nat) (incr : Array Nat) : Prop :=
  thr = (l.t.value + 1) / 2 ∧
  if fast then ∀ i, i < l.size → l.t.value < (l.q i).value ∧ incr.getD i 0 = (l.q i).value - l.t.value
  else l.t.value < Spec.prodL (c01p_qvals l) ∧ toNat (incr.toList.take l.size) = Spec.prodL (c01p_qvals l) - l.t.value

theorem c01i_lift_zero {t : Nat} (ht : 1 ≤ t) : bgvLift t 0 = 0 := by
  unfold bgvLift
  rw [if_neg (by omega)]; rfl

theorem c01i_lift_modEq {t q incr : Nat} (hincr : (incr : Int) ≡ -(t : Int) [ZMOD (q : Int)]) (m : Nat) :
    ((if m ≥ (t + 1) / 2 then m + incr else m : Nat) : Int) ≡ bgvLift t m [ZMOD (q : Int)] := by
  unfold bgvLift
  split
  · rw [Nat.cast_add, sub_eq_add_neg]
    exact Int.ModEq.add (Int.ModEq.refl _) hincr
  · exact Int.ModEq.refl _

/-- FAST PATH of the plaintext lift -/
theorem bgvLiftPlain_fast_spec {l : Level} (hl : l.WF) {thr : Nat} {incr : Array Nat} (h : BgvLiftOK l true thr incr)
    (ht1 : 1 ≤ l.t.value) {plain : Poly} (hp : plain.size ≤ l.n) (hm : ∀ i, i < plain.size → plain.getD i 0 < l.t.value) :
    ∃ r, bgvLiftPlain l true thr incr plain = .ok r ∧ RnsCanon l r ∧ ∀ i, i < l.size → ∀ j, j < l.n →
      (((r.getD i #[]).getD j 0 : Nat) : Int) ≡ bgvLift l.t.value (plain.getD j 0) [ZMOD ((l.q i).value : Int)] := by
  obtain ⟨hthr, hfast⟩ := h
  simp only [if_true] at hfast
  let G : Nat → Nat → Nat := fun i j => if plain.getD j 0 ≥ thr then plain.getD j 0 + incr.getD i 0 else plain.getD j 0
  have hrow : ∀ i, i < l.size → ((List.range l.n).mapM fun j =>
      if j < plain.size then
        let m := plain.getD j 0
        if m ≥ thr then ckAdd m (incr.getD i 0) else pure m
      else (pure 0 : R Nat)) = .ok ((List.range l.n).map (G i)) := by
    intro i hi
    refine R.mapM_ok _ (G i) _ fun j _ => ?_
    show (if j < plain.size then (if plain.getD j 0 ≥ thr then ckAdd (plain.getD j 0) (incr.getD i 0) else pure (plain.getD j 0))
      else (pure 0 : R Nat)) = .ok (if plain.getD j 0 ≥ thr then plain.getD j 0 + incr.getD i 0 else plain.getD j 0)
    by_cases hjp : j < plain.size
    · rw [if_pos hjp]
      by_cases hge : plain.getD j 0 ≥ thr
      · rw [if_pos hge, if_pos hge]
        -- the sum m + (q_i − t) stays below 2^64
        have h61 := (c01o_level_comp hl hi).2.2.2.lt
        have := hm j hjp
        have := (hfast i hi).1
        unfold ckAdd
        rw [(hfast i hi).2, if_pos (by unfold B64; omega)]
      · rw [if_neg hge, if_neg hge]; rfl
    · -- beyond the plaintext's length the coefficient is 0, below the threshold
      rw [if_neg hjp, array_getD_of_ge plain 0 (Nat.le_of_not_lt hjp), if_neg (by omega)]; rfl
  refine ⟨((List.range l.size).map fun i => ((List.range l.n).map (G i)).toArray).toArray, ?_, ?_, ?_⟩
  · unfold bgvLiftPlain
    rw [if_neg (by omega)]
    simp only [if_true]
    rw [R.mapM_ok _ _ _ fun i hi => hrow i (List.mem_range.mp hi)]
    simp [List.map_map, Function.comp_def]
  · refine ⟨by simp, fun i hi => ?_⟩
    rw [array_getD_range_map _ _ hi]
    refine ⟨by simp, fun j hj => ?_⟩
    rw [array_getD_range_map _ 0 hj]
    have hmj := c01e_plain_lt (by omega : 0 < l.t.value) hm j
    have hlt := (hfast i hi).1
    show (if plain.getD j 0 ≥ thr then plain.getD j 0 + incr.getD i 0 else plain.getD j 0) < (l.q i).value
    split
    · rw [(hfast i hi).2]; omega
    · omega
  · intro i hi j hj
    rw [array_getD_range_map _ _ hi, array_getD_range_map _ 0 hj]
    show ((if plain.getD j 0 ≥ thr then plain.getD j 0 + incr.getD i 0 else plain.getD j 0 : Nat) : Int) ≡ _ [ZMOD _]
    rw [hthr]
    apply c01i_lift_modEq
    rw [(hfast i hi).2, Nat.cast_sub (Nat.le_of_lt (hfast i hi).1)]
    exact Int.modEq_iff_dvd.mpr ⟨-1, by ring⟩

/-- MULTI-WORD PATH of the plaintext lift (`add_uint_u64` of the size-limb increment Q − t, then `decompose_array`) -/
theorem bgvLiftPlain_multiword_spec {l : Level} (hl : l.WF) (hq : c07s_LevelQ l) {thr : Nat} {incr : Array Nat}
    (h : BgvLiftOK l false thr incr) (ht1 : 1 ≤ l.t.value) {plain : Poly} (hp : plain.size ≤ l.n)
    (hm : ∀ i, i < plain.size → plain.getD i 0 < l.t.value) :
    ∃ r, bgvLiftPlain l false thr incr plain = .ok r ∧ RnsCanon l r ∧ ∀ i, i < l.size → ∀ j, j < l.n →
      (((r.getD i #[]).getD j 0 : Nat) : Int) ≡ bgvLift l.t.value (plain.getD j 0) [ZMOD ((l.q i).value : Int)] := by
  obtain ⟨hthr, hslow⟩ := h
  simp only [Bool.false_eq_true, if_false] at hslow
  obtain ⟨htQ, hincr⟩ := hslow
  have hb := hq.bwf
  have hbs := hq.size_eq
  have hQ := hq.prodL
  rw [hQ] at htQ hincr
  generalize hQd : l.tool.baseQ.prod = Q at *
  have hQlt : Q < 2^(64 * l.size) := by rw [← hQd, ← hbs]; exact hb.prod_lt
  have hmc := c01e_plain_lt (by omega : 0 < l.t.value) hm
  -- the value that is decomposed for coefficient j (0, below the threshold, beyond the plaintext's length)
  let V : Nat → Nat := fun j => if plain.getD j 0 ≥ thr then plain.getD j 0 + (Q - l.t.value) else plain.getD j 0
  have hVlt : ∀ j, V j < Q := fun j => by
    have := hmc j
    show (if plain.getD j 0 ≥ thr then plain.getD j 0 + (Q - l.t.value) else plain.getD j 0) < Q
    split <;> omega
  have hvals : ((List.range l.n).map fun j =>
      if j < plain.size then
        let m := plain.getD j 0
        if m ≥ thr then (toNat (incr.toList.take l.size) + m) % 2^(64 * l.size) else m
      else 0) = (List.range l.n).map V := by
    apply List.map_congr_left
    intro j _
    show (if j < plain.size then
        (if plain.getD j 0 ≥ thr then (toNat (incr.toList.take l.size) + plain.getD j 0) % 2^(64 * l.size) else plain.getD j 0)
      else 0) = if plain.getD j 0 ≥ thr then plain.getD j 0 + (Q - l.t.value) else plain.getD j 0
    by_cases hjp : j < plain.size
    · rw [if_pos hjp, hincr, Nat.add_comm]
      have := hmc j
      by_cases hge : plain.getD j 0 ≥ thr
      · rw [if_pos hge, if_pos hge]; exact Nat.mod_eq_of_lt (by omega)
      · rw [if_neg hge, if_neg hge]
    · rw [if_neg hjp, array_getD_of_ge plain 0 (Nat.le_of_not_lt hjp), if_neg (by omega)]
  have hF : ∀ j, ∃ rs, l.tool.baseQ.decompose (V j) = .ok rs ∧ rs.size = l.size ∧ ∀ i, i < l.size → rs.getD i 0 = V j % (l.q i).value := by
    intro j
    obtain ⟨rs, h1, h2, h3⟩ := decompose_spec_of hb (v := V j) (by rw [hbs]; exact Nat.lt_trans (hVlt j) hQlt)
      (Or.inr (by rw [hQd]; exact hVlt j))
    exact ⟨rs, h1, by rw [h2, hbs], fun i hi => by rw [h3 i (by rw [hbs]; exact hi), hq.q_eq hi]⟩
  choose D hD hDs hDv using hF
  have hmap : ((List.range l.n).map V).mapM (fun v => l.tool.baseQ.decompose v) = .ok ((List.range l.n).map D) := by
    rw [List.mapM_map]
    exact R.mapM_ok _ _ _ (fun j _ => hD j)
  have hcomp : ∀ i, i < l.size → ∀ j, j < l.n →
      ((untranspose ((List.range l.n).map D).toArray l.size).getD i #[]).getD j 0 = V j % (l.q i).value := by
    intro i hi j hj
    unfold untranspose
    rw [array_getD_ofFn _ _ hi, array_getD_map _ _ #[] 0 (by simp; exact hj), array_getD_range_map _ _ hj]
    exact hDv j i hi
  refine ⟨untranspose ((List.range l.n).map D).toArray l.size, ?_, ⟨by simp [untranspose], fun i hi => ⟨?_, fun j hj => ?_⟩⟩,
    fun i hi j hj => ?_⟩
  · unfold bgvLiftPlain
    rw [if_neg (by omega)]
    simp only [Bool.false_eq_true, if_false]
    rw [hvals, hmap]; rfl
  · unfold untranspose
    rw [array_getD_ofFn _ _ hi]; simp
  · rw [hcomp i hi j hj]
    exact Nat.mod_lt _ (c01e_q_pos hl hi)
  · rw [hcomp i hi j hj]
    refine (cast_mod_modEq _ _).trans ?_
    show ((if plain.getD j 0 ≥ thr then plain.getD j 0 + (Q - l.t.value) else plain.getD j 0 : Nat) : Int) ≡ _ [ZMOD _]
    rw [hthr]
    apply c01i_lift_modEq
    -- q_i divides Q
    obtain ⟨k, hk⟩ : ((l.q i).value : Int) ∣ (Q : Int) := by
      rw [← hQd, ← hq.q_eq hi]
      exact Int.natCast_dvd_natCast.mpr (hb.q_dvd_prod (by rw [hbs]; exact hi))
    rw [Nat.cast_sub (Nat.le_of_lt htQ), hk]
    exact Int.modEq_iff_dvd.mpr ⟨-k, by ring⟩

/-- both paths: the lifted plaintext is canonical and ≡ the centred lift of m in every component -/
theorem bgvLiftPlain_spec {l : Level} (hl : l.WF) (hq : c07s_LevelQ l) {fast : Bool} {thr : Nat} {incr : Array Nat}
    (h : BgvLiftOK l fast thr incr) (ht1 : 1 ≤ l.t.value) {plain : Poly} (hp : plain.size ≤ l.n)
    (hm : ∀ i, i < plain.size → plain.getD i 0 < l.t.value) :
    ∃ r, bgvLiftPlain l fast thr incr plain = .ok r ∧ RnsCanon l r ∧ ∀ i, i < l.size → ∀ j, j < l.n →
      (((r.getD i #[]).getD j 0 : Nat) : Int) ≡ bgvLift l.t.value (plain.getD j 0) [ZMOD ((l.q i).value : Int)] := by
  cases fast
  · exact bgvLiftPlain_multiword_spec hl hq h ht1 hp hm
  · exact bgvLiftPlain_fast_spec hl h ht1 hp hm

/-- the margin of the BGV end-to-end theorems at fresh-noise bound B: 2·t·(B+1) < Q (|lift(m) + t·ν| < Q/2) -/
def FreshEncOKBgv (l : Level) (B : Nat) : Prop := 2 * (l.t.value * (B + 1)) < Spec.prodL (c01p_qvals l)

instance (l : Level) (B : Nat) : Decidable (FreshEncOKBgv l B) := by unfold FreshEncOKBgv; exact inferInstance

/-- from a phase congruence lift(m) + t·v (|v| ≤ B) and the margin: the model decrypts the NTT-form (c0, c1), correction factor 1, to the
    padded plaintext -/
theorem c01i_bgv_decrypt_of_phase {l : Level} (hl : l.WF) (hd : DecOK l) {sk : Array Int} (hsk : sk.size = l.n) {c0 c1 : RnsPoly}
    (h0 : RnsCanon l c0) (h1 : RnsCanon l c1) {plain : Poly} (hm : ∀ i, i < plain.size → plain.getD i 0 < l.t.value)
    {v : Nat → Int} {B : Nat} (hv : ∀ c, c < l.n → (v c).natAbs ≤ B) (hok : FreshEncOKBgv l B)
    (hph : ∀ c, c < l.n → (Spec.phase (c01p_qvals l) l.n sk [rnsIntt l c0, rnsIntt l c1]).getD c 0 ≡
      bgvLift l.t.value (plain.getD c 0) + (l.t.value : Int) * v c [ZMOD (Spec.prodL (c01p_qvals l) : Int)]) :
    bgvDecrypt l sk ⟨#[c0, c1], true, 1⟩ = .ok (trimPlain (padPlain l.n plain)) := by
  have ht2 := c01i_t2 hd
  have ht61 := c01i_t61 hd
  unfold FreshEncOKBgv at hok
  have hmc := c01e_plain_lt (by omega : 0 < l.t.value) hm
  -- the exact value of every phase coefficient
  have hval : ∀ c, c < l.n → (Spec.phase (c01p_qvals l) l.n sk [rnsIntt l c0, rnsIntt l c1]).getD c 0 =
      bgvLift l.t.value (plain.getD c 0) + (l.t.value : Int) * v c ∧
      2 * (bgvLift l.t.value (plain.getD c 0) + (l.t.value : Int) * v c).natAbs < Spec.prodL (c01p_qvals l) := by
    intro c hc
    have hb := c01j_bgvLift_bounds (hmc c)
    have hsmall : 2 * (bgvLift l.t.value (plain.getD c 0) + (l.t.value : Int) * v c).natAbs < Spec.prodL (c01p_qvals l) := by
      have a1 := Int.natAbs_add_le (bgvLift l.t.value (plain.getD c 0)) ((l.t.value : Int) * v c)
      have a2 : ((l.t.value : Int) * v c).natAbs = l.t.value * (v c).natAbs := by rw [Int.natAbs_mul]; rfl
      have a3 : l.t.value * (v c).natAbs ≤ l.t.value * B := Nat.mul_le_mul_left _ (hv c hc)
      have a4 : l.t.value * (B + 1) = l.t.value * B + l.t.value := by ring
      omega
    exact ⟨c01i_phase_eq_of_small hc hsmall (hph c hc), hsmall⟩
  have htie : BgvNoTie l (Spec.phase (c01p_qvals l) l.n sk [rnsIntt l c0, rnsIntt l c1]) := by
    intro j hj
    obtain ⟨e1, e2⟩ := hval j hj
    rw [e1]
    omega
  -- the inverse of the correction factor 1 is 1 modulo t
  have hinv := c01j_invMod_spec (cf := 1) ht2 (lt_trans ht61 (by norm_num)) (Nat.coprime_one_left _)
  rw [Nat.mul_one, Nat.mod_eq_of_lt (show 1 < l.t.value by omega)] at hinv
  rw [bgvDecrypt_size2_eq_spec hl hd hsk h0 h1 (by norm_num) (Nat.coprime_one_left _) htie]
  exact congrArg _ (c01e_trim_pad (by rw [c01p_bgvDecode_size, c01p_phase_size]) fun c hc => by
    rw [c01p_bgvDecode_getD _ _ _ (by rw [c01p_phase_size]; exact hc), (hval c hc).1, c01j_bgvLift_imod (hmc c), Nat.mul_mod, hinv,
      Nat.mul_one, Nat.mod_mod, Nat.mod_eq_of_lt (hmc c)])

/-- BGV, any encryption mode / dispatch branch: if the encryption of zero is fresh with ‖ν‖∞ ≤ B (phase t·ν) and 2t(B+1) < Q, encryption
    of a plaintext succeeds (lift on either path, transform, add) and the model's decryption returns the plaintext; the correction
    factor of the fresh ciphertext is 1 -/
theorem bgv_encrypt_decrypt_of_fresh {l : Level} (hl : l.WF) (hd : DecOK l) (hb : l.scheme = .bgv) {fast : Bool} {thr : Nat}
    {incr : Array Nat} (hlift : BgvLiftOK l fast thr incr) {sk : Array Int} (hsk : sk.size = l.n) {mode : EncMode} {ν : Nat → Int}
    (hf : FreshZero l sk (encryptZeroInternal l mode) ν) {B : Nat} (hν : ∀ c, c < l.n → (ν c).natAbs ≤ B)
    {plain : Poly} (hp : plain.size ≤ l.n) (hm : ∀ i, i < plain.size → plain.getD i 0 < l.t.value) (hok : FreshEncOKBgv l B) :
    ∃ ct, bgvEncrypt l fast thr incr mode plain = .ok ct ∧ ct.cf = 1 ∧
      bgvDecrypt l sk ct = .ok (trimPlain (padPlain l.n plain)) := by
  have hq := c01q_levelQ_of_decOK hd
  have ht2 := c01i_t2 hd
  obtain ⟨c0, c1, hz, hC0, hC1, hph⟩ := hf.bgv hb
  obtain ⟨r, hr, hrC, hrv⟩ := bgvLiftPlain_spec hl hq hlift (by omega) hp hm
  obtain ⟨c0', hadd, hC0', hav⟩ := c01i_add_plain hl hq (sk := sk) (c1 := c1) hC0 (c01e_rnsNtt_canon hl hrC.pre)
    (M := fun c => bgvLift l.t.value (plain.getD c 0)) (fun i hi c hc => by rw [c01e_intt_rnsNtt hl hrC.pre hi]; exact hrv i hi c hc)
  refine ⟨⟨#[c0', c1], true, 1⟩, ?_, rfl, ?_⟩
  · unfold bgvEncrypt
    rw [hz, R.ok_bind, hr, R.ok_bind]
    show (do let c0 ← rnsAdd l c0 (rnsNtt l r)
             pure (⟨(#[c0, c1] : Array RnsPoly).setIfInBounds 0 c0, true, 1⟩ : Ct)) = _
    rw [hadd]; rfl
  · apply c01i_bgv_decrypt_of_phase hl hd hsk hC0' hC1 hm hν hok
    intro c hc
    rw [add_comm]
    exact (hav c hc).trans (Int.ModEq.add (hph c hc) (Int.ModEq.refl _))

/-- BGV: on ANY fresh encryption of zero within the margin the model's decryption returns the zero plaintext -/
theorem bgv_decrypt_fresh_zero {l : Level} (hl : l.WF) (hd : DecOK l) (hb : l.scheme = .bgv) {sk : Array Int} (hsk : sk.size = l.n)
    {r : R Ct} {ν : Nat → Int} (hf : FreshZero l sk r ν) {B : Nat} (hν : ∀ c, c < l.n → (ν c).natAbs ≤ B) (hok : FreshEncOKBgv l B) :
    ∃ z, r = .ok z ∧ z.cf = 1 ∧ bgvDecrypt l sk z = .ok (trimPlain (padPlain l.n #[])) := by
  have ht2 := c01i_t2 hd
  obtain ⟨c0, c1, hz, hC0, hC1, hph⟩ := hf.bgv hb
  refine ⟨_, hz, rfl, c01i_bgv_decrypt_of_phase hl hd hsk hC0 hC1 (plain := #[]) (fun i hi => absurd hi (by simp)) hν hok
    (fun c hc => ?_)⟩
  rw [show (#[] : Poly).getD c 0 = 0 by simp, c01i_lift_zero (by omega), zero_add]
  exact hph c hc


/-- the CKKS plaintext layer on a fresh zero: `ckksEncrypt` succeeds with a canonical NTT-form (c0, c1) whose phase is ≡ M + ν, for ANY
    integer polynomial M the plaintext's coefficient form is congruent to -/
theorem c01i_ckks_add_of_fresh {l : Level} (hl : l.WF) (hq : c07s_LevelQ l) (hc : l.scheme = .ckks)
    {sk : Array Int} {mode : EncMode} {ν : Nat → Int}
    (hf : FreshZero l sk (encryptZeroInternal l mode) ν) {plain : RnsPoly} (hpl : RnsCanon l plain) {M : Nat → Int}
    (hM : ∀ i, i < l.size → ∀ c, c < l.n → (((intt (l.tbl i) (plain.getD i #[])).getD c 0 : Nat) : Int) ≡ M c [ZMOD ((l.q i).value : Int)]) :
    ∃ c0 c1, ckksEncrypt l mode plain = .ok ⟨#[c0, c1], true, 1⟩ ∧ RnsCanon l c0 ∧ RnsCanon l c1 ∧
      ∀ c, c < l.n → (Spec.phase (c01p_qvals l) l.n sk [rnsIntt l c0, rnsIntt l c1]).getD c 0 ≡ M c + ν c
        [ZMOD (Spec.prodL (c01p_qvals l) : Int)] := by
  obtain ⟨c0, c1, hz, hC0, hC1, hph⟩ := hf.ckks hc
  obtain ⟨c0', hadd, hC0', hav⟩ := c01i_add_plain hl hq (sk := sk) (c1 := c1) hC0 hpl hM
  refine ⟨c0', c1, ?_, hC0', hC1, fun c hc => ?_⟩
  · unfold ckksEncrypt
    rw [hz, R.ok_bind]
    show (do let c0 ← rnsAdd l c0 plain
             pure (⟨(#[c0, c1] : Array RnsPoly).setIfInBounds 0 c0, true, 1⟩ : Ct)) = _
    rw [hadd]; rfl
  · rw [add_comm]
    exact (hav c hc).trans (Int.ModEq.add (hph c hc) (Int.ModEq.refl _))

theorem c01i_ckks_decrypt2 {l : Level} (hl : l.WF) (hq : c07s_LevelQ l) {sk : Array Int} (hsk : sk.size = l.n) {c0 c1 : RnsPoly}
    (h0 : RnsCanon l c0) (h1 : RnsCanon l c1) :
    ∃ dec, ckksDecrypt l sk ⟨#[c0, c1], true, 1⟩ = .ok dec ∧ RnsCanon l dec ∧
      ∀ i, i < l.size → ∀ c, c < l.n → (intt (l.tbl i) (dec.getD i #[])).getD c 0 =
        Spec.imod ((Spec.phase (c01p_qvals l) l.n sk [rnsIntt l c0, rnsIntt l c1]).getD c 0) (l.q i).value := by
  obtain ⟨dec, hdec, hdC, hdv, -⟩ := ckksDecrypt_intt_eq_phase hl hq hsk (polys := #[c0, c1]) (Nat.le_refl 2)
    (c01e_pair_all (P := RnsCanon l) h0 h1 #[]) 1
  exact ⟨dec, hdec, hdC, hdv⟩

theorem c01i_ckks_decrypt_of_phase {l : Level} (hl : l.WF) (hq : c07s_LevelQ l) {sk : Array Int} (hsk : sk.size = l.n) {c0 c1 : RnsPoly}
    (h0 : RnsCanon l c0) (h1 : RnsCanon l c1) {x : Nat → Int}
    (hx : ∀ c, c < l.n → 2 * (x c).natAbs < Spec.prodL (c01p_qvals l))
    (hph : ∀ c, c < l.n → (Spec.phase (c01p_qvals l) l.n sk [rnsIntt l c0, rnsIntt l c1]).getD c 0 ≡ x c
      [ZMOD (Spec.prodL (c01p_qvals l) : Int)]) :
    ∃ dec, ckksDecrypt l sk ⟨#[c0, c1], true, 1⟩ = .ok dec ∧ RnsCanon l dec ∧
      (∀ c, c < l.n → (Spec.phase (c01p_qvals l) l.n sk [rnsIntt l c0, rnsIntt l c1]).getD c 0 = x c) ∧
      ∀ i, i < l.size → ∀ c, c < l.n → (intt (l.tbl i) (dec.getD i #[])).getD c 0 = Spec.imod (x c) (l.q i).value := by
  obtain ⟨dec, hdec, hdC, hdv⟩ := c01i_ckks_decrypt2 hl hq hsk h0 h1
  have hval := fun c hc => c01i_phase_eq_of_small hc (hx c hc) (hph c hc)
  exact ⟨dec, hdec, hdC, hval, fun i hi c hc => by rw [hdv i hi c hc, hval c hc]⟩

/-- CKKS, any encryption mode / dispatch branch, every level: encryption of an (NTT-form, canonical) RNS plaintext succeeds, decryption
    succeeds, and the decrypted RNS plaintext is the plaintext plus ONE integer noise polynomial ν — the noise of the fresh encryption
    of zero — in every RNS component (coefficient forms, modulo q_i): the components are consistent -/
theorem ckks_encrypt_decrypt_of_fresh {l : Level} (hl : l.WF) (hq : c07s_LevelQ l) (htool : c05u_ToolOK l) (hc : l.scheme = .ckks)
    {sk : Array Int} (hsk : sk.size = l.n) {mode : EncMode} {ν : Nat → Int}
    (hf : FreshZero l sk (encryptZeroInternal l mode) ν) {plain : RnsPoly} (hpl : RnsCanon l plain) :
    ∃ ct dec, ckksEncrypt l mode plain = .ok ct ∧ ckksDecrypt l sk ct = .ok dec ∧ RnsCanon l dec ∧
      ∀ i, i < l.size → ∀ c, c < l.n → (((intt (l.tbl i) (dec.getD i #[])).getD c 0 : Nat) : Int) ≡
        (((intt (l.tbl i) (plain.getD i #[])).getD c 0 : Nat) : Int) + ν c [ZMOD ((l.q i).value : Int)] := by
  -- the CRT values of the plaintext's coefficient form serve as M
  have hPi : ∀ i, i < l.size → ∀ c, c < l.n → (((intt (l.tbl i) (plain.getD i #[])).getD c 0 : Nat) : Int) ≡
      (c05d_X l (rnsIntt l plain) c : Int) [ZMOD ((l.q i).value : Int)] := fun i hi c hc => by
    rw [← c01o_rnsIntt_getD l plain hi]
    exact c05d_crt_modEq (c05d_X_isCrt hq (c01p_rnsIntt_canon hl hpl) hc) hi
  obtain ⟨c0, c1, h1, hC0, hC1, hph⟩ := c01i_ckks_add_of_fresh hl hq hc hf hpl hPi
  obtain ⟨dec, h2, h3, hdv⟩ := c01i_ckks_decrypt2 hl hq hsk hC0 hC1
  refine ⟨_, dec, h1, h2, h3, fun i hi c hc => ?_⟩
  have hdvd : ((l.q i).value : Int) ∣ (Spec.prodL (c01p_qvals l) : Int) := by
    rw [hq.prodL, ← hq.q_eq hi]
    exact Int.natCast_dvd_natCast.mpr (hq.bwf.q_dvd_prod (by rw [hq.size_eq]; exact hi))
  rw [hdv i hi c hc, c01j_imod_cast _ (c01e_q_pos hl hi)]
  exact (Int.mod_modEq _ _).trans (((hph c hc).of_dvd hdvd).trans (Int.ModEq.add (hPi i hi c hc).symm (Int.ModEq.refl _)))

theorem c01i_small {n B Q : Nat} {M ν : Nat → Int} (hν : ∀ c, c < n → (ν c).natAbs ≤ B)
    (hsmall : ∀ c, c < n → 2 * ((M c).natAbs + B) < Q) : ∀ c, c < n → 2 * (M c + ν c).natAbs < Q := fun c hc => by
  have := Int.natAbs_add_le (M c) (ν c)
  have := hν c hc
  have := hsmall c hc
  omega

/-- CKKS on ANY fresh zero, OVER THE INTEGERS: if the (canonical, NTT-form) RNS plaintext encodes the integer polynomial M (its
    coefficient form is M modulo every q_i) and 2(|M_c| + B) < Q, then encryption and decryption succeed, the exact phase of the
    ciphertext — the centred lift of the decryption — is EXACTLY M + ν coefficient-wise, and the decrypted RNS plaintext is the RNS
    form of M + ν (equality of residues, not only congruence) -/
theorem ckks_encrypt_decrypt_int_of_fresh {l : Level} (hl : l.WF) (hq : c07s_LevelQ l) (hc : l.scheme = .ckks)
    {sk : Array Int} (hsk : sk.size = l.n) {mode : EncMode} {ν : Nat → Int}
    (hf : FreshZero l sk (encryptZeroInternal l mode) ν) {B : Nat} (hν : ∀ c, c < l.n → (ν c).natAbs ≤ B)
    {plain : RnsPoly} (hpl : RnsCanon l plain) {M : Nat → Int}
    (hM : ∀ i, i < l.size → ∀ c, c < l.n → (((intt (l.tbl i) (plain.getD i #[])).getD c 0 : Nat) : Int) ≡ M c [ZMOD ((l.q i).value : Int)])
    (hsmall : ∀ c, c < l.n → 2 * ((M c).natAbs + B) < Spec.prodL (c01p_qvals l)) :
    ∃ ct dec, ckksEncrypt l mode plain = .ok ct ∧ ckksDecrypt l sk ct = .ok dec ∧ RnsCanon l dec ∧
      (∀ c, c < l.n → (Spec.phase (c01p_qvals l) l.n sk (ct.polys.toList.map (rnsIntt l))).getD c 0 = M c + ν c) ∧
      ∀ i, i < l.size → ∀ c, c < l.n → (intt (l.tbl i) (dec.getD i #[])).getD c 0 = Spec.imod (M c + ν c) (l.q i).value := by
  obtain ⟨c0, c1, h1, hC0, hC1, hph⟩ := c01i_ckks_add_of_fresh hl hq hc hf hpl hM
  obtain ⟨dec, h⟩ := c01i_ckks_decrypt_of_phase hl hq hsk hC0 hC1 (c01i_small hν hsmall) hph
  exact ⟨_, dec, h1, h⟩

/-- the NTT-form RNS plaintext of an integer polynomial (what the CKKS encoder hands to `encrypt` after its `f64` computation:
    integer coefficients, decomposed modulo every q_i, transformed) -/
def ckksPlainOfInt (l : Level) (M : Array Int) : RnsPoly := rnsNtt l (rnsOfInt l M)

theorem ckksPlainOfInt_spec {l : Level} (hl : l.WF) {M : Array Int} (hM : M.size = l.n) :
    RnsCanon l (ckksPlainOfInt l M) ∧ ∀ i, i < l.size → ∀ c, c < l.n →
      (((intt (l.tbl i) ((ckksPlainOfInt l M).getD i #[])).getD c 0 : Nat) : Int) ≡ M.getD c 0 [ZMOD ((l.q i).value : Int)] := by
  have hC := c01e_rnsOfInt_canon hl hM
  refine ⟨c01e_rnsNtt_canon hl hC.pre, fun i hi c hc => ?_⟩
  obtain ⟨htw, htm, htn, hqw⟩ := c01o_level_comp hl hi
  unfold ckksPlainOfInt
  rw [c01o_rnsNtt_getD l _ hi, intt_ntt htw _ (by rw [(hC.2 i hi).1, htn]) (fun j hj => by rw [htm]; exact (hC.2 i hi).2 j (by omega))]
  exact c01e_rnsOfInt_modEq M hi (by have := hqw.two_le; omega) c


end HC
