/- C01: the exact-integer side of decryption.  `Spec.crt` is the CRT lift on the moduli of a well-formed base; `Spec.crtPoly`, `Spec.zAdd`,
   `Spec.zNegMul` coefficient by coefficient (the negacyclic product as an explicit sum); the residues of the secret key.  What these say about
   the exact phase `Spec.phase` is in C01R.

   `Spec.crt` uses `Spec.invMod` (Euclid with fuel 400): fine here because its arguments are reduced modulo a 61-bit prime first
   (`c01j_invMod_spec`).
   Names: every declaration of this file and of C01R has the prefix `c01p_`, that of the decryption theorems of C01P they serve. -/
import Heathcliff.Spec.Scheme
import Heathcliff.Proofs.C01O
import Heathcliff.Proofs.C01J
import Heathcliff.Proofs.BaseMath
import Mathlib.Algebra.BigOperators.ModEq
import Mathlib.Tactic.Ring
import Mathlib.Tactic.Linarith
namespace HC
open Finset

/-- the values of the level's moduli (the list the driver hands to `Spec.phase`).  The same list read off the tool's base is `c01p_bvals` below and
    `c07s_qsv` (C07D); for a level with `c07s_LevelQ` the three agree: `c01q_qvals_eq` (C01Q), `c07s_LevelQ.qvals` (C01R), `c07s_qsv_eq_range` (C07D) -/
def c01p_qvals (l : Level) : List Nat := l.qs.toList.map (·.value)

/-- the values of the moduli of an RNS base, by index (`c07s_qsv` of C07D maps over the array; equal by `c07s_qsv_eq_range`) -/
def c01p_bvals (b : RNSBase) : List Nat := (List.range b.size).map (fun i => (b.q i).value)

theorem c01p_foldl_add_sum (f : Nat → Nat) (l : List Nat) (a : Nat) :
    l.foldl (fun acc i => acc + f i) a = a + (l.map f).sum := by
  induction l generalizing a with
  | nil => simp
  | cons x l ih => rw [List.foldl_cons, ih, List.map_cons, List.sum_cons, Nat.add_assoc]

theorem c01p_prodL_eq (qs : List Nat) : Spec.prodL qs = qs.prod := by
  unfold Spec.prodL
  rw [List.prod_eq_foldl]

theorem c01p_prodL_bvals {b : RNSBase} (hb : b.WF) : Spec.prodL (c01p_bvals b) = b.prod := by
  rw [c01p_prodL_eq, hb.prod_eq]; rfl

theorem c01p_bvals_length (b : RNSBase) : (c01p_bvals b).length = b.size := by
  simp [c01p_bvals]

theorem c01p_bvals_getD (b : RNSBase) {i : Nat} (hi : i < b.size) : (c01p_bvals b).getD i 1 = (b.q i).value := by
  simp [c01p_bvals, List.getD, hi]

theorem c01p_punct_eq_div {b : RNSBase} (hb : b.WF) {i : Nat} (hi : i < b.size) :
    b.prod / (b.q i).value = b.punct.getD i 0 := by
  have h2 := (hb.mwf i hi).two_le
  rw [← hb.punct_eq i hi]
  exact Nat.mul_div_cancel _ (by omega)

theorem c01p_punct_coprime {b : RNSBase} (hb : b.WF) {i : Nat} (hi : i < b.size) :
    Nat.Coprime (b.punct.getD i 0) (b.q i).value := by
  have h := (hb.inv_wf i hi).2
  apply Nat.coprime_of_mul_modEq_one (b.invPunct.getD i default).operand
  unfold Nat.ModEq
  rw [Nat.mod_mul_mod] at h
  exact h

def c01p_crtTerm (qs rs : List Nat) (i : Nat) : Nat :=
  (rs.getD i 0 % qs.getD i 1) * (Spec.prodL qs / qs.getD i 1) * Spec.invMod (Spec.prodL qs / qs.getD i 1) (qs.getD i 1)

theorem c01p_crt_eq (qs rs : List Nat) :
    Spec.crt qs rs = (((List.range qs.length).map (c01p_crtTerm qs rs)).sum) % Spec.prodL qs := by
  have := c01p_foldl_add_sum (c01p_crtTerm qs rs) (List.range qs.length) 0
  rw [Nat.zero_add] at this
  rw [← this]
  rfl

theorem c01p_crtTerm_b {b : RNSBase} (hb : b.WF) (rs : List Nat) {i : Nat} (hi : i < b.size) :
    c01p_crtTerm (c01p_bvals b) rs i =
      (rs.getD i 0 % (b.q i).value) * b.punct.getD i 0 * Spec.invMod (b.punct.getD i 0) (b.q i).value := by
  unfold c01p_crtTerm
  rw [c01p_bvals_getD b hi, c01p_prodL_bvals hb, c01p_punct_eq_div hb hi]

/-- `Spec.crt` is the CRT lift: below the product and with the given residues -/
theorem c01p_crt_spec {b : RNSBase} (hb : b.WF) (rs : List Nat) :
    Spec.crt (c01p_bvals b) rs < b.prod ∧
    ∀ i, i < b.size → Spec.crt (c01p_bvals b) rs % (b.q i).value = rs.getD i 0 % (b.q i).value := by
  rw [c01p_crt_eq, c01p_prodL_bvals hb, c01p_bvals_length]
  refine ⟨Nat.mod_lt _ hb.prod_pos, fun i hi => ?_⟩
  have hq2 := (hb.mwf i hi).two_le
  have hq61 := (hb.mwf i hi).lt
  rw [Nat.mod_mod_of_dvd _ (hb.q_dvd_prod hi),
    RNSH.sum_range_mod_single (c01p_crtTerm (c01p_bvals b) rs) (b.q i).value i b.size, if_pos hi,
    c01p_crtTerm_b hb rs hi]
  · have hinv := c01j_invMod_spec hq2 (by omega : (b.q i).value < 2^199) (c01p_punct_coprime hb hi)
    rw [Nat.mod_eq_of_lt (by omega : 1 < (b.q i).value)] at hinv
    rw [Nat.mul_assoc, Nat.mul_mod, Nat.mul_comm (b.punct.getD i 0), hinv, Nat.mul_one, Nat.mod_mod, Nat.mod_mod]
  · intro j hj hji
    rw [c01p_crtTerm_b hb rs hj]
    apply Nat.mod_eq_zero_of_dvd
    exact Dvd.dvd.mul_right (Dvd.dvd.mul_left (hb.q_dvd_punct hj hi hji) _) _

/-! ### `crtPoly`, `zAdd`, `zNegMul` coefficient-wise -/

theorem c01p_crtPoly_size (qs : List Nat) (p : RnsPoly) (n : Nat) : (Spec.crtPoly qs p n).size = n := by
  simp [Spec.crtPoly]

theorem c01p_crtPoly_getD (qs : List Nat) (p : RnsPoly) (n : Nat) {j : Nat} (hj : j < n) :
    (Spec.crtPoly qs p n).getD j 0 = (Spec.crt qs (p.toList.map (fun c => c.getD j 0)) : Int) := by
  unfold Spec.crtPoly
  rw [array_getD_ofFn _ _ hj]

theorem c01p_toList_map_getD (p : RnsPoly) (f : Array Nat → Nat) {i : Nat} (hi : i < p.size) :
    (p.toList.map f).getD i 0 = f (p.getD i #[]) := by
  simp [List.getD, Array.getD, hi]

theorem c01p_zAdd_size (a b : Spec.ZPoly) (Q : Nat) : (Spec.zAdd a b Q).size = a.size := by
  simp [Spec.zAdd]

theorem c01p_zAdd_getD (a b : Spec.ZPoly) (Q : Nat) {j : Nat} (hj : j < a.size) :
    (Spec.zAdd a b Q).getD j 0 = (a.getD j 0 + b.getD j 0) % (Q : Int) := by
  unfold Spec.zAdd
  rw [array_getD_ofFn _ _ hj]

/-- contribution of the pair (i, j) to coefficient k of the negacyclic product -/
def c01p_contrib (n : Nat) (a b : Spec.ZPoly) (i j k : Nat) : Int :=
  if i + j < n then (if k = i + j then a.getD i 0 * b.getD j 0 else 0)
  else (if k = i + j - n then - (a.getD i 0 * b.getD j 0) else 0)

theorem c01p_getD_modify (xs : Array Int) (m : Nat) (f : Int → Int) (k : Nat) :
    (xs.modify m f).getD k 0 = if m = k ∧ k < xs.size then f (xs.getD k 0) else xs.getD k 0 := by
  by_cases hk : k < xs.size
  · have hk' : k < (xs.modify m f).size := by rw [Array.size_modify]; exact hk
    have e1 : (xs.modify m f).getD k 0 = (xs.modify m f)[k] := by simp [Array.getD, hk]
    have e2 : xs.getD k 0 = xs[k] := by simp [Array.getD, hk]
    rw [e1, e2, Array.getElem_modify]
    by_cases hm : m = k <;> simp [hm, hk]
  · simp [Array.getD, hk]

def c01p_innerStep (n : Nat) (a : Spec.ZPoly) (bj : Int) (j : Nat) (acc : Array Int) (i : Nat) : Array Int :=
  if i + j < n then acc.modify (i + j) (· + a.getD i 0 * bj) else acc.modify (i + j - n) (· - a.getD i 0 * bj)

theorem c01p_innerStep_size (n : Nat) (a : Spec.ZPoly) (bj : Int) (j : Nat) (acc : Array Int) (i : Nat) :
    (c01p_innerStep n a bj j acc i).size = acc.size := by
  unfold c01p_innerStep; split <;> simp

theorem c01p_innerStep_getD (n : Nat) (a b : Spec.ZPoly) (j : Nat) (acc : Array Int) (hacc : acc.size = n) (i : Nat)
    {k : Nat} (hk : k < n) :
    (c01p_innerStep n a (b.getD j 0) j acc i).getD k 0 = acc.getD k 0 + c01p_contrib n a b i j k := by
  unfold c01p_innerStep c01p_contrib
  by_cases h1 : i + j < n
  · rw [if_pos h1, if_pos h1, c01p_getD_modify]
    by_cases h2 : k = i + j
    · rw [if_pos ⟨h2.symm, by omega⟩, if_pos h2]
    · rw [if_neg (fun h => h2 h.1.symm), if_neg h2, add_zero]
  · rw [if_neg h1, if_neg h1, c01p_getD_modify]
    by_cases h2 : k = i + j - n
    · rw [if_pos ⟨h2.symm, by omega⟩, if_pos h2]; ring
    · rw [if_neg (fun h => h2 h.1.symm), if_neg h2, add_zero]

theorem c01p_inner_fold (n : Nat) (a b : Spec.ZPoly) (j : Nat) (L : List Nat) (acc : Array Int) (hacc : acc.size = n) :
    (L.foldl (c01p_innerStep n a (b.getD j 0) j) acc).size = n ∧
    ∀ k, k < n → (L.foldl (c01p_innerStep n a (b.getD j 0) j) acc).getD k 0
      = acc.getD k 0 + (L.map (fun i => c01p_contrib n a b i j k)).sum := by
  induction L generalizing acc with
  | nil => exact ⟨hacc, fun k _ => by simp⟩
  | cons i L ih =>
    have hs : (c01p_innerStep n a (b.getD j 0) j acc i).size = n := by rw [c01p_innerStep_size, hacc]
    obtain ⟨h1, h2⟩ := ih _ hs
    refine ⟨h1, fun k hk => ?_⟩
    rw [List.foldl_cons, h2 k hk, c01p_innerStep_getD n a b j acc hacc i hk, List.map_cons, List.sum_cons, add_assoc]

def c01p_outerStep (n : Nat) (a b : Spec.ZPoly) (acc : Array Int) (j : Nat) : Array Int :=
  (List.range n).foldl (c01p_innerStep n a (b.getD j 0) j) acc

theorem c01p_outer_fold (n : Nat) (a b : Spec.ZPoly) (L : List Nat) (acc : Array Int) (hacc : acc.size = n) :
    (L.foldl (c01p_outerStep n a b) acc).size = n ∧
    ∀ k, k < n → (L.foldl (c01p_outerStep n a b) acc).getD k 0
      = acc.getD k 0 + (L.map (fun j => ((List.range n).map (fun i => c01p_contrib n a b i j k)).sum)).sum := by
  induction L generalizing acc with
  | nil => exact ⟨hacc, fun k _ => by simp⟩
  | cons j L ih =>
    obtain ⟨s1, s2⟩ := c01p_inner_fold n a b j (List.range n) acc hacc
    obtain ⟨h1, h2⟩ := ih (c01p_outerStep n a b acc j) s1
    refine ⟨h1, fun k hk => ?_⟩
    rw [List.foldl_cons, h2 k hk]
    unfold c01p_outerStep
    rw [s2 k hk, List.map_cons, List.sum_cons, add_assoc]

theorem c01p_zNegMul_eq (a b : Spec.ZPoly) (Q : Nat) :
    Spec.zNegMul a b Q =
      ((((List.range a.size).filter (fun j => b.getD j 0 ≠ 0)).foldl (c01p_outerStep a.size a b)
        (Array.replicate a.size (0 : Int))).map (fun x => x % (Q : Int))) := rfl

theorem c01p_filter_sum (L : List Nat) (p : Nat → Bool) (f : Nat → Int) (h : ∀ x, p x = false → f x = 0) :
    ((L.filter p).map f).sum = (L.map f).sum := by
  induction L with
  | nil => rfl
  | cons x L ih =>
    rw [List.filter_cons]
    by_cases hp : p x = true
    · rw [if_pos hp, List.map_cons, List.sum_cons, ih, List.map_cons, List.sum_cons]
    · rw [if_neg hp, ih, List.map_cons, List.sum_cons, h x (by simpa using hp), zero_add]

theorem c01p_zNegMul_size (a b : Spec.ZPoly) (Q : Nat) : (Spec.zNegMul a b Q).size = a.size := by
  rw [c01p_zNegMul_eq, Array.size_map]
  exact (c01p_outer_fold a.size a b _ _ (by simp)).1

theorem c01p_zNegMul_getD (a b : Spec.ZPoly) (Q : Nat) {k : Nat} (hk : k < a.size) :
    (Spec.zNegMul a b Q).getD k 0 =
      (∑ j ∈ range a.size, ∑ i ∈ range a.size, c01p_contrib a.size a b i j k) % (Q : Int) := by
  obtain ⟨h1, h2⟩ := c01p_outer_fold a.size a b ((List.range a.size).filter (fun j => b.getD j 0 ≠ 0))
    (Array.replicate a.size (0 : Int)) (by simp)
  rw [c01p_zNegMul_eq, array_getD_map _ _ 0 0 (by rw [h1]; exact hk), h2 k hk]
  have h0 : (Array.replicate a.size (0 : Int)).getD k 0 = 0 := by simp [Array.getD, hk]
  rw [h0, zero_add, c01p_filter_sum]
  · simp only [list_sum_range]
  · intro j hj
    have hb : b.getD j 0 = 0 := by simpa using hj
    apply List.sum_eq_zero
    intro x hx
    obtain ⟨i, -, rfl⟩ := List.mem_map.mp hx
    unfold c01p_contrib
    rw [hb]; split <;> split <;> simp

theorem c01p_contrib_ne {n : Nat} (a b : Spec.ZPoly) {i j k : Nat} (h1 : k ≠ i + j) (h2 : k + n ≠ i + j) :
    c01p_contrib n a b i j k = 0 := by
  unfold c01p_contrib
  by_cases h : i + j < n
  · rw [if_pos h, if_neg h1]
  · rw [if_neg h, if_neg (by omega)]

/-- the double sum collapses to the negacyclic convolution: for every i exactly one j contributes -/
theorem c01p_contrib_sum (n : Nat) (a b : Spec.ZPoly) {k : Nat} (hk : k < n) :
    (∑ j ∈ range n, ∑ i ∈ range n, c01p_contrib n a b i j k) =
      ∑ i ∈ range n, if i ≤ k then a.getD i 0 * b.getD (k - i) 0 else - (a.getD i 0 * b.getD (n + k - i) 0) := by
  rw [Finset.sum_comm]
  refine Finset.sum_congr rfl fun i hi => ?_
  have hi' : i < n := mem_range.mp hi
  by_cases hik : i ≤ k
  · rw [if_pos hik, Finset.sum_eq_single (k - i)
      (fun j hj _ => c01p_contrib_ne a b (by omega) (by have := mem_range.mp hj; omega))
      (fun h => absurd (mem_range.mpr (by omega)) h)]
    unfold c01p_contrib
    rw [if_pos (by omega), if_pos (by omega)]
  · rw [if_neg hik, Finset.sum_eq_single (n + k - i)
      (fun j hj _ => c01p_contrib_ne a b (by have := mem_range.mp hj; omega) (by omega))
      (fun h => absurd (mem_range.mpr (by omega)) h)]
    unfold c01p_contrib
    rw [if_neg (by omega), if_pos (by omega)]

/-- the residues of the secret key modulo `q`: `skRes l sk i` (C01O) without the level, `c01p_skRes_eq` (by `rfl`) -/
def c01p_skResQ (sk : Array Int) (q : Nat) : Array Nat := sk.map fun c => (c % (q : Int)).toNat

theorem c01p_skRes_eq (l : Level) (sk : Array Int) (i : Nat) : skRes l sk i = c01p_skResQ sk (l.q i).value := rfl

theorem c01p_skResQ_modEq (sk : Array Int) {q : Nat} (hq : 0 < q) (m : Nat) :
    (((c01p_skResQ sk q).getD m 0 : Nat) : Int) ≡ sk.getD m 0 [ZMOD q] := by
  by_cases hm : m < sk.size
  · have e : (c01p_skResQ sk q).getD m 0 = (sk[m] % (q : Int)).toNat := by simp [c01p_skResQ, Array.getD, hm]
    have e2 : sk.getD m 0 = sk[m] := by simp [Array.getD, hm]
    rw [e, e2, Int.toNat_of_nonneg (Int.emod_nonneg _ (by omega))]
    exact Int.mod_modEq _ _
  · have e : (c01p_skResQ sk q).getD m 0 = 0 := by simp [c01p_skResQ, Array.getD, hm]
    have e2 : sk.getD m 0 = 0 := by simp [Array.getD, hm]
    rw [e, e2]; rfl

/-! ### the residue Horner form in which the `_of_phase` theorems (C01P) state their hypothesis -/

/-- the same Horner step on the residues modulo one prime q (coefficient form, negacyclic product by explicit sum) -/
def c01p_rStep (n q : Nat) (skr : Array Nat) (acc : Option (Array Nat)) (c : Array Nat) : Option (Array Nat) :=
  match acc with
  | none => some c
  | some a => some (Array.ofFn (n := n) fun j => (negMulNat n q a skr j.val + c.getD j.val 0) % q)

/-- Horner evaluation c_0 + s·(c_1 + s·(…)) modulo (X^n + 1, q) of the components -/
def c01p_hornerRes (n q : Nat) (skr : Array Nat) (comps : List (Array Nat)) : Option (Array Nat) :=
  comps.reverse.foldl (c01p_rStep n q skr) none

end HC
