/- The number-theoretic transform as a ring homomorphism with a left inverse.  Evaluation at the points ψ^(2·brev i + 1), the roots of
   X^N + 1, is a ring homomorphism `evR` out of Z_q[X]/(X^N+1) (`c03k_NP`; `evAt` of `NegRing.lean` at each point); the entries of a
   canonical NTT-form vector are the evaluations of its coefficient form (`evR_intt`), and a canonical vector whose entries are the
   evaluations of a ring element has that element as coefficient form (`intt_toNP_unique`: this is the form in which injectivity is
   used; `a = b` from equal evaluations is `c02v_evR_inj`, C02V).  A pointwise identity between NTT-form vectors is therefore the same
   identity in the ring, by `map_add`, `map_mul`, `map_pow`, `map_sum`.  The file also holds `c07s_vecN` (the reading of a vector of
   naturals in `ZMod q` that C07D, C07S, C03P, C02V state their theorems in). -/
import Heathcliff.Proofs.NegRing
import Heathcliff.Proofs.C09G
namespace HC
open Finset

variable {t : NTTTables}

/-- a vector of naturals (a component of an RNS polynomial) read in `ZMod q`; positions beyond the size read 0 -/
def c07s_vecN (q : Nat) (a : Array Nat) : Nat → ZMod q := fun j => ((a.getD j 0 : Nat) : ZMod q)

def evPt (t : NTTTables) (i : Nat) : ZMod t.modulus.value := (t.root : ZMod t.modulus.value) ^ (2 * brev t.k i + 1)

theorem evPt_pow (hw : t.WF) (i : Nat) : evPt t i ^ (2^t.k) = -1 := root_pow_odd hw.zfacts.psi ⟨_, rfl⟩

/-- all the evaluations `evAt` at the table's points, as one homomorphism -/
def evR (hw : t.WF) : c03k_NP (ZMod t.modulus.value) (2^t.k) →+* (Nat → ZMod t.modulus.value) :=
  RingHom.pi fun i => evAt (Nat.two_pow_pos _) (evPt t i) (evPt_pow hw i)

theorem evR_apply (hw : t.WF) (a : c03k_NP (ZMod t.modulus.value) (2^t.k)) (i : Nat) :
    evR hw a i = ∑ j ∈ range (2^t.k), a.co j * evPt t i ^ j := rfl

theorem evR_vecN (hw : t.WF) (w : Array Nat) (i : Nat) :
    evR hw (c03k_toNP (2^t.k) (c07s_vecN t.modulus.value w)) i = ((evalSpec t w i : Nat) : ZMod t.modulus.value) := by
  rw [evalSpec_sum, evR_apply]
  exact Finset.sum_congr rfl fun j hj => by rw [c03k_toNP_co _ (mem_range.mp hj)]; rfl

theorem evR_intt (hw : t.WF) {x : Array Nat} (hx : x.size = 2^t.k ∧ ∀ j, j < 2^t.k → x.getD j 0 < t.modulus.value)
    {i : Nat} (hi : i < 2^t.k) :
    evR hw (c03k_toNP (2^t.k) (c07s_vecN t.modulus.value (intt t x))) i = ((x.getD i 0 : Nat) : ZMod t.modulus.value) := by
  obtain ⟨a1, a2⟩ := intt_sim hw x hx.1 (fun j hj => by have := hx.2 j hj; omega)
  rw [evR_vecN, ← (ntt_eval hw (intt t x) a1 (fun j hj => by have := (a2 j hj).1; omega)).2 i hi, ntt_intt hw x hx.1 hx.2]

theorem intt_toNP_unique (hw : t.WF) {z : Array Nat} (hz : z.size = 2^t.k ∧ ∀ j, j < 2^t.k → z.getD j 0 < t.modulus.value)
    (a : c03k_NP (ZMod t.modulus.value) (2^t.k))
    (h : ∀ i, i < 2^t.k → ((z.getD i 0 : Nat) : ZMod t.modulus.value) = evR hw a i) :
    c03k_toNP (2^t.k) (c07s_vecN t.modulus.value (intt t z)) = a := by
  have hq2 := hw.mwf.two_le
  have : NeZero t.modulus.value := ⟨by omega⟩
  -- w, the residues of the coefficients of `a`, has `z` as its transform
  generalize hwdef : ((List.range (2^t.k)).map fun j => (a.co j).val).toArray = w
  have hws : w.size = 2^t.k := by rw [← hwdef, List.size_toArray, List.length_map, List.length_range]
  have hwv : ∀ j, j < 2^t.k → ((w.getD j 0 : Nat) : ZMod t.modulus.value) = a.co j := by
    intro j hj; rw [← hwdef, array_getD_range_map _ 0 hj, ZMod.natCast_zmod_val]
  have hwl : ∀ j, j < 2^t.k → w.getD j 0 < t.modulus.value := by
    intro j hj; rw [← hwdef, array_getD_range_map _ 0 hj]; exact ZMod.val_lt _
  have hnw : ntt t w = z := by
    obtain ⟨e1, e2⟩ := ntt_eval hw w hws (fun j hj => by have := hwl j hj; omega)
    refine array_ext_getD e1 hz.1 fun i hi => cast_inj_lt (e2 i hi ▸ evalSpec_lt t (by omega) _ _) (hz.2 i hi) ?_
    rw [e2 i hi, h i hi, evalSpec_sum, evR_apply]
    exact Finset.sum_congr rfl fun j hj => by rw [hwv j (mem_range.mp hj)]; rfl
  refine c03k_np_ext fun j hj => ?_
  rw [c03k_toNP_co _ hj, ← hnw, intt_ntt hw w hws hwl]
  exact hwv j hj

/-! ### consequences, with modulus and degree under the names a level gives them -/

variable {q N : Nat}

theorem intt_toNP_ntt (hw : t.WF) (hq : t.modulus.value = q) (hN : 2^t.k = N) {x : Array Nat}
    (hx : x.size = N ∧ ∀ j, j < N → x.getD j 0 < q) :
    c03k_toNP N (c07s_vecN q (intt t (ntt t x))) = c03k_toNP N (c07s_vecN q x) := by
  subst hq hN
  rw [intt_ntt hw x hx.1 hx.2]

/-- the case α = β = 1 of `intt_lin` (C09G) on canonical vectors, stated in the ring; proved through `evR` like its sibling below, whose
    statement (products and powers) `intt_lin` cannot express -/
theorem intt_toNP_add (hw : t.WF) (hq : t.modulus.value = q) (hN : 2^t.k = N) {x y z : Array Nat}
    (hx : x.size = N ∧ ∀ j, j < N → x.getD j 0 < q) (hy : y.size = N ∧ ∀ j, j < N → y.getD j 0 < q)
    (hz : z.size = N ∧ ∀ j, j < N → z.getD j 0 < q) (h : ∀ j, j < N → z.getD j 0 = (x.getD j 0 + y.getD j 0) % q) :
    c03k_toNP N (c07s_vecN q (intt t z)) = c03k_toNP N (c07s_vecN q (intt t x)) + c03k_toNP N (c07s_vecN q (intt t y)) := by
  subst hq hN
  refine intt_toNP_unique hw hz _ fun i hi => ?_
  rw [map_add, Pi.add_apply, evR_intt hw hx hi, evR_intt hw hy hi, h i hi, ZMod.natCast_mod, Nat.cast_add]

theorem intt_toNP_sum_mul_pow (hw : t.WF) (hq : t.modulus.value = q) (hN : 2^t.k = N) (m : Nat) (e : Nat → Nat)
    {X : Nat → Array Nat} (hX : ∀ k, k < m → (X k).size = N ∧ ∀ j, j < N → (X k).getD j 0 < q)
    {sh z : Array Nat} (hs : sh.size = N ∧ ∀ j, j < N → sh.getD j 0 < q) (hz : z.size = N ∧ ∀ j, j < N → z.getD j 0 < q)
    (h : ∀ j, j < N → ((z.getD j 0 : Nat) : ZMod q) =
      ∑ k ∈ range m, (((X k).getD j 0 : Nat) : ZMod q) * ((sh.getD j 0 : Nat) : ZMod q) ^ e k) :
    c03k_toNP N (c07s_vecN q (intt t z)) =
      ∑ k ∈ range m, c03k_toNP N (c07s_vecN q (intt t (X k))) * c03k_toNP N (c07s_vecN q (intt t sh)) ^ e k := by
  subst hq hN
  refine intt_toNP_unique hw hz _ fun i hi => ?_
  rw [map_sum, Finset.sum_apply, h i hi]
  exact Finset.sum_congr rfl fun k hk => by
    rw [map_mul, map_pow, Pi.mul_apply, Pi.pow_apply, evR_intt hw (hX k (mem_range.mp hk)) hi, evR_intt hw hs hi]

end HC
