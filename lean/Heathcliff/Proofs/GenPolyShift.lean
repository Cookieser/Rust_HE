/-
  `polymod::negacyclic_shift` (src/util/polysmallmod.rs, generated into Gen/PolyFns.lean) = the model's `negacyclicShift` (Model/NTT.lean) — the data rule of `extract_lwe`'s `c1` (reversal with negation is
  the shift by `2N − term`), on the buffer `extract_lwe` passes (`vec![0; n]`).
  Helper names start with `gs_` (s for shift; the `gs_` of GenSer*, GenRng*, GenEvalCt are other families).
-/
import Heathcliff.Gen.PolyFns
import Heathcliff.Model.NTT
import Heathcliff.Proofs.GenBase

namespace HC
open HC.GenP

/-- `R.ok_bind` (Base) under this file's tag -/
theorem gs_ok_bind {α β : Type} (a : α) (f : α → R β) : ((Except.ok a : R α) >>= f) = f a := rfl

/-- the model's loop step -/
def gs_step (n shift q : Nat) (a : List Nat) (res : Array Nat) (i : Nat) : Array Nat :=
  res.setIfInBounds ((shift + i) % n) (if a.getD i 0 = 0 ∨ ((shift + i) / n) % 2 = 0 then a.getD i 0 else q - a.getD i 0)

theorem gs_and_bit (raw k : Nat) : (raw &&& 2^k = 0) ↔ (raw / 2^k) % 2 = 0 := by
  have hp : 2^k ≠ 0 := Nat.ne_of_gt (Nat.two_pow_pos k)
  rw [and_two_pow]
  by_cases h : raw / 2^k % 2 = 1
  · rw [if_pos h]; exact ⟨fun e => absurd e hp, fun e => by omega⟩
  · rw [if_neg h]; exact ⟨fun _ => by omega, fun _ => rfl⟩

/-- the body of the loop up to the write `result[index] = ..`, in front of the rest `c`: `modulus_value - x` is a checked subtraction -/
theorem gs_write {β : Type} {a res : List Nat} {i j q : Nat} (C : Prop) [Decidable C] (hi : i < a.length) (hj : j < res.length)
    (hq : a.getD i 0 ≤ q) (c : List Nat → R β) :
    (do let t1 ← GenW.idx a i
        let a3 ← (if t1 = 0 ∨ C then (do
            let t2 ← GenW.idx a i
            let a3 ← GenW.setIdx res j t2
            pure a3)
          else (do
            let t3 ← GenW.idx a i
            let t4 ← ckSub q t3
            let a3 ← GenW.setIdx res j t4
            pure a3))
        c a3) = c (res.set j (if a.getD i 0 = 0 ∨ C then a.getD i 0 else q - a.getD i 0)) := by
  by_cases h : a.getD i 0 = 0 ∨ C
  · simp only [GenW.idx_getD a hi, h, if_true, GenW.setIdx_ok res _ hj, bind, Except.bind]
  · simp only [GenW.idx_getD a hi, h, if_false, GenW.setIdx_ok res _ hj, ckSub_of_le hq, bind, Except.bind]

theorem gs_loop (a : List Nat) (k shift q : Nat) (hlen : a.length = 2^k) (hq : ∀ i, i < 2^k → a.getD i 0 ≤ q)
    (hsh : shift + 2^k < 2^64) : ∀ (fuel i : Nat) (res : Array Nat), i + fuel = 2^k → res.size = 2^k →
    poly_negacyclic_shift_loop1 a (2^k) (2^k - 1) q fuel i res.toList (shift + i)
      = .ok ((List.range' i fuel).foldl (gs_step (2^k) shift q a) res).toList := by
  intro fuel
  induction fuel with
  | zero => intro i res _ _; rfl
  | succ fuel ih =>
    intro i res hi hs
    have hlt : (shift + i) % 2^k < res.toList.length := by rw [Array.length_toList, hs]; exact Nat.mod_lt _ (Nat.two_pow_pos k)
    have hadd : ckAdd (shift + i) 1 = .ok (shift + (i + 1)) := if_pos (show shift + i + 1 < B64 by simp only [B64]; omega)
    rw [List.range'_succ, List.foldl_cons, poly_negacyclic_shift_loop1]
    simp only [Nat.and_two_pow_sub_one_eq_mod, gs_and_bit]
    rw [gs_write _ (by omega) hlt (hq i (by omega)), ← Array.toList_setIfInBounds, hadd, gs_ok_bind]
    exact ih (i + 1) _ (by omega) (by rw [Array.size_setIfInBounds]; exact hs)

/-- **`negacyclic_shift`, generated = model** for a non-zero shift, on a power-of-two length, reduced coefficients (`modulus_value - c` is a
    checked subtraction), a result buffer of zeros (what `extract_lwe` passes: `vec![0; n]`), `shift + n < 2^64` (`index_raw += 1` is checked) -/
theorem gs_negacyclic_shift_eq (a : List Nat) (k shift : Nat) (m : Modulus) (hlen : a.length = 2^k) (hsh0 : shift ≠ 0)
    (hq : ∀ i, i < 2^k → a.getD i 0 ≤ m.value) (hsh : shift + 2^k < 2^64) :
    poly_negacyclic_shift a shift m (List.replicate (2^k) 0) = .ok (negacyclicShift a.toArray shift m).toList := by
  have h2 : 0 < 2^k := Nat.two_pow_pos k
  have hsub : ckSub (2^k) 1 = .ok (2^k - 1) := ckSub_of_le h2
  have hl := gs_loop a k shift m.value hlen hq hsh (2^k) 0 (Array.replicate (2^k) 0) (by omega) (by simp)
  simp only [Array.toList_replicate, Nat.add_zero] at hl
  simp only [poly_negacyclic_shift, if_neg hsh0, List.length_replicate, hsub, gs_ok_bind, hl, negacyclicShift, List.size_toArray, hlen,
    List.range_eq_range']
  have hf : gs_step (2^k) shift m.value a = (fun (res : Array Nat) i => res.setIfInBounds ((shift + i) % 2^k)
      (if a.toArray.getD i 0 = 0 ∨ (shift + i) / 2^k % 2 = 0 then a.toArray.getD i 0 else m.value - a.toArray.getD i 0)) := by
    funext res i; simp [gs_step]
  rw [hf]

end HC
