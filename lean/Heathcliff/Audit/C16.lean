/- Audit of property C16: `#print axioms` for every property theorem of Props/C16.lean; `audit()` of tools/runner.py elaborates this file
   and compares each axiom list with the three standard axioms. -/
import Heathcliff.Props.C16
#print axioms HC.C16.fill_bytes_split
#print axioms HC.C16.fill_bytes_chunking
#print axioms HC.C16.fill_bytes_stream
#print axioms HC.C16.fill_bytes_prefix_of_blocks
#print axioms HC.C16.chunking_irrelevant
#print axioms HC.C16.generator_is_stream_cursor
#print axioms HC.C16.alignment_as_coded
#print axioms HC.C16.hamming_weight_popcount
#print axioms HC.C16.cbd_bound
#print axioms HC.C16.cbd_distribution
#print axioms HC.C16.cbd_moments
#print axioms HC.C16.rand_uniform_contract
#print axioms HC.C16.ternary_rns_consistent
#print axioms HC.C16.error_rns_consistent
#print axioms HC.C16.error_encoding_total
#print axioms HC.C16.uniform_below_modulus
#print axioms HC.C16.context_factory_uses_entropy
#print axioms HC.C16.draws_consume_fresh_entropy
#print axioms HC.C16.draws_fresh
#print axioms HC.C16.stored_seeds_fresh
#print axioms HC.C16.mask_deterministic
#print axioms HC.C16.fixed_seed_factory_repeats
#print axioms HC.C16.gen_refill_buffer_eq
#print axioms HC.C16.gen_next_u32_eq
#print axioms HC.C16.gen_next_u64_eq
#print axioms HC.C16.gen_fill_bytes_eq
#print axioms HC.C16.gen_invariants_kept
#print axioms HC.C16.gen_hamming_weight_eq
#print axioms HC.C16.gen_generator_is_stream_cursor
#print axioms HC.C16.gen_run_eq
#print axioms HC.C16.gen_fill_bytes_split
#print axioms HC.C16.gen_fill_bytes_stream
#print axioms HC.C16.gen_cbd_closure_eq
#print axioms HC.C16.gen_cbd_bound
#print axioms HC.C16.gen_centered_binomial_eq
#print axioms HC.C16.gen_centered_binomial_source_to_math
#print axioms HC.C16.flat_layout
#print axioms HC.C16.gen_ternary_source_to_math
#print axioms HC.C16.gen_ternary_eq
#print axioms HC.C16.gen_uniform_source_to_math
#print axioms HC.C16.gen_from_seed_eq
#print axioms HC.C16.gen_centered_binomial_iff
#print axioms HC.C16.gen_ternary_iff
#print axioms HC.C16.gen_uniform_iff
#print axioms HC.C16.gen_expand_seed_eq
#print axioms HC.C16.gen_expand_seed_oob
#print axioms HC.C16.gen_expand_seed_model
#print axioms HC.C16.gen_contains_seed_eq
#print axioms HC.C16.gen_expand_seed_refuses
