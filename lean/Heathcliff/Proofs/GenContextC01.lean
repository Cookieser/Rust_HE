import Heathcliff.Proofs.GenCtxConsts
import Heathcliff.Proofs.GenScalingSpec

/-!
  Composition of the two translator ties on the BFV scaling constants.  The constants GENERATED from `HeContext::validate`
  (`GenX.validate_bfv_consts`, Gen/ContextFns.lean) are exactly the context inputs under which the code GENERATED from
  `scaling_variant::multiply_add_plain` (Gen/ScalingFns.lean) adds `Δ(m) = round(Q·m/t)`: `ScalingOK` holds for them.  Helper names `gcx_`.
-/
namespace HC
open HC.GenW HC.Ctx

/-- the value list of a level's moduli -/
def gcx_vals (l : Level) : List Nat := l.qs.toList.map (·.value)

theorem gcx_scalingOK {l : Level} {cdp : Array MulOperand} {ops uhi puhi : List Nat} {fast qmt puht : Nat} {c0 u0 p0 : List Nat}
    (hw : ∀ m ∈ l.qs.toList, m.WF) (hk : 1 ≤ l.size) (ht2 : 2 ≤ l.t.value) (ht61 : l.t.value < 2^61)
    (htQ : l.t.value < prodL (gcx_vals l))
    (hgen : GenX.validate_bfv_consts l.qs.toList l.t.value (fromNat l.size (prodL (gcx_vals l))) c0 u0 p0 = .ok (ops, uhi, puhi, fast, qmt, puht))
    (hsz : l.size ≤ cdp.size)
    (hcdp : ∀ j, j < l.size → GenW.mulop_new (ops.getD j 0) (l.q j) = .ok (cdp.getD j default)) :
    ScalingOK l (prodL (gcx_vals l)) cdp ∧ puht = (l.t.value + 1) / 2 ∧ qmt = prodL (gcx_vals l) % l.t.value := by
  have hlen : (gcx_vals l).length = l.size := by unfold gcx_vals Level.size; simp
  have hq64 : ∀ q ∈ gcx_vals l, q < 2^64 := by
    intro q hq
    obtain ⟨m, hm, rfl⟩ := List.mem_map.mp hq
    have := (hw m hm).lt; omega
  have hdq : prodL (gcx_vals l) / l.t.value < prodL (gcx_vals l) := Nat.div_lt_self (by omega) (by omega)
  have hv := gcx_validate_bfv_consts_values (ms := l.qs.toList) (qs := gcx_vals l) (t := l.t.value) (c0 := c0) (u0 := u0) (p0 := p0)
    rfl hw (by omega) (by omega) (by omega) (by omega)
  rw [hlen, hgen, ← hlen, decompose_eq (fun _ => hdq) hq64] at hv
  injection hv with hv
  have hops : ops = (gcx_vals l).map (fun q => prodL (gcx_vals l) / l.t.value % q) := (Prod.mk.inj hv).1
  have hrest := (Prod.mk.inj (Prod.mk.inj (Prod.mk.inj (Prod.mk.inj hv).2).2).2).2
  refine ⟨⟨?_, ht2, ht61, hsz, ?_⟩, (Prod.mk.inj hrest).2, (Prod.mk.inj hrest).1⟩
  · intro j hj
    have hj' : j < l.qs.toList.length := by simpa [Level.size] using hj
    have : l.q j = l.qs.toList[j] := by
      unfold Level.q; rw [← array_getD_toList, list_getD_eq_getElem _ _ hj']
    rw [this]; exact hw _ (List.getElem_mem hj')
  · intro j hj
    have hj' : j < l.qs.toList.length := by simpa [Level.size] using hj
    have hqj : l.q j = l.qs.toList[j] := by
      unfold Level.q; rw [← array_getD_toList, list_getD_eq_getElem _ _ hj']
    have hwf := hw _ (List.getElem_mem hj')
    rw [← hqj] at hwf
    have hop : ops.getD j 0 = prodL (gcx_vals l) / l.t.value % (l.q j).value := by
      rw [hops, list_getD_eq_getElem _ _ (by rw [List.length_map, hlen]; exact hj), List.getElem_map]
      unfold gcx_vals; rw [List.getElem_map, hqj]
    have hy : ops.getD j 0 < (l.q j).value := by rw [hop]; exact Nat.mod_lt _ (by have := hwf.two_le; omega)
    have h61 := hwf.lt
    have hnew := hcdp j hj
    rw [gx_mulop_new_eq _ _ (by omega)] at hnew
    unfold MulOperand.new at hnew
    rw [if_neg (by have := hwf.two_le; omega)] at hnew
    have hlt : ops.getD j 0 * B64 / (l.q j).value < B64 := Nat.div_lt_of_lt_mul (Nat.mul_lt_mul_of_pos_right hy B64_pos)
    simp only [pure, Except.pure, Nat.mod_eq_of_lt hlt] at hnew
    injection hnew with hnew
    rw [← hnew]
    exact ⟨⟨hy, rfl⟩, hop⟩

/-- **from the source of `validate` to the source of `multiply_add_plain`**: with the context constants produced by the code generated from
    `HeContext::validate` (operands `ops` turned into `MultiplyU64ModOperand`s by the generated `MultiplyU64ModOperand::new`, threshold `puht`,
    remainder `qmt`), the code generated from `multiply_add_plain` adds `Δ(m_i) = round(Q·m_i/t)` modulo `q_j` to coefficient `i` of component `j` -/
theorem gcx_multiply_add_plain_with_validated_constants {l : Level} {cdp : Array MulOperand} {ops uhi puhi : List Nat} {fast qmt puht : Nat}
    {c0 u0 p0 : List Nat}
    (hw : ∀ m ∈ l.qs.toList, m.WF) (hk : 1 ≤ l.size) (ht2 : 2 ≤ l.t.value) (ht61 : l.t.value < 2^61)
    (htQ : l.t.value < prodL (gcx_vals l))
    (hgen : GenX.validate_bfv_consts l.qs.toList l.t.value (fromNat l.size (prodL (gcx_vals l))) c0 u0 p0 = .ok (ops, uhi, puhi, fast, qmt, puht))
    (hsz : l.size ≤ cdp.size)
    (hcdp : ∀ j, j < l.size → GenW.mulop_new (ops.getD j 0) (l.q j) = .ok (cdp.getD j default))
    (plain : Poly) (dest : List Nat)
    (hp : plain.size ≤ l.n) (hm : ∀ i, i < plain.size → plain.getD i 0 < l.t.value)
    (hl : dest.length = l.size * l.n) (hB : dest.length < B64)
    (hd : ∀ j, j < l.size → ∀ i, i < plain.size → dest.getD (j * l.n + i) 0 < (l.q j).value) :
    GenS.multiply_add_plain dest l.qs.toList plain.size l.n l.t cdp.toList puht qmt plain.toList =
      .ok ((List.range (l.size * l.n)).map fun p =>
        if p % l.n < plain.size then (dest.getD p 0 + deltaM (prodL (gcx_vals l)) l.t.value (plain.getD (p % l.n) 0)) % (l.q (p / l.n)).value
        else dest.getD p 0) := by
  obtain ⟨hok, h1, h2⟩ := gcx_scalingOK hw hk ht2 ht61 htQ hgen hsz hcdp
  rw [h1, h2]
  exact gen_multiply_add_plain_spec hok plain dest hp hm hl hB hd

end HC
