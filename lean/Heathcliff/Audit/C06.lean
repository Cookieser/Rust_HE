/- Audit of property C06: `#print axioms` for every property theorem of Props/C06.lean; `audit()` of tools/runner.py elaborates this file
   and compares each axiom list with the three standard axioms. -/
import Heathcliff.Props.C06
#print axioms HC.C06.forms_table_ok
#print axioms HC.C06.forms_agree
#print axioms HC.C06.forms_table_size
#print axioms HC.C06.upward_refused
#print axioms HC.C06.gen_ctValid_split
#print axioms HC.C06.gen_ct_is_metadata_valid_for_eq
#print axioms HC.C06.gen_ctValid_eq
#print axioms HC.C06.gen_ct_is_metadata_valid_for_refuses
#print axioms HC.C06.gen_ct_is_buffer_valid_eq
#print axioms HC.C06.ctValid_iff
#print axioms HC.C06.ctValid_of_CtCanon
#print axioms HC.C06.ctValid_iff_CtCanon
#print axioms HC.C06.ctValid_empty
#print axioms HC.C06.ctValid_flags
#print axioms HC.C06.ctValid_rejects_cf_t
#print axioms HC.C06.ctValid_bgv_cf_range
#print axioms HC.C06.ctNegate_valid
#print axioms HC.C06.ctNegate_preserves_valid
#print axioms HC.C06.ctTranslate_valid
#print axioms HC.C06.ctTranslate_preserves_valid
#print axioms HC.C06.ctTranslateBalanced_valid
#print axioms HC.C06.ctTranslateBalanced_preserves_valid
#print axioms HC.C06.ctTranslateBalanced_valid_prime
#print axioms HC.C06.ctMultiplyDyadic_refuse_empty
#print axioms HC.C06.ctMultiplyDyadic_valid
#print axioms HC.C06.ctMultiplyDyadic_preserves_valid
#print axioms HC.C06.ctMultiplyDyadic_size
#print axioms HC.C06.bgvMultiply_valid_iff
#print axioms HC.C06.bgvMultiply_valid
#print axioms HC.C06.bgvMultiply_preserves_valid
#print axioms HC.C06.bgvMultiply_valid_prime
#print axioms HC.C06.ctMultiplyPlainNtt_valid
#print axioms HC.C06.ctMultiplyPlainNtt_preserves_valid
#print axioms HC.C06.bgvMultiply_valid_needs_unit
#print axioms HC.C06.ctTranslateBalanced_refuses_valid
#print axioms HC.C06.ctTranslateBalanced_valid_nonunit_result
#print axioms HC.C06.modSwitchDropNext_valid
#print axioms HC.C06.modSwitchDropNext_preserves_valid
#print axioms HC.C06.modSwitchScaleNext_bfv_valid
#print axioms HC.C06.modSwitchScaleNext_ckks_valid
#print axioms HC.C06.modSwitchScaleNext_bgv_valid_closed
#print axioms HC.C06.modSwitchScaleNext_bgv_valid_iff
#print axioms HC.C06.modSwitchScaleNext_bgv_valid
#print axioms HC.C06.modSwitchScaleNext_bgv_valid_prime
#print axioms HC.C06.modSwitchScaleNext_preserves_valid
#print axioms HC.C06.modSwitchScaleNext_preserves_valid_closed
#print axioms HC.C06.ctTranslateBalanced_refuse_ntt
#print axioms HC.C06.evaluator_refusals
#print axioms HC.C06.ctNegate_does_not_validate
#print axioms HC.C06.switchKey_valid
#print axioms HC.C06.switchKey_preserves_valid
#print axioms HC.C06.relinearize_valid
#print axioms HC.C06.applyGalois_valid
#print axioms HC.C06.bfvMultiply_shape_of_ok
#print axioms HC.C06.bfvMultiply_valid_iff_canon
#print axioms HC.C06.multiply_relinearize_drop_valid
#print axioms HC.C06.ctResizeRefuses_eq_false_iff
#print axioms HC.C06.ctMultiplyDyadic_refuse_oversize
#print axioms HC.C06.bgvMultiply_refuse_oversize
#print axioms HC.C06.bfvMultiply_refuse_size
#print axioms HC.C06.ctMultiplyDyadic_valid_or_refused
#print axioms HC.C06.ctMultiplyDyadic_refused_iff
#print axioms HC.C06.bgvMultiply_valid_or_refused
#print axioms HC.C06.bfvMultiply_valid
#print axioms HC.C06.bfvMultiply_valid_or_refused
#print axioms HC.C06.gen_multiply_plain_plan_eq
#print axioms HC.C06.gen_multiply_plain_plan_refuses
#print axioms HC.C06.gen_runPlainPlan
#print axioms HC.C06.gen_multiply_plain_ntt_eq
#print axioms HC.C06.gen_multiply_plain_ntt_refuses
#print axioms HC.C06.gen_multiply_plain_normal_plan_eq
