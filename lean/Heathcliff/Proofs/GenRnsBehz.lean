import Heathcliff.Proofs.GenRnsConvert
import Heathcliff.Proofs.GenPolyRns

/-!
  The BEHZ routines of `RNSTool` (src/util/rns.rs) as generated into `Gen/RnsFns.lean` EQUAL the hand model on the flat layout, and END TO END with the
  C10 theorems: `sm_mrq` (small Montgomery reduction), `fast_floor`, `fastbconv_sk` (Shenoy–Kumaresan: exact in its window), `fastbconv_m_tilde`
  (it calls `polymod::multiply_scalar_p` of `Gen/PolyFns.lean`, bridged to component lists by `gr_msp_list`).  The calls of a conversion are the GENERATED
  `fast_convert_array` on the fields of the model's converter (`gr_convF`), each writing the destination or a sub-slice of it.
-/
namespace HC
open HC.GenW HC.GenR

/-! ### `RNSTool::sm_mrq` (Montgomery reduction mod q in base Bsk ∪ {m̃}; separate destination buffer) -/

/-- one coefficient of `sm_mrq`: centred r_m̃ (checked `+= b − m̃`), `(temp·[q]_b + x)·m̃⁻¹ mod b` -/
def gr_smElt (b mt : Modulus) (half : Nat) (pq inv : MulOperand) (rm x : Nat) : R Nat :=
  (if rm ≥ half then (ckSub b.value mt.value >>= fun d => ckAdd rm d) else pure rm) >>= fun temp =>
  mulOperandAddMod temp pq x b >>= fun u => mulOperandMod u inv b

def gr_smComp (b mt : Modulus) (half pqv : Nat) (inv : MulOperand) (rmt xi : List Nat) : R (List Nat) :=
  MulOperand.new pqv b >>= fun pq => (List.range' 0 rmt.length).mapM (fun j => gr_smElt b mt half pq inv (rmt.getD j 0) (xi.getD j 0))

/-- the inner loop of `sm_mrq` (`for j in 0..n` inside `for i`): component `i` of the destination := `gr_smElt` of the m̃ residues and of input component `i`, coefficient by coefficient -/
theorem gr_sm_loop2 (inp : List (List Nat)) (ds : List (List Nat)) (sB n i half : Nat) (rmt : List Nat) (b mt : Modulus) (pq : MulOperand) (invs : List MulOperand)
    (hi : i < sB) (hsn : (sB + 1) * n < 2^64) (hinp : inp.length = sB + 1) (hin : ∀ c ∈ inp, c.length = n)
    (hds : ds.length = sB) (hdn : ∀ c ∈ ds, c.length = n) (hr : rmt.length = n) (hinv : sB ≤ invs.length) :
    GenR.sm_mrq_loop2 inp.flatten n half rmt i b pq mt invs n 0 ds.flatten
      = ((List.range' 0 n).mapM (fun j => gr_smElt b mt half pq (invs.getD i default) (rmt.getD j 0) ((inp.getD i []).getD j 0))
          >>= fun d => .ok (ds.set i d).flatten) := by
  refine gr_coefloop (GenR.sm_mrq_loop2 inp.flatten n half rmt i b pq mt invs)
    (fun j _ => gr_smElt b mt half pq (invs.getD i default) (rmt.getD j 0) ((inp.getD i []).getD j 0)) n i ds hdn (by omega) (fun _ _ => rfl) ?_
  intro k j l hj hjn _ _
  have hrj : j < rmt.length := by omega
  obtain ⟨e1, e2, e3⟩ := gr_read_ok n inp hin (show i < inp.length by omega) hjn (by rw [hinp]; exact hsn)
  have e4 := gr_idxOp_ok invs i default (by omega)
  rw [GenR.sm_mrq_loop2]
  simp only [e1, e2, e3, e4, GenW.idx_ok _ hrj, list_getD_eq_getElem _ 0 hrj, R.ok_bind, gw_multiply_u64operand_add_u64_mod_eq,
    gw_multiply_u64operand_mod_eq, GenW.setIdx_ok _ _ hj]
  unfold gr_smElt
  by_cases hge : rmt[j] ≥ half
  · simp only [if_pos hge, bind_assoc, gr_pure]
  · simp only [if_neg hge, bind_assoc, gr_pure, R.ok_bind]

theorem gr_sm_loop (inp : List (List Nat)) (bs : List Modulus) (pqs : List Nat) (invs : List MulOperand) (mt : Modulus) (sB n half : Nat) (rmt : List Nat)
    (hbs : bs.length = sB) (hpq : pqs.length = sB) (hpqw : ∀ x ∈ pqs, x < 2^64) (hinv : sB ≤ invs.length)
    (hsn : (sB + 1) * n < 2^64) (hinp : inp.length = sB + 1) (hin : ∀ c ∈ inp, c.length = n) (hr : rmt.length = n) :
    ∀ k i (ds : List (List Nat)), i + k = sB → ds.length = sB → (∀ c ∈ ds, c.length = n) →
      GenR.sm_mrq_loop1 inp.flatten sB n half rmt bs pqs mt invs k i ds.flatten
        = (gr_foldM (fun i _ => gr_smComp (bs.getD i gr_dflt) mt half (pqs.getD i 0) (invs.getD i default) rmt (inp.getD i [])) k i ds
            >>= fun ds' => .ok ds'.flatten) := by
  intro k
  induction k with
  | zero => intro i ds _ _ _; rfl
  | succ k ih =>
    intro i ds hik hds hdn
    have e1 := gr_idxMod_ok bs i gr_dflt (by omega)
    have hpi : i < pqs.length := by omega
    have e2 : GenW.idx pqs i = .ok (pqs.getD i 0) := by rw [GenW.idx_ok _ hpi, list_getD_eq_getElem _ 0 hpi]
    have e3 := gx_mulop_new_eq _ (bs.getD i gr_dflt) (list_getD_lt_of_forall hpqw (by norm_num) i)
    rw [GenR.sm_mrq_loop1, gr_foldM, gr_smComp, hr]
    simp only [e1, e2, e3, R.ok_bind, bind_assoc]
    refine R.bind_congr _ fun pq _ => ?_
    rw [gr_sm_loop2 inp ds sB n i half rmt (bs.getD i gr_dflt) mt pq invs (by omega) hsn hinp hin hds hdn hr hinv, bind_assoc]
    refine R.bind_congr _ fun d hm => ?_
    rw [R.ok_bind]
    exact ih (i+1) _ (by omega) (by rw [List.length_set]; exact hds)
      (gr_set_length_mem n ds i d hdn (by rw [R.mapM_length hm, List.length_range']))

/-- the generated `sm_mrq` on flat buffers: input `sB + 1` components (the last one mod m̃), destination `sB` components (old contents irrelevant) -/
theorem gr_sm_list (inp ds : List (List Nat)) (bs : List Modulus) (pqs : List Nat) (invs : List MulOperand) (mt : Modulus) (ninv : MulOperand) (sB n : Nat)
    (hbs : bs.length = sB) (hpq : pqs.length = sB) (hpqw : ∀ x ∈ pqs, x < 2^64) (hinv : sB ≤ invs.length)
    (hsn : (sB + 1) * n < 2^64) (hs64 : sB + 1 < 2^64) (hinp : inp.length = sB + 1) (hin : ∀ c ∈ inp, c.length = n)
    (hds : ds.length = sB) (hdn : ∀ c ∈ ds, c.length = n) :
    GenR.sm_mrq inp.flatten ds.flatten sB bs n mt ninv pqs invs =
      ((List.range' 0 sB).mapM (fun i => gr_smComp (bs.getD i gr_dflt) mt (mt.value / 2) (pqs.getD i 0) (invs.getD i default)
          ((inp.getD sB []).map (fun x => mulOpV x ninv mt)) (inp.getD i [])) >>= fun outs => .ok outs.flatten) := by
  have hlastlen : (inp.getD sB []).length = n := hin _ (list_getD_mem [] (by omega))
  obtain ⟨e1, e2, e3⟩ := gr_bounds_ok (n := n) (show sB < sB + 1 by omega) hsn hs64
  have e4 := gr_slice_flat n inp sB hin (by omega)
  have e5 : GenR.multiply_operand (inp.getD sB []) ninv mt (List.replicate n 0) = .ok ((inp.getD sB []).map (fun x => mulOpV x ninv mt)) := by
    rw [gr_multiply_operand_eq _ _ _ _ (by rw [List.length_replicate, hlastlen])]
    exact R.mapM_ok _ _ _ (fun x _ => gr_mulOperandMod _ _ _)
  unfold GenR.sm_mrq
  simp only [e1, e2, e3, e4, e5, gr_half_eq, R.ok_bind]
  rw [gr_sm_loop inp bs pqs invs mt sB n _ _ hbs hpq hpqw hinv hsn hinp hin (by rw [List.length_map, hlastlen]) sB 0 ds (by omega) hds hdn,
    gr_foldM_all _ sB ds hds (fun _ _ _ _ _ => rfl)]

/-- **`RNSTool::sm_mrq` (generated from src/util/rns.rs) = the hand model**: input = flat buffer of the `|Bsk| + 1` components (last one mod m̃),
    destination = any flat buffer of `|Bsk|` components (its old contents are irrelevant).  All checked operations of the routine (the operand set-up
    `MultiplyU64ModOperand::new`, `temp += b − m̃`, the multiply-add) trap on both sides alike: no well-formedness hypotheses. -/
theorem gr_sm_mrq_eq (r : RNSTool) (p d : RnsPoly)
    (hp1 : p.size = r.baseBsk.size + 1) (hp2 : ∀ i, i < r.baseBsk.size + 1 → (p.getD i #[]).size = r.n)
    (hd1 : d.size = r.baseBsk.size) (hd2 : ∀ i, i < r.baseBsk.size → (d.getD i #[]).size = r.n)
    (hpq : r.prodQModBsk.size = r.baseBsk.size) (hpqw : ∀ x ∈ r.prodQModBsk, x < 2^64) (hinv : r.baseBsk.size ≤ r.invMtModBsk.size)
    (hsn : (r.baseBsk.size + 1) * r.n < 2^64) (hs64 : r.baseBsk.size + 1 < 2^64) :
    GenR.sm_mrq (flatP p) (flatP d) r.baseBsk.size r.baseBsk.base.toList r.n r.mTilde r.negInvProdQModMt r.prodQModBsk.toList r.invMtModBsk.toList
      = (r.smMrq p).map flatP := by
  obtain ⟨hcs, hn⟩ := gr_shape_cs' hp1 hp2
  obtain ⟨hds, hdn⟩ := gr_shape_cs' hd1 hd2
  rw [flatP, flatP, gr_sm_list _ _ r.baseBsk.base.toList r.prodQModBsk.toList r.invMtModBsk.toList r.mTilde r.negInvProdQModMt r.baseBsk.size r.n
    (by simp [RNSBase.size]) (by simpa using hpq) (by intro x hx; exact hpqw x (by simpa using hx)) (by simpa using hinv) hsn hs64 hcs hn hds hdn]
  unfold RNSTool.smMrq
  dsimp only
  rw [gr_mapM'_mulOp, R.ok_bind]
  simp only [pure, Except.pure]
  rw [gr_rows_tie₀ (row := fun i => gr_smComp (r.baseBsk.q i) r.mTilde (r.mTilde.value / 2) (r.prodQModBsk.getD i 0)
      (r.invMtModBsk.getD i default) ((p.getD r.baseBsk.size #[]).toList.map (fun x => mulOpV x r.negInvProdQModMt r.mTilde)) (p.getD i #[]).toList) (fun i _ => by
    rw [gr_smComp, bind_assoc]
    refine R.bind_congr _ fun pq _ => ?_
    rw [gr_zipM'_eq]
    simp only [List.size_toArray, List.length_map, Array.length_toList]
    refine congrArg (fun m => m >>= _) (R.mapM_congr fun j _ => ?_)
    unfold gr_smElt
    split
    · simp only [bind_assoc]
    · rfl)]
  simp only [gr_baseq_toList, gr_cs_getD, gr_ops_toList, array_getD_toList _ _ 0]

/-- **END TO END (BEHZ small Montgomery reduction)**: the function generated from the Rust source of `RNSTool::sm_mrq`, run on the flat buffer of a polynomial
    whose coefficient `j` holds residues of an integer `Y j` modulo every `b_i ∈ Bsk` and modulo m̃, writes at position `i·n + j` of ANY destination buffer
    `((Y_j + q·r_j)/m̃) mod b_i`, where `r_j ∈ [−m̃/2, m̃/2)` is the centred representative of `−Y_j·q⁻¹ mod m̃` and `m̃ ∣ Y_j + q·r_j`
    (composition of `gr_sm_mrq_eq` with the C10 theorems `smMrq_ent` and `smMrq_scalar`) -/
theorem gr_sm_mrq_montgomery (r : RNSTool) (p d : RnsPoly) (Y : Nat → Int) (q : Nat)
    (hp1 : p.size = r.baseBsk.size + 1) (hp2 : ∀ i, i < r.baseBsk.size + 1 → (p.getD i #[]).size = r.n)
    (hd1 : d.size = r.baseBsk.size) (hd2 : ∀ i, i < r.baseBsk.size → (d.getD i #[]).size = r.n)
    (hpq : r.prodQModBsk.size = r.baseBsk.size) (hinvs : r.baseBsk.size ≤ r.invMtModBsk.size)
    (hsn : (r.baseBsk.size + 1) * r.n < 2^64) (hs64 : r.baseBsk.size + 1 < 2^64)
    (hmt : r.mTilde.WF) (hneg : WFOp r.mTilde r.negInvProdQModMt)
    (hb : ∀ i, i < r.baseBsk.size → (r.baseBsk.q i).WF ∧ r.mTilde.value ≤ (r.baseBsk.q i).value ∧
      r.prodQModBsk.getD i 0 < (r.baseBsk.q i).value ∧ WFOp (r.baseBsk.q i) (r.invMtModBsk.getD i default))
    (hc : ∀ i j, i ≤ r.baseBsk.size → j < r.n → (p.getD i #[]).getD j 0 < 2^64)
    (hq : ∀ i, i < r.baseBsk.size → ((r.prodQModBsk.getD i 0 : Nat) : Int) ≡ q [ZMOD (r.baseBsk.q i).value])
    (hinv : ∀ i, i < r.baseBsk.size → ((r.invMtModBsk.getD i default).operand * r.mTilde.value) % (r.baseBsk.q i).value = 1)
    (hnq : (r.negInvProdQModMt.operand * q + 1) % r.mTilde.value = 0)
    (hY : ∀ i j, i < r.baseBsk.size → j < r.n → (((p.getD i #[]).getD j 0 : Nat) : Int) ≡ Y j [ZMOD (r.baseBsk.q i).value])
    (hYm : ∀ j, j < r.n → (((p.getD r.baseBsk.size #[]).getD j 0 : Nat) : Int) ≡ Y j [ZMOD r.mTilde.value]) :
    ∃ out, GenR.sm_mrq (flatP p) (flatP d) r.baseBsk.size r.baseBsk.base.toList r.n r.mTilde r.negInvProdQModMt r.prodQModBsk.toList r.invMtModBsk.toList
        = .ok out ∧
      ∀ i j, i < r.baseBsk.size → j < r.n →
        let rm := ((p.getD r.baseBsk.size #[]).getD j 0 * r.negInvProdQModMt.operand) % r.mTilde.value
        let rmc : Int := if rm ≥ r.mTilde.value / 2 then (rm : Int) - r.mTilde.value else rm
        (r.mTilde.value : Int) ∣ Y j + q * rmc ∧
        ((out.getD (i * r.n + j) 0 : Nat) : Int) = ((Y j + q * rmc) / r.mTilde.value) % (r.baseBsk.q i).value := by
  have hpqw : ∀ x ∈ r.prodQModBsk, x < 2^64 := by
    apply mem_lt_of_getD
    intro i hi
    rw [hpq] at hi
    have := (hb i hi).2.2.1
    have := (hb i hi).1.lt
    omega
  obtain ⟨out, hok, hsz, hv⟩ := smMrq_ent hmt hneg hb (hp2 _ (by omega)) hc
  obtain ⟨hg, hrd⟩ := gr_read (gr_sm_mrq_eq r p d hp1 hp2 hd1 hd2 hpq hpqw hinvs hsn hs64) hok (Nat.le_of_eq hsz.symm) (fun i hi => (hv i hi).1)
  refine ⟨_, hg, fun i j hi hj => ?_⟩
  rw [hrd i j hi hj, (hv i hi).2 j hj]
  obtain ⟨h1, h2, -⟩ := smMrq_scalar (hb i hi).2.1 (hq i hi) (hinv i hi) hnq (hY i j hi hj) (hYm j hj)
  exact ⟨h1, h2⟩

/-! ### `RNSTool::fast_floor` (the conversion q → Bsk is an abstract function input `F`; the correction loop rewrites the destination in place) -/

/-- one coefficient of `fast_floor`: `(x + (b − d)) · q⁻¹ mod b` with the checked `b − d`, `x + …` -/
def gr_ffElt (b : Modulus) (inv : MulOperand) (x d : Nat) : R Nat :=
  ckSub b.value d >>= fun nd => ckAdd x nd >>= fun s => mulOperandMod s inv b

/-- the inner loop of the correction of `fast_floor`: component `i` of the destination is rewritten in place, coefficient by coefficient, with `gr_ffElt` of input component `i` and its old value -/
theorem gr_ff_loop2 (in2 cs : List (List Nat)) (sB n i : Nat) (bs : List Modulus) (invs : List MulOperand)
    (hi : i < sB) (hsn : sB * n < 2^64) (hin2 : in2.length = sB) (hin : ∀ c ∈ in2, c.length = n)
    (hcs : cs.length = sB) (hcn : ∀ c ∈ cs, c.length = n) (hbs : bs.length = sB) (hinv : sB ≤ invs.length) :
    GenR.fast_floor_loop2 in2.flatten n i bs invs n 0 cs.flatten
      = ((List.range' 0 n).mapM (fun j => gr_ffElt (bs.getD i gr_dflt) (invs.getD i default) ((in2.getD i []).getD j 0) ((cs.getD i []).getD j 0))
          >>= fun d => .ok (cs.set i d).flatten) := by
  refine gr_coefloop (GenR.fast_floor_loop2 in2.flatten n i bs invs)
    (fun j old => gr_ffElt (bs.getD i gr_dflt) (invs.getD i default) ((in2.getD i []).getD j 0) old) n i cs hcn (hcs.symm ▸ hi) (fun _ _ => rfl) ?_
  intro k j l hl hj _ _
  obtain ⟨e1, e2, e3⟩ := gr_read_ok n in2 hin (hin2.symm ▸ hi) hj (hin2.symm ▸ hsn)
  rw [GenR.fast_floor_loop2]
  simp only [e1, e2, e3, gr_idxMod_ok bs i gr_dflt (hbs.symm ▸ hi), gr_idxOp_ok invs i default (Nat.lt_of_lt_of_le hi hinv), GenW.idx_ok _ hl,
    gw_multiply_u64operand_mod_eq, gr_mulOperandMod, R.ok_bind]
  unfold gr_ffElt
  simp only [gr_mulOperandMod, bind_assoc]
  refine R.bind_congr _ fun nd _ => R.bind_congr _ fun s _ => ?_
  rw [R.ok_bind, GenW.setIdx_ok _ _ hl, R.ok_bind]

def gr_ffComp (b : Modulus) (inv : MulOperand) (n : Nat) (xi ci : List Nat) : R (List Nat) :=
  (List.range' 0 n).mapM (fun j => gr_ffElt b inv (xi.getD j 0) (ci.getD j 0))

theorem gr_ff_loop (in2 : List (List Nat)) (sB n : Nat) (bs : List Modulus) (invs : List MulOperand)
    (hsn : sB * n < 2^64) (hin2 : in2.length = sB) (hin : ∀ c ∈ in2, c.length = n) (hbs : bs.length = sB) (hinv : sB ≤ invs.length) :
    ∀ k i (cs : List (List Nat)), i + k = sB → cs.length = sB → (∀ c ∈ cs, c.length = n) →
      GenR.fast_floor_loop1 in2.flatten sB n bs invs k i cs.flatten
        = (gr_foldM (fun i cs => gr_ffComp (bs.getD i gr_dflt) (invs.getD i default) n (in2.getD i []) (cs.getD i [])) k i cs >>= fun cs' => .ok cs'.flatten) := by
  intro k
  induction k with
  | zero => intro i cs _ _ _; rfl
  | succ k ih =>
    intro i cs hik hcs hcn
    rw [GenR.fast_floor_loop1, gr_foldM, gr_ff_loop2 in2 cs sB n i bs invs (by omega) hsn hin2 hin hcs hcn hbs hinv, gr_ffComp]
    simp only [bind_assoc, R.ok_bind]
    refine R.bind_congr _ fun d hm => ?_
    exact ih (i + 1) (cs.set i d) (by omega) (by rw [List.length_set]; exact hcs)
      (gr_set_length_mem n cs i d hcn (by rw [R.mapM_length hm, List.length_range']))

/-- the generated `fast_floor` on flat buffers (`sq + sB` input components, `sB` destination components); `F` = the q → Bsk conversion -/
theorem gr_ff_list (inp ds : List (List Nat)) (sq sB n : Nat) (bs : List Modulus) (invs : List MulOperand) (F : List Nat → List Nat → R (List Nat))
    (hinp : inp.length = sq + sB) (hin : ∀ c ∈ inp, c.length = n) (hbs : bs.length = sB) (hinv : sB ≤ invs.length)
    (hsn : (sq + sB) * n < 2^64) :
    (∀ e, F (inp.take sq).flatten ds.flatten = .error e → GenR.fast_floor inp.flatten ds.flatten sq sB n bs invs F = .error e) ∧
    (∀ conv : List (List Nat), conv.length = sB → (∀ c ∈ conv, c.length = n) → F (inp.take sq).flatten ds.flatten = .ok conv.flatten →
      GenR.fast_floor inp.flatten ds.flatten sq sB n bs invs F =
        ((List.range' 0 sB).mapM (fun i => gr_ffComp (bs.getD i gr_dflt) (invs.getD i default) n (inp.getD (sq + i) []) (conv.getD i []))
          >>= fun outs => .ok outs.flatten)) := by
  have h1 : sq * n ≤ (sq + sB) * n := Nat.mul_le_mul_right n (by omega)
  have h2 : sB * n ≤ (sq + sB) * n := Nat.mul_le_mul_right n (by omega)
  have e1 : ckMul sq n = .ok (sq * n) := ckMul_ok (by rw [B64_eq]; omega)
  have e2 := gr_slice_take n inp sq hin (by omega)
  have e3 := gr_slice_drop n inp sq hin (by omega)
  constructor
  · intro e he
    unfold GenR.fast_floor
    simp only [e1, e2, he, R.ok_bind, gr_err_bind]
  · intro conv hc1 hc2 hF
    unfold GenR.fast_floor
    simp only [e1, e2, e3, hF, R.ok_bind]
    rw [gr_ff_loop (inp.drop sq) sB n bs invs (by omega) (by rw [List.length_drop, hinp]; omega) (fun c hc => hin c (List.mem_of_mem_drop hc)) hbs hinv
        sB 0 conv (by omega) hc1 hc2,
      gr_foldM_all _ sB conv hc1 (fun i a b _ h => by simp only [h i (Nat.le_refl i)]),
      R.mapM_congr (g := fun i => gr_ffComp (bs.getD i gr_dflt) (invs.getD i default) n (inp.getD (sq + i) []) (conv.getD i [])) (fun i _ => by
        rw [List.getD_eq_getElem?_getD (l := inp.drop sq), List.getElem?_drop, ← List.getD_eq_getElem?_getD])]

/-- **`RNSTool::fast_floor` (generated from src/util/rns.rs) = the hand model `RNSTool.fastFloor`**; input = flat buffer of the `|q| + |Bsk|` components,
    destination = any flat buffer of `|Bsk|` components; the call `self.base_q_to_Bsk_conv.fast_convert_array(..)` is the generated `fast_convert_array`
    on the fields of the model's `qToBsk`.  The correction loop (`b − dest`, `input + …`) traps on both sides alike. -/
theorem gr_fast_floor_eq (r : RNSTool) (p d : RnsPoly)
    (hc : gr_ConvOK r.qToBsk r.baseQ.size r.baseBsk.size)
    (hp1 : p.size = r.baseQ.size + r.baseBsk.size) (hp2 : ∀ i, i < r.baseQ.size + r.baseBsk.size → (p.getD i #[]).size = r.n)
    (hw : ∀ i j, i < r.baseQ.size → j < r.n → (p.getD i #[]).getD j 0 < 2^64)
    (hd1 : d.size = r.baseBsk.size) (hd2 : ∀ i, i < r.baseBsk.size → (d.getD i #[]).size = r.n)
    (hinv : r.baseBsk.size ≤ r.invProdQModBsk.size) (hsn : (r.baseQ.size + r.baseBsk.size) * r.n < 2^64) :
    GenR.fast_floor (flatP p) (flatP d) r.baseQ.size r.baseBsk.size r.n r.baseBsk.base.toList r.invProdQModBsk.toList (gr_convF r.qToBsk)
      = (r.fastFloor p).map flatP := by
  obtain ⟨hcs, hn⟩ := gr_shape_cs' hp1 hp2
  have hle1 : r.baseQ.size * r.n ≤ (r.baseQ.size + r.baseBsk.size) * r.n := Nat.mul_le_mul_right _ (by omega)
  have hle2 : r.baseBsk.size * r.n ≤ (r.baseQ.size + r.baseBsk.size) * r.n := Nat.mul_le_mul_right _ (by omega)
  obtain ⟨convA, hmodel, hF, hA1, hA2⟩ := gr_convF_take_ok hc p d r.n (by omega) (fun i hi => hp2 i (by omega)) hw hd1 hd2 (by omega) (by omega)
  obtain ⟨hvs, hvn⟩ := gr_shape_cs' hA1 hA2
  rw [flatP, flatP, (gr_ff_list (p.toList.map Array.toList) (d.toList.map Array.toList) r.baseQ.size r.baseBsk.size r.n r.baseBsk.base.toList
      r.invProdQModBsk.toList (gr_convF r.qToBsk) hcs hn (by simp [RNSBase.size]) (by simpa using hinv) hsn).2 (convA.toList.map Array.toList) hvs hvn hF]
  unfold RNSTool.fastFloor
  dsimp only
  rw [hmodel, R.ok_bind]
  simp only [pure, Except.pure]
  rw [gr_rows_tie₀ (row := fun i => gr_ffComp (r.baseBsk.q i) (r.invProdQModBsk.getD i default) r.n (p.getD (r.baseQ.size + i) #[]).toList
      (convA.getD i #[]).toList) (fun i hi' => by rw [gr_zipM'_eq, hp2 _ (by omega)]; rfl)]
  simp only [gr_baseq_toList, gr_cs_getD, gr_ops_toList]

/-- **END TO END (BEHZ fast floor)**: the input holds, for coefficient `j`, the residues of `Y j` in base `q` (as the canonical residues of `Y j mod Q`) and in
    base `Bsk`; the function generated from the Rust source of `RNSTool::fast_floor` writes at position `i·n + j` of ANY destination buffer
    `(⌊Y_j/Q⌋ − α_j) mod b_i` with ONE `α_j ∈ [0, |q|)` for all `b_i ∈ Bsk` (the overshoot of the fast conversion) -/
theorem gr_fast_floor_floor (r : RNSTool) (p d : RnsPoly) (Y : Nat → Int)
    (hQ : r.baseQ.WF) (hBsk : r.baseBsk.WF) (hc : BaseConverter.new r.baseQ r.baseBsk = .ok r.qToBsk)
    (hp1 : p.size = r.baseQ.size + r.baseBsk.size) (hp2 : ∀ i, i < r.baseQ.size + r.baseBsk.size → (p.getD i #[]).size = r.n)
    (hd1 : d.size = r.baseBsk.size) (hd2 : ∀ i, i < r.baseBsk.size → (d.getD i #[]).size = r.n)
    (hinvs : r.baseBsk.size ≤ r.invProdQModBsk.size) (hsn : (r.baseQ.size + r.baseBsk.size) * r.n < 2^64)
    (hinv : ∀ i, i < r.baseBsk.size → WFOp (r.baseBsk.q i) (r.invProdQModBsk.getD i default) ∧
      ((r.invProdQModBsk.getD i default).operand * r.baseQ.prod) % (r.baseBsk.q i).value = 1)
    (hq : ∀ i j, i < r.baseQ.size → j < r.n → (p.getD i #[]).getD j 0 < 2^64 ∧
      (((p.getD i #[]).getD j 0 : Nat) : Int) ≡ Y j [ZMOD (r.baseQ.q i).value])
    (hb : ∀ i j, i < r.baseBsk.size → j < r.n → (p.getD (r.baseQ.size + i) #[]).getD j 0 + (r.baseBsk.q i).value < 2^64 ∧
      (((p.getD (r.baseQ.size + i) #[]).getD j 0 : Nat) : Int) ≡ Y j [ZMOD (r.baseBsk.q i).value]) :
    ∃ out, GenR.fast_floor (flatP p) (flatP d) r.baseQ.size r.baseBsk.size r.n r.baseBsk.base.toList r.invProdQModBsk.toList (gr_convF r.qToBsk) = .ok out ∧
      ∀ j, j < r.n → ∃ alpha : Nat, alpha < r.baseQ.size ∧ ∀ i, i < r.baseBsk.size →
        ((out.getD (i * r.n + j) 0 : Nat) : Int) = (Y j / r.baseQ.prod - alpha) % (r.baseBsk.q i).value := by
  have hb0 : ∀ i, i < r.baseBsk.size → 0 < (r.baseBsk.q i).value := fun i hi' => Nat.lt_of_lt_of_le Nat.zero_lt_two (hBsk.mwf i hi').two_le
  have hexg : ∀ i, i < r.baseQ.size → (p.extract 0 r.baseQ.size).getD i #[] = p.getD i #[] := fun i hi' => array_getD_extract p #[] (by omega) hi'
  obtain ⟨convA, hmodel, -, hcv⟩ := fastConvertArray_ent hQ hBsk hc (p.extract 0 r.baseQ.size) r.n (by simp; omega)
    (by intro i j hi' hj; rw [hexg i hi']; exact (hq i j hi' hj).1)
  have hcv' : ∀ i j, i < r.baseBsk.size → j < r.n →
      (convA.getD i #[]).getD j 0 = c02w_crtSum r.baseQ (fun i' => (p.getD i' #[]).getD j 0) % (r.baseBsk.q i).value :=
    fun i j hi' hj => ((hcv i hi').2 j hj).trans
      (congrArg (· % (r.baseBsk.q i).value) (c02w_crtSum_congr _ fun i' hi'' => by rw [hexg i' hi'']))
  obtain ⟨out, hok, hsz, hv⟩ := fastFloor_ent hmodel (fun i hi' => ⟨hBsk.mwf i hi', (hinv i hi').1⟩) (fun i hi' => hp2 _ (by omega))
    (fun i j hi' hj => (hb i j hi' hj).1)
    (fun i j hi' hj => by rw [hcv' i j hi' hj]; exact Nat.le_of_lt (Nat.mod_lt _ (hb0 i hi')))
  obtain ⟨hg, hrd⟩ := gr_read (gr_fast_floor_eq r p d (gr_convOK_new hQ hBsk hc) hp1 hp2 (fun i j hi' hj => (hq i j hi' hj).1) hd1 hd2 hinvs hsn)
    hok (Nat.le_of_eq hsz.symm) (fun i hi' => (hv i hi').1)
  refine ⟨_, hg, fun j hj => ?_⟩
  obtain ⟨al, hal, hfl⟩ := fastFloor_int hQ (fun i hi' => ⟨hb0 i hi', (hinv i hi').2⟩) (fun i => (p.getD i #[]).getD j 0)
    (fun i => (p.getD (r.baseQ.size + i) #[]).getD j 0) (Y j) (fun i hi' => (hq i j hi' hj).2) (fun i hi' => (hb i j hi' hj).2)
  refine ⟨al, hal, fun i hi' => ?_⟩
  rw [hrd i j hi' hj, (hv i hi').2 j hj]
  beta_reduce
  rw [hcv' i j hi' hj]
  exact hfl i hi'

/-!
  List level: `RNSTool::fastbconv_sk` (Shenoy–Kumaresan conversion Bsk → q, src/util/rns.rs) as generated into
  `Heathcliff/Gen/RnsFns.lean`: two conversions (abstract function inputs), the α_sk loop into a scratch vector, the correction loop that rewrites the
  destination in place through an element borrow (`let dest = &mut destination[i * coeff_count + j]`).
-/

/-- α_sk of one coefficient: `(temp + (m_sk − x_sk)) · B⁻¹ mod m_sk` with the checked `−`, `+` -/
def gr_skAlpha (msk : Modulus) (inv : MulOperand) (tv x : Nat) : R Nat :=
  ckSub msk.value x >>= fun d => ckAdd tv d >>= fun s => mulOperandMod s inv msk

/-- one coefficient of the correction: `a` = α_sk, `d` = the converted value -/
def gr_skElt (b msk : Modulus) (pb npb : MulOperand) (half a d : Nat) : R Nat :=
  if a > half then (negateMod a msk >>= fun na => mulOperandAddMod na pb d b) else mulOperandAddMod a npb d b

/-- one component of the correction (the two `MultiplyU64ModOperand::new` may trap) -/
def gr_skComp (b msk : Modulus) (pqv half n : Nat) (alpha ci : List Nat) : R (List Nat) :=
  MulOperand.new pqv b >>= fun pb => ckSub b.value pqv >>= fun v => MulOperand.new v b >>= fun npb =>
    (List.range' 0 n).mapM (fun j => gr_skElt b msk pb npb half (alpha.getD j 0) (ci.getD j 0))

/-- the innermost loop of `fastbconv_sk`: component `i` of the destination is rewritten in place with `gr_skElt` of `α_sk` and its old value -/
theorem gr_sk_loop3 (cs : List (List Nat)) (sq n i half : Nat) (alpha : List Nat) (b msk : Modulus) (pb npb : MulOperand)
    (hi : i < sq) (hsn : sq * n < 2^64) (hcs : cs.length = sq) (hcn : ∀ c ∈ cs, c.length = n) (ha : alpha.length = n) :
    GenR.fastbconv_sk_loop3 n alpha half i b pb npb msk n 0 cs.flatten
      = ((List.range' 0 n).mapM (fun j => gr_skElt b msk pb npb half (alpha.getD j 0) ((cs.getD i []).getD j 0))
          >>= fun d => .ok (cs.set i d).flatten) := by
  refine gr_coefloop (GenR.fastbconv_sk_loop3 n alpha half i b pb npb msk) (fun j old => gr_skElt b msk pb npb half (alpha.getD j 0) old) n i cs hcn
    (hcs.symm ▸ hi) (fun _ _ => rfl) ?_
  intro k j l hl hj _ _
  obtain ⟨e1, e2⟩ := gr_addr_ok hi hj hsn
  have haj : j < alpha.length := ha.symm ▸ hj
  rw [GenR.fastbconv_sk_loop3, gr_skElt]
  simp only [e1, e2, GenW.idx_ok _ hl, GenW.idx_ok _ haj, list_getD_eq_getElem _ 0 haj, R.ok_bind, gw_negate_u64_mod_eq,
    gw_multiply_u64operand_add_u64_mod_eq]
  by_cases hg : alpha[j] > half
  · simp only [if_pos hg, bind_assoc]
    refine R.bind_congr _ fun na _ => R.bind_congr _ fun y _ => ?_
    rw [GenW.setIdx_ok _ _ hl, R.ok_bind]
  · simp only [if_neg hg]
    refine R.bind_congr _ fun y _ => ?_
    rw [GenW.setIdx_ok _ _ hl, R.ok_bind]

/-- the correction loop over the components of the destination -/
theorem gr_sk_loop2 (cs : List (List Nat)) (sq n half : Nat) (alpha : List Nat) (qs : List Modulus) (pqs : List Nat) (msk : Modulus)
    (hsn : sq * n < 2^64) (hcs : cs.length = sq) (hcn : ∀ c ∈ cs, c.length = n) (ha : alpha.length = n)
    (hqs : qs.length = sq) (hpq : pqs.length = sq) (hpqw : ∀ x ∈ pqs, x < 2^64) (hqw : ∀ i, i < sq → (qs.getD i gr_dflt).value < 2^64) :
    GenR.fastbconv_sk_loop2 sq n alpha half qs pqs msk sq 0 cs.flatten
      = ((List.range' 0 sq).mapM (fun i => gr_skComp (qs.getD i gr_dflt) msk (pqs.getD i 0) half n alpha (cs.getD i []))
          >>= fun outs => .ok outs.flatten) := by
  rw [gr_comploop (GenR.fastbconv_sk_loop2 sq n alpha half qs pqs msk)
    (fun i c => gr_skComp (qs.getD i gr_dflt) msk (pqs.getD i 0) half n alpha c) (fun l => .ok l) sq n (fun _ _ => rfl) (by
      intro k i cs hi hcs hcn
      have hpi : i < pqs.length := hpq.symm ▸ hi
      have e2 : GenW.idx pqs i = .ok (pqs.getD i 0) := by rw [GenW.idx_ok _ hpi, list_getD_eq_getElem _ 0 hpi]
      rw [GenR.fastbconv_sk_loop2, gr_skComp]
      simp only [gr_idxMod_ok qs i gr_dflt (hqs.symm ▸ hi), e2, gx_mulop_new_eq _ (qs.getD i gr_dflt) (list_getD_lt_of_forall hpqw (by norm_num) i), R.ok_bind,
        bind_assoc]
      refine R.bind_congr _ fun pb _ => R.bind_congr _ fun v hv => ?_
      have hvw : v < 2^64 := by
        unfold ckSub at hv
        split at hv
        · cases hv; have := hqw i hi; omega
        · cases hv
      rw [gx_mulop_new_eq _ _ hvw]
      refine R.bind_congr _ fun npb _ => ?_
      rw [gr_sk_loop3 cs sq n i half alpha (qs.getD i gr_dflt) msk pb npb hi hsn hcs hcn ha, bind_assoc]
      simp only [R.ok_bind])
    (by
      intro i c y _ _ hy
      rw [gr_skComp] at hy
      cases h1 : MulOperand.new (pqs.getD i 0) (qs.getD i gr_dflt) with
      | error e => rw [h1] at hy; cases hy
      | ok pb =>
        rw [h1, R.ok_bind] at hy
        cases h2 : ckSub (qs.getD i gr_dflt).value (pqs.getD i 0) with
        | error e => rw [h2] at hy; cases hy
        | ok v =>
          rw [h2, R.ok_bind] at hy
          cases h3 : MulOperand.new v (qs.getD i gr_dflt) with
          | error e => rw [h3] at hy; cases hy
          | ok npb =>
            rw [h3, R.ok_bind] at hy
            rw [R.mapM_length hy, List.length_range'])
    sq 0 cs (by omega) hcs hcn,
    gr_foldM_all _ sq cs hcs (fun i a b _ h => by simp only [h i (Nat.le_refl i)])]

/-- the generated `fastbconv_sk` on flat buffers: input `sB + 1` components (base B, then m_sk), destination `sq` components; `F1` = the conversion
    B → q (into the destination), `F2` = the conversion B → {m_sk} (into a zeroed scratch vector) -/
theorem gr_sk_list (inp ds : List (List Nat)) (sq sB n : Nat) (qs : List Modulus) (pqs : List Nat) (msk : Modulus) (inv : MulOperand)
    (F1 F2 : List Nat → List Nat → R (List Nat)) (dest : List (List Nat)) (temp : List Nat)
    (hinp : inp.length = sB + 1) (hin : ∀ c ∈ inp, c.length = n)
    (hqs : qs.length = sq) (hpq : pqs.length = sq) (hpqw : ∀ x ∈ pqs, x < 2^64) (hqw : ∀ i, i < sq → (qs.getD i gr_dflt).value < 2^64)
    (hsn : sq * n < 2^64) (hbn : (sB + 1) * n < 2^64)
    (hd1 : dest.length = sq) (hd2 : ∀ c ∈ dest, c.length = n) (ht : temp.length = n)
    (hF1 : F1 (inp.take sB).flatten ds.flatten = .ok dest.flatten)
    (hF2 : F2 (inp.take sB).flatten (List.replicate n 0) = .ok temp) :
    GenR.fastbconv_sk inp.flatten ds.flatten sq sB n msk inv qs pqs F1 F2
      = ((List.range' 0 n).mapM (fun j => gr_skAlpha msk inv (temp.getD j 0) ((inp.getD sB []).getD j 0)) >>= fun alpha =>
          (List.range' 0 sq).mapM (fun i => gr_skComp (qs.getD i gr_dflt) msk (pqs.getD i 0) (msk.value / 2) n alpha (dest.getD i []))
            >>= fun outs => .ok outs.flatten) := by
  have e1 : ckMul sB n = .ok (sB * n) := ckMul_ok (by rw [B64_eq]; have := grid_succ_le (B := n) (show sB < sB + 1 by omega); omega)
  have e2 := gr_slice_take n inp sB hin (by omega)
  unfold GenR.fastbconv_sk
  simp only [e1, e2, hF1, hF2, R.ok_bind]
  rw [gr_idxloopK (GenR.fastbconv_sk_loop1 inp.flatten dest.flatten sq sB n temp msk inv qs pqs)
      (fun j _ => gr_skAlpha msk inv (temp.getD j 0) ((inp.getD sB []).getD j 0)) n
      (fun l => GenR.fastbconv_sk_loop1 inp.flatten dest.flatten sq sB n temp msk inv qs pqs 0 0 l) (fun _ _ => rfl) (by
      intro k j l hl hj
      have htj : j < temp.length := ht.symm ▸ hj
      obtain ⟨-, e3, e4⟩ := gr_read_ok n inp hin (show sB < inp.length by omega) hj (hinp.symm ▸ hbn)
      rw [GenR.fastbconv_sk_loop1, gr_skAlpha]
      simp only [e1, e3, e4, GenW.idx_ok _ htj, list_getD_eq_getElem _ 0 htj, R.ok_bind, gw_multiply_u64operand_mod_eq, gr_mulOperandMod, bind_assoc]
      refine R.bind_congr _ fun d _ => R.bind_congr _ fun s _ => ?_
      rw [GenW.setIdx_ok _ _ hl, R.ok_bind])
    n 0 (List.replicate n 0) (by simp) (by simp)]
  refine R.bind_congr _ fun alpha hm => ?_
  rw [List.take_zero, List.nil_append, GenR.fastbconv_sk_loop1, gr_half_eq]
  exact gr_sk_loop2 dest sq n _ alpha qs pqs msk hsn hd1 hd2 (by rw [R.mapM_length hm, List.length_range']) hqs hpq hpqw hqw

/-! the two receiver calls `self.base_B_to_q_conv.fast_convert_array(..)`, `self.base_B_to_m_sk_conv.fast_convert_array(..)` of `fastbconv_sk` are the
    GENERATED `fast_convert_array` on the fields of the model's `bToQ`, `bToMsk` (`gr_convF`) -/

/-- **`RNSTool::fastbconv_sk` (generated from src/util/rns.rs) = the hand model `RNSTool.fastbconvSk`**; input = flat buffer of the `|B| + 1` components
    (base B, then m_sk), destination = ANY flat buffer of `|q|` components.  The α_sk loop (`m_sk − x`, `temp + …`), the operand set-up
    `MultiplyU64ModOperand::new`, `b − [B]_b`, `negate_u64_mod`, the multiply-add trap on both sides alike. -/
theorem gr_fastbconv_sk_eq (r : RNSTool) (p d : RnsPoly)
    (hc1 : gr_ConvOK r.bToQ r.baseB.size r.baseQ.size) (hc2 : gr_ConvOK r.bToMsk r.baseB.size 1)
    (hp1 : p.size = r.baseB.size + 1) (hp2 : ∀ i, i < r.baseB.size + 1 → (p.getD i #[]).size = r.n)
    (hw : ∀ i j, i < r.baseB.size → j < r.n → (p.getD i #[]).getD j 0 < 2^64)
    (hd1 : d.size = r.baseQ.size) (hd2 : ∀ i, i < r.baseQ.size → (d.getD i #[]).size = r.n)
    (hpq : r.prodBModQ.size = r.baseQ.size) (hpqw : ∀ x ∈ r.prodBModQ, x < 2^64) (hqw : ∀ i, i < r.baseQ.size → (r.baseQ.q i).value < 2^64)
    (hsn : r.baseQ.size * r.n < 2^64) (hbn : (r.baseB.size + 1) * r.n < 2^64) :
    GenR.fastbconv_sk (flatP p) (flatP d) r.baseQ.size r.baseB.size r.n r.mSk r.invProdBModMsk r.baseQ.base.toList r.prodBModQ.toList
        (gr_convF r.bToQ) (gr_convF r.bToMsk)
      = (r.fastbconvSk p).map flatP := by
  obtain ⟨hcs, hn⟩ := gr_shape_cs' hp1 hp2
  have hle : r.baseB.size * r.n ≤ (r.baseB.size + 1) * r.n := Nat.mul_le_mul_right _ (by omega)
  have hn64 : r.n ≤ (r.baseB.size + 1) * r.n := Nat.le_mul_of_pos_left _ (by omega)
  obtain ⟨destA, hmodel1, hF1, hA1, hA2⟩ := gr_convF_take_ok hc1 p d r.n (by omega) (fun i hi => hp2 i (by omega)) hw hd1 hd2 (by omega) hsn
  obtain ⟨tempA, hmodel2, hF2, hB1, hB2⟩ := gr_convF_take_ok hc2 p (Array.replicate 1 (Array.replicate r.n 0)) r.n (by omega)
    (fun i hi => hp2 i (by omega)) hw (by simp) (fun i hi' => by simp [Array.getD, hi']) (by omega) (by omega)
  rw [gr_flatP_zero, Nat.mul_one, gr_flatP_single tempA hB1] at hF2
  obtain ⟨hvs, hvn⟩ := gr_shape_cs' hA1 hA2
  rw [flatP, flatP, gr_sk_list (p.toList.map Array.toList) (d.toList.map Array.toList) r.baseQ.size r.baseB.size r.n r.baseQ.base.toList r.prodBModQ.toList
      r.mSk r.invProdBModMsk (gr_convF r.bToQ) (gr_convF r.bToMsk) (destA.toList.map Array.toList) (tempA.getD 0 #[]).toList hcs hn
      (by simp [RNSBase.size]) (by simpa using hpq) (by intro x hx; exact hpqw x (by simpa using hx))
      (by intro i hi'; rw [gr_baseq_toList]; exact hqw i hi') hsn hbn hvs hvn (by rw [Array.length_toList]; exact hB2 0 (by omega)) hF1 hF2]
  unfold RNSTool.fastbconvSk
  dsimp only
  rw [hmodel1, R.ok_bind, hmodel2, R.ok_bind, gr_zipM'_eq, hB2 0 (by omega), bind_assoc, R.bind_map, gr_cs_getD]
  refine R.bind_congr _ fun alpha hm => ?_
  simp only [R.ok_bind, pure, Except.pure]
  rw [gr_rows_tie₀ (row := fun i => gr_skComp (r.baseQ.q i) r.mSk (r.prodBModQ.getD i 0) (r.mSk.value / 2) r.n alpha (destA.getD i #[]).toList) (fun i _ => by
    rw [gr_skComp]
    simp only [bind_assoc]
    refine R.bind_congr _ fun pb _ => R.bind_congr _ fun v _ => R.bind_congr _ fun npb _ => ?_
    rw [gr_zipM'_eq, List.size_toArray, R.mapM_length hm, List.length_range']
    rfl)]
  simp only [gr_baseq_toList, gr_cs_getD, array_getD_toList _ _ 0]

/-- **END TO END (Shenoy–Kumaresan conversion Bsk → q)**: the function generated from the Rust source of `RNSTool::fastbconv_sk`, run on the flat buffer
    of a polynomial whose coefficient `j` holds the residues of an integer `V j` modulo every prime of `B` and modulo `m_sk`, writes at position
    `i·n + j` of ANY destination buffer `V j mod q_i` EXACTLY, provided `2|V j| + 2·|B|·prod(B) ≤ prod(B)·m_sk`
    (composition of `gr_fastbconv_sk_eq` with `fastbconvSk_ent`, `fastbconvSk_int`: both conversions make the same error α) -/
theorem gr_fastbconv_sk_exact (r : RNSTool) (p d : RnsPoly) (V : Nat → Int) {bMsk : RNSBase}
    (hB : r.baseB.WF) (hQ : r.baseQ.WF) (hMs : bMsk.WF) (hMs1 : bMsk.size = 1) (hMs0 : bMsk.q 0 = r.mSk)
    (hcq : BaseConverter.new r.baseB r.baseQ = .ok r.bToQ) (hcm : BaseConverter.new r.baseB bMsk = .ok r.bToMsk)
    (hp1 : p.size = r.baseB.size + 1) (hp2 : ∀ i, i < r.baseB.size + 1 → (p.getD i #[]).size = r.n)
    (hd1 : d.size = r.baseQ.size) (hd2 : ∀ i, i < r.baseQ.size → (d.getD i #[]).size = r.n)
    (hpq : r.prodBModQ.size = r.baseQ.size)
    (hsn : r.baseQ.size * r.n < 2^64) (hbn : (r.baseB.size + 1) * r.n < 2^64)
    (hmsk : r.mSk.WF) (hinvB : WFOp r.mSk r.invProdBModMsk) (hinv : (r.invProdBModMsk.operand * r.baseB.prod) % r.mSk.value = 1)
    (hpb : ∀ i, i < r.baseQ.size → 0 < r.prodBModQ.getD i 0 ∧ r.prodBModQ.getD i 0 < (r.baseQ.q i).value ∧
      ((r.prodBModQ.getD i 0 : Nat) : Int) ≡ r.baseB.prod [ZMOD (r.baseQ.q i).value])
    (hcan : ∀ i j, i < r.baseB.size → j < r.n → (p.getD i #[]).getD j 0 < 2^64 ∧
      (((p.getD i #[]).getD j 0 : Nat) : Int) ≡ V j [ZMOD (r.baseB.q i).value])
    (hsk : ∀ j, j < r.n → (p.getD r.baseB.size #[]).getD j 0 ≤ r.mSk.value ∧
      (((p.getD r.baseB.size #[]).getD j 0 : Nat) : Int) ≡ V j [ZMOD r.mSk.value])
    (hV : ∀ j, j < r.n → 2 * |V j| + 2 * (r.baseB.size : Int) * r.baseB.prod ≤ r.baseB.prod * r.mSk.value) :
    ∃ out, GenR.fastbconv_sk (flatP p) (flatP d) r.baseQ.size r.baseB.size r.n r.mSk r.invProdBModMsk r.baseQ.base.toList r.prodBModQ.toList
        (gr_convF r.bToQ) (gr_convF r.bToMsk) = .ok out ∧
      ∀ i j, i < r.baseQ.size → j < r.n → ((out.getD (i * r.n + j) 0 : Nat) : Int) = V j % (r.baseQ.q i).value := by
  have hc1 := gr_convOK_new hB hQ hcq
  have hc2 := gr_convOK_new hB hMs hcm
  rw [hMs1] at hc2
  have hm2 := hmsk.two_le
  have hmm : r.mSk.value + r.mSk.value ≤ 2^64 := by have := hmsk.lt; omega
  have hexg : ∀ i, i < r.baseB.size → (p.extract 0 r.baseB.size).getD i #[] = p.getD i #[] := fun i hi' => array_getD_extract p #[] (by omega) hi'
  have hexs : (p.extract 0 r.baseB.size).size = r.baseB.size := by simp; omega
  have hexw : ∀ i j, i < r.baseB.size → j < r.n → ((p.extract 0 r.baseB.size).getD i #[]).getD j 0 < 2^64 := by
    intro i j hi' hj; rw [hexg i hi']; exact (hcan i j hi' hj).1
  obtain ⟨destA, hmodel1, -, hdv⟩ := fastConvertArray_ent hB hQ hcq (p.extract 0 r.baseB.size) r.n hexs hexw
  obtain ⟨tempA, hmodel2, -, htv⟩ := fastConvertArray_ent hB hMs hcm (p.extract 0 r.baseB.size) r.n hexs hexw
  obtain ⟨hT0, hT⟩ := htv 0 (by rw [hMs1]; exact Nat.one_pos)
  have hsum : ∀ j, c02w_crtSum r.baseB (fun i => ((p.extract 0 r.baseB.size).getD i #[]).getD j 0)
      = c02w_crtSum r.baseB (fun i => (p.getD i #[]).getD j 0) := fun j => c02w_crtSum_congr _ fun i hi' => by rw [hexg i hi']
  have hT' : ∀ j, j < r.n → (tempA.getD 0 #[]).getD j 0 = c02w_crtSum r.baseB (fun i => (p.getD i #[]).getD j 0) % r.mSk.value :=
    fun j hj => (hT j hj).trans (by beta_reduce; rw [hsum, hMs0])
  have hdv' : ∀ i j, i < r.baseQ.size → j < r.n →
      (destA.getD i #[]).getD j 0 = c02w_crtSum r.baseB (fun i' => (p.getD i' #[]).getD j 0) % (r.baseQ.q i).value :=
    fun i j hi' hj => ((hdv i hi').2 j hj).trans (by beta_reduce; rw [hsum])
  obtain ⟨out, hok, hsz, hv⟩ := fastbconvSk_ent hmodel1 hmodel2 hmsk hinvB (fun i hi' => ⟨hQ.mwf i hi', (hpb i hi').1, (hpb i hi').2.1⟩) hT0
    (fun j hj => by
      rw [hT' j hj]
      exact Nat.lt_of_lt_of_le (Nat.add_lt_add_right (Nat.mod_lt _ (Nat.lt_of_lt_of_le Nat.zero_lt_two hm2)) _) hmm)
    (fun j hj => (hsk j hj).1)
    (fun i j hi' hj => by
      rw [hdv' i j hi' hj]
      exact Nat.lt_trans (Nat.mod_lt _ (Nat.lt_of_lt_of_le Nat.zero_lt_two (hQ.mwf i hi').two_le))
        (Nat.lt_trans (hQ.mwf i hi').lt (by norm_num)))
  have hpqw : ∀ x ∈ r.prodBModQ, x < 2^64 := by
    apply mem_lt_of_getD
    intro i hi'
    rw [hpq] at hi'
    have := (hpb i hi').2.1
    have := (hQ.mwf i hi').lt
    omega
  obtain ⟨hg, hrd⟩ := gr_read (gr_fastbconv_sk_eq r p d hc1 hc2 hp1 hp2 (fun i j hi' hj => (hcan i j hi' hj).1) hd1 hd2 hpq hpqw
    (fun i hi' => by have := (hQ.mwf i hi').lt; omega) hsn hbn) hok (Nat.le_of_eq hsz.symm) (fun i hi' => (hv i hi').1)
  refine ⟨_, hg, fun i j hi' hj => ?_⟩
  rw [hrd i j hi' hj, (hv i hi').2 j hj]
  beta_reduce
  rw [hT' j hj, hdv' i j hi' hj]
  exact fastbconvSk_int hB hinv (fun i => (p.getD i #[]).getD j 0) _ (V j) (fun i hi' => (hcan i j hi' hj).2) (hsk j hj).1 (hsk j hj).2
    (hV j hj) (Nat.le_of_lt (hpb i hi').2.1) (hpb i hi').2.2

/-!
  `RNSTool::fastbconv_m_tilde` (src/util/rns.rs) generated into `Heathcliff/Gen/RnsFns.lean` EQUALS the hand model's
  `RNSTool.fastbconvMTilde`.  The routine calls `polymod::multiply_scalar_p`, which is generated into `Gen/PolyFns.lean` (`HC.GenP`): its block-form
  theorem `gp_poly_multiply_scalar_p_blocks` (kernel applied to consecutive `degree`-blocks) is bridged to the component lists used here
  (`gr_msp_list`); the two conversions are the generated `fast_convert_array` on the model's `qToBsk` / `qToMt`, each writing a SUB-SLICE of the
  destination.
-/

/-- BRIDGE: `multiply_scalar_p` (generated in `Gen/PolyFns.lean`) on a flat buffer of `sq` components, into a zeroed scratch buffer = component-wise
    `mulMod · s q_i` -/
theorem gr_msp_list (cs : List (List Nat)) (sq n s : Nat) (qs : List Modulus)
    (hcs : cs.length = sq) (hcn : ∀ c ∈ cs, c.length = n) (hqs : qs.length = sq) (hsn : sq * n < 2^64) :
    GenP.poly_multiply_scalar_p cs.flatten s n qs (List.replicate (n * sq) 0)
      = ((List.range' 0 sq).mapM (fun i => (cs.getD i []).mapM (fun x => mulMod x s (qs.getD i gr_dflt))) >>= fun outs => .ok outs.flatten) := by
  have hfl := Blk.length (D := n) hcn
  rw [hcs] at hfl
  have hrl : (List.replicate (n * sq) 0).length = sq * n := by rw [List.length_replicate, Nat.mul_comm]
  rw [gp_poly_multiply_scalar_p_blocks _ _ _ _ _ (by rw [hqs, hrl]) (by rw [hrl]; simpa [B64] using hsn)]
  have h := gp_blocks_mapM (gp_msp_block cs.flatten s n qs) n (List.replicate (n * sq) 0) sq 0
  simp only [Nat.zero_mul, List.drop_zero, Nat.zero_add] at h
  rw [hqs, h, List.drop_eq_nil_of_le (by rw [hrl])]
  have hcg : (List.range' 0 sq).mapM (fun j => gp_msp_block cs.flatten s n qs j (gp_blk n (List.replicate (n * sq) 0) j))
      = (List.range' 0 sq).mapM (fun i => (cs.getD i []).mapM (fun x => mulMod x s (qs.getD i gr_dflt))) := by
    apply R.mapM_congr
    intro j hj
    rw [List.mem_range'_1, Nat.zero_add] at hj
    have hjn : j * n + n ≤ sq * n := by
      have := Nat.mul_le_mul_right n (Nat.succ_le_of_lt hj.2); rw [Nat.succ_mul] at this; exact this
    have hcl : (cs.getD j []).length = n := hcn _ (list_getD_mem [] (by omega))
    have e1 : GenP.slice cs.flatten (j * n) (j * n + n) = .ok (cs.getD j []) := by
      rw [gp_slice_blk _ _ _ (by omega), Blk.block hcn (by omega)]
    have hbl : (gp_blk n (List.replicate (n * sq) 0) j).length = n := gp_blk_length _ _ _ (by rw [hrl]; exact hjn)
    unfold gp_msp_block
    simp only [e1, gp_idxT_getD qs j (by omega), R.ok_bind]
    rw [gp_poly_multiply_scalar_eq, hbl, hcl, Nat.min_self, List.take_of_length_le (by omega), List.drop_eq_nil_of_le (by omega)]
    simp only [List.append_nil]
    exact bind_pure _
  rw [hcg]
  simp only [List.append_nil, gr_pure]

/-- the generated `fastbconv_m_tilde` on flat buffers: `sq` input components, destination `sB + 1` components (`Bsk`, then m̃); `F1`, `F2` the conversions -/
theorem gr_mt_list (inp ds : List (List Nat)) (sq sB n : Nat) (qs : List Modulus) (mt : Modulus) (F1 F2 : List Nat → List Nat → R (List Nat))
    (hinp : inp.length = sq) (hin : ∀ c ∈ inp, c.length = n) (hqs : qs.length = sq)
    (hds : ds.length = sB + 1) (hdn : ∀ c ∈ ds, c.length = n)
    (hsn : sq * n < 2^64) (hbn : (sB + 1) * n < 2^64) (hs64 : sB + 1 < 2^64) :
    (∀ e, (List.range' 0 sq).mapM (fun i => (inp.getD i []).mapM (fun x => mulMod x mt.value (qs.getD i gr_dflt))) = .error e →
      GenR.fastbconv_m_tilde inp.flatten ds.flatten sq sB n mt qs F1 F2 = .error e) ∧
    (∀ (temp conv1 : List (List Nat)) (t2 : List Nat), (List.range' 0 sq).mapM (fun i => (inp.getD i []).mapM (fun x => mulMod x mt.value (qs.getD i gr_dflt))) = .ok temp →
      conv1.length = sB → (∀ c ∈ conv1, c.length = n) → t2.length = n →
      F1 temp.flatten (ds.take sB).flatten = .ok conv1.flatten → F2 temp.flatten (ds.getD sB []) = .ok t2 →
      GenR.fastbconv_m_tilde inp.flatten ds.flatten sq sB n mt qs F1 F2 = .ok (conv1.flatten ++ t2)) := by
  have e0 : ckMul n sq = .ok (n * sq) := ckMul_ok (by rw [B64_eq]; rw [Nat.mul_comm]; exact hsn)
  have hmsp := gr_msp_list inp sq n mt.value qs hinp hin hqs hsn
  constructor
  · intro e he
    unfold GenR.fastbconv_m_tilde
    simp only [e0, R.ok_bind, hmsp, he, gr_err_bind]
  · intro temp conv1 t2 hT hc1 hc2 ht2 hF1 hF2
    have hle : sB * n ≤ (sB + 1) * n := Nat.mul_le_mul_right n (by omega)
    have hsb : (sB + 1) * n = sB * n + n := Nat.succ_mul sB n
    have e1 : ckMul sB n = .ok (sB * n) := ckMul_ok (by rw [B64_eq]; omega)
    have e2 : GenR.slice ds.flatten 0 (sB * n) = .ok (ds.take sB).flatten := gr_slice_take n ds sB hdn (by omega)
    have hc1l := Blk.length (D := n) hc2
    rw [hc1] at hc1l
    -- the destination after the first conversion
    have hd' : (conv1 ++ ds.drop sB).length = sB + 1 := by rw [List.length_append, List.length_drop, hc1, hds]; omega
    have hdn' : ∀ c ∈ conv1 ++ ds.drop sB, c.length = n := by
      intro c hc
      rcases List.mem_append.mp hc with h | h
      · exact hc2 c h
      · exact hdn c (List.mem_of_mem_drop h)
    have e3 : GenR.splice ds.flatten 0 conv1.flatten = (conv1 ++ ds.drop sB).flatten := by
      unfold GenR.splice
      rw [List.take_zero, List.nil_append, Nat.zero_add, hc1l, List.flatten_append, Blk.drop_flatten (D := n) hdn sB]
    have e4 : ckAdd sB 1 = .ok (sB + 1) := ckAdd_ok hs64
    have e5 : ckMul (sB + 1) n = .ok (sB * n + n) := by rw [ckMul_ok hbn, Nat.succ_mul]
    have hlast : (conv1 ++ ds.drop sB).getD sB [] = ds.getD sB [] := by
      rw [List.getD_eq_getElem?_getD, List.getElem?_append_right (by omega), hc1, Nat.sub_self, List.getElem?_drop, Nat.add_zero,
        ← List.getD_eq_getElem?_getD]
    have e6 : GenR.slice (conv1 ++ ds.drop sB).flatten (sB * n) (sB * n + n) = .ok (ds.getD sB []) := by
      rw [gr_slice_flat n _ sB hdn' (by omega), hlast]
    have e7 : GenR.splice (conv1 ++ ds.drop sB).flatten (sB * n) t2 = conv1.flatten ++ t2 := by
      rw [gr_splice_flat n _ sB t2 hdn' (by omega) ht2]
      have : (conv1 ++ ds.drop sB).set sB t2 = conv1 ++ [t2] := by
        rw [List.set_append_right _ _ (by omega), hc1, Nat.sub_self]
        have hdl : (ds.drop sB).length = 1 := by rw [List.length_drop, hds]; omega
        match hd : ds.drop sB, hdl with
        | [x], _ => rfl
      rw [this, List.flatten_append]
      simp
    unfold GenR.fastbconv_m_tilde
    simp only [e0, R.ok_bind, hmsp, hT, e1, e2, hF1, e3, e4, e5, e6, hF2, e7, gr_pure]

/-- the input of the two conversions: component `i` multiplied by m̃ modulo `q_i` -/
theorem gr_mt_model (r : RNSTool) (p : RnsPoly) :
    r.fastbconvMTilde p = ((List.range' 0 r.baseQ.size).mapM (fun i => (p.getD i #[]).toList.mapM (fun x => mulMod x r.mTilde.value (r.baseQ.q i)))
      >>= fun temp => r.qToBsk.fastConvertArray (temp.map List.toArray).toArray r.n >>= fun a =>
        r.qToMt.fastConvertArray (temp.map List.toArray).toArray r.n >>= fun b => .ok (a ++ b)) := by
  unfold RNSTool.fastbconvMTilde
  rw [gr_range_mapM_lists _ _ (fun i => (p.getD i #[]).toList.mapM (fun x => mulMod x r.mTilde.value (r.baseQ.q i))) (fun i _ => mapM'_eq _ _),
    bind_assoc]
  rfl

/-- **`RNSTool::fastbconv_m_tilde` (generated from src/util/rns.rs) = the hand model `RNSTool.fastbconvMTilde`**; input = flat buffer of the `|q|`
    components, destination = ANY flat buffer of `|Bsk| + 1` components.  `polymod::multiply_scalar_p` is the function generated into `Gen/PolyFns.lean`;
    the conversions are the generated `fast_convert_array` on the model's `qToBsk` / `qToMt`, writing `destination[..|Bsk|·n]` and the last component.
    The Barrett multiplication by m̃ traps on both sides alike (no well-formedness of `q` beyond what the converters carry). -/
theorem gr_fastbconv_m_tilde_eq (r : RNSTool) (p d : RnsPoly)
    (hc1 : gr_ConvOK r.qToBsk r.baseQ.size r.baseBsk.size) (hc2 : gr_ConvOK r.qToMt r.baseQ.size 1)
    (hp1 : p.size = r.baseQ.size) (hp2 : ∀ i, i < r.baseQ.size → (p.getD i #[]).size = r.n)
    (hd1 : d.size = r.baseBsk.size + 1) (hd2 : ∀ i, i < r.baseBsk.size + 1 → (d.getD i #[]).size = r.n)
    (hsn : r.baseQ.size * r.n < 2^64) (hbn : (r.baseBsk.size + 1) * r.n < 2^64) (hs64 : r.baseBsk.size + 1 < 2^64) :
    GenR.fastbconv_m_tilde (flatP p) (flatP d) r.baseQ.size r.baseBsk.size r.n r.mTilde r.baseQ.base.toList (gr_convF r.qToBsk) (gr_convF r.qToMt)
      = (r.fastbconvMTilde p).map flatP := by
  obtain ⟨hcs, hn⟩ := gr_shape_cs' hp1 hp2
  obtain ⟨hds, hdn⟩ := gr_shape_cs' hd1 hd2
  have hlist := gr_mt_list (p.toList.map Array.toList) (d.toList.map Array.toList) r.baseQ.size r.baseBsk.size r.n r.baseQ.base.toList r.mTilde
    (gr_convF r.qToBsk) (gr_convF r.qToMt) hcs hn (by simp [RNSBase.size]) hds hdn hsn hbn hs64
  simp only [gr_baseq_toList, gr_cs_getD] at hlist
  rw [gr_mt_model, flatP, flatP]
  cases hT : (List.range' 0 r.baseQ.size).mapM (fun i => (p.getD i #[]).toList.mapM (fun x => mulMod x r.mTilde.value (r.baseQ.q i))) with
  | error e => rw [hlist.1 e hT]; rfl
  | ok temp =>
    rw [R.ok_bind]
    -- shape and words of the scaled input
    have htl : temp.length = r.baseQ.size := by rw [R.mapM_length hT, List.length_range']
    have hte : ∀ c ∈ temp, c.length = r.n ∧ ∀ x ∈ c, x < 2^64 := by
      intro c hc
      obtain ⟨i, hi', hy⟩ := R.mapM_mem hT c hc
      rw [List.mem_range'_1] at hi'
      exact ⟨by rw [R.mapM_length hy, Array.length_toList, hp2 i (by omega)],
        gr_mapM_forall _ (fun y => y < 2^64) (fun _ _ h => gr_mulMod_lt h) _ c hy⟩
    generalize hTA : ((temp.map List.toArray).toArray : RnsPoly) = TA
    have hflatT : temp.flatten = flatP TA := by rw [← hTA, gr_flatP_lists]
    have hTAg : ∀ i, i < r.baseQ.size → (TA.getD i #[]).toList ∈ temp := by
      intro i hi'
      rw [← hTA]
      have hi2 : i < temp.length := by omega
      have : ((temp.map List.toArray).toArray.getD i #[]) = (temp[i]).toArray := by simp [Array.getD, hi2]
      rw [this]
      exact List.getElem_mem _
    have hTAs : TA.size = r.baseQ.size := by rw [← hTA]; simp [htl]
    have hTAn : ∀ i, i < r.baseQ.size → (TA.getD i #[]).size = r.n := fun i hi' => by
      rw [← Array.length_toList]; exact (hte _ (hTAg i hi')).1
    have hTAw : ∀ i j, i < r.baseQ.size → j < r.n → (TA.getD i #[]).getD j 0 < 2^64 := fun i j hi' hj => by
      rw [← array_getD_toList _ _ 0]; exact list_getD_lt_of_forall (hte _ (hTAg i hi')).2 (by norm_num) j
    have hn64 : r.n ≤ (r.baseBsk.size + 1) * r.n := Nat.le_mul_of_pos_left _ (by omega)
    obtain ⟨A, hmodel1, hF1, hA1, hA2⟩ := gr_convF_ok hc1 TA (d.extract 0 r.baseBsk.size) r.n hTAs hTAn hTAw (by simp; omega)
      (fun i hi' => by rw [array_getD_extract d #[] (by omega) hi']; exact hd2 i (by omega)) hsn
      (Nat.lt_of_le_of_lt (Nat.mul_le_mul_right _ (by omega)) hbn)
    obtain ⟨B, hmodel2, hF2, hB1, hB2⟩ := gr_convF_ok hc2 TA #[d.getD r.baseBsk.size #[]] r.n hTAs hTAn hTAw (by simp)
      (fun i hi' => by have : i = 0 := by omega
                       subst this; simpa [Array.getD] using hd2 r.baseBsk.size (by omega)) hsn (by omega)
    rw [← hflatT, gr_flatP_extract] at hF1
    rw [← hflatT, gr_flatP_single B hB1, show flatP #[d.getD r.baseBsk.size #[]] = (d.getD r.baseBsk.size #[]).toList by unfold flatP; simp] at hF2
    obtain ⟨hvs, hvn⟩ := gr_shape_cs' hA1 hA2
    rw [hlist.2 temp (A.toList.map Array.toList) (B.getD 0 #[]).toList hT hvs hvn (by rw [Array.length_toList]; exact hB2 0 (by omega)) hF1 hF2,
      hmodel1, R.ok_bind, hmodel2, R.ok_bind]
    show Except.ok _ = Except.ok (flatP (A ++ B))
    rw [gr_flatP_append, gr_flatP_single B hB1]
    rfl

/-- **END TO END (BEHZ `FastBConv_m̃`)**: for a polynomial holding residues of integers `X j < Q`, the function generated from the Rust source of
    `RNSTool::fastbconv_m_tilde` writes, for every coefficient `j`, at position `o·n + j` (`o < |Bsk|`) the value `([m̃·X_j]_Q + α_j·Q) mod b_o` and at
    position `|Bsk|·n + j` the value `([m̃·X_j]_Q + α_j·Q) mod m̃`, with ONE `α_j < |q|` for all `|Bsk| + 1` output moduli -/
theorem gr_fastbconv_m_tilde_crt (r : RNSTool) (p d : RnsPoly) (X : Nat → Nat) {bMt : RNSBase}
    (hQ : r.baseQ.WF) (hBsk : r.baseBsk.WF) (hMt : bMt.WF) (hMt1 : bMt.size = 1) (hMt0 : bMt.q 0 = r.mTilde)
    (hc1 : BaseConverter.new r.baseQ r.baseBsk = .ok r.qToBsk) (hc2 : BaseConverter.new r.baseQ bMt = .ok r.qToMt)
    (hp1 : p.size = r.baseQ.size) (hp2 : ∀ i, i < r.baseQ.size → (p.getD i #[]).size = r.n)
    (hd1 : d.size = r.baseBsk.size + 1) (hd2 : ∀ i, i < r.baseBsk.size + 1 → (d.getD i #[]).size = r.n)
    (hsn : r.baseQ.size * r.n < 2^64) (hbn : (r.baseBsk.size + 1) * r.n < 2^64) (hmtw : r.mTilde.value < 2^64)
    (hX : ∀ j, j < r.n → X j < r.baseQ.prod ∧ ∀ i, i < r.baseQ.size → (p.getD i #[]).getD j 0 < 2^64 ∧
      X j % (r.baseQ.q i).value = (p.getD i #[]).getD j 0 % (r.baseQ.q i).value) :
    ∃ out, GenR.fastbconv_m_tilde (flatP p) (flatP d) r.baseQ.size r.baseBsk.size r.n r.mTilde r.baseQ.base.toList (gr_convF r.qToBsk) (gr_convF r.qToMt)
        = .ok out ∧
      ∀ j, j < r.n → ∃ alpha, alpha < r.baseQ.size ∧
        (∀ o, o < r.baseBsk.size → out.getD (o * r.n + j) 0 = ((r.mTilde.value * X j) % r.baseQ.prod + alpha * r.baseQ.prod) % (r.baseBsk.q o).value) ∧
        out.getD (r.baseBsk.size * r.n + j) 0 = ((r.mTilde.value * X j) % r.baseQ.prod + alpha * r.baseQ.prod) % r.mTilde.value := by
  have hco1 := gr_convOK_new hQ hBsk hc1
  have hco2 := gr_convOK_new hQ hMt hc2
  rw [hMt1] at hco2
  have hs64 : r.baseBsk.size + 1 < 2^64 := by have := hBsk.le64; omega
  obtain ⟨TA, hTAs, hTA, hfin⟩ := fastbconvMTilde_ent (r := r) (p := p) hQ.mwf hmtw hp2 (fun i j hi' hj => ((hX j hj).2 i hi').1)
  have hTAw : ∀ i j, i < r.baseQ.size → j < r.n → (TA.getD i #[]).getD j 0 < 2^64 := fun i j hi' hj => by
    rw [(hTA i hi').2 j hj]
    exact Nat.lt_trans (Nat.mod_lt _ (Nat.lt_of_lt_of_le Nat.zero_lt_two (hQ.mwf i hi').two_le)) (Nat.lt_trans (hQ.mwf i hi').lt (by norm_num))
  obtain ⟨A, hmodel1, hA1, hAv⟩ := fastConvertArray_ent hQ hBsk hc1 TA r.n hTAs hTAw
  obtain ⟨B, hmodel2, hB1, hBv⟩ := fastConvertArray_ent hQ hMt hc2 TA r.n hTAs hTAw
  rw [gr_fastbconv_m_tilde_eq r p d hco1 hco2 hp1 hp2 hd1 hd2 hsn hbn hs64, hfin hmodel1 hmodel2]
  refine ⟨flatP (A ++ B), rfl, fun j hj => ?_⟩
  obtain ⟨al, hal, hS⟩ := c02w_crtSum_spec hQ (fun i => (TA.getD i #[]).getD j 0) (Nat.mod_lt (r.mTilde.value * X j) hQ.prod_pos)
    (fun i hi' => by
      rw [(hTA i hi').2 j hj, Nat.mod_mod, Nat.mod_mod_of_dvd _ (hQ.q_dvd_prod hi'), Nat.mul_comm, Nat.mul_mod, ((hX j hj).2 i hi').2, ← Nat.mul_mod])
  have hBs : B.size = 1 := by rw [hB1, hMt1]
  obtain ⟨hvs, hvn⟩ := gr_shape_cs' hA1 (fun o ho => (hAv o ho).1)
  have hflen : (flatP A).length = r.baseBsk.size * r.n := by unfold flatP; rw [Blk.length (D := r.n) hvn, hvs]
  refine ⟨al, hal, fun o ho => ?_, ?_⟩
  · have hlt : o * r.n + j < (flatP A).length := by rw [hflen]; exact grid_lt ho hj
    rw [gr_flatP_append, list_getD_append_left _ _ _ hlt]
    unfold flatP
    rw [Blk.getD hvn (by omega) hj, gr_cs_getD, array_getD_toList _ _ 0]
    exact ((hAv o ho).2 j hj).trans (congrArg (· % (r.baseBsk.q o).value) hS)
  · rw [gr_flatP_append, list_getD_append_right _ _ _ (by rw [hflen]; omega), hflen, Nat.add_sub_cancel_left, gr_flatP_single B hBs, array_getD_toList _ _ 0]
    exact ((hBv 0 (by rw [hMt1]; exact Nat.one_pos)).2 j hj).trans (by beta_reduce; rw [hS, hMt0])

end HC
