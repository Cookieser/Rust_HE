/- Audit of property C14: `#print axioms` for every property theorem of Props/C14.lean; `audit()` of tools/runner.py elaborates this file
   and compares each axiom list with the three standard axioms. -/
import Heathcliff.Props.C14
#print axioms HC.C14.gen_field_order_agrees
#print axioms HC.C14.round_trip
#print axioms HC.C14.size_exact
#print axioms HC.C14.stream_framing
#print axioms HC.C14.modelled_types_lawful
#print axioms HC.C14.limit_width
#print axioms HC.C14.limited_round_trip
#print axioms HC.C14.ciphertext_round_trip
#print axioms HC.C14.ciphertext_round_trip_seeded
#print axioms HC.C14.ciphertext_terms_round_trip
#print axioms HC.C14.vec_round_trip
#print axioms HC.C14.len_scalars
#print axioms HC.C14.len_residue
#print axioms HC.C14.len_vec
#print axioms HC.C14.len_params
#print axioms HC.C14.len_plain
#print axioms HC.C14.len_poly
#print axioms HC.C14.len_ct
#print axioms HC.C14.len_ct_rust
#print axioms HC.C14.len_ct_terms
#print axioms HC.C14.len_ct_terms_rust
#print axioms HC.C14.len_ct_full
#print axioms HC.C14.len_kswitch
#print axioms HC.C14.len_c1d
#print axioms HC.C14.len_c2d
#print axioms HC.C14.len_c3d
#print axioms HC.C14.len_rnsp
#print axioms HC.C14.len_polySer
#print axioms HC.C14.size_monotonicity
#print axioms HC.C14.terms_format
#print axioms HC.C14.terms_all
#print axioms HC.C14.TermsMaskStatement_proof
#print axioms HC.C14.SizeClosedFormStatement_proof
#print axioms HC.C14.width_rule
#print axioms HC.C14.framing_monoid
#print axioms HC.C14.limC_refuses
#print axioms HC.C14.truncated_eof
#print axioms HC.C14.guard_pid_dec_bad
#print axioms HC.C14.unknown_pid_refused
#print axioms HC.C14.scheme_refused
#print axioms HC.C14.kswitch_ct_size
#print axioms HC.C14.terms_format_ntt
#print axioms HC.C14.getD_lt_of_all
#print axioms HC.C14.exCtNtt_hp0
#print axioms HC.C14.ex_ntt_instance
#print axioms HC.C14.ctC_valid_of_CtWF
#print axioms HC.C14.ctC_valid_iff
#print axioms HC.C14.ctTermsC_valid_iff
#print axioms HC.C14.CtWF_iff
#print axioms HC.C14.ctC_valid_imp_CtWF
#print axioms HC.C14.ctTermsC_valid_imp_CtWF
#print axioms HC.C14.ctC_valid_iff_CtWF
#print axioms HC.C14.validImpCtWF_refuted
#print axioms HC.C14.repC_valid_iff
#print axioms HC.C14.polyC_valid_iff
#print axioms HC.C14.gen_writers_produce_enc
#print axioms HC.C14.gen_readers_are_dec
#print axioms HC.C14.gen_sizes_are_model
#print axioms HC.C14.gen_plain_source_round_trip
#print axioms HC.C14.gen_params_source_round_trip
#print axioms HC.C14.gen_params_empty_modulus_refused
#print axioms HC.C14.gen_terms_size_traps_on_empty
#print axioms HC.C14.gen_limited_source_round_trip
#print axioms HC.C14.gen_ct_serialize_full_produces_enc
#print axioms HC.C14.gen_ct_serialize_full_refusals
#print axioms HC.C14.gen_ct_serialize_produces_enc
#print axioms HC.C14.gen_ct_shape_fit_of_reduced
#print axioms HC.C14.gen_kswitch_serialize_produces_enc
#print axioms HC.C14.gen_ct_full_reader_agrees
#print axioms HC.C14.gen_ct_full_source_round_trip
#print axioms HC.C14.gen_secret_key
#print axioms HC.C14.gen_kswitch_sizes_are_model
#print axioms HC.C14.gen_kswitch_announced_eq_written
