/-
  `Conv2dHelper::new` (src/app/conv2d.rs, four nested reversed inclusive loops) regenerated into
  Gen/AppFns.lean = the hand model `cvSearch` / `CHelper.new` (Model/Matmul.lean).  Helper prefix `ga_`.
-/
import Heathcliff.Proofs.GenApp

namespace HC
open HC.MM HC.GenApp


/-- generated state `(best, best_b, best_h, best_w, best_ci, best_co)` of the model's `CBest`; the initial `best` is `usize::MAX` -/
def ga_ofCBest (s : CBest) : Nat × Nat × Nat × Nat × Nat × Nat := (s.c, s.b, s.h, s.w, s.ci, s.co)

theorem ga_ofCBest_init : ga_ofCBest CBest.init = (18446744073709551615, 0, 0, 0, 0, 0) := by rfl

/-- `ceil_div(D - k + 1, d - k + 1)` as the body computes it (five checked operations), in front of the rest `f` of the body -/
theorem ga_cv_cut_bind {β : Type} {D d k : Nat} (hk : k ≤ d) (hd : d ≤ D) (hD : D ≤ 2^15) (f : Nat → R β) :
    (do let t6 ← ckSub D k; let t7 ← ckAdd t6 1; let t8 ← ckSub d k; let t9 ← ckAdd t8 1; let t10 ← cv_ceil_div t7 t9; f t10)
      = f (ceilDiv (D - k + 1) (d - k + 1)) := by
  rw [ga_ckSub_bind (Nat.le_trans hk hd), ga_ckAdd_bind (by omega), ga_ckSub_bind hk, ga_ckAdd_bind (by omega),
    ga_cv_ceil_div_bind (by omega) (by omega)]

theorem ga_cv_cut_le {D d k : Nat} (hk : k ≤ d) (hD : D ≤ 2^15) : ceilDiv (D - k + 1) (d - k + 1) ≤ 2^16 :=
  Nat.le_trans (c20_ceilDiv_le (Nat.succ_le_succ (Nat.zero_le _))) (by omega)

/-! `ga_lt_of_le62`, `ga_add15_lt`, `ga_add_lt`, `ga_add3_lt`: the bounds the checked operations of the body need, each stated about variables,
    so that `omega` never runs in the context of `ga_cv_new_loop1` with its products of five block counts -/

theorem ga_lt_of_le62 {x : Nat} (h : x ≤ 2^62) : x < 2^64 := Nat.lt_of_le_of_lt h (by decide)

/-- the seven checked products of the body, in front of the rest `f`; `h` is `c20_cv_products`: block counts of at most 2^15 (2^16 for the
    two that count image rows / columns) keep every partial product below 2^62 -/
theorem ga_cv_prods_bind {β : Type} {cB cH cW cCi cCo : Nat}
    (h : cB * cH ≤ 2^62 ∧ cB * cH * cW ≤ 2^62 ∧ cB * cH * cW * cCi ≤ 2^62 ∧ cB * cH * cW * cCo ≤ 2^62 ∧ cCi * cCo ≤ 2^62)
    (f : Nat → Nat → Nat → R β) :
    (do let t18 ← ckMul cB cH; let t19 ← ckMul t18 cW; let t20 ← ckMul t19 cCi
        let t21 ← ckMul cB cH; let t22 ← ckMul t21 cW; let t23 ← ckMul t22 cCo
        let t24 ← ckMul cCi cCo
        f t20 t23 t24) = f (cB * cH * cW * cCi) (cB * cH * cW * cCo) (cCi * cCo) := by
  rw [ga_ckMul_bind (ga_lt_of_le62 h.1), ga_ckMul_bind (ga_lt_of_le62 h.2.1), ga_ckMul_bind (ga_lt_of_le62 h.2.2.1),
    ga_ckMul_bind (ga_lt_of_le62 h.1), ga_ckMul_bind (ga_lt_of_le62 h.2.1), ga_ckMul_bind (ga_lt_of_le62 h.2.2.2.1),
    ga_ckMul_bind (ga_lt_of_le62 h.2.2.2.2)]

theorem ga_add15_lt {a b : Nat} (ha : a ≤ 2^15) (hb : b ≤ a) : a + b < 2^64 := by omega
theorem ga_add_lt {x y : Nat} (hx : x ≤ 2^62) (hy : y ≤ 2^62) : x + y < 2^64 := by omega
theorem ga_add3_lt {x y z : Nat} (hx : x ≤ 2^62) (hy : y ≤ 2^62) (hz : z ≤ 2^62) : x + y + z < 2^64 := by omega

/-- innermost loop body (`co`): generated = `cvStep`; none of the 20 checked operations can trap for dimensions ≤ 2^15 -/
theorem ga_cv_new_loop1 (S : ConvShape) (obj : Objective) (b h w upper : Nat)
    (hsz : S.b ≤ 2^15 ∧ S.ci ≤ 2^15 ∧ S.co ≤ 2^15 ∧ S.h ≤ 2^15 ∧ S.w ≤ 2^15)
    (hb1 : 1 ≤ b) (hb2 : b ≤ S.b) (hh1 : S.kh ≤ h) (hh2 : h ≤ S.h) (hw1 : S.kw ≤ w) (hw2 : w ≤ S.w)
    (co : Nat) (hco1 : 1 ≤ co) (hco2 : co ≤ S.co) (t : CBest) :
    cv_new_loop1 S.b S.ci S.co S.h S.w S.kh S.kw obj b h w upper co (ga_ofCBest t)
      = .ok (.next (ga_ofCBest (cvStep S obj b h w upper t co))) := by
  obtain ⟨hSb, hSci, hSco, hSh, hSw⟩ := hsz
  by_cases hci : min S.ci (upper / co) = 0
  · simp only [cv_new_loop1, ga_ofCBest, cvStep, ga_ckDiv hco1, R.ok_bind, hci, if_true]
    rfl
  have hci1 : 1 ≤ min S.ci (upper / co) := Nat.pos_of_ne_zero hci
  have hcile : min S.ci (upper / co) ≤ S.ci := Nat.min_le_left _ _
  have b1 : ceilDiv S.b b ≤ 2^15 := Nat.le_trans (c20_ceilDiv_le hb1) hSb
  have b4 : ceilDiv S.ci (min S.ci (upper / co)) ≤ 2^15 := Nat.le_trans (c20_ceilDiv_le hci1) hSci
  have b5 : ceilDiv S.co co ≤ 2^15 := Nat.le_trans (c20_ceilDiv_le hco1) hSco
  have hp := c20_cv_products b1 (ga_cv_cut_le hh1 hSh) (ga_cv_cut_le hw1 hSw) b4 b5
  have p3 := hp.2.2.1
  have p4 := hp.2.2.2.1
  have p5 := hp.2.2.2.2
  show cv_new_loop1 S.b S.ci S.co S.h S.w S.kh S.kw obj b h w upper co (t.c, t.b, t.h, t.w, t.ci, t.co) = _
  simp only [cv_new_loop1, cvStep, if_neg hci]
  rw [ga_ckDiv_bind hco1, if_neg hci, ga_cv_ceil_div_bind hb1 (ga_add15_lt hSb hb2), ga_cv_cut_bind hh1 hh2 hSh,
    ga_cv_cut_bind hw1 hw2 hSw, ga_cv_ceil_div_bind hci1 (ga_add15_lt hSci hcile),
    ga_cv_ceil_div_bind hco1 (ga_add15_lt hSco hco2), ga_cv_prods_bind hp]
  cases obj
  · rw [ga_ckAdd_bind (ga_add_lt p3 p4), apply_ite ga_ofCBest]; rfl
  · rw [ga_ckAdd_bind (ga_add_lt p5 p4), apply_ite ga_ofCBest]; rfl
  · rw [ga_ckAdd_bind (ga_add_lt p3 p4), ga_ckAdd_bind (ga_add3_lt p3 p4 p5), apply_ite ga_ofCBest]; rfl

/-- one level of the loop nest: divide `upper` by the loop variable `v`, run the next loop from `min A (upper / v)` down to `lo` -/
theorem ga_cv_level (inner : Nat → Nat → Nat × Nat × Nat × Nat × Nat × Nat → R (Ctl (Nat × Nat × Nat × Nat × Nat × Nat)))
    (g : CBest → Nat → CBest) (upper v lo A : Nat) (hv : 1 ≤ v) (t : CBest)
    (h : ∀ j t', lo ≤ j → j ≤ min A (upper / v) → inner (upper / v) j (ga_ofCBest t') = .ok (.next (ga_ofCBest (g t' j)))) :
    (do let u ← GenApp.ckDiv upper v
        let (v1, v2, v3, v4, v5, v6) ← forDown lo (min A u + 1 - lo) (ga_ofCBest t) (inner u)
        pure (Ctl.next (v1, v2, v3, v4, v5, v6))) = .ok (.next (ga_ofCBest ((downRange lo (min A (upper / v))).foldl g t))) := by
  rw [ga_ckDiv_bind hv, ga_forDown_eq ga_ofCBest g (inner (upper / v)) lo (min A (upper / v) + 1 - lo) t
    fun j t' h1 h2 => h j t' h1 (by omega)]
  rfl

/-- the model's view of the generated `struct Conv2dHelper` -/
def ga_toCHelper (h : Conv2dHelper) : CHelper :=
  ⟨⟨h.batch_size, h.input_channels, h.output_channels, h.image_height, h.image_width, h.kernel_height, h.kernel_width⟩,
   h.batch_block, h.image_height_block, h.image_width_block, h.input_channel_block, h.output_channel_block, h.slot_count⟩

/-- **`Conv2dHelper::new`, generated = model**: every shape with dimensions ≤ 2^15 and a non-empty kernel, every degree, every objective.
    (`kernel_height = 0` / `kernel_width = 0` are excluded because the code divides by the loop variable `h` / `w`, which then starts at 0.) -/
theorem ga_cv_new_eq (S : ConvShape) (N : Nat) (obj : Objective)
    (hsz : S.b ≤ 2^15 ∧ S.ci ≤ 2^15 ∧ S.co ≤ 2^15 ∧ S.h ≤ 2^15 ∧ S.w ≤ 2^15) (hkh : 1 ≤ S.kh) (hkw : 1 ≤ S.kw) :
    (cv_new S.b S.ci S.co S.h S.w S.kh S.kw N obj).map ga_toCHelper = .ok (CHelper.new S N obj) := by
  have hl := ga_forDown_eq ga_ofCBest (fun st b =>
      (downRange S.kh (min S.h (N / b))).foldl (fun st h =>
        (downRange S.kw (min S.w (N / b / h))).foldl (fun st w =>
          (downRange 1 (min S.co (N / b / h / w))).foldl (cvStep S obj b h w (N / b / h / w)) st) st) st)
    (cv_new_loop4 S.b S.ci S.co S.h S.w S.kh S.kw obj N) 1 (S.b + 1 - 1) CBest.init
    fun b t hb1 hb2 => ga_cv_level (cv_new_loop3 S.b S.ci S.co S.h S.w S.kh S.kw obj b) _ N b S.kh S.h hb1 t
    fun h t hh1 hh2 => ga_cv_level (cv_new_loop2 S.b S.ci S.co S.h S.w S.kh S.kw obj b h) _ (N / b) h S.kw S.w (by omega) t
    fun w t hw1 hw2 => ga_cv_level (cv_new_loop1 S.b S.ci S.co S.h S.w S.kh S.kw obj b h w) _ (N / b / h) w 1 S.co (by omega) t
    fun co t hc1 hc2 => ga_cv_new_loop1 S obj b h w (N / b / h / w) hsz hb1 (by omega) hh1 (le_trans hh2 (Nat.min_le_left _ _))
      hw1 (le_trans hw2 (Nat.min_le_left _ _)) co hc1 (le_trans hc2 (Nat.min_le_left _ _)) t
  rw [ga_ofCBest_init] at hl
  simp only [cv_new, hl, Except.map, pure, Except.pure, bind, Except.bind]
  simp only [ga_ofCBest, ga_toCHelper, CHelper.new, cvSearch, ga_downRange_eq]

end HC
