import Heathcliff.Gen.GaloisPlanFns
import Heathcliff.Model.KeySwitch
import Heathcliff.Proofs.GenGaloisElts
import Heathcliff.Proofs.GenNaf
import Heathcliff.Proofs.C04R

/-!
  Translator tie ("plan mode" of tools/rs2lean_gal.py) for the rotation layer of src/evaluator.rs:
  `rotate_internal` (one level, generated as `GenGal.rotate_internal_level`) closed under its own recursion = `rotatePlan` of
  Model/Galois.lean; `conjugate_internal`; the step plan of `apply_galois_inplace` = `galoisPlan`, whose interpretation with the model's
  operations is `applyGalois` of Model/KeySwitch.lean; the scheme gates of the four public entry points.
  Definitions of this file (proof-side, none is part of the model): `rotateLevel` (one level of the model's `rotatePlan`, see `rotatePlan_level`),
  `gal_rotateGen` (the generated level function closed under the recursion), `galoisPlan` and `runGaloisPlan` (the step plan of
  `apply_galois_inplace` and its interpretation), `gal_apC` / `gal_apN`.  Helper names start with `gal_`; `gx_` names are GenGaloisElts'.
-/
namespace HC
open HC.GenGal

/-- one level of `rotate_internal` for a valid ciphertext / key set: (elements applied directly, sub-rotations in order) -/
def rotateLevel (k : Nat) (keys : List Nat) (steps : Int) : R (List Nat × List Int) :=
  if steps = 0 then pure ([], []) else do
  let e ← eltFromStep k steps
  if keys.contains e then pure ([e], []) else do
  let ds ← naf steps
  if ds.length = 1 then .error .refused else
  pure ([], ds.filter (fun d => decide (d.natAbs ≠ 2^k / 2)))

/-- the recursion of `rotate_internal` closed over the GENERATED level function: the sub-rotations are performed in order, each with the
    same keys (fuel = recursion depth, as in `rotatePlan`) -/
def gal_rotateGen (k : Nat) (keys : List Nat) : Nat → Int → R (List Nat)
  | 0, _ => .error .other
  | fuel+1, steps => do
    let r ← GenGal.rotate_internal_level steps (2^k) keys true true true
    r.2.foldlM (fun acc d => do
      let p ← gal_rotateGen k keys fuel d
      pure (acc ++ p)) r.1

theorem gal_filter_fold (P : Int → Prop) [DecidablePred P] (f : List Int → Int → R (List Int))
    (hf : ∀ st v, f st v = if P v then .ok (st ++ [v]) else .ok st) :
    ∀ (ds acc : List Int), ds.foldlM f acc = .ok (acc ++ ds.filter (fun d => decide (P d))) := by
  intro ds
  induction ds with
  | nil => intro acc; simp [List.foldlM_nil, R.pure_eq']
  | cons d tl ih =>
    intro acc
    rw [List.foldlM_cons, hf]
    by_cases h : P d
    · rw [if_pos h, R.ok_bind', ih, List.filter_cons_of_pos (by simpa using h)]; simp
    · rw [if_neg h, R.ok_bind', ih, List.filter_cons_of_neg (by simpa using h)]

theorem gal_eltFromStep_range {k : Nat} {steps : Int} {e : Nat} (h0 : steps ≠ 0) (h : eltFromStep k steps = .ok e) :
    steps.natAbs < 2^k / 2 :=
  ((c04r_eltFromStep_inv h).resolve_left fun h' => h0 h'.1).2.1

theorem gal_castI32 {x : Int} (h : x.natAbs < 2147483648) : castI32 x = x := by
  have h1 : (-2147483648 : Int) < x := by omega
  have h2 : x < (2147483648 : Int) := by omega
  show (x + 2147483648) % 4294967296 - 2147483648 = x
  have : (x + 2147483648) % 4294967296 = x + 2147483648 := Int.emod_eq_of_lt (by omega) (by omega)
  rw [this]; omega

/-- `rotate_internal` (generated level function; valid ciphertext, batching, keys of the key level) = `rotateLevel`.
    `k ≤ 31`: then every step that `get_elt_from_step` accepts (|steps| < N/2) is below 2^30, where the `naf` tie holds and
    `steps as i32` does not truncate.
    Proof: the case distinctions of the source in its order (steps = 0; key present; the NAF), each side simplified with the ties
    `gx_get_elt_from_step_eq`, `gn_naf_eq`; the filtering loop is `gal_filter_fold`. -/
theorem gal_rotate_level_eq (k : Nat) (hk : k ≤ 31) (keys : List Nat) (steps : Int) :
    GenGal.rotate_internal_level steps (2^k) keys true true true = rotateLevel k keys steps := by
  unfold GenGal.rotate_internal_level rotateLevel
  simp only [not_true_eq_false, if_false]
  by_cases h0 : steps = 0
  · simp only [h0, if_true]
  · simp only [h0, if_false]
    rw [gx_get_elt_from_step_eq k (by omega) steps]
    cases he : eltFromStep k steps with
    | error e => simp only [R.error_bind']
    | ok e =>
      simp only [R.ok_bind', bind_pure_comp, has_key]
      have hr := gal_eltFromStep_range h0 he
      have h30 : (2:Nat)^k / 2 ≤ 1073741824 := by
        calc (2:Nat)^k / 2 ≤ 2^31 / 2 := Nat.div_le_div_right (Nat.pow_le_pow_right (by omega) hk)
          _ = 1073741824 := by norm_num
      cases hc : keys.contains e with
      | true => simp only [if_true]; rfl
      | false =>
        simp only [Bool.false_eq_true, if_false]
        rw [gal_castI32 (by omega), gn_naf_eq steps (by norm_num; omega)]
        cases hn : naf steps with
        | error e => rfl
        | ok ds =>
          simp only [R.ok_bind']
          by_cases h1 : ds.length = 1
          · simp only [h1, if_true]
          · simp only [h1, if_false]
            rw [gal_filter_fold (fun d => d.natAbs ≠ 2^k / 2) _ (by
              intro st v
              rw [Nat.shiftRight_eq_div_pow, Nat.pow_one]
              by_cases hv : v.natAbs ≠ 2^k / 2
              · rw [if_pos hv, if_pos hv]; rfl
              · rw [if_neg hv, if_neg hv]; rfl)]
            rfl

theorem gal_skip_fold (k : Nat) (F : Int → R (List Nat)) :
    ∀ (ds : List Int) (acc : List Nat),
      ds.foldlM (fun acc d => if d.natAbs = 2^k / 2 then (pure acc : R (List Nat)) else (F d >>= fun r => pure (acc ++ r))) acc =
      (ds.filter (fun d => decide (d.natAbs ≠ 2^k / 2))).foldlM (fun acc d => do
          let r ← F d
          pure (acc ++ r)) acc := by
  intro ds
  induction ds with
  | nil => intro acc; rfl
  | cons d tl ih =>
    intro acc
    by_cases h : d.natAbs = 2^k / 2
    · rw [List.foldlM_cons, if_pos h, List.filter_cons_of_neg (by simpa using h)]
      exact ih acc
    · rw [List.foldlM_cons, if_neg h, List.filter_cons_of_pos (by simpa using h), List.foldlM_cons]
      cases F d with
      | error e => rfl
      | ok r => exact ih (acc ++ r)

/-- `rotatePlan` is the recursion over `rotateLevel`: the elements applied directly, then the sub-rotations in order -/
theorem rotatePlan_level (k : Nat) (keys : List Nat) (fuel : Nat) (steps : Int) :
    rotatePlan k keys (fuel + 1) steps = (rotateLevel k keys steps >>= fun r =>
      r.2.foldlM (fun acc d => rotatePlan k keys fuel d >>= fun p => pure (acc ++ p)) r.1) := by
  rw [c04r_rotatePlan_succ, rotateLevel]
  by_cases h0 : steps = 0
  · rw [if_pos h0, if_pos h0]; rfl
  · rw [if_neg h0, if_neg h0]
    cases eltFromStep k steps with
    | error e => rfl
    | ok e =>
      simp only [R.ok_bind']
      cases keys.contains e with
      | true => rfl
      | false =>
        simp only [Bool.false_eq_true, if_false]
        cases naf steps with
        | error e => rfl
        | ok ds =>
          simp only [R.ok_bind']
          by_cases h1 : ds.length = 1
          · rw [if_pos h1, if_pos h1]; rfl
          · rw [if_neg h1, if_neg h1]
            exact gal_skip_fold k (rotatePlan k keys fuel) ds []

theorem gal_rotateGen_eq (k : Nat) (hk : k ≤ 31) (keys : List Nat) :
    ∀ (fuel : Nat) (steps : Int), gal_rotateGen k keys fuel steps = rotatePlan k keys fuel steps
  | 0, _ => rfl
  | fuel + 1, steps => by
    rw [rotatePlan_level, gal_rotateGen, gal_rotate_level_eq k hk]
    simp only [gal_rotateGen_eq k hk keys fuel]

/-- the plan computed by the GENERATED `rotate_internal` (closed under its recursion) uses only elements that have keys, all odd and < 2N,
    and its product is 3^(steps mod N/2) modulo 2N: the composition rotates by `steps` -/
theorem gal_rotateGen_ok {k : Nat} (hk2 : 2 ≤ k) (hk : k ≤ 31) (keys : List Nat) (fuel : Nat) (steps : Int) (plan : List Nat)
    (h : gal_rotateGen k keys fuel steps = .ok plan) : c04r_PlanOK k keys steps plan :=
  c04r_rotatePlan_ok hk2 keys fuel steps plan (by rw [← gal_rotateGen_eq k hk]; exact h)

/-- executing the plan computed by the GENERATED `rotate_internal` with the model's `applyGalois` rotates the slot rows by `steps` (BFV).
    This is `c04r_rotatePlan_bfv` (C04R) word for word, with ONE hypothesis exchanged: `hplan` speaks of `gal_rotateGen` (the generated code)
    where that theorem has `rotatePlan`; `hk31 : l.k ≤ 31` is added for `gal_rotateGen_eq`.  All other hypotheses are explained there. -/
theorem gal_rotateGen_bfv {kl : KeyLevel} {l : Level} (hl : l.WF) (hd : DecOK l) (hlo : c04k_LevelOf kl l) (hK : c04r_KLOK kl l)
    {T : NTTTables} (hT : T.WF) (hTk : T.k = l.k) (hTm : T.modulus.value = l.t.value) (hk2 : 2 ≤ l.k) (hk31 : l.k ≤ 31)
    {sk : Array Int} (hsk : sk.size = l.n) (keyOf : Nat → KSKey) (eOf : Nat → Nat → Nat → Int) (GOf : Nat → Nat → Int)
    {A Be V : Nat} (hA : ∀ i, i < l.size → (kl.m i).value ≤ A)
    (hV : (l.size * (A * (kl.n * Be)) + kl.c04t_P / 2 * (1 + ∑ p ∈ Finset.range kl.n, (sk.getD p 0).natAbs)) / kl.c04t_P ≤ V)
    {keys : List Nat} (hkeys : ∀ g ∈ keys, c04r_GalKey kl l sk g (keyOf g) (eOf g) (GOf g) ∧
      ∀ i, i < l.size → ∀ p, p < kl.n → (eOf g i p).natAbs ≤ Be)
    {fuel : Nat} {steps : Int} {plan : List Nat} (hplan : gal_rotateGen l.k keys fuel steps = .ok plan)
    {polys : Array RnsPoly} {cf E : Nat} (h2 : polys.size = 2) (hc : ∀ k, k < 2 → RnsCanon l (polys.getD k #[]))
    (hE : ∀ c, c < l.n → (c04r_bfvNoise l.t.value (Spec.prodL (c01p_qvals l))
      ((Spec.phase (c01p_qvals l) l.n sk polys.toList).getD c 0)).natAbs ≤ E)
    (hm : 2 * l.tool.gamma.value * (E + plan.length * (l.t.value * V)) + 2 * l.size * Spec.prodL (c01p_qvals l)
      ≤ Spec.prodL (c01p_qvals l) * l.tool.gamma.value) :
    (∀ g ∈ plan, g ∈ keys) ∧ plan.prod % (2 * 2^l.k) = 3 ^ c04r_stepExp l.k steps % (2 * 2^l.k) ∧
    ∃ ct' m m', c04r_applyChain kl l .bfv keyOf plan ⟨polys, false, cf⟩ = .ok ct' ∧
      bfvDecrypt l sk ⟨polys, false, cf⟩ = .ok m ∧ bfvDecrypt l sk ct' = .ok m' ∧
      ∀ i, i < l.n → (batchDecode T m').getD i 0 =
        (batchDecode T m).getD (c04r_rotIdx l.k (c04r_stepExp l.k steps) i) 0 :=
  c04r_rotatePlan_bfv hl hd hlo hK hT hTk hTm hk2 hsk keyOf eOf GOf hA hV hkeys
    (by rw [← gal_rotateGen_eq l.k hk31]; exact hplan) h2 hc hE hm

/-- non-vacuity: N = 16 with only the default keys, i.e. those of the steps ±1, ±2, ±4 (elements 3^(±2^j) mod 32: 3, 11 = 3⁻¹, 9, 25 = 9⁻¹,
    17 = 81 mod 32, which is its own inverse and so listed twice) and of the conjugation (31): steps = 3 has no key and is composed from
    NAF terms -/
example : gal_rotateGen 4 [31, 3, 11, 9, 25, 17, 17] 4 3 = rotatePlan 4 [31, 3, 11, 9, 25, 17, 17] 4 3 := gal_rotateGen_eq 4 (by decide) _ 4 3

/-- refusals of the three panics in front: invalid parms_id, no batching, keys of another context -/
theorem gal_rotate_level_refuses (steps : Int) (n : Nat) (keys : List Nat) (valid batching keysOk : Bool)
    (h : valid = false ∨ batching = false ∨ keysOk = false) :
    GenGal.rotate_internal_level steps n keys valid batching keysOk = .error .refused := by
  unfold GenGal.rotate_internal_level
  rcases h with h | h | h
  · subst h; rfl
  · subst h; cases valid <;> rfl
  · subst h; cases valid <;> cases batching <;> rfl

theorem gal_conjugate_eq (k : Nat) (hk : k ≤ 61) :
    GenGal.conjugate_internal (2^k) true true = .ok [2 * 2^k - 1] := by
  unfold GenGal.conjugate_internal
  simp only [not_true_eq_false, if_false]
  rw [gx_get_elt_from_step_eq k hk 0]
  unfold eltFromStep
  simp only [if_true]
  rfl

/-- the step plan of `apply_galois_inplace`: the codes that the generated skeleton appends for its steps on opaque objects, chosen by the
    translator's table (tools/rs2lean_gal.py, `SK_APPLY`).  With `temp` the scratch polynomial and `g` the Galois element:
      1 = `apply_p(c0, g, temp)`,   11 = `apply_ntt_p(c0, g, temp)`   (temp := the Galois image of c0, coefficient / NTT form),
      2 = `c0.copy_from_slice(temp)`,
      3 = `apply_p(c1, g, temp)`,   13 = `apply_ntt_p(c1, g, temp)`   (temp := the image of c1),
      4 = `c1.fill(0)`,
      `5, i` = `switch_key_inplace_internal(encrypted, temp, keys, i)` with `i = GaloisKeys::get_index(g) = (g − 1) / 2`.
    That a code stands for the call it names is the trusted reading of the skeleton. -/
def galoisPlan (ntt : Bool) (g : Nat) : List Nat :=
  if ntt then [11, 2, 13, 4, 5, (g - 1) / 2] else [1, 2, 3, 4, 5, (g - 1) / 2]

theorem gal_apply_plan_eq (g n k size : Nat) (ntt has : Bool) (hn : n * 2 < 2^64) (hnk : n * k < 2^64) :
    GenGal.apply_galois_inplace_plan g n k size ntt true true true has =
      if has = false then .error .refused
      else if g % 2 = 0 ∨ g > 2 * n then .error .refused
      else if size > 2 then .error .refused
      else .ok (galoisPlan ntt g) := by
  unfold GenGal.apply_galois_inplace_plan
  simp only [not_true_eq_false, if_false, ckMul_ok hn, ckMul_ok hnk, R.ok_bind', Nat.and_one_is_mod]
  cases has with
  | false => simp
  | true =>
    simp only [not_true_eq_false, if_false, Bool.true_eq_false]
    rw [Nat.mul_comm n 2]
    by_cases hg : g % 2 = 0 ∨ g > 2 * n
    · simp only [hg, if_true]
    · simp only [hg, if_false]
      by_cases hs : size > 2
      · simp only [hs, if_true]
      · simp only [hs, if_false]
        have hodd : g % 2 = 1 := by omega
        have hi : GenG.get_index_from_elt g = .ok ((g - 1) / 2) := by rw [gx_get_index_from_elt_eq, if_pos hodd]
        unfold galoisPlan
        cases ntt <;> simp [hi, R.ok_bind', R.pure_eq']

/-- interpretation of the step codes (legend at `galoisPlan`) with the model's operations.  State: (c0, c1, temp).  `apC` / `apN` = the
    coefficient-form / NTT-form kernel over all RNS components (`apply_p` / `apply_ntt_p`), `sw c0 c1 temp i` = the key switch with key
    index `i`; any other code sequence is an error. -/
def runGaloisPlan {σ : Type} (apC apN : RnsPoly → R RnsPoly) (zero : RnsPoly) (sw : RnsPoly → RnsPoly → RnsPoly → Nat → R σ) :
    List Nat → RnsPoly → RnsPoly → RnsPoly → R σ
  | [5, i], c0, c1, t => sw c0 c1 t i
  | 1 :: rest, c0, c1, _ => do let t ← apC c0; runGaloisPlan apC apN zero sw rest c0 c1 t
  | 11 :: rest, c0, c1, _ => do let t ← apN c0; runGaloisPlan apC apN zero sw rest c0 c1 t
  | 2 :: rest, _, c1, t => runGaloisPlan apC apN zero sw rest t c1 t
  | 3 :: rest, c0, c1, _ => do let t ← apC c1; runGaloisPlan apC apN zero sw rest c0 c1 t
  | 13 :: rest, c0, c1, _ => do let t ← apN c1; runGaloisPlan apC apN zero sw rest c0 c1 t
  | 4 :: rest, c0, _, t => runGaloisPlan apC apN zero sw rest c0 zero t
  | _, _, _, _ => .error .other

/-- RNS-component-wise kernels of the model (the body of `ap` in `applyGalois`) -/
def gal_apC (l : Level) (g : Nat) (p : RnsPoly) : R RnsPoly :=
  (List.range l.size).foldlM (fun acc i => do
    let c ← galoisApply l.k (p.getD i #[]) g (l.q i)
    pure (acc.push c)) #[]
def gal_apN (l : Level) (g : Nat) (p : RnsPoly) : R RnsPoly :=
  (List.range l.size).foldlM (fun acc i => do
    let c ← (pure (galoisApplyNtt l.k (p.getD i #[]) g) : R Poly)
    pure (acc.push c)) #[]

/-- running the GENERATED plan of `apply_galois_inplace` with the model's kernels and `switchKey` is `applyGalois`
    (size-2 ciphertext, valid element); `keyAt` = the key table indexed by `GaloisKeys::get_index` -/
theorem gal_runPlan_applyGalois (kl : KeyLevel) (l : Level) (scheme : Scheme) (ct : Ct) (g : Nat) (key : KSKey)
    (keyAt : Nat → KSKey) (hkey : keyAt ((g - 1) / 2) = key)
    (h2 : ct.polys.size = 2) (hg : ¬ (g % 2 = 0 ∨ g > 2 * l.n)) :
    runGaloisPlan (gal_apC l g) (gal_apN l g) (rnsZero l)
        (fun c0 c1 t i => switchKey kl scheme l.size { ct with polys := #[c0, c1] } t (keyAt i))
        (galoisPlan ct.ntt g) (ct.polys.getD 0 #[]) (ct.polys.getD 1 #[]) #[] =
      applyGalois kl l scheme ct g key := by
  unfold applyGalois galoisPlan
  simp only [h2, ne_eq, not_true_eq_false, if_false, hg]
  cases hntt : ct.ntt with
  | true =>
    simp only [if_true, runGaloisPlan, gal_apN, hkey, R.pure_eq', R.ok_bind']
  | false =>
    simp only [Bool.false_eq_true, if_false, runGaloisPlan, gal_apC, hkey]

/-- the prologue of `switch_key_inplace_internal` (valid ciphertext, key switching available, keys of the key level): index range and the
    scheme / representation gate — the gate of the model's `switchKey` (BFV: coefficient form; CKKS, BGV: NTT form) -/
theorem gal_switch_prologue_eq (scheme : Scheme) (ntt : Bool) (index nkeys : Nat) :
    GenGal.switch_key_prologue scheme ntt true true true index nkeys =
      if index ≥ nkeys then .error .refused
      else (match scheme with
            | .bfv => if ntt then Except.error Err.refused else pure ()
            | _ => if !ntt then Except.error Err.refused else pure ()) >>= fun _ => .ok [] := by
  unfold GenGal.switch_key_prologue
  by_cases h : index ≥ nkeys
  · simp only [not_true_eq_false, if_false, h, if_true]
  · simp only [not_true_eq_false, if_false, h]
    cases scheme <;> cases ntt <;> rfl

theorem gal_switch_prologue_refuses (scheme : Scheme) (ntt valid usingKs keysOk : Bool) (index nkeys : Nat)
    (h : valid = false ∨ usingKs = false ∨ keysOk = false) :
    GenGal.switch_key_prologue scheme ntt valid usingKs keysOk index nkeys = .error .refused := by
  unfold GenGal.switch_key_prologue
  rcases h with h | h | h
  · subst h; rfl
  · subst h; cases valid <;> rfl
  · subst h; cases valid <;> cases usingKs <;> rfl

theorem gal_map_fold (g : Nat → Nat) (f : List Nat → Nat → R (List Nat)) (hf : ∀ st v, f st v = .ok (st ++ [g v])) :
    ∀ (l acc : List Nat), l.foldlM f acc = .ok (acc ++ l.map g) := by
  intro l
  induction l with
  | nil => intro acc; simp [List.foldlM_nil, R.pure_eq']
  | cons d tl ih => intro acc; rw [List.foldlM_cons, hf, R.ok_bind', ih]; simp

/-- the key-level modulus / NTT-table index used for RNS index i of the accumulation loop, i = 0 .. dsz: i itself for the level's own primes,
    `ksz − 1` (the special prime, LAST of the key level) for i = dsz — whatever the level — = `keyIndex` of the model's `ksAccumulate` -/
theorem gal_switch_indices_eq (dsz ksz : Nat) (hd : dsz + 1 < 2^64) (hk : 1 ≤ ksz) :
    GenGal.switch_key_indices dsz ksz = .ok ((List.range (dsz + 1)).map (fun i => if i = dsz then ksz - 1 else i)) := by
  unfold GenGal.switch_key_indices
  have h2 := ckSub_of_le hk
  simp only [ckAdd_ok hd, R.ok_bind', Nat.sub_zero]
  rw [gal_map_fold (fun i => if i = dsz then ksz - 1 else i) _ (by
    intro st v
    by_cases hv : v = dsz
    · simp only [hv, if_true, h2, R.ok_bind', R.pure_eq']
    · simp only [hv, if_false, R.ok_bind', R.pure_eq'])]
  simp [List.range_eq_range', R.pure_eq']

theorem gal_rotate_rows_gate (s : Scheme) :
    GenGal.rotate_rows_inplace s = if s = .bfv ∨ s = .bgv then .ok [1] else .error .refused := by
  cases s <;> rfl
theorem gal_rotate_columns_gate (s : Scheme) :
    GenGal.rotate_columns_inplace s = if s = .bfv ∨ s = .bgv then .ok [2] else .error .refused := by
  cases s <;> rfl
theorem gal_rotate_vector_gate (s : Scheme) :
    GenGal.rotate_vector_inplace s = if s = .ckks then .ok [1] else .error .refused := by
  cases s <;> rfl
theorem gal_complex_conjugate_gate (s : Scheme) :
    GenGal.complex_conjugate_inplace s = if s = .ckks then .ok [2] else .error .refused := by
  cases s <;> rfl

end HC
