/- C02 part PK: the key level made of a level's parts (`c02p_keyLevel`: its moduli and tables, with the last modulus as special prime, and
   the constants `inv_q_last_mod_q`, `inv_q_last_mod_t` of its tool) has the key-switching bundles `KeyLevel.WF`, `c04t_InvP`, `c04t_BgvData`
   as soon as the level has `Level.WF`, `c05u_ToolOK`, `c05u_BgvOK`. -/
import Heathcliff.Proofs.C05U
import Heathcliff.Proofs.C04T
namespace HC

/-- the key level made at `L` (last modulus = special prime): what key switching reads of `L` -/
def c02p_keyLevel (n : Nat) (L : Level) : KeyLevel := ⟨n, L.qs, L.tables, L.tool.invQLastModQ, L.tool.invQLastModT, L.t⟩

theorem c02p_keyLevel_size (n : Nat) (L : Level) : (c02p_keyLevel n L).ms.size = L.size := rfl
theorem c02p_keyLevel_t (n : Nat) (L : Level) : (c02p_keyLevel n L).t = L.t := rfl

theorem c02p_keyLevel_wf {L : Level} {n : Nat} (h : L.WF) (hn : L.n = n) : (c02p_keyLevel n L).WF := by
  refine ⟨h.tsize, fun i hi => ?_⟩
  obtain ⟨h1, h2, h3⟩ := h.twf i hi
  refine ⟨h1, h2, ?_⟩
  show 2^(L.tbl i).k = n
  rw [h3, ← h.npow, hn]

theorem c02p_keyLevel_invP {L : Level} {n dsz : Nat} (hto : c05u_ToolOK L) (hd : dsz + 1 ≤ L.size) : c04t_InvP (c02p_keyLevel n L) dsz :=
  fun j hj => hto.inv j (by omega)

theorem c02p_keyLevel_bgv {L : Level} {n : Nat} (hbg : c05u_BgvOK L) : c04t_BgvData (c02p_keyLevel n L) := by
  refine ⟨hbg.twf, ?_, hbg.invt⟩
  have := hbg.invt_lt
  have := hbg.twf.lt
  show L.tool.invQLastModT < 2^64
  omega

end HC
