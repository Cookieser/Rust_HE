/-
  C20G: output re-encoding against output decoding (block level), the selected-terms transport, and the rotations of ONE row of
  slots as functions `Nat → α` (`c20_rot`: additivity, baby-step / giant-step split, periodicity).  The end-to-end theorems of the
  BOLT slot-packing variants (C20K–C20O) do not use `c20_rot`: they follow the model's two-row slot vectors through `c20_rho` /
  `c20_sigma` of C20K.
-/
import Heathcliff.Proofs.C20B

namespace HC
open Finset HC.MM

/-- `encode_outputs_*` writes entry (db, dj) of a block exactly where `decrypt_outputs_*` reads it (`outPos`), and nothing else:
    reading the encoded block at the decoder's positions returns the entries (inverse pair at block level) -/
theorem c20_encOutput_spec {R : Type} (zero : R) (h : Helper) (y : Nat → R) (hfit : h.bb * h.ib * h.ob ≤ h.n) (hib : 0 < h.ib)
    (li ui lj uj : Nat) (hb : ui - li ≤ h.bb) (ho : uj - lj ≤ h.ob) :
    ∃ p, encOutputBlock h zero y li ui lj uj = .ok p ∧ p.size = h.n ∧
      (∀ q, (∀ db dj, db < ui - li → dj < uj - lj → outPos h db dj ≠ q) → p.getD q zero = zero) ∧
      (∀ db dj, db < ui - li → dj < uj - lj → readAt p (outPos h db dj) = .ok (y ((li + db) * h.od + (lj + dj)))) := by
  have hbound : ∀ db dj, db < ui - li → dj < uj - lj → outPos h db dj < h.n := fun db dj h1 h2 =>
    c20_outPos_lt hib hfit (lt_of_lt_of_le h1 hb) (lt_of_lt_of_le h2 ho)
  obtain ⟨a, hf, hs, hz, hv⟩ := c20_scatter_map zero h.n h.n (pairs (ui - li) (uj - lj))
    (fun p => outPos h p.1 p.2) (fun p => y ((li + p.1) * h.od + (lj + p.2)))
    (by
      intro p hp
      obtain ⟨h1, h2⟩ := c20_mem_pairs.mp hp
      exact ⟨hbound _ _ h1 h2, hbound _ _ h1 h2⟩)
    (by
      intro p hp p' hp' he
      obtain ⟨h1, h2⟩ := c20_mem_pairs.mp hp
      obtain ⟨h1', h2'⟩ := c20_mem_pairs.mp hp'
      rw [c20_outPos_pos4, c20_outPos_pos4] at he
      obtain ⟨e1, _, _, _⟩ := c20_pos4_inj (Nat.sub_lt hib Nat.one_pos) (Nat.sub_lt hib Nat.one_pos) Nat.one_pos Nat.one_pos
        Nat.one_pos Nat.one_pos he
      obtain ⟨e1, e4⟩ := grid_inj (lt_of_lt_of_le h2 ho) (lt_of_lt_of_le h2' ho) e1
      rw [e1, e4])
  refine ⟨a, hf, hs, ?_, ?_⟩
  · intro q hq
    exact hz q (fun p hp => by obtain ⟨h1, h2⟩ := c20_mem_pairs.mp hp; exact hq p.1 p.2 h1 h2)
  · intro db dj h1 h2
    have hv' := hv (db, dj) (c20_mem_pairs.mpr ⟨h1, h2⟩)
    have hlt : outPos h db dj < a.size := by rw [hs]; exact hbound db dj h1 h2
    rw [c20_readAt_getD zero a hlt, hv']

/-- selected-terms transport: every position the decoder reads is among the transported terms (`output_terms`) -/
theorem c20_terms_superset (h : Helper) (db dj : Nat) (hdb : db < h.bb) (hdj : dj < h.ob) : outPos h db dj ∈ outputTerms h := by
  unfold outputTerms
  exact List.mem_map.mpr ⟨(db, dj), c20_mem_pairs.mpr ⟨hdb, hdj⟩, rfl⟩

/-- cyclic rotation of a row of `n` slots by `s` (what `rotate_rows` does to each of the two rows) -/
def c20_rot {α : Type} (n s : Nat) (v : Nat → α) : Nat → α := fun i => v ((i + s) % n)

theorem c20_rot_add {α : Type} (n a b : Nat) (v : Nat → α) (i : Nat) :
    c20_rot n b (c20_rot n a v) i = c20_rot n (a + b) v i := by
  unfold c20_rot
  congr 1
  rw [Nat.add_mod ((i + b) % n) a n, Nat.mod_mod, ← Nat.add_mod]
  congr 1; omega

/-- baby-step / giant-step identity: rotating by `g·a + b` = rotating by `b` (baby steps, done on the inputs) then by `g·a`
    (giant steps, done on the partial sums) -/
theorem c20_rot_bsgs {α : Type} (n g a b : Nat) (v : Nat → α) (i : Nat) :
    c20_rot n (g * a) (c20_rot n b v) i = c20_rot n (g * a + b) v i := by
  rw [c20_rot_add, Nat.add_comm]

theorem c20_rot_mod {α : Type} (n s : Nat) (v : Nat → α) (i : Nat) : c20_rot n (s % n) v i = c20_rot n s v i := by
  unfold c20_rot
  congr 1
  rw [Nat.add_mod i (s % n) n, Nat.mod_mod, ← Nat.add_mod]

/-- slot-wise product distributes over rotation (why rotated inputs can be multiplied with pre-rotated weights) -/
theorem c20_rot_mul {R : Type} [Mul R] (n s : Nat) (u v : Nat → R) (i : Nat) :
    c20_rot n s (fun k => u k * v k) i = c20_rot n s u i * c20_rot n s v i := rfl

end HC
