/- The revelation protocol of Model/Multiparty.lean: deliveries from different senders commute (`c18_receiveAll_perm`); after any delivery
   history the slots of the senders hold their messages and all others are untouched (`c18_receiveAll_state`); in a commutative ring `finish`
   adds the filled slots (`c18_sumSlots_ring`); the round functions of the protocols in closed form over a commutative ring (`c18_pkShare`, …,
   `c18_s2cShare`, with the noise term `c18_nz`).  All names carry the tag `c18_`. -/
import Heathcliff.Model.Multiparty
import Mathlib.Tactic.Ring
import Mathlib.Tactic.Linarith
import Mathlib.Tactic.Abel
import Mathlib.Algebra.BigOperators.Ring.Finset
import Mathlib.Algebra.BigOperators.Intervals
import Mathlib.Algebra.Order.BigOperators.Group.Finset
import Mathlib.Data.List.Perm.Basic
import Mathlib.Algebra.Group.Equiv.Basic
namespace HC
open HC.MP Finset

variable {α : Type}

theorem c18_receiveAll_cons (p : Reveal α) (x : Nat × α) (l : List (Nat × α)) :
    p.receiveAll (x :: l) = match p.receive x.1 x.2 with
      | .ok p' => p'.receiveAll l
      | .error e => .error e := by
  cases x; rfl

theorem c18_receive_ok (p : Reveal α) (s : Nat) (m : α) (h : s < p.slots.length) :
    p.receive s m = .ok { p with slots := p.slots.set s (some m) } := by
  simp [Reveal.receive, h]

theorem c18_receive_err (p : Reveal α) (s : Nat) (m : α) (h : ¬ s < p.slots.length) :
    p.receive s m = .error .oob := by
  simp [Reveal.receive, h]

/-- two messages from different senders may arrive in either order (if both senders are in range the two `set`s commute, `List.set_comm`; otherwise the same message is refused in either order -/
theorem c18_receiveAll_swap (p : Reveal α) (x y : Nat × α) (l : List (Nat × α)) (h : x.1 ≠ y.1) :
    p.receiveAll (x :: y :: l) = p.receiveAll (y :: x :: l) := by
  rw [c18_receiveAll_cons, c18_receiveAll_cons]
  by_cases hx : x.1 < p.slots.length <;> by_cases hy : y.1 < p.slots.length
  · rw [c18_receive_ok _ _ _ hx, c18_receive_ok _ _ _ hy]
    simp only
    rw [c18_receiveAll_cons, c18_receiveAll_cons]
    rw [c18_receive_ok _ _ _ (by simpa using hy), c18_receive_ok _ _ _ (by simpa using hx)]
    simp only
    rw [List.set_comm _ _ h]
  · rw [c18_receive_ok _ _ _ hx, c18_receive_err _ _ _ hy]
    simp only
    rw [c18_receiveAll_cons, c18_receive_err _ _ _ (by simpa using hy)]
  · rw [c18_receive_err _ _ _ hx, c18_receive_ok _ _ _ hy]
    simp only
    rw [c18_receiveAll_cons, c18_receive_err _ _ _ (by simpa using hx)]
  · rw [c18_receive_err _ _ _ hx, c18_receive_err _ _ _ hy]

theorem c18_receiveAll_perm {d1 d2 : List (Nat × α)} (hp : d1.Perm d2) :
    (d1.map Prod.fst).Nodup → ∀ p : Reveal α, p.receiveAll d1 = p.receiveAll d2 := by
  induction hp with
  | nil => intro _ _; rfl
  | cons x _ ih =>
    intro hn p
    rw [c18_receiveAll_cons, c18_receiveAll_cons]
    rw [List.map_cons] at hn
    have hn' := (List.nodup_cons.mp hn).2
    cases p.receive x.1 x.2 with
    | ok p' => exact ih hn' p'
    | error e => rfl
  | swap x y l =>
    intro hn p
    rw [List.map_cons, List.map_cons] at hn
    have : y.1 ≠ x.1 := by
      have := (List.nodup_cons.mp hn).1
      intro h; apply this; rw [h]; exact List.mem_cons_self ..
    exact c18_receiveAll_swap p y x l this
  | trans h1 _ ih1 ih2 =>
    intro hn p
    rw [ih1 hn p]
    exact ih2 ((h1.map Prod.fst).nodup_iff.mp hn) p

theorem c18_new_length (count id : Nat) (own : α) : (Reveal.new count id own).slots.length = count := List.length_replicate ..

/-- what the delivery history `d` has made of `p` in `p'`: identity, own polynomial and number of slots are kept, the slots of parties that
    sent nothing are untouched (`frame`), and if every message is `msg sender` the slot of every sender holds its message (`hit`) -/
structure c18_After (p : Reveal α) (d : List (Nat × α)) (p' : Reveal α) : Prop where
  id : p'.id = p.id
  own : p'.own = p.own
  length : p'.slots.length = p.slots.length
  frame : ∀ j, j ∉ d.map Prod.fst → p'.slots[j]? = p.slots[j]?
  hit : ∀ msg : Nat → α, (∀ x ∈ d, x.2 = msg x.1) → ∀ j ∈ d.map Prod.fst, p'.slots[j]? = some (some (msg j))

/-- a delivery history whose senders are all in range is accepted, and leaves the state `c18_After` describes -/
theorem c18_receiveAll_state (d : List (Nat × α)) : ∀ p : Reveal α, (∀ x ∈ d, x.1 < p.slots.length) →
    ∃ p', p.receiveAll d = .ok p' ∧ c18_After p d p' := by
  induction d with
  | nil => intro p _; exact ⟨p, rfl, rfl, rfl, rfl, fun _ _ => rfl, fun _ _ j hj => nomatch hj⟩
  | cons x rest ih =>
    intro p hr
    obtain ⟨s, m⟩ := x
    have hs : s < p.slots.length := hr (s, m) (List.mem_cons_self ..)
    rw [c18_receiveAll_cons, c18_receive_ok _ _ _ hs]
    obtain ⟨p', h1, hA⟩ := ih { p with slots := p.slots.set s (some m) }
      (fun x hx => by simpa using hr x (List.mem_cons_of_mem _ hx))
    refine ⟨p', h1, hA.id, hA.own, by simpa using hA.length, fun j hj => ?_, fun msg hm j hj => ?_⟩
    · rw [List.map_cons, List.mem_cons, not_or] at hj
      rw [hA.frame j hj.2]; exact List.getElem?_set_ne (Ne.symm hj.1)
    · by_cases hjr : j ∈ rest.map Prod.fst
      · exact hA.hit msg (fun x hx => hm x (List.mem_cons_of_mem _ hx)) j hjr
      · obtain rfl : j = s := by simpa [hjr] using hj
        rw [hA.frame j hjr, ← hm (j, m) (List.mem_cons_self ..)]; exact List.getElem?_set_self hs

theorem c18_allSentFrom_iff (id : Nat) (l : List (Option α)) : ∀ i, allSentFrom id i l = true ↔
    ∀ k, k < l.length → ((l[k]?.bind (fun x => x)).isSome = true ∨ i + k = id) := by
  induction l with
  | nil => intro i; simp [allSentFrom]
  | cons x xs ih =>
    intro i
    simp only [allSentFrom, Bool.and_eq_true, Bool.or_eq_true, beq_iff_eq, ih (i + 1), List.length_cons]
    constructor
    · rintro ⟨h0, h1⟩ k hk
      cases k with
      | zero => simpa using h0
      | succ k =>
        have := h1 k (by omega)
        simpa [Nat.add_assoc, Nat.add_comm 1 k] using this
    · intro h
      refine ⟨by simpa using h 0 (by omega), fun k hk => ?_⟩
      have := h (k + 1) (by omega)
      simpa [Nat.add_assoc, Nat.add_comm 1 k] using this

section ring
variable {A : Type} [CommRing A]

theorem c18_sumSlots_ring (l : List (Option A)) : ∀ acc : A,
    sumSlots (Ops.ring (α := A)).add acc l = .ok (acc + (l.filterMap (fun x => x)).sum) := by
  induction l with
  | nil => intro acc; simp [sumSlots]
  | cons x xs ih =>
    intro acc
    cases x with
    | none => simp only [sumSlots]; rw [ih]; simp
    | some m =>
      simp only [sumSlots, Ops.ring]
      have := ih (acc + m)
      simp only [Ops.ring] at this
      rw [this]; simp [add_assoc]

theorem c18_filterMap_range_sum (f : Nat → Option A) (n : Nat) :
    (((List.range n).map f).filterMap (fun x => x)).sum = ∑ j ∈ range n, (f j).getD 0 := by
  induction n with
  | zero => simp
  | succ n ih =>
    rw [List.range_succ, List.map_append, List.filterMap_append, List.sum_append, ih, Finset.sum_range_succ]
    cases h : f n <;> simp [h]

/-- value of a noise term: t·e in BGV, e otherwise -/
def c18_nz (sch : Scheme) (t : Nat) (e : A) : A := if sch = .bgv then (t : A) * e else e

theorem c18_noiseOf (sch : Scheme) (t : Nat) (e : A) :
    noiseOf (Ops.ring (α := A)) sch t e = .ok (c18_nz sch t e) := by
  unfold noiseOf c18_nz Ops.ring
  by_cases h : sch = .bgv <;> simp [h]

theorem c18_nz_sum (sch : Scheme) (t : Nat) (e : Nat → A) (s : Finset Nat) :
    ∑ i ∈ s, c18_nz sch t (e i) = c18_nz sch t (∑ i ∈ s, e i) := by
  unfold c18_nz
  by_cases h : sch = .bgv <;> simp [h, Finset.mul_sum]

theorem c18_nz_zero (sch : Scheme) (t : Nat) : c18_nz sch t (0 : A) = 0 := by
  unfold c18_nz; by_cases h : sch = .bgv <;> simp [h]

theorem c18_pkShare (sch : Scheme) (t : Nat) (s a e : A) :
    pkShare Ops.ring sch t s a e = .ok (-(s * a + c18_nz sch t e)) := by
  simp only [pkShare, c18_noiseOf]
  simp [Ops.ring, bind, Except.bind]

theorem c18_rlkRound1 (sch : Scheme) (t : Nat) (s a u e0 e1 w : A) :
    rlkRound1 Ops.ring sch t s a u e0 e1 w = .ok (-(u * a) + s * w + c18_nz sch t e0, s * a + c18_nz sch t e1) := by
  simp only [rlkRound1, c18_noiseOf]
  simp [Ops.ring, bind, Except.bind, pure, Except.pure]

theorem c18_rlkRound2 (sch : Scheme) (t : Nat) (s u h0 h1 e2 e3 : A) :
    rlkRound2 Ops.ring sch t s u h0 h1 e2 e3 = .ok (s * h0 + c18_nz sch t e2, (u - s) * h1 + c18_nz sch t e3) := by
  simp only [rlkRound2, c18_noiseOf]
  simp [Ops.ring, bind, Except.bind, pure, Except.pure]

theorem c18_rlkFinish (h0p h1p h1 : A) : rlkFinish Ops.ring h0p h1p h1 = .ok (h0p + h1p, h1) := by
  simp [rlkFinish, Ops.ring, bind, Except.bind, pure, Except.pure]

theorem c18_ksShare (sch : Scheme) (t : Nat) (ntt : Bool) (s s' c1 e : A) :
    ksShare Ops.ring sch t ntt s s' c1 e = .ok ((s - s') * c1 + c18_nz sch t e) := by
  simp only [ksShare, c18_noiseOf]
  cases ntt <;> simp [Ops.ring, bind, Except.bind, pure, Except.pure]

theorem c18_decShare (sch : Scheme) (t : Nat) (ntt : Bool) (s c1 e : A) :
    decShare Ops.ring sch t ntt s c1 e = .ok (s * c1 + c18_nz sch t e) := by
  simp only [decShare, c18_noiseOf]
  cases ntt <;> simp [Ops.ring, bind, Except.bind, pure, Except.pure]

theorem c18_pksShare (sch : Scheme) (t : Nat) (ntt : Bool) (s c1 p0 p1 u e0 e1 : A) :
    pksShare Ops.ring sch t ntt s c1 p0 p1 u e0 e1
      = .ok (s * c1 + u * p0 + c18_nz sch t e0, p1 * u + c18_nz sch t e1) := by
  simp only [pksShare, c18_noiseOf]
  cases ntt <;> simp [Ops.ring, bind, Except.bind, pure, Except.pure]

theorem c18_c2sShare (sch : Scheme) (t : Nat) (ntt : Bool) (id : Nat) (s c1 e np : A) :
    c2sShare Ops.ring sch t ntt id s c1 e np = .ok (s * c1 + c18_nz sch t e + (if id ≠ 0 then np else 0)) := by
  simp only [c2sShare, c18_decShare]
  by_cases h : id = 0 <;> simp [h, Ops.ring, bind, Except.bind, pure, Except.pure]

theorem c18_s2cShare (sch : Scheme) (t : Nat) (ntt : Bool) (id : Nat) (s a e pl : A) :
    s2cShare Ops.ring sch t ntt id s a e pl = .ok (-s * a + c18_nz sch t e + (if id ≠ 0 then pl else 0)) := by
  simp only [s2cShare, c18_noiseOf]
  by_cases h : id = 0 <;> cases ntt <;> simp [h, Ops.ring, bind, Except.bind, pure, Except.pure]

theorem c18_sum_mul_add (x y : Nat → A) (c : A) (s : Finset Nat) :
    ∑ i ∈ s, (x i * c + y i) = (∑ i ∈ s, x i) * c + ∑ i ∈ s, y i := by
  rw [Finset.sum_add_distrib, Finset.sum_mul]

end ring

end HC
