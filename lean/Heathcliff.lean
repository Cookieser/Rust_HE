import Heathcliff.Proofs.Base
import Heathcliff.Proofs.BaseMath
import Heathcliff.Proofs.BaseRns
import Heathcliff.Proofs.GenBase
import Heathcliff.Props.C01
import Heathcliff.Props.C02
import Heathcliff.Props.C03
import Heathcliff.Props.C04
import Heathcliff.Props.C05
import Heathcliff.Props.C06
import Heathcliff.Props.C07
import Heathcliff.Props.C08
import Heathcliff.Props.C09
import Heathcliff.Props.C10
import Heathcliff.Props.C11
import Heathcliff.Props.C12
import Heathcliff.Props.C13
import Heathcliff.Props.C14
import Heathcliff.Props.C15
import Heathcliff.Props.C16
import Heathcliff.Props.C17
import Heathcliff.Props.C18
import Heathcliff.Props.C19
import Heathcliff.Props.C20
import Heathcliff.Proofs.GenLoop
