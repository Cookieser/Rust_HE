import Heathcliff.Proofs.GenRnsView
import Heathcliff.Proofs.C05U

/-!
  The four divisions by the last prime of `RNSTool` (src/util/rns.rs): `divide_and_round_q_last_inplace`, `divide_and_round_q_last_ntt_inplace`,
  `mod_t_and_divide_q_last_inplace`, `mod_t_and_divide_q_last_ntt_inplace` (the (i)NTT calls are abstract function inputs, instantiated with the model's
  transforms).  For each: the row of the hand model read on lists (`gr_darRow`, `gr_darnRow`, `gr_mtdRow`, `gr_mtdnRow`; `gr_negM` is the common first part of the two `mod_t` rows), the generated
  outer loop as the fold of that row (its passes fused into the model's where the generated code runs two and the model one), the generated routine on
  `cs.flatten` as a `mapM` of rows (`gr_X_list`), the tie to the model on `flatP p` (`gr_X_eq`), and END TO END with the C10 / C05 theorems: rounding
  division, BGV division (coefficient form and, on a well-formed BGV level, NTT form).
-/
namespace HC
open HC.GenW HC.GenR

/-! ### `RNSTool::divide_and_round_q_last_inplace` -/

/-- row `i` of the model's `divideAndRoundQLast`, on lists (`lastc` = the last component, already `+ half`) -/
def gr_darRow (b : Modulus) (half : Nat) (inv : MulOperand) (lastc ci : List Nat) : R (List Nat) :=
  barrett64 half b >>= fun hm => lastc.mapM (fun x => barrett64 x b >>= fun y => subMod y hm b) >>= fun temp =>
  (List.range' 0 ci.length).mapM (fun j => subMod (ci.getD j 0) (temp.getD j 0) b) >>= fun d => d.mapM (fun x => mulOperandMod x inv b)

/-- the end of every iteration of the four division routines: component `i`, which already holds `d`, is sliced out, multiplied by
    `q_last⁻¹ mod q_i` and written back -/
theorem gr_scale_passes (n : Nat) (cs : List (List Nat)) (i : Nat) (d : List Nat) (invs : List MulOperand) (b : Modulus)
    (hn : ∀ c ∈ cs, c.length = n) (hi : i < cs.length) (hd : d.length = n) (hinv : i < invs.length) :
    GenR.slice (cs.set i d).flatten (i * n) (i * n + n) = .ok d ∧ GenR.idxOp invs i = .ok (invs.getD i default) ∧
    GenR.multiply_operand_inplace d (invs.getD i default) b = .ok (d.map (fun x => mulOpV x (invs.getD i default) b)) ∧
    GenR.splice (cs.set i d).flatten (i * n) (d.map (fun x => mulOpV x (invs.getD i default) b))
      = (cs.set i (d.map (fun x => mulOpV x (invs.getD i default) b))).flatten := by
  have hn' := gr_set_length_mem n cs i d hn hd
  have hi' : i < (cs.set i d).length := by rw [List.length_set]; exact hi
  refine ⟨?_, gr_idxOp_ok invs i _ hinv, gr_multiply_operand_inplace_ok _ _ _, ?_⟩
  · rw [gr_slice_flat n _ i hn' hi', list_getD_set_self _ _ _ hi]
  · rw [gr_splice_flat n _ i _ hn' hi' (by rw [List.length_map]; exact hd), List.set_set]

theorem gr_last_end_ok {s n : Nat} (hs : s - 1 < s) (hsn : s * n < 2^64) : ckAdd ((s-1)*n) n = .ok ((s-1)*n + n) :=
  ckAdd_ok (by rw [B64_eq]; have := grid_succ_le (B := n) hs; omega)

theorem gr_dar_loop (qs : List Modulus) (invs : List MulOperand) (half s n : Nat)
    (hqs : qs.length = s) (hinv : s - 1 ≤ invs.length) (hq : ∀ i, i < s → (qs.getD i gr_dflt).WF) (hsn : s * n < 2^64) (hs64 : s < 2^64) (hh : half < 2^64) :
    ∀ k i (cs : List (List Nat)) (temp : List Nat), i + k = s - 1 → cs.length = s → (∀ c ∈ cs, c.length = n) → temp.length = n →
      (∀ x ∈ cs.getD (s-1) [], x < 2^64) →
      GenR.divide_and_round_q_last_inplace_loop1 s n ((s-1)*n) half qs invs k i cs.flatten temp
        = (gr_foldM (fun i cs => gr_darRow (qs.getD i gr_dflt) half (invs.getD i default) (cs.getD (s-1) []) (cs.getD i [])) k i cs
            >>= fun cs' => .ok cs'.flatten) := by
  intro k
  induction k with
  | zero => intro i cs temp _ _ _ _ _; rfl
  | succ k ih =>
    intro i cs temp hik hcs hn ht hl
    obtain ⟨his, hi, hs1, h1s⟩ : i < s - 1 ∧ i < s ∧ s - 1 < s ∧ 1 ≤ s := by omega
    have hic : i < cs.length := hcs.symm ▸ hi
    have hlc : s - 1 < cs.length := hcs.symm ▸ hs1
    have hlastlen : (cs.getD (s-1) []).length = n := hn _ (list_getD_mem [] hlc)
    have hcilen : (cs.getD i []).length = n := hn _ (list_getD_mem [] hic)
    have hb := hq i hi
    have e1 := gr_idxMod_ok qs i gr_dflt (hqs.symm ▸ hi)
    have e2 := gr_last_end_ok (n := n) hs1 hsn
    have e3 := gr_slice_flat n cs (s-1) hn hlc
    have e4 := gr_modulo_eq (cs.getD (s-1) []) (qs.getD i gr_dflt) temp (by rw [ht, hlastlen])
    obtain ⟨e7, e8, e9⟩ := gr_bounds_ok (n := n) hi hsn hs64
    have e10 := gr_slice_flat n cs i hn hic
    rw [GenR.divide_and_round_q_last_inplace_loop1, gr_foldM, gr_darRow]
    simp only [e1, e2, e3, e4, e7, e8, e9, e10, R.ok_bind, gr_sub_scalar_inplace_eq, gw_barrett_reduce_u64_eq, barrett64_exact hb hh, bind_assoc]
    -- the generated code reduces the last component in one pass and subtracts `half mod q_i` in a second one; the model does both at once
    rw [gr_mapM_fuseK _ (fun x => x % (qs.getD i gr_dflt).value) _ _ _ (fun x hx => barrett64_exact hb (hl x hx))]
    refine R.bind_congr _ fun t hm => ?_
    rw [gr_sub_inplace_eq _ _ _ (by rw [R.mapM_length hm, hcilen, hlastlen])]
    refine R.bind_congr _ fun d hd => ?_
    have hdlen : d.length = n := by rw [R.mapM_length hd, List.length_range', hcilen]
    obtain ⟨e13, e14, e15, e16⟩ := gr_scale_passes n cs i d invs (qs.getD i gr_dflt) hn hic hdlen (Nat.lt_of_lt_of_le his hinv)
    rw [gr_splice_flat n cs i d hn hic hdlen, R.mapM_ok _ (fun x => mulOpV x (invs.getD i default) (qs.getD i gr_dflt)) d (fun x _ => gr_mulOperandMod _ _ _)]
    simp only [e13, e14, e15, e16, R.ok_bind]
    refine ih (i+1) _ _ (by omega) (by rw [List.length_set]; exact hcs)
      (gr_set_length_mem n cs i _ hn (by rw [List.length_map]; exact hdlen)) (by rw [R.mapM_length hm, hlastlen]) ?_
    rw [list_getD_set_ne _ _ _ (Nat.ne_of_lt his)]
    exact hl

theorem gr_dar_list (qs : List Modulus) (invs : List MulOperand) (s n : Nat) (cs : List (List Nat))
    (hs : 1 ≤ s) (hqs : qs.length = s) (hinv : s - 1 ≤ invs.length) (hq : ∀ i, i < s → (qs.getD i gr_dflt).WF) (hsn : s * n < 2^64) (hs64 : s < 2^64)
    (hcs : cs.length = s) (hn : ∀ c ∈ cs, c.length = n) :
    GenR.divide_and_round_q_last_inplace cs.flatten s qs n invs =
      ((cs.getD (s-1) []).mapM (fun x => addMod x ((qs.getD (s-1) gr_dflt).value / 2) (qs.getD (s-1) gr_dflt)) >>= fun lastc =>
        (List.range' 0 (s-1)).mapM (fun i => gr_darRow (qs.getD i gr_dflt) ((qs.getD (s-1) gr_dflt).value / 2) (invs.getD i default) lastc (cs.getD i []))
          >>= fun outs => .ok (outs ++ [lastc]).flatten) := by
  have hs1 : s - 1 < s := Nat.sub_lt hs Nat.one_pos
  have hlc : s - 1 < cs.length := hcs.symm ▸ hs1
  have hL := hq (s-1) hs1
  have e1 : ckSub s 1 = .ok (s-1) := ckSub_of_le hs
  have e2 := gr_idxMod_ok qs (s-1) gr_dflt (hqs.symm ▸ hs1)
  have e3 := (gr_bounds_ok (n := n) hs1 hsn hs64).1
  have e4 := gr_last_end_ok (n := n) hs1 hsn
  have e5 := gr_slice_flat n cs (s-1) hn hlc
  unfold GenR.divide_and_round_q_last_inplace
  simp only [e1, e2, e3, e4, e5, R.ok_bind, gr_half_eq, gr_add_scalar_inplace_eq]
  refine R.bind_congr _ fun lastc hm => ?_
  have hll : lastc.length = n := by rw [R.mapM_length hm]; exact hn _ (list_getD_mem [] hlc)
  have hlt : ∀ x ∈ lastc, x < 2^64 := gr_mapM_forall _ (fun z => z < 2^64) (fun x y h => gr_addMod_lt _ _ _ _ h) _ _ hm
  rw [gr_splice_flat n cs (s-1) lastc hn hlc hll,
    gr_dar_loop qs invs _ s n hqs hinv hq hsn hs64 (by have := hL.lt; omega) (s-1) 0 (cs.set (s-1) lastc) (List.replicate n 0) (Nat.zero_add _)
      (by rw [List.length_set]; exact hcs) (gr_set_length_mem n cs _ _ hn hll) List.length_replicate
      (by rw [list_getD_set_self _ _ _ hlc]; exact hlt),
    gr_foldM_last (fun i lastc ci => gr_darRow (qs.getD i gr_dflt) ((qs.getD (s-1) gr_dflt).value / 2) (invs.getD i default) lastc ci) s cs lastc hcs hs,
    bind_assoc]
  rfl

/-- `neg_c_last_mod_t` as the model computes it, on lists -/
def gr_negM (t : Modulus) (invt : Nat) (lastc : List Nat) : R (List Nat) :=
  lastc.mapM (fun x => barrett64 x t >>= fun y => negateMod y t) >>= fun neg0 =>
  if invt ≠ 1 then neg0.mapM (fun x => mulMod x invt t) else pure neg0

/-- the three generated passes that build `neg_c_last_mod_t` are the model's two -/
theorem gr_neg_fuse {δ : Type} (t : Modulus) (ht : t.WF) (invt : Nat) (lastc buf : List Nat) (hbuf : buf.length = lastc.length)
    (hw : ∀ x ∈ lastc, x < 2^64) (K : List Nat → R δ) :
    (GenR.modulo lastc t buf >>= fun v1 => GenR.negate_inplace v1 t >>= fun v2 =>
      (if invt ≠ 1 then GenR.multiply_scalar_inplace v2 invt t else pure v2) >>= K) = (gr_negM t invt lastc >>= K) := by
  rw [gr_modulo_eq _ _ _ hbuf, gr_negM, bind_assoc]
  simp only [gr_negate_inplace_eq, gr_multiply_scalar_inplace_eq]
  exact gr_mapM_fuseK _ (fun x => x % t.value) _ _ _ (fun x hx => barrett64_exact ht (hw x hx))

theorem gr_negM_ok {t : Modulus} (ht : t.WF) {invt : Nat} {lastc neg : List Nat} (h : gr_negM t invt lastc = .ok neg) :
    neg.length = lastc.length ∧ ∀ x ∈ neg, x < 2^64 := by
  have ht64 : t.value < 2^64 := by have := ht.lt; omega
  unfold gr_negM at h
  cases h0 : lastc.mapM (fun x => barrett64 x t >>= fun y => negateMod y t) with
  | error e => rw [h0] at h; cases h
  | ok neg0 =>
    rw [h0, R.ok_bind] at h
    have hl0 := R.mapM_length h0
    have hw0 : ∀ x ∈ neg0, x < 2^64 := gr_mapM_forall _ (fun z => z < 2^64) (fun x z hz => by
      cases hb : barrett64 x t with
      | error e => rw [hb] at hz; cases hz
      | ok y => rw [hb, R.ok_bind] at hz; exact gr_negateMod_lt ht64 hz) _ _ h0
    split at h
    · exact ⟨by rw [R.mapM_length h, hl0], gr_mapM_forall _ (fun z => z < 2^64) (fun _ _ hz => gr_mulMod_lt hz) _ _ h⟩
    · cases h; exact ⟨hl0, hw0⟩

/-- `delta = neg · q_last mod q_i`: the two generated passes are the model's one -/
theorem gr_delta_fuse {δ : Type} {b : Modulus} (hb : b.WF) (neg temp : List Nat) (lastv : Nat) (ht : temp.length = neg.length)
    (hnegw : ∀ x ∈ neg, x < 2^64) (K : List Nat → R δ) :
    (GenR.modulo neg b temp >>= fun v => GenR.multiply_scalar_inplace v lastv b >>= K)
      = (neg.mapM (fun x => barrett64 x b >>= fun y => mulMod y lastv b) >>= K) := by
  rw [gr_modulo_eq _ _ _ ht]
  simp only [gr_multiply_scalar_inplace_eq]
  exact gr_mapM_fuseK _ (fun x => x % b.value) _ _ _ (fun x hx => barrett64_exact hb (hnegw x hx))

/-! ### `RNSTool::mod_t_and_divide_q_last_ntt_inplace` (the (i)NTT calls are the abstract function inputs) -/

/-- `delta[j] += c_last[j] mod q_i`: the model's `zipM'` step, operation by operation -/
theorem gr_mtdn_loop2 (cs : List (List Nat)) (s n : Nat) (b : Modulus) (v6 : List Nat) (hs : 1 ≤ s) (hsn : s * n < 2^64)
    (hcs : cs.length = s) (hn : ∀ c ∈ cs, c.length = n) (hv : v6.length = n) :
    GenR.mod_t_and_divide_q_last_ntt_inplace_loop2 cs.flatten s n b n 0 v6
      = (List.range' 0 n).mapM (fun j => barrett64 ((cs.getD (s-1) []).getD j 0) b >>= fun cl => ckAdd (v6.getD j 0) cl) := by
  rw [gr_idxloop (GenR.mod_t_and_divide_q_last_ntt_inplace_loop2 cs.flatten s n b)
      (fun j old => barrett64 ((cs.getD (s-1) []).getD j 0) b >>= fun cl => ckAdd old cl) n (fun _ _ => rfl) (by
      intro k j l hj hjn
      obtain ⟨e2, e3, e4⟩ := gr_read_ok n cs hn (show s - 1 < cs.length by omega) hjn (by rw [hcs]; exact hsn)
      rw [GenR.mod_t_and_divide_q_last_ntt_inplace_loop2]
      simp only [ckSub_of_le hs, e2, e3, e4, GenW.idx_ok _ hj, gr_modulus_reduce_eq, R.ok_bind, bind_assoc]) n 0 v6 (by omega) (by omega)]
  simp only [List.take_zero, List.nil_append]
  exact gr_bind_ok _

/-- the third inner loop of `mod_t_and_divide_q_last_ntt_inplace`: component `i` -= `v6` (the transformed `delta`) modulo `q_i`, coefficient by coefficient -/
theorem gr_mtdn_loop3 (cs : List (List Nat)) (s n i : Nat) (b : Modulus) (v6 : List Nat) (hi : i < s) (hsn : s * n < 2^64)
    (hcs : cs.length = s) (hn : ∀ c ∈ cs, c.length = n) (hv : v6.length = n) :
    GenR.mod_t_and_divide_q_last_ntt_inplace_loop3 n v6 i b n 0 cs.flatten
      = ((List.range' 0 n).mapM (fun j => subMod ((cs.getD i []).getD j 0) (v6.getD j 0) b) >>= fun d => .ok (cs.set i d).flatten) := by
  refine gr_coefloop (GenR.mod_t_and_divide_q_last_ntt_inplace_loop3 n v6 i b) (fun j old => subMod old (v6.getD j 0) b) n i cs hn (by omega)
      (fun _ _ => rfl) ?_
  intro k j l hj hjn _ _
  obtain ⟨e1, e2⟩ := gr_addr_ok hi hjn hsn
  have hvj : j < v6.length := by omega
  rw [GenR.mod_t_and_divide_q_last_ntt_inplace_loop3]
  simp only [e1, e2, GenW.idx_ok _ hj, GenW.idx_ok _ hvj, gw_sub_u64_mod_eq, GenW.setIdx_ok _ _ hj, R.ok_bind, list_getD_eq_getElem _ 0 hvj, bind_assoc]

/-- row `i` of the model's `modTAndDivideQLastNtt`, on lists (`NTi` = the forward transform with table `i`) -/
def gr_mtdnRow (b : Modulus) (lastv : Nat) (inv : MulOperand) (NTi : List Nat → List Nat) (neg lastc ci : List Nat) : R (List Nat) :=
  neg.mapM (fun x => barrett64 x b >>= fun y => mulMod y lastv b) >>= fun d0 =>
  (List.range' 0 d0.length).mapM (fun j => barrett64 (lastc.getD j 0) b >>= fun cl => ckAdd (d0.getD j 0) cl) >>= fun d1 =>
  (List.range' 0 ci.length).mapM (fun j => subMod (ci.getD j 0) ((NTi d1).getD j 0) b) >>= fun d => d.mapM (fun x => mulOperandMod x inv b)

/-- the only values the tie needs: the input of the forward transform is below `2 q_i` (the transform's length is known only under that bound) -/
theorem gr_mtdn_delta_lt {b : Modulus} (hb : b.WF) (neg lastc d0 d1 : List Nat) (lastv n : Nat) (hnegw : ∀ x ∈ neg, x < 2^64)
    (hlw : ∀ x ∈ lastc, x < 2^64) (hlv : lastv < 2^64)
    (h0 : neg.mapM (fun x => barrett64 x b >>= fun y => mulMod y lastv b) = .ok d0)
    (h1 : (List.range' 0 n).mapM (fun j => barrett64 (lastc.getD j 0) b >>= fun cl => ckAdd (d0.getD j 0) cl) = .ok d1) :
    ∀ y ∈ d1, y < 2 * b.value := by
  have hb0 : 0 < b.value := by have := hb.two_le; omega
  have h61 := hb.lt
  rw [R.mapM_ok _ (fun x => (x % b.value * lastv) % b.value) neg (fun x hx => by
    rw [barrett64_exact hb (hnegw x hx), R.ok_bind]
    have := Nat.mod_lt x hb0
    exact mulMod_exact hb (by omega) hlv)] at h0
  cases h0
  have hd0 : ∀ j, (neg.map (fun x => (x % b.value * lastv) % b.value)).getD j 0 < b.value :=
    list_getD_lt_of_forall (fun x hx => by obtain ⟨y, -, rfl⟩ := List.mem_map.mp hx; exact Nat.mod_lt _ hb0) hb0
  rw [R.mapM_ok _ (fun j => (neg.map (fun x => (x % b.value * lastv) % b.value)).getD j 0 + lastc.getD j 0 % b.value) _ (fun j _ => by
    rw [barrett64_exact hb (list_getD_lt_of_forall hlw (by norm_num) j), R.ok_bind]
    have h1 := hd0 j
    have h2 := Nat.mod_lt (lastc.getD j 0) hb0
    exact ckAdd_ok (by rw [B64_eq]; omega))] at h1
  cases h1
  intro y hy
  obtain ⟨j, -, rfl⟩ := List.mem_map.mp hy
  have h1 := hd0 j
  have h2 := Nat.mod_lt (lastc.getD j 0) hb0
  omega

theorem gr_mtdn_loop (qs : List Modulus) (invs : List MulOperand) (NT : Nat → List Nat → List Nat) (lastv s n : Nat) (neg : List Nat)
    (hqs : qs.length = s) (hinv : s - 1 ≤ invs.length) (hq : ∀ i, i < s → (qs.getD i gr_dflt).WF) (hsn : s * n < 2^64) (hs64 : s < 2^64)
    (hlv : lastv < 2^64) (hneg : neg.length = n) (hnegw : ∀ x ∈ neg, x < 2^64) (hNT : ∀ i x, i < s - 1 → x.length = n → (∀ y ∈ x, y < 2 * (qs.getD i gr_dflt).value) → (NT i x).length = n) :
    ∀ k i (cs : List (List Nat)) (temp : List Nat), i + k = s - 1 → cs.length = s → (∀ c ∈ cs, c.length = n) → temp.length = n →
      (∀ x ∈ cs.getD (s-1) [], x < 2^64) →
      GenR.mod_t_and_divide_q_last_ntt_inplace_loop1 s lastv n neg qs (fun i x => .ok (NT i x)) invs k i cs.flatten temp
        = (gr_foldM (fun i cs => gr_mtdnRow (qs.getD i gr_dflt) lastv (invs.getD i default) (NT i) neg (cs.getD (s-1) []) (cs.getD i [])) k i cs
            >>= fun cs' => .ok cs'.flatten) := by
  intro k
  induction k with
  | zero => intro i cs temp _ _ _ _ _; rfl
  | succ k ih =>
    intro i cs temp hik hcs hn ht hl
    obtain ⟨his, hi, hs1, h1s⟩ : i < s - 1 ∧ i < s ∧ s - 1 < s ∧ 1 ≤ s := by omega
    have hic : i < cs.length := hcs.symm ▸ hi
    have hb := hq i hi
    have hcilen : (cs.getD i []).length = n := hn _ (list_getD_mem [] hic)
    have e1 := gr_idxMod_ok qs i gr_dflt (hqs.symm ▸ hi)
    rw [GenR.mod_t_and_divide_q_last_ntt_inplace_loop1, gr_foldM, gr_mtdnRow]
    simp only [e1, R.ok_bind, bind_assoc]
    rw [gr_delta_fuse hb neg temp lastv (by rw [ht, hneg]) hnegw]
    refine R.bind_congr _ fun d0 hd0 => ?_
    have hd0len : d0.length = n := by rw [R.mapM_length hd0, hneg]
    rw [gr_mtdn_loop2 cs s n _ d0 h1s hsn hcs hn hd0len, hd0len]
    refine R.bind_congr _ fun d1 hd1 => ?_
    have hd2len := hNT i d1 his (by rw [R.mapM_length hd1, List.length_range'])
      (gr_mtdn_delta_lt hb neg _ d0 d1 lastv n hnegw hl hlv hd0 hd1)
    rw [gr_mtdn_loop3 cs s n i (qs.getD i gr_dflt) (NT i d1) hi hsn hcs hn hd2len, hcilen, bind_assoc]
    refine R.bind_congr _ fun d hd => ?_
    have hdlen : d.length = n := by rw [R.mapM_length hd, List.length_range']
    obtain ⟨e7, e8, e9⟩ := gr_bounds_ok (n := n) hi hsn hs64
    obtain ⟨e13, e14, e15, e16⟩ := gr_scale_passes n cs i d invs (qs.getD i gr_dflt) hn hic hdlen (Nat.lt_of_lt_of_le his hinv)
    rw [R.mapM_ok _ (fun x => mulOpV x (invs.getD i default) (qs.getD i gr_dflt)) d (fun x _ => gr_mulOperandMod _ _ _)]
    simp only [R.ok_bind, e7, e8, e9, e13, e14, e15, e16]
    refine ih (i+1) _ _ (by omega) (by rw [List.length_set]; exact hcs)
      (gr_set_length_mem n cs i _ hn (by rw [List.length_map]; exact hdlen)) hd2len ?_
    rw [list_getD_set_ne _ _ _ (Nat.ne_of_lt his)]
    exact hl

/-- the generated routine on a flat buffer (`IT`, `NT` = what the abstract (i)NTT inputs return; both keep the length `n`) -/
theorem gr_mtdn_list (qs : List Modulus) (invs : List MulOperand) (t : Modulus) (invt s n : Nat) (IT NT : Nat → List Nat → List Nat) (cs : List (List Nat))
    (hs : 1 ≤ s) (hqs : qs.length = s) (hinv : s - 1 ≤ invs.length) (hq : ∀ i, i < s → (qs.getD i gr_dflt).WF) (ht : t.WF)
    (hsn : s * n < 2^64) (hs64 : s < 2^64) (hcs : cs.length = s) (hn : ∀ c ∈ cs, c.length = n)
    (hIT : (IT (s-1) (cs.getD (s-1) [])).length = n) (hITw : ∀ x ∈ IT (s-1) (cs.getD (s-1) []), x < 2^64)
    (hNT : ∀ i x, i < s - 1 → x.length = n → (∀ y ∈ x, y < 2 * (qs.getD i gr_dflt).value) → (NT i x).length = n) :
    GenR.mod_t_and_divide_q_last_ntt_inplace cs.flatten s qs n invs t invt (fun i x => .ok (IT i x)) (fun i x => .ok (NT i x)) =
      (gr_negM t invt (IT (s-1) (cs.getD (s-1) [])) >>= fun neg =>
        (List.range' 0 (s-1)).mapM (fun i => gr_mtdnRow (qs.getD i gr_dflt) (qs.getD (s-1) gr_dflt).value (invs.getD i default) (NT i)
          neg (IT (s-1) (cs.getD (s-1) [])) (cs.getD i [])) >>= fun outs => .ok (outs ++ [IT (s-1) (cs.getD (s-1) [])]).flatten) := by
  have hs1 : s - 1 < s := Nat.sub_lt hs Nat.one_pos
  have hls : s - 1 < cs.length := hcs.symm ▸ hs1
  have hL := hq (s-1) hs1
  generalize hlc : IT (s-1) (cs.getD (s-1) []) = lastc at hIT hITw ⊢
  obtain ⟨e3, -, e4⟩ := gr_bounds_ok (n := n) hs1 hsn hs64
  rw [show s - 1 + 1 = s by omega] at e4
  have e1 : ckSub s 1 = .ok (s-1) := ckSub_of_le hs
  have e2 := gr_idxMod_ok qs (s-1) gr_dflt (hqs.symm ▸ hs1)
  have e5 := gr_slice_flat n cs (s-1) hn hls
  have e6 := gr_splice_flat n cs (s-1) lastc hn hls hIT
  have hn' := gr_set_length_mem n cs (s-1) lastc hn hIT
  have hcs' : (cs.set (s-1) lastc).length = s := by rw [List.length_set]; exact hcs
  have hlastget : (cs.set (s-1) lastc).getD (s-1) [] = lastc := list_getD_set_self _ _ _ hls
  have e7 := gr_slice_flat n _ (s-1) hn' (hcs'.symm ▸ hs1)
  rw [hlastget] at e7
  unfold GenR.mod_t_and_divide_q_last_ntt_inplace
  simp only [e1, e2, e3, e4, e5, hlc, e6, e7, R.ok_bind]
  rw [gr_neg_fuse t ht invt lastc (List.replicate n 0) (by rw [List.length_replicate, hIT]) hITw]
  refine R.bind_congr _ fun neg hneg => ?_
  obtain ⟨hnl, hnw⟩ := gr_negM_ok ht hneg
  rw [gr_mtdn_loop qs invs NT _ s n neg hqs hinv hq hsn hs64 (by have := hL.lt; omega) (by rw [hnl, hIT]) hnw hNT
      (s-1) 0 (cs.set (s-1) lastc) (List.replicate n 0) (Nat.zero_add _) hcs' hn' List.length_replicate (by rw [hlastget]; exact hITw),
    gr_foldM_last (fun i lastc ci => gr_mtdnRow (qs.getD i gr_dflt) (qs.getD (s-1) gr_dflt).value (invs.getD i default) (NT i) neg lastc ci) s cs lastc hcs hs,
    bind_assoc]
  rfl

/-! ### `RNSTool::divide_and_round_q_last_ntt_inplace` (lazy arithmetic: the per-component step can trap) -/

/-- row `i` of the model's `divideAndRoundQLastNtt`, on lists: `temp = (c_last mod q_i  or  c_last) + (q_i − half mod q_i)` (checked), lazy NTT
    (`NLi`), `c_i + (4 q_i − temp)` (checked), times the inverse -/
def gr_darnRow (b qL : Modulus) (half : Nat) (inv : MulOperand) (NLi : List Nat → List Nat) (lastc ci : List Nat) : R (List Nat) :=
  (if b.value < qL.value then lastc.mapM (fun x => barrett64 x b) else .ok lastc) >>= fun temp0 =>
  barrett64 half b >>= fun hm => ckSub b.value hm >>= fun negHalf => temp0.mapM (fun x => ckAdd x negHalf) >>= fun temp1 =>
  (List.range' 0 ci.length).mapM (fun j => ckSub (b.value * 4) ((NLi temp1).getD j 0) >>= fun z => ckAdd (ci.getD j 0) z) >>= fun d =>
  d.mapM (fun x => mulOperandMod x inv b)

/-- the second inner loop of `divide_and_round_q_last_ntt_inplace`: the checked `temp[j] += v9` over the scratch vector -/
theorem gr_darn_loop2 (n v9 : Nat) (temp : List Nat) (h : temp.length = n) :
    GenR.divide_and_round_q_last_ntt_inplace_loop2 n v9 n 0 temp = temp.mapM (fun x => ckAdd x v9) := by
  rw [← h]
  refine gr_maploop (GenR.divide_and_round_q_last_ntt_inplace_loop2 temp.length v9) (fun x => ckAdd x v9) (fun _ _ => rfl) ?_ temp
  intro k i l hi
  rw [GenR.divide_and_round_q_last_ntt_inplace_loop2]
  simp only [GenW.idx_ok _ hi, bind, Except.bind]

/-- its third inner loop: component `i` += `v11 − v6[j]` with both operations checked (the lazy subtraction of the transformed last component) -/
theorem gr_darn_loop3 (cs : List (List Nat)) (s n i v11 : Nat) (v6 : List Nat) (hi : i < s) (hsn : s * n < 2^64)
    (hcs : cs.length = s) (hn : ∀ c ∈ cs, c.length = n) (hv : v6.length = n) :
    GenR.divide_and_round_q_last_ntt_inplace_loop3 n v6 i v11 n 0 cs.flatten
      = ((List.range' 0 n).mapM (fun j => ckSub v11 (v6.getD j 0) >>= fun z => ckAdd ((cs.getD i []).getD j 0) z) >>= fun d => .ok (cs.set i d).flatten) := by
  refine gr_coefloop (GenR.divide_and_round_q_last_ntt_inplace_loop3 n v6 i v11) (fun j old => ckSub v11 (v6.getD j 0) >>= fun z => ckAdd old z) n i cs hn
    (by omega) (fun _ _ => rfl) ?_
  intro k j l hj hjn _ _
  obtain ⟨e1, e2⟩ := gr_addr_ok hi hjn hsn
  have hvj : j < v6.length := by omega
  rw [GenR.divide_and_round_q_last_ntt_inplace_loop3]
  simp only [e1, e2, GenW.idx_ok _ hj, GenW.idx_ok _ hvj, bind, Except.bind, list_getD_eq_getElem _ 0 hvj]
  cases ckSub v11 v6[j] with
  | error e => rfl
  | ok z => rfl

theorem gr_darn_loop (qs : List Modulus) (invs : List MulOperand) (NL : Nat → List Nat → List Nat) (qL : Modulus) (half s n : Nat)
    (hqs : qs.length = s) (hinv : s - 1 ≤ invs.length) (hq : ∀ i, i < s → (qs.getD i gr_dflt).WF) (hsn : s * n < 2^64) (hs64 : s < 2^64)
    (hNL : ∀ i x, i < s - 1 → x.length = n → (NL i x).length = n) :
    ∀ k i (cs : List (List Nat)) (temp : List Nat), i + k = s - 1 → cs.length = s → (∀ c ∈ cs, c.length = n) → temp.length = n →
      GenR.divide_and_round_q_last_ntt_inplace_loop1 s qL n ((s-1)*n) half qs (fun i x => .ok (NL i x)) invs k i cs.flatten temp
        = (gr_foldM (fun i cs => gr_darnRow (qs.getD i gr_dflt) qL half (invs.getD i default) (NL i) (cs.getD (s-1) []) (cs.getD i [])) k i cs
            >>= fun cs' => .ok cs'.flatten) := by
  intro k
  induction k with
  | zero => intro i cs temp _ _ _ _; rfl
  | succ k ih =>
    intro i cs temp hik hcs hn ht
    obtain ⟨his, hi, hs1, h1s⟩ : i < s - 1 ∧ i < s ∧ s - 1 < s ∧ 1 ≤ s := by omega
    have hic : i < cs.length := hcs.symm ▸ hi
    have hlc : s - 1 < cs.length := hcs.symm ▸ hs1
    have hcilen : (cs.getD i []).length = n := hn _ (list_getD_mem [] hic)
    have hlastlen : (cs.getD (s-1) []).length = n := hn _ (list_getD_mem [] hlc)
    have e1 := gr_idxMod_ok qs i gr_dflt (hqs.symm ▸ hi)
    have e2 := gr_last_end_ok (n := n) hs1 hsn
    have e3 := gr_slice_flat n cs (s-1) hn hlc
    have e4 := gr_modulo_eq (cs.getD (s-1) []) (qs.getD i gr_dflt) temp (by rw [ht, hlastlen])
    have e4' := gr_set_uint_eq _ temp n hlastlen ht
    have e8 : ((qs.getD i gr_dflt).value <<< 2) % B64 = (qs.getD i gr_dflt).value * 4 := by
      have := (hq i hi).lt; rw [Nat.shiftLeft_eq, B64_eq, Nat.mod_eq_of_lt (by omega)]
    rw [GenR.divide_and_round_q_last_ntt_inplace_loop1, gr_foldM, gr_darnRow]
    simp only [e1, e2, e3, e4, e4', e8, R.ok_bind, gr_pure, gr_bind_ok, gw_barrett_reduce_u64_eq, bind_assoc]
    refine R.bind_congr _ fun temp0 h0 => ?_
    have ht0len : temp0.length = n := by
      split at h0
      · rw [R.mapM_length h0, hlastlen]
      · cases h0; exact hlastlen
    refine R.bind_congr _ fun hm _ => R.bind_congr _ fun negHalf _ => ?_
    rw [gr_darn_loop2 n negHalf temp0 ht0len]
    refine R.bind_congr _ fun temp1 hm1 => ?_
    have ht2len := hNL i temp1 his (by rw [R.mapM_length hm1, ht0len])
    rw [gr_darn_loop3 cs s n i _ (NL i temp1) hi hsn hcs hn ht2len, hcilen, bind_assoc]
    refine R.bind_congr _ fun d hm2 => ?_
    have hdlen : d.length = n := by rw [R.mapM_length hm2, List.length_range']
    obtain ⟨e9, e10, e11⟩ := gr_bounds_ok (n := n) hi hsn hs64
    obtain ⟨e13, e14, e15, e16⟩ := gr_scale_passes n cs i d invs (qs.getD i gr_dflt) hn hic hdlen (Nat.lt_of_lt_of_le his hinv)
    rw [R.mapM_ok _ (fun x => mulOpV x (invs.getD i default) (qs.getD i gr_dflt)) d (fun x _ => gr_mulOperandMod _ _ _)]
    simp only [R.ok_bind, e9, e10, e11, e13, e14, e15, e16]
    exact ih (i+1) _ _ (by omega) (by rw [List.length_set]; exact hcs) (gr_set_length_mem n cs i _ hn (by rw [List.length_map]; exact hdlen)) ht2len

/-- the generated routine on a flat buffer (`IT` = what the abstract inverse NTT returns, `NL` = the abstract lazy forward NTT) -/
theorem gr_darn_list (qs : List Modulus) (invs : List MulOperand) (s n : Nat) (IT NL : Nat → List Nat → List Nat) (cs : List (List Nat))
    (hs : 1 ≤ s) (hqs : qs.length = s) (hinv : s - 1 ≤ invs.length) (hq : ∀ i, i < s → (qs.getD i gr_dflt).WF) (hsn : s * n < 2^64) (hs64 : s < 2^64)
    (hcs : cs.length = s) (hn : ∀ c ∈ cs, c.length = n)
    (hIT : (IT (s-1) (cs.getD (s-1) [])).length = n) (hNL : ∀ i x, i < s - 1 → x.length = n → (NL i x).length = n) :
    GenR.divide_and_round_q_last_ntt_inplace cs.flatten s qs n invs (fun i x => .ok (IT i x)) (fun i x => .ok (NL i x)) =
      ((IT (s-1) (cs.getD (s-1) [])).mapM (fun x => addMod x ((qs.getD (s-1) gr_dflt).value / 2) (qs.getD (s-1) gr_dflt)) >>= fun lastc =>
       (List.range' 0 (s-1)).mapM (fun i => gr_darnRow (qs.getD i gr_dflt) (qs.getD (s-1) gr_dflt) ((qs.getD (s-1) gr_dflt).value / 2)
          (invs.getD i default) (NL i) lastc (cs.getD i [])) >>= fun outs => .ok (outs ++ [lastc]).flatten) := by
  have hs1 : s - 1 < s := Nat.sub_lt hs Nat.one_pos
  have hlc : s - 1 < cs.length := hcs.symm ▸ hs1
  generalize hli : IT (s-1) (cs.getD (s-1) []) = lastI at hIT ⊢
  have e1 : ckSub s 1 = .ok (s-1) := ckSub_of_le hs
  have e2 := gr_idxMod_ok qs (s-1) gr_dflt (hqs.symm ▸ hs1)
  have e3 := (gr_bounds_ok (n := n) hs1 hsn hs64).1
  have e4 := gr_last_end_ok (n := n) hs1 hsn
  have e5 := gr_slice_flat n cs (s-1) hn hlc
  have e6 := gr_splice_flat n cs (s-1) lastI hn hlc hIT
  have hn' := gr_set_length_mem n cs (s-1) lastI hn hIT
  have hcs1 : (cs.set (s-1) lastI).length = s := by rw [List.length_set]; exact hcs
  have e7 := gr_slice_flat n _ (s-1) hn' (hcs1.symm ▸ hs1)
  rw [list_getD_set_self _ _ _ hlc] at e7
  unfold GenR.divide_and_round_q_last_ntt_inplace
  simp only [e1, e2, e3, e4, e5, hli, e6, e7, R.ok_bind, gr_half_eq, gr_add_scalar_inplace_eq]
  refine R.bind_congr _ fun lastc hm => ?_
  have hll : lastc.length = n := by rw [R.mapM_length hm, hIT]
  rw [gr_splice_flat n _ (s-1) lastc hn' (hcs1.symm ▸ hs1) hll, List.set_set,
    gr_darn_loop qs invs NL _ _ s n hqs hinv hq hsn hs64 hNL (s-1) 0 _ (List.replicate n 0) (Nat.zero_add _)
      (by rw [List.length_set]; exact hcs) (gr_set_length_mem n cs _ _ hn hll) List.length_replicate,
    gr_foldM_last (fun i lastc ci => gr_darnRow (qs.getD i gr_dflt) (qs.getD (s-1) gr_dflt) ((qs.getD (s-1) gr_dflt).value / 2)
      (invs.getD i default) (NL i) lastc ci) s cs lastc hcs hs, bind_assoc]
  rfl

/-! ### `RNSTool::mod_t_and_divide_q_last_inplace` (coefficient form; the `+=` of the inner loop can trap) -/

/-- row `i` of the model's `modTAndDivideQLast`, on lists -/
def gr_mtdRow (b : Modulus) (lastv : Nat) (inv : MulOperand) (n : Nat) (neg lastc ci : List Nat) : R (List Nat) :=
  neg.mapM (fun x => barrett64 x b >>= fun y => mulMod y lastv b) >>= fun delta =>
  (List.range' 0 n).mapM (fun j => barrett64 (lastc.getD j 0) b >>= fun cl => ckSub (b.value * 2) cl >>= fun a =>
      ckSub a (delta.getD j 0) >>= fun a2 => ckAdd (ci.getD j 0) a2) >>= fun d =>
  d.mapM (fun x => mulOperandMod x inv b)

/-- the inner loop of `mod_t_and_divide_q_last_inplace`: component `i` += `2·q_i − (c_last[j] mod q_i) − delta[j]`, every step checked -/
theorem gr_mtd_loop2 (cs : List (List Nat)) (s n i : Nat) (b : Modulus) (delta : List Nat) (two : Nat) (hi : i < s - 1) (hsn : s * n < 2^64)
    (hcs : cs.length = s) (hn : ∀ c ∈ cs, c.length = n) (hd : delta.length = n) :
    GenR.mod_t_and_divide_q_last_inplace_loop2 s n delta i b two n 0 cs.flatten
      = ((List.range' 0 n).mapM (fun j => barrett64 ((cs.getD (s-1) []).getD j 0) b >>= fun cl => ckSub two cl >>= fun a =>
            ckSub a (delta.getD j 0) >>= fun a2 => ckAdd ((cs.getD i []).getD j 0) a2)
          >>= fun d => .ok (cs.set i d).flatten) := by
  obtain ⟨hi', hs1, h1s⟩ : i < s ∧ s - 1 < s ∧ 1 ≤ s := by omega
  refine gr_coefloop (GenR.mod_t_and_divide_q_last_inplace_loop2 s n delta i b two)
    (fun j old => barrett64 ((cs.getD (s-1) []).getD j 0) b >>= fun cl => ckSub two cl >>= fun a =>
      ckSub a (delta.getD j 0) >>= fun a2 => ckAdd old a2) n i cs hn (hcs.symm ▸ hi') (fun _ _ => rfl) ?_
  intro k j l hj hjn hlen hI
  obtain ⟨e2, e3⟩ := gr_addr_ok hs1 hjn hsn
  obtain ⟨e10, e11⟩ := gr_addr_ok hi' hjn hsn
  have hlt : (s-1)*n + j < l.length := by rw [hlen, hcs]; exact grid_lt hs1 hjn
  -- the last component is read from the buffer the loop is writing to: it is still the original one
  have e4 : GenW.idx l ((s-1)*n + j) = .ok ((cs.getD (s-1) []).getD j 0) := by
    rw [GenW.idx_ok _ hlt, ← list_getD_eq_getElem _ 0 hlt, hI (s-1) j (Nat.ne_of_gt hi) (hcs.symm ▸ hs1) hjn]
  have hdj : j < delta.length := hd.symm ▸ hjn
  have e7 : GenW.idx delta j = .ok (delta.getD j 0) := by rw [GenW.idx_ok _ hdj, list_getD_eq_getElem _ 0 hdj]
  rw [GenR.mod_t_and_divide_q_last_inplace_loop2]
  simp only [ckSub_of_le h1s, e2, e3, e4, e7, e10, e11, GenW.idx_ok _ hj, gr_modulus_reduce_eq, R.ok_bind, bind_assoc]

theorem gr_mtd_loop (qs : List Modulus) (invs : List MulOperand) (lastv s n : Nat) (neg : List Nat)
    (hqs : qs.length = s) (hinv : s - 1 ≤ invs.length) (hq : ∀ i, i < s → (qs.getD i gr_dflt).WF) (hsn : s * n < 2^64) (hs64 : s < 2^64)
    (hneg : neg.length = n) (hnegw : ∀ x ∈ neg, x < 2^64) :
    ∀ k i (cs : List (List Nat)) (temp : List Nat), i + k = s - 1 → cs.length = s → (∀ c ∈ cs, c.length = n) → temp.length = n →
      GenR.mod_t_and_divide_q_last_inplace_loop1 s lastv n neg qs invs k i cs.flatten temp
        = (gr_foldM (fun i cs => gr_mtdRow (qs.getD i gr_dflt) lastv (invs.getD i default) n neg (cs.getD (s-1) []) (cs.getD i [])) k i cs
            >>= fun cs' => .ok cs'.flatten) := by
  intro k
  induction k with
  | zero => intro i cs temp _ _ _ _; rfl
  | succ k ih =>
    intro i cs temp hik hcs hn ht
    obtain ⟨his, hi, hs1, h1s⟩ : i < s - 1 ∧ i < s ∧ s - 1 < s ∧ 1 ≤ s := by omega
    have hic : i < cs.length := hcs.symm ▸ hi
    have hb := hq i hi
    have e1 := gr_idxMod_ok qs i gr_dflt (hqs.symm ▸ hi)
    have e8 : ((qs.getD i gr_dflt).value <<< 1) % B64 = (qs.getD i gr_dflt).value * 2 := by
      have := hb.lt; rw [Nat.shiftLeft_eq, B64_eq, Nat.mod_eq_of_lt (by omega)]
    rw [GenR.mod_t_and_divide_q_last_inplace_loop1, gr_foldM, gr_mtdRow]
    simp only [e1, e8, R.ok_bind, bind_assoc]
    rw [gr_delta_fuse hb neg temp lastv (by rw [ht, hneg]) hnegw]
    refine R.bind_congr _ fun delta hdm => ?_
    have hdlen : delta.length = n := by rw [R.mapM_length hdm, hneg]
    rw [gr_mtd_loop2 cs s n i (qs.getD i gr_dflt) delta _ his hsn hcs hn hdlen]
    simp only [R.ok_bind, bind_assoc]
    refine R.bind_congr _ fun d hm2 => ?_
    have hd : d.length = n := by rw [R.mapM_length hm2, List.length_range']
    obtain ⟨e9, e10, e11⟩ := gr_bounds_ok (n := n) hi hsn hs64
    obtain ⟨e13, e14, e15, e16⟩ := gr_scale_passes n cs i d invs (qs.getD i gr_dflt) hn hic hd (Nat.lt_of_lt_of_le his hinv)
    rw [R.mapM_ok _ (fun x => mulOpV x (invs.getD i default) (qs.getD i gr_dflt)) d (fun x _ => gr_mulOperandMod _ _ _)]
    simp only [R.ok_bind, e9, e10, e11, e13, e14, e15, e16]
    exact ih (i+1) _ _ (by omega) (by rw [List.length_set]; exact hcs) (gr_set_length_mem n cs i _ hn (by rw [List.length_map]; exact hd)) hdlen

theorem gr_mtd_list (qs : List Modulus) (invs : List MulOperand) (t : Modulus) (invt s n : Nat) (cs : List (List Nat))
    (hs : 1 ≤ s) (hqs : qs.length = s) (hinv : s - 1 ≤ invs.length) (hq : ∀ i, i < s → (qs.getD i gr_dflt).WF) (ht : t.WF)
    (hsn : s * n < 2^64) (hs64 : s < 2^64) (hcs : cs.length = s) (hn : ∀ c ∈ cs, c.length = n) (hw : ∀ x ∈ cs.getD (s-1) [], x < 2^64) :
    GenR.mod_t_and_divide_q_last_inplace cs.flatten s qs n invs t invt =
      (gr_negM t invt (cs.getD (s-1) []) >>= fun neg =>
        (List.range' 0 (s-1)).mapM (fun i => gr_mtdRow (qs.getD i gr_dflt) (qs.getD (s-1) gr_dflt).value (invs.getD i default) n
          neg (cs.getD (s-1) []) (cs.getD i [])) >>= fun outs => .ok (outs ++ [cs.getD (s-1) []]).flatten) := by
  have hs1 : s - 1 < s := Nat.sub_lt hs Nat.one_pos
  have hlc : s - 1 < cs.length := hcs.symm ▸ hs1
  have hlastlen : (cs.getD (s-1) []).length = n := hn _ (list_getD_mem [] hlc)
  obtain ⟨e3, -, e4⟩ := gr_bounds_ok (n := n) hs1 hsn hs64
  rw [show s - 1 + 1 = s by omega] at e4
  have e1 : ckSub s 1 = .ok (s-1) := ckSub_of_le hs
  have e2 := gr_idxMod_ok qs (s-1) gr_dflt (hqs.symm ▸ hs1)
  have e5 := gr_slice_flat n cs (s-1) hn hlc
  unfold GenR.mod_t_and_divide_q_last_inplace
  simp only [e1, e2, e3, e4, e5, R.ok_bind]
  rw [gr_neg_fuse t ht invt _ (List.replicate n 0) (by rw [List.length_replicate, hlastlen]) hw]
  refine R.bind_congr _ fun neg hneg => ?_
  obtain ⟨hnl, hnw⟩ := gr_negM_ok ht hneg
  rw [gr_mtd_loop qs invs _ s n neg hqs hinv hq hsn hs64 (by rw [hnl, hlastlen]) hnw (s-1) 0 cs (List.replicate n 0) (Nat.zero_add _) hcs hn
      List.length_replicate,
    gr_foldM_init _ s _ hcs hs (fun i a b hi h => by simp only [h i (Nat.le_refl i), h (s-1) (Nat.le_of_lt hi)]), bind_assoc]
  rfl

/-- **`RNSTool::divide_and_round_q_last_inplace` (generated from src/util/rns.rs) = the hand model**, on the flat buffer of any polynomial of
    the right shape: WF primes (2 ≤ q < 2^61 with their Barrett constants), the buffer length `s·n` fits a `usize`, the table of inverses has
    its `s-1` entries.  No range assumption on the coefficients: on unreduced input both sides trap in the same `+ half`. -/
theorem gr_divide_and_round_q_last_inplace_eq (r : RNSTool) (p : RnsPoly)
    (hs : 1 ≤ r.baseQ.size) (hq : ∀ i, i < r.baseQ.size → (r.baseQ.q i).WF) (hinv : r.baseQ.size - 1 ≤ r.invQLastModQ.size)
    (hsn : r.baseQ.size * r.n < 2^64) (hs64 : r.baseQ.size < 2^64) (hp : gr_Shape r p) :
    GenR.divide_and_round_q_last_inplace (flatP p) r.baseQ.size r.baseQ.base.toList r.n r.invQLastModQ.toList
      = (r.divideAndRoundQLast p).map flatP := by
  obtain ⟨hcs, hn⟩ := gr_shape_cs hp
  rw [flatP, gr_dar_list r.baseQ.base.toList r.invQLastModQ.toList r.baseQ.size r.n _ hs (by simp [RNSBase.size]) (by simpa using hinv)
    (by intro i hi; rw [gr_baseq_toList]; exact hq i hi) hsn hs64 hcs hn]
  unfold RNSTool.divideAndRoundQLast
  dsimp only
  rw [mapM'_eq, bind_assoc, R.bind_map, gr_baseq_toList, gr_cs_getD]
  refine R.bind_congr _ fun lastc _ => ?_
  simp only [R.ok_bind, pure, Except.pure, List.push_toArray]
  rw [gr_rows_tie [lastc.toArray] (row := fun i => gr_darRow (r.baseQ.q i) ((r.baseQ.q (r.baseQ.size - 1)).value / 2) (r.invQLastModQ.getD i default) lastc
      (p.getD i #[]).toList) (fun i _ => by simp only [gr_darRow, mapM'_eq, gr_zipM'_eq, bind_assoc, R.ok_bind, Array.length_toList])]
  simp only [gr_baseq_toList, gr_cs_getD, gr_ops_toList, List.map_cons, List.map_nil]

/-- **END TO END (C10, rounding division)**: the function generated from the Rust source of `RNSTool::divide_and_round_q_last_inplace`,
    run on the flat buffer of a polynomial whose coefficient `j` holds the canonical residues of an integer `X j`, returns — at position
    `i * n + j`, for every remaining prime `q_i` — the residue of the NEAREST INTEGER to `X j / q_last` (ties up). -/
theorem gr_divide_and_round_q_last_inplace_rounds (r : RNSTool) (p : RnsPoly) (X : Nat → Nat)
    (hq : ∀ i, i < r.baseQ.size → (r.baseQ.q i).WF) (hs : 2 ≤ r.baseQ.size)
    (hinv : ∀ i, i < r.baseQ.size - 1 → WFOp (r.baseQ.q i) (r.invQLastModQ.getD i default) ∧
        ((r.invQLastModQ.getD i default).operand * (r.baseQ.q (r.baseQ.size - 1)).value) % (r.baseQ.q i).value = 1)
    (hinvs : r.baseQ.size - 1 ≤ r.invQLastModQ.size)
    (hsn : r.baseQ.size * r.n < 2^64) (hs64 : r.baseQ.size < 2^64) (hp : gr_Shape r p)
    (hX : ∀ i j, i < r.baseQ.size → j < r.n → (p.getD i #[]).getD j 0 = X j % (r.baseQ.q i).value) :
    ∃ out, GenR.divide_and_round_q_last_inplace (flatP p) r.baseQ.size r.baseQ.base.toList r.n r.invQLastModQ.toList = .ok out ∧
      ∀ i j, i < r.baseQ.size - 1 → j < r.n →
        out.getD (i * r.n + j) 0 = ((X j + (r.baseQ.q (r.baseQ.size - 1)).value / 2) / (r.baseQ.q (r.baseQ.size - 1)).value) % (r.baseQ.q i).value := by
  have h1 : 1 ≤ r.baseQ.size := Nat.le_of_lt hs
  have hs1 : r.baseQ.size - 1 < r.baseQ.size := Nat.sub_lt h1 Nat.one_pos
  have hc : ∀ i j, i < r.baseQ.size → j < r.n → (p.getD i #[]).getD j 0 < (r.baseQ.q i).value := by
    intro i j hi hj; rw [hX i j hi hj]; exact Nat.mod_lt _ (Nat.lt_of_lt_of_le Nat.zero_lt_two (hq i hi).two_le)
  obtain ⟨o, ho, hsz, hv⟩ := divideAndRoundQLast_ent hq hs (fun i hi => (hinv i hi).1) hp.2 hc
  obtain ⟨hg, hrd⟩ := gr_read (s := r.baseQ.size - 1) (gr_divide_and_round_q_last_inplace_eq r p h1 hq hinvs hsn hs64 hp) ho
    (by rw [hsz]; exact Nat.sub_le _ _) (fun i hi => (hv i hi).1)
  refine ⟨_, hg, fun i j hi hj => ?_⟩
  have hi' := gr_lt_of_lt_pred hi
  rw [hrd i j hi hj, (hv i hi).2 j hj]
  dsimp only
  rw [hX _ j hs1 hj, hX i j hi' hj]
  exact divRoundLast_scalar (hq _ hs1).two_le (hq i hi').two_le (hinv i hi).2

/-- the model's two passes that build `neg_c_last_mod_t` (the `if` as the `do` block elaborates it: the continuation in both branches) -/
theorem gr_negM_model (t : Modulus) (invt : Nat) (lastc : Array Nat) {δ : Type} (K : Array Nat → R δ) :
    (mapM' lastc (fun x => do let y ← barrett64 x t; negateMod y t) >>= fun neg0 =>
      if invt ≠ 1 then mapM' neg0 (fun x => mulMod x invt t) >>= K else pure neg0 >>= K) = (gr_negM t invt lastc.toList >>= fun neg => K neg.toArray) := by
  rw [mapM'_eq, gr_negM, bind_assoc, bind_assoc]
  refine R.bind_congr _ fun neg0 _ => ?_
  rw [R.ok_bind]
  split
  · rw [mapM'_eq, bind_assoc]; rfl
  · rfl

/-- the default table of `tables.getD`.  The model has TWO `Inhabited NTTTables` instances (Model/Scheme.lean, Model/CkksEncoder.lean), so `default` is not a
    name to rely on: the model routines fix their own (`RNSTool.modTAndDivideQLastNtt.dflt`, `RNSTool.divideAndRoundQLastNtt.dflt`, equal by `rfl`: `c05u_dflt_eq`), C05U
    calls it `c05u_dflt`, and this is the same table under the name the ties use (`gr_tdflt_eq`). -/
abbrev gr_tdflt : NTTTables := RNSTool.modTAndDivideQLastNtt.dflt
/-- what the abstract (i)NTT inputs of the generated function are instantiated with: the model's transforms with table `i` -/
def gr_IT (tables : Array NTTTables) (i : Nat) (x : List Nat) : List Nat := (intt (tables.getD i gr_tdflt) x.toArray).toList
def gr_NT (tables : Array NTTTables) (i : Nat) (x : List Nat) : List Nat := (ntt (tables.getD i gr_tdflt) x.toArray).toList

/-- **`RNSTool::mod_t_and_divide_q_last_ntt_inplace` (generated from src/util/rns.rs) = the hand model**, with the two abstract function
    inputs of the generated code (`polymod::intt`, `polymod::ntt` on table `i`) instantiated by the model's `intt` / `ntt` with `tables[i]`.
    Hypotheses: WF primes and plain modulus, `inv_q_last_mod_t` a word, shape, buffer length fits a `usize`, `s-1` inverses, and about the
    transforms only that they keep the length `n` and that the inverse transform of the last component consists of words. -/
theorem gr_mod_t_and_divide_q_last_ntt_inplace_eq (r : RNSTool) (tables : Array NTTTables) (p : RnsPoly)
    (hs : 1 ≤ r.baseQ.size) (hq : ∀ i, i < r.baseQ.size → (r.baseQ.q i).WF) (ht : r.t.WF) (hinvt : r.invQLastModT < 2^64)
    (hinv : r.baseQ.size - 1 ≤ r.invQLastModQ.size) (hsn : r.baseQ.size * r.n < 2^64) (hs64 : r.baseQ.size < 2^64) (hp : gr_Shape r p)
    (hI : (intt (tables.getD (r.baseQ.size - 1) gr_tdflt) (p.getD (r.baseQ.size - 1) #[])).size = r.n)
    (hIw : ∀ x ∈ intt (tables.getD (r.baseQ.size - 1) gr_tdflt) (p.getD (r.baseQ.size - 1) #[]), x < 2^64)
    (hN : ∀ i (a : Array Nat), i < r.baseQ.size - 1 → a.size = r.n → (∀ y ∈ a, y < 2 * (r.baseQ.q i).value) → (ntt (tables.getD i gr_tdflt) a).size = r.n) :
    GenR.mod_t_and_divide_q_last_ntt_inplace (flatP p) r.baseQ.size r.baseQ.base.toList r.n r.invQLastModQ.toList r.t r.invQLastModT
        (fun i x => .ok (gr_IT tables i x)) (fun i x => .ok (gr_NT tables i x))
      = (r.modTAndDivideQLastNtt tables p).map flatP := by
  obtain ⟨hcs, hn⟩ := gr_shape_cs hp
  have hlast : gr_IT tables (r.baseQ.size - 1) ((p.toList.map Array.toList).getD (r.baseQ.size - 1) [])
      = (intt (tables.getD (r.baseQ.size - 1) gr_tdflt) (p.getD (r.baseQ.size - 1) #[])).toList := by
    unfold gr_IT; rw [gr_cs_getD]
  rw [flatP, gr_mtdn_list r.baseQ.base.toList r.invQLastModQ.toList r.t r.invQLastModT r.baseQ.size r.n (gr_IT tables) (gr_NT tables) _ hs (by simp [RNSBase.size])
    (by simpa using hinv) (by intro i hi; rw [gr_baseq_toList]; exact hq i hi) ht hsn hs64 hcs hn
    (by rw [hlast, Array.length_toList]; exact hI) (by rw [hlast]; intro x hx; exact hIw x (by simpa using hx))
    (by intro i x hi hx hb; unfold gr_NT; rw [Array.length_toList]; exact hN i _ hi (by simpa using hx) (by intro y hy; rw [← gr_baseq_toList]; exact hb y (by simpa using hy))),
    hlast]
  unfold RNSTool.modTAndDivideQLastNtt
  dsimp only
  rw [show RNSTool.modTAndDivideQLastNtt.dflt = gr_tdflt from rfl, gr_negM_model, R.bind_map]
  refine R.bind_congr _ fun neg _ => ?_
  simp only [pure, Except.pure, List.push_toArray]
  rw [gr_rows_tie [intt (tables.getD (r.baseQ.size - 1) gr_tdflt) (p.getD (r.baseQ.size - 1) #[])] (row := fun i => gr_mtdnRow (r.baseQ.q i)
      (r.baseQ.q (r.baseQ.size - 1)).value (r.invQLastModQ.getD i default) (gr_NT tables i) neg
      (intt (tables.getD (r.baseQ.size - 1) gr_tdflt) (p.getD (r.baseQ.size - 1) #[])).toList (p.getD i #[]).toList) (fun i _ => by
    simp only [gr_mtdnRow, gr_NT, mapM'_eq, gr_zipM'_eq, bind_assoc, R.ok_bind, Array.length_toList, List.size_toArray])]
  simp only [gr_baseq_toList, gr_cs_getD, gr_ops_toList, List.map_cons, List.map_nil]

def gr_NL (tables : Array NTTTables) (i : Nat) (x : List Nat) : List Nat := (nttLazy (tables.getD i gr_tdflt) x.toArray).toList

/-- the transforms keep the length `2^k` of their table (no well-formedness needed) -/
theorem gr_runFwdA_size (A : Arith Nat MulOperand) (k : Nat) (roots : Nat → MulOperand) (a : Array Nat) (h : a.size = 2^k) :
    ∀ l, (runFwdA A k roots a l).size = 2^k := by
  intro l; cases l with
  | zero => exact h
  | succ l => simp [runFwdA]
theorem gr_runInvA_size (A : Arith Nat MulOperand) (k : Nat) (roots : Nat → MulOperand) (a : Array Nat) (h : a.size = 2^k) :
    ∀ l, (runInvA A k roots a l).size = 2^k := by
  intro l; cases l with
  | zero => exact h
  | succ l => simp [runInvA]
theorem gr_nttLazy_size (t : NTTTables) (a : Array Nat) (h : a.size = 2^t.k) : (nttLazy t a).size = 2^t.k := by
  unfold nttLazy transformToRev; exact gr_runFwdA_size _ _ _ _ h _
theorem gr_ntt_size (t : NTTTables) (a : Array Nat) (h : a.size = 2^t.k) : (ntt t a).size = 2^t.k := by
  unfold ntt; simp only [Array.size_map]; exact gr_nttLazy_size t a h
theorem gr_intt_size (t : NTTTables) (a : Array Nat) (h : a.size = 2^t.k) : (intt t a).size = 2^t.k := by
  unfold intt inttLazy transformFromRev; simp only [Array.size_map]; exact gr_runInvA_size _ _ _ _ h _

/-- **`RNSTool::divide_and_round_q_last_ntt_inplace` (generated from src/util/rns.rs) = the hand model**; the two abstract function inputs of
    the generated code (`inverse_ntt_negacyclic_harvey`, `ntt_negacyclic_harvey_lazy` of table `i`) are instantiated with the model's `intt` /
    `nttLazy` of `tables[i]`.  About the tables only their size parameter is used (`2^k = n`); no range assumption on the coefficients: the
    lazy additions / subtractions trap on both sides at the same point. -/
theorem gr_divide_and_round_q_last_ntt_inplace_eq (r : RNSTool) (tables : Array NTTTables) (p : RnsPoly)
    (hs : 1 ≤ r.baseQ.size) (hq : ∀ i, i < r.baseQ.size → (r.baseQ.q i).WF) (hinv : r.baseQ.size - 1 ≤ r.invQLastModQ.size)
    (hsn : r.baseQ.size * r.n < 2^64) (hs64 : r.baseQ.size < 2^64) (hp : gr_Shape r p)
    (hk : ∀ i, i < r.baseQ.size → 2^(tables.getD i gr_tdflt).k = r.n) :
    GenR.divide_and_round_q_last_ntt_inplace (flatP p) r.baseQ.size r.baseQ.base.toList r.n r.invQLastModQ.toList
        (fun i x => .ok (gr_IT tables i x)) (fun i x => .ok (gr_NL tables i x))
      = (r.divideAndRoundQLastNtt tables p).map flatP := by
  obtain ⟨hcs, hn⟩ := gr_shape_cs hp
  have hlast : gr_IT tables (r.baseQ.size - 1) ((p.toList.map Array.toList).getD (r.baseQ.size - 1) [])
      = (intt (tables.getD (r.baseQ.size - 1) gr_tdflt) (p.getD (r.baseQ.size - 1) #[])).toList := by
    unfold gr_IT; rw [gr_cs_getD]
  rw [flatP, gr_darn_list r.baseQ.base.toList r.invQLastModQ.toList r.baseQ.size r.n (gr_IT tables) (gr_NL tables) _ hs (by simp [RNSBase.size])
    (by simpa using hinv) (by intro i hi; rw [gr_baseq_toList]; exact hq i hi) hsn hs64 hcs hn
    (by rw [hlast, Array.length_toList, gr_intt_size _ _ (by rw [hp.2 _ (Nat.sub_lt hs Nat.one_pos), hk _ (Nat.sub_lt hs Nat.one_pos)]), hk _ (Nat.sub_lt hs Nat.one_pos)])
    (by intro i x hi hx; unfold gr_NL; rw [Array.length_toList, gr_nttLazy_size _ _ (by rw [List.size_toArray, hx, hk i (gr_lt_of_lt_pred hi)]), hk i (gr_lt_of_lt_pred hi)]),
    hlast]
  unfold RNSTool.divideAndRoundQLastNtt
  dsimp only
  rw [show RNSTool.divideAndRoundQLastNtt.dflt = gr_tdflt from rfl, mapM'_eq, bind_assoc, R.bind_map, gr_baseq_toList]
  refine R.bind_congr _ fun lastc _ => ?_
  simp only [R.ok_bind, pure, Except.pure, List.push_toArray]
  rw [gr_rows_tie [lastc.toArray] (row := fun i => gr_darnRow (r.baseQ.q i) (r.baseQ.q (r.baseQ.size - 1)) ((r.baseQ.q (r.baseQ.size - 1)).value / 2)
      (r.invQLastModQ.getD i default) (gr_NL tables i) lastc (p.getD i #[]).toList) (fun i _ => by
    by_cases hc : (r.baseQ.q i).value < (r.baseQ.q (r.baseQ.size - 1)).value
    · simp only [gr_darnRow, gr_NL, if_pos hc, mapM'_eq, gr_zipM'_eq, bind_assoc, R.ok_bind, Array.length_toList, List.size_toArray]
    · simp only [gr_darnRow, gr_NL, if_neg hc, mapM'_eq, gr_zipM'_eq, bind_assoc, R.ok_bind, Array.length_toList, List.size_toArray])]
  simp only [gr_baseq_toList, gr_cs_getD, gr_ops_toList, List.map_cons, List.map_nil]

/-- **`RNSTool::mod_t_and_divide_q_last_inplace` (generated from src/util/rns.rs) = the hand model** on flat buffers; the trapping `+=` of the
    inner loop traps on both sides at the same coefficient -/
theorem gr_mod_t_and_divide_q_last_inplace_eq (r : RNSTool) (p : RnsPoly)
    (hs : 1 ≤ r.baseQ.size) (hq : ∀ i, i < r.baseQ.size → (r.baseQ.q i).WF) (ht : r.t.WF) (hinvt : r.invQLastModT < 2^64)
    (hinv : r.baseQ.size - 1 ≤ r.invQLastModQ.size) (hsn : r.baseQ.size * r.n < 2^64) (hs64 : r.baseQ.size < 2^64) (hp : gr_Shape r p)
    (hw : ∀ x ∈ p.getD (r.baseQ.size - 1) #[], x < 2^64) :
    GenR.mod_t_and_divide_q_last_inplace (flatP p) r.baseQ.size r.baseQ.base.toList r.n r.invQLastModQ.toList r.t r.invQLastModT
      = (r.modTAndDivideQLast p).map flatP := by
  obtain ⟨hcs, hn⟩ := gr_shape_cs hp
  rw [flatP, gr_mtd_list r.baseQ.base.toList r.invQLastModQ.toList r.t r.invQLastModT r.baseQ.size r.n _ hs (by simp [RNSBase.size])
    (by simpa using hinv) (by intro i hi; rw [gr_baseq_toList]; exact hq i hi) ht hsn hs64 hcs hn
    (by rw [gr_cs_getD]; intro x hx; exact hw x (by simpa using hx))]
  unfold RNSTool.modTAndDivideQLast
  dsimp only
  rw [gr_negM_model, R.bind_map, gr_cs_getD]
  refine R.bind_congr _ fun neg _ => ?_
  simp only [pure, Except.pure, List.push_toArray]
  rw [gr_rows_tie [p.getD (r.baseQ.size - 1) #[]] (row := fun i => gr_mtdRow (r.baseQ.q i) (r.baseQ.q (r.baseQ.size - 1)).value
      (r.invQLastModQ.getD i default) r.n neg (p.getD (r.baseQ.size - 1) #[]).toList (p.getD i #[]).toList) (fun i _ => by
    simp only [gr_mtdRow, mapM'_eq, List.range_eq_range', bind_assoc, R.ok_bind, ← array_getD_toList _ _ 0]
    refine R.bind_congr _ fun delta _ => ?_
    rw [gr_foldlM_push _ (fun j => barrett64 ((p.getD (r.baseQ.size - 1) #[]).toList.getD j 0) (r.baseQ.q i) >>= fun cl =>
        ckSub ((r.baseQ.q i).value * 2) cl >>= fun a => ckSub a (delta.getD j 0) >>= fun a2 => ckAdd ((p.getD i #[]).toList.getD j 0) a2) _ _
        (fun _ _ _ => by simp only [bind_assoc]), bind_assoc]
    simp only [R.ok_bind, Array.empty_append])]
  simp only [gr_baseq_toList, gr_cs_getD, gr_ops_toList, List.map_cons, List.map_nil]

/-- **END TO END (C10, BGV division, coefficient form)**: the function generated from the Rust source of `RNSTool::mod_t_and_divide_q_last_inplace`,
    run on the flat buffer of a polynomial holding the canonical residues of integers `X j`, returns at position `i·n + j` the residue mod `q_i` of
    y = (X − [X]_{q_L})/q_L − [−X·q_L⁻¹]_t, and y·q_L ≡ X (mod t).  (`p_i[j] = X j % q_i` is the residue half of `c05u_IsCrt`, Proofs/C01O.lean; no bound on `X j` is
    needed here.) -/
theorem gr_mod_t_and_divide_q_last_inplace_bgv (r : RNSTool) (p : RnsPoly) (X : Nat → Nat)
    (hq : ∀ i, i < r.baseQ.size → (r.baseQ.q i).WF) (hs : 2 ≤ r.baseQ.size) (ht : r.t.WF)
    (hinv : ∀ i, i < r.baseQ.size - 1 → WFOp (r.baseQ.q i) (r.invQLastModQ.getD i default) ∧
        ((r.invQLastModQ.getD i default).operand * (r.baseQ.q (r.baseQ.size - 1)).value) % (r.baseQ.q i).value = 1)
    (hinvt : (r.invQLastModT * (r.baseQ.q (r.baseQ.size - 1)).value) % r.t.value = 1) (hit : r.invQLastModT < r.t.value)
    (hinvs : r.baseQ.size - 1 ≤ r.invQLastModQ.size)
    (hsn : r.baseQ.size * r.n < 2^64) (hs64 : r.baseQ.size < 2^64) (hp : gr_Shape r p)
    (hX : ∀ i j, i < r.baseQ.size → j < r.n → (p.getD i #[]).getD j 0 = X j % (r.baseQ.q i).value) :
    ∃ out, GenR.mod_t_and_divide_q_last_inplace (flatP p) r.baseQ.size r.baseQ.base.toList r.n r.invQLastModQ.toList r.t r.invQLastModT = .ok out ∧
      ∀ i j, i < r.baseQ.size - 1 → j < r.n →
        let qL := (r.baseQ.q (r.baseQ.size - 1)).value
        let y : Int := ((X j - X j % qL) / qL : Nat) - ((((r.t.value - (X j % qL) % r.t.value) % r.t.value) * r.invQLastModT) % r.t.value : Nat)
        (out.getD (i * r.n + j) 0 : Int) = y % ((r.baseQ.q i).value : Int) ∧ (y * qL - X j) % (r.t.value : Int) = 0 := by
  have ht61 := ht.lt
  have h1 : 1 ≤ r.baseQ.size := Nat.le_of_lt hs
  have hs1 : r.baseQ.size - 1 < r.baseQ.size := Nat.sub_lt h1 Nat.one_pos
  have hL61 := (hq _ hs1).lt
  have hc : ∀ i j, i < r.baseQ.size → j < r.n → (p.getD i #[]).getD j 0 < (r.baseQ.q i).value := by
    intro i j hi hj; rw [hX i j hi hj]; exact Nat.mod_lt _ (Nat.lt_of_lt_of_le Nat.zero_lt_two (hq i hi).two_le)
  have hcl : ∀ j, j < r.n → (p.getD (r.baseQ.size - 1) #[]).getD j 0 < 2^64 := fun j hj => by have := hc _ j hs1 hj; omega
  have hw : ∀ x ∈ p.getD (r.baseQ.size - 1) #[], x < 2^64 := mem_lt_of_getD (fun j hj => hcl j (hp.2 _ hs1 ▸ hj))
  have hit64 : r.invQLastModT < 2^64 := by omega
  obtain ⟨o, ho, hsz, hv⟩ := modTAndDivideQLast_ent hq hs ht hit64 (fun i hi => (hinv i hi).1) (hp.2 _ hs1) hcl
    (fun i j hi hj => by have := hc i j (gr_lt_of_lt_pred hi) hj; have := (hq i (gr_lt_of_lt_pred hi)).lt; omega)
  obtain ⟨hg, hrd⟩ := gr_read (s := r.baseQ.size - 1) (gr_mod_t_and_divide_q_last_inplace_eq r p h1 hq ht hit64 hinvs hsn hs64 hp hw) ho
    (by rw [hsz]; exact Nat.sub_le _ _) (fun i hi => (hv i hi).1)
  refine ⟨_, hg, fun i j hi hj => ?_⟩
  have hi' := gr_lt_of_lt_pred hi
  rw [hrd i j hi hj, (hv i hi).2 j hj]
  dsimp only
  rw [hX _ j hs1 hj, hX i j hi' hj]
  have := modTDivLast_scalar (x := X j) ht.two_le (hq _ hs1).two_le (hq i hi').two_le (hinv i hi).2 hinvt hit
  exact ⟨this.1, this.2.1⟩

/-!
  The generated `mod_t_and_divide_q_last_ntt_inplace` composed with the C05 ciphertext-level theorem
  `c05u_bgv_poly` (BGV division by the dropped prime), i.e. the BGV analogue of `gr_divide_and_round_q_last_inplace_rounds`.
-/

theorem gr_tdflt_eq : gr_tdflt = c05u_dflt := rfl

/-- the hypotheses of `gr_mod_t_and_divide_q_last_ntt_inplace_eq` follow from the level bundles of C05 -/
theorem gr_mtdn_eq_of_level {l : Level} (hl : l.WF) (h : c05u_ToolOK l) (hg : c05u_BgvOK l) (h2 : 2 ≤ l.size)
    (hsn : l.size * l.n < 2^64) (hinvs : l.size - 1 ≤ l.tool.invQLastModQ.size) {p : RnsPoly} (hp : RnsCanon l p) :
    GenR.mod_t_and_divide_q_last_ntt_inplace (flatP p) l.tool.baseQ.size l.tool.baseQ.base.toList l.tool.n l.tool.invQLastModQ.toList l.tool.t
        l.tool.invQLastModT (fun i x => .ok (gr_IT l.tables i x)) (fun i x => .ok (gr_NT l.tables i x))
      = (l.tool.modTAndDivideQLastNtt l.tables p).map flatP := by
  have hs := c05u_size h
  have hq := c05u_q h
  have htb := c05u_tables_ok hl h
  have hn : ∀ i, i < l.tool.baseQ.size → (p.getD i #[]).size = l.tool.n :=
    fun i hi => by rw [hs] at hi; rw [h.tn]; exact (hp.2 i hi).1
  have hc : ∀ i j, i < l.tool.baseQ.size → j < l.tool.n → (p.getD i #[]).getD j 0 < (l.tool.baseQ.q i).value :=
    fun i j hi hj => by rw [hs] at hi; rw [h.tn] at hj; rw [hq]; exact (hp.2 i hi).2 j hj
  obtain ⟨f1, f2⟩ := c05u_lastI_facts (by rw [hs]; exact h2) htb hn hc
  have hn0 : 0 < l.n := by rw [hl.npow]; exact Nat.pow_pos (by norm_num)
  have hs64 : l.size < 2^64 := Nat.lt_of_le_of_lt (Nat.le_mul_of_pos_right _ hn0) hsn
  have hLlt := (h.bwf.mwf (l.tool.baseQ.size - 1) (by omega)).lt
  refine gr_mod_t_and_divide_q_last_ntt_inplace_eq l.tool l.tables p (by omega) (fun i hi => h.bwf.mwf i hi) (by rw [hg.tt]; exact hg.twf)
    (by have := hg.invt_lt; have := hg.twf.lt; omega) (by rw [hs]; exact hinvs) (by rw [hs, h.tn]; exact hsn) (by rw [hs]; exact hs64)
    ⟨by rw [hs]; exact hp.1, hn⟩ f1 ?_ ?_
  · intro x hx
    have := mem_lt_of_getD (fun j hj => f2 j (by rw [← f1]; exact hj)) x hx
    omega
  · intro i a hi ha hb
    obtain ⟨htw, htm, htn⟩ := htb i (by omega)
    rw [← htn]
    refine (ntt_sim htw a (by rw [ha, htn]) ?_).1
    intro j _
    rw [htm]
    have hb0 : 0 < 2 * (l.tool.baseQ.q i).value := by have := (h.bwf.mwf i (by omega)).two_le; omega
    have := getD_lt_of_forall hb hb0 j
    omega

/-- **END TO END (C05 / C10, BGV division)**: the function generated from the Rust source of `RNSTool::mod_t_and_divide_q_last_ntt_inplace`, run on
    the flat buffer of a canonical NTT-form polynomial of a well-formed BGV level, returns the flat buffer of a polynomial whose first `size-1`
    components are (in NTT form) the residues of  y = (X − [X]_{q_L})/q_L − [−X·q_L⁻¹]_t  for the CRT value X of every coefficient, and
    y·q_L ≡ X (mod t). -/
theorem gr_mod_t_and_divide_q_last_ntt_inplace_bgv {l : Level} (hl : l.WF) (h : c05u_ToolOK l) (hg : c05u_BgvOK l) (h2 : 2 ≤ l.size)
    (hsn : l.size * l.n < 2^64) (hinvs : l.size - 1 ≤ l.tool.invQLastModQ.size) {p : RnsPoly} (hp : RnsCanon l p) :
    ∃ out : RnsPoly,
      GenR.mod_t_and_divide_q_last_ntt_inplace (flatP p) l.tool.baseQ.size l.tool.baseQ.base.toList l.tool.n l.tool.invQLastModQ.toList l.tool.t
        l.tool.invQLastModT (fun i x => .ok (gr_IT l.tables i x)) (fun i x => .ok (gr_NT l.tables i x)) = .ok (flatP out) ∧
      c05u_BgvDivOfNtt l p (out.extract 0 (l.size - 1)) ∧
      ∀ X : Nat, (c05u_bgvY l.t.value (l.q (l.size - 1)).value l.tool.invQLastModT X * ((l.q (l.size - 1)).value : Int) - (X : Int)) % (l.t.value : Int) = 0 := by
  obtain ⟨o, ho, hdiv⟩ := c05u_bgv_poly hl h hg h2 hp
  cases hm : l.tool.modTAndDivideQLastNtt l.tables p with
  | error e => rw [hm] at ho; cases ho
  | ok out =>
    rw [hm, R.ok_bind] at ho
    cases ho
    refine ⟨out, by rw [gr_mtdn_eq_of_level hl h hg h2 hsn hinvs hp, hm]; rfl, hdiv, fun X => ?_⟩
    have hLwf := c05u_qwf h (show l.size - 1 < l.size by omega)
    have hq0 := c05u_qwf h (show 0 < l.size by omega)
    have := (modTDivLast_scalar (x := X) (qi := (l.q 0).value) (inv := (l.tool.invQLastModQ.getD 0 default).operand)
      hg.twf.two_le hLwf.two_le hq0.two_le (h.inv 0 (by omega)).2 hg.invt hg.invt_lt).2.1
    exact this

end HC
