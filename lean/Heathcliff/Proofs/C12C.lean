/- C12 part C: the canonical embedding in exact arithmetic — the butterfly network of Proofs/C09D.lean (generic over any
   commutative ring) instantiated over a commutative *-ring K (think ℂ, star = complex conjugation) with a primitive 2N-th
   root ψ (ψ^N = −1, ψ·star ψ = 1): the forward network evaluates at the odd powers of ψ (`c12c_fwd_at`), decode ∘ encode = id
   (`c12c_roundtrip`), conjugate positions (`c12_conjPos`) and real coefficients for conjugate-symmetric input (`c12c_real_coeffs`).
   Needs C09D only (no modular NTT).  Helper lemmas carry `c12c_`; `c12_conjPos` is a definition the statements of Props/C12 use. -/
import Heathcliff.Proofs.C09D
import Mathlib.Algebra.Star.Basic
import Mathlib.Algebra.Star.BigOperators
namespace HC
open Finset

variable {K : Type} [CommRing K] [StarRing K]

omit [StarRing K] in
/-- the forward network evaluates at ψ^e at position brev((e−1)/2), for every odd e < 2N -/
theorem c12c_fwd_at (k : Nat) (ψ : K) (hψ : ψ^(2^k) = -1) (roots : Nat → K)
    (hroots : ∀ j, 0 < j → j < 2^k → roots j = ψ^(brev k j)) (a : Nat → K) {e : Nat} (he : e % 2 = 1) (hlt : e < 2 * 2^k) :
    runFwd (exactArith K) k roots a k (brev k ((e - 1) / 2)) = ∑ j ∈ range (2^k), a j * (ψ^e)^j := by
  have hm : (e - 1) / 2 < 2^k := by omega
  have h := fwd_eval k ψ hψ roots hroots a (brev k ((e - 1) / 2)) (brev_lt _ _)
  rw [brev_brev hm] at h
  have he2 : 2 * ((e - 1) / 2) + 1 = e := by omega
  rw [he2] at h
  exact h

omit [StarRing K] in
/-- ROUND TRIP (decode ∘ encode = id in exact arithmetic): encode = inverse network then `* fix` with fix = scale/N,
    decode = `* inv_scale` then forward network -/
theorem c12c_roundtrip (k : Nat) (ψ ψi : K) (hinv : ψ * ψi = 1) (roots iroots : Nat → K)
    (hroots : ∀ j, 0 < j → j < 2^k → roots j = ψ^(brev k j))
    (hiroots : ∀ p, 0 < p → p < 2^k → iroots p = ψi^(brev k (p-1) + 1))
    (Ninv s sinv : K) (hN : Ninv * 2^k = 1) (hs : s * sinv = 1) (x : Nat → K) :
    ∀ p, p < 2^k →
      runFwd (exactArith K) k roots (fun j => runInv (exactArith K) k iroots x k j * (s * Ninv) * sinv) k p = x p := by
  intro p hp
  have e : (fun j => runInv (exactArith K) k iroots x k j * (s * Ninv) * sinv)
      = fun j => (s * Ninv * sinv) * runInv (exactArith K) k iroots x k j := by
    funext j; ring
  rw [e, runFwd_smul, fwd_inv k ψ ψi hinv roots iroots hroots hiroots x p hp]
  calc s * Ninv * sinv * (2^k * x p) = (s * sinv) * (Ninv * 2^k) * x p := by ring
    _ = x p := by rw [hs, hN]; ring

/-- position of the conjugate evaluation point: if position p holds the value at ψ^e then this one holds the value at ψ^(2N−e) -/
def c12_conjPos (k p : Nat) : Nat := brev k (2^k - 1 - brev k p)

theorem c12c_conjPos_lt (k p : Nat) : c12_conjPos k p < 2^k := brev_lt _ _

theorem c12c_brev_conjPos (k p : Nat) : brev k (c12_conjPos k p) = 2^k - 1 - brev k p := by
  have h := brev_lt k p
  unfold c12_conjPos
  exact brev_brev (by omega)

theorem c12c_conjPos_invol {k p : Nat} (hp : p < 2^k) : c12_conjPos k (c12_conjPos k p) = p := by
  have h := brev_lt k p
  have e : c12_conjPos k (c12_conjPos k p) = brev k (2^k - 1 - brev k (c12_conjPos k p)) := rfl
  rw [e, c12c_brev_conjPos]
  have e2 : 2^k - 1 - (2^k - 1 - brev k p) = brev k p := by omega
  rw [e2, brev_brev hp]

theorem c12c_star_pow (k : Nat) (ψ : K) (hψ : ψ^(2^k) = -1) (hu : ψ * star ψ = 1) {e e' : Nat}
    (hee : e + e' = 2 * 2^k) : star (ψ^e') = ψ^e := by
  have h1 : ψ^e * ψ^e' = 1 := by rw [← pow_add, hee, mul_comm, pow_mul, hψ, neg_one_sq]
  have h2 : star (ψ^e') * ψ^e' = 1 := by
    rw [star_pow, ← mul_pow, mul_comm, hu, one_pow]
  calc star (ψ^e') = star (ψ^e') * (ψ^e * ψ^e') := by rw [h1, mul_one]
    _ = (star (ψ^e') * ψ^e') * ψ^e := by ring
    _ = ψ^e := by rw [h2, one_mul]

theorem c12c_star_two_pow (k : Nat) : star ((2 : K)^k) = 2^k := by
  rw [star_pow]
  have : star (2 : K) = 2 := star_ofNat 2
  rw [this]

/-- the forward transform of the conjugated coefficients is the conjugate of the forward transform at the conjugate position -/
theorem c12c_fwd_star (k : Nat) (ψ : K) (hψ : ψ^(2^k) = -1) (hu : ψ * star ψ = 1) (roots : Nat → K)
    (hroots : ∀ j, 0 < j → j < 2^k → roots j = ψ^(brev k j)) (a : Nat → K) (p : Nat) (hp : p < 2^k) :
    runFwd (exactArith K) k roots (fun j => star (a j)) k p
      = star (runFwd (exactArith K) k roots a k (c12_conjPos k p)) := by
  rw [fwd_eval k ψ hψ roots hroots _ p hp,
    fwd_eval k ψ hψ roots hroots a _ (c12c_conjPos_lt k p), c12c_brev_conjPos, star_sum]
  have hb := brev_lt k p
  have hee : (2 * brev k p + 1) + (2 * (2^k - 1 - brev k p) + 1) = 2 * 2^k := by omega
  have hs := c12c_star_pow k ψ hψ hu hee
  apply sum_congr rfl
  intro j _
  rw [star_mul', star_pow, hs]

/-- CONJUGATE SYMMETRY ⇒ REAL COEFFICIENTS: if the scattered vector takes conjugate values at conjugate positions, every
    output of the inverse network is fixed by star (i.e. real, over ℂ) -/
theorem c12c_real_coeffs (k : Nat) (ψ : K) (hψ : ψ^(2^k) = -1) (hu : ψ * star ψ = 1) (roots iroots : Nat → K)
    (hroots : ∀ j, 0 < j → j < 2^k → roots j = ψ^(brev k j))
    (hiroots : ∀ p, 0 < p → p < 2^k → iroots p = (star ψ)^(brev k (p-1) + 1))
    (Ninv : K) (hN : Ninv * 2^k = 1) (x : Nat → K)
    (hx : ∀ p, p < 2^k → x (c12_conjPos k p) = star (x p)) :
    ∀ j, j < 2^k → star (runInv (exactArith K) k iroots x k j) = runInv (exactArith K) k iroots x k j := by
  intro j hj
  have hfi := fwd_inv k ψ (star ψ) hu roots iroots hroots hiroots x
  have hagree : ∀ p, p < 2^k →
      runFwd (exactArith K) k roots (fun j => star (runInv (exactArith K) k iroots x k j)) k p
        = runFwd (exactArith K) k roots (runInv (exactArith K) k iroots x k) k p := by
    intro p hp
    have hp' := c12c_conjPos_lt k p
    rw [c12c_fwd_star k ψ hψ hu roots hroots _ p hp, hfi _ hp', hfi p hp, star_mul', c12c_star_two_pow,
      ← hx _ hp', c12c_conjPos_invol hp]
  have h1 := runInv_congr k iroots _ _ hagree k (Nat.le_refl k) j hj
  rw [inv_fwd k ψ (star ψ) hu roots iroots hroots hiroots _ j hj,
    inv_fwd k ψ (star ψ) hu roots iroots hroots hiroots _ j hj] at h1
  have h2 := congrArg (fun t => Ninv * t) h1
  simp only [← mul_assoc, hN, one_mul] at h2
  exact h2

end HC
