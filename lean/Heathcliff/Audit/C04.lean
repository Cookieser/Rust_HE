/- Audit of property C04: `#print axioms` for every property theorem of Props/C04.lean; `audit()` of tools/runner.py elaborates this file
   and compares each axiom list with the three standard axioms. -/
import Heathcliff.Props.C04
#print axioms HC.C04.odd_mul_injective
#print axioms HC.C04.galoisApply_spec
#print axioms HC.C04.subst_eval
#print axioms HC.C04.galoisTable_spec
#print axioms HC.C04.galoisTable_exponent
#print axioms HC.C04.eltFromStep_spec
#print axioms HC.C04.eltFromStep_zero
#print axioms HC.C04.three_order
#print axioms HC.C04.step_inverse
#print axioms HC.C04.step_add
#print axioms HC.C04.three_pow_two_pow_pos
#print axioms HC.C04.eltFromStep_refuses'
#print axioms HC.C04.eltsAll_contains_le
#print axioms HC.C04.gadget_delta
#print axioms HC.C04.gadget_crt
#print axioms HC.C04.keyswitch_phase
#print axioms HC.C04.moddown_round
#print axioms HC.C04.ksAccumulate_spec
#print axioms HC.C04.ksAccumulate_spec_dsz64
#print axioms HC.C04.switchKey_refuses_sizes
#print axioms HC.C04.switchKey_refuses_bfv_ntt
#print axioms HC.C04.switchKey_refuses_coeff_form
#print axioms HC.C04.moddown_spec
#print axioms HC.C04.moddown_spec_bgv
#print axioms HC.C04.keyswitch_moddown_phase_ring
#print axioms HC.C04.relinearize_size3
#print axioms HC.C04.relinearize_size2
#print axioms HC.C04.relinearize_refuses_small
#print axioms HC.C04.relinearize_refuses_missing_key
#print axioms HC.C04.applyGalois_refuses_size
#print axioms HC.C04.applyGalois_refuses_element
#print axioms HC.C04.gen_get_elt_from_step_eq
#print axioms HC.C04.gen_get_elts_all_eq
#print axioms HC.C04.gen_get_index_from_elt_eq
#print axioms HC.C04.switchKey_phase
#print axioms HC.C04.switchKey_noise_bound
#print axioms HC.C04.switchKey_phase_crt
#print axioms HC.C04.switchKey_phase_spec
#print axioms HC.C04.switchKey_phase_bgv
#print axioms HC.C04.switchKey_noise_bound_bgv
#print axioms HC.C04.switchKey_noise_bgv_mod_t
#print axioms HC.C04.switchKey_phase_bgv_crt
#print axioms HC.C04.switchKey_phase_spec_bgv
#print axioms HC.C04.relinearize_phase
#print axioms HC.C04.relinearize_phase_bgv
#print axioms HC.C04.applyGalois_phase
#print axioms HC.C04.applyGalois_phase_bgv
#print axioms HC.C04.applyGalois_phase_sigma
#print axioms HC.C04.applyGalois_phase_sigma_bgv
#print axioms HC.C04.switchKey_phase_nonvacuous
#print axioms HC.C04.sigma_index_sign_rule
#print axioms HC.C04.sigma_comp
#print axioms HC.C04.sigma_mod
#print axioms HC.C04.sigma_natAbs_le
#print axioms HC.C04.bfvDecode_sigma
#print axioms HC.C04.bfv_noise_sigma
#print axioms HC.C04.bgvDecode_sigma
#print axioms HC.C04.batchDecode_galois
#print axioms HC.C04.batchDecode_rotate_rows
#print axioms HC.C04.batchDecode_swap_rows
#print axioms HC.C04.batchDecode_eltFromStep
#print axioms HC.C04.eltFromStep_slot
#print axioms HC.C04.applyGalois_spec_phase_bfv
#print axioms HC.C04.applyGalois_spec_phase_bgv
#print axioms HC.C04.applyGalois_decrypt_bfv
#print axioms HC.C04.applyGalois_decrypt_bgv
#print axioms HC.C04.rotate_rows_bfv
#print axioms HC.C04.rotate_rows_bgv
#print axioms HC.C04.rotate_step_noise
#print axioms HC.C04.rotatePlan_ok
#print axioms HC.C04.rotate_chain_bfv
#print axioms HC.C04.rotatePlan_rotate_bfv
#print axioms HC.C04.rotatePlan_fuel0
#print axioms HC.C04.rotatePlan_refuses_range
#print axioms HC.C04.rotatePlan_zero
#print axioms HC.C04.applyChain_error
#print axioms HC.C04.ckks_rotate_phase
#print axioms HC.C04.gen_galois_apply_eq
#print axioms HC.C04.gen_galois_apply_loop_eq
#print axioms HC.C04.gen_reverse_bits_u32_eq
#print axioms HC.C04.gen_generate_table_ntt_eq
#print axioms HC.C04.gen_generate_table_ntt_eq_lib
#print axioms HC.C04.gen_generate_table_ntt_loop_eq
#print axioms HC.C04.gen_naf_eq
#print axioms HC.C04.gen_naf_min
#print axioms HC.C04.gen_naf_loop_eq
#print axioms HC.C04.gen_galois_apply_dirty
#print axioms HC.C04.gen_galois_apply_spec
#print axioms HC.C04.gen_galois_apply_subst
#print axioms HC.C04.gen_rotate_internal_level_eq
#print axioms HC.C04.gen_rotate_internal_eq
#print axioms HC.C04.gen_rotate_internal_refuses
#print axioms HC.C04.gen_rotate_internal_ok
#print axioms HC.C04.gen_rotate_internal_rotates_bfv
#print axioms HC.C04.gen_conjugate_internal_eq
#print axioms HC.C04.gen_apply_galois_plan_eq
#print axioms HC.C04.gen_apply_galois_plan_runs
#print axioms HC.C04.gen_rotate_rows_gate
#print axioms HC.C04.gen_rotate_columns_gate
#print axioms HC.C04.gen_rotate_vector_gate
#print axioms HC.C04.gen_complex_conjugate_gate
#print axioms HC.C04.gen_switch_key_prologue_eq
#print axioms HC.C04.gen_switch_key_prologue_refuses
#print axioms HC.C04.gen_switch_key_indices_eq
#print axioms HC.C04.gen_apply_ntt_permute_eq
#print axioms HC.C04.gen_apply_ntt_permute_map
#print axioms HC.C04.gen_apply_ntt_permute_refuses
#print axioms HC.C04.gen_apply_ntt_eq
