/- C07, fresh-budget clause: "a fresh encryption has at least the budget implied by the deterministic bounds on the sampled
   secret, mask and error polynomials".  Integer level: a BFV phase coefficient is Δ(m) + v (mod Q) with |v| ≤ B, a BGV phase
   coefficient is m + t·e (mod Q) with |e| ≤ B; in both cases the noise the budget is computed from is at most t·(B + 1), hence
   budget ≥ bits(Q) − bits(t·(B+1)) − 1 (`fresh_budget_bfv`, `fresh_budget_bgv`, for any B) — the form of the lower bound the driver's
   `fresh_budget` oracle enforces with B = `Drv.freshBound n` = 21(2n+1) + n.  The instance proved here, `fresh_budget_bfv_pk`, has
   B = 21(2n+1), the bound of `fresh_noise_bound` (C01) for a public-key encryption at the data level; the extra n of the driver's B
   (rounding of the special-prime switch) has no theorem in this file. -/
import Heathcliff.Proofs.C07L
import Heathcliff.Proofs.C01J
namespace HC

/-- the BFV noise value of a reduced coefficient is at most |w| for any representative w of t·y modulo Q -/
theorem c07f_noise_le {t Q : Nat} (hQ : 0 < Q) (y w k : Int) (h : t * y = w + Q * k) :
    (c07l_v true t Q (Spec.centred (Spec.imod y Q) Q)).natAbs ≤ w.natAbs := by
  unfold c07l_v
  rw [if_pos rfl, centredZ_congr (((centredZ_modEq hQ y).mul_left t).trans (Int.modEq_iff_dvd.mpr ⟨-k, by rw [h]; ring⟩))]
  exact c07l_centred_le w hQ

/-- BFV: the noise of a coefficient Δ(m) + v is at most t·(|v| + 1): t·(Δ(m) + v) = (t·Δ(m) − Q·m) + t·v + Q·m -/
theorem c07f_bfv_coeff {Q t m : Nat} (hQ : 0 < Q) (ht : 0 < t) (v : Int) :
    (c07l_v true t Q (Spec.centred (Spec.imod ((deltaM Q t m : Int) + v) Q) Q)).natAbs ≤ t * (v.natAbs + 1) := by
  obtain ⟨e1, e2⟩ := deltaM_err Q t m ht
  push_cast at e1 e2
  refine Nat.le_trans (c07f_noise_le hQ _ ((t : Int) * deltaM Q t m - Q * m + t * v) m (by ring)) ?_
  refine Nat.le_trans (Int.natAbs_add_le _ _) ?_
  rw [Int.natAbs_mul, Int.natAbs_natCast, Nat.mul_add, Nat.mul_one, Nat.add_comm]
  exact Nat.add_le_add_left (by omega) _

theorem c07f_bgv_coeff {Q t m : Nat} (hQ : 0 < Q) (hm : m < t) (e : Int) :
    (c07l_v false t Q (Spec.centred (Spec.imod ((m : Int) + t * e) Q) Q)).natAbs ≤ t * (e.natAbs + 1) := by
  refine Nat.le_trans (c07l_centred_le _ hQ) (Nat.le_trans (Int.natAbs_add_le _ _) ?_)
  rw [Int.natAbs_mul, Int.natAbs_natCast, Int.natAbs_natCast, Nat.mul_add, Nat.mul_one, Nat.add_comm]
  exact Nat.add_le_add_left hm.le _

theorem c07f_budget_ge_of_norm_le (bfv : Bool) (t Q : Nat) (ph : Array Int) {c : Nat} (h : noiseNorm bfv t Q ph ≤ c) :
    (bitCount Q : Int) - (bitCount c : Int) - 1 ≤ (Spec.budget bfv t Q ph : Int) := by
  rw [budget_eq]
  have := bitCount_mono h
  omega

/-- FRESH BUDGET, BFV: every coefficient of the phase is Δ(m_c) + v_c modulo Q with |v_c| ≤ B (public-key encryption:
    v = −e·u + e0 + e1·s, B = 21(2N+1) by `fresh_noise_bound`; secret-key encryption: v = −e, B = 21)
    ⇒ budget ≥ bits(Q) − bits(t·(B+1)) − 1 -/
theorem fresh_budget_bfv {Q t B : Nat} (hQ : 0 < Q) (ht : 0 < t) (ph : Array Int)
    (hph : ∀ x ∈ ph.toList, ∃ (m : Nat) (v : Int), v.natAbs ≤ B ∧ x = Spec.centred (Spec.imod ((deltaM Q t m : Int) + v) Q) Q) :
    (bitCount Q : Int) - (bitCount (t * (B + 1)) : Int) - 1 ≤ (Spec.budget true t Q ph : Int) := by
  apply c07f_budget_ge_of_norm_le
  rw [c07l_noiseNorm_le_iff]
  intro x hx
  obtain ⟨m, v, hv, rfl⟩ := hph x hx
  refine Nat.le_trans (c07f_bfv_coeff hQ ht v) ?_
  exact Nat.mul_le_mul_left t (by omega)

/-- FRESH BUDGET, BGV: every coefficient of the phase is m_c + t·e_c modulo Q with m_c < t and |e_c| ≤ B -/
theorem fresh_budget_bgv {Q t B : Nat} (hQ : 0 < Q) (ph : Array Int)
    (hph : ∀ x ∈ ph.toList, ∃ (m : Nat) (e : Int), m < t ∧ e.natAbs ≤ B ∧ x = Spec.centred (Spec.imod ((m : Int) + t * e) Q) Q) :
    (bitCount Q : Int) - (bitCount (t * (B + 1)) : Int) - 1 ≤ (Spec.budget false t Q ph : Int) := by
  apply c07f_budget_ge_of_norm_le
  rw [c07l_noiseNorm_le_iff]
  intro x hx
  obtain ⟨m, e, hm, he, rfl⟩ := hph x hx
  refine Nat.le_trans (c07f_bgv_coeff hQ hm e) ?_
  exact Nat.mul_le_mul_left t (by omega)

/-- the value of the lower bound at Q = 97·113·1048609, t = 17, N = 4, B = 21(2N+1): 21 bits (a positive budget is promised there) -/
example : (bitCount (97 * 113 * 1048609) : Int) - (bitCount (17 * (21 * (2 * 4 + 1) + 1)) : Int) - 1 = 21 := by decide

/-- and a fresh public-key phase meets the hypothesis by `fresh_noise_bound` (any n, ternary u, s, errors ≤ 21) -/
theorem fresh_budget_bfv_pk {Q t n : Nat} (hQ : 0 < Q) (ht : 0 < t) (m : Nat → Nat) (e u e0 e1 s : Nat → Int)
    (he : ∀ i, i < n → (e i).natAbs ≤ 21) (he0 : ∀ i, i < n → (e0 i).natAbs ≤ 21) (he1 : ∀ i, i < n → (e1 i).natAbs ≤ 21)
    (hu : ∀ i, i < n → (u i).natAbs ≤ 1) (hs : ∀ i, i < n → (s i).natAbs ≤ 1) :
    (bitCount Q : Int) - (bitCount (t * (21 * (2 * n + 1) + 1)) : Int) - 1 ≤
      (Spec.budget true t Q (Array.ofFn (n := n) fun c =>
        Spec.centred (Spec.imod ((deltaM Q t (m c.val) : Int) + (- negMulR n e u c.val + e0 c.val + negMulR n e1 s c.val)) Q) Q) : Int) := by
  apply fresh_budget_bfv hQ ht
  intro x hx
  rw [Array.toList_ofFn, List.mem_ofFn] at hx
  obtain ⟨c, rfl⟩ := hx
  exact ⟨m c.val, _, fresh_noise_bound n e u e0 e1 s he he0 he1 hu hs c.val c.isLt, rfl⟩

end HC
