/- C01 part X: the SEED-COMPRESSED path end to end.  With `save_seed` in force the stored object is (c0, seed); what the library hands
   out later is `expand_seed` of it.  In the symmetric encryption with a saved seed, polynomial 1 of the (expanded-view) result IS the
   mask `a` the seed expands to — for the encryption of zero and for all three plaintext layers; hence
   `expandSeed (toSeeded ct seed) = ct` whenever the generator seeded with the stored seed expands to `a` (Rng model, C16), and the
   driver's pipeline for `mode = seed` (encrypt, store (c0, seed), expand, decrypt) returns the plaintext. -/
import Heathcliff.Proofs.C01V
namespace HC
open Finset

/-- shape of `encrypt_zero::symmetric` with a saved seed (either form): polynomial 1 is the sample `a` itself -/
theorem encryptZeroSym_seeded_shape {l : Level} {sk : Array Int} {a e : RnsPoly} {isNtt : Bool} {z : Ct}
    (hs : seedSaved l true = true) (h : encryptZeroSym l sk a e isNtt true = .ok z) : ∃ c0, z = ⟨#[c0, a], isNtt, 1⟩ := by
  unfold encryptZeroSym at h
  simp only [hs] at h
  obtain ⟨c0a, _, h⟩ := R.bind_eq_ok.mp h
  split at h <;>
  · obtain ⟨noise, _, h⟩ := R.bind_eq_ok.mp h
    obtain ⟨c0b, _, h⟩ := R.bind_eq_ok.mp h
    obtain ⟨c0c, _, h⟩ := R.bind_eq_ok.mp h
    refine ⟨c0c, ?_⟩
    have h' : (Except.ok _ : R Ct) = .ok z := h
    injection h' with h'
    rw [← h']
    simp

theorem encryptZeroInternal_seeded_shape {l : Level} {sk : Array Int} {a e : RnsPoly} {z : Ct}
    (hs : seedSaved l true = true) (h : encryptZeroInternal l (.sym sk a e true) = .ok z) :
    ∃ c0, z = ⟨#[c0, a], l.scheme.encNtt, 1⟩ := by
  unfold encryptZeroInternal at h
  exact encryptZeroSym_seeded_shape hs h

/-- the same for the three plaintext layers: only polynomial 0 is touched -/
theorem bfvEncrypt_seeded_shape {l : Level} {cdp : Array MulOperand} {qm uh : Nat} {sk : Array Int} {a e : RnsPoly} {plain : Poly} {ct : Ct}
    (hs : seedSaved l true = true) (h : bfvEncrypt l cdp qm uh (.sym sk a e true) plain = .ok ct) :
    ∃ c0, ct = ⟨#[c0, a], l.scheme.encNtt, 1⟩ := by
  unfold bfvEncrypt at h
  obtain ⟨z, hz, h⟩ := R.bind_eq_ok.mp h
  obtain ⟨c0', _, h⟩ := R.bind_eq_ok.mp h
  obtain ⟨c0, rfl⟩ := encryptZeroInternal_seeded_shape hs hz
  injection h with h
  exact ⟨c0', by rw [← h]; rfl⟩

theorem bgvEncrypt_seeded_shape {l : Level} {fast : Bool} {thr : Nat} {incr : Array Nat} {sk : Array Int} {a e : RnsPoly} {plain : Poly}
    {ct : Ct} (hs : seedSaved l true = true) (h : bgvEncrypt l fast thr incr (.sym sk a e true) plain = .ok ct) :
    ∃ c0, ct = ⟨#[c0, a], l.scheme.encNtt, 1⟩ := by
  unfold bgvEncrypt at h
  obtain ⟨z, hz, h⟩ := R.bind_eq_ok.mp h
  obtain ⟨lifted, _, h⟩ := R.bind_eq_ok.mp h
  obtain ⟨c0', _, h⟩ := R.bind_eq_ok.mp h
  obtain ⟨c0, rfl⟩ := encryptZeroInternal_seeded_shape hs hz
  injection h with h
  exact ⟨c0', by rw [← h]; rfl⟩

theorem ckksEncrypt_seeded_shape {l : Level} {sk : Array Int} {a e : RnsPoly} {plain : RnsPoly} {ct : Ct}
    (hs : seedSaved l true = true) (h : ckksEncrypt l (.sym sk a e true) plain = .ok ct) :
    ∃ c0, ct = ⟨#[c0, a], l.scheme.encNtt, 1⟩ := by
  unfold ckksEncrypt at h
  obtain ⟨z, hz, h⟩ := R.bind_eq_ok.mp h
  obtain ⟨c0', _, h⟩ := R.bind_eq_ok.mp h
  obtain ⟨c0, rfl⟩ := encryptZeroInternal_seeded_shape hs hz
  injection h with h
  exact ⟨c0', by rw [← h]; rfl⟩

/-- the seed expands to the mask `a` at level `l` (Rng model of `sample::uniform` on `BlakeRNG::from_seed`, C16) -/
def SeedExpands (U : Rng.Uniform) (xof : Rng.Xof) (l : Level) (seed : Rng.Seed) (a : RnsPoly) : Prop :=
  ∃ st, Rng.uniformPoly U xof (Rng.fromSeed seed) l.n (l.qs.toList.map (·.value)) = .ok (ofRns a, st)

/-- storing (c0, seed) and expanding it again restores a ciphertext whose polynomial 1 is the mask the seed expands to -/
theorem expandSeed_of_shape {U : Rng.Uniform} {xof : Rng.Xof} {l : Level} {seed : Rng.Seed} {a : RnsPoly} (hx : SeedExpands U xof l seed a)
    {ct : Ct} (hshape : ∃ c0 ntt cf, ct = ⟨#[c0, a], ntt, cf⟩) : expandSeed U xof l (ct.toSeeded seed) = .ok ct := by
  obtain ⟨c0, ntt, cf, rfl⟩ := hshape
  obtain ⟨st, hst⟩ := hx
  exact expandSeed_toSeeded U xof l c0 a ntt cf seed st hst

/-- END TO END, BFV, SEED-COMPRESSED: on the driver's objects, with the seed saved (`seedSaved l true`) and the stored seed expanding
    to the mask, `bfvDecrypt (expandSeed (toSeeded (bfvEncrypt m) seed)) = m` -/
theorem drv_bfv_encrypt_decrypt_seeded {n t : Nat} {kqs : List Nat} {kl : Level} {sk : Array Int} {pk0 pk1 : RnsPoly}
    {lqs : List Nat} {l : Level} (hc : DrvCtx .bfv n t kqs kl sk pk0 pk1) (hl : Drv.Sch.mkLevel .bfv n lqs t = .ok l) (ht : t ≠ 0)
    {a : RnsPoly} {e : Array Int} (ha : RnsCanon l a) (hes : e.size = n) (he : ∀ p, p < n → (e.getD p 0).natAbs ≤ 21)
    (hs : seedSaved l true = true) {U : Rng.Uniform} {xof : Rng.Xof} {seed : Rng.Seed} (hx : SeedExpands U xof l seed a)
    {plain : Poly} (hp : plain.size ≤ n) (hpm : ∀ i, i < plain.size → plain.getD i 0 < t) (hok : FreshEncOK l 21) :
    ∃ cdp ct, Drv.C01E.bfvConsts l lqs t = .ok cdp ∧
      bfvEncrypt l cdp (Spec.prodL lqs % t) ((t + 1) / 2) (.sym sk a (rnsOfInt l e) true) plain = .ok ct ∧
      expandSeed U xof l (ct.toSeeded seed) = .ok ct ∧
      bfvDecrypt l sk ct = .ok (trimPlain (padPlain n plain)) := by
  obtain ⟨cdp, ct, h1, h2, h3⟩ := drv_bfv_encrypt_decrypt hc hl ht (DrvMode.sk (e := e) ha hes he true) hp hpm hok
  obtain ⟨c0, hsh⟩ := bfvEncrypt_seeded_shape hs h2
  exact ⟨cdp, ct, h1, h2, expandSeed_of_shape hx ⟨c0, _, _, hsh⟩, h3⟩

/-- END TO END, BGV, SEED-COMPRESSED -/
theorem drv_bgv_encrypt_decrypt_seeded {n t : Nat} {kqs : List Nat} {kl : Level} {sk : Array Int} {pk0 pk1 : RnsPoly}
    {lqs : List Nat} {l : Level} (hc : DrvCtx .bgv n t kqs kl sk pk0 pk1) (hl : Drv.Sch.mkLevel .bgv n lqs t = .ok l)
    {a : RnsPoly} {e : Array Int} (ha : RnsCanon l a) (hes : e.size = n) (he : ∀ p, p < n → (e.getD p 0).natAbs ≤ 21)
    (hs : seedSaved l true = true) {U : Rng.Uniform} {xof : Rng.Xof} {seed : Rng.Seed} (hx : SeedExpands U xof l seed a)
    {plain : Poly} (hp : plain.size ≤ n) (hpm : ∀ i, i < plain.size → plain.getD i 0 < t)
    (hok : 2 * (t * (21 + 1)) < Spec.prodL lqs) :
    ∃ ct, bgvEncrypt l (Drv.C01E.bgvIncr lqs t).1 ((t + 1) / 2) (Drv.C01E.bgvIncr lqs t).2 (.sym sk a (rnsOfInt l e) true) plain = .ok ct ∧
      ct.cf = 1 ∧ expandSeed U xof l (ct.toSeeded seed) = .ok ct ∧
      bgvDecrypt l sk ct = .ok (trimPlain (padPlain n plain)) := by
  obtain ⟨ct, h1, h2, h3⟩ := drv_bgv_encrypt_decrypt hc hl (DrvMode.sk (e := e) ha hes he true) hp hpm hok
  obtain ⟨c0, hsh⟩ := bgvEncrypt_seeded_shape hs h1
  exact ⟨ct, h1, h2, expandSeed_of_shape hx ⟨c0, _, _, hsh⟩, h3⟩

/-- END TO END, CKKS, SEED-COMPRESSED, over the integers -/
theorem drv_ckks_encrypt_decrypt_seeded {n t : Nat} {kqs : List Nat} {kl : Level} {sk : Array Int} {pk0 pk1 : RnsPoly}
    {lqs : List Nat} {l : Level} (hc : DrvCtx .ckks n t kqs kl sk pk0 pk1) (hl : Drv.Sch.mkLevel .ckks n lqs t = .ok l)
    {a : RnsPoly} {e : Array Int} (ha : RnsCanon l a) (hes : e.size = n) (he : ∀ p, p < n → (e.getD p 0).natAbs ≤ 21)
    (hs : seedSaved l true = true) {U : Rng.Uniform} {xof : Rng.Xof} {seed : Rng.Seed} (hx : SeedExpands U xof l seed a)
    {M : Array Int} (hMs : M.size = n) (hsmall : ∀ c, c < n → 2 * ((M.getD c 0).natAbs + 21) < Spec.prodL lqs) :
    ∃ (ν : Nat → Int) (ct : Ct) (dec : RnsPoly), (∀ c, c < n → (ν c).natAbs ≤ 21) ∧
      ckksEncrypt l (.sym sk a (rnsOfInt l e) true) (ckksPlainOfInt l M) = .ok ct ∧
      expandSeed U xof l (ct.toSeeded seed) = .ok ct ∧ ckksDecrypt l sk ct = .ok dec ∧ RnsCanon l dec ∧
      (∀ c, c < n → (Drv.Sch.exactPhase l lqs sk ct).getD c 0 = M.getD c 0 + ν c) ∧
      ∀ i, i < l.size → ∀ c, c < n → (intt (l.tbl i) (dec.getD i #[])).getD c 0 = Spec.imod (M.getD c 0 + ν c) (l.q i).value := by
  obtain ⟨ν, ct, dec, h0, h1, h2, h3, h4, h5⟩ := drv_ckks_encrypt_decrypt hc hl (DrvMode.sk (e := e) ha hes he true) hMs hsmall
  obtain ⟨c0, hsh⟩ := ckksEncrypt_seeded_shape hs h1
  exact ⟨ν, ct, dec, h0, h1, expandSeed_of_shape hx ⟨c0, _, _, hsh⟩, h2, h3, h4, h5⟩

/-- when the seed does NOT fit (`seedSaved l true = false`: N·k < 9 words) the code silently falls back to the unseeded path; the model's
    value is then that of `save_seed = false` -/
theorem encryptZeroSym_seed_fallback {l : Level} (sk : Array Int) (a e : RnsPoly) (isNtt : Bool) (hs : seedSaved l true = false) :
    encryptZeroSym l sk a e isNtt true = encryptZeroSym l sk a e isNtt false := by
  unfold encryptZeroSym
  have hf : seedSaved l false = false := by unfold seedSaved; rfl
  simp only [hs, hf]

end HC
