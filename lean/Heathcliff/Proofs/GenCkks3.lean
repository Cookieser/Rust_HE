import Heathcliff.Proofs.GenCkks2

/- Translator tie, encoder mode, the single-value entry point: the generated `encode_internal_i64_single` (Gen/CkksFns.lean): the `chunks_mut(..).enumerate()` /
   `fill` loops and the whole function for every i64. -/
namespace HC
open Ckks GenK

/-! ### `for (j, chunk) in data.chunks_mut(cc).enumerate() { chunk.fill(f j) }` -/

theorem gk_nChunks_exact {l : List Nat} {cc k : Nat} (hc : 0 < cc) (hl : l.length = cc * k) : nChunks l cc = .ok k := by
  unfold nChunks
  rw [if_neg (by omega), hl]
  congr 1
  rw [Nat.add_sub_assoc (by omega), Nat.mul_add_div hc, Nat.div_eq_of_lt (by omega)]; rfl

theorem gk_fillChunk_spec {d : List Nat} {cc k j : Nat} (v : Nat) (hd : d.length = cc * k) (hj : j < k) :
    (fillChunk d cc j v).length = cc * k ∧
      (∀ p, p < j * cc → (fillChunk d cc j v)[p]? = d[p]?) ∧
      (∀ p, j * cc ≤ p → p < (j + 1) * cc → (fillChunk d cc j v)[p]? = some v) := by
  have h2 : (j + 1) * cc = j * cc + cc := Nat.succ_mul j cc
  have h1 : j * cc + cc ≤ d.length := by rw [hd, Nat.mul_comm cc k, ← h2]; exact Nat.mul_le_mul_right cc hj
  have ht : (d.take (j * cc)).length = j * cc := List.length_take_of_le (by omega)
  unfold fillChunk
  rw [Nat.min_eq_left (Nat.le_sub_of_add_le' h1)]
  refine ⟨?_, fun p hp => ?_, fun p hp1 hp2 => ?_⟩
  · rw [List.length_append, List.length_append, ht, List.length_replicate, List.length_drop, ← hd]
    omega
  · rw [List.append_assoc, List.getElem?_append_left (by rw [ht]; exact hp), List.getElem?_take_of_lt hp]
  · rw [List.getElem?_append_left (by rw [List.length_append, ht, List.length_replicate]; omega),
      List.getElem?_append_right (by rw [ht]; exact hp1), ht, List.getElem?_replicate, if_pos (by omega)]

/-- the chunk loop: chunk j of the buffer is filled with `f j` -/
theorem gk_chunks_spec {cc k : Nat} (f : Nat → Nat) (body : Nat → List Nat → R (List Nat)) (d : List Nat)
    (hbody : ∀ j d, j < k → d.length = cc * k → body j d = .ok (fillChunk d cc j (f j)))
    (hd : d.length = cc * k) :
    ∃ d', forRange 0 k d body = .ok d' ∧ d'.length = cc * k ∧ ∀ p, p < cc * k → d'[p]? = some (f (p / cc)) := by
  obtain ⟨d', e, hl, h1⟩ := gk_forRange_inv
    (fun j d' => d'.length = cc * k ∧ ∀ p, p < j * cc → d'[p]? = some (f (p / cc))) body k d ⟨hd, by intro p hp; omega⟩
    (by
      intro j d1 hj ⟨hl, h1⟩
      obtain ⟨s1, s2, s3⟩ := gk_fillChunk_spec (f j) hl hj
      refine ⟨_, hbody j d1 hj hl, s1, ?_⟩
      intro p hp
      by_cases hlt : p < j * cc
      · rw [s2 p hlt]; exact h1 p hlt
      · have hc : 0 < cc := by
          rcases Nat.eq_zero_or_pos cc with h | h
          · subst h; simp at hp
          · exact h
        rw [s3 p (by omega) hp]
        have : p / cc = j := by
          apply Nat.div_eq_of_lt_le
          · omega
          · exact hp
        rw [this])
  exact ⟨d', e, hl, fun p hp => h1 p (by rw [Nat.mul_comm]; exact hp)⟩

/-! ### `encode_internal_i64_single` -/

/-- the two chunk-loop bodies EXACTLY as generated -/
def gkI64Neg (moduli : List Modulus) (v2 : Nat) (value : Int) (v4 : Nat) (dest : List Nat) : R (List Nat) := do
  let t5 ← idxT moduli v4
  let t6 ← GenP.mod_reduce t5 (Int.natAbs value)
  let v5 : Nat := t6
  let t7 ← idxT moduli v4
  let t8 ← GenW.negate_u64_mod v5 t7
  let v6 : Nat := t8
  let dest : List Nat := (fillChunk dest v2 v4 v6)
  pure dest
def gkI64Pos (moduli : List Modulus) (v2 : Nat) (value : Int) (v7 : Nat) (dest : List Nat) : R (List Nat) := do
  let t10 ← idxT moduli v7
  let t11 ← GenP.mod_reduce t10 (GenW.asU64 value)
  let v8 : Nat := t11
  let dest : List Nat := (fillChunk dest v2 v7 v8)
  pure dest

/-- the generated function, with the loop bodies named (definitional) -/
theorem gk_i64_single_unfold (valid is_ckks : Bool) (value : Int) (total_bits : Nat) (moduli : List Modulus) (degree : Nat) (dest : List Nat) :
    encode_internal_i64_single valid is_ckks value total_bits moduli degree dest =
      (if ¬ (valid = true) then .error .refused else
       if ¬ (is_ckks = true) then .error .refused else do
       let bc ← GenW.get_significant_bit_count (Int.natAbs value)
       let bits ← ckAdd bc 2
       if bits ≥ total_bits then .error .refused else do
       let sz ← ckMul degree moduli.length
       let d ← (if value < 0 then (do
           let nc ← nChunks (resizeL dest sz) degree
           let d ← forRange 0 nc (resizeL dest sz) (gkI64Neg moduli degree value)
           pure d)
         else (do
           let nc ← nChunks (resizeL dest sz) degree
           let d ← forRange 0 nc (resizeL dest sz) (gkI64Pos moduli degree value)
           pure d) : R (List Nat))
       pure d) := rfl

/-- `encode_internal_i64_single` for EVERY i64 `v` on a valid CKKS level with `bitCount |v| + 2 < total_bits`: the result holds `c12_res v q_j`
    (= v mod q_j, negatives included) at every coefficient of component j; it is the model's `encodeI64Single`.  (`⟨0,0,0,0,0⟩` is the `getD`
    default of a `Modulus` array; it is never read, the indices are in range.) -/
theorem gk_i64_single_spec {qs : Array Modulus} (hq : ∀ i, i < qs.size → (qs.getD i ⟨0,0,0,0,0⟩).WF) {v : Int}
    (hv : -2^63 ≤ v ∧ v < 2^63) {degree total_bits : Nat} (hdeg : 0 < degree) (hsz : degree * qs.toList.length < 2^64) (dest : List Nat) :
    (bitCount v.natAbs + 2 ≥ total_bits →
      encode_internal_i64_single true true v total_bits qs.toList degree dest = .error .refused) ∧
    (bitCount v.natAbs + 2 < total_bits →
      ∃ d' rs, encode_internal_i64_single true true v total_bits qs.toList degree dest = .ok d' ∧ i64Residues qs v = .ok rs ∧
        d'.length = degree * qs.size ∧ ∀ p, p < degree * qs.size →
          d'[p]? = some (rs.getD (p / degree) 0) ∧ rs.getD (p / degree) 0 = c12_res v (qs.getD (p / degree) ⟨0,0,0,0,0⟩).value) := by
  have hk : qs.toList.length = qs.size := by simp
  have habs : v.natAbs < 2^64 := by omega
  have hbc : GenW.get_significant_bit_count v.natAbs = .ok (bitCount v.natAbs) := gw_get_significant_bit_count_eq _ habs
  have hle : bitCount v.natAbs ≤ 64 := bitCount_le_iff_lt.mpr habs
  have hadd : ckAdd (bitCount v.natAbs) 2 = .ok (bitCount v.natAbs + 2) := ckAdd_ok (by rw [B64_eq]; omega)
  have hwf : ∀ j (h : j < qs.toList.length), qs.toList[j].WF := by
    intro j h
    have hj : j < qs.size := by omega
    have := hq j hj
    simpa [Array.getD, hj] using this
  have hgd : ∀ j (h : j < qs.toList.length), (qs.getD j ⟨0,0,0,0,0⟩) = qs.toList[j] := by
    intro j h
    have hj : j < qs.size := by omega
    simp [Array.getD, hj]
  constructor
  · intro h
    rw [gk_i64_single_unfold]
    simp only [not_true_eq_false, if_false, hbc, hadd, bind, Except.bind, if_pos h]
  · intro h
    obtain ⟨rs, e1, e2, e3⟩ := i64Residues_spec hq hv
    have hd0 : (resizeL dest (degree * qs.toList.length)).length = degree * qs.toList.length := gk_resizeL_length _ _
    have hnc := gk_nChunks_exact hdeg hd0
    have key : ∃ d', (if v < 0 then (do
           let nc ← nChunks (resizeL dest (degree * qs.toList.length)) degree
           let d ← forRange 0 nc (resizeL dest (degree * qs.toList.length)) (gkI64Neg qs.toList degree v)
           pure d)
         else (do
           let nc ← nChunks (resizeL dest (degree * qs.toList.length)) degree
           let d ← forRange 0 nc (resizeL dest (degree * qs.toList.length)) (gkI64Pos qs.toList degree v)
           pure d) : R (List Nat)) = .ok d' ∧ d'.length = degree * qs.toList.length ∧
        ∀ p, p < degree * qs.toList.length → d'[p]? = some (c12_res v (qs.getD (p / degree) ⟨0,0,0,0,0⟩).value) := by
      by_cases hneg : v < 0
      · obtain ⟨d', e, hl, hc⟩ := gk_chunks_spec (cc := degree) (k := qs.toList.length)
          (fun j => c12_res v (qs.getD j ⟨0,0,0,0,0⟩).value) (gkI64Neg qs.toList degree v) _
          (by
            intro j d1 hj _
            rw [hgd j hj]
            simp only [gkI64Neg, gk_idxT_ok hj, gk_reduce_u64 (hwf j hj) habs, gk_negate_res (hwf j hj) hneg, bind, Except.bind, pure, Except.pure])
          hd0
        exact ⟨d', by simp only [if_pos hneg, hnc, e, bind, Except.bind], hl, hc⟩
      · obtain ⟨d', e, hl, hc⟩ := gk_chunks_spec (cc := degree) (k := qs.toList.length)
          (fun j => c12_res v (qs.getD j ⟨0,0,0,0,0⟩).value) (gkI64Pos qs.toList degree v) _
          (by
            intro j d1 hj _
            have hu : GenW.asU64 v = v.natAbs := by unfold GenW.asU64; omega
            rw [hgd j hj, ← gk_pos_res hneg]
            simp only [gkI64Pos, hu, gk_idxT_ok hj, gk_reduce_u64 (hwf j hj) habs, bind, Except.bind, pure, Except.pure])
          hd0
        exact ⟨d', by simp only [if_neg hneg, hnc, e, bind, Except.bind], hl, hc⟩
    obtain ⟨d', ek, hl, hc⟩ := key
    refine ⟨d', rs, ?_, e1, by rw [hl, hk], ?_⟩
    · rw [gk_i64_single_unfold]
      have h' : ¬ bitCount v.natAbs + 2 ≥ total_bits := by omega
      simp only [bind, Except.bind] at ek
      simp only [not_true_eq_false, if_false, hbc, hadd, bind, Except.bind, h', ckMul_ok hsz, ek]
    · intro p hp
      have hpk : p / degree < qs.size := by
        apply Nat.div_lt_of_lt_mul; rw [Nat.mul_comm] at hp; rw [Nat.mul_comm]; exact hp
      rw [hc p (by rw [hk]; exact hp), e3 _ hpk]
      exact ⟨rfl, rfl⟩

end HC
