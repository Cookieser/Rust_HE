/-
  Ciphertext level: the COMPACT format `impl SerializableWithHeContext for Ciphertext :: serialize`
  (Gen/SerFns.lean `ct_serialize`: three nested loops over polynomials / RNS components / coefficients, each coefficient through
  `write_u64_limited` with the width `get_u64_limit(q_j)`; then the seed words) is the chunk program of the model's `ctC`.
  Helper prefix `gd_`.
-/
import Heathcliff.Proofs.GenSerC
namespace HC.GS
open HC HC.Codec HC.GenS

variable {S E : Type}

theorem wlift_ok {α} (a : α) : (wlift (.ok a) : W S E α) = wpure a := rfl
theorem runChunks_nil (st : WStream S E) : runChunks st [] = wpure 0 := rfl

/-- `loop`: a generated loop over the indices `s, s + 1, …` (its two equations); the body at `s + j` writes `xs[j]` in format `cs[j]` -/
theorem gs_index_loop {α} (st : WStream S E) (loop : List Nat → Nat → W S E Nat) (body : Nat → Nat → W S E Nat)
    (hnil : ∀ acc, loop [] acc = wpure acc) (hcons : ∀ j js acc, loop (j :: js) acc = wbind (body j acc) fun acc' => loop js acc')
    (cs : List (Codec α)) (xs : List α) (hlen : cs.length = xs.length) (s : Nat)
    (hb : ∀ j (hc : j < cs.length) (hx : j < xs.length) acc,
      body (s + j) acc = wbind (runChunks st (cs[j].chunks xs[j])) fun n => wpure (acc + n)) (acc : Nat) :
    loop (List.range' s xs.length) acc = wbind (runChunks st (seqChunks cs xs)) fun n => wpure (acc + n) := by
  induction xs generalizing cs s acc with
  | nil => rw [List.length_nil, List.range'_zero, hnil, List.length_eq_zero_iff.mp hlen]; rfl
  | cons x xs ih =>
    obtain _ | ⟨c, cs⟩ := cs
    · cases hlen
    · have h0 : ∀ acc, body s acc = wbind (runChunks st (c.chunks x)) fun n => wpure (acc + n) :=
        hb 0 (Nat.succ_pos _) (Nat.succ_pos _)
      rw [List.length_cons, List.range'_succ, hcons, h0, wbind_assoc]
      simp only [wbind_wpure, ih cs (Nat.succ.inj hlen) (s + 1) fun j hc hx acc => by
        rw [Nat.add_assoc, Nat.add_comm 1 j]; exact hb (j + 1) (Nat.succ_lt_succ hc) (Nat.succ_lt_succ hx) acc]
      simp only [seqChunks, runChunks_append, wbind_assoc, wbind_wpure, Nat.add_assoc]

/-- innermost loop: the coefficients of one RNS component, width `limits[j]` -/
theorem gd_loop1 (st : WStream S E) (limits : List Nat) (j w : Nat) (hw : limits[j]? = some w) (comp : List Nat)
    (hfit : ∀ x ∈ comp, x < 256 ^ w) (acc : Nat) :
    ct_serialize_loop1 st limits j comp acc
      = wbind (runChunks st (seqChunks (List.replicate comp.length (limC w)) comp)) fun n => wpure (acc + n) := by
  have hp : pidx limits j = .ok w := by unfold pidx; rw [hw]
  exact gs_item_loop st (ct_serialize_loop1 st limits j) (fun x => write_u64_limited st x w) (fun _ => rfl)
    (fun x xs acc => by simp only [ct_serialize_loop1, hp, wlift_ok, wbind_wpure]) (limC w) comp
    (fun x hx => gl_write_u64_limited st x w (hfit x hx)) acc

/-- middle loop: the components of polynomial `i` -/
theorem gd_loop2 (st : WStream S E) (v : CtV) (moduli : List Nat) (n i : Nat) (p : Poly)
    (hcomp : ∀ j, v.comp i j = p.getD j []) (hp : p.length = moduli.length) (hlen : ∀ comp ∈ p, comp.length = n)
    (hfit : ∀ j (hj : j < p.length), ∀ x ∈ p[j], x < 256 ^ u64Limit (moduli.getD j 0)) (acc : Nat) :
    ct_serialize_loop2 st v (moduli.map u64Limit) i (List.range' 0 p.length) acc
      = wbind (runChunks st (seqChunks (moduli.map fun q => repC n (limC (u64Limit q))) p)) fun k => wpure (acc + k) := by
  refine gs_index_loop st (ct_serialize_loop2 st v (moduli.map u64Limit) i)
    (fun j acc => ct_serialize_loop1 st (moduli.map u64Limit) j (v.comp i j) acc) (fun _ => rfl) (fun _ _ _ => rfl) _ p
    (by rw [List.length_map, hp]) 0 (fun j hc hj acc => ?_) acc
  have hjm : j < moduli.length := hp ▸ hj
  have hw : (moduli.map u64Limit)[j]? = some (u64Limit moduli[j]) := by
    rw [List.getElem?_map, List.getElem?_eq_getElem hjm]; rfl
  have hf : ∀ x ∈ p[j], x < 256 ^ u64Limit moduli[j] := by
    have := hfit j hj
    rwa [List.getD_eq_getElem?_getD, List.getElem?_eq_getElem hjm] at this
  have hc : v.comp i j = p[j] := by rw [hcomp, List.getD_eq_getElem?_getD, List.getElem?_eq_getElem hj]; rfl
  rw [Nat.zero_add, hc, gd_loop1 st _ j _ hw p[j] hf acc, hlen _ (List.getElem_mem hj), List.getElem_map]
  rfl

/-- outer loop: the polynomials -/
theorem gd_loop3 (st : WStream S E) (v : CtV) (lv : Level) (polys : List Poly)
    (hcomp : ∀ i j, v.comp i j = (polys.getD i []).getD j [])
    (hshape : ∀ p ∈ polys, p.length = lv.moduli.length ∧ ∀ comp ∈ p, comp.length = lv.n)
    (hfit : ∀ p ∈ polys, ∀ j (hj : j < p.length), ∀ x ∈ p[j], x < 256 ^ u64Limit (lv.moduli.getD j 0)) (acc : Nat) :
    ct_serialize_loop3 st v lv.moduli (lv.moduli.map u64Limit) (List.range' 0 polys.length) acc
      = wbind (runChunks st (seqChunks (List.replicate polys.length (polyC lv)) polys)) fun k => wpure (acc + k) := by
  refine gs_index_loop st (ct_serialize_loop3 st v lv.moduli (lv.moduli.map u64Limit))
    (fun i acc => ct_serialize_loop2 st v (lv.moduli.map u64Limit) i (List.range' 0 (lv.moduli.length - 0)) acc)
    (fun _ => rfl) (fun _ _ _ => rfl) _ polys List.length_replicate 0 (fun i hc hi acc => ?_) acc
  have hmem : polys[i] ∈ polys := List.getElem_mem hi
  have hci : ∀ j, v.comp i j = (polys[i]).getD j [] := by
    intro j; rw [hcomp, List.getD_eq_getElem?_getD (l := polys), List.getElem?_eq_getElem hi]; rfl
  rw [Nat.zero_add, Nat.sub_zero, ← (hshape _ hmem).1,
    gd_loop2 st v lv.moduli lv.n i polys[i] hci (hshape _ hmem).1 (hshape _ hmem).2 (hfit _ hmem) acc, List.getElem_replicate]
  rfl

theorem gd_ct_chunks (ctx : Ctx) (expand : List Nat → Level → Poly) (c : Ct) :
    (ctC ctx expand).chunks c =
      pidC.chunks c.pid ++ (usizeC.chunks c.size ++ (boolC.chunks c.ntt ++
        ((extraC ((ctx.find c.pid).getD noLevel).scheme).chunks (schemeExtra ((ctx.find c.pid).getD noLevel).scheme c.scale c.cf) ++
          (boolC.chunks c.seeded ++
            (seqChunks (if c.seeded then [polyC ((ctx.find c.pid).getD noLevel)]
                else (polyC ((ctx.find c.pid).getD noLevel) :: List.replicate (c.size - 1) (polyC ((ctx.find c.pid).getD noLevel))).take c.size) c.polys ++
              seqChunks (List.replicate (if c.seeded then seedWords else 0) u64C) c.seed))))) := by
  obtain ⟨pid, size, ntt, scale, cf, polys, seed⟩ := c
  cases polys <;> rfl

theorem gd_take_replicate {α} (x : α) (n : Nat) : (x :: List.replicate (n - 1) x).take n = List.replicate n x := by
  cases n with
  | zero => rfl
  | succ k =>
    have : x :: List.replicate (k + 1 - 1) x = List.replicate (k + 1) x := by simp [List.replicate_succ]
    rw [this, List.take_of_length_le (by simp)]

/-- shape of a model ciphertext relative to its level, as the library's constructors establish it (`resize`, `from_members`):
    polynomial count, `k` components of `N` coefficients each, every coefficient representable in the component's byte width
    (true for reduced residues: `limit_width`), seed words present iff seeded -/
structure CtShape (lv : Level) (c : Ct) : Prop where
  count : c.polys.length = (if c.seeded then 1 else c.size)
  shape : ∀ p ∈ c.polys, p.length = lv.moduli.length ∧ ∀ comp ∈ p, comp.length = lv.n
  fit : ∀ p ∈ c.polys, ∀ j (hj : j < p.length), ∀ x ∈ p[j], x < 256 ^ u64Limit (lv.moduli.getD j 0)
  seed : c.seed.length = (if c.seeded then seedWords else 0)

/-- the end of the compact writer: the seed words of a seeded object (`poly(1)[1..9]`), nothing otherwise -/
theorem gd_seed_tail (st : WStream S E) (v : CtV) (c : Ct)
    (hseedw : c.seeded = true → 9 ≤ (v.poly 1).length ∧ ((v.poly 1).drop 1).take 8 = c.seed)
    (hseed : c.seed.length = (if c.seeded then seedWords else 0)) (acc : Nat) :
    (if c.seeded = true then
      if 1 ≤ 1 + (64 + 7) / 8 ∧ 1 + (64 + 7) / 8 ≤ (v.poly 1).length then
        wbind (ct_serialize_loop4 st (((v.poly 1).drop 1).take (1 + (64 + 7) / 8 - 1)) acc) fun b => wpure b
      else wpanic
    else wpure acc)
      = wbind (runChunks st (seqChunks (List.replicate c.seed.length u64C) c.seed)) fun n => wpure (acc + n) := by
  cases hsd : c.seeded with
  | false =>
    have hseed0 : c.seed = [] := List.eq_nil_of_length_eq_zero (by rw [hseed, hsd]; rfl)
    rw [hseed0]; rfl
  | true =>
    obtain ⟨hp1, hsw⟩ := hseedw hsd
    have hsw' : List.take (1 + (64 + 7) / 8 - 1) (List.drop 1 (v.poly 1)) = c.seed := hsw
    rw [if_pos rfl, if_pos ⟨by decide, hp1⟩, hsw', wbind_pure_right]
    exact gs_item_loop st (ct_serialize_loop4 st) _ (fun _ => rfl) (fun _ _ _ => rfl) u64C c.seed (fun x _ => gs_u64_serialize st x) acc

/-- COMPACT FORMAT: `Ciphertext::serialize` = the chunk program of `ctC`, for every stream.  `v` is a view of `c` (header fields,
    `poly_component(i, j)` = component `j` of polynomial `i`, `poly(1)[1..9]` = the seed words of a seeded object), `lv` the level the
    context finds with `u64` moduli, the writer's shape check passes, the scheme is BFV / CKKS / BGV, `c` has the level's shape. -/
theorem gd_ct_serialize (st : WStream S E) (ctx : Ctx) (expand : List Nat → Level → Poly) (c : Ct) (lv : Level) (v : CtV)
    (hfind : ctx.find c.pid = some lv) (hq : ∀ q ∈ lv.moduli, q < 2 ^ 64)
    (hpid : v.pid = c.pid) (hl : c.pid.length = 4) (hsize : v.size = c.size) (hntt : v.ntt = c.ntt) (hscale : v.scale = c.scale)
    (hcf : v.cf = c.cf) (hseeded : v.seeded = c.seeded)
    (hcomp : ∀ i j, v.comp i j = (c.polys.getD i []).getD j [])
    (hseedw : c.seeded = true → 9 ≤ (v.poly 1).length ∧ ((v.poly 1).drop 1).take 8 = c.seed)
    (hchk : v.cms = lv.moduli.length ∧ v.deg = lv.n)
    (hsch : lv.scheme = 1 ∨ lv.scheme = 2 ∨ lv.scheme = 3) (hw : CtShape lv c) :
    ct_serialize st ctx v = runChunks st ((ctC ctx expand).chunks c) := by
  have hlv : (ctx.find c.pid).getD noLevel = lv := by rw [hfind]; rfl
  have hlim := gr_limits lv.moduli hq
  have hc1 : ((v.cms != lv.moduli.length) || (v.deg != lv.n)) = false := by simp [hchk.1, hchk.2]
  have hcodecs : (if c.seeded then [polyC lv] else (polyC lv :: List.replicate (c.size - 1) (polyC lv)).take c.size)
      = List.replicate c.polys.length (polyC lv) := by
    rw [hw.count]
    cases c.seeded
    · exact gd_take_replicate _ _
    · rfl
  have hupper : (if c.seeded = true then 1 else c.size) = c.polys.length := hw.count.symm
  have h3 := gd_loop3 st v lv c.polys hcomp hw.shape hw.fit
  have htail := gd_seed_tail st v c hseedw hw.seed
  rw [gd_ct_chunks, hlv, hcodecs, ← hw.seed]
  unfold ct_serialize schemeExtra extraC
  rcases hsch with h | h | h
  all_goals
    simp only [hpid, hfind, hc1, h, Nat.reduceBEq, Bool.false_eq_true, ↓reduceIte, hsize, hntt, hscale, hcf, hseeded,
      hlim, wlift_ok, gs_pid_serialize st _ hl, gs_usize_serialize, gs_bool_serialize, gs_f64_serialize,
      gs_u64_serialize, Nat.sub_zero, hupper, h3, htail, f64C, repC, seqC, List.replicate, seqChunks, List.append_nil,
      runChunks_append, runChunks, wbind_assoc, wbind_wpure, Nat.zero_add, Nat.add_assoc]

/-- the view of a model `Ct` the code works with (`poly(1)` of a seeded object = flag word, then the seed words) -/
def ctvOfCt (lv : Level) (c : Ct) : CtV :=
  { pid := c.pid, size := c.size, ntt := c.ntt, scale := c.scale, cf := c.cf, seeded := c.seeded, data := [],
    poly := fun i => if i = 1 then seedFlag :: c.seed else [], comp := fun i j => (c.polys.getD i []).getD j [],
    cms := lv.moduli.length, deg := lv.n }

theorem gd_ct_serialize_view (st : WStream S E) (ctx : Ctx) (expand : List Nat → Level → Poly) (c : Ct) (lv : Level)
    (hfind : ctx.find c.pid = some lv) (hq : ∀ q ∈ lv.moduli, q < 2 ^ 64) (hl : c.pid.length = 4)
    (hsch : lv.scheme = 1 ∨ lv.scheme = 2 ∨ lv.scheme = 3) (hw : CtShape lv c) :
    ct_serialize st ctx (ctvOfCt lv c) = runChunks st ((ctC ctx expand).chunks c) := by
  refine gd_ct_serialize st ctx expand c lv _ hfind hq rfl hl rfl rfl rfl rfl rfl (fun _ _ => rfl) (fun hs => ?_) ⟨rfl, rfl⟩ hsch hw
  have h8 : c.seed.length = 8 := by have := hw.seed; simpa [hs, seedWords] using this
  refine ⟨?_, ?_⟩
  · show 9 ≤ (seedFlag :: c.seed).length
    simp [h8]
  · show List.take 8 (List.drop 1 (seedFlag :: c.seed)) = c.seed
    simp only [List.drop_succ_cons, List.drop_zero]
    exact List.take_of_length_le (by omega)

/-- C14: on an in-memory stream the generated compact `Ciphertext::serialize` (= `PublicKey::serialize`) appends exactly `ctC.enc` and
    returns its length -/
theorem c14g_ct_serialize (ctx : Ctx) (expand : List Nat → Level → Poly) (c : Ct) (lv : Level)
    (hfind : ctx.find c.pid = some lv) (hq : ∀ q ∈ lv.moduli, q < 2 ^ 64) (hl : c.pid.length = 4)
    (hsch : lv.scheme = 1 ∨ lv.scheme = 2 ∨ lv.scheme = 3) (hw : CtShape lv c) (s : Bytes) :
    ct_serialize idealStream ctx (ctvOfCt lv c) s
      = (.ok ((ctC ctx expand).enc c).length, s ++ (ctC ctx expand).enc c) :=
  gs_ideal (ctC ctx expand) c _ (gd_ct_serialize_view idealStream ctx expand c lv hfind hq hl hsch hw) s

/-- C15: … and on every faulty sink: complete encoding with the right count, or the stream's error with a prefix -/
theorem c15g_ct_serialize_fails_cleanly (ctx : Ctx) (expand : List Nat → Level → Poly) (c : Ct) (lv : Level)
    (hfind : ctx.find c.pid = some lv) (hq : ∀ q ∈ lv.moduli, q < 2 ^ 64) (hl : c.pid.length = 4)
    (hsch : lv.scheme = 1 ∨ lv.scheme = 2 ∨ lv.scheme = 3) (hw : CtShape lv c) (s : Sink) :
    let w := ct_serialize sinkStream ctx (ctvOfCt lv c)
    (∀ n, (w s).1 = .ok n → n = ((ctC ctx expand).enc c).length ∧ (w s).2.out = s.out ++ (ctC ctx expand).enc c) ∧
    (∀ e, (w s).1 = .error e → (∃ io, e = .io io) ∧
      ∃ j, j ≤ ((ctC ctx expand).enc c).length ∧ (w s).2.out = s.out ++ ((ctC ctx expand).enc c).take j) :=
  gs_writer_clean (ctC ctx expand) c _ (gd_ct_serialize_view sinkStream ctx expand c lv hfind hq hl hsch hw) s

theorem gd_fit_of_reduced (lv : Level) (polys : List Poly) (hp : ∀ p ∈ polys, p.length = lv.moduli.length)
    (hr : ∀ p ∈ polys, ∀ j (hj : j < p.length), ∀ x ∈ p[j], x < lv.moduli.getD j 0) :
    ∀ p ∈ polys, ∀ j (hj : j < p.length), ∀ x ∈ p[j], x < 256 ^ u64Limit (lv.moduli.getD j 0) :=
  fun p hpm j hj x hx => u64Limit_width _ x (hr p hpm j hj x hx)

end HC.GS
