/- The prelude of the generated files (`Gen/WordFns.lean`): the bounds-checked read and write and the shifts when they succeed.
   No Mathlib (see `Proofs/Base.lean`). -/
import Heathcliff.Proofs.Base
import Heathcliff.Gen.WordFns

namespace HC.GenW
open HC

theorem idx_ok (l : List Nat) {i : Nat} (h : i < l.length) : idx l i = .ok l[i] := by
  unfold idx; rw [List.getElem?_eq_getElem h]

theorem idx_getD (l : List Nat) {i : Nat} (h : i < l.length) : idx l i = .ok (l.getD i 0) := by
  rw [idx_ok l h, list_getD_eq_getElem l 0 h]

theorem idx_oob (l : List Nat) {i : Nat} (h : l.length ≤ i) : idx l i = .error .oob := by
  unfold idx; rw [List.getElem?_eq_none h]

theorem setIdx_ok (l : List Nat) (v : Nat) {i : Nat} (h : i < l.length) : setIdx l i v = .ok (l.set i v) := if_pos h

theorem idx_congr {r a : List Nat} {i : Nat} (h : r.drop i = a.drop i) : idx r i = idx a i := by
  unfold idx
  have h1 : r[i]? = (r.drop i)[0]? := by rw [List.getElem?_drop]; rfl
  have h2 : a[i]? = (a.drop i)[0]? := by rw [List.getElem?_drop]; rfl
  rw [h1, h2, h]

theorem idx_or_zero (a : List Nat) (i : Nat) : (if i < a.length then idx a i else pure 0) = .ok ((a.drop i).headD 0) := by
  by_cases hia : i < a.length
  · rw [if_pos hia, idx_ok _ hia, list_headD_drop _ 0 hia]
  · rw [if_neg hia, list_headD_drop_of_ge _ 0 (Nat.le_of_not_lt hia)]; rfl

theorem ckShl_ok {w x v : Nat} (h : v < w) : ckShl w x v = .ok ((x <<< v) % 2^w) := if_pos h
theorem ckShr_ok {w x v : Nat} (h : v < w) : ckShr w x v = .ok (x >>> v) := if_pos h

end HC.GenW
