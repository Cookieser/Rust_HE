/- Audit of property C12: `#print axioms` for every property theorem of Props/C12.lean; `audit()` of tools/runner.py elaborates this file
   and compares each axiom list with the three standard axioms. -/
import Heathcliff.Props.C12
#print axioms HC.C12.round_dyadic
#print axioms HC.C12.coeff_to_rns
#print axioms HC.C12.path64
#print axioms HC.C12.path128
#print axioms HC.C12.pathBig
#print axioms HC.C12.path64_saturated
#print axioms HC.C12.i64_single
#print axioms HC.C12.i64_single_encode
#print axioms HC.C12.i64_pinned_formula_wrong
#print axioms HC.C12.decode_lift
#print axioms HC.C12.decode_lift_centred
#print axioms HC.C12.decode_fold_abs
#print axioms HC.C12.limb_sum
#print axioms HC.C12.decode_value
#print axioms HC.C12.index_map_spec
#print axioms HC.C12.index_map_perm
#print axioms HC.C12.index_map_conj
#print axioms HC.C12.slot_exp_injective
#print axioms HC.C12.index_map_eq_batch
#print axioms HC.C12.get_root_index
#print axioms HC.C12.get_root_index_complex
#print axioms HC.C12.sel_complex
#print axioms HC.C12.root_table
#print axioms HC.C12.inv_root_table
#print axioms HC.C12.scatter_at
#print axioms HC.C12.scatter_conj
#print axioms HC.C12.decode_encode
#print axioms HC.C12.encode_real
#print axioms HC.C12.decode_slot
#print axioms HC.C12.embedding_exact
#print axioms HC.C12.psi_complex
#print axioms HC.C12.embedding_exact_complex
#print axioms HC.C12.encode_within_bound_partial
#print axioms HC.C12.gen_fft_transform_to_rev_eq
#print axioms HC.C12.gen_fft_transform_from_rev_eq
#print axioms HC.C12.gen_path64_element
#print axioms HC.C12.gen_path128_element
#print axioms HC.C12.gen_max_scan_all
#print axioms HC.C12.gen_c64_array_refuses
#print axioms HC.C12.gen_f64_polynomial_refuses
#print axioms HC.C12.gen_row_layout
#print axioms HC.C12.gen_rows_layout
#print axioms HC.C12.gen_c64_array_dispatch
#print axioms HC.C12.gen_f64_polynomial_dispatch
#print axioms HC.C12.gen_row64
#print axioms HC.C12.gen_row128
#print axioms HC.C12.gen_c64_array_integer_stage_partial
#print axioms HC.C12.gen_f64_polynomial_integer_stage_partial
#print axioms HC.C12.gen_i64_single
#print axioms HC.C12.gen_chunks_layout
