/- `Ciphertext::contains_seed` / `expand_seed` (src/text.rs), skeletons over the flat data buffer (Gen/RngFns.lean): `contains_seed` is
   the test of the flag word (`gs_contains_seed_eq`); on a flagged size-2 ciphertext `expand_seed` reads the 64 seed bytes after the flag
   word, seeds a generator and draws polynomial 1 afresh (`gs_expand_seed_flagged`).  The read of the seed succeeds iff 9 words are there
   (`gs_leBytes_seed`, `gs_leBytes_oob`): with fewer, `expand_seed` leaves the buffer (`gs_expand_seed_oob`); with 9 or more it is
   `sample::uniform` on `BlakeRNG::from_seed`, stated in Props/C16.lean (`gen_expand_seed_eq`) where the ties of `from_seed` and `uniform`
   meet.  Helper prefix `gs_`. -/
import Heathcliff.Proofs.GenRng4
namespace HC.GenRng
open HC HC.Rng

/-- the 64 seed bytes: little-endian bytes of the 8 words after the flag word `data[kn]` -/
def gs_seedBytes (data : List Nat) (kn : Nat) : List Nat :=
  ((data.drop (kn + 1)).take 8).flatMap fun w => (List.range 8).map fun b => w / 256 ^ b % 256

/-- the generated read of the seed: 8 words from position `kn + 1`, if they are there -/
theorem gs_leBytes_seed {data : List Nat} {kn : Nat} (h : kn + 9 ≤ data.length) : leBytes data (kn + 1) 8 = .ok (gs_seedBytes data kn) := by
  unfold leBytes gs_seedBytes; rw [if_pos (by omega)]

theorem gs_leBytes_oob {data : List Nat} {kn : Nat} (h : data.length < kn + 9) : leBytes data (kn + 1) 8 = .error .oob := by
  unfold leBytes; rw [if_neg (by omega)]

theorem gs_slice_ok {l : List Nat} {a b : Nat} (h1 : a ≤ b) (h2 : b ≤ l.length) : slice l a b = .ok ((l.drop a).take (b - a)) := by
  simp [slice, h1, h2]

theorem gs_expand_arith {n k : Nat} (hn : 0 < n) (hk : 0 < k) (hB : 2 * (n * k) < B64) :
    ckMul 1 k = .ok k ∧ ckAdd k 0 = .ok k ∧ ckMul n k = .ok (n * k) ∧ ckAdd (n * k) n = .ok (n * k + n) ∧ ckAdd (n * k) 1 = .ok (n * k + 1) ∧
    ckMul 1 (n * k) = .ok (n * k) ∧ ckAdd 1 1 = .ok 2 ∧ ckMul 2 (n * k) = .ok (2 * (n * k)) := by
  have h1 : k ≤ n * k := Nat.le_mul_of_pos_left k hn
  have h2 : n ≤ n * k := Nat.le_mul_of_pos_right n hk
  have lt : ∀ {x}, x ≤ 2 * (n * k) → x < B64 := fun h => Nat.lt_of_le_of_lt h hB
  have hnk : n * k ≤ 2 * (n * k) := Nat.le_mul_of_pos_left _ (by decide)
  have h2nk : n * k + n * k = 2 * (n * k) := (Nat.two_mul _).symm
  refine ⟨?_, ckAdd_ok (lt (Nat.le_trans h1 hnk)), ckMul_ok (lt hnk), ckAdd_ok (lt (h2nk ▸ Nat.add_le_add_left h2 _)),
    ckAdd_ok (lt (h2nk ▸ Nat.add_le_add_left (Nat.le_trans hk h1) _)), ?_, rfl, ckMul_ok hB⟩
  · simpa using ckMul_ok (a := 1) (b := k) (by rw [Nat.one_mul]; exact lt (Nat.le_trans h1 hnk))
  · simpa using ckMul_ok (a := 1) (b := n * k) (by rw [Nat.one_mul]; exact lt hnk)

/-- `CIPHERTEXT_SEED_FLAG` (= `u64::MAX` = 2^64 − 1) -/
def gs_FLAG : Nat := 18446744073709551615

/-- `contains_seed` (skeleton): `size == 2 && c1[0] == FLAG`; on a size-2 ciphertext with an EMPTY polynomial 1 it panics (index 0 of an empty slice) -/
theorem gs_contains_seed_eq (data : List Nat) (n k : Nat) (hn : 0 < n) (hk : 0 < k) (hlen : data.length = 2 * (n * k)) (hB : 2 * (n * k) < B64) :
    contains_seed data 2 n k = .ok (decide (data.getD (n * k) 0 = gs_FLAG)) := by
  obtain ⟨_, _, a3, _, _, a6, a7, a8⟩ := gs_expand_arith hn hk hB
  have h2 : n ≤ n * k := Nat.le_mul_of_pos_right n hk
  have s2 := gs_slice_ok (l := data) (a := n * k) (b := 2 * (n * k)) (by omega) (by omega)
  have hi : idx ((data.drop (n * k)).take (2 * (n * k) - n * k)) 0 = .ok (data.getD (n * k) 0) := by
    rw [gs_idx (by simp [hlen]; omega)]
    simp only [List.getD_eq_getElem?_getD, List.getElem?_take, List.getElem?_drop, Nat.add_zero]
    rw [if_pos (by omega)]
  unfold contains_seed
  rw [if_neg (by simp)]
  simp only [a3, a6, a7, a8, s2, hi, R.ok_bind', pure, Except.pure, gs_FLAG]
  simp

/-- on a flagged size-2 ciphertext `expand_seed` reads the 64 seed bytes, seeds a generator and draws polynomial 1 afresh -/
theorem gs_expand_seed_flagged (B : RngOps BlakeRNG) (data qs : List Nat) (pn n k : Nat) (hn : 0 < n) (hk : 0 < k)
    (hlen : data.length = 2 * (n * k)) (hB : 2 * (n * k) < B64) (hflag : data.getD (n * k) 0 = gs_FLAG) :
    expand_seed B data 2 n k qs pn = (do
      let seed ← leBytes data (n * k + 1) 8
      let g ← from_seed seed
      let (_, c1) ← uniform B g qs pn ((data.drop (n * k)).take (2 * (n * k) - n * k))
      pure (splice data (n * k) c1)) := by
  obtain ⟨a1, a2, a3, a4, a5, a6, a7, a8⟩ := gs_expand_arith hn hk hB
  have h2 : n ≤ n * k := Nat.le_mul_of_pos_right n hk
  have s1 := gs_slice_ok (l := data) (a := n * k) (b := n * k + n) (by omega) (by omega)
  have s2 := gs_slice_ok (l := data) (a := n * k) (b := 2 * (n * k)) (by omega) (by omega)
  unfold expand_seed
  rw [gs_contains_seed_eq data n k hn hk hlen hB, hflag]
  simp only [R.ok_bind', decide_true, not_true_eq_false, if_false]
  rw [if_neg (by simp)]
  simp only [a1, a2, a3, a4, a5, a6, a7, a8, s1, s2, R.ok_bind']

/-- with fewer than 9 words per polynomial the seed is read beyond the buffer: `.oob` is how the translation renders the raw-pointer read -/
theorem gs_expand_seed_oob (B : RngOps BlakeRNG) (data qs : List Nat) (pn n k : Nat) (hn : 0 < n) (hk : 0 < k)
    (hlen : data.length = 2 * (n * k)) (hflag : data.getD (n * k) 0 = gs_FLAG) (h9 : n * k < 9) :
    expand_seed B data 2 n k qs pn = .error .oob := by
  have h64 : B64 = 18446744073709551616 := rfl
  rw [gs_expand_seed_flagged B data qs pn n k hn hk hlen (by omega) hflag, gs_leBytes_oob (by omega)]
  rfl

end HC.GenRng
