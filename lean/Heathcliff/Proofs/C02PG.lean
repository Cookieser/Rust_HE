/- C02: the modulus-switching step in `c02p_Enc` form and the LEVELLED program theorem `hom_program_bgv_levelled` (programs
   `LProg` over negate / add / sub / multiply / multiply_plain / mod_switch_to_next / relinearize along a chain). -/
import Heathcliff.Proofs.C02PH
import Heathcliff.Proofs.C02PM
import Heathcliff.Proofs.C02PR
import Heathcliff.Proofs.Base
namespace HC
open Finset

/-- the modulus-switching step: same message, factor `cf·q_L^{-1} mod t`, norm `≤ V / q_L + t·Σ_{k<size} S^k` -/
theorem c02p_step_ms {l l' : Level} (h : c02p_LevelOK l) (h' : c02p_LevelOK l') (hto : c05u_ToolOK l) (hto' : c05u_ToolOK l')
    (hg : c05u_BgvOK l) (hn : c02p_Next l l') {sk : Array Int} (hsk : sk.size = l.n) {S : Nat}
    (hS : ∑ k ∈ range l.n, (c02p_sk sk k).natAbs ≤ S) {a r : Ct} {m : Nat → Int} {V : Nat}
    (ha : c02p_Enc l sk a m V) (hr : modSwitchScaleNext l a = .ok r) :
    r.cf = (a.cf * l.tool.invQLastModT) % l.t.value ∧ r.polys.size = a.polys.size ∧
      c02p_Enc l' sk r m (V / (l.q (l.size - 1)).value + l.t.value * geoSum S a.polys.size) := by
  obtain ⟨ga, va, a1, a2, a3⟩ := ha
  obtain ⟨gr, hcf, hsz, v', Δ, p1, p2⟩ := c02p_modswitch_ph h h' hto hto' hg hn hsk hS ga hr a1
  have htw := h.twf
  have ht0 : 0 < l.t.value := by have := htw.two_le; omega
  have h2 : 2 ≤ l.size := by
    have : 1 ≤ l'.size := by have := h'.lq.bwf.pos; rw [h'.lq.size_eq] at this; exact this
    have := hn.size; omega
  have hqL0 : 0 < (l.q (l.size - 1)).value := by have := (c05u_qwf hto (show l.size - 1 < l.size by omega)).two_le; omega
  refine ⟨hcf, hsz, gr, v', fun j hj => p1 j (by rw [← hn.n]; exact hj), fun j hj => ?_, fun j hj => ?_⟩
  · have hj' : j < l.n := by rw [← hn.n]; exact hj
    obtain ⟨e1, e2, _⟩ := p2 j hj'
    rw [hn.t]
    have hinv : (l.tool.invQLastModT : Int) * ((l.q (l.size - 1)).value : Int) ≡ 1 [ZMOD l.t.value] := by
      have : Nat.ModEq l.t.value (l.tool.invQLastModT * (l.q (l.size - 1)).value) 1 := by
        unfold Nat.ModEq; rw [hg.invt, Nat.mod_eq_of_lt (by have := htw.two_le; omega)]
      have := Int.natCast_modEq_iff.mpr this
      push_cast at this
      exact this
    have hΔ : Δ j ≡ 0 [ZMOD l.t.value] := (Int.modEq_zero_iff_dvd).mpr e2
    have hcf' : (r.cf : Int) ≡ (a.cf : Int) * (l.tool.invQLastModT : Int) [ZMOD l.t.value] := by
      rw [hcf, Int.natCast_mod, Nat.cast_mul]
      exact Int.mod_modEq _ _
    calc v' j ≡ ((l.tool.invQLastModT : Int) * ((l.q (l.size - 1)).value : Int)) * v' j [ZMOD l.t.value] := by
            have := (hinv.mul_right (v' j)).symm
            rwa [one_mul] at this
      _ = (l.tool.invQLastModT : Int) * (va j + Δ j) := by rw [mul_assoc, e1]
      _ ≡ (l.tool.invQLastModT : Int) * ((a.cf : Int) * m j + 0) [ZMOD l.t.value] := ((a2 j hj').add hΔ).mul_left _
      _ = ((a.cf : Int) * (l.tool.invQLastModT : Int)) * m j := by ring
      _ ≡ (r.cf : Int) * m j [ZMOD l.t.value] := (hcf'.symm).mul_right _
  · have hj' : j < l.n := by rw [← hn.n]; exact hj
    obtain ⟨e1, _, e3⟩ := p2 j hj'
    rw [c02p_geoSum_eq]
    have hmul : (l.q (l.size - 1)).value * (v' j).natAbs ≤ V + (l.q (l.size - 1)).value * (l.t.value * c02x_geo S a.polys.size) := by
      have : ((l.q (l.size - 1)).value * (v' j).natAbs : Nat) = (va j + Δ j).natAbs := by
        rw [← e1, Int.natAbs_mul, Int.natAbs_natCast]
      rw [this]
      refine le_trans (Int.natAbs_add_le _ _) (Nat.add_le_add (a3 j hj') ?_)
      rw [← Nat.mul_assoc]; exact e3
    have h1 : (v' j).natAbs * (l.q (l.size - 1)).value ≤ V + (l.q (l.size - 1)).value * (l.t.value * c02x_geo S a.polys.size) := by
      rw [Nat.mul_comm]; exact hmul
    have h2 := (Nat.le_div_iff_mul_le hqL0).mpr h1
    rw [Nat.add_mul_div_left _ _ hqL0] at h2
    exact h2

/-- the chain: every level built by the constructors (bundles of C01P / C05U), consecutive levels related by `c02p_Next` -/
structure c02p_ChainOK (chain : Nat → Level) (top : Nat) : Prop where
  level : ∀ c, c ≤ top → c02p_LevelOK (chain c)
  tool : ∀ c, c ≤ top → c05u_ToolOK (chain c)
  bgv : ∀ c, 0 < c → c ≤ top → c05u_BgvOK (chain c)
  next : ∀ c, c < top → c02p_Next (chain (c + 1)) (chain c)

theorem c02p_chain_n {chain : Nat → Level} {top : Nat} (hch : c02p_ChainOK chain top) :
    ∀ d c, c + d = top → (chain c).n = (chain top).n
  | 0, c, h => by have : c = top := by omega
                  rw [this]
  | d+1, c, h => by
    have h1 := c02p_chain_n hch d (c + 1) (by omega)
    have h2 := (hch.next c (by omega)).n
    rw [h2, h1]

theorem c02p_ChainOK.n {chain : Nat → Level} {top : Nat} (hch : c02p_ChainOK chain top) {c : Nat} (hc : c ≤ top) :
    (chain c).n = (chain top).n := c02p_chain_n hch (top - c) c (by omega)

/-- shadow of a levelled program: modulus switching does not change the message -/
def LProg.shadow (n : Nat) (M PL : Nat → Nat → Int) : LProg → Nat → Int
  | .inp i => M i
  | .neg p => fun j => - p.shadow n M PL j
  | .add p q => fun j => p.shadow n M PL j + q.shadow n M PL j
  | .sub p q => fun j => p.shadow n M PL j - q.shadow n M PL j
  | .mul p q => negMulR n (p.shadow n M PL) (q.shadow n M PL)
  | .mulPlain p k => negMulR n (p.shadow n M PL) (PL k)
  | .modSwitch p => p.shadow n M PL
  | .relin p => p.shadow n M PL

theorem c02p_lprog_inv {chain : Nat → Level} {top : Nat} (hch : c02p_ChainOK chain top) {sk : Array Int}
    (hsk : sk.size = (chain top).n) {S : Nat} (hS : ∑ k ∈ range (chain top).n, (c02p_sk sk k).natAbs ≤ S)
    (kl : KeyLevel) (rk : KSKey) (e : Nat → Nat → Int) (G : Nat → Int) (A Be : Nat)
    (cts : Nat → Nat × Ct) (pls : Nat → Nat × RnsPoly) (M PL : Nat → Nat → Int) (inB : Nat → Nat × Nat × Nat × Nat)
    (plB : Nat → Nat × Nat) :
    ∀ (prog : LProg) (x : Nat × Ct),
      (prog.usesRelin = true → ∀ c, c ≤ top → c02p_KeyLevelOf kl (chain c) ∧ c02p_RelinOK kl (chain c).size rk (c02p_sk sk) e G A Be) →
      (∀ i ∈ prog.ctInputs, (cts i).1 ≤ top ∧ c02p_Enc (chain (cts i).1) sk (cts i).2 (M i) (inB i).2.2.2 ∧
        inB i = ((cts i).1, (cts i).2.cf, (cts i).2.polys.size, (inB i).2.2.2)) →
      (∀ k ∈ prog.plInputs, RnsCanon (chain (pls k).1) (pls k).2 ∧ c02p_PlainLift (chain (pls k).1) (pls k).2 (PL k) ∧
        (∀ j, j < (chain top).n → (PL k j).natAbs ≤ (plB k).2) ∧ (plB k).1 = (pls k).1) →
      prog.eval chain kl rk cts pls = .ok x →
      x.1 ≤ top ∧ ∃ V, prog.noiseUB chain kl A Be S inB plB = some (x.1, x.2.cf, x.2.polys.size, V) ∧
        c02p_Enc (chain x.1) sk x.2 (prog.shadow (chain top).n M PL) V := by
  intro prog
  induction prog with
  | inp i =>
    intro x _ hin _ hev
    have hx : cts i = x := Except.ok.inj hev
    subst hx
    obtain ⟨hle, he, hb⟩ := hin i (by simp [LProg.ctInputs])
    exact ⟨hle, (inB i).2.2.2, by rw [LProg.noiseUB]; exact congrArg some hb, he⟩
  | neg p ih =>
    intro x hrk hin hpl hev
    rw [LProg.eval] at hev
    obtain ⟨⟨la, a⟩, hea, hev1⟩ := R.bind_eq_ok.mp hev
    obtain ⟨r, hr, hev2⟩ := R.bind_eq_ok.mp hev1
    obtain rfl : (la, r) = x := Except.ok.inj hev2
    obtain ⟨hle, V, hub, ea⟩ := ih (la, a) (fun hu => hrk (by simpa [LProg.usesRelin] using hu)) hin hpl hea
    obtain ⟨hcf, hsz, er⟩ := c02p_step_neg (hch.level la hle) (by rw [hch.n hle]; exact hsk) ea hr
    exact ⟨hle, V, by rw [LProg.noiseUB, hub]; simp only [hcf, hsz], er⟩
  | add p q ihp ihq | sub p q ihp ihq =>
    intro x hrk hin hpl hev
    rw [LProg.eval] at hev
    obtain ⟨⟨la, a⟩, hea, hev1⟩ := R.bind_eq_ok.mp hev
    obtain ⟨⟨lb, b⟩, heb, hev2⟩ := R.bind_eq_ok.mp hev1
    obtain ⟨hl, hev3⟩ := R.guard_eq_ok.mp hev2
    obtain rfl : la = lb := not_not.mp hl
    obtain ⟨r, hr, hev4⟩ := R.bind_eq_ok.mp hev3
    obtain rfl : (la, r) = x := Except.ok.inj hev4
    obtain ⟨hle, Va, huba, ea⟩ := ihp (la, a) (fun hu => hrk (by simp [LProg.usesRelin, hu])) (fun i hi => hin i (by simp [LProg.ctInputs, hi]))
      (fun k hk => hpl k (by simp [LProg.plInputs, hk])) hea
    obtain ⟨_, Vb, hubb, eb⟩ := ihq (la, b) (fun hu => hrk (by simp [LProg.usesRelin, hu])) (fun i hi => hin i (by simp [LProg.ctInputs, hi]))
      (fun k hk => hpl k (by simp [LProg.plInputs, hk])) heb
    obtain ⟨e1, e2, hbal, hsz, hE⟩ := c02p_step_tr_size (hch.level la hle) (by rw [hch.n hle]; exact hsk) ea eb _ hr
    refine ⟨hle, e1 * Va + e2 * Vb, ?_, by simpa [LProg.shadow] using hE⟩
    rw [LProg.noiseUB, huba, hubb]
    simp only [ne_eq, not_true_eq_false, if_false, hbal, hsz]
  | mul p q ihp ihq =>
    intro x hrk hin hpl hev
    rw [LProg.eval] at hev
    obtain ⟨⟨la, a⟩, hea, hev1⟩ := R.bind_eq_ok.mp hev
    obtain ⟨⟨lb, b⟩, heb, hev2⟩ := R.bind_eq_ok.mp hev1
    obtain ⟨hl, hev3⟩ := R.guard_eq_ok.mp hev2
    obtain rfl : la = lb := not_not.mp hl
    obtain ⟨r, hr, hev4⟩ := R.bind_eq_ok.mp hev3
    obtain rfl : (la, r) = x := Except.ok.inj hev4
    obtain ⟨hle, Va, huba, ea⟩ := ihp (la, a) (fun hu => hrk (by simp [LProg.usesRelin, hu])) (fun i hi => hin i (by simp [LProg.ctInputs, hi]))
      (fun k hk => hpl k (by simp [LProg.plInputs, hk])) hea
    obtain ⟨_, Vb, hubb, eb⟩ := ihq (la, b) (fun hu => hrk (by simp [LProg.usesRelin, hu])) (fun i hi => hin i (by simp [LProg.ctInputs, hi]))
      (fun k hk => hpl k (by simp [LProg.plInputs, hk])) heb
    obtain ⟨hcf, hsz, hE⟩ := c02p_step_mul (hch.level la hle) (by rw [hch.n hle]; exact hsk) ea eb hr
    rw [show negMulR (R := Int) (chain la).n = negMulR (chain top).n by rw [hch.n hle]] at hE
    refine ⟨hle, (chain la).n * Va * Vb, ?_, hE⟩
    rw [LProg.noiseUB, huba, hubb]
    simp only [ne_eq, not_true_eq_false, if_false, hcf, hsz]
  | mulPlain p k ih =>
    intro x hrk hin hpl hev
    rw [LProg.eval] at hev
    obtain ⟨⟨la, a⟩, hea, hev1⟩ := R.bind_eq_ok.mp hev
    obtain ⟨hpc, hpL, hpB, hpl1⟩ := hpl k (by simp [LProg.plInputs])
    obtain ⟨hl, hev2⟩ := R.guard_eq_ok.mp hev1
    have hl' : la = (pls k).1 := not_not.mp hl
    obtain ⟨r, hr, hev3⟩ := R.bind_eq_ok.mp hev2
    obtain rfl : (la, r) = x := Except.ok.inj hev3
    obtain ⟨hle, Va, huba, ea⟩ := ih (la, a) (fun hu => hrk (by simpa [LProg.usesRelin] using hu)) hin
      (fun k' hk => hpl k' (by simp [LProg.plInputs, hk])) hea
    rw [← hl'] at hpc hpL
    obtain ⟨hcf, hsz, hE⟩ := c02p_step_pl (hch.level la hle) (by rw [hch.n hle]; exact hsk) ea hpc hpL
      (fun j hj => hpB j (by rw [← hch.n hle]; exact hj)) hr
    rw [show negMulR (R := Int) (chain la).n = negMulR (chain top).n by rw [hch.n hle]] at hE
    refine ⟨hle, (chain la).n * Va * (plB k).2, ?_, hE⟩
    rw [LProg.noiseUB, huba]
    simp only [hpl1, hl', ne_eq, not_true_eq_false, if_false, hcf, hsz]
  | modSwitch p ih =>
    intro x hrk hin hpl hev
    rw [LProg.eval] at hev
    obtain ⟨⟨la, a⟩, hea, hev1⟩ := R.bind_eq_ok.mp hev
    obtain ⟨hl, hev2⟩ := R.guard_eq_ok.mp hev1
    have hl0 : la ≠ 0 := hl
    obtain ⟨r, hr, hev3⟩ := R.bind_eq_ok.mp hev2
    obtain rfl : (la - 1, r) = x := Except.ok.inj hev3
    obtain ⟨hle, Va, huba, ea⟩ := ih (la, a) (fun hu => hrk (by simpa [LProg.usesRelin] using hu)) hin hpl hea
    have hle' : la - 1 ≤ top := by omega
    have hnx : c02p_Next (chain la) (chain (la - 1)) := by
      have := hch.next (la - 1) (by omega)
      rwa [show la - 1 + 1 = la by omega] at this
    obtain ⟨hcf, hsz, hE⟩ := c02p_step_ms (hch.level la hle) (hch.level (la - 1) hle') (hch.tool la hle) (hch.tool (la - 1) hle')
      (hch.bgv la (by omega) hle) hnx (by rw [hch.n hle]; exact hsk) (S := S) (by rw [hch.n hle]; exact hS) ea hr
    refine ⟨hle', _, ?_, hE⟩
    rw [LProg.noiseUB, huba]
    simp only [hl0, if_false, hcf, hsz]
  | relin p ih =>
    intro x hrk hin hpl hev
    rw [LProg.eval] at hev
    obtain ⟨⟨la, a⟩, hea, hev1⟩ := R.bind_eq_ok.mp hev
    obtain ⟨hl, hev2⟩ := R.guard_eq_ok.mp hev1
    obtain ⟨r, hr, hev3⟩ := R.bind_eq_ok.mp hev2
    obtain rfl : (la, r) = x := Except.ok.inj hev3
    obtain ⟨hle, Va, huba, ea⟩ := ih (la, a) (fun _ => hrk rfl) hin hpl hea
    have h2 : 2 ≤ a.polys.size := ea.1.canon.two_le
    by_cases h22 : a.polys.size = 2
    · -- nothing to do: `relinearize` returns the ciphertext unchanged
      have e2 : relinearize kl .bgv (chain la).size (fun i => if i = 2 then some rk else none) 3 a = pure a := by
        show (if a.polys.size < 2 then _ else if a.polys.size = 2 then pure a else _) = _
        rw [if_neg (by omega), if_pos h22]
      rw [e2] at hr
      obtain rfl : a = r := Except.ok.inj hr
      refine ⟨hle, Va, ?_, ea⟩
      rw [LProg.noiseUB, huba]
      simp only [h22, if_true]
    · have h3 : a.polys.size = 3 := by
        have : ¬ a.polys.size > 3 := hl
        omega
      obtain ⟨hko, hro⟩ := hrk rfl la hle
      obtain ⟨hcf, hsz, hE⟩ := c02p_step_relin (hch.level la hle) hko (by rw [hch.n hle]; exact hsk) hro (S := S)
        (by rw [hch.n hle]; exact hS) ea h3 (fun i => if i = 2 then some rk else none) (by simp) 1 hr
      refine ⟨hle, _, ?_, hE⟩
      rw [LProg.noiseUB, huba]
      simp only [h3, hcf, hsz, ksNoise, KeyLevel.c04t_P]
      simp

/-- THE PROGRAM-LEVEL HOMOMORPHISM THEOREM (BGV, levelled): programs over negate / add / sub / multiply / multiply_plain, `mod_switch_to_next` AND
    `relinearize` (size ≤ 3, key for s²), along any chain of constructor-built levels (`c02p_ChainOK`), for any secret with `‖s‖₁ ≤ S`.  If the model does
    not refuse the program and returns `(lv, r)`, and the a-priori bookkeeping returns the bound `V` with `2·V < Q_lv`, then decrypting `r`
    AT ITS LEVEL gives the shadow program's value modulo t. -/
theorem hom_program_bgv_levelled {chain : Nat → Level} {top : Nat} (hch : c02p_ChainOK chain top) {sk : Array Int}
    (hsk : sk.size = (chain top).n) {S : Nat} (hS : ∑ k ∈ range (chain top).n, (c02p_sk sk k).natAbs ≤ S)
    (kl : KeyLevel) (rk : KSKey) (e : Nat → Nat → Int) (G : Nat → Int) (A Be : Nat)
    (cts : Nat → Nat × Ct) (pls : Nat → Nat × RnsPoly) (M PL : Nat → Nat → Int) (inB : Nat → Nat × Nat × Nat × Nat)
    (plB : Nat → Nat × Nat) (prog : LProg) {lv : Nat} {r : Ct}
    (hrk : prog.usesRelin = true → ∀ c, c ≤ top → c02p_KeyLevelOf kl (chain c) ∧ c02p_RelinOK kl (chain c).size rk (c02p_sk sk) e G A Be)
    (hin : ∀ i ∈ prog.ctInputs, (cts i).1 ≤ top ∧ c02p_Enc (chain (cts i).1) sk (cts i).2 (M i) (inB i).2.2.2 ∧
        inB i = ((cts i).1, (cts i).2.cf, (cts i).2.polys.size, (inB i).2.2.2))
    (hpl : ∀ k ∈ prog.plInputs, RnsCanon (chain (pls k).1) (pls k).2 ∧ c02p_PlainLift (chain (pls k).1) (pls k).2 (PL k) ∧
        (∀ j, j < (chain top).n → (PL k j).natAbs ≤ (plB k).2) ∧ (plB k).1 = (pls k).1)
    (hev : prog.eval chain kl rk cts pls = .ok (lv, r)) {st : Nat × Nat × Nat} {V : Nat}
    (hub : prog.noiseUB chain kl A Be S inB plB = some (st.1, st.2.1, st.2.2, V)) (hV : 2 * V < (chain lv).tool.baseQ.prod) :
    bgvDecrypt (chain lv) sk r = .ok (Spec.trim (Array.ofFn (n := (chain lv).n) fun j =>
      Spec.imod (prog.shadow (chain top).n M PL j.val) (chain lv).t.value)) := by
  obtain ⟨hle, V', hub', he⟩ := c02p_lprog_inv hch hsk hS kl rk e G A Be cts pls M PL inB plB prog (lv, r) hrk hin hpl hev
  rw [hub] at hub'
  have hVV : V = V' := by
    injection hub' with h1
    injection h1 with _ h2
    injection h2 with _ h3
    injection h3
  subst hVV
  exact c02p_decrypt_of_enc (hch.level lv hle) (by rw [hch.n hle]; exact hsk) he hV

end HC
