/- C01 part E, non-vacuity:
   the NonVac world N = 4, q = {97, 113} (Q = 10961), t = 17, γ = 2305843009213693561, secret s = 1 − X + X³, with a GENUINE public key
   computed by the model's own key generation (`encryptZeroSym … (ntt := true)` with error 1 − 2X + 3X³), ternary u, errors, plaintext.
   All hypotheses of `bfv_encrypt_decrypt_pk` and `bfv_encrypt_decrypt_sk` hold simultaneously. -/
import Heathcliff.Proofs.C01L
import Heathcliff.Proofs.WorldOK
namespace HC
open Finset

attribute [local instance] nv_decRnsCanon nv_decWFOp nv_decModWF

/-- Harvey operands of ⌊Q/t⌋ = 644 modulo 97 and 113 -/
def c01e_exCdp : Array MulOperand := #[⟨62, 11790702397628785568⟩, ⟨79, 12896396299319067058⟩]

theorem c01e_exQ : Spec.prodL (c01p_qvals nv_level) = 10961 := (mkLevel_facts nv_mkLevel).prodQ

theorem c01e_exScalingOK : ScalingOK nv_level (Spec.prodL (c01p_qvals nv_level)) c01e_exCdp := by
  rw [c01e_exQ]
  exact ⟨by decide, by decide, by decide, by decide, by decide⟩

/-- the public key the model's key generation produces from the mask a (NTT form) and the error 1 − 2X + 3X³ -/
def c01e_exPk0 : RnsPoly := #[#[6, 48, 62, 71], #[97, 57, 81, 90]]
def c01e_exPk1 : RnsPoly := #[#[1, 95, 50, 2], #[110, 0, 9, 64]]
def c01e_exE : Array Int := #[1, -2, 0, 3]

theorem c01e_exPk_generated :
    (encryptZeroSym nv_level nv_sk c01e_exPk1 (rnsOfInt nv_level c01e_exE) true false).toOption.map (fun c => (c.polys, c.ntt, c.cf))
      = some (#[c01e_exPk0, c01e_exPk1], true, 1) := by
  decide +kernel

theorem c01e_exPkRel : PkRel nv_level nv_sk (fun p => c01e_exE.getD p 0) c01e_exPk0 c01e_exPk1 := by
  unfold PkRel PreCanon
  decide +kernel

def c01e_exU : Array Int := #[1, 0, -1, 1]
def c01e_exE0 : Array Int := #[-3, 21, 0, 2]
def c01e_exE1 : Array Int := #[4, -21, 1, 0]
def c01e_exPlain : Poly := #[3, 16, 0, 9]

theorem c01e_exGamma : nv_level.tool.gamma = nv_a1 := by
  rw [nv_level_tool]
  rfl

theorem c01e_exFreshEncOK : FreshEncOK nv_level (21 * (2 * nv_level.n + 1)) ∧ FreshEncOK nv_level 21 := by
  unfold FreshEncOK
  rw [c01e_exGamma, c01e_exQ]
  decide

/-- NON-VACUITY of `bfv_encrypt_decrypt_pk`: every hypothesis holds for the concrete world, hence its conclusion -/
theorem c01e_pk_hypotheses_satisfiable :
    ∃ ct, bfvEncrypt nv_level c01e_exCdp (Spec.prodL (c01p_qvals nv_level) % nv_level.t.value) ((nv_level.t.value + 1) / 2)
        (.asym none #[c01e_exPk0, c01e_exPk1] (rnsOfInt nv_level c01e_exU)
          #[rnsOfInt nv_level c01e_exE0, rnsOfInt nv_level c01e_exE1]) c01e_exPlain = .ok ct ∧
      bfvDecrypt nv_level nv_sk ct = .ok (trimPlain (padPlain nv_level.n c01e_exPlain)) :=
  bfv_encrypt_decrypt_pk nv_level_wf nv_decOK rfl c01e_exScalingOK (by rfl) (by decide) c01e_exPkRel (by decide)
    (by rfl) (by rfl) (by rfl) (by decide) (by decide) (by decide) (by decide) (by decide) c01e_exFreshEncOK.1

/-- NON-VACUITY of `bfv_encrypt_decrypt_sk` (both without and with a saved seed; error bound 21) -/
theorem c01e_sk_hypotheses_satisfiable (saveSeed : Bool) :
    ∃ ct, bfvEncrypt nv_level c01e_exCdp (Spec.prodL (c01p_qvals nv_level) % nv_level.t.value) ((nv_level.t.value + 1) / 2)
        (.sym nv_sk c01e_exPk1 (rnsOfInt nv_level c01e_exE0) saveSeed) c01e_exPlain = .ok ct ∧
      bfvDecrypt nv_level nv_sk ct = .ok (trimPlain (padPlain nv_level.n c01e_exPlain)) :=
  bfv_encrypt_decrypt_sk nv_level_wf nv_decOK rfl c01e_exScalingOK (by rfl) (by decide +kernel) (by rfl) (B := 21) (by decide)
    saveSeed (by decide) (by decide)
    c01e_exFreshEncOK.2

/-- the decrypted value is the plaintext itself (no trailing zeros to trim here) -/
example : trimPlain (padPlain nv_level.n c01e_exPlain) = #[3, 16, 0, 9] := by decide +kernel

end HC
