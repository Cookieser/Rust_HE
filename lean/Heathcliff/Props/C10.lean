import Heathcliff.Proofs.C10H
import Heathcliff.Proofs.C10I
import Heathcliff.Proofs.GenRnsDivide
import Heathcliff.Proofs.GenRnsBehz
import Heathcliff.Proofs.GenRnsDecrypt
import Heathcliff.Proofs.GenRnsCompose
import Heathcliff.Proofs.GenRnsKernels

/- C10 — the RNS routines of src/util/rns.rs meet their integer specifications: CRT composition and decomposition are mutually
   inverse below the product (`compose_decompose`, `decompose_compose`, `crt_unique`), the fast base conversion returns `x + α·Q` with one
   `α < k` (`fastConvert_spec`), and each routine of `RNSTool` computes, coefficient by coefficient, a formula `…Coeff` (Proofs/C10I) whose
   integer meaning is a `…_scalar` theorem: the `…_spec` theorems lift the formula to the arrays of the model, the `…_scalar` theorems say
   what it is (rounding division by the last prime, its BGV variant, the Montgomery step, the BEHZ floor, the Shenoy–Kumaresan conversion,
   scale-and-round).  Proofs: Proofs/C10H (bases, conversion), C10I (the routines), DivRule (the two divisions by the last prime).
   A statement written `type_of% @X` is the statement of `X`, to be read there (the long ones are not repeated).
   The `gen_…` theorems of the second half say that the functions generated from the Rust source equal the hand model. -/
namespace HC.C10
open HC
variable {m : Modulus}

theorem RNSBase.new_wf {ms : List Modulus} {b : RNSBase} (hm : ∀ m ∈ ms, m.WF) (hl : ms.length ≤ 64)
    (h : RNSBase.new ms = .ok b) : b.WF ∧ b.base = ms.toArray := HC.RNSBase.new_wf hm hl h

/-- CRT uniqueness below the product -/
theorem crt_unique {b : RNSBase} (hb : b.WF) {x y : Nat} (hx : x < b.prod) (hy : y < b.prod)
    (h : ∀ i, i < b.size → x % (b.q i).value = y % (b.q i).value) : x = y := HC.crt_unique hb hx hy h

theorem compose_spec {b : RNSBase} (hb : b.WF) {rs : Array Nat} (hs : rs.size = b.size) (hr : ∀ i, i < b.size → rs.getD i 0 < (b.q i).value) :
    ∃ x, b.compose rs = .ok x ∧ x < b.prod ∧ ∀ i, i < b.size → x % (b.q i).value = rs.getD i 0 % (b.q i).value := HC.compose_spec hb hs hr

/-- decompose ∘ compose = id on canonical residue vectors, compose ∘ decompose = id below the product -/
theorem compose_decompose {b : RNSBase} (hb : b.WF) {v : Nat} (hv : v < b.prod) :
    ∃ rs, b.decompose v = .ok rs ∧ b.compose rs = .ok v := HC.compose_decompose hb hv

theorem decompose_compose {b : RNSBase} (hb : b.WF) {rs : Array Nat} (hs : rs.size = b.size)
    (hr : ∀ i, i < b.size → rs.getD i 0 < (b.q i).value) :
    ∃ x, b.compose rs = .ok x ∧ b.decompose x = .ok rs := HC.decompose_compose hb hs hr

/-- FAST BASE CONVERSION: output = (x + alpha·Q) mod p_j for ONE alpha < k common to all output moduli -/
theorem fastConvert_spec {ib ob : RNSBase} {c : BaseConverter} (hi : ib.WF) (ho : ob.WF)
    (hc : BaseConverter.new ib ob = .ok c) {xs : Array Nat} (hs : xs.size = ib.size) (hx : ∀ i, i < ib.size → xs.getD i 0 < 2^64)
    {x : Nat} (hxl : x < ib.prod) (hxr : ∀ i, i < ib.size → x % (ib.q i).value = xs.getD i 0 % (ib.q i).value) :
    ∃ out alpha, c.fastConvert xs = .ok out ∧ out.size = ob.size ∧ alpha < ib.size ∧
      ∀ j, j < ob.size → out.getD j 0 = (x + alpha * ib.prod) % (ob.q j).value := HC.fastConvert_spec hi ho hc hs hx hxl hxr


/-- ROUNDING DIVISION: the result is the nearest integer to x / q_L (ties up), reduced mod q_i -/
theorem divRoundLast_scalar {qL qi inv x : Nat} (hqL : 2 ≤ qL) (hqi : 2 ≤ qi) (hinv : (inv * qL) % qi = 1) :
    divRoundLastCoeff qL qi inv (x % qL) (x % qi) = ((x + qL / 2) / qL) % qi := HC.divRoundLast_scalar hqL hqi hinv

/-- BGV DIVISION: with y = (x - x_L)/q_L - neg (an integer; `neg < t`, so |y - x/q_L| < t + 1) the routine returns y mod q_i,
    and y·q_L ≡ x (mod t): the value modulo t is preserved up to the known factor q_L^{-1} -/
theorem modTDivLast_scalar {t qL qi inv invt x : Nat} (ht : 2 ≤ t) (hqL : 2 ≤ qL) (hqi : 2 ≤ qi)
    (hinv : (inv * qL) % qi = 1) (hinvt : (invt * qL) % t = 1) (hit : invt < t) :
    let xL := x % qL
    let neg := (((t - xL % t) % t) * invt) % t
    let y : Int := ((x - xL) / qL : Nat) - (neg : Int)
    (modTDivLastCoeff t qL qi inv invt xL (x % qi) : Int) = y % (qi : Int) ∧
    (y * qL - x) % (t : Int) = 0 ∧ neg < t := HC.modTDivLast_scalar ht hqL hqi hinv hinvt hit

/-- LIFT to the model (coefficient form): every output component i < size-1, every coefficient j -/
theorem divideAndRoundQLast_spec {r : RNSTool} {p : RnsPoly}
    (hq : ∀ i, i < r.baseQ.size → (r.baseQ.q i).WF) (hs : 2 ≤ r.baseQ.size)
    (hinv : ∀ i, i < r.baseQ.size - 1 → WFOp (r.baseQ.q i) (r.invQLastModQ.getD i default) ∧
        ((r.invQLastModQ.getD i default).operand * (r.baseQ.q (r.baseQ.size - 1)).value) % (r.baseQ.q i).value = 1)
    (hp : p.size = r.baseQ.size) (hn : ∀ i, i < r.baseQ.size → (p.getD i #[]).size = r.n)
    (hc : ∀ i j, i < r.baseQ.size → j < r.n → (p.getD i #[]).getD j 0 < (r.baseQ.q i).value) :
    ∃ out, r.divideAndRoundQLast p = .ok out ∧ ∀ i j, i < r.baseQ.size - 1 → j < r.n →
      (out.getD i #[]).getD j 0 =
        divRoundLastCoeff (r.baseQ.q (r.baseQ.size - 1)).value (r.baseQ.q i).value (r.invQLastModQ.getD i default).operand
          ((p.getD (r.baseQ.size - 1) #[]).getD j 0) ((p.getD i #[]).getD j 0) := HC.divideAndRoundQLast_spec hq hs hinv hp hn hc


/-! ### BEHZ steps: integer lemmas for the per-coefficient formulas the model computes (`…Coeff` in Proofs/C10I.lean,
    tied to the array-level model by the `…_spec` lifting theorems below; statements as formulated and proved there). -/

/-- Montgomery reduction mod q (m̃ = 2^32): m̃ ∣ Y + q·rm, result = ((Y + q·rm)/m̃) mod b_i, rm ∈ [-m̃/2, m̃/2), size bound -/
theorem smMrq_scalar : type_of% @HC.smMrq_scalar := @HC.smMrq_scalar
/-- fast floor: (Y − (x + αQ))/Q = ⌊Y/Q⌋ − α (mod b_i) -/
theorem fastFloor_scalar : type_of% @HC.fastFloor_scalar := @HC.fastFloor_scalar
/-- Shenoy–Kumaresan: exact for 2|V| + 2kB ≤ B·m_sk -/
theorem fastbconvSk_scalar_bound : type_of% @HC.fastbconvSk_scalar_bound := @HC.fastbconvSk_scalar_bound
/-- γ-corrected scale-and-round: returns round(t·x̃/Q) mod t whenever 2γ|e| + 2kQ ≤ Qγ (|e/Q| ≤ 1/2 − k/γ) -/
theorem scaleAndRound_scalar_bound : type_of% @HC.scaleAndRound_scalar_bound := @HC.scaleAndRound_scalar_bound
/-- liftings: the array-level model routines compute exactly these per-coefficient formulas -/
theorem smMrq_spec : type_of% @HC.smMrq_spec := @HC.smMrq_spec
theorem fastFloor_spec : type_of% @HC.fastFloor_spec := @HC.fastFloor_spec
theorem fastbconvSk_spec : type_of% @HC.fastbconvSk_spec := @HC.fastbconvSk_spec
theorem decryptScaleAndRound_spec : type_of% @HC.decryptScaleAndRound_spec := @HC.decryptScaleAndRound_spec
theorem modTAndDivideQLast_spec : type_of% @HC.modTAndDivideQLast_spec := @HC.modTAndDivideQLast_spec

/-- decomposition below the base product (for a single-modulus base the code does not reduce at all, so the statement for
    arbitrary v < 2^(64·size) is false: refuted as `decomposeSpecStatement_false` in Proofs/C10H.lean) -/
theorem decompose_spec_of {b : RNSBase} (hb : b.WF) {v : Nat} (hv : v < 2^(64 * b.size)) (hd : 1 < b.size ∨ v < b.prod) :
    ∃ rs, b.decompose v = .ok rs ∧ rs.size = b.size ∧ ∀ i, i < b.size → rs.getD i 0 = v % (b.q i).value :=
  HC.decompose_spec_of hb hv hd

/-! ### translator tie (TRANSLATOR.md): `Gen/RnsFns.lean` is regenerated from src/util/polysmallmod.rs, src/modulus.rs and src/util/rns.rs
    on every run; the generated functions EQUAL the hand model (statements as proved in Proofs/GenRnsKernels.lean, GenRnsDivide.lean, GenRnsBehz.lean). -/

/-- `Modulus::reduce` -/
theorem gen_modulus_reduce_eq (m : Modulus) (x : Nat) : HC.GenR.modulus_reduce m x = barrett64 x m := HC.gr_modulus_reduce_eq m x
/-- the component-wise helpers of polysmallmod.rs (iterator chains in the source) are `mapM`s of the hand model's word functions -/
theorem gen_modulo_eq (c : List Nat) (m : Modulus) (r : List Nat) (h : r.length = c.length) :
    HC.GenR.modulo c m r = c.mapM (fun x => barrett64 x m) := HC.gr_modulo_eq c m r h
theorem gen_negate_inplace_eq (l : List Nat) (m : Modulus) : HC.GenR.negate_inplace l m = l.mapM (fun x => negateMod x m) := HC.gr_negate_inplace_eq l m
theorem gen_add_scalar_inplace_eq (l : List Nat) (s : Nat) (m : Modulus) :
    HC.GenR.add_scalar_inplace l s m = l.mapM (fun x => addMod x s m) := HC.gr_add_scalar_inplace_eq l s m
theorem gen_sub_scalar_inplace_eq (l : List Nat) (s : Nat) (m : Modulus) :
    HC.GenR.sub_scalar_inplace l s m = l.mapM (fun x => subMod x s m) := HC.gr_sub_scalar_inplace_eq l s m
theorem gen_sub_inplace_eq (a b : List Nat) (m : Modulus) (h : a.length ≤ b.length) :
    HC.GenR.sub_inplace a b m = (List.range' 0 a.length).mapM (fun j => subMod (a.getD j 0) (b.getD j 0) m) := HC.gr_sub_inplace_eq a b m h
theorem gen_multiply_operand_inplace_eq (l : List Nat) (o : MulOperand) (m : Modulus) :
    HC.GenR.multiply_operand_inplace l o m = l.mapM (fun x => mulOperandMod x o m) := HC.gr_multiply_operand_inplace_eq l o m
theorem gen_multiply_scalar_inplace_eq (l : List Nat) (s : Nat) (m : Modulus) :
    HC.GenR.multiply_scalar_inplace l s m = l.mapM (fun x => mulMod x s m) := HC.gr_multiply_scalar_inplace_eq l s m

/-- `RNSTool::divide_and_round_q_last_inplace` generated from the source = `RNSTool.divideAndRoundQLast` on the flat buffer `flatP p`
    (component i, coefficient j at i·n + j).  `self.base_q.len()`, `base_at(i)`, `coeff_count`, `inv_q_last_mod_q[i]` are inputs of the generated
    function, instantiated with the model tool's fields.  No range assumption on the coefficients. -/
theorem gen_divide_and_round_q_last_inplace_eq (r : RNSTool) (p : RnsPoly)
    (hs : 1 ≤ r.baseQ.size) (hq : ∀ i, i < r.baseQ.size → (r.baseQ.q i).WF) (hinv : r.baseQ.size - 1 ≤ r.invQLastModQ.size)
    (hsn : r.baseQ.size * r.n < 2^64) (hs64 : r.baseQ.size < 2^64) (hp : HC.gr_Shape r p) :
    HC.GenR.divide_and_round_q_last_inplace (HC.flatP p) r.baseQ.size r.baseQ.base.toList r.n r.invQLastModQ.toList
      = (r.divideAndRoundQLast p).map HC.flatP := HC.gr_divide_and_round_q_last_inplace_eq r p hs hq hinv hsn hs64 hp

/-- END TO END: the function generated from the Rust source returns, at position i·n + j, the residue mod q_i of the nearest integer to
    X_j / q_last (ties up), for every polynomial holding the canonical residues of integers X_j -/
theorem gen_divide_and_round_q_last_inplace_rounds (r : RNSTool) (p : RnsPoly) (X : Nat → Nat)
    (hq : ∀ i, i < r.baseQ.size → (r.baseQ.q i).WF) (hs : 2 ≤ r.baseQ.size)
    (hinv : ∀ i, i < r.baseQ.size - 1 → WFOp (r.baseQ.q i) (r.invQLastModQ.getD i default) ∧
        ((r.invQLastModQ.getD i default).operand * (r.baseQ.q (r.baseQ.size - 1)).value) % (r.baseQ.q i).value = 1)
    (hinvs : r.baseQ.size - 1 ≤ r.invQLastModQ.size)
    (hsn : r.baseQ.size * r.n < 2^64) (hs64 : r.baseQ.size < 2^64) (hp : HC.gr_Shape r p)
    (hX : ∀ i j, i < r.baseQ.size → j < r.n → (p.getD i #[]).getD j 0 = X j % (r.baseQ.q i).value) :
    ∃ out, HC.GenR.divide_and_round_q_last_inplace (HC.flatP p) r.baseQ.size r.baseQ.base.toList r.n r.invQLastModQ.toList = .ok out ∧
      ∀ i j, i < r.baseQ.size - 1 → j < r.n →
        out.getD (i * r.n + j) 0 = ((X j + (r.baseQ.q (r.baseQ.size - 1)).value / 2) / (r.baseQ.q (r.baseQ.size - 1)).value) % (r.baseQ.q i).value :=
  HC.gr_divide_and_round_q_last_inplace_rounds r p X hq hs hinv hinvs hsn hs64 hp hX

/-- `RNSTool::mod_t_and_divide_q_last_ntt_inplace` generated from the source = `RNSTool.modTAndDivideQLastNtt`; the calls `polymod::intt` /
    `polymod::ntt` with table i are abstract function inputs of the generated code, instantiated with the model's `intt` / `ntt` of `tables[i]` -/
theorem gen_mod_t_and_divide_q_last_ntt_inplace_eq : type_of% @HC.gr_mod_t_and_divide_q_last_ntt_inplace_eq :=
  @HC.gr_mod_t_and_divide_q_last_ntt_inplace_eq

/-- coefficient-form BGV division generated from the source = `RNSTool.modTAndDivideQLast` (the `+=` of the inner loop traps on both sides alike) -/
theorem gen_mod_t_and_divide_q_last_inplace_eq : type_of% @HC.gr_mod_t_and_divide_q_last_inplace_eq := @HC.gr_mod_t_and_divide_q_last_inplace_eq
/-- END TO END (BGV, coefficient form): the generated function returns y mod q_i with y = (X − [X]_{q_L})/q_L − [−X q_L⁻¹]_t and y·q_L ≡ X (mod t) -/
theorem gen_mod_t_and_divide_q_last_inplace_bgv : type_of% @HC.gr_mod_t_and_divide_q_last_inplace_bgv := @HC.gr_mod_t_and_divide_q_last_inplace_bgv
/-- `divide_and_round_q_last_ntt_inplace` generated from the source = `RNSTool.divideAndRoundQLastNtt` (abstract inverse / lazy forward NTT of table i
    instantiated with the model's `intt` / `nttLazy`; only `2^k = n` is used about the tables; no range assumption on the coefficients) -/
theorem gen_divide_and_round_q_last_ntt_inplace_eq : type_of% @HC.gr_divide_and_round_q_last_ntt_inplace_eq := @HC.gr_divide_and_round_q_last_ntt_inplace_eq

/-- BEHZ `sm_mrq` (Montgomery reduction mod q in base Bsk ∪ {m̃}) generated from the source = `RNSTool.smMrq`; destination buffer contents irrelevant;
    every checked operation traps on both sides alike (no well-formedness hypotheses, only shapes / table sizes / buffer length fits a usize) -/
theorem gen_sm_mrq_eq : type_of% @HC.gr_sm_mrq_eq := @HC.gr_sm_mrq_eq
/-- `polysmallmod::multiply_operand` -/
theorem gen_multiply_operand_eq (c : List Nat) (o : MulOperand) (m : Modulus) (r : List Nat) (h : r.length = c.length) :
    HC.GenR.multiply_operand c o m r = c.mapM (fun x => mulOperandMod x o m) := HC.gr_multiply_operand_eq c o m r h
/-- `util::set_uint` on buffers of exactly `len` words -/
theorem gen_set_uint_eq (src tgt : List Nat) (n : Nat) (h1 : src.length = n) (h2 : tgt.length = n) : HC.GenR.set_uint src n tgt = .ok src :=
  HC.gr_set_uint_eq src tgt n h1 h2

/-! ### translator tie: `BaseConverter::fast_convert_array` and the BEHZ routines built on it (Proofs/GenRnsConvert.lean, GenRnsBehz.lean) -/

/-- `BaseConverter::fast_convert_array` generated from the source = `BaseConverter.fastConvertArray` on the flat layout, for every converter built by
    `BaseConverter.new` from well-formed bases, word inputs, and ANY destination buffer of the right shape (every position is written) -/
theorem gen_fast_convert_array_eq : type_of% @HC.gr_fast_convert_array_eq := @HC.gr_fast_convert_array_eq
/-- the same for a converter given by its properties (`gr_ConvOK` is what `BaseConverter.new` establishes: `gen_convOK_new`) -/
theorem gen_fast_convert_array_core : type_of% @HC.gr_fca_core := @HC.gr_fca_core
theorem gen_convOK_new : type_of% @HC.gr_convOK_new := @HC.gr_convOK_new
/-- END TO END with the C10 theorem: the generated function returns `(X_j + α_j·Q) mod p_o` at position `o·n + j`, one `α_j < k` for all output moduli -/
theorem gen_fast_convert_array_crt : type_of% @HC.gr_fast_convert_array_crt := @HC.gr_fast_convert_array_crt
/-- `RNSTool::fast_floor` generated from the source = `RNSTool.fastFloor`; its call of `base_q_to_Bsk_conv.fast_convert_array` is the generated
    `fast_convert_array` on the fields of the model's `qToBsk` (`gr_convF`) -/
theorem gen_fast_floor_eq : type_of% @HC.gr_fast_floor_eq := @HC.gr_fast_floor_eq

/-- END TO END (BEHZ small Montgomery reduction): generated `sm_mrq` composed with `smMrq_spec` and `smMrq_scalar`: position `i·n + j` of ANY destination
    buffer receives `((Y_j + q·r_j)/m̃) mod b_i`, `r_j` the centred representative of `−Y_j·q⁻¹ mod m̃`, and `m̃ ∣ Y_j + q·r_j` -/
theorem gen_sm_mrq_montgomery : type_of% @HC.gr_sm_mrq_montgomery := @HC.gr_sm_mrq_montgomery

/-! ### translator tie: `RNSTool::decrypt_scale_and_round` (Proofs/GenRnsDecrypt.lean, GenRnsBehz.lean) -/

/-- `RNSTool::decrypt_scale_and_round` generated from the source = `RNSTool.decryptScaleAndRound`; flat input of `|q|` components, ANY destination of `n`
    words; the `Option` fields are `Some`, `base_t_gamma = [t, γ]`; its call `base_q_to_t_gamma_conv.as_ref().unwrap().fast_convert_array(..)` is the
    generated `fast_convert_array` on the fields of the model's `qToTGamma`; the γ-correction traps on both sides alike -/
theorem gen_decrypt_scale_and_round_eq : type_of% @HC.gr_decrypt_scale_and_round_eq := @HC.gr_decrypt_scale_and_round_eq
/-- the two operand vectors `decrypt_scale_and_round` indexes have the lengths `RNSTool.new` gives them -/
theorem gen_dsr_sizes_of_new : type_of% @HC.gr_dsr_sizes_of_new := @HC.gr_dsr_sizes_of_new
/-- END TO END (BEHZ scale-and-round, BFV decryption): on a level whose tool is the level's BEHZ tool (`DecOK`), for every canonical input whose
    coefficient `j` has CRT value `X j < Q`, the GENERATED function returns word `j` = `round(t·x̃_j/Q) mod t` (x̃ centred) under the γ-condition
    `2γ|t·x̃ − Q·round(t·x̃/Q)| + 2kQ ≤ Qγ`; the destination buffer's old contents are irrelevant -/
theorem gen_decrypt_scale_and_round_rounds {l : Level} (hd : DecOK l) {ph : RnsPoly} (hph : RnsCanon l ph) (dst : Poly) (hdst : dst.size = l.n)
    (hops : l.tool.baseQ.size ≤ l.tool.prodTGammaModQ.size) (hnops : 2 ≤ l.tool.negInvQModTGamma.size)
    (hsn : l.size * l.n < 2^64) (h2n : 2 * l.n < 2^64) (hs64 : l.size < 2^64)
    (X : Nat → Nat)
    (hX : ∀ j, j < l.n → X j < l.tool.baseQ.prod ∧ ∀ i, i < l.size → X j % (l.q i).value = (ph.getD i #[]).getD j 0)
    (hnoise : ∀ j, j < l.n →
      2 * (l.tool.gamma.value : Int) *
          |(l.t.value : Int) * Spec.centred (X j) l.tool.baseQ.prod
            - (l.tool.baseQ.prod : Int) * Spec.roundDiv ((l.t.value : Int) * Spec.centred (X j) l.tool.baseQ.prod) l.tool.baseQ.prod|
        + 2 * (l.size : Int) * (l.tool.baseQ.prod : Int)
      ≤ (l.tool.baseQ.prod : Int) * (l.tool.gamma.value : Int)) :
    ∃ btg conv ig, l.tool.baseTGamma = some btg ∧ l.tool.qToTGamma = some conv ∧ l.tool.invGammaModT = some ig ∧
    ∃ out, HC.GenR.decrypt_scale_and_round (HC.flatP ph) dst.toList l.tool.baseQ.size l.tool.baseQ.base.toList btg.size btg.base.toList l.tool.n
        l.tool.prodTGammaModQ.toList l.tool.negInvQModTGamma.toList l.tool.t l.tool.gamma ig (HC.gr_convF conv) = .ok out ∧
      out.length = l.n ∧ ∀ j, j < l.n →
        out.getD j 0 = Spec.imod (Spec.roundDiv ((l.t.value : Int) * Spec.centred (X j) l.tool.baseQ.prod) l.tool.baseQ.prod) l.t.value :=
  HC.gr_decrypt_scale_and_round_rounds hd hph dst hdst hops hnops hsn h2n hs64 X hX hnoise

/-- `RNSTool::fastbconv_sk` (Shenoy–Kumaresan conversion Bsk → q) generated from the source = `RNSTool.fastbconvSk`; flat input of `|B| + 1` components, ANY
    destination of `|q|` components; its two receiver calls are the generated `fast_convert_array` on the model's `bToQ` / `bToMsk`; the element borrow
    `let dest = &mut destination[i * coeff_count + j]` is read as index + in-place access; every checked operation traps on both sides alike -/
theorem gen_fastbconv_sk_eq : type_of% @HC.gr_fastbconv_sk_eq := @HC.gr_fastbconv_sk_eq
/-- END TO END (exact window): if coefficient `j` holds the residues of an integer `V j` modulo the primes of `B` and modulo `m_sk` and
    `2|V j| + 2·|B|·prod(B) ≤ prod(B)·m_sk`, the GENERATED `fastbconv_sk` writes `V j mod q_i` at position `i·n + j` of any destination buffer -/
theorem gen_fastbconv_sk_exact : type_of% @HC.gr_fastbconv_sk_exact := @HC.gr_fastbconv_sk_exact

/-- BRIDGE between the two generated files: `polymod::multiply_scalar_p` (generated into `Gen/PolyFns.lean`, block form `gen_poly_multiply_scalar_p_blocks`
    of C02) on a flat buffer of `sq` components into a zeroed scratch buffer = component-wise `mulMod · s q_i` -/
theorem gen_multiply_scalar_p_components : type_of% @HC.gr_msp_list := @HC.gr_msp_list
/-- `RNSTool::fastbconv_m_tilde` generated from the source = `RNSTool.fastbconvMTilde`; it calls the GENERATED `multiply_scalar_p` and twice the generated
    `fast_convert_array` (on the model's `qToBsk`, `qToMt`), each conversion writing a sub-slice of ANY destination buffer of `|Bsk| + 1` components -/
theorem gen_fastbconv_m_tilde_eq : type_of% @HC.gr_fastbconv_m_tilde_eq := @HC.gr_fastbconv_m_tilde_eq
/-- END TO END: all `|Bsk| + 1` outputs of the generated `fastbconv_m_tilde` are residues of ONE integer `[m̃·X_j]_Q + α_j·Q`, `α_j < |q|` -/
theorem gen_fastbconv_m_tilde_crt : type_of% @HC.gr_fastbconv_m_tilde_crt := @HC.gr_fastbconv_m_tilde_crt

/-! ### translator tie: `RNSBase::decompose`, `decompose_array` (Proofs/GenRnsCompose.lean) -/

/-- `RNSBase::decompose` generated from the source = `RNSBase.decompose` on the value of the limbs (non-empty base: for the empty base, which
    `RNSBase::new` refuses, the code returns the empty buffer and the model `#[v]`) -/
theorem gen_rnsbase_decompose_eq : type_of% @HC.gr_rnsbase_decompose_eq := @HC.gr_rnsbase_decompose_eq
/-- a value buffer whose length differs from the base's is refused (`assert_eq!`) -/
theorem gen_rnsbase_decompose_refuses : type_of% @HC.gr_rnsbase_decompose_refuses := @HC.gr_rnsbase_decompose_refuses
/-- END TO END with `decompose_spec_of`: the generated `decompose` returns the residues `x mod q_i` -/
theorem gen_rnsbase_decompose_residues : type_of% @HC.gr_rnsbase_decompose_residues := @HC.gr_rnsbase_decompose_residues
/-- `RNSBase::decompose_array` generated from the source (`iter().enumerate()`, `chunks(size).enumerate()` read as index loops): component `i` of the
    result = `modulo_uint(value_j, q_i)`, `j < count` -/
theorem gen_rnsbase_decompose_array_eq : type_of% @HC.gr_rnsbase_decompose_array_eq := @HC.gr_rnsbase_decompose_array_eq
/-- END TO END: position `i·count + j` = `value_j mod q_i` -/
theorem gen_rnsbase_decompose_array_residues : type_of% @HC.gr_rnsbase_decompose_array_residues := @HC.gr_rnsbase_decompose_array_residues

/-! ### translator tie: `BaseConverter::exact_convey_array`, `RNSTool::decrypt_mod_t` (floats erased; Proofs/GenRnsDecrypt.lean, GenRnsBehz.lean) -/

/-- `BaseConverter::exact_convey_array` generated from the source — its f64 pipeline replaced by the abstract function input `roundQ : List Nat → Nat` of
    the scaled residues of one coefficient (table-declared reading, pinned to the exact float statements) — = the model's `exactConvey` on every
    column, PROVIDED `roundQ` returns a u64 equal to the exact rational rounding `exactRound` on every coefficient -/
theorem gen_exact_convey_array_eq : type_of% @HC.gr_exact_convey_array_eq := @HC.gr_exact_convey_array_eq
/-- `RNSTool::decrypt_mod_t` generated from the source = `RNSTool.decryptModT` (same proviso) -/
theorem gen_decrypt_mod_t_eq : type_of% @HC.gr_decrypt_mod_t_eq := @HC.gr_decrypt_mod_t_eq
/-- END TO END (BGV decryption): the generated `decrypt_mod_t` returns the centred residue of `X j` modulo t (composition with C01's
    `c01p_decryptModT_of_crt`), same proviso about the floating-point rounding -/
theorem gen_decrypt_mod_t_centred : type_of% @HC.gr_decrypt_mod_t_centred := @HC.gr_decrypt_mod_t_centred

/-- END TO END (BEHZ fast floor): the generated `fast_floor` writes `(⌊Y_j/Q⌋ − α_j) mod b_i` at `i·n + j` of ANY destination
    buffer, ONE `α_j ∈ [0, |q|)` for all `b_i ∈ Bsk` (composition of `gen_fast_floor_eq` with `fastFloor_spec`, `fastFloor_scalar`, `RNSH.crt_sum`) -/
theorem gen_fast_floor_floor : type_of% @HC.gr_fast_floor_floor := @HC.gr_fast_floor_floor

/-- called by `RNSBase::compose`: the C08 word-layer function `util::multiply_uint_u64` (src/util/basic.rs)
    generated from the source = the hand model `multiplyUintU64`, for EVERY operand, word and result buffer (zero operand / one-word result / limb loop
    with the final carry) -/
theorem gen_multiply_uint_u64_eq (a : List Nat) (w : Nat) (r : List Nat) : HC.GenR.multiply_uint_u64 a w r = multiplyUintU64 a w r.length :=
  HC.gr_multiply_uint_u64_eq a w r

/-! ### translator tie: `RNSBase::compose` (generated into Gen/Rns2Fns.lean; Proofs/GenRnsCompose.lean) -/

/-- `RNSBase::compose` generated from the source (calls the generated `multiply_uint_u64`, `add_uint_mod_inplace`, `multiply_u64operand_mod`) = the hand
    model's value-level `RNSBase.compose` on a well-formed base: the limbs left in `value` are the limbs of the model's value -/
theorem gen_rnsbase_compose_eq : type_of% @HC.gr_rnsbase_compose_eq := @HC.gr_rnsbase_compose_eq
/-- END TO END with `compose_spec`: for canonical residues the generated `compose` returns the limbs of THE integer below the product with these residues -/
theorem gen_rnsbase_compose_crt : type_of% @HC.gr_rnsbase_compose_crt := @HC.gr_rnsbase_compose_crt
/-- decompose ∘ compose = id on the GENERATED code -/
theorem gen_decompose_compose : type_of% @HC.gr_decompose_compose_gen := @HC.gr_decompose_compose_gen

end HC.C10
