import Heathcliff.Gen.ContextFns
import Heathcliff.Proofs.GenBase
import Heathcliff.Proofs.C13Chain

/-!
  Translator tie: `HeContext::create_next_context_data` (src/context.rs) as a decision skeleton over prime counts
  (Gen/ContextFns.lean `GenX.create_next_context_data`), against the model's `createNext`; and the shape of the chain the model's `Context.new`
  builds: the level at position `i` carries the first `K − i` primes and `prime count − 1 = chain_index + (K − L)`.  Helper names `gcx_`.
  The skeleton does not run `validate`: it takes the ORACLE LIST `valid`, where `valid[k] ≠ 0` stands for "`validate` of the parameters with the
  first `k` primes sets `parameters_set`".  The hypotheses `hval` / `hk` of the theorems state exactly this reading of the entries the call looks at.
-/
namespace HC
open HC.GenW HC.Ctx HC.Ctx.Chain

/-- what `create_next_context_data` reports for the model's outcome: (trace of created levels, prime count of the new level or 0 = `PARMS_ID_ZERO`) -/
def gcx_nextResult (chain : List Nat) : Option ContextData → List Nat × Nat
  | some c => (chain ++ [c.parms.q.length], c.parms.q.length)
  | none => (chain, 0)

theorem gcx_create_next_eq {isPrime : Nat → Bool} {prev : Params} {sec : SecLevel} {o : Option ContextData}
    (h : createNext isPrime prev sec = .ok o) {valid : List Nat} (hv : prev.q.length - 1 < valid.length)
    (hval : valid.getD (prev.q.length - 1) 0 ≠ 0 ↔ ∃ c, validate isPrime (dropLastP prev) sec = .ok c ∧ c.valid = true) (chain : List Nat) :
    GenX.create_next_context_data prev.q.length valid chain = .ok (gcx_nextResult chain o) := by
  obtain ⟨hlen, c, hc, ho⟩ := createNext_ok h
  have hcq : c.parms.q.length = prev.q.length - 1 := by
    rw [validate_parms hc]; simp [dropLastP, List.length_dropLast]
  unfold GenX.create_next_context_data
  have hsub : ckSub prev.q.length 1 = .ok (prev.q.length - 1) := ckSub_of_le (by omega)
  have hge : prev.q.length - 1 ≥ 1 := by omega
  have hget : valid.getD (prev.q.length - 1) 0 = valid[prev.q.length - 1] := by simp [List.getD, hv]
  simp only [hsub, bind, Except.bind, if_pos hge, GenW.idx_ok valid hv, pure, Except.pure]
  rw [hget] at hval
  subst ho
  by_cases hcv : c.valid = true
  · have hne : valid[prev.q.length - 1] ≠ 0 := hval.mpr ⟨c, hc, hcv⟩
    rw [if_pos hcv]
    simp [gcx_nextResult, hne, hcq]
  · have hz : ¬ valid[prev.q.length - 1] ≠ 0 := by
      intro hne
      obtain ⟨c', hc', hv'⟩ := hval.mp hne
      rw [hc] at hc'; cases hc'; exact hcv hv'
    rw [if_neg hcv]
    simp only [gcx_nextResult, if_pos hz]

theorem gcx_create_next_refuses (valid chain : List Nat) : GenX.create_next_context_data 1 valid chain = .error .refused := rfl

theorem gcx_chain_level_primes {isPrime : Nat → Bool} {p : Params} {expand : Bool} {sec : SecLevel} {x : Context}
    (h : Context.new isPrime p expand sec = .ok x) (hK : 1 ≤ p.q.length) {i : Nat} {c : ContextData} (hi : x.levels[i]? = some c) :
    c.parms = { p with q := p.q.take (p.q.length - i) } ∧ c.parms.q.length = p.q.length - i ∧ i < p.q.length ∧
    x.levels.length ≤ p.q.length ∧
    c.parms.q.length - 1 = x.chainIndex i + (p.q.length - x.levels.length) := by
  have key : ∀ {i c}, x.levels[i]? = some c → c.parms = keep p (p.q.length - i) ∧ i < p.q.length := fun hi => by
    obtain ⟨hv, hpos⟩ := chain_levels h _ _ hi
    exact ⟨validate_parms hv, (Nat.eq_zero_or_pos _).elim (fun h0 => by omega) fun h0 => (hpos h0).2⟩
  obtain ⟨hp, hlt⟩ := key hi
  have hiL : i < x.levels.length := by
    rcases Nat.lt_or_ge i x.levels.length with hlt | hge
    · exact hlt
    · rw [List.getElem?_eq_none hge] at hi; cases hi
  have hL : x.levels.length ≤ p.q.length := by
    have := (key (List.getElem?_eq_getElem (show x.levels.length - 1 < x.levels.length by omega))).2
    omega
  have hlen : c.parms.q.length = p.q.length - i := by rw [hp]; exact keep_length (Nat.sub_le _ _)
  refine ⟨hp, hlen, hlt, hL, ?_⟩
  rw [hlen]; unfold Context.chainIndex; omega

theorem gcx_chain_from_first {isPrime : Nat → Bool} {p : Params} {expand : Bool} {sec : SecLevel} {x : Context}
    (h : Context.new isPrime p expand sec = .ok x) (hK : 1 ≤ p.q.length) {j : Nat} {f c : ContextData}
    (hf : x.levels[x.firstIdx]? = some f) (hc : x.levels[x.firstIdx + j]? = some c) :
    c.parms.q = f.parms.q.take (f.parms.q.length - j) ∧ c.parms.q.length = f.parms.q.length - j := by
  obtain ⟨hf1, hf2, _⟩ := gcx_chain_level_primes h hK hf
  obtain ⟨hc1, hc2, _⟩ := gcx_chain_level_primes h hK hc
  rw [hc2, hf2, Nat.sub_sub]
  refine ⟨?_, rfl⟩
  rw [hc1, hf1]
  show p.q.take _ = (p.q.take _).take _
  rw [List.take_take, Nat.min_eq_left (Nat.sub_le_sub_left (Nat.le_add_right _ _) _)]

theorem gcx_new_first_eq {isPrime : Nat → Bool} {p : Params} {sec : SecLevel} {key : ContextData} {o : Option ContextData}
    (ho : (if !key.valid || p.q.length == 1 || p.special then (pure none : R (Option ContextData)) else createNext isPrime p sec) = .ok o)
    {valid : List Nat} (hv : p.q.length < valid.length)
    (hk : valid.getD p.q.length 0 ≠ 0 ↔ key.valid = true)
    (hval : valid.getD (p.q.length - 1) 0 ≠ 0 ↔ ∃ c, validate isPrime (dropLastP p) sec = .ok c ∧ c.valid = true) (chain : List Nat) :
    GenX.new_first p.q.length valid p.special chain = .ok (gcx_nextResult chain o).1 := by
  have hget : valid.getD p.q.length 0 = valid[p.q.length] := by simp [List.getD, hv]
  rw [hget] at hk
  unfold GenX.new_first
  simp only [GenW.idx_ok valid hv, bind, Except.bind]
  by_cases hc : (!key.valid || p.q.length == 1 || p.special) = true
  · rw [if_pos hc] at ho
    cases ho
    have hcond : (¬ valid[p.q.length] ≠ 0 ∨ p.q.length = 1) ∨ p.special = true := by
      simp only [Bool.or_eq_true, Bool.not_eq_true', beq_iff_eq] at hc
      rcases hc with (h1 | h1) | h1
      · left; left; intro hne; have := hk.mp hne; rw [h1] at this; cases this
      · left; right; exact h1
      · right; exact h1
    rw [if_pos hcond]
    rfl
  · rw [if_neg hc] at ho
    have hcond : ¬ ((¬ valid[p.q.length] ≠ 0 ∨ p.q.length = 1) ∨ p.special = true) := by
      simp only [Bool.or_eq_true, Bool.not_eq_true', beq_iff_eq, not_or] at hc
      obtain ⟨⟨h1, h2⟩, h3⟩ := hc
      have hkv : key.valid = true := by cases hkv' : key.valid <;> simp_all
      rintro ((h | h) | h)
      · exact h (hk.mpr hkv)
      · exact h2 h
      · exact h3 h
    rw [if_neg hcond, gcx_create_next_eq ho (by omega) hval chain]
    rfl

end HC
