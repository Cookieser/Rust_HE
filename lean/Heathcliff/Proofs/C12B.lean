/- C12 part B: the slot index map of `CKKSEncoder::new` is a permutation of [0, N) placing slot i at the network position of
   the evaluation point psi^(3^i) and slot i + N/2 at that of its conjugate; the 8-fold symmetry reduction of
   `ComplexRoots::get_root` returns zeta^j.

   The index map is the batch encoder's (`indexMap_eq_batch`); its facts are those of `batchIndexMap` in C11N. -/
import Heathcliff.Model.CkksEncoder
import Heathcliff.Proofs.C11N
import Mathlib.Data.ZMod.Basic
import Mathlib.Algebra.Star.Basic
import Mathlib.Tactic.Ring
import Mathlib.Tactic.Linarith
namespace HC
open Ckks

/-- the exponent of slot i: 3^i for the first row, −3^(i − N/2) for the second (mod 2N) -/
def c12_slotExp (k i : Nat) : Nat :=
  let n := 2^k; let m := 2 * n; let row := n / 2
  if i < row then 3 ^ i % m else (m - 3 ^ (i - row) % m) % m

/-! ### the slot exponents are those of the batch encoder (C11N)

    `c12_slotExp` is written out a second time because the statements of Props/C12 name it; it IS `slotExp` (`c12_slotExp_eq`, by `rfl`), and
    proofs go over to C11N's facts through that equation.  The `c12b_` restatements below are end results Props/C12 lists under these names. -/

theorem c12_slotExp_eq : c12_slotExp = slotExp := rfl

theorem c12b_slotExp_cast_lo {k i : Nat} (hi : i < 2^k/2) : ((c12_slotExp k i : Nat) : ZMod (2*2^k)) = 3^i :=
  c11n_slotExp_cast_lo hi

theorem c12b_slotExp_cast_hi {k i : Nat} (hi : ¬ i < 2^k/2) :
    ((c12_slotExp k i : Nat) : ZMod (2*2^k)) = - 3^(i - 2^k/2) :=
  c11n_slotExp_cast_hi hi

theorem c12b_cast_pred (k : Nat) : ((2 * 2^k - 1 : Nat) : ZMod (2*2^k)) = -1 := c11n_cast_pred k

theorem c12b_mod_of_cast {m a b : Nat} (hb : b < m) (h : ((a : Nat) : ZMod m) = (b : ZMod m)) : a % m = b :=
  c11n_mod_of_cast hb h

theorem c12_slotExp_injective {k i j : Nat} (hk : 1 ≤ k) (hi : i < 2^k) (hj : j < 2^k) (h : c12_slotExp k i = c12_slotExp k j) : i = j :=
  slotExp_injective hk hi hj h

/-! ### the CKKS index map -/

/-- one step of the fold in `Ckks.indexMap`, as coded: like `c11n_step` of the batch encoder with `i ||| N/2` for `i + N/2` and the literal 3 -/
def c12b_stepOr (k : Nat) (acc : Array Nat × Nat) (i : Nat) : Array Nat × Nat :=
  ((acc.1.setIfInBounds i (brev k ((acc.2 - 1)/2))).setIfInBounds (i ||| 2^k/2) (brev k ((2*2^k - acc.2 - 1)/2)),
    (acc.2 * 3) % (2*2^k))

theorem c12b_indexMap_eq (k : Nat) :
    indexMap k = ((List.range (2^k/2)).foldl (c12b_stepOr k) (Array.replicate (2^k) 0, 1)).1 := rfl

theorem c12b_or_eq_add {k i : Nat} (hk : 1 ≤ k) (hi : i < 2^k/2) : i ||| 2^k/2 = i + 2^k/2 := by
  obtain ⟨j, rfl⟩ : ∃ j, k = j + 1 := ⟨k - 1, by omega⟩
  have e1 : 2^(j+1)/2 = 2^j := by rw [pow_succ]; omega
  rw [e1] at hi ⊢
  have h := Nat.two_pow_add_eq_or_of_lt hi 1
  rw [Nat.mul_one] at h
  rw [Nat.or_comm, Nat.add_comm]
  exact h.symm

/-- the CKKS index map is the batch encoder's (same loop; `i | slots` = `i + slots` for i < slots) -/
theorem indexMap_eq_batch (k : Nat) (hk : 1 ≤ k) : indexMap k = batchIndexMap k := by
  rw [c12b_indexMap_eq, c11n_map_eq]
  congr 1
  refine foldl_congr _ fun i hi a => ?_
  have hi' : i < 2^k/2 := by simpa using hi
  unfold c12b_stepOr c11n_step
  rw [c12b_or_eq_add hk hi']
  rfl

/-- entry i of the index map is brev((slotExp i − 1)/2), the network position holding the evaluation at psi^(slotExp i) -/
theorem indexMap_spec {k i : Nat} (hk : 1 ≤ k) (hi : i < 2^k) :
    (indexMap k).size = 2^k ∧ (indexMap k).getD i 0 = brev k ((c12_slotExp k i - 1) / 2) ∧
    c12_slotExp k i % 2 = 1 ∧ c12_slotExp k i < 2 * 2^k := by
  rw [indexMap_eq_batch k hk]; exact batchIndexMap_spec hk hi

/-- the second row holds the conjugate evaluation points -/
theorem c12_slotExp_conj {k i : Nat} (hi : i < 2^k / 2) :
    c12_slotExp k (i + 2^k / 2) = 2 * 2^k - c12_slotExp k i := by
  rw [c12_slotExp_eq, c11n_slotExp_hi (by omega), c11n_slotExp_lo hi, Nat.add_sub_cancel]

/-- the index map is a permutation of [0, N): range, injective, surjective -/
theorem indexMap_perm {k : Nat} (hk : 1 ≤ k) :
    (∀ i, i < 2^k → (indexMap k).getD i 0 < 2^k) ∧
    (∀ i j, i < 2^k → j < 2^k → (indexMap k).getD i 0 = (indexMap k).getD j 0 → i = j) ∧
    (∀ p, p < 2^k → ∃ i, i < 2^k ∧ (indexMap k).getD i 0 = p) := by
  rw [indexMap_eq_batch k hk]
  obtain ⟨h1, h2⟩ := batchIndexMap_perm hk
  exact ⟨h1, h2, c11n_surj _ h1 h2⟩

theorem c12b_conj_pos {n e : Nat} (ho : e % 2 = 1) (hl : e < 2 * n) : (2 * n - e - 1) / 2 = n - 1 - (e - 1) / 2 := by omega

/-- slot i + N/2 sits at the conjugate position of slot i -/
theorem indexMap_conj {k i : Nat} (hk : 1 ≤ k) (hi : i < 2^k / 2) :
    (indexMap k).getD (i + 2^k / 2) 0 = brev k (2^k - 1 - brev k ((indexMap k).getD i 0)) := by
  have e2 := c11n_two_row hk
  obtain ⟨_, a1, a2, a3⟩ := indexMap_spec hk (show i < 2^k by omega)
  obtain ⟨_, b1, _, _⟩ := indexMap_spec hk (show i + 2^k/2 < 2^k by omega)
  rw [b1, a1, brev_brev (c11n_half_odd a2 a3).1, c12_slotExp_conj hi, c12b_conj_pos a2 a3]

/-! ### get_root -/
variable {K : Type} [CommRing K] [StarRing K]

/-- meaning of a selection on ring elements: `mirror z` = (im z, re z) = I · star z;  (−re, im) = −star;  (re, −im) = star -/
def c12_selVal (I : K) (table : Nat → K) (s : RootSel) : K :=
  let w := if s.swap then I * star (table s.idx) else table s.idx
  if s.negRe then (if s.negIm then -w else -(star w)) else (if s.negIm then star w else w)

theorem c12_selVal_conj (I : K) (table : Nat → K) (s : RootSel) : c12_selVal I table s.conj = star (c12_selVal I table s) := by
  rcases s with ⟨idx, sw, nr, ni⟩
  cases sw <;> cases nr <;> cases ni <;> simp [c12_selVal, RootSel.conj]

theorem c12_selVal_neg (I : K) (table : Nat → K) (s : RootSel) : c12_selVal I table s.neg = -(c12_selVal I table s) := by
  rcases s with ⟨idx, sw, nr, ni⟩
  cases sw <;> cases nr <;> cases ni <;> simp [c12_selVal, RootSel.neg]

theorem c12b_conj_idx (s : RootSel) : s.conj.idx = s.idx := rfl
theorem c12b_neg_idx (s : RootSel) : s.neg.idx = s.idx := rfl

theorem c12b_getRootSel_succ (m f index : Nat) : getRootSel m (f+1) index =
    if index % m ≤ m / 8 then .ok ⟨index % m, false, false, false⟩
    else if index % m ≤ m / 4 then .ok ⟨m / 4 - index % m, true, false, false⟩
    else if index % m < m / 2 then (getRootSel m f (m / 2 - index % m)) >>= fun s => pure s.conj.neg
    else if index % m ≤ 3 * m / 4 then (getRootSel m f (index % m - m / 2)) >>= fun s => pure s.neg
    else (getRootSel m f (m - index % m)) >>= fun s => pure s.conj := rfl

theorem c12b_pow_cancel {ζ : K} (hu : ζ * star ζ = 1) {a b : Nat} (h : b ≤ a) : ζ^a * (star ζ)^(a - b) = ζ^b := by
  obtain ⟨c, rfl⟩ : ∃ c, a = b + c := ⟨a - b, by omega⟩
  rw [Nat.add_sub_cancel_left, pow_add, mul_assoc, ← mul_pow, hu, one_pow, mul_one]

omit [StarRing K] in
theorem c12b_pow_mod {ζ : K} {m : Nat} (h1 : ζ^m = 1) (j : Nat) : ζ^(j % m) = ζ^j := by
  conv_rhs => rw [← Nat.div_add_mod j m]
  rw [pow_add, pow_mul, h1, one_pow, one_mul]

/-- `index &= m - 1` -/
theorem c12b_getRootSel_mod (m f j : Nat) : getRootSel m (f+1) (j % m) = getRootSel m (f+1) j := by
  rw [c12b_getRootSel_succ m f (j % m), Nat.mod_mod, ← c12b_getRootSel_succ]

/-- one step of `get_root` for m = 8g on a reduced index: the octant ranges without the divisions -/
theorem c12b_getRootSel_step (g f idx : Nat) (hlt : idx < 8*g) : getRootSel (8*g) (f+1) idx =
    if idx ≤ g then .ok ⟨idx, false, false, false⟩
    else if idx ≤ 2*g then .ok ⟨2*g - idx, true, false, false⟩
    else if idx < 4*g then (getRootSel (8*g) f (4*g - idx)) >>= fun s => pure s.conj.neg
    else if idx ≤ 6*g then (getRootSel (8*g) f (idx - 4*g)) >>= fun s => pure s.neg
    else (getRootSel (8*g) f (8*g - idx)) >>= fun s => pure s.conj := by
  rw [c12b_getRootSel_succ, Nat.mod_eq_of_lt hlt, show 8*g/8 = g by omega, show 8*g/4 = 2*g by omega, show 8*g/2 = 4*g by omega,
    show 3*(8*g)/4 = 6*g by omega]

/-- depth 1: arguments ≤ m/4 are answered without recursion -/
theorem c12b_getRoot_low (g : Nat) (ζ I : K) (hI : ζ^(2*g) = I) (hu : ζ * star ζ = 1)
    (f idx : Nat) (hg : 0 < g) (hidx : idx ≤ 2 * g) :
    ∃ s, getRootSel (8*g) (f+1) idx = .ok s ∧ s.idx ≤ g ∧ c12_selVal I (fun i => ζ^i) s = ζ^idx := by
  rw [c12b_getRootSel_step g f idx (by omega)]
  by_cases h1 : idx ≤ g
  · rw [if_pos h1]
    exact ⟨_, rfl, h1, by simp [c12_selVal]⟩
  · rw [if_neg h1, if_pos hidx]
    refine ⟨_, rfl, by show 2*g - idx ≤ g; omega, ?_⟩
    simp only [c12_selVal, if_true, Bool.false_eq_true, if_false]
    rw [star_pow, ← hI]
    exact c12b_pow_cancel hu hidx

/-- depth 2: the other three quadrants are reflected into the first -/
theorem c12b_getRoot_full (g : Nat) (ζ I : K) (hI : ζ^(2*g) = I) (hI2 : I * I = -1) (hu : ζ * star ζ = 1)
    (f j : Nat) (hg : 0 < g) :
    ∃ s, getRootSel (8*g) (f+2) j = .ok s ∧ s.idx ≤ g ∧ c12_selVal I (fun i => ζ^i) s = ζ^j := by
  have h4 : ζ^(4*g) = -1 := by
    rw [show 4*g = 2*g + 2*g by omega, pow_add, hI, hI2]
  have h8 : ζ^(8*g) = 1 := by
    rw [show 8*g = 4*g + 4*g by omega, pow_add, h4, neg_mul_neg, one_mul]
  have hlt : j % (8*g) < 8*g := Nat.mod_lt _ (by omega)
  rw [← c12b_pow_mod h8 j, ← c12b_getRootSel_mod]
  generalize j % (8*g) = idx at hlt
  by_cases h2 : idx ≤ 2*g
  · exact c12b_getRoot_low g ζ I hI hu (f+1) idx hg h2
  rw [c12b_getRootSel_step g (f+1) idx hlt, if_neg (by omega), if_neg h2]
  by_cases h3 : idx < 4*g
  · rw [if_pos h3]
    obtain ⟨s, hs, hs1, hs2⟩ := c12b_getRoot_low g ζ I hI hu f (4*g - idx) hg (by omega)
    refine ⟨s.conj.neg, by rw [hs]; rfl, hs1, ?_⟩
    rw [c12_selVal_neg, c12_selVal_conj, hs2, star_pow, ← c12b_pow_cancel hu h3.le, h4, neg_mul, one_mul]
  rw [if_neg h3]
  by_cases h5 : idx ≤ 6*g
  · rw [if_pos h5]
    obtain ⟨s, hs, hs1, hs2⟩ := c12b_getRoot_low g ζ I hI hu f (idx - 4*g) hg (by omega)
    refine ⟨s.neg, by rw [hs]; rfl, hs1, ?_⟩
    rw [c12_selVal_neg, hs2]
    conv_rhs => rw [show idx = 4*g + (idx - 4*g) by omega, pow_add, h4]
    rw [neg_mul, one_mul]
  · rw [if_neg h5]
    obtain ⟨s, hs, hs1, hs2⟩ := c12b_getRoot_low g ζ I hI hu f (8*g - idx) hg (by omega)
    refine ⟨s.conj, by rw [hs]; rfl, hs1, ?_⟩
    rw [c12_selVal_conj, hs2, star_pow, ← c12b_pow_cancel hu hlt.le, h8, one_mul]

/-- for m = 2^t ≥ 8 and EVERY index j (masking included) the index reduction of `get_root` succeeds within recursion depth 3,
    uses a stored octant entry (idx ≤ m/8) and, given exact octant values zeta^i, returns zeta^j.
    zeta is any element with zeta^(m/4) = I, I² = −1, zeta·star zeta = 1 (over ℂ: exp(2πi/m)). -/
theorem getRootSel_spec (t : Nat) (ht : 3 ≤ t) (ζ I : K) (hI : ζ^(2^t / 4) = I) (hI2 : I * I = -1) (hu : ζ * star ζ = 1) (j : Nat) :
    ∃ s, getRootSel (2^t) 3 j = .ok s ∧ s.idx ≤ 2^t / 8 ∧ c12_selVal I (fun i => ζ^i) s = ζ^j := by
  obtain ⟨u, rfl⟩ : ∃ u, t = u + 3 := ⟨t - 3, by omega⟩
  have e : 2^(u+3) = 8 * 2^u := by ring
  have hg : 0 < 2^u := Nat.two_pow_pos u
  rw [e] at hI ⊢
  have e4 : 8 * 2^u / 4 = 2 * 2^u := by omega
  have e8 : 8 * 2^u / 8 = 2^u := by omega
  rw [e4] at hI
  rw [e8]
  exact c12b_getRoot_full (2^u) ζ I hI hI2 hu 1 j hg

/-- the tables of `CKKSEncoder::new` are the ones the network theorems ask for (N = 2^k ≥ 4, psi = zeta, m = 2N) -/
theorem rootPowerSel_spec (k : Nat) (hk : 2 ≤ k) (ζ I : K) (hI : ζ^(2 * 2^k / 4) = I) (hI2 : I * I = -1) (hu : ζ * star ζ = 1) (i : Nat) :
    ∃ s, rootPowerSel k i = .ok s ∧ s.idx ≤ 2 * 2^k / 8 ∧ c12_selVal I (fun i => ζ^i) s = ζ^(brev k i) := by
  have e : 2 * 2^k = 2^(k+1) := by ring
  unfold rootPowerSel
  rw [e] at hI ⊢
  exact getRootSel_spec (k+1) (by omega) ζ I hI hI2 hu (brev k i)

theorem invRootPowerSel_spec (k : Nat) (hk : 2 ≤ k) (ζ I : K) (hI : ζ^(2 * 2^k / 4) = I) (hI2 : I * I = -1) (hu : ζ * star ζ = 1) (i : Nat) :
    ∃ s, invRootPowerSel k i = .ok s ∧ s.idx ≤ 2 * 2^k / 8 ∧ c12_selVal I (fun i => ζ^i) s = (star ζ)^(brev k (i - 1) + 1) := by
  have e : 2 * 2^k = 2^(k+1) := by ring
  unfold invRootPowerSel
  rw [e] at hI ⊢
  obtain ⟨s, hs, hs1, hs2⟩ := getRootSel_spec (k+1) (by omega) ζ I hI hI2 hu (brev k (i - 1) + 1)
  refine ⟨s.conj, by rw [hs]; rfl, hs1, ?_⟩
  rw [c12_selVal_conj, hs2, star_pow]

/-- non-vacuity: m = 8, j = 3 is −conj(get_root(1)): stored entry 1, re negated -/
example : getRootSel 8 3 3 = .ok ⟨1, false, true, false⟩ := by decide

end HC
