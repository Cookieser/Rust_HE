/- C02: BGV `mod_switch_to_next` (`modSwitchScaleNext`) on EXACT phases.  C05U (`c05u_scale_bgv`) says that every result polynomial is, in
   coefficient form, the t-compatible division `c05u_bgvY` of the CRT values of the source; the division theorem of C05D for that rule
   (`c05d_divide_phase_ntt` with the BGV rule `isDivRule_bgvE`: q_L·Y = X + t·r, |r| ≤ q_L) gives q_L·phase'(r) ≡ phase(a) + t·ρ (mod Q),
   `‖ρ‖∞ ≤ q_L·Σ_{k<size}‖s‖₁^k`; hence for `phase(a) ≡ v (mod Q)`: `phase'(r) ≡ v' (mod Q')` with `q_L·v' = v + Δ`, Δ = t·ρ. -/
import Heathcliff.Proofs.C02PL
import Heathcliff.Proofs.C05D
namespace HC
open Finset

/-- `l'` is the level below `l` in the chain: last modulus dropped, the other moduli, their tables and the plain modulus shared -/
structure c02p_Next (l l' : Level) : Prop extends c05u_IsNext l l' where
  tbl : ∀ i, i < l'.size → l'.tbl i = l.tbl i
  t : l'.t = l.t

theorem c02p_modswitch_ph {l l' : Level} (h : c02p_LevelOK l) (h' : c02p_LevelOK l') (hto : c05u_ToolOK l) (hto' : c05u_ToolOK l')
    (hg : c05u_BgvOK l) (hn : c02p_Next l l') {sk : Array Int} (hsk : sk.size = l.n) {S : Nat}
    (hS : ∑ k ∈ range l.n, (c02p_sk sk k).natAbs ≤ S)
    {a r : Ct} (ha : c02p_Good l a) (hr : modSwitchScaleNext l a = .ok r) {v : Nat → Int}
    (hv : ∀ j, j < l.n → c02p_ph l sk a j ≡ v j [ZMOD l.tool.baseQ.prod]) :
    c02p_Good l' r ∧ r.cf = (a.cf * l.tool.invQLastModT) % l.t.value ∧ r.polys.size = a.polys.size ∧
    ∃ v' Δ : Nat → Int, (∀ j, j < l.n → c02p_ph l' sk r j ≡ v' j [ZMOD l'.tool.baseQ.prod]) ∧
      ∀ j, j < l.n → ((l.q (l.size - 1)).value : Int) * v' j = v j + Δ j ∧ (l.t.value : Int) ∣ Δ j ∧
        (Δ j).natAbs ≤ (l.q (l.size - 1)).value * l.t.value * c02x_geo S a.polys.size := by
  have htw := h.twf
  have ht2 := htw.two_le
  have h2 : 2 ≤ l.size := by have := hn.size; have := h'.lq.bwf.pos; rw [h'.lq.size_eq] at this; omega
  have hfa := ha.cf_lt h
  have ht61 := htw.lt
  obtain ⟨r', hr', hsz, hntt, hcf, hdiv⟩ := c05u_scale_bgv h.wf hto hg h2 h.bgv ha.ntt (by omega : a.cf < 2^64) ha.canon.canon
  rw [hr] at hr'
  obtain rfl := Except.ok.inj hr'
  have hqLwf := c05u_qwf hto (show l.size - 1 < l.size by omega)
  have hqL0 : 0 < (l.q (l.size - 1)).value := by have := hqLwf.two_le; omega
  have ht0 : 0 < l.t.value := by omega
  have hcop : Nat.Coprime r.cf l'.t.value := by
    rw [hcf, hn.t]
    have hi : Nat.Coprime l.tool.invQLastModT l.t.value := by
      have h1 : (l.tool.invQLastModT * (l.q (l.size - 1)).value) % l.t.value = 1 := hg.invt
      have : Nat.Coprime (l.tool.invQLastModT * (l.q (l.size - 1)).value) l.t.value := by
        unfold Nat.Coprime
        rw [Nat.gcd_comm, Nat.gcd_rec, h1, Nat.gcd_one_left]
      exact Nat.Coprime.coprime_mul_right this
    unfold Nat.Coprime
    rw [← Nat.gcd_rec, Nat.gcd_comm]
    exact Nat.Coprime.mul_left ha.unit hi
  have hgood : c02p_Good l' r := by
    refine ⟨⟨⟨by rw [hsz]; exact ha.canon.two_le, by rw [hsz]; exact ha.canon.le16, fun k hk => ?_⟩, ?_⟩, hntt, hcop⟩
    · exact c05u_bgvDivNtt_canon hn.toc05u_IsNext (hdiv k (by rw [← hsz]; exact hk))
    · unfold c02v_cfOk
      rw [h'.bgv]
      simp only
      rw [hn.t]
      refine ⟨fun h0 => ?_, by rw [hcf]; exact Nat.mod_lt _ ht0⟩
      rw [h0, hn.t, Nat.Coprime, Nat.gcd_zero_left] at hcop
      omega
  refine ⟨hgood, hcf, hsz, ?_⟩
  -- q_L·phase(r) ≡ phase(a) + t·ρ (mod Q), 2|ρ| ≤ 2·q_L·Σ_k ‖s‖₁^k: the division theorem for the BGV rule
  have hd := c05d_divide_phase_ntt h.wf hto h'.lq ⟨hn.toc05u_IsNext, hn.tbl⟩ rfl
    ((isDivRule_bgvE ht0 (hg.invt.trans (Nat.mod_eq_of_lt ht2).symm)).quot_rem hqL0 ht0) sk
    (.of_ctCanon ha.canon ha.ntt) hsz (fun k hk => c05d_divLift_bgv hqL0 (hdiv k hk))
  obtain ⟨ρ, hρ⟩ : ∃ ρ : Nat → Int, ∀ j, ρ j = (c03k_phZ l.n a.polys.size (fun k i =>
      -((c04t_bgvE (l.q (l.size - 1)).value l.t.value l.tool.invQLastModT (c03k_X l a k i % (l.q (l.size - 1)).value) : Nat) : Int)
        / (l.t.value : Int)) sk).co j := ⟨_, fun _ => rfl⟩
  have hd' : ∀ j, j < l.n → ((l.q (l.size - 1)).value : Int) * c02p_ph l' sk r j ≡ v j + (l.t.value : Int) * ρ j [ZMOD l.tool.baseQ.prod] ∧
      2 * (ρ j).natAbs ≤ 2 * ((l.q (l.size - 1)).value * ∑ k ∈ range a.polys.size, c03k_skL1 l.n sk ^ k) := fun j hj => by
    have := hd j hj
    rw [c03k_Q_eq h.lq, ← hρ j] at this
    exact ⟨this.1.trans ((hv j hj).add_right _), this.2⟩
  have hQQ : (l.tool.baseQ.prod : Int) = (l'.tool.baseQ.prod : Int) * ((l.q (l.size - 1)).value : Int) := by
    have := c05u_Q_next hto hto' hn.toc05u_IsNext
    unfold c05u_Q at this
    rw [this]; push_cast; rfl
  refine ⟨fun j => c02p_ph l' sk r j + (l'.tool.baseQ.prod : Int) *
      ((v j + (l.t.value : Int) * ρ j - ((l.q (l.size - 1)).value : Int) * c02p_ph l' sk r j) / (l.tool.baseQ.prod : Int)),
    fun j => (l.t.value : Int) * ρ j, fun j hj => (Int.add_mul_emod_self_left _ _ _).symm, fun j hj => ⟨?_, dvd_mul_right _ _, ?_⟩⟩
  · obtain ⟨u, hu⟩ := Int.modEq_iff_dvd.mp (hd' j hj).1
    have hQ0 : (l.tool.baseQ.prod : Int) ≠ 0 := by
      have := h.lq.bwf.prod_pos
      exact_mod_cast (by omega : l.tool.baseQ.prod ≠ 0)
    show ((l.q (l.size - 1)).value : Int) * (c02p_ph l' sk r j + (l'.tool.baseQ.prod : Int) *
      ((v j + (l.t.value : Int) * ρ j - ((l.q (l.size - 1)).value : Int) * c02p_ph l' sk r j) / (l.tool.baseQ.prod : Int))) = _
    rw [hu, Int.mul_ediv_cancel_left _ hQ0]
    rw [hQQ] at hu
    linear_combination (-1 : Int) * hu
  · have hb := (hd' j hj).2
    rw [Int.natAbs_mul, Int.natAbs_natCast, ← c02x_geo_eq] at *
    calc l.t.value * (ρ j).natAbs ≤ l.t.value * ((l.q (l.size - 1)).value * c02x_geo (c03k_skL1 l.n sk) a.polys.size) :=
          Nat.mul_le_mul_left _ (by omega)
      _ = (l.q (l.size - 1)).value * l.t.value * c02x_geo (c03k_skL1 l.n sk) a.polys.size := by ring
      _ ≤ _ := Nat.mul_le_mul_left _ (c02x_geo_le_S _ _ hS _)

end HC
