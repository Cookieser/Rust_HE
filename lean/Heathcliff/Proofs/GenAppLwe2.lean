/-
  The slot / butterfly index structure of `pack_lwe_ciphertexts` (src/app/lwe.rs) regenerated into
  Gen/AppLweFns.lean as PLANS (skeleton reading: evaluator calls are opaque steps whose index arguments are recorded):
  the leaf loop (which input goes to which slot) and the merge layers (per butterfly: odd slot, shift, even slot, Galois element)
  = the index structure of `packLeaves` / `packLayer` of Model/Lwe.lean.  Helper prefix `ga_`.
-/
import Heathcliff.Proofs.GenAppLwe
import Heathcliff.Proofs.GenAppBrev
import Heathcliff.Proofs.C19

namespace HC
open HC.GenApp

/-! ### the second generated copy of `reverse_bits_u64` -/

theorem ga_lwe_reverse_bits_u64_eq (x k : Nat) (hk : k ≤ 64) (hx : x < 2^k) : lwe_reverse_bits_u64 x k = .ok (brev k x) := by
  unfold lwe_reverse_bits_u64
  by_cases h0 : k = 0
  · subst h0; rw [if_pos rfl]; rfl
  · rw [if_neg h0]; exact ga_rev_shift x k hk h0 hx

theorem ga_lwe_pack_leaves_body (l c : Nat) (hl : l ≤ 63) (i : Nat) (plan : List Nat) (hi : i < 2^l) :
    lwe_pack_leaves_loop1 l c i plan = .ok (.next (plan ++ [if brev l i < c then brev l i else c])) := by
  simp only [lwe_pack_leaves_loop1, ga_lwe_reverse_bits_u64_eq i l (by omega) hi, R.ok_bind]
  by_cases h : brev l i < c <;> simp [h, pure, Except.pure]

/-- **leaf loop of `pack_lwe_ciphertexts`, generated plan**: slot `i` of `rlwes` (`i < 2^l`) receives input `brev l i` (assembled and divided
    by N) when that index is below the number of inputs, and the zero ciphertext otherwise (recorded as `count`) — the index structure of
    the model's `packLeaves` -/
theorem ga_lwe_pack_leaves_eq (l c : Nat) (hl : l ≤ 63) :
    lwe_pack_leaves l c = .ok ((List.range (2^l)).map fun i => if brev l i < c then brev l i else c) := by
  simp only [lwe_pack_leaves, ga_ckShl_one hl, R.ok_bind, Nat.sub_zero,
    ga_forUp_push _ (fun i => if brev l i < c then brev l i else c) (2^l) [] (ga_lwe_pack_leaves_body l c hl), List.nil_append]

/-- `packLeaves` reads its inputs through exactly this plan -/
theorem ga_packLeaves_plan {α : Type} [Zero α] [Add α] [Sub α] [Neg α] [Mul α] (k l : Nat) (ninv : α) (ins : Array (Array α)) (i : Nat)
    (hi : i < 2^l) :
    (packLeaves k l ninv ins).getD i #[] =
      let idx := ((List.range (2^l)).map fun i => if brev l i < ins.size then brev l i else ins.size).getD i 0
      if idx < ins.size then scalePoly (2^k) ninv (ins.getD idx #[]) else Array.replicate (2^k) 0 := by
  have e1 : ((List.range (2^l)).map fun i => if brev l i < ins.size then brev l i else ins.size).getD i 0
      = if brev l i < ins.size then brev l i else ins.size := by
    simp [List.getD_eq_getElem?_getD, hi]
  simp only [e1, c19_packLeaves_getD k l ninv ins i hi]
  by_cases h : brev l i < ins.size
  · simp [h]
  · simp [h]

/-- the butterflies of one layer, as the generated plan lists them: for `q = 0, 1, …` the pair (`q·2^(layer+1)`, `+ 2^layer`), the shift
    `N >> (layer+1)` and the Galois element `2^(layer+1) + 1` -/
def ga_mergeLayer (l n layer : Nat) : List Nat :=
  (List.range (2^l / 2^(layer+1))).flatMap fun q => [q * 2^(layer+1) + 2^layer, n >>> (layer+1), q * 2^(layer+1), 2^(layer+1) + 1]

theorem ga_unit_if (b : Bool) {β : Type} (f : Unit → R β) :
    ((if b = true then (pure () : R Unit) else pure ()) >>= f) = f () := by
  cases b <;> rfl

theorem ga_lwe_pack_merge_layer (l n : Nat) (ntt : Bool) (hl : l ≤ 62) (layer : Nat) (hlayer : layer < l) (plan : List Nat) :
    lwe_pack_merge_plan_loop2 l n ntt layer plan = .ok (.next (plan ++ ga_mergeLayer l n layer)) := by
  have hG : 2^(layer+1) = 2^layer * 2 := Nat.pow_succ 2 layer
  have hpos : 0 < 2^layer := Nat.two_pow_pos _
  have hm : 2^l / 2^(layer+1) = 2^(l - (layer+1)) := Nat.pow_div (by omega) (by omega)
  have hmG : 2^(l - (layer+1)) * 2^(layer+1) = 2^l := pow_sub_mul_pow 2 (by omega)
  -- every checked value is at most `2^l + 1 ≤ 2^62 + 1`
  have lt : ∀ {x}, x ≤ 2^l → x + 1 < 2^64 := fun h =>
    Nat.lt_of_le_of_lt (Nat.add_le_add_right (Nat.le_trans h (Nat.pow_le_pow_right (by omega) hl)) 1) (by decide)
  have lt' : ∀ {x}, x ≤ 2^l → x < 2^64 := fun h => Nat.lt_of_succ_lt (lt h)
  generalize hGd : 2^(layer+1) = G at hG hm hmG
  generalize hmd : 2^(l - (layer+1)) = m at hm hmG
  have hgapG : 2^layer ≤ G := hG ▸ Nat.le_mul_of_pos_right _ (by omega)
  let f := fun q => [q * G + 2^layer, n >>> (layer+1), q * G, G + 1]
  let st : Nat → List Nat × Nat := fun j => (plan ++ (List.range j).flatMap f, j * G)
  have hstep : ∀ j, j < m → lwe_pack_merge_plan_loop1 l ntt layer (2^layer) (n >>> (layer+1)) (st j) = .ok (.next (st (j+1))) := by
    intro j hj
    have hle : j * G + G ≤ 2^l := hmG ▸ grid_succ_le hj
    have hGl : G ≤ 2^l := Nat.le_trans (Nat.le_add_left _ _) hle
    simp only [st, lwe_pack_merge_plan_loop1, ga_ckShl_one (show l ≤ 63 by omega), R.ok_bind,
      if_pos (Nat.lt_of_lt_of_le (Nat.lt_add_of_pos_right (Nat.lt_of_lt_of_le hpos hgapG)) hle),
      ckAdd_ok_pow (lt' (Nat.le_trans (Nat.add_le_add_left hgapG _) hle)), ga_unit_if, ckAdd_ok_pow (show layer + 1 < 2^64 by omega),
      ga_ckShl_one (show layer + 1 ≤ 63 by omega), hGd, ckAdd_ok_pow (lt hGl), ckMul_ok_pow (hG ▸ lt' hGl), ← hG, ckAdd_ok_pow (lt' hle)]
    simp only [pure, Except.pure, List.range_succ, List.flatMap_append, List.flatMap_cons, List.flatMap_nil, List.append_nil,
      List.append_assoc, List.cons_append, List.nil_append, Nat.succ_mul, f]
  have hend : lwe_pack_merge_plan_loop1 l ntt layer (2^layer) (n >>> (layer+1)) (st m) = .ok (.brk (st m)) := by
    simp only [st, lwe_pack_merge_plan_loop1, ga_ckShl_one (show l ≤ 63 by omega), R.ok_bind, hmG, Nat.lt_irrefl, if_false]
    rfl
  -- 2^64 is the table's fuel for the butterfly `while`; `m ≤ 2^l` rounds are needed
  have hw := ga_whileFuel_seq _ st m hstep hend m 0 18446744073709551616 (Nat.zero_add m)
    (lt' (hmG ▸ Nat.le_mul_of_pos_right m (Nat.lt_of_lt_of_le hpos hgapG)))
  have hst0 : st 0 = (plan, 0) := by simp [st]
  rw [hst0] at hw
  simp only [lwe_pack_merge_plan_loop2, ga_ckShl_one (show layer ≤ 63 by omega), R.ok_bind, ckAdd_ok_pow (show layer + 1 < 2^64 by omega),
    GenApp.ckShr, if_pos (show layer + 1 < 64 by omega), hw, st, ga_mergeLayer, hGd, hm, pure, Except.pure, f]

/-- **the merge layers of `pack_lwe_ciphertexts`, generated plan**: layer `0 … l−1`, in each the butterflies `q = 0 … 2^l/2^(layer+1) − 1`
    on the slots `q·2^(layer+1)` (even) and `+ 2^layer` (odd), with shift `N >> (layer+1)` and Galois element `2^(layer+1) + 1` — the index
    structure of the model's `packLayer` / `packMerge`; independent of `ntt_form` -/
theorem ga_lwe_pack_merge_plan_eq (l n : Nat) (ntt : Bool) (hl : l ≤ 62) :
    lwe_pack_merge_plan l n ntt = .ok ((List.range l).flatMap (ga_mergeLayer l n)) := by
  simp only [lwe_pack_merge_plan, Nat.sub_zero,
    ga_forUp_push_list _ (ga_mergeLayer l n) l [] (fun layer plan h => ga_lwe_pack_merge_layer l n ntt hl layer h plan), R.ok_bind,
    List.nil_append]

/-- the model's `packLayer` performs, at the EVEN slot of every plan entry `(odd, shift, even, g)` of `ga_mergeLayer l (2^k) layer`, exactly the
    butterfly with these parameters: `temp = X^shift·rlwes[odd]`, `even' = (even + temp) + σ_g(even − temp)` -/
theorem ga_packLayer_plan {α : Type} [Zero α] [Add α] [Sub α] [Neg α] [Mul α] (k l layer : Nat) (arr : Array (Array α)) (q : Nat)
    (hlayer : layer < l) (hq : q < 2^l / 2^(layer+1)) :
    (packLayer k l layer arr).getD (q * 2^(layer+1)) #[] =
      addPoly (2^k) (addPoly (2^k) (arr.getD (q * 2^(layer+1)) #[]) (shiftPoly (2^k) (arr.getD (q * 2^(layer+1) + 2^layer) #[]) (2^k >>> (layer+1))))
        (sigmaPoly (2^k) (subPoly (2^k) (arr.getD (q * 2^(layer+1)) #[])
          (shiftPoly (2^k) (arr.getD (q * 2^(layer+1) + 2^layer) #[]) (2^k >>> (layer+1)))) (2^(layer+1) + 1)) := by
  have hlt : q * 2^(layer+1) < 2^l :=
    Nat.lt_of_lt_of_le (Nat.mul_lt_mul_of_pos_right hq (Nat.two_pow_pos _)) (Nat.div_mul_le_self _ _)
  rw [c19_packLayer_getD k l layer arr _ hlt, ← Nat.pow_succ', Nat.mul_mod_left, if_pos rfl]
  simp only [packMerge, Nat.shiftRight_eq_div_pow]

end HC
