import Heathcliff.Gen.PolyFns

/-!
  Blocks of a flat buffer, in both directions.  FROM A BUFFER: `gp_blk D r j` is block `j` (the words `j·D … j·D+D−1`) of any list `r`, with its
  length, its entries and the slice that reads it (`gp_blk_length`, `gp_blk_getD`, `gp_slice_blk`): what a routine needs that is handed a raw buffer,
  possibly longer than the blocks it touches (the `_p` wrappers of Proofs/GenPolyRns.lean, whose statements name `gp_blk`).  FROM THE BLOCKS: a buffer
  made of blocks of equal length `D` is `bs.flatten` with `Blk D bs`; `Blk.block` says that its block `i` is `bs[i]`, and `take` / `drop` /
  `GenP.slice` / `GenP.splice` at block boundaries act on the list of blocks (`Blk.take_flatten`, `Blk.drop_flatten`, `Blk.slice`, `Blk.splice`), so
  that a routine over the buffer can be followed on the list of blocks without offset arithmetic.  The converse of `Blk.block`: every buffer of `k·D`
  words is the flattening of its `k` blocks `Blk.cut D k l` (`Blk.cut_spec`, `Blk.cut_drop`).
-/
namespace HC

/-- block `j` (words `j*D … j*D+D-1`) of a flat buffer -/
def gp_blk (D : Nat) (r : List Nat) (j : Nat) : List Nat := (r.drop (j * D)).take D

theorem gp_slice_blk (b : List Nat) (j D : Nat) (h : j * D + D ≤ b.length) : GenP.slice b (j * D) (j * D + D) = .ok (gp_blk D b j) := by
  unfold GenP.slice gp_blk
  rw [if_pos ⟨Nat.le_add_right _ _, h⟩, Nat.add_sub_cancel_left]

theorem gp_blk_length (D : Nat) (r : List Nat) (j : Nat) (h : j * D + D ≤ r.length) : (gp_blk D r j).length = D := by
  unfold gp_blk; rw [List.length_take, List.length_drop]; omega

theorem gp_blk_getD (D : Nat) (r : List Nat) (j k : Nat) (hk : k < D) : (gp_blk D r j).getD k 0 = r.getD (j * D + k) 0 := by
  rw [gp_blk, List.getD_eq_getElem?_getD, List.getD_eq_getElem?_getD, List.getElem?_take_of_lt hk, List.getElem?_drop]

def Blk (D : Nat) (bs : List (List Nat)) : Prop := ∀ b, b ∈ bs → b.length = D

namespace Blk
variable {D : Nat} {b : List Nat} {bs ns : List (List Nat)}

theorem head (h : Blk D (b :: bs)) : b.length = D := h b List.mem_cons_self

theorem tail (h : Blk D (b :: bs)) : Blk D bs := fun c hc => h c (List.mem_cons_of_mem _ hc)

theorem length : ∀ {bs : List (List Nat)}, Blk D bs → bs.flatten.length = bs.length * D
  | [], _ => by simp
  | b :: bs, h => by
    rw [List.flatten_cons, List.length_append, h.head, length h.tail, List.length_cons, Nat.succ_mul, Nat.add_comm]

theorem drop_flatten : ∀ {bs : List (List Nat)}, Blk D bs → ∀ i, bs.flatten.drop (i * D) = (bs.drop i).flatten
  | [], _, i => by simp
  | b :: bs, _, 0 => by simp
  | b :: bs, h, i + 1 => by
    rw [List.flatten_cons, Nat.succ_mul, Nat.add_comm, ← List.drop_drop, ← h.head, List.drop_left, h.head, drop_flatten h.tail i,
      List.drop_succ_cons]

theorem take_flatten : ∀ {bs : List (List Nat)}, Blk D bs → ∀ i, bs.flatten.take (i * D) = (bs.take i).flatten
  | [], _, i => by simp
  | b :: bs, _, 0 => by simp
  | b :: bs, h, i + 1 => by
    rw [List.flatten_cons, Nat.succ_mul, Nat.add_comm, ← h.head, List.take_length_add_append, h.head, take_flatten h.tail i,
      List.take_succ_cons, List.flatten_cons]

/-- block `i` of the buffer -/
theorem block (h : Blk D bs) {i : Nat} (hi : i < bs.length) : gp_blk D bs.flatten i = bs.getD i [] := by
  rw [gp_blk, h.drop_flatten, List.drop_eq_getElem_cons hi, List.flatten_cons, List.take_left' (h _ (List.getElem_mem hi)),
    List.getD_eq_getElem?_getD, List.getElem?_eq_getElem hi, Option.getD_some]

/-- entry `j` of block `i` -/
theorem getD (h : Blk D bs) {i j : Nat} (hi : i < bs.length) (hj : j < D) : bs.flatten.getD (i * D + j) 0 = (bs.getD i []).getD j 0 := by
  rw [← h.block hi, gp_blk_getD _ _ _ _ hj]

/-- the blocks `a, …, a+c−1` of a buffer of `(a + c) * D` words, concatenated, are the buffer from word `a * D` on -/
theorem cut_drop (D : Nat) (d : List Nat) : ∀ c a, d.length = (a + c) * D →
    ((List.range' a c).map (gp_blk D d)).flatten = d.drop (a * D)
  | 0, a, h => by rw [List.range'_zero, List.map_nil, List.flatten_nil, List.drop_eq_nil_of_le (Nat.le_of_eq (h.trans (by rw [Nat.add_zero])))]
  | c + 1, a, h => by
    rw [List.range'_succ, List.map_cons, List.flatten_cons, cut_drop D d c (a + 1) (by rw [h, Nat.add_right_comm, Nat.add_assoc]), gp_blk,
      Nat.succ_mul, ← List.drop_drop, List.take_append_drop]

/-- a buffer cut into `k` blocks of `D` words -/
def cut (D k : Nat) (l : List Nat) : List (List Nat) := (List.range k).map (gp_blk D l)

/-- the converse of `Blk.block`: every buffer of `k * D` words is the flattening of its `k` blocks -/
theorem cut_spec (D k : Nat) (l : List Nat) (h : l.length = k * D) : (cut D k l).flatten = l ∧ (cut D k l).length = k ∧ Blk D (cut D k l) := by
  refine ⟨?_, by rw [cut, List.length_map, List.length_range], fun b hb => ?_⟩
  · have := cut_drop D l k 0 (by rw [h, Nat.zero_add])
    rwa [Nat.zero_mul, List.drop_zero, ← List.range_eq_range'] at this
  · obtain ⟨j, hj, rfl⟩ := List.mem_map.mp hb
    have := Nat.mul_le_mul_right D (Nat.succ_le_of_lt (List.mem_range.mp hj))
    rw [Nat.succ_mul] at this
    exact gp_blk_length D l j (h ▸ this)

theorem slice (h : Blk D bs) (i j : Nat) (hij : i ≤ j) (hj : j ≤ bs.length) :
    GenP.slice bs.flatten (i * D) (j * D) = .ok ((bs.drop i).take (j - i)).flatten := by
  unfold GenP.slice
  rw [if_pos ⟨Nat.mul_le_mul_right _ hij, by rw [h.length]; exact Nat.mul_le_mul_right _ hj⟩, h.drop_flatten, ← Nat.sub_mul,
    take_flatten (fun b hb => h b (List.mem_of_mem_drop hb))]

theorem splice (h : Blk D bs) (hn : Blk D ns) (i : Nat) :
    GenP.splice bs.flatten (i * D) ns.flatten = (bs.take i ++ ns ++ bs.drop (i + ns.length)).flatten := by
  unfold GenP.splice
  rw [hn.length, ← Nat.add_mul, h.take_flatten, h.drop_flatten, List.flatten_append, List.flatten_append]

end Blk
end HC
