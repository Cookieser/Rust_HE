/-
  Property-level statements about the GENERATED serializers (Gen/SerFns.lean), restated in
  Props/C14.lean (`c14g_*`) and Props/C15.lean (`c15g_*`).
-/
import Heathcliff.Proofs.GenSerL
import Heathcliff.Proofs.CodecExact
import Heathcliff.Proofs.Sink
import Heathcliff.Proofs.SinkI
import Heathcliff.Proofs.C14S
namespace HC.GS
open HC HC.Codec HC.GenS

theorem gs_ideal {α} (c : Codec α) (x : α) (w : W Bytes Empty Nat) (hw : w = runChunks idealStream (c.chunks x)) (s : Bytes) :
    w s = (.ok (c.enc x).length, s ++ c.enc x) := by
  rw [hw, runChunks_ideal]; rfl

/-- On an in-memory stream that takes everything, every generated writer appends exactly the model's encoding and returns its length.
    Typing hypotheses: a `u8` / a `SchemeType as u8` is a byte, a `ParmsID` has 4 words, a limited value fits its width. -/
theorem c14g_writers_produce_enc (s : Bytes) :
    (∀ v, u64_serialize idealStream v s = (.ok (u64C.enc v).length, s ++ u64C.enc v)) ∧
    (∀ v, usize_serialize idealStream v s = (.ok (usizeC.enc v).length, s ++ usizeC.enc v)) ∧
    (∀ v, v < 256 → u8_serialize idealStream v s = (.ok (u8C.enc v).length, s ++ u8C.enc v)) ∧
    (∀ b, bool_serialize idealStream b s = (.ok (boolC.enc b).length, s ++ boolC.enc b)) ∧
    (∀ v, f64_serialize idealStream v s = (.ok (f64C.enc v).length, s ++ f64C.enc v)) ∧
    (∀ v, modulus_serialize idealStream v s = (.ok (modulusC.enc v).length, s ++ modulusC.enc v)) ∧
    (∀ v, v < 256 → scheme_serialize idealStream v s = (.ok (schemeC.enc v).length, s ++ schemeC.enc v)) ∧
    (∀ l : List Nat, vec_serialize idealStream (u64_serialize idealStream) l s = (.ok ((vecC u64C).enc l).length, s ++ (vecC u64C).enc l)) ∧
    (∀ l : List Nat, vec_serialize idealStream (modulus_serialize idealStream) l s
        = (.ok ((vecC modulusC).enc l).length, s ++ (vecC modulusC).enc l)) ∧
    (∀ l : List Nat, l.length = 4 → pid_serialize idealStream l s = (.ok (pidC.enc l).length, s ++ pidC.enc l)) ∧
    (∀ p : Params, p.scheme < 256 → params_serialize idealStream p s = (.ok (paramsC.enc p).length, s ++ paramsC.enc p)) ∧
    (∀ p : Plain, p.pid.length = 4 → plain_serialize idealStream p s = (.ok (plainC.enc p).length, s ++ plainC.enc p)) ∧
    (∀ v limit, v < 256 ^ limit →
        write_u64_limited idealStream v limit s = (.ok ((limC limit).enc v).length, s ++ (limC limit).enc v)) :=
  ⟨fun v => gs_ideal u64C v _ (gs_u64_serialize _ v) s, fun v => gs_ideal usizeC v _ (gs_usize_serialize _ v) s,
   fun v hv => gs_ideal u8C v _ (gs_u8_serialize _ v hv) s, fun b => gs_ideal boolC b _ (gs_bool_serialize _ b) s,
   fun v => gs_ideal f64C v _ (gs_f64_serialize _ v) s, fun v => gs_ideal modulusC v _ (gs_modulus_serialize _ v) s,
   fun v hv => gs_ideal schemeC v _ (gs_scheme_serialize _ v hv) s,
   fun l => gs_ideal (vecC u64C) l _ (gs_vec_serialize _ _ u64C l (fun x _ => gs_u64_serialize _ x)) s,
   fun l => gs_ideal (vecC modulusC) l _ (gs_vec_serialize _ _ modulusC l (fun x _ => gs_modulus_serialize _ x)) s,
   fun l hl => gs_ideal pidC l _ (gs_pid_serialize _ l hl) s,
   fun p hp => gs_ideal paramsC p _ (gs_params_serialize _ p hp) s,
   fun p hp => gs_ideal plainC p _ (gs_plain_serialize _ p hp) s,
   fun v limit hv => gs_ideal (limC limit) v _ (gl_write_u64_limited _ v limit hv) s⟩

/-- Every generated reader IS the model's decoder (as functions on byte lists); `EncryptionParameters` up to the count check of
    `set_coeff_modulus` (see `gr_params_deserialize`); `read_u64_limited` for the widths `get_u64_limit` can return. -/
theorem c14g_readers_are_dec :
    u64_deserialize = u64C.dec ∧ usize_deserialize = usizeC.dec ∧ u8_deserialize = u8C.dec ∧ bool_deserialize = boolC.dec ∧
    f64_deserialize = f64C.dec ∧ modulus_deserialize = modulusC.dec ∧ scheme_deserialize = schemeC.dec ∧
    vec_deserialize u64_deserialize = (vecC u64C).dec ∧ vec_deserialize modulus_deserialize = (vecC modulusC).dec ∧
    pid_deserialize = pidC.dec ∧ plain_deserialize = plainC.dec ∧
    (∀ bs, params_deserialize bs = match paramsC.dec bs with
      | .ok (p, r) => if coeffCountOk p then .ok (p, r) else .error .bad
      | .error e => .error e) ∧
    (∀ limit, limit ≤ 8 → ∀ bs : Bytes, (∀ b ∈ bs, b < 256) → read_u64_limited limit bs = (limC limit).dec bs) :=
  ⟨gr_u64_deserialize, gr_usize_deserialize, gr_u8_deserialize, gr_bool_deserialize, gr_f64_deserialize, gr_modulus_deserialize,
   gr_scheme_deserialize, gr_vec_deserialize _ u64C gr_u64_deserialize, gr_vec_deserialize _ modulusC gr_modulus_deserialize,
   gr_pid_deserialize, gr_plain_deserialize, gr_params_deserialize, gl_read_u64_limited⟩

theorem gs_plain_norm (p : Plain) (hv : plainC.valid p) : plainC.norm p = p :=
  mapC_norm _ _ _ (pairC_exact _ _ pidC_exact (pairC_exact _ _ (vecC_exact _ u64C_exact) u64C_exact)) p hv

/-- FROM SOURCE TO SOURCE: what the generated `Plaintext::deserialize` reads back from the bytes the generated
    `Plaintext::serialize` wrote (followed by anything) is the plaintext itself, and exactly those bytes are consumed. -/
theorem c14g_plain_source_round_trip (p : Plain) (hv : plainC.valid p) (hl : p.pid.length = 4) (rest : Bytes) :
    plain_deserialize ((plain_serialize idealStream p []).2 ++ rest) = .ok (p, rest) := by
  have hw := gs_ideal plainC p _ (gs_plain_serialize idealStream p hl) []
  rw [hw, gr_plain_deserialize]
  simp only [List.nil_append]
  rw [plainC_lawful.rt p hv rest, gs_plain_norm p hv]

/-- the same for `EncryptionParameters` whose coefficient modulus count is one `set_coeff_modulus` accepts -/
theorem c14g_params_source_round_trip (p : Params) (hv : paramsC.valid p) (hs : p.scheme < 256)
    (hn : paramsC.norm p = p) (hc : coeffCountOk p = true) (rest : Bytes) :
    params_deserialize ((params_serialize idealStream p []).2 ++ rest) = .ok (p, rest) := by
  have hw := gs_ideal paramsC p _ (gs_params_serialize idealStream p hs) []
  rw [hw, gr_params_deserialize]
  simp only [List.nil_append]
  rw [paramsC_lawful.rt p hv rest, hn]
  simp [hc]

/-- … and the EXCLUDED POINT: parameters without coefficient moduli (e.g. a fresh `EncryptionParameters::new(BFV)`) are
    serialized, the model decodes the bytes, the code's reader panics in `set_coeff_modulus` after reading them -/
theorem c14g_params_empty_modulus_refused :
    paramsC.valid ⟨1, 0, [], 0, false⟩ ∧
    paramsC.dec (paramsC.enc ⟨1, 0, [], 0, false⟩) = .ok (⟨1, 0, [], 0, false⟩, []) ∧
    params_deserialize ((params_serialize idealStream ⟨1, 0, [], 0, false⟩ []).2) = .error .bad := by
  refine ⟨?_, by rfl, ?_⟩
  · refine ⟨⟨⟨?_, ?_⟩, rfl, ?_, ?_, ?_, ?_⟩, ?_⟩
    · show (1 : Nat) < 256 ^ 1; decide
    · rfl
    · show (0 : Nat) < 256 ^ 8; decide
    · refine ⟨?_, rfl, trivial⟩
      show (0 : Nat) < 256 ^ 8; decide
    · exact ⟨(by show (0 : Nat) < 256 ^ 8; decide), trivial⟩
    · show (0 : Nat) < 256 ^ 1; decide
    · rfl
  · have hw := gs_ideal paramsC ⟨1, 0, [], 0, false⟩ _ (gs_params_serialize idealStream ⟨1, 0, [], 0, false⟩ (by decide)) []
    rw [hw, gr_params_deserialize]
    rfl

/-- Every generated size function is the model's `size` / closed-form size function. -/
theorem c14g_sizes_are_model :
    (∀ v, u64_serialized_size v = u64C.size v) ∧ (∀ v, usize_serialized_size v = usizeC.size v) ∧ (∀ v, u8_serialized_size v = u8C.size v) ∧
    (∀ b, bool_serialized_size b = boolC.size b) ∧ (∀ v, f64_serialized_size v = f64C.size v) ∧
    (∀ v, modulus_serialized_size v = modulusC.size v) ∧ (∀ v, scheme_serialized_size v = schemeC.size v) ∧
    (∀ l : List Nat, l.length = 4 → pid_serialized_size l = pidC.size l) ∧
    (∀ l : List Nat, vec_serialized_size u64_serialized_size l = (vecC u64C).size l) ∧
    (∀ l : List Nat, vec_serialized_size modulus_serialized_size l = (vecC modulusC).size l) ∧
    (∀ p, params_serialized_size p = paramsSerializedSize p) ∧ (∀ p, params_serialized_size p = paramsC.size p) ∧
    (∀ p, plain_serialized_size p = plainSerializedSize p) ∧
    (∀ q, q < 2 ^ 64 → get_u64_limit q = .ok (u64Limit q) ∧ u64Limit q ≤ 8) ∧
    (∀ ctx lv v, ctx.find v.pid = some lv → ct_serialized_full_size ctx v = .ok (ctSerializedFullSize lv (fullSentV v))) ∧
    (∀ ctx lv v, ctx.find v.pid = some lv → (∀ q ∈ lv.moduli, q < 2 ^ 64) →
        ct_serialized_size ctx v = .ok (ctSerializedSize lv v.size v.seeded)) ∧
    (∀ ctx lv v tc, ctx.find v.pid = some lv → (∀ q ∈ lv.moduli, q < 2 ^ 64) → (v.seeded = true ∨ 1 ≤ v.size) →
        ct_serialized_terms_size ctx v tc = .ok (ctSerializedTermsSize lv v.size v.seeded tc)) ∧
    (∀ ctx v tc, ctx.find v.pid = none → ct_serialized_full_size ctx v = .error .other ∧ ct_serialized_size ctx v = .error .other ∧
        ct_serialized_terms_size ctx v tc = .error .other) := by
  refine ⟨fun _ => rfl, fun _ => rfl, fun _ => rfl, fun _ => rfl, fun _ => rfl, fun _ => rfl, fun _ => rfl, ?_,
    fun l => gr_vec_size _ u64C rfl l, fun l => gr_vec_size _ modulusC rfl l, gr_params_size, ?_, gr_plain_size,
    fun q hq => ⟨gr_get_u64_limit q hq, u64Limit_le_8 q hq⟩, gr_ct_full_size, gr_ct_size,
    fun ctx lv v tc h1 h2 h3 => gr_ct_terms_size ctx lv v tc h1 h2 h3, gr_ct_sizes_unknown_pid⟩
  · exact fun l hl => (c14s_pidC_size l hl).symm
  · exact fun p => (gr_params_size p).trans (c14s_paramsC_size p).symm

theorem gs_clean (cs : List Chunk) (s : Sink) :
    (∀ n, (runChunks sinkStream cs s).1 = .ok n → n = (flat cs).length ∧ (runChunks sinkStream cs s).2.out = s.out ++ flat cs) ∧
    (∀ e, (runChunks sinkStream cs s).1 = .error e →
      (∃ io, e = .io io) ∧ ∃ j, j ≤ (flat cs).length ∧ (runChunks sinkStream cs s).2.out = s.out ++ (flat cs).take j) := by
  have hc : Clean (flat cs) s (Codec.serialize (fun _ => .writeAll) cs s) := serialize_clean _ (fun _ => rfl) cs s
  rw [runChunks_sink]
  generalize Codec.serialize (fun _ => WMode.writeAll) cs s = r at hc ⊢
  obtain ⟨e0 | n, s'⟩ := r
  · exact ⟨fun m hm => (nomatch hm), fun e he => ⟨⟨e0, (Except.error.inj he).symm⟩, hc.2 e0 rfl⟩⟩
  · exact ⟨fun m hm => Except.ok.inj hm ▸ hc.1 n rfl, fun e he => nomatch he⟩

/-- a writer program that is the chunk program of `c` at `x`, run on ANY faulty sink: `Ok n` with `n = |enc x|` and exactly `enc x`
    appended, or the STREAM's error (never a panic) with a prefix of `enc x` appended -/
theorem gs_writer_clean {α} (c : Codec α) (x : α) (w : W Sink IOErr Nat) (hw : w = runChunks sinkStream (c.chunks x)) (s : Sink) :
    (∀ n, (w s).1 = .ok n → n = (c.enc x).length ∧ (w s).2.out = s.out ++ c.enc x) ∧
    (∀ e, (w s).1 = .error e → (∃ io, e = .io io) ∧ ∃ j, j ≤ (c.enc x).length ∧ (w s).2.out = s.out ++ (c.enc x).take j) := by
  rw [hw]; exact gs_clean (c.chunks x) s

/-- … and on every interrupting, short-writing, failing stream -/
theorem gs_cleanI (cs : List Chunk) (w : SinkI) :
    (∀ n, (runChunks sinkIStream cs w).1 = .ok n →
      n = (flat cs).length ∧ (runChunks sinkIStream cs w).2.s.out = w.s.out ++ flat cs) ∧
    (∀ e, (runChunks sinkIStream cs w).1 = .error e →
      ∃ j, j ≤ (flat cs).length ∧ (runChunks sinkIStream cs w).2.s.out = w.s.out ++ (flat cs).take j) := by
  have hc := serializeI_clean (fun _ => .writeAll) (fun _ => rfl) cs w
  rw [runChunks_sinkI]
  generalize serializeI (fun _ => WMode.writeAll) cs w = r at hc ⊢
  obtain ⟨e0 | n, w'⟩ := r
  · exact ⟨fun m hm => (nomatch hm), fun e _ => hc.2 e0 rfl⟩
  · exact ⟨fun m hm => Except.ok.inj hm ▸ hc.1 n rfl, fun e he => nomatch he⟩

/-- The GENERATED composite writers (`EncryptionParameters`, `Plaintext` = `SecretKey`, `Vec<u64>`, `Vec<Modulus>`, the limited
    writer) on every faulty sink, any prior state: complete encoding and the right count, or the stream's error and a prefix. -/
theorem c15g_source_writers_fail_cleanly (s : Sink) :
    (∀ p : Params, p.scheme < 256 →
      (∀ n, (params_serialize sinkStream p s).1 = .ok n →
          n = (paramsC.enc p).length ∧ (params_serialize sinkStream p s).2.out = s.out ++ paramsC.enc p) ∧
      (∀ e, (params_serialize sinkStream p s).1 = .error e → (∃ io, e = .io io) ∧
          ∃ j, j ≤ (paramsC.enc p).length ∧ (params_serialize sinkStream p s).2.out = s.out ++ (paramsC.enc p).take j)) ∧
    (∀ p : Plain, p.pid.length = 4 →
      (∀ n, (plain_serialize sinkStream p s).1 = .ok n →
          n = (plainC.enc p).length ∧ (plain_serialize sinkStream p s).2.out = s.out ++ plainC.enc p) ∧
      (∀ e, (plain_serialize sinkStream p s).1 = .error e → (∃ io, e = .io io) ∧
          ∃ j, j ≤ (plainC.enc p).length ∧ (plain_serialize sinkStream p s).2.out = s.out ++ (plainC.enc p).take j)) ∧
    (∀ l : List Nat,
      (∀ n, (vec_serialize sinkStream (u64_serialize sinkStream) l s).1 = .ok n →
          n = ((vecC u64C).enc l).length ∧ (vec_serialize sinkStream (u64_serialize sinkStream) l s).2.out = s.out ++ (vecC u64C).enc l) ∧
      (∀ e, (vec_serialize sinkStream (u64_serialize sinkStream) l s).1 = .error e → (∃ io, e = .io io) ∧
          ∃ j, j ≤ ((vecC u64C).enc l).length ∧
            (vec_serialize sinkStream (u64_serialize sinkStream) l s).2.out = s.out ++ ((vecC u64C).enc l).take j)) ∧
    (∀ v limit, v < 256 ^ limit →
      (∀ n, (write_u64_limited sinkStream v limit s).1 = .ok n →
          n = ((limC limit).enc v).length ∧ (write_u64_limited sinkStream v limit s).2.out = s.out ++ (limC limit).enc v) ∧
      (∀ e, (write_u64_limited sinkStream v limit s).1 = .error e → (∃ io, e = .io io) ∧
          ∃ j, j ≤ ((limC limit).enc v).length ∧ (write_u64_limited sinkStream v limit s).2.out = s.out ++ ((limC limit).enc v).take j)) :=
  ⟨fun p hp => gs_writer_clean paramsC p _ (gs_params_serialize _ p hp) s,
   fun p hp => gs_writer_clean plainC p _ (gs_plain_serialize _ p hp) s,
   fun l => gs_writer_clean (vecC u64C) l _ (gs_vec_serialize _ _ u64C l (fun x _ => gs_u64_serialize _ x)) s,
   fun v limit hv => gs_writer_clean (limC limit) v _ (gl_write_u64_limited _ v limit hv) s⟩

/-- The generated writers on a C15 sink ARE the model's `serialize` (the object the existing C15 theorems are about), with the write
    primitive the SOURCE uses in each scalar impl — here read off the translated bodies, not off the pattern table. -/
theorem c15g_source_writers_are_model_serialize (s : Sink) :
    (∀ v, u64_serialize sinkStream v s = liftIO (Codec.serialize (fun _ => .writeAll) (u64C.chunks v) s)) ∧
    (∀ v, usize_serialize sinkStream v s = liftIO (Codec.serialize (fun _ => .writeAll) (usizeC.chunks v) s)) ∧
    (∀ v, v < 256 → u8_serialize sinkStream v s = liftIO (Codec.serialize (fun _ => .writeAll) (u8C.chunks v) s)) ∧
    (∀ p : Params, p.scheme < 256 →
        params_serialize sinkStream p s = liftIO (Codec.serialize (fun _ => .writeAll) (paramsC.chunks p) s)) ∧
    (∀ p : Plain, p.pid.length = 4 →
        plain_serialize sinkStream p s = liftIO (Codec.serialize (fun _ => .writeAll) (plainC.chunks p) s)) := by
  refine ⟨fun v => ?_, fun v => ?_, fun v hv => ?_, fun p hp => ?_, fun p hp => ?_⟩
  · rw [gs_u64_serialize, runChunks_sink]
  · rw [gs_usize_serialize, runChunks_sink]
  · rw [gs_u8_serialize _ v hv, runChunks_sink]
  · rw [gs_params_serialize _ p hp, runChunks_sink]
  · rw [gs_plain_serialize _ p hp, runChunks_sink]

/-- generated `EncryptionParameters` / `Plaintext` writers on an interrupting, short-writing, failing stream -/
theorem c15g_source_writers_interrupting (w : SinkI) :
    (∀ p : Params, p.scheme < 256 →
      params_serialize sinkIStream p w = liftIOI (serializeI (fun _ => .writeAll) (paramsC.chunks p) w)) ∧
    (∀ p : Plain, p.pid.length = 4 →
      plain_serialize sinkIStream p w = liftIOI (serializeI (fun _ => .writeAll) (plainC.chunks p) w)) :=
  ⟨fun p hp => by rw [gs_params_serialize _ p hp, runChunks_sinkI], fun p hp => by rw [gs_plain_serialize _ p hp, runChunks_sinkI]⟩

/-- the writer's panic is not an I/O fault: a value that does not fit its width is written truncated, THEN the assertion fires -/
theorem c15g_limited_writer_panics_after_writing (v limit : Nat) (hv : 256 ^ limit ≤ v) (s : Bytes) :
    write_u64_limited idealStream v limit s = (.error .panic, s ++ (limC limit).enc v) := by
  rw [gl_write_u64_limited_panics idealStream v limit hv]
  simp only [wbind, runChunks_ideal, wpanic]
  rfl

/-- The generated readers on any strict prefix of a valid encoding: `Err(UnexpectedEof)` — for `Plaintext` and for
    `EncryptionParameters` (whose count check comes after all reads, so it cannot turn a truncation into a panic). -/
theorem c15g_source_readers_truncation :
    (∀ (p : Plain), plainC.valid p → ∀ k, k < (plainC.enc p).length →
      ∃ sk, plain_deserialize ((plainC.enc p).take k) = .error (.eof sk)) ∧
    (∀ (p : Params), paramsC.valid p → ∀ k, k < (paramsC.enc p).length →
      ∃ sk, params_deserialize ((paramsC.enc p).take k) = .error (.eof sk)) ∧
    (∀ (l : List Nat), (vecC u64C).valid l → ∀ k, k < ((vecC u64C).enc l).length →
      ∃ sk, vec_deserialize u64_deserialize (((vecC u64C).enc l).take k) = .error (.eof sk)) := by
  refine ⟨fun p hv k hk => ?_, fun p hv k hk => ?_, fun l hv k hk => ?_⟩
  · rw [gr_plain_deserialize]; exact plainC_lawful.pre p hv k hk
  · obtain ⟨sk, h⟩ := paramsC_lawful.pre p hv k hk
    exact ⟨sk, by rw [gr_params_deserialize, h]⟩
  · rw [gr_vec_deserialize _ u64C gr_u64_deserialize]; exact (vecC_lawful u64C u64C_lawful).pre l hv k hk

end HC.GS
