/-
  The positions written by `MatmulHelper::encode_weight_small_bfv` and by the block loop of
  `MatmulHelper::encode_inputs_bfv`, and the positions read by the output decoder (src/app/matmul/cheetah.rs, fragments generated into
  Gen/AppFns.lean; plan = position, source index, position, source index, …) = the write lists of the model's `encWeightSmall` /
  `encInputBlock` and the read list of its output decoder (`wPos`, `inPos`, `outPos` of Model/Matmul.lean).  Helper prefix `ga_`.
-/
import Heathcliff.Proofs.GenAppTerms

namespace HC
open HC.MM HC.GenApp

/-- two nested `for` loops (`outer` runs the inner loop over `body`) whose innermost body appends the two entries `P a b`, `Q a b` in
    iteration (`lo1 + a`, `lo2 + b`): the plan lists the entries in program order -/
theorem ga_forUp_pairs (outer : Nat → List Nat → R (Ctl (List Nat))) (body : Nat → Nat → List Nat → R (Ctl (List Nat)))
    (P Q : Nat → Nat → Nat) (lo1 k1 lo2 k2 : Nat)
    (houter : ∀ i l, outer i l = do let l ← forUp lo2 k2 l (body i); pure (Ctl.next l))
    (h : ∀ a b l, a < k1 → b < k2 → body (lo1 + a) (lo2 + b) l = .ok (.next (l ++ [P a b, Q a b]))) :
    forUp lo1 k1 [] outer = .ok ((pairs k1 k2).flatMap fun p => [P p.1 p.2, Q p.1 p.2]) := by
  rw [ga_forUp_pushL outer (fun a => (List.range k2).flatMap fun b => [P a b, Q a b]) lo1 k1 [] fun a l ha =>
    (houter _ l).trans (ga_forUp_pushL_next _ (fun b => [P a b, Q a b]) lo2 k2 l fun b l hb => h a b l ha hb)]
  simp [pairs, List.flatMap_assoc, List.flatMap_map]

/-- a flat plan `p0, s0, p1, s1, …` as (position, source index) pairs -/
def ga_unflat2 : List Nat → List (Nat × Nat)
  | a :: b :: rest => (a, b) :: ga_unflat2 rest
  | _ => []

theorem ga_unflat2_flat {β : Type} (xs : List β) (P S : β → Nat) :
    ga_unflat2 (xs.flatMap fun x => [P x, S x]) = xs.map fun x => (P x, S x) := by
  induction xs with
  | nil => rfl
  | cons x xs ih => simp [List.flatMap_cons, ga_unflat2, ih]

/-- the source index `i * dims + j` of an entry, as every plan body computes it (checked), in front of the rest `f` -/
theorem ga_src_bind {β : Type} {i j ui uj D : Nat} (hi : i ≤ ui) (hj : j ≤ uj) (h : ui * D + uj < 2^64) (f : Nat → R β) :
    (do let t6 ← ckMul i D; let t7 ← ckAdd t6 j; f t7) = f (i * D + j) := by
  have e : i * D + j ≤ ui * D + uj := Nat.add_le_add (Nat.mul_le_mul_right _ hi) hj
  rw [ga_ckMul_bind (Nat.lt_of_le_of_lt (Nat.le_trans (Nat.le_add_right _ j) e) h), ga_ckAdd_bind (Nat.lt_of_le_of_lt e h)]

theorem ga_add_le_of_lt_sub {a l u : Nat} (h : a < u - l) : l + a ≤ u := by omega

/-- entry (`a`, `b`) of a `bb × ib` block of `ob`-strided rows lies inside the `bb * ib * ob` words of the block -/
theorem ga_in_pos_lt {a b bb ib ob : Nat} (ha : a < bb) (hb : b < ib) (hob : 1 ≤ ob) : a * ib * ob + b < bb * ib * ob := by
  have e2 : a * (ib * ob) + ib * ob ≤ bb * (ib * ob) := grid_succ_le ha
  rw [← Nat.mul_assoc, ← Nat.mul_assoc] at e2
  exact Nat.lt_of_lt_of_le (Nat.add_lt_add_left (Nat.lt_of_lt_of_le hb (Nat.le_mul_of_pos_right _ hob)) _) e2

/-- **generated positions of one input block = `inPos`** : rows `li..ui` (at most `batch_block`), columns `lj..uj` (at most `input_block`) -/
theorem ga_mm_input_positions_eq (H : MatmulHelper) (li ui lj uj : Nat) (hfit : H.batch_block * H.input_block * H.output_block ≤ H.poly_degree)
    (hn : H.poly_degree < 2^64) (hob : 1 ≤ H.output_block) (hrows : ui - li ≤ H.batch_block) (hcols : uj - lj ≤ H.input_block)
    (hsrc : ui * H.input_dims + uj < 2^64) :
    mm_input_positions H li ui lj uj = .ok ((pairs (ui - li) (uj - lj)).flatMap fun p =>
      [inPos (ga_toHelper H) p.1 p.2, (li + p.1) * H.input_dims + (lj + p.2)]) := by
  have inner : ∀ a b l, a < ui - li → b < uj - lj → mm_input_positions_loop1 H li lj (li + a) (lj + b) l
      = .ok (.next (l ++ [inPos (ga_toHelper H) a b, (li + a) * H.input_dims + (lj + b)])) := by
    intro a b l ha hb
    have hP : a * H.input_block * H.output_block + b < H.poly_degree :=
      Nat.lt_of_lt_of_le (ga_in_pos_lt (Nat.lt_of_lt_of_le ha hrows) (Nat.lt_of_lt_of_le hb hcols) hob) hfit
    have m2 : a * H.input_block * H.output_block < 2^64 := Nat.lt_of_le_of_lt (Nat.le_add_right _ b) (Nat.lt_trans hP hn)
    simp only [mm_input_positions_loop1]
    rw [ga_ckSub_bind (Nat.le_add_right li a), Nat.add_sub_cancel_left,
      ga_ckMul_bind (Nat.lt_of_le_of_lt (Nat.le_mul_of_pos_right _ hob) m2), ga_ckMul_bind m2, ga_ckSub_bind (Nat.le_add_right lj b),
      Nat.add_sub_cancel_left, ga_ckAdd_bind (Nat.lt_trans hP hn), if_pos hP,
      ga_src_bind (ga_add_le_of_lt_sub ha) (ga_add_le_of_lt_sub hb) hsrc, List.append_assoc]
    rfl
  simp only [mm_input_positions, ga_forUp_pairs (mm_input_positions_loop2 H li lj uj) (mm_input_positions_loop1 H li lj) _ _
    li (ui - li) lj (uj - lj) (fun _ _ => rfl) inner]

/-- ... hence the model's input-block encoder writes exactly at the generated positions, reading the generated source indices -/
theorem ga_encInputBlock_plan {α : Type} (H : MatmulHelper) (zero : α) (x : Nat → α) (li ui lj uj : Nat)
    (hfit : H.batch_block * H.input_block * H.output_block ≤ H.poly_degree)
    (hn : H.poly_degree < 2^64) (hob : 1 ≤ H.output_block) (hrows : ui - li ≤ H.batch_block) (hcols : uj - lj ≤ H.input_block)
    (hsrc : ui * H.input_dims + uj < 2^64) :
    ∃ plan, mm_input_positions H li ui lj uj = .ok plan ∧
      encInputBlock (ga_toHelper H) zero x li ui lj uj
        = scatterA zero H.poly_degree H.poly_degree ((ga_unflat2 plan).map fun ps => (ps.1, x ps.2)) := by
  refine ⟨_, ga_mm_input_positions_eq H li ui lj uj hfit hn hob hrows hcols hsrc, ?_⟩
  rw [ga_unflat2_flat]
  simp only [encInputBlock, List.map_map, Function.comp_def, ga_toHelper]

/-- **generated positions of one weight block = `wPos`** (rows reversed): input rows `li..ui` (at most `input_block`), output columns
    `lj..uj` (at most `output_block`); the function's own `assert!(r < slots && r < vec.len())` passes -/
theorem ga_mm_weight_positions_eq (H : MatmulHelper) (li ui lj uj : Nat) (hfit : H.input_block * H.output_block ≤ H.poly_degree)
    (hn : H.poly_degree < 2^64) (hrows : ui - li ≤ H.input_block) (hcols : uj - lj ≤ H.output_block)
    (hsrc : ui * H.output_dims + uj < 2^64) :
    mm_weight_positions H li ui lj uj = .ok ((pairs (uj - lj) (ui - li)).flatMap fun p =>
      [wPos (ga_toHelper H) p.1 p.2, (li + p.2) * H.output_dims + (lj + p.1)]) := by
  have inner : ∀ b a l, b < uj - lj → a < ui - li →
      mm_weight_positions_loop1 H li lj H.poly_degree (List.replicate (H.input_block * H.output_block) 0) (lj + b) (li + a) l
        = .ok (.next (l ++ [wPos (ga_toHelper H) b a, (li + a) * H.output_dims + (lj + b)])) := by
    intro b a l hb ha
    have ha' : a < H.input_block := Nat.lt_of_lt_of_le ha hrows
    have e2 : b * H.input_block + H.input_block ≤ H.input_block * H.output_block :=
      Nat.mul_comm H.output_block H.input_block ▸ grid_succ_le (Nat.lt_of_lt_of_le hb hcols)
    have e1 : a + 1 ≤ b * H.input_block + H.input_block := Nat.le_trans ha' (Nat.le_add_left _ _)
    have hW : b * H.input_block + H.input_block < 2^64 := Nat.lt_of_le_of_lt (Nat.le_trans e2 hfit) hn
    have hr : b * H.input_block + H.input_block - a - 1 < H.input_block * H.output_block := by
      rw [Nat.sub_sub]; exact Nat.lt_of_lt_of_le (Nat.sub_lt_of_pos_le (Nat.succ_pos a) e1) e2
    simp only [mm_weight_positions_loop1, List.length_replicate]
    rw [ga_ckSub_bind (Nat.le_add_right lj b), Nat.add_sub_cancel_left,
      ga_ckMul_bind (Nat.lt_of_le_of_lt (Nat.le_add_right _ _) hW), ga_ckAdd_bind hW, ga_ckSub_bind (Nat.le_add_right li a),
      Nat.add_sub_cancel_left, ga_ckSub_bind (Nat.le_trans (Nat.le_succ a) e1), ga_ckSub_bind (Nat.le_sub_of_add_le' e1),
      if_pos ⟨Nat.lt_of_lt_of_le hr hfit, hr⟩, ga_src_bind (ga_add_le_of_lt_sub ha) (ga_add_le_of_lt_sub hb) hsrc, List.append_assoc]
    rfl
  simp only [mm_weight_positions, ckMul_ok_pow (show H.input_block * H.output_block < 2^64 by omega), R.ok_bind,
    ga_forUp_pairs (mm_weight_positions_loop2 H li ui lj H.poly_degree (List.replicate (H.input_block * H.output_block) 0))
      (mm_weight_positions_loop1 H li lj H.poly_degree (List.replicate (H.input_block * H.output_block) 0)) _ _
      lj (uj - lj) li (ui - li) (fun _ _ => rfl) inner]

/-- ... hence the model's weight-block encoder writes exactly at the generated positions -/
theorem ga_encWeightSmall_plan {α : Type} (H : MatmulHelper) (zero : α) (w : Nat → α) (li ui lj uj : Nat)
    (hfit : H.input_block * H.output_block ≤ H.poly_degree) (hn : H.poly_degree < 2^64) (hrows : ui - li ≤ H.input_block)
    (hcols : uj - lj ≤ H.output_block) (hsrc : ui * H.output_dims + uj < 2^64) :
    ∃ plan, mm_weight_positions H li ui lj uj = .ok plan ∧
      encWeightSmall (ga_toHelper H) zero w li ui lj uj
        = scatterA zero (H.input_block * H.output_block) H.poly_degree ((ga_unflat2 plan).map fun ps => (ps.1, w ps.2)) := by
  refine ⟨_, ga_mm_weight_positions_eq H li ui lj uj hfit hn hrows hcols hsrc, ?_⟩
  rw [ga_unflat2_flat]
  simp only [encWeightSmall, List.map_map, Function.comp_def, ga_toHelper]

/-- **generated (destination index, read position) pairs of one output block = `outPos`**: rows `li..ui` (at most `batch_block`), output columns
    `lj..uj` (at most `output_block`); the read `buffer[POS]` (buffer resized to `poly_degree`) is kept as `assert!(POS < poly_degree)` -/
theorem ga_mm_output_positions_eq (H : MatmulHelper) (li ui lj uj : Nat) (hfit : H.batch_block * H.input_block * H.output_block ≤ H.poly_degree)
    (hn : H.poly_degree < 2^64) (hib : 1 ≤ H.input_block) (hrows : ui - li ≤ H.batch_block) (hcols : uj - lj ≤ H.output_block)
    (hsrc : ui * H.output_dims + uj < 2^64) :
    mm_output_positions H li ui lj uj = .ok ((pairs (ui - li) (uj - lj)).flatMap fun p =>
      [(li + p.1) * H.output_dims + (lj + p.2), outPos (ga_toHelper H) p.1 p.2]) := by
  have inner : ∀ a b l, a < ui - li → b < uj - lj → mm_output_positions_loop1 H li lj (li + a) (lj + b) l
      = .ok (.next (l ++ [(li + a) * H.output_dims + (lj + b), outPos (ga_toHelper H) a b])) := by
    intro a b l ha hb
    have hb' : b < H.output_block := Nat.lt_of_lt_of_le hb hcols
    have hbl : a * H.input_block * H.output_block + b * H.input_block + H.input_block ≤ H.poly_degree :=
      Nat.le_trans (ga_block_le (Nat.lt_of_lt_of_le ha hrows) hb') hfit
    have hT := Nat.lt_of_le_of_lt hbl hn
    have m4 : a * H.input_block * H.output_block + b * H.input_block < 2^64 := Nat.lt_of_le_of_lt (Nat.le_add_right _ _) hT
    have m2 : a * H.input_block * H.output_block < 2^64 := Nat.lt_of_le_of_lt (Nat.le_add_right _ _) m4
    have h1 : 1 ≤ a * H.input_block * H.output_block + b * H.input_block + H.input_block := Nat.le_trans hib (Nat.le_add_left _ _)
    simp only [mm_output_positions_loop1]
    rw [ga_ckSub_bind (Nat.le_add_right li a), Nat.add_sub_cancel_left,
      ga_ckMul_bind (Nat.lt_of_le_of_lt (Nat.le_mul_of_pos_right _ (Nat.zero_lt_of_lt hb')) m2), ga_ckMul_bind m2,
      ga_ckSub_bind (Nat.le_add_right lj b), Nat.add_sub_cancel_left, ga_ckMul_bind (Nat.lt_of_le_of_lt (Nat.le_add_left _ _) m4),
      ga_ckAdd_bind m4, ga_ckAdd_bind hT, ga_ckSub_bind h1, if_pos (Nat.lt_of_lt_of_le (Nat.sub_lt h1 Nat.one_pos) hbl),
      ga_src_bind (ga_add_le_of_lt_sub ha) (ga_add_le_of_lt_sub hb) hsrc, List.append_assoc]
    rfl
  simp only [mm_output_positions, ga_forUp_pairs (mm_output_positions_loop2 H li lj uj) (mm_output_positions_loop1 H li lj) _ _
    li (ui - li) lj (uj - lj) (fun _ _ => rfl) inner]

end HC
