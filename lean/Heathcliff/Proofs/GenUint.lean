import Heathcliff.Gen.Word2Fns
import Heathcliff.Proofs.GenWordScalar

/-!
  Translator tie, multi-word layer of src/util/basic.rs (generated into Gen/WordFns.lean, `HC.GenW`, and Gen/Word2Fns.lean, `HC.GenW2`) against
  Model/Word.lean.  The loops that write through `&mut [u64]` are generated with the slice as an input list and first result; the model is
  structurally recursive with the explicit length `n = result.len()`.
  * carry loops `add_uint`, `sub_uint`, `add_uint_u64`, `sub_uint_u64` (`gx_`), `negate_uint` (`gy_`): instances of `gx_ripple`;
  * in-place ripples `add_uint_inplace` / `sub_uint_inplace`, `compare_uint`, `is_greater_than_or_equal_uint`, the modular
    `add_uint_mod` / `sub_uint_mod` / `add_uint_mod_inplace`, the 192-bit shifts `left_shift_u192` / `right_shift_u192` (`gq_`).
  The tags `gx_`, `gy_`, `gq_` say in which run of the translator a function was generated, nothing else; they also head names in GenWordScalar,
  GenNttArith and the GenGalois modules (other functions), and `gq_` those of GenConc and GenEval3 (other families).
  `gq_go_range` and the `gq_…_length` lemmas are about the MODEL's functions: they are what the ties need of them for arbitrary lists.
-/
namespace HC

section
open HC.GenW

/-- a slice read succeeds or is out of bounds: `GenW.idx_ok` and `GenW.idx_oob` (GenBase) in one statement -/
theorem gx_idx_cases (l : List Nat) (i : Nat) : (∃ x, GenW.idx l i = .ok x) ∨ GenW.idx l i = .error .oob := by
  by_cases h : i < l.length
  · exact Or.inl ⟨_, GenW.idx_ok l h⟩
  · exact Or.inr (GenW.idx_oob l (Nat.le_of_not_lt h))

/-! ### the carry loops `for i in 1..result.len()` -/

/-- A generated carry loop, given by its unfolding equations: below `L` (the length of the shortest operand that is indexed directly)
    step `i` writes `(op x y c).1` to `result[i]` and carries `(op x y c).2`, where `x`, `y` are the `i`-th words of `a`, `b` (0 past
    the end); from `L` on it panics.  `limbs` is `addLimbs` or `subLimbs`, `out` what the function returns, `N = result.len()`.
    `limbs` and `op` are parameters, known by the two defining equations `l0`, `ls` (both `rfl` for `addLimbs` with `addU64Carry` and for
    `subLimbs` with `subU64Borrow`), so that ONE induction serves the add and the sub loops; nothing else satisfies them. -/
theorem gx_ripple {β : Type} {loop : Nat → Nat → List Nat → Nat → R β} {out : List Nat → Nat → β}
    {limbs : Nat → List Nat → List Nat → Nat → List Nat × Nat} {op : Nat → Nat → Nat → Nat × Nat} (a b : List Nat) (N L : Nat)
    (h0 : ∀ i r c, loop 0 i r c = .ok (out r c))
    (hs : ∀ n i r c, r.length = N → i < N → i < L → loop (n + 1) i r c =
      loop n (i + 1) (r.set i (op ((a.drop i).headD 0) ((b.drop i).headD 0) c).1) (op ((a.drop i).headD 0) ((b.drop i).headD 0) c).2)
    (he : ∀ n i r c, r.length = N → i < N → ¬ i < L → loop (n + 1) i r c = .error .oob)
    (l0 : ∀ a b c, limbs 0 a b c = ([], c))
    (ls : ∀ n a b c, limbs (n + 1) a b c = ((op (a.headD 0) (b.headD 0) c).1 :: (limbs n a.tail b.tail (op (a.headD 0) (b.headD 0) c).2).1,
      (limbs n a.tail b.tail (op (a.headD 0) (b.headD 0) c).2).2)) :
    ∀ cnt i r c, r.length = N → i + cnt = N → i ≤ L →
      loop cnt i r c = if N ≤ L then .ok (out (r.take i ++ (limbs cnt (a.drop i) (b.drop i) c).1) (limbs cnt (a.drop i) (b.drop i) c).2)
        else .error .oob := by
  intro cnt
  induction cnt with
  | zero =>
    intro i r c hr h hL
    rw [h0, l0, if_pos (by omega), List.append_nil, List.take_of_length_le (by omega)]
  | succ n ih =>
    intro i r c hr h hL
    by_cases hi : i < L
    · rw [hs n i r c hr (by omega) hi, ih (i + 1) _ _ (by rw [List.length_set]; exact hr) (by omega) hi, ls,
        list_take_set_succ _ _ (by omega), List.tail_drop, List.tail_drop, List.append_assoc, List.singleton_append]
    · rw [he n i r c hr (by omega) hi, if_neg (by omega)]

theorem gx_add_uint_loop (a b r : List Nat) (c : Nat) (ha : 1 ≤ a.length) (hb : 1 ≤ b.length) (hr : 1 ≤ r.length) :
    GenW.add_uint_loop1 a b (r.length - 1) 1 r c =
      if r.length ≤ min a.length b.length then
        .ok (r.take 1 ++ (addLimbs (r.length - 1) (a.drop 1) (b.drop 1) c).1, (addLimbs (r.length - 1) (a.drop 1) (b.drop 1) c).2)
      else .error .oob := by
  refine gx_ripple (out := Prod.mk) (op := addU64Carry) a b r.length (min a.length b.length) (fun _ _ _ => rfl) (fun n i r c hr hi hL => ?_)
    (fun n i r c hr hi hL => ?_) (fun _ _ _ => rfl) (fun _ _ _ _ => rfl) _ 1 r c rfl (by omega) (by omega)
  · have hia : i < a.length := by omega
    have hib : i < b.length := by omega
    rw [GenW.add_uint_loop1]
    simp only [GenW.idx_ok _ hia, GenW.idx_ok _ hib, GenW.setIdx_ok _ _ (hr ▸ hi), list_headD_drop _ 0 hia, list_headD_drop _ 0 hib,
      gw_add_u64_carry_eq, bind, Except.bind]
  · rw [GenW.add_uint_loop1]
    by_cases hia : i < a.length
    · simp only [GenW.idx_ok _ hia, GenW.idx_oob _ (Nat.le_of_not_lt (show ¬ i < b.length by omega)), bind, Except.bind]
    · simp only [GenW.idx_oob _ (Nat.le_of_not_lt hia), bind, Except.bind]

/-- `add_uint(operand1, operand2, result)`: the new contents of `result` and the returned carry are the hand model's
    `addUint operand1 operand2 result.len()` (including the out-of-bounds panics when an operand is shorter than `result`) -/
theorem gx_add_uint_eq : ∀ a b r : List Nat, GenW.add_uint a b r = addUint a b r.length
  | [], _, r => by rw [addUint, if_pos]; rfl; exact (Nat.eq_zero_or_pos r.length).imp_right Or.inl
  | _ :: _, [], r => by rw [addUint, if_pos]; rfl; exact (Nat.eq_zero_or_pos r.length).imp_right Or.inr
  | _ :: _, _ :: _, [] => rfl
  | x :: a, y :: b, z :: r => by
    have e := gx_add_uint_loop (x :: a) (y :: b) ((addU64 x y).1 :: r) (addU64 x y).2 (Nat.succ_pos _) (Nat.succ_pos _) (Nat.succ_pos _)
    rw [show GenW.add_uint (x :: a) (y :: b) (z :: r) = _ from e, addUint]
    simp only [List.length_cons]
    by_cases h : r.length + 1 ≤ min (a.length + 1) (b.length + 1)
    · rw [if_pos h, if_neg (by omega)]; rfl
    · rw [if_neg h, if_pos (by omega)]

/-! ### sub_uint (first limb read directly, later limbs zero-extended: no out-of-bounds read inside the loop) -/
/-- `list_headD_drop` and `list_headD_drop_of_ge` (Base) as one `if` -/
theorem gx_getD_drop (l : List Nat) (i : Nat) : (l.drop i).headD 0 = if i < l.length then l[i]?.getD 0 else 0 := by
  by_cases h : i < l.length
  · rw [if_pos h, list_headD_drop _ 0 h, List.getElem?_eq_getElem h]; rfl
  · rw [if_neg h, list_headD_drop_of_ge _ 0 (Nat.le_of_not_lt h)]

theorem gx_sub_uint_loop (a b r : List Nat) (c : Nat) (hr : 1 ≤ r.length) :
    GenW.sub_uint_loop1 a b (r.length - 1) 1 r c =
      .ok (r.take 1 ++ (subLimbs (r.length - 1) (a.drop 1) (b.drop 1) c).1, (subLimbs (r.length - 1) (a.drop 1) (b.drop 1) c).2) := by
  refine (gx_ripple (out := Prod.mk) (op := subU64Borrow) a b r.length r.length (fun _ _ _ => rfl) (fun n i r c hr hi _ => ?_)
    (fun n i r c _ hi hL => absurd hi hL) (fun _ _ _ => rfl) (fun _ _ _ _ => rfl) _ 1 r c rfl (by omega) hr).trans (if_pos (Nat.le_refl _))
  rw [GenW.sub_uint_loop1, GenW.idx_or_zero, GenW.idx_or_zero]
  simp only [GenW.setIdx_ok _ _ (hr ▸ hi), gw_sub_u64_borrow_eq, bind, Except.bind]

theorem gx_sub_uint_eq : ∀ a b r : List Nat, GenW.sub_uint a b r = subUint a b r.length
  | [], _, _ => by rw [subUint, if_pos]; rfl; exact Or.inr (Or.inl Nat.one_pos)
  | _ :: _, [], _ => by rw [subUint, if_pos]; rfl; exact Or.inr (Or.inr Nat.one_pos)
  | _ :: _, _ :: _, [] => rfl
  | x :: a, y :: b, z :: r => by
    have e := gx_sub_uint_loop (x :: a) (y :: b) ((subU64 x y).1 :: r) (subU64 x y).2 (Nat.succ_pos _)
    rw [show GenW.sub_uint (x :: a) (y :: b) (z :: r) = _ from e, subUint]
    simp only [List.length_cons]
    rw [if_neg (by omega)]; rfl

/-! ### add_uint_u64 / sub_uint_u64 (second operand a single word: the later limbs add / subtract 0 = head of the empty list) -/
theorem gx_add_uint_u64_loop (a r : List Nat) (c : Nat) (ha : 1 ≤ a.length) (hr : 1 ≤ r.length) :
    GenW.add_uint_u64_loop1 a (r.length - 1) 1 r c =
      if r.length ≤ a.length then
        .ok (r.take 1 ++ (addLimbs (r.length - 1) (a.drop 1) [] c).1, (addLimbs (r.length - 1) (a.drop 1) [] c).2)
      else .error .oob := by
  refine gx_ripple (out := Prod.mk) (op := addU64Carry) a [] r.length a.length (fun _ _ _ => rfl) (fun n i r c hr hi hia => ?_)
    (fun n i r c hr hi hia => ?_) (fun _ _ _ => rfl) (fun _ _ _ _ => rfl) _ 1 r c rfl (by omega) ha
  · rw [GenW.add_uint_u64_loop1]
    simp only [GenW.idx_ok _ hia, GenW.setIdx_ok _ _ (hr ▸ hi), list_headD_drop _ 0 hia, gw_add_u64_carry_eq, List.drop_nil, List.headD_nil, bind, Except.bind]
  · rw [GenW.add_uint_u64_loop1]
    simp only [GenW.idx_oob _ (Nat.le_of_not_lt hia), bind, Except.bind]

theorem gx_add_uint_u64_eq : ∀ (a : List Nat) (w : Nat) (r : List Nat), GenW.add_uint_u64 a w r = addUintU64 a w r.length
  | [], _, r => by rw [addUintU64, if_pos]; rfl; exact (Nat.eq_zero_or_pos r.length).imp_right id
  | _ :: _, _, [] => rfl
  | x :: a, w, z :: r => by
    have e := gx_add_uint_u64_loop (x :: a) ((addU64 x w).1 :: r) (addU64 x w).2 (Nat.succ_pos _) (Nat.succ_pos _)
    rw [show GenW.add_uint_u64 (x :: a) w (z :: r) = _ from e, addUintU64]
    simp only [List.length_cons]
    by_cases h : r.length + 1 ≤ a.length + 1
    · rw [if_pos h, if_neg (by omega)]; rfl
    · rw [if_neg h, if_pos (by omega)]

theorem gx_sub_uint_u64_loop (a r : List Nat) (c : Nat) (ha : 1 ≤ a.length) (hr : 1 ≤ r.length) :
    GenW.sub_uint_u64_loop1 a (r.length - 1) 1 r c =
      if r.length ≤ a.length then
        .ok (r.take 1 ++ (subLimbs (r.length - 1) (a.drop 1) [] c).1, (subLimbs (r.length - 1) (a.drop 1) [] c).2)
      else .error .oob := by
  refine gx_ripple (out := Prod.mk) (op := subU64Borrow) a [] r.length a.length (fun _ _ _ => rfl) (fun n i r c hr hi hia => ?_)
    (fun n i r c hr hi hia => ?_) (fun _ _ _ => rfl) (fun _ _ _ _ => rfl) _ 1 r c rfl (by omega) ha
  · rw [GenW.sub_uint_u64_loop1]
    simp only [GenW.idx_ok _ hia, GenW.setIdx_ok _ _ (hr ▸ hi), list_headD_drop _ 0 hia, gw_sub_u64_borrow_eq, List.drop_nil, List.headD_nil, bind, Except.bind]
  · rw [GenW.sub_uint_u64_loop1]
    simp only [GenW.idx_oob _ (Nat.le_of_not_lt hia), bind, Except.bind]

theorem gx_sub_uint_u64_eq : ∀ (a : List Nat) (w : Nat) (r : List Nat), GenW.sub_uint_u64 a w r = subUintU64 a w r.length
  | [], _, r => by rw [subUintU64, if_pos]; rfl; exact (Nat.eq_zero_or_pos r.length).imp_right id
  | _ :: _, _, [] => rfl
  | x :: a, w, z :: r => by
    have e := gx_sub_uint_u64_loop (x :: a) ((subU64 x w).1 :: r) (subU64 x w).2 (Nat.succ_pos _) (Nat.succ_pos _)
    rw [show GenW.sub_uint_u64 (x :: a) w (z :: r) = _ from e, subUintU64]
    simp only [List.length_cons]
    by_cases h : r.length + 1 ≤ a.length + 1
    · rw [if_pos h, if_neg (by omega)]; rfl
    · rw [if_neg h, if_pos (by omega)]

end

/-! ### negate_uint: `!operand[i]` rippled with the carry of `!operand[0] + 1` -/

theorem gy_addLimbs_take : ∀ n (l : List Nat) c, addLimbs n (l.take n) [] c = addLimbs n l [] c
  | 0, _, _ => rfl
  | n + 1, [], _ => rfl
  | n + 1, x :: l, c => by
    rw [List.take_succ_cons, addLimbs, addLimbs]
    simp only [List.tail_cons, List.tail_nil, gy_addLimbs_take n l, List.headD_cons]

theorem gy_negate_uint_loop (a r : List Nat) (c : Nat) (ha : 1 ≤ a.length) (hr : 1 ≤ r.length) :
    GenW.negate_uint_loop1 a (r.length - 1) 1 r c =
      if r.length ≤ a.length then .ok (r.take 1 ++ (addLimbs (r.length - 1) ((a.map notW).drop 1) [] c).1) else .error .oob := by
  refine gx_ripple (out := fun l _ => l) (op := addU64Carry) (a.map notW) [] r.length a.length (fun _ _ _ => rfl)
    (fun n i r c hr hi hia => ?_) (fun n i r c hr hi hia => ?_) (fun _ _ _ => rfl) (fun _ _ _ _ => rfl) _ 1 r c rfl (by omega) ha
  · rw [GenW.negate_uint_loop1]
    simp only [GenW.idx_ok _ hia, GenW.setIdx_ok _ _ (hr ▸ hi), list_headD_drop _ 0 (show i < (a.map notW).length by rw [List.length_map]; exact hia),
      List.getElem_map, gw_add_u64_carry_eq, List.drop_nil, List.headD_nil, bind, Except.bind]
  · rw [GenW.negate_uint_loop1]
    simp only [GenW.idx_oob _ (Nat.le_of_not_lt hia), bind, Except.bind]

theorem gy_negate_uint_eq : ∀ a r : List Nat, GenW.negate_uint a r = negateUint a r.length
  | [], r => by rw [negateUint, if_pos]; rfl; exact (Nat.eq_zero_or_pos r.length).imp_right id
  | _ :: _, [] => rfl
  | x :: a, z :: r => by
    have e := gy_negate_uint_loop (x :: a) ((addU64 (notW x) 1).1 :: r) (addU64 (notW x) 1).2 (Nat.succ_pos _) (Nat.succ_pos _)
    rw [show GenW.negate_uint (x :: a) (z :: r) = _ from e, negateUint]
    simp only [List.length_cons, List.tail_cons, Nat.add_sub_cancel, List.map_take, gy_addLimbs_take]
    by_cases h : r.length + 1 ≤ a.length + 1
    · rw [if_pos h, if_neg (by omega)]; rfl
    · rw [if_neg h, if_pos (by omega)]

section
open HC.GenW2

/-- `R.error_bind'` (Base) under this file's tag; proved by `Eq.trans rfl rfl` like it, so that `simp` does not take it for a `rfl` rule
    (those are tried by unfolding and cost more in the simp sets of the ties) -/
theorem gq_err_bind {α β : Type} (e : Err) (f : α → R β) : ((Except.error e : R α) >>= f) = .error e := Eq.trans rfl rfl
/-! ### in-place ripples: the generated in-place loop is the generated out-of-place loop run on a buffer that still holds the operand -/
theorem gq_add_inplace_loop (a b : List Nat) : ∀ cnt i (r : List Nat) c, r.drop i = a.drop i →
    GenW2.add_uint_inplace_loop1 b cnt i r c = GenW.add_uint_loop1 a b cnt i r c := by
  intro cnt
  induction cnt with
  | zero => intro i r c _; rfl
  | succ n ih =>
    intro i r c h
    rw [GenW2.add_uint_inplace_loop1, GenW.add_uint_loop1, GenW.idx_congr h]
    cases GenW.idx a i with
    | error e => rfl
    | ok x =>
      simp only [R.ok_bind']
      cases GenW.idx b i with
      | error e => rfl
      | ok y =>
        simp only [R.ok_bind']
        unfold GenW.setIdx
        by_cases hi : i < r.length
        · simp only [if_pos hi, R.ok_bind']
          exact ih (i+1) _ _ (list_drop_set_succ _ h)
        · simp only [if_neg hi]; rfl

theorem gq_sub_inplace_loop (a b : List Nat) : ∀ cnt i (r : List Nat) c, r.length = a.length → r.drop i = a.drop i →
    GenW2.sub_uint_inplace_loop1 b cnt i r c = GenW.sub_uint_loop1 a b cnt i r c := by
  intro cnt
  induction cnt with
  | zero => intro i r c _ _; rfl
  | succ n ih =>
    intro i r c hl h
    rw [GenW2.sub_uint_inplace_loop1, GenW.sub_uint_loop1, GenW.idx_congr h, hl]
    cases (if i < a.length then GenW.idx a i else pure 0 : R Nat) with
    | error e => rfl
    | ok x =>
      simp only [R.ok_bind']
      cases (if i < b.length then GenW.idx b i else pure 0 : R Nat) with
      | error e => rfl
      | ok y =>
        simp only [R.ok_bind']
        unfold GenW.setIdx
        by_cases hi : i < r.length
        · simp only [if_pos hi, R.ok_bind']
          exact ih (i+1) _ _ (by rw [List.length_set]; exact hl) (list_drop_set_succ _ h)
        · simp only [if_neg hi]; rfl

theorem gq_add_uint_inplace_eq_gen (a b : List Nat) : GenW2.add_uint_inplace a b = GenW.add_uint a b a := by
  unfold GenW2.add_uint_inplace GenW.add_uint
  cases GenW.idx a 0 with
  | error e => rfl
  | ok x =>
    simp only [R.ok_bind']
    cases GenW.idx b 0 with
    | error e => rfl
    | ok y =>
      simp only [R.ok_bind']
      exact gq_add_inplace_loop a b _ 1 _ _ (list_drop_set_succ _ rfl)

theorem gq_sub_uint_inplace_eq_gen (a b : List Nat) : GenW2.sub_uint_inplace a b = GenW.sub_uint a b a := by
  unfold GenW2.sub_uint_inplace GenW.sub_uint
  cases GenW.idx a 0 with
  | error e => rfl
  | ok x =>
    simp only [R.ok_bind']
    cases GenW.idx b 0 with
    | error e => rfl
    | ok y =>
      simp only [R.ok_bind']
      exact gq_sub_inplace_loop a b _ 1 _ _ (by rw [List.length_set]) (list_drop_set_succ _ rfl)

theorem gq_add_uint_inplace_eq (a b : List Nat) : GenW2.add_uint_inplace a b = addUint a b a.length := by
  rw [gq_add_uint_inplace_eq_gen, gx_add_uint_eq]

theorem gq_sub_uint_inplace_eq (a b : List Nat) : GenW2.sub_uint_inplace a b = subUint a b a.length := by
  rw [gq_sub_uint_inplace_eq_gen, gx_sub_uint_eq]

/-- `Ordering` of the model's −1 / 0 / 1 -/
def gq_ofInt (z : Int) : Ordering := if z < 0 then .lt else if z = 0 then .eq else .gt

/-- one step of the generated loop: its three branches (one operand ended, the other ended, both present) compare
    the zero-extended words -/
theorem gq_compare_step (a b : List Nat) (n i : Nat) (hi : i < max a.length b.length) :
    GenW2.compare_uint_loop1 a b n (i + 1) =
      if a.getD i 0 < b.getD i 0 then .ok .lt else if a.getD i 0 > b.getD i 0 then .ok .gt else GenW2.compare_uint_loop1 a b n i := by
  rw [GenW2.compare_uint_loop1]
  by_cases ha : a.length ≤ i
  · have hb : i < b.length := by omega
    simp only [if_pos ha, GenW.idx_ok _ hb, R.ok_bind', list_getD_of_ge a 0 ha, list_getD_eq_getElem b 0 hb, Nat.not_lt_zero, if_false]; rfl
  · have ha' : i < a.length := by omega
    by_cases hb : b.length ≤ i
    · simp only [if_neg ha, if_pos hb, GenW.idx_ok _ ha', R.ok_bind', list_getD_eq_getElem a 0 ha', list_getD_of_ge b 0 hb, Nat.not_lt_zero,
        if_false]; rfl
    · have hb' : i < b.length := by omega
      simp only [if_neg ha, if_neg hb, GenW.idx_ok _ ha', GenW.idx_ok _ hb', R.ok_bind', list_getD_eq_getElem a 0 ha', list_getD_eq_getElem b 0 hb',
        GenW2.cmpW]
      by_cases h1 : a[i] < b[i]
      · simp only [if_pos h1]; rfl
      · by_cases h2 : a[i] = b[i]
        · simp only [h2, Nat.lt_irrefl, if_false, if_true]; rfl
        · simp only [if_neg h1, if_neg h2, if_pos (show a[i] > b[i] by omega)]; rfl

theorem gq_compare_loop (a b : List Nat) (n : Nat) : ∀ k, k ≤ max a.length b.length →
    GenW2.compare_uint_loop1 a b n k = .ok (gq_ofInt (compareUint.go a b k)) := by
  intro k
  induction k with
  | zero => intro _; rfl
  | succ i ih =>
    intro hk
    rw [gq_compare_step a b n i hk, compareUint.go, ih (Nat.le_of_lt hk)]
    split
    · rfl
    · split <;> rfl

theorem gq_compare_uint_eq (a b : List Nat) : GenW2.compare_uint a b = .ok (gq_ofInt (compareUint a b)) := by
  unfold GenW2.compare_uint compareUint
  exact gq_compare_loop a b _ _ (Nat.le_refl _)

/-- about the model: the comparison of `compareUint` returns -1, 0 or 1 (so `gq_ofInt` loses nothing) -/
theorem gq_go_range (a b : List Nat) : ∀ k, compareUint.go a b k = -1 ∨ compareUint.go a b k = 0 ∨ compareUint.go a b k = 1 := by
  intro k
  induction k with
  | zero => right; left; rfl
  | succ i ih =>
    rw [compareUint.go]
    by_cases h1 : a.getD i 0 < b.getD i 0
    · left; simp only [if_pos h1]
    · by_cases h2 : a.getD i 0 > b.getD i 0
      · right; right; simp only [if_neg h1, if_pos h2]
      · simp only [if_neg h1, if_neg h2]; exact ih

theorem gq_is_greater_than_or_equal_uint_eq (a b : List Nat) :
    GenW2.is_greater_than_or_equal_uint a b = .ok (geUint a b) := by
  unfold GenW2.is_greater_than_or_equal_uint geUint
  rw [gq_compare_uint_eq, R.ok_bind', R.pure_eq']
  congr 1
  unfold compareUint gq_ofInt
  rcases gq_go_range a b (max a.length b.length) with h | h | h <;> rw [h] <;> decide

/-! about the model: the result lengths for ARBITRARY lists.  C08C has them inside `addLimbs_spec` / `subLimbs_spec` under `Limbs` hypotheses;
  the ties below have no such hypotheses, so they need the bare lengths. -/
theorem gq_addLimbs_length : ∀ n a b c, (addLimbs n a b c).1.length = n := by
  intro n
  induction n with
  | zero => intro a b c; rfl
  | succ k ih => intro a b c; rw [addLimbs]; simp only [List.length_cons, ih]
theorem gq_subLimbs_length : ∀ n a b c, (subLimbs n a b c).1.length = n := by
  intro n
  induction n with
  | zero => intro a b c; rfl
  | succ k ih => intro a b c; rw [subLimbs]; simp only [List.length_cons, ih]

theorem gq_addUint_length {a b : List Nat} {n : Nat} {s : List Nat} {c : Nat} (h : addUint a b n = .ok (s, c)) : s.length = n := by
  unfold addUint at h
  by_cases hb : n = 0 ∨ a.length < n ∨ b.length < n
  · rw [if_pos hb] at h; cases h
  · rw [if_neg hb] at h
    have h' := congrArg (fun (x : R (List Nat × Nat)) => match x with | .ok p => p.1.length | .error _ => n) h
    simp only [R.pure_eq', List.length_cons, gq_addLimbs_length] at h'
    omega
theorem gq_subUint_length {a b : List Nat} {n : Nat} {s : List Nat} {c : Nat} (h : subUint a b n = .ok (s, c)) : s.length = n := by
  unfold subUint at h
  by_cases hb : n = 0 ∨ a.length < 1 ∨ b.length < 1
  · rw [if_pos hb] at h; cases h
  · rw [if_neg hb] at h
    have h' := congrArg (fun (x : R (List Nat × Nat)) => match x with | .ok p => p.1.length | .error _ => n) h
    simp only [R.pure_eq', List.length_cons, gq_subLimbs_length] at h'
    omega

/-- the common tail of `add_uint_mod` / `add_uint_mod_inplace`: conditional subtraction of the modulus -/
theorem gq_add_mod_tail (m s : List Nat) (c : Nat) (hs : s.length = m.length) :
    ((if decide (c ≠ 0) = true then (pure true : R Bool) else
        (GenW2.is_greater_than_or_equal_uint s m >>= fun t2 => pure (decide (t2 = true)))) >>= fun t3 =>
      (if t3 = true then (GenW2.sub_uint_inplace s m >>= fun p => pure p.1) else (pure s : R (List Nat)))) =
    (if c ≠ 0 ∨ geUint s m = true then (subUint s m m.length >>= fun p => pure p.1) else pure s) := by
  rw [gq_is_greater_than_or_equal_uint_eq, gq_sub_uint_inplace_eq, hs]
  by_cases hc : c ≠ 0
  · have hd : decide (c ≠ 0) = true := decide_eq_true hc
    rw [hd, if_pos rfl, if_pos (Or.inl hc), R.pure_eq', R.ok_bind', if_pos rfl]
  · have hd : decide (c ≠ 0) = false := decide_eq_false hc
    rw [hd, if_neg (by decide), R.ok_bind', R.pure_eq', R.ok_bind']
    cases hg : geUint s m with
    | true =>
      rw [if_pos (by decide), if_pos (Or.inr rfl)]
    | false =>
      rw [if_neg (by decide), if_neg (by intro h; rcases h with h | h; exact hc h; cases h)]

/-- `add_uint_mod(operand1, operand2, modulus, result)` (generated) = `addUintMod` of the hand model; `result.len() = modulus.len()` is the
    calling convention (the model takes every length from the modulus, the code from `result`). -/
theorem gq_add_uint_mod_eq (a b m r : List Nat) (hr : r.length = m.length) : GenW2.add_uint_mod a b m r = addUintMod a b m := by
  unfold GenW2.add_uint_mod addUintMod
  dsimp only
  rw [gx_add_uint_eq, hr]
  cases h : addUint a b m.length with
  | error e => rfl
  | ok p =>
    obtain ⟨s, c⟩ := p
    have hs : s.length = m.length := gq_addUint_length h
    simp only [R.ok_bind']
    exact gq_add_mod_tail m s c hs

/-- in place: `operand1` is also the result buffer, so the calling convention `result.len() = modulus.len()` of `gq_add_uint_mod_eq` reads
    `a.length = m.length` -/
theorem gq_add_uint_mod_inplace_eq (a b m : List Nat) (hr : a.length = m.length) : GenW2.add_uint_mod_inplace a b m = addUintMod a b m := by
  unfold GenW2.add_uint_mod_inplace addUintMod
  dsimp only
  rw [gq_add_uint_inplace_eq, hr]
  cases h : addUint a b m.length with
  | error e => rfl
  | ok p =>
    obtain ⟨s, c⟩ := p
    have hs : s.length = m.length := gq_addUint_length h
    simp only [R.ok_bind']
    exact gq_add_mod_tail m s c hs

theorem gq_sub_uint_mod_eq (a b m r : List Nat) (hr : r.length = m.length) : GenW2.sub_uint_mod a b m r = subUintMod a b m := by
  unfold GenW2.sub_uint_mod subUintMod
  dsimp only
  rw [gx_sub_uint_eq, hr]
  cases h : subUint a b m.length with
  | error e => rfl
  | ok p =>
    obtain ⟨d, bw⟩ := p
    have hs : d.length = m.length := gq_subUint_length h
    simp only [R.ok_bind', gq_add_uint_inplace_eq, hs]

theorem gq_and_128 (s : Nat) : (s &&& 128 > 0) ↔ s / 128 % 2 = 1 := by
  have := and_two_pow s 7
  rw [show (2:Nat)^7 = 128 by decide] at this
  rw [this]; by_cases h : s / 128 % 2 = 1 <;> simp [h]
theorem gq_and_64 (s : Nat) : (s &&& 64 > 0) ↔ s / 64 % 2 = 1 := by
  have := and_two_pow s 6
  rw [show (2:Nat)^6 = 64 by decide] at this
  rw [this]; by_cases h : s / 64 % 2 = 1 <;> simp [h]
theorem gq_and_63 (s : Nat) : s &&& 63 = s % 64 := Nat.and_two_pow_sub_one_eq_mod s 6

/-- the two halves of a word put together from neighbouring limbs by a shift left and a shift right do not overlap -/
theorem shl_or_shr (x y s : Nat) (hs : s < 64) (hy : y < 2^64) :
    ((x <<< s) % 2^64) ||| (y >>> (64 - s)) = (x * 2^s) % B64 + y / 2^(64-s) := by
  have hp : (2:Nat)^64 = 2^(64-s) * 2^s := by rw [← Nat.pow_add]; congr 1; omega
  have hlt : y / 2^(64-s) < 2^s := Nat.div_lt_of_lt_mul (by rw [← hp]; exact hy)
  rw [Nat.shiftLeft_eq, Nat.shiftRight_eq_div_pow, B64_eq, hp, Nat.mul_mod_mul_right, Nat.mul_comm _ (2^s),
    Nat.two_pow_add_eq_or_of_lt hlt]

theorem shr_or_shl (x y s : Nat) (hs : s < 64) (hx : x < 2^64) :
    (x >>> s) ||| ((y <<< (64 - s)) % 2^64) = x / 2^s + (y * 2^(64-s)) % B64 := by
  have hp : (2:Nat)^64 = 2^s * 2^(64-s) := by rw [← Nat.pow_add]; congr 1; omega
  have hlt : x / 2^s < 2^(64-s) := Nat.div_lt_of_lt_mul (by rw [← hp]; exact hx)
  rw [Nat.shiftLeft_eq, Nat.shiftRight_eq_div_pow, B64_eq, hp, Nat.mul_mod_mul_right, Nat.mul_comm _ (2^(64-s)),
    Nat.add_comm, Nat.two_pow_add_eq_or_of_lt hlt, Nat.or_comm]

/-- the common tail of the branches of `left_shift_u192`: the generated block (left-hand side: the text as `unfold` leaves it) that shifts the
    word triple `(q0, q1, q2)` left by `b < 64` bits, as arithmetic on the words.  `gq_rsh2`: the same for `right_shift_u192`. -/
theorem gq_lsh2 (q0 q1 q2 b : Nat) (hb : b < 64) (h0 : q0 < 2^64) (h1 : q1 < 2^64) :
    (((if b > 0 then do
        let v2 ← ckSub 64 b
        let t1 ← GenW.ckShl 64 q2 b
        let t2 ← GenW.ckShr 64 q1 v2
        let t3 ← GenW.ckShl 64 q1 b
        let t4 ← GenW.ckShr 64 q0 v2
        let a2_0 ← GenW.ckShl 64 q0 b
        pure (a2_0, t3 ||| t4, t1 ||| t2)
      else pure (q0, q1, q2) : R (Nat × Nat × Nat)) >>= fun x => pure (x.1, x.2.1, x.2.2)) >>= fun p => pure [p.1, p.2.1, p.2.2]) =
    if b = 0 then pure [q0, q1, q2]
    else pure [q0 * 2^b % B64, q1 * 2^b % B64 + q0 / 2^(64-b), q2 * 2^b % B64 + q1 / 2^(64-b)] := by
  by_cases hb0 : b > 0
  · rw [if_pos hb0, if_neg (by omega)]
    simp only [ckSub_of_le (Nat.le_of_lt hb), GenW.ckShl, GenW.ckShr, if_pos hb, if_pos (show 64 - b < 64 by omega), R.ok_bind', R.pure_eq',
      shl_or_shr _ _ b hb h0, shl_or_shr _ _ b hb h1]
    rw [Nat.shiftLeft_eq, B64_eq]
  · rw [if_neg hb0, if_pos (by omega)]; rfl

theorem gq_rsh2 (q0 q1 q2 b : Nat) (hb : b < 64) (h0 : q0 < 2^64) (h1 : q1 < 2^64) :
    (((if b > 0 then do
        let v2 ← ckSub 64 b
        let t1 ← GenW.ckShr 64 q0 b
        let t2 ← GenW.ckShl 64 q1 v2
        let t3 ← GenW.ckShr 64 q1 b
        let t4 ← GenW.ckShl 64 q2 v2
        let a2_2 ← GenW.ckShr 64 q2 b
        pure (t1 ||| t2, t3 ||| t4, a2_2)
      else pure (q0, q1, q2) : R (Nat × Nat × Nat)) >>= fun x => pure (x.1, x.2.1, x.2.2)) >>= fun p => pure [p.1, p.2.1, p.2.2]) =
    if b = 0 then pure [q0, q1, q2]
    else pure [q0 / 2^b + q1 * 2^(64-b) % B64, q1 / 2^b + q2 * 2^(64-b) % B64, q2 / 2^b] := by
  by_cases hb0 : b > 0
  · rw [if_pos hb0, if_neg (by omega)]
    simp only [ckSub_of_le (Nat.le_of_lt hb), GenW.ckShl, GenW.ckShr, if_pos hb, if_pos (show 64 - b < 64 by omega), R.ok_bind', R.pure_eq',
      shr_or_shl _ _ b hb h0, shr_or_shl _ _ b hb h1]
    rw [Nat.shiftRight_eq_div_pow]
  · rw [if_neg hb0, if_pos (by omega)]; rfl

/-- `left_shift_u192(operand, s, result)` (generated on the three words; the old contents `r0 r1 r2` of `result` are irrelevant)
    = `leftShiftU192 [a0, a1, a2] s`.  `a0, a1 < 2^64` (word type): `(x << b) | (y >> (64 - b))` is a sum only for 64-bit `y`. -/
theorem gq_left_shift_u192_eq (a0 a1 a2 s r0 r1 r2 : Nat) (h0 : a0 < 2^64) (h1 : a1 < 2^64) :
    (GenW2.left_shift_u192 a0 a1 a2 s r0 r1 r2 >>= fun p => pure [p.1, p.2.1, p.2.2]) = leftShiftU192 [a0, a1, a2] s := by
  have hb : s % 64 < 64 := Nat.mod_lt _ (by decide)
  have hz : (0:Nat) < 2^64 := by decide
  unfold GenW2.left_shift_u192 leftShiftU192
  simp only [gq_and_128, gq_and_64, gq_and_63]
  rw [if_neg (show ¬ [a0, a1, a2].length < 3 from Nat.lt_irrefl 3)]
  by_cases c1 : s / 128 % 2 = 1
  · simp only [if_pos c1]
    exact gq_lsh2 0 0 a0 (s % 64) hb hz hz
  · simp only [if_neg c1]
    by_cases c2 : s / 64 % 2 = 1
    · simp only [if_pos c2]
      exact gq_lsh2 0 a0 a1 (s % 64) hb hz h0
    · simp only [if_neg c2]
      exact gq_lsh2 a0 a1 a2 (s % 64) hb h0 h1

theorem gq_right_shift_u192_eq (a0 a1 a2 s r0 r1 r2 : Nat) (h0 : a0 < 2^64) (h1 : a1 < 2^64) (h2 : a2 < 2^64) :
    (GenW2.right_shift_u192 a0 a1 a2 s r0 r1 r2 >>= fun p => pure [p.1, p.2.1, p.2.2]) = rightShiftU192 [a0, a1, a2] s := by
  have hb : s % 64 < 64 := Nat.mod_lt _ (by decide)
  have hz : (0:Nat) < 2^64 := by decide
  unfold GenW2.right_shift_u192 rightShiftU192
  simp only [gq_and_128, gq_and_64, gq_and_63]
  rw [if_neg (show ¬ [a0, a1, a2].length < 3 from Nat.lt_irrefl 3)]
  by_cases c1 : s / 128 % 2 = 1
  · simp only [if_pos c1]
    exact gq_rsh2 a2 0 0 (s % 64) hb h2 hz
  · simp only [if_neg c1]
    by_cases c2 : s / 64 % 2 = 1
    · simp only [if_pos c2]
      exact gq_rsh2 a1 a2 0 (s % 64) hb h1 h2
    · simp only [if_neg c2]
      exact gq_rsh2 a0 a1 a2 (s % 64) hb h0 h1

end

end HC
