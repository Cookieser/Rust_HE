/-
  Lemmas for the ties of the generated `RelinKeysGenerationProtocol::{new, step2, finish}` / `receive_step1`, `receive_step2`
  (Gen/MpFns.lean) to `rlkRound1` / `rlkRound2` / `rlkFinish` of Model/Multiparty.lean, which are stated in Props/C18.lean (`gen_rlk_*`):
  the tape a loop over the decomposition indices leaves (`tapeRem`), the loop `MP.loopFrom` along a known trajectory, reads and writes of
  a list given by its entries, and the reception of one polynomial per reveal object from a stream (`genmp_mapStream_receive`).
-/
import Heathcliff.Proofs.GenMp
import Heathcliff.Proofs.GenLoop
namespace HC
open HC.MP

variable {α : Type}

/-- the tape a loop `for j in i..i+r` consumes when iteration j draws `g j` (then `rest` remains) -/
def tapeRem (g : Nat → Tape α) (rest : Tape α) : Nat → Nat → Tape α
  | 0, _ => rest
  | r + 1, i => g i ++ tapeRem g rest r (i + 1)

theorem genmp_tapeRem_step (g : Nat → Tape α) (rest : Tape α) (N i : Nat) (h : i < N) :
    tapeRem g rest (N - i) i = g i ++ tapeRem g rest (N - (i + 1)) (i + 1) := by
  have : N - i = (N - (i + 1)) + 1 := by omega
  rw [this]; rfl

theorem genmp_loopFrom_inv {σ : Type} (body : Nat → σ → R σ) (inv : Nat → σ) (n j : Nat) (s0 : σ) (h : s0 = inv j)
    (hb : ∀ i, j ≤ i → i < j + n → body i (inv i) = .ok (inv (i + 1))) : loopFrom body n j s0 = .ok (inv (j + n)) := by
  subst h
  exact Loop.traj (loopFrom body) inv n j (fun m i h1 h2 => by simp only [loopFrom, hb i h1 h2])

theorem genmp_idxP_range (f : Nat → α) (N i : Nat) (h : i < N) : idxP ((List.range N).map f) i = .ok (f i) := by
  simp [idxP, h]

theorem genmp_range_snoc {β : Type} (f : Nat → β) (i : Nat) : (List.range i).map f ++ [f i] = (List.range (i + 1)).map f := by
  simp [List.range_succ]

theorem genmp_mapRM_ok {β γ δ : Type} (f : β → R γ) (g : δ → β) (h : δ → γ) (l : List δ) (hf : ∀ x ∈ l, f (g x) = .ok (h x)) :
    mapRM f (l.map g) = .ok (l.map h) := by
  induction l with
  | nil => rfl
  | cons x xs ih =>
    simp only [List.map_cons, mapRM, hf x (List.mem_cons_self ..), ih (fun y hy => hf y (List.mem_cons_of_mem _ hy))]

theorem genmp_setP_range (f : Nat → α) (N i : Nat) (v : α) (h : i < N) :
    setP ((List.range N).map f) i v = .ok ((List.range N).map (fun j => if j = i then v else f j)) := by
  simp only [setP, List.length_map, List.length_range, h, ite_true]
  congr 1
  apply List.ext_getElem
  · simp
  · intro n h1 h2
    simp only [List.length_map, List.length_range] at h2
    simp only [List.getElem_set, List.getElem_map, List.getElem_range]
    by_cases hn : i = n
    · subst hn; simp
    · have hn' : ¬ n = i := fun h => hn h.symm
      simp [hn, hn']

/-- overwriting entry `i` of "`f` below `i`, `g` from `i` on" with `f i` moves the border to `i + 1` -/
theorem genmp_prefix_step (f g : Nat → α) (N i : Nat) :
    (List.range N).map (fun j => if j = i then f i else if j < i then f j else g j) =
      (List.range N).map (fun j => if j < i + 1 then f j else g j) := by
  apply List.map_congr_left
  intro j _
  by_cases h1 : j = i
  · subst h1; simp
  · by_cases h2 : j < i
    · simp [h1, h2, Nat.lt_succ_of_lt h2]
    · have : ¬ j < i + 1 := by omega
      simp [h1, h2, this]

/-! ### the relin protocol's `receive_step1` / `receive_step2`: h0 objects first, then h1 objects, one polynomial each, same slot -/

/-- what `receive` does to one object when the sender's slot exists -/
def putSlot (sender : Nat) (p : Reveal α) (m : α) : Reveal α := { p with slots := p.slots.set sender (some m) }

theorem genmp_mapStream_receive (sender : Nat) : ∀ (ps : List (Reveal α)) (ms : List α) (rest : List α),
    ms.length = ps.length → (∀ p ∈ ps, sender < p.slots.length) →
    mapStreamM (fun r s => GenMp.reveal_receive r sender s) ps (ms ++ rest) = .ok (List.zipWith (putSlot sender) ps ms, rest) := by
  intro ps
  induction ps with
  | nil => intro ms rest hl _; cases ms with
    | nil => rfl
    | cons m ms => simp at hl
  | cons p ps ih =>
    intro ms rest hl hs
    cases ms with
    | nil => simp at hl
    | cons m ms =>
      have hp : sender < p.slots.length := hs p (List.mem_cons_self ..)
      have hr : GenMp.reveal_receive p sender (m :: (ms ++ rest)) = .ok (putSlot sender p m, ms ++ rest) := by
        rw [genmp_reveal_receive]; simp [Reveal.receive, hp, putSlot, genmp_ok_bind, pure, Except.pure]
      simp only [List.cons_append, mapStreamM, hr, List.zipWith_cons_cons,
        ih ms rest (by simpa using hl) (fun q hq => hs q (List.mem_cons_of_mem _ hq))]
