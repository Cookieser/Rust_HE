/-
  Decoders as programs.  A decoder is a function `Bytes → Except DErr (α × Bytes)` (value and remaining bytes, or an error; `Dec α`); `dpure`, `dbind`,
  `dfail` compose them, and the model's decoders (`Codec.dec` of every combinator of Model/Codec.lean) are terms of these (`…C_dec`, `seqDec_*`).
  `Reads d e v` — "the decoder `d` reads the value `v` from exactly the bytes `e`" — has one lemma about `dbind` (`Reads.bind`), from which the round-trip
  and prefix laws of every composite codec follow (Proofs/Codec.lean).  The readers of the generated serializers are written with the same three
  operations under the names of their own prelude (`GenS.rbind`, …): the bridge to the generated readers, `rbind_eq`, `rpure_eq`, `rfail_eq`, is in
  Proofs/GenSerR.lean.  Imports Model/Codec.lean only; no Mathlib.
-/
import Heathcliff.Model.Codec
namespace HC.Codec

theorem take_append_cases {α} (a b : List α) (k : Nat) :
    (k < a.length ∧ (a ++ b).take k = a.take k) ∨
    (a.length ≤ k ∧ (a ++ b).take k = a ++ b.take (k - a.length)) := by
  by_cases h : k < a.length
  · left; exact ⟨h, List.take_append_of_le_length (Nat.le_of_lt h)⟩
  · right
    have h' : a.length ≤ k := Nat.le_of_not_lt h
    refine ⟨h', ?_⟩
    rw [List.take_append, List.take_of_length_le h']

/-- a decoder: value and remaining bytes, or an error -/
abbrev Dec (α : Type) := Bytes → Except DErr (α × Bytes)
def dpure {α : Type} (a : α) : Dec α := fun bs => .ok (a, bs)
def dbind {α β : Type} (m : Dec α) (f : α → Dec β) : Dec β := fun bs =>
  match m bs with
  | .ok (a, r) => f a r
  | .error e => .error e
def dfail {α : Type} (e : DErr) : Dec α := fun _ => .error e

theorem dbind_dpure {α β} (a : α) (f : α → Dec β) : dbind (dpure a) f = f a := rfl
theorem dbind_dfail {α β} (e : DErr) (f : α → Dec β) : dbind (dfail e) f = dfail e := rfl

theorem dbind_assoc {α β γ} (m : Dec α) (f : α → Dec β) (g : β → Dec γ) :
    dbind (dbind m f) g = dbind m fun a => dbind (f a) g := by
  funext bs; unfold dbind; cases m bs <;> rfl

theorem dbind_pure_right {α} (m : Dec α) : (dbind m fun a => dpure a) = m := by
  funext bs; unfold dbind; cases m bs <;> rfl

theorem dbind_ite {α β} (c : Prop) [Decidable c] (a b : Dec α) (f : α → Dec β) :
    dbind (if c then a else b) f = if c then dbind a f else dbind b f := by
  split <;> rfl

theorem dbind_ok {α β} {m : Dec α} {f : α → Dec β} {bs r : Bytes} {a : α} (h : m bs = .ok (a, r)) : dbind m f bs = f a r := by
  unfold dbind; rw [h]

theorem dbind_ok_inv {α β} {m : Dec α} {f : α → Dec β} {bs : Bytes} {v : β × Bytes} (h : dbind m f bs = .ok v) :
    ∃ a r, m bs = .ok (a, r) ∧ f a r = .ok v := by
  unfold dbind at h
  cases hm : m bs with
  | error e => rw [hm] at h; cases h
  | ok p => rw [hm] at h; exact ⟨p.1, p.2, rfl, h⟩

theorem scalarC_dec (k : SK) (n : Nat) : (scalarC k n).dec = dbind (readExact k n) fun b => dpure (leVal b) := by
  funext bs; simp only [scalarC, dbind]; cases readExact k n bs <;> rfl

theorem mapC_dec {α β} (c : Codec α) (f : β → α) (g : α → β) : (mapC c f g).dec = dbind c.dec fun x => dpure (g x) := by
  funext bs; simp only [mapC, dbind]; cases c.dec bs <;> rfl

theorem guardC_dec {α} (c : Codec α) (p : α → Bool) :
    (guardC c p).dec = dbind c.dec fun x => if p x then dpure x else dfail .bad := by
  funext bs; simp only [guardC, dbind]
  cases c.dec bs with
  | error e => rfl
  | ok q =>
    obtain ⟨x, r⟩ := q
    show (if p x then _ else _) = (if p x then dpure x else dfail .bad) r
    split <;> rfl

theorem depC_dec {α β} (a : Codec α) (b : α → Codec β) :
    (depC a b).dec = dbind a.dec fun x => dbind (b x).dec fun y => dpure (x, y) := by
  funext bs; simp only [depC, dbind]
  cases a.dec bs with
  | error e => rfl
  | ok q =>
    obtain ⟨x, r⟩ := q
    dsimp only
    cases (b x).dec r <;> rfl

theorem pairC_dec {α β} (a : Codec α) (b : Codec β) :
    (pairC a b).dec = dbind a.dec fun x => dbind b.dec fun y => dpure (x, y) := depC_dec a fun _ => b

theorem seqDec_nil {α} : seqDec ([] : List (Codec α)) = dpure [] := rfl

theorem seqDec_cons {α} (c : Codec α) (cs : List (Codec α)) :
    seqDec (c :: cs) = dbind c.dec fun x => dbind (seqDec cs) fun xs => dpure (x :: xs) := by
  funext bs; simp only [seqDec, dbind]
  cases c.dec bs with
  | error e => rfl
  | ok q =>
    obtain ⟨x, r⟩ := q
    dsimp only
    cases seqDec cs r <;> rfl

theorem vecC_dec {α} (c : Codec α) : (vecC c).dec = dbind usizeC.dec fun n => seqDec (List.replicate n c) := by
  unfold vecC
  simp only [mapC_dec, depC_dec, dbind_assoc, dbind_dpure, dbind_pure_right]
  rfl

theorem seqDec_append {α} (ds : List (Codec α)) : ∀ cs : List (Codec α),
    seqDec (cs ++ ds) = dbind (seqDec cs) fun xs => dbind (seqDec ds) fun ys => dpure (xs ++ ys)
  | [] => by simp only [List.nil_append, seqDec_nil, dbind_dpure, dbind_pure_right]
  | c :: cs => by simp only [List.cons_append, seqDec_cons, seqDec_append ds cs, dbind_assoc, dbind_dpure]

/-- the reader `d` reads `v` from exactly the bytes `e`: whatever follows is left over, and on every strict prefix of `e` the
    stream ends -/
structure Reads {α} (d : Dec α) (e : Bytes) (v : α) : Prop where
  ok : ∀ r, d (e ++ r) = .ok (v, r)
  eof : ∀ k, k < e.length → ∃ s, d (e.take k) = .error (.eof s)

theorem Reads.pure {α} (v : α) : Reads (dpure v) [] v :=
  ⟨fun _ => rfl, fun k hk => absurd hk (Nat.not_lt_zero k)⟩

/-- a strict prefix of `e ++ e'` ends inside `e`, where `m` reports the end, or inside `e'`, where `m` has read `a` and `f a` reports it -/
theorem Reads.bind {α β} {m : Dec α} {f : α → Dec β} {e e' : Bytes} {a : α} {b : β}
    (hm : Reads m e a) (hf : Reads (f a) e' b) : Reads (dbind m f) (e ++ e') b := by
  refine ⟨fun r => ?_, fun k hk => ?_⟩
  · rw [List.append_assoc, dbind_ok (hm.ok _)]; exact hf.ok r
  · rcases take_append_cases e e' k with ⟨h, eq⟩ | ⟨h, eq⟩
    · obtain ⟨s, hs⟩ := hm.eof k h
      exact ⟨s, by rw [eq]; unfold dbind; rw [hs]⟩
    · obtain ⟨s, hs⟩ := hf.eof (k - e.length) (by rw [List.length_append] at hk; omega)
      exact ⟨s, by rw [eq, dbind_ok (hm.ok _)]; exact hs⟩

theorem Reads.map {α β} {m : Dec α} {e : Bytes} {a : α} (hm : Reads m e a) (g : α → β) :
    Reads (dbind m fun x => dpure (g x)) e (g a) := by
  have := hm.bind (f := fun x => dpure (g x)) (Reads.pure (g a))
  rwa [List.append_nil] at this

end HC.Codec
