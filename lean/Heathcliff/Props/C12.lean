import Heathcliff.Proofs.C12A
import Heathcliff.Proofs.C12D
import Heathcliff.Proofs.C12E
import Heathcliff.Proofs.GenDwt
import Heathcliff.Proofs.GenCkks3

/- C12 — CKKS encoding is the rounded scaled canonical embedding on every path.
   Property theorems only (proofs are the helper lemmas of Heathcliff/Proofs/C12A..E).  The model is
   Heathcliff/Model/CkksEncoder.lean + the generic butterfly network of Heathcliff/Model/NTT.lean.

   PROVED (for all inputs): the integer → RNS conversion of a rounded coefficient on each magnitude path (negative values
   included), `encode_internal_i64_single` (repaired form), decode's centred lift and limb fold (exact rational value), the
   slot index map (permutation; slot i ↔ psi^(3^i), slot i+N/2 ↔ its conjugate), the 8-fold symmetry reduction of `get_root`
   (abstractly and over ℂ with `Complex.exp`), the root tables the encoder builds, and over any commutative *-ring with a
   primitive 2N-th root (in particular ℂ): decode ∘ encode = id on ≤ N/2 slots, conjugate symmetry ⇒ real coefficients,
   slot order.

   PARTIAL (not expressible: Lean's `Float` is opaque to the kernel): everything that depends on `f64` rounding — the error of
   the double-precision FFT, `scale.log2()`, `log2().ceil()` in the bit-count computation, the rounding of `value * scale`,
   `1.0 / scale` and the limb products of decode.  `EncodeWithinDoubleBoundStatement` below is the one step of that clause that needs no
   model of `f64` (rounding a value within `bound` of the exact one), and it is proved; the bound on the double-precision FFT itself is stated
   nowhere in Lean: it is checked by the tolerance oracle of the correspondence harness (bound derived in lean/Driver/C12.lean). -/
namespace HC.C12
open HC Ckks Finset

/-! ### COEFF_TO_RNS — one rounded coefficient ↦ residues, on every path -/

/-- `f64::round` of a dyadic rational: exact for e ≥ 0, within 1/2 otherwise -/
theorem round_dyadic : type_of% @HC.roundDyadic_spec := @HC.roundDyadic_spec

/-- whichever path the bit count selects, under that path's selection condition (|c| < 2^64 / < 2^128 / < 2^(64·size), the
    last one needing at least two moduli) the result is (c mod q_j)_j — for EVERY integer c, negative ones included -/
theorem coeff_to_rns {b : RNSBase} (hb : b.WF) {bits : Nat} {c : Int}
    (h64 : bits ≤ 64 → c.natAbs < 2^64) (h128 : 64 < bits → bits ≤ 128 → c.natAbs < 2^128)
    (hbig : 128 < bits → 1 < b.size ∧ c.natAbs < 2^(64 * b.size)) :
    ∃ rs, coeffToRns b bits c = .ok rs ∧ rs.size = b.size ∧ ∀ i, i < b.size → rs.getD i 0 = c12_res c (b.q i).value :=
  HC.coeffToRns_spec hb h64 h128 hbig

theorem path64 : type_of% @HC.path64_spec := @HC.path64_spec
theorem path128 : type_of% @HC.path128_spec := @HC.path128_spec
theorem pathBig : type_of% @HC.pathBig_spec := @HC.pathBig_spec
/-- the selection `bit count ≤ 64` admits |c| = 2^64, where the saturating cast loses exactly 1 (covered by the oracle's tolerance) -/
theorem path64_saturated : type_of% @HC.path64_saturated := @HC.path64_saturated

/-! ### I64_SINGLE -/

/-- residues of v for every `i64` v (repaired form `negate(reduce(|v|))`) -/
theorem i64_single {qs : Array Modulus} (hq : ∀ i, i < qs.size → (qs.getD i ⟨0,0,0,0,0⟩).WF) {v : Int}
    (hv : -2^63 ≤ v ∧ v < 2^63) :
    ∃ rs, i64Residues qs v = .ok rs ∧ rs.size = qs.size ∧
      ∀ i, i < qs.size → rs.getD i 0 = c12_res v (qs.getD i ⟨0,0,0,0,0⟩).value := HC.i64Residues_spec hq hv

/-- the whole function: refusal exactly when bits(|v|) + 2 ≥ total bits, else every coefficient of component j is v mod q_j
    (the NTT form of the constant polynomial v) -/
theorem i64_single_encode : type_of% @HC.encodeI64Single_spec := @HC.encodeI64Single_spec

/-- the formula of the pinned tree, `reduce(q.wrapping_sub(-v))`, is wrong: v = −2^35, q = 1073479681 -/
theorem i64_pinned_formula_wrong : type_of% @HC.i64_pinned_formula_wrong := @HC.i64_pinned_formula_wrong

/-! ### DECODE_LIFT -/

/-- the limb loop's numerator is the centred lift of the composed value x < Q -/
theorem decode_lift {size Q x : Nat} (hQ : Q < 2^(64 * size)) (hx : x < Q) :
    (decodeFold size Q (upperHalfThreshold Q) x).1 = if x ≥ (Q + 1) / 2 then (x : Int) - Q else (x : Int) :=
  HC.decodeFold_spec hQ hx

/-- it is congruent to x and of least absolute value (Q odd) -/
theorem decode_lift_centred : type_of% @HC.decodeFold_centred := @HC.decodeFold_centred
theorem decode_fold_abs : type_of% @HC.decodeFold_abs := @HC.decodeFold_abs
theorem limb_sum : type_of% @HC.limb_sum := @HC.limb_sum

/-- fold = c / scale in ℚ -/
theorem decode_value {size Q x : Nat} (hQ : Q < 2^(64 * size)) (hx : x < Q) (scale : ℚ) :
    decodeValue (decodeFold size Q (upperHalfThreshold Q) x).1 scale
      = ((if x ≥ (Q + 1) / 2 then (x : Int) - Q else (x : Int) : Int) : ℚ) / scale := by
  rw [HC.decodeFold_spec hQ hx]; rfl

/-! ### INDEX_MAP_PERM -/

theorem index_map_spec : type_of% @HC.indexMap_spec := @HC.indexMap_spec
/-- range, injective, surjective -/
theorem index_map_perm : type_of% @HC.indexMap_perm := @HC.indexMap_perm
theorem index_map_conj : type_of% @HC.indexMap_conj := @HC.indexMap_conj
theorem slot_exp_injective : type_of% @HC.c12_slotExp_injective := @HC.c12_slotExp_injective
theorem index_map_eq_batch : type_of% @HC.indexMap_eq_batch := @HC.indexMap_eq_batch

/-! ### GET_ROOT_INDEX -/

/-- abstract: any commutative *-ring, zeta^(m/4) = I, I² = −1, zeta·star zeta = 1 -/
theorem get_root_index : type_of% @HC.getRootSel_spec := @HC.getRootSel_spec
/-- over ℂ, on (re, im) pairs exactly as the code manipulates them, with exp(2πi·j/m) -/
theorem get_root_index_complex : type_of% @HC.get_root_index_complex := @HC.get_root_index_complex
theorem sel_complex : type_of% @HC.selVal_complex := @HC.selVal_complex
/-- `root_powers[j] = psi^brev(j)`, `inv_root_powers[j] = psi^-(brev(j−1)+1)`: the tables the network theorems need -/
theorem root_table : type_of% @HC.c12e_rootTable := @HC.c12e_rootTable
theorem inv_root_table : type_of% @HC.c12e_invRootTable := @HC.c12e_invRootTable

/-! ### EMBEDDING_EXACT -/
variable {K : Type} [CommRing K] [StarRing K]

theorem scatter_at : type_of% @HC.c12e_scatter_at := @HC.c12e_scatter_at
theorem scatter_conj : type_of% @HC.c12e_scatter_conj := @HC.c12e_scatter_conj
/-- generic tables (any N = 2^k ≥ 2) -/
theorem decode_encode : type_of% @HC.c12e_decode_encode := @HC.c12e_decode_encode
theorem encode_real : type_of% @HC.c12e_encode_real := @HC.c12e_encode_real
theorem decode_slot : type_of% @HC.c12e_decode_slot := @HC.c12e_decode_slot

/-- EMBEDDING_EXACT with the tables the model selects (N = 2^k ≥ 4; for N = 2 the code hard-wires i and −i):
    over any commutative *-ring K with ψ^(N/2) = I, I² = −1, ψ·star ψ = 1 (ℂ with ψ = exp(2πi/2N), `psi_complex`),
    N and the scale invertible, the scale real:
    (1) decode ∘ encode = id on ≤ N/2 slots (missing slots give 0),
    (2) conjugate symmetry ⇒ every coefficient is fixed by star (real),
    (3) slot i of decode is the evaluation at ψ^(3^i) — the library's slot order. -/
theorem embedding_exact (k : Nat) (hk : 2 ≤ k) (ψ I : K) (hI : ψ^(2 * 2^k / 4) = I) (hI2 : I * I = -1) (hu : ψ * star ψ = 1)
    (Ninv s sinv : K) (hN : Ninv * 2^k = 1) (hs : s * sinv = 1) (hsr : star s = s) (v : Nat → K) (len : Nat) (hlen : len ≤ 2^k/2) :
    (∀ i, i < 2^k/2 →
      c12_decodeExact k (c12_rootTable k ψ I) sinv (c12_encodeExact k (c12_invRootTable k ψ I) s Ninv v len) i
        = if i < len then v i else 0) ∧
    (∀ j, j < 2^k →
      star (c12_encodeExact k (c12_invRootTable k ψ I) s Ninv v len j) = c12_encodeExact k (c12_invRootTable k ψ I) s Ninv v len j) ∧
    (∀ (c : Nat → K) i, i < 2^k/2 →
      c12_decodeExact k (c12_rootTable k ψ I) sinv c i = ∑ j ∈ range (2^k), (c j * sinv) * (ψ^(3^i))^j) := by
  have hψ := c12e_psi_pow k hk ψ I hI hI2
  have hr : ∀ j, 0 < j → j < 2^k → c12_rootTable k ψ I j = ψ^(brev k j) := fun j _ _ => c12e_rootTable k hk ψ I hI hI2 hu j
  have hir : ∀ p, 0 < p → p < 2^k → c12_invRootTable k ψ I p = (star ψ)^(brev k (p-1) + 1) :=
    fun p _ _ => c12e_invRootTable k hk ψ I hI hI2 hu p
  refine ⟨?_, ?_, ?_⟩
  · exact c12e_decode_encode k (by omega) ψ hu _ _ hr hir Ninv s sinv hN hs v len hlen
  · exact c12e_encode_real k (by omega) ψ hψ hu _ _ hr hir Ninv s hN hsr v len hlen
  · intro c i hi
    exact (c12e_decode_slot k (by omega) ψ hψ hu _ hr sinv c i hi).1

/-- ψ = exp(2πi/2N) ∈ ℂ has ψ^N = −1 and unit modulus -/
theorem psi_complex : type_of% @HC.psi_complex := @HC.psi_complex

/-- the instance over ℂ: ψ = exp(2πi/2N), I = Complex.I, real positive scale σ -/
theorem embedding_exact_complex (k : Nat) (hk : 2 ≤ k) (σ : ℝ) (hσ : σ ≠ 0) (v : Nat → ℂ) (len : Nat) (hlen : len ≤ 2^k/2) :
    let ψ := Complex.exp (2 * Real.pi * Complex.I / ((2 ^ (k+1) : ℕ) : ℂ))
    let enc := c12_encodeExact k (c12_invRootTable k ψ Complex.I) (σ : ℂ) (1 / 2^k) v len
    (∀ i, i < 2^k/2 → c12_decodeExact k (c12_rootTable k ψ Complex.I) (1 / (σ : ℂ)) enc i = if i < len then v i else 0) ∧
    (∀ j, j < 2^k → (enc j).im = 0) := by
  intro ψ enc
  have h2 : ((2 ^ k : ℕ) : ℂ) ≠ 0 := by exact_mod_cast (pow_pos (by norm_num : 0 < 2) k).ne'
  have hI : ψ ^ (2 * 2^k / 4) = Complex.I := by
    obtain ⟨u, rfl⟩ : ∃ u, k = u + 1 := ⟨k - 1, by omega⟩
    rw [show 2 * 2 ^ (u + 1) / 4 = 2 ^ u by rw [pow_succ]; omega]
    exact c12d_zeta_quarter u
  have hu : ψ * star ψ = 1 := c12d_zeta_unit _
  have hN : (1 / 2^k : ℂ) * 2^k = 1 := by
    push_cast at h2; field_simp
  have hs : (σ : ℂ) * (1 / (σ : ℂ)) = 1 := by
    have : (σ : ℂ) ≠ 0 := by exact_mod_cast hσ
    field_simp
  have hsr : star (σ : ℂ) = σ := by rw [Complex.star_def, Complex.conj_ofReal]
  obtain ⟨a, b, _⟩ := embedding_exact k hk ψ Complex.I hI Complex.I_mul_I hu (1 / 2^k) (σ : ℂ) (1 / (σ : ℂ)) hN hs hsr v len hlen
  refine ⟨a, fun j hj => ?_⟩
  have := b j hj
  rw [Complex.star_def] at this
  exact Complex.conj_eq_iff_im.mp this

/-! ### the double-precision clause: its floating-point part is a hypothesis, its integer part is proved -/

/-- The double-precision clause of the property has two parts.  (1) For the function `fl` describing what the `f64` FFT of
    `encode_internal_c64_array` returns for coefficient j (before rounding), a bound |fl − exact| ≤ bound(k, scale, v).  Lean's kernel has
    no model of IEEE arithmetic for `Float`, so `fl` cannot be defined from the code and this bound cannot be proved here: it enters the
    statement below as a HYPOTHESIS, and the harness measures it on every case against the big-integer oracle (tolerance
    (10k+3)·2^-53·scale·(2Σ|v_i|)/N + 3/2, derivation in lean/Driver/C12.lean).  (2) The integer step that follows: the code rounds `fl j`,
    and an integer within 1/2 of a value within `bound` of the exact one is within bound + 1/2 of the exact one.  The statement says (2)
    given (1); it is TRUE and proved right below (`encode_within_bound_partial`). -/
def EncodeWithinDoubleBoundStatement : Prop :=
  ∀ (k : Nat) (fl exact : Nat → ℚ) (bound : ℚ), (∀ j, j < 2^k → |fl j - exact j| ≤ bound) →
    ∀ j, j < 2^k → ∃ c : Int, |(c : ℚ) - exact j| ≤ bound + 1/2 ∧ |(c : ℚ) - fl j| ≤ 1/2

/-- the proof of the integer step: `round (fl j)` is the witness — this is all the arithmetic the tolerance oracle relies on -/
theorem encode_within_bound_partial : EncodeWithinDoubleBoundStatement := by
  intro k fl exact bound h j hj
  refine ⟨round (fl j), ?_, ?_⟩
  · have h1 := abs_sub_round (fl j)
    have h2 := h j hj
    calc |(round (fl j) : ℚ) - exact j| = |((round (fl j) : ℚ) - fl j) + (fl j - exact j)| := by ring_nf
      _ ≤ |(round (fl j) : ℚ) - fl j| + |fl j - exact j| := abs_add_le _ _
      _ ≤ 1/2 + bound := by
          have : |(round (fl j) : ℚ) - fl j| ≤ 1/2 := by rw [abs_sub_comm]; exact h1
          linarith
      _ = bound + 1/2 := by ring
  · rw [abs_sub_comm]; exact abs_sub_round (fl j)

/-! ### translator tie: the encoder's FFT is the SAME generic handler `DWTHandler` (src/util/dwthandler.rs) that serves the NTT,
     instantiated with complex arithmetic.  The functions generated from its source (Gen/DwtFns.lean) equal the model network
     `runFwdA` / `runInvA` for ANY arithmetic whose operations are total (f64 / complex operations never panic): `encode` calls
     `transform_from_rev(.., Some(&fix))`, `decode` calls `transform_to_rev(.., None)`.  (Proofs/GenDwt.lean; the numeric content of the
     double-precision instance stays with the tolerance oracle, see above.) -/
theorem gen_fft_transform_to_rev_eq {α ρ σ : Type} [Inhabited α] (A : Arith α ρ) (ms : α → σ → α) (k : Nat) (hk : k < 64) (vals : List α)
    (hv : vals.length = 2^k) (roots : List ρ) (rf : Nat → ρ) (hrf : ∀ j, j < 2^k → roots[j]? = some (rf j)) (sc : Option σ) :
    GenD.transform_to_rev (gd_total A ms) vals k roots sc = .ok (gd_scaled ms sc (runFwdA A k rf vals.toArray k).toList) :=
  HC.gd_transform_to_rev_total A ms k hk vals hv roots rf hrf sc

theorem gen_fft_transform_from_rev_eq {α ρ σ : Type} [Inhabited α] (A : Arith α ρ) (ms : α → σ → α) (k : Nat) (hk : k < 64) (vals : List α)
    (hv : vals.length = 2^k) (roots : List ρ) (rf : Nat → ρ) (hrf : ∀ j, j < 2^k → roots[j]? = some (rf j)) (sc : Option σ) :
    GenD.transform_from_rev (gd_total A ms) vals k roots sc = .ok (gd_scaled ms sc (runInvA A k rf vals.toArray k).toList) :=
  HC.gd_transform_from_rev_total A ms k hk vals hv roots rf hrf sc

/-! ### translator tie ("encoder mode"): the INTEGER side of `encode_internal_c64_array` / `_f64_polynomial` / `_f64_single` /
     `_i64_single` is regenerated from src/ckks_encoder.rs into Gen/CkksFns.lean (`HC.GenK`): the maximum scan giving the bit count, the refusal,
     the three-way path selection, the sign branches and the reduction loops; floats enter through the documented readings only
     (tools/rs2lean_ckks.py; they are listed in the head of Proofs/GenCkks.lean).  Proved about the GENERATED code (Proofs/GenCkks.lean): -/

/-- ≤ 64-bit path, as generated (both sign branches): `negate_u64_mod(reduce(|c| as u64))` resp. `reduce(|c| as u64)` is c mod q for EVERY
    integer c with |c| < 2^64, negatives (and negative multiples of q: residue 0) included -/
theorem gen_path64_element : type_of% @HC.gk_elem64 := @HC.gk_elem64
/-- ≤ 128-bit path, as generated: the two-word split `[|c| % 2^64, |c| / 2^64]`, `barrett_reduce_u128`, `negate_u64_mod` when negative -/
theorem gen_path128_element : type_of% @HC.gk_elem128 := @HC.gk_elem128
/-- the scan the generated code performs (`maxAll`: ALL entries) bounds EVERY per-coefficient bit count -/
theorem gen_max_scan_all : type_of% @HC.gk_maxAll_spec := @HC.gk_maxAll_spec
/-- the generated functions refuse as soon as (max over all coefficients) + 1 ≥ total bit count -/
theorem gen_c64_array_refuses : type_of% @HC.gk_c64_array_refuses := @HC.gk_c64_array_refuses
theorem gen_f64_polynomial_refuses : type_of% @HC.gk_f64_polynomial_refuses := @HC.gk_f64_polynomial_refuses
/-- the `[component][coefficient]` layout of the generated nested loops: a loop storing `f j` at `i + j·N` fills row i only; all rows -/
theorem gen_row_layout : type_of% @HC.gk_row_spec := @HC.gk_row_spec
theorem gen_rows_layout : type_of% @HC.gk_rows_spec := @HC.gk_rows_spec

/-- DISPATCH EQUALITY (definitional): the generated `encode_internal_c64_array` / `encode_internal_f64_polynomial` are guards, the scan over ALL
    entries, the refusal, resize (+ zero-fill, before the scan, for the polynomial function), then `gkStageRaw`: rows `gkRow64` if bits ≤ 64, else
    `gkRow128` if bits ≤ 128, else `gkRowBig` — the row bodies being the generated text.  A swap of the thresholds, a different comparison or a
    different row body breaks these `rfl`s. -/
theorem gen_c64_array_dispatch : type_of% @HC.gk_c64_array_unfold := @HC.gk_c64_array_unfold
theorem gen_f64_polynomial_dispatch : type_of% @HC.gk_f64_polynomial_unfold := @HC.gk_f64_polynomial_unfold
/-- generated rows: row i of the buffer receives c_i mod q_j for every j (both sign branches), the other rows are untouched -/
theorem gen_row64 : type_of% @HC.gkRow64_spec := @HC.gkRow64_spec
theorem gen_row128 : type_of% @HC.gkRow128_spec := @HC.gkRow128_spec
/-- INTEGER STAGE, ≤ 64-bit and ≤ 128-bit paths (`_partial`: the multi-word path is not covered; full statement below): the generated
    `encode_internal_c64_array` computes, for every coefficient, the MODEL's `Ckks.coeffToRns base (mb + 1) c_i` — the model's dispatch at the
    bit count the scan over all coefficients gives — laid out at i + j·N (= c_i mod q_j, negatives included), and hands that buffer to `ntt_p`.
    Hypotheses: `b.WF` (what the context construction establishes), N = 2·slots, N·k < 2^64 (buffer size is a usize), `cb` / `rc` have N
    entries (the FFT buffer), |c_i| ≤ 2^cb[i] (the meaning of `ceil(log2(max(|x_i|,1)))` for c_i = round(x_i)), scan result mb, mb + 1 below the
    total bit count (else refusal: `gen_c64_array_refuses`) and ≤ 128. -/
theorem gen_c64_array_integer_stage_partial : type_of% @HC.gk_c64_array_integer_stage_partial := @HC.gk_c64_array_integer_stage_partial
/-- the same for `encode_internal_f64_polynomial` (nvalues ≤ N coefficients; every other position of the zero-filled buffer is 0) -/
theorem gen_f64_polynomial_integer_stage_partial : type_of% @HC.gk_f64_polynomial_integer_stage_partial := @HC.gk_f64_polynomial_integer_stage_partial
/-- `encode_internal_i64_single` as generated, for EVERY i64 (i64::MIN, negative multiples of a prime included): refuses exactly when
    bits(|v|) + 2 ≥ total bits, otherwise component j is filled with the model's `i64Residues` entry = v mod q_j -/
theorem gen_i64_single : type_of% @HC.gk_i64_single_spec := @HC.gk_i64_single_spec
theorem gen_chunks_layout : type_of% @HC.gk_chunks_spec := @HC.gk_chunks_spec

/-- FULL statement (NOT proved; `gen_c64_array_integer_stage_partial` covers bit counts ≤ 128; missing: the multi-word path — its `while` limb loop and the tie of the
    `decompose` parameter to `RNSBase.decompose`): for a valid CKKS level with well-formed moduli, N = 2·slots coefficients whose scan bit
    count is below the total bit count, the generated `encode_internal_c64_array` hands `ntt_p` a buffer with `c_i mod q_j` at `i + j·N`. -/
def GenC64ArrayStatement : Prop :=
  ∀ (moduli : List Modulus) (cc slots nvalues total_bits : Nat) (cb : List Nat) (rc : List Int)
    (decompose : List Nat → R (List Nat)) (nttP : List Nat → Nat → R (List Nat)) (dest : List Nat) (mb : Nat),
    (∀ j (h : j < moduli.length), moduli[j].WF) → slots * 2 = cc → 0 < cc → cc * moduli.length < 2^64 → nvalues ≤ slots →
    cb.length = cc → rc.length = cc → (∀ i (h1 : i < cb.length) (h2 : i < rc.length), rc[i].natAbs ≤ 2^cb[i]) →
    GenK.maxAll cb = .ok mb → mb + 1 < total_bits → total_bits ≤ 64 * moduli.length →
    (∀ a ws, a < 2^(64 * moduli.length) → ws = limbsOf moduli.length a →
      decompose ws = .ok ((List.range moduli.length).map fun j => a % (moduli.getD j default).value)) →
    ∃ d', d'.length = cc * moduli.length ∧
      (∀ i j (hi : i < rc.length) (hj : j < moduli.length), d'[i + j * cc]? = some (c12_res rc[i] moduli[j].value)) ∧
      GenK.encode_internal_c64_array true true nvalues slots true total_bits moduli cc moduli.length cb rc decompose nttP dest = nttP d' cc

/-! ### non-vacuity -/
/-- a negative coefficient crossing 2^64: the generated two-word split of −(2^64 + 5) is [5, 1]; its residue mod 7 -/
example : GenK.fToU64 (GenK.fmod64 (GenK.fabs (-(2^64 + 5)))) = 5 ∧ GenK.fToU64 (GenK.fdiv64 (GenK.fabs (-(2^64 + 5)))) = 1 := by decide
/-- … and 2^64 + 5 is a multiple of 7: the negative branch must give 0 (the zero case of `negate_u64_mod`), not 7 -/
example : c12_res (-(2^64 + 5)) 7 = 0 ∧ c12_res (-(2^64 + 6)) 7 = 6 := by decide
/-- a magnitude between two primes of a non-monotone chain (101, 97): 100 is reduced mod 97 but not mod 101; −97 gives residue 0 -/
example : c12_res 100 101 = 100 ∧ c12_res 100 97 = 3 ∧ c12_res (-97) 97 = 0 := by decide
/-- i64::MIN and a negative multiple of a prime satisfy the hypotheses of `gen_i64_single` -/
example : (-2^63 : Int) ≤ -2^63 ∧ (-2^63 : Int) < 2^63 ∧ c12_res (-2^63) 97 = 18 ∧ c12_res (-3 * 97) 97 = 0 := by decide
/-- the scan: the dominant coefficient sits in the second half; a scan of the first half would give 3, not 70 -/
example : GenK.maxAll [3, 1, 70, 2] = .ok 70 ∧ GenK.maxPrefix [3, 1, 70, 2] 2 = .ok 3 := by decide
example : c12_res (-5) 7 = 2 := by decide
example : getRootSel 8 3 3 = .ok ⟨1, false, true, false⟩ := by decide
example : (indexMap 2).toList = [0, 2, 3, 1] := by decide
/-- q = 7 fits every hypothesis of `decode_lift` with size = 1: x = 5 ≥ 4 lifts to −2 -/
example : (decodeFold 1 7 (upperHalfThreshold 7) 5).1 = -2 := by decide

end HC.C12
