/- C01 part E: ENCRYPTION OF ZERO in the model (Heathcliff/Model/Encrypt.lean).
   •   how the component-wise operations (`rnsAdd`, `rnsNeg`, `rnsScalar`, the product with a transformed polynomial) act on the
       coefficient view `cview` (C01O) of a polynomial in either form;
   •   values of `encryptZeroAsym` / `encryptZeroSym` on coefficient views, for both forms and every scheme: every component is the
       negacyclic product with the drawn polynomial plus tt·error, modulo q_i (tt = t for BGV, 1 otherwise); the BFV statements
       (coefficient form) are the case tt = 1;
   •   the exact phase of the fresh ciphertext modulo Q: −e·u + tt·e0 + tt·e1·s (public key), −tt·e (secret key).
   The plaintext layers and the end-to-end statements are in C01I and C01L.  Helper names carry the prefix `c01e_`; `c01g_phase_of_lift` and
   `c01g_phase_add_c0` (the phase of two polynomials from integer readings of their residues) stand here under the names Props/C01 cites. -/
import Heathcliff.Model.Encrypt
import Heathcliff.Proofs.C04K
import Heathcliff.Proofs.C01Q
import Heathcliff.Proofs.C02V
import Heathcliff.Proofs.NegRing
import Mathlib.Tactic.Ring
import Mathlib.Tactic.Linarith
import Mathlib.Tactic.LinearCombination
namespace HC
open Finset Polynomial

/-- the first `l.size` components are canonical (a key-level polynomial used at a lower level) -/
def PreCanon (l : Level) (p : RnsPoly) : Prop :=
  ∀ i, i < l.size → (p.getD i #[]).size = l.n ∧ ∀ j, j < l.n → (p.getD i #[]).getD j 0 < (l.q i).value

theorem RnsCanon.pre {l : Level} {p : RnsPoly} (h : RnsCanon l p) : PreCanon l p := h.2

/-- RNS encoding of a small signed polynomial (what `sample::ternary` / `centered_binomial` write, C16) -/
def rnsOfInt (l : Level) (v : Array Int) : RnsPoly := Array.ofFn (n := l.size) fun i => skRes l v i.val

theorem c01e_rnsOfInt_getD (l : Level) (v : Array Int) {i : Nat} (hi : i < l.size) :
    (rnsOfInt l v).getD i #[] = skRes l v i := by
  unfold rnsOfInt
  rw [array_getD_ofFn _ _ hi]

theorem c01e_rnsOfInt_canon {l : Level} (hl : l.WF) {v : Array Int} (hv : v.size = l.n) : RnsCanon l (rnsOfInt l v) := by
  refine ⟨by simp [rnsOfInt], fun i hi => ?_⟩
  rw [c01e_rnsOfInt_getD l v hi]
  obtain ⟨s1, s2, _, _⟩ := c01o_sk_comp hl hv hi
  exact ⟨s1, s2⟩

theorem c01e_rnsOfInt_modEq {l : Level} (v : Array Int) {i : Nat} (hi : i < l.size) (hq : 0 < (l.q i).value) (p : Nat) :
    ((((rnsOfInt l v).getD i #[]).getD p 0 : Nat) : Int) ≡ v.getD p 0 [ZMOD ((l.q i).value : Int)] := by
  rw [c01e_rnsOfInt_getD l v hi, c01p_skRes_eq]
  exact c01p_skResQ_modEq v hq p

theorem c01e_rnsNtt_rnsOfInt (l : Level) (sk : Array Int) : rnsNtt l (rnsOfInt l sk) = skNtt l sk := by
  unfold rnsNtt skNtt
  congr 1
  funext i
  rw [c01e_rnsOfInt_getD l sk i.isLt]
  rfl

theorem c01e_q_pos {l : Level} (hl : l.WF) {i : Nat} (hi : i < l.size) : 0 < (l.q i).value := by
  have := (c01o_level_comp hl hi).2.2.2.two_le
  omega

/-- size and range of a component in the form the transform lemmas (`ntt_sim`, `c01o_conv`, …) take them -/
theorem c01e_comp_tbl {l : Level} (hl : l.WF) {p : RnsPoly} (hp : PreCanon l p) {i : Nat} (hi : i < l.size) :
    (p.getD i #[]).size = 2^(l.tbl i).k ∧ ∀ j, j < 2^(l.tbl i).k → (p.getD i #[]).getD j 0 < (l.tbl i).modulus.value := by
  obtain ⟨_, htm, htn, _⟩ := c01o_level_comp hl hi
  rw [htm, htn]
  exact hp i hi

theorem c01e_rnsNtt_canon {l : Level} (hl : l.WF) {a : RnsPoly} (ha : PreCanon l a) : RnsCanon l (rnsNtt l a) := by
  refine ⟨by simp [rnsNtt], fun i hi => ?_⟩
  obtain ⟨htw, htm, htn, _⟩ := c01o_level_comp hl hi
  obtain ⟨s, b⟩ := c01e_comp_tbl hl ha hi
  rw [c01o_rnsNtt_getD l a hi]
  obtain ⟨n1, n2⟩ := ntt_sim htw (a.getD i #[]) s (fun j hj => by have := b j hj; omega)
  exact ⟨by rw [n1, htn], fun j hj => by rw [← htm]; exact (n2 j (by omega)).2.1⟩

theorem c01e_intt_rnsNtt {l : Level} (hl : l.WF) {a : RnsPoly} (ha : PreCanon l a) {i : Nat} (hi : i < l.size) :
    intt (l.tbl i) ((rnsNtt l a).getD i #[]) = a.getD i #[] := by
  obtain ⟨s, b⟩ := c01e_comp_tbl hl ha hi
  rw [c01o_rnsNtt_getD l a hi]
  exact intt_ntt (c01o_level_comp hl hi).1 _ s b

theorem c01e_intt_smul_tbl {t : NTTTables} (hw : t.WF) (k : Nat) {x z : Array Nat}
    (hx : x.size = 2^t.k) (hz : z.size = 2^t.k)
    (hxl : ∀ j, j < 2^t.k → x.getD j 0 < t.modulus.value)
    (hzv : ∀ j, j < 2^t.k → z.getD j 0 = (k * x.getD j 0) % t.modulus.value) :
    ∀ j, j < 2^t.k → (intt t z).getD j 0 = (k * (intt t x).getD j 0) % t.modulus.value := by
  have hq2 := hw.mwf.two_le
  have hxl' : ∀ j, j < 2^t.k → x.getD j 0 < 2 * t.modulus.value := fun j hj => by have := hxl j hj; omega
  have hzl : ∀ j, j < 2^t.k → z.getD j 0 < 2 * t.modulus.value := fun j hj => by
    rw [hzv j hj]; exact Nat.lt_trans (Nat.mod_lt _ (by omega)) (by omega)
  intro j hj
  refine cast_inj_lt ((intt_sim hw z hz hzl).2 j hj).1 (Nat.mod_lt _ (by omega)) ?_
  rw [intt_lin hw hx hx hz hxl' hxl' hzl k 0
    (fun j hj => by rw [hzv j hj, ZMod.natCast_mod, Nat.cast_mul, zero_mul, add_zero]) j hj,
    ZMod.natCast_mod, Nat.cast_mul, zero_mul, add_zero]

theorem c01e_neg_eq_smul {q x : Nat} (hq : 0 < q) (hx : x ≤ q) : (q - x) % q = ((q - 1) * x) % q := by
  have e : (q - 1) * x + x = q * x := by rw [← Nat.succ_mul, Nat.succ_eq_add_one, Nat.sub_add_cancel hq]
  have h : q - x + x ≡ (q - 1) * x + x [MOD q] := by
    rw [Nat.sub_add_cancel hx, e]
    exact (Nat.mod_self q).trans (Nat.mul_mod_right q x).symm
  exact Nat.ModEq.add_right_cancel' x h

theorem c01e_view_smul {l : Level} (hl : l.WF) (ntt : Bool) (k : Nat → Nat) {a r : RnsPoly} (ha : RnsCanon l a) (hr : RnsCanon l r)
    (hv : ∀ i, i < l.size → ∀ j, j < l.n → (r.getD i #[]).getD j 0 = (k i * (a.getD i #[]).getD j 0) % (l.q i).value) :
    ∀ i, i < l.size → ∀ c, c < l.n →
      ((cview l ntt r).getD i #[]).getD c 0 = (k i * ((cview l ntt a).getD i #[]).getD c 0) % (l.q i).value := by
  intro i hi c hc
  cases ntt
  · exact hv i hi c hc
  · obtain ⟨htw, htm, htn, _⟩ := c01o_level_comp hl hi
    obtain ⟨as, ab⟩ := c01e_comp_tbl hl ha.pre hi
    rw [c01e_cview_ntt l r hi, c01e_cview_ntt l a hi, ← htm]
    exact c01e_intt_smul_tbl htw (k i) as (c01e_comp_tbl hl hr.pre hi).1 ab
      (fun j hj => by rw [htm]; exact hv i hi j (by omega)) c (by omega)

theorem c01e_view_add {l : Level} (hl : l.WF) (ntt : Bool) {a b : RnsPoly} (ha : RnsCanon l a) (hb : RnsCanon l b) :
    ∃ r, rnsAdd l a b = .ok r ∧ RnsCanon l r ∧ ∀ i, i < l.size → ∀ c, c < l.n →
      ((cview l ntt r).getD i #[]).getD c 0 =
        (((cview l ntt a).getD i #[]).getD c 0 + ((cview l ntt b).getD i #[]).getD c 0) % (l.q i).value := by
  obtain ⟨r, hr, hrC, hrv⟩ := c02v_rnsAdd_spec (c02v_qsWF_of_levelWF hl) ha hb
  refine ⟨r, hr, hrC, fun i hi c hc => ?_⟩
  cases ntt
  · exact hrv i hi c hc
  · obtain ⟨htw, htm, htn, _⟩ := c01o_level_comp hl hi
    obtain ⟨as, ab⟩ := c01e_comp_tbl hl ha.pre hi
    obtain ⟨bs, bb⟩ := c01e_comp_tbl hl hb.pre hi
    rw [c01e_cview_ntt l r hi, c01e_cview_ntt l a hi, c01e_cview_ntt l b hi, ← htm]
    exact c01o_intt_add htw as bs (c01e_comp_tbl hl hrC.pre hi).1 ab bb
      (fun j hj => by rw [htm]; exact hrv i hi j (by omega)) c (by omega)

theorem c01e_view_neg {l : Level} (hl : l.WF) (ntt : Bool) {a : RnsPoly} (ha : RnsCanon l a) :
    ∃ r, rnsNeg l a = .ok r ∧ RnsCanon l r ∧ ∀ i, i < l.size → ∀ c, c < l.n →
      ((cview l ntt r).getD i #[]).getD c 0 = ((l.q i).value - ((cview l ntt a).getD i #[]).getD c 0) % (l.q i).value := by
  obtain ⟨r, hr, hrC, hrv⟩ := c02v_rnsNeg_spec (c02v_qsWF_of_levelWF hl) ha
  refine ⟨r, hr, hrC, fun i hi c hc => ?_⟩
  have hq0 := c01e_q_pos hl hi
  rw [c01e_view_smul hl ntt (fun i => (l.q i).value - 1) ha hrC (fun i hi j hj => by
    rw [hrv i hi j hj]
    exact c01e_neg_eq_smul (c01e_q_pos hl hi) (Nat.le_of_lt ((ha.2 i hi).2 j hj))) i hi c hc]
  exact (c01e_neg_eq_smul hq0 (Nat.le_of_lt (((c01e_cview_canon hl ha).2 i hi).2 c hc))).symm

theorem c01e_view_scalar {l : Level} (hl : l.WF) (ntt : Bool) {s : Nat} (hs : s < 2^64) {a : RnsPoly} (ha : RnsCanon l a) :
    ∃ r, rnsScalar l a s = .ok r ∧ RnsCanon l r ∧ ∀ i, i < l.size → ∀ c, c < l.n →
      ((cview l ntt r).getD i #[]).getD c 0 = (s * ((cview l ntt a).getD i #[]).getD c 0) % (l.q i).value := by
  obtain ⟨r, hr, hrC, hrv⟩ := c02v_compsMap_spec (c02v_qsWF_of_levelWF hl) hs ha
  exact ⟨r, hr, hrC, c01e_view_smul hl ntt (fun _ => s) ha hrC (fun i hi j hj => by rw [hrv i hi j hj, Nat.mul_comm])⟩

/-- the product with a transformed polynomial, left in NTT form or transformed back as the two encryptions do: on the coefficient view it is
    the negacyclic product (`x` may be a key-level polynomial) -/
theorem c01e_dyadic_view {l : Level} (hl : l.WF) (ntt : Bool) {b x : RnsPoly} (hb : RnsCanon l b) (hx : PreCanon l x) :
    ∃ d, rnsDyadic l (rnsNtt l b) x = .ok d ∧ RnsCanon l (if ntt then d else rnsIntt l d) ∧ ∀ i, i < l.size → ∀ c, c < l.n →
      ((cview l ntt (if ntt then d else rnsIntt l d)).getD i #[]).getD c 0 =
        negMulNat l.n (l.q i).value (intt (l.tbl i) (x.getD i #[])) (b.getD i #[]) c := by
  have hq61 : ∀ i, i < l.size → (l.q i).value < 2^61 := fun i hi => (c01o_level_comp hl hi).2.2.2.lt
  have hN := c01e_rnsNtt_canon hl hb.pre
  have hd := c01o_rnsDyadic_ok hl (a := rnsNtt l b) (b := x)
    (fun i hi j hj => by
      have := (hN.2 i hi).2 j (by rw [← (hN.2 i hi).1]; exact hj)
      have := hq61 i hi; omega)
    (fun i hi j hj => by
      have := (hx i hi).2 j (by rw [← (hN.2 i hi).1]; exact hj)
      have := hq61 i hi; omega)
  generalize hD : c01o_zipVal l.size (rnsNtt l b) x (fun i x y => (x * y) % (l.q i).value) = d at hd
  have hdv : ∀ i, i < l.size → ∀ j, j < l.n → (d.getD i #[]).getD j 0 =
      ((x.getD i #[]).getD j 0 * (HC.ntt (l.tbl i) (b.getD i #[])).getD j 0) % (l.q i).value := fun i hi j hj => by
    rw [← hD, c01o_zipVal_coeff _ _ _ _ hi (by rw [(hN.2 i hi).1]; exact hj), c01o_rnsNtt_getD l b hi, Nat.mul_comm]
  have hdC : RnsCanon l d := ⟨by rw [← hD]; exact c01o_zipVal_size _ _ _ _, fun i hi =>
    ⟨by rw [← hD, c01o_zipVal_comp_size _ _ _ _ hi]; exact (hN.2 i hi).1,
      fun j hj => by rw [hdv i hi j hj]; exact Nat.mod_lt _ (c01e_q_pos hl hi)⟩⟩
  refine ⟨d, hd, by cases ntt; exact c01p_rnsIntt_canon hl hdC; exact hdC, fun i hi c hc => ?_⟩
  rw [show (cview l ntt (if ntt then d else rnsIntt l d)).getD i #[] = intt (l.tbl i) (d.getD i #[]) by
    cases ntt <;> exact c01o_rnsIntt_getD l d hi]
  obtain ⟨htw, htm, htn, _⟩ := c01o_level_comp hl hi
  obtain ⟨xs, xb⟩ := c01e_comp_tbl hl hx hi
  obtain ⟨bs, bb⟩ := c01e_comp_tbl hl hb.pre hi
  rw [← htm, ← htn]
  exact c01o_conv htw xs bs (c01e_comp_tbl hl hdC.pre hi).1 xb bb (fun j hj => by rw [htm]; exact hdv i hi j (by omega)) c (by omega)

/-- the factor of the error terms: t for BGV, 1 for BFV / CKKS -/
def encTT (l : Level) : Nat := if l.scheme = .bgv then l.t.value else 1

theorem c01e_encTT_bgv {l : Level} (h : l.scheme = .bgv) : encTT l = l.t.value := by unfold encTT; rw [if_pos h]
theorem c01e_encTT_other {l : Level} (h : l.scheme ≠ .bgv) : encTT l = 1 := by unfold encTT; rw [if_neg h]

theorem c01e_encTT_one {l : Level} (hs : l.scheme ≠ .bgv) {e : RnsPoly} (he : RnsCanon l e) {i c : Nat} (hi : i < l.size) (hc : c < l.n) :
    (encTT l * (e.getD i #[]).getD c 0) % (l.q i).value = (e.getD i #[]).getD c 0 := by
  rw [c01e_encTT_other hs, Nat.one_mul, Nat.mod_eq_of_lt ((he.2 i hi).2 c hc)]

theorem c01e_errorTerm_view {l : Level} (hl : l.WF) (ht : l.scheme = .bgv → l.t.value < 2^64) (ntt : Bool) {e : RnsPoly}
    (he : RnsCanon l e) :
    ∃ e', encErrorTerm l e ntt = .ok e' ∧ RnsCanon l e' ∧ ∀ i, i < l.size → ∀ c, c < l.n →
      ((cview l ntt e').getD i #[]).getD c 0 = (encTT l * (e.getD i #[]).getD c 0) % (l.q i).value := by
  have hC : RnsCanon l (if ntt then rnsNtt l e else e) := by
    cases ntt
    · exact he
    · exact c01e_rnsNtt_canon hl he.pre
  have hview : ∀ i, i < l.size → (cview l ntt (if ntt then rnsNtt l e else e)).getD i #[] = e.getD i #[] := fun i hi => by
    cases ntt
    · rfl
    · rw [c01e_cview_ntt l _ hi]; exact c01e_intt_rnsNtt hl he.pre hi
  unfold encErrorTerm
  by_cases hs : l.scheme = .bgv
  · obtain ⟨r, hr, hrC, hrv⟩ := c01e_view_scalar hl ntt (ht hs) hC
    refine ⟨r, by rw [if_pos hs]; exact hr, hrC, fun i hi c hc => ?_⟩
    rw [hrv i hi c hc, hview i hi, c01e_encTT_bgv hs]
  · refine ⟨_, by rw [if_neg hs]; rfl, hC, fun i hi c hc => ?_⟩
    rw [hview i hi, c01e_encTT_one hs he hi hc]

theorem c01e_asym_poly {l : Level} (hl : l.WF) (ht : l.scheme = .bgv → l.t.value < 2^64) (ntt : Bool) {u pk e : RnsPoly}
    (hu : RnsCanon l u) (hpk : PreCanon l pk) (he : RnsCanon l e) :
    ∃ r, (do let p ← rnsDyadic l (rnsNtt l u) pk
             let p := if ntt then p else rnsIntt l p
             let e ← encErrorTerm l e ntt
             rnsAdd l p e) = .ok r ∧ RnsCanon l r ∧
      ∀ i, i < l.size → ∀ c, c < l.n → ((cview l ntt r).getD i #[]).getD c 0 =
        (negMulNat l.n (l.q i).value (intt (l.tbl i) (pk.getD i #[])) (u.getD i #[]) c
          + (encTT l * (e.getD i #[]).getD c 0) % (l.q i).value) % (l.q i).value := by
  obtain ⟨d, hd, hpC, hpv⟩ := c01e_dyadic_view hl ntt hu hpk
  obtain ⟨e', he', heC, hev⟩ := c01e_errorTerm_view hl ht ntt he
  obtain ⟨r, hr, hrC, hrv⟩ := c01e_view_add hl ntt hpC heC
  refine ⟨r, by rw [hd, R.ok_bind, he', R.ok_bind]; exact hr, hrC, fun i hi c hc => ?_⟩
  rw [hrv i hi c hc, hpv i hi c hc, hev i hi c hc]

/-- public key (`encrypt_zero::asymmetric`), either form, every scheme: the coefficient view of polynomial k of the result is, in
    every RNS component, (intt(pk_k) ⋆ u + tt·e_k) mod q_i -/
theorem encryptZeroAsym_view {l : Level} (hl : l.WF) (ht : l.scheme = .bgv → l.t.value < 2^64) (ntt : Bool) {pk : Array RnsPoly}
    {u : RnsPoly} {es : Array RnsPoly} (hu : RnsCanon l u) (hpk : ∀ k, k < pk.size → PreCanon l (pk.getD k #[]))
    (he : ∀ k, k < pk.size → RnsCanon l (es.getD k #[])) :
    ∃ ct, encryptZeroAsym l pk u es ntt = .ok ct ∧ ct.ntt = ntt ∧ ct.cf = 1 ∧ ct.polys.size = pk.size ∧
      ∀ k, k < pk.size → RnsCanon l (ct.polys.getD k #[]) ∧ ∀ i, i < l.size → ∀ c, c < l.n →
        ((cview l ntt (ct.polys.getD k #[])).getD i #[]).getD c 0 =
          (negMulNat l.n (l.q i).value (intt (l.tbl i) ((pk.getD k #[]).getD i #[])) (u.getD i #[]) c
            + (encTT l * ((es.getD k #[]).getD i #[]).getD c 0) % (l.q i).value) % (l.q i).value := by
  let body : Nat → R RnsPoly := fun j => do
    let p ← rnsDyadic l (rnsNtt l u) (pk.getD j #[])
    let p := if ntt then p else rnsIntt l p
    let e ← encErrorTerm l (es.getD j #[]) ntt
    rnsAdd l p e
  have hex := fun k hk => c01e_asym_poly hl ht ntt hu (hpk k hk) (he k hk)
  have hm := R.mapM_ok body (fun k => c01p_val (body k)) (List.range pk.size) (fun k hk => by
    obtain ⟨r, hr, _⟩ := hex k (List.mem_range.mp hk)
    exact c01p_val_ok ⟨r, hr⟩)
  refine ⟨⟨((List.range pk.size).map (fun k => c01p_val (body k))).toArray, ntt, 1⟩, ?_, rfl, rfl, by simp, fun k hk => ?_⟩
  · unfold encryptZeroAsym
    show (do let cs ← (List.range pk.size).mapM body; pure (⟨cs.toArray, ntt, 1⟩ : Ct)) = _
    rw [hm]; rfl
  · show RnsCanon l (((List.range pk.size).map (fun k => c01p_val (body k))).toArray.getD k #[]) ∧ _
    rw [array_getD_range_map _ _ hk]
    obtain ⟨r, hr, h⟩ := hex k hk
    have e : c01p_val (body k) = r := by rw [show body k = .ok r from hr]; rfl
    rw [e]
    exact h

/-- the public-key values in coefficient form outside BGV (BFV), where tt = 1 -/
theorem encryptZeroAsym_coeff {l : Level} (hl : l.WF) (hs : l.scheme ≠ .bgv) {pk : Array RnsPoly} {u : RnsPoly} {es : Array RnsPoly}
    (hu : RnsCanon l u) (hpk : ∀ k, k < pk.size → PreCanon l (pk.getD k #[]))
    (he : ∀ k, k < pk.size → RnsCanon l (es.getD k #[])) :
    ∃ ct, encryptZeroAsym l pk u es false = .ok ct ∧ ct.ntt = false ∧ ct.cf = 1 ∧ ct.polys.size = pk.size ∧
      ∀ k, k < pk.size → RnsCanon l (ct.polys.getD k #[]) ∧ ∀ i, i < l.size → ∀ c, c < l.n →
        ((ct.polys.getD k #[]).getD i #[]).getD c 0 =
          (negMulNat l.n (l.q i).value (intt (l.tbl i) ((pk.getD k #[]).getD i #[])) (u.getD i #[]) c
            + ((es.getD k #[]).getD i #[]).getD c 0) % (l.q i).value := by
  obtain ⟨ct, h1, h2, h3, h4, h5⟩ := encryptZeroAsym_view hl (fun h => absurd h hs) false hu hpk he
  refine ⟨ct, h1, h2, h3, h4, fun k hk => ⟨(h5 k hk).1, fun i hi c hc => ?_⟩⟩
  rw [← c01e_encTT_one hs (he k hk) hi hc]
  exact (h5 k hk).2 i hi c hc

/-- secret key (`encrypt_zero::symmetric`), either form, every scheme, with and without a saved seed: c1 is the mask `a` itself — in
    coefficient form without a saved seed its inverse transform — and the coefficient view of c0 is −(c1 ⋆ s + tt·e) mod q_i -/
theorem encryptZeroSym_view {l : Level} (hl : l.WF) (ht : l.scheme = .bgv → l.t.value < 2^64) (ntt : Bool) {sk : Array Int}
    (hsk : sk.size = l.n) {a e : RnsPoly} (ha : RnsCanon l a) (he : RnsCanon l e) (saveSeed : Bool) :
    ∃ c0 c1, encryptZeroSym l sk a e ntt saveSeed = .ok ⟨#[c0, c1], ntt, 1⟩ ∧ RnsCanon l c0 ∧ RnsCanon l c1 ∧
      c1 = (if ntt || seedSaved l saveSeed then a else rnsIntt l a) ∧
      ∀ i, i < l.size → ∀ c, c < l.n → ((cview l ntt c0).getD i #[]).getD c 0 =
        ((l.q i).value - (negMulNat l.n (l.q i).value ((cview l ntt c1).getD i #[]) (skRes l sk i) c
          + (encTT l * (e.getD i #[]).getD c 0) % (l.q i).value) % (l.q i).value) % (l.q i).value := by
  -- the mask in NTT representation, as the model forms it, and the polynomial c1 it returns
  generalize hc1n : (if (ntt || !seedSaved l saveSeed) = true then a else rnsNtt l a) = c1n
  generalize hc1 : (if (ntt || seedSaved l saveSeed) = true then a else rnsIntt l a) = c1
  have hc1nC : RnsCanon l c1n := by
    rw [← hc1n]; split
    · exact ha
    · exact c01e_rnsNtt_canon hl ha.pre
  have hc1C : RnsCanon l c1 := by
    rw [← hc1]; split
    · exact ha
    · exact c01p_rnsIntt_canon hl ha
  have hrel : ∀ i, i < l.size → intt (l.tbl i) (c1n.getD i #[]) = (cview l ntt c1).getD i #[] := by
    intro i hi
    rw [← hc1n, ← hc1]
    cases ntt
    · cases seedSaved l saveSeed
      · exact (c01o_rnsIntt_getD l a hi).symm
      · exact c01e_intt_rnsNtt hl ha.pre hi
    · exact (c01e_cview_ntt l a hi).symm
  obtain ⟨d, hd, hpC, hpv⟩ := c01e_dyadic_view hl ntt (c01e_rnsOfInt_canon hl hsk) hc1nC.pre
  rw [c01e_rnsNtt_rnsOfInt] at hd
  obtain ⟨e', he', heC, hev⟩ := c01e_errorTerm_view hl ht ntt he
  obtain ⟨r, hr, hrC, hrv⟩ := c01e_view_add hl ntt hpC heC
  obtain ⟨c0, hc0, hc0C, hc0v⟩ := c01e_view_neg hl ntt hrC
  refine ⟨c0, c1, ?_, hc0C, hc1C, rfl, fun i hi c hc => ?_⟩
  · unfold encErrorTerm at he'
    unfold encryptZeroSym
    simp only []
    rw [hc1n, hd, R.ok_bind]
    have hrest : (do
        let c0 ← rnsAdd l (if ntt then d else rnsIntt l d) e'
        let c0 ← rnsNeg l c0
        pure (⟨#[c0, if !ntt && !seedSaved l saveSeed then rnsIntt l c1n else a], ntt, 1⟩ : Ct)) = .ok ⟨#[c0, c1], ntt, 1⟩ := by
      rw [hr, R.ok_bind, hc0, R.ok_bind, ← hc1, ← hc1n]
      cases ntt <;> cases seedSaved l saveSeed <;> rfl
    by_cases hs : l.scheme = .bgv
    · rw [if_pos hs] at he' ⊢
      rw [he', R.ok_bind]; exact hrest
    · rw [if_neg hs] at he' ⊢
      rw [he', R.ok_bind]; exact hrest
  · rw [hc0v i hi c hc, hrv i hi c hc, hpv i hi c hc, hrel i hi, hev i hi c hc, c01e_rnsOfInt_getD l sk hi]

/-- the secret-key values in coefficient form outside BGV (BFV), where tt = 1 -/
theorem encryptZeroSym_coeff {l : Level} (hl : l.WF) (hs : l.scheme ≠ .bgv) {sk : Array Int} (hsk : sk.size = l.n)
    {a e : RnsPoly} (ha : RnsCanon l a) (he : RnsCanon l e) (saveSeed : Bool) :
    ∃ c0 c1, encryptZeroSym l sk a e false saveSeed = .ok ⟨#[c0, c1], false, 1⟩ ∧ RnsCanon l c0 ∧ RnsCanon l c1 ∧
      c1 = (if seedSaved l saveSeed then a else rnsIntt l a) ∧
      ∀ i, i < l.size → ∀ c, c < l.n → (c0.getD i #[]).getD c 0 =
        ((l.q i).value - (negMulNat l.n (l.q i).value (c1.getD i #[]) (skRes l sk i) c + (e.getD i #[]).getD c 0) % (l.q i).value)
          % (l.q i).value := by
  obtain ⟨c0, c1, h1, h2, h3, h4, h5⟩ := encryptZeroSym_view hl (fun h => absurd h hs) false hsk ha he saveSeed
  refine ⟨c0, c1, h1, h2, h3, h4, fun i hi c hc => ?_⟩
  rw [← c01e_encTT_one hs he hi hc]
  exact h5 i hi c hc

/-- the exact phase of two polynomials, read modulo one prime of the level: the phase c0 + c1 ⋆ s of the residues (`c04k_phase_res` in the
    level's words; no sizes asked) -/
theorem c01e_phase_comp {l : Level} (hq : c07s_LevelQ l) {sk : Array Int} {C0 C1 : RnsPoly} {c : Nat} (hc : c < l.n) {i : Nat}
    (hi : i < l.size) :
    (Spec.phase (c01p_qvals l) l.n sk [C0, C1]).getD c 0 ≡
      c05u_phase2 l.n (fun p => (((C0.getD i #[]).getD p 0 : Nat) : Int)) (fun p => (((C1.getD i #[]).getD p 0 : Nat) : Int))
        (fun p => sk.getD p 0) c [ZMOD ((l.q i).value : Int)] := by
  rw [c01q_qvals_eq hq, ← hq.q_eq hi]
  exact c04k_phase_res hq.bwf hc (by rw [hq.size_eq]; exact hi)

/-- … hence a value x that the residue phases agree with modulo every prime is the exact phase modulo Q (`c04k_phase_crt`): how the
    `_phase` theorems below pass from the per-prime views to `Spec.phase` -/
theorem c01e_phase_crt {l : Level} (hq : c07s_LevelQ l) {sk : Array Int} {C0 C1 : RnsPoly} {c : Nat} (hc : c < l.n) {x : Int}
    (h : ∀ i, i < l.size → c05u_phase2 l.n (fun p => (((C0.getD i #[]).getD p 0 : Nat) : Int))
      (fun p => (((C1.getD i #[]).getD p 0 : Nat) : Int)) (fun p => sk.getD p 0) c ≡ x [ZMOD ((l.q i).value : Int)]) :
    (Spec.phase (c01p_qvals l) l.n sk [C0, C1]).getD c 0 ≡ x [ZMOD (Spec.prodL (c01p_qvals l) : Int)] := by
  rw [hq.prodL, c01q_qvals_eq hq]
  exact c04k_phase_crt hq.bwf hc fun j hj => by
    have hjl : j < l.size := by rw [← hq.size_eq]; exact hj
    rw [hq.q_eq hjl]
    exact h j hjl

theorem c01g_phase_of_lift {l : Level} (hq : c07s_LevelQ l) {sk : Array Int} {C0 C1 : RnsPoly} {Z0 Z1 : Nat → Int}
    (h0 : C0.size = l.size) (h1 : C1.size = l.size)
    (hZ0 : ∀ i, i < l.size → ∀ c, c < l.n → (((C0.getD i #[]).getD c 0 : Nat) : Int) ≡ Z0 c [ZMOD ((l.q i).value : Int)])
    (hZ1 : ∀ i, i < l.size → ∀ c, c < l.n → (((C1.getD i #[]).getD c 0 : Nat) : Int) ≡ Z1 c [ZMOD ((l.q i).value : Int)]) :
    ∀ c, c < l.n → (Spec.phase (c01p_qvals l) l.n sk [C0, C1]).getD c 0 ≡ c05u_phase2 l.n Z0 Z1 (fun p => sk.getD p 0) c
      [ZMOD (Spec.prodL (c01p_qvals l) : Int)] := fun c hc =>
  c01e_phase_crt hq hc fun i hi =>
    Int.ModEq.add (hZ0 i hi c hc) (c04k_negMul_modEq l.n _ hc (hZ1 i hi) (fun _ _ => Int.ModEq.refl _))

theorem c01g_phase_add_c0 {l : Level} (hq : c07s_LevelQ l) {sk : Array Int} {C0 C0' C1 : RnsPoly} {M : Nat → Int}
    (h0 : C0.size = l.size) (h0' : C0'.size = l.size) (h1 : C1.size = l.size)
    (hM : ∀ i, i < l.size → ∀ c, c < l.n → (((C0'.getD i #[]).getD c 0 : Nat) : Int) ≡
      (((C0.getD i #[]).getD c 0 : Nat) : Int) + M c [ZMOD ((l.q i).value : Int)]) :
    ∀ c, c < l.n → (Spec.phase (c01p_qvals l) l.n sk [C0', C1]).getD c 0 ≡
      (Spec.phase (c01p_qvals l) l.n sk [C0, C1]).getD c 0 + M c [ZMOD (Spec.prodL (c01p_qvals l) : Int)] := by
  intro c hc
  apply c01e_phase_crt hq hc
  intro i hi
  refine Int.ModEq.trans ?_ (Int.ModEq.add (c01e_phase_comp hq hc hi).symm (Int.ModEq.refl (M c)))
  unfold c05u_phase2
  rw [add_right_comm]
  exact Int.ModEq.add (hM i hi c hc) (Int.ModEq.refl _)

/-- the ring identity `phase_fresh_pk` on integer coefficient functions (read off in ℤ[X]/(X^n+1), `c03k_NP ℤ n`):
    (−(P1⋆S + E))⋆U + E0 + M + (P1⋆U + E1)⋆S = M − E⋆U + E0 + E1⋆S -/
theorem c01e_pk_identity {n : Nat} (hn : 0 < n) (P1 S E U E0 E1 M : Nat → Int) :
    ∀ c, c < n →
      negMulR n (fun p => (-1 : Int) * (negMulR n P1 S p + E p)) U c + E0 c + M c
        + negMulR n (fun p => negMulR n P1 U p + E1 p) S c
      = M c - negMulR n E U c + E0 c + negMulR n E1 S c := by
  intro c hc
  -- the identity holds in the ring ℤ[X]/(X^n+1) of coefficient functions; coefficient c of it is the claim
  have key : ∀ p1 s e u e0 e1 m : c03k_NP Int n,
      ((-1 : Int) • (p1 * s + e)) * u + e0 + m + (p1 * u + e1) * s = m - e * u + e0 + e1 * s := by
    intro p1 s e u e0 e1 m
    rw [neg_one_zsmul]
    ring
  have h := key (c03k_toNP n P1) (c03k_toNP n S) (c03k_toNP n E) (c03k_toNP n U) (c03k_toNP n E0) (c03k_toNP n E1) (c03k_toNP n M)
  have hadd : ∀ f g : Nat → Int, c03k_toNP n (fun i => f i + g i) = c03k_toNP n f + c03k_toNP n g := c03k_toNP_add
  simp only [← c03k_toNP_mul, ← hadd, ← c03k_toNP_sub, ← c03k_toNP_zsmul] at h
  exact c03k_toNP_inj h hc

/-- the public key (NTT form; only its first `l.size` components matter at level `l`) is an encryption of zero under `sk` with
    error polynomial `E` (BGV: `E` = t·e): intt(pk0_i) ≡ −(intt(pk1_i) ⋆ s + E) modulo q_i, in every component.
    `genPublicKey_pkRel` (C01F): this is what the model's own key generation (symmetric encryption of zero in NTT form) yields. -/
def PkRel (l : Level) (sk : Array Int) (E : Nat → Int) (pk0 pk1 : RnsPoly) : Prop :=
  PreCanon l pk0 ∧ PreCanon l pk1 ∧ ∀ i, i < l.size → ∀ c, c < l.n →
    (((intt (l.tbl i) (pk0.getD i #[])).getD c 0 : Nat) : Int) ≡
      (-1 : Int) * (negMulR l.n (fun p => (((intt (l.tbl i) (pk1.getD i #[])).getD p 0 : Nat) : Int)) (fun p => sk.getD p 0) c + E c)
      [ZMOD ((l.q i).value : Int)]

theorem c01e_mask_modEq {l : Level} (hl : l.WF) {i : Nat} (hi : i < l.size) (A : Array Nat) (u e : Array Int) (tt : Nat) {c : Nat}
    (hc : c < l.n) :
    (((negMulNat l.n (l.q i).value A (skRes l u i) c + (tt * (skRes l e i).getD c 0) % (l.q i).value) % (l.q i).value : Nat) : Int) ≡
      negMulR l.n (fun p => ((A.getD p 0 : Nat) : Int)) (fun p => u.getD p 0) c + (tt : Int) * e.getD c 0
      [ZMOD ((l.q i).value : Int)] := by
  have hq0 := c01e_q_pos hl hi
  have hres : ∀ (v : Array Int) (p : Nat), (((skRes l v i).getD p 0 : Nat) : Int) ≡ v.getD p 0 [ZMOD ((l.q i).value : Int)] :=
    fun v p => by rw [c01p_skRes_eq]; exact c01p_skResQ_modEq v hq0 p
  refine (cast_mod_modEq _ _).trans ?_
  rw [Nat.cast_add]
  refine Int.ModEq.add (negMulNat_modEq hq0 _ _ _ _ (fun _ _ => Int.ModEq.refl _) (fun p _ => hres u p) hc)
    ((cast_mod_modEq _ _).trans ?_)
  rw [Nat.cast_mul]
  exact Int.ModEq.mul (Int.ModEq.refl _) (hres e c)

theorem c01e_neg_cast {q x : Nat} (hq : 0 < q) {Z : Int} (hx : (x : Int) ≡ Z [ZMOD (q : Int)]) :
    (((q - x % q) % q : Nat) : Int) ≡ (-1 : Int) * Z [ZMOD (q : Int)] := by
  have hlt : x % q ≤ q := Nat.le_of_lt (Nat.mod_lt _ hq)
  refine (cast_mod_modEq _ _).trans ?_
  rw [Nat.cast_sub hlt, neg_one_mul]
  have h2 : ((q : Nat) : Int) ≡ 0 [ZMOD (q : Int)] := Int.modEq_zero_iff_dvd.mpr (dvd_refl _)
  simpa using h2.sub ((cast_mod_modEq x q).trans hx)

theorem c01e_negmask_modEq {l : Level} (hl : l.WF) {i : Nat} (hi : i < l.size) (A : Array Nat) (sk e : Array Int) (tt : Nat) {c : Nat}
    (hc : c < l.n) :
    ((((l.q i).value - (negMulNat l.n (l.q i).value A (skRes l sk i) c + (tt * (skRes l e i).getD c 0) % (l.q i).value)
        % (l.q i).value) % (l.q i).value : Nat) : Int) ≡
      (-1 : Int) * (negMulR l.n (fun p => ((A.getD p 0 : Nat) : Int)) (fun p => sk.getD p 0) c + (tt : Int) * e.getD c 0)
      [ZMOD ((l.q i).value : Int)] :=
  c01e_neg_cast (c01e_q_pos hl hi) ((cast_mod_modEq _ _).symm.trans (c01e_mask_modEq hl hi A sk e tt hc))

/-- public key: with pk0 = −(pk1 ⋆ s + E) the phase of (pk0 ⋆ u + tt·e0, pk1 ⋆ u + tt·e1) is −E⋆u + tt·e0 + tt·e1⋆s -/
theorem c01e_phase_pk {l : Level} (hl : l.WF) (hq : c07s_LevelQ l) {sk : Array Int} {E : Nat → Int} {pk0 pk1 : RnsPoly}
    (hpk : PkRel l sk E pk0 pk1) (u e0 e1 : Array Int) (tt : Nat) {C0 C1 : RnsPoly}
    (hc0 : ∀ i, i < l.size → ∀ c, c < l.n → (C0.getD i #[]).getD c 0 =
      (negMulNat l.n (l.q i).value (intt (l.tbl i) (pk0.getD i #[])) ((rnsOfInt l u).getD i #[]) c
        + (tt * ((rnsOfInt l e0).getD i #[]).getD c 0) % (l.q i).value) % (l.q i).value)
    (hc1 : ∀ i, i < l.size → ∀ c, c < l.n → (C1.getD i #[]).getD c 0 =
      (negMulNat l.n (l.q i).value (intt (l.tbl i) (pk1.getD i #[])) ((rnsOfInt l u).getD i #[]) c
        + (tt * ((rnsOfInt l e1).getD i #[]).getD c 0) % (l.q i).value) % (l.q i).value) :
    ∀ c, c < l.n → (Spec.phase (c01p_qvals l) l.n sk [C0, C1]).getD c 0 ≡
      0 - negMulR l.n E (fun p => u.getD p 0) c + (tt : Int) * e0.getD c 0
        + negMulR l.n (fun p => (tt : Int) * e1.getD p 0) (fun p => sk.getD p 0) c [ZMOD (Spec.prodL (c01p_qvals l) : Int)] := by
  intro c hc
  apply c01e_phase_crt hq hc
  intro i hi
  -- the two polynomials as integer functions, pk0 replaced by −(pk1 ⋆ s + E)
  have hP0 : (((C0.getD i #[]).getD c 0 : Nat) : Int) ≡
      negMulR l.n (fun p => (-1 : Int) * (negMulR l.n (fun p => (((intt (l.tbl i) (pk1.getD i #[])).getD p 0 : Nat) : Int))
        (fun p => sk.getD p 0) p + E p)) (fun p => u.getD p 0) c + (tt : Int) * e0.getD c 0 [ZMOD ((l.q i).value : Int)] := by
    rw [hc0 i hi c hc, c01e_rnsOfInt_getD l u hi, c01e_rnsOfInt_getD l e0 hi]
    exact (c01e_mask_modEq hl hi _ u e0 tt hc).trans (Int.ModEq.add
      (c04k_negMul_modEq l.n _ hc (hpk.2.2 i hi) (fun _ _ => Int.ModEq.refl _)) (Int.ModEq.refl _))
  have hP1 : ∀ p, p < l.n → (((C1.getD i #[]).getD p 0 : Nat) : Int) ≡
      negMulR l.n (fun p => (((intt (l.tbl i) (pk1.getD i #[])).getD p 0 : Nat) : Int)) (fun p => u.getD p 0) p
        + (tt : Int) * e1.getD p 0 [ZMOD ((l.q i).value : Int)] := fun p hp => by
    rw [hc1 i hi p hp, c01e_rnsOfInt_getD l u hi, c01e_rnsOfInt_getD l e1 hi]
    exact c01e_mask_modEq hl hi _ u e1 tt hp
  have hsum := hP0.add (c04k_negMul_modEq l.n ((l.q i).value : Int) hc hP1 (fun p _ => Int.ModEq.refl (sk.getD p 0)))
  rw [← add_zero (_ + (tt : Int) * e0.getD c 0),
    c01e_pk_identity (c01q_n_pos hl) _ _ E _ (fun p => (tt : Int) * e0.getD p 0) (fun p => (tt : Int) * e1.getD p 0) (fun _ => 0) c hc]
    at hsum
  exact hsum

theorem c01e_pair_all {α : Type} {P : α → Prop} {a b : α} (ha : P a) (hb : P b) (d : α) :
    ∀ k, k < (#[a, b] : Array α).size → P ((#[a, b] : Array α).getD k d)
  | 0, _ => ha
  | 1, _ => hb

/-- PHASE of the model's fresh public-key ciphertext, either form, every scheme (level without a previous level): the exact phase of
    the coefficient views of (c0, c1) is −e·u + tt·e0 + tt·e1·s modulo Q, e = the public key's error, (u, e0, e1) the drawn polynomials -/
theorem encryptZeroAsym_view_phase {l : Level} (hl : l.WF) (hq : c07s_LevelQ l) (ht : l.scheme = .bgv → l.t.value < 2^64) (ntt : Bool)
    {sk : Array Int} {pk0 pk1 : RnsPoly} {E : Nat → Int} (hpk : PkRel l sk E pk0 pk1)
    {u e0 e1 : Array Int} (hus : u.size = l.n) (he0s : e0.size = l.n) (he1s : e1.size = l.n) :
    ∃ c0 c1, encryptZeroAsym l #[pk0, pk1] (rnsOfInt l u) #[rnsOfInt l e0, rnsOfInt l e1] ntt = .ok ⟨#[c0, c1], ntt, 1⟩ ∧
      RnsCanon l c0 ∧ RnsCanon l c1 ∧
      (∀ i, i < l.size → ∀ c, c < l.n → ((cview l ntt c0).getD i #[]).getD c 0 =
        (negMulNat l.n (l.q i).value (intt (l.tbl i) (pk0.getD i #[])) ((rnsOfInt l u).getD i #[]) c
          + (encTT l * ((rnsOfInt l e0).getD i #[]).getD c 0) % (l.q i).value) % (l.q i).value) ∧
      (∀ i, i < l.size → ∀ c, c < l.n → ((cview l ntt c1).getD i #[]).getD c 0 =
        (negMulNat l.n (l.q i).value (intt (l.tbl i) (pk1.getD i #[])) ((rnsOfInt l u).getD i #[]) c
          + (encTT l * ((rnsOfInt l e1).getD i #[]).getD c 0) % (l.q i).value) % (l.q i).value) ∧
      ∀ c, c < l.n → (Spec.phase (c01p_qvals l) l.n sk [cview l ntt c0, cview l ntt c1]).getD c 0 ≡
        0 - negMulR l.n E (fun p => u.getD p 0) c + (encTT l : Int) * e0.getD c 0
          + negMulR l.n (fun p => (encTT l : Int) * e1.getD p 0) (fun p => sk.getD p 0) c
        [ZMOD (Spec.prodL (c01p_qvals l) : Int)] := by
  obtain ⟨⟨polys, zn, zcf⟩, hz, hzn, hzcf, hzs, hzv⟩ := encryptZeroAsym_view hl ht ntt (pk := #[pk0, pk1]) (u := rnsOfInt l u)
    (es := #[rnsOfInt l e0, rnsOfInt l e1]) (c01e_rnsOfInt_canon hl hus) (c01e_pair_all hpk.1 hpk.2.1 #[])
    (c01e_pair_all (P := RnsCanon l) (c01e_rnsOfInt_canon hl he0s) (c01e_rnsOfInt_canon hl he1s) #[])
  simp only at hzn hzcf hzs hzv
  subst hzn hzcf
  obtain ⟨hC0, hv0⟩ := hzv 0 (by simp)
  obtain ⟨hC1, hv1⟩ := hzv 1 (by simp)
  exact ⟨polys.getD 0 #[], polys.getD 1 #[], by rw [hz, ← array_eq_pair polys #[] hzs], hC0, hC1, hv0, hv1,
    c01e_phase_pk hl hq hpk u e0 e1 (encTT l) hv0 hv1⟩

/-- the public-key phase for BFV (coefficient form, tt = 1) -/
theorem encryptZeroAsym_phase {l : Level} (hl : l.WF) (hq : c07s_LevelQ l) (hs : l.scheme ≠ .bgv) {sk : Array Int}
    {pk0 pk1 : RnsPoly} {E : Nat → Int} (hpk : PkRel l sk E pk0 pk1)
    {u e0 e1 : Array Int} (hus : u.size = l.n) (he0s : e0.size = l.n) (he1s : e1.size = l.n) :
    ∃ c0 c1, encryptZeroAsym l #[pk0, pk1] (rnsOfInt l u) #[rnsOfInt l e0, rnsOfInt l e1] false = .ok ⟨#[c0, c1], false, 1⟩ ∧
      RnsCanon l c0 ∧ RnsCanon l c1 ∧
      (∀ i, i < l.size → ∀ c, c < l.n → (c0.getD i #[]).getD c 0 =
        (negMulNat l.n (l.q i).value (intt (l.tbl i) (pk0.getD i #[])) ((rnsOfInt l u).getD i #[]) c
          + ((rnsOfInt l e0).getD i #[]).getD c 0) % (l.q i).value) ∧
      (∀ i, i < l.size → ∀ c, c < l.n → (c1.getD i #[]).getD c 0 =
        (negMulNat l.n (l.q i).value (intt (l.tbl i) (pk1.getD i #[])) ((rnsOfInt l u).getD i #[]) c
          + ((rnsOfInt l e1).getD i #[]).getD c 0) % (l.q i).value) ∧
      ∀ c, c < l.n → (Spec.phase (c01p_qvals l) l.n sk [c0, c1]).getD c 0 ≡
        0 - negMulR l.n E (fun p => u.getD p 0) c + e0.getD c 0 + negMulR l.n (fun p => e1.getD p 0) (fun p => sk.getD p 0) c
        [ZMOD (Spec.prodL (c01p_qvals l) : Int)] := by
  obtain ⟨c0, c1, hz, hC0, hC1, hv0, hv1, hph⟩ := encryptZeroAsym_view_phase hl hq (fun h => absurd h hs) false hpk hus he0s he1s
  refine ⟨c0, c1, hz, hC0, hC1, fun i hi c hc => ?_, fun i hi c hc => ?_, fun c hc => ?_⟩
  · rw [← c01e_encTT_one hs (c01e_rnsOfInt_canon hl he0s) hi hc]; exact hv0 i hi c hc
  · rw [← c01e_encTT_one hs (c01e_rnsOfInt_canon hl he1s) hi hc]; exact hv1 i hi c hc
  · simpa only [c01e_encTT_other hs, Nat.cast_one, one_mul, c01e_cview_coeff] using hph c hc

/-- PHASE of the model's fresh secret-key ciphertext, either form, every scheme, with or without a saved seed: −tt·e modulo Q -/
theorem encryptZeroSym_view_phase {l : Level} (hl : l.WF) (hq : c07s_LevelQ l) (ht : l.scheme = .bgv → l.t.value < 2^64) (ntt : Bool)
    {sk : Array Int} (hsk : sk.size = l.n) {a : RnsPoly} (ha : RnsCanon l a) {e : Array Int} (hes : e.size = l.n) (saveSeed : Bool) :
    ∃ c0 c1, encryptZeroSym l sk a (rnsOfInt l e) ntt saveSeed = .ok ⟨#[c0, c1], ntt, 1⟩ ∧ RnsCanon l c0 ∧ RnsCanon l c1 ∧
      c1 = (if ntt || seedSaved l saveSeed then a else rnsIntt l a) ∧
      (∀ i, i < l.size → ∀ c, c < l.n → ((cview l ntt c0).getD i #[]).getD c 0 =
        ((l.q i).value - (negMulNat l.n (l.q i).value ((cview l ntt c1).getD i #[]) (skRes l sk i) c
          + (encTT l * ((rnsOfInt l e).getD i #[]).getD c 0) % (l.q i).value) % (l.q i).value) % (l.q i).value) ∧
      ∀ c, c < l.n → (Spec.phase (c01p_qvals l) l.n sk [cview l ntt c0, cview l ntt c1]).getD c 0 ≡ 0 - (encTT l : Int) * e.getD c 0
        [ZMOD (Spec.prodL (c01p_qvals l) : Int)] := by
  obtain ⟨c0, c1, hz, hC0, hC1, hc1, hv⟩ := encryptZeroSym_view hl ht ntt hsk ha (c01e_rnsOfInt_canon hl hes) saveSeed
  refine ⟨c0, c1, hz, hC0, hC1, hc1, hv, fun c hc => ?_⟩
  apply c01e_phase_crt hq hc
  intro i hi
  have h : ((((cview l ntt c0).getD i #[]).getD c 0 : Nat) : Int) ≡
      (-1 : Int) * (negMulR l.n (fun p => ((((cview l ntt c1).getD i #[]).getD p 0 : Nat) : Int)) (fun p => sk.getD p 0) c
        + (encTT l : Int) * e.getD c 0) [ZMOD ((l.q i).value : Int)] := by
    rw [hv i hi c hc, c01e_rnsOfInt_getD l e hi]
    exact c01e_negmask_modEq hl hi _ sk e _ hc
  refine (h.add (Int.ModEq.refl _)).trans ?_
  rw [show ∀ x y : Int, (-1 : Int) * (x + y) + x = 0 - y from fun x y => by ring]

/-- the secret-key phase for BFV (coefficient form, tt = 1) -/
theorem encryptZeroSym_phase {l : Level} (hl : l.WF) (hq : c07s_LevelQ l) (hs : l.scheme ≠ .bgv) {sk : Array Int}
    (hsk : sk.size = l.n) {a : RnsPoly} (ha : RnsCanon l a) {e : Array Int} (hes : e.size = l.n) (saveSeed : Bool) :
    ∃ c0 c1, encryptZeroSym l sk a (rnsOfInt l e) false saveSeed = .ok ⟨#[c0, c1], false, 1⟩ ∧ RnsCanon l c0 ∧ RnsCanon l c1 ∧
      c1 = (if seedSaved l saveSeed then a else rnsIntt l a) ∧
      (∀ i, i < l.size → ∀ c, c < l.n → (((c0.getD i #[]).getD c 0 : Nat) : Int) ≡
        (-1 : Int) * ((negMulNat l.n (l.q i).value (c1.getD i #[]) (skRes l sk i) c : Int) + e.getD c 0)
        [ZMOD ((l.q i).value : Int)]) ∧
      ∀ c, c < l.n → (Spec.phase (c01p_qvals l) l.n sk [c0, c1]).getD c 0 ≡ 0 - e.getD c 0
        [ZMOD (Spec.prodL (c01p_qvals l) : Int)] := by
  obtain ⟨c0, c1, hz, hC0, hC1, hc1, hv, hph⟩ := encryptZeroSym_view_phase hl hq (fun h => absurd h hs) false hsk ha hes saveSeed
  refine ⟨c0, c1, hz, hC0, hC1, hc1, fun i hi c hc => ?_, fun c hc => ?_⟩
  · have hv' := hv i hi c hc
    rw [c01e_cview_coeff, c01e_cview_coeff, c01e_encTT_one hs (c01e_rnsOfInt_canon hl hes) hi hc] at hv'
    rw [hv']
    apply c01e_neg_cast (c01e_q_pos hl hi)
    rw [Nat.cast_add]
    exact Int.ModEq.add (Int.ModEq.refl _) (c01e_rnsOfInt_modEq e hi (c01e_q_pos hl hi) c)
  · simpa only [c01e_encTT_other hs, Nat.cast_one, one_mul, c01e_cview_coeff] using hph c hc

theorem c01e_toRns_ofRns (p : RnsPoly) : toRns (ofRns p) = p := by
  unfold toRns ofRns
  apply Array.ext (by simp)
  intro i h1 h2
  simp

theorem c01e_ofRns_toRns (c : List (List Nat)) : ofRns (toRns c) = c := by
  unfold ofRns toRns
  rw [List.map_map, show (Array.toList ∘ List.toArray : List Nat → List Nat) = id from rfl, List.map_id]

/-- `expand_seed` restores the ciphertext: if the generator seeded with the stored seed expands (`sample::uniform`, Rng model) to
    the polynomial c1, then expanding the seed-compressed object (c0, seed) gives back (c0, c1) -/
theorem expandSeed_toSeeded (U : Rng.Uniform) (xof : Rng.Xof) (l : Level) (c0 c1 : RnsPoly) (ntt : Bool) (cf : Nat) (seed : Rng.Seed)
    (st : Rng.St)
    (h : Rng.uniformPoly U xof (Rng.fromSeed seed) l.n (l.qs.toList.map (·.value)) = .ok (ofRns c1, st)) :
    expandSeed U xof l ((⟨#[c0, c1], ntt, cf⟩ : Ct).toSeeded seed) = .ok ⟨#[c0, c1], ntt, cf⟩ := by
  unfold expandSeed Ct.toSeeded
  simp only []
  rw [h, R.ok_bind]
  show Except.ok (⟨#[c0, toRns (ofRns c1)], ntt, cf⟩ : Ct) = _
  rw [c01e_toRns_ofRns]

/-- the modulus switch inside public-key encryption is `modSwitchScaleNext` of the previous level (BFV, CKKS; for BGV it differs
    only in the correction factor, which encryption leaves at 1): the theorems of C05U (`modSwitchScaleNext_bfv_spec`,
    `…_ckks_spec`) apply to the special-prime path -/
theorem encDivideQLast_eq_modSwitch {pl : Level} (h2 : 2 ≤ pl.size) (hs : pl.scheme ≠ .bgv) (ct : Ct)
    (hn : ct.ntt = pl.scheme.encNtt) : encDivideQLast pl (pl.size - 1) ct = modSwitchScaleNext pl ct := by
  unfold encDivideQLast modSwitchScaleNext
  rw [if_neg (by omega)]
  cases hsc : pl.scheme with
  | bfv => simp only [hsc, Scheme.encNtt] at hn ⊢; rw [hn]; rfl
  | ckks => simp only [hsc, Scheme.encNtt] at hn ⊢; rw [hn]; rfl
  | bgv => exact absurd hsc hs

end HC
