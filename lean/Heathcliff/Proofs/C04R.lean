/- C04 part R (with C11): rotations end to end at the model level.  A Galois element g ≡ 3^s acts on the decoded slots as the
   rotation of both rows by s (`batchDecode_rotate_rows`, index map `c04r_rotIdx`), 2N − 1 as the exchange of the rows; `applyGalois`
   with a key for g turns the exact phase into σ_g of it plus the key-switching noise, so decryption commutes with the rotation under
   a margin in which the noises ADD (`applyGalois_decrypt_bfv`, `applyGalois_decrypt_bgv`, `ckks_rotate_phase`); the plan
   `rotatePlan` of `rotate_internal` uses only elements that have keys and multiplies to 3^steps (`c04r_rotatePlan_ok`), and executing
   it rotates by `steps` (`c04r_rotatePlan_bfv`).
   Also here: the part of the σ_g algebra that needs integers or congruences (`c04r_sigma_smul`, `c04r_sigma_modEq`, `sigma_natAbs_le`,
   `sigma_comp`, `sigma_mod`, `c04r_sigma_one`; definition, additivity and multiplicativity are in NegAlg, the index / sign rule in C04K).
   The noise measure `c04r_bfvNoise` and the step "noise bound + margin ⇒ the model decrypts" (`c04r_bfv_decrypts`,
   `c04r_bgv_decrypts`) stand at the end of C01Q, where C01I reaches them without the C04 modules. -/
import Heathcliff.Proofs.C04K
import Heathcliff.Proofs.C04M
import Heathcliff.Proofs.C11N
import Heathcliff.Proofs.C01Q
import Heathcliff.Proofs.C07S
import Heathcliff.Proofs.C08B
namespace HC
open Finset

section plain
variable {t : NTTTables}

/-- slots of the Galois-permuted plaintext: slot i of σ_g(p) is the slot i' of p with slotExp(i)·g ≡ slotExp(i') (mod 2N) -/
theorem batchDecode_galois (hw : t.WF) (hk : 1 ≤ t.k) {g : Nat} (hg : g % 2 = 1) (p : Array Nat) (hs : p.size = 2^t.k)
    (hp : ∀ j, j < 2^t.k → p.getD j 0 < t.modulus.value) :
    ∃ r, galoisApply t.k p g t.modulus = .ok r ∧ r.size = 2^t.k ∧ (∀ j, j < 2^t.k → r.getD j 0 < t.modulus.value) ∧
      ∀ i i', i < 2^t.k → i' < 2^t.k → (slotExp t.k i * g) % (2 * 2^t.k) = slotExp t.k i' →
        (batchDecode t r).getD i 0 = (batchDecode t p).getD i' 0 := by
  obtain ⟨r, hr, -, -⟩ := galoisApply_spec (k := t.k) (g := g) hw.mwf hg hs hp
  obtain ⟨r1, r2, -, r4⟩ := c04k_gal_facts hw.mwf hg hs hp hr
  refine ⟨r, hr, r1, r2, fun i i' hi hi' he => ?_⟩
  obtain ⟨a1, a2⟩ := c11n_decode_cast hw hk r r1 r2 hi
  obtain ⟨b1, b2⟩ := c11n_decode_cast hw hk p hs hp hi'
  apply cast_inj_lt a1 b1
  rw [a2, b2, subst_eval hg _ (c11n_slot_root hw i) (fun j => ((p.getD j 0 : Nat) : ZMod t.modulus.value))
    (fun j => ((r.getD j 0 : Nat) : ZMod t.modulus.value)) r4]
  apply Finset.sum_congr rfl
  intro j _
  congr 2
  rw [Nat.cast_pow, Nat.cast_pow, ← pow_mul, ← he]
  exact c04k_pow_mod_period _ hw.zfacts.psi (Nat.mod_mod _ _).symm

/-! Three index maps on the 2 × N/2 slots.  `c04r_rotIdx` (a natural number of columns) is the one the composed theorems end on
   (`c04r_rotatePlan_bfv`: `c04r_rotIdx k (c04r_stepExp k steps)`); `c04r_stepIdx` takes the signed argument of `rotate_rows` and
   `c04r_slotIdx` adds step 0 = `rotate_columns`, which the single-step theorems end on; `c04r_stepIdx_rot` converts. -/

/-- slot index after rotating both rows LEFT by s: result slot i holds input slot (same row, column + s mod N/2) -/
def c04r_rotIdx (k s i : Nat) : Nat := (i / (2^k / 2)) * (2^k / 2) + (i % (2^k / 2) + s) % (2^k / 2)

/-- slot index after exchanging the two rows -/
def c04r_swapIdx (k i : Nat) : Nat := (i + 2^k / 2) % 2^k

/-- slot index for a signed step (the argument of `rotate_rows`): column + step modulo N/2, same row -/
def c04r_stepIdx (k : Nat) (step : Int) (i : Nat) : Nat :=
  (i / (2^k / 2)) * (2^k / 2) + ((((i % (2^k / 2) : Nat) : Int) + step) % ((2^k / 2 : Nat) : Int)).toNat

theorem c04r_row_pos {k : Nat} (hk : 2 ≤ k) : 0 < 2^k / 2 := by
  have : 2^2 ≤ 2^k := Nat.pow_le_pow_right (by norm_num) hk
  omega

theorem c04r_rotIdx_lt {k s i : Nat} (hk : 2 ≤ k) (hi : i < 2^k) : c04r_rotIdx k s i < 2^k := by
  have h2 := c11n_two_row (show 1 ≤ k by omega)
  have hrow := c04r_row_pos hk
  unfold c04r_rotIdx
  have h1 : i / (2^k / 2) ≤ 1 := by
    have : i / (2^k / 2) < 2 := (Nat.div_lt_iff_lt_mul hrow).mpr (by omega)
    omega
  have h3 := Nat.mod_lt (i % (2^k / 2) + s) hrow
  have h4 : i / (2^k / 2) * (2^k / 2) ≤ 1 * (2^k / 2) := Nat.mul_le_mul_right _ h1
  omega

theorem c04r_odd_of_mod {M g e : Nat} (hM : M % 2 = 0) (he : e % 2 = 1) (h : g % M = e % M) : g % 2 = 1 := by
  have d : 2 ∣ M := Nat.dvd_of_mod_eq_zero hM
  rw [← Nat.mod_mod_of_dvd g d, h, Nat.mod_mod_of_dvd e d, he]

/-- rows: any Galois element g ≡ 3^s (mod 2N) rotates both rows of the slot matrix left by s -/
theorem batchDecode_rotate_rows (hw : t.WF) (hk : 2 ≤ t.k) {g s : Nat} (hgs : g % (2 * 2^t.k) = 3^s % (2 * 2^t.k))
    (p : Array Nat) (hs : p.size = 2^t.k) (hp : ∀ j, j < 2^t.k → p.getD j 0 < t.modulus.value) :
    ∃ r, galoisApply t.k p g t.modulus = .ok r ∧ r.size = 2^t.k ∧ (∀ j, j < 2^t.k → r.getD j 0 < t.modulus.value) ∧
      ∀ i, i < 2^t.k → (batchDecode t r).getD i 0 = (batchDecode t p).getD (c04r_rotIdx t.k s i) 0 := by
  have hg : g % 2 = 1 := c04r_odd_of_mod (by omega) (c11n_three_pow_odd s) hgs
  obtain ⟨r, r1, r2, r3, r4⟩ := batchDecode_galois hw (by omega) hg p hs hp
  refine ⟨r, r1, r2, r3, fun i hi => r4 i _ hi (c04r_rotIdx_lt hk hi) ?_⟩
  rw [← Nat.mul_mod_mod, hgs, Nat.mul_mod_mod]
  exact slotExp_rotate hk hi

/-- columns: any g ≡ 2N − 1 (mod 2N) exchanges the two rows -/
theorem batchDecode_swap_rows (hw : t.WF) (hk : 1 ≤ t.k) {g : Nat} (hgs : g % (2 * 2^t.k) = 2 * 2^t.k - 1)
    (p : Array Nat) (hs : p.size = 2^t.k) (hp : ∀ j, j < 2^t.k → p.getD j 0 < t.modulus.value) :
    ∃ r, galoisApply t.k p g t.modulus = .ok r ∧ r.size = 2^t.k ∧ (∀ j, j < 2^t.k → r.getD j 0 < t.modulus.value) ∧
      ∀ i, i < 2^t.k → (batchDecode t r).getD i 0 = (batchDecode t p).getD (c04r_swapIdx t.k i) 0 := by
  have hpos := Nat.two_pow_pos t.k
  have hg : g % 2 = 1 := by
    have d : 2 ∣ 2 * 2^t.k := ⟨_, rfl⟩
    rw [← Nat.mod_mod_of_dvd g d, hgs]; omega
  obtain ⟨r, r1, r2, r3, r4⟩ := batchDecode_galois hw hk hg p hs hp
  refine ⟨r, r1, r2, r3, fun i hi => r4 i _ hi (Nat.mod_lt _ hpos) ?_⟩
  rw [← Nat.mul_mod_mod, hgs]
  exact slotExp_swap hk hi

/-- the exponent of 3 for a signed step: steps mod N/2 -/
def c04r_stepExp (k : Nat) (d : Int) : Nat := (d % ((2^k / 2 : Nat) : Int)).toNat

theorem c04r_stepIdx_rot {k : Nat} (hrow : 0 < 2^k / 2) (step : Int) (i : Nat) :
    c04r_stepIdx k step i = c04r_rotIdx k (c04r_stepExp k step) i := by
  unfold c04r_stepIdx c04r_rotIdx c04r_stepExp
  generalize 2^k / 2 = row at hrow ⊢
  congr 1
  apply Int.ofNat.inj
  have h1 : (0 : Int) ≤ step % (row : Int) := Int.emod_nonneg _ (by omega)
  show ((((i % row : Nat) : Int) + step) % (row : Int)).toNat = (((i % row + (step % (row : Int)).toNat) % row : Nat) : Int)
  rw [Int.toNat_of_nonneg (Int.emod_nonneg _ (by omega))]
  simp only [Int.natCast_mod, Nat.cast_add, Int.toNat_of_nonneg h1, Int.add_emod_emod]

theorem c04r_stepExp_eq {k : Nat} {d : Int} (hlt : d.natAbs < 2^k / 2) :
    c04r_stepExp k d = if d < 0 then 2^k / 2 - d.natAbs else d.natAbs := by
  unfold c04r_stepExp
  split
  · have e : d = ((2^k / 2 - d.natAbs : Nat) : Int) + (-1) * ((2^k / 2 : Nat) : Int) := by omega
    rw [e, Int.add_mul_emod_self_right, ← Int.natCast_mod, Int.toNat_natCast, Nat.mod_eq_of_lt (by omega), ← e]
  · have e : d = ((d.natAbs : Nat) : Int) := by omega
    rw [e, ← Int.natCast_mod, Int.toNat_natCast, Nat.mod_eq_of_lt (by simpa using hlt), ← e]

/-- what a successful `eltFromStep` returned: 2N − 1 for step 0 (`rotate_columns`, conjugation); for step ≠ 0, |step| < N/2 and the
    element is 3^s mod 2N with s = step for positive steps and N/2 − |step| for negative ones -/
theorem c04r_eltFromStep_inv {k : Nat} {step : Int} {g : Nat} (he : eltFromStep k step = .ok g) :
    (step = 0 ∧ g = 2 * 2^k - 1) ∨
    (step ≠ 0 ∧ step.natAbs < 2^k / 2 ∧ g = 3 ^ (if step < 0 then 2^k / 2 - step.natAbs else step.natAbs) % (2 * 2^k)) := by
  by_cases h0 : step = 0
  · subst h0
    rw [eltFromStep_zero] at he
    injection he with he
    exact Or.inl ⟨rfl, he.symm⟩
  · have hlt : step.natAbs < 2^k / 2 := by
      by_contra hc
      rw [eltFromStep_refuses' (Nat.le_of_not_lt hc) (Or.inl h0)] at he
      cases he
    rw [eltFromStep_spec hlt h0] at he
    injection he with he
    exact Or.inr ⟨h0, hlt, he.symm⟩

/-- slot index map of `rotate_rows(step)` (step ≠ 0) resp. `rotate_columns` (step = 0, the element 2N − 1) -/
def c04r_slotIdx (k : Nat) (step : Int) (i : Nat) : Nat := if step = 0 then c04r_swapIdx k i else c04r_stepIdx k step i

theorem c04r_elt_odd_lt {k : Nat} {step : Int} {g : Nat} (he : eltFromStep k step = .ok g) : g % 2 = 1 ∧ g < 2 * 2^k := by
  have hpos := Nat.two_pow_pos k
  rcases c04r_eltFromStep_inv he with ⟨-, rfl⟩ | ⟨-, -, rfl⟩
  · omega
  · exact ⟨c04r_odd_of_mod (M := 2 * 2^k) (by omega) (c11n_three_pow_odd _) (Nat.mod_mod _ _), Nat.mod_lt _ (by omega)⟩

/-- the element `eltFromStep` returns is odd, below 2N, and its slot exponent is the index map `c04r_slotIdx` of the signed step -/
theorem eltFromStep_slot {k : Nat} (hk : 2 ≤ k) {step : Int} {g : Nat} (he : eltFromStep k step = .ok g) :
    g % 2 = 1 ∧ g < 2 * 2^k ∧ ∀ i, i < 2^k → c04r_slotIdx k step i < 2^k ∧
      (slotExp k i * g) % (2 * 2^k) = slotExp k (c04r_slotIdx k step i) := by
  refine ⟨(c04r_elt_odd_lt he).1, (c04r_elt_odd_lt he).2, fun i hi => ?_⟩
  unfold c04r_slotIdx
  rcases c04r_eltFromStep_inv he with ⟨rfl, rfl⟩ | ⟨h0, hlt, rfl⟩
  · rw [if_pos rfl]
    exact ⟨Nat.mod_lt _ (Nat.two_pow_pos k), slotExp_swap (Nat.le_of_succ_le hk) hi⟩
  · rw [if_neg h0, c04r_stepIdx_rot (Nat.zero_lt_of_lt hlt), c04r_stepExp_eq hlt, Nat.mul_mod_mod]
    exact ⟨c04r_rotIdx_lt hk hi, slotExp_rotate hk hi⟩

/-- the element `eltFromStep` returns: a non-zero step rotates the rows by `step` (negative = to the right),
    step 0 exchanges the rows (`rotate_columns`) -/
theorem batchDecode_eltFromStep (hw : t.WF) (hk : 2 ≤ t.k) {step : Int} {g : Nat} (he : eltFromStep t.k step = .ok g)
    (p : Array Nat) (hs : p.size = 2^t.k) (hp : ∀ j, j < 2^t.k → p.getD j 0 < t.modulus.value) :
    ∃ r, galoisApply t.k p g t.modulus = .ok r ∧ r.size = 2^t.k ∧ (∀ j, j < 2^t.k → r.getD j 0 < t.modulus.value) ∧
      ∀ i, i < 2^t.k → (batchDecode t r).getD i 0 =
        (batchDecode t p).getD (if step = 0 then c04r_swapIdx t.k i else c04r_stepIdx t.k step i) 0 := by
  obtain ⟨g1, -, g3⟩ := eltFromStep_slot hk he
  obtain ⟨r, r1, r2, r3, r4⟩ := batchDecode_galois hw (by omega) g1 p hs hp
  exact ⟨r, r1, r2, r3, fun i hi => r4 i _ hi (g3 i hi).1 (g3 i hi).2⟩

end plain

section sigmaFacts
variable {R : Type} [CommRing R]

theorem c04r_sigma_smul (n g : Nat) (x : R) (a : Nat → R) (c : Nat) :
    c04k_sigma n g (fun i => x * a i) c = x * c04k_sigma n g a c := by
  unfold c04k_sigma
  rw [Finset.mul_sum]
  apply Finset.sum_congr rfl; intro i _; ring

end sigmaFacts

theorem c04r_sigma_modEq (n g : Nat) (q : Int) {a b : Nat → Int} (h : ∀ i, i < n → a i ≡ b i [ZMOD q]) (c : Nat) :
    c04k_sigma n g a c ≡ c04k_sigma n g b c [ZMOD q] := by
  unfold c04k_sigma
  apply Int.ModEq.sum
  intro i hi
  exact (Int.ModEq.refl _).mul (h i (mem_range.mp hi))

/-- ‖σ_g(e)‖∞ ≤ ‖e‖∞ : a bound on all coefficients is preserved -/
theorem sigma_natAbs_le {k g : Nat} (hg : g % 2 = 1) (e : Nat → Int) {B : Nat} (h : ∀ i, i < 2^k → (e i).natAbs ≤ B)
    {c : Nat} (hc : c < 2^k) : (c04k_sigma (2^k) g e c).natAbs ≤ B := by
  obtain ⟨i, hi, ε, rfl | rfl, h1⟩ := c04k_sigma_sel (R := Int) hg hc
  · rw [h1, one_mul]; exact h i hi
  · rw [h1, neg_one_mul, Int.natAbs_neg]; exact h i hi

/-- the message/noise splitting of the transformed phase: if t·x = Q·m + e coefficient-wise and y ≡ σ_g(x) + ν (mod Q), then
    t·y = Q·(σ_g(m) + t·κ) + (σ_g(e) + t·ν) for some integer κ -/
theorem c04r_split_sigma {n g t Q : Nat} {x y ν m e : Nat → Int}
    (hsplit : ∀ i, i < n → (t : Int) * x i = Q * m i + e i) {c : Nat}
    (hyx : y c ≡ c04k_sigma n g x c + ν c [ZMOD (Q : Int)]) :
    ∃ κ : Int, (t : Int) * y c = Q * (c04k_sigma n g m c + t * κ) + (c04k_sigma n g e c + t * ν c) := by
  obtain ⟨κ, hκ⟩ := (Int.modEq_iff_dvd.mp hyx.symm)
  have e1 : c04k_sigma n g (fun i => (t : Int) * x i) c
      = (Q : Int) * c04k_sigma n g m c + c04k_sigma n g e c := by
    rw [c04k_sigma_congr n g _ (fun i => (Q : Int) * m i + e i) c hsplit, c04k_sigma_add, c04r_sigma_smul]
  rw [c04r_sigma_smul] at e1
  refine ⟨κ, ?_⟩
  have : y c = c04k_sigma n g x c + ν c + Q * κ := by linarith
  rw [this]
  linear_combination e1

/-- BFV: decode(σ_g(x) + ν) = σ_g(decode x) modulo t, for any splitting t·x = Q·m + e of the input phase with 2|e| < Q
    (the decode condition for x), whenever the transformed noise σ_g(e) + t·ν is still below Q/2 -/
theorem bfvDecode_sigma {k g t Q : Nat} (hg : g % 2 = 1) (hQ : 0 < Q) (ht : 0 < t)
    {x y : Array Int} (hx : x.size = 2^k) (hy : y.size = 2^k) {ν m e : Nat → Int}
    (hsplit : ∀ i, i < 2^k → (t : Int) * x.getD i 0 = Q * m i + e i) (he : ∀ i, i < 2^k → 2 * (e i).natAbs < Q)
    (hyx : ∀ c, c < 2^k → y.getD c 0 ≡ c04k_sigma (2^k) g (fun i => x.getD i 0) c + ν c [ZMOD (Q : Int)])
    (hnoise : ∀ c, c < 2^k → 2 * (c04k_sigma (2^k) g e c + t * ν c).natAbs < Q) :
    ∀ c, c < 2^k → (Spec.bfvDecode t Q y).getD c 0 =
      Spec.imod (c04k_sigma (2^k) g (fun i => (((Spec.bfvDecode t Q x).getD i 0 : Nat) : Int)) c) t := by
  intro c hc
  obtain ⟨κ, hκ⟩ := c04r_split_sigma (x := fun i => x.getD i 0) (y := fun i => y.getD i 0) hsplit (hyx c hc)
  rw [c01p_bfvDecode_getD t Q y (by rw [hy]; exact hc), exact_below_threshold hQ hκ (hnoise c hc)]
  apply imod_congr
  have h1 : c04k_sigma (2^k) g (fun i => (((Spec.bfvDecode t Q x).getD i 0 : Nat) : Int)) c ≡ c04k_sigma (2^k) g m c [ZMOD t] := by
    apply c04r_sigma_modEq
    intro i hi
    rw [c01p_bfvDecode_getD t Q x (by rw [hx]; exact hi), exact_below_threshold hQ (hsplit i hi) (he i hi)]
    exact imod_modEq ht _
  refine Int.ModEq.trans ?_ h1.symm
  exact Int.modEq_iff_dvd.mpr ⟨-κ, by ring⟩

/-- the measured noise of the transformed phase is exactly σ_g(e) + t·ν -/
theorem bfv_noise_sigma {k g t Q : Nat} (hQ : 0 < Q)
    {x y : Array Int} {ν m e : Nat → Int}
    (hsplit : ∀ i, i < 2^k → (t : Int) * x.getD i 0 = Q * m i + e i)
    {c : Nat} (hyx : y.getD c 0 ≡ c04k_sigma (2^k) g (fun i => x.getD i 0) c + ν c [ZMOD (Q : Int)])
    (hnoise : 2 * (c04k_sigma (2^k) g e c + t * ν c).natAbs < Q) :
    (t : Int) * y.getD c 0 - (Q : Int) * Spec.roundDiv ((t : Int) * y.getD c 0) Q = c04k_sigma (2^k) g e c + t * ν c := by
  obtain ⟨κ, hκ⟩ := c04r_split_sigma (x := fun i => x.getD i 0) (y := fun i => y.getD i 0) hsplit hyx
  rw [exact_below_threshold hQ hκ hnoise]
  linarith

theorem c04r_imod_natCast (N t : Nat) : Spec.imod (N : Int) t = N % t := by
  unfold Spec.imod
  rw [← Int.natCast_mod, Int.toNat_natCast]

/-- BGV: decode(σ_g(x) + ν) = σ_g(decode x) modulo t when t ∣ ν (key-switching noise of BGV keys) and σ_g(x) + ν does not
    wrap around modulo Q (strictly inside (−Q/2, Q/2): the BGV decode condition; the output phase `y` is the centred lift) -/
theorem bgvDecode_sigma {k g t cf Q : Nat} (ht : 0 < t)
    {x y : Array Int} (hx : x.size = 2^k) (hy : y.size = 2^k) {ν : Nat → Int}
    (hyx : ∀ c, c < 2^k → y.getD c 0 ≡ c04k_sigma (2^k) g (fun i => x.getD i 0) c + ν c [ZMOD (Q : Int)])
    (hν : ∀ c, c < 2^k → (t : Int) ∣ ν c)
    (hyc : ∀ c, c < 2^k → -(Q : Int) < 2 * y.getD c 0 ∧ 2 * y.getD c 0 ≤ Q)
    (hnoise : ∀ c, c < 2^k → 2 * (c04k_sigma (2^k) g (fun i => x.getD i 0) c + ν c).natAbs < Q) :
    ∀ c, c < 2^k → (Spec.bgvDecode t cf y).getD c 0 =
      Spec.imod (c04k_sigma (2^k) g (fun i => (((Spec.bgvDecode t cf x).getD i 0 : Nat) : Int)) c) t := by
  intro c hc
  have hyeq := c03k_eq_of_small (hyx c hc) (hyc c hc) (hnoise c hc)
  rw [c01p_bgvDecode_getD t cf y (by rw [hy]; exact hc), ← c04r_imod_natCast]
  apply imod_congr
  have h1 : c04k_sigma (2^k) g (fun i => (((Spec.bgvDecode t cf x).getD i 0 : Nat) : Int)) c
      ≡ c04k_sigma (2^k) g (fun i => (Spec.invMod cf t : Int) * x.getD i 0) c [ZMOD t] := by
    apply c04r_sigma_modEq
    intro i hi
    rw [c01p_bgvDecode_getD t cf x (by rw [hx]; exact hi)]
    push_cast
    refine Int.ModEq.trans (Int.mod_modEq _ _) ?_
    rw [mul_comm]
    exact (Int.ModEq.refl _).mul (imod_modEq ht _)
  refine Int.ModEq.trans ?_ h1.symm
  rw [c04r_sigma_smul]
  push_cast
  rw [mul_comm]
  refine (Int.ModEq.refl _).mul ?_
  refine Int.ModEq.trans (imod_modEq ht _) ?_
  rw [hyeq]
  exact Int.modEq_iff_dvd.mpr (by
    obtain ⟨w, hw⟩ := hν c hc
    exact ⟨-w, by rw [hw]; ring⟩)

/-! ### `batchDecode` only reads the first N coefficients (zero-padded) -/

theorem c04r_batchDecode_congr (t : NTTTables) {a b : Array Nat} (h : ∀ i, i < 2^t.k → a.getD i 0 = b.getD i 0) :
    batchDecode t a = batchDecode t b := by
  unfold batchDecode
  have e : (Array.ofFn (n := 2^t.k) fun i => a.getD i.val 0) = Array.ofFn (n := 2^t.k) fun i => b.getD i.val 0 := by
    congr 1; funext i; exact h i.val i.isLt
  simp only [e]

theorem c04r_batchDecode_trim (t : NTTTables) (a : Array Nat) : batchDecode t (Spec.trim a) = batchDecode t a :=
  c04r_batchDecode_congr t (fun i _ => c04r_trim_getD a i)

/-- from coefficients to slots: if m' = σ_g(m) mod t coefficient-wise (m' canonical by construction), the slots of m' are the slots of m moved
    along i ↦ i' with slotExp(i)·g ≡ slotExp(i') (mod 2N) -/
theorem c04r_slots_of_coeff {t : NTTTables} (hw : t.WF) {k q : Nat} (htk : t.k = k) (htq : t.modulus.value = q) (hk : 1 ≤ k)
    {g : Nat} (hg : g % 2 = 1) (m m' : Array Nat) (hm : ∀ i, i < 2^k → m.getD i 0 < q)
    (hm' : ∀ c, c < 2^k → m'.getD c 0 = Spec.imod (c04k_sigma (2^k) g (fun i => ((m.getD i 0 : Nat) : Int)) c) q) :
    ∀ i i', i < 2^k → i' < 2^k → (slotExp k i * g) % (2 * 2^k) = slotExp k i' →
      (batchDecode t m').getD i 0 = (batchDecode t m).getD i' 0 := by
  subst htk htq
  have hP : ∀ i, i < 2^t.k → (Array.ofFn (n := 2^t.k) fun i => m.getD i.val 0).getD i 0 = m.getD i 0 :=
    fun i hi => array_getD_ofFn _ 0 hi
  have hPs : (Array.ofFn (n := 2^t.k) fun i => m.getD i.val 0).size = 2^t.k := by simp
  have hPc : ∀ i, i < 2^t.k → (Array.ofFn (n := 2^t.k) fun i => m.getD i.val 0).getD i 0 < t.modulus.value :=
    fun i hi => by rw [hP i hi]; exact hm i hi
  generalize (Array.ofFn (n := 2^t.k) fun i => m.getD i.val 0) = P at hP hPs hPc
  obtain ⟨r, r1, r2, r3, r4⟩ := batchDecode_galois hw hk hg P hPs hPc
  have hint := c04k_gal_facts_int hw.mwf hg hPs hPc r1
  have hq0 : 0 < t.modulus.value := by have := hw.mwf.two_le; omega
  have e1 : batchDecode t m' = batchDecode t r := by
    apply c04r_batchDecode_congr
    intro c hc
    rw [hm' c hc, ← imod_congr ((hint c hc).trans
      (by rw [c04k_sigma_congr _ _ _ _ c (fun i hi => by rw [hP i hi])])), c04r_imod_natCast,
      Nat.mod_eq_of_lt (r3 c hc)]
  have e2 : batchDecode t m = batchDecode t P := c04r_batchDecode_congr t (fun i hi => (hP i hi).symm)
  intro i i' hi hi' he
  rw [e1, e2]
  exact r4 i i' hi hi' he

theorem c04r_Q_pos {l : Level} (hd : DecOK l) : 0 < Spec.prodL (c01p_qvals l) := by
  rw [c01p_prodL_qvals hd]
  exact hd.tool.qwf.prod_pos

theorem c04r_toList2 {α : Type} [Inhabited α] (a : Array α) (h : a.size = 2) (d : α) : a.toList = [a.getD 0 d, a.getD 1 d] :=
  congrArg Array.toList (array_eq_pair a d h)

/-- merge of per-modulus statements "phase' ≡ σ_g(phase) + ν" into one statement about `Spec.phase` modulo Q -/
theorem c04r_merge_sigma {b : RNSBase} (hb : b.WF) {n g : Nat} {sk : Array Int} {C0 C1 C0' C1' : RnsPoly}
    {ν : Nat → Int}
    (h : ∀ j, j < b.size → ∀ c, c < n →
      c05u_phase2 n (fun p => (((C0'.getD j #[]).getD p 0 : Nat) : Int)) (fun p => (((C1'.getD j #[]).getD p 0 : Nat) : Int))
          (fun p => sk.getD p 0) c
        ≡ c04k_sigma n g (c05u_phase2 n (fun p => (((C0.getD j #[]).getD p 0 : Nat) : Int))
            (fun p => (((C1.getD j #[]).getD p 0 : Nat) : Int)) (fun p => sk.getD p 0)) c + ν c [ZMOD ((b.q j).value : Int)]) :
    ∀ c, c < n → (Spec.phase (c01p_bvals b) n sk [C0', C1']).getD c 0 ≡
      c04k_sigma n g (fun i => (Spec.phase (c01p_bvals b) n sk [C0, C1]).getD i 0) c + ν c [ZMOD (b.prod : Int)] := by
  intro c hc
  refine c04k_phase_crt hb hc fun j hj => (h j hj c hc).trans (Int.ModEq.add ?_ (Int.ModEq.refl _))
  apply c04r_sigma_modEq
  intro i hi
  exact (c04k_phase_res hb (sk := sk) hi hj).symm

/-- BFV (coefficient form): `applyGalois` with a Galois key for g (key equation with s' = σ_g(s)) succeeds, returns a canonical
    size-2 coefficient-form ciphertext with the same correction factor, and its EXACT phase is σ_g of the exact input phase plus
    the key-switching noise ν = `c04k_nuStd` (bounded by `switchKey_noise_bound`), modulo Q -/
theorem applyGalois_spec_phase_bfv {kl : KeyLevel} {l : Level} (hlo : c04k_LevelOf kl l) (hq : c07s_LevelQ l)
    {polys : Array RnsPoly} {cf : Nat} {key : KSKey} {g : Nat} (h2 : polys.size = 2)
    (hc : ∀ k, k < 2 → RnsCanon l (polys.getD k #[]))
    (h : c04t_KSInput kl l.size ⟨polys, false, cf⟩ (polys.getD 1 #[]) key)
    (hg : g % 2 = 1) (hg2 : g ≤ 2 * l.n) (hkcc : (key.getD 0 #[]).size = 2)
    {sk : Array Int} {s' : Nat → Int} {e : Nat → Nat → Int} {G : Nat → Int}
    (hke : c04k_KeyEq kl l.size key (fun p => sk.getD p 0) s' e G)
    (hs' : ∀ p, p < kl.n → s' p = c04k_sigma kl.n g (fun p => sk.getD p 0) p) :
    ∃ ct', applyGalois kl l .bfv ⟨polys, false, cf⟩ g key = .ok ct' ∧ ct'.ntt = false ∧ ct'.cf = cf ∧ ct'.polys.size = 2 ∧
      (∀ k, k < 2 → RnsCanon l (ct'.polys.getD k #[])) ∧
      ∀ c, c < l.n → (Spec.phase (c01p_qvals l) l.n sk ct'.polys.toList).getD c 0 ≡
        c04k_sigma l.n g (fun i => (Spec.phase (c01p_qvals l) l.n sk polys.toList).getD i 0) c
          + c04k_nuStd kl l.size false (c04k_galRns l false g (polys.getD 1 #[])) key e (fun p => sk.getD p 0) c
          [ZMOD (Spec.prodL (c01p_qvals l) : Int)] := by
  obtain ⟨ct', a1, a2, a3, a4, a5, a6⟩ :=
    applyGalois_phase_sigma hlo (scheme := .bfv) (ct := ⟨polys, false, cf⟩) h (Or.inl ⟨rfl, rfl⟩) h2 hg hg2 hkcc hke hs'
  have hcan : ∀ k, k < 2 → RnsCanon l (ct'.polys.getD k #[]) := fun k hk => ⟨(a5 k hk).1, c04k_comp_canon hlo (a5 k hk).2⟩
  refine ⟨ct', a1, a2, a3, a4, hcan, ?_⟩
  rw [c04r_toList2 ct'.polys a4 #[], c04r_toList2 polys h2 #[], c01q_qvals_eq hq, c01p_prodL_bvals hq.bwf, hlo.n]
  have hsz := hq.size_eq
  apply c04r_merge_sigma hq.bwf
  intro j hj c hc'
  rw [hsz] at hj
  rw [hq.q_eq hj, hlo.q j hj]
  have h6 := a6 j hj c hc'
  simp only [c04k_polyI_false] at h6
  exact h6

/-- one Galois step on exact BFV phases with n = 2^k coefficients: if the noise of x is at most E, y ≡ σ_g(x) + ν (mod Q) with ‖ν‖∞ ≤ V
    and 2(E + t·V) < Q, then the noise of y is at most E + t·V (noises add) and y decodes to σ_g(decoding of x) mod t -/
theorem c04r_bfv_step {n k g t Q : Nat} (hn : n = 2^k) (hg : g % 2 = 1) (hQ : 0 < Q) (ht : 0 < t) {x y : Array Int}
    (hx : x.size = n) (hy : y.size = n) {ν : Nat → Int} {E V : Nat}
    (hE : ∀ c, c < n → (c04r_bfvNoise t Q (x.getD c 0)).natAbs ≤ E) (hV : ∀ c, c < n → (ν c).natAbs ≤ V)
    (hlt : 2 * (E + t * V) < Q)
    (hyx : ∀ c, c < n → y.getD c 0 ≡ c04k_sigma n g (fun i => x.getD i 0) c + ν c [ZMOD (Q : Int)]) :
    (∀ c, c < n → (c04r_bfvNoise t Q (y.getD c 0)).natAbs ≤ E + t * V) ∧
    ∀ c, c < n → (Spec.bfvDecode t Q y).getD c 0 =
      Spec.imod (c04k_sigma n g (fun i => (((Spec.bfvDecode t Q x).getD i 0 : Nat) : Int)) c) t := by
  subst hn
  have hsplit : ∀ i, i < 2^k → (t : Int) * x.getD i 0 =
      Q * Spec.roundDiv ((t : Int) * x.getD i 0) Q + c04r_bfvNoise t Q (x.getD i 0) :=
    fun i _ => by unfold c04r_bfvNoise; ring
  have hle : ∀ c, c < 2^k →
      (c04k_sigma (2^k) g (fun i => c04r_bfvNoise t Q (x.getD i 0)) c + t * ν c).natAbs ≤ E + t * V := by
    intro c hc
    refine le_trans (Int.natAbs_add_le _ _) (Nat.add_le_add (sigma_natAbs_le hg _ hE hc) ?_)
    rw [Int.natAbs_mul, Int.natAbs_natCast]
    exact Nat.mul_le_mul_left _ (hV c hc)
  have hnoise : ∀ c, c < 2^k →
      2 * (c04k_sigma (2^k) g (fun i => c04r_bfvNoise t Q (x.getD i 0)) c + t * ν c).natAbs < Q :=
    fun c hc => Nat.lt_of_le_of_lt (Nat.mul_le_mul_left 2 (hle c hc)) hlt
  refine ⟨fun c hc => ?_, bfvDecode_sigma hg hQ ht hx hy hsplit
    (fun i hi => Nat.lt_of_le_of_lt (Nat.mul_le_mul_left 2 (le_trans (hE i hi) (Nat.le_add_right _ _))) hlt) hyx hnoise⟩
  unfold c04r_bfvNoise
  rw [bfv_noise_sigma hQ hsplit (hyx c hc) (hnoise c hc)]
  exact hle c hc

/-- BFV, coefficient level: if `applyGalois` is applied with a Galois key for g to a size-2 ciphertext whose noise is at most E
    (so it decrypts, `bfvDecrypt_eq_spec`), the key-switching noise ν = `c04k_nuStd` is at most V (`switchKey_noise_bound`), and
    E + t·V still satisfies the BEHZ decode condition, then the model decrypts the result to m' = σ_g(m) mod t -/
theorem applyGalois_decrypt_bfv {kl : KeyLevel} {l : Level} (hl : l.WF) (hd : DecOK l) (hlo : c04k_LevelOf kl l)
    {polys : Array RnsPoly} {cf : Nat} {key : KSKey} {g : Nat} (h2 : polys.size = 2)
    (hc : ∀ k, k < 2 → RnsCanon l (polys.getD k #[]))
    (h : c04t_KSInput kl l.size ⟨polys, false, cf⟩ (polys.getD 1 #[]) key)
    (hg : g % 2 = 1) (hg2 : g ≤ 2 * l.n) (hkcc : (key.getD 0 #[]).size = 2)
    {sk : Array Int} (hsk : sk.size = l.n) {s' : Nat → Int} {e : Nat → Nat → Int} {G : Nat → Int}
    (hke : c04k_KeyEq kl l.size key (fun p => sk.getD p 0) s' e G)
    (hs' : ∀ p, p < kl.n → s' p = c04k_sigma kl.n g (fun p => sk.getD p 0) p) {E V : Nat}
    (hE : ∀ c, c < l.n → (c04r_bfvNoise l.t.value (Spec.prodL (c01p_qvals l))
      ((Spec.phase (c01p_qvals l) l.n sk polys.toList).getD c 0)).natAbs ≤ E)
    (hV : ∀ c, c < l.n →
      (c04k_nuStd kl l.size false (c04k_galRns l false g (polys.getD 1 #[])) key e (fun p => sk.getD p 0) c).natAbs ≤ V)
    (hm : 2 * l.tool.gamma.value * (E + l.t.value * V) + 2 * l.size * Spec.prodL (c01p_qvals l)
      ≤ Spec.prodL (c01p_qvals l) * l.tool.gamma.value) :
    ∃ ct' m m', applyGalois kl l .bfv ⟨polys, false, cf⟩ g key = .ok ct' ∧
      bfvDecrypt l sk ⟨polys, false, cf⟩ = .ok m ∧ bfvDecrypt l sk ct' = .ok m' ∧
      (∀ c, c < l.n → m.getD c 0 < l.t.value) ∧
      (∀ c, c < l.n → m'.getD c 0 = Spec.imod (c04k_sigma l.n g (fun i => ((m.getD i 0 : Nat) : Int)) c) l.t.value) ∧
      ct'.ntt = false ∧ ct'.polys.size = 2 ∧ (∀ k, k < 2 → RnsCanon l (ct'.polys.getD k #[])) ∧
      ∀ c, c < l.n → (c04r_bfvNoise l.t.value (Spec.prodL (c01p_qvals l))
        ((Spec.phase (c01p_qvals l) l.n sk ct'.polys.toList).getD c 0)).natAbs ≤ E + l.t.value * V := by
  obtain ⟨⟨polys', ntt', cf'⟩, a1, a2, -, a4, a5, a6⟩ :=
    applyGalois_spec_phase_bfv hlo (c01q_levelQ_of_decOK hd) h2 hc h hg hg2 hkcc hke hs'
  obtain rfl : ntt' = false := a2
  have ht := c04r_t_pos hd
  have hQ := c04r_Q_pos hd
  have hk0 : 0 < l.size := by rw [← c01p_base_size hd]; exact hd.tool.qwf.pos
  have hm0 : 2 * l.tool.gamma.value * E + 2 * l.size * Spec.prodL (c01p_qvals l)
      ≤ Spec.prodL (c01p_qvals l) * l.tool.gamma.value :=
    le_trans (Nat.add_le_add_right (Nat.mul_le_mul_left _ (Nat.le_add_right _ _)) _) hm
  obtain ⟨hps, m, hm1, hm2⟩ := c04r_bfv_decrypts hl hd hsk h2 hc cf hE hm0
  have hps' := c01p_phase_size (c01p_qvals l) l.n sk polys'.toList
  obtain ⟨hN1, hdec⟩ := c04r_bfv_step hl.npow hg hQ ht hps hps' hE hV (c04r_lt_of_margin hk0 hQ hm) a6
  obtain ⟨-, m', hm1', hm2'⟩ := c04r_bfv_decrypts hl hd hsk a4 a5 cf' hN1 hm
  refine ⟨_, m, m', a1, hm1, hm1', fun c hc' => (hm2 c hc').1, fun c hc' => ?_, rfl, a4, a5, hN1⟩
  rw [(hm2' c hc').2, hdec c hc']
  exact congrArg (Spec.imod · l.t.value) (c04k_sigma_congr _ _ _ _ c (fun i hi => by rw [(hm2 i hi).2]))

/-- BFV, slot level: rotation of an encrypted batched plaintext.  `T` = the batching tables of the plain modulus
    (t prime, t ≡ 1 mod 2N: `T.WF`).  If g = `eltFromStep step`, the result of `applyGalois` decrypts to the plaintext whose slot
    matrix is the input's with both rows rotated by `step` (step ≠ 0) resp. with the two rows exchanged (step = 0) -/
theorem c04r_rotate_bfv {kl : KeyLevel} {l : Level} (hl : l.WF) (hd : DecOK l) (hlo : c04k_LevelOf kl l)
    {T : NTTTables} (hT : T.WF) (hTk : T.k = l.k) (hTm : T.modulus.value = l.t.value) (hk2 : 2 ≤ l.k)
    {step : Int} {g : Nat} (hstep : eltFromStep l.k step = .ok g)
    {polys : Array RnsPoly} {cf : Nat} {key : KSKey} (h2 : polys.size = 2)
    (hc : ∀ k, k < 2 → RnsCanon l (polys.getD k #[]))
    (h : c04t_KSInput kl l.size ⟨polys, false, cf⟩ (polys.getD 1 #[]) key) (hkcc : (key.getD 0 #[]).size = 2)
    {sk : Array Int} (hsk : sk.size = l.n) {s' : Nat → Int} {e : Nat → Nat → Int} {G : Nat → Int}
    (hke : c04k_KeyEq kl l.size key (fun p => sk.getD p 0) s' e G)
    (hs' : ∀ p, p < kl.n → s' p = c04k_sigma kl.n g (fun p => sk.getD p 0) p) {E V : Nat}
    (hE : ∀ c, c < l.n → (c04r_bfvNoise l.t.value (Spec.prodL (c01p_qvals l))
      ((Spec.phase (c01p_qvals l) l.n sk polys.toList).getD c 0)).natAbs ≤ E)
    (hV : ∀ c, c < l.n →
      (c04k_nuStd kl l.size false (c04k_galRns l false g (polys.getD 1 #[])) key e (fun p => sk.getD p 0) c).natAbs ≤ V)
    (hm : 2 * l.tool.gamma.value * (E + l.t.value * V) + 2 * l.size * Spec.prodL (c01p_qvals l)
      ≤ Spec.prodL (c01p_qvals l) * l.tool.gamma.value) :
    ∃ ct' m m', applyGalois kl l .bfv ⟨polys, false, cf⟩ g key = .ok ct' ∧
      bfvDecrypt l sk ⟨polys, false, cf⟩ = .ok m ∧ bfvDecrypt l sk ct' = .ok m' ∧
      ∀ i, i < l.n → (batchDecode T m').getD i 0 = (batchDecode T m).getD (c04r_slotIdx l.k step i) 0 := by
  obtain ⟨g1, g2, g3⟩ := eltFromStep_slot hk2 hstep
  have hn := hl.npow
  obtain ⟨ct', m, m', b1, b2, b3, b4, b5, -⟩ := applyGalois_decrypt_bfv hl hd hlo h2 hc h g1 (by rw [hn]; omega) hkcc hsk
    hke hs' hE hV hm
  refine ⟨ct', m, m', b1, b2, b3, fun i hi => ?_⟩
  rw [hn] at hi b4 b5
  exact c04r_slots_of_coeff hT hTk hTm (by omega) g1 m m' b4 b5 i _ hi (g3 i hi).1 (g3 i hi).2

/-- the level's NTT tables are the key level's tables for the same moduli (needed in NTT form: `Level.WF` / `KeyLevel.WF` fix
    the modulus and the degree of a table, not its root) -/
def c04r_SameTables (kl : KeyLevel) (l : Level) : Prop := ∀ j, j < l.size → l.tbl j = kl.tb j

theorem c04r_polyI_true (t : NTTTables) (P : Poly) :
    c04k_polyI t true P = fun c => (((intt t P).getD c 0 : Nat) : Int) := c04k_polyI_true t P

/-- BGV (NTT form): the exact phase (of the coefficient forms) of the `applyGalois` result is σ_g of the exact input phase plus
    ν = `c04k_nuBgv`, modulo Q; the correction factor is unchanged -/
theorem applyGalois_spec_phase_bgv {kl : KeyLevel} {l : Level} (hlo : c04k_LevelOf kl l) (htb : c04r_SameTables kl l)
    (hq : c07s_LevelQ l) (hb : c04t_BgvData kl)
    {polys : Array RnsPoly} {cf : Nat} {key : KSKey} {g : Nat} (h2 : polys.size = 2)
    (h : c04t_KSInput kl l.size ⟨polys, true, cf⟩ (polys.getD 1 #[]) key)
    (hg : g % 2 = 1) (hg2 : g ≤ 2 * l.n) (hkcc : (key.getD 0 #[]).size = 2)
    {sk : Array Int} {s' : Nat → Int} {e : Nat → Nat → Int} {G : Nat → Int}
    (hke : c04k_KeyEq kl l.size key (fun p => sk.getD p 0) s' e G)
    (hs' : ∀ p, p < kl.n → s' p = c04k_sigma kl.n g (fun p => sk.getD p 0) p) :
    ∃ ct', applyGalois kl l .bgv ⟨polys, true, cf⟩ g key = .ok ct' ∧ ct'.ntt = true ∧ ct'.cf = cf ∧ ct'.polys.size = 2 ∧
      (∀ k, k < 2 → RnsCanon l (ct'.polys.getD k #[])) ∧
      ∀ c, c < l.n → (Spec.phase (c01p_qvals l) l.n sk (ct'.polys.toList.map (rnsIntt l))).getD c 0 ≡
        c04k_sigma l.n g (fun i => (Spec.phase (c01p_qvals l) l.n sk (polys.toList.map (rnsIntt l))).getD i 0) c
          + c04k_nuBgv kl l.size true (c04k_galRns l true g (polys.getD 1 #[])) key e (fun p => sk.getD p 0) c
          [ZMOD (Spec.prodL (c01p_qvals l) : Int)] := by
  obtain ⟨ct', a1, a2, a3, a4, a5, a6⟩ :=
    applyGalois_phase_sigma_bgv hlo (ct := ⟨polys, true, cf⟩) h hb rfl h2 hg hg2 hkcc hke hs'
  have hcan : ∀ k, k < 2 → RnsCanon l (ct'.polys.getD k #[]) := fun k hk => ⟨(a5 k hk).1, c04k_comp_canon hlo (a5 k hk).2⟩
  refine ⟨ct', a1, a2, a3, a4, hcan, ?_⟩
  rw [c04r_toList2 ct'.polys a4 #[], c04r_toList2 polys h2 #[], c01q_qvals_eq hq, c01p_prodL_bvals hq.bwf, hlo.n]
  simp only [List.map_cons, List.map_nil]
  have hsz := hq.size_eq
  apply c04r_merge_sigma hq.bwf
  intro j hj c hc'
  rw [hsz] at hj
  rw [hq.q_eq hj, hlo.q j hj, c01o_rnsIntt_getD l _ hj, c01o_rnsIntt_getD l _ hj, c01o_rnsIntt_getD l _ hj,
    c01o_rnsIntt_getD l _ hj, htb j hj]
  exact a6 j hj c hc'

/-- one Galois step on exact BGV phases with n = 2^k coefficients: if ‖x‖∞ ≤ X, y is the centred representative of σ_g(x) + ν modulo Q
    with t ∣ ν, ‖ν‖∞ ≤ V and 2(X + V) < Q, then nothing wraps around (2|y| < Q) and y decodes to σ_g(decoding of x) mod t -/
theorem c04r_bgv_step {n k g t cf Q : Nat} (hn : n = 2^k) (hg : g % 2 = 1) (ht : 0 < t) {x y : Array Int}
    (hx : x.size = n) (hy : y.size = n) {ν : Nat → Int} {X V : Nat}
    (hX : ∀ c, c < n → (x.getD c 0).natAbs ≤ X) (hV : ∀ c, c < n → (ν c).natAbs ≤ V) (hlt : 2 * (X + V) < Q)
    (hyx : ∀ c, c < n → y.getD c 0 ≡ c04k_sigma n g (fun i => x.getD i 0) c + ν c [ZMOD (Q : Int)])
    (hν : ∀ c, c < n → (t : Int) ∣ ν c)
    (hyc : ∀ c, c < n → -(Q : Int) < 2 * y.getD c 0 ∧ 2 * y.getD c 0 ≤ Q) :
    (∀ c, c < n → 2 * (y.getD c 0).natAbs < Q) ∧
    ∀ c, c < n → (Spec.bgvDecode t cf y).getD c 0 =
      Spec.imod (c04k_sigma n g (fun i => (((Spec.bgvDecode t cf x).getD i 0 : Nat) : Int)) c) t := by
  subst hn
  have hnoise : ∀ c, c < 2^k → 2 * (c04k_sigma (2^k) g (fun i => x.getD i 0) c + ν c).natAbs < Q := fun c hc =>
    Nat.lt_of_le_of_lt (Nat.mul_le_mul_left 2 (le_trans (Int.natAbs_add_le _ _)
      (Nat.add_le_add (sigma_natAbs_le hg _ hX hc) (hV c hc)))) hlt
  refine ⟨fun c hc => ?_, bgvDecode_sigma ht hx hy hyx hν hyc hnoise⟩
  rw [c03k_eq_of_small (hyx c hc) (hyc c hc) (hnoise c hc)]
  exact hnoise c hc

/-- BGV, coefficient level: with BGV keys (t ∣ e_i), a phase bounded by X, key-switching noise bounded by V and
    2(X + V) < Q (no wrap-around), the model decrypts the `applyGalois` result to m' = σ_g(m) mod t -/
theorem applyGalois_decrypt_bgv {kl : KeyLevel} {l : Level} (hl : l.WF) (hd : DecOK l) (hlo : c04k_LevelOf kl l)
    (htb : c04r_SameTables kl l) (hb : c04t_BgvData kl) (hkt : kl.t.value = l.t.value)
    {polys : Array RnsPoly} {cf : Nat} {key : KSKey} {g : Nat} (h2 : polys.size = 2)
    (hc : ∀ k, k < 2 → RnsCanon l (polys.getD k #[]))
    (hcf : cf < 2^63) (hcop : Nat.Coprime cf l.t.value)
    (h : c04t_KSInput kl l.size ⟨polys, true, cf⟩ (polys.getD 1 #[]) key)
    (hg : g % 2 = 1) (hg2 : g ≤ 2 * l.n) (hkcc : (key.getD 0 #[]).size = 2)
    {sk : Array Int} (hsk : sk.size = l.n) {s' : Nat → Int} {e : Nat → Nat → Int} {G : Nat → Int}
    (hke : c04k_KeyEq kl l.size key (fun p => sk.getD p 0) s' e G)
    (hs' : ∀ p, p < kl.n → s' p = c04k_sigma kl.n g (fun p => sk.getD p 0) p)
    (het : ∀ i, i < l.size → ∀ p, p < kl.n → (kl.t.value : Int) ∣ e i p) {X V : Nat}
    (hX : ∀ c, c < l.n → ((Spec.phase (c01p_qvals l) l.n sk (polys.toList.map (rnsIntt l))).getD c 0).natAbs ≤ X)
    (hV : ∀ c, c < l.n →
      (c04k_nuBgv kl l.size true (c04k_galRns l true g (polys.getD 1 #[])) key e (fun p => sk.getD p 0) c).natAbs ≤ V)
    (hm : 2 * (X + V) < Spec.prodL (c01p_qvals l)) :
    ∃ ct' m m', applyGalois kl l .bgv ⟨polys, true, cf⟩ g key = .ok ct' ∧ ct'.cf = cf ∧
      bgvDecrypt l sk ⟨polys, true, cf⟩ = .ok m ∧ bgvDecrypt l sk ct' = .ok m' ∧
      (∀ c, c < l.n → m.getD c 0 < l.t.value) ∧
      ∀ c, c < l.n → m'.getD c 0 = Spec.imod (c04k_sigma l.n g (fun i => ((m.getD i 0 : Nat) : Int)) c) l.t.value := by
  obtain ⟨⟨polys', ntt', cf'⟩, a1, a2, a3, a4, a5, a6⟩ :=
    applyGalois_spec_phase_bgv hlo htb (c01q_levelQ_of_decOK hd) hb h2 h hg hg2 hkcc hke hs'
  obtain rfl : ntt' = true := a2
  obtain rfl : cf' = cf := a3
  have ht := c04r_t_pos hd
  have hν : ∀ c, c < l.n → (l.t.value : Int) ∣
      c04k_nuBgv kl l.size true (c04k_galRns l true g (polys.getD 1 #[])) key e (fun p => sk.getD p 0) c := fun c hc' => by
    rw [← hkt]
    exact switchKey_noise_bgv_mod_t (c04k_galois_input hlo h hkcc hg) hb hke het c (hlo.n ▸ hc')
  obtain ⟨hy2, hdec⟩ := c04r_bgv_step (cf := cf') hl.npow hg ht (c01p_phase_size _ _ _ _) (c01p_phase_size _ _ _ _) hX hV hm a6 hν
    (fun c hc' => c01p_phase_centred _ _ _ _ (c04r_Q_pos hd) hc')
  obtain ⟨m, hm1, hm2⟩ := c04r_bgv_decrypts hl hd hsk h2 hc hcf hcop (fun c hc' => by have := hX c hc'; omega)
  obtain ⟨m', hm1', hm2'⟩ := c04r_bgv_decrypts hl hd hsk a4 a5 hcf hcop hy2
  refine ⟨_, m, m', a1, rfl, hm1, hm1', fun c hc' => (hm2 c hc').1, fun c hc' => ?_⟩
  rw [(hm2' c hc').2, hdec c hc']
  exact congrArg (Spec.imod · l.t.value) (c04k_sigma_congr _ _ _ _ c (fun i hi => by rw [(hm2 i hi).2]))

/-- BGV, slot level: with g = `eltFromStep step` and a Galois key for g the result decrypts to the plaintext whose slots are the
    input's rotated by `step` (rows) resp. swapped (step 0), under the no-wrap-around margin of `applyGalois_decrypt_bgv` -/
theorem rotate_rows_bgv {kl : KeyLevel} {l : Level} (hl : l.WF) (hd : DecOK l) (hlo : c04k_LevelOf kl l)
    (htb : c04r_SameTables kl l) (hb : c04t_BgvData kl) (hkt : kl.t.value = l.t.value)
    {T : NTTTables} (hT : T.WF) (hTk : T.k = l.k) (hTm : T.modulus.value = l.t.value) (hk2 : 2 ≤ l.k)
    {step : Int} {g : Nat} (hstep : eltFromStep l.k step = .ok g)
    {polys : Array RnsPoly} {cf : Nat} {key : KSKey} (h2 : polys.size = 2)
    (hc : ∀ k, k < 2 → RnsCanon l (polys.getD k #[]))
    (hcf : cf < 2^63) (hcop : Nat.Coprime cf l.t.value)
    (h : c04t_KSInput kl l.size ⟨polys, true, cf⟩ (polys.getD 1 #[]) key) (hkcc : (key.getD 0 #[]).size = 2)
    {sk : Array Int} (hsk : sk.size = l.n) {s' : Nat → Int} {e : Nat → Nat → Int} {G : Nat → Int}
    (hke : c04k_KeyEq kl l.size key (fun p => sk.getD p 0) s' e G)
    (hs' : ∀ p, p < kl.n → s' p = c04k_sigma kl.n g (fun p => sk.getD p 0) p)
    (het : ∀ i, i < l.size → ∀ p, p < kl.n → (kl.t.value : Int) ∣ e i p) {X V : Nat}
    (hX : ∀ c, c < l.n → ((Spec.phase (c01p_qvals l) l.n sk (polys.toList.map (rnsIntt l))).getD c 0).natAbs ≤ X)
    (hV : ∀ c, c < l.n →
      (c04k_nuBgv kl l.size true (c04k_galRns l true g (polys.getD 1 #[])) key e (fun p => sk.getD p 0) c).natAbs ≤ V)
    (hm : 2 * (X + V) < Spec.prodL (c01p_qvals l)) :
    ∃ ct' m m', applyGalois kl l .bgv ⟨polys, true, cf⟩ g key = .ok ct' ∧ ct'.cf = cf ∧
      bgvDecrypt l sk ⟨polys, true, cf⟩ = .ok m ∧ bgvDecrypt l sk ct' = .ok m' ∧
      ∀ i, i < l.n → (batchDecode T m').getD i 0 = (batchDecode T m).getD (c04r_slotIdx l.k step i) 0 := by
  obtain ⟨g1, g2, g3⟩ := eltFromStep_slot hk2 hstep
  have hn := hl.npow
  obtain ⟨ct', m, m', b1, b0, b2, b3, b4, b5⟩ := applyGalois_decrypt_bgv hl hd hlo htb hb hkt h2 hc hcf hcop h g1
    (by rw [hn]; omega) hkcc hsk hke hs' het hX hV hm
  refine ⟨ct', m, m', b1, b0, b2, b3, fun i hi => ?_⟩
  rw [hn] at hi b4 b5
  exact c04r_slots_of_coeff hT hTk hTm (by omega) g1 m m' b4 b5 i _ hi (g3 i hi).1 (g3 i hi).2

/-- CKKS, NTT form: for g = `eltFromStep step` and a Galois key for g, `applyGalois` succeeds and the exact phase of the
    result is σ_g of the exact input phase plus ν, modulo every level modulus (so rotate_vector(step) acts on the encoded
    polynomial as X ↦ X^(3^s), conjugation as X ↦ X^(2N−1)); the slot-level statement over ℂ is out of scope -/
theorem ckks_rotate_phase {kl : KeyLevel} {l : Level} (hl : l.WF) (hlo : c04k_LevelOf kl l) {ct : Ct} {key : KSKey}
    {step : Int} {g : Nat} (hstep : eltFromStep l.k step = .ok g) (hk1 : 1 ≤ l.k)
    (h : c04t_KSInput kl l.size ct (ct.polys.getD 1 #[]) key) (hntt : ct.ntt = true)
    (h2 : ct.polys.size = 2) (hkcc : (key.getD 0 #[]).size = 2)
    {s s' : Nat → Int} {e : Nat → Nat → Int} {G : Nat → Int} (hke : c04k_KeyEq kl l.size key s s' e G)
    (hs' : ∀ p, p < kl.n → s' p = c04k_sigma kl.n g s p) :
    ((step = 0 ∧ g = 2 * 2^l.k - 1) ∨
      (step ≠ 0 ∧ step.natAbs < 2^l.k / 2 ∧
        g = 3 ^ (if step < 0 then 2^l.k / 2 - step.natAbs else step.natAbs) % (2 * 2^l.k))) ∧
    ∃ ct', applyGalois kl l .ckks ct g key = .ok ct' ∧ ct'.ntt = true ∧ ct'.polys.size = 2 ∧
      (∀ k, k < 2 → (ct'.polys.getD k #[]).size = l.size ∧ c04t_Canon kl l.size (ct'.polys.getD k #[])) ∧
      ∀ j, j < l.size → ∀ c, c < kl.n →
        c05u_phase2 kl.n (c04k_polyI (kl.tb j) true ((ct'.polys.getD 0 #[]).getD j #[]))
            (c04k_polyI (kl.tb j) true ((ct'.polys.getD 1 #[]).getD j #[])) s c
          ≡ c04k_sigma kl.n g (c05u_phase2 kl.n (c04k_polyI (kl.tb j) true ((ct.polys.getD 0 #[]).getD j #[]))
              (c04k_polyI (kl.tb j) true ((ct.polys.getD 1 #[]).getD j #[])) s) c
            + c04k_nuStd kl l.size true (c04k_galRns l true g (ct.polys.getD 1 #[])) key e s c
              [ZMOD ((kl.m j).value : Int)] := by
  have helt := c04r_eltFromStep_inv hstep
  refine ⟨helt, ?_⟩
  have hg := c04r_elt_odd_lt hstep
  obtain ⟨ct', a1, a2, a3, a4, a5, a6⟩ := applyGalois_phase_sigma hlo (scheme := .ckks) h (Or.inr ⟨rfl, hntt⟩) h2 hg.1
    (hl.npow ▸ hg.2.le) hkcc hke hs'
  rw [hntt] at a2 a6
  exact ⟨ct', a1, a2, a4, a5, a6⟩

section comp
variable {R : Type} [CommRing R]

theorem sigma_comp {n g h : Nat} (hn : 0 < n) (hh : h % 2 = 1) (a : Nat → R) (c : Nat) :
    c04k_sigma n h (c04k_sigma n g a) c = c04k_sigma n (g * h) a c := by
  unfold c04k_sigma
  have e1 : ∀ j ∈ range n, (c04k_chi n (j * h) c : R) * ∑ i ∈ range n, c04k_chi n (i * g) j * a i
      = ∑ i ∈ range n, (c04k_chi n (i * g) j * c04k_chi n (j * h) c) * a i := by
    intro j _
    rw [Finset.mul_sum]
    apply Finset.sum_congr rfl; intro i _; ring
  rw [Finset.sum_congr rfl e1, Finset.sum_comm]
  apply Finset.sum_congr rfl
  intro i _
  rw [← Finset.sum_mul, c04k_chi_pow hn hh, Nat.mul_assoc]

theorem sigma_mod {n : Nat} (hn : 0 < n) (g : Nat) (a : Nat → R) (c : Nat) :
    c04k_sigma n (g % (2 * n)) a c = c04k_sigma n g a c := by
  unfold c04k_sigma
  apply Finset.sum_congr rfl
  intro i _
  congr 1
  have e : i * g = i * (g % (2 * n)) + n * (2 * (i * (g / (2 * n)))) := by
    conv_lhs => rw [← Nat.mod_add_div g (2 * n)]
    ring
  rw [e, c04k_chi_add hn, pow_mul]
  norm_num

end comp

theorem c04r_three_pow_mod {k : Nat} (hk : 2 ≤ k) (x : Nat) :
    (3 : ZMod (2 * 2^k))^(x % (2^k / 2)) = 3^x := by
  conv_rhs => rw [← Nat.mod_add_div x (2^k / 2), pow_add, pow_mul, c11n_three_pow_row_z hk, one_pow, mul_one]

theorem c04r_stepExp_cast {k : Nat} (hk : 2 ≤ k) (d : Int) :
    ((c04r_stepExp k d : Nat) : Int) = d % ((2^k / 2 : Nat) : Int) := by
  unfold c04r_stepExp
  have := c04r_row_pos hk
  exact Int.toNat_of_nonneg (Int.emod_nonneg _ (by omega))

theorem c04r_stepExp_add {k : Nat} (hk : 2 ≤ k) (a b : Int) :
    c04r_stepExp k (a + b) = (c04r_stepExp k a + c04r_stepExp k b) % (2^k / 2) := by
  have h := c04r_row_pos hk
  apply Int.ofNat.inj
  show ((c04r_stepExp k (a + b) : Nat) : Int) = (((c04r_stepExp k a + c04r_stepExp k b) % (2^k / 2) : Nat) : Int)
  rw [Int.natCast_mod, Nat.cast_add, c04r_stepExp_cast hk, c04r_stepExp_cast hk, c04r_stepExp_cast hk, ← Int.add_emod]

theorem c04r_f_add {k : Nat} (hk : 2 ≤ k) (a b : Int) :
    (3 : ZMod (2 * 2^k))^(c04r_stepExp k (a + b)) = 3^(c04r_stepExp k a) * 3^(c04r_stepExp k b) := by
  rw [c04r_stepExp_add hk, c04r_three_pow_mod hk, pow_add]

theorem c04r_f_half {k : Nat} {d : Int} (hd : d.natAbs = 2^k / 2) :
    (3 : ZMod (2 * 2^k))^(c04r_stepExp k d) = 1 := by
  have : c04r_stepExp k d = 0 := by
    unfold c04r_stepExp
    rw [← hd]
    rcases Int.natAbs_eq d with h | h
    · rw [← h, Int.emod_self]; rfl
    · have : d % ((d.natAbs : Nat) : Int) = 0 := by
        apply Int.emod_eq_zero_of_dvd
        exact ⟨-1, by omega⟩
      rw [this]; rfl
  rw [this, pow_zero]

theorem c04r_elt_cast {k : Nat} (hk : 2 ≤ k) {d : Int} {g : Nat} (he : eltFromStep k d = .ok g) (h0 : d ≠ 0) :
    ((g : Nat) : ZMod (2 * 2^k)) = 3^(c04r_stepExp k d) ∧ g % 2 = 1 ∧ g < 2 * 2^k := by
  obtain ⟨g1, g2, -⟩ := eltFromStep_slot hk he
  rcases c04r_eltFromStep_inv he with ⟨h, -⟩ | ⟨-, hlt, rfl⟩
  · exact absurd h h0
  · have hs := c04r_stepExp_eq hlt
    refine ⟨by rw [ZMod.natCast_mod, hs]; push_cast; rfl, g1, g2⟩

/-- what is claimed of a plan for the signed step `d` -/
def c04r_PlanOK (k : Nat) (keys : List Nat) (d : Int) (plan : List Nat) : Prop :=
  (∀ g ∈ plan, g ∈ keys ∧ g % 2 = 1 ∧ g < 2 * 2^k) ∧ ((plan.prod : Nat) : ZMod (2 * 2^k)) = 3^(c04r_stepExp k d)

theorem c04r_rotatePlan_succ (k : Nat) (keys : List Nat) (fuel : Nat) (steps : Int) :
    rotatePlan k keys (fuel + 1) steps =
      (if steps = 0 then pure [] else do
        let e ← eltFromStep k steps
        if keys.contains e then pure [e] else do
        let ds ← naf steps
        if ds.length = 1 then .error .refused else
        ds.foldlM (fun acc d => do
          if d.natAbs = 2^k / 2 then pure acc else do
            let r ← rotatePlan k keys fuel d
            pure (acc ++ r)) []) := rfl

theorem c04r_plan_fold {k : Nat} (hk : 2 ≤ k) (keys : List Nat) (fuel : Nat)
    (ih : ∀ d plan, rotatePlan k keys fuel d = .ok plan → c04r_PlanOK k keys d plan) :
    ∀ (ds : List Int) (acc plan : List Nat),
      ds.foldlM (fun acc d => do
          if d.natAbs = 2^k / 2 then pure acc else do
            let r ← rotatePlan k keys fuel d
            pure (acc ++ r)) acc = .ok plan →
      ∃ rest, plan = acc ++ rest ∧ c04r_PlanOK k keys ds.sum rest := by
  intro ds
  induction ds with
  | nil =>
    intro acc plan h
    simp only [List.foldlM_nil, pure, Except.pure] at h
    injection h with h
    refine ⟨[], by rw [← h]; simp, by simp, ?_⟩
    have : c04r_stepExp k 0 = 0 := by unfold c04r_stepExp; simp
    simp [this]
  | cons d ds ihd =>
    intro acc plan h
    rw [List.foldlM_cons] at h
    by_cases hd : d.natAbs = 2^k / 2
    · rw [if_pos hd] at h
      simp only [pure, Except.pure, bind, Except.bind] at h
      obtain ⟨rest, r1, r2, r3⟩ := ihd acc plan h
      refine ⟨rest, r1, r2, ?_⟩
      rw [List.sum_cons, c04r_f_add hk, c04r_f_half hd, one_mul]
      exact r3
    · rw [if_neg hd] at h
      cases hr : rotatePlan k keys fuel d with
      | error e => rw [hr] at h; simp only [bind, Except.bind] at h; cases h
      | ok r =>
        rw [hr] at h
        simp only [pure, Except.pure, bind, Except.bind] at h
        obtain ⟨rest, r1, r2, r3⟩ := ihd (acc ++ r) plan h
        obtain ⟨q1, q2⟩ := ih d r hr
        refine ⟨r ++ rest, by rw [r1, List.append_assoc], ?_, ?_⟩
        · intro g hg
          rcases List.mem_append.mp hg with hg | hg
          · exact q1 g hg
          · exact r2 g hg
        · rw [List.prod_append, Nat.cast_mul, q2, r3, List.sum_cons, c04r_f_add hk]

/-- `rotatePlan`: every element of the plan has a key, is an odd Galois element below 2N, and the product of the plan is
    3^(steps mod N/2) modulo 2N — the composition of the plan's automorphisms is the rotation by `steps` -/
theorem c04r_rotatePlan_ok {k : Nat} (hk : 2 ≤ k) (keys : List Nat) :
    ∀ (fuel : Nat) (steps : Int) (plan : List Nat), rotatePlan k keys fuel steps = .ok plan → c04r_PlanOK k keys steps plan := by
  intro fuel
  induction fuel with
  | zero => intro steps plan h; cases h
  | succ fuel ih =>
    intro steps plan h
    rw [c04r_rotatePlan_succ] at h
    by_cases h0 : steps = 0
    · rw [if_pos h0] at h
      injection h with h
      subst h0
      have : c04r_stepExp k 0 = 0 := by unfold c04r_stepExp; simp
      refine ⟨by rw [← h]; simp, by rw [← h, this]; simp⟩
    · rw [if_neg h0] at h
      cases he : eltFromStep k steps with
      | error e => rw [he] at h; cases h
      | ok g =>
        rw [he] at h
        simp only [bind, Except.bind] at h
        obtain ⟨g1, g2, g3⟩ := c04r_elt_cast hk he h0
        by_cases hc : keys.contains g = true
        · rw [if_pos hc] at h
          injection h with h
          rw [← h]
          refine ⟨fun x hx => ?_, by simpa using g1⟩
          rw [List.mem_singleton] at hx
          subst hx
          exact ⟨by simpa using hc, g2, g3⟩
        · rw [if_neg hc] at h
          cases hn : naf steps with
          | error e => rw [hn] at h; cases h
          | ok ds =>
            rw [hn] at h
            simp only at h
            by_cases hl : ds.length = 1
            · rw [if_pos hl] at h; cases h
            · rw [if_neg hl] at h
              obtain ⟨rest, r1, r2⟩ := c04r_plan_fold hk keys fuel ih ds [] plan h
              have hv : -(2^31 : Int) < steps ∧ steps < 2^31 := by
                unfold naf at hn
                split at hn
                · cases hn
                · omega
              obtain ⟨ds', hds', hsum, _⟩ := naf_spec hv
              rw [hn] at hds'
              injection hds' with hds'
              rw [r1, List.nil_append, ← hsum, ← hds']
              exact r2

/-- the successive key-backed rotations of a plan: every step is an `applyGalois` with the key of its element — the loop over the plan
    inside `rotate_internal` (src/evaluator.rs).  It stands here, not in Model/, because only the rotation theorems run it; what
    GenGaloisPlan ties to the source is the PLAN (`rotatePlan`), this loop is read off the Rust text by hand. -/
def c04r_applyChain (kl : KeyLevel) (l : Level) (scheme : Scheme) (keyOf : Nat → KSKey) : List Nat → Ct → R Ct
  | [], ct => pure ct
  | g :: gs, ct => do
    let ct' ← applyGalois kl l scheme ct g (keyOf g)
    c04r_applyChain kl l scheme keyOf gs ct'

/-- the ciphertext-independent part of `c04t_KSInput` concerning the key level -/
structure c04r_KLOK (kl : KeyLevel) (l : Level) : Prop where
  hkl : kl.WF
  hsz : 2 ≤ kl.ms.size
  hd : l.size + 1 ≤ kl.ms.size
  hov : ∀ i, i ≤ l.size →
    l.size * (4 * (kl.m (c04t_keyIndex kl l.size i)).value * (kl.m (c04t_keyIndex kl l.size i)).value) < 2^128
  hinv : c04t_InvP kl l.size

/-- a Galois key for the element g under the secret `sk`: the key part of `c04t_KSInput` and the key equation with s' = σ_g(s) -/
structure c04r_GalKey (kl : KeyLevel) (l : Level) (sk : Array Int) (g : Nat) (key : KSKey) (e : Nat → Nat → Int)
    (G : Nat → Int) : Prop where
  hks : l.size ≤ key.size
  hkcc : (key.getD 0 #[]).size = 2
  hkey : ∀ i, i ≤ l.size → c04t_KeyCanonAt kl l.size (key.getD 0 #[]).size key (c04t_keyIndex kl l.size i)
  hke : c04k_KeyEq kl l.size key (fun p => sk.getD p 0) (c04k_sigma kl.n g (fun p => sk.getD p 0)) e G

theorem c04r_ksinput {kl : KeyLevel} {l : Level} (hlo : c04k_LevelOf kl l) (hK : c04r_KLOK kl l) {sk : Array Int} {g : Nat}
    {key : KSKey} {e : Nat → Nat → Int} {G : Nat → Int} (hG : c04r_GalKey kl l sk g key e G)
    {polys : Array RnsPoly} (isNtt : Bool) (cf : Nat) (hc : ∀ k, k < 2 → RnsCanon l (polys.getD k #[])) :
    c04t_KSInput kl l.size ⟨polys, isNtt, cf⟩ (polys.getD 1 #[]) key :=
  ⟨hK.hkl, hK.hsz, hK.hd, hG.hks, c04k_canon_to hlo (hc 1 (by omega)), hG.hkey, hK.hov,
    fun k hk => c04k_canon_to hlo (hc k (by rw [hG.hkcc] at hk; exact hk)), hK.hinv⟩

theorem c04r_sigma_one {R : Type} [CommRing R] {n : Nat} (a : Nat → R) {c : Nat} (hc : c < n) : c04k_sigma n 1 a c = a c := by
  unfold c04k_sigma
  rw [Finset.sum_eq_single c]
  · unfold c04k_chi
    rw [Nat.mul_one, Nat.mod_eq_of_lt hc, if_pos rfl, Nat.div_eq_of_lt hc, pow_zero, one_mul]
  · intro j hj hne
    have := mem_range.mp hj
    unfold c04k_chi
    rw [Nat.mul_one, Nat.mod_eq_of_lt this, if_neg hne, zero_mul]
  · intro h; exact absurd (mem_range.mpr hc) h

theorem c04r_prod_odd (gs : List Nat) (h : ∀ g ∈ gs, g % 2 = 1) : gs.prod % 2 = 1 := by
  induction gs with
  | nil => rfl
  | cons g gs ih =>
    rw [List.prod_cons, Nat.mul_mod, h g (List.mem_cons_self ..), ih (fun x hx => h x (List.mem_cons_of_mem _ hx))]

/-- per-step key-switching noise from the explicit bound of `switchKey_noise_bound`: ‖ν‖∞ ≤ ⌊W/P⌋,
    W = dsz·A·n·Be + ⌊P/2⌋·(1 + ‖s‖₁) -/
theorem c04r_step_noise {kl : KeyLevel} {l : Level} (hlo : c04k_LevelOf kl l) (hK : c04r_KLOK kl l) {sk : Array Int} {g : Nat}
    (hg : g % 2 = 1) {key : KSKey} {e : Nat → Nat → Int} {G : Nat → Int} (hG : c04r_GalKey kl l sk g key e G)
    {polys : Array RnsPoly} (cf : Nat) (hc : ∀ k, k < 2 → RnsCanon l (polys.getD k #[])) {A Be : Nat}
    (hA : ∀ i, i < l.size → (kl.m i).value ≤ A) (he : ∀ i, i < l.size → ∀ p, p < kl.n → (e i p).natAbs ≤ Be) :
    ∀ c, c < kl.n →
      (c04k_nuStd kl l.size false (c04k_galRns l false g (polys.getD 1 #[])) key e (fun p => sk.getD p 0) c).natAbs
        ≤ (l.size * (A * (kl.n * Be)) + kl.c04t_P / 2 * (1 + ∑ p ∈ range kl.n, (sk.getD p 0).natAbs)) / kl.c04t_P := by
  intro c hc'
  have hin := c04k_galois_input hlo (c04r_ksinput hlo hK hG false cf hc) hG.hkcc hg
  have hb := switchKey_noise_bound hin hG.hke hA he c hc'
  have hP : 0 < kl.c04t_P := by
    have hsz := hK.hsz
    obtain ⟨_, _, _, hmw⟩ := c04t_kl_comp hK.hkl (show kl.ms.size - 1 < kl.ms.size by omega)
    have := hmw.two_le
    unfold KeyLevel.c04t_P; omega
  exact (Nat.le_div_iff_mul_le hP).mpr hb

/-- composed (BFV): a chain of `applyGalois` steps with Galois keys for the elements of `gs` decrypts to σ_{Π gs}(m) mod t,
    provided the accumulated noise E + |gs|·t·V keeps the decode condition (noises add) -/
theorem rotate_chain_bfv {kl : KeyLevel} {l : Level} (hl : l.WF) (hd : DecOK l) (hlo : c04k_LevelOf kl l) (hK : c04r_KLOK kl l)
    {sk : Array Int} (hsk : sk.size = l.n) (keyOf : Nat → KSKey) (eOf : Nat → Nat → Nat → Int) (GOf : Nat → Nat → Int)
    {A Be V : Nat} (hA : ∀ i, i < l.size → (kl.m i).value ≤ A)
    (hV : (l.size * (A * (kl.n * Be)) + kl.c04t_P / 2 * (1 + ∑ p ∈ range kl.n, (sk.getD p 0).natAbs)) / kl.c04t_P ≤ V) :
    ∀ (gs : List Nat) (polys : Array RnsPoly) (cf E : Nat), polys.size = 2 → (∀ k, k < 2 → RnsCanon l (polys.getD k #[])) →
      (∀ g ∈ gs, g % 2 = 1 ∧ g ≤ 2 * l.n ∧ c04r_GalKey kl l sk g (keyOf g) (eOf g) (GOf g) ∧
        ∀ i, i < l.size → ∀ p, p < kl.n → (eOf g i p).natAbs ≤ Be) →
      (∀ c, c < l.n → (c04r_bfvNoise l.t.value (Spec.prodL (c01p_qvals l))
        ((Spec.phase (c01p_qvals l) l.n sk polys.toList).getD c 0)).natAbs ≤ E) →
      2 * l.tool.gamma.value * (E + gs.length * (l.t.value * V)) + 2 * l.size * Spec.prodL (c01p_qvals l)
        ≤ Spec.prodL (c01p_qvals l) * l.tool.gamma.value →
      ∃ ct' m m', c04r_applyChain kl l .bfv keyOf gs ⟨polys, false, cf⟩ = .ok ct' ∧
        bfvDecrypt l sk ⟨polys, false, cf⟩ = .ok m ∧ bfvDecrypt l sk ct' = .ok m' ∧
        (∀ c, c < l.n → m.getD c 0 < l.t.value) ∧
        ∀ c, c < l.n → m'.getD c 0 = Spec.imod (c04k_sigma l.n gs.prod (fun i => ((m.getD i 0 : Nat) : Int)) c) l.t.value := by
  intro gs
  induction gs with
  | nil =>
    intro polys cf E h2 hc _ hE hm
    obtain ⟨-, m, hm1, hm2⟩ := c04r_bfv_decrypts hl hd hsk h2 hc cf hE (by simpa using hm)
    refine ⟨_, m, m, rfl, hm1, hm1, fun c hc' => (hm2 c hc').1, fun c hc' => ?_⟩
    rw [List.prod_nil, c04r_sigma_one _ hc', c04r_imod_natCast, Nat.mod_eq_of_lt (hm2 c hc').1]
  | cons g gs ih =>
    intro polys cf E h2 hc hgs hE hm
    obtain ⟨g1, g2, g3, g4⟩ := hgs g (List.mem_cons_self ..)
    rw [List.length_cons, Nat.add_mul gs.length 1, Nat.one_mul] at hm
    obtain ⟨⟨polys1, ntt1, cf1⟩, m, m1, b1, b2, b3, b4, b5, b6, b7, b8, b9⟩ := applyGalois_decrypt_bfv hl hd hlo h2 hc
      (c04r_ksinput hlo hK g3 false cf hc) g1 g2 g3.hkcc hsk g3.hke (fun _ _ => rfl) hE
      (fun c hc' => le_trans (c04r_step_noise hlo hK g1 g3 cf hc hA g4 c (hlo.n ▸ hc')) hV)
      (le_trans (Nat.add_le_add_right (Nat.mul_le_mul_left _ (Nat.add_le_add_left (Nat.le_add_left _ _) _)) _) hm)
    obtain rfl : ntt1 = false := b6
    obtain ⟨ct2, m1', m2, d1, d2, d3, d4, d5⟩ := ih polys1 cf1 (E + l.t.value * V) b7 b8
      (fun x hx => hgs x (List.mem_cons_of_mem _ hx)) b9 (by rwa [Nat.add_assoc, Nat.add_comm (l.t.value * V)])
    obtain rfl : m1 = m1' := Except.ok.inj (b3.symm.trans d2)
    refine ⟨ct2, m, m2, ?_, b2, d3, b4, fun c hc' => ?_⟩
    · show (applyGalois kl l .bfv ⟨polys, false, cf⟩ g (keyOf g) >>= fun ct' => c04r_applyChain kl l .bfv keyOf gs ct') = _
      rw [b1]
      exact d1
    · have ht := c04r_t_pos hd
      rw [d5 c hc', List.prod_cons, ← sigma_comp (c01q_n_pos hl)
        (c04r_prod_odd gs fun x hx => (hgs x (List.mem_cons_of_mem _ hx)).1)]
      refine imod_congr (c04r_sigma_modEq _ _ _ (fun i hi => ?_) c)
      rw [b5 i hi]
      exact imod_modEq ht _

/-- composed with `rotatePlan` (BFV, slot level): if `rotate_internal`'s plan for `steps` exists given the available key
    elements `keys`, all of which carry genuine Galois keys, then executing the plan step by step (`c04r_applyChain`) yields a
    ciphertext decrypting to the plaintext whose slot rows are rotated by `steps` (mod N/2), under the accumulated-noise margin -/
theorem c04r_rotatePlan_bfv {kl : KeyLevel} {l : Level} (hl : l.WF) (hd : DecOK l) (hlo : c04k_LevelOf kl l) (hK : c04r_KLOK kl l)
    {T : NTTTables} (hT : T.WF) (hTk : T.k = l.k) (hTm : T.modulus.value = l.t.value) (hk2 : 2 ≤ l.k)
    {sk : Array Int} (hsk : sk.size = l.n) (keyOf : Nat → KSKey) (eOf : Nat → Nat → Nat → Int) (GOf : Nat → Nat → Int)
    {A Be V : Nat} (hA : ∀ i, i < l.size → (kl.m i).value ≤ A)
    (hV : (l.size * (A * (kl.n * Be)) + kl.c04t_P / 2 * (1 + ∑ p ∈ range kl.n, (sk.getD p 0).natAbs)) / kl.c04t_P ≤ V)
    {keys : List Nat} (hkeys : ∀ g ∈ keys, c04r_GalKey kl l sk g (keyOf g) (eOf g) (GOf g) ∧
      ∀ i, i < l.size → ∀ p, p < kl.n → (eOf g i p).natAbs ≤ Be)
    {fuel : Nat} {steps : Int} {plan : List Nat} (hplan : rotatePlan l.k keys fuel steps = .ok plan)
    {polys : Array RnsPoly} {cf E : Nat} (h2 : polys.size = 2) (hc : ∀ k, k < 2 → RnsCanon l (polys.getD k #[]))
    (hE : ∀ c, c < l.n → (c04r_bfvNoise l.t.value (Spec.prodL (c01p_qvals l))
      ((Spec.phase (c01p_qvals l) l.n sk polys.toList).getD c 0)).natAbs ≤ E)
    (hm : 2 * l.tool.gamma.value * (E + plan.length * (l.t.value * V)) + 2 * l.size * Spec.prodL (c01p_qvals l)
      ≤ Spec.prodL (c01p_qvals l) * l.tool.gamma.value) :
    (∀ g ∈ plan, g ∈ keys) ∧ plan.prod % (2 * 2^l.k) = 3 ^ c04r_stepExp l.k steps % (2 * 2^l.k) ∧
    ∃ ct' m m', c04r_applyChain kl l .bfv keyOf plan ⟨polys, false, cf⟩ = .ok ct' ∧
      bfvDecrypt l sk ⟨polys, false, cf⟩ = .ok m ∧ bfvDecrypt l sk ct' = .ok m' ∧
      ∀ i, i < l.n → (batchDecode T m').getD i 0 =
        (batchDecode T m).getD (c04r_rotIdx l.k (c04r_stepExp l.k steps) i) 0 := by
  obtain ⟨p1, p2⟩ := c04r_rotatePlan_ok hk2 keys fuel steps plan hplan
  have hn := hl.npow
  have hprod : plan.prod % (2 * 2^l.k) = 3 ^ c04r_stepExp l.k steps % (2 * 2^l.k) := by
    rw [← ZMod.natCast_eq_natCast_iff', p2]; push_cast; rfl
  refine ⟨fun g hg => (p1 g hg).1, hprod, ?_⟩
  obtain ⟨ct', m, m', b1, b2, b3, b4, b5⟩ := rotate_chain_bfv hl hd hlo hK hsk keyOf eOf GOf hA hV plan polys cf E h2 hc
    (fun g hg => ⟨(p1 g hg).2.1, by rw [hn]; exact (p1 g hg).2.2.le, (hkeys g (p1 g hg).1).1, (hkeys g (p1 g hg).1).2⟩) hE hm
  refine ⟨ct', m, m', b1, b2, b3, fun i hi => ?_⟩
  have hodd := c04r_prod_odd plan (fun g hg => (p1 g hg).2.1)
  rw [hn] at hi b4 b5
  refine c04r_slots_of_coeff hT hTk hTm (by omega) hodd m m' b4 b5 i _ hi (c04r_rotIdx_lt hk2 hi) ?_
  rw [← Nat.mul_mod_mod, hprod, Nat.mul_mod_mod]
  exact slotExp_rotate hk2 hi

theorem rotatePlan_fuel0 (k : Nat) (keys : List Nat) (steps : Int) : rotatePlan k keys 0 steps = .error .other := rfl

/-- a non-zero step with |step| ≥ N/2 is refused (the refusal of `eltFromStep` propagates) -/
theorem rotatePlan_refuses_range (k : Nat) (keys : List Nat) (fuel : Nat) {steps : Int} (h0 : steps ≠ 0)
    (hs : 2^k / 2 ≤ steps.natAbs) : rotatePlan k keys (fuel + 1) steps = .error .refused := by
  rw [c04r_rotatePlan_succ, if_neg h0, eltFromStep_refuses' hs (Or.inl h0)]
  rfl

theorem rotatePlan_zero (k : Nat) (keys : List Nat) (fuel : Nat) : rotatePlan k keys (fuel + 1) 0 = .ok [] := by
  rw [c04r_rotatePlan_succ, if_pos rfl]; rfl

theorem applyChain_error {kl : KeyLevel} {l : Level} {scheme : Scheme} {keyOf : Nat → KSKey} {g : Nat} {gs : List Nat}
    {ct : Ct} {err : Err} (h : applyGalois kl l scheme ct g (keyOf g) = .error err) :
    c04r_applyChain kl l scheme keyOf (g :: gs) ct = .error err := by
  show (applyGalois kl l scheme ct g (keyOf g) >>= fun ct' => c04r_applyChain kl l scheme keyOf gs ct') = _
  rw [h]; rfl

/-! ## four statements under the names Props/C04 restates (GenGaloisPlan and C04RW call the `c04r_` names) -/

theorem rotate_rows_bfv : type_of% @c04r_rotate_bfv := @c04r_rotate_bfv
theorem rotate_step_noise : type_of% @c04r_step_noise := @c04r_step_noise
theorem rotatePlan_ok : type_of% @c04r_rotatePlan_ok := @c04r_rotatePlan_ok
theorem rotatePlan_rotate_bfv : type_of% @c04r_rotatePlan_bfv := @c04r_rotatePlan_bfv

end HC
