/- C01: BFV / BGV decryption of the MODEL equals the exact-integer SPEC: the tool (`decryptScaleAndRound`, `decryptModT`), the hypothesis
   bundles from the constructor `RNSTool.new`, and the decryption theorems.  The exact-integer side is in C01N, the model's dot product with
   the secret key for every size in C07D, the exact phase as the lift of the model's phase in C01R.

   BGV: the model's `exactRound` rounds a tie x = Q/2 upwards (x ↦ x - Q) whereas `Spec.centred` keeps +Q/2; ties only exist for even Q and
   are excluded by `BgvNoTie` (`c01p_noTie_of_odd`). -/
import Heathcliff.Spec.Scheme
import Heathcliff.Proofs.C01O
import Heathcliff.Proofs.C10I
import Heathcliff.Proofs.C01J
import Heathcliff.Proofs.C01N
import Heathcliff.Proofs.C07D
import Heathcliff.Proofs.C01R
import Mathlib.Algebra.BigOperators.ModEq
import Mathlib.Tactic.Ring
import Mathlib.Tactic.Linarith
namespace HC
open Finset

/-- what `RNSTool.new` establishes for the constants `decrypt_scale_and_round` uses
    (derived from the constructor in `c01p_toolDecOK_of_new`) -/
structure c01p_ToolDecOK (r : RNSTool) : Prop where
  qwf : r.baseQ.WF
  twf : r.t.WF
  gwf : r.gamma.WF
  tg : ∃ btg conv ig, r.baseTGamma = some btg ∧ r.qToTGamma = some conv ∧ r.invGammaModT = some ig ∧
        btg.WF ∧ btg.size = 2 ∧ btg.q 0 = r.t ∧ btg.q 1 = r.gamma ∧ BaseConverter.new r.baseQ btg = .ok conv ∧
        WFOp r.t ig ∧ (ig.operand * r.gamma.value) % r.t.value = 1
  ptg : ∀ i, i < r.baseQ.size → WFOp (r.baseQ.q i) (r.prodTGammaModQ.getD i default) ∧
        (r.prodTGammaModQ.getD i default).operand = (r.t.value * r.gamma.value) % (r.baseQ.q i).value
  niq0 : WFOp r.t (r.negInvQModTGamma.getD 0 default) ∧
        ((r.negInvQModTGamma.getD 0 default).operand * r.baseQ.prod + 1) % r.t.value = 0
  niq1 : WFOp r.gamma (r.negInvQModTGamma.getD 1 default) ∧
        ((r.negInvQModTGamma.getD 1 default).operand * r.baseQ.prod + 1) % r.gamma.value = 0
  qT : ∃ bt cT, r.qToT = some cT ∧ bt.WF ∧ bt.size = 1 ∧ bt.q 0 = r.t ∧ BaseConverter.new r.baseQ bt = .ok cT

/-- the level's tool is the BEHZ tool of the level's moduli and plain modulus, with well-formed decryption constants -/
structure DecOK (l : Level) : Prop where
  n_eq : l.tool.n = l.n
  t_eq : l.tool.t = l.t
  base_eq : l.tool.baseQ.base = l.qs
  tool : c01p_ToolDecOK l.tool

/-- the BEHZ γ-condition on the exact (centred) phase: with w = round(t·x̃/Q) and e = t·x̃ - Q·w,
    2γ|e| + 2kQ ≤ Qγ (i.e. |e/Q| ≤ 1/2 - k/γ) for every coefficient -/
def BehzDecryptOK (l : Level) (ph : Spec.ZPoly) : Prop :=
  ∀ j, j < l.n →
    2 * (l.tool.gamma.value : Int) *
        |(l.t.value : Int) * ph.getD j 0
          - (Spec.prodL (c01p_qvals l) : Int) * Spec.roundDiv ((l.t.value : Int) * ph.getD j 0) (Spec.prodL (c01p_qvals l))|
      + 2 * (l.size : Int) * (Spec.prodL (c01p_qvals l) : Int)
    ≤ (Spec.prodL (c01p_qvals l) : Int) * (l.tool.gamma.value : Int)

theorem DecOK.lq {l : Level} (hd : DecOK l) : c07s_LevelQ l := ⟨hd.tool.qwf, hd.base_eq⟩

theorem c01p_base_size {l : Level} (hd : DecOK l) : l.tool.baseQ.size = l.size := hd.lq.size_eq

theorem c01p_base_q {l : Level} (hd : DecOK l) {i : Nat} (hi : i < l.size) : l.tool.baseQ.q i = l.q i := hd.lq.q_eq hi

theorem c01p_prodL_qvals {l : Level} (hd : DecOK l) : Spec.prodL (c01p_qvals l) = l.tool.baseQ.prod := hd.lq.prodL

/-! ### one coefficient: γ-correction on the exact phase -/

/-- one coefficient of `decrypt_scale_and_round`.  The fast base conversion delivers γ·t·X mod Q only up to an overshoot α·Q, α < k, as the two residues
    `c0v` (mod t) and `c1v` (mod γ); the residue modulo γ shows the overshoot, and subtracting it leaves round(t·x/Q) mod t, x the centred lift of X,
    as long as γ times the rounding remainder plus k·Q stays below Q·γ/2 (`he`).  The arithmetic is `scaleAndRound_scalar_bound` (C10I). -/
theorem c01p_coeff {t gamma nq0 nq1 ig c0v c1v Q k X α : Nat}
    (hnt : (nq0 * Q + 1) % t = 0) (hng : (nq1 * Q + 1) % gamma = 0) (hig : (ig * gamma) % t = 1)
    (hQ : 0 < Q)
    (hc0 : c0v = ((gamma * t * X) % Q + α * Q) % t) (hc1 : c1v = ((gamma * t * X) % Q + α * Q) % gamma)
    (hα : α < k)
    (he : 2 * (gamma : Int) * |(t : Int) * Spec.centred X Q - (Q : Int) * Spec.roundDiv ((t : Int) * Spec.centred X Q) Q|
        + 2 * (k : Int) * (Q : Int) ≤ (Q : Int) * (gamma : Int)) :
    scaleAndRoundCoeff t gamma nq0 nq1 ig c0v c1v = Spec.imod (Spec.roundDiv ((t : Int) * Spec.centred X Q) Q) t := by
  have ht0 : 0 < t := pos_of_negInv hnt
  generalize hxt : Spec.centred X Q = xt at he
  have hxm : xt ≡ (X : Int) [ZMOD Q] := by rw [← hxt]; exact centred_modEq X Q
  have hx : (((gamma * t * X) % Q : Nat) : Int) = ((gamma : Int) * t * xt) % Q := by
    rw [Int.natCast_mod]; push_cast
    exact (hxm.mul_left ((gamma : Int) * t)).symm
  have key := scaleAndRound_scalar_bound (c0 := c0v) (c1 := c1v) (k := k) (xt := xt)
    (w := Spec.roundDiv ((t : Int) * xt) Q) (e := (t : Int) * xt - (Q : Int) * Spec.roundDiv ((t : Int) * xt) Q)
    (α := (α : Int)) hnt hng hig hQ
    (by rw [hc0, ← hx]; have := cast_mod_modEq ((gamma * t * X) % Q + α * Q) t; push_cast at this; exact this)
    (by rw [hc1, ← hx]; have := cast_mod_modEq ((gamma * t * X) % Q + α * Q) gamma; push_cast at this; exact this)
    (by ring) (by omega) (by exact_mod_cast hα) he
  unfold Spec.imod
  have h1 := key.1
  have hnn : 0 ≤ Spec.roundDiv ((t : Int) * xt) Q % (t : Int) := Int.emod_nonneg _ (by omega)
  omega

/-! ### `decryptScaleAndRound` on a canonical RNS polynomial whose coefficients have known CRT values -/

/-- the scaled input of the base conversion -/
def c01p_temp (r : RNSTool) (p : RnsPoly) : RnsPoly :=
  ((List.range r.baseQ.size).map (fun i =>
    (p.getD i #[]).map (fun x => (x * (r.prodTGammaModQ.getD i default).operand) % (r.baseQ.q i).value))).toArray

theorem c01p_temp_size (r : RNSTool) (p : RnsPoly) : (c01p_temp r p).size = r.baseQ.size := by simp [c01p_temp]

theorem c01p_temp_getD (r : RNSTool) (p : RnsPoly) {i j : Nat} (hi : i < r.baseQ.size) (hj : j < (p.getD i #[]).size) :
    ((c01p_temp r p).getD i #[]).getD j 0 =
      ((p.getD i #[]).getD j 0 * (r.prodTGammaModQ.getD i default).operand) % (r.baseQ.q i).value := by
  unfold c01p_temp
  rw [array_getD_range_map _ _ hi, array_getD_map _ _ 0 0 hj]

theorem c01p_scaled_residue {g t X Q q op ph : Nat} (hdvd : q ∣ Q) (hop : op = (t * g) % q) (hX : X % q = ph) :
    ((g * t * X) % Q) % q = ((ph * op) % q) % q := by
  rw [Nat.mod_mod_of_dvd _ hdvd, Nat.mod_mod, hop, ← hX, ← Nat.mul_mod]
  congr 1; ring

/-- per-coefficient form (explicit CRT values): `X j < Q`, `X j ≡ ph_i[j] (mod q_i)`; the model returns
    round(t·x̃_j/Q) mod t for the centred x̃_j under the γ-condition -/
theorem c01p_decrypt_of_crt {l : Level} (hd : DecOK l) {ph : RnsPoly} (hph : RnsCanon l ph) (X : Nat → Nat)
    (hX : ∀ j, j < l.n → c05u_IsCrt l ph j (X j))
    (hnoise : ∀ j, j < l.n →
      2 * (l.tool.gamma.value : Int) *
          |(l.t.value : Int) * Spec.centred (X j) l.tool.baseQ.prod
            - (l.tool.baseQ.prod : Int) * Spec.roundDiv ((l.t.value : Int) * Spec.centred (X j) l.tool.baseQ.prod) l.tool.baseQ.prod|
        + 2 * (l.size : Int) * (l.tool.baseQ.prod : Int)
      ≤ (l.tool.baseQ.prod : Int) * (l.tool.gamma.value : Int)) :
    ∃ d, l.tool.decryptScaleAndRound ph = .ok d ∧ d.size = l.n ∧ ∀ j, j < l.n →
      d.getD j 0 = Spec.imod (Spec.roundDiv ((l.t.value : Int) * Spec.centred (X j) l.tool.baseQ.prod) l.tool.baseQ.prod) l.t.value := by
  have hb := hd.tool.qwf
  have hsz := c01p_base_size hd
  obtain ⟨btg, conv, ig, h1, h2, h3, hbtg, hbsz, hq0, hq1, hnew, higw, hig⟩ := hd.tool.tg
  have hQ0 := hb.prod_pos
  have hcs : ∀ i, i < l.tool.baseQ.size → (ph.getD i #[]).size = l.tool.n := fun i hi => by rw [hd.n_eq]; exact (hph.2 i (by omega)).1
  -- the input of the conversion: words, with the residues of γ·t·X_j
  have htmp : ∀ i j, i < l.tool.baseQ.size → j < l.tool.n →
      ((c01p_temp l.tool ph).getD i #[]).getD j 0 < (l.tool.baseQ.q i).value ∧
      ((l.tool.gamma.value * l.tool.t.value * X j) % l.tool.baseQ.prod) % (l.tool.baseQ.q i).value
        = ((c01p_temp l.tool ph).getD i #[]).getD j 0 % (l.tool.baseQ.q i).value := fun i j hi hj => by
    rw [c01p_temp_getD _ _ hi (by rw [hcs i hi]; exact hj)]
    refine ⟨Nat.mod_lt _ (hb.mwf i hi).pos, ?_⟩
    apply c01p_scaled_residue (hb.q_dvd_prod hi) (hd.tool.ptg i hi).2
    rw [c01p_base_q hd (by omega)]
    exact (hX j (by rw [← hd.n_eq]; exact hj)).2 i (by omega)
  obtain ⟨tg, hconv, -, htg⟩ := fastConvertArray_ent hb hbtg hnew (c01p_temp l.tool ph) l.tool.n (c01p_temp_size _ _)
    (fun i j hi hj => Nat.lt_trans (htmp i j hi hj).1 (Nat.lt_trans (hb.mwf i hi).lt (by norm_num)))
  -- one α per coefficient, common to both rows
  have hrows : ∀ j, j < l.tool.n → ∃ alpha, alpha < l.size ∧ ∀ o, o < 2 →
      (tg.getD o #[]).getD j 0 = ((l.tool.gamma.value * l.tool.t.value * X j) % l.tool.baseQ.prod + alpha * l.tool.baseQ.prod) % (btg.q o).value :=
    fun j hj => by
      obtain ⟨al, hal, hS⟩ := c02w_crtSum_spec hb (fun i => ((c01p_temp l.tool ph).getD i #[]).getD j 0) (Nat.mod_lt _ hQ0)
        (fun i hi => (htmp i j hi hj).2)
      exact ⟨al, by omega, fun o ho => by rw [(htg o (by omega)).2 j hj]; beta_reduce; rw [hS]⟩
  have hw : ∀ o, o < 2 → ∀ x ∈ tg.getD o #[], x < 2^64 := fun o ho => mem_lt_of_getD fun j hj => by
    obtain ⟨al, -, e⟩ := hrows j (by rw [← (htg o (by omega)).1]; exact hj)
    rw [e o ho]
    have hw := hbtg.mwf o (by omega)
    exact Nat.lt_trans (Nat.mod_lt _ hw.pos) (Nat.lt_trans hw.lt (by norm_num))
  obtain ⟨d, hdok, hdsz, hdv⟩ := decryptScaleAndRound_ent (r := l.tool) (p := ph) h1 h2 h3 hconv
    (fun i hi => ⟨hb.mwf i hi, (hd.tool.ptg i hi).1⟩)
    (fun i hi => mem_lt_of_getD (fun j hj => by
      have := (hph.2 i (by omega)).2 j (by rw [← (hph.2 i (by omega)).1]; exact hj)
      have := (hb.mwf i hi).lt
      rw [c01p_base_q hd (by omega)] at this
      omega))
    hd.tool.twf hd.tool.gwf higw hd.tool.niq0.1 hd.tool.niq1.1 (htg 0 (by omega)).1 (htg 1 (by omega)).1 (hw 0 (by omega)) (hw 1 (by omega))
  refine ⟨d, hdok, by rw [hdsz, hd.n_eq], fun j hj => ?_⟩
  obtain ⟨alpha, ha, e⟩ := hrows j (by rw [hd.n_eq]; exact hj)
  rw [hdv j (by rw [hd.n_eq]; exact hj)]
  have hn := hnoise j hj
  rw [← hd.t_eq] at hn ⊢
  exact c01p_coeff hd.tool.niq0.2 hd.tool.niq1.2 hig hQ0 (by rw [e 0 (by omega), hq0]) (by rw [e 1 (by omega), hq1]) ha hn

theorem c01p_bfvDecode_size (t Q : Nat) (ph : Spec.ZPoly) : (Spec.bfvDecode t Q ph).size = ph.size := by
  simp [Spec.bfvDecode]

theorem c01p_bfvDecode_getD (t Q : Nat) (ph : Spec.ZPoly) {j : Nat} (hj : j < ph.size) :
    (Spec.bfvDecode t Q ph).getD j 0 = Spec.imod (Spec.roundDiv ((t : Int) * ph.getD j 0) Q) t := by
  unfold Spec.bfvDecode
  rw [array_getD_map _ _ (0 : Int) 0 hj]

/-! ## BGV: `decryptModT` is the exact conveyance of the centred value -/

theorem c01p_round_quot {x Q α : Nat} (hx : x < Q) :
    (2 * (x + α * Q) + Q) / (2 * Q) = α + (if 2 * x ≥ Q then 1 else 0) := by
  have hQ : 0 < 2 * Q := by omega
  have e : 2 * (x + α * Q) + Q = (2 * x + Q) + α * (2 * Q) := by ring
  rw [e, Nat.add_mul_div_right _ _ hQ, Nat.add_comm]
  congr 1
  split
  · apply Nat.div_eq_of_lt_le <;> omega
  · exact Nat.div_eq_of_lt (by omega)

theorem c01p_exactRound_eq (c : BaseConverter) (hi : c.ibase.WF) (T : Nat → Nat) :
    exactRound c ((List.range c.ibase.size).map T) =
      (2 * ((List.range c.ibase.size).map fun i => T i * c.ibase.punct.getD i 0).sum + c.ibase.prod) / (2 * c.ibase.prod) := by
  unfold exactRound
  dsimp only
  have := c01p_foldl_add_sum (fun i => ((List.range c.ibase.size).map T).getD i 0 * (c.ibase.prod / (c.ibase.q i).value))
    (List.range c.ibase.size) 0
  rw [Nat.zero_add] at this
  rw [this]
  congr 4
  apply List.map_congr_left
  intro i hi'
  have hi'' := List.mem_range.mp hi'
  rw [c01p_punct_eq_div hi hi'']
  congr 1
  simp [List.getD, hi'']

theorem c01p_centred_sub {x Q : Nat} (hx : x < Q) (htie : 2 * x ≠ Q) :
    Spec.centred x Q = (x : Int) - ((if 2 * x ≥ Q then 1 else 0 : Nat) : Int) * Q := by
  unfold Spec.centred
  rw [Nat.mod_eq_of_lt hx]
  by_cases h2 : 2 * x ≥ Q
  · rw [if_pos h2, if_pos (by omega)]; push_cast; ring
  · rw [if_neg h2, if_neg (by omega)]; push_cast; ring

/-- the rounded quotient of the CRT sum `x + α·Q` is `α` or `α + 1` -/
theorem c01p_exactRound_crt (c : BaseConverter) (hi : c.ibase.WF) (f : Nat → Nat) {x α : Nat} (hx : x < c.ibase.prod)
    (hS : c02w_crtSum c.ibase f = x + α * c.ibase.prod) :
    exactRound c (crtScaled c.ibase f) = α + (if 2 * x ≥ c.ibase.prod then 1 else 0) := by
  unfold crtScaled
  rw [c01p_exactRound_eq _ hi]
  unfold c02w_crtSum at hS
  rw [hS, c01p_round_quot hx]

/-- `exact_convey_array` on one coefficient: the centred value modulo the single output modulus (no tie 2x = Q).  The CRT sum of the residues is
    x + α·Q; `exactRound` on the scaled fractions returns α, or α + 1 when x is in the upper half (`c01p_exactRound_crt`), and subtracting that multiple
    of Q modulo the output modulus leaves x or x − Q, the centred value (`c01p_centred_sub`). -/
theorem c01p_exactConvey_spec {ib ob : RNSBase} {c : BaseConverter} (hi : ib.WF) (ho : ob.WF) (ho1 : ob.size = 1)
    (hc : BaseConverter.new ib ob = .ok c) {xs : Array Nat} (hx : ∀ i, i < ib.size → xs.getD i 0 < 2^64)
    {x : Nat} (hxl : x < ib.prod) (hxr : ∀ i, i < ib.size → x % (ib.q i).value = xs.getD i 0 % (ib.q i).value)
    (htie : 2 * x ≠ ib.prod) :
    c.exactConvey xs = .ok (Spec.imod (Spec.centred x ib.prod) (ob.q 0).value) := by
  obtain ⟨rfl, rfl, -, hM⟩ := RNSH.new_spec hi ho hc
  have hp := ho.mwf 0 (by omega)
  have hp0 : 0 < (c.obase.q 0).value := hp.pos
  obtain ⟨alpha, ha, hS⟩ := c02w_crtSum_spec hi (fun i => xs.getD i 0) hxl hxr
  have ha64 := hi.le64
  have hR := c01p_exactRound_crt c hi _ hxl hS
  rw [RNSH.exactConvey_eq c hi ho ho1 (hM 0 (by omega)) hx (by rw [hR]; split <;> omega), hR, hS,
    subMod_exact hp (Nat.mod_lt _ hp0) (Nat.mod_lt _ hp0)]
  congr 1
  generalize hRv : ((x + alpha * c.ibase.prod) % (c.obase.q 0).value + (c.obase.q 0).value -
    (alpha + (if 2 * x ≥ c.ibase.prod then 1 else 0)) * (c.ibase.prod % (c.obase.q 0).value) % (c.obase.q 0).value) % (c.obase.q 0).value = Rv
  have hRlt : Rv < (c.obase.q 0).value := by rw [← hRv]; exact Nat.mod_lt _ hp0
  have hmod : (Rv : Int) ≡ Spec.centred x c.ibase.prod [ZMOD (c.obase.q 0).value] := by
    rw [← hRv]
    refine (cast_subrep_modEq (by
      have := Nat.mod_lt ((alpha + (if 2 * x ≥ c.ibase.prod then 1 else 0)) * (c.ibase.prod % (c.obase.q 0).value)) hp0
      omega)).trans ?_
    have e1 := cast_mod_modEq (x + alpha * c.ibase.prod) (c.obase.q 0).value
    have e2 := cast_mul_modEq (alpha + (if 2 * x ≥ c.ibase.prod then 1 else 0)) (c.ibase.prod % (c.obase.q 0).value) (c.obase.q 0).value
    have e3 := (cast_mod_modEq c.ibase.prod (c.obase.q 0).value).mul_left ((alpha + (if 2 * x ≥ c.ibase.prod then 1 else 0) : Nat) : Int)
    refine (e1.sub (e2.trans e3)).trans ?_
    rw [c01p_centred_sub hxl htie]
    push_cast
    rw [show (x : Int) + alpha * c.ibase.prod - (alpha + (if 2 * x ≥ c.ibase.prod then 1 else 0)) * c.ibase.prod =
      x - (if 2 * x ≥ c.ibase.prod then 1 else 0) * c.ibase.prod by ring]
  have := eq_emod_of_modEq hRlt hmod
  unfold Spec.imod
  omega

/-- `decryptModT` on a canonical RNS polynomial whose coefficients have known CRT values `X j` (no tie 2·X j = Q):
    the centred value modulo t -/
theorem c01p_decryptModT_of_crt {l : Level} (hd : DecOK l) {p : RnsPoly} (hp : RnsCanon l p) (X : Nat → Nat)
    (hX : ∀ j, j < l.n → c05u_IsCrt l p j (X j))
    (htie : ∀ j, j < l.n → 2 * X j ≠ l.tool.baseQ.prod) :
    ∃ d, l.tool.decryptModT p = .ok d ∧ d.size = l.n ∧ ∀ j, j < l.n →
      d.getD j 0 = Spec.imod (Spec.centred (X j) l.tool.baseQ.prod) l.t.value := by
  have hb := hd.tool.qwf
  have hsz := c01p_base_size hd
  obtain ⟨bt, cT, hqT, hbt, hbt1, hbt0, hnew⟩ := hd.tool.qT
  have hcol : ∀ j, j < l.n → cT.exactConvey (p.map (fun comp => comp.getD j 0)) =
      .ok (Spec.imod (Spec.centred (X j) l.tool.baseQ.prod) l.t.value) := by
    intro j hj
    have hps : p.size = l.tool.baseQ.size := by rw [hp.1, hsz]
    have hcg : ∀ i, i < l.tool.baseQ.size → (p.map (fun comp => comp.getD j 0)).getD i 0 = (p.getD i #[]).getD j 0 :=
      fun i hi => array_getD_map _ _ #[] 0 (by rw [hps]; exact hi)
    have := c01p_exactConvey_spec hb hbt hbt1 hnew (xs := p.map (fun comp => comp.getD j 0)) (x := X j)
      (fun i hi => by
        rw [hcg i hi]
        have h1 := (hp.2 i (by omega)).2 j hj
        have h2 := (hb.mwf i hi).lt
        rw [c01p_base_q hd (by omega)] at h2
        omega)
      (hX j hj).1
      (fun i hi => by
        rw [hcg i hi, c01p_base_q hd (by omega), (hX j hj).2 i (by omega)]
        exact (Nat.mod_eq_of_lt ((hp.2 i (by omega)).2 j hj)).symm)
      (htie j hj)
    rw [this, hbt0, hd.t_eq]
  unfold RNSTool.decryptModT
  rw [hqT]
  dsimp only
  rw [transpose_toList, List.mapM_map, Function.comp_def, R.mapM_ok _ (fun j => Spec.imod (Spec.centred (X j) l.tool.baseQ.prod) l.t.value) _
    (fun j hj => hcol j (by rw [← hd.n_eq]; exact List.mem_range.mp hj)), R.ok_bind]
  refine ⟨_, rfl, by simp [hd.n_eq], fun j hj => ?_⟩
  rw [array_getD_range_map _ 0 (by rw [hd.n_eq]; exact hj)]

theorem c01p_invMod_lt (cf : Nat) {t : Nat} (ht : 0 < t) : Spec.invMod cf t < t := by
  unfold Spec.invMod
  generalize Spec.egcd ((cf % t : Nat) : Int) (t : Int) = ga
  obtain ⟨g, a⟩ := ga
  dsimp only
  split
  · have h1 := Int.emod_nonneg a (show (t : Int) ≠ 0 by omega)
    have h2 := Int.emod_lt_of_pos a (show (0 : Int) < (t : Int) by omega)
    omega
  · exact ht

theorem c01p_inv_unique {a b c t : Nat} (ha : a < t) (hb : b < t) (h1 : (a * c) % t = 1) (h2 : (b * c) % t = 1) : a = b := by
  have ht1 : 1 < t := by
    by_contra hle
    have : t = 1 := by omega
    subst this
    rw [Nat.mod_one] at h1; omega
  have e1 : a ≡ a * (b * c) [MOD t] := by
    have : a * (b * c) ≡ a * 1 [MOD t] := Nat.ModEq.mul_left a (by unfold Nat.ModEq; rw [h2, Nat.mod_eq_of_lt ht1])
    rw [Nat.mul_one] at this
    exact this.symm
  have e2 : a * (b * c) ≡ b [MOD t] := by
    have e : a * (b * c) = b * (a * c) := by ring
    rw [e]
    have : b * (a * c) ≡ b * 1 [MOD t] := Nat.ModEq.mul_left b (by unfold Nat.ModEq; rw [h1, Nat.mod_eq_of_lt ht1])
    rw [Nat.mul_one] at this
    exact this
  exact (e1.trans e2).eq_of_lt_of_lt ha hb

/-- no coefficient of the centred exact phase sits exactly at Q/2 (only possible for even Q): there the model's
    `exactRound` rounds up while `Spec.centred` keeps +Q/2 -/
def BgvNoTie (l : Level) (ph : Spec.ZPoly) : Prop :=
  ∀ j, j < l.n → 2 * ph.getD j 0 ≠ (Spec.prodL (c01p_qvals l) : Int)

theorem c01p_bgvDecode_size (t cf : Nat) (ph : Spec.ZPoly) : (Spec.bgvDecode t cf ph).size = ph.size := by
  simp [Spec.bgvDecode]

theorem c01p_bgvDecode_getD (t cf : Nat) (ph : Spec.ZPoly) {j : Nat} (hj : j < ph.size) :
    (Spec.bgvDecode t cf ph).getD j 0 = (Spec.imod (ph.getD j 0) t * Spec.invMod cf t) % t := by
  unfold Spec.bgvDecode
  dsimp only
  rw [array_getD_map _ _ (0 : Int) 0 hj]

theorem c01p_tie_of_centred {X Q : Nat} (hX : X < Q) (h : 2 * Spec.centred X Q ≠ (Q : Int)) : 2 * X ≠ Q := by
  intro h2
  apply h
  unfold Spec.centred
  rw [Nat.mod_eq_of_lt hX, if_neg (by omega)]
  exact_mod_cast h2

/-! ### decryption from a canonical model phase: the result is the decoding of its centred CRT lift -/

theorem c01p_bfv_lift {l : Level} (hd : DecOK l) {sk : Array Int} {ct : Ct} (hn : ct.ntt = false) {ph : RnsPoly}
    (hdot : dotProductCtSk l sk ct = .ok ph) (hcan : RnsCanon l ph) (hnoise : BehzDecryptOK l (c01p_lift l ph)) :
    bfvDecrypt l sk ct = .ok (Spec.trim (Spec.bfvDecode l.t.value (Spec.prodL (c01p_qvals l)) (c01p_lift l ph))) := by
  have hQ := c01p_prodL_qvals hd
  have hL := fun j hj => c01p_lift_crt hd.lq hcan (j := j) hj
  obtain ⟨d, hdok, hdsz, hdv⟩ := c01p_decrypt_of_crt hd hcan _ (fun j hj => (hL j hj).1)
    (fun j hj => by
      have := hnoise j hj
      rw [(hL j hj).2, hQ] at this
      exact this)
  unfold bfvDecrypt
  rw [if_neg (by rw [hn]; simp), hdot, R.ok_bind, hdok, R.ok_bind]
  show Except.ok (trimPlain d) = _
  unfold Spec.trim
  congr 2
  apply array_ext_getD hdsz (by rw [c01p_bfvDecode_size, c01p_lift_size])
  intro j hj
  rw [hdv j hj, c01p_bfvDecode_getD _ _ _ (by rw [c01p_lift_size]; exact hj), (hL j hj).2, hQ]

theorem c01p_modT_lift {l : Level} (hd : DecOK l) {p : RnsPoly} (hcan : RnsCanon l p) (htie : BgvNoTie l (c01p_lift l p)) :
    ∃ d, l.tool.decryptModT p = .ok d ∧ d.size = l.n ∧
      ∀ j, j < l.n → d.getD j 0 = Spec.imod ((c01p_lift l p).getD j 0) l.t.value := by
  have hL := fun j hj => c01p_lift_crt hd.lq hcan (j := j) hj
  obtain ⟨d, hdok, hdsz, hdv⟩ := c01p_decryptModT_of_crt hd hcan _ (fun j hj => (hL j hj).1)
    (fun j hj => by
      have := htie j hj
      rw [(hL j hj).2, c01p_prodL_qvals hd] at this
      exact c01p_tie_of_centred (hL j hj).1.1 this)
  exact ⟨d, hdok, hdsz, fun j hj => by rw [hdv j hj, (hL j hj).2]⟩

theorem c01p_bgv_lift {l : Level} (hd : DecOK l) {sk : Array Int} {ct : Ct} (hn : ct.ntt = true) {ph : RnsPoly}
    (hdot : dotProductCtSk l sk ct = .ok ph) (hcan : RnsCanon l (rnsIntt l ph)) (hcf : ct.cf < 2^63)
    (hcop : Nat.Coprime ct.cf l.t.value) (htie : BgvNoTie l (c01p_lift l (rnsIntt l ph))) :
    bgvDecrypt l sk ct = .ok (Spec.trim (Spec.bgvDecode l.t.value ct.cf (c01p_lift l (rnsIntt l ph)))) := by
  have htw : l.t.WF := by rw [← hd.t_eq]; exact hd.tool.twf
  have ht2 := htw.two_le
  have ht61 := htw.lt
  obtain ⟨d, hdok, hdsz, hdv⟩ := c01p_modT_lift hd hcan htie
  have hdlt : ∀ j, j < l.n → d.getD j 0 < l.t.value := fun j hj => by
    rw [hdv j hj]
    exact c01j_imod_lt _ (by omega)
  have hinv := c01j_invMod_spec ht2 (by omega : l.t.value < 2^199) hcop
  rw [Nat.mod_eq_of_lt (by omega : 1 < l.t.value)] at hinv
  have hinvlt := c01p_invMod_lt ct.cf (show 0 < l.t.value by omega)
  have hfinal : trimPlain (d.map (fun x => (x * Spec.invMod ct.cf l.t.value) % l.t.value)) =
      Spec.trim (Spec.bgvDecode l.t.value ct.cf (c01p_lift l (rnsIntt l ph))) := by
    unfold Spec.trim
    congr 1
    apply array_ext_getD (by rw [Array.size_map, hdsz]) (by rw [c01p_bgvDecode_size, c01p_lift_size])
    intro j hj
    rw [array_getD_map _ _ 0 0 (by rw [hdsz]; exact hj), hdv j hj, c01p_bgvDecode_getD _ _ _ (by rw [c01p_lift_size]; exact hj)]
  unfold bgvDecrypt
  rw [if_neg (by rw [hn]; simp), hdot, R.ok_bind, hdok, R.ok_bind]
  dsimp only
  by_cases hc1 : ct.cf = 1
  · -- the model skips the multiplication; the specification multiplies by `invMod 1 t = 1`
    rw [if_neg (by omega)]
    have e1 : Spec.invMod ct.cf l.t.value = 1 :=
      c01p_inv_unique hinvlt (by omega) hinv (by rw [hc1]; exact Nat.mod_eq_of_lt (by omega))
    have e2 : d = d.map (fun x => (x * Spec.invMod ct.cf l.t.value) % l.t.value) := by
      apply array_ext_getD hdsz (by rw [Array.size_map, hdsz])
      intro j hj
      rw [array_getD_map _ _ 0 0 (by rw [hdsz]; exact hj), e1, Nat.mul_one, Nat.mod_eq_of_lt (hdlt j hj)]
    show Except.ok (trimPlain d) = _
    rw [← hfinal, ← e2]
  · rw [if_pos hc1]
    have hcf0 : ct.cf ≠ 0 := by
      intro h0
      rw [h0, Nat.coprime_zero_left] at hcop; omega
    obtain ⟨fix, hfx, hfl, hfi⟩ := (tryInvert_spec_partial ht2 ht61 (by omega : ct.cf < 2^64) hcf).1 ⟨hcf0, hcop⟩
    have e1 : fix = Spec.invMod ct.cf l.t.value := c01p_inv_unique hfl hinvlt hfi hinv
    have hmap : mapM' d (fun x => mulMod x fix l.t) = .ok (d.map (fun x => (x * Spec.invMod ct.cf l.t.value) % l.t.value)) := by
      rw [← e1]
      apply mapM'_ok
      intro x hx
      have hxl : x < l.t.value := mem_lt_of_getD (fun j hj => hdlt j (by rw [← hdsz]; exact hj)) x hx
      exact mulMod_exact htw (by omega) (by omega)
    rw [hfx, R.ok_bind]
    dsimp only
    rw [hmap, R.ok_bind, ← hfinal]
    rfl

/-- BGV decryption refuses a correction factor ≠ 1 that is not invertible modulo t (the inversion comes after `decryptModT`) -/
theorem c01p_bgv_refuses_lift {l : Level} (hd : DecOK l) {sk : Array Int} {ct : Ct} (hn : ct.ntt = true) {ph : RnsPoly}
    (hdot : dotProductCtSk l sk ct = .ok ph) (hcan : RnsCanon l (rnsIntt l ph)) (hcf : ct.cf < 2^63) (hcf1 : ct.cf ≠ 1)
    (hcop : ¬ Nat.Coprime ct.cf l.t.value) (htie : BgvNoTie l (c01p_lift l (rnsIntt l ph))) :
    bgvDecrypt l sk ct = .error .refused := by
  have htw : l.t.WF := by rw [← hd.t_eq]; exact hd.tool.twf
  obtain ⟨d, hdok, -, -⟩ := c01p_modT_lift hd hcan htie
  unfold bgvDecrypt
  rw [if_neg (by rw [hn]; simp), hdot, R.ok_bind, hdok, R.ok_bind]
  dsimp only
  rw [if_pos hcf1, (tryInvert_spec_partial htw.two_le htw.lt (by omega : ct.cf < 2^64) hcf).2 (Or.inr hcop), R.ok_bind]
  rfl

/-! ## `DecOK` from the constructor `RNSTool.new` -/

/-! Inversion of a successful `do` block one step at a time on a GOAL `block = .ok b → C`: the block is matched up to `whnf`
    (`have`s and join points of the `do` notation need no rewriting) and never enters the context: taking the
    forty-step block of `RNSTool.new` apart as a hypothesis re-elaborates the remaining block at every step and is an order of magnitude slower to check. -/

theorem c01p_bind_elim {α β : Type} {x : R α} {f : α → R β} {b : β} {C : Prop}
    (H : ∀ a, x = .ok a → f a = .ok b → C) (h : (x >>= f) = .ok b) : C := by
  obtain ⟨a, h1, h2⟩ := R.bind_eq_ok.mp h
  exact H a h1 h2

theorem c01p_bind_pure_elim {α β γ : Type} {x : R α} {g : α → β} {f : β → R γ} {b : γ} {C : Prop}
    (H : ∀ a, x = .ok a → f (g a) = .ok b → C) (h : (x >>= fun a => pure (g a) >>= f) = .ok b) : C :=
  c01p_bind_elim H h

theorem c01p_pure_elim {α β : Type} {a : α} {f : α → R β} {b : β} {C : Prop}
    (H : f a = .ok b → C) (h : ((pure a : R α) >>= f) = .ok b) : C := H h

theorem c01p_guard_elim {α : Type} {c : Prop} [Decidable c] {e : Err} {x : R α} {b : α} {C : Prop}
    (H : ¬ c → x = .ok b → C) (h : (if c then .error e else x) = .ok b) : C :=
  have ⟨hc, hx⟩ := R.guard_eq_ok.mp h
  H hc hx

theorem c01p_ite_pos_elim {α : Type} {c : Prop} [Decidable c] {x y : R α} {b : α} {C : Prop} (hc : c)
    (H : x = .ok b → C) (h : (if c then x else y) = .ok b) : C := by
  rw [if_pos hc] at h; exact H h

theorem c01p_ite_neg_elim {α : Type} {c : Prop} [Decidable c] {x y : R α} {b : α} {C : Prop} (hc : ¬ c)
    (H : y = .ok b → C) (h : (if c then x else y) = .ok b) : C := by
  rw [if_neg hc] at h; exact H h

theorem c01q_pow2_facts {n : Nat} (hn : ¬((!isPow2 n) = true ∨ n < 2 ∨ n > 131072)) :
    isPow2 n = true ∧ 2 ≤ n ∧ n ≤ 131072 := by
  cases hp : isPow2 n
  · exfalso; apply hn; left; rw [hp]; rfl
  · refine ⟨rfl, ?_, ?_⟩ <;> by_contra hc <;> apply hn <;> right <;> omega

/-- everything a successful `RNSTool.new` (t ≠ 0) computed, as equations about the fields of the result (lists stored as arrays are
    named through `.toList`), read off its definition.  (A second walk of the same definition, for any t and the constants of modulus switching
    only, is `c01q_new_inv` in C01Q: the optional parts of the block are compiled with the continuation copied into both branches, so one walk
    for every t would need an elimination lemma per shape of branch.) -/
structure c01p_NewOK (n : Nat) (q : RNSBase) (t : Modulus) (aux : List Modulus) (r : RNSTool) : Prop where
  q_pos : 1 ≤ q.size
  q_le : q.size ≤ 64
  n_pow : isPow2 n = true
  n_ge : 2 ≤ n
  n_le : n ≤ 131072
  len : baseBSize q.size t.bits (bitCount q.prod) + 2 ≤ aux.length
  n_eq : r.n = n
  k_eq : r.k = Nat.log2 n
  q_eq : r.baseQ = q
  t_eq : r.t = t
  msk_eq : r.mSk = aux.getD 0 default
  gamma_eq : r.gamma = aux.getD 1 default
  mt : Modulus.mk? (2^32) = .ok r.mTilde
  baseB : RNSBase.new ((aux.drop 2).take (baseBSize q.size t.bits (bitCount q.prod))) = .ok r.baseB
  baseBsk : RNSBase.new ((aux.drop 2).take (baseBSize q.size t.bits (bitCount q.prod)) ++ [r.mSk]) = .ok r.baseBsk
  baseBskMt : RNSBase.new ((aux.drop 2).take (baseBSize q.size t.bits (bitCount q.prod)) ++ [r.mSk, r.mTilde]) = .ok r.baseBskMt
  baseTGamma : ∃ btg, RNSBase.new [t, r.gamma] = .ok btg ∧ r.baseTGamma = some btg
  qToT : ∃ bt cT, RNSBase.new [t] = .ok bt ∧ BaseConverter.new q bt = .ok cT ∧ r.qToT = some cT
  qToBsk : BaseConverter.new q r.baseBsk = .ok r.qToBsk
  qToMt : ∃ bMt, RNSBase.new [r.mTilde] = .ok bMt ∧ BaseConverter.new q bMt = .ok r.qToMt
  bToQ : BaseConverter.new r.baseB q = .ok r.bToQ
  bToMsk : ∃ bMsk, RNSBase.new [r.mSk] = .ok bMsk ∧ BaseConverter.new r.baseB bMsk = .ok r.bToMsk
  qToTGamma : ∀ btg, r.baseTGamma = some btg → ∃ conv, BaseConverter.new q btg = .ok conv ∧ r.qToTGamma = some conv
  prodBModQ : q.base.toList.mapM (fun m => moduloUint (limbsOf r.baseB.size r.baseB.prod) m) = .ok r.prodBModQ.toList
  invProdQModBsk : r.baseBsk.base.toList.mapM (fun m => do
      let t ← moduloUint (limbsOf q.size q.prod) m
      let o ← tryInvert t m.value
      match o with
      | none => .error .refused
      | some iv => MulOperand.new iv m) = .ok r.invProdQModBsk.toList
  invProdBModMsk : (do
      let tb ← moduloUint (limbsOf r.baseB.size r.baseB.prod) r.mSk
      let o ← tryInvert tb r.mSk.value
      match o with
      | none => .error .refused
      | some iv => MulOperand.new iv r.mSk : R MulOperand) = .ok r.invProdBModMsk
  invMtModBsk : r.baseBsk.base.toList.mapM (fun m => do
      let x ← barrett64 r.mTilde.value m
      let o ← tryInvert x m.value
      match o with
      | none => .error .refused
      | some iv => MulOperand.new iv m) = .ok r.invMtModBsk.toList
  negInvProdQModMt : (do
      let tq ← moduloUint (limbsOf q.size q.prod) r.mTilde
      let o ← tryInvert tq r.mTilde.value
      match o with
      | none => .error .refused
      | some iv => do
        let ng ← negateMod iv r.mTilde
        MulOperand.new ng r.mTilde : R MulOperand) = .ok r.negInvProdQModMt
  prodQModBsk : r.baseBsk.base.toList.mapM (fun m => moduloUint (limbsOf q.size q.prod) m) = .ok r.prodQModBsk.toList
  invGammaModT : ∃ g ig, barrett64 r.gamma.value t = .ok g ∧
      (do let o ← tryInvert g t.value
          match o with
          | none => .error .refused
          | some iv => MulOperand.new iv t : R MulOperand) = .ok ig ∧ r.invGammaModT = some ig
  prodTGammaModQ : q.base.toList.mapM (fun m => do
      let v ← mulMod t.value r.gamma.value m
      MulOperand.new v m) = .ok r.prodTGammaModQ.toList
  negInvQModTGamma : ∀ btg, r.baseTGamma = some btg → btg.base.toList.mapM (fun m => do
      let op ← moduloUint (limbsOf q.size q.prod) m
      let o ← tryInvert op m.value
      match o with
      | none => .error .refused
      | some iv => do
        let ng ← negateMod iv m
        MulOperand.new ng m) = .ok r.negInvQModTGamma.toList
  invQLastModQ : (List.range (q.size - 1)).mapM (fun i => (do
      let o ← tryInvert (q.q (q.size - 1)).value (q.q i).value
      match o with
      | none => .error .refused
      | some iv => MulOperand.new iv (q.q i) : R MulOperand)) = .ok r.invQLastModQ.toList
  invQLastModT : tryInvert (q.q (q.size - 1)).value t.value = .ok (some r.invQLastModT)

theorem c01p_newOK {n : Nat} {q : RNSBase} {t : Modulus} {aux : List Modulus} {r : RNSTool}
    (h : RNSTool.new n q t aux = .ok r) (ht0 : ¬ t.value = 0) : c01p_NewOK n q t aux r := by
  unfold RNSTool.new at h
  revert h
  refine c01p_guard_elim fun hqs => ?_
  refine c01p_guard_elim fun hn => ?_
  refine c01p_guard_elim fun hlen => ?_
  refine c01p_bind_elim fun mTilde hmt => ?_
  refine c01p_bind_elim fun baseB hbB => ?_
  refine c01p_bind_elim fun baseBsk hbBsk => ?_
  refine c01p_bind_elim fun baseBskMt hbBskMt => ?_
  refine c01p_ite_neg_elim ht0 ?_
  refine c01p_bind_pure_elim fun btg hbtg => ?_
  refine c01p_ite_neg_elim ht0 ?_
  refine c01p_bind_elim fun bt hbt => ?_
  refine c01p_bind_pure_elim fun cT hcT => ?_
  refine c01p_bind_elim fun qToBsk hqToBsk => ?_
  refine c01p_bind_elim fun bMt hbMt => ?_
  refine c01p_bind_elim fun qToMt hqToMt => ?_
  refine c01p_bind_elim fun bToQ hbToQ => ?_
  refine c01p_bind_elim fun bMsk hbMsk => ?_
  refine c01p_bind_elim fun bToMsk hbToMsk => ?_
  refine c01p_bind_pure_elim fun conv hconv => ?_
  refine c01p_bind_elim fun prodBModQ hprodBModQ => ?_
  refine c01p_bind_elim fun invProdQModBsk hinvProdQModBsk => ?_
  refine c01p_bind_elim fun tb htb => ?_
  refine c01p_bind_elim fun invProdBModMsk hinvProdBModMsk => ?_
  refine c01p_bind_elim fun invMtModBsk hinvMtModBsk => ?_
  refine c01p_bind_elim fun tq htq => ?_
  refine c01p_bind_elim fun otq hotq => ?_
  cases otq with
  | none => exact fun h => nomatch h
  | some ivq =>
  refine c01p_bind_elim fun ngq hngq => ?_
  refine c01p_bind_elim fun negInv hnegInv => ?_
  refine c01p_bind_elim fun prodQModBsk hprodQModBsk => ?_
  refine c01p_bind_elim fun g hg => ?_
  refine c01p_bind_elim fun ig hig => ?_
  refine c01p_bind_elim fun ptg hptg => ?_
  refine c01p_bind_pure_elim fun niq hniq => ?_
  refine c01p_bind_elim fun iql hiql => ?_
  refine c01p_ite_neg_elim ht0 ?_
  refine c01p_bind_elim fun oql hoql => ?_
  cases oql with
  | none => exact fun h => nomatch h
  | some ivl =>
  intro h
  injection h with h
  subst h
  obtain ⟨p1, p2, p3⟩ := c01q_pow2_facts hn
  exact ⟨by omega, by omega, p1, p2, p3, by omega, rfl, rfl, rfl, rfl, rfl, rfl, hmt, hbB, hbBsk, hbBskMt, ⟨btg, hbtg, rfl⟩,
    ⟨bt, cT, hbt, hcT, rfl⟩, hqToBsk, ⟨bMt, hbMt, hqToMt⟩, hbToQ, ⟨bMsk, hbMsk, hbToMsk⟩,
    fun _ e => by cases e; exact ⟨conv, hconv, rfl⟩, hprodBModQ, hinvProdQModBsk,
    by rw [htb, R.ok_bind]; exact hinvProdBModMsk, hinvMtModBsk,
    by rw [htq, R.ok_bind, hotq, R.ok_bind]; dsimp only; rw [hngq, R.ok_bind]; exact hnegInv, hprodQModBsk,
    ⟨g, ig, hg, hig, rfl⟩, hptg, fun _ e => by cases e; exact hniq, hiql, hoql⟩

/-- `invOf v m` of `RNSTool.new` -/
theorem c01p_invOf_spec {m : Modulus} (hm : m.WF) {g : Nat} (hg : g < 2^63) {o : MulOperand}
    (h : (do let o ← tryInvert g m.value
             match o with
             | none => .error .refused
             | some iv => MulOperand.new iv m : R MulOperand) = .ok o) :
    WFOp m o ∧ (o.operand * g) % m.value = 1 := by
  obtain ⟨ov, h1, h2⟩ := R.bind_eq_ok.mp h
  cases ov with
  | none => cases h2
  | some iv =>
    obtain ⟨hlt, hinv⟩ := tryInvert_some hm.two_le hm.lt hg h1
    obtain ⟨e1, e2⟩ := mulOperand_new_eq hm hlt h2
    exact ⟨⟨by rw [e1]; exact hlt, by rw [e2, e1]⟩, by rw [e1]; exact hinv⟩

theorem c01p_neg_inv_arith {m iv P : Nat} (hlt : iv < m) (hinv' : (iv * P) % m = 1) : ((m - iv) * P + 1) % m = 0 := by
  have e : (m - iv) * P + iv * P = m * P := by
    rw [← Nat.add_mul, Nat.sub_add_cancel hlt.le]
  have hc := Nat.div_add_mod (iv * P) m
  rw [hinv'] at hc
  generalize iv * P / m = c at hc
  apply Nat.mod_eq_zero_of_dvd
  have hd : m ∣ ((m - iv) * P + 1) + m * c := ⟨P, by omega⟩
  exact (Nat.dvd_add_left (Dvd.intro c rfl)).mp hd

/-- the negated inverse of `P` modulo `m` as `RNSTool.new` computes it -/
theorem c01p_negInv_spec {m : Modulus} (hm : m.WF) {n P : Nat} (hn : 0 < n) (hP : P < 2^(64*n)) {o : MulOperand}
    (h : (do let op ← moduloUint (limbsOf n P) m
             let o ← tryInvert op m.value
             match o with
             | none => .error .refused
             | some iv => do
               let ng ← negateMod iv m
               MulOperand.new ng m : R MulOperand) = .ok o) :
    WFOp m o ∧ (o.operand * P + 1) % m.value = 0 := by
  have h2 := hm.two_le
  have h61 := hm.lt
  rw [RNSH.moduloUint_limbs hm hn hP, R.ok_bind] at h
  have hop : P % m.value < m.value := Nat.mod_lt _ (by omega)
  obtain ⟨ov, h1, h3⟩ := R.bind_eq_ok.mp h
  cases ov with
  | none => cases h3
  | some iv =>
    obtain ⟨hlt, hinv⟩ := tryInvert_some h2 h61 (by omega) h1
    have hiv0 : iv ≠ 0 := by
      rintro rfl
      rw [Nat.zero_mul, Nat.zero_mod] at hinv; omega
    dsimp only at h3
    rw [negateMod_exact hm hlt.le] at h3
    have hng : (m.value - iv) % m.value = m.value - iv := Nat.mod_eq_of_lt (by omega)
    rw [hng] at h3
    obtain ⟨e1, e2⟩ := mulOperand_new_eq hm (by omega : m.value - iv < m.value) h3
    refine ⟨⟨by rw [e1]; omega, by rw [e2, e1]⟩, ?_⟩
    rw [e1]
    have hinv' : (iv * P) % m.value = 1 := by rw [Nat.mul_mod, Nat.mod_eq_of_lt hlt, hinv]
    exact c01p_neg_inv_arith hlt hinv'

theorem c01p_mapM_getD {α β : Type} {F : α → R β} {xs : List α} {ys : Array β} (h : xs.mapM F = .ok ys.toList)
    (dx : α) (dy : β) {i : Nat} (hi : i < xs.length) : F (xs.getD i dx) = .ok (ys.getD i dy) := by
  rw [← array_getD_toList]
  exact R.mapM_getD h dx dy hi

theorem c01p_base_single {m : Modulus} (hm : m.WF) {b : RNSBase} (h : RNSBase.new [m] = .ok b) :
    b.WF ∧ b.size = 1 ∧ b.q 0 = m := by
  obtain ⟨hw, hb⟩ := RNSBase.new_wf (ms := [m]) (fun m' hm' => List.eq_of_mem_singleton hm' ▸ hm) (by simp) h
  exact ⟨hw, by unfold RNSBase.size; rw [hb]; rfl, by unfold RNSBase.q; rw [hb]; rfl⟩

theorem c01p_toolDecOK_of_new {n : Nat} {q : RNSBase} {t : Modulus} {aux : List Modulus} {r : RNSTool}
    (hq : q.WF) (ht : t.WF) (haux : ∀ m ∈ aux, m.WF)
    (h : RNSTool.new n q t aux = .ok r) :
    c01p_ToolDecOK r ∧ r.n = n ∧ r.t = t ∧ r.baseQ = q := by
  have ht2 := ht.two_le
  have ht61 := ht.lt
  have hi := c01p_newOK h (by omega)
  have hqe := hi.q_eq
  have hte := hi.t_eq
  subst hqe hte
  have hgam : r.gamma.WF := by
    have := hi.len
    rw [hi.gamma_eq]
    exact haux _ (list_getD_mem default (by omega))
  have hg61 := hgam.lt
  obtain ⟨btg, hbtg, rbtg⟩ := hi.baseTGamma
  obtain ⟨bt, cT, hbt, hcT, rcT⟩ := hi.qToT
  obtain ⟨conv, hconv, rconv⟩ := hi.qToTGamma btg rbtg
  obtain ⟨g, ig, hg, hig, rig⟩ := hi.invGammaModT
  obtain ⟨hbtgwf, hbtgbase⟩ := RNSBase.new_wf (ms := [r.t, r.gamma])
    (by intro m hm; simp only [List.mem_cons, List.not_mem_nil, or_false] at hm; rcases hm with rfl | rfl; exact ht; exact hgam)
    (by simp) hbtg
  obtain ⟨hbtwf, hbt1, hbt0⟩ := c01p_base_single ht hbt
  rw [barrett64_exact ht (by omega)] at hg
  injection hg with hg
  have := Nat.mod_lt r.gamma.value (show 0 < r.t.value by omega)
  obtain ⟨igw, iginv⟩ := c01p_invOf_spec ht (by omega : g < 2^63) hig
  rw [← hg, Nat.mul_mod_mod] at iginv
  have hN := hi.negInvQModTGamma btg rbtg
  rw [hbtgbase] at hN
  have s0 := c01p_negInv_spec ht hi.q_pos hq.prod_lt (c01p_mapM_getD hN default default (i := 0) (by simp))
  have s1 := c01p_negInv_spec hgam hi.q_pos hq.prod_lt (c01p_mapM_getD hN default default (i := 1) (by simp))
  refine ⟨⟨hq, ht, hgam, ⟨btg, conv, ig, rbtg, rconv, rig, hbtgwf, by unfold RNSBase.size; rw [hbtgbase]; rfl,
      by unfold RNSBase.q; rw [hbtgbase]; rfl, by unfold RNSBase.q; rw [hbtgbase]; rfl, hconv, igw, iginv⟩, fun i hi' => ?_, s0, s1,
    ⟨bt, cT, rcT, hbtwf, hbt1, hbt0, hcT⟩⟩, hi.n_eq, rfl, rfl⟩
  have hmw := hq.mwf i hi'
  have hstep := c01p_mapM_getD hi.prodTGammaModQ default default (i := i) (by simpa [RNSBase.size] using hi')
  have hi'' : i < r.baseQ.base.size := hi'
  rw [show r.baseQ.base.toList.getD i default = r.baseQ.q i by simp [RNSBase.q, Array.getD, List.getD, hi''],
    mulMod_exact hmw (by omega) (by omega)] at hstep
  have hlt : r.t.value * r.gamma.value % (r.baseQ.q i).value < (r.baseQ.q i).value := Nat.mod_lt _ (by have := hmw.two_le; omega)
  obtain ⟨e1, e2⟩ := mulOperand_new_eq hmw hlt hstep
  exact ⟨⟨by rw [e1]; exact hlt, by rw [e2, e1]⟩, e1⟩

/-- NON-VACUITY of `DecOK`: a level whose tool was built by the model's constructors (`RNSBase.new` on the level's moduli,
    then `RNSTool.new` with the level's degree and plain modulus) satisfies `DecOK` -/
theorem c01p_decOK_of_new {l : Level} {q : RNSBase} {aux : List Modulus}
    (hm : ∀ m ∈ l.qs.toList, m.WF) (hlen : l.qs.size ≤ 64) (ht : l.t.WF) (haux : ∀ m ∈ aux, m.WF)
    (hq : RNSBase.new l.qs.toList = .ok q) (h : RNSTool.new l.n q l.t aux = .ok l.tool) : DecOK l := by
  obtain ⟨hqwf, hqbase⟩ := RNSBase.new_wf hm (by simpa using hlen) hq
  obtain ⟨h1, h2, h3, h4⟩ := c01p_toolDecOK_of_new hqwf ht haux h
  exact ⟨h2, h3, by rw [h4, hqbase], h1⟩

/-- NON-VACUITY of `Level.WF` (C01O): tables built by `NTTTables.new` for the level's moduli -/
theorem c01p_levelWF_of_new {l : Level} (hn : l.n = 2^l.k) (hk : l.k ≤ 60) (hsz : l.tables.size = l.qs.size)
    (hm : ∀ i, i < l.size → (l.q i).WF)
    (ht : ∀ i, i < l.size → ∃ pr root0, root0 < 2^64 ∧ NTTTables.new l.k (l.q i) pr root0 = .ok (l.tbl i)) : l.WF := by
  refine ⟨hn, hsz, fun i hi => ?_⟩
  obtain ⟨pr, root0, hr, hnew⟩ := ht i hi
  obtain ⟨h1, h2, h3, _⟩ := NTTTables.new_wf_u64 (hm i hi) hk hr hnew
  exact ⟨h1, h3, h2⟩

/-- for an odd modulus product (all moduli odd, the only case the library's parameter sets produce) there are no ties -/
theorem c01p_noTie_of_odd {l : Level} (ph : Spec.ZPoly) (hodd : Spec.prodL (c01p_qvals l) % 2 = 1) : BgvNoTie l ph := by
  intro j _ h
  omega

/-! ## Property theorems -/

/-- MAIN (BFV, ANY size ≥ 2, coefficient form): the model's `bfvDecrypt` equals the exact-integer specification
    `trim (bfvDecode t Q (phase …))` under the BEHZ γ-condition on the exact phase -/
theorem bfvDecrypt_eq_spec {l : Level} (hl : l.WF) (hd : DecOK l) {sk : Array Int} (hsk : sk.size = l.n)
    {polys : Array RnsPoly} (h2 : 2 ≤ polys.size) (hc : ∀ k, k < polys.size → RnsCanon l (polys.getD k #[])) (cf : Nat)
    (hnoise : BehzDecryptOK l (Spec.phase (c01p_qvals l) l.n sk polys.toList)) :
    bfvDecrypt l sk ⟨polys, false, cf⟩ =
      .ok (Spec.trim (Spec.bfvDecode l.t.value (Spec.prodL (c01p_qvals l)) (Spec.phase (c01p_qvals l) l.n sk polys.toList))) := by
  obtain ⟨ph, hdot, hcan, hph⟩ := c01_dot_phase hl hd.lq hsk false h2 hc cf
  rw [c01e_cview_map_coeff] at hph
  rw [hph] at hnoise ⊢
  exact c01p_bfv_lift hd rfl hdot hcan hnoise

/-- MAIN (BGV, ANY size ≥ 2, NTT form, correction factor cf < 2^63 coprime to t): the model's `bgvDecrypt` equals the
    exact-integer specification on the coefficient forms of the input polynomials; ties x̃ = Q/2 excluded -/
theorem bgvDecrypt_eq_spec {l : Level} (hl : l.WF) (hd : DecOK l) {sk : Array Int} (hsk : sk.size = l.n)
    {polys : Array RnsPoly} (h2 : 2 ≤ polys.size) (hc : ∀ k, k < polys.size → RnsCanon l (polys.getD k #[]))
    {cf : Nat} (hcf : cf < 2^63) (hcop : Nat.Coprime cf l.t.value)
    (htie : BgvNoTie l (Spec.phase (c01p_qvals l) l.n sk (polys.toList.map (rnsIntt l)))) :
    bgvDecrypt l sk ⟨polys, true, cf⟩ =
      .ok (Spec.trim (Spec.bgvDecode l.t.value cf (Spec.phase (c01p_qvals l) l.n sk (polys.toList.map (rnsIntt l))))) := by
  obtain ⟨ph, hdot, hcan, hph⟩ := c01_dot_phase hl hd.lq hsk true h2 hc cf
  change Spec.phase _ _ _ (polys.toList.map (rnsIntt l)) = c01p_lift l (rnsIntt l ph) at hph
  rw [hph] at htie ⊢
  exact c01p_bgv_lift hd (ct := ⟨polys, true, cf⟩) rfl hdot (c01p_rnsIntt_canon hl hcan) hcf hcop htie

/-- BGV decryption (any size ≥ 2, NTT form) refuses a correction factor ≠ 1 that is not invertible modulo t -/
theorem bgvDecrypt_refuses_cf {l : Level} (hl : l.WF) (hd : DecOK l) {sk : Array Int} (hsk : sk.size = l.n)
    {polys : Array RnsPoly} (h2 : 2 ≤ polys.size) (hc : ∀ k, k < polys.size → RnsCanon l (polys.getD k #[]))
    {cf : Nat} (hcf : cf < 2^63) (hcf1 : cf ≠ 1) (hcop : ¬ Nat.Coprime cf l.t.value)
    (htie : BgvNoTie l (Spec.phase (c01p_qvals l) l.n sk (polys.toList.map (rnsIntt l)))) :
    bgvDecrypt l sk ⟨polys, true, cf⟩ = .error .refused := by
  obtain ⟨ph, hdot, hcan, hph⟩ := c01_dot_phase hl hd.lq hsk true h2 hc cf
  change Spec.phase _ _ _ (polys.toList.map (rnsIntt l)) = c01p_lift l (rnsIntt l ph) at hph
  rw [hph] at htie
  exact c01p_bgv_refuses_lift hd (ct := ⟨polys, true, cf⟩) rfl hdot (c01p_rnsIntt_canon hl hcan) hcf hcf1 hcop htie

theorem c01p_canon2 {l : Level} {c0 c1 : RnsPoly} (h0 : RnsCanon l c0) (h1 : RnsCanon l c1) :
    ∀ k, k < (#[c0, c1] : Array RnsPoly).size → RnsCanon l ((#[c0, c1] : Array RnsPoly).getD k #[])
  | 0, _ => h0
  | 1, _ => h1

/-- MAIN (BFV, size 2, coefficient form): the model's `bfvDecrypt` equals the exact-integer specification
    `trim (bfvDecode t Q (phase …))`, under the BEHZ γ-condition on the exact phase -/
theorem bfvDecrypt_size2_eq_spec {l : Level} (hl : l.WF) (hd : DecOK l) {sk : Array Int} (hsk : sk.size = l.n)
    {c0 c1 : RnsPoly} (h0 : RnsCanon l c0) (h1 : RnsCanon l c1)
    (hnoise : BehzDecryptOK l (Spec.phase (c01p_qvals l) l.n sk [c0, c1])) :
    bfvDecrypt l sk ⟨#[c0, c1], false, 1⟩ =
      .ok (Spec.trim (Spec.bfvDecode l.t.value (Spec.prodL (c01p_qvals l)) (Spec.phase (c01p_qvals l) l.n sk [c0, c1]))) :=
  bfvDecrypt_eq_spec hl hd hsk (polys := #[c0, c1]) (Nat.le_refl 2) (c01p_canon2 h0 h1) 1 hnoise

/-- MAIN (BGV, size 2, NTT form, any correction factor cf < 2^63 coprime to t): the model's `bgvDecrypt` equals the
    exact-integer specification on the coefficient forms of the input polynomials; ties x̃ = Q/2 excluded -/
theorem bgvDecrypt_size2_eq_spec {l : Level} (hl : l.WF) (hd : DecOK l) {sk : Array Int} (hsk : sk.size = l.n)
    {c0 c1 : RnsPoly} (h0 : RnsCanon l c0) (h1 : RnsCanon l c1) {cf : Nat} (hcf : cf < 2^63)
    (hcop : Nat.Coprime cf l.t.value)
    (htie : BgvNoTie l (Spec.phase (c01p_qvals l) l.n sk [rnsIntt l c0, rnsIntt l c1])) :
    bgvDecrypt l sk ⟨#[c0, c1], true, cf⟩ =
      .ok (Spec.trim (Spec.bgvDecode l.t.value cf (Spec.phase (c01p_qvals l) l.n sk [rnsIntt l c0, rnsIntt l c1]))) :=
  bgvDecrypt_eq_spec hl hd hsk (polys := #[c0, c1]) (Nat.le_refl 2) (c01p_canon2 h0 h1) hcf hcop htie

/-- BFV decryption refuses NTT-form ciphertexts -/
theorem bfvDecrypt_refuses_ntt (l : Level) (sk : Array Int) (ct : Ct) (h : ct.ntt = true) :
    bfvDecrypt l sk ct = .error .refused := by
  unfold bfvDecrypt
  rw [if_pos h]

/-- BGV decryption refuses coefficient-form ciphertexts -/
theorem bgvDecrypt_refuses_coeff (l : Level) (sk : Array Int) (ct : Ct) (h : ct.ntt = false) :
    bgvDecrypt l sk ct = .error .refused := by
  unfold bgvDecrypt
  rw [if_pos (by rw [h]; rfl)]

/-- both refuse ciphertexts with fewer than two polynomials -/
theorem bfvDecrypt_refuses_small (l : Level) (sk : Array Int) (ct : Ct) (h : ct.polys.size < 2) :
    bfvDecrypt l sk ct = .error .refused := by
  unfold bfvDecrypt
  split
  · rfl
  · unfold dotProductCtSk
    simp only [bind, Except.bind]
    rw [if_pos h]

theorem bgvDecrypt_refuses_small (l : Level) (sk : Array Int) (ct : Ct) (h : ct.polys.size < 2) :
    bgvDecrypt l sk ct = .error .refused := by
  unfold bgvDecrypt
  split
  · rfl
  · unfold dotProductCtSk
    simp only [bind, Except.bind]
    rw [if_pos h]

/-- BFV decryption refuses when the tool has no plain-modulus constants (built with t = 0, the CKKS case) -/
theorem bfvDecrypt_refuses_noT {l : Level} {sk : Array Int} {ct : Ct} {ph : RnsPoly} (hn : ct.ntt = false)
    (hdot : dotProductCtSk l sk ct = .ok ph) (h : l.tool.baseTGamma = none) :
    bfvDecrypt l sk ct = .error .refused := by
  unfold bfvDecrypt
  rw [if_neg (by rw [hn]; simp), hdot, R.ok_bind]
  unfold RNSTool.decryptScaleAndRound
  rw [h]
  rfl

/-- BGV decryption (size 2, NTT form) refuses a correction factor that is not invertible modulo t -/
theorem bgvDecrypt_size2_refuses_cf {l : Level} (hl : l.WF) (hd : DecOK l) {sk : Array Int} (hsk : sk.size = l.n)
    {c0 c1 : RnsPoly} (h0 : RnsCanon l c0) (h1 : RnsCanon l c1) {cf : Nat} (hcf : cf < 2^63) (hcf1 : cf ≠ 1)
    (hcop : ¬ Nat.Coprime cf l.t.value)
    (htie : BgvNoTie l (Spec.phase (c01p_qvals l) l.n sk [rnsIntt l c0, rnsIntt l c1])) :
    bgvDecrypt l sk ⟨#[c0, c1], true, cf⟩ = .error .refused :=
  bgvDecrypt_refuses_cf hl hd hsk (polys := #[c0, c1]) (Nat.le_refl 2) (c01p_canon2 h0 h1) hcf hcf1 hcop htie

/-! ### general size (any number ≥ 1 of polynomials), conditional on the per-component phase of the model

  The chain CRT ↔ `Spec.phase` (Horner in Z_Q[X]/(X^N+1)) ↔ BEHZ scaling / exact conveyance ↔ trimming under the hypothesis `hres`: the model's
  `dotProductCtSk` returns, in every RNS component, the Horner evaluation c_0 + s·(c_1 + s·(…)) modulo (X^N+1, q_i), written with the residue
  form `c01p_hornerRes`.  `c07s_dot_form` (C07D) proves this of every canonical ciphertext of size ≥ 2, which gives `bfvDecrypt_eq_spec` /
  `bgvDecrypt_eq_spec` above without the hypothesis. -/

theorem bfvDecrypt_eq_spec_of_phase {l : Level} (hd : DecOK l) {sk : Array Int} {ct : Ct} (hn : ct.ntt = false)
    (hn0 : 0 < l.n) (hne : ct.polys.toList ≠ []) (hsz : ∀ p ∈ ct.polys.toList, p.size = l.size)
    {ph : RnsPoly} (hdot : dotProductCtSk l sk ct = .ok ph) (hcan : RnsCanon l ph)
    (hres : ∀ i, i < l.size → ∃ a, c01p_hornerRes l.n (l.q i).value (skRes l sk i)
        (ct.polys.toList.map (fun p => p.getD i #[])) = some a ∧
        ∀ j, j < l.n → (ph.getD i #[]).getD j 0 = a.getD j 0 % (l.q i).value)
    (hnoise : BehzDecryptOK l (Spec.phase (c01p_qvals l) l.n sk ct.polys.toList)) :
    bfvDecrypt l sk ct =
      .ok (Spec.trim (Spec.bfvDecode l.t.value (Spec.prodL (c01p_qvals l)) (Spec.phase (c01p_qvals l) l.n sk ct.polys.toList))) := by
  rw [c01p_phase_of_hres hd.lq sk hne hres] at hnoise ⊢
  exact c01p_bfv_lift hd hn hdot hcan hnoise

theorem bgvDecrypt_eq_spec_of_phase {l : Level} (hd : DecOK l) {sk : Array Int} {ct : Ct} (hn : ct.ntt = true)
    (hn0 : 0 < l.n) (hne : ct.polys.toList ≠ []) (hcf : ct.cf < 2^63) (hcop : Nat.Coprime ct.cf l.t.value)
    {ph : RnsPoly} (hdot : dotProductCtSk l sk ct = .ok ph) (hcan : RnsCanon l (rnsIntt l ph))
    (hres : ∀ i, i < l.size → ∃ a, c01p_hornerRes l.n (l.q i).value (skRes l sk i)
        ((ct.polys.toList.map (rnsIntt l)).map (fun p => p.getD i #[])) = some a ∧
        ∀ j, j < l.n → ((rnsIntt l ph).getD i #[]).getD j 0 = a.getD j 0 % (l.q i).value)
    (htie : BgvNoTie l (Spec.phase (c01p_qvals l) l.n sk (ct.polys.toList.map (rnsIntt l)))) :
    bgvDecrypt l sk ct =
      .ok (Spec.trim (Spec.bgvDecode l.t.value ct.cf (Spec.phase (c01p_qvals l) l.n sk (ct.polys.toList.map (rnsIntt l))))) := by
  rw [c01p_phase_of_hres hd.lq sk (by simpa using hne) hres] at htie ⊢
  exact c01p_bgv_lift hd hn hdot hcan hcf hcop htie

/-- the hypothesis `hres` of `bfvDecrypt_eq_spec_of_phase` is what C01O proves for size 2 (so the general theorem
    specialises to `bfvDecrypt_size2_eq_spec`; non-vacuity of `hres`) -/
theorem c01p_hres_size2 {l : Level} (hl : l.WF) {sk : Array Int} (hsk : sk.size = l.n) {c0 c1 : RnsPoly}
    (h0 : RnsCanon l c0) (h1 : RnsCanon l c1) :
    ∃ ph, dotProductCtSk l sk ⟨#[c0, c1], false, 1⟩ = .ok ph ∧ RnsCanon l ph ∧
      ∀ i, i < l.size → ∃ a, c01p_hornerRes l.n (l.q i).value (skRes l sk i)
        ((#[c0, c1] : Array RnsPoly).toList.map (fun p => p.getD i #[])) = some a ∧
        ∀ j, j < l.n → (ph.getD i #[]).getD j 0 = a.getD j 0 % (l.q i).value := by
  obtain ⟨ph, hdot, hcan, hv⟩ := dotProduct_size2_coeff hl hsk h0 h1
  refine ⟨ph, hdot, hcan, fun i hi => ⟨_, rfl, fun j hj => ?_⟩⟩
  rw [array_getD_ofFn _ _ hj, hv i hi j hj, Nat.mod_mod, Nat.add_comm]

end HC
