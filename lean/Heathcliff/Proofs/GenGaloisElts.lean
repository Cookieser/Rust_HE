import Heathcliff.Gen.GaloisFns
import Heathcliff.Model.Galois
import Heathcliff.Proofs.GenWordScalar
import Heathcliff.Proofs.C08B
import Heathcliff.Proofs.C04M

/-!
  Translator tie for src/util/galois.rs: `GaloisTool::get_elt_from_step`, `get_elts_all`, `get_index_from_elt`, generated into
  `Heathcliff/Gen/GaloisFns.lean` (namespace `HC.GenG`; the fields `coeff_count`, `coeff_count_power` of the tool are inputs),
  against `eltFromStep` / `eltsAll` of `Heathcliff/Model/Galois.lean`.
  Helper names start with `gx_` (a tag of the translator run, shared with GenWordScalar, GenUint, GenNttArith for other functions).
-/
namespace HC
open HC.GenG

/-- a power of two with exponent below 64 is a word -/
theorem gx_pow_lt {a b : Nat} (h : a ≤ b) (hb : b < 64) : 2^a < 2^64 := Nat.pow_lt_pow_right (by decide) (by omega)

theorem gx_elt_loop_eq (s j : Nat) (hj : j ≤ 62) : ∀ cnt i e, e < 2^j →
    GenG.get_elt_from_step_loop1 s (2^j) 3 cnt i e =
      pure ((List.range cnt).foldl (fun e _ => (e * galoisGenerator) % 2^j) e) := by
  intro cnt
  induction cnt with
  | zero => intro i e _; rfl
  | succ n ih =>
    intro i e he
    have hm : 2^j ≤ 2^62 := Nat.pow_le_pow_right (by decide) hj
    rw [GenG.get_elt_from_step_loop1, foldl_range_succ_iter (fun e => (e * galoisGenerator) % 2^j)]
    simp only [ckMul_ok (show e * 3 < 2^64 by omega), ckSub_of_le (Nat.one_le_two_pow : 1 ≤ 2^j), bind, Except.bind, Nat.and_two_pow_sub_one_eq_mod]
    exact ih _ _ (Nat.mod_lt _ (Nat.two_pow_pos j))

/-- `get_elt_from_step(step)` of a tool with `coeff_count = 2^k` is the hand model's `eltFromStep k step`
    (`k ≤ 61`: `n * 2` and `galois_elt * 3` are overflow-checked in the code, unbounded in the model; the library has k ≤ 17) -/
theorem gx_get_elt_from_step_eq (k : Nat) (hk : k ≤ 61) (step : Int) :
    GenG.get_elt_from_step step (2^k) = eltFromStep k step := by
  have hn : 2^k ≤ 2^61 := Nat.pow_le_pow_right (by decide) hk
  have hm2 : 2^k * 2 = 2 * 2^k := Nat.mul_comm _ _
  have hm : 2 * 2^k = 2^(k+1) := (Nat.pow_succ').symm
  unfold GenG.get_elt_from_step eltFromStep
  simp only [ckMul_ok (show 2^k * 2 < 2^64 by omega), hm2, hm, ckSub_of_le (Nat.one_le_two_pow : 1 ≤ 2^(k+1)), bind, Except.bind,
    Nat.shiftRight_eq_div_pow, Nat.pow_one]
  by_cases h0 : step = 0
  · rw [if_pos h0, if_pos h0]; rfl
  · rw [if_neg h0, if_neg h0]
    by_cases hp : step.natAbs < 2^k / 2
    · have hloop := fun s => gx_elt_loop_eq s (k+1) (by omega) s 0 1 (Nat.one_lt_two_pow (Nat.succ_ne_zero k))
      rw [if_pos hp, if_neg (Nat.not_le.mpr hp), Nat.and_two_pow_sub_one_eq_mod, Nat.mod_eq_of_lt (show step.natAbs < 2^(k+1) by omega)]
      by_cases hs : step < 0
      · simp only [hs, decide_true, if_true, ckSub_of_le (Nat.le_of_lt hp)]; exact hloop _
      · simp only [hs, decide_false, if_false, Bool.false_eq_true]; exact hloop _
    · rw [if_neg hp, if_pos (Nat.not_lt.mp hp)]

/-- the loop of `get_elts_all` = the fold of the model's `eltsAll`.  `c04m_F m` (Proofs/C04M.lean) is that fold's step function under a name,
    `(l, p, q) ↦ (l ++ [p, q], p² mod m, q² mod m)`, which `eltsAll` has inline (`c04m_eltsAll_eq`: `eltsAll k` = this fold from
    `([2N − 1], 3, 3⁻¹)`); the C04 theorems about the element list are stated over it. -/
theorem gx_elts_loop_eq (j : Nat) (hj : j ≤ 32) : ∀ cnt i l p q, p < 2^j → q < 2^j →
    GenG.get_elts_all_loop1 (2^j) l cnt i p q =
      pure ((List.range cnt).foldl (c04m_F (2^j)) (l, p, q)).1 := by
  intro cnt
  induction cnt with
  | zero => intro i l p q _ _; rfl
  | succ n ih =>
    intro i l p q hp hq
    have hm : 2^j ≤ 2^32 := Nat.pow_le_pow_right (by decide) hj
    have hsq : ∀ x, x < 2^j → x * x < 2^64 := fun x hx =>
      Nat.lt_of_le_of_lt (Nat.mul_le_mul (show x ≤ 2^32 - 1 by omega) (show x ≤ 2^32 - 1 by omega)) (by decide)
    change _ = pure (List.foldl (fun a _ => c04m_F (2^j) a 0) (l, p, q) (List.range (n + 1))).1
    rw [GenG.get_elts_all_loop1, foldl_range_succ_iter (fun acc => c04m_F (2^j) acc 0)]
    simp only [ckMul_ok (hsq p hp), ckMul_ok (hsq q hq), ckSub_of_le (Nat.one_le_two_pow : 1 ≤ 2^j), bind, Except.bind, Nat.and_two_pow_sub_one_eq_mod]
    rw [ih _ _ _ _ (Nat.mod_lt _ (Nat.two_pow_pos j)) (Nat.mod_lt _ (Nat.two_pow_pos j))]
    simp only [c04m_F, List.append_assoc, List.cons_append, List.nil_append]
    rfl

/-- `get_elts_all()` of a tool with `coeff_count = 2^k`, `coeff_count_power = k` is the hand model's `eltsAll k`.
    `1 ≤ k`: the code evaluates `k * 2 - 1` and `k - 1` (checked: traps at k = 0, where the model truncates);
    `k ≤ 31`: the squarings `p * p` are overflow-checked in the code (the library has 1 ≤ k ≤ 17). -/
theorem gx_get_elts_all_eq (k : Nat) (hk1 : 1 ≤ k) (hk : k ≤ 31) : GenG.get_elts_all (2^k) k = eltsAll k := by
  unfold GenG.get_elts_all
  have hn : 2^k ≤ 2^31 := Nat.pow_le_pow_right (by decide) hk
  have hm2 : 2 * 2^k = 2^(k+1) := (Nat.pow_succ').symm
  have hshift : (2^k <<< 1) % B64 = 2^(k+1) := (shl_one_mod (show 2 * 2^k < 2^64 by omega)).trans hm2
  have h2k : 2^1 ≤ 2^k := Nat.pow_le_pow_right (by decide) hk1
  have hge2 : 2 ≤ 2^(k+1) := by omega
  have hlt61 : 2^(k+1) < 2^61 := by omega
  have hcop : Nat.gcd 3 (2^(k+1)) = 1 := Nat.Coprime.pow_right _ (by decide)
  obtain ⟨r, hr, hrlt, -⟩ := (tryInvert_spec_partial (v := 3) hge2 hlt61 (by decide) (by decide)).1 ⟨by decide, hcop⟩
  rw [c04m_eltsAll_eq (k := k) (inv := r) (by rw [hm2]; exact hr), hm2]
  simp only [hshift, ckSub_of_le (Nat.one_le_two_pow : 1 ≤ 2^(k+1)), ckMul_ok (show k * 2 < 2^64 by omega),
    ckSub_of_le (show 1 ≤ k * 2 by omega), ckSub_of_le hk1, bind, Except.bind,
    gw_try_invert_u64_mod_u64_eq 3 (2^(k+1)) 0 (by decide) hge2 hlt61, hr, pure, Except.pure]
  exact gx_elts_loop_eq (k+1) (by omega) _ 0 _ 3 r (by omega) hrlt

/-- `get_index_from_elt(g)`: refused (assertion) for even `g`, `(g - 1) / 2` for odd `g` — the table index `apply_ntt` uses -/
theorem gx_get_index_from_elt_eq (g : Nat) :
    GenG.get_index_from_elt g = if g % 2 = 1 then .ok ((g - 1) / 2) else .error .refused := by
  unfold GenG.get_index_from_elt
  rw [Nat.and_one_is_mod]
  by_cases h : g % 2 = 1
  · simp only [if_pos h, if_pos (show g % 2 > 0 by omega), ckSub_of_le (show 1 ≤ g by omega), Nat.shiftRight_eq_div_pow, Nat.pow_one,
      bind, Except.bind]; rfl
  · rw [if_neg h, if_neg (by omega)]

end HC
