import Heathcliff.Proofs.C14S
import Heathcliff.Proofs.C14T
import Heathcliff.Proofs.GenSerS
import Heathcliff.Proofs.Codec
import Heathcliff.Proofs.CodecExact
import Heathcliff.Gen.Serialize
/-
  C14  Serialization round-trips every object exactly, sizes exact, across contexts.

  Model: Heathcliff/Model/Codec.lean.  A `Codec α` is one `serialize`/`deserialize` pair: `enc`, `dec`,
  the Rust `serialized_size` (`size`), the domain (`valid`) and what a round trip returns (`norm`:
  the object itself; its seed-expanded form; for the selected-terms format polynomial 0 reduced to the
  selected coefficients).  External functions are parameters: `expand` (seed -> uniform polynomial; C16),
  `fwd`/`inv` (NTT of a component; C09).  Contexts are arbitrary maps from parms ids to levels, so a
  context rebuilt independently from the serialized parameters is covered as soon as it has the same
  levels (C13).

  Imports: the statements are those of Proofs/C14S.lean (its part "Property theorems"), C14T (validity in plain terms) and the
  translator ties GenSerS (with GenSerP below it); Gen/Serialize.lean is the generated field-order table of `gen_field_order_agrees`.
-/
namespace HC.C14
open HC.Codec

/-- (regenerated from the Rust source on every run) every `serialize*` / `deserialize*` pair of the
    anchored files writes and reads the same fields in the same order -/
theorem gen_field_order_agrees :
    HC.Gen.Serialize.fieldOrder.all (fun t => t.2.1 == t.2.2) = true := by decide

/-- Round trip with a continuation: decoding an encoding followed by any further bytes returns the
    (normalised) object and exactly those further bytes — for every lawful codec. -/
theorem round_trip {α} (c : Codec α) (hc : c.Lawful) (x : α) (hx : c.valid x) (rest : Bytes) :
    c.dec (c.enc x ++ rest) = .ok (c.norm x, rest) := hc.rt x hx rest

/-- announced size = bytes written (= bytes consumed, by `round_trip`) -/
theorem size_exact {α} (c : Codec α) (hc : c.Lawful) (x : α) (hx : c.valid x) :
    (c.enc x).length = c.size x := hc.len x hx

/-- consecutive objects in one stream are recovered independently, whatever follows -/
theorem stream_framing {α β} (a : Codec α) (b : Codec β) (ha : a.Lawful) (hb : b.Lawful)
    (x : α) (y : β) (hx : a.valid x) (hy : b.valid y) (rest : Bytes) :
    a.dec (a.enc x ++ (b.enc y ++ rest)) = .ok (a.norm x, b.enc y ++ rest) ∧
    b.dec (b.enc y ++ rest) = .ok (b.norm y, rest) :=
  ⟨ha.rt x hx _, hb.rt y hy _⟩

/-- every modelled wire format is a lawful codec, for every context, term list and external function -/
theorem modelled_types_lawful :
    u64C.Lawful ∧ usizeC.Lawful ∧ u8C.Lawful ∧ boolC.Lawful ∧ f64C.Lawful ∧ modulusC.Lawful ∧ schemeC.Lawful ∧
    pidC.Lawful ∧ (vecC u64C).Lawful ∧ (vecC modulusC).Lawful ∧ paramsC.Lawful ∧ plainC.Lawful ∧
    (∀ ctx expand, (ctC ctx expand).Lawful) ∧
    (∀ ctx expand fwd inv terms, (ctTermsC ctx expand fwd inv terms).Lawful) ∧
    (∀ ctx expand, (ctFullC ctx expand).Lawful) ∧
    (∀ ctx expand, (kswitchC (ctC ctx expand)).Lawful) ∧
    (∀ ctx expand, (c1dC (ctC ctx expand)).Lawful ∧ (c2dC (ctC ctx expand)).Lawful ∧ (c3dC (ctC ctx expand)).Lawful) ∧
    (∀ ctx expand fwd inv terms, (c1dC (ctTermsC ctx expand fwd inv terms)).Lawful ∧
        (c2dC (ctTermsC ctx expand fwd inv terms)).Lawful ∧ (c3dC (ctTermsC ctx expand fwd inv terms)).Lawful) ∧
    ((c1dC plainC).Lawful ∧ (c2dC plainC).Lawful ∧ (c3dC plainC).Lawful) ∧
    (∀ (ctxs : List Ctx) expand, (rnspC (ctxs.map fun cx => ctC cx expand)).Lawful) ∧
    (∀ (ctxs : List Ctx) expand, (rnspC (ctxs.map fun cx => kswitchC (ctC cx expand))).Lawful) ∧
    (∀ ctx, (polySerC ctx).Lawful) := by
  refine ⟨u64C_lawful, usizeC_lawful, u8C_lawful, boolC_lawful, u64C_lawful, u64C_lawful, schemeC_lawful,
    pidC_lawful, vecC_lawful _ u64C_lawful, vecC_lawful _ u64C_lawful, paramsC_lawful, plainC_lawful,
    ctC_lawful, ctTermsC_lawful, ctFullC_lawful, fun ctx e => kswitchC_lawful _ (ctC_lawful ctx e),
    fun ctx e => ⟨c1dC_lawful _ (ctC_lawful ctx e), c2dC_lawful _ (ctC_lawful ctx e), c3dC_lawful _ (ctC_lawful ctx e)⟩,
    fun ctx e f i t => ⟨c1dC_lawful _ (ctTermsC_lawful ctx e f i t), c2dC_lawful _ (ctTermsC_lawful ctx e f i t),
      c3dC_lawful _ (ctTermsC_lawful ctx e f i t)⟩,
    ⟨c1dC_lawful _ plainC_lawful, c2dC_lawful _ plainC_lawful, c3dC_lawful _ plainC_lawful⟩,
    fun ctxs e => rnspC_lawful _ (fun c hc => ?_), fun ctxs e => rnspC_lawful _ (fun c hc => ?_), polySerC_lawful⟩
  · obtain ⟨cx, _, rfl⟩ := List.mem_map.mp hc; exact ctC_lawful cx e
  · obtain ⟨cx, _, rfl⟩ := List.mem_map.mp hc; exact kswitchC_lawful _ (ctC_lawful cx e)

/-- `get_u64_limit`: the per-modulus byte width of the compact format holds every residue:
    `v < q ⇒ v < 256^limit(q)` (so `write_u64_limited` never trips its assertion and loses nothing) -/
theorem limit_width (q v : Nat) (h : v < q) : v < 256 ^ u64Limit q := u64Limit_width q v h

/-- hence a residue below the modulus survives `write_u64_limited` / `read_u64_limited` exactly -/
theorem limited_round_trip (q v : Nat) (h : v < q) (rest : Bytes) :
    (limC (u64Limit q)).dec ((limC (u64Limit q)).enc v ++ rest) = .ok (v, rest) := by
  have hv : (limC (u64Limit q)).valid v := limC_valid_of_lt _ v (u64Limit_width q v h)
  rw [(limC_lawful _).rt v hv rest, limC_exact _ v hv]

/-- Compact ciphertext (= public key) format, unseeded object: the restored object IS the original. -/
theorem ciphertext_round_trip (ctx : Ctx) (expand : List Nat → Level → Poly) (c : Ct)
    (hv : (ctC ctx expand).valid c) (hd : CtDefaults ctx c) (hs : c.seed = []) (rest : Bytes) :
    (ctC ctx expand).dec ((ctC ctx expand).enc c ++ rest) = .ok (c, rest) := by
  rw [(ctC_lawful ctx expand).rt c hv rest, ctC_norm ctx expand c hv, ctOfWire_toWire_id ctx expand c hd hs]

/-- Seed-compressed ciphertext: the restored object is the seed-expanded form — polynomial 0 as sent,
    polynomial 1 = `expand seed level`, no seed left. -/
theorem ciphertext_round_trip_seeded (ctx : Ctx) (expand : List Nat → Level → Poly) (c : Ct)
    (hv : (ctC ctx expand).valid c) (hd : CtDefaults ctx c) (hs : c.seed ≠ []) (rest : Bytes) :
    (ctC ctx expand).dec ((ctC ctx expand).enc c ++ rest)
      = .ok ({ c with polys := c.polys ++ [expand c.seed ((ctx.find c.pid).getD noLevel)], seed := [] }, rest) := by
  rw [(ctC_lawful ctx expand).rt c hv rest, ctC_norm ctx expand c hv, ctOfWire_toWire_seeded ctx expand c hd hs]

/-- Selected-terms format: the restored object has, in every component `j` of polynomial 0, the vector
    `fwd j (scatter terms (gather terms (inv j comp)))` (transforms only when in NTT form), i.e. the
    selected coefficients of the coefficient-form polynomial written into a zero polynomial; every
    other polynomial, the header fields and the expansion of a seed are as in the compact format. -/
theorem ciphertext_terms_round_trip (ctx : Ctx) (expand : List Nat → Level → Poly)
    (fwd inv : Level → Nat → List Nat → List Nat) (terms : List Nat) (c : Ct)
    (hv : (ctTermsC ctx expand fwd inv terms).valid c) (rest : Bytes) :
    (ctTermsC ctx expand fwd inv terms).dec ((ctTermsC ctx expand fwd inv terms).enc c ++ rest)
      = .ok (ctOfWire ctx expand (fun lv ntt p => mapIdx (fun j vals =>
              let comp := scatter lv.n terms vals
              if ntt then fwd lv j comp else comp) 0 p)
            (ctToWire ctx (fun lv ntt p => mapIdx (fun j comp =>
              gather terms (if ntt then inv lv j comp else comp)) 0 p) c), rest) := by
  rw [(ctTermsC_lawful ctx expand fwd inv terms).rt c hv rest, ctTermsC_norm ctx expand fwd inv terms c hv]

/-- containers and key sets inherit exactness from their items: a round trip of `Vec<I>` is the identity
    when it is for `I` (used for `Vec<Vec<PublicKey>>`, `Cipher1d/2d/3d`, `Plain1d/2d/3d`; a missing key
    is an empty inner vector and is restored as such) -/
theorem vec_round_trip {α} (c : Codec α) (hc : c.Lawful) (he : c.Exact) (l : List α) (hv : (vecC c).valid l)
    (rest : Bytes) : (vecC c).dec ((vecC c).enc l ++ rest) = .ok (l, rest) := by
  rw [(vecC_lawful c hc).rt l hv rest, vecC_exact c he l hv]

/-- Two statements: the selected-terms mask in closed form, and the closed-form Rust size formula of the
    compact ciphertext format equals the compositional `size` the theorems use.  Proved below
    (`TermsMaskStatement_proof`, `SizeClosedFormStatement_proof`, from Heathcliff/Proofs/C14S.lean).
    Both are exercised on every correspondence case (announced size = written = consumed = model size). -/
def TermsMaskStatement : Prop :=
  ∀ (n : Nat) (terms v : List Nat), v.length = n → (∀ t ∈ terms, t < n) →
    scatter n terms (gather terms v) = (List.range n).map (fun i => if i ∈ terms then v.getD i 0 else 0)

/-- the second statement: for every VALID ciphertext (so `size = 0` unseeded is not excepted here: the compact format's Rust formula
    has no exception; the selected-terms formula has one, `len_ct_terms_rust`) -/
def SizeClosedFormStatement : Prop :=
  ∀ (ctx : Ctx) (expand : List Nat → Level → Poly) (c : Ct), (ctC ctx expand).valid c →
    (ctC ctx expand).size c = ctSerializedSize ((ctx.find c.pid).getD noLevel) c.size c.seeded

/-! ### non-vacuity -/

example : (5 : Nat) < 256 ^ u64Limit 17 := limit_width 17 5 (by decide)
example : u64Limit 255 = 1 ∧ u64Limit 256 = 2 ∧ u64Limit 65537 = 3 ∧ u64Limit (2 ^ 56 - 1) = 7 ∧ u64Limit (2 ^ 56) = 8 := by
  refine ⟨?_, ?_, ?_, ?_, ?_⟩ <;> decide
example : plainC.dec (plainC.enc ⟨[1, 2, 3, 4], [7, 8], 4607182418800017408⟩ ++ [9, 9])
    = .ok (⟨[1, 2, 3, 4], [7, 8], 4607182418800017408⟩, [9, 9]) := by rfl


/-! ### closed-form sizes for every modelled type (= the Rust size functions), selected-terms mask identity and idempotence, the byte-width rule (q < 256^w, tight unless q is a power of 256), stream framing as a monoid law, refusals
    (statements, bundles, concrete instances and three refuted statements with witnesses: Heathcliff/Proofs/C14S.lean) -/

/-- scalars: `u64`/`usize`/`f64`/`Modulus` 8 bytes, `u8`/`bool`/`SchemeType` 1 byte, `ParmsID` 32 bytes -/
theorem len_scalars : type_of% @HC.Codec.c14s_len_scalars := @HC.Codec.c14s_len_scalars

/-- a residue written with width `w` takes `w` bytes (whatever its value) -/
theorem len_residue : type_of% @HC.Codec.c14s_len_residue := @HC.Codec.c14s_len_residue

/-- `Vec<I>` and the 1-d containers: 8 + the item sizes -/
theorem len_vec : type_of% @HC.Codec.c14s_len_vec := @HC.Codec.c14s_len_vec

/-- `EncryptionParameters`: 1 + 8 + (8 + 8k) + [8 if BFV/BGV] + 1 -/
theorem len_params : type_of% @HC.Codec.c14s_len_params := @HC.Codec.c14s_len_params

/-- `Plaintext` / `SecretKey`: 32 + (8 + 8·|data|) + 8 -/
theorem len_plain : type_of% @HC.Codec.c14s_len_plain := @HC.Codec.c14s_len_plain

/-- one polynomial in the compact format: `N · Σ_j limit(q_j)` -/
theorem len_poly : type_of% @HC.Codec.c14s_len_poly := @HC.Codec.c14s_len_poly

/-- `Ciphertext` / `PublicKey`, compact format, fully explicit:
    32 (parms id) + 8 (size) + 1 (NTT flag) + [8 scale/correction factor if CKKS/BGV] + 1 (seed flag)
    + (1 if seeded else size) · N · Σ_j limit(q_j) + [64 seed bytes if seeded] -/
theorem len_ct : type_of% @HC.Codec.c14s_len_ct := @HC.Codec.c14s_len_ct

/-- … and this is the Rust `Ciphertext::serialized_size` -/
theorem len_ct_rust : type_of% @HC.Codec.c14s_len_ct_rust := @HC.Codec.c14s_len_ct_rust

/-- selected-terms format: header + 1 + |T|·Σ limit for polynomial 0 + (size−1)·N·Σ limit for the others
    (seeded: |T|·Σ limit + 64) -/
theorem len_ct_terms : type_of% @HC.Codec.c14s_len_ct_terms := @HC.Codec.c14s_len_ct_terms

/-- … which is the Rust `serialized_terms_size` except at `size = 0` unseeded (see `c14s_TermsSizeStatement_false`) -/
theorem len_ct_terms_rust : type_of% @HC.Codec.c14s_len_ct_terms_rust := @HC.Codec.c14s_len_ct_terms_rust

/-- full format: header + 8 (word count) + 8 per word sent -/
theorem len_ct_full : type_of% @HC.Codec.c14s_len_ct_full := @HC.Codec.c14s_len_ct_full

/-- key sets: 32 + 8 + 8 per entry (present or missing) + `s` per key, all keys of size `s` -/
theorem len_kswitch : type_of% @HC.Codec.c14s_len_kswitch := @HC.Codec.c14s_len_kswitch

/-- containers of dimensions `d1`, `d1 × d2`, `d1 × d2 × d3` with items of size `s` -/
theorem len_c1d : type_of% @HC.Codec.c14s_len_c1d := @HC.Codec.c14s_len_c1d

/-- `d1 × d2`: 8 + d1·(8 + d2·s) -/
theorem len_c2d : type_of% @HC.Codec.c14s_len_c2d := @HC.Codec.c14s_len_c2d

/-- `d1 × d2 × d3`: 8 + d1·(8 + d2·(8 + d3·s)) -/
theorem len_c3d : type_of% @HC.Codec.c14s_len_c3d := @HC.Codec.c14s_len_c3d

/-- rns_plain objects: the component sizes added up -/
theorem len_rnsp : type_of% @HC.Codec.c14s_len_rnsp := @HC.Codec.c14s_len_rnsp

/-- `PolynomialSerializer` -/
theorem len_polySer : type_of% @HC.Codec.c14s_len_polySer := @HC.Codec.c14s_len_polySer

/-- monotonicity facts (see also `c14s_terms_le_compact`, `c14s_terms_mono`, `c14s_seeded_saving`,
    `c14s_full_seeded_lt_iff`): compact < full for `u64` moduli; seeded < expanded iff a polynomial exceeds 64 bytes -/
theorem size_monotonicity : type_of% @HC.Codec.c14s_size_monotonicity := @HC.Codec.c14s_size_monotonicity

/-- `decodeTerms (encodeTerms ct T ++ rest) = (maskTerms ct T, rest)`; `maskTerms` idempotent; `T ⊇ [0, N)` ⇒ identity -/
theorem terms_format : type_of% @HC.Codec.c14s_terms_format := @HC.Codec.c14s_terms_format

/-- `T ⊇ [0, N)`: the terms format restores what the compact format restores; on an unseeded API-built
    object that is the object itself -/
theorem terms_all : type_of% @HC.Codec.c14s_terms_all := @HC.Codec.c14s_terms_all

/-- the two statements `TermsMaskStatement`, `SizeClosedFormStatement` defined above hold -/
theorem TermsMaskStatement_proof : type_of% @HC.Codec.c14s_TermsMaskStatement_proof := @HC.Codec.c14s_TermsMaskStatement_proof

theorem SizeClosedFormStatement_proof : type_of% @HC.Codec.c14s_SizeClosedFormStatement_proof := @HC.Codec.c14s_SizeClosedFormStatement_proof

/-- for every admissible modulus `2 ≤ q < 2^61`: `get_u64_limit q` is the least `w` with `q < 256^w`, lies in
    `[1, 8]`, every residue round-trips with it, and — unless `q` is a power of 256 — a width is lossless for
    the largest residue `q − 1` iff it is at least `get_u64_limit q` -/
theorem width_rule : type_of% @HC.Codec.c14s_width_rule := @HC.Codec.c14s_width_rule

/-- stream framing: the encoding of a sequence of items is the concatenation of the item encodings (empty sequence ↦ no bytes,
    append ↦ append), `repC` / `vecC` write exactly that (the latter after the 8-byte count), and reading back `|xs|` items from it,
    whatever follows, returns the normalised items (the items themselves for an `Exact` format) and what follows -/
theorem framing_monoid : type_of% @HC.Codec.c14s_framing_monoid := @HC.Codec.c14s_framing_monoid

/-- the writer's `assert_eq!(value, 0)`: a value that does not fit the width is outside the writer's domain -/
theorem limC_refuses : type_of% @HC.Codec.c14s_limC_refuses := @HC.Codec.c14s_limC_refuses

/-- any strict prefix of any valid encoding is refused with `UnexpectedEof` (every lawful format) -/
theorem truncated_eof : type_of% @HC.Codec.c14s_truncated_eof := @HC.Codec.c14s_truncated_eof

/-- a well-formed parms id that the guard rejects is refused with `bad` right after its 32 bytes (the step behind
    `unknown_pid_refused`) -/
theorem guard_pid_dec_bad : type_of% @HC.Codec.c14s_guard_pid_dec_bad := @HC.Codec.c14s_guard_pid_dec_bad

/-- a parms id unknown to the context is refused by every ciphertext reader (compact, terms, full)
    right after the 32 id bytes, whatever follows -/
theorem unknown_pid_refused : type_of% @HC.Codec.c14s_unknown_pid_refused := @HC.Codec.c14s_unknown_pid_refused

/-- a scheme byte above 3 is refused (`SchemeType::from` panics) -/
theorem scheme_refused : type_of% @HC.Codec.c14s_scheme_refused := @HC.Codec.c14s_scheme_refused

/-- S1 for a key set of expanded public keys at one level: every present key costs the compact size of a
    size-2 ciphertext -/
theorem kswitch_ct_size : type_of% @HC.Codec.c14s_kswitch_ct_size := @HC.Codec.c14s_kswitch_ct_size

/-- for the transforms the driver uses (C09 `ntt` / `intt` on tables belonging to the level) and an NTT- or
    coefficient-form ciphertext whose polynomial 0 has reduced components of length `N`: masking is idempotent,
    and selecting all terms restores what the compact format restores -/
theorem terms_format_ntt : type_of% @HC.Codec.c14s_terms_format_ntt := @HC.Codec.c14s_terms_format_ntt

/-- two steps of the example `ex_ntt_instance`, not statements about serialization: a list whose members are below `q` has every
    `getD · 0` below `q`; polynomial 0 of the example ciphertext has the level's shape with residues reduced mod 97 -/
theorem getD_lt_of_all : type_of% @HC.Codec.c14s_getD_lt_of_all := @HC.Codec.c14s_getD_lt_of_all

theorem exCtNtt_hp0 : type_of% @HC.Codec.c14s_exCtNtt_hp0 := @HC.Codec.c14s_exCtNtt_hp0

/-- the hypotheses of `c14s_terms_format_ntt` hold on a concrete NTT-form seeded ciphertext with tables built by `NTTTables.new` -/
theorem ex_ntt_instance : type_of% @HC.Codec.c14s_ex_ntt_instance := @HC.Codec.c14s_ex_ntt_instance

/-! ### the validity predicate of the ciphertext codecs in plain terms (IFF), and the converse `valid ⇒ CtWF` (Proofs/C14T.lean) -/

/-- well-formedness ⇒ validity (compact format; C14S) -/
theorem ctC_valid_of_CtWF : type_of% @HC.Codec.c14s_ctC_valid := @HC.Codec.c14s_ctC_valid

/-- COMPACT FORMAT, validity in plain terms (IFF): header words in range where the level's scheme puts them on the wire, the parms
    id known to the context, polynomial count right for the seed flag, the seed 8 words or absent, every polynomial of the level's
    shape with coefficients representable in `limit(q_j)` bytes (`c14t_CtWFw` = `c14s_CtWF` with the scale / correction-factor
    bounds required only for CKKS / BGV levels) -/
theorem ctC_valid_iff : type_of% @HC.Codec.c14t_ctC_valid_iff := @HC.Codec.c14t_ctC_valid_iff

/-- SELECTED-TERMS FORMAT, validity in plain terms (IFF) -/
theorem ctTermsC_valid_iff : type_of% @HC.Codec.c14t_ctTermsC_valid_iff := @HC.Codec.c14t_ctTermsC_valid_iff

/-- `c14s_CtWF ⇔ c14t_CtWFw ∧ scale < 2^64 ∧ cf < 2^64` -/
theorem CtWF_iff : type_of% @HC.Codec.c14t_CtWF_iff := @HC.Codec.c14t_CtWF_iff

/-- THE CONVERSE on the image of the code (every Rust `Ciphertext` has `scale: f64`, `correction_factor: u64`): a valid ciphertext
    whose two header fields are 64-bit words is well formed (`c14s_CtWF`) and its polynomial 0 fits -/
theorem ctC_valid_imp_CtWF : type_of% @HC.Codec.c14t_ctC_valid_imp_CtWF := @HC.Codec.c14t_ctC_valid_imp_CtWF

/-- the same for the selected-terms format -/
theorem ctTermsC_valid_imp_CtWF : type_of% @HC.Codec.c14t_ctTermsC_valid_imp_CtWF := @HC.Codec.c14t_ctTermsC_valid_imp_CtWF

/-- `valid ⇔ c14s_CtWF ∧ polynomial 0 fits` for objects whose two header fields are words -/
theorem ctC_valid_iff_CtWF : type_of% @HC.Codec.c14t_ctC_valid_iff_CtWF := @HC.Codec.c14t_ctC_valid_iff_CtWF

/-- REFUTED naive converse `valid ⇒ c14s_CtWF` for the model's unbounded `Nat` fields (witness: one BFV level, scale field 2^64 —
    BFV does not serialize the scale, so the codec's domain does not constrain it).  A finding about the model's domain, not the
    library. -/
theorem validImpCtWF_refuted : type_of% @HC.Codec.c14t_validImpCtWF_refuted := @HC.Codec.c14t_validImpCtWF_refuted

/-- converses of the elementary lemmas: fixed-length sequences and the compact polynomial codec accept exactly what fits -/
theorem repC_valid_iff : type_of% @HC.Codec.c14t_repC_valid_iff := @HC.Codec.c14t_repC_valid_iff
/-- … the compact polynomial codec: `valid` ⇔ the level's shape with every coefficient below `256 ^ limit(q_j)` -/
theorem polyC_valid_iff : type_of% @HC.Codec.c14t_polyC_valid_iff := @HC.Codec.c14t_polyC_valid_iff


/-! ### translator tie: the serializer SOURCE (src/serialize.rs, regenerated into Gen/SerFns.lean on every run) is the model
    (Proofs/GenSer.lean writers, GenSerR.lean readers and sizes, GenSerL.lean compact-width helpers, GenSerP.lean these statements) -/

/-- SOURCE WRITERS: on an in-memory stream every generated `serialize` (u64, usize, u8, bool, f64, Modulus, SchemeType, Vec<u64>,
    Vec<Modulus>, ParmsID, EncryptionParameters, Plaintext, `write_u64_limited`) appends exactly `Codec.enc` and returns its length -/
theorem gen_writers_produce_enc : type_of% @HC.GS.c14g_writers_produce_enc := @HC.GS.c14g_writers_produce_enc

/-- SOURCE READERS: every generated `deserialize` is `Codec.dec`; `EncryptionParameters` = `paramsC.dec` followed by the count check of
    `set_coeff_modulus` (a panic in the code); `read_u64_limited` = `limC.dec` for widths ≤ 8 on a stream of bytes -/
theorem gen_readers_are_dec : type_of% @HC.GS.c14g_readers_are_dec := @HC.GS.c14g_readers_are_dec

/-- SOURCE SIZES: every generated `serialized_size`, `get_u64_limit`, `Ciphertext::serialized_size / serialized_terms_size /
    serialized_full_size` is the model's size function (`len_*`, `len_ct_rust`, … are about those) -/
theorem gen_sizes_are_model : type_of% @HC.GS.c14g_sizes_are_model := @HC.GS.c14g_sizes_are_model

/-- from source to source: generated `Plaintext::deserialize` ∘ generated `Plaintext::serialize` = identity, with continuation -/
theorem gen_plain_source_round_trip : type_of% @HC.GS.c14g_plain_source_round_trip := @HC.GS.c14g_plain_source_round_trip

/-- the same for `EncryptionParameters` with 1..64 coefficient moduli -/
theorem gen_params_source_round_trip : type_of% @HC.GS.c14g_params_source_round_trip := @HC.GS.c14g_params_source_round_trip

/-- the excluded point, as a theorem: a parameter object WITHOUT coefficient moduli is serialized, the model decodes it, the code's
    reader refuses (panic in `set_coeff_modulus`) — the model's `paramsC` is more permissive than the code here -/
theorem gen_params_empty_modulus_refused : type_of% @HC.GS.c14g_params_empty_modulus_refused := @HC.GS.c14g_params_empty_modulus_refused

/-- `serialized_terms_size` of an empty unseeded ciphertext at a level with ≥ 1 modulus TRAPS in `upper - 1` (the model's closed form
    returns a number there; cf. `c14s_TermsSizeStatement_false`) -/
theorem gen_terms_size_traps_on_empty : type_of% @HC.GS.gr_ct_terms_size_traps := @HC.GS.gr_ct_terms_size_traps

/-- the compact width from the SOURCE composed with the width rule: a residue below a `u64` modulus survives the generated
    `write_u64_limited` / `read_u64_limited` pair exactly (bytes = model bytes, value back, rest untouched) -/
theorem gen_limited_source_round_trip (q v : Nat) (hq : q < 2 ^ 64) (hv : v < q) (rest : Bytes) (hr : ∀ b ∈ rest, b < 256) :
    ∃ w, HC.GenS.get_u64_limit q = .ok w ∧
      HC.GenS.read_u64_limited w ((HC.GenS.write_u64_limited HC.GS.idealStream v w []).2 ++ rest) = .ok (v, rest) := by
  refine ⟨u64Limit q, HC.GS.gr_get_u64_limit q hq, ?_⟩
  have hw := u64Limit_width q v hv
  have hwr := HC.GS.gs_ideal (limC (u64Limit q)) v _ (HC.GS.gl_write_u64_limited HC.GS.idealStream v (u64Limit q) hw) []
  rw [hwr]
  simp only [List.nil_append]
  have hb : ∀ b ∈ (limC (u64Limit q)).enc v ++ rest, b < 256 := by
    intro b hb
    rcases List.mem_append.mp hb with h | h
    · have he : (limC (u64Limit q)).enc v = flat (seqChunks (List.replicate (u64Limit q) u8C) (leBytes (u64Limit q) v)) := rfl
      rw [he] at h
      exact HC.GS.gs_limC_enc_bytes _ _ b h
    · exact hr b h
  rw [HC.GS.gl_read_u64_limited _ (u64Limit_le_8 q hq) _ hb]
  exact limited_round_trip q v hv rest

/-- CIPHERTEXT LEVEL (skeleton readings: context lookup = the level, ciphertext = the view `CtV`): generated `Ciphertext::serialize_full`
    on an in-memory stream appends exactly `ctFullC.enc` (seeded objects: `k·N + 1 + 8` words) and returns its length -/
theorem gen_ct_serialize_full_produces_enc : type_of% @HC.GS.c14g_ct_serialize_full := @HC.GS.c14g_ct_serialize_full

/-- COMPACT FORMAT (the format of `Ciphertext` / `PublicKey` and, item-wise, of key sets and `Cipher1d/2d/3d`): generated
    `impl SerializableWithHeContext for Ciphertext :: serialize` — three nested loops, every coefficient through `write_u64_limited` with
    the width `get_u64_limit(q_j)`, then the seed words — on an in-memory stream appends exactly `ctC.enc` and returns its length,
    for every ciphertext of the level's shape (`CtShape`: counts, `k × N` coefficients, coefficients representable — e.g. reduced) -/
theorem gen_ct_serialize_produces_enc : type_of% @HC.GS.c14g_ct_serialize := @HC.GS.c14g_ct_serialize

/-- KEY SETS: generated `KSwitchKeys::serialize` (parms id, then the context-dependent `Vec<Vec<PublicKey>>`, each key through the compact
    ciphertext writer; `RelinKeys` / `GaloisKeys` are the same function) appends exactly `kswitchC.enc`; a missing key is an empty inner
    vector.  The generated code works on views of the keys: `PkView ctx v x` = "`v` is the view of the model ciphertext `x`, whose level the
    context finds, with `u64` moduli, a real scheme and the level's shape" -/
theorem gen_kswitch_serialize_produces_enc : type_of% @HC.GS.c14g_kswitch_serialize := @HC.GS.c14g_kswitch_serialize

/-- reduced residues are representable (the `fit` clause of `CtShape` from `limit_width`) -/
theorem gen_ct_shape_fit_of_reduced : type_of% @HC.GS.gd_fit_of_reduced := @HC.GS.gd_fit_of_reduced

/-- its refusals: unknown parms id (panic) and shape mismatch (`InvalidData`) before anything is written; scheme `None` after 41 header bytes -/
theorem gen_ct_serialize_full_refusals : type_of% @HC.GS.c14g_ct_serialize_full_refusals := @HC.GS.c14g_ct_serialize_full_refusals

/-- SECOND ROUND, READERS.  Generated `Ciphertext::deserialize_full` agrees with the model's `ctFullC.dec` on everything the model accepts
    (same ciphertext as the flat `from_members` record, same remaining bytes); `hpos`: k·N > 0 at every level -/
theorem gen_ct_full_reader_agrees : type_of% @HC.GS.gf_full_ok := @HC.GS.gf_full_ok

/-- flat-word format, from source to source: generated reader ∘ generated writer = the round-trip value (seed expanded), with continuation -/
theorem gen_ct_full_source_round_trip : type_of% @HC.GS.c14g_ct_full_source_round_trip := @HC.GS.c14g_ct_full_source_round_trip

/-- `SecretKey` (writer, reader, size) = its plaintext's, from the source; source round trip -/
theorem gen_secret_key : type_of% @HC.GS.c14g_secret_key := @HC.GS.c14g_secret_key

/-- KEY SETS, sizes from the source: generated `KSwitchKeys::serialized_size` (through `PublicKey`, the context `Vec<I>`, `Ciphertext`
    size functions) = `kswitchC.size`; `RelinKeys` / `GaloisKeys` are the same function -/
theorem gen_kswitch_sizes_are_model : type_of% @HC.GS.gs2_kswitch_size := @HC.GS.gs2_kswitch_size

/-- … hence announced size = count returned by the writer = bytes on the wire, all three from the source -/
theorem gen_kswitch_announced_eq_written : type_of% @HC.GS.c14g_kswitch_announced_eq_written := @HC.GS.c14g_kswitch_announced_eq_written

/-- STATEMENT ONLY (not proved): the generated COMPACT reader `Ciphertext::deserialize` returns the model's round-trip value on every valid
    encoding.  Proved about that reader: prefix monotonicity (Props/C15 `gen_ct_reader_truncation_partial`). -/
def GenCtSourceRoundTripStatement : Prop := HC.GS.GenCtSourceRoundTripStatement

/-! non-vacuity of the phase-4i statements -/
example : HC.GenS.plain_deserialize ((HC.GenS.plain_serialize HC.GS.idealStream ⟨[1, 2, 3, 4], [7, 8], 4607182418800017408⟩ []).2 ++ [9, 9])
    = .ok (⟨[1, 2, 3, 4], [7, 8], 4607182418800017408⟩, [9, 9]) := by rfl
example : (HC.GenS.params_serialize HC.GS.idealStream ⟨1, 8, [17, 257], 65537, true⟩ []) =
    (.ok 42, [1, 8,0,0,0,0,0,0,0, 2,0,0,0,0,0,0,0, 17,0,0,0,0,0,0,0, 1,1,0,0,0,0,0,0, 1,0,1,0,0,0,0,0, 1]) := by rfl
example : HC.GenS.params_deserialize (HC.GenS.params_serialize HC.GS.idealStream ⟨1, 8, [17, 257], 65537, true⟩ []).2
    = .ok (⟨1, 8, [17, 257], 65537, true⟩, []) := by rfl
example : HC.GenS.ct_serialized_size ⟨[⟨[1, 2, 3, 4], 3, 8, [17, 65537]⟩], 5, 8⟩ ⟨[1, 2, 3, 4], 2, true, 0, 1, false, [], fun _ => [], fun _ _ => [], 2, 8⟩ = .ok (32 + 8 + 1 + 8 + 1 + 2 * 8 * 1 + 2 * 8 * 3) := by rfl
example : HC.GenS.ct_serialized_terms_size ⟨[⟨[1, 2, 3, 4], 1, 8, [17]⟩], 5, 8⟩ ⟨[1, 2, 3, 4], 0, true, 0, 1, false, [], fun _ => [], fun _ _ => [], 1, 8⟩ 3 = .error .overflow := by rfl
/-- `serialize_full` of a seeded BGV ciphertext at a level with one modulus, N = 2: the hypotheses of `gen_ct_serialize_full_produces_enc`
    hold and 32 + 8 + 1 + 8 + 8 + (2 + 1 + 8)·8 = 145 bytes are produced -/
example :
    let ctx : Ctx := ⟨[⟨[1, 2, 3, 4], 3, 2, [17]⟩], 5, 2⟩
    let c : CtFull := ⟨[1, 2, 3, 4], 2, false, 4607182418800017408, 1, [3, 4, 18446744073709551615, 1, 2, 3, 4, 5, 6, 7, 8]⟩
    let lv : Level := ⟨[1, 2, 3, 4], 3, 2, [17]⟩
    ctx.find c.pid = some lv ∧ c.pid.length = 4 ∧ lv.scheme = 3 ∧ fullSent lv c = 11 ∧
    (HC.GenS.ct_serialize_full HC.GS.idealStream ctx (HC.GS.ctvOfFull lv c) []).1 = .ok 145 := by
  refine ⟨rfl, rfl, rfl, rfl, rfl⟩
/-- compact format, seeded BFV ciphertext, two moduli (1 and 2 bytes wide), N = 2: `CtShape` holds and
    32 + 8 + 1 + 1 + 2·1 + 2·2 + 64 = 112 bytes are produced, equal to the model's encoding -/
example :
    let ctx : Ctx := ⟨[⟨[1, 2, 3, 4], 1, 2, [17, 257]⟩], 5, 2⟩
    let c : Ct := ⟨[1, 2, 3, 4], 2, true, 4607182418800017408, 1, [[[3, 16], [256, 7]]], [1, 2, 3, 4, 5, 6, 7, 8]⟩
    let lv : Level := ⟨[1, 2, 3, 4], 1, 2, [17, 257]⟩
    ctx.find c.pid = some lv ∧ HC.GS.CtShape lv c ∧
    HC.GenS.ct_serialize HC.GS.idealStream ctx (HC.GS.ctvOfCt lv c) [] = (.ok 112, (ctC ctx (fun _ _ => [])).enc c) := by
  refine ⟨rfl, ⟨rfl, ?_, ?_, rfl⟩, by rfl⟩
  · intro p hp
    have : p = [[3, 16], [256, 7]] := by simpa using hp
    subst this
    refine ⟨rfl, ?_⟩
    intro comp hc
    have : comp = [3, 16] ∨ comp = [256, 7] := by simpa using hc
    rcases this with rfl | rfl <;> rfl
  · intro p hp j hj x hx
    have : p = [[3, 16], [256, 7]] := by simpa using hp
    subst this
    have hj2 : j < 2 := hj
    match j, hj2 with
    | 0, _ =>
      have : x = 3 ∨ x = 16 := by simpa using hx
      rcases this with rfl | rfl <;> decide
    | 1, _ =>
      have : x = 256 ∨ x = 7 := by simpa using hx
      rcases this with rfl | rfl <;> decide
/-- a key set with one present key (size-2 BFV ciphertext, one 1-byte modulus, N = 2) and one missing entry:
    32 + 8 + (8 + (32 + 8 + 1 + 1 + 4)) + 8 = 102 bytes, equal to the model's encoding -/
example :
    let lv : Level := ⟨[1, 2, 3, 4], 1, 2, [17]⟩
    let ctx : Ctx := ⟨[lv], 5, 2⟩
    let c : Ct := ⟨[1, 2, 3, 4], 2, true, 4607182418800017408, 1, [[[3, 16]], [[5, 6]]], []⟩
    HC.GenS.kswitch_serialize HC.GS.idealStream ctx ⟨[1, 2, 3, 4], [[HC.GS.ctvOfCt lv c], []]⟩ []
      = (.ok 102, (kswitchC (ctC ctx (fun _ _ => []))).enc ⟨[1, 2, 3, 4], [[c], []]⟩) := by rfl
set_option maxRecDepth 8000 in
/-- flat-word format, seeded BGV ciphertext (one modulus, N = 9; a seeded object needs k·N ≥ 9 words for flag + seed): the generated
    reader applied to the generated writer's 201 bytes gives the seed-expanded ciphertext (`expand seed _ = seed ++ [0]` here), nothing left -/
example :
    let lv : Level := ⟨[1, 2, 3, 4], 3, 9, [17]⟩
    let ctx : Ctx := ⟨[lv], 5, 9⟩
    let c : CtFull := ⟨[1, 2, 3, 4], 2, false, 4607182418800017408, 1, [3, 4, 5, 6, 7, 8, 9, 10, 11, 18446744073709551615, 1, 2, 3, 4, 5, 6, 7, 8]⟩
    HC.GenS.ct_deserialize_full (fun s _ => s ++ [0]) ctx (HC.GenS.ct_serialize_full HC.GS.idealStream ctx (HC.GS.ctvOfFull lv c) []).2
      = .ok (⟨2, 1, 9, [3, 4, 5, 6, 7, 8, 9, 10, 11, 1, 2, 3, 4, 5, 6, 7, 8, 0], [1, 2, 3, 4], 4607182418800017408, 1, false⟩, []) := by rfl

end HC.C14
