import Heathcliff.Proofs.C02X
import Heathcliff.Proofs.C02S
import Heathcliff.Proofs.C02SB
import Heathcliff.Proofs.GenEvalSq
import Heathcliff.Proofs.C02W
import Heathcliff.Proofs.C02V
import Heathcliff.Proofs.C02K
import Heathcliff.Proofs.GenEval
import Heathcliff.Proofs.GenScalingSpec
import Heathcliff.Proofs.GenPolySpec
import Heathcliff.Proofs.GenEvalCt
import Heathcliff.Proofs.GenEvalCt3
import Heathcliff.Proofs.C02P
import Heathcliff.Proofs.C02PH
import Heathcliff.Proofs.C02PW
import Heathcliff.Proofs.C02PG
import Heathcliff.Proofs.C02PGW
import Heathcliff.Proofs.C02PF
import Heathcliff.Proofs.C02PFW
import Heathcliff.Proofs.C02PRW

/- The property theorems of C02, restated from the proof modules by `type_of%`: each statement and the docstring that says what it claims stand at the
   theorem of the same name in the module its section names.  Labels: GENERATED = MODEL — a function regenerated from the Rust source equals the hand
   model; ONE THEOREM — that equality composed with the model's specification, a statement about the generated code alone; HOM — a program theorem
   (induction over programs of model operations); PARTIAL — a statement that covers part of the cases of the one after it. -/
namespace HC.C02
open HC
open Finset
variable {R : Type} [CommRing R]

/-- INDEX ARITHMETIC: for output polynomial i the loop visits exactly the pairs (a, b), a < n1, b < n2, a + b = i, each once -/
theorem mulPairs_spec {n1 n2 i : Nat} (h1 : 1 ≤ n1) (h2 : 1 ≤ n2) (hi : i < n1 + n2 - 1) :
    (mulPairs n1 n2 i).Nodup ∧ ∀ a b, (a, b) ∈ mulPairs n1 n2 i ↔ (a < n1 ∧ b < n2 ∧ a + b = i) := HC.mulPairs_spec h1 h2 hi

/-- PRODUCT: the polynomials d_i = Σ_{(a,b) ∈ mulPairs} c_a·e_b, i < n1+n2-1, have phase(c)·phase(e) — for every pair of sizes -/
theorem ct_mul_phase {n1 n2 : Nat} (h1 : 1 ≤ n1) (h2 : 1 ≤ n2) (c e : Nat → R) (s : R) :
    ctPhase (n1 + n2 - 1) (fun i => ((mulPairs n1 n2 i).map (fun p => c p.1 * e p.2)).sum) s
      = ctPhase n1 c s * ctPhase n2 e s := HC.ct_mul_phase h1 h2 c e s

/-- ADD / SUB of ciphertexts of different sizes: the shorter operand is zero-extended; in a subtraction the polynomials taken
    over from a larger subtrahend are negated -/
theorem translate_phase (n1 n2 : Nat) (sub : Bool) (a b : Nat → R) (s : R) :
    ctPhase (max n1 n2) (fun i => ((translateShape n1 n2).map (trVal sub a b)).getD i 0) s
      = if sub then ctPhase n1 a s - ctPhase n2 b s else ctPhase n1 a s + ctPhase n2 b s := HC.translate_phase n1 n2 sub a b s

/-- negation -/
theorem negate_phase (n : Nat) (a : Nat → R) (s : R) : ctPhase n (fun i => - a i) s = - ctPhase n a s := HC.negate_phase n a s

/-- multiplication by a plaintext polynomial p (every ciphertext polynomial multiplied by p) -/
theorem mul_plain_phase (n : Nat) (a : Nat → R) (p s : R) : ctPhase n (fun i => a i * p) s = ctPhase n a s * p := HC.mul_plain_phase n a p s

/-- adding a plaintext touches only c_0 -/
theorem add_plain_phase (n : Nat) (hn : 1 ≤ n) (a : Nat → R) (p s : R) :
    ctPhase n (fun i => if i = 0 then a i + p else a i) s = ctPhase n a s + p := HC.add_plain_phase n hn a p s

/-- BALANCING: whenever `balance_correction_factors` succeeds, e1·f1 ≡ e2·f2 ≡ f (mod t) and f < t -/
theorem balance_spec {t : Modulus} (ht : t.WF) {f1 f2 f e1 e2 : Nat} (h1 : f1 < t.value) (h2 : f2 < t.value)
    (h : balanceCorrectionFactors f1 f2 t = .ok (f, e1, e2)) :
    (e1 * f1) % t.value = f ∧ (e2 * f2) % t.value = f ∧ f < t.value := HC.balance_spec ht h1 h2 h

/-- and it always succeeds for unit factors -/
theorem balance_total {t : Modulus} (ht : t.WF) {f1 f2 : Nat} (h1 : f1 < t.value) (h2 : f2 < t.value)
    (hc1 : Nat.Coprime f1 t.value) : ∃ r, balanceCorrectionFactors f1 f2 t = .ok r := HC.balance_total ht h1 h2 hc1

/-- SUM UNDER BALANCING: if phase_k ≡ f_k·m_k (mod t) then e1·phase1 + e2·phase2 ≡ f·(m1 + m2) (mod t) -/
theorem bgv_add_balanced {t : Int} {f1 f2 f e1 e2 p1 p2 m1 m2 : Int}
    (hp1 : p1 ≡ f1 * m1 [ZMOD t]) (hp2 : p2 ≡ f2 * m2 [ZMOD t])
    (he1 : e1 * f1 ≡ f [ZMOD t]) (he2 : e2 * f2 ≡ f [ZMOD t]) :
    e1 * p1 + e2 * p2 ≡ f * (m1 + m2) [ZMOD t] := HC.bgv_add_balanced hp1 hp2 he1 he2

/-- PRODUCT: correction factors multiply -/
theorem bgv_mul_factor {t : Int} {f1 f2 p1 p2 m1 m2 : Int}
    (hp1 : p1 ≡ f1 * m1 [ZMOD t]) (hp2 : p2 ≡ f2 * m2 [ZMOD t]) :
    p1 * p2 ≡ (f1 * f2) * (m1 * m2) [ZMOD t] := HC.bgv_mul_factor hp1 hp2

theorem prog_hom {S T : Type} [CommRing S] [CommRing T] (dec : S →+* T) (inp pl : Nat → S) (p : Prog) :
    dec (p.eval inp pl) = p.eval (fun k => dec (inp k)) (fun k => dec (pl k)) := HC.prog_hom dec inp pl p

/-- non-vacuity: sizes 3 × 2: output polynomial 2 collects the pairs (1,1), (2,0) -/
example : mulPairs 3 2 2 = [(1, 1), (2, 0)] := by decide


/-! ### evaluator operations of the model are the ring operations on phases, for all sizes 2..16
    (statements with their docstrings, hypothesis bundles and non-vacuity instances: Heathcliff/Proofs/C02V.lean) -/

theorem ctNegate_spec : type_of% @HC.ctNegate_spec := @HC.ctNegate_spec

theorem ctNegate_phase : type_of% @HC.ctNegate_phase := @HC.ctNegate_phase

theorem ctTranslate_spec : type_of% @HC.ctTranslate_spec := @HC.ctTranslate_spec

theorem ctTranslate_phase : type_of% @HC.ctTranslate_phase := @HC.ctTranslate_phase

theorem ctTranslate_refuse_ntt : type_of% @HC.ctTranslate_refuse_ntt := @HC.ctTranslate_refuse_ntt

theorem ctTranslate_error_cf : type_of% @HC.ctTranslate_error_cf := @HC.ctTranslate_error_cf

theorem ctMultiplyDyadic_refuse : type_of% @HC.ctMultiplyDyadic_refuse := @HC.ctMultiplyDyadic_refuse

theorem ctMultiplyDyadic_spec : type_of% @HC.ctMultiplyDyadic_spec := @HC.ctMultiplyDyadic_spec

theorem ctMultiplyDyadic_phase : type_of% @HC.ctMultiplyDyadic_phase := @HC.ctMultiplyDyadic_phase

theorem ctMultiplyDyadic_slot : type_of% @HC.ctMultiplyDyadic_slot := @HC.ctMultiplyDyadic_slot

theorem ctMultiplyDyadic_coeff : type_of% @HC.ctMultiplyDyadic_coeff := @HC.ctMultiplyDyadic_coeff

theorem ctMultiplyPlainNtt_refuse : type_of% @HC.ctMultiplyPlainNtt_refuse := @HC.ctMultiplyPlainNtt_refuse

theorem ctMultiplyPlainNtt_spec : type_of% @HC.ctMultiplyPlainNtt_spec := @HC.ctMultiplyPlainNtt_spec

theorem ctMultiplyPlainNtt_phase : type_of% @HC.ctMultiplyPlainNtt_phase := @HC.ctMultiplyPlainNtt_phase

theorem bgvMultiply_spec : type_of% @HC.bgvMultiply_spec := @HC.bgvMultiply_spec

theorem bgvMultiply_refuse : type_of% @HC.bgvMultiply_refuse := @HC.bgvMultiply_refuse

theorem bgvMultiply_canon : type_of% @HC.bgvMultiply_canon := @HC.bgvMultiply_canon

theorem ctTranslateBalanced_same : type_of% @HC.ctTranslateBalanced_same := @HC.ctTranslateBalanced_same

theorem ctTranslateBalanced_refuse : type_of% @HC.ctTranslateBalanced_refuse := @HC.ctTranslateBalanced_refuse

theorem ctTranslateBalanced_spec : type_of% @HC.ctTranslateBalanced_spec := @HC.ctTranslateBalanced_spec

theorem ctTranslateBalanced_phase : type_of% @HC.ctTranslateBalanced_phase := @HC.ctTranslateBalanced_phase

theorem ctTranslateBalanced_total : type_of% @HC.ctTranslateBalanced_total := @HC.ctTranslateBalanced_total

theorem bgvDecode_balanced : type_of% @HC.bgvDecode_balanced := @HC.bgvDecode_balanced

theorem bgvDecode_mul : type_of% @HC.bgvDecode_mul := @HC.bgvDecode_mul

theorem bgvDecode_balanced_poly : type_of% @HC.bgvDecode_balanced_poly := @HC.bgvDecode_balanced_poly

theorem CtCanon_of_ctValid : type_of% @HC.CtCanon.of_ctValid := @HC.CtCanon.of_ctValid


/-! ### squaring: the model's OWN squaring routines (`bgvSquare`, `ckksSquare`: size-2 fast path `c0², c0·c1 + c0·c1, c1²`, fallback to the
    product routine for every other size — mirrors of `bgv_square` / `ckks_square`, which the driver runs for `ct_op square`) are the
    products of the ciphertext with itself; every `_spec` / `_phase` theorem of the product transfers (statements with their docstrings:
    Heathcliff/Proofs/C02S.lean; `bfvSquare`: Proofs/C02SB.lean) -/

theorem bgvSquare_eq : type_of% @HC.bgvSquare_eq := @HC.bgvSquare_eq

theorem ckksSquare_eq : type_of% @HC.ckksSquare_eq := @HC.ckksSquare_eq

theorem ckksSquare_spec : type_of% @HC.ckksSquare_spec := @HC.ckksSquare_spec

theorem ckksSquare_phase : type_of% @HC.ckksSquare_phase := @HC.ckksSquare_phase

theorem bgvSquare_spec : type_of% @HC.bgvSquare_spec := @HC.bgvSquare_spec

theorem bgvSquare_phase : type_of% @HC.bgvSquare_phase := @HC.bgvSquare_phase

theorem bgvSquare_cf : type_of% @HC.bgvSquare_cf := @HC.bgvSquare_cf

theorem bgvSquare_refuse : type_of% @HC.bgvSquare_refuse := @HC.bgvSquare_refuse
theorem bgvSquare_refuse_size : type_of% @HC.bgvSquare_refuse_size := @HC.bgvSquare_refuse_size
theorem ckksSquare_refuse : type_of% @HC.ckksSquare_refuse := @HC.ckksSquare_refuse
theorem ckksSquare_refuse_size : type_of% @HC.ckksSquare_refuse_size := @HC.ckksSquare_refuse_size

theorem bfvSquare_eq : type_of% @HC.bfvSquare_eq := @HC.bfvSquare_eq

theorem bfvSquare_ok : type_of% @HC.bfvSquare_ok := @HC.bfvSquare_ok

theorem bfvSquare_refuse_ntt : type_of% @HC.bfvSquare_refuse_ntt := @HC.bfvSquare_refuse_ntt
theorem bfvSquare_refuse_size : type_of% @HC.bfvSquare_refuse_size := @HC.bfvSquare_refuse_size

theorem bgvSquare_witness_fast : type_of% @HC.c02s_witness_fast := @HC.c02s_witness_fast
theorem bgvSquare_witness_fallback : type_of% @HC.c02s_witness_fallback := @HC.c02s_witness_fallback

/-! ### BEHZ `bfvMultiply` of the model end to end: totality and shape for all sizes, exact integer semantics per coefficient (one alpha < |q| per coefficient), ring-level phase identity; constants derived from RNSTool.new
    (statements with their docstrings, hypothesis bundles and non-vacuity instances: Heathcliff/Proofs/C02W.lean, section "Property theorems") -/

theorem bfvMultiply_ok : type_of% @HC.bfvMultiply_ok := @HC.bfvMultiply_ok

theorem bfvMultiply_canon : type_of% @HC.bfvMultiply_canon := @HC.bfvMultiply_canon

theorem bfvMultiply_refuse_ntt : type_of% @HC.bfvMultiply_refuse_ntt := @HC.bfvMultiply_refuse_ntt

theorem bfvMultiply_refuse_size : type_of% @HC.bfvMultiply_refuse_size := @HC.bfvMultiply_refuse_size

theorem ctMultiplyDyadic_refuse_size : type_of% @HC.ctMultiplyDyadic_refuse_size := @HC.ctMultiplyDyadic_refuse_size

theorem bfvMultiply_refuse_empty : type_of% @HC.bfvMultiply_refuse_empty := @HC.bfvMultiply_refuse_empty

theorem bfvLift_spec : type_of% @HC.bfvLift_spec := @HC.bfvLift_spec

theorem bfvMultiply_coeff : type_of% @HC.bfvMultiply_coeff := @HC.bfvMultiply_coeff

theorem bfvMultiply_coeff_of_new : type_of% @HC.bfvMultiply_coeff_of_new := @HC.bfvMultiply_coeff_of_new

theorem bfvMultiply_phase : type_of% @HC.bfvMultiply_phase := @HC.bfvMultiply_phase

/-! ### translator tie: `Evaluator::balance_correction_factors` (src/evaluator.rs) generated into Gen/EvalFns.lean equals
     `balanceCorrectionFactors` of Model/Evaluator.lean (Proofs/GenEval.lean).  The hypotheses are the types of the parameters
     (`factor2 : u64`), the domain of the `try_invert_u64_mod_u64` tie (`factor1 < 2^63`, the `as i64` casts) and a well-formed plain
     modulus (2 ≤ t < 2^61 with its Barrett ratio: what `Modulus::new` builds).  On that domain NONE of the overflow-checked i64
     operations of the code that the hand model leaves unchecked (`x as i64 - t as i64`, `abs`, `+`, `/`, `%`, `q * b`) can trap: the
     proof carries the invariant of the extended Euclid (0 ≤ a ≤ prev_a ≤ t, alternating cofactor signs, |b|·prev_a + |prev_b|·a = t). -/
theorem gen_balance_correction_factors_eq {t : Modulus} (ht : t.WF) (f1 f2 : Nat) (h1 : f1 < 2^63) (h2 : f2 < 2^64) :
    GenE.balance_correction_factors f1 f2 t = balanceCorrectionFactors f1 f2 t := HC.gy_balance_correction_factors_eq ht f1 f2 h1 h2

/-- the closure `sum_abs` of the code = |bal x| + |bal y| of the hand model (no i64 trap below 2^62) -/
theorem gen_balance_sum_abs_eq (t x y : Nat) (ht : t < 2^61) (hx : x < 2^62) (hy : y < 2^62) :
    GenE.balance_correction_factors_closure1 t (t >>> 1) x y = .ok (((gy_bal t x).natAbs + (gy_bal t y).natAbs : Nat) : Int) :=
  HC.gy_closure1_eq t x y ht hx hy

/-- the generated loop = the hand model's `balanceLoop` followed by the final `multiply_u64_mod`, from any state satisfying the Euclid invariant -/
theorem gen_balance_loop_eq {t : Modulus} (ht : t.WF) (f1 fuel : Nat) (prevA a prevB b : Int) (e1 e2 : Nat) (sum : Int)
    (hI : gy_Inv t.value prevA a prevB b) :
    GenE.balance_correction_factors_loop1 f1 t t.value (t.value >>> 1) fuel e1 e2 sum prevA prevB a b
    = (balanceLoop t fuel prevA a prevB b e1 e2 sum >>= fun r => mulMod r.1 f1 t >>= fun f => pure (f, r.1, r.2)) :=
  HC.gy_loop_eq ht f1 fuel prevA a prevB b e1 e2 sum hI


/-! ### BEHZ multiply: noise growth bound, exact decoding of the product, soundness of the harness's conservative budget rule, model-level `bfvDecrypt (bfvMultiply a b) = trim (decode a * decode b)`;
    `pred_mul_…` are about the harness's rule `Prog::pred_mul` (harness/src/c02.rs)
    (statements with their docstrings, hypothesis bundles and non-vacuity instances: Heathcliff/Proofs/C02X.lean, section "Property theorems") -/

theorem bfv_noise_split : type_of% @HC.bfv_noise_split := @HC.bfv_noise_split

theorem bfvMultiply_noise : type_of% @HC.bfvMultiply_noise := @HC.bfvMultiply_noise

theorem bfvMultiply_noise_2x2 : type_of% @HC.bfvMultiply_noise_2x2 := @HC.bfvMultiply_noise_2x2

theorem bfvMultiply_decode : type_of% @HC.bfvMultiply_decode := @HC.bfvMultiply_decode

theorem bfvDecrypt_bfvMultiply : type_of% @HC.bfvDecrypt_bfvMultiply := @HC.bfvDecrypt_bfvMultiply

theorem c02x_noiseNorm_half : type_of% @HC.c02x_noiseNorm_half := @HC.c02x_noiseNorm_half

theorem bfvMultiply_budget : type_of% @HC.bfvMultiply_budget := @HC.bfvMultiply_budget

theorem bfvMultiply_decode_of_budget : type_of% @HC.bfvMultiply_decode_of_budget := @HC.bfvMultiply_decode_of_budget

theorem pred_mul_sound_2x2 : type_of% @HC.pred_mul_sound_2x2 := @HC.pred_mul_sound_2x2

theorem bfvDecrypt_bfvMultiply_of_new : type_of% @HC.bfvDecrypt_bfvMultiply_of_new := @HC.bfvDecrypt_bfvMultiply_of_new

theorem pred_mul_sound_general : type_of% @HC.pred_mul_sound_general := @HC.pred_mul_sound_general

theorem bfvDecrypt_bfvMultiply_of_budget : type_of% @HC.bfvDecrypt_bfvMultiply_of_budget := @HC.bfvDecrypt_bfvMultiply_of_budget

theorem pred_mul_decrypt_2x2_of_new : type_of% @HC.pred_mul_decrypt_2x2_of_new := @HC.pred_mul_decrypt_2x2_of_new

theorem c02x_noiseLe_norm : type_of% @HC.c02x_noiseLe_norm := @HC.c02x_noiseLe_norm

theorem bfvMultiply_budget_split : type_of% @HC.bfvMultiply_budget_split := @HC.bfvMultiply_budget_split

theorem bfvMultiply_decode_of_budget_split : type_of% @HC.bfvMultiply_decode_of_budget_split := @HC.bfvMultiply_decode_of_budget_split

theorem pred_mul_sound_small : type_of% @HC.pred_mul_sound_small := @HC.pred_mul_sound_small

theorem bfvMultiply_noiseLe : type_of% @HC.bfvMultiply_noiseLe := @HC.bfvMultiply_noiseLe

theorem bfvDecrypt_bfvMultiply_refuses_1x1 : type_of% @HC.bfvDecrypt_bfvMultiply_refuses_1x1 := @HC.bfvDecrypt_bfvMultiply_refuses_1x1

theorem bfvDecrypt_bfvMultiply_refuses_ntt : type_of% @HC.bfvDecrypt_bfvMultiply_refuses_ntt := @HC.bfvDecrypt_bfvMultiply_refuses_ntt

theorem c02x_threshold_example : type_of% @HC.c02x_threshold_example := @HC.c02x_threshold_example

/-! ### translator tie: the BFV scaling behind `add_plain` / `sub_plain` (src/util/scaling_variant.rs, generated into
    `Heathcliff/Gen/ScalingFns.lean`); the `multiply_add_plain` half is restated in Props/C01.lean -/

/-- GENERATED = MODEL: `multiply_sub_plain`, generated from the Rust source, run on the flat destination buffer, IS the hand model
    `multiplySubPlain` on the corresponding `RnsPoly` (flattened again), successes and arithmetic traps alike.
    `plain.size ≤ l.n` is a hypothesis because the code has NO `assert!` here: a longer plaintext writes into the neighbouring
    component and ends in an out-of-bounds panic (non-empty chain), where the model refuses. -/
theorem gen_multiply_sub_plain_eq (l : Level) (cdp : Array MulOperand) (qModT upperHalf : Nat) (plain : Poly) (dest : List Nat)
    (hcdp : l.size ≤ cdp.size) (hp : plain.size ≤ l.n) (ht : l.t.value ≠ 0) (hq : qModT < 2^64)
    (hw : ∀ i, i < plain.size → plain.getD i 0 < 2^64) (hl : dest.length = l.size * l.n) (hB : dest.length < B64) :
    GenS.multiply_sub_plain dest l.qs.toList plain.size l.n l.t cdp.toList upperHalf qModT plain.toList =
      Except.map (flattenRns l.size l.n) (multiplySubPlain l cdp qModT upperHalf plain (unflattenRns l.size l.n dest)) :=
  HC.gz_multiply_sub_plain_eq l cdp qModT upperHalf plain dest hcdp hp ht hq hw hl hB

/-- ONE THEOREM (`sub_plain`, BFV): the code generated from `multiply_sub_plain` subtracts Δ(m_i) = round(Q·m_i/t) modulo q_j from
    coefficient i of component j and leaves the other words unchanged -/
theorem gen_multiply_sub_plain_spec {l : Level} {Q : Nat} {cdp : Array MulOperand} (h : ScalingOK l Q cdp) (plain : Poly) (dest : List Nat)
    (hp : plain.size ≤ l.n) (hm : ∀ i, i < plain.size → plain.getD i 0 < l.t.value)
    (hl : dest.length = l.size * l.n) (hB : dest.length < B64)
    (hd : ∀ j, j < l.size → ∀ i, i < plain.size → dest.getD (j * l.n + i) 0 < (l.q j).value) :
    GenS.multiply_sub_plain dest l.qs.toList plain.size l.n l.t cdp.toList ((l.t.value + 1) / 2) (Q % l.t.value) plain.toList =
      .ok ((List.range (l.size * l.n)).map fun p =>
        if p % l.n < plain.size then
          (dest.getD p 0 + (l.q (p / l.n)).value - deltaM Q l.t.value (plain.getD (p % l.n) 0) % (l.q (p / l.n)).value) % (l.q (p / l.n)).value
        else dest.getD p 0) :=
  HC.gen_multiply_sub_plain_spec h plain dest hp hm hl hB hd

/-- ONE THEOREM (`add_plain`, BFV): `multiply_add_plain` adds Δ(m_i) modulo q_j (= `HC.C01.gen_multiply_add_plain_spec`) -/
theorem gen_multiply_add_plain_spec : type_of% @HC.gen_multiply_add_plain_spec := @HC.gen_multiply_add_plain_spec

/-! ### translator tie: the coefficient-wise kernels of src/util/polysmallmod.rs (generated into `Heathcliff/Gen/PolyFns.lean`,
    `HC.GenP`; proofs and full statements in Proofs/GenPoly.lean, Proofs/GenPolySpec.lean; the seven kernels tied in
    Proofs/GenRnsKernels.lean are not repeated here) -/

/-- `add(comp1, comp2, modulus, result)` = `zipM'` with `addMod` on the first `result.len()` words (body of `rnsAdd`); `assert!` refusal for shorter inputs -/
theorem gen_poly_add_eq : type_of% @HC.gp_poly_add_eq := @HC.gp_poly_add_eq

/-- `add_inplace` = `zipM'` with `addMod`; refusal when `comp2` is shorter -/
theorem gen_poly_add_inplace_eq : type_of% @HC.gp_poly_add_inplace_eq := @HC.gp_poly_add_inplace_eq

/-- `sub` = `zipM'` with `subMod` (body of `rnsSub`) -/
theorem gen_poly_sub_eq : type_of% @HC.gp_poly_sub_eq := @HC.gp_poly_sub_eq

/-- `negate` (zip: stops at the shorter slice, rest of `result` kept) -/
theorem gen_poly_negate_eq : type_of% @HC.gp_poly_negate_eq := @HC.gp_poly_negate_eq

/-- `negate` for equal lengths = `mapM'` with `negateMod` (body of `rnsNeg`) -/
theorem gen_poly_negate_model : type_of% @HC.gp_poly_negate_model := @HC.gp_poly_negate_model

/-- `add_scalar` (zip truncation) -/
theorem gen_poly_add_scalar_eq : type_of% @HC.gp_poly_add_scalar_eq := @HC.gp_poly_add_scalar_eq

/-- `sub_scalar` (zip truncation) -/
theorem gen_poly_sub_scalar_eq : type_of% @HC.gp_poly_sub_scalar_eq := @HC.gp_poly_sub_scalar_eq

/-- `multiply_scalar` (zip truncation) -/
theorem gen_poly_multiply_scalar_eq : type_of% @HC.gp_poly_multiply_scalar_eq := @HC.gp_poly_multiply_scalar_eq

/-- `multiply_scalar` for equal lengths = `mapM'` with `mulMod · scalar` (body of `rnsScale`) -/
theorem gen_poly_multiply_scalar_model : type_of% @HC.gp_poly_multiply_scalar_model := @HC.gp_poly_multiply_scalar_model

/-- `multiply_operand` (zip truncation) -/
theorem gen_poly_multiply_operand_eq : type_of% @HC.gp_poly_multiply_operand_eq := @HC.gp_poly_multiply_operand_eq

/-- `dyadic_product` = the hand model's `dyadicProduct` (body of `rnsDyadic`); inputs at least as long as `result` (shorter: index panic) -/
theorem gen_poly_dyadic_product_eq : type_of% @HC.gp_poly_dyadic_product_eq := @HC.gp_poly_dyadic_product_eq

/-- `dyadic_product_inplace` = `dyadicProduct` -/
theorem gen_poly_dyadic_product_inplace_eq : type_of% @HC.gp_poly_dyadic_product_inplace_eq := @HC.gp_poly_dyadic_product_inplace_eq

/-- `multiply_scalar_p`: the kernel applied to the consecutive `degree`-blocks of the flat buffer, block i with `moduli[i]` -/
theorem gen_poly_multiply_scalar_p_blocks : type_of% @HC.gp_poly_multiply_scalar_p_blocks := @HC.gp_poly_multiply_scalar_p_blocks

/-- ONE THEOREM (`add`): generated code computes (a + b) mod q coefficient-wise on canonical inputs -/
theorem gen_poly_add_spec : type_of% @HC.gen_poly_add_spec := @HC.gen_poly_add_spec

/-- ONE THEOREM (`add_inplace`) -/
theorem gen_poly_add_inplace_spec : type_of% @HC.gen_poly_add_inplace_spec := @HC.gen_poly_add_inplace_spec

/-- ONE THEOREM (`sub`): (a − b) mod q -/
theorem gen_poly_sub_spec : type_of% @HC.gen_poly_sub_spec := @HC.gen_poly_sub_spec

/-- ONE THEOREM (`negate_inplace`): (−a) mod q -/
theorem gen_poly_negate_inplace_spec : type_of% @HC.gen_poly_negate_inplace_spec := @HC.gen_poly_negate_inplace_spec

/-- ONE THEOREM (`multiply_scalar`): a·s mod q -/
theorem gen_poly_multiply_scalar_spec : type_of% @HC.gen_poly_multiply_scalar_spec := @HC.gen_poly_multiply_scalar_spec

/-- ONE THEOREM (`dyadic_product`): a·b mod q -/
theorem gen_poly_dyadic_product_spec : type_of% @HC.gen_poly_dyadic_product_spec := @HC.gen_poly_dyadic_product_spec

/-- non-vacuity of the hypotheses of `gen_poly_add_spec`: q = 97, (5, 96) + (95, 3) = (3, 2) -/
example : GenP.poly_add [5, 96] [95, 3] gz_m97 [0, 0] = .ok [3, 2] := by
  have h := HC.gen_poly_add_spec gz_m97_wf [5, 96] [95, 3] [0, 0] (by decide) (by decide) (by decide) (by decide)
  exact h

/-! ### translator tie: the multi-component wrappers of polysmallmod.rs on the flat layout = the model's `RnsPoly` operations
    (Proofs/GenPolyRns.lean), and the ciphertext-level `negate_inplace` / `translate_inplace` of src/evaluator.rs (Proofs/GenEvalCt.lean) -/

/-- `add_inplace_p` on the flat layout = `rnsAdd` on `unflattenRns` -/
theorem gen_poly_add_inplace_p_model : type_of% @HC.gp_poly_add_inplace_p_model := @HC.gp_poly_add_inplace_p_model

/-- `sub_inplace_p` = `rnsSub` -/
theorem gen_poly_sub_inplace_p_model : type_of% @HC.gp_poly_sub_inplace_p_model := @HC.gp_poly_sub_inplace_p_model

/-- `negate_inplace_p` = `rnsNeg` -/
theorem gen_poly_negate_inplace_p_model : type_of% @HC.gp_poly_negate_inplace_p_model := @HC.gp_poly_negate_inplace_p_model

/-- `dyadic_product_inplace_p` = `rnsDyadic` -/
theorem gen_poly_dyadic_product_inplace_p_model : type_of% @HC.gp_poly_dyadic_product_inplace_p_model := @HC.gp_poly_dyadic_product_inplace_p_model

/-- `multiply_scalar_inplace_p` = `compsMap l.qs · (mulMod · scalar)` -/
theorem gen_poly_multiply_scalar_inplace_p_model : type_of% @HC.gp_poly_multiply_scalar_inplace_p_model := @HC.gp_poly_multiply_scalar_inplace_p_model

/-- `add_inplace_ps`: `rnsAdd` of the first `pcount` polynomials, the rest kept -/
theorem gen_poly_add_inplace_ps_model : type_of% @HC.gp_poly_add_inplace_ps_model := @HC.gp_poly_add_inplace_ps_model

/-- `sub_inplace_ps` -/
theorem gen_poly_sub_inplace_ps_model : type_of% @HC.gp_poly_sub_inplace_ps_model := @HC.gp_poly_sub_inplace_ps_model

/-- `negate_inplace_ps` -/
theorem gen_poly_negate_inplace_ps_model : type_of% @HC.gp_poly_negate_inplace_ps_model := @HC.gp_poly_negate_inplace_ps_model

/-- `multiply_scalar_inplace_ps` -/
theorem gen_poly_multiply_scalar_inplace_ps_model : type_of% @HC.gp_poly_multiply_scalar_inplace_ps_model := @HC.gp_poly_multiply_scalar_inplace_ps_model

/-- FLATTEN LEMMA: `flattenRns` of a list of `n`-blocks = their concatenation -/
theorem flattenRns_blocks : type_of% @HC.flattenRns_blocks := @HC.flattenRns_blocks

/-- `Evaluator::negate_inplace` (skeleton over the flat buffer) = `ctNegate` -/
theorem gen_ct_negate_inplace_eq : type_of% @HC.gc_negate_inplace_eq := @HC.gc_negate_inplace_eq

/-- … an invalid ciphertext is refused -/
theorem gen_ct_negate_inplace_refuses : type_of% @HC.gc_negate_inplace_refuses := @HC.gc_negate_inplace_refuses

/-- `Evaluator::translate_inplace` (add / sub), equal factors and equal sizes = `ctTranslate` -/
theorem gen_ct_translate_inplace_same_size : type_of% @HC.gc_translate_inplace_same_size := @HC.gc_translate_inplace_same_size

/-- PARTIAL (flat level): unequal factors: both operands scaled over all their polynomials, then the equal-factor routine -/
theorem gen_ct_translate_inplace_balance_partial : type_of% @HC.gc_translate_inplace_balance_partial := @HC.gc_translate_inplace_balance_partial

/-- PARTIAL (flat level): `size1 < size2`, subtraction: common part subtracted, tail copied and negated -/
theorem gen_ct_translate_inplace_sub_tail_partial : type_of% @HC.gc_translate_inplace_sub_tail_partial := @HC.gc_translate_inplace_sub_tail_partial

/-! ### translator tie: `Evaluator::translate_inplace` = `ctTranslate` / `ctTranslateBalanced` IN GENERAL (Proofs/GenEvalCt3.lean):
     all size pairs (the longer-second-operand tail is copied and, in a subtraction, negated; the longer-first-operand rest is kept) and
     unequal correction factors (BGV balancing: both operands scaled over ALL their polynomials, common factor, equal-factor routine).
     The two `_partial` statements above are its cases; the balanced theorem is proved through the first. -/
theorem gen_ct_translate_inplace_eq_general : type_of% @HC.gt_translate_inplace_eq_general := @HC.gt_translate_inplace_eq_general
theorem gen_ct_translate_inplace_balanced : type_of% @HC.gt_translate_inplace_balanced := @HC.gt_translate_inplace_balanced
theorem gen_ct_translate_inplace_top_eq : type_of% @HC.gt_translate_inplace_top_eq := @HC.gt_translate_inplace_top_eq
theorem gen_ct_translate_inplace_refuses_size : type_of% @HC.gt_translate_inplace_refuses_size := @HC.gt_translate_inplace_refuses_size
/-- non-vacuity: the hypothesis bundle of the two general theorems holds on the example BGV level (two moduli 17, n = 2, t = 5) for a
    size-2 and a size-3 ciphertext with factors 1 and 2, subtraction -/
example : HC.GenC.ct_translate_inplace (List.replicate 8 1) 2 1 (List.replicate 12 2) 3 2 true true true true false true
      HC.c02v_exLevel.qs.toList HC.c02v_exLevel.t HC.c02v_exLevel.n =
    Except.map (fun c => (HC.flattenCt HC.c02v_exLevel c, max 2 3, c.cf))
      (HC.ctTranslateBalanced HC.c02v_exLevel (HC.unflattenCt HC.c02v_exLevel 2 (List.replicate 8 1) true 1)
        (HC.unflattenCt HC.c02v_exLevel 3 (List.replicate 12 2) true 2) true) :=
  HC.gt_translate_inplace_balanced HC.c02v_exLevel _ _ 2 3 true 1 2 true (by decide) HC.c02v_exT_wf (by norm_num) (by norm_num)
    (Or.inr (by decide)) (by decide) (by decide) (by decide) (by decide) (by decide)
example : HC.GenC.ct_translate_inplace_eq (List.replicate 12 1) 3 1 (List.replicate 8 2) 2 1 false true true true false true
      HC.c02v_exLevel.qs.toList HC.c02v_exLevel.t HC.c02v_exLevel.n =
    Except.map (fun c => (HC.flattenCt HC.c02v_exLevel c, max 3 2, 1))
      (HC.ctTranslate HC.c02v_exLevel (HC.unflattenCt HC.c02v_exLevel 3 (List.replicate 12 1) true 1)
        (HC.unflattenCt HC.c02v_exLevel 2 (List.replicate 8 2) true 1) false) :=
  HC.gt_translate_inplace_eq_general HC.c02v_exLevel _ _ 3 2 true 1 false _ (Or.inr (by decide)) (by decide) (by decide) (by decide) (by decide) (by decide)

/-! ### THE PROGRAM-LEVEL HOMOMORPHISM THEOREM (BGV), by induction over programs of model operations
    (program syntax / evaluation / a-priori bookkeeping: Model/Program.lean; proofs: Proofs/C02PL.lean — every evaluator operation on the exact phase,
    read off the ring phase of C03P — and C02PH.lean — the step lemmas on `c02p_Enc` and the induction; witness: C02PW.lean.  Proofs/C02P.lean holds the
    integer Horner phase and the integer lifts of a ciphertext with their algebra and is used by none of these proofs) -/

/-- HOM (BGV, ring operations).  For EVERY level the constructors build (`c02p_LevelOK`: tables, CRT base, decryption constants; any degree
    N = 2^k, any chain, any plain modulus), every secret key of length N, EVERY program over negate / add / sub (all size pairs, balancing of
    unequal correction factors included) / multiply, square (all size pairs) / multiply_plain, and every assignment of inputs:
    * each ciphertext input read by the program is canonical, NTT form, has the unit correction factor `(inB i).1`, and its exact phase is
      congruent modulo Q to some `v_i` with `v_i ≡ cf_i·M_i (mod t)`, `‖v_i‖∞ ≤ (inB i).2` (`c02p_Enc`; fresh: `v = m + t·e`, `c02p_enc_of_fresh`),
    * each plaintext input read is canonical (NTT form) with integer coefficient-form reading `PL k`, `‖PL k‖∞ ≤ plB k`,
    * the MODEL DOES NOT REFUSE the program (`eval = .ok r`; refusals propagate),
    * the decidable a-priori bound `BProg.noiseUB` (‖a ⋆ b‖ ≤ N‖a‖‖b‖, ‖e1·a ± e2·b‖ ≤ e1‖a‖ + e2‖b‖) returns `(f, V)` with `2·V < Q`;
    then `bgvDecrypt (eval prog)` succeeds and equals the shadow program evaluated in ℤ[X]/(X^N+1), read modulo t. -/
theorem hom_program_bgv {l : Level} (h : c02p_LevelOK l) {sk : Array Int} (hsk : sk.size = l.n) (cts : Nat → Ct) (pls : Nat → RnsPoly)
    (M PL : Nat → Nat → Int) (inB : Nat → Nat × Nat) (plB : Nat → Nat) (prog : BProg) {r : Ct}
    (hin : ∀ i ∈ prog.ctInputs, c02p_Enc l sk (cts i) (M i) (inB i).2 ∧ (cts i).cf = (inB i).1)
    (hpl : ∀ k ∈ prog.plInputs, RnsCanon l (pls k) ∧ c02p_PlainLift l (pls k) (PL k) ∧ ∀ j, j < l.n → (PL k j).natAbs ≤ plB k)
    (hev : prog.eval l cts pls = .ok r) {f V : Nat} (hub : prog.noiseUB l.t l.n inB plB = some (f, V))
    (hV : 2 * V < l.tool.baseQ.prod) :
    bgvDecrypt l sk r = .ok (Spec.trim (Array.ofFn (n := l.n) fun j => Spec.imod (prog.shadow l.n M PL j.val) l.t.value)) :=
  HC.hom_program_bgv h hsk cts pls M PL inB plB prog hin hpl hev hub hV

/-- the induction behind HOM: wherever the model succeeds the bookkeeping succeeds, returns the RESULT's correction factor, and the result
    encrypts the shadow value with phase norm at most the returned bound (so results can be fed to further programs) -/
theorem hom_program_bgv_noiseUB : type_of% @HC.hom_program_bgv_noiseUB := @HC.hom_program_bgv_noiseUB

/-- per operation, on EXACT phases (`Spec.phase`, what `bgvDecrypt_eq_spec` decodes), modulo Q, coefficient-wise; each also re-establishes
    the invariant (canonical, NTT form, unit correction factor) for its result -/
theorem ctNegate_exact_phase : type_of% @HC.c02p_negate_ph := @HC.c02p_negate_ph
/-- add / sub, ANY two sizes, equal factors (e1 = e2 = 1) or balanced: ph(r) ≡ e1·ph(a) ± e2·ph(b), e1·cf_a ≡ e2·cf_b ≡ cf_r (mod t) -/
theorem ctTranslateBalanced_exact_phase : type_of% @HC.c02p_translate_ph := @HC.c02p_translate_ph
/-- multiply / square, ANY two sizes: ph(r) ≡ ph(a) ⋆ ph(b) (negacyclic), cf_r = cf_a·cf_b mod t -/
theorem bgvMultiply_exact_phase : type_of% @HC.c02p_mul_ph := @HC.c02p_mul_ph
/-- multiply_plain (NTT-form plaintext with integer reading P): ph(r) ≡ ph(a) ⋆ P -/
theorem ctMultiplyPlainNtt_exact_phase : type_of% @HC.c02p_mulPlain_ph := @HC.c02p_mulPlain_ph

/-- decryption of any ciphertext satisfying the invariant with `2·V < Q` is its message modulo t -/
theorem bgvDecrypt_of_enc : type_of% @HC.c02p_decrypt_of_enc := @HC.c02p_decrypt_of_enc
/-- the input hypothesis from the usual description of a ciphertext: exact phase `cf·m + t·e`, `‖m‖ ≤ Bm`, `‖e‖ ≤ Be` -/
theorem enc_of_fresh : type_of% @HC.c02p_enc_of_fresh := @HC.c02p_enc_of_fresh
/-- the level bundle is what the constructors establish -/
theorem levelOK_of_built : type_of% @HC.c02p_levelOK_of_built := @HC.c02p_levelOK_of_built

/-- NON-VACUITY (N = 4, q = {97, 113}, t = 17, constructor-built level, two fresh ciphertexts, depth-2 program (x0 + x1)·(−x0) − x1 with a
    2×2 product and a mixed-size 3 − 2 subtraction): every hypothesis of HOM is discharged and the conclusion evaluates to (8, 10, 16, 3) -/
theorem hom_program_bgv_example : type_of% @HC.hom_program_bgv_example := @HC.hom_program_bgv_example
theorem hom_program_bgv_example_val : type_of% @HC.hom_program_bgv_example_val := @HC.hom_program_bgv_example_val

/-! ### levelled programs: the same operations plus `mod_switch_to_next` along a chain (Model/Program.lean `LProg`; Proofs/C02PM.lean, C02PG.lean,
    relinearisation C02PR.lean; witnesses C02PGW.lean, C02PRW.lean) -/

/-- BGV `mod_switch_to_next` on exact phases: for `phase(a) ≡ v (mod Q)` there are `v'`, `Δ` with `phase'(r) ≡ v' (mod Q')`,
    `q_L·v' = v + Δ`, `t ∣ Δ`, `‖Δ‖∞ ≤ q_L·t·Σ_{k<size} S^k` for every bound `S ≥ ‖s‖₁`; the result is canonical at the next level, in NTT form,
    with the unit correction factor `cf·q_L^{-1} mod t` -/
theorem modSwitchScaleNext_exact_phase : type_of% @HC.c02p_modswitch_ph := @HC.c02p_modswitch_ph

/-- … as a step of the induction: same message, norm `≤ V / q_L + t·Σ_{k<size} S^k` -/
theorem modSwitchScaleNext_enc : type_of% @HC.c02p_step_ms := @HC.c02p_step_ms

/-- HOM (BGV, levelled).  For every chain of constructor-built levels (`c02p_ChainOK`: bundles of every level, consecutive levels share
    moduli / tables / plain modulus), every secret with `‖s‖₁ ≤ S`, EVERY program over negate / add / sub / multiply / multiply_plain /
    mod_switch_to_next / relinearize (operands of different levels refused, switching below the last level refused, relinearisation of sizes
    above 3 outside the program class; if the program relinearises: `rk` is a key for s² satisfying the KEY EQUATION with errors `t·(…)`,
    `‖e_i‖∞ ≤ Be`, at a well-formed key level whose first moduli / tables are those of every level: `c02p_KeyLevelOf`, `c02p_RelinOK`),
    inputs as in HOM at their levels:
    if the model returns `(lv, r)` and the bookkeeping bound `V` satisfies `2·V < Q_lv`, then `bgvDecrypt` at level `lv` returns the shadow
    value modulo t. -/
theorem hom_program_bgv_levelled {chain : Nat → Level} {top : Nat} (hch : c02p_ChainOK chain top) {sk : Array Int}
    (hsk : sk.size = (chain top).n) {S : Nat} (hS : ∑ k ∈ range (chain top).n, (c02p_sk sk k).natAbs ≤ S)
    (kl : KeyLevel) (rk : KSKey) (e : Nat → Nat → Int) (G : Nat → Int) (A Be : Nat)
    (cts : Nat → Nat × Ct) (pls : Nat → Nat × RnsPoly) (M PL : Nat → Nat → Int) (inB : Nat → Nat × Nat × Nat × Nat)
    (plB : Nat → Nat × Nat) (prog : LProg) {lv : Nat} {r : Ct}
    (hrk : prog.usesRelin = true → ∀ c, c ≤ top → c02p_KeyLevelOf kl (chain c) ∧ c02p_RelinOK kl (chain c).size rk (c02p_sk sk) e G A Be)
    (hin : ∀ i ∈ prog.ctInputs, (cts i).1 ≤ top ∧ c02p_Enc (chain (cts i).1) sk (cts i).2 (M i) (inB i).2.2.2 ∧
        inB i = ((cts i).1, (cts i).2.cf, (cts i).2.polys.size, (inB i).2.2.2))
    (hpl : ∀ k ∈ prog.plInputs, RnsCanon (chain (pls k).1) (pls k).2 ∧ c02p_PlainLift (chain (pls k).1) (pls k).2 (PL k) ∧
        (∀ j, j < (chain top).n → (PL k j).natAbs ≤ (plB k).2) ∧ (plB k).1 = (pls k).1)
    (hev : prog.eval chain kl rk cts pls = .ok (lv, r)) {st : Nat × Nat × Nat} {V : Nat}
    (hub : prog.noiseUB chain kl A Be S inB plB = some (st.1, st.2.1, st.2.2, V)) (hV : 2 * V < (chain lv).tool.baseQ.prod) :
    bgvDecrypt (chain lv) sk r = .ok (Spec.trim (Array.ofFn (n := (chain lv).n) fun j =>
      Spec.imod (prog.shadow (chain top).n M PL j.val) (chain lv).t.value)) :=
  HC.hom_program_bgv_levelled hch hsk hS kl rk e G A Be cts pls M PL inB plB prog hrk hin hpl hev hub hV

/-- the induction behind it (level stays within the chain, bookkeeping = (level, factor, size, bound) of the result) -/
theorem hom_program_bgv_levelled_inv : type_of% @HC.c02p_lprog_inv := @HC.c02p_lprog_inv

/-- BGV relinearisation (size 3 → 2) on exact phases: phase(r) ≡ phase(a) + ν (mod Q), t ∣ ν, P·‖ν‖∞ ≤ dsz·A·N·Be + P·t·(1 + ‖s‖₁) -/
theorem relinearize_exact_phase : type_of% @HC.c02p_relin_ph := @HC.c02p_relin_ph
/-- … as a step of the induction: same message and factor, norm `≤ V + ⌊(dsz·A·N·Be + P·t·(1 + S)) / P⌋` -/
theorem relinearize_enc : type_of% @HC.c02p_step_relin := @HC.c02p_step_relin

/-- NON-VACUITY on a two-level chain built by `Drv.Sch.mkLevel` (q = {97, 113, 193} → {97, 113}, t = 17): program
    mod_switch(x0·x1) − mod_switch(x0); result at the lower level with correction factor 3; decrypts to (0, 3, 14) -/
theorem hom_program_bgv_levelled_example : type_of% @HC.hom_program_bgv_levelled_example := @HC.hom_program_bgv_levelled_example
theorem hom_program_bgv_levelled_example_val : type_of% @HC.hom_program_bgv_levelled_example_val := @HC.hom_program_bgv_levelled_example_val
theorem chainOK_example : type_of% @HC.c02p_wChainOK := @HC.c02p_wChainOK

/-! ### BFV: the program theorem for the ring operations (Model/Program.lean `FProg`; Proofs/C02PF.lean, witness C02PFW.lean).  PARTIAL with respect to the
    operation list of the property: BFV plaintext operations (the Δ-scaling of `multiply_add_plain` / `multiply_sub_plain` and the
    `multiply_plain` routes), modulus switching and relinearisation are proved per operation elsewhere (C01, C05U, C04K) but NOT composed
    into the BFV induction. -/

/-- HOM (BFV, ring operations).  For every BFV level satisfying the constructor bundles (`c02f_LevelOK`: `MulOK`, `DecOK`, BEHZ window for
    sizes ≤ 16), every secret with `‖s‖₁ ≤ S`, EVERY program over negate / add / sub (all size pairs) / multiply, square (BEHZ, all size
    pairs), inputs canonical in coefficient form with invariant noise `‖[t·x_i]_Q‖∞ ≤ (inB i).2 < Q/2` and message part ≡ `M i` (mod t):
    if the model does not refuse, the decidable bookkeeping `FProg.noiseUB` (sum of noises for add / sub, the BEHZ growth bound `c02x_F / 2^34`
    for products, `2V < Q` checked at every node) returns `(s, V)` and `V` is below the BEHZ decryption threshold
    `2·γ·V + 2·|q|·Q ≤ Q·γ`, then `bfvDecrypt (eval prog)` succeeds and equals the shadow program in ℤ[X]/(X^N+1) read modulo t. -/
theorem hom_program_bfv_partial {l : Level} {T : Array NTTTables} (h : c02f_LevelOK l T) {sk : Array Int} (hsk : sk.size = l.n) {S : Nat}
    (hS : ∑ k ∈ range l.n, (sk.getD k 0).natAbs ≤ S) (cts : Nat → Ct) (M : Nat → Nat → Int) (inB : Nat → Nat × Nat) (prog : FProg)
    {r : Ct} (hin : ∀ i ∈ prog.ctInputs, c02f_Enc l sk (cts i) (M i) (inB i).2 ∧ (cts i).polys.size = (inB i).1)
    (hev : prog.eval l T cts = .ok r) {s V : Nat}
    (hub : prog.noiseUB l.n l.t.value l.size l.tool.baseQ.prod S inB = some (s, V))
    (hγ : 2 * l.tool.gamma.value * V + 2 * l.size * l.tool.baseQ.prod ≤ l.tool.baseQ.prod * l.tool.gamma.value) :
    bfvDecrypt l sk r = .ok (Spec.trim (Array.ofFn (n := l.n) fun j => Spec.imod (prog.shadow l.n M j.val) l.t.value)) :=
  HC.hom_program_bfv_partial h hsk hS cts M inB prog hin hev hub hγ

/-- the induction behind it -/
theorem hom_program_bfv_inv : type_of% @HC.c02f_prog_inv := @HC.c02f_prog_inv
/-- BFV negate / add / sub on exact phases of coefficient-form ciphertexts, all size pairs -/
theorem ctNegate_exact_phase_coeff : type_of% @HC.c02f_negate_ph := @HC.c02f_negate_ph
theorem ctTranslate_exact_phase_coeff : type_of% @HC.c02f_translate_ph := @HC.c02f_translate_ph
/-- invariant noise and message part of a linear combination `x_r ≡ α·x_a + β·x_b (mod Q)` -/
theorem bfv_noise_linear : type_of% @HC.c02f_noise_lin := @HC.c02f_noise_lin
/-- the BEHZ product as a step of the induction (from `bfvMultiply_noise`, `bfvMultiply_canon`) -/
theorem bfvMultiply_enc : type_of% @HC.c02f_step_mul := @HC.c02f_step_mul
/-- decryption below the BEHZ threshold; the input hypothesis from any split `t·x = Q·m + ν` with small ν -/
theorem bfvDecrypt_of_enc : type_of% @HC.c02f_decrypt_of_enc := @HC.c02f_decrypt_of_enc
theorem bfv_enc_of_split : type_of% @HC.c02f_enc_of_split := @HC.c02f_enc_of_split

/-- NON-VACUITY (BFV): the level `Drv.Sch.mkLevel .bfv 4 [97, 113, 193] 17` with Bsk tables built by `NTTTables.new` satisfies `c02f_LevelOK`
    (a concrete instance of `MulOK`, `DecOK` and the BEHZ window), and the program x0·x1 − x0 on two fresh ciphertexts satisfies every
    hypothesis of `hom_program_bfv_partial` (bookkeeping (3, 10986), Q = 2115473); the result decrypts to (0, 3, 14) -/
theorem bfv_levelOK_example : type_of% @HC.c02f_wLevelOK := @HC.c02f_wLevelOK
theorem hom_program_bfv_example : type_of% @HC.hom_program_bfv_example := @HC.hom_program_bfv_example
theorem hom_program_bfv_example_val : type_of% @HC.hom_program_bfv_example_val := @HC.hom_program_bfv_example_val

/-- NON-VACUITY of the relinearisation hypotheses together with the level bundles: ciphertext level `mkLevel .bgv 4 [97, 113] 17`, key level
    = moduli / tables / constants of `mkLevel .bgv 4 [97, 113, 193] 17` (P = 193), a GENUINE relinearisation key for s² (two digits, gadget
    elements 10283 / 679, errors 17·ε_i) satisfying the key equation (`relinKeyEq_example`), `c02p_RelinOK`, `c02p_KeyLevelOf`; the program
    relin(x0·x1) satisfies every hypothesis of `hom_program_bgv_levelled` (bookkeeping (0, 1, 2, 1747)) and decrypts to (1, 5, 14, 16) -/
theorem relinKeyEq_example : type_of% @HC.c02p_rKeyEq := @HC.c02p_rKeyEq
theorem relinOK_example : type_of% @HC.c02p_rRelinOK := @HC.c02p_rRelinOK
theorem keyLevelOf_example : type_of% @HC.c02p_rKeyLevelOf := @HC.c02p_rKeyLevelOf
theorem hom_program_bgv_relin_example : type_of% @HC.hom_program_bgv_relin_example := @HC.hom_program_bgv_relin_example
theorem hom_program_bgv_relin_example_val : type_of% @HC.hom_program_bgv_relin_example_val := @HC.hom_program_bgv_relin_example_val
/-! ### translator tie: the DATA of `Evaluator::bgv_square` (src/evaluator.rs), generated over the flat ciphertext buffer into
     Gen/EvalCtFns.lean (`GenC.ct_bgv_square`; tables tools/rs2lean_sq.py), = `bgvSquare` of the model (Proofs/GenEvalSq.lean).  Together with
     `bgvSquare_eq` above: the code's squaring routine computes the product of the ciphertext with itself. -/

/-- `dyadic_product_p(poly1, poly2, degree, moduli, result)` on the flat layout = `rnsDyadic` on `unflattenRns` (the out-of-place wrapper the
    squaring and multiplication routines call) -/
theorem gen_poly_dyadic_product_p_model : type_of% @HC.gs_poly_dyadic_product_p_model := @HC.gs_poly_dyadic_product_p_model

/-- dispatch: coefficient form is refused, every size but 2 goes to `bgv_multiply(x, &x.clone())` (route 1, nothing touched) -/
theorem gen_ct_bgv_square_dispatch : type_of% @HC.gs_bgv_square_dispatch := @HC.gs_bgv_square_dispatch

/-- … and so does the model, by definition -/
theorem bgvSquare_fallback : type_of% @HC.bgvSquare_fallback := @HC.bgvSquare_fallback

/-- GENERATED = MODEL, fast path (size 2, NTT form): buffer, size 3, factor cf·cf mod t - successes and arithmetic traps alike.
    Hypotheses: the buffer holds two polynomials of `l.size` components of `l.n` words, at least one modulus (`3·n·k` is computed as
    `(3·n)·k`), and the resized buffer is addressable (`3·k·n < 2^64`) -/
theorem gen_ct_bgv_square_eq : type_of% @HC.gs_bgv_square_eq := @HC.gs_bgv_square_eq

/-- non-vacuity: the example BGV level (two moduli 17, n = 2, t = 5), a size-2 buffer of eight words, factor 2 -/
example : HC.GenC.ct_bgv_square (List.replicate 8 3) 2 2 true HC.c02v_exLevel.qs.toList HC.c02v_exLevel.t HC.c02v_exLevel.n =
    Except.map (fun c => (HC.flattenCt HC.c02v_exLevel c, 3, c.cf, 0))
      (HC.bgvSquare HC.c02v_exLevel (HC.unflattenCt HC.c02v_exLevel 2 (List.replicate 8 3) true 2)) :=
  HC.gs_bgv_square_eq HC.c02v_exLevel _ 2 (by decide) (by decide) (by decide)

/-- GENERATED = MODEL (`bgv_multiply`, DATA LOOPS: resize, `for i in 0..dest_size { for j in 0..steps { dyadic_product_p; add_inplace_p } }`, copy back, factor
    product; generated as `GenC.ct_bgv_multiply` over the flat buffers): for NTT-form operands of ANY sizes s1, s2 ≥ 1 = the flattened `bgvMultiply` of the
    model, size s1 + s2 − 1, the model's factor — the `resize` refusal and every arithmetic trap included (same order of operations on both sides).
    Hypotheses: buffer lengths = size·(l.size·l.n), at least one modulus, the product buffer addressable (`(s1+s2−1)·k·n < 2^64`), `s1 + s2 < 2^64`. -/
theorem gen_ct_bgv_multiply_eq : type_of% @HC.gs_bgv_multiply_eq := @HC.gs_bgv_multiply_eq

/-- GENERATED = MODEL (`bgv_square`, EVERY size ≥ 1, both representations): the generated dispatch / fast path, the fallback route resolved by the generated
    `bgv_multiply` on the ciphertext and its clone (`gs_bgv_square_run`), = the flattened `bgvSquare`, size 2s − 1, the model's factor.  Composed with
    `bgvSquare_eq` and `ctMultiplyDyadic_phase`: what the code's `bgv_square` returns has phase(x)². -/
theorem gen_ct_bgv_square_all : type_of% @HC.gs_bgv_square_run_eq := @HC.gs_bgv_square_run_eq

/-- non-vacuity: size 3 (fallback route) on the example BGV level -/
example : HC.gs_bgv_square_run (List.replicate 12 3) 3 2 true HC.c02v_exLevel.qs.toList HC.c02v_exLevel.t HC.c02v_exLevel.n =
    Except.map (fun c => (HC.flattenCt HC.c02v_exLevel c, 5, c.cf))
      (HC.bgvSquare HC.c02v_exLevel (HC.unflattenCt HC.c02v_exLevel 3 (List.replicate 12 3) true 2)) :=
  HC.gs_bgv_square_run_eq HC.c02v_exLevel _ 3 2 true (by decide) (by decide) (by decide) (by decide) (by decide)

end HC.C02
