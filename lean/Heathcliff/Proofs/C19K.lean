/- C19K (K for key switching; read after C19 and C04K): LWE field trace and PackLWEs on the MODEL's ciphertexts, with the key-switch
   noise made explicit.

   C19 (Proofs/C19.lean, Props/C19.lean) proves the coefficient placement of the phase-level programs `fieldTracePoly` / `packPoly`
   treating every automorphism as exact.  Here the automorphisms are the MODEL's key-switched `applyGalois` (C04K:
   `applyGalois_phase_sigma(_bgv)`), every application contributing one integer noise polynomial ν.
   The model-level part rests on one relation, `c19k_Tracks`: a canonical ciphertext carries an integer polynomial modulo every
   level modulus; shift, add / sub, the NTT round trip and the automorphism are stated as what they do to the polynomial carried, the
   butterfly, the trace loop and the merge tree compose them, and the theorems about exact phases are the instances at `c19k_Tracks.self`.

   MODEL FUNCTIONS DEFINED HERE, not in Model/: Model/Lwe.lean has the field trace and the packing at phase level only, so the
   ciphertext-level routines of src/app/lwe.rs are written in this file as compositions of model operations (`applyGalois`,
   `ctTranslateBalanced`, `rnsNtt` / `rnsIntt`, `negacyclicShift`), each quoting the Rust lines it follows: `c19k_traceLayer`,
   `c19k_traceStepsCt`, `c19k_fieldTraceCt`, `c19k_shiftCt`, `c19k_toNtt`, `c19k_fromNtt`, `c19k_mergeCt`, `c19k_packMergeStep`,
   `c19k_packCt`.  No driver runs them and no generated function is compared with them: the source tie of C19 (Proofs/GenAppLwe*.lean)
   compares the generated plan of evaluator calls with the phase-level programs.
   THE TWO MOD-DOWN RULES: C04K states `applyGalois_phase_sigma` once for the rounding rule (BFV, CKKS) and once for BGV, with different
   noise terms, bounds and (BGV only) the clause t ∣ ν; so the statements about one automorphism come in pairs here too (`c19k_galois_std` /
   `_bgv`, `fieldTrace_layer_noisy` / `_bgv`, `fieldTrace_noisy` / `_bgv`).  The loop and the tree are proved once, for any rule giving the
   noise of a step (`c19k_traceSteps_rule`, `c19k_tree_tracks`); the pairs are their instances.  The pack theorems are stated for the
   rounding rule only.
   NAMES: helpers carry the prefix `c19k_`; the theorems Props/C19.lean restates carry none.  Three `c19k_` names stand in C19.lean beside
   `packPoly` because they are phase-level: `c19k_nodePoly` (the merge tree as a recursion), `c19k_node_eq_layers`, `c19k_nodePoly_inv`.
   NON-VACUITY is shown on the key level `c04t_exKL` of C04T / C04K (N = 2, q = 13, special prime 17, t = 5): the world of
   Proofs/World.lean has no key level. -/
import Heathcliff.Proofs.C19
import Heathcliff.Proofs.C04K
import Heathcliff.Proofs.C02V
import Mathlib.Tactic.Ring
import Mathlib.Tactic.Linarith
namespace HC
open Finset

section sigma
variable {R : Type} [CommRing R]

theorem c19k_sigmaPoly_getD (k g : Nat) (hg : g % 2 = 1) (a : Array R) (c : Nat) (hc : c < 2^k) :
    (sigmaPoly (2^k) a g).getD c 0 = c04k_sigma (2^k) g (fun i => a.getD i 0) c :=
  (c04k_sigma_of_perm hg (fun i => a.getD i 0) (fun c => (sigmaPoly (2^k) a g).getD c 0)
    (fun i hi => c19_sigmaPoly_written k g hg a i hi) c hc).symm

end sigma

/-! ## signed selections: what the noise analysis uses of σ_g and of the monomial shift -/

/-- every output coefficient below `n` is ± ONE input coefficient below `n`, position and sign independent of the input -/
def c19k_SignedSel (n : Nat) (op : Array Int → Array Int) : Prop :=
  ∀ c, c < n → ∃ i, i < n ∧ ∃ ε : Int, (ε = 1 ∨ ε = -1) ∧ ∀ a : Array Int, (op a).getD c 0 = ε * a.getD i 0

namespace c19k_SignedSel
variable {n : Nat} {op : Array Int → Array Int}

theorem modEq (h : c19k_SignedSel n op) (q : Int) {a b : Array Int} (hab : ∀ i, i < n → a.getD i 0 ≡ b.getD i 0 [ZMOD q])
    {c : Nat} (hc : c < n) : (op a).getD c 0 ≡ (op b).getD c 0 [ZMOD q] := by
  obtain ⟨i, hi, ε, _, hε⟩ := h c hc
  rw [hε a, hε b]
  exact (hab i hi).mul_left ε

theorem congr (h : c19k_SignedSel n op) {a b : Array Int} (hab : ∀ i, i < n → a.getD i 0 = b.getD i 0) {c : Nat} (hc : c < n) :
    (op a).getD c 0 = (op b).getD c 0 := by
  obtain ⟨i, hi, ε, _, hε⟩ := h c hc
  rw [hε a, hε b, hab i hi]

theorem add (h : c19k_SignedSel n op) (a b : Array Int) {c : Nat} (hc : c < n) :
    (op (addPoly n a b)).getD c 0 = (op a).getD c 0 + (op b).getD c 0 := by
  obtain ⟨i, hi, ε, _, hε⟩ := h c hc
  rw [hε, hε a, hε b, c19_addPoly_getD _ _ _ _ hi, mul_add]

theorem sub (h : c19k_SignedSel n op) (a b : Array Int) {c : Nat} (hc : c < n) :
    (op (subPoly n a b)).getD c 0 = (op a).getD c 0 - (op b).getD c 0 := by
  obtain ⟨i, hi, ε, _, hε⟩ := h c hc
  rw [hε, hε a, hε b, c19_subPoly_getD _ _ _ _ hi, mul_sub]

end c19k_SignedSel

theorem c19k_sigma_sel (k g : Nat) (hg : g % 2 = 1) : c19k_SignedSel (2^k) (fun a => sigmaPoly (2^k) a g) := fun c hc =>
  let ⟨i, hi, ε, hε, h⟩ := c04k_sigma_sel (R := Int) hg hc
  ⟨i, hi, ε, hε, fun a => by rw [c19k_sigmaPoly_getD k g hg a c hc, h]⟩

theorem c19k_shift_sel (n s : Nat) : c19k_SignedSel n (fun a => shiftPoly n a s) := by
  intro c hc
  obtain ⟨i, hi, neg, _, h2⟩ := c19_shift_pair n s c hc
  refine ⟨i, hi, if neg then -1 else 1, by cases neg <;> simp, fun a => ?_⟩
  rw [h2]
  cases neg <;> simp

/-- σ_g is subtractive on arrays: `c19k_SignedSel.sub` read at σ_g (the proofs below use the `SignedSel` form) -/
theorem c19k_sigma_sub (k g : Nat) (hg : g % 2 = 1) (a b : Array Int) (c : Nat) (hc : c < 2^k) :
    (sigmaPoly (2^k) (subPoly (2^k) a b) g).getD c 0 = (sigmaPoly (2^k) a g).getD c 0 - (sigmaPoly (2^k) b g).getD c 0 :=
  (c19k_sigma_sel k g hg).sub a b hc

/-! ## the noisy field trace: accumulated noise, pure algebra over ℤ -/

/-- the noise accumulated by the first `m` layers of the field trace when layer i contributes the fresh noise `ν i`:
    N_0 = 0,  N_{m+1} = N_m + σ_{2^(k-m)+1}(N_m) + ν_m   (every later layer doubles the earlier noise). -/
def c19k_accNoise (k : Nat) (ν : Nat → Array Int) : Nat → Array Int
  | 0 => Array.replicate (2^k) 0
  | m+1 => addPoly (2^k) (addPoly (2^k) (c19k_accNoise k ν m) (sigmaPoly (2^k) (c19k_accNoise k ν m) (2^(k-m)+1))) (ν m)

theorem c19k_accNoise_congr (k : Nat) (ν ν' : Nat → Array Int) (m : Nat) (h : ∀ i, i < m → ν i = ν' i) :
    c19k_accNoise k ν m = c19k_accNoise k ν' m := by
  induction m with
  | zero => rfl
  | succ m ih =>
    unfold c19k_accNoise
    rw [ih (fun i hi => h i (by omega)), h m (by omega)]

theorem c19k_accNoise_succ_getD (k : Nat) (ν : Nat → Array Int) (m c : Nat) (hc : c < 2^k) :
    (c19k_accNoise k ν (m+1)).getD c 0 =
      (c19k_accNoise k ν m).getD c 0 + (sigmaPoly (2^k) (c19k_accNoise k ν m) (2^(k-m)+1)).getD c 0 + (ν m).getD c 0 := by
  show (addPoly (2^k) (addPoly (2^k) _ _) _).getD c 0 = _
  rw [c19_addPoly_getD _ _ _ _ hc, c19_addPoly_getD _ _ _ _ hc]

theorem c19k_trace_alg (k g : Nat) (hg : g % 2 = 1) (T N ν : Array Int) (c : Nat) (hc : c < 2^k) :
    (addPoly (2^k) (addPoly (2^k) (addPoly (2^k) T N) (sigmaPoly (2^k) (addPoly (2^k) T N) g)) ν).getD c 0 =
      (addPoly (2^k) (addPoly (2^k) T (sigmaPoly (2^k) T g))
        (addPoly (2^k) (addPoly (2^k) N (sigmaPoly (2^k) N g)) ν)).getD c 0 := by
  simp only [c19_addPoly_getD _ _ _ _ hc, (c19k_sigma_sel k g hg).add T N hc]
  ring

/-- what holds of the fresh noises (`F`) and is passed on by a layer (from `Q m` to `Q (m+1)`) holds of the accumulated noise -/
theorem c19k_accNoise_induct (k : Nat) (ν : Nat → Array Int) (F : Int → Prop) (Q : Nat → Int → Prop) (h0 : Q 0 0)
    (hneg : ∀ m z, Q m z → Q m (-z)) (hstep : ∀ m z z' n, Q m z → Q m z' → F n → Q (m+1) (z + z' + n))
    (m : Nat) (hm : m ≤ k) (h : ∀ i, i < m → ∀ c, c < 2^k → F ((ν i).getD c 0)) :
    ∀ c, c < 2^k → Q m ((c19k_accNoise k ν m).getD c 0) := by
  induction m with
  | zero =>
    intro c _
    rw [show (c19k_accNoise k ν 0).getD c 0 = 0 from array_getD_replicate _ _ _]
    exact h0
  | succ m ih =>
    intro c hc
    have ih' := ih (by omega) (fun i hi => h i (by omega))
    obtain ⟨i, hi, ε, hε, hsel⟩ := c19k_sigma_sel k (2^(k-m)+1) (c19_odd_two_pow (k-m) (by omega)) c hc
    rw [c19k_accNoise_succ_getD k ν m c hc, hsel]
    refine hstep m _ _ _ (ih' c hc) ?_ (h m (by omega) c hc)
    rcases hε with rfl | rfl
    · rw [one_mul]; exact ih' i hi
    · rw [neg_one_mul]; exact hneg m _ (ih' i hi)

theorem c19k_geom_split {A B : Nat} (hA : 1 ≤ A) (hB : 1 ≤ B) : B * A - 1 = B * (A - 1) + (B - 1) := by
  obtain ⟨a, rfl⟩ := Nat.exists_eq_add_of_le' hA
  obtain ⟨b, rfl⟩ := Nat.exists_eq_add_of_le' hB
  rw [Nat.add_sub_cancel, Nat.add_sub_cancel, Nat.mul_succ, ← Nat.add_assoc, Nat.add_sub_cancel]

/-- a layer doubles the noise and adds its own -/
theorem c19k_bound_step {P D m : Nat} {z z' n : Int} (h : z.natAbs * P ≤ (2^m - 1) * D) (h' : z'.natAbs * P ≤ (2^m - 1) * D)
    (hn : n.natAbs * P ≤ D) : (z + z' + n).natAbs * P ≤ (2^(m+1) - 1) * D := by
  rw [pow_succ', c19k_geom_split (Nat.two_pow_pos m) (Nat.le_succ 1), Nat.add_mul, Nat.mul_assoc, Nat.two_mul]
  calc (z + z' + n).natAbs * P ≤ (z.natAbs + z'.natAbs + n.natAbs) * P :=
        Nat.mul_le_mul_right _ ((Int.natAbs_add_le _ _).trans (Nat.add_le_add_right (Int.natAbs_add_le _ _) _))
    _ = z.natAbs * P + z'.natAbs * P + n.natAbs * P := by rw [Nat.add_mul, Nat.add_mul]
    _ ≤ _ := Nat.add_le_add (Nat.add_le_add h h') (hn.trans (Nat.one_mul D).symm.le)

/-- EXPLICIT BOUND: if every fresh noise satisfies P·‖ν_i‖∞ ≤ D, the noise accumulated by m layers satisfies
    P·‖N_m‖∞ ≤ (2^m − 1)·D = Σ_{i<m} 2^(m−1−i)·D. -/
theorem c19k_accNoise_bound (k : Nat) (ν : Nat → Array Int) (P D : Nat) (m : Nat) (hm : m ≤ k)
    (h : ∀ i, i < m → ∀ c, c < 2^k → ((ν i).getD c 0).natAbs * P ≤ D) :
    ∀ c, c < 2^k → ((c19k_accNoise k ν m).getD c 0).natAbs * P ≤ (2^m - 1) * D :=
  c19k_accNoise_induct k ν (fun n => n.natAbs * P ≤ D) (fun m z => z.natAbs * P ≤ (2^m - 1) * D)
    (by rw [Int.natAbs_zero, Nat.zero_mul]; exact Nat.zero_le _)
    (fun _ z hz => by rwa [Int.natAbs_neg]) (fun _ _ _ _ => c19k_bound_step) m hm h

theorem c19k_accNoise_dvd (k : Nat) (ν : Nat → Array Int) (t : Int) (m : Nat) (hm : m ≤ k)
    (h : ∀ i, i < m → ∀ c, c < 2^k → t ∣ (ν i).getD c 0) :
    ∀ c, c < 2^k → t ∣ (c19k_accNoise k ν m).getD c 0 :=
  c19k_accNoise_induct k ν (fun n => t ∣ n) (fun _ z => t ∣ z) (dvd_zero t) (fun _ _ hz => (dvd_neg).mpr hz)
    (fun _ _ _ _ hz hz' hn => dvd_add (dvd_add hz hz') hn) m hm h

/-! ## model level: hypotheses, phases, the relation `c19k_Tracks`, add / sub of two-polynomial ciphertexts -/

/-- everything `c04t_KSInput` asks of the KEY LEVEL and the KEY (not of the ciphertext): well-formed key level, `dsz` digits plus the
    special prime, a two-component key with canonical rows, the accumulator guard, the P^{-1} operands.  `c04t_KSInput` (C04T) bundles
    key level, key and ciphertext; the loops here keep one key per step while the ciphertext changes, so the bundle is split into this
    part and `c19k_CtOK`, and `c19k_ksInput` puts it together again at each `applyGalois`.  (C04R splits the same bundle along another
    line, `c04r_KLOK` + `c04r_GalKey`: key level against key.) -/
structure c19k_KeyOK (kl : KeyLevel) (dsz : Nat) (key : KSKey) : Prop where
  hkl : kl.WF
  hsz : 2 ≤ kl.ms.size
  hd : dsz + 1 ≤ kl.ms.size
  hks : dsz ≤ key.size
  hkcc : (key.getD 0 #[]).size = 2
  hkey : ∀ i, i ≤ dsz → c04t_KeyCanonAt kl dsz 2 key (c04t_keyIndex kl dsz i)
  hov : ∀ i, i ≤ dsz →
    dsz * (4 * (kl.m (c04t_keyIndex kl dsz i)).value * (kl.m (c04t_keyIndex kl dsz i)).value) < 2^128
  hinv : c04t_InvP kl dsz

/-- a two-polynomial ciphertext with canonical components at the level `l` (`c05u_CtCanon` plus the size): the ciphertext part of
    `c04t_KSInput`, re-established by every step -/
def c19k_CtOK (l : Level) (ct : Ct) : Prop := ct.polys.size = 2 ∧ ∀ k, k < 2 → RnsCanon l (ct.polys.getD k #[])

theorem c19k_ksInput {kl : KeyLevel} {l : Level} (hl : c04k_LevelOf kl l) {key : KSKey} (hK : c19k_KeyOK kl l.size key)
    {ct : Ct} (hct : c19k_CtOK l ct) : c04t_KSInput kl l.size ct (ct.polys.getD 1 #[]) key := by
  refine ⟨hK.hkl, hK.hsz, hK.hd, hK.hks, c04k_canon_to hl (hct.2 1 (by omega)), ?_, hK.hov, ?_, hK.hinv⟩
  · rw [hK.hkcc]; exact hK.hkey
  · rw [hK.hkcc]; intro k hk; exact c04k_canon_to hl (hct.2 k hk)

/-- the phase c0 + c1 ⋆ s of RNS component j, as an array of N integers (coefficient functions through `intt` in NTT form) -/
def c19k_phase (kl : KeyLevel) (j : Nat) (ct : Ct) (s : Nat → Int) : Array Int :=
  Array.ofFn (n := kl.n) fun c =>
    c05u_phase2 kl.n (c04k_polyI (kl.tb j) ct.ntt ((ct.polys.getD 0 #[]).getD j #[]))
      (c04k_polyI (kl.tb j) ct.ntt ((ct.polys.getD 1 #[]).getD j #[])) s c.val

theorem c19k_phase_getD (kl : KeyLevel) (j : Nat) (ct : Ct) (s : Nat → Int) (c : Nat) (hc : c < kl.n) :
    (c19k_phase kl j ct s).getD c 0 =
      c05u_phase2 kl.n (c04k_polyI (kl.tb j) ct.ntt ((ct.polys.getD 0 #[]).getD j #[]))
        (c04k_polyI (kl.tb j) ct.ntt ((ct.polys.getD 1 #[]).getD j #[])) s c := by
  unfold c19k_phase; rw [array_getD_ofFn _ _ hc]

theorem c19k_lt_n {kl : KeyLevel} {l : Level} (hl : c04k_LevelOf kl l) {c : Nat} (hc : c < 2^l.k) : c < kl.n := by
  rw [← hl.k]; exact hc

/-- `ct` is a canonical two-polynomial ciphertext in representation `b` with correction factor `f` whose phase under `s` is,
    modulo every level modulus q_j, the integer polynomial `P j`.  Every operation of the model below is stated as what it does to
    the polynomial carried, whatever that is; the exact phase of a ciphertext is the instance `c19k_Tracks.self`. -/
structure c19k_Tracks (kl : KeyLevel) (l : Level) (s : Nat → Int) (ct : Ct) (b : Bool) (f : Nat) (P : Nat → Array Int) : Prop where
  ok : c19k_CtOK l ct
  ntt : ct.ntt = b
  cf : ct.cf = f
  phase : ∀ j, j < l.size → ∀ c, c < 2^l.k →
    (c19k_phase kl j ct s).getD c 0 ≡ (P j).getD c 0 [ZMOD ((kl.m j).value : Int)]

theorem c19k_Tracks.self {kl : KeyLevel} {l : Level} {s : Nat → Int} {ct : Ct} (hct : c19k_CtOK l ct) :
    c19k_Tracks kl l s ct ct.ntt ct.cf (fun j => c19k_phase kl j ct s) :=
  ⟨hct, rfl, rfl, fun _ _ _ _ => Int.ModEq.refl _⟩

theorem c19k_Tracks.congr_eq {kl : KeyLevel} {l : Level} {s : Nat → Int} {ct : Ct} {b : Bool} {f : Nat} {P P' : Nat → Array Int}
    (h : c19k_Tracks kl l s ct b f P) (hP : ∀ j, j < l.size → ∀ c, c < 2^l.k → (P j).getD c 0 = (P' j).getD c 0) :
    c19k_Tracks kl l s ct b f P' :=
  ⟨h.ok, h.ntt, h.cf, fun j hj c hc => hP j hj c hc ▸ h.phase j hj c hc⟩

/-- how the positions of a component are read in Z_q[X]/(X^N+1): NTT slots, or coefficients -/
def c19k_rd (t : NTTTables) (q N : Nat) (b : Bool) : Nat → c03k_NP (ZMod q) N := if b then c02v_slot t q N else c02v_mono q N

theorem c19k_red_polyI {t : NTTTables} (hw : t.WF) {q N : Nat} (hq : t.modulus.value = q) (hN : 2^t.k = N) (b : Bool) {p : Poly}
    (hp : p.size = N ∧ ∀ x, x < N → p.getD x 0 < q) :
    c03k_red q N (c04k_polyI t b p) = c02v_polyVal (c19k_rd t q N b) N p := by
  cases b with
  | true =>
    show _ = c02v_polyVal (c02v_slot t q N) N p
    rw [c02v_polyVal_slot hw hq hN hp]
    exact c03k_toNP_congr fun j _ => Int.cast_natCast _
  | false =>
    show _ = c02v_polyVal (c02v_mono q N) N p
    rw [c02v_polyVal_mono]
    exact c03k_toNP_congr fun j _ => Int.cast_natCast _

theorem c19k_polysCanon {l : Level} {ct : Ct} (h : c19k_CtOK l ct) : c05u_CtCanon l ct :=
  fun k hk => h.2 k (h.1 ▸ hk)

theorem c19k_qsWF {kl : KeyLevel} {l : Level} (hl : c04k_LevelOf kl l) (hkl : kl.WF) (hd : l.size + 1 ≤ kl.ms.size) :
    c02v_QsWF l := fun i hi => by
  rw [hl.q i hi]; exact (c04t_kl_comp hkl (show i < kl.ms.size by omega)).2.2.2

/-- the integer phase of component j, reduced modulo q_j, is the ring phase `c02v_phase` read through `c19k_rd`: what is proved of the
    evaluator's operations in Z_q[X]/(X^N+1) (C02V) applies to `c19k_phase`, in either representation -/
theorem c19k_red_phase {kl : KeyLevel} {l : Level} (hl : c04k_LevelOf kl l) (hkl : kl.WF) (hd : l.size + 1 ≤ kl.ms.size)
    {ct : Ct} (hct : c19k_CtOK l ct) (s : Nat → Int) {j : Nat} (hj : j < l.size) :
    c03k_red (kl.m j).value kl.n (fun c => c05u_phase2 kl.n (c04k_polyI (kl.tb j) ct.ntt ((ct.polys.getD 0 #[]).getD j #[]))
        (c04k_polyI (kl.tb j) ct.ntt ((ct.polys.getD 1 #[]).getD j #[])) s c)
      = c02v_phase l ct j (c19k_rd (kl.tb j) (kl.m j).value kl.n ct.ntt) (c03k_red (kl.m j).value kl.n s) := by
  obtain ⟨htw, htm, htn, _⟩ := c04t_kl_comp hkl (show j < kl.ms.size by omega)
  have hp := fun k (hk : k < 2) => c19k_red_polyI htw htm htn ct.ntt (c04k_canon_to hl (hct.2 k hk) j hj)
  unfold c05u_phase2 c02v_phase
  rw [hct.1, c03k_ctPhase_two, c03k_red_add, c03k_red_mul, hp 0 (by omega), hp 1 (by omega), hl.n]

/-- `add_inplace` / `sub` of two ciphertexts in the same representation with the same correction factor: succeeds, and what they carry
    is added / subtracted -/
theorem c19k_Tracks.translate {kl : KeyLevel} {l : Level} (hl : c04k_LevelOf kl l) (hkl : kl.WF) (hd : l.size + 1 ≤ kl.ms.size)
    {s : Nat → Int} {a a' : Ct} {b : Bool} {f : Nat} {P P' : Nat → Array Int}
    (ha : c19k_Tracks kl l s a b f P) (ha' : c19k_Tracks kl l s a' b f P') (sub : Bool) :
    ∃ r, ctTranslateBalanced l a a' sub = .ok r ∧
      c19k_Tracks kl l s r b f (fun j => if sub then subPoly (2^l.k) (P j) (P' j) else addPoly (2^l.k) (P j) (P' j)) := by
  have hntt : a.ntt = a'.ntt := ha.ntt.trans ha'.ntt.symm
  have hcf : a.cf = a'.cf := ha.cf.trans ha'.cf.symm
  have hqs := c19k_qsWF hl hkl hd
  obtain ⟨r, hr, hrc, hrs, hrn, hrf, -⟩ := c02v_ctTranslate_core hqs (c19k_polysCanon ha.ok) (c19k_polysCanon ha'.ok) sub hntt hcf
  rw [ha.ok.1, ha'.ok.1, Nat.max_self] at hrs
  have hrok : c19k_CtOK l r := ⟨hrs, fun k hk => hrc k (hrs ▸ hk)⟩
  refine ⟨r, by rw [ctTranslateBalanced_same l a a' sub hcf]; exact hr, hrok, hrn.trans ha.ntt, hrf.trans ha.cf, fun j hj c hc => ?_⟩
  have hc' := c19k_lt_n hl hc
  -- the ring identity of C02V for `ctTranslate`, read back on the integer coefficient functions
  have hring := c02v_ctTranslate_phase_core hqs (c19k_polysCanon ha.ok) (c19k_polysCanon ha'.ok) hr hj
    (by rw [hl.q j hj]; exact c02v_natCast_self _ _) (c19k_rd (kl.tb j) (kl.m j).value kl.n a.ntt) (c03k_red (kl.m j).value kl.n s)
  rw [← c19k_red_phase hl hkl hd ha.ok s hj, ← hrn, ← c19k_red_phase hl hkl hd hrok s hj, hrn, hntt,
    ← c19k_red_phase hl hkl hd ha'.ok s hj, ← hntt] at hring
  have h1 := ha.phase j hj c hc
  have h2 := ha'.phase j hj c hc
  rw [c19k_phase_getD _ _ _ _ _ hc'] at h1 h2
  rw [← hntt] at h2
  rw [c19k_phase_getD _ _ _ _ _ hc', hrn]
  cases sub with
  | true =>
    simp only [if_true] at hring ⊢
    rw [← c03k_red_sub] at hring
    rw [c19_subPoly_getD _ _ _ _ hc]
    exact (c03k_modEq_of_red hring hc').trans (h1.sub h2)
  | false =>
    simp only [Bool.false_eq_true, if_false] at hring ⊢
    rw [← c03k_red_add] at hring
    rw [c19_addPoly_getD _ _ _ _ hc]
    exact (c03k_modEq_of_red hring hc').trans (h1.add h2)

theorem c19k_Tracks.add {kl : KeyLevel} {l : Level} (hl : c04k_LevelOf kl l) (hkl : kl.WF) (hd : l.size + 1 ≤ kl.ms.size)
    {s : Nat → Int} {a a' : Ct} {b : Bool} {f : Nat} {P P' : Nat → Array Int}
    (ha : c19k_Tracks kl l s a b f P) (ha' : c19k_Tracks kl l s a' b f P') :
    ∃ r, ctTranslateBalanced l a a' false = .ok r ∧ c19k_Tracks kl l s r b f (fun j => addPoly (2^l.k) (P j) (P' j)) :=
  ha.translate hl hkl hd ha' false

theorem c19k_Tracks.sub {kl : KeyLevel} {l : Level} (hl : c04k_LevelOf kl l) (hkl : kl.WF) (hd : l.size + 1 ≤ kl.ms.size)
    {s : Nat → Int} {a a' : Ct} {b : Bool} {f : Nat} {P P' : Nat → Array Int}
    (ha : c19k_Tracks kl l s a b f P) (ha' : c19k_Tracks kl l s a' b f P') :
    ∃ r, ctTranslateBalanced l a a' true = .ok r ∧ c19k_Tracks kl l s r b f (fun j => subPoly (2^l.k) (P j) (P' j)) :=
  ha.translate hl hkl hd ha' true

/-! ## the field trace on model ciphertexts

    `c19k_traceLayer`, `c19k_traceStepsCt`, `c19k_fieldTraceCt` are model-level functions defined in this file (see the head). -/

/-- one iteration of the loop of `field_trace_inplace` on the model:
    `apply_galois(encrypted, g, keys, &mut temp); add_inplace(encrypted, &temp)` -/
def c19k_traceLayer (kl : KeyLevel) (l : Level) (scheme : Scheme) (ct : Ct) (g : Nat) (key : KSKey) : R Ct := do
  let t ← applyGalois kl l scheme ct g key
  ctTranslateBalanced l ct t false

/-- the first `m` iterations of `field_trace_inplace` (Model/Lwe.lean has the loop only at phase level, `fieldTracePoly`; this is
    the same loop as a fold of MODEL operations on ciphertexts; `keys g` = the Galois key of element g, a missing key is refused) -/
def c19k_traceStepsCt (kl : KeyLevel) (l : Level) (scheme : Scheme) (keys : Nat → Option KSKey) (m : Nat) (ct : Ct) : R Ct :=
  (List.range m).foldlM (fun ct i =>
    match keys (2^(l.k - i) + 1) with
    | none => .error .refused
    | some key => c19k_traceLayer kl l scheme ct (2^(l.k - i) + 1) key) ct

/-- `field_trace_inplace(encrypted, keys, logn)`, N = 2^(l.k):
    `while poly_degree > (1 << logn) { apply_galois(encrypted, poly_degree + 1, …, temp); add_inplace(encrypted, temp); poly_degree >>= 1 }` -/
def c19k_fieldTraceCt (kl : KeyLevel) (l : Level) (scheme : Scheme) (keys : Nat → Option KSKey) (logn : Nat) (ct : Ct) : R Ct :=
  c19k_traceStepsCt kl l scheme keys (l.k - logn) ct

/-- what `applyGalois` does to a canonical ciphertext, in array form -/
def c19k_GaloisSpec (kl : KeyLevel) (l : Level) (ct t : Ct) (g : Nat) (s : Nat → Int) (ν : Array Int) : Prop :=
  c19k_CtOK l t ∧ t.ntt = ct.ntt ∧ t.cf = ct.cf ∧
    ∀ j, j < l.size → ∀ c, c < 2^l.k →
      (c19k_phase kl j t s).getD c 0 ≡ (sigmaPoly (2^l.k) (c19k_phase kl j ct s) g).getD c 0 + ν.getD c 0
        [ZMOD ((kl.m j).value : Int)]

theorem c19k_sigma_fn (n k g : Nat) (hn : 2^k = n) (hg : g % 2 = 1) (x : Nat → Int) (a : Array Int)
    (ha : ∀ i, i < n → a.getD i 0 = x i) (c : Nat) (hc : c < n) :
    (sigmaPoly (2^k) a g).getD c 0 = c04k_sigma n g x c := by
  subst hn
  rw [c19k_sigmaPoly_getD k g hg a c hc]
  exact c04k_sigma_congr _ _ _ _ _ ha

/-- from the conclusion of `applyGalois_phase_sigma(_bgv)` to its array form -/
theorem c19k_galois_of {kl : KeyLevel} {l : Level} (hl : c04k_LevelOf kl l)
    {scheme : Scheme} {ct : Ct} {key : KSKey} {g : Nat} (hg : g % 2 = 1) {s : Nat → Int} {ν : Nat → Int}
    (h : ∃ ct', applyGalois kl l scheme ct g key = .ok ct' ∧ ct'.ntt = ct.ntt ∧ ct'.cf = ct.cf ∧ ct'.polys.size = 2 ∧
      (∀ k, k < 2 → (ct'.polys.getD k #[]).size = l.size ∧ c04t_Canon kl l.size (ct'.polys.getD k #[])) ∧
      ∀ j, j < l.size → ∀ c, c < kl.n →
        c05u_phase2 kl.n (c04k_polyI (kl.tb j) ct.ntt ((ct'.polys.getD 0 #[]).getD j #[]))
            (c04k_polyI (kl.tb j) ct.ntt ((ct'.polys.getD 1 #[]).getD j #[])) s c
          ≡ c04k_sigma kl.n g (c05u_phase2 kl.n (c04k_polyI (kl.tb j) ct.ntt ((ct.polys.getD 0 #[]).getD j #[]))
              (c04k_polyI (kl.tb j) ct.ntt ((ct.polys.getD 1 #[]).getD j #[])) s) c
            + ν c [ZMOD ((kl.m j).value : Int)]) :
    ∃ t, applyGalois kl l scheme ct g key = .ok t ∧
      c19k_GaloisSpec kl l ct t g s (Array.ofFn (n := kl.n) fun c => ν c.val) := by
  obtain ⟨t, ht, htn, htcf, hts, htc, htph⟩ := h
  refine ⟨t, ht, ⟨hts, fun k hk => ⟨(htc k hk).1, c04k_comp_canon hl (htc k hk).2⟩⟩, htn, htcf, fun j hj c hc => ?_⟩
  have hc' := c19k_lt_n hl hc
  rw [array_getD_ofFn _ _ hc', c19k_sigma_fn kl.n l.k g hl.k hg _ _ (fun i hi => c19k_phase_getD kl j ct s i hi) c hc',
    c19k_phase_getD kl j t s c hc', htn]
  exact htph j hj c hc'

/-- the automorphism: σ_g of what is carried, plus the switch-key noise of THIS ciphertext -/
theorem c19k_Tracks.galois {kl : KeyLevel} {l : Level} {s : Nat → Int} {ct t : Ct} {b : Bool} {f : Nat} {P : Nat → Array Int}
    {g : Nat} {ν : Array Int} (hg : g % 2 = 1) (h : c19k_Tracks kl l s ct b f P) (hspec : c19k_GaloisSpec kl l ct t g s ν) :
    c19k_Tracks kl l s t b f (fun j => addPoly (2^l.k) (sigmaPoly (2^l.k) (P j) g) ν) :=
  ⟨hspec.1, hspec.2.1.trans h.ntt, hspec.2.2.1.trans h.cf, fun j hj c hc => by
    rw [c19_addPoly_getD _ _ _ _ hc]
    exact (hspec.2.2.2 j hj c hc).trans (((c19k_sigma_sel l.k g hg).modEq _ (h.phase j hj) hc).add (Int.ModEq.refl _))⟩

theorem c19k_Tracks.layer {kl : KeyLevel} {l : Level} (hl : c04k_LevelOf kl l) (hkl : kl.WF) (hd : l.size + 1 ≤ kl.ms.size)
    {scheme : Scheme} {ct t : Ct} {key : KSKey} {g : Nat} (hg : g % 2 = 1) {s : Nat → Int} {ν : Array Int} {b : Bool} {f : Nat}
    {P : Nat → Array Int} (h : c19k_Tracks kl l s ct b f P)
    (ht : applyGalois kl l scheme ct g key = .ok t) (hspec : c19k_GaloisSpec kl l ct t g s ν) :
    ∃ ct', c19k_traceLayer kl l scheme ct g key = .ok ct' ∧
      c19k_Tracks kl l s ct' b f (fun j => addPoly (2^l.k) (addPoly (2^l.k) (P j) (sigmaPoly (2^l.k) (P j) g)) ν) := by
  obtain ⟨r, hr, hT⟩ := h.add hl hkl hd (h.galois hg hspec)
  refine ⟨r, ?_, hT.congr_eq fun j _ c hc => ?_⟩
  · unfold c19k_traceLayer
    rw [ht]
    exact hr
  · simp only [c19_addPoly_getD _ _ _ _ hc, add_assoc]

/-- the loop of `field_trace_inplace`, for any rule `ν` giving the fresh noise of layer i from the key and the intermediate ciphertext
    and anything `F` the scheme guarantees of it: m layers carry the exact trace of what was carried plus the noise `c19k_accNoise` -/
theorem c19k_traceSteps_rule {kl : KeyLevel} {l : Level} (hl : c04k_LevelOf kl l) {scheme : Scheme} {keys : Nat → Option KSKey}
    {s : Nat → Int} {b : Bool} {f : Nat} (ν : Nat → KSKey → Ct → Array Int) (F : Nat → Array Int → Prop) (m : Nat) (hm : m ≤ l.k)
    (hrule : ∀ i, i < m → ∃ key, keys (2^(l.k - i) + 1) = some key ∧ kl.WF ∧ l.size + 1 ≤ kl.ms.size ∧
      ∀ x, c19k_CtOK l x → x.ntt = b → ∃ t, applyGalois kl l scheme x (2^(l.k - i) + 1) key = .ok t ∧
        c19k_GaloisSpec kl l x t (2^(l.k - i) + 1) s (ν i key x) ∧ F i (ν i key x))
    {ct : Ct} {T : Nat → Array Int} (h : c19k_Tracks kl l s ct b f T) :
    ∃ ct' νs, c19k_traceStepsCt kl l scheme keys m ct = .ok ct' ∧
      (∀ i, i < m → ∃ cti key, c19k_traceStepsCt kl l scheme keys i ct = .ok cti ∧ keys (2^(l.k - i) + 1) = some key ∧
        νs i = ν i key cti ∧ F i (νs i)) ∧
      c19k_Tracks kl l s ct' b f (fun j => addPoly (2^l.k) (c19_traceSteps l.k m (T j)) (c19k_accNoise l.k νs m)) := by
  induction m with
  | zero =>
    refine ⟨ct, fun _ => #[], rfl, fun i hi => by omega, h.congr_eq fun j _ c hc => ?_⟩
    rw [c19_addPoly_getD _ _ _ _ hc, show (c19k_accNoise l.k (fun _ => #[]) 0).getD c 0 = 0 from array_getD_replicate _ _ _, add_zero]
    rfl
  | succ m ih =>
    obtain ⟨ctm, νs, hfold, hQ, hT⟩ := ih (by omega) (fun i hi => hrule i (by omega))
    obtain ⟨key, hk, hkl, hd, hgal⟩ := hrule m (by omega)
    obtain ⟨t, ht, hspec, hF⟩ := hgal ctm hT.ok hT.ntt
    have hg := c19_odd_two_pow (l.k - m) (by omega)
    obtain ⟨ct', hs', hT'⟩ := hT.layer hl hkl hd hg ht hspec
    refine ⟨ct', fun i => if i = m then ν m key ctm else νs i, ?_, fun i hi => ?_, hT'.congr_eq fun j _ c hc => ?_⟩
    · unfold c19k_traceStepsCt at hfold ⊢
      rw [List.range_succ, List.foldlM_append, hfold]
      simp only [bind, Except.bind, List.foldlM_cons, List.foldlM_nil, hk, hs']
      rfl
    · by_cases him : i = m
      · subst him
        exact ⟨ctm, key, hfold, hk, by simp, by simpa using hF⟩
      · obtain ⟨cti, key', h1, h2, h3, h4⟩ := hQ i (by omega)
        exact ⟨cti, key', h1, h2, by simpa [him] using h3, by simpa [him] using h4⟩
    · have hacc : c19k_accNoise l.k (fun i => if i = m then ν m key ctm else νs i) m = c19k_accNoise l.k νs m :=
        c19k_accNoise_congr _ _ _ _ (fun i hi => by simp [Nat.ne_of_lt hi])
      rw [c19k_trace_alg l.k _ hg _ _ _ c hc, c19_traceSteps_succ]
      show _ = (addPoly (2^l.k) _ (addPoly (2^l.k) (addPoly (2^l.k) _ _) _)).getD c 0
      rw [hacc]
      simp

theorem c19k_elt_le {l : Level} {kl : KeyLevel} (hl : c04k_LevelOf kl l) {m : Nat} (hm : m ≤ l.k) : 2^m + 1 ≤ 2 * l.n := by
  rw [hl.n, ← hl.k, Nat.two_mul]
  exact Nat.add_le_add (Nat.pow_le_pow_right (by norm_num) hm) (Nat.two_pow_pos l.k)

def c19k_nuStdArr (kl : KeyLevel) (l : Level) (ct : Ct) (g : Nat) (key : KSKey) (e : Nat → Nat → Int) (s : Nat → Int) : Array Int :=
  Array.ofFn (n := kl.n) fun c =>
    c04k_nuStd kl l.size ct.ntt (c04k_galRns l ct.ntt g (ct.polys.getD 1 #[])) key e s c.val

def c19k_nuBgvArr (kl : KeyLevel) (l : Level) (ct : Ct) (g : Nat) (key : KSKey) (e : Nat → Nat → Int) (s : Nat → Int) : Array Int :=
  Array.ofFn (n := kl.n) fun c =>
    c04k_nuBgv kl l.size ct.ntt (c04k_galRns l ct.ntt g (ct.polys.getD 1 #[])) key e s c.val

/-- the switch-key noise bound of the rounding branch: P·‖ν‖∞ ≤ dsz·A·N·Be + ⌊P/2⌋·(1 + ‖s‖₁) -/
def c19k_boundStd (kl : KeyLevel) (dsz A Be : Nat) (s : Nat → Int) : Nat :=
  dsz * (A * (kl.n * Be)) + kl.c04t_P / 2 * (1 + ∑ p ∈ range kl.n, (s p).natAbs)

/-- the switch-key noise bound of the BGV branch: P·‖ν‖∞ ≤ dsz·A·N·Be + P·t·(1 + ‖s‖₁) -/
def c19k_boundBgv (kl : KeyLevel) (dsz A Be : Nat) (s : Nat → Int) : Nat :=
  dsz * (A * (kl.n * Be)) + kl.c04t_P * kl.t.value * (1 + ∑ p ∈ range kl.n, (s p).natAbs)

/-- the automorphism under the rounding rule, in the form the loops take (`c19k_GaloisSpec`) with the bound on its noise:
    `applyGalois_phase_sigma` and `switchKey_noise_bound` of C04K read on arrays -/
theorem c19k_galois_std {kl : KeyLevel} {l : Level} (hl : c04k_LevelOf kl l) {scheme : Scheme} {ct : Ct} {key : KSKey} {g : Nat}
    (hK : c19k_KeyOK kl l.size key) (hct : c19k_CtOK l ct) (hmode : c04t_StdMode scheme ct.ntt)
    (hg : g % 2 = 1) (hg2 : g ≤ 2 * l.n)
    {s : Nat → Int} {e : Nat → Nat → Int} {G : Nat → Int} (hke : c04k_KeyEq kl l.size key s (c04k_sigma kl.n g s) e G)
    {A Be : Nat} (hA : ∀ i, i < l.size → (kl.m i).value ≤ A)
    (he : ∀ i, i < l.size → ∀ p, p < kl.n → (e i p).natAbs ≤ Be) :
    ∃ t, applyGalois kl l scheme ct g key = .ok t ∧
      c19k_GaloisSpec kl l ct t g s (c19k_nuStdArr kl l ct g key e s) ∧
      ∀ c, c < 2^l.k → ((c19k_nuStdArr kl l ct g key e s).getD c 0).natAbs * kl.c04t_P ≤ c19k_boundStd kl l.size A Be s := by
  have hin := c19k_ksInput hl hK hct
  obtain ⟨t, h1, h2⟩ := c19k_galois_of hl hg
    (applyGalois_phase_sigma hl hin hmode hct.1 hg hg2 hK.hkcc hke (fun p _ => rfl))
  refine ⟨t, h1, h2, fun c hc => ?_⟩
  unfold c19k_nuStdArr
  rw [array_getD_ofFn _ _ (c19k_lt_n hl hc)]
  exact switchKey_noise_bound (c04k_galois_input hl hin hK.hkcc hg) hke hA he c (c19k_lt_n hl hc)

/-- the automorphism under the BGV rule: `applyGalois_phase_sigma_bgv`, `switchKey_noise_bound_bgv`, `switchKey_noise_bgv_mod_t` of C04K
    read on arrays (the last clause: t ∣ ν when t divides every key error) -/
theorem c19k_galois_bgv {kl : KeyLevel} {l : Level} (hl : c04k_LevelOf kl l) {ct : Ct} {key : KSKey} {g : Nat}
    (hK : c19k_KeyOK kl l.size key) (hct : c19k_CtOK l ct) (hb : c04t_BgvData kl) (hntt : ct.ntt = true)
    (hg : g % 2 = 1) (hg2 : g ≤ 2 * l.n)
    {s : Nat → Int} {e : Nat → Nat → Int} {G : Nat → Int} (hke : c04k_KeyEq kl l.size key s (c04k_sigma kl.n g s) e G)
    {A Be : Nat} (hA : ∀ i, i < l.size → (kl.m i).value ≤ A)
    (he : ∀ i, i < l.size → ∀ p, p < kl.n → (e i p).natAbs ≤ Be) :
    ∃ t, applyGalois kl l .bgv ct g key = .ok t ∧
      c19k_GaloisSpec kl l ct t g s (c19k_nuBgvArr kl l ct g key e s) ∧
      (∀ c, c < 2^l.k → ((c19k_nuBgvArr kl l ct g key e s).getD c 0).natAbs * kl.c04t_P ≤ c19k_boundBgv kl l.size A Be s) ∧
      ((∀ i, i < l.size → ∀ p, p < kl.n → (kl.t.value : Int) ∣ e i p) →
        ∀ c, c < 2^l.k → (kl.t.value : Int) ∣ (c19k_nuBgvArr kl l ct g key e s).getD c 0) := by
  have hin := c19k_ksInput hl hK hct
  obtain ⟨t, h1, h2⟩ := c19k_galois_of hl hg
    (applyGalois_phase_sigma_bgv hl hin hb hntt hct.1 hg hg2 hK.hkcc hke (fun p _ => rfl))
  have hget : ∀ c, c < 2^l.k → (c19k_nuBgvArr kl l ct g key e s).getD c 0
      = c04k_nuBgv kl l.size ct.ntt (c04k_galRns l ct.ntt g (ct.polys.getD 1 #[])) key e s c := fun c hc => by
    unfold c19k_nuBgvArr
    rw [array_getD_ofFn _ _ (c19k_lt_n hl hc)]
  refine ⟨t, h1, h2, fun c hc => ?_, fun het c hc => ?_⟩
  · rw [hget c hc]
    exact switchKey_noise_bound_bgv (c04k_galois_input hl hin hK.hkcc hg) hb hke hA he c (c19k_lt_n hl hc)
  · rw [hget c hc]
    exact switchKey_noise_bgv_mod_t (c04k_galois_input hl hin hK.hkcc hg) hb hke het c (c19k_lt_n hl hc)

/-- ONE LAYER of the field trace, rounding rule (`hmode`: BFV in coefficient form, CKKS in NTT form): `ct + applyGalois(ct, g)` for an odd
    g ≤ 2N with a key from σ_g(s) to s (`hke`) succeeds, stays canonical, keeps representation and correction factor, and modulo every q_j
    its phase is x + σ_g(x) + ν, x the phase of `ct`, ν = `c19k_nuStdArr` (the switch-key noise of σ_g(c1), as an array) with
    P·‖ν‖∞ ≤ `c19k_boundStd` (q_j ≤ A, ‖e_i‖∞ ≤ Be).  It is `c19k_Tracks.layer` at `c19k_Tracks.self` with the step `c19k_galois_std`. -/
theorem fieldTrace_layer_noisy {kl : KeyLevel} {l : Level} (hl : c04k_LevelOf kl l) {scheme : Scheme} {ct : Ct} {key : KSKey}
    {g : Nat} (hK : c19k_KeyOK kl l.size key) (hct : c19k_CtOK l ct) (hmode : c04t_StdMode scheme ct.ntt)
    (hg : g % 2 = 1) (hg2 : g ≤ 2 * l.n)
    {s : Nat → Int} {e : Nat → Nat → Int} {G : Nat → Int} (hke : c04k_KeyEq kl l.size key s (c04k_sigma kl.n g s) e G)
    {A Be : Nat} (hA : ∀ i, i < l.size → (kl.m i).value ≤ A)
    (he : ∀ i, i < l.size → ∀ p, p < kl.n → (e i p).natAbs ≤ Be) :
    ∃ ct', c19k_traceLayer kl l scheme ct g key = .ok ct' ∧
      c19k_CtOK l ct' ∧ ct'.ntt = ct.ntt ∧ ct'.cf = ct.cf ∧
      (∀ j, j < l.size → ∀ c, c < 2^l.k →
        (c19k_phase kl j ct' s).getD c 0 ≡
          (addPoly (2^l.k) (c19k_phase kl j ct s) (sigmaPoly (2^l.k) (c19k_phase kl j ct s) g)).getD c 0
            + (c19k_nuStdArr kl l ct g key e s).getD c 0 [ZMOD ((kl.m j).value : Int)]) ∧
      ∀ c, c < 2^l.k → ((c19k_nuStdArr kl l ct g key e s).getD c 0).natAbs * kl.c04t_P ≤ c19k_boundStd kl l.size A Be s := by
  obtain ⟨t, ht, hspec, hbound⟩ := c19k_galois_std hl hK hct hmode hg hg2 hke hA he
  obtain ⟨ct', h1, h2⟩ := (c19k_Tracks.self (kl := kl) (s := s) hct).layer hl hK.hkl hK.hd hg ht hspec
  exact ⟨ct', h1, h2.ok, h2.ntt, h2.cf, fun j hj c hc => by rw [← c19_addPoly_getD _ _ _ _ hc]; exact h2.phase j hj c hc, hbound⟩

/-- one layer under the BGV rule (NTT form): the same with ν = `c19k_nuBgvArr`, the bound `c19k_boundBgv`, and t ∣ ν when t divides
    every key error -/
theorem fieldTrace_layer_noisy_bgv {kl : KeyLevel} {l : Level} (hl : c04k_LevelOf kl l) {ct : Ct} {key : KSKey}
    {g : Nat} (hK : c19k_KeyOK kl l.size key) (hct : c19k_CtOK l ct) (hb : c04t_BgvData kl) (hntt : ct.ntt = true)
    (hg : g % 2 = 1) (hg2 : g ≤ 2 * l.n)
    {s : Nat → Int} {e : Nat → Nat → Int} {G : Nat → Int} (hke : c04k_KeyEq kl l.size key s (c04k_sigma kl.n g s) e G)
    {A Be : Nat} (hA : ∀ i, i < l.size → (kl.m i).value ≤ A)
    (he : ∀ i, i < l.size → ∀ p, p < kl.n → (e i p).natAbs ≤ Be) :
    ∃ ct', c19k_traceLayer kl l .bgv ct g key = .ok ct' ∧
      c19k_CtOK l ct' ∧ ct'.ntt = ct.ntt ∧ ct'.cf = ct.cf ∧
      (∀ j, j < l.size → ∀ c, c < 2^l.k →
        (c19k_phase kl j ct' s).getD c 0 ≡
          (addPoly (2^l.k) (c19k_phase kl j ct s) (sigmaPoly (2^l.k) (c19k_phase kl j ct s) g)).getD c 0
            + (c19k_nuBgvArr kl l ct g key e s).getD c 0 [ZMOD ((kl.m j).value : Int)]) ∧
      (∀ c, c < 2^l.k → ((c19k_nuBgvArr kl l ct g key e s).getD c 0).natAbs * kl.c04t_P ≤ c19k_boundBgv kl l.size A Be s) ∧
      ((∀ i, i < l.size → ∀ p, p < kl.n → (kl.t.value : Int) ∣ e i p) →
        ∀ c, c < 2^l.k → (kl.t.value : Int) ∣ (c19k_nuBgvArr kl l ct g key e s).getD c 0) := by
  obtain ⟨t, ht, hspec, hbound, hdvd⟩ := c19k_galois_bgv hl hK hct hb hntt hg hg2 hke hA he
  obtain ⟨ct', h1, h2⟩ := (c19k_Tracks.self (kl := kl) (s := s) hct).layer hl hK.hkl hK.hd hg ht hspec
  exact ⟨ct', h1, h2.ok, h2.ntt, h2.cf, fun j hj c hc => by rw [← c19_addPoly_getD _ _ _ _ hc]; exact h2.phase j hj c hc, hbound, hdvd⟩

/-- THE LOOP `field_trace_inplace(ct, keys, logn)` (`c19k_fieldTraceCt`), rounding rule: given a key from σ_{g_i}(s) to s for every
    g_i = 2^(l.k − i) + 1, i < l.k − logn, the loop succeeds; modulo every q_j the phase of the result is `fieldTracePoly` of the phase of
    `ct` plus `c19k_accNoise l.k νs (l.k − logn)`, where `νs i` is the fresh noise of layer i — `c19k_nuStdArr` at the i-th INTERMEDIATE
    ciphertext, which the clause about `νs` names; and P·‖accumulated noise‖∞ ≤ (2^(l.k − logn) − 1)·`c19k_boundStd`: a layer doubles what came in
    and adds one fresh term.  Instance of `c19k_traceSteps_rule` at the rule `c19k_nuStdArr` and `c19k_Tracks.self`. -/
theorem fieldTrace_noisy {kl : KeyLevel} {l : Level} (hl : c04k_LevelOf kl l) {scheme : Scheme}
    {keys : Nat → Option KSKey} (logn : Nat) {ct : Ct} (hct : c19k_CtOK l ct) (hmode : c04t_StdMode scheme ct.ntt)
    {s : Nat → Int} {e : Nat → Nat → Nat → Int} {G : Nat → Nat → Int}
    (hkeys : ∀ i, i < l.k - logn → ∃ key, keys (2^(l.k - i) + 1) = some key ∧ c19k_KeyOK kl l.size key ∧
      c04k_KeyEq kl l.size key s (c04k_sigma kl.n (2^(l.k - i) + 1) s) (e i) (G i))
    {A Be : Nat} (hA : ∀ i, i < l.size → (kl.m i).value ≤ A)
    (he : ∀ i, i < l.k - logn → ∀ d, d < l.size → ∀ p, p < kl.n → (e i d p).natAbs ≤ Be) :
    ∃ ct' νs, c19k_fieldTraceCt kl l scheme keys logn ct = .ok ct' ∧ c19k_CtOK l ct' ∧ ct'.ntt = ct.ntt ∧ ct'.cf = ct.cf ∧
      (∀ i, i < l.k - logn → ∃ cti key, c19k_traceStepsCt kl l scheme keys i ct = .ok cti ∧ keys (2^(l.k - i) + 1) = some key ∧
        νs i = c19k_nuStdArr kl l cti (2^(l.k - i) + 1) key (e i) s) ∧
      (∀ j, j < l.size → ∀ c, c < 2^l.k →
        (c19k_phase kl j ct' s).getD c 0 ≡
          (fieldTracePoly l.k logn (c19k_phase kl j ct s)).getD c 0 + (c19k_accNoise l.k νs (l.k - logn)).getD c 0
            [ZMOD ((kl.m j).value : Int)]) ∧
      ∀ c, c < 2^l.k → ((c19k_accNoise l.k νs (l.k - logn)).getD c 0).natAbs * kl.c04t_P
        ≤ (2^(l.k - logn) - 1) * c19k_boundStd kl l.size A Be s := by
  obtain ⟨ct', νs, h1, h5, hT⟩ := c19k_traceSteps_rule hl (scheme := scheme) (keys := keys) (s := s)
    (fun i key x => c19k_nuStdArr kl l x (2^(l.k - i) + 1) key (e i) s)
    (fun _ n => ∀ c, c < 2^l.k → (n.getD c 0).natAbs * kl.c04t_P ≤ c19k_boundStd kl l.size A Be s)
    (l.k - logn) (Nat.sub_le _ _)
    (fun i hi => by
      obtain ⟨key, hk1, hk2, hk3⟩ := hkeys i hi
      exact ⟨key, hk1, hk2.hkl, hk2.hd, fun x hx hxn => c19k_galois_std hl hk2 hx (hxn ▸ hmode)
        (c19_odd_two_pow (l.k - i) (by omega)) (c19k_elt_le hl (Nat.sub_le _ _)) hk3 hA (he i hi)⟩)
    (c19k_Tracks.self hct)
  refine ⟨ct', νs, h1, hT.ok, hT.ntt, hT.cf, fun i hi => ?_, fun j hj c hc => ?_, ?_⟩
  · obtain ⟨cti, key, b1, b2, b3, _⟩ := h5 i hi
    exact ⟨cti, key, b1, b2, b3⟩
  · rw [← c19_addPoly_getD _ _ _ _ hc]; exact hT.phase j hj c hc
  · exact c19k_accNoise_bound l.k νs kl.c04t_P _ _ (Nat.sub_le _ _) (fun i hi => by
      obtain ⟨_, _, _, _, _, b4⟩ := h5 i hi
      exact b4)

/-- the loop under the BGV rule (NTT form): the same at the rule `c19k_nuBgvArr` with `c19k_boundBgv`, and t ∣ the accumulated noise
    when t divides every key error, so the residue of the phase modulo t is that of the exact field trace -/
theorem fieldTrace_noisy_bgv {kl : KeyLevel} {l : Level} (hl : c04k_LevelOf kl l)
    {keys : Nat → Option KSKey} (logn : Nat) {ct : Ct} (hct : c19k_CtOK l ct) (hb : c04t_BgvData kl) (hntt : ct.ntt = true)
    {s : Nat → Int} {e : Nat → Nat → Nat → Int} {G : Nat → Nat → Int}
    (hkeys : ∀ i, i < l.k - logn → ∃ key, keys (2^(l.k - i) + 1) = some key ∧ c19k_KeyOK kl l.size key ∧
      c04k_KeyEq kl l.size key s (c04k_sigma kl.n (2^(l.k - i) + 1) s) (e i) (G i))
    {A Be : Nat} (hA : ∀ i, i < l.size → (kl.m i).value ≤ A)
    (he : ∀ i, i < l.k - logn → ∀ d, d < l.size → ∀ p, p < kl.n → (e i d p).natAbs ≤ Be) :
    ∃ ct' νs, c19k_fieldTraceCt kl l .bgv keys logn ct = .ok ct' ∧ c19k_CtOK l ct' ∧ ct'.ntt = ct.ntt ∧ ct'.cf = ct.cf ∧
      (∀ i, i < l.k - logn → ∃ cti key, c19k_traceStepsCt kl l .bgv keys i ct = .ok cti ∧ keys (2^(l.k - i) + 1) = some key ∧
        νs i = c19k_nuBgvArr kl l cti (2^(l.k - i) + 1) key (e i) s) ∧
      (∀ j, j < l.size → ∀ c, c < 2^l.k →
        (c19k_phase kl j ct' s).getD c 0 ≡
          (fieldTracePoly l.k logn (c19k_phase kl j ct s)).getD c 0 + (c19k_accNoise l.k νs (l.k - logn)).getD c 0
            [ZMOD ((kl.m j).value : Int)]) ∧
      (∀ c, c < 2^l.k → ((c19k_accNoise l.k νs (l.k - logn)).getD c 0).natAbs * kl.c04t_P
        ≤ (2^(l.k - logn) - 1) * c19k_boundBgv kl l.size A Be s) ∧
      ((∀ i, i < l.k - logn → ∀ d, d < l.size → ∀ p, p < kl.n → (kl.t.value : Int) ∣ e i d p) →
        ∀ c, c < 2^l.k → (kl.t.value : Int) ∣ (c19k_accNoise l.k νs (l.k - logn)).getD c 0) := by
  obtain ⟨ct', νs, h1, h5, hT⟩ := c19k_traceSteps_rule hl (scheme := .bgv) (keys := keys) (s := s)
    (fun i key x => c19k_nuBgvArr kl l x (2^(l.k - i) + 1) key (e i) s)
    (fun i n => (∀ c, c < 2^l.k → (n.getD c 0).natAbs * kl.c04t_P ≤ c19k_boundBgv kl l.size A Be s) ∧
      ((∀ d, d < l.size → ∀ p, p < kl.n → (kl.t.value : Int) ∣ e i d p) → ∀ c, c < 2^l.k → (kl.t.value : Int) ∣ n.getD c 0))
    (l.k - logn) (Nat.sub_le _ _)
    (fun i hi => by
      obtain ⟨key, hk1, hk2, hk3⟩ := hkeys i hi
      exact ⟨key, hk1, hk2.hkl, hk2.hd, fun x hx hxn => c19k_galois_bgv hl hk2 hx hb (hxn.trans hntt)
        (c19_odd_two_pow (l.k - i) (by omega)) (c19k_elt_le hl (Nat.sub_le _ _)) hk3 hA (he i hi)⟩)
    (c19k_Tracks.self hct)
  refine ⟨ct', νs, h1, hT.ok, hT.ntt, hT.cf, fun i hi => ?_, fun j hj c hc => ?_, ?_, fun het => ?_⟩
  · obtain ⟨cti, key, b1, b2, b3, _⟩ := h5 i hi
    exact ⟨cti, key, b1, b2, b3⟩
  · rw [← c19_addPoly_getD _ _ _ _ hc]; exact hT.phase j hj c hc
  · exact c19k_accNoise_bound l.k νs kl.c04t_P _ _ (Nat.sub_le _ _) (fun i hi => by
      obtain ⟨_, _, _, _, _, b4, _⟩ := h5 i hi
      exact b4)
  · exact c19k_accNoise_dvd l.k νs _ _ (Nat.sub_le _ _) (fun i hi => by
      obtain ⟨_, _, _, _, _, _, b5⟩ := h5 i hi
      exact b5 (het i hi))

/-- the conclusion of `fieldTrace_noisy(_bgv)` coefficient by coefficient: `fieldTracePoly` multiplies the coefficients at the multiples of
    N/2^logn by N/2^logn and kills the others (`c19_traceSteps_coeff`); the noise is carried along unchanged -/
theorem fieldTrace_noisy_coeffs (k logn : Nat) (q : Int) (r x N : Array Int)
    (h : ∀ c, c < 2^k → r.getD c 0 ≡ (fieldTracePoly k logn x).getD c 0 + N.getD c 0 [ZMOD q]) (c : Nat) (hc : c < 2^k) :
    r.getD c 0 ≡ (if 2^(k - logn) ∣ c then (2:Int)^(k - logn) * x.getD c 0 else 0) + N.getD c 0 [ZMOD q] := by
  have := h c hc
  rw [c19_fieldTrace_eq, c19_traceSteps_coeff k (k - logn) (Nat.sub_le _ _) x c hc] at this
  exact this

theorem fieldTrace_refuses_missing_key (kl : KeyLevel) (l : Level) (scheme : Scheme) (keys : Nat → Option KSKey) (logn : Nat)
    (ct : Ct) (hlog : logn < l.k) (hk : keys (2^l.k + 1) = none) :
    c19k_fieldTraceCt kl l scheme keys logn ct = .error .refused := by
  unfold c19k_fieldTraceCt c19k_traceStepsCt
  obtain ⟨m, hm⟩ : ∃ m, l.k - logn = m + 1 := ⟨l.k - logn - 1, by omega⟩
  rw [hm, List.range_succ_eq_map, List.foldlM_cons]
  simp only [Nat.sub_zero, hk]
  rfl

theorem fieldTrace_refuses_size (kl : KeyLevel) (l : Level) (scheme : Scheme) (keys : Nat → Option KSKey) (logn : Nat)
    (ct : Ct) (hlog : logn < l.k) (h2 : ct.polys.size ≠ 2) :
    ∃ err, c19k_fieldTraceCt kl l scheme keys logn ct = .error err := by
  unfold c19k_fieldTraceCt c19k_traceStepsCt
  obtain ⟨m, hm⟩ : ∃ m, l.k - logn = m + 1 := ⟨l.k - logn - 1, by omega⟩
  rw [hm, List.range_succ_eq_map, List.foldlM_cons]
  simp only [Nat.sub_zero]
  cases hk : keys (2^l.k + 1) with
  | none => exact ⟨.refused, rfl⟩
  | some key =>
    refine ⟨.refused, ?_⟩
    simp only [c19k_traceLayer, applyGalois_refuses_size kl l scheme ct _ key h2]
    rfl

theorem fieldTrace_noop (kl : KeyLevel) (l : Level) (scheme : Scheme) (keys : Nat → Option KSKey) (logn : Nat) (ct : Ct)
    (h : l.k ≤ logn) : c19k_fieldTraceCt kl l scheme keys logn ct = .ok ct := by
  unfold c19k_fieldTraceCt c19k_traceStepsCt
  have : l.k - logn = 0 := by omega
  rw [this]; rfl

/-! ## the noisy merge tree of PackLWEs, pure algebra over ℤ -/

theorem c19k_packMerge_add (k lam : Nat) (E O Z Z' : Array Int) (c : Nat) (hc : c < 2^k) :
    (packMerge k lam (addPoly (2^k) E Z) (addPoly (2^k) O Z')).getD c 0 =
      (packMerge k lam E O).getD c 0 + (packMerge k lam Z Z').getD c 0 := by
  have hσ := c19k_sigma_sel k (2^(lam+1) + 1) (c19_odd_two_pow (lam+1) (by omega))
  have hsh := c19k_shift_sel (2^k) (2^k / 2^(lam+1))
  unfold packMerge
  simp only
  rw [c19_addPoly_getD _ _ _ _ hc, c19_addPoly_getD _ _ _ _ hc, c19_addPoly_getD _ _ _ _ hc, c19_addPoly_getD _ _ _ _ hc,
    c19_addPoly_getD _ _ _ _ hc, c19_addPoly_getD _ _ _ _ hc, c19_addPoly_getD _ _ _ _ hc, hsh.add O Z' hc]
  have hs : (sigmaPoly (2^k) (subPoly (2^k) (addPoly (2^k) E Z) (shiftPoly (2^k) (addPoly (2^k) O Z') (2^k / 2^(lam+1))))
        (2^(lam+1) + 1)).getD c 0
      = (sigmaPoly (2^k) (addPoly (2^k) (subPoly (2^k) E (shiftPoly (2^k) O (2^k / 2^(lam+1))))
          (subPoly (2^k) Z (shiftPoly (2^k) Z' (2^k / 2^(lam+1))))) (2^(lam+1) + 1)).getD c 0 := by
    refine hσ.congr (fun i hi => ?_) hc
    rw [c19_subPoly_getD _ _ _ _ hi, c19_addPoly_getD _ _ _ _ hi, c19_addPoly_getD _ _ _ _ hi,
      c19_subPoly_getD _ _ _ _ hi, c19_subPoly_getD _ _ _ _ hi, hsh.add O Z' hi]
    ring
  rw [hs, hσ.add _ _ hc]
  ring


/-- the noise of slot `o` after `lam` layers when the merge producing slot o of layer lam+1 contributes `ν lam o`:
    Z_{0,o} = 0,  Z_{lam+1,o} = packMerge(Z_{lam,o}, Z_{lam,o+2^lam}) + ν_{lam,o}   (the butterfly is linear) -/
def c19k_nodeNoise (k : Nat) (ν : Nat → Nat → Array Int) : Nat → Nat → Array Int
  | 0, _ => Array.replicate (2^k) 0
  | lam+1, o => addPoly (2^k) (packMerge k lam (c19k_nodeNoise k ν lam o) (c19k_nodeNoise k ν lam (o + 2^lam))) (ν lam o)

/-- the same for the merge tree, at the coefficients later layers read (the multiples of N/2^lam); a butterfly doubles the incoming noise -/
theorem c19k_nodeNoise_induct (k : Nat) (ν : Nat → Nat → Array Int) (F : Int → Prop) (Q : Nat → Int → Prop) (h0 : Q 0 0)
    (hstep : ∀ lam z n, Q lam z → F n → Q (lam+1) (z + z + n)) (lam : Nat) (hlam : lam ≤ k)
    (h : ∀ i, i < lam → ∀ o c, c < 2^k → F ((ν i o).getD c 0)) :
    ∀ o u, u < 2^lam → Q lam ((c19k_nodeNoise k ν lam o).getD (2^(k-lam) * u) 0) := by
  induction lam with
  | zero =>
    intro o u _
    rw [show (c19k_nodeNoise k ν 0 o).getD (2^(k-0) * u) 0 = 0 from array_getD_replicate _ _ _]
    exact h0
  | succ lam ih =>
    intro o u hu
    have ih' := ih (by omega) (fun i hi => h i (by omega))
    have hlt := (c19_mult_lt k (lam+1) hlam u).mpr hu
    have hn := h lam (by omega) o _ hlt
    show Q _ ((addPoly (2^k) (packMerge k lam _ _) _).getD _ 0)
    rw [c19_addPoly_getD _ _ _ _ hlt]
    obtain ⟨u', rfl | rfl⟩ : ∃ u', u = 2 * u' ∨ u = 2 * u' + 1 := ⟨u / 2, by omega⟩
    all_goals have hu' : u' < 2^lam := by rw [pow_succ] at hu; omega
    · rw [(c19_packMerge_at_mult k lam hlam _ _ u' hu').1, two_mul]
      exact hstep lam _ _ (ih' o u' hu') hn
    · rw [(c19_packMerge_at_mult k lam hlam _ _ u' hu').2, two_mul]
      exact hstep lam _ _ (ih' (o + 2^lam) u' hu') hn

theorem c19k_nodeNoise_bound (k : Nat) (ν : Nat → Nat → Array Int) (P D : Nat) (lam : Nat) (hlam : lam ≤ k)
    (h : ∀ i, i < lam → ∀ o c, c < 2^k → ((ν i o).getD c 0).natAbs * P ≤ D) :
    ∀ o u, u < 2^lam → ((c19k_nodeNoise k ν lam o).getD (2^(k-lam) * u) 0).natAbs * P ≤ (2^lam - 1) * D :=
  c19k_nodeNoise_induct k ν (fun n => n.natAbs * P ≤ D) (fun lam z => z.natAbs * P ≤ (2^lam - 1) * D)
    (by rw [Int.natAbs_zero, Nat.zero_mul]; exact Nat.zero_le _) (fun _ _ _ hz hn => c19k_bound_step hz hz hn) lam hlam h

/-- the divisibility twin of `c19k_nodeNoise_bound` (what a BGV merge tree would need: t ∣ every fresh noise ⇒ t ∣ the node noise); the
    pack theorems of this file are stated for the rounding rule only, so nothing below calls it -/
theorem c19k_nodeNoise_dvd (k : Nat) (ν : Nat → Nat → Array Int) (t : Int) (lam : Nat) (hlam : lam ≤ k)
    (h : ∀ i, i < lam → ∀ o c, c < 2^k → t ∣ (ν i o).getD c 0) :
    ∀ o u, u < 2^lam → t ∣ (c19k_nodeNoise k ν lam o).getD (2^(k-lam) * u) 0 :=
  c19k_nodeNoise_induct k ν (fun n => t ∣ n) (fun _ z => t ∣ z) (dvd_zero t) (fun _ _ _ hz hn => dvd_add (dvd_add hz hz) hn) lam hlam h


/-! ## packing on the model: the monomial shift of a ciphertext, the butterfly -/

/-- `polymod::negacyclic_shift_ps(ct.data(), shift, ct.size(), N, modulus, out)`: every component of every polynomial shifted
    (coefficient form) -/
def c19k_shiftCt (l : Level) (ct : Ct) (sh : Nat) : Ct :=
  { ct with polys := ct.polys.map fun p => Array.ofFn (n := l.size) fun i => negacyclicShift (p.getD i.val #[]) sh (l.q i.val) }

theorem c19k_negQ_lt (q x : Nat) (hx : x < q) : c19_negQ q x < q := by
  unfold c19_negQ; split <;> omega

theorem c19k_negQ_int (q x : Nat) (hx : x ≤ q) : ((c19_negQ q x : Nat) : Int) ≡ - (x : Int) [ZMOD (q : Int)] := by
  unfold c19_negQ
  split
  · next h => subst h; simp
  · rw [Nat.cast_sub hx]
    have : ((q : Int) - x) = - (x : Int) + q := by ring
    rw [this]
    exact Int.add_modEq_right

theorem c19k_shift_comp (a : Array Nat) (n : Nat) (hs : a.size = n) (sh : Nat) (m : Modulus)
    (hcan : ∀ i, i < n → a.getD i 0 < m.value)
    (f : Nat → Int) (hf : ∀ i, i < n → f i = ((a.getD i 0 : Nat) : Int)) (c : Nat) (hc : c < n) :
    (negacyclicShift a sh m).getD c 0 < m.value ∧
    (((negacyclicShift a sh m).getD c 0 : Nat) : Int) ≡
      (shiftPoly n (Array.ofFn (n := n) fun i => f i.val) sh).getD c 0 [ZMOD (m.value : Int)] := by
  subst hs
  obtain ⟨i, hi, neg, h1, h2⟩ := c19_shift_pair a.size sh c hc
  rw [h1 a m rfl, h2, array_getD_ofFn _ _ hi, hf i hi]
  cases neg with
  | true => exact ⟨c19k_negQ_lt _ _ (hcan i hi), c19k_negQ_int _ _ (le_of_lt (hcan i hi))⟩
  | false => exact ⟨hcan i hi, Int.ModEq.refl _⟩

/-- the phase of the shifted pair is the shifted phase: X^sh ⋆ a0 + (X^sh ⋆ a1) ⋆ s = X^sh ⋆ (a0 + a1 ⋆ s) -/
theorem c19k_shift_phase2 (n : Nat) (hn : 0 < n) (sh : Nat) (a0 a1 s : Nat → Int) (c : Nat) (hc : c < n) :
    (shiftPoly n (Array.ofFn (n := n) fun i => a0 i.val) sh).getD c 0
      + negMulR n (fun i => (shiftPoly n (Array.ofFn (n := n) fun i => a1 i.val) sh).getD i 0) s c
    = (shiftPoly n (Array.ofFn (n := n) fun i => c05u_phase2 n a0 a1 s i.val) sh).getD c 0 := by
  rw [c19_shiftPoly_negMul n hn _ sh s c hc, c19_shiftPoly_eq_chi_mul n hn _ sh c hc, c19_shiftPoly_eq_chi_mul n hn _ sh c hc,
    ← negMulR_add_right]
  refine c04k_congr_right n _ _ _ hc fun i hi => ?_
  rw [array_getD_ofFn _ _ hi, array_getD_ofFn _ _ hi]
  exact congrArg (a0 i + ·) (c05u_negMul_congr n _ _ s i fun j hj => array_getD_ofFn _ _ hj)


/-- a ciphertext mapped component by component (`f j` on RNS component j), as the shift and the two transforms do -/
theorem c19k_mapComp (l : Level) {ct ct' : Ct} (hct : c19k_CtOK l ct) (f : Nat → Poly → Poly)
    (hp : ct'.polys = ct.polys.map fun p => Array.ofFn (n := l.size) fun i => f i.val (p.getD i.val #[]))
    (hf : ∀ j, j < l.size → ∀ p : Poly, (p.size = l.n ∧ ∀ x, x < l.n → p.getD x 0 < (l.q j).value) →
      (f j p).size = l.n ∧ ∀ x, x < l.n → (f j p).getD x 0 < (l.q j).value) :
    c19k_CtOK l ct' ∧ ∀ k, k < 2 → ∀ j, j < l.size → (ct'.polys.getD k #[]).getD j #[] = f j ((ct.polys.getD k #[]).getD j #[]) := by
  have hpoly : ∀ k, k < 2 → ∀ j, j < l.size →
      (ct'.polys.getD k #[]).getD j #[] = f j ((ct.polys.getD k #[]).getD j #[]) := fun k hk j hj => by
    rw [hp, array_getD_map _ _ #[] #[] (by rw [hct.1]; exact hk), array_getD_ofFn _ _ hj]
  refine ⟨⟨by rw [hp, Array.size_map, hct.1], fun k hk => ⟨?_, fun j hj => ?_⟩⟩, hpoly⟩
  · rw [hp, array_getD_map _ _ #[] #[] (by rw [hct.1]; exact hk), Array.size_ofFn]
  · rw [hpoly k hk j hj]; exact hf j hj _ ((hct.2 k hk).2 j hj)

theorem c19k_Tracks.shift {kl : KeyLevel} {l : Level} (hl : c04k_LevelOf kl l) {s : Nat → Int} {ct : Ct} {f : Nat}
    {P : Nat → Array Int} (h : c19k_Tracks kl l s ct false f P) (sh : Nat) :
    c19k_Tracks kl l s (c19k_shiftCt l ct sh) false f (fun j => shiftPoly (2^l.k) (P j) sh) := by
  obtain ⟨hok, hpoly⟩ := c19k_mapComp l h.ok (fun j p => negacyclicShift p sh (l.q j)) (ct' := c19k_shiftCt l ct sh) rfl
    (fun j _ p hp => ⟨by rw [c19_negacyclicShift_size]; exact hp.1, fun x hx =>
      (c19k_shift_comp p l.n hp.1 sh (l.q j) hp.2 (fun i => ((p.getD i 0 : Nat) : Int)) (fun _ _ => rfl) x hx).1⟩)
  refine ⟨hok, h.ntt, h.cf, fun j hj c hc => ?_⟩
  refine Int.ModEq.trans ?_ ((c19k_shift_sel (2^l.k) sh).modEq _ (h.phase j hj) hc)
  show _ ≡ (shiftPoly (2^l.k) (c19k_phase kl j ct s) sh).getD c 0 [ZMOD _]
  have hc' := c19k_lt_n hl hc
  -- per polynomial: the coefficient function of the shifted component is the shifted coefficient function, modulo q_j
  have hp : ∀ k, k < 2 → ∀ i, i < kl.n →
      c04k_polyI (kl.tb j) false (((c19k_shiftCt l ct sh).polys.getD k #[]).getD j #[]) i ≡
        (shiftPoly kl.n (Array.ofFn (n := kl.n) fun i =>
          c04k_polyI (kl.tb j) false ((ct.polys.getD k #[]).getD j #[]) i.val) sh).getD i 0 [ZMOD ((kl.m j).value : Int)] := by
    intro k hk i hi
    have hA := c04k_canon_to hl (h.ok.2 k hk) j hj
    rw [c04k_polyI_false, hpoly k hk j hj, hl.q j hj]
    exact (c19k_shift_comp _ kl.n hA.1 sh (kl.m j) hA.2 _ (fun _ _ => rfl) i hi).2
  have e2 : c19k_phase kl j ct s = Array.ofFn (n := kl.n) fun i =>
      c05u_phase2 kl.n (c04k_polyI (kl.tb j) false ((ct.polys.getD 0 #[]).getD j #[]))
        (c04k_polyI (kl.tb j) false ((ct.polys.getD 1 #[]).getD j #[])) s i.val := by
    unfold c19k_phase; rw [h.ntt]
  rw [c19k_phase_getD _ _ _ _ _ hc', show (c19k_shiftCt l ct sh).ntt = false from h.ntt, hl.k, e2,
    ← c19k_shift_phase2 kl.n (Nat.zero_lt_of_lt hc') sh _ _ s c hc']
  exact c04k_phase2_modEq kl.n _ hc' (hp 0 (by omega)) (hp 1 (by omega))

/-- `transform_to_ntt_inplace` / `transform_from_ntt_inplace` on a ciphertext -/
def c19k_toNtt (l : Level) (ct : Ct) : Ct := { ct with polys := ct.polys.map (rnsNtt l), ntt := true }
def c19k_fromNtt (l : Level) (ct : Ct) : Ct := { ct with polys := ct.polys.map (rnsIntt l), ntt := false }

/-- the level's NTT tables are the key level's tables of the same primes (`Level.WF` and `KeyLevel.WF` do not fix the root, so this is a
    hypothesis).  The same Prop as `c04r_SameTables` (C04R), which this file does not import. -/
def c19k_TablesOf (kl : KeyLevel) (l : Level) : Prop := ∀ j, j < l.size → l.tbl j = kl.tb j

theorem c19k_tbl_comp {kl : KeyLevel} {l : Level} (hl : c04k_LevelOf kl l) (hkl : kl.WF) (hd : l.size + 1 ≤ kl.ms.size)
    (hT : c19k_TablesOf kl l) {j : Nat} (hj : j < l.size) :
    l.tbl j = kl.tb j ∧ (kl.tb j).WF ∧ (kl.tb j).modulus.value = (l.q j).value ∧ 2^(kl.tb j).k = l.n := by
  obtain ⟨htw, htm, htn, _⟩ := c04t_kl_comp hkl (show j < kl.ms.size by omega)
  exact ⟨hT j hj, htw, by rw [htm, hl.q j hj], by rw [htn, hl.n]⟩

theorem c19k_toNtt_spec {kl : KeyLevel} {l : Level} (hl : c04k_LevelOf kl l) (hkl : kl.WF) (hd : l.size + 1 ≤ kl.ms.size)
    (hT : c19k_TablesOf kl l) {ct : Ct} (hct : c19k_CtOK l ct) (hntt : ct.ntt = false) (s : Nat → Int) :
    c19k_CtOK l (c19k_toNtt l ct) ∧ (c19k_toNtt l ct).ntt = true ∧ (c19k_toNtt l ct).cf = ct.cf ∧
    ∀ j, j < l.size → ∀ c, c < 2^l.k → (c19k_phase kl j (c19k_toNtt l ct) s).getD c 0 = (c19k_phase kl j ct s).getD c 0 := by
  obtain ⟨hok, hpoly⟩ := c19k_mapComp l hct (fun j p => ntt (l.tbl j) p) (ct' := c19k_toNtt l ct) rfl (fun j hj p hp => by
    obtain ⟨e, htw, htm, htn⟩ := c19k_tbl_comp hl hkl hd hT hj
    obtain ⟨f1, f2⟩ := ntt_sim htw p (by rw [hp.1, htn]) (fun i hi => by have := hp.2 i (by rw [← htn]; exact hi); omega)
    rw [e]
    exact ⟨by rw [f1, htn], fun x hx => by rw [← htm]; exact (f2 x (by rw [htn]; exact hx)).2.1⟩)
  refine ⟨hok, rfl, rfl, fun j hj c hc => ?_⟩
  obtain ⟨e, htw, htm, htn⟩ := c19k_tbl_comp hl hkl hd hT hj
  -- `intt (ntt p) = p`: the coefficient functions of the transformed components are those of the sources
  have hp : ∀ k, k < 2 → c04k_polyI (kl.tb j) true (((c19k_toNtt l ct).polys.getD k #[]).getD j #[])
      = c04k_polyI (kl.tb j) false ((ct.polys.getD k #[]).getD j #[]) := by
    intro k hk
    have hA := (hct.2 k hk).2 j hj
    rw [c04k_polyI_true, c04k_polyI_false, hpoly k hk j hj, e, intt_ntt htw _ (by rw [hA.1, htn]) (fun i hi => by rw [htm]; exact hA.2 i (by rw [← htn]; exact hi))]
  rw [c19k_phase_getD _ _ _ _ _ (c19k_lt_n hl hc), c19k_phase_getD _ _ _ _ _ (c19k_lt_n hl hc),
    show (c19k_toNtt l ct).ntt = true from rfl, hntt, hp 0 (by omega), hp 1 (by omega)]

theorem c19k_fromNtt_spec {kl : KeyLevel} {l : Level} (hl : c04k_LevelOf kl l) (hkl : kl.WF) (hd : l.size + 1 ≤ kl.ms.size)
    (hT : c19k_TablesOf kl l) {ct : Ct} (hct : c19k_CtOK l ct) (hntt : ct.ntt = true) (s : Nat → Int) :
    c19k_CtOK l (c19k_fromNtt l ct) ∧ (c19k_fromNtt l ct).ntt = false ∧ (c19k_fromNtt l ct).cf = ct.cf ∧
    ∀ j, j < l.size → ∀ c, c < 2^l.k → (c19k_phase kl j (c19k_fromNtt l ct) s).getD c 0 = (c19k_phase kl j ct s).getD c 0 := by
  obtain ⟨hok, hpoly⟩ := c19k_mapComp l hct (fun j p => intt (l.tbl j) p) (ct' := c19k_fromNtt l ct) rfl (fun j hj p hp => by
    obtain ⟨e, htw, htm, htn⟩ := c19k_tbl_comp hl hkl hd hT hj
    obtain ⟨f1, f2⟩ := intt_sim htw p (by rw [hp.1, htn]) (fun i hi => by have := hp.2 i (by rw [← htn]; exact hi); omega)
    rw [e]
    exact ⟨by rw [f1, htn], fun x hx => by rw [← htm]; exact (f2 x (by rw [htn]; exact hx)).1⟩)
  refine ⟨hok, rfl, rfl, fun j hj c hc => ?_⟩
  -- coefficient form of the result = what `c04k_polyI` reads off the NTT-form source
  have hp : ∀ k, k < 2 → c04k_polyI (kl.tb j) false (((c19k_fromNtt l ct).polys.getD k #[]).getD j #[])
      = c04k_polyI (kl.tb j) true ((ct.polys.getD k #[]).getD j #[]) := by
    intro k hk
    rw [c04k_polyI_true, c04k_polyI_false, hpoly k hk j hj, hT j hj]
  rw [c19k_phase_getD _ _ _ _ _ (c19k_lt_n hl hc), c19k_phase_getD _ _ _ _ _ (c19k_lt_n hl hc),
    show (c19k_fromNtt l ct).ntt = false from rfl, hntt, hp 0 (by omega), hp 1 (by omega)]

/-- `if !bfv { transform_to_ntt_inplace }` on a coefficient-form ciphertext: the form `apply_galois` expects, carrying the same -/
theorem c19k_Tracks.toNtt {kl : KeyLevel} {l : Level} (hl : c04k_LevelOf kl l) (hkl : kl.WF) (hd : l.size + 1 ≤ kl.ms.size)
    {scheme : Scheme} (hT : scheme ≠ .bfv → c19k_TablesOf kl l) {s : Nat → Int} {ct : Ct} {f : Nat} {P : Nat → Array Int}
    (h : c19k_Tracks kl l s ct false f P) :
    c19k_Tracks kl l s (if scheme = .bfv then ct else c19k_toNtt l ct) (if scheme = .bfv then false else true) f P := by
  by_cases hs : scheme = .bfv
  · rw [if_pos hs, if_pos hs]; exact h
  · rw [if_neg hs, if_neg hs]
    obtain ⟨a1, a2, a3, a4⟩ := c19k_toNtt_spec hl hkl hd (hT hs) h.ok h.ntt s
    exact ⟨a1, a2, a3.trans h.cf, fun j hj c hc => by rw [a4 j hj c hc]; exact h.phase j hj c hc⟩

/-- `if !bfv { transform_from_ntt_inplace }` on the result of `apply_galois` -/
theorem c19k_Tracks.fromNtt {kl : KeyLevel} {l : Level} (hl : c04k_LevelOf kl l) (hkl : kl.WF) (hd : l.size + 1 ≤ kl.ms.size)
    {scheme : Scheme} (hT : scheme ≠ .bfv → c19k_TablesOf kl l) {s : Nat → Int} {ct : Ct} {f : Nat} {P : Nat → Array Int}
    (h : c19k_Tracks kl l s ct (if scheme = .bfv then false else true) f P) :
    c19k_Tracks kl l s (if scheme = .bfv then ct else c19k_fromNtt l ct) false f P := by
  by_cases hs : scheme = .bfv
  · rw [if_pos hs] at h ⊢; exact h
  · rw [if_neg hs] at h ⊢
    obtain ⟨a1, a2, a3, a4⟩ := c19k_fromNtt_spec hl hkl hd (hT hs) h.ok h.ntt s
    exact ⟨a1, a2, a3.trans h.cf, fun j hj c hc => by rw [a4 j hj c hc]; exact h.phase j hj c hc⟩

/-- one butterfly of `pack_lwe_ciphertexts` on the model, operands in coefficient form (as the loop keeps them):
    `temp = X^shift·odd; odd = even − temp; even += temp; [to NTT unless BFV]; apply_galois_inplace(odd, 2^(layer+1)+1);
     [from NTT]; even += odd`; the value is the new `even`. -/
def c19k_mergeCt (kl : KeyLevel) (l : Level) (scheme : Scheme) (lam : Nat) (key : KSKey) (even odd : Ct) : R Ct := do
  let temp := c19k_shiftCt l odd (l.n / 2^(lam+1))
  let odd1 ← ctTranslateBalanced l even temp true
  let even1 ← ctTranslateBalanced l even temp false
  let odd2 := if scheme = .bfv then odd1 else c19k_toNtt l odd1
  let odd3 ← applyGalois kl l scheme odd2 (2^(lam+1) + 1) key
  let odd4 := if scheme = .bfv then odd3 else c19k_fromNtt l odd3
  ctTranslateBalanced l even1 odd4 false

/-- the ciphertext `apply_galois_inplace` is applied to inside the butterfly: `even − X^shift·odd` (in NTT form unless BFV).  It names the
    operand of the noise term in the statements; made total by `default` where the subtraction fails, which no statement reaches
    (`c19k_Tracks.merge` proves the subtraction succeeds before it speaks of the noise). -/
def c19k_galoisInput (l : Level) (scheme : Scheme) (lam : Nat) (ev od : Ct) : Ct :=
  match ctTranslateBalanced l ev (c19k_shiftCt l od (l.n / 2^(lam+1))) true with
  | .ok odd1 => if scheme = .bfv then odd1 else c19k_toNtt l odd1
  | .error _ => default

/-- the butterfly, for any Galois step that meets `c19k_GaloisSpec` with noise `ν x` on its operand `x`: the body of the loop line by
    line, then what was assembled is `packMerge` of what the operands carried, plus the noise of the one automorphism -/
theorem c19k_Tracks.merge {kl : KeyLevel} {l : Level} (hl : c04k_LevelOf kl l) (hkl : kl.WF) (hd : l.size + 1 ≤ kl.ms.size)
    {scheme : Scheme} (hT : scheme ≠ .bfv → c19k_TablesOf kl l) {key : KSKey} {even odd : Ct} {f : Nat} {E O : Nat → Array Int}
    {s : Nat → Int} (he : c19k_Tracks kl l s even false f E) (ho : c19k_Tracks kl l s odd false f O)
    (lam : Nat) (ν : Ct → Array Int)
    (hgal : ∀ x, c19k_CtOK l x → x.ntt = (if scheme = .bfv then false else true) →
      ∃ t, applyGalois kl l scheme x (2^(lam+1) + 1) key = .ok t ∧ c19k_GaloisSpec kl l x t (2^(lam+1) + 1) s (ν x)) :
    ∃ r, c19k_mergeCt kl l scheme lam key even odd = .ok r ∧
      c19k_Tracks kl l s r false f
        (fun j => addPoly (2^l.k) (packMerge l.k lam (E j) (O j)) (ν (c19k_galoisInput l scheme lam even odd))) ∧
      c19k_CtOK l (c19k_galoisInput l scheme lam even odd) ∧
      (c19k_galoisInput l scheme lam even odd).ntt = (if scheme = .bfv then false else true) := by
  have htmp := ho.shift hl (l.n / 2^(lam+1))
  obtain ⟨odd1, h1, t1⟩ := he.sub hl hkl hd htmp
  obtain ⟨even1, h2, t2⟩ := he.add hl hkl hd htmp
  have hgi : c19k_galoisInput l scheme lam even odd = if scheme = .bfv then odd1 else c19k_toNtt l odd1 := by
    unfold c19k_galoisInput; rw [h1]
  have tx := t1.toNtt hl hkl hd hT
  rw [← hgi] at tx
  obtain ⟨t, ht, hspec⟩ := hgal _ tx.ok tx.ntt
  obtain ⟨r, h3, t3⟩ := t2.add hl hkl hd ((tx.galois (c19_odd_two_pow (lam+1) (by omega)) hspec).fromNtt hl hkl hd hT)
  refine ⟨r, ?_, t3.congr_eq fun j _ c hc => ?_, tx.ok, tx.ntt⟩
  · unfold c19k_mergeCt
    simp only [h1, h2, bind, Except.bind, ← hgi, ht]
    exact h3
  · have hsh : 2^l.k / 2^(lam+1) = l.n / 2^(lam+1) := by rw [hl.n, hl.k]
    unfold packMerge
    simp only [hsh, c19_addPoly_getD _ _ _ _ hc]
    ring


/-! ## packing on the model: the merge tree -/

/-- the ciphertext of a successful result, `default` otherwise: `c01p_val` (Proofs/Base.lean) at `Ct`.  It lets `pack_noisy` name "leaf o"
    without an existential per leaf; it is read only under `hleaves : ∀ o, ∃ ct, leaves o = .ok ct ∧ …`, where it is that `ct`. -/
def c19k_val (x : R Ct) : Ct := match x with | .ok c => c | .error _ => default

/-- slot `o` after `lam` layers of the merge loop of `pack_lwe_ciphertexts`, as a recursion over the butterflies
    (`merge lam even odd` = the new `even` of a butterfly of layer `lam`) -/
def c19k_nodeCt (merge : Nat → Ct → Ct → R Ct) (leaves : Nat → R Ct) : Nat → Nat → R Ct
  | 0, o => leaves o
  | lam+1, o => do
    let ev ← c19k_nodeCt merge leaves lam o
    let od ← c19k_nodeCt merge leaves lam (o + 2^lam)
    merge lam ev od

/-- the fresh noise of the butterfly that produces slot `o` of layer `lam + 1`: `νf lam` at the two operands the recursion hands it -/
def c19k_nodeNu (merge : Nat → Ct → Ct → R Ct) (leaves : Nat → R Ct) (νf : Nat → Ct → Ct → Array Int) (lam o : Nat) : Array Int :=
  νf lam (c19k_val (c19k_nodeCt merge leaves lam o)) (c19k_val (c19k_nodeCt merge leaves lam (o + 2^lam)))

/-- what the merge loop keeps of every slot: canonical, coefficient form, correction factor `f` -/
def c19k_CoefOK (l : Level) (f : Nat) (ct : Ct) : Prop := c19k_CtOK l ct ∧ ct.ntt = false ∧ ct.cf = f

theorem c19k_CoefOK.tracks {kl : KeyLevel} {l : Level} {s : Nat → Int} {f : Nat} {ct : Ct} (h : c19k_CoefOK l f ct) :
    c19k_Tracks kl l s ct false f (fun j => c19k_phase kl j ct s) :=
  ⟨h.1, h.2.1, h.2.2, fun _ _ _ _ => Int.ModEq.refl _⟩

/-- the merge tree, for any butterfly that carries `packMerge` of what its operands carry plus a fresh noise `νf lam ev od`; `B` is what
    the butterflies guarantee of that noise -/
theorem c19k_tree_tracks {kl : KeyLevel} {l : Level} {s : Nat → Int} (f : Nat)
    (merge : Nat → Ct → Ct → R Ct) (leaves : Nat → R Ct) (νf : Nat → Ct → Ct → Array Int) (B : Array Int → Prop) (L : Nat)
    (hleaves : ∀ o, ∃ ct, leaves o = .ok ct ∧ c19k_CoefOK l f ct)
    (hmerge : ∀ lam, lam < L → ∀ ev od E O, c19k_Tracks kl l s ev false f E → c19k_Tracks kl l s od false f O →
      ∃ r, merge lam ev od = .ok r ∧ B (νf lam ev od) ∧
        c19k_Tracks kl l s r false f (fun j => addPoly (2^l.k) (packMerge l.k lam (E j) (O j)) (νf lam ev od))) :
    (∀ lam, lam ≤ L → ∀ o, ∃ r, c19k_nodeCt merge leaves lam o = .ok r ∧
      c19k_Tracks kl l s r false f (fun j =>
        addPoly (2^l.k) (c19k_nodePoly l.k (fun i => c19k_phase kl j (c19k_val (leaves i)) s) lam o)
          (c19k_nodeNoise l.k (c19k_nodeNu merge leaves νf) lam o))) ∧
    ∀ lam, lam < L → ∀ o, B (c19k_nodeNu merge leaves νf lam o) := by
  have hnode : ∀ lam, lam ≤ L → ∀ o, ∃ r, c19k_nodeCt merge leaves lam o = .ok r ∧
      c19k_Tracks kl l s r false f (fun j =>
        addPoly (2^l.k) (c19k_nodePoly l.k (fun i => c19k_phase kl j (c19k_val (leaves i)) s) lam o)
          (c19k_nodeNoise l.k (c19k_nodeNu merge leaves νf) lam o)) := by
    intro lam
    induction lam with
    | zero =>
      intro _ o
      obtain ⟨ct, h1, h2⟩ := hleaves o
      refine ⟨ct, h1, (h2.tracks (kl := kl) (s := s)).congr_eq fun j _ c hc => ?_⟩
      rw [c19_addPoly_getD _ _ _ _ hc, show (c19k_nodeNoise l.k (c19k_nodeNu merge leaves νf) 0 o).getD c 0 = 0 from
        array_getD_replicate _ _ _, add_zero]
      show _ = (c19k_phase kl j (c19k_val (leaves o)) s).getD c 0
      rw [h1]; rfl
    | succ lam ih =>
      intro hlam o
      obtain ⟨ev, a1, a2⟩ := ih (by omega) o
      obtain ⟨od, b1, b2⟩ := ih (by omega) (o + 2^lam)
      obtain ⟨r, c1, _, c3⟩ := hmerge lam (by omega) ev od _ _ a2 b2
      refine ⟨r, ?_, c3.congr_eq fun j _ c hc => ?_⟩
      · show (do let ev ← c19k_nodeCt merge leaves lam o; let od ← c19k_nodeCt merge leaves lam (o + 2^lam); merge lam ev od) = _
        rw [a1, b1]; exact c1
      · have hν : c19k_nodeNu merge leaves νf lam o = νf lam ev od := by
          unfold c19k_nodeNu; rw [a1, b1]; rfl
        -- the butterfly is additive: exact part and noise go through it separately
        show _ = (addPoly (2^l.k) (packMerge l.k lam _ _) (addPoly (2^l.k) (packMerge l.k lam _ _) _)).getD c 0
        rw [hν, c19_addPoly_getD _ _ _ _ hc, c19k_packMerge_add l.k lam _ _ _ _ c hc, c19_addPoly_getD _ _ _ _ hc,
          c19_addPoly_getD _ _ _ _ hc, add_assoc]
  refine ⟨hnode, fun lam hlam o => ?_⟩
  obtain ⟨ev, a1, a2⟩ := hnode lam (by omega) o
  obtain ⟨od, b1, b2⟩ := hnode lam (by omega) (o + 2^lam)
  obtain ⟨_, _, hB, _⟩ := hmerge lam hlam ev od _ _ a2 b2
  unfold c19k_nodeNu
  rw [a1, b1]
  exact hB


theorem c19k_pack_coeffs (k L : Nat) (hL : L ≤ k) (q : Int) (res X Z N : Array Int) (leaf : Nat → Array Int)
    (hX : ∀ c, c < 2^k → X.getD c 0 ≡ (c19k_nodePoly k leaf L 0).getD c 0 + Z.getD c 0 [ZMOD q])
    (hres : ∀ c, c < 2^k → res.getD c 0 ≡ (fieldTracePoly k L X).getD c 0 + N.getD c 0 [ZMOD q]) :
    (∀ u, u < 2^L → res.getD (2^(k-L) * u) 0 ≡
      (2:Int)^k * (leaf (brev L u)).getD 0 0 + ((2:Int)^(k-L) * Z.getD (2^(k-L) * u) 0 + N.getD (2^(k-L) * u) 0) [ZMOD q]) ∧
    (∀ c, c < 2^k → ¬ 2^(k-L) ∣ c → res.getD c 0 ≡ N.getD c 0 [ZMOD q]) := by
  have hkk : k - (k - L) = L := by omega
  constructor
  · intro u hu
    have hlt := (c19_mult_lt k L hL u).mpr hu
    have h1 := hres _ hlt
    rw [c19_fieldTrace_eq, c19_traceSteps_coeff k (k - L) (Nat.sub_le _ _) X _ hlt, if_pos ⟨u, rfl⟩] at h1
    have h2 := hX _ hlt
    rw [c19k_nodePoly_inv k leaf L hL 0 u hu, Nat.zero_add] at h2
    have h3 := (h2.mul_left ((2:Int)^(k-L))).add (Int.ModEq.refl (n := q) (N.getD (2^(k-L) * u) 0))
    refine h1.trans ?_
    have hp : (2:Int)^(k-L) * (2:Int)^L = (2:Int)^k := pow_sub_mul_pow 2 hL
    unfold Int.ModEq at h3 ⊢
    rw [h3, ← hp]; congr 1; ring
  · intro c hc hnd
    have h1 := hres c hc
    rw [c19_fieldTrace_eq, c19_traceSteps_coeff k (k - L) (Nat.sub_le _ _) X c hc, if_neg hnd, zero_add] at h1
    exact h1

theorem c19k_pack_total_bound (k L : Nat) (hL : L ≤ k) (z n : Int) (P D : Nat)
    (hz : z.natAbs * P ≤ (2^L - 1) * D) (hn : n.natAbs * P ≤ (2^(k-L) - 1) * D) :
    ((2:Int)^(k-L) * z + n).natAbs * P ≤ (2^k - 1) * D := by
  have habs : ((2:Int)^(k-L) * z + n).natAbs ≤ 2^(k-L) * z.natAbs + n.natAbs := by
    refine (Int.natAbs_add_le _ _).trans ?_
    rw [Int.natAbs_mul, Int.natAbs_pow]; rfl
  rw [← pow_sub_mul_pow 2 hL, c19k_geom_split (Nat.two_pow_pos L) (Nat.two_pow_pos (k-L)), Nat.add_mul, Nat.mul_assoc]
  calc _ ≤ (2^(k-L) * z.natAbs + n.natAbs) * P := Nat.mul_le_mul_right _ habs
    _ = 2^(k-L) * (z.natAbs * P) + n.natAbs * P := by rw [Nat.add_mul, Nat.mul_assoc]
    _ ≤ _ := Nat.add_le_add (Nat.mul_le_mul_left _ hz) hn

/-! ## packing on the model: the butterfly with the key looked up, and `pack_lwe_ciphertexts` (rounding branch) -/

/-- the butterfly of layer `lam` with the key looked up (a missing key is refused) -/
def c19k_packMergeStep (kl : KeyLevel) (l : Level) (scheme : Scheme) (keys : Nat → Option KSKey) : Nat → Ct → Ct → R Ct :=
  fun lam ev od => match keys (2^(lam+1) + 1) with
    | none => .error .refused
    | some key => c19k_mergeCt kl l scheme lam key ev od

/-- the noise of the butterfly of layer `lam` on operands `ev`, `od` under the rounding rule: `c19k_nuStdArr` at the operand of the
    automorphism with the key looked up (`#[]` if the key is missing: `c19k_packMergeStep` refuses then, and the statements have the key) -/
def c19k_mergeNuStd (kl : KeyLevel) (l : Level) (scheme : Scheme) (keys : Nat → Option KSKey) (e : Nat → Nat → Nat → Int)
    (s : Nat → Int) (lam : Nat) (ev od : Ct) : Array Int :=
  match keys (2^(lam+1) + 1) with
  | some key => c19k_nuStdArr kl l (c19k_galoisInput l scheme lam ev od) (2^(lam+1) + 1) key (e lam) s
  | none => #[]

/-- `pack_lwe_ciphertexts` after the leaves are prepared (`leaves o` = `rlwes[o]`: `assemble_lwe` of input `reverse_bits(o, L)` divided
    by N, or the zero ciphertext), L = ⌈log2 count⌉: the merge tree, [to NTT unless BFV], `field_trace_inplace(ret, keys, L)`. -/
def c19k_packCt (kl : KeyLevel) (l : Level) (scheme : Scheme) (keys : Nat → Option KSKey) (leaves : Nat → R Ct) (L : Nat) : R Ct := do
  let merged ← c19k_nodeCt (c19k_packMergeStep kl l scheme keys) leaves L 0
  let ret := if scheme = .bfv then merged else c19k_toNtt l merged
  c19k_fieldTraceCt kl l scheme keys L ret

theorem c19k_stdMode_of {scheme : Scheme} (hs : scheme = .bfv ∨ scheme = .ckks) {b : Bool}
    (hb : b = if scheme = .bfv then false else true) : c04t_StdMode scheme b := by
  rcases hs with rfl | rfl
  · left; exact ⟨rfl, by simpa using hb⟩
  · right; exact ⟨rfl, by simpa using hb⟩

theorem c19k_packMergeStep_tracks {kl : KeyLevel} {l : Level} (hl : c04k_LevelOf kl l) {scheme : Scheme}
    (hT : scheme ≠ .bfv → c19k_TablesOf kl l) (hscheme : scheme = .bfv ∨ scheme = .ckks)
    {keys : Nat → Option KSKey} {lam : Nat} (hlam : lam + 1 ≤ l.k) {key : KSKey} (hkey : keys (2^(lam+1) + 1) = some key)
    (hK : c19k_KeyOK kl l.size key) {s : Nat → Int} {e : Nat → Nat → Nat → Int} {G : Nat → Int}
    (hke : c04k_KeyEq kl l.size key s (c04k_sigma kl.n (2^(lam+1) + 1) s) (e lam) G)
    {A Be : Nat} (hA : ∀ i, i < l.size → (kl.m i).value ≤ A)
    (he : ∀ d, d < l.size → ∀ p, p < kl.n → (e lam d p).natAbs ≤ Be)
    {f : Nat} {ev od : Ct} {E O : Nat → Array Int} (hev : c19k_Tracks kl l s ev false f E) (hod : c19k_Tracks kl l s od false f O) :
    ∃ r, c19k_packMergeStep kl l scheme keys lam ev od = .ok r ∧
      (∀ c, c < 2^l.k → ((c19k_mergeNuStd kl l scheme keys e s lam ev od).getD c 0).natAbs * kl.c04t_P
        ≤ c19k_boundStd kl l.size A Be s) ∧
      c19k_Tracks kl l s r false f
        (fun j => addPoly (2^l.k) (packMerge l.k lam (E j) (O j)) (c19k_mergeNuStd kl l scheme keys e s lam ev od)) := by
  have hgal := fun x (hx : c19k_CtOK l x) (hxn : x.ntt = (if scheme = .bfv then false else true)) =>
    c19k_galois_std hl hK hx (c19k_stdMode_of hscheme hxn) (c19_odd_two_pow (lam+1) (by omega)) (c19k_elt_le hl hlam) hke hA he
  obtain ⟨r, h1, h2, hxok, hxn⟩ := hev.merge hl hK.hkl hK.hd hT (key := key) hod lam
    (fun x => c19k_nuStdArr kl l x (2^(lam+1) + 1) key (e lam) s) (fun x hx hxn => (hgal x hx hxn).imp fun _ h => ⟨h.1, h.2.1⟩)
  have hnu : c19k_mergeNuStd kl l scheme keys e s lam ev od
      = c19k_nuStdArr kl l (c19k_galoisInput l scheme lam ev od) (2^(lam+1) + 1) key (e lam) s := by
    unfold c19k_mergeNuStd; rw [hkey]
  rw [hnu]
  obtain ⟨_, _, _, hbound⟩ := hgal _ hxok hxn
  exact ⟨r, by unfold c19k_packMergeStep; rw [hkey]; exact h1, hbound, h2⟩

/-- ONE BUTTERFLY of `pack_lwe_ciphertexts` with the key looked up (`c19k_packMergeStep`), rounding rule, operands in coefficient form
    with the same correction factor: the new `even` is again such a ciphertext and modulo every q_j its phase is `packMerge` of the two
    phases plus the noise of its one automorphism, `c19k_mergeNuStd`, with P·‖ν‖∞ ≤ `c19k_boundStd`.
    `c19k_packMergeStep_tracks` at the exact phases. -/
theorem pack_merge_noisy {kl : KeyLevel} {l : Level} (hl : c04k_LevelOf kl l) {scheme : Scheme}
    (hT : scheme ≠ .bfv → c19k_TablesOf kl l) (hscheme : scheme = .bfv ∨ scheme = .ckks)
    {keys : Nat → Option KSKey} {lam : Nat} (hlam : lam + 1 ≤ l.k) {key : KSKey} (hkey : keys (2^(lam+1) + 1) = some key)
    (hK : c19k_KeyOK kl l.size key) {s : Nat → Int} {e : Nat → Nat → Nat → Int} {G : Nat → Int}
    (hke : c04k_KeyEq kl l.size key s (c04k_sigma kl.n (2^(lam+1) + 1) s) (e lam) G)
    {A Be : Nat} (hA : ∀ i, i < l.size → (kl.m i).value ≤ A)
    (he : ∀ d, d < l.size → ∀ p, p < kl.n → (e lam d p).natAbs ≤ Be)
    {f : Nat} {ev od : Ct} (hev : c19k_CoefOK l f ev) (hod : c19k_CoefOK l f od) :
    ∃ r, c19k_packMergeStep kl l scheme keys lam ev od = .ok r ∧ c19k_CoefOK l f r ∧
      (∀ j, j < l.size → ∀ c, c < 2^l.k →
        (c19k_phase kl j r s).getD c 0 ≡
          (packMerge l.k lam (c19k_phase kl j ev s) (c19k_phase kl j od s)).getD c 0
            + (c19k_mergeNuStd kl l scheme keys e s lam ev od).getD c 0 [ZMOD ((kl.m j).value : Int)]) ∧
      ∀ c, c < 2^l.k → ((c19k_mergeNuStd kl l scheme keys e s lam ev od).getD c 0).natAbs * kl.c04t_P
        ≤ c19k_boundStd kl l.size A Be s := by
  obtain ⟨r, h1, hb, hr⟩ := c19k_packMergeStep_tracks hl hT hscheme hlam hkey hK hke hA he hev.tracks hod.tracks
  exact ⟨r, h1, ⟨hr.ok, hr.ntt, hr.cf⟩, fun j hj c hc => by rw [← c19_addPoly_getD _ _ _ _ hc]; exact hr.phase j hj c hc, hb⟩

/-- `pack_lwe_ciphertexts` after the leaves are prepared (`c19k_packCt`: merge tree of L layers over 2^L coefficient-form leaves, then the
    field trace down to L), rounding rule, with keys for the merge elements 2^(lam+1) + 1 and the trace elements 2^(l.k − i) + 1.
    Modulo every q_j the phase of the result has, at coefficient (N/2^L)·u, N times the constant coefficient of the phase of leaf
    `brev L u` plus (N/2^L)·Z + T, and T alone at every other coefficient; Z is the tree noise (`c19k_nodeNoise` at slot 0), T the trace
    noise (`c19k_accNoise`), with P·|Z| ≤ (2^L − 1)·B at the coefficients read, P·‖T‖∞ ≤ (N/2^L − 1)·B, together ≤ (N − 1)·B,
    B = `c19k_boundStd`.  `c19k_val (leaves o)` is the leaf `hleaves` provides.  Proof: `c19k_tree_tracks` at `c19k_packMergeStep_tracks`,
    then `fieldTrace_noisy`, then the exact placement `c19k_pack_coeffs` (C19's `c19k_nodePoly_inv` and `c19_traceSteps_coeff`). -/
theorem pack_noisy {kl : KeyLevel} {l : Level} (hl : c04k_LevelOf kl l) (hkl : kl.WF) (hd : l.size + 1 ≤ kl.ms.size)
    {scheme : Scheme} (hT : scheme ≠ .bfv → c19k_TablesOf kl l) (hscheme : scheme = .bfv ∨ scheme = .ckks)
    {keys : Nat → Option KSKey} {leaves : Nat → R Ct} {L : Nat} (hL : L ≤ l.k) {f : Nat}
    (hleaves : ∀ o, ∃ ct, leaves o = .ok ct ∧ c19k_CoefOK l f ct)
    {s : Nat → Int} {em et : Nat → Nat → Nat → Int} {Gm Gt : Nat → Nat → Int}
    (hmk : ∀ lam, lam < L → ∃ key, keys (2^(lam+1) + 1) = some key ∧ c19k_KeyOK kl l.size key ∧
      c04k_KeyEq kl l.size key s (c04k_sigma kl.n (2^(lam+1) + 1) s) (em lam) (Gm lam))
    (htk : ∀ i, i < l.k - L → ∃ key, keys (2^(l.k - i) + 1) = some key ∧ c19k_KeyOK kl l.size key ∧
      c04k_KeyEq kl l.size key s (c04k_sigma kl.n (2^(l.k - i) + 1) s) (et i) (Gt i))
    {A Be : Nat} (hA : ∀ i, i < l.size → (kl.m i).value ≤ A)
    (hem : ∀ lam, lam < L → ∀ d, d < l.size → ∀ p, p < kl.n → (em lam d p).natAbs ≤ Be)
    (het : ∀ i, i < l.k - L → ∀ d, d < l.size → ∀ p, p < kl.n → (et i d p).natAbs ≤ Be) :
    ∃ (res : Ct) (Z T : Array Int), c19k_packCt kl l scheme keys leaves L = .ok res ∧ c19k_CtOK l res ∧ res.cf = f ∧
      (∀ j, j < l.size → ∀ u, u < 2^L →
        (c19k_phase kl j res s).getD (2^(l.k - L) * u) 0 ≡
          (2:Int)^l.k * (c19k_phase kl j (c19k_val (leaves (brev L u))) s).getD 0 0
            + ((2:Int)^(l.k - L) * Z.getD (2^(l.k - L) * u) 0 + T.getD (2^(l.k - L) * u) 0) [ZMOD ((kl.m j).value : Int)]) ∧
      (∀ j, j < l.size → ∀ c, c < 2^l.k → ¬ 2^(l.k - L) ∣ c →
        (c19k_phase kl j res s).getD c 0 ≡ T.getD c 0 [ZMOD ((kl.m j).value : Int)]) ∧
      (∀ u, u < 2^L → (Z.getD (2^(l.k - L) * u) 0).natAbs * kl.c04t_P ≤ (2^L - 1) * c19k_boundStd kl l.size A Be s) ∧
      (∀ c, c < 2^l.k → (T.getD c 0).natAbs * kl.c04t_P ≤ (2^(l.k - L) - 1) * c19k_boundStd kl l.size A Be s) ∧
      (∀ u, u < 2^L → ((2:Int)^(l.k - L) * Z.getD (2^(l.k - L) * u) 0 + T.getD (2^(l.k - L) * u) 0).natAbs * kl.c04t_P
        ≤ (2^l.k - 1) * c19k_boundStd kl l.size A Be s) := by
  obtain ⟨htree, hfresh⟩ := c19k_tree_tracks (kl := kl) (l := l) (s := s) f (c19k_packMergeStep kl l scheme keys) leaves
    (c19k_mergeNuStd kl l scheme keys em s)
    (fun ν => ∀ c, c < 2^l.k → (ν.getD c 0).natAbs * kl.c04t_P ≤ c19k_boundStd kl l.size A Be s) L hleaves
    (fun lam hlam ev od E O hev hod => by
      obtain ⟨key, k1, k2, k3⟩ := hmk lam hlam
      exact c19k_packMergeStep_tracks hl hT hscheme (by omega) k1 k2 k3 hA (hem lam hlam) hev hod)
  obtain ⟨merged, m1, m2⟩ := htree L (le_refl _) 0
  have hret := m2.toNtt hl hkl hd hT
  obtain ⟨res, νs, r1, r2, _, r4, _, r6, r7⟩ := fieldTrace_noisy hl (scheme := scheme) (keys := keys) L hret.ok
    (c19k_stdMode_of hscheme hret.ntt) htk hA het
  have hZb := c19k_nodeNoise_bound l.k _ kl.c04t_P _ L hL (fun i hi o c hc => hfresh i hi o c hc) 0
  have hcoef := fun j (hj : j < l.size) =>
    c19k_pack_coeffs l.k L hL ((kl.m j).value : Int) (c19k_phase kl j res s) _
      (c19k_nodeNoise l.k (c19k_nodeNu (c19k_packMergeStep kl l scheme keys) leaves (c19k_mergeNuStd kl l scheme keys em s)) L 0)
      (c19k_accNoise l.k νs (l.k - L)) (fun i => c19k_phase kl j (c19k_val (leaves i)) s)
      (fun c hc => by rw [← c19_addPoly_getD _ _ _ _ hc]; exact hret.phase j hj c hc) (r6 j hj)
  refine ⟨res, _, _, ?_, r2, by rw [r4, hret.cf], fun j hj => (hcoef j hj).1, fun j hj => (hcoef j hj).2, hZb, r7,
    fun u hu => c19k_pack_total_bound l.k L hL _ _ _ _ (hZb u hu) (r7 _ ((c19_mult_lt l.k L hL u).mpr hu))⟩
  unfold c19k_packCt
  rw [m1]
  exact r1

/-! ## non-vacuity: a Galois key for g = 3 on the key level `c04t_exKL` (N = 2, q = 13, P = 17, t = 5) that satisfies the key equation
    `c04k_KeyEq` from s' = σ_3(s) to s with a non-zero error (`c19k_exKeyEq`)

    s = 1 − X, σ_3(s) = 1 − X^3 = 1 + X; same mask and error as `c04k_exKey`, k0 shifted by P·(σ_3(s) − X) = 17 (mod 13). -/

def c19k_exKey : KSKey := #[#[#[#[0, 8], #[11, 3]], #[#[8, 10], #[16, 14]]]]
def c19k_exKeys : Nat → Option KSKey := fun g => if g = 3 then some c19k_exKey else none

/-- finite: for the one digit and the two key-level moduli, two coefficients each; the kernel evaluates `intt` of the key, σ_3(s) and
    the negacyclic products -/
theorem c19k_exKeyEq : c04k_KeyEq c04t_exKL 1 c19k_exKey c04k_exS (c04k_sigma c04t_exKL.n 3 c04k_exS) c04k_exE c04k_exG := by
  refine ⟨by decide +kernel, fun idx hu i hi => ?_⟩
  obtain rfl : i = 0 := by omega
  obtain rfl | rfl : idx = 0 ∨ idx = 1 := hu.imp (by omega) id
  · decide +kernel
  · decide +kernel

theorem c19k_exKeyOK : c19k_KeyOK c04t_exKL c04k_exLevel.size c19k_exKey := by
  have h := c04k_exKSInput' false
  exact ⟨h.hkl, h.hsz, h.hd, by decide, rfl, by unfold c04t_KeyCanonAt; decide +kernel, h.hov, h.hinv⟩

theorem c19k_exCtOK (ntt : Bool) : c19k_CtOK c04k_exLevel (c04t_exCt ntt) := by
  revert ntt
  unfold c19k_CtOK RnsCanon
  decide +kernel

theorem c19k_exA : ∀ i, i < c04k_exLevel.size → (c04t_exKL.m i).value ≤ 13 := by decide +kernel

theorem c19k_exE_le (d p : Nat) : (c04k_exE d p).natAbs ≤ 1 := by
  unfold c04k_exE
  split <;> [decide; (split <;> decide)]

theorem fieldTrace_noisy_nonvacuous :
    (∃ ct', c19k_fieldTraceCt c04t_exKL c04k_exLevel .bfv c19k_exKeys 0 (c04t_exCt false) = .ok ct') ∧
    (∃ ct', c19k_fieldTraceCt c04t_exKL c04k_exLevel .bgv c19k_exKeys 0 (c04t_exCt true) = .ok ct') := by
  have hkeys : ∀ i, i < c04k_exLevel.k - 0 → ∃ key, c19k_exKeys (2^(c04k_exLevel.k - i) + 1) = some key ∧
      c19k_KeyOK c04t_exKL c04k_exLevel.size key ∧
      c04k_KeyEq c04t_exKL c04k_exLevel.size key c04k_exS (c04k_sigma c04t_exKL.n (2^(c04k_exLevel.k - i) + 1) c04k_exS)
        ((fun _ => c04k_exE) i) ((fun _ => c04k_exG) i) := by
    intro i hi
    obtain rfl : i = 0 := Nat.lt_one_iff.mp hi
    exact ⟨c19k_exKey, rfl, c19k_exKeyOK, c19k_exKeyEq⟩
  have he : ∀ i, i < c04k_exLevel.k - 0 → ∀ d, d < c04k_exLevel.size → ∀ p, p < c04t_exKL.n →
      (((fun _ => c04k_exE) i : Nat → Nat → Int) d p).natAbs ≤ 1 := fun _ _ d _ p _ => c19k_exE_le d p
  refine ⟨?_, ?_⟩
  · obtain ⟨ct', _, h, _⟩ := fieldTrace_noisy c04k_exLevelOf (scheme := .bfv) 0 (c19k_exCtOK false) (Or.inl ⟨rfl, rfl⟩)
      hkeys c19k_exA he
    exact ⟨ct', h⟩
  · obtain ⟨ct', _, h, _⟩ := fieldTrace_noisy_bgv c04k_exLevelOf 0 (c19k_exCtOK true) c04t_exBgvData rfl hkeys c19k_exA he
    exact ⟨ct', h⟩

theorem pack_noisy_nonvacuous :
    ∃ res, c19k_packCt c04t_exKL c04k_exLevel .bfv c19k_exKeys (fun _ => .ok (c04t_exCt false)) 1 = .ok res := by
  have hin := c04k_exKSInput' false
  obtain ⟨res, _, _, h, _⟩ := pack_noisy (kl := c04t_exKL) (l := c04k_exLevel) c04k_exLevelOf hin.hkl hin.hd
    (scheme := .bfv) (fun h => absurd rfl h) (Or.inl rfl) (keys := c19k_exKeys)
    (leaves := fun _ => .ok (c04t_exCt false)) (L := 1) (le_refl _) (f := 1)
    (fun _ => ⟨c04t_exCt false, rfl, c19k_exCtOK false, rfl, rfl⟩)
    (s := c04k_exS) (em := fun _ => c04k_exE) (et := fun _ => c04k_exE) (Gm := fun _ => c04k_exG) (Gt := fun _ => c04k_exG)
    (fun lam hlam => by
      obtain rfl : lam = 0 := Nat.lt_one_iff.mp hlam
      exact ⟨c19k_exKey, rfl, c19k_exKeyOK, c19k_exKeyEq⟩)
    (fun i hi => absurd hi (Nat.not_lt_zero i))
    (A := 13) (Be := 1) c19k_exA (fun _ _ d _ p _ => c19k_exE_le d p) (fun _ _ d _ p _ => c19k_exE_le d p)
  exact ⟨res, h⟩

end HC
