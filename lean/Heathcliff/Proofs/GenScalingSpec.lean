import Heathcliff.Proofs.GenScaling

/-!
  Composition: the code generated from `multiply_add_plain` / `multiply_sub_plain` (src/util/scaling_variant.rs) adds /
  subtracts `Δ(m) = round(Q·m/t)` modulo `q_j` to / from every destination word — `Proofs/GenScaling.lean` (generated = traversal of
  cells) composed with the exact value of one cell (`gz_sc_exact`, Proofs/ScalingCells.lean).  Helper names start with `gz_`.
-/
namespace HC
open HC.GenW HC.GenS

/-- both generated loops, with the last step `f` abstract: where `f` succeeds with the value `W i j` on the destination word of
    coefficient `i`, component `j` and the scaled coefficient `Δ(m_i) mod q_j`, the loop writes these values under the plaintext -/
theorem gz_ref1_spec {f : Nat → Nat → Modulus → R Nat} (hf : ∀ a b m, gz_Ov (f a b m)) {l : Level} {Q : Nat} {cdp : Array MulOperand}
    (h : ScalingOK l Q cdp) (plain : Poly)
    (dest : List Nat) (hp : plain.size ≤ l.n) (hm : ∀ i, i < plain.size → plain.getD i 0 < l.t.value)
    (hl : dest.length = l.size * l.n) (hB : dest.length < B64) (W : Nat → Nat → Nat)
    (hW : ∀ i, i < plain.size → ∀ j, j < l.size →
      f (dest.getD (j * l.n + i) 0) (deltaM Q l.t.value (plain.getD i 0) % (l.q j).value) (l.q j) = .ok (W i j)) :
    gz_ref1 f l.qs.toList l.n cdp.toList plain.toList l.t.value ((l.t.value + 1) / 2) (Q % l.t.value) plain.size 0 dest =
      .ok ((List.range (l.size * l.n)).map fun p => if p % l.n < plain.size then W (p % l.n) (p / l.n) else dest.getD p 0) := by
  have ht := h.t2; have ht61 := h.t61
  have hq : Q % l.t.value < 2^64 := Nat.lt_trans (Nat.mod_lt _ (by omega)) (by omega)
  have hw : ∀ i, i < plain.size → plain.getD i 0 < 2^64 := fun i hi => by have := hm i hi; omega
  rw [gz_ref1_eq_model hf l cdp _ _ plain dest h.cdpSize hp (by omega) hq hw hl hB,
    gz_model_ok f l cdp _ _ plain _ W hp fun j hj i hi => by
      rw [gz_cell_eq f (by omega) (hw i hi) hq, gz_unflatten_getD _ _ _ (by omega) hj]
      unfold gz_cell2
      rw [gz_sc_exact (h.qwf j hj) ht ht61 (hm i hi) (h.op j hj).1 (h.op j hj).2]
      exact hW i hi j hj]
  refine congrArg Except.ok (List.map_congr_left fun p hp' => ?_)
  have hp' := List.mem_range.mp hp'
  have hd := gz_div_lt hp'
  have hmod := Nat.mod_lt p (gz_npos hp')
  rw [array_getD_range_map _ _ hd, array_getD_range_map _ 0 hmod]
  split
  · rfl
  · rw [gz_unflatten_getD _ _ _ hmod hd, gz_div_mod]

/-- ONE THEOREM (C01, add): the code generated from the Rust source of `multiply_add_plain`, run on a flat destination buffer whose
    words under the plaintext are canonical, with the level's context constants (`plain_upper_half_threshold = ⌊(t+1)/2⌋`,
    `coeff_modulus_mod_plain_modulus = Q mod t`), succeeds and adds `Δ(m_i) = round(Q·m_i/t)` modulo `q_j` to the word of
    coefficient `i` in component `j`; the words beyond the plaintext's length are left unchanged. -/
theorem gen_multiply_add_plain_spec {l : Level} {Q : Nat} {cdp : Array MulOperand} (h : ScalingOK l Q cdp) (plain : Poly) (dest : List Nat)
    (hp : plain.size ≤ l.n) (hm : ∀ i, i < plain.size → plain.getD i 0 < l.t.value)
    (hl : dest.length = l.size * l.n) (hB : dest.length < B64)
    (hd : ∀ j, j < l.size → ∀ i, i < plain.size → dest.getD (j * l.n + i) 0 < (l.q j).value) :
    GenS.multiply_add_plain dest l.qs.toList plain.size l.n l.t cdp.toList ((l.t.value + 1) / 2) (Q % l.t.value) plain.toList =
      .ok ((List.range (l.size * l.n)).map fun p =>
        if p % l.n < plain.size then (dest.getD p 0 + deltaM Q l.t.value (plain.getD (p % l.n) 0)) % (l.q (p / l.n)).value
        else dest.getD p 0) := by
  unfold GenS.multiply_add_plain
  simp only []
  rw [if_pos hp, if_pos (by simp), gz_add_loop1_eq _ _ _ _ _ _ _ _ _ rfl,
    gz_ref1_spec gz_Ov_addMod h plain dest hp hm hl hB
      (fun i j => (dest.getD (j * l.n + i) 0 + deltaM Q l.t.value (plain.getD i 0)) % (l.q j).value) (fun i hi j hj => by
        rw [addMod_exact (h.qwf j hj) (hd j hj i hi) (Nat.mod_lt _ (by have := (h.qwf j hj).two_le; omega)), Nat.add_mod_mod])]
  simp only [gz_div_mod]

/-- ONE THEOREM (C02, `sub_plain` for BFV): likewise `multiply_sub_plain` subtracts `Δ(m_i)` modulo `q_j` -/
theorem gen_multiply_sub_plain_spec {l : Level} {Q : Nat} {cdp : Array MulOperand} (h : ScalingOK l Q cdp) (plain : Poly) (dest : List Nat)
    (hp : plain.size ≤ l.n) (hm : ∀ i, i < plain.size → plain.getD i 0 < l.t.value)
    (hl : dest.length = l.size * l.n) (hB : dest.length < B64)
    (hd : ∀ j, j < l.size → ∀ i, i < plain.size → dest.getD (j * l.n + i) 0 < (l.q j).value) :
    GenS.multiply_sub_plain dest l.qs.toList plain.size l.n l.t cdp.toList ((l.t.value + 1) / 2) (Q % l.t.value) plain.toList =
      .ok ((List.range (l.size * l.n)).map fun p =>
        if p % l.n < plain.size then
          (dest.getD p 0 + (l.q (p / l.n)).value - deltaM Q l.t.value (plain.getD (p % l.n) 0) % (l.q (p / l.n)).value) % (l.q (p / l.n)).value
        else dest.getD p 0) := by
  unfold GenS.multiply_sub_plain
  simp only []
  rw [gz_sub_loop1_eq _ _ _ _ _ _ _ _ _ rfl,
    gz_ref1_spec gz_Ov_subMod h plain dest hp hm hl hB
      (fun i j => (dest.getD (j * l.n + i) 0 + (l.q j).value - deltaM Q l.t.value (plain.getD i 0) % (l.q j).value) % (l.q j).value)
      (fun i hi j hj => subMod_exact (h.qwf j hj) (hd j hj i hi) (Nat.mod_lt _ (by have := (h.qwf j hj).two_le; omega)))]
  simp only [gz_div_mod]

/-! ### non-vacuity: a concrete level satisfying `ScalingOK` and every hypothesis of the two theorems above -/

def gz_m17 : Modulus := ⟨17, 1085102592571150095, 1085102592571150095, 1, 5⟩
def gz_m97 : Modulus := ⟨97, 11600529778312192253, 190172619316593315, 35, 7⟩
def gz_m113 : Modulus := ⟨113, 4897365683285721667, 163245522776190722, 109, 7⟩
theorem gz_m97_wf : gz_m97.WF := (Modulus.mk?_wf (v := 97) (m := gz_m97) (by rfl) (by decide)).1
theorem gz_m113_wf : gz_m113.WF := (Modulus.mk?_wf (v := 113) (m := gz_m113) (by rfl) (by decide)).1

/-- a BFV level with N = 2, moduli 97·113 = 10961, t = 17 -/
def gz_exLevel : Level := { scheme := .bfv, n := 2, k := 1, qs := #[gz_m97, gz_m113], t := gz_m17, tables := #[], tool := default }
def gz_exCdp : Array MulOperand := #[⟨62, 11790702397628785568⟩, ⟨79, 12896396299319067058⟩]

theorem gz_ex_scalingOK : ScalingOK gz_exLevel 10961 gz_exCdp where
  qwf := by
    intro j hj
    have : j = 0 ∨ j = 1 := by have : j < 2 := hj; omega
    rcases this with rfl | rfl
    · exact gz_m97_wf
    · exact gz_m113_wf
  t2 := by decide
  t61 := by decide
  cdpSize := by decide
  op := by
    intro j hj
    have : j = 0 ∨ j = 1 := by have : j < 2 := hj; omega
    rcases this with rfl | rfl
    · exact ⟨⟨by decide, by decide +kernel⟩, by decide⟩
    · exact ⟨⟨by decide, by decide +kernel⟩, by decide⟩

/-- the generated `multiply_add_plain` on the flat buffer [5, 6 | 7, 8] with plaintext (16, 3): all hypotheses hold, the result is
    the buffer with Δ(16) = 10316, Δ(3) = 1934 added modulo 97 resp. 113 -/
theorem gz_ex_multiply_add_plain :
    GenS.multiply_add_plain [5, 6, 7, 8] [gz_m97, gz_m113] 2 2 gz_m17 gz_exCdp.toList 9 (10961 % 17) [16, 3] = .ok [39, 0, 40, 21] := by
  have h := gen_multiply_add_plain_spec gz_ex_scalingOK #[16, 3] [5, 6, 7, 8] (by decide) (by decide) (by decide) (by decide) (by decide)
  rw [show (List.range (gz_exLevel.size * gz_exLevel.n)).map (fun p =>
        if p % gz_exLevel.n < (#[16, 3] : Poly).size then
          (([5, 6, 7, 8] : List Nat).getD p 0 + deltaM 10961 gz_exLevel.t.value ((#[16, 3] : Poly).getD (p % gz_exLevel.n) 0)) % (gz_exLevel.q (p / gz_exLevel.n)).value
        else ([5, 6, 7, 8] : List Nat).getD p 0) = [39, 0, 40, 21] by decide] at h
  exact h
end HC
