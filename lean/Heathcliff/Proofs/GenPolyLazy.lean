import Heathcliff.Proofs.GenPoly
import Heathcliff.Proofs.C09G

/-!
  C09, lazy clause from the SOURCE: the generated `dyadic_product` / `dyadic_product_inplace` (src/util/polysmallmod.rs, Gen/PolyFns.lean) return
  `a_i · b_i mod q` for ANY 64-bit operands — in particular for the unreduced output (< 4q) of the lazy forward transform, which the evaluator
  feeds into `dyadic_product_inplace` (multiply_plain).  Composition of `gp_poly_dyadic_product(_inplace)_eq` with `dyadicProduct_spec`
  (`gpl_dyadic_any`, `gpl_dyadic_inplace_any`).
-/
namespace HC

/-- `dyadic_product_inplace(comp1, comp2, modulus)` on ANY words: position i becomes comp1[i] · comp2[i] mod q -/
theorem gpl_dyadic_inplace_any (a b : List Nat) (m : Modulus) (h : m.WF) (hl : a.length ≤ b.length)
    (ha : ∀ i, i < a.length → a.getD i 0 < 2^64) (hb : ∀ i, i < a.length → b.getD i 0 < 2^64) :
    ∃ o, GenP.poly_dyadic_product_inplace a b m = .ok o ∧ o.length = a.length ∧
      ∀ i, i < a.length → o.getD i 0 = (a.getD i 0 * b.getD i 0) % m.value := by
  rw [gp_poly_dyadic_product_inplace_eq a b m hl]
  obtain ⟨p, hp, hs, hv⟩ := dyadicProduct_spec h a.toArray (b.take a.length).toArray
    (by intro i hi; rw [list_getD_toArray]; exact ha i (by simpa using hi))
    (by intro i hi; have hi' : i < a.length := by simpa using hi
        rw [list_getD_toArray, list_getD_take _ 0 hi']; exact hb i hi')
  rw [hp]
  refine ⟨p.toList, rfl, by simpa using hs, ?_⟩
  intro i hi
  have := hv i (by simpa using hi)
  simp only [list_getD_toArray] at this
  rw [list_getD_take _ 0 hi] at this
  rw [← list_getD_toArray p.toList i 0]; exact this

/-- `dyadic_product(comp1, comp2, modulus, result)` on ANY words, any old contents of `result` -/
theorem gpl_dyadic_any (a b : List Nat) (m : Modulus) (r : List Nat) (h : m.WF) (hla : r.length ≤ a.length) (hlb : r.length ≤ b.length)
    (ha : ∀ i, i < r.length → a.getD i 0 < 2^64) (hb : ∀ i, i < r.length → b.getD i 0 < 2^64) :
    ∃ o, GenP.poly_dyadic_product a b m r = .ok o ∧ o.length = r.length ∧
      ∀ i, i < r.length → o.getD i 0 = (a.getD i 0 * b.getD i 0) % m.value := by
  rw [gp_poly_dyadic_product_eq a b m r hla hlb]
  obtain ⟨p, hp, hs, hv⟩ := dyadicProduct_spec h (a.take r.length).toArray (b.take r.length).toArray
    (by intro i hi; have hi' : i < r.length := by simp at hi; omega
        rw [list_getD_toArray, list_getD_take _ 0 hi']; exact ha i hi')
    (by intro i hi; have hi' : i < r.length := by simp at hi; omega
        rw [list_getD_toArray, list_getD_take _ 0 hi']; exact hb i hi')
  rw [hp]
  have hsz : (a.take r.length).toArray.size = r.length := by simp; omega
  refine ⟨p.toList, rfl, by simp [hs, hsz], ?_⟩
  intro i hi
  have := hv i (by rw [hsz]; exact hi)
  simp only [list_getD_toArray] at this
  rw [list_getD_take _ 0 hi, list_getD_take _ 0 hi] at this
  rw [← list_getD_toArray p.toList i 0]; exact this

end HC
