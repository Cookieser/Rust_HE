/- C12 part D: the selection semantics over ℂ.  `RootSel.apply` acts on (re, im) pairs exactly as the Rust code does
   (`mirror` swaps, unary minus / `conj` flip signs); this file shows that over ℂ it coincides with the ring-level meaning
   `c12_selVal` used by `getRootSel_spec`, and instantiates get_root with zeta = exp(2πi/m). -/
import Heathcliff.Proofs.C12B
import Mathlib.Data.Complex.Basic
import Mathlib.Analysis.SpecialFunctions.Trigonometric.Basic
import Mathlib.Analysis.SpecialFunctions.Complex.Circle
namespace HC
open Ckks Complex

/-- the complex number of a (re, im) pair as `RootSel.apply` handles it -/
def c12_ofPair (p : ℝ × ℝ) : ℂ := ⟨p.1, p.2⟩

/-- componentwise selection = ring-level selection with I = Complex.I, star = conj -/
theorem selVal_complex (table : Nat → ℂ) (s : RootSel) :
    c12_ofPair (RootSel.apply (fun r : ℝ => -r) (fun i => ((table i).re, (table i).im)) s) = c12_selVal Complex.I table s := by
  obtain ⟨idx, sw, nr, ni⟩ := s
  cases sw <;> cases nr <;> cases ni <;>
    apply Complex.ext <;>
    simp [RootSel.apply, c12_selVal, c12_ofPair, Complex.mul_re, Complex.mul_im]

theorem c12d_unit (x : ℝ) : Complex.exp (x * Complex.I) * star (Complex.exp (x * Complex.I)) = 1 := by
  rw [Complex.star_def, ← Complex.exp_conj, ← Complex.exp_add]
  simp

theorem c12d_pow (z : ℂ) (n : ℕ) : Complex.exp z ^ n = Complex.exp (n * z) := (Complex.exp_nat_mul z n).symm

theorem c12d_zeta_unit (m : ℕ) :
    Complex.exp (2 * Real.pi * Complex.I / (m : ℂ)) * star (Complex.exp (2 * Real.pi * Complex.I / (m : ℂ))) = 1 := by
  have e : 2 * (Real.pi : ℂ) * Complex.I / (m : ℂ) = ((2 * Real.pi / (m : ℝ) : ℝ) : ℂ) * Complex.I := by
    push_cast; ring
  rw [e]
  exact c12d_unit _

theorem c12d_zeta_quarter (u : ℕ) : Complex.exp (2 * Real.pi * Complex.I / ((2^(u+2) : ℕ) : ℂ)) ^ (2^u) = Complex.I := by
  have h2 : ((2 ^ u : ℕ) : ℂ) ≠ 0 := by exact_mod_cast (pow_pos (by norm_num : 0 < 2) u).ne'
  rw [c12d_pow]
  refine Eq.trans ?_ Complex.exp_pi_div_two_mul_I
  congr 1
  push_cast
  push_cast at h2
  field_simp
  ring

/-- GET_ROOT_INDEX over ℂ: given the exact octant values exp(2πi·i/m), `get_root(j)` is exp(2πi·j/m), for every m = 2^t ≥ 8, every j -/
theorem get_root_index_complex (t : Nat) (ht : 3 ≤ t) (j : Nat) :
    ∃ s, getRootSel (2^t) 3 j = .ok s ∧ s.idx ≤ 2^t / 8 ∧
      c12_ofPair (RootSel.apply (fun r : ℝ => -r)
        (fun i => ((Complex.exp (2 * Real.pi * Complex.I * i / (2^t : ℕ))).re, (Complex.exp (2 * Real.pi * Complex.I * i / (2^t : ℕ))).im)) s)
      = Complex.exp (2 * Real.pi * Complex.I * j / (2^t : ℕ)) := by
  have hpow : ∀ i : ℕ, Complex.exp (2 * Real.pi * Complex.I * i / (2^t : ℕ))
      = Complex.exp (2 * Real.pi * Complex.I / (2^t : ℕ)) ^ i := by
    intro i
    rw [c12d_pow]; congr 1; ring
  have hI : Complex.exp (2 * Real.pi * Complex.I / (2^t : ℕ)) ^ (2^t / 4) = Complex.I := by
    obtain ⟨u, rfl⟩ : ∃ u, t = u + 2 := ⟨t - 2, by omega⟩
    rw [show 2 ^ (u + 2) / 4 = 2 ^ u by rw [pow_add]; norm_num]
    exact c12d_zeta_quarter u
  obtain ⟨s, h1, h2, h3⟩ := getRootSel_spec t ht _ Complex.I hI Complex.I_mul_I (c12d_zeta_unit _) j
  refine ⟨s, h1, h2, ?_⟩
  rw [hpow j, ← h3, ← selVal_complex]
  congr 2
  funext i
  rw [hpow i]

/-- psi = exp(2πi/2N) satisfies the hypotheses of the embedding theorems -/
theorem psi_complex (k : Nat) :
    let ψ := Complex.exp (2 * Real.pi * Complex.I / ((2 * 2^k : ℕ) : ℂ))
    ψ^(2^k) = -1 ∧ ψ * star ψ = 1 := by
  intro ψ
  have h2 : ((2 ^ k : ℕ) : ℂ) ≠ 0 := by exact_mod_cast (pow_pos (by norm_num : 0 < 2) k).ne'
  constructor
  · show Complex.exp _ ^ _ = _
    rw [c12d_pow]
    refine Eq.trans ?_ Complex.exp_pi_mul_I
    congr 1
    push_cast
    push_cast at h2
    field_simp
  · exact c12d_zeta_unit _

end HC
