/-
  The index lists `MatmulHelper::input_terms` / `output_terms` (src/app/matmul/cheetah.rs)
  regenerated into Gen/AppFns.lean = `inputTerms` / `outputTerms` of the hand model.  Helper prefix `ga_`.
-/
import Heathcliff.Proofs.Base
import Heathcliff.Proofs.GenAppConv
import Heathcliff.Proofs.C20B

namespace HC
open HC.MM HC.GenApp

theorem ga_pairs_map {β : Type} (A C : Nat) (g : Nat → Nat → β) :
    (pairs A C).map (fun p => g p.1 p.2) = (List.range A).flatMap fun a => (List.range C).map fun c => g a c := by
  simp [pairs, List.map_flatMap, List.map_map, Function.comp_def]

/-! ### a loop inside a loop body is generated as `let v ← forUp 0 (k - 0) l f; pure (Ctl.next v)`: the case `lo = 0` of
    `ga_forUp_pushL_next`; with the model's list written as nested `flatMap`s each level is peeled off without restating what it pushes -/

theorem ga_forUp_push_list_next (f : Nat → List Nat → R (Ctl (List Nat))) (val : Nat → List Nat) (k : Nat) (l : List Nat)
    (h : ∀ j l, j < k → f j l = .ok (.next (l ++ val j))) :
    (do let v ← forUp 0 (k - 0) l f; pure (Ctl.next v)) = .ok (.next (l ++ (List.range k).flatMap val)) := by
  rw [Nat.sub_zero]
  exact ga_forUp_pushL_next f val 0 k l fun a l ha => by rw [Nat.zero_add]; exact h a l ha

theorem ga_forUp_push_next (f : Nat → List Nat → R (Ctl (List Nat))) (val : Nat → Nat) (k : Nat) (l : List Nat)
    (h : ∀ j l, j < k → f j l = .ok (.next (l ++ [val j]))) :
    (do let v ← forUp 0 (k - 0) l f; pure (Ctl.next v)) = .ok (.next (l ++ (List.range k).map val)) := by
  rw [ga_forUp_push_list_next f (fun j => [val j]) k l h, List.map_eq_flatMap]

theorem ga_block_le {i j bb ib ob : Nat} (hi : i < bb) (hj : j < ob) : i * ib * ob + j * ib + ib ≤ bb * ib * ob := by
  have e1 : j * ib + ib ≤ ob * ib := grid_succ_le hj
  have e2 : i * (ib * ob) + ib * ob ≤ bb * (ib * ob) := grid_succ_le hi
  rw [Nat.mul_assoc i ib ob, Nat.mul_assoc bb ib ob]
  rw [Nat.mul_comm ob ib] at e1
  omega

/-- both `output_terms` functions begin with this chain; with `ib = 0` it ends in `0 + 0 + 0 - 1`: a trap -/
theorem ga_block_last {β : Type} {i j bb ib ob : Nat} (hi : i < bb) (hj : j < ob) (hib : 1 ≤ ib) (hfit : bb * ib * ob < 2^64)
    (f : Nat → R β) :
    (do let t1 ← ckMul i ib
        let t2 ← ckMul t1 ob
        let t3 ← ckMul j ib
        let t4 ← ckAdd t2 t3
        let t5 ← ckAdd t4 ib
        let t6 ← ckSub t5 1
        f t6) = f (i * ib * ob + j * ib + ib - 1) := by
  -- every intermediate is a part of the sum `i·ib·ob + j·ib + ib`, which is inside the product
  have lt : ∀ {x}, x ≤ i * ib * ob + j * ib + ib → x < 2^64 := fun h =>
    Nat.lt_of_le_of_lt (Nat.le_trans h (ga_block_le hi hj)) hfit
  have h2 : i * ib * ob ≤ i * ib * ob + j * ib + ib := Nat.le_add_right_of_le (Nat.le_add_right _ _)
  simp only [ckMul_ok_pow (lt (Nat.le_trans (Nat.le_mul_of_pos_right _ (Nat.zero_lt_of_lt hj)) h2)), ckMul_ok_pow (lt h2),
    ckMul_ok_pow (lt (Nat.le_add_right_of_le (Nat.le_add_left _ _))), ckAdd_ok_pow (lt (Nat.le_add_right _ _)),
    ckAdd_ok_pow (lt (Nat.le_refl _)), ckSub_of_le (Nat.le_trans hib (Nat.le_add_left _ _)), R.ok_bind]

/-- **`MatmulHelper::output_terms`, generated = model** for every helper whose block product fits a word and whose input block is
    non-zero (with `input_block = 0` and non-empty loops the code evaluates `0 + 0 + 0 - 1`: a trap) -/
theorem ga_mm_output_terms_eq (H : MatmulHelper) (hfit : H.batch_block * H.input_block * H.output_block < 2^64)
    (hib : 1 ≤ H.input_block) :
    mm_output_terms H = .ok (outputTerms (ga_toHelper H)) := by
  rw [outputTerms, ga_pairs_map]
  refine ga_forUp_push_list _ _ _ [] fun i l hi => ?_
  refine ga_forUp_push_next _ _ _ _ fun j l hj => ?_
  simp only [mm_output_terms_loop1, ga_block_last hi hj hib hfit]
  rfl

/-- **`MatmulHelper::input_terms`, generated = model** (block product fits a word, non-zero output block) -/
theorem ga_mm_input_terms_eq (H : MatmulHelper) (hfit : H.batch_block * H.input_block * H.output_block < 2^64)
    (hob : 1 ≤ H.output_block) :
    mm_input_terms H = .ok (inputTerms (ga_toHelper H)) := by
  rw [inputTerms, ga_pairs_map]
  refine ga_forUp_push_list _ _ _ [] fun i l hi => ?_
  refine ga_forUp_push_next _ _ _ _ fun j l hj => ?_
  -- `i·ib·ob + j` lies in block row `i`, which ends inside the product
  have hrow : i * H.input_block * H.output_block + H.input_block * H.output_block ≤ H.batch_block * H.input_block * H.output_block := by
    rw [Nat.mul_assoc, Nat.mul_assoc]; exact grid_succ_le hi
  have lt : ∀ {x}, x ≤ i * H.input_block * H.output_block + H.input_block * H.output_block → x < 2^64 := fun h =>
    Nat.lt_of_le_of_lt (Nat.le_trans h hrow) hfit
  have hj' : j ≤ H.input_block * H.output_block := Nat.le_trans (Nat.le_of_lt hj) (Nat.le_mul_of_pos_right _ hob)
  simp only [mm_input_terms_loop1, ckMul_ok_pow (lt (Nat.le_add_right_of_le (Nat.le_mul_of_pos_right _ hob))),
    ckMul_ok_pow (lt (Nat.le_add_right _ _)), ckAdd_ok_pow (lt (Nat.add_le_add_left hj' _)), R.ok_bind]
  rfl

end HC
