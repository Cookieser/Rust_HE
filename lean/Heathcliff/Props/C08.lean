import Heathcliff.Proofs.C08A
import Heathcliff.Proofs.C08B
import Heathcliff.Proofs.C08C
import Heathcliff.Proofs.GenWordScalar
import Heathcliff.Proofs.GenUint

/- C08 — the word-level modular primitives (src/util/uintsmallmod.rs, src/util/number_theory.rs, src/modulus.rs) return the exact
   residue, the lazy multiplication a congruent value below 2q, for every well-formed modulus (`Modulus.WF`: 2 ≤ q < 2^61 with its
   Barrett constants) and every operand in the range the theorem names; the multi-word helpers of src/util/basic.rs compute what
   arbitrary-precision arithmetic computes on the value `toNat` of the limb list, for every length.
   Statements only; the proofs are in Proofs/C08A (one and two words), C08B (exponentiation, gcd, inversion, NAF), C08C (limb lists).
   One claim is FALSE for the code as modelled and is stated with its restriction: inversion needs `v < 2^63` (the `i64` cofactors of
   `xgcd` overflow above; `tryInvert_full_statement_false`).
   The `gen_…_eq` theorems of the second half say that the function generated from the Rust source equals the hand model. -/
namespace HC.C08
open HC
variable {m : Modulus}

theorem incrementMod_exact (h : m.WF) {x : Nat} (hx : x ≤ 2 * m.value - 2) :
    incrementMod x m = .ok ((x + 1) % m.value) := HC.incrementMod_exact h hx

theorem decrementMod_exact (h : m.WF) {x : Nat} (hx : x < m.value) :
    decrementMod x m = .ok ((x + m.value - 1) % m.value) := HC.decrementMod_exact h hx

theorem negateMod_exact (h : m.WF) {x : Nat} (hx : x ≤ m.value) :
    negateMod x m = .ok ((m.value - x) % m.value) := HC.negateMod_exact h hx

/-- halving: for odd q the result is the unique y < q with 2y ≡ x -/
theorem div2Mod_exact (h : m.WF) (hodd : m.value % 2 = 1) {x : Nat} (hx : x < m.value) :
    ∃ y, div2Mod x m = .ok y ∧ y < m.value ∧ (2 * y) % m.value = x := HC.div2Mod_exact h hodd hx

theorem addMod_exact (h : m.WF) {x y : Nat} (hx : x < m.value) (hy : y < m.value) :
    addMod x y m = .ok ((x + y) % m.value) := HC.addMod_exact h hx hy

theorem subMod_exact (h : m.WF) {x y : Nat} (hx : x < m.value) (hy : y < m.value) :
    subMod x y m = .ok ((x + m.value - y) % m.value) := HC.subMod_exact h hx hy

/-- Barrett reduction of any 128-bit value, any modulus 2 ≤ q < 2^61 (prime or not) -/
theorem barrett128_exact (h : m.WF) {x0 x1 : Nat} (h0 : x0 < 2^64) (h1 : x1 < 2^64) :
    barrett128 x0 x1 m = .ok ((x0 + 2^64 * x1) % m.value) := HC.barrett128_exact h h0 h1

theorem barrett64_exact (h : m.WF) {x : Nat} (hx : x < 2^64) :
    barrett64 x m = .ok (x % m.value) := HC.barrett64_exact h hx

theorem mulMod_exact (h : m.WF) {x y : Nat} (hx : x < 2^64) (hy : y < 2^64) :
    mulMod x y m = .ok ((x * y) % m.value) := HC.mulMod_exact h hx hy

theorem mulOperand_new (h : m.WF) {y : Nat} (hy : y < m.value) :
    ∃ o, MulOperand.new y m = .ok o ∧ o.operand = y ∧ o.quotient = y * 2^64 / m.value := HC.mulOperand_new h hy

/-- Harvey lazy multiplication: for EVERY x < 2^64 the result is congruent and below 2q -/
theorem mulOperandModLazy_spec (h : m.WF) {x y : Nat} (hx : x < 2^64) (hy : y < m.value)
    {o : MulOperand} (ho : MulOperand.new y m = .ok o) :
    mulOperandModLazy x o m < 2 * m.value ∧ mulOperandModLazy x o m % m.value = (x * y) % m.value := HC.mulOperandModLazy_spec h hx hy ho

theorem mulOperandMod_exact (h : m.WF) {x y : Nat} (hx : x < 2^64) (hy : y < m.value)
    {o : MulOperand} (ho : MulOperand.new y m = .ok o) :
    mulOperandMod x o m = .ok ((x * y) % m.value) := HC.mulOperandMod_exact h hx hy ho

theorem mulAddMod_exact (h : m.WF) {x y z : Nat} (hx : x < 2^64) (hy : y < 2^64) (hz : z < 2^64) :
    mulAddMod x y z m = .ok ((x * y + z) % m.value) := HC.mulAddMod_exact h hx hy hz

theorem mulOperandAddMod_exact (h : m.WF) {x y z : Nat} (hx : x < 2^64) (hy : y < m.value) (hz : z < 2^64)
    {o : MulOperand} (ho : MulOperand.new y m = .ok o) :
    mulOperandAddMod x o z m = .ok ((x * y + z) % m.value) := HC.mulOperandAddMod_exact h hx hy hz ho

/-- dot product: exact whenever the true sum fits in 128 bits
    (in particular for ≤ 64 summands of factors below 2^61) -/
theorem dotProductMod_exact (h : m.WF) {xs ys : List Nat} (hl : xs.length = ys.length)
    (hxs : ∀ x ∈ xs, x < 2^64) (hys : ∀ y ∈ ys, y < 2^64)
    (hsum : ((xs.zip ys).map (fun p => p.1 * p.2)).sum < 2^128) :
    dotProductMod xs ys m = .ok (((xs.zip ys).map (fun p => p.1 * p.2)).sum % m.value) := HC.dotProductMod_exact h hl hxs hys hsum

theorem dotProduct_sum_bound {xs ys : List Nat} (hl : xs.length = ys.length) (hn : xs.length ≤ 64)
    (hxs : ∀ x ∈ xs, x < 2^61) (hys : ∀ y ∈ ys, y < 2^61) :
    ((xs.zip ys).map (fun p => p.1 * p.2)).sum < 2^128 := HC.dotProduct_sum_bound hl hn hxs hys

/-- multi-word value reduced modulo q, any number of limbs ≥ 1 -/
theorem moduloUint_exact (h : m.WF) {v : List Nat} (hne : v ≠ []) (hv : ∀ x ∈ v, x < 2^64) :
    moduloUint v m = .ok (toNat v % m.value) := HC.moduloUint_exact h hne hv

/-- exponentiation (operands already reduced): exponent 0 ↦ 1, exponent 1 ↦ the operand itself (unreduced, as coded),
    otherwise x^e mod q.  `hmul` is `mulMod_exact h` above; `isPrimitiveRoot_spec` (C09) and the Miller–Rabin proof (C13) pass that. -/
theorem exponentiateMod_exact
    (hmul : ∀ {x y : Nat}, x < 2^64 → y < 2^64 → mulMod x y m = .ok ((x * y) % m.value))
    (h : m.WF) {x e : Nat} (hx : x < 2^64) (he : e < 2^64) :
    exponentiateMod x e m = .ok (if e = 0 then 1 else if e = 1 then x else (x ^ e) % m.value) := HC.exponentiateMod_exact hmul h hx he

theorem gcdU64_exact {x y : Nat} (hx : x < 2^64) (hy : y < 2^64) : gcdU64 x y = Nat.gcd x y := HC.gcdU64_exact hx hy

/-- non-adjacent form: digits sum to the value, each digit is ± a power of two with strictly increasing
    exponents differing by at least 2 -/
theorem naf_spec {v : Int} (hv : -(2^31 : Int) < v ∧ v < 2^31) :
    ∃ ds, naf v = .ok ds ∧ ds.sum = v ∧
      (∀ d ∈ ds, ∃ i : Nat, d = 2^i ∨ d = -(2^i : Int)) ∧
      List.Pairwise (fun a b => 4 * a.natAbs ≤ b.natAbs) ds := HC.naf_spec hv

theorem toNat_lt {l : List Nat} (h : Limbs l) : toNat l < 2^(64 * l.length) := HC.toNat_lt h

theorem toNat_fromNat (n v : Nat) : toNat (fromNat n v) = v % 2^(64*n) ∧ (fromNat n v).length = n ∧ Limbs (fromNat n v) := HC.toNat_fromNat n v

/-- single-word carry primitives -/
theorem addU64Carry_spec {a b c : Nat} (ha : a < 2^64) (hb : b < 2^64) (hc : c ≤ 1) :
    (addU64Carry a b c).1 + 2^64 * (addU64Carry a b c).2 = a + b + c ∧ (addU64Carry a b c).1 < 2^64 ∧ (addU64Carry a b c).2 ≤ 1 := HC.addU64Carry_spec ha hb hc

theorem subU64Borrow_spec {a b c : Nat} (ha : a < 2^64) (hb : b < 2^64) (hc : c ≤ 1) :
    (subU64Borrow a b c).1 + b + c = a + 2^64 * (subU64Borrow a b c).2 ∧ (subU64Borrow a b c).1 < 2^64 ∧ (subU64Borrow a b c).2 ≤ 1 := HC.subU64Borrow_spec ha hb hc

theorem addUint_spec {a b : List Nat} {n : Nat} (hn : 1 ≤ n) (ha : Limbs a) (hb : Limbs b)
    (hla : n ≤ a.length) (hlb : n ≤ b.length) :
    ∃ r c, addUint a b n = .ok (r, c) ∧ r.length = n ∧ Limbs r ∧ c ≤ 1 ∧
      toNat r + 2^(64*n) * c = toNat (a.take n) + toNat (b.take n) := HC.addUint_spec hn ha hb hla hlb

theorem subUint_spec {a b : List Nat} {n : Nat} (hn : 1 ≤ n) (ha : Limbs a) (hb : Limbs b)
    (hla : n ≤ a.length) (hlb : n ≤ b.length) :
    ∃ r c, subUint a b n = .ok (r, c) ∧ r.length = n ∧ Limbs r ∧ c ≤ 1 ∧
      toNat r + toNat (b.take n) = toNat (a.take n) + 2^(64*n) * c := HC.subUint_spec hn ha hb hla hlb

theorem addUintU64_spec {a : List Nat} {w n : Nat} (hn : 1 ≤ n) (ha : Limbs a) (hw : w < 2^64) (hla : n ≤ a.length) :
    ∃ r c, addUintU64 a w n = .ok (r, c) ∧ r.length = n ∧ Limbs r ∧ c ≤ 1 ∧
      toNat r + 2^(64*n) * c = toNat (a.take n) + w := HC.addUintU64_spec hn ha hw hla

theorem subUintU64_spec {a : List Nat} {w n : Nat} (hn : 1 ≤ n) (ha : Limbs a) (hw : w < 2^64) (hla : n ≤ a.length) :
    ∃ r c, subUintU64 a w n = .ok (r, c) ∧ r.length = n ∧ Limbs r ∧ c ≤ 1 ∧
      toNat r + w = toNat (a.take n) + 2^(64*n) * c := HC.subUintU64_spec hn ha hw hla

theorem negateUint_spec {a : List Nat} {n : Nat} (hn : 1 ≤ n) (ha : Limbs a) (hla : n ≤ a.length) :
    ∃ r, negateUint a n = .ok r ∧ r.length = n ∧ Limbs r ∧
      toNat r = (2^(64*n) - toNat (a.take n)) % 2^(64*n) := HC.negateUint_spec hn ha hla

/-- product by one word, for every result length n ≥ 1 (truncating) -/
theorem multiplyUintU64_spec {a : List Nat} {w n : Nat} (hn : 1 ≤ n) (ha : Limbs a) (hw : w < 2^64) :
    ∃ r, multiplyUintU64 a w n = .ok r ∧ r.length = n ∧ Limbs r ∧
      toNat r = (toNat a * w) % 2^(64*n) := HC.multiplyUintU64_spec hn ha hw

/-- full product, for every pair of operand lengths and every result length n ≥ 1 (incl. 1) -/
theorem multiplyUint_spec {a b : List Nat} {n : Nat} (hn : 1 ≤ n) (ha : Limbs a) (hb : Limbs b) :
    ∃ r, multiplyUint a b n = .ok r ∧ r.length = n ∧ Limbs r ∧
      toNat r = (toNat a * toNat b) % 2^(64*n) := HC.multiplyUint_spec hn ha hb

theorem leftShiftUint_spec {a : List Nat} {s cnt : Nat} (ha : Limbs a) (hl : cnt ≤ a.length) (hs : s < 64 * cnt) :
    ∃ r, leftShiftUint a s cnt = .ok r ∧ r.length = cnt ∧ Limbs r ∧
      toNat r = (toNat (a.take cnt) * 2^s) % 2^(64*cnt) := HC.leftShiftUint_spec ha hl hs

theorem rightShiftUint_spec {a : List Nat} {s cnt : Nat} (ha : Limbs a) (hl : cnt ≤ a.length) (hs : s < 64 * cnt) :
    ∃ r, rightShiftUint a s cnt = .ok r ∧ r.length = cnt ∧ Limbs r ∧
      toNat r = toNat (a.take cnt) / 2^s := HC.rightShiftUint_spec ha hl hs

theorem leftShiftU192_spec {a : List Nat} {s : Nat} (ha : Limbs a) (hl : a.length = 3) (hs : s < 192) :
    ∃ r, leftShiftU192 a s = .ok r ∧ r.length = 3 ∧ Limbs r ∧ toNat r = (toNat a * 2^s) % 2^192 := HC.leftShiftU192_spec ha hl hs

theorem rightShiftU192_spec {a : List Nat} {s : Nat} (ha : Limbs a) (hl : a.length = 3) (hs : s < 192) :
    ∃ r, rightShiftU192 a s = .ok r ∧ r.length = 3 ∧ Limbs r ∧ toNat r = toNat a / 2^s := HC.rightShiftU192_spec ha hl hs

theorem halfRoundUp_spec {a : List Nat} {n : Nat} (hn : 1 ≤ n) (ha : Limbs a) (hl : n ≤ a.length) :
    ∃ r, halfRoundUp a n = .ok r ∧ r.length = n ∧ Limbs r ∧
      toNat r = ((toNat (a.take n) + 1) / 2) % 2^(64*n) := HC.halfRoundUp_spec hn ha hl

/-- comparison of values of possibly different lengths -/
theorem compareUint_spec {a b : List Nat} (ha : Limbs a) (hb : Limbs b) :
    compareUint a b = (if toNat a < toNat b then -1 else if toNat a > toNat b then 1 else 0) := HC.compareUint_spec ha hb

theorem multiplyManyU64_spec {ops : List Nat} {n : Nat} (hne : ops ≠ []) (ho : Limbs ops) (hn : ops.length ≤ n) :
    ∃ r, multiplyManyU64 ops n = .ok r ∧ r.length = n ∧ Limbs r ∧ toNat r = ops.foldl (· * ·) 1 := HC.multiplyManyU64_spec hne ho hn

theorem addUintMod_spec {a b md : List Nat} (hn : 1 ≤ md.length) (ha : Limbs a) (hb : Limbs b) (hm : Limbs md)
    (hla : a.length = md.length) (hlb : b.length = md.length) (hax : toNat a < toNat md) (hbx : toNat b < toNat md) :
    ∃ r, addUintMod a b md = .ok r ∧ r.length = md.length ∧ Limbs r ∧ toNat r = (toNat a + toNat b) % toNat md := HC.addUintMod_spec hn ha hb hm hla hlb hax hbx

theorem subUintMod_spec {a b md : List Nat} (hn : 1 ≤ md.length) (ha : Limbs a) (hb : Limbs b) (hm : Limbs md)
    (hla : a.length = md.length) (hlb : b.length = md.length) (hax : toNat a < toNat md) (hbx : toNat b < toNat md) :
    ∃ r, subUintMod a b md = .ok r ∧ r.length = md.length ∧ Limbs r ∧ toNat r = (toNat a + toNat md - toNat b) % toNat md := HC.subUintMod_spec hn ha hb hm hla hlb hax hbx

theorem negateUintMod_spec {a md : List Nat} (hn : 1 ≤ md.length) (ha : Limbs a) (hm : Limbs md)
    (hla : a.length = md.length) (hax : toNat a < toNat md) :
    ∃ r, negateUintMod a md = .ok r ∧ r.length = md.length ∧ Limbs r ∧ toNat r = (toNat md - toNat a) % toNat md := HC.negateUintMod_spec hn ha hm hla hax

theorem modulus_new_wf {v : Nat} {m : Modulus} (h : Modulus.mk? v = .ok m) (hv : v ≠ 0) :
    m.WF ∧ m.value = v := Modulus.mk?_wf h hv

/-- FULL statement for inversion (any `v < 2^64`).  It is FALSE for the code: `xgcd`'s `i64` products overflow for
    `v ≥ 2^63` with a small modulus (`tryInvert (2^64-1) 2`), see `tryInvert_overflow_witness`.  The documented operand
    range is `v < q`; the proved theorem `tryInvert_spec_partial` covers all `v < 2^63`. -/
theorem tryInvert_full_statement_false : ¬ HC.TryInvertStatement := HC.tryInvertStatement_false
theorem tryInvert_overflow_witness : tryInvert (2^64-1) 2 = .error .overflow := HC.tryInvert_overflow_witness
theorem tryInvert_spec_partial {v q : Nat} (hq2 : 2 ≤ q) (hq : q < 2^61) (hv : v < 2^64) (hv' : v < 2^63) :
    (v ≠ 0 ∧ Nat.gcd v q = 1 → ∃ r, tryInvert v q = .ok (some r) ∧ r < q ∧ (r * v) % q = 1) ∧
    (v = 0 ∨ Nat.gcd v q ≠ 1 → tryInvert v q = .ok none) := HC.tryInvert_spec_partial hq2 hq hv hv'

/-- DIVISION WITH REMAINDER (shift-subtract loop of `divide_uint_inplace`), all lengths: n = q·d + r, r < d -/
theorem divideUint_spec : HC.DivideUintStatement := HC.divideUint_spec

/-! ### Tie to the source: the definitions of `Heathcliff/Gen/WordFns.lean`, regenerated from the Rust sources on every run by
    `tools/rs2lean.py`, EQUAL the hand-model functions the theorems above are about (for all arguments). -/
theorem gen_add_u64_eq (a b : Nat) : GenW.add_u64 a b = addU64 a b := HC.gw_add_u64_eq a b
theorem gen_add_u64_carry_eq (a b c : Nat) : GenW.add_u64_carry a b c = addU64Carry a b c := HC.gw_add_u64_carry_eq a b c
theorem gen_sub_u64_eq (a b : Nat) : GenW.sub_u64 a b = subU64 a b := HC.gw_sub_u64_eq a b
theorem gen_sub_u64_borrow_eq (a b c : Nat) : GenW.sub_u64_borrow a b c = subU64Borrow a b c := HC.gw_sub_u64_borrow_eq a b c
theorem gen_multiply_u64_high_word_eq (a b : Nat) : GenW.multiply_u64_high_word a b = mulHi a b := HC.gw_multiply_u64_high_word_eq a b
theorem gen_multiply_u64_u64_eq (a b : Nat) : GenW.multiply_u64_u64 a b = (mulLo a b, mulHi a b) := HC.gw_multiply_u64_u64_eq a b
theorem gen_increment_u64_mod_eq (x : Nat) (m : Modulus) : GenW.increment_u64_mod x m = incrementMod x m := HC.gw_increment_u64_mod_eq x m
theorem gen_decrement_u64_mod_eq (x : Nat) (m : Modulus) : GenW.decrement_u64_mod x m = decrementMod x m := HC.gw_decrement_u64_mod_eq x m
theorem gen_negate_u64_mod_eq (x : Nat) (m : Modulus) : GenW.negate_u64_mod x m = negateMod x m := HC.gw_negate_u64_mod_eq x m
theorem gen_div2_u64_mod_eq (x : Nat) (m : Modulus) : GenW.div2_u64_mod x m = div2Mod x m := HC.gw_div2_u64_mod_eq x m
theorem gen_add_u64_mod_eq (a b : Nat) (m : Modulus) : GenW.add_u64_mod a b m = addMod a b m := HC.gw_add_u64_mod_eq a b m
theorem gen_sub_u64_mod_eq (a b : Nat) (m : Modulus) : GenW.sub_u64_mod a b m = subMod a b m := HC.gw_sub_u64_mod_eq a b m
theorem gen_barrett_reduce_u128_eq (x0 x1 : Nat) (m : Modulus) : GenW.barrett_reduce_u128 x0 x1 m = barrett128 x0 x1 m := HC.gw_barrett_reduce_u128_eq x0 x1 m
theorem gen_barrett_reduce_u64_eq (x : Nat) (m : Modulus) : GenW.barrett_reduce_u64 x m = barrett64 x m := HC.gw_barrett_reduce_u64_eq x m
theorem gen_multiply_u64_mod_eq (a b : Nat) (m : Modulus) : GenW.multiply_u64_mod a b m = mulMod a b m := HC.gw_multiply_u64_mod_eq a b m
theorem gen_multiply_u64operand_mod_eq (x : Nat) (y : MulOperand) (m : Modulus) :
    GenW.multiply_u64operand_mod x y m = mulOperandMod x y m := HC.gw_multiply_u64operand_mod_eq x y m
theorem gen_multiply_u64operand_mod_lazy_eq (x : Nat) (y : MulOperand) (m : Modulus) :
    GenW.multiply_u64operand_mod_lazy x y m = mulOperandModLazy x y m := HC.gw_multiply_u64operand_mod_lazy_eq x y m
theorem gen_multiply_add_u64_mod_eq (a b c : Nat) (m : Modulus) : GenW.multiply_add_u64_mod a b c m = mulAddMod a b c m := HC.gw_multiply_add_u64_mod_eq a b c m
theorem gen_multiply_u64operand_add_u64_mod_eq (a : Nat) (b : MulOperand) (c : Nat) (m : Modulus) :
    GenW.multiply_u64operand_add_u64_mod a b c m = mulOperandAddMod a b c m := HC.gw_multiply_u64operand_add_u64_mod_eq a b c m
theorem gen_exponentiate_u64_mod_eq (x e : Nat) (m : Modulus) : GenW.exponentiate_u64_mod x e m = exponentiateMod x e m := HC.gw_exponentiate_u64_mod_eq x e m
/-- `u64::leading_zeros` is modelled as `64 - bitlength`, meaningful below 2^64 only -/
theorem gen_get_significant_bit_count_eq (v : Nat) (hv : v < 2^64) : GenW.get_significant_bit_count v = pure (bitCount v) := HC.gw_get_significant_bit_count_eq v hv
theorem gen_gcd_eq (x y : Nat) : GenW.gcd x y = pure (gcdU64 x y) := HC.gw_gcd_eq x y
/-- the empty slice panics with an arithmetic overflow in the code (`value.len() - 1`), the hand model reports `oob` -/
theorem gen_modulo_uint_eq (v : List Nat) (m : Modulus) (hv : v ≠ []) : GenW.modulo_uint v m = moduloUint v m := HC.gw_modulo_uint_eq v m hv
theorem gen_add_u128_inplace_eq (a0 a1 b0 b1 : Nat) : GenW.add_u128_inplace a0 a1 b0 b1 =
    ((addU128 a0 a1 b0 b1).1, (addU128 a0 a1 b0 b1).2, (addU64Carry a1 b1 (addU64 a0 b0).2).2) := HC.gw_add_u128_inplace_eq a0 a1 b0 b1
theorem gen_dot_product_mod_eq (xs ys : List Nat) (m : Modulus) : GenW.dot_product_mod xs ys m = dotProductMod xs ys m := HC.gw_dot_product_mod_eq xs ys m
/-- `(x % y) as i64 as u64` is the identity only below 2^64: hence `y < 2^64` -/
theorem gen_xgcd_eq (x y : Nat) (hy : y < 2^64) : GenW.xgcd x y = HC.xgcd x y := HC.gw_xgcd_eq x y hy
/-- (new `*result`, returned bool) against the hand model's `Option`, on the domain of `xgcd_spec` (v < 2^63, 2 ≤ m < 2^61) -/
theorem gen_try_invert_u64_mod_u64_eq (v m r0 : Nat) (hv : v < 2^63) (hm2 : 2 ≤ m) (hm : m < 2^61) :
    GenW.try_invert_u64_mod_u64 v m r0 =
      (tryInvert v m >>= fun o => pure (match o with | none => (r0, false) | some r => (r, true))) := HC.gw_try_invert_u64_mod_u64_eq v m r0 hv hm2 hm

/-! ### translator tie: `MultiplyU64ModOperand::new` / `set_quotient` / `divide_u128_u64_inplace` (Proofs/GenWordScalar.lean) -/
theorem gen_divide_u128_u64_inplace_eq (n0 n1 d : Nat) (h0 : n0 < 2^64) (h1 : n1 < 2^64) :
    GenW.divide_u128_u64_inplace n0 n1 d =
      if d = 0 then .error .other
      else .ok (((n1 <<< 64 ||| n0) % d) % B64, 0, ((n1 <<< 64 ||| n0) / d) % B64, ((n1 <<< 64 ||| n0) / d) / B64) :=
  HC.gx_divide_u128_u64_inplace_eq n0 n1 d h0 h1
theorem gen_mulop_new_eq (y : Nat) (m : Modulus) (hy : y < 2^64) : GenW.mulop_new y m = MulOperand.new y m := HC.gx_mulop_new_eq y m hy
theorem gen_mulop_set_quotient_eq (s : MulOperand) (m : Modulus) (hy : s.operand < 2^64) :
    GenW.mulop_set_quotient s m = MulOperand.new s.operand m := HC.gx_mulop_set_quotient_eq s m hy

/-! ### translator tie: multi-word loops writing through `&mut [u64]` (Proofs/GenUint.lean); the slice `result` is an input list
     (only its length matters) and the first component of the result -/
theorem gen_add_uint_eq (a b r : List Nat) : GenW.add_uint a b r = addUint a b r.length := HC.gx_add_uint_eq a b r
theorem gen_sub_uint_eq (a b r : List Nat) : GenW.sub_uint a b r = subUint a b r.length := HC.gx_sub_uint_eq a b r
theorem gen_add_uint_u64_eq (a : List Nat) (w : Nat) (r : List Nat) : GenW.add_uint_u64 a w r = addUintU64 a w r.length := HC.gx_add_uint_u64_eq a w r
theorem gen_sub_uint_u64_eq (a : List Nat) (w : Nat) (r : List Nat) : GenW.sub_uint_u64 a w r = subUintU64 a w r.length := HC.gx_sub_uint_u64_eq a w r

/-- non-vacuity: a 61-bit modulus is well formed and the premises of the theorems are satisfiable -/
example : ∃ m, Modulus.mk? 2305843009213693951 = .ok m ∧ m.WF :=
  ⟨_, rfl, (Modulus.mk?_wf (v := 2305843009213693951) rfl (by decide)).1⟩

/-! ### translator tie (Proofs/GenUint.lean): `negate_uint` (src/util/basic.rs) generated into Gen/WordFns.lean equals
     `negateUint` (including the out-of-bounds panics when the operand is shorter than the result or the result is empty) -/
theorem gen_negate_uint_eq (a r : List Nat) : GenW.negate_uint a r = negateUint a r.length := HC.gy_negate_uint_eq a r

/-! ### translator tie (Proofs/GenUint.lean, generated file Gen/Word2Fns.lean = namespace `GenW2`): more of src/util/basic.rs.
     `compare_uint` (returns `std::cmp::Ordering` = Lean's `Ordering`; never panics), `is_greater_than_or_equal_uint`, the in-place ripples
     `add_uint_inplace` / `sub_uint_inplace` (results: new contents of operand1, carry / borrow; including every out-of-bounds panic), the
     multi-word modular `add_uint_mod` / `add_uint_mod_inplace` / `sub_uint_mod` (hypothesis = the calling convention `result.len() =
     modulus.len()`: the model takes every length from the modulus, the code from the result buffer) and the 192-bit shifts
     (`a_i < 2^64` = the word type: `(x << b) | (y >> (64 - b))` is the sum of the model only for a 64-bit `y`; the previous contents
     `r0 r1 r2` of `result` are inputs of the generated function because every assignment to `result` is conditional, and irrelevant). -/
theorem gen_compare_uint_eq (a b : List Nat) : GenW2.compare_uint a b = .ok (gq_ofInt (compareUint a b)) := HC.gq_compare_uint_eq a b
theorem gen_is_greater_than_or_equal_uint_eq (a b : List Nat) :
    GenW2.is_greater_than_or_equal_uint a b = .ok (geUint a b) := HC.gq_is_greater_than_or_equal_uint_eq a b
theorem gen_add_uint_inplace_eq (a b : List Nat) : GenW2.add_uint_inplace a b = addUint a b a.length := HC.gq_add_uint_inplace_eq a b
theorem gen_sub_uint_inplace_eq (a b : List Nat) : GenW2.sub_uint_inplace a b = subUint a b a.length := HC.gq_sub_uint_inplace_eq a b
theorem gen_add_uint_mod_eq (a b m r : List Nat) (hr : r.length = m.length) : GenW2.add_uint_mod a b m r = addUintMod a b m :=
  HC.gq_add_uint_mod_eq a b m r hr
theorem gen_add_uint_mod_inplace_eq (a b m : List Nat) (hr : a.length = m.length) : GenW2.add_uint_mod_inplace a b m = addUintMod a b m :=
  HC.gq_add_uint_mod_inplace_eq a b m hr
theorem gen_sub_uint_mod_eq (a b m r : List Nat) (hr : r.length = m.length) : GenW2.sub_uint_mod a b m r = subUintMod a b m :=
  HC.gq_sub_uint_mod_eq a b m r hr
theorem gen_left_shift_u192_eq (a0 a1 a2 s r0 r1 r2 : Nat) (h0 : a0 < 2^64) (h1 : a1 < 2^64) :
    (GenW2.left_shift_u192 a0 a1 a2 s r0 r1 r2 >>= fun p => pure [p.1, p.2.1, p.2.2]) = leftShiftU192 [a0, a1, a2] s :=
  HC.gq_left_shift_u192_eq a0 a1 a2 s r0 r1 r2 h0 h1
theorem gen_right_shift_u192_eq (a0 a1 a2 s r0 r1 r2 : Nat) (h0 : a0 < 2^64) (h1 : a1 < 2^64) (h2 : a2 < 2^64) :
    (GenW2.right_shift_u192 a0 a1 a2 s r0 r1 r2 >>= fun p => pure [p.1, p.2.1, p.2.2]) = rightShiftU192 [a0, a1, a2] s :=
  HC.gq_right_shift_u192_eq a0 a1 a2 s r0 r1 r2 h0 h1 h2
/-- non-vacuity of the modular ties: 2^64 - 1 + 1 mod (2^64 - 1) on one limb goes through the carry branch -/
example : GenW2.add_uint_mod [18446744073709551615] [1] [18446744073709551615] [0] = .ok [1] := by decide

end HC.C08
