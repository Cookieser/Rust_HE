/- The facts that are not about the model.  This module imports `Model/Word.lean` and nothing else, and must never gain a Mathlib import:
   the proof modules that import no Mathlib (GenRng*, GenApp*, GenConc, GenMp, C16, C17 and their property files) stand on it, and a Mathlib
   import in front of their statements changes what `^` on `Nat` elaborates to.  What needs Mathlib is in `Proofs/BaseMath.lean`.
   Sections, in order:
   1. the error monad `R` — `R.ok_bind`, `R.error_bind`, `R.pure_eq` (by `rfl`; primed twins for `simp` to rewrite with), `R.bind_eq_ok`,
      `R.map_eq_ok`, `R.bind_congr`, `R.guard_eq_ok`, `R.ite_bind`, `R.isSome_toOption`, `c01p_val`;
   2. `mapM`, `foldlM`, folds — `R.mapM_ok`, `R.mapM_total`, `R.mapM_length`, `R.mapM_getD`, `R.mapM_eq_ok_iff`, `R.mapM_mem`, `R.mapM_spec`,
      `R.mapM_range_spec`, `R.mapM_congr`, `R.mapM_map`, `R.mapM_append`; `R.foldlM_push`, `R.foldlM_push_step`, `R.foldlM_ok_inv`,
      `R.foldlM_congr`, `R.foldlM_toArray`, `foldl_congr`, `foldl_inv`;
   3. `getD` on lists — `list_getD_eq_getElem`, `_of_ge`, `_mem`, `_map`, `_set`, `_append_left/_right`, `_range_map`, `_take`,
      `list_eq_of_getD`, `list_take_set_succ`;
   4. lists cut at a position — `list_headD_drop`, `list_drop_set_succ`, `list_getElem?_mid`, `list_set_mid`, `list_eq_of_getElem?`;
   5. `getD` on arrays — `array_getD_toList`, `list_getD_toArray`, `array_getD_map`, `_set`, `_append_*`, `_ofFn`, `_extract`,
      `array_getD_lt_of_forall`, `getD_lt_of_forall`, `mem_lt_of_getD`, `array_eq_of_getD`, `array_ext_getD`, `array_eq_pair`;
   6. `mapM` re-indexed — `R.mapM_range_getD`, `R.mapM_map_after`;
   7. writing through an index map — `scatterTo_size`, `scatterTo_getD`, `scatterTo_written`;
   8. sums of lists of numbers — `list_sum_const`, `list_sum_map_mul`;
   9. the checked operations when they succeed — `ckAdd_ok`, `ckMul_ok`, `ckSub_of_le`, `B64_eq`;
   10. `bitCount`; 11. words — `asI64_small`, `shiftRight_64`, `and_two_pow`; 12. grid cells — `grid_lt`, `grid_mod`, `grid_div`, `grid_inj`. -/
import Heathcliff.Model.Word

namespace HC

/-! ### the error monad `R`: bind, map, guards, `toOption` -/
section Monad
variable {α β γ : Type}

theorem R.ok_bind (a : α) (f : α → R β) : ((Except.ok a : R α) >>= f) = f a := rfl
theorem R.error_bind (e : Err) (f : α → R β) : ((Except.error e : R α) >>= f) = .error e := rfl
theorem R.pure_eq (a : α) : (pure a : R α) = .ok a := rfl
theorem R.map_ok (a : α) (f : α → β) : (Except.ok a : R α).map f = .ok (f a) := rfl

/-- The same three facts as rewrite rules that `simp` applies by rewriting: a lemma proved by `rfl` is used by `simp only` along its
    definitional path, which on the long bodies of generated functions costs several times as much (and can exhaust the kernel's recursion). -/
theorem R.ok_bind' (a : α) (f : α → R β) : ((Except.ok a : R α) >>= f) = f a := Eq.trans rfl rfl
theorem R.error_bind' (e : Err) (f : α → R β) : ((Except.error e : R α) >>= f) = .error e := Eq.trans rfl rfl
theorem R.pure_eq' (a : α) : (pure a : R α) = .ok a := Eq.trans rfl rfl

theorem R.bind_eq_ok {x : R α} {f : α → R β} {b : β} : (x >>= f) = .ok b ↔ ∃ a, x = .ok a ∧ f a = .ok b := by
  cases x with
  | error e => exact ⟨(fun h => nomatch h), fun ⟨_, h, _⟩ => nomatch h⟩
  | ok a => exact ⟨fun h => ⟨a, rfl, h⟩, fun ⟨_, h, h'⟩ => by cases h; exact h'⟩

theorem R.map_eq_ok {x : R α} {f : α → β} {b : β} : x.map f = .ok b ↔ ∃ a, x = .ok a ∧ f a = b := by
  cases x with
  | error e => exact ⟨(fun h => nomatch h), fun ⟨_, h, _⟩ => nomatch h⟩
  | ok a => exact ⟨fun h => ⟨a, rfl, by cases h; rfl⟩, fun ⟨_, h, h'⟩ => by cases h; cases h'; rfl⟩

theorem R.bind_congr (x : R α) {f g : α → R β} (h : ∀ a, x = .ok a → f a = g a) : (x >>= f) = (x >>= g) := by
  cases x with
  | error e => rfl
  | ok a => exact h a rfl

theorem R.map_bind (f : α → β) (x : R α) (k : β → R γ) : (Except.map f x >>= k) = x >>= fun a => k (f a) := by
  cases x <;> rfl

theorem R.bind_map (x : R α) (g : α → R β) (f : β → γ) : Except.map f (x >>= g) = x >>= fun a => Except.map f (g a) := by
  cases x <;> rfl

theorem R.guard_eq_ok {c : Prop} [Decidable c] {e : Err} {x : R α} {a : α} :
    (if c then .error e else x) = .ok a ↔ ¬ c ∧ x = .ok a := by
  by_cases hc : c
  · rw [if_pos hc]; exact ⟨(fun h => nomatch h), fun h => absurd hc h.1⟩
  · rw [if_neg hc]; exact ⟨fun h => ⟨hc, h⟩, fun h => h.2⟩

theorem R.ite_bind (c : Prop) [Decidable c] (x y : R α) (f : α → R β) :
    (if c then x >>= f else y >>= f) = (if c then x else y) >>= f := by
  split <;> rfl

theorem R.isSome_toOption {x : R α} : x.toOption.isSome = true ↔ ∃ a, x = .ok a := by
  cases x with
  | error e => exact ⟨(fun h => nomatch h), fun ⟨_, h⟩ => nomatch h⟩
  | ok a => exact ⟨fun _ => ⟨a, rfl⟩, fun _ => rfl⟩

theorem R.eq_ok_of_isSome {x : R α} (h : x.toOption.isSome = true) (d : α) : x = .ok (x.toOption.getD d) := by
  obtain ⟨a, rfl⟩ := R.isSome_toOption.mp h
  rfl

/-- the value of a computation that succeeds (any value otherwise) -/
def c01p_val {α : Type} [Inhabited α] (x : R α) : α := match x with | .ok v => v | .error _ => default

theorem c01p_val_ok {α : Type} [Inhabited α] {x : R α} (h : ∃ y, x = .ok y) : x = .ok (c01p_val x) := by
  obtain ⟨y, rfl⟩ := h; rfl

end Monad

/-! ### `mapM`, `foldlM` in `R`, and folds -/
section MapM
variable {α β γ σ : Type}

theorem R.mapM_nil (f : α → R β) : ([] : List α).mapM f = .ok [] := rfl

theorem R.mapM_cons (f : α → R β) (a : α) (l : List α) :
    (a :: l).mapM f = (f a >>= fun b => l.mapM f >>= fun bs => .ok (b :: bs)) := List.mapM_cons

theorem R.mapM_cons_eq_ok {f : α → R β} {a : α} {l : List α} {bs : List β} :
    (a :: l).mapM f = .ok bs ↔ ∃ b bs', f a = .ok b ∧ l.mapM f = .ok bs' ∧ bs = b :: bs' := by
  rw [R.mapM_cons, R.bind_eq_ok]
  constructor
  · rintro ⟨b, hb, h⟩
    obtain ⟨bs', hbs', h⟩ := R.bind_eq_ok.mp h
    cases h
    exact ⟨b, bs', hb, hbs', rfl⟩
  · rintro ⟨b, bs', hb, hbs', rfl⟩
    exact ⟨b, hb, R.bind_eq_ok.mpr ⟨bs', hbs', rfl⟩⟩

/-- a list of results that `mapM id` delivers consists of delivered entries -/
theorem R.mapM_id_eq_ok : ∀ {L : List (R α)} {es : List α}, L.mapM id = .ok es → L = es.map .ok
  | [], _, h => by cases h; rfl
  | _ :: _, _, h => by
    obtain ⟨b, bs, rfl, h', rfl⟩ := R.mapM_cons_eq_ok.mp h
    rw [R.mapM_id_eq_ok h']; rfl

/-- every call succeeds with the value of a pure function: the form met at every tie of a generated loop -/
theorem R.mapM_ok (f : α → R β) (g : α → β) : ∀ (l : List α), (∀ a ∈ l, f a = .ok (g a)) → l.mapM f = .ok (l.map g)
  | [], _ => rfl
  | a :: l, h => R.mapM_cons_eq_ok.mpr ⟨g a, l.map g, h a List.mem_cons_self,
      R.mapM_ok f g l fun x hx => h x (List.mem_cons_of_mem _ hx), rfl⟩

theorem R.mapM_total {f : α → R β} : ∀ {l : List α}, (∀ a ∈ l, ∃ b, f a = .ok b) → ∃ bs, l.mapM f = .ok bs
  | [], _ => ⟨[], rfl⟩
  | a :: _, h =>
    let ⟨b, hb⟩ := h a List.mem_cons_self
    let ⟨bs, hbs⟩ := R.mapM_total fun x hx => h x (List.mem_cons_of_mem _ hx)
    ⟨b :: bs, R.mapM_cons_eq_ok.mpr ⟨b, bs, hb, hbs, rfl⟩⟩

theorem R.mapM_length {f : α → R β} : ∀ {l : List α} {bs : List β}, l.mapM f = .ok bs → bs.length = l.length
  | [], _, h => by cases h; rfl
  | _ :: _, _, h => by
    obtain ⟨b, bs', _, h', rfl⟩ := R.mapM_cons_eq_ok.mp h
    exact congrArg (· + 1) (R.mapM_length h')

theorem R.mapM_getD {f : α → R β} : ∀ {l : List α} {bs : List β}, l.mapM f = .ok bs → ∀ (da : α) (db : β) {i : Nat},
    i < l.length → f (l.getD i da) = .ok (bs.getD i db)
  | _ :: _, _, h, da, db, i, hi => by
    obtain ⟨b, bs', hb, h', rfl⟩ := R.mapM_cons_eq_ok.mp h
    cases i with
    | zero => exact hb
    | succ i => exact R.mapM_getD h' da db (Nat.lt_of_succ_lt_succ hi)

/-- a successful `mapM` is known by its length and its places -/
theorem R.mapM_eq_ok_iff (f : α → R β) (da : α) (db : β) : ∀ (l : List α) (bs : List β),
    l.mapM f = .ok bs ↔ bs.length = l.length ∧ ∀ i, i < l.length → f (l.getD i da) = .ok (bs.getD i db)
  | l, bs => by
    refine ⟨fun h => ⟨R.mapM_length h, fun i hi => R.mapM_getD h da db hi⟩, fun ⟨h1, h2⟩ => ?_⟩
    match l, bs, h1, h2 with
    | [], [], _, _ => rfl
    | a :: l, b :: bs, h1, h2 =>
      exact R.mapM_cons_eq_ok.mpr ⟨b, bs, h2 0 (Nat.succ_pos _),
        (R.mapM_eq_ok_iff f da db l bs).mpr ⟨Nat.succ.inj h1, fun i hi => h2 (i + 1) (Nat.succ_lt_succ hi)⟩, rfl⟩

theorem R.mapM_mem {f : α → R β} : ∀ {l : List α} {bs : List β}, l.mapM f = .ok bs → ∀ b ∈ bs, ∃ a ∈ l, f a = .ok b
  | [], _, h, b, hb => by cases h; cases hb
  | a :: l, _, h, b, hb => by
    obtain ⟨b0, bs', hb0, h', rfl⟩ := R.mapM_cons_eq_ok.mp h
    rcases List.mem_cons.mp hb with rfl | hb
    · exact ⟨a, List.mem_cons_self, hb0⟩
    · obtain ⟨x, hx, hfx⟩ := R.mapM_mem h' b hb
      exact ⟨x, List.mem_cons_of_mem _ hx, hfx⟩

theorem R.mapM_spec (f : α → R β) (P : α → β → Prop) (l : List α) (h : ∀ a ∈ l, ∃ b, f a = .ok b ∧ P a b) :
    ∃ bs, l.mapM f = .ok bs ∧ bs.length = l.length ∧
      ∀ (da : α) (db : β) (i : Nat), i < l.length → P (l.getD i da) (bs.getD i db) := by
  obtain ⟨bs, hbs⟩ := R.mapM_total fun a ha => (h a ha).imp fun _ hb => hb.1
  refine ⟨bs, hbs, R.mapM_length hbs, fun da db i hi => ?_⟩
  have hm : l.getD i da ∈ l := by
    rw [List.getD_eq_getElem?_getD, List.getElem?_eq_getElem hi]; exact List.getElem_mem hi
  obtain ⟨b, hb, hP⟩ := h _ hm
  rw [R.mapM_getD hbs da db hi] at hb
  cases hb; exact hP

theorem R.mapM_range_spec (F : Nat → R β) (P : Nat → β → Prop) (n : Nat) (h : ∀ i, i < n → ∃ b, F i = .ok b ∧ P i b) :
    ∃ bs, (List.range n).mapM F = .ok bs ∧ bs.length = n ∧ ∀ (d : β) (i : Nat), i < n → P i (bs.getD i d) := by
  obtain ⟨bs, h1, h2, h3⟩ := R.mapM_spec F P (List.range n) fun i hi => h i (List.mem_range.mp hi)
  rw [List.length_range] at h2 h3
  refine ⟨bs, h1, h2, fun d i hi => ?_⟩
  have := h3 0 d i hi
  rwa [List.getD_eq_getElem?_getD, List.getElem?_range hi] at this

theorem R.mapM_congr {f g : α → R β} : ∀ {l : List α}, (∀ a ∈ l, f a = g a) → l.mapM f = l.mapM g
  | [], _ => rfl
  | a :: l, h => by
    rw [R.mapM_cons, R.mapM_cons, h a List.mem_cons_self, R.mapM_congr fun x hx => h x (List.mem_cons_of_mem _ hx)]

/-- core's `List.mapM_map` with the composition written out, as the rewrites downstream need it -/
theorem R.mapM_map (g : α → β) (f : β → R γ) (l : List α) : (l.map g).mapM f = l.mapM (fun x => f (g x)) := List.mapM_map

theorem R.mapM_append {f : α → R β} {as r : List α} {bs bs' : List β} (h : as.mapM f = .ok bs) (h' : (as ++ r).mapM f = .ok bs') :
    ∃ rs, r.mapM f = .ok rs ∧ bs' = bs ++ rs := by
  rw [List.mapM_append, h] at h'
  obtain ⟨rs, hrs, h'⟩ := R.bind_eq_ok.mp (show (r.mapM f >>= fun b => pure (bs ++ b)) = .ok bs' from h')
  exact ⟨rs, hrs, (Except.ok.inj h').symm⟩

theorem R.foldlM_push (F : α → R β) : ∀ (l : List α) (acc : Array β),
    l.foldlM (fun acc x => do let y ← F x; pure (acc.push y)) acc = (l.mapM F >>= fun ys => .ok (acc ++ ys.toArray))
  | [], acc => by rw [List.foldlM_nil, R.mapM_nil, R.ok_bind]; simp [pure, Except.pure]
  | a :: l, acc => by
    rw [List.foldlM_cons, R.mapM_cons, bind_assoc, bind_assoc]
    refine R.bind_congr _ fun y _ => ?_
    rw [R.pure_eq, R.ok_bind, R.foldlM_push F l, bind_assoc]
    refine R.bind_congr _ fun ys _ => ?_
    rw [R.ok_bind]; simp

theorem R.foldlM_push_ok (F : α → R β) (G : α → β) (l : List α) (h : ∀ x ∈ l, F x = .ok (G x)) (acc : Array β) :
    l.foldlM (fun acc x => do let y ← F x; pure (acc.push y)) acc = .ok (acc ++ (l.map G).toArray) := by
  rw [R.foldlM_push, R.mapM_ok F G l h]; rfl

/-- the same for any step function that is known to push `G x` -/
theorem R.foldlM_push_step {step : Array β → α → R (Array β)} (G : α → β) : ∀ (l : List α) (acc : Array β),
    (∀ acc, ∀ x ∈ l, step acc x = .ok (acc.push (G x))) → l.foldlM step acc = .ok (acc ++ (l.map G).toArray)
  | [], acc, _ => by rw [List.foldlM_nil, List.map_nil]; simp [pure, Except.pure]
  | a :: l, acc, h => by
    rw [List.foldlM_cons, h acc a List.mem_cons_self, R.ok_bind,
      R.foldlM_push_step G l (acc.push (G a)) fun acc x hx => h acc x (List.mem_cons_of_mem _ hx)]
    simp

theorem R.foldlM_congr {f g : σ → α → R σ} : ∀ {l : List α} (s : σ), (∀ x ∈ l, ∀ s, f s x = g s x) → l.foldlM f s = l.foldlM g s
  | [], _, _ => rfl
  | a :: l, s, h => by
    rw [List.foldlM_cons, List.foldlM_cons, h a List.mem_cons_self]
    exact R.bind_congr _ fun s' _ => R.foldlM_congr s' fun x hx => h x (List.mem_cons_of_mem _ hx)

theorem R.foldlM_ok_inv {f : σ → α → R σ} (g : σ → α → σ) (I : σ → Prop) : ∀ {l : List α} (s : σ), I s →
    (∀ x ∈ l, ∀ s, I s → f s x = .ok (g s x) ∧ I (g s x)) → l.foldlM f s = .ok (l.foldl g s) ∧ I (l.foldl g s)
  | [], _, h0, _ => ⟨rfl, h0⟩
  | a :: l, s, h0, h => by
    rw [List.foldlM_cons, (h a List.mem_cons_self s h0).1, R.ok_bind, List.foldl_cons]
    exact R.foldlM_ok_inv g I _ (h a List.mem_cons_self s h0).2 fun x hx => h x (List.mem_cons_of_mem _ hx)

theorem R.foldlM_ok {f : σ → α → R σ} (g : σ → α → σ) {l : List α} (s : σ) (h : ∀ x ∈ l, ∀ s, f s x = .ok (g s x)) :
    l.foldlM f s = .ok (l.foldl g s) :=
  (R.foldlM_ok_inv g (fun _ => True) s trivial fun x hx s _ => ⟨h x hx s, trivial⟩).1

theorem foldl_congr {f g : σ → α → σ} : ∀ {l : List α} (s : σ), (∀ x ∈ l, ∀ s, f s x = g s x) → l.foldl f s = l.foldl g s
  | [], _, _ => rfl
  | a :: l, s, h => by
    rw [List.foldl_cons, List.foldl_cons, h a List.mem_cons_self]
    exact foldl_congr _ fun x hx => h x (List.mem_cons_of_mem _ hx)

theorem foldl_inv (P : σ → Prop) {f : σ → α → σ} : ∀ {l : List α} {s : σ}, P s → (∀ s, ∀ x ∈ l, P s → P (f s x)) → P (l.foldl f s)
  | [], _, h0, _ => h0
  | a :: l, s, h0, h => foldl_inv P (l := l) (s := f s a) (h s a List.mem_cons_self h0) fun s x hx => h s x (List.mem_cons_of_mem _ hx)

theorem foldl_range_succ_iter (F : α → α) (x : α) (n : Nat) :
    (List.range (n+1)).foldl (fun a _ => F a) x = (List.range n).foldl (fun a _ => F a) (F x) := by
  rw [List.range_succ_eq_map, List.foldl_cons, List.foldl_map]

/-- a fold over lists and the same fold over arrays, step by step the same -/
theorem R.foldlM_toArray {ι : Type} (FL : List α → ι → R (List α)) (FA : Array α → ι → R (Array α))
    (hF : ∀ res i, FA res.toArray i = (FL res i >>= fun r => pure r.toArray)) :
    ∀ (l : List ι) (res : List α), l.foldlM FL res = (l.foldlM FA res.toArray >>= fun r => pure r.toList)
  | [], _ => rfl
  | i :: tl, res => by
    rw [List.foldlM_cons, List.foldlM_cons, hF]
    cases h : FL res i with
    | error e => rfl
    | ok r => simp only [R.ok_bind, R.pure_eq]; exact R.foldlM_toArray FL FA hF tl r

end MapM

/-! ### `getD` on lists, extensionality by `getD` -/
section ListGetD
variable {α β : Type}

theorem list_getD_eq_getElem (l : List α) (d : α) {i : Nat} (h : i < l.length) : l.getD i d = l[i] := by
  rw [List.getD_eq_getElem?_getD, List.getElem?_eq_getElem h]; rfl

theorem list_getD_of_ge (l : List α) (d : α) {i : Nat} (h : l.length ≤ i) : l.getD i d = d := by
  rw [List.getD_eq_getElem?_getD, List.getElem?_eq_none h]; rfl

theorem list_getD_mem {l : List α} (d : α) {i : Nat} (h : i < l.length) : l.getD i d ∈ l := by
  rw [list_getD_eq_getElem l d h]; exact List.getElem_mem h

theorem list_getD_map (f : α → β) (l : List α) (d : α) (e : β) {i : Nat} (h : i < l.length) :
    (l.map f).getD i e = f (l.getD i d) := by
  rw [list_getD_eq_getElem _ _ (by rw [List.length_map]; exact h), list_getD_eq_getElem _ _ h, List.getElem_map]

theorem list_getD_set (l : List α) (i j : Nat) (v d : α) :
    (l.set i v).getD j d = if i = j ∧ i < l.length then v else l.getD j d := by
  simp only [List.getD_eq_getElem?_getD, List.getElem?_set]
  by_cases h : i = j
  · subst h; by_cases h2 : i < l.length
    · simp [h2]
    · simp [h2]
  · simp [h]

theorem list_getD_set_self (l : List α) (v d : α) {i : Nat} (h : i < l.length) : (l.set i v).getD i d = v := by
  rw [list_getD_set, if_pos ⟨rfl, h⟩]

theorem list_getD_set_ne (l : List α) (v d : α) {i j : Nat} (h : i ≠ j) : (l.set i v).getD j d = l.getD j d := by
  rw [list_getD_set, if_neg fun h' => h h'.1]

theorem list_getD_append_left (l1 l2 : List α) (d : α) {i : Nat} (h : i < l1.length) : (l1 ++ l2).getD i d = l1.getD i d := by
  simp only [List.getD_eq_getElem?_getD, List.getElem?_append_left h]

theorem list_getD_append_right (l1 l2 : List α) (d : α) {i : Nat} (h : l1.length ≤ i) :
    (l1 ++ l2).getD i d = l2.getD (i - l1.length) d := by
  simp only [List.getD_eq_getElem?_getD, List.getElem?_append_right h]

theorem list_getD_range_map (F : Nat → α) (d : α) {n i : Nat} (h : i < n) : ((List.range n).map F).getD i d = F i := by
  rw [list_getD_map F _ 0 d (by rw [List.length_range]; exact h), list_getD_eq_getElem _ _ (by rw [List.length_range]; exact h),
    List.getElem_range]

theorem list_getD_range'_map (F : Nat → α) (d : α) (a : Nat) {n k : Nat} (h : k < n) : ((List.range' a n).map F).getD k d = F (a + k) := by
  rw [list_getD_map F _ 0 d (by rw [List.length_range']; exact h), list_getD_eq_getElem _ _ (by rw [List.length_range']; exact h),
    List.getElem_range', Nat.one_mul]

theorem list_getD_take (l : List α) (d : α) {i n : Nat} (h : i < n) : (l.take n).getD i d = l.getD i d := by
  simp only [List.getD_eq_getElem?_getD, List.getElem?_take_of_lt h]

theorem list_eq_of_getD (d : α) {l1 l2 : List α} (hl : l1.length = l2.length)
    (h : ∀ i, i < l1.length → l1.getD i d = l2.getD i d) : l1 = l2 :=
  List.ext_getElem hl fun i h1 h2 => by
    rw [← list_getD_eq_getElem l1 d h1, ← list_getD_eq_getElem l2 d h2]; exact h i h1

theorem list_map_getD_range (l : List α) (d : α) : (List.range l.length).map (fun i => l.getD i d) = l :=
  list_eq_of_getD d (by simp) fun i hi => by
    rw [List.length_map, List.length_range] at hi
    rw [list_getD_range_map _ _ hi]

theorem list_getD_lt_of_forall {l : List Nat} {B : Nat} (h : ∀ x ∈ l, x < B) (hB : 0 < B) (i : Nat) : l.getD i 0 < B := by
  by_cases hi : i < l.length
  · exact h _ (list_getD_mem 0 hi)
  · rw [list_getD_of_ge l 0 (Nat.le_of_not_lt hi)]; exact hB

theorem list_lt_of_getElem? {l : List α} {i : Nat} {a : α} (h : l[i]? = some a) : i < l.length :=
  (List.getElem?_eq_some_iff.mp h).1

theorem list_take_set_succ (l : List α) (v : α) {i : Nat} (h : i < l.length) : (l.set i v).take (i + 1) = l.take i ++ [v] := by
  rw [List.take_succ_eq_append_getElem (by rw [List.length_set]; exact h), List.take_set_of_le (Nat.le_refl i), List.getElem_set_self]

end ListGetD

/-! ### lists cut at a position (`take`, `drop`, `set`, the middle of an append) -/
section ListCut
variable {α : Type}

theorem list_headD_drop (l : List α) (d : α) {i : Nat} (h : i < l.length) : (l.drop i).headD d = l[i] := by
  rw [List.drop_eq_getElem_cons h]; rfl

theorem list_headD_drop_of_ge (l : List α) (d : α) {i : Nat} (h : l.length ≤ i) : (l.drop i).headD d = d := by
  rw [List.drop_eq_nil_of_le h]; rfl

theorem list_drop_set_succ {r a : List α} {i : Nat} (v : α) (h : r.drop i = a.drop i) : (r.set i v).drop (i+1) = a.drop (i+1) := by
  rw [List.drop_set_of_lt (Nat.lt_add_one i), ← List.drop_drop, ← List.drop_drop, h]

theorem list_getElem?_mid {pre : List α} {j : Nat} (h : pre.length = j) (x : α) (post : List α) : (pre ++ x :: post)[j]? = some x := by
  subst h; rw [List.getElem?_append_right (Nat.le_refl _), Nat.sub_self, List.getElem?_cons_zero]

theorem list_set_mid {pre : List α} {j : Nat} (h : pre.length = j) (x v : α) (post : List α) :
    (pre ++ x :: post).set j v = pre ++ v :: post := by
  subst h; rw [List.set_append_right _ _ (Nat.le_refl _), Nat.sub_self, List.set_cons_zero]

theorem list_length_snoc {pre : List α} {j : Nat} (h : pre.length = j) (v : α) : (pre ++ [v]).length = j + 1 := by
  rw [List.length_append, h]; rfl

theorem list_eq_of_getElem? {l1 l2 : List α} (h1 : l1.length = l2.length) (h : ∀ p, p < l1.length → l1[p]? = l2[p]?) : l1 = l2 := by
  apply List.ext_getElem?
  intro p
  by_cases hp : p < l1.length
  · exact h p hp
  · rw [List.getElem?_eq_none (Nat.le_of_not_lt hp), List.getElem?_eq_none (h1 ▸ Nat.le_of_not_lt hp)]

theorem list_forall_of_getElem? {l : List α} {F : Nat → α} {P : α → Prop} (hl : ∀ i, i < l.length → l[i]? = some (F i))
    (h : ∀ i, i < l.length → P (F i)) : ∀ x ∈ l, P x := by
  intro x hx
  obtain ⟨i, hi, rfl⟩ := List.mem_iff_getElem.mp hx
  have e := hl i hi
  rw [List.getElem?_eq_getElem hi] at e
  rw [Option.some.inj e]; exact h i hi

end ListCut

/-! ### `getD` on arrays, bounds on all elements, extensionality -/
section ArrayGetD
variable {α β : Type}

theorem array_getD_toList (a : Array α) (i : Nat) (d : α) : a.toList.getD i d = a.getD i d := by
  rw [List.getD_eq_getElem?_getD, Array.getD_eq_getD_getElem?, Array.getElem?_toList]

theorem list_getD_toArray (l : List α) (i : Nat) (d : α) : l.toArray.getD i d = l.getD i d :=
  (array_getD_toList l.toArray i d).symm

theorem array_getD_of_ge (a : Array α) (d : α) {i : Nat} (h : a.size ≤ i) : a.getD i d = d := by
  rw [← array_getD_toList]; exact list_getD_of_ge _ _ h

theorem array_getD_map (f : α → β) (a : Array α) (d : α) (e : β) {i : Nat} (h : i < a.size) :
    (a.map f).getD i e = f (a.getD i d) := by
  rw [← array_getD_toList, ← array_getD_toList, Array.toList_map]; exact list_getD_map f _ d e h

theorem array_getD_set (a : Array α) (i j : Nat) (v d : α) :
    (a.setIfInBounds i v).getD j d = if i = j ∧ i < a.size then v else a.getD j d := by
  rw [← array_getD_toList, ← array_getD_toList, Array.toList_setIfInBounds]; exact list_getD_set _ _ _ _ _

theorem array_getD_set_self (a : Array α) (v d : α) {i : Nat} (h : i < a.size) : (a.setIfInBounds i v).getD i d = v := by
  rw [array_getD_set, if_pos ⟨rfl, h⟩]

theorem array_getD_set_ne (a : Array α) (v d : α) {i j : Nat} (h : i ≠ j) : (a.setIfInBounds i v).getD j d = a.getD j d := by
  rw [array_getD_set, if_neg fun h' => h h'.1]

theorem array_getD_append_left (a b : Array α) (d : α) {i : Nat} (h : i < a.size) : (a ++ b).getD i d = a.getD i d := by
  simp only [Array.getD_eq_getD_getElem?, Array.getElem?_append_left h]

theorem array_getD_append_right (a b : Array α) (d : α) (i : Nat) : (a ++ b).getD (a.size + i) d = b.getD i d := by
  simp only [Array.getD_eq_getD_getElem?, Array.getElem?_append_right (Nat.le_add_right _ _), Nat.add_sub_cancel_left]

theorem array_getD_ofFn {n : Nat} (f : Fin n → α) (d : α) {i : Nat} (h : i < n) : (Array.ofFn f).getD i d = f ⟨i, h⟩ := by
  simp only [Array.getD_eq_getD_getElem?, Array.getElem?_ofFn, dif_pos h]; rfl

theorem array_getD_replicate (n : Nat) (v : α) (i : Nat) : (Array.replicate n v).getD i v = v := by
  simp only [Array.getD_eq_getD_getElem?, Array.getElem?_replicate]; split <;> rfl

theorem array_size_extract (a : Array α) {m : Nat} (hm : m ≤ a.size) : (a.extract 0 m).size = m := by
  rw [Array.size_extract, Nat.min_eq_left hm, Nat.sub_zero]

theorem array_getD_extract (a : Array α) (d : α) {m i : Nat} (hm : m ≤ a.size) (hi : i < m) : (a.extract 0 m).getD i d = a.getD i d := by
  simp only [Array.getD_eq_getD_getElem?, Array.getElem?_extract, Nat.min_eq_left hm, Nat.sub_zero, if_pos hi, Nat.zero_add]

theorem array_getD_range_map (F : Nat → α) (d : α) {n i : Nat} (h : i < n) : ((List.range n).map F).toArray.getD i d = F i := by
  rw [list_getD_toArray]; exact list_getD_range_map F d h

theorem array_eq_of_getD (d : α) {a b : Array α} (hs : a.size = b.size) (h : ∀ i, i < a.size → a.getD i d = b.getD i d) : a = b :=
  Array.ext' (list_eq_of_getD d hs fun i hi => by rw [array_getD_toList, array_getD_toList]; exact h i hi)

/-- the same with both sizes given as `= n`, the shape in which two results of one routine meet -/
theorem array_ext_getD {a b : Array Nat} {n : Nat} (ha : a.size = n) (hb : b.size = n)
    (h : ∀ i, i < n → a.getD i 0 = b.getD i 0) : a = b :=
  array_eq_of_getD 0 (ha.trans hb.symm) (fun i hi => h i (ha ▸ hi))

theorem array_toList_range (a : Array α) (d : α) : a.toList = (List.range a.size).map (fun i => a.getD i d) := by
  conv => lhs; rw [← list_map_getD_range a.toList d]
  simp only [array_getD_toList, Array.length_toList]

theorem array_getD_lt_of_forall {a : Array Nat} {B : Nat} (h : ∀ i, i < a.size → a.getD i 0 < B) (hB : 0 < B) (i : Nat) :
    a.getD i 0 < B := by
  by_cases hi : i < a.size
  · exact h i hi
  · rw [array_getD_of_ge a 0 (Nat.le_of_not_lt hi)]; exact hB

theorem array_mem_getD (a : Array α) (d : α) {x : α} (hx : x ∈ a) : ∃ i, i < a.size ∧ x = a.getD i d := by
  obtain ⟨i, hi, rfl⟩ := Array.mem_iff_getElem.mp hx
  exact ⟨i, hi, by rw [Array.getD_eq_getD_getElem?, Array.getElem?_eq_getElem hi]; rfl⟩

/-- a bound on every element, read by membership or by place -/
theorem getD_lt_of_forall {a : Array Nat} {B : Nat} (h : ∀ x ∈ a, x < B) (hB : 0 < B) (k : Nat) :
    a.getD k 0 < B := by
  unfold Array.getD
  split
  · exact h _ (Array.getElem_mem _)
  · exact hB

theorem mem_lt_of_getD {a : Array Nat} {B : Nat} (h : ∀ j, j < a.size → a.getD j 0 < B) : ∀ x ∈ a, x < B := by
  intro x hx
  obtain ⟨j, hj, rfl⟩ := array_mem_getD a 0 hx
  exact h j hj

theorem array_eq_pair (a : Array α) (d : α) (h : a.size = 2) : a = #[a.getD 0 d, a.getD 1 d] :=
  array_eq_of_getD d h fun i hi => by
    have : i = 0 ∨ i = 1 := by omega
    rcases this with rfl | rfl <;> rfl

end ArrayGetD

/-! ### `mapM` re-indexed (needs the `getD` lemmas above) -/
section MapM2
variable {α β γ : Type}

theorem R.mapM_range_getD (F : α → R β) (d : α) (l : List α) : (List.range l.length).mapM (fun k => F (l.getD k d)) = l.mapM F := by
  have h := List.mapM_map (m := R) (f := fun k => l.getD k d) (g := F) (l := List.range l.length)
  rw [list_map_getD_range] at h
  exact h.symm

theorem R.mapM_map_after (f : α → R β) (g : β → γ) : ∀ (l : List α),
    l.mapM (fun a => f a >>= fun b => .ok (g b)) = (l.mapM f >>= fun bs => .ok (bs.map g))
  | [] => rfl
  | a :: l => by
    rw [R.mapM_cons, R.mapM_cons, R.mapM_map_after f g l]
    simp only [bind_assoc, R.ok_bind, List.map_cons]

end MapM2

/-! ### writing through an index map -/
section Scatter
variable {α ι : Type} (π : ι → Nat) (f : ι → α)

/-- the array after `res[π i] := f i` for the `i` of `xs` in turn -/
abbrev scatterTo (xs : List ι) (init : Array α) : Array α := xs.foldl (fun res i => res.setIfInBounds (π i) (f i)) init

theorem scatterTo_size : ∀ (xs : List ι) (init : Array α), (scatterTo π f xs init).size = init.size
  | [], _ => rfl
  | i :: xs, init => by rw [scatterTo, List.foldl_cons]; exact (scatterTo_size xs _).trans Array.size_setIfInBounds

theorem scatterTo_getD (d : α) (e : Nat) : ∀ (xs : List ι) (init : Array α),
    (scatterTo π f xs init).getD e d = init.getD e d ∨ ∃ i ∈ xs, π i = e ∧ (scatterTo π f xs init).getD e d = f i
  | [], _ => Or.inl rfl
  | i :: xs, init => by
    rw [scatterTo, List.foldl_cons]
    rcases scatterTo_getD d e xs (init.setIfInBounds (π i) (f i)) with h | ⟨j, hj, h1, h2⟩
    · by_cases hh : π i = e ∧ π i < init.size
      · exact Or.inr ⟨i, List.mem_cons_self, hh.1, by rw [h, array_getD_set, if_pos hh]⟩
      · exact Or.inl (by rw [h, array_getD_set, if_neg hh])
    · exact Or.inr ⟨j, List.mem_cons_of_mem _ hj, h1, h2⟩

/-- where two iterations that hit the same cell write the same value, every written value survives -/
theorem scatterTo_written (d : α) : ∀ (xs : List ι) (init : Array α), (∀ i ∈ xs, π i < init.size) →
    (∀ i ∈ xs, ∀ j ∈ xs, π i = π j → f i = f j) → ∀ i ∈ xs, (scatterTo π f xs init).getD (π i) d = f i
  | i0 :: xs, init, hb, hc, i, hi => by
    rw [scatterTo, List.foldl_cons]
    have hb' : ∀ j ∈ xs, π j < (init.setIfInBounds (π i0) (f i0)).size := fun j hj => by
      rw [Array.size_setIfInBounds]; exact hb j (List.mem_cons_of_mem _ hj)
    have hc' : ∀ a ∈ xs, ∀ b ∈ xs, π a = π b → f a = f b := fun a ha b hb =>
      hc a (List.mem_cons_of_mem _ ha) b (List.mem_cons_of_mem _ hb)
    by_cases hmem : ∃ j ∈ xs, π j = π i
    · obtain ⟨j, hj, hji⟩ := hmem
      rw [← hji, scatterTo_written d xs _ hb' hc' j hj]
      exact hc j (List.mem_cons_of_mem _ hj) i hi hji
    · rcases scatterTo_getD π f d (π i) xs (init.setIfInBounds (π i0) (f i0)) with h | ⟨j, hj, h1, _⟩
      · rcases List.mem_cons.mp hi with rfl | hi'
        · rw [h, array_getD_set, if_pos ⟨rfl, hb i List.mem_cons_self⟩]
        · exact absurd ⟨i, hi', rfl⟩ hmem
      · exact absurd ⟨j, hj, h1⟩ hmem
end Scatter


/-! ### sums of lists of numbers -/

theorem list_sum_const {α : Type} (f : α → Nat) (s : Nat) : ∀ (l : List α), (∀ x ∈ l, f x = s) → (l.map f).sum = l.length * s
  | [], _ => (Nat.zero_mul s).symm
  | x :: xs, h => by
    rw [List.map_cons, List.sum_cons, h x List.mem_cons_self, list_sum_const f s xs fun y hy => h y (List.mem_cons_of_mem _ hy),
      List.length_cons, Nat.succ_mul, Nat.add_comm]

theorem list_sum_map_mul {α : Type} (a : Nat) (f : α → Nat) : ∀ (l : List α), (l.map (fun x => a * f x)).sum = a * (l.map f).sum
  | [] => rfl
  | x :: xs => by rw [List.map_cons, List.sum_cons, list_sum_map_mul a f xs, List.map_cons, List.sum_cons, Nat.mul_add]

/-! ### the checked operations when they succeed -/

theorem ckAdd_ok {a b : Nat} (h : a + b < B64) : ckAdd a b = .ok (a + b) := if_pos h
theorem ckMul_ok {a b : Nat} (h : a * b < B64) : ckMul a b = .ok (a * b) := if_pos h
theorem ckSub_of_le {a b : Nat} (h : b ≤ a) : ckSub a b = .ok (a - b) := if_pos h
/-- the bound written as a power, which `omega` can use (`B64` is opaque to it) -/
theorem ckAdd_ok_pow {a b : Nat} (h : a + b < 2^64) : ckAdd a b = .ok (a + b) := if_pos h
theorem ckMul_ok_pow {a b : Nat} (h : a * b < 2^64) : ckMul a b = .ok (a * b) := if_pos h
theorem ckSub_eq_ok {a b v : Nat} (h : ckSub a b = .ok v) : b ≤ a ∧ v = a - b := by
  unfold ckSub at h; split at h
  · exact ⟨‹_›, by cases h; rfl⟩
  · cases h
theorem B64_eq : B64 = 2^64 := by decide
theorem B64_pos : 0 < B64 := by decide

/-! ### `bitCount`: 0 for 0, else the position of the leading bit plus one -/

theorem bitCount_zero : bitCount 0 = 0 := rfl

theorem bitCount_pos {v : Nat} (h : v ≠ 0) : bitCount v = Nat.log2 v + 1 := if_neg h

theorem bitCount_eq_zero {v : Nat} : bitCount v = 0 ↔ v = 0 :=
  ⟨fun h => Decidable.byContradiction fun hv => by rw [bitCount_pos hv] at h; exact Nat.succ_ne_zero _ h, fun h => h ▸ bitCount_zero⟩

theorem bitCount_lt (v : Nat) : v < 2^(bitCount v) := by
  by_cases hv : v = 0
  · rw [hv, bitCount_zero]; exact Nat.one_pos
  · rw [bitCount_pos hv]; exact Nat.lt_log2_self

theorem bitCount_ge {v : Nat} (hv : v ≠ 0) : 2^(bitCount v - 1) ≤ v := by
  rw [bitCount_pos hv, Nat.add_sub_cancel]; exact Nat.log2_self_le hv

theorem bitCount_le_iff_lt {v k : Nat} : bitCount v ≤ k ↔ v < 2^k := by
  by_cases hv : v = 0
  · rw [hv, bitCount_zero]; exact ⟨fun _ => Nat.two_pow_pos k, fun _ => Nat.zero_le k⟩
  · rw [bitCount_pos hv, Nat.succ_le_iff, Nat.log2_lt hv]

theorem bitCount_le_of_le {a b : Nat} (h : a ≤ b) : bitCount a ≤ bitCount b :=
  bitCount_le_iff_lt.mpr (Nat.lt_of_le_of_lt h (bitCount_lt b))

/-! ### words: `asI64`, shifts, masks -/

theorem asI64_small {v : Nat} (h : v < 2^63) : asI64 v = (v : Int) := by
  unfold asI64; rw [if_pos h]; rfl

theorem shiftRight_64 (x : Nat) : x >>> 64 = x / B64 := by
  rw [Nat.shiftRight_eq_div_pow]; rfl

theorem two_pow_lt_64 {k : Nat} (hk : k < 64) : 2^k < 2^64 := Nat.pow_lt_pow_right (by decide) hk

theorem shl_one_mod {g : Nat} (h : 2 * g < 2^64) : (g <<< 1) % B64 = 2 * g := by
  rw [Nat.shiftLeft_eq, Nat.pow_one, Nat.mul_comm]; exact Nat.mod_eq_of_lt h

theorem one_shl_mod {l : Nat} (hl : l < 64) : ((1 <<< l) % 2^64) = 2^l := by
  rw [Nat.shiftLeft_eq, Nat.one_mul, Nat.mod_eq_of_lt (two_pow_lt_64 hl)]

theorem and_two_pow (s i : Nat) : s &&& 2^i = if s / 2^i % 2 = 1 then 2^i else 0 := by
  apply Nat.eq_of_testBit_eq
  intro j
  rw [Nat.testBit_and, Nat.testBit_two_pow]
  by_cases h : s / 2^i % 2 = 1
  · rw [if_pos h, Nat.testBit_two_pow]
    by_cases hj : i = j
    · subst hj; simp [Nat.testBit_eq_decide_div_mod_eq, h]
    · simp [hj]
  · rw [if_neg h, Nat.zero_testBit]
    by_cases hj : i = j
    · subst hj; simp [Nat.testBit_eq_decide_div_mod_eq, h]
    · simp [hj]

/-! ### cells of a grid stored row by row: `a * B + b` with `b < B` -/

theorem grid_succ_le {a A B : Nat} (ha : a < A) : a * B + B ≤ A * B :=
  (Nat.succ_mul a B).symm ▸ Nat.mul_le_mul_right B ha

/-- cell `(a, b)` of an `A × B` grid stored row by row -/
theorem grid_lt {a A b B : Nat} (ha : a < A) (hb : b < B) : a * B + b < A * B :=
  Nat.lt_of_lt_of_le (Nat.add_lt_add_left hb _) (grid_succ_le ha)

theorem grid_mod (a : Nat) {b B : Nat} (hb : b < B) : (a * B + b) % B = b := by
  rw [Nat.add_comm, Nat.add_mul_mod_self_right, Nat.mod_eq_of_lt hb]

theorem grid_div (a : Nat) {b B : Nat} (hb : b < B) : (a * B + b) / B = a := by
  rw [Nat.add_comm, Nat.add_mul_div_right _ _ (Nat.lt_of_le_of_lt (Nat.zero_le b) hb), Nat.div_eq_of_lt hb, Nat.zero_add]

theorem grid_inj {B a a' b b' : Nat} (hb : b < B) (hb' : b' < B) (h : a * B + b = a' * B + b') : a = a' ∧ b = b' :=
  ⟨by rw [← grid_div a hb, h, grid_div a' hb'], by rw [← grid_mod a hb, h, grid_mod a' hb']⟩

end HC
