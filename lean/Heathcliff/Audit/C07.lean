/- Audit of property C07: `#print axioms` for every property theorem of Props/C07.lean; `audit()` of tools/runner.py elaborates this file
   and compares each axiom list with the three standard axioms. -/
import Heathcliff.Props.C07
#print axioms HC.C07.bitCount_le_iff
#print axioms HC.C07.bitCount_mono
#print axioms HC.C07.budget_eq
#print axioms HC.C07.centred_neg
#print axioms HC.C07.budget_negate
#print axioms HC.C07.centred_add_le
#print axioms HC.C07.budget_add_k
#print axioms HC.C07.exact_below_threshold
#print axioms HC.C07.noiseBudget_size2_eq_spec
#print axioms HC.C07.noiseBudget_size2_eq_spec_of_new
#print axioms HC.C07.noiseBudget_gen_eq_spec
#print axioms HC.C07.noiseBudget_eq_spec
#print axioms HC.C07.noiseBudget_refuses_ntt
#print axioms HC.C07.noiseBudget_refuses_ckks
#print axioms HC.C07.noiseBudget_refuses_small
#print axioms HC.C07.budget_pos_noise_lt
#print axioms HC.C07.budget_pos_bfv_round
#print axioms HC.C07.budget_pos_bfvDecode
#print axioms HC.C07.noiseBudget_pos_bfvDecode
#print axioms HC.C07.gen_multiply_add_plain_spec
#print axioms HC.C07.gen_multiply_add_plain_eq
#print axioms HC.C07.fresh_budget_bfv
#print axioms HC.C07.fresh_budget_bgv
#print axioms HC.C07.fresh_budget_bfv_pk
#print axioms HC.C07.centred_le
#print axioms HC.C07.gen_ct_negate_inplace_eq
#print axioms HC.C07.gen_ct_negate_inplace_refuses
#print axioms HC.C07.gen_ct_translate_inplace_same_size
#print axioms HC.C07.gen_ct_translate_inplace_balance_partial
#print axioms HC.C07.gen_ct_translate_inplace_sub_tail_partial
#print axioms HC.C07.gen_ct_translate_inplace_eq_general
#print axioms HC.C07.gen_ct_translate_inplace_balanced
#print axioms HC.C07.gen_bgv_decrypt_eq
#print axioms HC.C07.bgvFixup_is_model
#print axioms HC.C07.bgvFixup_spec
#print axioms HC.C07.bgvFixup_refuses
#print axioms HC.C07.bgv_decrypt_witness
#print axioms HC.C07.bgvFixup_witness
#print axioms HC.C07.gen_invariant_noise_budget_eq
#print axioms HC.C07.gen_budget_arith
#print axioms HC.C07.gen_budget_witness
#print axioms HC.C07.gen_poly_infty_norm_unfold
#print axioms HC.C07.normStepW_spec
#print axioms HC.C07.gen_norm_witness
#print axioms HC.C07.gen_norm_loop_succ
#print axioms HC.C07.gen_poly_infty_norm_spec
#print axioms HC.C07.gen_get_significant_uint64_count_uint_eq
#print axioms HC.C07.gen_get_significant_bit_count_uint_eq
#print axioms HC.C07.gen_add_uint_u64_inplace_eq
#print axioms HC.C07.gen_half_round_up_uint_eq
#print axioms HC.C07.gen_threshold_spec
#print axioms HC.C07.gen_bgv_trim_eq
#print axioms HC.C07.noiseBudget_unfold
#print axioms HC.C07.gen_budget_source_spec
#print axioms HC.C07.gen_budget_source_witness
#print axioms HC.C07.gen_dot_product_plan_eq
#print axioms HC.C07.gen_dot_plan_witness
#print axioms HC.C07.gen_dot_plan_witness2
#print axioms HC.C07.gen_dot_plan_witness16
#print axioms HC.C07.gen_bfv_decrypt_eq
#print axioms HC.C07.gen_ckks_decrypt_eq
#print axioms HC.C07.gen_decrypt_dispatch_eq
#print axioms HC.C07.gen_bfv_witness
#print axioms HC.C07.trimPlain_toList
