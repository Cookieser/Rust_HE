import Heathcliff.Gen.NttFns
import Heathcliff.Model.NTT
import Heathcliff.Proofs.GenWordScalar

/-!
  Translator tie for the lazy modular arithmetic of the NTT butterflies: `impl Arithmetic for ModArithLazy` and `ModArithLazy::new`
  (src/util/ntt.rs), generated into `Heathcliff/Gen/NttFns.lean` (namespace `HC.GenN`), against the instance `HC.modArithLazy`
  of `Heathcliff/Model/NTT.lean` — the `Arith` record `fwdLayer`/`invLayer` are run with and the C09 theorems are about.
  The hand model uses plain `Nat` `+`/`-` (its theorems show the documented ranges exclude overflow); the code is overflow-checked.
  Hence the hypotheses: they are exactly "the checked operation does not trap".
  Helper names start with `gx_` (a tag of the translator run, shared with GenWordScalar, GenUint, GenGaloisElts for other functions).
-/
namespace HC
open HC.GenN

/-- `ModArithLazy::new`: the modulus is stored, `two_times_modulus = value << 1` (a shift does not trap: exact below 2^63) -/
theorem gx_mal_new_modulus (m : Modulus) : (GenN.mal_new m).modulus = m := rfl

theorem gx_mal_new_two (m : Modulus) (hm : m.value < 2^63) : (GenN.mal_new m).two_times_modulus = 2 * m.value :=
  shl_one_mod (show 2 * m.value < 2^64 by omega)

/-- `add`: one checked `+`.  It reads no field of `s` and the model's `add` does not read `m`, so the statement holds for unrelated `s`, `m`
    (the other operations need `hs`); the two are arguments only so that all five ties have one shape. -/
theorem gx_mal_add_eq (s : GenN.ModArithLazy) (m : Modulus) (a b : Nat) (h : a + b < 2^64) :
    GenN.mal_add s a b = .ok ((modArithLazy m).add a b) := ckAdd_ok h

/-- `sub`: `a + two_times_modulus - b` (both steps checked) -/
theorem gx_mal_sub_eq (s : GenN.ModArithLazy) (m : Modulus) (a b : Nat) (hs : s.two_times_modulus = 2 * m.value)
    (h1 : a + 2 * m.value < 2^64) (h2 : b ≤ a + 2 * m.value) :
    GenN.mal_sub s a b = .ok ((modArithLazy m).sub a b) := by
  unfold GenN.mal_sub
  rw [hs, ckAdd_ok h1]; exact ckSub_of_le h2

theorem gx_mal_mul_root_eq (s : GenN.ModArithLazy) (m : Modulus) (a : Nat) (r : MulOperand) (hs : s.modulus = m) :
    GenN.mal_mul_root s a r = (modArithLazy m).mulRoot a r := by
  unfold GenN.mal_mul_root; rw [hs, gw_multiply_u64operand_mod_lazy_eq]; rfl

theorem gx_mal_mul_scalar_eq (s : GenN.ModArithLazy) (m : Modulus) (a : Nat) (r : MulOperand) (hs : s.modulus = m) :
    GenN.mal_mul_scalar s a r = (modArithLazy m).mulRoot a r := gx_mal_mul_root_eq s m a r hs

/-- `guard`: one conditional subtraction of `two_times_modulus` (no range hypothesis: the subtraction is guarded by the comparison) -/
theorem gx_mal_guard_eq (s : GenN.ModArithLazy) (m : Modulus) (a : Nat) (hs : s.two_times_modulus = 2 * m.value) :
    GenN.mal_guard s a = .ok ((modArithLazy m).guard a) := by
  unfold GenN.mal_guard
  show _ = Except.ok (if a ≥ 2 * m.value then a - 2 * m.value else a)
  rw [hs]
  by_cases h : a ≥ 2 * m.value
  · rw [if_pos h, if_pos h, ckSub_of_le h]
  · rw [if_neg h, if_neg h]; rfl

/-! ### the same facts for the value `ModArithLazy::new(modulus)` the tables are built with -/
theorem gx_new_add_eq (m : Modulus) (a b : Nat) (h : a + b < 2^64) :
    GenN.mal_add (GenN.mal_new m) a b = .ok ((modArithLazy m).add a b) := gx_mal_add_eq _ m a b h

theorem gx_new_sub_eq (m : Modulus) (hm : m.value < 2^63) (a b : Nat) (h1 : a + 2 * m.value < 2^64) (h2 : b ≤ a + 2 * m.value) :
    GenN.mal_sub (GenN.mal_new m) a b = .ok ((modArithLazy m).sub a b) := gx_mal_sub_eq _ m a b (gx_mal_new_two m hm) h1 h2

theorem gx_new_mul_root_eq (m : Modulus) (a : Nat) (r : MulOperand) :
    GenN.mal_mul_root (GenN.mal_new m) a r = (modArithLazy m).mulRoot a r := gx_mal_mul_root_eq _ m a r rfl

theorem gx_new_mul_scalar_eq (m : Modulus) (a : Nat) (r : MulOperand) :
    GenN.mal_mul_scalar (GenN.mal_new m) a r = (modArithLazy m).mulRoot a r := gx_mal_mul_scalar_eq _ m a r rfl

theorem gx_new_guard_eq (m : Modulus) (hm : m.value < 2^63) (a : Nat) :
    GenN.mal_guard (GenN.mal_new m) a = .ok ((modArithLazy m).guard a) := gx_mal_guard_eq _ m a (gx_mal_new_two m hm)

/-- `modulus.value() - 1` is overflow-checked in the code (traps for the zero modulus), truncated in the hand model: hence `1 ≤ m.value` -/
theorem gx_is_primitive_root_eq (root degree : Nat) (m : Modulus) (hm : 1 ≤ m.value) :
    GenN.is_primitive_root root degree m = isPrimitiveRoot root degree m := by
  unfold GenN.is_primitive_root isPrimitiveRoot
  by_cases h0 : root = 0
  · simp only [h0, if_true]; rfl
  · simp only [h0, if_false, gw_exponentiate_u64_mod_eq, Nat.shiftRight_eq_div_pow, Nat.pow_one, ckSub_of_le hm, bind, Except.bind]

end HC
