import Heathcliff.Gen.EvalCtFns
import Heathcliff.Proofs.GenPolyRns
import Heathcliff.Proofs.GenBlk
import Heathcliff.Proofs.BaseRns

/-!
  Ciphertext buffers.  The generated evaluator routines (Gen/EvalCtFns.lean, `HC.GenC`) work on the flat buffer of a ciphertext:
  `size` polynomials of `l.size` components of `l.n` words.  `unflattenCt` reads a buffer as a model ciphertext, `flattenCt` /
  `gs_flat` write model polynomials out.  THE NORMAL FORM of a buffer inside a proof is `gs_flat l ps` for a list `ps` of model
  polynomials: `slice`, `splice`, `copySlice`, `resize` act on it as `take` / `drop` / `++` on `ps` (`gs_flat_*`, instances of
  Proofs/GenBlk.lean; no side condition, since `flattenRns` has length `l.size * l.n` whatever it is given), and the kernels of
  polysmallmod.rs act on the flat form of SHAPED polynomials (`gs_Shape`) as the model operations (`gs_*_flat`).  The statements about a
  raw buffer `d` follow at `ps = (List.range s).map (gt_U l d)`, the polynomials of `unflattenCt l s d` (its definition spells `gt_U` out),
  whose normal form is `d` again (`gs_flat_unflattenCt`).
  Then `Evaluator::negate_inplace` and the two structural statements about `translate_inplace`.  Helper names start with `gc_`, `gs_`, `gt_`.
-/
namespace HC
open HC.GenW HC.GenP HC.GenC

/-- the model ciphertext whose flat buffer is `d` (`size` polynomials of `l.size` components of `l.n` words) -/
def unflattenCt (l : Level) (size : Nat) (d : List Nat) (ntt : Bool) (cf : Nat) : Ct :=
  ⟨((List.range size).map fun i => unflattenRns l.size l.n (gp_blk (l.size * l.n) d i)).toArray, ntt, cf⟩

/-- the flat buffer of a model ciphertext -/
def flattenCt (l : Level) (c : Ct) : List Nat := (c.polys.toList.map (flattenRns l.size l.n)).flatten

/-- polynomial `i` of the raw buffer `d`, read as a model polynomial: the `i`-th entry of `unflattenCt` -/
def gt_U (l : Level) (d : List Nat) (i : Nat) : RnsPoly := unflattenRns l.size l.n (gp_blk (l.size * l.n) d i)

theorem gs_range'_getD {α : Type} (A : List α) (d : α) (a : Nat) : (List.range' a (A.length - a)).map (fun i => A.getD i d) = A.drop a := by
  apply List.ext_getElem
  · simp
  · intro k h1 h2
    simp at h1 h2 ⊢
    simp [show a + k < A.length by omega]

/-- the checked products behind a buffer of `S` polynomials: `S·n`, `S·n·k`, and the block length `n·k` -/
theorem gs_mul_sizes (l : Level) (S : Nat) (hk : 1 ≤ l.size) (hD : l.size * l.n < B64) (hB : S * (l.size * l.n) < B64) :
    ckMul S l.n = .ok (S * l.n) ∧ ckMul (S * l.n) l.size = .ok (S * (l.size * l.n)) ∧ ckMul l.n l.size = .ok (l.size * l.n) := by
  have hmul : S * l.n * l.size = S * (l.size * l.n) := by rw [Nat.mul_assoc, Nat.mul_comm l.n]
  have hdn : S * l.n < B64 := Nat.lt_of_le_of_lt (Nat.mul_le_mul_left _ (Nat.le_mul_of_pos_left _ hk)) hB
  refine ⟨ckMul_ok hdn, ?_, ?_⟩
  · rw [ckMul_ok (by rw [hmul]; exact hB), hmul]
  · rw [ckMul_ok (by rw [Nat.mul_comm]; exact hD), Nat.mul_comm]

theorem gs_ck_blocks (D S : Nat) (hB : S * D < B64) :
    (∀ i, i ≤ S → ckMul i D = .ok (i * D)) ∧ (∀ i, i < S → ckAdd (i * D) D = .ok ((i + 1) * D)) := by
  have hm : ∀ i, i ≤ S → i * D < B64 := fun i hi => Nat.lt_of_le_of_lt (Nat.mul_le_mul_right _ hi) hB
  exact ⟨fun i hi => ckMul_ok (hm i hi), fun i hi => by
    rw [ckAdd_ok (by have := hm (i + 1) hi; rw [Nat.succ_mul] at this; exact this), Nat.succ_mul]⟩

theorem gt_flatten_getD (size n : Nat) (p : RnsPoly) (j i : Nat) (hj : j < size) (hi : i < n) :
    (flattenRns size n p).getD (j * n + i) 0 = (p.getD j #[]).getD i 0 := by
  unfold flattenRns
  rw [list_getD_range_map _ _ (grid_lt hj hi), grid_div j hi, grid_mod j hi]

theorem gt_unflatten_flatten (size n : Nat) (p : RnsPoly) (hp : p.size = size) (hc : ∀ j, j < size → (p.getD j #[]).size = n) :
    unflattenRns size n (flattenRns size n p) = p := by
  unfold unflattenRns
  apply Array.ext
  · simp [hp]
  · intro j h1 h2
    have hj : j < size := by simpa using h1
    have hcj := hc j hj
    have hpj : p.getD j #[] = p[j] := by simp [Array.getD, h2]
    rw [hpj] at hcj
    simp only [List.getElem_toArray, List.getElem_map, List.getElem_range]
    apply Array.ext
    · simp [hcj]
    · intro i g1 g2
      have hi : i < n := by simpa using g1
      simp only [List.getElem_toArray, List.getElem_map, List.getElem_range]
      rw [gt_flatten_getD size n p j i hj hi, hpj]
      simp [Array.getD, g2]

/-- shape of a model polynomial whose flattening can be read back -/
def gs_Shape (l : Level) (p : RnsPoly) : Prop := p.size = l.size ∧ ∀ j, j < l.size → (p.getD j #[]).size = l.n

theorem gs_uf (l : Level) (p : RnsPoly) (h : gs_Shape l p) : unflattenRns l.size l.n (flattenRns l.size l.n p) = p :=
  gt_unflatten_flatten _ _ _ h.1 h.2

theorem gs_shape_unflatten (l : Level) (d : List Nat) : gs_Shape l (unflattenRns l.size l.n d) := by
  unfold unflattenRns
  refine ⟨by simp, fun j hj => ?_⟩
  rw [list_getD_toArray, list_getD_range_map _ _ hj]
  simp

/-- the model builds a polynomial component by component (`rnsZip`, `compsMap`, `rnsNeg`): if component `j` has size `n` whenever it is
    computed, the result is shaped -/
theorem gs_shape_comps (l : Level) (C : Nat → R (Array Nat)) (hC : ∀ j c, j < l.size → C j = .ok c → c.size = l.n) (o : RnsPoly)
    (h : (List.range l.size).foldlM (fun acc i => do let c ← C i; pure (acc.push c)) #[] = .ok o) : gs_Shape l o := by
  rw [R.foldlM_push] at h
  obtain ⟨vs, hm, ho⟩ := R.bind_eq_ok.mp h
  cases ho
  have hl : vs.length = l.size := by rw [R.mapM_length hm, List.length_range]
  refine ⟨by simpa using hl, fun j hj => ?_⟩
  have hc := R.mapM_getD hm 0 #[] (i := j) (by simpa using hj)
  rw [show (List.range l.size).getD j 0 = j by simp [List.getD, hj]] at hc
  rw [Array.empty_append, list_getD_toArray]
  exact hC j _ hj hc

theorem gs_shape_zip (l : Level) (a b : RnsPoly) (f : Nat → Nat → Modulus → R Nat) (o : RnsPoly) (h : rnsZip l a b f = .ok o)
    (ha : gs_Shape l a) : gs_Shape l o :=
  gs_shape_comps l _ (fun j c hj hc => by rw [zipM'_size hc]; exact ha.2 j hj) o h

theorem gs_shape_compsMap (l : Level) (a : RnsPoly) (g : Nat → Modulus → R Nat) (o : RnsPoly) (h : compsMap l.qs a g = .ok o)
    (ha : gs_Shape l a) : gs_Shape l o :=
  gs_shape_comps l _ (fun j c hj hc => by rw [mapM'_size hc]; exact ha.2 j hj) o h

theorem gs_flatten_zero (l : Level) : flattenRns l.size l.n (rnsZero l) = List.replicate (l.size * l.n) 0 := by
  have h := flattenRns_blocks l.n (List.replicate l.size (List.replicate l.n 0)) fun b hb => by
    rw [List.eq_of_mem_replicate hb, List.length_replicate]
  rwa [List.length_replicate, List.map_replicate, List.toArray_replicate, List.toArray_replicate, List.flatten_replicate_replicate] at h

theorem gs_zero_shape (l : Level) : gs_Shape l (rnsZero l) := by
  refine ⟨by simp [rnsZero], fun j hj => ?_⟩
  simp [rnsZero, Array.getD, hj]

/-- THE NORMAL FORM of a ciphertext buffer inside a proof: the model polynomials `ps` flattened one after the other -/
def gs_flat (l : Level) (ps : List RnsPoly) : List Nat := (ps.map (flattenRns l.size l.n)).flatten

theorem gs_flat_blk (l : Level) (ps : List RnsPoly) : Blk (l.size * l.n) (ps.map (flattenRns l.size l.n)) := by
  intro b hb
  obtain ⟨p, _, rfl⟩ := List.mem_map.mp hb
  exact gp_flattenRns_length _ _ _

theorem gs_flat_length (l : Level) (ps : List RnsPoly) : (gs_flat l ps).length = ps.length * (l.size * l.n) := by
  rw [gs_flat, (gs_flat_blk l ps).length, List.length_map]

theorem gs_flat_one (l : Level) (p : RnsPoly) : gs_flat l [p] = flattenRns l.size l.n p := by simp [gs_flat]

theorem gs_flat_append (l : Level) (ps qs : List RnsPoly) : gs_flat l (ps ++ qs) = gs_flat l ps ++ gs_flat l qs := by simp [gs_flat]

theorem gs_flat_drop (l : Level) (ps : List RnsPoly) (i : Nat) : (gs_flat l ps).drop (i * (l.size * l.n)) = gs_flat l (ps.drop i) := by
  unfold gs_flat
  rw [(gs_flat_blk l ps).drop_flatten, List.map_drop]

theorem gs_flat_slice (l : Level) (ps : List RnsPoly) (i j : Nat) (hij : i ≤ j) (hj : j ≤ ps.length) :
    GenP.slice (gs_flat l ps) (i * (l.size * l.n)) (j * (l.size * l.n)) = .ok (gs_flat l ((ps.drop i).take (j - i))) := by
  unfold gs_flat
  rw [(gs_flat_blk l ps).slice i j hij (by simpa using hj), List.map_take, List.map_drop]

theorem gs_flat_slice1 (l : Level) (ps : List RnsPoly) (i : Nat) (hi : i < ps.length) :
    GenP.slice (gs_flat l ps) (i * (l.size * l.n)) ((i + 1) * (l.size * l.n)) = .ok (flattenRns l.size l.n (ps.getD i #[])) := by
  rw [gs_flat_slice l ps i (i + 1) (Nat.le_succ i) hi, Nat.add_sub_cancel_left, List.drop_eq_getElem_cons hi, List.take_succ_cons,
    List.take_zero, gs_flat_one]
  simp [List.getD, hi]

theorem gs_flat_splice (l : Level) (ps ns : List RnsPoly) (i : Nat) :
    GenP.splice (gs_flat l ps) (i * (l.size * l.n)) (gs_flat l ns) = gs_flat l (ps.take i ++ ns ++ ps.drop (i + ns.length)) := by
  unfold gs_flat
  rw [(gs_flat_blk l ps).splice (gs_flat_blk l ns) i]
  simp

theorem gs_flat_splice1 (l : Level) (ps : List RnsPoly) (i : Nat) (q : RnsPoly) :
    GenP.splice (gs_flat l ps) (i * (l.size * l.n)) (flattenRns l.size l.n q) = gs_flat l (ps.take i ++ q :: ps.drop (i + 1)) := by
  rw [← gs_flat_one, gs_flat_splice]
  simp

theorem gs_flat_copy (l : Level) (ps ns : List RnsPoly) (i j : Nat) (h : ns.length = j - i) :
    GenP.copySlice (gs_flat l ps) (i * (l.size * l.n)) (j * (l.size * l.n)) (gs_flat l ns) =
      .ok (gs_flat l (ps.take i ++ ns ++ ps.drop (i + ns.length))) := by
  unfold GenP.copySlice
  rw [if_pos (by rw [gs_flat_length, h, Nat.sub_mul]), gs_flat_splice]

theorem gs_flat_zeros (l : Level) (c : Nat) : List.replicate (c * (l.size * l.n)) 0 = gs_flat l (List.replicate c (rnsZero l)) := by
  induction c with
  | zero => simp [gs_flat]
  | succ c ih =>
    rw [List.replicate_succ, gs_flat, List.map_cons, List.flatten_cons, ← gs_flat, ← ih, gs_flatten_zero, List.replicate_append_replicate,
      Nat.succ_mul, Nat.add_comm]

/-- `Ciphertext::resize` to a larger size appends zero polynomials -/
theorem gs_flat_resize (l : Level) (ps : List RnsPoly) (S : Nat) (h : ps.length ≤ S) :
    GenC.resizeL (gs_flat l ps) (S * (l.size * l.n)) 0 = gs_flat l (ps ++ List.replicate (S - ps.length) (rnsZero l)) := by
  unfold GenC.resizeL
  rw [List.take_of_length_le (by rw [gs_flat_length]; exact Nat.mul_le_mul_right _ h), gs_flat_length, ← Nat.sub_mul, gs_flat_zeros,
    gs_flat_append]

theorem gt_blk_flatten (D : Nat) (bs : List (List Nat)) (i : Nat) (h : Blk D bs) (hi : i < bs.length) :
    gp_blk D bs.flatten i = bs.getD i [] := h.block hi

theorem gs_flat_unflattenCt (l : Level) (s : Nat) (d : List Nat) (hd : d.length = s * (l.size * l.n)) :
    gs_flat l ((List.range s).map (gt_U l d)) = d := by
  have h := Blk.cut_drop (l.size * l.n) d s 0 (by rw [hd, Nat.zero_add])
  rw [Nat.zero_mul, List.drop_zero, ← List.range_eq_range'] at h
  rw [gs_flat, List.map_map]
  refine Eq.trans ?_ h
  congr 1
  apply List.map_congr_left
  intro i hi
  have hb : i * (l.size * l.n) + l.size * l.n ≤ d.length := by rw [hd]; exact grid_succ_le (List.mem_range.mp hi)
  exact flatten_unflatten _ _ _ (gp_blk_length _ _ _ hb)

theorem gs_U_flat (l : Level) (A : List RnsPoly) (hA : ∀ p, p ∈ A → gs_Shape l p) (i : Nat) (hi : i < A.length) :
    gt_U l (gs_flat l A) i = A.getD i #[] := by
  unfold gt_U gs_flat
  rw [gt_blk_flatten (l.size * l.n) _ i (gs_flat_blk l A) (by simpa using hi)]
  have e : (A.map (flattenRns l.size l.n)).getD i [] = flattenRns l.size l.n (A.getD i #[]) := by simp [List.getD, hi]
  have hm : A.getD i #[] ∈ A := by
    have : A.getD i #[] = A[i] := by simp [List.getD, hi]
    rw [this]; exact List.getElem_mem hi
  rw [e, gs_uf l _ (hA _ hm)]

theorem gs_buffer_shape (l : Level) (s : Nat) (d : List Nat) : ∀ p, p ∈ (List.range s).map (gt_U l d) → gs_Shape l p := by
  intro p hp
  obtain ⟨i, _, rfl⟩ := List.mem_map.mp hp
  exact gs_shape_unflatten l _

theorem gs_getD_shape (l : Level) (ps : List RnsPoly) (h : ∀ p, p ∈ ps → gs_Shape l p) (i : Nat) (hi : i < ps.length) :
    gs_Shape l (ps.getD i #[]) := by
  have : ps.getD i #[] = ps[i] := by simp [List.getD, hi]
  rw [this]; exact h _ (List.getElem_mem hi)

/-- the other arguments of one iteration of the out-of-place wrapper: the blocks of both operands and `&moduli[i]` -/
def gs_binPre (x y : List Nat) (mods : List Modulus) (i off up : Nat) : R (List Nat × List Nat × Modulus) := do
  let t1 ← GenP.slice x off up
  let t2 ← GenP.slice y off up
  let t3 ← GenP.idxT mods i
  pure (t1, t2, t3)

/-- `dyadic_product_p` = the hand model's `rnsDyadic` (inputs at least as long as the result: shorter ones are an index panic): the kernel
    tie on RAW buffers that Proofs/GenPolyRns.lean has for the in-place wrappers (`gp_poly_*_inplace_p_model`), for the one out-of-place wrapper
    the ciphertext products call -/
theorem gs_poly_dyadic_product_p_model (l : Level) (x y r : List Nat) (hr : r.length = l.size * l.n) (hx : l.size * l.n ≤ x.length)
    (hy : l.size * l.n ≤ y.length) (hB : r.length < B64) :
    GenP.poly_dyadic_product_p x y l.n l.qs.toList r =
      Except.map (flattenRns l.size l.n) (rnsDyadic l (unflattenRns l.size l.n x) (unflattenRns l.size l.n y)) := by
  have hlen : ∀ i p t o, i < l.size → t.length = l.n → gs_binPre x y l.qs.toList i (i * l.n) (i * l.n + l.n) = .ok p →
      GenP.poly_dyadic_product p.1 p.2.1 p.2.2 t = .ok o → o.length = l.n := by
    intro i p t o _ ht hp ho
    unfold gs_binPre at hp
    obtain ⟨t1, h1, hp⟩ := R.bind_eq_ok.mp hp
    obtain ⟨t2, h2, hp⟩ := R.bind_eq_ok.mp hp
    obtain ⟨t3, _, hp⟩ := R.bind_eq_ok.mp hp
    cases hp
    have l1 := gp_slice_length h1
    have l2 := gp_slice_length h2
    rw [Nat.add_sub_cancel_left] at l1 l2
    rw [gp_poly_dyadic_product_eq _ _ _ _ (by rw [ht, l1]) (by rw [ht, l2]), gp_dyadicProduct_zipM'] at ho
    rw [gp_zipM'_length ho, List.size_toArray, List.length_take, ht, l1, Nat.min_self]
  unfold GenP.poly_dyadic_product_p rnsDyadic
  simp only []
  rw [gp_compsZip_eq, gp_qs_length l,
    gp_step_loop (GenP.poly_dyadic_product_p_loop1 x y l.n l.qs.toList) (gs_binPre x y l.qs.toList)
      (fun _ p t => GenP.poly_dyadic_product p.1 p.2.1 p.2.2 t) l.n l.size (fun _ _ _ => rfl)
      (fun c i r off => by rw [GenP.poly_dyadic_product_p_loop1]; simp only [gp_step, gs_binPre, bind_assoc, pure_bind])
      hlen r (by omega) hB]
  unfold compsZip
  apply gp_blocks_model _ (fun j => zipM' ((unflattenRns l.size l.n x).getD j #[]) ((unflattenRns l.size l.n y).getD j #[])
    (fun u v => mulMod u v (l.qs.getD j default))) l.n l.size r hr
  · intro j hj
    have hjr : j * l.n + l.n ≤ r.length := by rw [hr]; exact grid_succ_le hj
    have hjx : j * l.n + l.n ≤ x.length := by omega
    have hjy : j * l.n + l.n ≤ y.length := by omega
    simp only [gs_binPre, gp_slice_blk x j l.n hjx, gp_slice_blk y j l.n hjy, gp_idxT_getD l.qs.toList j (by simpa [Level.size] using hj),
      bind, Except.bind, pure, Except.pure]
    rw [gp_poly_dyadic_product_eq _ _ _ _ (by rw [gp_blk_length _ _ _ hjr, gp_blk_length _ _ _ hjx])
      (by rw [gp_blk_length _ _ _ hjr, gp_blk_length _ _ _ hjy]), gp_unflatten_blk _ _ _ _ hj hjx, gp_unflatten_blk _ _ _ _ hj hjy,
      gp_blk_length _ _ _ hjr, array_getD_toList,
      List.take_of_length_le (by rw [gp_blk_length _ _ _ hjx]), List.take_of_length_le (by rw [gp_blk_length _ _ _ hjy])]
    rfl
  · intro j o hj h
    have hjx : j * l.n + l.n ≤ x.length := by have := grid_succ_le (B := l.n) hj; omega
    rw [zipM'_size h, gp_unflatten_blk _ _ _ _ hj hjx]
    simp only [List.size_toArray]
    exact gp_blk_length _ _ _ hjx

theorem gs_dyadic_p_flat (l : Level) (x y : RnsPoly) (r : List Nat) (hx : gs_Shape l x) (hy : gs_Shape l y)
    (hr : r.length = l.size * l.n) (hB : l.size * l.n < B64) :
    GenP.poly_dyadic_product_p (flattenRns l.size l.n x) (flattenRns l.size l.n y) l.n l.qs.toList r =
      Except.map (flattenRns l.size l.n) (rnsDyadic l x y) := by
  rw [gs_poly_dyadic_product_p_model l _ _ r hr (by rw [gp_flattenRns_length]) (by rw [gp_flattenRns_length]) (by rw [hr]; exact hB),
    gs_uf l x hx, gs_uf l y hy]

theorem gs_add_inplace_p_flat (l : Level) (x y : RnsPoly) (hx : gs_Shape l x) (hy : gs_Shape l y) (hB : l.size * l.n < B64) :
    GenP.poly_add_inplace_p (flattenRns l.size l.n x) (flattenRns l.size l.n y) l.n l.qs.toList =
      Except.map (flattenRns l.size l.n) (rnsAdd l x y) := by
  rw [gp_poly_add_inplace_p_model l _ _ (gp_flattenRns_length _ _ _) (by rw [gp_flattenRns_length]) (by rw [gp_flattenRns_length]; exact hB),
    gs_uf l x hx, gs_uf l y hy]

/-- the second operand is any buffer that is long enough (the NTT-form plaintext of `multiply_plain_ntt`) -/
theorem gs_dyadic_inplace_p_flat (l : Level) (x : RnsPoly) (pd : List Nat) (hx : gs_Shape l x) (hp : l.size * l.n ≤ pd.length)
    (hB : l.size * l.n < B64) :
    GenP.poly_dyadic_product_inplace_p (flattenRns l.size l.n x) pd l.n l.qs.toList =
      Except.map (flattenRns l.size l.n) (rnsDyadic l x (unflattenRns l.size l.n pd)) := by
  rw [gp_poly_dyadic_product_inplace_p_model l _ pd (gp_flattenRns_length _ _ _) hp (by rw [gp_flattenRns_length]; exact hB), gs_uf l x hx]

/-- what the `_ps` wrappers return (kernel on the blocks of the buffers, the rest of the first kept), read on flat forms -/
theorem gs_ps_flat (l : Level) (A B : List RnsPoly) (pc : Nat) (op : RnsPoly → RnsPoly → R RnsPoly) (hA : ∀ p, p ∈ A → gs_Shape l p)
    (hB : ∀ p, p ∈ B → gs_Shape l p) (h1 : pc ≤ A.length) (h2 : pc ≤ B.length) :
    (do let outs ← (List.range pc).mapM (fun i => op (unflattenRns l.size l.n (gp_blk (l.size * l.n) (gs_flat l A) i))
                                                    (unflattenRns l.size l.n (gp_blk (l.size * l.n) (gs_flat l B) i)))
        pure ((outs.map (flattenRns l.size l.n)).flatten ++ (gs_flat l A).drop (pc * (l.size * l.n))) : R (List Nat)) =
      (do let outs ← (List.range pc).mapM (fun i => op (A.getD i #[]) (B.getD i #[]))
          pure (gs_flat l (outs ++ A.drop pc))) := by
  rw [R.mapM_congr (g := fun i => op (A.getD i #[]) (B.getD i #[])) (fun i hi => by
    have := List.mem_range.mp hi
    rw [← gs_U_flat l A hA i (by omega), ← gs_U_flat l B hB i (by omega)]; rfl)]
  simp only [gs_flat_drop, gs_flat_append]
  rfl

theorem gs_ps_flat1 (l : Level) (T : List RnsPoly) (op : RnsPoly → R RnsPoly) (hT : ∀ p, p ∈ T → gs_Shape l p) :
    (do let outs ← (List.range T.length).mapM (fun i => op (unflattenRns l.size l.n (gp_blk (l.size * l.n) (gs_flat l T) i)))
        pure ((outs.map (flattenRns l.size l.n)).flatten ++ (gs_flat l T).drop (T.length * (l.size * l.n))) : R (List Nat)) =
      (do let outs ← T.mapM op; pure (gs_flat l outs)) := by
  have h := gs_ps_flat l T T T.length (fun p _ => op p) hT hT (Nat.le_refl _) (Nat.le_refl _)
  rw [h, R.mapM_range_getD op #[] T, List.drop_length]
  simp only [List.append_nil]

theorem gs_common_ps_flat (l : Level) (A B : List RnsPoly) (pc : Nat) (sub : Bool) (hA : ∀ p, p ∈ A → gs_Shape l p)
    (hB : ∀ p, p ∈ B → gs_Shape l p) (h1 : pc ≤ A.length) (h2 : pc ≤ B.length) (hd : l.n * l.size < B64)
    (hB64 : A.length * (l.size * l.n) < B64) :
    (if ¬sub = true then GenP.poly_add_inplace_ps (gs_flat l A) (gs_flat l B) pc l.n l.qs.toList
      else GenP.poly_sub_inplace_ps (gs_flat l A) (gs_flat l B) pc l.n l.qs.toList) =
      (do let outs ← (List.range pc).mapM (fun i => if sub then rnsSub l (A.getD i #[]) (B.getD i #[]) else rnsAdd l (A.getD i #[]) (B.getD i #[]))
          pure (gs_flat l (outs ++ A.drop pc))) := by
  have hla : pc * (l.size * l.n) ≤ (gs_flat l A).length := by rw [gs_flat_length]; exact Nat.mul_le_mul_right _ h1
  have hlb : pc * (l.size * l.n) ≤ (gs_flat l B).length := by rw [gs_flat_length]; exact Nat.mul_le_mul_right _ h2
  have hBa : (gs_flat l A).length < B64 := by rw [gs_flat_length]; exact hB64
  cases sub
  · rw [if_pos (by simp), gp_poly_add_inplace_ps_model l _ _ pc hd hla hlb hBa, gs_ps_flat l A B pc (rnsAdd l) hA hB h1 h2]
    rfl
  · rw [if_neg (by simp), gp_poly_sub_inplace_ps_model l _ _ pc hd hla hlb hBa, gs_ps_flat l A B pc (rnsSub l) hA hB h1 h2]
    rfl

theorem gs_negate_ps_flat (l : Level) (T : List RnsPoly) (hT : ∀ p, p ∈ T → gs_Shape l p) (hd : l.n * l.size < B64)
    (hB64 : T.length * (l.size * l.n) < B64) :
    GenP.poly_negate_inplace_ps (gs_flat l T) T.length l.n l.qs.toList = (do let outs ← T.mapM (rnsNeg l); pure (gs_flat l outs)) := by
  rw [gp_poly_negate_inplace_ps_model l _ T.length hd (by rw [gs_flat_length]) (by rw [gs_flat_length]; exact hB64),
    gs_ps_flat1 l T (rnsNeg l) hT]

/-- `multiply_scalar_inplace_ps` over a whole buffer: the `scale` step of `ctTranslateBalanced` -/
theorem gs_scale_ps_flat (l : Level) (T : List RnsPoly) (e : Nat) (hT : ∀ p, p ∈ T → gs_Shape l p) (hd : l.n * l.size < B64)
    (hB64 : T.length * (l.size * l.n) < B64) :
    GenP.poly_multiply_scalar_inplace_ps (gs_flat l T) e T.length l.n l.qs.toList =
      (do let outs ← T.mapM (fun p => compsMap l.qs p (fun x m => mulMod x e m)); pure (gs_flat l outs)) := by
  rw [gp_poly_multiply_scalar_inplace_ps_model l _ e T.length hd (by rw [gs_flat_length]) (by rw [gs_flat_length]; exact hB64),
    gs_ps_flat1 l T (fun p => compsMap l.qs p (fun x m => mulMod x e m)) hT]

/-- `Evaluator::negate_inplace` (generated from src/evaluator.rs; the ciphertext check as a Boolean input) on the flat buffer IS the hand
    model's `ctNegate` -/
theorem gc_negate_inplace_eq (l : Level) (d : List Nat) (size : Nat) (ntt : Bool) (cf : Nat) (hd : d.length = size * (l.size * l.n))
    (hpl : l.n * l.size < B64) (hB : d.length < B64) :
    GenC.ct_negate_inplace d size true l.qs.toList l.n = Except.map (flattenCt l) (ctNegate l (unflattenCt l size d ntt cf)) := by
  unfold GenC.ct_negate_inplace ctNegate
  simp only [if_true]
  rw [gp_poly_negate_inplace_ps_model l d size hpl (by omega) hB]
  have hp : (unflattenCt l size d ntt cf).polys.toList = (List.range size).map fun i => unflattenRns l.size l.n (gp_blk (l.size * l.n) d i) := by
    simp [unflattenCt]
  rw [hp, R.mapM_map, ← hd, List.drop_length]
  cases (List.range size).mapM (fun i => rnsNeg l (unflattenRns l.size l.n (gp_blk (l.size * l.n) d i))) with
  | error e => rfl
  | ok outs => simp [bind, Except.bind, pure, Except.pure, Except.map, flattenCt]

/-- an invalid ciphertext (`check_ciphertext` panics) is refused -/
theorem gc_negate_inplace_refuses (d : List Nat) (size : Nat) (mods : List Modulus) (n : Nat) :
    GenC.ct_negate_inplace d size false mods n = .error .refused := by
  unfold GenC.ct_negate_inplace; simp


theorem gc_polys_size (l : Level) (size : Nat) (d : List Nat) (ntt : Bool) (cf : Nat) : (unflattenCt l size d ntt cf).polys.size = size := by
  simp [unflattenCt]

/-- PARTIAL (flat level): with different correction factors `translate_inplace` scales ALL polynomials of both operands by the balancing
    factors (`multiply_scalar_inplace_ps` with the operand's own size) and continues with the equal-factor routine at the new factor —
    the shape of `ctTranslateBalanced` (arbitrary moduli and degree; the model-level statement is `gt_translate_inplace_balanced`,
    Proofs/GenEvalCt3.lean). -/
theorem gc_translate_inplace_balance_partial (d1 d2 : List Nat) (s1 s2 cf1 cf2 : Nat) (sub : Bool) (mods : List Modulus) (t : Modulus) (n : Nat)
    (hcf : cf1 ≠ cf2) :
    GenC.ct_translate_inplace d1 s1 cf1 d2 s2 cf2 sub true true true false true mods t n =
      (do let f ← GenE.balance_correction_factors cf1 cf2 t
          let a ← GenP.poly_multiply_scalar_inplace_ps d1 f.2.1 s1 n mods
          let b ← GenP.poly_multiply_scalar_inplace_ps d2 f.2.2 s2 n mods
          GenC.ct_translate_inplace_eq a s1 f.1 b s2 f.1 sub true true true false true mods t n) := by
  unfold GenC.ct_translate_inplace
  simp only [if_true, Bool.false_eq_true, if_false, ne_eq, hcf, not_false_eq_true, decide_true, decide_false, Bool.decide_eq_true,
    bind_assoc, pure_bind]
  exact bind_congr fun f => bind_congr fun a => bind_congr fun b => bind_pure _

/-- PARTIAL (flat level): subtracting a LARGER ciphertext from a smaller one (`size1 < size2`, equal factors, checks passed): the common
    polynomials are subtracted, the extra polynomials of the subtrahend are copied and then NEGATED (`negate_inplace_ps` over
    `size2 - size1` polynomials; without it `a − b` would ADD the extra polynomials of `b`) — the `.right i ↦ rnsNeg` terms of `ctTranslate`
    (arbitrary moduli and degree; the
    model-level statement is `gt_translate_inplace_eq_general`, Proofs/GenEvalCt3.lean). -/
theorem gc_translate_inplace_sub_tail_partial (d1 d2 : List Nat) (s1 s2 cf : Nat) (mods : List Modulus) (t : Modulus) (n : Nat)
    (hlt : s1 < s2) (hs : 2 ≤ s2 ∧ s2 ≤ 16) (hB : s2 * (n * mods.length) < B64) (hn : 1 ≤ mods.length) :
    GenC.ct_translate_inplace_eq d1 s1 cf d2 s2 cf true true true true false true mods t n =
      (do let a ← GenP.poly_sub_inplace_ps (GenC.resizeL d1 (s2 * n * mods.length) 0) d2 s1 n mods
          let _ ← GenP.slice a (s1 * (n * mods.length)) (s2 * (n * mods.length))
          let src ← GenP.slice d2 (s1 * (n * mods.length)) (s2 * (n * mods.length))
          let a ← GenP.copySlice a (s1 * (n * mods.length)) (s2 * (n * mods.length)) src
          let tail ← GenP.slice a (s1 * (n * mods.length)) (s2 * (n * mods.length))
          let o ← GenP.poly_negate_inplace_ps tail (s2 - s1) n mods
          pure (GenP.splice a (s1 * (n * mods.length)) o, s2, cf)) := by
  have hmax : max s1 s2 = s2 := Nat.max_eq_right (Nat.le_of_lt hlt)
  have hmin : min s1 s2 = s1 := Nat.min_eq_left (Nat.le_of_lt hlt)
  have hsz : ¬ ((s2 < 2 ∧ s2 ≠ 0) ∨ s2 > 16) := by omega
  have hnk : n * mods.length ≤ s2 * (n * mods.length) := Nat.le_mul_of_pos_left _ (by omega)
  have hck0 : ckMul n mods.length = .ok (n * mods.length) := ckMul_ok (by omega)
  have hck1 : ckMul s1 (n * mods.length) = .ok (s1 * (n * mods.length)) :=
    ckMul_ok (Nat.lt_of_le_of_lt (Nat.mul_le_mul_right _ (Nat.le_of_lt hlt)) hB)
  have hck2 : ckMul s2 (n * mods.length) = .ok (s2 * (n * mods.length)) := ckMul_ok hB
  have hck3 : ckMul s2 n = .ok (s2 * n) :=
    ckMul_ok (Nat.lt_of_le_of_lt (Nat.mul_le_mul_left _ (Nat.le_mul_of_pos_right _ hn)) hB)
  have hck4 : ckMul (s2 * n) mods.length = .ok (s2 * n * mods.length) := ckMul_ok (by rw [Nat.mul_assoc]; exact hB)
  have hsub : ckSub s2 s1 = .ok (s2 - s1) := ckSub_of_le (Nat.le_of_lt hlt)
  unfold GenC.ct_translate_inplace_eq
  simp only [if_true, Bool.false_eq_true, if_false, ne_eq, not_true_eq_false, hmax, hmin, hsz, not_false_eq_true, hck0, hck1, hck2, hck3,
    hck4, hsub, hlt, bind_assoc, pure_bind, R.ok_bind']

end HC
