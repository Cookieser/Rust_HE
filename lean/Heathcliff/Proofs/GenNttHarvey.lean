import Heathcliff.Proofs.GenDwt
import Heathcliff.Proofs.GenNttArith
import Heathcliff.Proofs.C09G

/-!
  Translator tie: the butterfly network run with the LAZY MODULAR instance (`impl Arithmetic for ModArithLazy`,
  checked `+` / `-`), the wrappers of src/util/ntt.rs (`ntt_negacyclic_harvey(_lazy)`, `inverse_ntt_negacyclic_harvey(_lazy)`: call of the
  handler + final correction loop) against `nttLazy` / `ntt` / `inttLazy` / `intt` of Model/NTT.lean, and the composition with the C09
  theorems into one statement from source to mathematics.
  Helper names start with `gd_` (d for DWT) as in GenDwt; the `gd_` of the GenDec modules (d for decryptor) is another family.
-/
namespace HC
open HC.GenD

variable {m : Modulus}

/-- FORWARD butterfly, lazy instance: inputs `< 4q`, root a well-formed Harvey operand ⇒ none of the checked operations traps.
    `< 4q` (forward) and `< 2q` (inverse) are the ranges of Harvey's lazy butterflies; that every layer of the MODEL run stays in them is C09's
    `fwd_lazy_sim` / `inv_lazy_sim`, which discharge `hP` of the network theorems below. -/
theorem gd_lazy_fwd (hm : m.WF) (s : GenN.ModArithLazy) (hs1 : s.modulus = m) (hs2 : s.two_times_modulus = 2 * m.value) :
    RealFwd (arith_ModArithLazy s) (modArithLazy m) (fun x => x < 4 * m.value) (WFOp m) := by
  have hq := hm.lt
  have hg : ∀ x, x < 4 * m.value → (modArithLazy m).guard x < 2 * m.value := fun x hx => (guard_lazy hx).1
  refine ⟨fun x _ => gx_mal_guard_eq s m x hs2, fun y r _ _ => ?_, fun x y r hx hy hr => ?_, fun x y r hx hy hr => ?_⟩
  · show Except.ok (GenN.mal_mul_root s y r) = _
    rw [gx_mal_mul_root_eq s m y r hs1]
  · have h1 := hg x hx
    have h2 := (mulRoot_lazy hm hr (show y < 2^64 by omega)).1
    exact gx_mal_add_eq s m _ _ (by omega)
  · have h1 := hg x hx
    have h2 := (mulRoot_lazy hm hr (show y < 2^64 by omega)).1
    exact gx_mal_sub_eq s m _ _ hs2 (by omega) (by omega)

/-- INVERSE butterfly, lazy instance: inputs `< 2q` -/
theorem gd_lazy_inv (hm : m.WF) (s : GenN.ModArithLazy) (hs1 : s.modulus = m) (hs2 : s.two_times_modulus = 2 * m.value) :
    RealInv (arith_ModArithLazy s) (modArithLazy m) (fun x => x < 2 * m.value) (WFOp m) := by
  have hq := hm.lt
  refine ⟨fun x y hx hy => gx_mal_add_eq s m x y (by omega), fun x y _ _ => gx_mal_guard_eq s m _ hs2,
    fun x y hx hy => gx_mal_sub_eq s m x y hs2 (by omega) (by omega), fun x y r _ _ _ => ?_⟩
  show Except.ok (GenN.mal_mul_root s _ r) = _
  rw [gx_mal_mul_root_eq s m _ r hs1]

theorem gd_arrFn_mem (vals : List Nat) (p : Nat) (hp : p < vals.length) : arrFn vals.toArray p ∈ vals := by
  show vals.toArray.getD p default ∈ vals
  rw [list_getD_toArray]; exact list_getD_mem default hp

/-- GENERATED = MODEL for the lazy modular instance, forward: values `< 4q`, table entries 1 .. 2^k-1 well-formed operands.
    The hypotheses are those of `fwd_lazy_sim`, which supplies the range invariant of every layer; `k < 64` in addition: the code computes
    `n = 1 << k` and the layer sizes `1 << layer` with checked shifts, which trap from 64 on. -/
theorem gd_lazy_transform_to_rev (hm : m.WF) (s : GenN.ModArithLazy) (hs1 : s.modulus = m) (hs2 : s.two_times_modulus = 2 * m.value)
    (k : Nat) (hk : k < 64) (vals : List Nat) (hv : vals.length = 2^k) (ha : ∀ x ∈ vals, x < 4 * m.value)
    (roots : List MulOperand) (rf : Nat → MulOperand) (hrf : ∀ j, j < 2^k → roots[j]? = some (rf j))
    (hQ : ∀ j, 0 < j → j < 2^k → WFOp m (rf j)) :
    transform_to_rev (arith_ModArithLazy s) vals k roots none = .ok (runFwdA (modArithLazy m) k rf vals.toArray k).toList := by
  have hsz : vals.toArray.size = 2^k := by simpa using hv
  have h := gd_transform_to_rev_eq (gd_lazy_fwd hm s hs1 hs2) k hk vals hv roots rf hrf hQ
    (fun l hl p hp => by
      rw [(runFwdA_eq (modArithLazy m) k rf vals.toArray hsz l (by omega)).2 p hp]
      exact (fwd_lazy_sim hm k rf hQ (arrFn vals.toArray) (fun p hp => ha _ (gd_arrFn_mem vals p (by omega))) l (by omega) p hp).1)
    none (fun x (sc : MulOperand) => (modArithLazy m).mulRoot x sc) (fun s hs => by cases hs)
  exact h

/-- GENERATED = MODEL for the lazy modular instance, inverse (values `< 2q`), with the scalar pass `Some(scalar)`:
    `mul_scalar` is the lazy Harvey multiplication, which never traps -/
theorem gd_lazy_transform_from_rev (hm : m.WF) (s : GenN.ModArithLazy) (hs1 : s.modulus = m) (hs2 : s.two_times_modulus = 2 * m.value)
    (k : Nat) (hk : k < 64) (vals : List Nat) (hv : vals.length = 2^k) (ha : ∀ x ∈ vals, x < 2 * m.value)
    (roots : List MulOperand) (rf : Nat → MulOperand) (hrf : ∀ j, j < 2^k → roots[j]? = some (rf j))
    (hQ : ∀ j, 0 < j → j < 2^k → WFOp m (rf j)) (sc : MulOperand) :
    transform_from_rev (arith_ModArithLazy s) vals k roots (some sc)
      = .ok ((runInvA (modArithLazy m) k rf vals.toArray k).toList.map (fun x => (modArithLazy m).mulRoot x sc)) := by
  have hsz : vals.toArray.size = 2^k := by simpa using hv
  have h := gd_transform_from_rev_eq (gd_lazy_inv hm s hs1 hs2) k hk vals hv roots rf hrf hQ
    (fun l hl p hp => by
      rw [(runInvA_eq (modArithLazy m) k rf vals.toArray hsz l (by omega)).2 p hp]
      exact (inv_lazy_sim hm k rf hQ (arrFn vals.toArray) (fun p hp => ha _ (gd_arrFn_mem vals p (by omega))) l (by omega) p hp).1)
    (some sc) (fun x (sc : MulOperand) => (modArithLazy m).mulRoot x sc) (fun s' _ p _ => by
      show Except.ok (GenN.mal_mul_scalar s _ s') = _
      rw [gx_mal_mul_scalar_eq s m _ s' hs1])
  exact h

/-- what the wrappers read from `NTTTables`, for a table of the model (`ntt_handler` = `NTTHandler::new(&ModArithLazy::new(&modulus))`) -/
def gd_view (t : NTTTables) : GenD.NTTTablesView :=
  { coeff_count_power := t.k, modulus := t.modulus, inv_degree_modulo := t.invDegree, root_powers := t.rootPowers.toList,
    inv_root_powers := t.invRootPowers.toList, ntt_handler := GenN.mal_new t.modulus }

/-- one conditional subtraction `if x ≥ q { x − q } else { x }`: the step of the final correction loops -/
def gd_corr2 (q x : Nat) : Nat := if x ≥ q then x - q else x

/-- `if a[j] >= q { a[j] -= q }` in front of the rest `k` of a loop body (the `-=` is guarded: no hypothesis) -/
theorem gd_corr_bind {β : Type} {a : List Nat} {j x : Nat} (q : Nat) (hx : a[j]? = some x) (k : List Nat → R β) :
    (do let t1 ← idxG a j
        let a ← (if t1 ≥ q then (do
          let t2 ← idxG a j
          let t3 ← ckSub t2 q
          let a ← setIdxG a j t3
          pure a) else (do
          pure a))
        k a) = k (a.set j (gd_corr2 q x)) := by
  obtain ⟨hj, rfl⟩ := List.getElem?_eq_some_iff.mp hx
  unfold gd_corr2
  by_cases c : a[j] ≥ q
  · simp only [gd_idxG_ok hx, c, ↓reduceIte, ckSub_of_le c, gd_setIdxG_ok _ hj, bind, Except.bind]
  · simp only [gd_idxG_ok hx, c, ↓reduceIte, List.set_getElem_self, bind, Except.bind, pure, Except.pure]

/-- the final correction of `ntt_negacyclic_harvey`: two guarded subtractions per word -/
theorem gd_ntt_corr_loop (q tq : Nat) (a : List Nat) :
    ntt_negacyclic_harvey_loop1 q tq a.length 0 a = .ok (a.map fun x => gd_corr2 q (gd_corr2 tq x)) :=
  Loop.write_map_ok (ntt_negacyclic_harvey_loop1 q tq) (fun x => gd_corr2 q (gd_corr2 tq x)) (fun _ => True) .ok a (fun _ _ => rfl)
    (fun fuel j a h _ => by
      rw [ntt_negacyclic_harvey_loop1, gd_corr_bind tq (List.getElem?_eq_getElem h), gd_corr_bind q (List.getElem?_set_self h), List.set_set])
    (fun _ _ => trivial)

/-- the final correction of `inverse_ntt_negacyclic_harvey`: one guarded subtraction per word -/
theorem gd_intt_corr_loop (q : Nat) (a : List Nat) :
    inverse_ntt_negacyclic_harvey_loop1 q a.length 0 a = .ok (a.map (gd_corr2 q)) :=
  Loop.write_map_ok (inverse_ntt_negacyclic_harvey_loop1 q) (gd_corr2 q) (fun _ => True) .ok a (fun _ _ => rfl)
    (fun fuel j a h _ => by rw [inverse_ntt_negacyclic_harvey_loop1, gd_corr_bind q (List.getElem?_eq_getElem h)]) (fun _ _ => trivial)

variable {t : NTTTables}

theorem gd_k_lt (hw : t.WF) : t.k < 64 := by
  have h := hw.klt
  have : t.k + 1 < 62 := (Nat.pow_lt_pow_iff_right (by decide)).mp h
  omega

theorem gd_ntt_lazy_eq (hw : t.WF) (a : List Nat) (hs : a.length = 2^t.k) (ha : ∀ x ∈ a, x < 4 * t.modulus.value) :
    ntt_negacyclic_harvey_lazy (gd_view t) a = .ok (nttLazy t a.toArray).toList := by
  have hm := hw.mwf
  have e := gd_lazy_transform_to_rev hm (GenN.mal_new t.modulus) rfl (gx_mal_new_two _ (by have := hm.lt; omega)) t.k (gd_k_lt hw) a hs ha
    t.rootPowers.toList (arrFn t.rootPowers) (fun j hj => gd_arrFn_get _ j (by rw [hw.rp_size]; exact hj)) (fun j h0 h1 => (hw.rp j h0 h1).1)
  unfold ntt_negacyclic_harvey_lazy
  show transform_to_rev (arith_ModArithLazy (GenN.mal_new t.modulus)) a t.k t.rootPowers.toList none = _
  rw [e]; rfl

theorem gd_ntt_eq (hw : t.WF) (a : List Nat) (hs : a.length = 2^t.k) (ha : ∀ x ∈ a, x < 4 * t.modulus.value) :
    ntt_negacyclic_harvey (gd_view t) a = .ok (ntt t a.toArray).toList := by
  have hq := hw.mwf.lt
  unfold ntt_negacyclic_harvey
  simp only [gd_ntt_lazy_eq hw a hs ha, bind, Except.bind]
  show ntt_negacyclic_harvey_loop1 t.modulus.value ((t.modulus.value <<< 1) % B64) (nttLazy t a.toArray).toList.length 0
      (nttLazy t a.toArray).toList = _
  rw [shl_one_mod (by omega), gd_ntt_corr_loop, ← Array.toList_map]; rfl

theorem gd_intt_lazy_eq (hw : t.WF) (a : List Nat) (hs : a.length = 2^t.k) (ha : ∀ x ∈ a, x < 2 * t.modulus.value) :
    inverse_ntt_negacyclic_harvey_lazy (gd_view t) a = .ok (inttLazy t a.toArray).toList := by
  have hm := hw.mwf
  obtain ⟨ri, _, _, h3⟩ := hw.irp
  have e := gd_lazy_transform_from_rev hm (GenN.mal_new t.modulus) rfl (gx_mal_new_two _ (by have := hm.lt; omega)) t.k (gd_k_lt hw) a hs ha
    t.invRootPowers.toList (arrFn t.invRootPowers) (fun j hj => gd_arrFn_get _ j (by rw [hw.irp_size]; exact hj))
    (fun j h0 h1 => (h3 j h0 h1).1) t.invDegree
  unfold inverse_ntt_negacyclic_harvey_lazy
  show transform_from_rev (arith_ModArithLazy (GenN.mal_new t.modulus)) a t.k t.invRootPowers.toList (some t.invDegree) = _
  rw [e]
  show Except.ok _ = Except.ok _
  congr 1
  unfold inttLazy transformFromRev
  rw [Array.toList_map]

theorem gd_intt_eq (hw : t.WF) (a : List Nat) (hs : a.length = 2^t.k) (ha : ∀ x ∈ a, x < 2 * t.modulus.value) :
    inverse_ntt_negacyclic_harvey (gd_view t) a = .ok (intt t a.toArray).toList := by
  unfold inverse_ntt_negacyclic_harvey
  simp only [gd_intt_lazy_eq hw a hs ha, bind, Except.bind]
  show inverse_ntt_negacyclic_harvey_loop1 t.modulus.value (inttLazy t a.toArray).toList.length 0 (inttLazy t a.toArray).toList = _
  rw [gd_intt_corr_loop, ← Array.toList_map]; rfl

/-- FORWARD, from source to mathematics: the function generated from `NTTTables::ntt_negacyclic_harvey` (handler call + correction loop,
    run on the fields of a well-formed table) maps the coefficient vector `a` (words `< 4q`) to the canonical residues of the
    evaluations of `Σ a_j X^j` at `ψ^(2·brev(i)+1)` -/
theorem gd_ntt_source_eval (hw : t.WF) (a : List Nat) (hs : a.length = 2^t.k) (ha : ∀ x ∈ a, x < 4 * t.modulus.value) :
    ∃ out, ntt_negacyclic_harvey (gd_view t) a = .ok out ∧ out.length = 2^t.k ∧
      ∀ i, i < 2^t.k → out[i]? = some (evalSpec t a.toArray i) := by
  have hsz : a.toArray.size = 2^t.k := by simpa using hs
  obtain ⟨e1, e2⟩ := ntt_eval hw a.toArray hsz (fun j hj => ha _ (gd_arrFn_mem a j (by omega)))
  refine ⟨_, gd_ntt_eq hw a hs ha, by simpa using e1, fun i hi => ?_⟩
  rw [gd_arrFn_get _ i (by omega)]; exact congrArg some (e2 i hi)

/-- INVERSE ∘ FORWARD on the generated functions: on a canonical vector the generated inverse transform undoes the generated forward one -/
theorem gd_source_roundtrip (hw : t.WF) (a : List Nat) (hs : a.length = 2^t.k) (ha : ∀ x ∈ a, x < t.modulus.value) :
    ∃ out, ntt_negacyclic_harvey (gd_view t) a = .ok out ∧ out.length = 2^t.k ∧
      (∀ i, i < 2^t.k → out[i]? = some (evalSpec t a.toArray i)) ∧
      inverse_ntt_negacyclic_harvey (gd_view t) out = .ok a := by
  have hq := hw.mwf.two_le
  have ha4 : ∀ x ∈ a, x < 4 * t.modulus.value := fun x hx => by have := ha x hx; omega
  have hsz : a.toArray.size = 2^t.k := by simpa using hs
  obtain ⟨out, e1, e2, e3⟩ := gd_ntt_source_eval hw a hs ha4
  have eo : out = (ntt t a.toArray).toList := by
    have := gd_ntt_eq hw a hs ha4
    rw [e1] at this; injection this
  obtain ⟨s1, s2⟩ := ntt_sim hw a.toArray hsz (fun j hj => ha4 _ (gd_arrFn_mem a j (by omega)))
  refine ⟨out, e1, e2, e3, ?_⟩
  rw [eo, gd_intt_eq hw _ (by simpa using s1) (fun x hx => mem_lt_of_getD (fun i hi => by have := (s2 i (by omega)).2.1; omega) x (Array.mem_def.mpr hx))]
  congr 1
  have := intt_ntt hw a.toArray hsz (fun j hj => ha _ (gd_arrFn_mem a j (by omega)))
  simp only [Array.toArray_toList] at *
  rw [this]

/-- FORWARD ∘ INVERSE on the generated functions: on canonical evaluations `b` the generated inverse transform returns a canonical
    coefficient vector whose generated forward transform is `b` (so its evaluations at `ψ^(2·brev(i)+1)` are the `b_i`) -/
theorem gd_source_inverse (hw : t.WF) (b : List Nat) (hs : b.length = 2^t.k) (hb : ∀ x ∈ b, x < t.modulus.value) :
    ∃ a, inverse_ntt_negacyclic_harvey (gd_view t) b = .ok a ∧ a.length = 2^t.k ∧ (∀ x ∈ a, x < t.modulus.value) ∧
      ntt_negacyclic_harvey (gd_view t) a = .ok b ∧ ∀ i, i < 2^t.k → b[i]? = some (evalSpec t a.toArray i) := by
  have hq := hw.mwf.two_le
  have hb2 : ∀ x ∈ b, x < 2 * t.modulus.value := fun x hx => by have := hb x hx; omega
  have hsz : b.toArray.size = 2^t.k := by simpa using hs
  obtain ⟨s1, s2⟩ := intt_sim hw b.toArray hsz (fun j hj => hb2 _ (gd_arrFn_mem b j (by omega)))
  have hac : ∀ x ∈ (intt t b.toArray).toList, x < t.modulus.value := fun x hx => mem_lt_of_getD (fun i hi => (s2 i (by omega)).1) x (Array.mem_def.mpr hx)
  have hlen : (intt t b.toArray).toList.length = 2^t.k := by simpa using s1
  obtain ⟨out, e1, e2, e3⟩ := gd_ntt_source_eval hw _ hlen (fun x hx => by have := hac x hx; omega)
  have eo : out = b := by
    have h1 := gd_ntt_eq hw _ hlen (fun x hx => by have := hac x hx; omega)
    rw [e1] at h1; injection h1 with h1
    have h2 := ntt_intt hw b.toArray hsz (fun j hj => hb _ (gd_arrFn_mem b j (by omega)))
    simp only [Array.toArray_toList] at h1
    rw [h1, h2]
  rw [eo] at e1 e3
  exact ⟨_, gd_intt_eq hw b hs hb2, hlen, hac, e1, e3⟩

end HC
