/- Audit of property C09: `#print axioms` for every property theorem of Props/C09.lean; `audit()` of tools/runner.py elaborates this file
   and compares each axiom list with the three standard axioms. -/
import Heathcliff.Props.C09
#print axioms HC.C09.brev_lt
#print axioms HC.C09.brev_brev
#print axioms HC.C09.brev_two_mul
#print axioms HC.C09.brev_two_mul_add_one
#print axioms HC.C09.brev_succ_of_lt
#print axioms HC.C09.brev_pred
#print axioms HC.C09.runFwd_congr
#print axioms HC.C09.runInv_congr
#print axioms HC.C09.fwd_eval
#print axioms HC.C09.inv_fwd
#print axioms HC.C09.fwd_inv
#print axioms HC.C09.eval_negMul
#print axioms HC.C09.ntt_convolution
#print axioms HC.C09.mulRoot_lazy
#print axioms HC.C09.fwd_lazy_sim
#print axioms HC.C09.inv_lazy_sim
#print axioms HC.C09.runFwdA_eq
#print axioms HC.C09.runInvA_eq
#print axioms HC.C09.reduce4
#print axioms HC.C09.reduce2
#print axioms HC.C09.isPrimitiveRoot_spec
#print axioms HC.C09.isPrim_odd_pow
#print axioms HC.C09.minimalRootFrom_spec
#print axioms HC.C09.composite_counterexample
#print axioms HC.C09.prim_is_odd_power_pow2
#print axioms HC.C09.root_deterministic_pow2
#print axioms HC.C09.minimalRoot_least_pow2
#print axioms HC.C09.root_deterministic_general_false
#print axioms HC.C09.nttLazy_spec
#print axioms HC.C09.ntt_eval
#print axioms HC.C09.inttLazy_range
#print axioms HC.C09.intt_ntt
#print axioms HC.C09.ntt_intt
#print axioms HC.C09.ntt_convolution_api
#print axioms HC.C09.NTTTables.new_wf_u64
#print axioms HC.C09.gen_mal_new_modulus
#print axioms HC.C09.gen_mal_new_two
#print axioms HC.C09.gen_mal_add_eq
#print axioms HC.C09.gen_mal_sub_eq
#print axioms HC.C09.gen_mal_mul_root_eq
#print axioms HC.C09.gen_mal_mul_scalar_eq
#print axioms HC.C09.gen_mal_guard_eq
#print axioms HC.C09.gen_new_add_eq
#print axioms HC.C09.gen_new_sub_eq
#print axioms HC.C09.gen_new_mul_root_eq
#print axioms HC.C09.gen_new_mul_scalar_eq
#print axioms HC.C09.gen_new_guard_eq
#print axioms HC.C09.gen_is_primitive_root_eq
#print axioms HC.C09.gen_transform_to_rev_eq
#print axioms HC.C09.gen_transform_from_rev_eq
#print axioms HC.C09.gen_transform_to_rev_total
#print axioms HC.C09.gen_transform_from_rev_total
#print axioms HC.C09.gen_lazy_fwd_realised
#print axioms HC.C09.gen_lazy_inv_realised
#print axioms HC.C09.gen_lazy_transform_to_rev
#print axioms HC.C09.gen_lazy_transform_from_rev
#print axioms HC.C09.gen_ntt_lazy_eq
#print axioms HC.C09.gen_ntt_eq
#print axioms HC.C09.gen_intt_lazy_eq
#print axioms HC.C09.gen_intt_eq
#print axioms HC.C09.gen_ntt_source_to_math
#print axioms HC.C09.gen_intt_source_to_math
#print axioms HC.C09.gen_ntt_source_eval
#print axioms HC.C09.gen_dyadic_product_inplace_any_operands
#print axioms HC.C09.gen_dyadic_product_any_operands
