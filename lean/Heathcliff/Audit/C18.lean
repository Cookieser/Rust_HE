/- Audit of property C18: `#print axioms` for every property theorem of Props/C18.lean; `audit()` of tools/runner.py elaborates this file
   and compares each axiom list with the three standard axioms. -/
import Heathcliff.Props.C18
#print axioms HC.C18.finish_order_independent
#print axioms HC.C18.finish_fold_perm
#print axioms HC.C18.finish_sum
#print axioms HC.C18.all_parties_agree
#print axioms HC.C18.finish_refuses_incomplete
#print axioms HC.C18.collective_pk
#print axioms HC.C18.collective_pk_all_parties
#print axioms HC.C18.collective_rlk
#print axioms HC.C18.decrypt_sum
#print axioms HC.C18.keyswitch_sum
#print axioms HC.C18.pks_sum
#print axioms HC.C18.c2s_phase
#print axioms HC.C18.s2c_phase
#print axioms HC.C18.s2c_other_party_phase
#print axioms HC.C18.shares_roundtrip
#print axioms HC.C18.noise_sum_bound
#print axioms HC.C18.final_decode_bfv
#print axioms HC.C18.final_decode_bgv
#print axioms HC.C18.final_decode_ckks
#print axioms HC.C18.gen_sample_noise
#print axioms HC.C18.gen_key_switch
#print axioms HC.C18.gen_decrypt
#print axioms HC.C18.gen_public_key_switch
#print axioms HC.C18.gen_constructors_refuse_size
#print axioms HC.C18.gen_reveal
#print axioms HC.C18.gen_run
#print axioms HC.C18.gen_finish
#print axioms HC.C18.gen_rlk_new
#print axioms HC.C18.gen_rlk_step2
#print axioms HC.C18.gen_rlk_finish
#print axioms HC.C18.gen_rlk_step2_refuses
#print axioms HC.C18.gen_collective_decrypt
#print axioms HC.C18.gen_collective_key_switch
#print axioms HC.C18.gen_collective_pks
#print axioms HC.C18.gen_collective_pk
#print axioms HC.C18.gen_collective_rlk
#print axioms HC.C18.gen_rlk_receive_send
#print axioms HC.C18.gen_pks_receive
