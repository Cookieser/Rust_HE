/- C08 part A: the single-word modular primitives of src/util/uintsmallmod.rs (`increment_u64_mod` … `multiply_u64operand_mod`,
   `barrett_reduce_u64/u128`, `dot_product_mod`, `modulo_uint`) and `MultiplyU64ModOperand::new` return the exact residue; the lazy
   Harvey multiplication a congruent value below 2q.  One estimate serves Barrett and Harvey: with `t = ⌊x·⌊y·N/q⌋ / N⌋` for the quotient,
   `x·y − t·q` lies in [0, 2q) (`harvey_bounds`, `barrett_bounds`), so one conditional subtraction ends it. -/
import Heathcliff.Proofs.Word
namespace HC

variable {m : Modulus}

/-! ### one word: wrapped difference, sum and difference with carry (products: `mulHiLo`, `mulLo_lt`, `mulHi_le` in Proofs/Word) -/

theorem wSub_of_le {a b : Nat} (h : b ≤ a) (ha : a < B64) : wSub a b = a - b := by
  unfold wSub
  rw [Nat.mod_eq_of_lt (lt_of_le_of_lt h ha), show a + B64 - b = a - b + B64 by omega, Nat.add_mod_right,
    Nat.mod_eq_of_lt (by omega)]

theorem wSub_of_lt {a b : Nat} (h : a < b) (hb : b < B64) : wSub a b = a + B64 - b := by
  unfold wSub
  rw [Nat.mod_eq_of_lt hb, Nat.mod_eq_of_lt (by omega)]

/-- the two cases of a wrapped subtraction of words -/
theorem wSub_cases {a b : Nat} (ha : a < B64) (hb : b < B64) :
    (b ≤ a ∧ wSub a b = a - b) ∨ (a < b ∧ wSub a b = a + B64 - b) := by
  by_cases h : b ≤ a
  · exact Or.inl ⟨h, wSub_of_le h ha⟩
  · exact Or.inr ⟨by omega, wSub_of_lt (by omega) hb⟩

theorem addU64_fst (a b : Nat) : (addU64 a b).1 = (a + b) % B64 := rfl

theorem addU64_snd {a b : Nat} (ha : a < B64) (hb : b < B64) :
    (addU64 a b).2 = (a + b) / B64 := by
  show (if wAdd a b < a then 1 else 0) = _
  unfold wAdd B64 at *
  split <;> omega

theorem add_div_le_one {a b B : Nat} (ha : a < B) (hb : b < B) : (a + b) / B ≤ 1 :=
  Nat.lt_succ_iff.mp (Nat.div_lt_of_lt_mul (by omega))

theorem addU64_spec {a b : Nat} (ha : a < 2^64) (hb : b < 2^64) :
    (addU64 a b).1 + 2^64 * (addU64 a b).2 = a + b ∧ (addU64 a b).1 < 2^64 ∧ (addU64 a b).2 ≤ 1 := by
  rw [← B64_eq] at ha hb ⊢
  rw [addU64_fst, addU64_snd ha hb]
  exact ⟨Nat.mod_add_div _ _, Nat.mod_lt _ B64_pos, add_div_le_one ha hb⟩

theorem addU64Carry_spec {a b c : Nat} (ha : a < 2^64) (hb : b < 2^64) (hc : c ≤ 1) :
    (addU64Carry a b c).1 + 2^64 * (addU64Carry a b c).2 = a + b + c ∧ (addU64Carry a b c).1 < 2^64 ∧ (addU64Carry a b c).2 ≤ 1 := by
  unfold addU64Carry wAdd notW B64
  norm_num at ha hb ⊢
  split <;> omega

theorem subU64_spec {a b : Nat} (ha : a < 2^64) (hb : b < 2^64) :
    (subU64 a b).1 + b = a + 2^64 * (subU64 a b).2 ∧ (subU64 a b).1 < 2^64 ∧ (subU64 a b).2 ≤ 1 := by
  rw [← B64_eq] at ha hb ⊢
  show wSub a b + b = a + B64 * (if b > a then 1 else 0) ∧ wSub a b < B64 ∧ (if b > a then 1 else 0) ≤ 1
  obtain ⟨h, e⟩ | ⟨h, e⟩ := wSub_cases ha hb
  · rw [e, if_neg (by omega)]; omega
  · rw [e, if_pos h]; omega

/-- four cases: whether `a - b` borrows, and whether taking the incoming borrow from the difference borrows -/
theorem subU64Borrow_spec {a b c : Nat} (ha : a < 2^64) (hb : b < 2^64) (hc : c ≤ 1) :
    (subU64Borrow a b c).1 + b + c = a + 2^64 * (subU64Borrow a b c).2 ∧ (subU64Borrow a b c).1 < 2^64 ∧ (subU64Borrow a b c).2 ≤ 1 := by
  rw [← B64_eq] at ha hb ⊢
  have hB : 2 ≤ B64 := by norm_num [B64]
  show wSub (wSub a b) (if c ≠ 0 then 1 else 0) + b + c = a + B64 * (if wSub a b > a ∨ wSub a b < c then 1 else 0) ∧
    wSub (wSub a b) (if c ≠ 0 then 1 else 0) < B64 ∧ (if wSub a b > a ∨ wSub a b < c then 1 else 0) ≤ 1
  rw [show (if c ≠ 0 then 1 else 0) = c by split <;> omega]
  obtain ⟨h1, e1⟩ | ⟨h1, e1⟩ := wSub_cases ha hb
  · obtain ⟨h2, e2⟩ | ⟨h2, e2⟩ := wSub_cases (a := wSub a b) (b := c) (by omega) (by omega)
    · rw [e2, e1, if_neg (by omega)]; omega
    · rw [e2, e1, if_pos (by omega)]; omega
  · obtain ⟨h2, e2⟩ | ⟨h2, e2⟩ := wSub_cases (a := wSub a b) (b := c) (by omega) (by omega)
    · rw [e2, e1, if_pos (by omega)]; omega
    · omega

theorem notW_add {x : Nat} (hx : x < 2^64) : notW x + x + 1 = B64 := by
  unfold notW B64; norm_num at hx ⊢; omega

theorem notW_lt {x : Nat} : notW x < 2^64 := by
  unfold notW B64; norm_num; omega

/-! ### increment, decrement, negation, sum, difference modulo q -/

theorem condSub_eq {r q : Nat} (hr : r < 2 * q) :
    (if r ≥ q then ckSub r q else (pure r : R Nat)) = .ok (r % q) := by
  by_cases hge : r ≥ q
  · rw [if_pos hge]
    unfold ckSub
    rw [if_pos hge, Nat.mod_eq_sub_mod hge, Nat.mod_eq_of_lt (by omega)]
  · rw [if_neg hge, Nat.mod_eq_of_lt (by omega)]; rfl

theorem condSub_eq' {r q x : Nat} (hr : r < 2 * q) (hx : r % q = x % q) :
    (if r ≥ q then ckSub r q else (pure r : R Nat)) = .ok (x % q) := by
  rw [condSub_eq hr, hx]

theorem incrementMod_exact (h : m.WF) {x : Nat} (hx : x ≤ 2 * m.value - 2) :
    incrementMod x m = .ok ((x + 1) % m.value) := by
  have h2 := h.two_le; have hl := h.lt
  unfold incrementMod ckAdd
  simp only [bind, Except.bind]
  rw [if_pos (by unfold B64; omega)]
  exact condSub_eq (by omega)

theorem decrementMod_exact (h : m.WF) {x : Nat} (hx : x < m.value) :
    decrementMod x m = .ok ((x + m.value - 1) % m.value) := by
  have h2 := h.two_le
  unfold decrementMod ckSub
  by_cases h0 : x = 0
  · subst h0
    rw [if_pos rfl, if_pos (by omega)]
    rw [Nat.mod_eq_of_lt (by omega)]; simp
  · rw [if_neg h0, if_pos (by omega)]
    have : x + m.value - 1 = (x - 1) + m.value := by omega
    rw [this, Nat.add_mod_right, Nat.mod_eq_of_lt (by omega)]

theorem negateMod_exact (h : m.WF) {x : Nat} (hx : x ≤ m.value) :
    negateMod x m = .ok ((m.value - x) % m.value) := by
  have h2 := h.two_le
  unfold negateMod ckSub
  by_cases h0 : x = 0
  · subst h0
    rw [if_pos rfl]; simp; rfl
  · rw [if_neg h0, if_pos hx, Nat.mod_eq_of_lt (by omega)]

theorem addMod_exact (h : m.WF) {x y : Nat} (hx : x < m.value) (hy : y < m.value) :
    addMod x y m = .ok ((x + y) % m.value) := by
  have h2 := h.two_le; have hl := h.lt
  unfold addMod ckAdd
  simp only [bind, Except.bind]
  rw [if_pos (by unfold B64; omega)]
  exact condSub_eq (by omega)

theorem subMod_exact (h : m.WF) {x y : Nat} (hx : x < m.value) (hy : y < m.value) :
    subMod x y m = .ok ((x + m.value - y) % m.value) := by
  have hq : m.value < B64 := by have := h.lt; unfold B64; omega
  unfold subMod subU64
  simp only [pure, Except.pure]
  congr 1
  by_cases hlt : y > x
  · rw [if_pos hlt, if_pos Nat.one_pos, wSub_of_lt hlt (by omega), Nat.mod_eq_of_lt (by omega)]
    unfold wAdd
    rw [show x + B64 - y + m.value = x + m.value - y + B64 by omega, Nat.add_mod_right, Nat.mod_eq_of_lt (by omega)]
  · rw [if_neg hlt, if_neg (Nat.lt_irrefl 0), wSub_of_le (by omega) (by omega),
      show x + m.value - y = x - y + m.value by omega, Nat.add_mod_right, Nat.mod_eq_of_lt (by omega)]

/-! ### quotient estimate shared by Barrett and Harvey -/

/-- `w = ⌊yN/q⌋`, `t = ⌊xw/N⌋`, `x ≤ N` ⇒ `tq ≤ xy < tq + 2q` -/
theorem harvey_bounds {x y q N : Nat} (hq : 0 < q) (hN : 0 < N) (hx : x ≤ N) :
    (x * (y * N / q) / N) * q ≤ x * y ∧ x * y < (x * (y * N / q) / N) * q + 2 * q := by
  generalize hw : y * N / q = w
  generalize ht : x * w / N = t
  have h1 : t * N ≤ x * w := by rw [← ht]; exact Nat.div_mul_le_self _ _
  have h2 : w * q ≤ y * N := by rw [← hw]; exact Nat.div_mul_le_self _ _
  have h3 : x * w < t * N + N := by rw [← ht]; exact Nat.lt_div_mul_add hN
  have h4 : y * N < w * q + q := by rw [← hw]; exact Nat.lt_div_mul_add hq
  constructor
  · apply Nat.le_of_mul_le_mul_right _ hN
    calc t * q * N = (t * N) * q := by ring
      _ ≤ (x * w) * q := Nat.mul_le_mul_right _ h1
      _ = x * (w * q) := by ring
      _ ≤ x * (y * N) := Nat.mul_le_mul_left _ h2
      _ = x * y * N := by ring
  · apply Nat.lt_of_mul_lt_mul_right (a := N)
    have a : x * y * N ≤ x * w * q + x * q := by
      calc x * y * N = x * (y * N) := by ring
        _ ≤ x * (w * q + q) := Nat.mul_le_mul_left _ h4.le
        _ = _ := by ring
    have b : x * w * q < (t * N + N) * q := Nat.mul_lt_mul_of_pos_right h3 hq
    have c : x * q ≤ N * q := Nat.mul_le_mul_right _ hx
    calc x * y * N ≤ x * w * q + x * q := a
      _ < (t * N + N) * q + N * q := by omega
      _ = (t * q + 2 * q) * N := by ring

theorem barrett_bounds {x q N : Nat} (hq : 0 < q) (hN : 0 < N) (hx : x ≤ N) :
    (x * (N / q) / N) * q ≤ x ∧ x < (x * (N / q) / N) * q + 2 * q := by
  have := harvey_bounds (y := 1) hq hN hx
  simpa using this

/-- wrapped subtraction recovers a small true difference -/
theorem wSub_mod_eq {X P d : Nat} (hX : X = P + d) (hd : d < B64) :
    wSub (X % B64) (P % B64) = d := by
  unfold wSub B64 at *
  omega

theorem mod_eq_of_sub {x p d q : Nat} (hx : x = p * q + d) : d % q = x % q := by
  rw [hx, Nat.add_comm, Nat.add_mul_mod_self_right]

theorem barrett64_exact (h : m.WF) {x : Nat} (hx : x < 2^64) :
    barrett64 x m = .ok (x % m.value) := by
  have h2 := h.two_le; have hl := h.lt
  obtain ⟨b1, b2⟩ := barrett_bounds (x := x) (q := m.value) (N := 2^64) (by omega) (by norm_num) hx.le
  unfold barrett64 mulHi ckMul
  rw [h.cr1_eq, B64_eq]
  generalize x * (2^64 / m.value) / 2^64 = t at *
  simp only [bind, Except.bind]
  rw [if_pos (by omega)]
  unfold ckSub
  simp only []
  rw [if_pos b1]
  simp only []
  refine condSub_eq' (by omega) (mod_eq_of_sub (p := t) (by omega))

theorem mulOperand_new (h : m.WF) {y : Nat} (hy : y < m.value) :
    ∃ o, MulOperand.new y m = .ok o ∧ o.operand = y ∧ o.quotient = y * 2^64 / m.value := by
  have h2 := h.two_le
  unfold MulOperand.new
  rw [if_neg (by omega)]
  refine ⟨_, rfl, rfl, ?_⟩
  show y * B64 / m.value % B64 = _
  rw [B64_eq]
  apply Nat.mod_eq_of_lt
  apply Nat.div_lt_of_lt_mul
  exact Nat.mul_lt_mul_of_pos_right hy (by norm_num)

theorem mulOperand_new_eq (h : m.WF) {y : Nat} (hy : y < m.value)
    {o : MulOperand} (ho : MulOperand.new y m = .ok o) :
    o.operand = y ∧ o.quotient = y * 2^64 / m.value := by
  obtain ⟨o', h1, h2, h3⟩ := mulOperand_new h hy
  rw [ho] at h1
  injection h1 with h1
  subst h1
  exact ⟨h2, h3⟩

/-- Harvey lazy multiplication: for EVERY x < 2^64 the result is congruent and below 2q -/
theorem mulOperandModLazy_spec (h : m.WF) {x y : Nat} (hx : x < 2^64) (hy : y < m.value)
    {o : MulOperand} (ho : MulOperand.new y m = .ok o) :
    mulOperandModLazy x o m < 2 * m.value ∧ mulOperandModLazy x o m % m.value = (x * y) % m.value := by
  have h2 := h.two_le; have hl := h.lt
  obtain ⟨e1, e2⟩ := mulOperand_new_eq h hy ho
  obtain ⟨b1, b2⟩ := harvey_bounds (x := x) (y := y) (q := m.value) (N := 2^64) (by omega) (by norm_num) hx.le
  unfold mulOperandModLazy mulHi wMul
  rw [e1, e2, B64_eq]
  generalize x * (y * 2^64 / m.value) / 2^64 = t at *
  simp only []
  have key : wSub (y * x % 2^64) (t * m.value % 2^64) = x * y - t * m.value := by
    rw [← B64_eq]
    apply wSub_mod_eq
    · rw [Nat.mul_comm y x]; omega
    · rw [B64_eq]; omega
  rw [key]
  exact ⟨by omega, mod_eq_of_sub (p := t) (by omega)⟩

theorem mulOperandMod_exact (h : m.WF) {x y : Nat} (hx : x < 2^64) (hy : y < m.value)
    {o : MulOperand} (ho : MulOperand.new y m = .ok o) :
    mulOperandMod x o m = .ok ((x * y) % m.value) := by
  obtain ⟨s1, s2⟩ := mulOperandModLazy_spec h hx hy ho
  unfold mulOperandMod
  exact condSub_eq' s1 s2

/-! ### Barrett reduction of a 128-bit value -/

/-- the carry schedule of `barrett_reduce_u128`: with `A, E, C, D` the four word products `x0·c0, x0·c1, x1·c0, x1·c1` of
    `x = x0 + 2^64·x1` and `c = c0 + 2^64·c1`, the three additions with carry of the code yield `⌊x·c / 2^128⌋` exactly -/
theorem carry_chain (A E C D : Nat) :
    D + (E / B64 + (E % B64 + A / B64) / B64) + (C / B64 + ((E % B64 + A / B64) % B64 + C % B64) / B64)
      = (A + B64 * (E + C) + B64 * B64 * D) / (B64 * B64) := by
  unfold B64; omega

theorem wAdd3 (a b v w : Nat) : wAdd (wAdd (wMul a b) v) w = (a * b + v + w) % B64 := by
  unfold wAdd wMul B64
  omega

theorem barrett128_unfold (x0 x1 : Nat) (m : Modulus) :
    barrett128 x0 x1 m =
      (ckAdd (mulHi x0 m.cr1) (addU64 (mulLo x0 m.cr1) (mulHi x0 m.cr0)).2).bind fun tmp3 =>
      (ckAdd (mulHi x1 m.cr0)
        (addU64 (addU64 (mulLo x0 m.cr1) (mulHi x0 m.cr0)).1 (mulLo x1 m.cr0)).2).bind fun carry2 =>
      if wSub x0 (wMul (wAdd (wAdd (wMul x1 m.cr1) tmp3) carry2) m.value) ≥ m.value
      then ckSub (wSub x0 (wMul (wAdd (wAdd (wMul x1 m.cr1) tmp3) carry2) m.value)) m.value
      else pure (wSub x0 (wMul (wAdd (wAdd (wMul x1 m.cr1) tmp3) carry2) m.value)) := rfl

/-- the quotient estimate `⌊x·c / 2^128⌋ mod 2^64` as the code computes it.  `c1 ≤ 2^63` (the high word of `⌊2^128/q⌋`, `q ≥ 2`) keeps
    `mulHi x0 c1 < 2^63`, so the two CHECKED additions of a carry do not trap; the last line of the code wraps on purpose. -/
theorem barrett128_core {x0 x1 c0 c1 : Nat} (h0 : x0 < B64) (h1 : x1 < B64)
    (hc0 : c0 < B64) (hc1 : c1 ≤ 2^63) :
    ∃ v w,
      ckAdd (mulHi x0 c1) (addU64 (mulLo x0 c1) (mulHi x0 c0)).2 = .ok v ∧
      ckAdd (mulHi x1 c0) (addU64 (addU64 (mulLo x0 c1) (mulHi x0 c0)).1 (mulLo x1 c0)).2 = .ok w ∧
      wAdd (wAdd (wMul x1 c1) v) w = ((x0 + B64 * x1) * (c0 + B64 * c1) / (B64 * B64)) % B64 := by
  have hA : x0 * c0 < B64 * B64 := Nat.mul_lt_mul'' h0 hc0
  have hE : x0 * c1 ≤ (B64 - 1) * 2^63 := Nat.mul_le_mul (by omega) hc1
  have hC : x1 * c0 ≤ (B64 - 1) * (B64 - 1) := Nat.mul_le_mul (by omega) (by omega)
  have hexp : (x0 + B64 * x1) * (c0 + B64 * c1)
      = x0 * c0 + B64 * (x0 * c1 + x1 * c0) + B64 * B64 * (x1 * c1) := by ring
  rw [hexp, ← carry_chain]
  unfold mulHi mulLo
  generalize x0 * c0 = A at *
  generalize x0 * c1 = E at *
  generalize x1 * c0 = C at *
  have hAd : A / B64 < B64 := Nat.div_lt_of_lt_mul hA
  have hEd : E / B64 < 2^63 := by
    apply Nat.div_lt_of_lt_mul
    simp only [B64] at *; omega
  have hCd : C / B64 < B64 - 1 := by
    apply Nat.div_lt_of_lt_mul
    simp only [B64] at *; omega
  rw [addU64_fst, addU64_snd (Nat.mod_lt _ B64_pos) hAd,
    addU64_snd (Nat.mod_lt _ B64_pos) (Nat.mod_lt _ B64_pos)]
  have hB := B64_pos
  have k1 : (E % B64 + A / B64) / B64 ≤ 1 := add_div_le_one (Nat.mod_lt _ hB) hAd
  have k2 : ((E % B64 + A / B64) % B64 + C % B64) / B64 ≤ 1 := add_div_le_one (Nat.mod_lt _ hB) (Nat.mod_lt _ hB)
  have h63 : (2:Nat)^63 + 1 < B64 := by norm_num [B64]
  exact ⟨_, _, ckAdd_ok (by omega), ckAdd_ok (by omega), wAdd3 _ _ _ _⟩

theorem barrett128_exact (h : m.WF) {x0 x1 : Nat} (h0 : x0 < 2^64) (h1 : x1 < 2^64) :
    barrett128 x0 x1 m = .ok ((x0 + 2^64 * x1) % m.value) := by
  have h2 := h.two_le; have hl := h.lt
  have hcr0 := h.cr0_lt
  have hcr1 : m.cr1 ≤ 2^63 := by
    rw [h.cr1_eq]; apply Nat.le_of_lt_succ; apply Nat.div_lt_of_lt_mul; omega
  rw [← B64_eq] at h0 h1 ⊢
  obtain ⟨v, w, e1, e2, e3⟩ := barrett128_core h0 h1 hcr0 hcr1
  have hx : x0 + B64 * x1 < 2^128 := by simp only [B64] at *; omega
  obtain ⟨b1, b2⟩ := barrett_bounds (x := x0 + B64 * x1) (q := m.value) (N := 2^128)
    (by omega) (by norm_num) hx.le
  rw [h.ratio, show B64 * B64 = 2^128 by norm_num [B64]] at e3
  rw [barrett128_unfold, e1, e2]
  simp only [Except.bind]
  rw [e3]
  generalize (x0 + B64 * x1) * (2^128 / m.value) / 2^128 = t at *
  have e4 : wMul (t % B64) m.value = (t * m.value) % B64 := by
    unfold wMul; exact Nat.mod_mul_mod _ _ _
  have e5 : x0 = (x0 + B64 * x1) % B64 := by
    rw [Nat.add_mul_mod_self_left, Nat.mod_eq_of_lt h0]
  have key : wSub x0 (wMul (t % B64) m.value) = (x0 + B64 * x1) - t * m.value := by
    rw [e4]
    conv_lhs => rw [e5]
    apply wSub_mod_eq
    · omega
    · simp only [B64] at *; omega
  rw [key]
  exact condSub_eq' (by omega) (mod_eq_of_sub (p := t) (by omega))

/-! ### products -/

theorem mulMod_exact (h : m.WF) {x y : Nat} (hx : x < 2^64) (hy : y < 2^64) :
    mulMod x y m = .ok ((x * y) % m.value) := by
  rw [← B64_eq] at hx hy
  have hh := mulHi_le hx hy
  unfold mulMod
  have hlo : mulLo x y < B64 := Nat.mod_lt _ B64_pos
  rw [barrett128_exact h (x0 := mulLo x y) (x1 := mulHi x y) (by rw [← B64_eq]; exact hlo)
    (by rw [← B64_eq]; omega), ← B64_eq, mulHiLo]

theorem mulAddMod_exact (h : m.WF) {x y z : Nat} (hx : x < 2^64) (hy : y < 2^64) (hz : z < 2^64) :
    mulAddMod x y z m = .ok ((x * y + z) % m.value) := by
  rw [← B64_eq] at hx hy hz
  have hh := mulHi_le hx hy
  have hlo : mulLo x y < B64 := Nat.mod_lt _ B64_pos
  have e := mulHiLo x y
  have unf : mulAddMod x y z m =
      (ckAdd (mulHi x y) (addU64 (mulLo x y) z).2).bind fun hi' =>
        barrett128 (addU64 (mulLo x y) z).1 hi' m := rfl
  rw [unf, addU64_snd hlo hz, addU64_fst]
  have k := add_div_le_one hlo hz
  rw [ckAdd_ok (by omega)]
  simp only [Except.bind]
  rw [barrett128_exact h (B64_eq ▸ Nat.mod_lt _ B64_pos) (B64_eq ▸ (by omega : _ < B64))]
  congr 2
  rw [← e, ← B64_eq, Nat.mul_add]
  have := Nat.mod_add_div (mulLo x y + z) B64
  omega

theorem mulOperandAddMod_exact (h : m.WF) {x y z : Nat} (hx : x < 2^64) (hy : y < m.value) (hz : z < 2^64)
    {o : MulOperand} (ho : MulOperand.new y m = .ok o) :
    mulOperandAddMod x o z m = .ok ((x * y + z) % m.value) := by
  have h2 := h.two_le
  unfold mulOperandAddMod
  simp only [bind, Except.bind]
  rw [mulOperandMod_exact h hx hy ho]; simp only []
  rw [barrett64_exact h hz]; simp only []
  rw [addMod_exact h (Nat.mod_lt _ (by omega)) (Nat.mod_lt _ (by omega)), ← Nat.add_mod]

/-! ### halving -/

theorem div2Mod_unfold (x : Nat) (m : Modulus) :
    div2Mod x m = if x % 2 = 1 then
        pure (if (addU64 x m.value).2 > 0
          then (addU64 x m.value).1 / 2 + 2^63 - ((addU64 x m.value).1 / 2 / 2^63 % 2) * 2^63
          else (addU64 x m.value).1 / 2)
      else pure (x / 2) := rfl

theorem div2Mod_exact (h : m.WF) (hodd : m.value % 2 = 1) {x : Nat} (hx : x < m.value) :
    ∃ y, div2Mod x m = .ok y ∧ y < m.value ∧ (2 * y) % m.value = x := by
  have hs : x + m.value < B64 := by have := h.lt; unfold B64; omega
  rw [div2Mod_unfold]
  by_cases hxo : x % 2 = 1
  · rw [if_pos hxo, addU64_snd (by omega) (by omega), addU64_fst, Nat.div_eq_of_lt hs, Nat.mod_eq_of_lt hs,
      if_neg (Nat.lt_irrefl 0)]
    refine ⟨_, rfl, by omega, ?_⟩
    rw [show 2 * ((x + m.value) / 2) = x + m.value by omega, Nat.add_mod_right, Nat.mod_eq_of_lt hx]
  · rw [if_neg hxo]
    refine ⟨_, rfl, by omega, ?_⟩
    rw [show 2 * (x / 2) = x by omega, Nat.mod_eq_of_lt hx]

/-! ### dot product -/

theorem dotProduct_sum_le (xs ys : List Nat)
    (hxs : ∀ x ∈ xs, x < 2^61) (hys : ∀ y ∈ ys, y < 2^61) :
    ((xs.zip ys).map (fun p => p.1 * p.2)).sum ≤ xs.length * (2^122 - 1) := by
  induction xs generalizing ys with
  | nil => simp
  | cons a xs ih =>
    cases ys with
    | nil => simp
    | cons b ys =>
      have ha : a < 2^61 := hxs a (by simp)
      have hb : b < 2^61 := hys b (by simp)
      have hab : a * b ≤ (2^61 - 1) * (2^61 - 1) := Nat.mul_le_mul (by omega) (by omega)
      have ih' := ih ys (fun x hx => hxs x (by simp [hx])) (fun y hy => hys y (by simp [hy]))
      simp only [List.zip_cons_cons, List.map_cons, List.sum_cons, List.length_cons]
      have : (xs.length + 1) * (2^122 - 1) = xs.length * (2^122 - 1) + (2^122 - 1) := by ring
      rw [this]
      norm_num at hab ⊢
      omega

theorem dotProduct_sum_bound {xs ys : List Nat} (hl : xs.length = ys.length) (hn : xs.length ≤ 64)
    (hxs : ∀ x ∈ xs, x < 2^61) (hys : ∀ y ∈ ys, y < 2^61) :
    ((xs.zip ys).map (fun p => p.1 * p.2)).sum < 2^128 := by
  have h1 := dotProduct_sum_le xs ys hxs hys
  have h2 : xs.length * (2^122 - 1) ≤ 64 * (2^122 - 1) := Nat.mul_le_mul_right _ hn
  norm_num at h1 h2 ⊢
  omega

theorem addU128_unfold (a0 a1 b0 b1 : Nat) :
    addU128 a0 a1 b0 b1 = ((a0 + b0) % B64, wAdd (wAdd a1 b1) (addU64 a0 b0).2) := rfl

theorem addU128_val {a0 a1 b0 b1 : Nat} (ha0 : a0 < B64) (ha1 : a1 < B64) (hb0 : b0 < B64)
    (hb1 : b1 < B64) (hs : a0 + B64 * a1 + (b0 + B64 * b1) < B64 * B64) :
    (addU128 a0 a1 b0 b1).1 + B64 * (addU128 a0 a1 b0 b1).2 = a0 + B64 * a1 + (b0 + B64 * b1) ∧
    (addU128 a0 a1 b0 b1).1 < B64 ∧ (addU128 a0 a1 b0 b1).2 < B64 := by
  rw [addU128_unfold, addU64_snd ha0 hb0]
  unfold wAdd
  simp only [B64] at *
  omega

theorem dot_fold (l : List (Nat × Nat)) (hl : ∀ p ∈ l, p.1 < B64 ∧ p.2 < B64) (acc : Nat × Nat)
    (h1 : acc.1 < B64) (h2 : acc.2 < B64)
    (hs : acc.1 + B64 * acc.2 + (l.map (fun p => p.1 * p.2)).sum < B64 * B64) :
    let r := l.foldl (fun (acc : Nat × Nat) (p : Nat × Nat) =>
      addU128 acc.1 acc.2 (mulLo p.1 p.2) (mulHi p.1 p.2)) acc
    r.1 + B64 * r.2 = acc.1 + B64 * acc.2 + (l.map (fun p => p.1 * p.2)).sum ∧
      r.1 < B64 ∧ r.2 < B64 := by
  induction l generalizing acc with
  | nil => simp; exact ⟨h1, h2⟩
  | cons p l ih =>
    obtain ⟨hp1, hp2⟩ := hl p (by simp)
    simp only [List.map_cons, List.sum_cons, List.foldl_cons] at hs ⊢
    have e := mulHiLo p.1 p.2
    have hlo : mulLo p.1 p.2 < B64 := Nat.mod_lt _ B64_pos
    have hhi : mulHi p.1 p.2 < B64 := by have := mulHi_le hp1 hp2; omega
    obtain ⟨v1, v2, v3⟩ := addU128_val h1 h2 hlo hhi (by rw [e]; omega)
    have := ih (fun q hq => hl q (by simp [hq])) _ v2 v3 (by rw [v1, e]; omega)
    simp only [] at this
    rw [v1, e] at this
    refine ⟨by omega, this.2⟩

theorem dotProductMod_exact (h : m.WF) {xs ys : List Nat} (hl : xs.length = ys.length)
    (hxs : ∀ x ∈ xs, x < 2^64) (hys : ∀ y ∈ ys, y < 2^64)
    (hsum : ((xs.zip ys).map (fun p => p.1 * p.2)).sum < 2^128) :
    dotProductMod xs ys m = .ok (((xs.zip ys).map (fun p => p.1 * p.2)).sum % m.value) := by
  unfold dotProductMod
  rw [if_neg (by omega)]
  have hB : B64 * B64 = 2^128 := by norm_num [B64]
  obtain ⟨r1, r2, r3⟩ := dot_fold (xs.zip ys)
    (fun p hp => by
      have := List.of_mem_zip (a := p.1) (b := p.2) hp
      rw [B64_eq]; exact ⟨hxs _ this.1, hys _ this.2⟩)
    (0, 0) B64_pos B64_pos (by rw [hB]; simpa using hsum)
  simp only [] at r1 r2 r3 ⊢
  rw [barrett128_exact h (by rw [← B64_eq]; exact r2) (by rw [← B64_eq]; exact r3), ← B64_eq, r1]
  simp

/-! ### multi-limb reduction -/

theorem mod_congr_aux (T P X q : Nat) : (T + P * (X % q)) % q = (T + P * X) % q := by
  rw [Nat.add_mod T (P * (X % q)) q, Nat.mul_mod P (X % q) q, Nat.mod_mod,
    ← Nat.mul_mod, ← Nat.add_mod]

theorem toNat_reverse_cons (x : Nat) (l : List Nat) :
    toNat (x :: l).reverse = toNat l.reverse + 2^(64*l.length) * x := by
  rw [List.reverse_cons, toNat_append, List.length_reverse]; simp [toNat]

/-- the limbs are folded in from the top one, which alone need not be reduced -/
theorem moduloFold (h : m.WF) : ∀ (l : List Nat), l ≠ [] → (∀ x ∈ l, x < 2^64) → ∀ acc, acc < 2^64 →
    l.foldlM (fun acc lo => barrett128 lo acc m) acc = .ok (toNat (acc :: l).reverse % m.value)
  | [], hne, _, _, _ => absurd rfl hne
  | [lo], _, hl, acc, hacc => by
    rw [List.foldlM_cons, barrett128_exact h (hl lo (by simp)) hacc, ← B64_eq]
    simp [toNat]
  | lo :: lo' :: l, _, hl, acc, hacc => by
    have hq : m.value < 2^64 := lt_trans h.lt (by norm_num)
    rw [List.foldlM_cons, barrett128_exact h (hl lo (by simp)) hacc]
    show (lo' :: l).foldlM (fun acc lo => barrett128 lo acc m) ((lo + 2^64 * acc) % m.value) = _
    rw [moduloFold h (lo' :: l) (by simp) (fun x hx => hl x (by simp [hx])) _
      (lt_trans (Nat.mod_lt _ (by have := h.two_le; omega)) hq)]
    rw [toNat_reverse_cons, mod_congr_aux, toNat_reverse_cons acc, toNat_reverse_cons lo, List.length_cons (a := lo),
      pow64_succ, ← B64_eq]
    congr 2; ring

theorem moduloUint_cons2 (a b : Nat) (t : List Nat) (m : Modulus) :
    moduloUint (a :: b :: t) m =
      match (a :: b :: t).reverse with
      | [] => .error .oob
      | top :: rest => rest.foldlM (fun acc lo => barrett128 lo acc m) top := rfl

/-- multi-word value reduced modulo q, any number of limbs ≥ 1 -/
theorem moduloUint_exact (h : m.WF) {v : List Nat} (hne : v ≠ []) (hv : ∀ x ∈ v, x < 2^64) :
    moduloUint v m = .ok (toNat v % m.value) := by
  match v, hne, hv with
  | [x], _, hv =>
    have hx : x < 2^64 := hv x (by simp)
    show (if x < m.value then pure x else barrett64 x m) = _
    rw [show toNat [x] = x by simp [toNat]]
    by_cases hlt : x < m.value
    · rw [if_pos hlt, Nat.mod_eq_of_lt hlt]; rfl
    · rw [if_neg hlt, barrett64_exact h hx]
  | a :: b :: t, _, hv =>
    rw [moduloUint_cons2]
    obtain ⟨top, lo, rest, hrv⟩ : ∃ top lo rest, (a :: b :: t).reverse = top :: lo :: rest := by
      match hr : (a :: b :: t).reverse with
      | top :: lo :: rest => exact ⟨_, _, _, rfl⟩
      | [] | [_] => have := congrArg List.length hr; simp at this
    have hv' : ∀ x ∈ top :: lo :: rest, x < 2^64 := fun x hx => hv x (List.mem_reverse.mp (hrv ▸ hx))
    rw [hrv]
    show (lo :: rest).foldlM (fun acc lo => barrett128 lo acc m) top = _
    rw [moduloFold h _ (by simp) (fun x hx => hv' x (by simp [hx])) top (hv' top (by simp)), ← hrv,
      List.reverse_reverse]
end HC

