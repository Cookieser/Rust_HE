/- C05 part D: DIVISION BY THE LAST PRIME ON EXACT PHASES, for every number of polynomials, either form and every rule of division.
   The three divisions of the library (`divide_and_round_q_last`, its NTT form, `mod_t_and_divide_q_last_ntt`) replace every
   coefficient, seen through its CRT value X, by Y(X) with  q_L·Y(X) = X + tt·r(X),  2|r(X)| ≤ slack·q_L  (rounding: tt = slack = 1;
   the t-compatible BGV division: tt = t, slack = 2; both are `IsDivRule.quot_rem` of DivRule at the rules `isDivRule_center`,
   `isDivRule_bgvE`, with Y = `divY q_L ρ`).  Here Y, r, tt, slack are VARIABLES with exactly this hypothesis:
     •   `c05d_DivLift`: a polynomial is, on coefficient views, Y of the CRT values of another (the three predicates of C05U are instances);
     •   `c05d_phase_switch`: q_L·Σ_k Y(X_k)⋆s^k = Σ_k X_k⋆s^k + tt·ρ with ρ = Σ_k r(X_k)⋆s^k and 2‖ρ‖∞ ≤ slack·q_L·Σ_k ‖s‖₁^k;
     •   `c05d_divide_phase`: for polynomials held in either form and divided in this sense,
         q_L·phase(result) ≡ phase(source) + tt·ρ modulo Q of the source level, ρ built from the CRT values `c05d_X` of the source's
         coefficient views; `c05d_divide_phase_ntt`: the same for an NTT-form ciphertext in the vocabulary of C03P.
     •   the case of two polynomials in the form the noise theorems of C05 cite: `modSwitchScaleNext_round_phase`, `…_bgv_phase`, `…_bgv_message`.
   The encryption through the previous level (C01H), BGV `mod_switch_to_next` (C02PM) and CKKS `rescale` (C03K) are instances. -/
import Heathcliff.Proofs.C03P
import Heathcliff.Proofs.C05U
namespace HC
open Finset

/-- `o` is, on coefficient views (`ntt`: the polynomials are in NTT form), the division `Y` of the CRT values of `p`
    (level `pl`, result on the first `pl.size − 1` components) -/
def c05d_DivLift (pl : Level) (ntt : Bool) (Y : Nat → Int) (p o : RnsPoly) : Prop :=
  o.size = pl.size - 1 ∧ ∀ i, i < pl.size - 1 → (o.getD i #[]).size = pl.n ∧
    (∀ j, j < pl.n → (o.getD i #[]).getD j 0 < (pl.q i).value) ∧
    ∀ j, j < pl.n → ∀ X, c05u_IsCrt pl (cview pl ntt p) j X →
      (((c07s_cform pl ntt i (o.getD i #[])).getD j 0 : Nat) : Int) ≡ Y X [ZMOD ((pl.q i).value : Int)]

theorem c05d_divLift_bfv {pl : Level} (h : c05u_ToolOK pl) {p o : RnsPoly} (hp : RnsCanon pl p)
    (ho : c05u_RoundDivOf pl p o) :
    c05d_DivLift pl false (divY (pl.q (pl.size - 1)).value (c04t_center (pl.q (pl.size - 1)).value)) p o := by
  refine ⟨ho.1, fun i hi => ?_⟩
  obtain ⟨h1, h2⟩ := ho.2 i hi
  have hq0 : ∀ i, i < pl.size → 0 < (pl.q i).value := fun i hi => by have := (c05u_qwf h hi).two_le; omega
  refine ⟨h1, fun j hj => ?_, fun j hj X hX => ?_⟩
  · obtain ⟨X, hX⟩ := c05u_crt_exists h hp hj
    rw [h2 j hj X hX]; exact Nat.mod_lt _ (hq0 i (by omega))
  · have hX' : c05u_IsCrt pl p j X := hX
    simp only [c07s_cform, Bool.false_eq_true, ↓reduceIte]
    rw [h2 j hj X hX', divY_center (hq0 _ (by omega))]
    exact cast_mod_modEq _ _

theorem c05d_divLift_ckks {pl : Level} (hqL : 0 < (pl.q (pl.size - 1)).value) {p o : RnsPoly}
    (ho : c05u_RoundDivOfNtt pl p o) :
    c05d_DivLift pl true (divY (pl.q (pl.size - 1)).value (c04t_center (pl.q (pl.size - 1)).value)) p o := by
  refine ⟨ho.1, fun i hi => ?_⟩
  obtain ⟨h1, h2, h3⟩ := ho.2 i hi
  refine ⟨h1, h2, fun j hj X hX => ?_⟩
  have hX' : c05u_IsCrt pl (rnsIntt pl p) j X := hX
  simp only [c07s_cform, ↓reduceIte]
  rw [h3 j hj X hX', divY_center hqL]
  exact cast_mod_modEq _ _

theorem c05d_divLift_bgv {pl : Level} (hqL : 0 < (pl.q (pl.size - 1)).value) {p o : RnsPoly}
    (ho : c05u_BgvDivOfNtt pl p o) :
    c05d_DivLift pl true (divY (pl.q (pl.size - 1)).value
      (fun b => ((c04t_bgvE (pl.q (pl.size - 1)).value pl.t.value pl.tool.invQLastModT b : Nat) : Int))) p o := by
  refine ⟨ho.1, fun i hi => ?_⟩
  obtain ⟨h1, h2, h3⟩ := ho.2 i hi
  refine ⟨h1, h2, fun j hj X hX => ?_⟩
  have hX' : c05u_IsCrt pl (rnsIntt pl p) j X := hX
  simp only [c07s_cform, ↓reduceIte]
  rw [h3 j hj X hX', c05u_bgvY_eq _ _ _ _ hqL]
  exact Int.mod_modEq _ _

theorem c05d_DivLift.canon {pl l : Level} (hn : c05u_IsNext pl l) {ntt : Bool} {Y : Nat → Int} {T O : RnsPoly}
    (hO : c05d_DivLift pl ntt Y T O) : RnsCanon l O := by
  have hsz : l.size = pl.size - 1 := by have := hn.size; omega
  refine ⟨by rw [hO.1, hsz], fun i hi => ?_⟩
  obtain ⟨h1, h2, -⟩ := hO.2 i (by omega)
  exact ⟨by rw [h1, hn.n], fun j hj => by rw [hn.q i hi]; exact h2 j (by rw [← hn.n]; exact hj)⟩

/-- the exact phase of the polynomials `polys`, all held in the form `ntt` -/
def c05d_phase (l : Level) (sk : Array Int) (ntt : Bool) (polys : Array RnsPoly) (j : Nat) : Int :=
  (Spec.phase (c01p_qvals l) l.n sk (polys.toList.map (cview l ntt))).getD j 0

/-- the CRT value of coefficient j of a coefficient-form polynomial -/
def c05d_X (l : Level) (C : RnsPoly) (j : Nat) : Nat := Spec.crt (c07s_qsv l.tool.baseQ) (C.toList.map (fun c => c.getD j 0))

theorem c05d_X_isCrt {l : Level} (hq : c07s_LevelQ l) {C : RnsPoly} (hC : RnsCanon l C) {j : Nat} (hj : j < l.n) :
    c05u_IsCrt l C j (c05d_X l C j) := by
  obtain ⟨h1, h2⟩ := c07s_crt_spec hq.bwf (C.toList.map (fun c => c.getD j 0))
  refine ⟨h1, fun i hi => ?_⟩
  have := h2 i (by rw [hq.size_eq]; exact hi)
  rw [hq.q_eq hi, c07s_listcol_getD] at this
  show Spec.crt _ _ % _ = _
  rw [this]
  exact Nat.mod_eq_of_lt ((hC.2 i hi).2 j hj)

theorem c05d_crt_modEq {l : Level} {p : RnsPoly} {j X : Nat} (h : c05u_IsCrt l p j X) {i : Nat} (hi : i < l.size) :
    (((p.getD i #[]).getD j 0 : Nat) : Int) ≡ (X : Int) [ZMOD ((l.q i).value : Int)] := by
  rw [← h.2 i hi]
  exact cast_mod_modEq _ _

theorem c05d_red_of_modEq {q n : Nat} {Z : Nat → Int} {a : Array Nat}
    (h : ∀ c, c < n → ((a.getD c 0 : Nat) : Int) ≡ Z c [ZMOD (q : Int)]) : c03k_red q n Z = c03k_toNP n (c07s_vecN q a) :=
  c03k_toNP_congr fun c hc => ((ZMod.intCast_eq_intCast_iff _ _ _).mpr (h c hc).symm).trans (Int.cast_natCast _)

theorem c05d_map_getD (f : RnsPoly → RnsPoly) (polys : Array RnsPoly) {k : Nat} (hk : k < polys.size) :
    (polys.toList.map f).getD k #[] = f (polys.getD k #[]) := by
  rw [list_getD_map f _ #[] _ (by rw [Array.length_toList]; exact hk), array_getD_toList]

section
variable {Y r : Nat → Int} {qL tt slack : Nat}

/-- the phase of the divided values in ℤ[X]/(X^n+1), for any number of polynomials and any element S in place of the secret -/
theorem c05d_phase_switch (hY : ∀ X : Nat, (qL : Int) * Y X = X + (tt : Int) * r X ∧ 2 * (r X).natAbs ≤ slack * qL)
    {n : Nat} (size : Nat) (X : Nat → Nat → Nat) (S : c03k_NP Int n) {c : Nat} (hc : c < n) :
    (qL : Int) * (ctPhase size (fun k => c03k_toNP n (fun j => Y (X k j))) S).co c
        = (ctPhase size (fun k => c03k_toNP n (fun j => (X k j : Int))) S).co c
          + (tt : Int) * (ctPhase size (fun k => c03k_toNP n (fun j => r (X k j))) S).co c ∧
      2 * ((ctPhase size (fun k => c03k_toNP n (fun j => r (X k j))) S).co c).natAbs ≤ slack * (qL * ∑ k ∈ range size, c03k_l1 S ^ k) := by
  have h1 := c05u_phase_switch size (c03k_C n (qL : Int)) (fun k => c03k_toNP n (fun j => (X k j : Int)))
    (fun k => c03k_toNP n (fun j => Y (X k j))) (fun k => c03k_toNP n (fun j => (tt : Int) * r (X k j))) S
    (fun k _ => c03k_np_ext fun i hi => by
      rw [c03k_C_mul _ _ hi, c03k_NP.add_co, c03k_toNP_co _ hi, c03k_toNP_co _ hi, c03k_toNP_co _ hi, (hY (X k i)).1])
  have h2 := c05u_phase_switch size (c03k_C n (tt : Int)) (fun k => c03k_toNP n (fun j => (tt : Int) * r (X k j)))
    (fun k => c03k_toNP n (fun j => r (X k j))) (fun _ => 0) S
    (fun k _ => c03k_np_ext fun i hi => by rw [c03k_C_mul _ _ hi, add_zero, c03k_toNP_co _ hi, c03k_toNP_co _ hi])
  simp only [zero_mul, Finset.sum_const_zero, add_zero] at h2
  have e1 := congrArg (fun x => x.co c) h1
  have e2 := congrArg (fun x => x.co c) h2
  simp only [c03k_C_mul _ _ hc, c03k_NP.add_co] at e1 e2
  refine ⟨by unfold ctPhase; rw [e1, ← e2], ?_⟩
  have hb := c03k_phase_bound size (fun k => c03k_toNP n (fun j => r (X k j))) S (slack * qL / 2)
    (fun k _ i hi => by rw [c03k_toNP_co _ hi]; have := (hY (X k i)).2; omega) hc
  refine le_trans (Nat.mul_le_mul_left 2 hb) ?_
  rw [← Nat.mul_assoc, ← Nat.mul_assoc]
  exact Nat.mul_le_mul_right _ (Nat.mul_div_le _ _)

/-- polynomials `Ts` (canonical at `pl`, all in the form `ntt`) and their divisions `Os`:
    q_L·phase(Os) ≡ phase(Ts) + tt·ρ modulo Q of the source level, ρ = Σ_k r(X_k)⋆s^k of the CRT values X_k of the coefficient views,
    2‖ρ‖∞ ≤ slack·q_L·Σ_{k<size}‖s‖₁^k.  Nothing is asked of `l` beyond its base and its being the next level. -/
theorem c05d_divide_phase {pl l : Level} (hpl : pl.WF) (htool : c05u_ToolOK pl) (hql : c07s_LevelQ l)
    (hn : c03k_Next pl l) (hqL : qL = (pl.q (pl.size - 1)).value)
    (hY : ∀ X : Nat, (qL : Int) * Y X = X + (tt : Int) * r X ∧ 2 * (r X).natAbs ≤ slack * qL)
    (sk : Array Int) (ntt : Bool) {Ts Os : Array RnsPoly} (hpos : 0 < Ts.size) (hsz : Os.size = Ts.size)
    (hT : ∀ k, k < Ts.size → RnsCanon pl (Ts.getD k #[]))
    (hrd : ∀ k, k < Ts.size → c05d_DivLift pl ntt Y (Ts.getD k #[]) (Os.getD k #[])) :
    ∀ j, j < pl.n →
      ((qL : Int) * c05d_phase l sk ntt Os j ≡ c05d_phase pl sk ntt Ts j
          + (tt : Int) * (c03k_phZ pl.n Ts.size (fun k i => r (c05d_X pl (cview pl ntt (Ts.getD k #[])) i)) sk).co j
          [ZMOD (c03k_Q pl : Int)]) ∧
      2 * ((c03k_phZ pl.n Ts.size (fun k i => r (c05d_X pl (cview pl ntt (Ts.getD k #[])) i)) sk).co j).natAbs
        ≤ slack * (qL * ∑ k ∈ range Ts.size, c03k_skL1 pl.n sk ^ k) := by
  intro j hj
  have hq := c01q_levelQ_of_toolOK htool
  have hlenT : (Ts.toList.map (cview pl ntt)).length = Ts.size := by rw [List.length_map, Array.length_toList]
  have hlenO : (Os.toList.map (cview l ntt)).length = Ts.size := by rw [List.length_map, Array.length_toList, hsz]
  have hX := fun k (hk : k < Ts.size) c (hc : c < pl.n) => c05d_X_isCrt hq (c01e_cview_canon hpl (ntt := ntt) (hT k hk)) hc
  -- the residues of the source views are those of X_k, the residues of the result views those of Y(X_k)
  have lift1 := c03k_phaseL_lift hq sk (polys := Ts.toList.map (cview pl ntt))
    (fun h => by rw [h] at hlenT; exact absurd hlenT.symm (Nat.ne_of_gt hpos))
    (fun k i => (c05d_X pl (cview pl ntt (Ts.getD k #[])) i : Int)) (fun k hk m hm => by
      rw [hlenT] at hk
      rw [c05d_map_getD _ _ hk]
      exact c05d_red_of_modEq fun c hc => c05d_crt_modEq (hX k hk c hc) hm) j hj
  have lift2 := c03k_phaseL_lift hql sk (polys := Os.toList.map (cview l ntt))
    (fun h => by rw [h] at hlenO; exact absurd hlenO.symm (Nat.ne_of_gt hpos))
    (fun k i => Y (c05d_X pl (cview pl ntt (Ts.getD k #[])) i)) (fun k hk m hm => by
      rw [hlenO] at hk
      rw [c05d_map_getD _ _ (hsz ▸ hk), hn.q m hm, hn.n]
      refine c05d_red_of_modEq fun c hc => ?_
      have := ((hrd k hk).2 m (by have := hn.size; omega)).2.2 c hc _ (hX k hk c hc)
      unfold cview
      cases ntt
      · exact this
      · simp only [↓reduceIte] at this ⊢
        rw [c01o_rnsIntt_getD l _ hm, hn.tbl m hm]
        exact this) j (by rw [hn.n]; exact hj)
  rw [hlenO] at lift2
  rw [hlenT] at lift1
  obtain ⟨hρ, hρb⟩ := c05d_phase_switch hY Ts.size (fun k i => c05d_X pl (cview pl ntt (Ts.getD k #[])) i)
    (c03k_toNP pl.n (c03k_skf sk)) hj
  rw [c03k_skL1_eq] at hρb
  change (qL : Int) * (c03k_phZ pl.n Ts.size _ sk).co j = (c03k_phZ pl.n Ts.size _ sk).co j + (tt : Int) * (c03k_phZ pl.n Ts.size _ sk).co j
    at hρ
  have hQz : (c03k_Q pl : Int) = (qL : Int) * (c03k_Q l : Int) := by
    rw [c03k_Q_next hq hql hn.toc05u_IsNext, hqL, Nat.cast_mul, mul_comm]
  have s1 := Int.ModEq.mul_left' (c := (qL : Int)) lift2
  rw [← hQz, hn.n, hρ] at s1
  unfold c05d_phase
  rw [hn.n]
  exact ⟨s1.trans (lift1.symm.add_right _), hρb⟩


/-- the same for a ciphertext in NTT form, in the vocabulary of C03P -/
theorem c05d_divide_phase_ntt {pl l : Level} (hpl : pl.WF) (htool : c05u_ToolOK pl) (hql : c07s_LevelQ l)
    (hn : c03k_Next pl l) (hqL : qL = (pl.q (pl.size - 1)).value)
    (hY : ∀ X : Nat, (qL : Int) * Y X = X + (tt : Int) * r X ∧ 2 * (r X).natAbs ≤ slack * qL)
    (sk : Array Int) {ct r' : Ct} (hc : c03k_Canon pl ct) (hsz : r'.polys.size = ct.polys.size)
    (hrd : ∀ k, k < ct.polys.size → c05d_DivLift pl true Y (ct.polys.getD k #[]) (r'.polys.getD k #[])) :
    ∀ j, j < pl.n →
      ((qL : Int) * c03k_phase l sk r' j ≡ c03k_phase pl sk ct j
          + (tt : Int) * (c03k_phZ pl.n ct.polys.size (fun k i => r (c03k_X pl ct k i)) sk).co j [ZMOD (c03k_Q pl : Int)]) ∧
      2 * ((c03k_phZ pl.n ct.polys.size (fun k i => r (c03k_X pl ct k i)) sk).co j).natAbs
        ≤ slack * (qL * ∑ k ∈ range ct.polys.size, c03k_skL1 pl.n sk ^ k) :=
  c05d_divide_phase hpl htool hql hn hqL hY sk true hc.pos hsz hc.canon hrd


end
theorem c05d_phase2_co (n : Nat) (Z : Nat → Nat → Int) (s : Nat → Int) {c : Nat} (hc : c < n) :
    (ctPhase 2 (fun k => c03k_toNP n (Z k)) (c03k_toNP n s)).co c = c05u_phase2 n (Z 0) (Z 1) s c := by
  rw [c03k_ctPhase_two, c03k_NP.add_co, ← c03k_toNP_mul, c03k_toNP_co _ hc, c03k_toNP_co _ hc]
  rfl

theorem c05d_l1_toNP (n : Nat) (s : Nat → Int) : c03k_l1 (c03k_toNP n s) = ∑ k ∈ range n, (s k).natAbs :=
  Finset.sum_congr rfl fun i hi => by rw [c03k_toNP_co _ (mem_range.mp hi)]

/-- PHASE (BFV / CKKS, size 2): with Y_k = ⌊(X_k + q_L/2)/q_L⌋ coefficient-wise, q_L·phase(Y) = phase(X) + ρ with
    2‖ρ‖∞ ≤ q_L·(1 + ‖s‖₁) — the hypothesis `x = q_L·x' + ρ` of `C05.bfv_switch_noise` / `C05.ckks_rescale_error` -/
theorem modSwitchScaleNext_round_phase (n qL : Nat) (hq : 0 < qL) (X0 X1 : Nat → Nat) (s : Nat → Int) (c : Nat) (hc : c < n) :
    ∃ ρ : Int,
      (qL : Int) * c05u_phase2 n (fun j => (((X0 j + qL / 2) / qL : Nat) : Int)) (fun j => (((X1 j + qL / 2) / qL : Nat) : Int)) s c
        = c05u_phase2 n (fun j => (X0 j : Int)) (fun j => (X1 j : Int)) s c + ρ ∧
      2 * ρ.natAbs ≤ qL * (1 + ∑ k ∈ range n, (s k).natAbs) := by
  obtain ⟨h1, h2⟩ := c05d_phase_switch ((isDivRule_center hq).quot_rem hq Nat.one_pos) 2 (fun k j => if k = 0 then X0 j else X1 j)
    (c03k_toNP n s) hc
  rw [c05d_phase2_co _ _ _ hc, c05d_phase2_co _ _ _ hc, Nat.cast_one, one_mul] at h1
  rw [Finset.sum_range_succ, Finset.sum_range_one, pow_zero, pow_one, c05d_l1_toNP, Nat.one_mul] at h2
  simp only [↓reduceIte, one_ne_zero, divY_center hq] at h1
  exact ⟨_, h1, h2⟩

/-- PHASE (BGV, size 2): with Y_k = `c05u_bgvY` of X_k coefficient-wise, q_L·phase(Y) = phase(X) + δ with t ∣ δ and
    ‖δ‖∞ ≤ q_L·t·(1 + ‖s‖₁) -/
theorem modSwitchScaleNext_bgv_phase (n : Nat) {t qL invt : Nat} (ht : 0 < t) (hqL : 0 < qL) (hinvt : (invt * qL) % t = 1)
    (X0 X1 : Nat → Nat) (s : Nat → Int) (c : Nat) (hc : c < n) :
    ∃ δ : Int,
      (qL : Int) * c05u_phase2 n (fun j => c05u_bgvY t qL invt (X0 j)) (fun j => c05u_bgvY t qL invt (X1 j)) s c
        = c05u_phase2 n (fun j => (X0 j : Int)) (fun j => (X1 j : Int)) s c + δ ∧
      (t : Int) ∣ δ ∧ δ.natAbs ≤ qL * t * (1 + ∑ k ∈ range n, (s k).natAbs) := by
  have hit : (invt * qL) % t = 1 % t := by
    rcases Nat.lt_or_ge 1 t with h | h
    · rw [hinvt, Nat.mod_eq_of_lt h]
    · rw [show t = 1 by omega, Nat.mod_one] at hinvt; exact absurd hinvt (by decide)
  obtain ⟨h1, h2⟩ := c05d_phase_switch ((isDivRule_bgvE ht hit).quot_rem hqL ht) 2 (fun k j => if k = 0 then X0 j else X1 j)
    (c03k_toNP n s) hc
  rw [c05d_phase2_co _ _ _ hc, c05d_phase2_co _ _ _ hc] at h1
  rw [Finset.sum_range_succ, Finset.sum_range_one, pow_zero, pow_one, c05d_l1_toNP] at h2
  simp only [↓reduceIte, one_ne_zero, ← c05u_bgvY_eq _ _ _ _ hqL] at h1
  refine ⟨_, h1, dvd_mul_right _ _, ?_⟩
  rw [Int.natAbs_mul, Int.natAbs_natCast, Nat.mul_comm qL t, Nat.mul_assoc]
  exact Nat.mul_le_mul_left t (by omega)

/-- MESSAGE (BGV, size 2): if the old phase is ≡ cf·m (mod t) then the new phase is ≡ cf'·m with the model's new correction
    factor cf' = cf·q_L^{-1} mod t (`C05.bgv_switch_message`) -/
theorem modSwitchScaleNext_bgv_message (n : Nat) {t qL invt : Nat} (ht : 0 < t) (hqL : 0 < qL) (hinvt : (invt * qL) % t = 1)
    (X0 X1 : Nat → Nat) (s : Nat → Int) (c : Nat) (hc : c < n) (cf : Nat) (m : Int)
    (hm : c05u_phase2 n (fun j => (X0 j : Int)) (fun j => (X1 j : Int)) s c ≡ cf * m [ZMOD t]) :
    c05u_phase2 n (fun j => c05u_bgvY t qL invt (X0 j)) (fun j => c05u_bgvY t qL invt (X1 j)) s c
      ≡ (((cf * invt) % t : Nat) : Int) * m [ZMOD t] := by
  obtain ⟨δ, h1, h2, -⟩ := modSwitchScaleNext_bgv_phase n ht hqL hinvt X0 X1 s c hc
  refine bgv_switch_message (qL := qL) (δ := δ) (f := cf) (iq := invt) ?_ h1.symm (inv_cast hinvt) ?_ hm
  · exact (Int.modEq_zero_iff_dvd).mpr h2
  · have := cast_mod_modEq (cf * invt) t
    push_cast at this ⊢
    exact this

end HC
