/- C02: BEHZ `bfvMultiply` of the MODEL, end to end.  All helper names carry the prefix `c02w_`.

   W1  `bfvMultiply_ok` / `bfvMultiply_canon`: for coefficient-form operands of ANY sizes ≥ 1 with canonical polynomials at a level
       satisfying `MulOK`, the model returns `.ok`, the result has size a+b−1, is canonical, and every residue equals the closed
       form `c02w_mulVal` (lazy NTT ∘ dyadic tensor ∘ INTT = negacyclic products in q and in Bsk, ·t, fast floor, Shenoy–Kumaresan).
       Refusals: `bfvMultiply_refuse_ntt`, `bfvMultiply_refuse_empty`.
       Bundles: `c02w_ToolMulOK` (constants of `RNSTool`), `MulOK` (level); both DERIVED from the constructors:
       `c02w_toolMulOK_of_new` (from `RNSTool.new`, t ≠ 0, |q| ≤ 62, auxiliary moduli well formed and ≥ 2^32 — needed for
       `ckSub b m̃` in `sm_mrq`), `c02w_mulOK_of_new` (plus `RNSBase.new`, `NTTTables.new` for the Bsk tables).
   W2  `bfvLift_spec` (lifted operand X ≡ input mod every q_i, 2·2^32·|X| ≤ Q(2^32 + 2|q|)), `bfvMultiply_coeff`: every returned
       residue is (⌊t·Z_k[c]/Q⌋ − α) mod q_i with ONE α < |q| per coefficient, Z_k = Σ_{x+y=k} X_x ⋆ Y_y over ℤ[X]/(X^N+1),
       under the explicit window `c02w_Window`: t·min(n1,n2)·N·Q + 2|q| + 2|B|·B ≤ B·m_sk, which follows from the sizing rule
       of `RNSTool.new` (`c02w_window_of_new`: auxiliary moduli ≥ 2^61 − 2^54, min(n1,n2)·N ≤ 2^30, t.value < 2^t.bits).
   W3  `bfvMultiply_phase` (ring form): in any commutative ring with ξ^N = −1 and any secret s,
       Q·phase_s(D) + phase_s(E) = t·phase_s(X)·phase_s(Y), D the exact lifts of the outputs, 0 ≤ E_k[c] < |q|·Q; it is the instance at the
       reading `c02w_evHom` of `c02w_phase_hom`, the same identity under every ring homomorphism out of ℤ[X]/(X^N+1). -/
import Heathcliff.Model.Evaluator
import Heathcliff.Proofs.C01P
import Heathcliff.Proofs.C02V
import Heathcliff.Proofs.C10H
import Heathcliff.Proofs.C10I
import Heathcliff.Proofs.C07L
import Heathcliff.Proofs.NegRing
import Mathlib.Algebra.BigOperators.ModEq
import Mathlib.Algebra.Order.BigOperators.Group.Finset
import Mathlib.Tactic.Ring
import Mathlib.Tactic.Linarith
import Mathlib.Tactic.Positivity
namespace HC

/-! ## W1 (up to `c02w_toolMulOK_of_new`): the model's `bfvMultiply` cut into named stages (definitional) -/

/-- steps (1)–(3) on one polynomial, base q part: lazy NTT of every component -/
def c02w_liftQ (l : Level) (p : RnsPoly) : RnsPoly :=
  Array.ofFn (n := l.qs.size) fun i => nttLazy (l.tbl i.val) (p.getD i.val #[])

/-- steps (1)–(3) on one polynomial, base Bsk part -/
def c02w_liftB (l : Level) (T : Array NTTTables) (p : RnsPoly) : R RnsPoly := do
  let ext ← l.tool.fastbconvMTilde p
  let red ← l.tool.smMrq ext
  pure (Array.ofFn (n := l.tool.baseBsk.base.size) fun i => nttLazy (T.getD i.val default) (red.getD i.val #[]))

def c02w_lift (l : Level) (T : Array NTTTables) (c : Ct) : R (List RnsPoly × List RnsPoly) := do
  let qs := c.polys.toList.map (c02w_liftQ l)
  let bs ← c.polys.toList.mapM (c02w_liftB l T)
  pure (qs, bs)

/-- steps (6)–(8) for output polynomial `i` -/
def c02w_finish (l : Level) (dq db : List RnsPoly) (i : Nat) : R RnsPoly := do
  let tq ← compsMap l.qs (dq.getD i #[]) (fun x m => mulMod x l.t.value m)
  let tb ← compsMap l.tool.baseBsk.base (db.getD i #[]) (fun x m => mulMod x l.t.value m)
  let fl ← l.tool.fastFloor (tq ++ tb)
  l.tool.fastbconvSk fl

theorem c02w_bfvMultiply_eq (l : Level) (T : Array NTTTables) (a b : Ct) :
    bfvMultiply l T a b =
      (if a.ntt ∨ b.ntt then .error .refused else
       if ctResizeRefuses (a.polys.size + b.polys.size - 1) then .error .refused else do
        let pa ← c02w_lift l T a
        let pb ← c02w_lift l T b
        if a.polys.size < 1 ∨ b.polys.size < 1 then .error .refused else do
        let dq ← c02v_tensor a.polys.size b.polys.size l.qs (fun k => pa.1.getD k #[]) (fun k => pb.1.getD k #[])
                  (Array.replicate l.qs.size (Array.replicate l.n 0))
        let db ← c02v_tensor a.polys.size b.polys.size l.tool.baseBsk.base (fun k => pa.2.getD k #[]) (fun k => pb.2.getD k #[])
                  (Array.replicate l.tool.baseBsk.base.size (Array.replicate l.n 0))
        let outs ← (List.range (a.polys.size + b.polys.size - 1)).mapM (c02w_finish l
          (dq.map fun p => Array.ofFn (n := l.qs.size) fun i => intt (l.tbl i.val) (p.getD i.val #[]))
          (db.map fun p => Array.ofFn (n := l.tool.baseBsk.base.size) fun i =>
                    intt (T.getD i.val default) (p.getD i.val #[])))
        pure { a with polys := outs.toArray }) := rfl

theorem c02w_rnsZip_eq (l : Level) (a b : RnsPoly) (f : Nat → Nat → Modulus → R Nat) :
    rnsZip l a b f = compsZip l.qs a b f := rfl

/-! ## steps (3)–(5) in one modulus: lazy NTT, accumulated dyadic products, inverse NTT = sum of negacyclic products -/

theorem c02w_comp_conv {t : NTTTables} {q N : Nat} (hw : t.WF) (hq : t.modulus.value = q) (hN : 2^t.k = N) (A B : Nat → Array Nat)
    (ps : List (Nat × Nat))
    (hA : ∀ p ∈ ps, (A p.1).size = N ∧ ∀ j, j < N → (A p.1).getD j 0 < q)
    (hB : ∀ p ∈ ps, (B p.2).size = N ∧ ∀ j, j < N → (B p.2).getD j 0 < q)
    {z : Array Nat} (hz : z.size = N)
    (hzv : ∀ j, j < N → z.getD j 0 =
      (ps.map (fun p => (nttLazy t (A p.1)).getD j 0 * (nttLazy t (B p.2)).getD j 0)).sum % q) :
    ∀ c, c < N → (intt t z).getD c 0 = (ps.map (fun p => negMulNat N q (A p.1) (B p.2) c)).sum % q := by
  subst hq hN
  have hq0 : 0 < t.modulus.value := hw.mwf.pos
  -- the lazy transform of a canonical vector holds, modulo q, the evaluations of the vector
  have hev : ∀ {x : Array Nat}, (x.size = 2^t.k ∧ ∀ j, j < 2^t.k → x.getD j 0 < t.modulus.value) → ∀ i, i < 2^t.k →
      (((nttLazy t x).getD i 0 : Nat) : ZMod t.modulus.value) = ((evalSpec t x i : Nat) : ZMod t.modulus.value) :=
    fun {x} hx i hi => by
      have h4 : ∀ j, j < 2^t.k → x.getD j 0 < 4 * t.modulus.value := fun j hj => by have := hx.2 j hj; omega
      rw [← (ntt_eval hw x hx.1 h4).2 i hi, ((ntt_sim hw x hx.1 h4).2 i hi).1, ZMod.natCast_mod]
  refine c02v_conv_sum hw rfl rfl A B ps ⟨hz, fun j hj => by rw [hzv j hj]; exact Nat.mod_lt _ hq0⟩ (fun i hi => ?_)
  rw [hzv i hi, ZMod.natCast_mod, Nat.cast_list_sum, List.map_map]
  refine congrArg List.sum (List.map_congr_left fun p hp => ?_)
  rw [Function.comp_apply, Nat.cast_mul, hev (hA p hp) i hi, hev (hB p hp) i hi]

/-- `fastConvertArray_ent` (C10I) with the entries written out — the callers rewrite with them, and `Ent` leaves a β-redex there: every output
    residue is the CRT sum of its column (`c02w_crtSum`: one α for every output modulus and every converter of the same input), reduced -/
theorem c02w_fca {ib ob : RNSBase} {c : BaseConverter} (hi : ib.WF) (ho : ob.WF)
    (hc : BaseConverter.new ib ob = .ok c) (p : RnsPoly) (n : Nat) (hp : p.size = ib.size)
    (hx : ∀ i, i < ib.size → ∀ j, j < n → (p.getD i #[]).getD j 0 < 2^64) :
    ∃ tg, c.fastConvertArray p n = .ok tg ∧ tg.size = ob.size ∧ ∀ i, i < ob.size → (tg.getD i #[]).size = n ∧
      ∀ j, j < n → (tg.getD i #[]).getD j 0 =
        c02w_crtSum ib (fun i' => (p.getD i' #[]).getD j 0) % (ob.q i).value :=
  fastConvertArray_ent hi ho hc p n hp fun i j hi' hj => hx i hi' j hj

/-! ## the constants of `RNSTool` that `bfv_multiply` relies on -/

/-- exactly the properties of the BEHZ constants needed by steps (1), (2), (7), (8); derived from `RNSTool.new`
    in `c02w_toolMulOK_of_new` -/
structure c02w_ToolMulOK (r : RNSTool) : Prop where
  qwf : r.baseQ.WF
  bwf : r.baseB.WF
  bskwf : r.baseBsk.WF
  bsk_size : r.baseBsk.size = r.baseB.size + 1
  bsk_q : ∀ i, i < r.baseB.size → r.baseBsk.q i = r.baseB.q i
  bsk_last : r.baseBsk.q r.baseB.size = r.mSk
  mtwf : r.mTilde.WF
  mt_val : r.mTilde.value = 2^32
  qToBsk : BaseConverter.new r.baseQ r.baseBsk = .ok r.qToBsk
  qToMt : ∃ bMt : RNSBase, bMt.WF ∧ bMt.size = 1 ∧ bMt.q 0 = r.mTilde ∧ BaseConverter.new r.baseQ bMt = .ok r.qToMt
  bToQ : BaseConverter.new r.baseB r.baseQ = .ok r.bToQ
  bToMsk : ∃ bMsk : RNSBase, bMsk.WF ∧ bMsk.size = 1 ∧ bMsk.q 0 = r.mSk ∧ BaseConverter.new r.baseB bMsk = .ok r.bToMsk
  negInvQ : WFOp r.mTilde r.negInvProdQModMt ∧ (r.negInvProdQModMt.operand * r.baseQ.prod + 1) % r.mTilde.value = 0
  bsk : ∀ i, i < r.baseBsk.size →
    r.mTilde.value ≤ (r.baseBsk.q i).value ∧
    r.prodQModBsk.getD i 0 = r.baseQ.prod % (r.baseBsk.q i).value ∧
    WFOp (r.baseBsk.q i) (r.invMtModBsk.getD i default) ∧
    ((r.invMtModBsk.getD i default).operand * r.mTilde.value) % (r.baseBsk.q i).value = 1 ∧
    WFOp (r.baseBsk.q i) (r.invProdQModBsk.getD i default) ∧
    ((r.invProdQModBsk.getD i default).operand * r.baseQ.prod) % (r.baseBsk.q i).value = 1
  invB : WFOp r.mSk r.invProdBModMsk ∧ (r.invProdBModMsk.operand * r.baseB.prod) % r.mSk.value = 1
  pbq : ∀ i, i < r.baseQ.size →
    r.prodBModQ.getD i 0 = r.baseB.prod % (r.baseQ.q i).value ∧ 0 < r.prodBModQ.getD i 0

theorem c02w_ToolMulOK.mskwf {r : RNSTool} (h : c02w_ToolMulOK r) : r.mSk.WF := by
  rw [← h.bsk_last]
  exact h.bskwf.mwf _ (by rw [h.bsk_size]; omega)

/-- `c02v_Canon b.base n` in the vocabulary of `RNSBase` -/
theorem c02w_canon_base {b : RNSBase} {n : Nat} {p : RnsPoly} (h : c02v_Canon b.base n p) :
    p.size = b.size ∧ ∀ i, i < b.size → (p.getD i #[]).size = n ∧ ∀ j, j < n → (p.getD i #[]).getD j 0 < (b.q i).value := h

/-! ## step (1): `fastbconvMTilde` -/

/-- the integer `m̃·x + α·Q` (explicit CRT sum of the residues `[m̃·x_i]_{q_i}`) of coefficient `j` -/
def c02w_mtSum (r : RNSTool) (p : RnsPoly) (j : Nat) : Nat :=
  c02w_crtSum r.baseQ (fun i => ((p.getD i #[]).getD j 0 * r.mTilde.value) % (r.baseQ.q i).value)

theorem c02w_fastbconvMTilde_spec {r : RNSTool} (hr : c02w_ToolMulOK r) {p : RnsPoly} (hp : c02v_Canon r.baseQ.base r.n p) :
    ∃ ext, r.fastbconvMTilde p = .ok ext ∧
      (∀ i, i < r.baseBsk.size → (ext.getD i #[]).size = r.n ∧
        ∀ j, j < r.n → (ext.getD i #[]).getD j 0 = c02w_mtSum r p j % (r.baseBsk.q i).value) ∧
      (ext.getD r.baseBsk.size #[]).size = r.n ∧
        ∀ j, j < r.n → (ext.getD r.baseBsk.size #[]).getD j 0 = c02w_mtSum r p j % r.mTilde.value := by
  replace hp := c02w_canon_base hp
  obtain ⟨bMt, hbMt, hbMt1, hbMt0, hcMt⟩ := hr.qToMt
  obtain ⟨tmp, htsz, htv, hfin⟩ := fastbconvMTilde_ent (r := r) (p := p) hr.qwf.mwf (by rw [hr.mt_val]; norm_num)
    (fun i hi => (hp.2 i hi).1) (fun i j hi hj => (hr.qwf.mwf i hi).lt_word ((hp.2 i hi).2 j hj))
  have htlt : ∀ i j, i < r.baseQ.size → j < r.n → (tmp.getD i #[]).getD j 0 < 2^64 := fun i j hi hj => by
    rw [(htv i hi).2 j hj]; exact (hr.qwf.mwf i hi).mod_word _
  have hsum : ∀ j, j < r.n → c02w_crtSum r.baseQ (fun i' => (tmp.getD i' #[]).getD j 0) = c02w_mtSum r p j :=
    fun j hj => c02w_crtSum_congr _ (fun i hi => (htv i hi).2 j hj)
  obtain ⟨a, ha, hasz, hav⟩ := fastConvertArray_ent hr.qwf hr.bskwf hr.qToBsk tmp r.n htsz htlt
  obtain ⟨b, hb, hbsz, hbv⟩ := fastConvertArray_ent hr.qwf hbMt hcMt tmp r.n htsz htlt
  refine ⟨a ++ b, hfin ha hb, fun i hi => ?_, ?_⟩
  · rw [array_getD_append_left _ _ _ (by rw [hasz]; exact hi)]
    exact ⟨(hav i hi).1, fun j hj => ((hav i hi).2 j hj).trans (by rw [← hsum j hj])⟩
  · have e := array_getD_append_right a b #[] 0
    rw [Nat.add_zero, hasz] at e
    rw [e]
    obtain ⟨s1, s2⟩ := hbv 0 (by omega)
    exact ⟨s1, fun j hj => (s2 j hj).trans (by rw [← hsum j hj, hbMt0])⟩

/-! ## step (2): `smMrq`, and the base-Bsk part of the lift -/

/-- residue modulo the i-th modulus of Bsk of the lifted (Montgomery-reduced) coefficient `j` -/
def c02w_liftVal (r : RNSTool) (p : RnsPoly) (i j : Nat) : Nat :=
  smMrqCoeff r.mTilde.value (r.baseBsk.q i).value (r.prodQModBsk.getD i 0)
    (r.invMtModBsk.getD i default).operand r.negInvProdQModMt.operand
    (c02w_mtSum r p j % (r.baseBsk.q i).value) (c02w_mtSum r p j % r.mTilde.value)

def c02w_liftArr (r : RNSTool) (p : RnsPoly) (i : Nat) : Array Nat :=
  ((List.range r.n).map (c02w_liftVal r p i)).toArray

theorem c02w_liftArr_size (r : RNSTool) (p : RnsPoly) (i : Nat) : (c02w_liftArr r p i).size = r.n := by
  simp [c02w_liftArr]

theorem c02w_liftArr_getD (r : RNSTool) (p : RnsPoly) (i : Nat) {j : Nat} (hj : j < r.n) :
    (c02w_liftArr r p i).getD j 0 = c02w_liftVal r p i j := array_getD_range_map _ 0 hj

theorem c02w_liftVal_lt {r : RNSTool} (hr : c02w_ToolMulOK r) (p : RnsPoly) {i : Nat} (hi : i < r.baseBsk.size) (j : Nat) :
    c02w_liftVal r p i j < (r.baseBsk.q i).value := by
  unfold c02w_liftVal smMrqCoeff
  exact Nat.mod_lt _ (hr.bskwf.mwf i hi).pos

theorem c02w_smMrq_lift {r : RNSTool} (hr : c02w_ToolMulOK r) {p : RnsPoly} (hp : c02v_Canon r.baseQ.base r.n p) :
    ∃ ext red, r.fastbconvMTilde p = .ok ext ∧ r.smMrq ext = .ok red ∧ red.size = r.baseBsk.size ∧
      ∀ i, i < r.baseBsk.size → red.getD i #[] = c02w_liftArr r p i := by
  obtain ⟨ext, hext, h1, h2, h3⟩ := c02w_fastbconvMTilde_spec hr hp
  have hm2 := hr.mtwf.two_le
  obtain ⟨red, hred, s1, hv⟩ := smMrq_ent (r := r) (p := ext) hr.mtwf hr.negInvQ.1
    (fun i hi => by
      obtain ⟨b1, b2, b3, _, _, _⟩ := hr.bsk i hi
      have hbw := hr.bskwf.mwf i hi
      exact ⟨hbw, b1, by rw [b2]; exact Nat.mod_lt _ hbw.pos, b3⟩)
    h2
    (fun i j hi hj => by
      rcases Nat.lt_or_ge i r.baseBsk.size with h | h
      · rw [(h1 i h).2 j hj]
        exact (hr.bskwf.mwf i h).mod_word _
      · have : i = r.baseBsk.size := by omega
        subst this
        rw [h3 j hj]
        exact hr.mtwf.mod_word _)
  refine ⟨ext, red, hext, hred, s1, fun i hi => ?_⟩
  apply array_ext_getD (n := r.n) (hv i hi).1 (c02w_liftArr_size r p i)
  intro j hj
  rw [(hv i hi).2 j hj, c02w_liftArr_getD r p i hj]
  beta_reduce
  rw [(h1 i hi).2 j hj, h3 j hj]
  rfl

/-- what `bfvMultiply` needs from the level: well-formed NTT tables of the level's moduli (`Level.WF`), the tool is the BEHZ tool
    of the level's moduli and degree with well-formed constants (`c02w_ToolMulOK`), a word-sized plain modulus, and well-formed
    NTT tables `T` (`base_Bsk_ntt_tables`) of the moduli of Bsk for the same degree -/
structure MulOK (l : Level) (T : Array NTTTables) : Prop where
  lwf : l.WF
  n_eq : l.tool.n = l.n
  base_eq : l.tool.baseQ.base = l.qs
  t_lt : l.t.value < 2^64
  tool : c02w_ToolMulOK l.tool
  ttbl : ∀ i, i < l.tool.baseBsk.size →
    (T.getD i default).WF ∧ (T.getD i default).modulus = l.tool.baseBsk.q i ∧ (T.getD i default).k = l.k

theorem c02w_base_size {l : Level} {T : Array NTTTables} (hm : MulOK l T) : l.tool.baseQ.size = l.size := by
  unfold RNSBase.size Level.size; rw [hm.base_eq]

theorem c02w_base_q {l : Level} {T : Array NTTTables} (hm : MulOK l T) (i : Nat) : l.tool.baseQ.q i = l.q i := by
  unfold RNSBase.q Level.q
  rw [hm.base_eq]
  rfl

theorem c02w_canon_iff {l : Level} {T : Array NTTTables} (hm : MulOK l T) {p : RnsPoly} :
    c02v_Canon l.tool.baseQ.base l.tool.n p ↔ RnsCanon l p := by
  rw [hm.base_eq, hm.n_eq]
  rfl

theorem c02w_liftQ_getD (l : Level) (p : RnsPoly) {i : Nat} (hi : i < l.size) :
    (c02w_liftQ l p).getD i #[] = nttLazy (l.tbl i) (p.getD i #[]) := by
  unfold c02w_liftQ
  exact array_getD_ofFn _ _ hi

theorem c02w_nttLazy_lazy {t : NTTTables} (hw : t.WF) {a : Array Nat} {n : Nat} (hn : 2^t.k = n) (hs : a.size = n)
    (ha : ∀ j, j < n → a.getD j 0 < t.modulus.value) :
    (nttLazy t a).size = n ∧ ∀ j, j < n → (nttLazy t a).getD j 0 < 2^64 := by
  subst hn
  have hq := hw.mwf.lt
  obtain ⟨e1, e2⟩ := nttLazy_sim hw a hs (fun j hj => by have := ha j hj; omega)
  exact ⟨e1, fun j hj => by have := (e2 j hj).1; omega⟩

theorem c02w_liftQ_lazy {l : Level} (hl : l.WF) {p : RnsPoly} (hp : RnsCanon l p) : c02v_Bounded l.qs.size l.n (fun _ => 2^64) (c02w_liftQ l p) := by
  intro i hi
  obtain ⟨htw, htm, htn, _⟩ := c01o_level_comp hl hi
  rw [c02w_liftQ_getD l p hi]
  exact c02w_nttLazy_lazy htw htn (hp.2 i hi).1 (fun j hj => by rw [htm]; exact (hp.2 i hi).2 j hj)

/-- steps (1)–(3), base Bsk part, one polynomial -/
theorem c02w_liftB_spec {l : Level} {T : Array NTTTables} (hm : MulOK l T) {p : RnsPoly} (hp : RnsCanon l p) :
    ∃ y, c02w_liftB l T p = .ok y ∧ ∀ i, i < l.tool.baseBsk.size →
      y.getD i #[] = nttLazy (T.getD i default) (c02w_liftArr l.tool p i) := by
  obtain ⟨ext, red, h1, h2, _, h4⟩ := c02w_smMrq_lift hm.tool ((c02w_canon_iff hm).mpr hp)
  refine ⟨Array.ofFn (n := l.tool.baseBsk.base.size) fun i => nttLazy (T.getD i.val default) (red.getD i.val #[]),
    ?_, fun i hi => ?_⟩
  · unfold c02w_liftB
    rw [h1, R.ok_bind, h2, R.ok_bind]
    rfl
  · rw [array_getD_ofFn _ _ (show i < l.tool.baseBsk.base.size from hi), h4 i hi]

theorem c02w_liftB_lazy {l : Level} {T : Array NTTTables} (hm : MulOK l T) (p : RnsPoly) {y : RnsPoly}
    (hy : ∀ i, i < l.tool.baseBsk.size → y.getD i #[] = nttLazy (T.getD i default) (c02w_liftArr l.tool p i)) :
    c02v_Bounded l.tool.baseBsk.base.size l.n (fun _ => 2^64) y := by
  intro i hi
  obtain ⟨tw, tm, tk⟩ := hm.ttbl i hi
  rw [hy i hi]
  refine c02w_nttLazy_lazy tw (by rw [tk, hm.lwf.npow]) (by rw [c02w_liftArr_size, hm.n_eq]) (fun j hj => ?_)
  rw [c02w_liftArr_getD _ _ _ (by rw [hm.n_eq]; exact hj), tm]
  exact c02w_liftVal_lt hm.tool p hi j

/-- steps (1)–(3) on a whole ciphertext -/
theorem c02w_lift_spec {l : Level} {T : Array NTTTables} (hm : MulOK l T) {c : Ct}
    (hc : c05u_CtCanon l c) :
    ∃ bs, c02w_lift l T c = .ok (c.polys.toList.map (c02w_liftQ l), bs) ∧ bs.length = c.polys.size ∧
      ∀ k, k < c.polys.size → ∀ i, i < l.tool.baseBsk.size →
        (bs.getD k #[]).getD i #[] = nttLazy (T.getD i default) (c02w_liftArr l.tool (c.polys.getD k #[]) i) := by
  obtain ⟨bs, hbs, hlen, hall⟩ := R.mapM_spec (c02w_liftB l T)
    (fun (p y : RnsPoly) => ∀ i, i < l.tool.baseBsk.size →
      y.getD i #[] = nttLazy (T.getD i default) (c02w_liftArr l.tool p i))
    c.polys.toList (fun p hp => by
      obtain ⟨k, hk, rfl⟩ := Array.mem_iff_getElem.mp (Array.mem_toList_iff.mp hp)
      have := hc k hk
      rw [show c.polys.getD k #[] = c.polys[k] by simp [Array.getD, hk]] at this
      exact c02w_liftB_spec hm this)
  rw [Array.length_toList] at hlen hall
  refine ⟨bs, ?_, hlen, fun k hk => ?_⟩
  · unfold c02w_lift
    rw [hbs]
    rfl
  · have := hall #[] #[] k hk
    rw [array_getD_toList c.polys] at this
    exact this

/-! ## steps (4)–(5) in one family of moduli -/

/-- coefficient `c` of component `i` of output polynomial `k` after step (5): Σ over the visited pairs of negacyclic products -/
def c02w_convVal (n1 n2 n : Nat) (q : Nat) (A B : Nat → Array Nat) (k c : Nat) : Nat :=
  ((mulPairs n1 n2 k).map (fun p => negMulNat n q (A p.1) (B p.2) c)).sum % q

theorem c02w_family {ms : Array Modulus} {n : Nat} (hq : ∀ i, i < ms.size → (ms.getD i default).WF) (tb : Nat → NTTTables)
    (htb : ∀ i, i < ms.size → (tb i).WF ∧ (tb i).modulus = ms.getD i default ∧ 2^(tb i).k = n)
    {n1 n2 : Nat} (h1 : 1 ≤ n1) (h2 : 1 ≤ n2) (A B : Nat → Nat → Array Nat)
    (hA : ∀ k, k < n1 → ∀ i, i < ms.size → (A k i).size = n ∧ ∀ j, j < n → (A k i).getD j 0 < (ms.getD i default).value)
    (hB : ∀ k, k < n2 → ∀ i, i < ms.size → (B k i).size = n ∧ ∀ j, j < n → (B k i).getD j 0 < (ms.getD i default).value)
    (xs ys : List RnsPoly)
    (hxs : ∀ k, k < n1 → ∀ i, i < ms.size → (xs.getD k #[]).getD i #[] = nttLazy (tb i) (A k i))
    (hys : ∀ k, k < n2 → ∀ i, i < ms.size → (ys.getD k #[]).getD i #[] = nttLazy (tb i) (B k i)) :
    ∃ out, c02v_tensor n1 n2 ms (fun k => xs.getD k #[]) (fun k => ys.getD k #[])
        (Array.replicate ms.size (Array.replicate n 0)) = .ok out ∧
      ∀ k, k < n1 + n2 - 1 →
        c02v_Canon ms n
          ((out.map fun p => Array.ofFn (n := ms.size) fun i => intt (tb i.val) (p.getD i.val #[])).getD k #[]) ∧
        ∀ i, i < ms.size → ∀ c, c < n →
          (((out.map fun p => Array.ofFn (n := ms.size) fun i => intt (tb i.val) (p.getD i.val #[])).getD k #[]).getD i #[]).getD c 0
            = c02w_convVal n1 n2 n (ms.getD i default).value (fun x => A x i) (fun y => B y i) k c := by
  have hlx : ∀ k, k < n1 → c02v_Bounded ms.size n (fun _ => 2^64) (xs.getD k #[]) := by
    intro k hk i hi
    obtain ⟨tw, tm, tn⟩ := htb i hi
    rw [hxs k hk i hi]
    exact c02w_nttLazy_lazy tw tn (hA k hk i hi).1 (fun j hj => by rw [tm]; exact (hA k hk i hi).2 j hj)
  have hly : ∀ k, k < n2 → c02v_Bounded ms.size n (fun _ => 2^64) (ys.getD k #[]) := by
    intro k hk i hi
    obtain ⟨tw, tm, tn⟩ := htb i hi
    rw [hys k hk i hi]
    exact c02w_nttLazy_lazy tw tn (hB k hk i hi).1 (fun j hj => by rw [tm]; exact (hB k hk i hi).2 j hj)
  obtain ⟨out, hout, hlen, hv⟩ := c02v_tensor_spec hq h1 h2 (fun k => xs.getD k #[]) (fun k => ys.getD k #[]) hlx hly
  refine ⟨out, hout, fun k hk => ?_⟩
  obtain ⟨hcan, hval⟩ := hv k hk
  rw [list_getD_map _ out #[] #[] (by rw [hlen]; exact hk)]
  obtain ⟨_, hmem⟩ := mulPairs_spec h1 h2 hk
  have hcomp : ∀ i, i < ms.size →
      (Array.ofFn (n := ms.size) fun i => intt (tb i.val) ((out.getD k #[]).getD i.val #[])).getD i #[]
        = intt (tb i) ((out.getD k #[]).getD i #[]) := fun i hi => array_getD_ofFn _ _ hi
  have hconv : ∀ i, i < ms.size → (intt (tb i) ((out.getD k #[]).getD i #[])).size = n ∧ ∀ c, c < n →
      (intt (tb i) ((out.getD k #[]).getD i #[])).getD c 0 < (ms.getD i default).value ∧
      (intt (tb i) ((out.getD k #[]).getD i #[])).getD c 0
        = c02w_convVal n1 n2 n (ms.getD i default).value (fun x => A x i) (fun y => B y i) k c := by
    intro i hi
    obtain ⟨tw, tm, tn⟩ := htb i hi
    have hz : ((out.getD k #[]).getD i #[]).size = 2^(tb i).k := by rw [tn]; exact (hcan.2 i hi).1
    have hzl : ∀ j, j < 2^(tb i).k → ((out.getD k #[]).getD i #[]).getD j 0 < 2 * (tb i).modulus.value := by
      intro j hj
      have := (hcan.2 i hi).2 j (by rw [← tn]; exact hj)
      rw [tm]
      exact Nat.lt_of_lt_of_le this (Nat.le_mul_of_pos_left _ (by norm_num))
    obtain ⟨s1, s2⟩ := intt_sim tw _ hz hzl
    refine ⟨by rw [s1, tn], fun c hc => ⟨?_, ?_⟩⟩
    · have := (s2 c (by rw [tn]; exact hc)).1
      rwa [tm] at this
    · exact c02w_comp_conv tw (by rw [tm]) tn (fun x => A x i) (fun y => B y i) (mulPairs n1 n2 k)
        (fun p hp => hA _ ((hmem p.1 p.2).mp hp).1 i hi)
        (fun p hp => hB _ ((hmem p.1 p.2).mp hp).2.1 i hi)
        (hcan.2 i hi).1 (fun j hj => by
          rw [hval i hi j hj]
          congr 2
          apply List.map_congr_left
          intro p hp
          have := (hmem p.1 p.2).mp hp
          rw [hxs _ this.1 i hi, hys _ this.2.1 i hi]) c hc
  refine ⟨⟨by simp, fun i hi => ?_⟩, fun i hi c hc => ?_⟩
  · rw [hcomp i hi]
    exact ⟨(hconv i hi).1, fun c hc => ((hconv i hi).2 c hc).1⟩
  · rw [hcomp i hi]
    exact ((hconv i hi).2 c hc).2

/-! ## steps (7)–(8): `fastFloor`, `fastbconvSk` -/

theorem c02w_extract_append {β : Type} (a b : Array β) : (a ++ b).extract 0 a.size = a := by
  simp

/-- `fast_floor` on residue functions `FQ` (base q) and `FB` (base Bsk) of one coefficient -/
def c02w_floorVal (r : RNSTool) (FQ FB : Nat → Nat → Nat) (i c : Nat) : Nat :=
  fastFloorCoeff (r.baseBsk.q i).value (r.invProdQModBsk.getD i default).operand (FB i c)
    (c02w_crtSum r.baseQ (fun i' => FQ i' c) % (r.baseBsk.q i).value)

/-- `fastbconv_sk` on the residue function `FL` (base Bsk) of one coefficient -/
def c02w_skVal (r : RNSTool) (FL : Nat → Nat → Nat) (i c : Nat) : Nat :=
  fastbconvSkCoeff r.mSk.value (r.baseQ.q i).value r.invProdBModMsk.operand (r.prodBModQ.getD i 0)
    (c02w_crtSum r.baseB (fun i' => FL i' c) % r.mSk.value) (FL r.baseB.size c)
    (c02w_crtSum r.baseB (fun i' => FL i' c) % (r.baseQ.q i).value)

theorem c02w_floorVal_congr (r : RNSTool) {FQ FQ' FB FB' : Nat → Nat → Nat} {i c : Nat}
    (h1 : ∀ i', i' < r.baseQ.size → FQ i' c = FQ' i' c) (h2 : FB i c = FB' i c) :
    c02w_floorVal r FQ FB i c = c02w_floorVal r FQ' FB' i c := by
  unfold c02w_floorVal
  rw [c02w_crtSum_congr r.baseQ h1, h2]

theorem c02w_skVal_congr (r : RNSTool) {FL FL' : Nat → Nat → Nat} {i c : Nat}
    (h : ∀ i', i' ≤ r.baseB.size → FL i' c = FL' i' c) :
    c02w_skVal r FL i c = c02w_skVal r FL' i c := by
  unfold c02w_skVal
  rw [c02w_crtSum_congr r.baseB (fun i' hi' => h i' (Nat.le_of_lt hi')), h _ (Nat.le_refl _)]

theorem c02w_floorVal_lt {r : RNSTool} (hr : c02w_ToolMulOK r) (FQ FB : Nat → Nat → Nat) {i : Nat}
    (hi : i < r.baseBsk.size) (c : Nat) : c02w_floorVal r FQ FB i c < (r.baseBsk.q i).value := by
  unfold c02w_floorVal fastFloorCoeff
  exact Nat.mod_lt _ (hr.bskwf.mwf i hi).pos

theorem c02w_skVal_lt {r : RNSTool} (hr : c02w_ToolMulOK r) (FL : Nat → Nat → Nat) {i : Nat}
    (hi : i < r.baseQ.size) (c : Nat) : c02w_skVal r FL i c < (r.baseQ.q i).value := by
  have h0 : 0 < (r.baseQ.q i).value := (hr.qwf.mwf i hi).pos
  unfold c02w_skVal fastbconvSkCoeff
  dsimp only
  split <;> exact Nat.mod_lt _ h0

theorem c02w_fastFloor_tool {r : RNSTool} (hr : c02w_ToolMulOK r) {tq tb : RnsPoly}
    (htq : c02v_Canon r.baseQ.base r.n tq) (htb : c02v_Canon r.baseBsk.base r.n tb) :
    ∃ fl, r.fastFloor (tq ++ tb) = .ok fl ∧ c02v_Canon r.baseBsk.base r.n fl ∧ ∀ i, i < r.baseBsk.size → ∀ c, c < r.n →
      (fl.getD i #[]).getD c 0 =
        c02w_floorVal r (fun i c => (tq.getD i #[]).getD c 0) (fun i c => (tb.getD i #[]).getD c 0) i c := by
  replace htq := c02w_canon_base htq
  replace htb := c02w_canon_base htb
  have hext : (tq ++ tb).extract 0 r.baseQ.size = tq := by rw [← htq.1]; exact c02w_extract_append tq tb
  have hget : ∀ i, (tq ++ tb).getD (r.baseQ.size + i) #[] = tb.getD i #[] := by
    intro i; rw [← htq.1]; exact array_getD_append_right tq tb #[] i
  obtain ⟨conv, hconv, _, hcv⟩ := c02w_fca hr.qwf hr.bskwf hr.qToBsk tq r.n htq.1
    (fun i hi j hj => (hr.qwf.mwf i hi).lt_word ((htq.2 i hi).2 j hj))
  obtain ⟨fl, hfl, s1, hv⟩ := fastFloor_ent (r := r) (p := tq ++ tb) (conv := conv) (by rw [hext]; exact hconv)
    (fun i hi => ⟨hr.bskwf.mwf i hi, (hr.bsk i hi).2.2.2.2.1⟩)
    (fun i hi => by rw [hget]; exact (htb.2 i hi).1)
    (fun i j hi hj => by
      rw [hget]
      have := (htb.2 i hi).2 j hj
      have := (hr.bskwf.mwf i hi).lt
      omega)
    (fun i j hi hj => by
      rw [(hcv i hi).2 j hj]
      exact Nat.le_of_lt (Nat.mod_lt _ (hr.bskwf.mwf i hi).pos))
  have hval : ∀ i, i < r.baseBsk.size → ∀ c, c < r.n → (fl.getD i #[]).getD c 0 =
      c02w_floorVal r (fun i c => (tq.getD i #[]).getD c 0) (fun i c => (tb.getD i #[]).getD c 0) i c := by
    intro i hi c hc
    rw [(hv i hi).2 c hc]
    beta_reduce
    rw [hget, (hcv i hi).2 c hc]
    rfl
  refine ⟨fl, hfl, ⟨s1, fun i hi => ⟨(hv i hi).1, fun c hc => ?_⟩⟩, hval⟩
  rw [hval i hi c hc]
  exact c02w_floorVal_lt hr _ _ hi c

theorem c02w_fastbconvSk_tool {r : RNSTool} (hr : c02w_ToolMulOK r) {fl : RnsPoly} (hfl : c02v_Canon r.baseBsk.base r.n fl) :
    ∃ out, r.fastbconvSk fl = .ok out ∧ c02v_Canon r.baseQ.base r.n out ∧ ∀ i, i < r.baseQ.size → ∀ c, c < r.n →
      (out.getD i #[]).getD c 0 = c02w_skVal r (fun i c => (fl.getD i #[]).getD c 0) i c := by
  replace hfl := c02w_canon_base hfl
  obtain ⟨bMsk, hbMsk, hbMsk1, hbMsk0, hcMsk⟩ := hr.bToMsk
  have hmsk := hr.mskwf
  have hle : r.baseB.size ≤ fl.size := by rw [hfl.1, hr.bsk_size]; omega
  have hsz := array_size_extract fl hle
  have hxl : ∀ i, i < r.baseB.size → ∀ j, j < r.n → ((fl.extract 0 r.baseB.size).getD i #[]).getD j 0 < 2^64 := by
    intro i hi j hj
    rw [array_getD_extract fl #[] hle hi]
    have hi' : i < r.baseBsk.size := by rw [hr.bsk_size]; omega
    exact (hr.bskwf.mwf i hi').lt_word ((hfl.2 i hi').2 j hj)
  have hsum : ∀ j, c02w_crtSum r.baseB (fun i' => ((fl.extract 0 r.baseB.size).getD i' #[]).getD j 0)
      = c02w_crtSum r.baseB (fun i' => (fl.getD i' #[]).getD j 0) :=
    fun j => c02w_crtSum_congr _ (fun i hi => by rw [array_getD_extract fl #[] hle hi])
  obtain ⟨dest, hdest, _, hdv⟩ := c02w_fca hr.bwf hr.qwf hr.bToQ (fl.extract 0 r.baseB.size) r.n hsz hxl
  obtain ⟨temp, htemp, _, htv⟩ := c02w_fca hr.bwf hbMsk hcMsk (fl.extract 0 r.baseB.size) r.n hsz hxl
  obtain ⟨t1, t2⟩ := htv 0 (by omega)
  have hlast : r.baseB.size < r.baseBsk.size := by rw [hr.bsk_size]; omega
  obtain ⟨out, hout, s1, hv⟩ := fastbconvSk_ent (r := r) (p := fl) (dest := dest) (temp := temp) hdest htemp hmsk hr.invB.1
    (fun i hi => by
      obtain ⟨e1, e2⟩ := hr.pbq i hi
      have hqi := hr.qwf.mwf i hi
      exact ⟨hqi, e2, by rw [e1]; exact Nat.mod_lt _ hqi.pos⟩)
    t1
    (fun j hj => by
      rw [t2 j hj, hbMsk0]
      have := Nat.mod_lt (c02w_crtSum r.baseB fun i' => ((fl.extract 0 r.baseB.size).getD i' #[]).getD j 0)
        hmsk.pos
      have := hmsk.lt
      omega)
    (fun j hj => by
      have := (hfl.2 _ hlast).2 j hj
      rw [hr.bsk_last] at this
      omega)
    (fun i j hi hj => by
      rw [(hdv i hi).2 j hj]
      exact (hr.qwf.mwf i hi).mod_word _)
  have hval : ∀ i, i < r.baseQ.size → ∀ c, c < r.n →
      (out.getD i #[]).getD c 0 = c02w_skVal r (fun i c => (fl.getD i #[]).getD c 0) i c := by
    intro i hi c hc
    rw [(hv i hi).2 c hc]
    beta_reduce
    rw [t2 c hc, (hdv i hi).2 c hc, hsum, hbMsk0]
    rfl
  refine ⟨out, hout, ⟨s1, fun i hi => ⟨(hv i hi).1, fun c hc => ?_⟩⟩, hval⟩
  rw [hval i hi c hc]
  exact c02w_skVal_lt hr _ hi c

/-! ## steps (6)–(8) at the level, and the assembly -/

/-- the residue the model returns, as a function of the residues `DQ` (base q) and `DB` (base Bsk) after step (5) -/
def c02w_outVal (l : Level) (DQ DB : Nat → Nat → Nat) (i c : Nat) : Nat :=
  c02w_skVal l.tool (c02w_floorVal l.tool
    (fun i c => (DQ i c * l.t.value) % (l.tool.baseQ.q i).value)
    (fun i c => (DB i c * l.t.value) % (l.tool.baseBsk.q i).value)) i c

theorem c02w_outVal_congr (l : Level) {DQ DQ' DB DB' : Nat → Nat → Nat} {i c : Nat}
    (h1 : ∀ i', i' < l.tool.baseQ.size → DQ i' c = DQ' i' c)
    (h2 : ∀ i', i' ≤ l.tool.baseB.size → DB i' c = DB' i' c) :
    c02w_outVal l DQ DB i c = c02w_outVal l DQ' DB' i c := by
  unfold c02w_outVal
  apply c02w_skVal_congr
  intro i' hi'
  apply c02w_floorVal_congr
  · intro i'' hi''
    show (DQ i'' c * _) % _ = (DQ' i'' c * _) % _
    rw [h1 i'' hi'']
  · show (DB i' c * _) % _ = (DB' i' c * _) % _
    rw [h2 i' hi']

theorem c02w_finish_spec {l : Level} {T : Array NTTTables} (hm : MulOK l T) (dq db : List RnsPoly) (k : Nat)
    (hdq : RnsCanon l (dq.getD k #[])) (hdb : c02v_Canon l.tool.baseBsk.base l.n (db.getD k #[])) :
    ∃ out, c02w_finish l dq db k = .ok out ∧ RnsCanon l out ∧ ∀ i, i < l.size → ∀ c, c < l.n →
      (out.getD i #[]).getD c 0 =
        c02w_outVal l (fun i c => ((dq.getD k #[]).getD i #[]).getD c 0) (fun i c => ((db.getD k #[]).getD i #[]).getD c 0) i c := by
  obtain ⟨tq, htq, ctq, vtq⟩ := c02v_compsMap_spec (c02v_qsWF_of_levelWF hm.lwf) hm.t_lt hdq
  obtain ⟨tb, htb, ctb, vtb⟩ := c02v_scaleComps_spec hm.tool.bskwf.mwf hm.t_lt hdb
  obtain ⟨fl, hfl, cfl, vfl⟩ := c02w_fastFloor_tool hm.tool ((c02w_canon_iff hm).mpr ctq) (hm.n_eq.symm ▸ ctb)
  obtain ⟨out, hout, cout, vout⟩ := c02w_fastbconvSk_tool hm.tool cfl
  refine ⟨out, ?_, (c02w_canon_iff hm).mp cout, fun i hi c hc => ?_⟩
  · unfold c02w_finish
    rw [htq, R.ok_bind]
    have e : compsMap l.tool.baseBsk.base (db.getD k #[]) (fun x m => mulMod x l.t.value m) = .ok tb := htb
    rw [e, R.ok_bind, hfl, R.ok_bind, hout]
  · rw [vout i (by rw [c02w_base_size hm]; exact hi) c (by rw [hm.n_eq]; exact hc)]
    unfold c02w_outVal
    apply c02w_skVal_congr
    intro i' hi'
    have hi'' : i' < l.tool.baseBsk.size := by rw [hm.tool.bsk_size]; omega
    show (fl.getD i' #[]).getD c 0 = _
    rw [vfl i' hi'' c (by rw [hm.n_eq]; exact hc)]
    apply c02w_floorVal_congr
    · intro i'' hi''
      rw [c02w_base_size hm] at hi''
      show (tq.getD i'' #[]).getD c 0 = _
      rw [vtq i'' hi'' c hc, c02w_base_q hm]
    · show (tb.getD i' #[]).getD c 0 = _
      exact vtb i' hi'' c hc

/-- residue `c` of component `i` of output polynomial `k` of `bfvMultiply l T a b`, in closed form:
    negacyclic products in q and in Bsk (of the Montgomery-reduced lifts), times t, fast floor, Shenoy–Kumaresan -/
def c02w_mulVal (l : Level) (a b : Ct) (k i c : Nat) : Nat :=
  c02w_outVal l
    (fun i c => c02w_convVal a.polys.size b.polys.size l.n (l.tool.baseQ.q i).value
      (fun x => (a.polys.getD x #[]).getD i #[]) (fun y => (b.polys.getD y #[]).getD i #[]) k c)
    (fun i c => c02w_convVal a.polys.size b.polys.size l.n (l.tool.baseBsk.q i).value
      (fun x => c02w_liftArr l.tool (a.polys.getD x #[]) i) (fun y => c02w_liftArr l.tool (b.polys.getD y #[]) i) k c) i c

theorem c02w_core {l : Level} {T : Array NTTTables} (hm : MulOK l T) {a b : Ct}
    (ha : c05u_CtCanon l a)
    (hb : c05u_CtCanon l b)
    (hna : a.ntt = false) (hnb : b.ntt = false) (h1 : 1 ≤ a.polys.size) (h2 : 1 ≤ b.polys.size)
    (hsz : ctResizeRefuses (a.polys.size + b.polys.size - 1) = false) :
    ∃ outs : List RnsPoly, bfvMultiply l T a b = .ok { a with polys := outs.toArray } ∧
      outs.length = a.polys.size + b.polys.size - 1 ∧
      ∀ k, k < a.polys.size + b.polys.size - 1 → RnsCanon l (outs.getD k #[]) ∧
        ∀ i, i < l.size → ∀ c, c < l.n → ((outs.getD k #[]).getD i #[]).getD c 0 = c02w_mulVal l a b k i c := by
  obtain ⟨ab, hA, hAl, hAv⟩ := c02w_lift_spec hm ha
  obtain ⟨bb, hB, hBl, hBv⟩ := c02w_lift_spec hm hb
  obtain ⟨dq, hdq, vdq⟩ := c02w_family (ms := l.qs) (n := l.n) (c02v_qsWF_of_levelWF hm.lwf) l.tbl
    (fun i hi => by
      obtain ⟨tw, tm, tn, _⟩ := c01o_level_comp hm.lwf hi
      exact ⟨tw, by rw [(hm.lwf.twf i hi).2.1]; rfl, tn⟩)
    h1 h2 (fun x i => (a.polys.getD x #[]).getD i #[]) (fun y i => (b.polys.getD y #[]).getD i #[])
    (fun k hk i hi => (ha k hk).2 i hi) (fun k hk i hi => (hb k hk).2 i hi)
    (a.polys.toList.map (c02w_liftQ l)) (b.polys.toList.map (c02w_liftQ l))
    (fun k hk i hi => by
      rw [list_getD_map _ _ #[] #[] (by simpa using hk), array_getD_toList, c02w_liftQ_getD l _ hi])
    (fun k hk i hi => by
      rw [list_getD_map _ _ #[] #[] (by simpa using hk), array_getD_toList, c02w_liftQ_getD l _ hi])
  obtain ⟨db, hdb, vdb⟩ := c02w_family (ms := l.tool.baseBsk.base) (n := l.n) hm.tool.bskwf.mwf (fun i => T.getD i default)
    (fun i hi => by
      obtain ⟨tw, tm, tk⟩ := hm.ttbl i hi
      exact ⟨tw, tm, by rw [tk, hm.lwf.npow]⟩)
    h1 h2 (fun x i => c02w_liftArr l.tool (a.polys.getD x #[]) i) (fun y i => c02w_liftArr l.tool (b.polys.getD y #[]) i)
    (fun k _ i hi => ⟨by rw [c02w_liftArr_size, hm.n_eq], fun j hj => by
      rw [c02w_liftArr_getD _ _ _ (by rw [hm.n_eq]; exact hj)]; exact c02w_liftVal_lt hm.tool _ hi j⟩)
    (fun k _ i hi => ⟨by rw [c02w_liftArr_size, hm.n_eq], fun j hj => by
      rw [c02w_liftArr_getD _ _ _ (by rw [hm.n_eq]; exact hj)]; exact c02w_liftVal_lt hm.tool _ hi j⟩)
    ab bb (fun k hk i hi => hAv k hk i hi) (fun k hk i hi => hBv k hk i hi)
  generalize hdq' : (dq.map fun p => Array.ofFn (n := l.qs.size) fun i => intt (l.tbl i.val) (p.getD i.val #[])) = dq' at vdq
  generalize hdb' : (db.map fun p => Array.ofFn (n := l.tool.baseBsk.base.size) fun i =>
      intt (T.getD i.val default) (p.getD i.val #[])) = db' at vdb
  obtain ⟨outs, houts, hlen, hall⟩ := R.mapM_spec (c02w_finish l dq' db')
    (fun (k : Nat) (y : RnsPoly) => RnsCanon l y ∧ ∀ i, i < l.size → ∀ c, c < l.n →
      (y.getD i #[]).getD c 0 = c02w_mulVal l a b k i c)
    (List.range (a.polys.size + b.polys.size - 1)) (fun k hk => by
      have hk := List.mem_range.mp hk
      obtain ⟨out, hout, cout, vout⟩ := c02w_finish_spec hm dq' db' k (vdq k hk).1 (vdb k hk).1
      refine ⟨out, hout, cout, fun i hi c hc => ?_⟩
      rw [vout i hi c hc]
      unfold c02w_mulVal
      apply c02w_outVal_congr
      · intro i' hi'
        rw [c02w_base_size hm] at hi'
        show ((dq'.getD k #[]).getD i' #[]).getD c 0 = _
        rw [(vdq k hk).2 i' hi' c hc, c02w_base_q hm]
        rfl
      · intro i' hi'
        show ((db'.getD k #[]).getD i' #[]).getD c 0 = _
        rw [(vdb k hk).2 i' (show i' < l.tool.baseBsk.size by rw [hm.tool.bsk_size]; omega) c hc]
        rfl)
  rw [List.length_range] at hlen hall
  refine ⟨outs, ?_, hlen, fun k hk => ?_⟩
  · rw [c02w_bfvMultiply_eq, if_neg (by simp [hna, hnb]), if_neg (by simp [hsz]), hA, R.ok_bind, hB, R.ok_bind, if_neg (by omega)]
    dsimp only
    rw [hdq, R.ok_bind, hdb, R.ok_bind, hdq', hdb', houts]
    rfl
  · have := hall 0 #[] k hk
    rw [c02v_range_getD hk] at this
    exact this

/-! ## `c02w_ToolMulOK` from the constructor `RNSTool.new` -/

theorem c02w_mapM_base_get {β : Type} {b : RNSBase} {F : Modulus → R β} {ys : Array β} (d : β)
    (h : b.base.toList.mapM F = .ok ys.toList) {i : Nat} (hi : i < b.size) : F (b.q i) = .ok (ys.getD i d) := by
  have := R.mapM_getD h (⟨0,0,0,0,0⟩ : Modulus) d (i := i) (by simpa [RNSBase.size] using hi)
  rwa [array_getD_toList, array_getD_toList] at this

theorem c02w_inv_mod {op g b : Nat} (h : (op * (g % b)) % b = 1) : (op * g) % b = 1 := by
  rwa [Nat.mul_mod_mod] at h

theorem c02w_coprime_of_inv {x Q b : Nat} (h : (x * Q) % b = 1) (hb : 2 ≤ b) : Nat.Coprime Q b := by
  have : Q * x ≡ 1 [MOD b] := by
    unfold Nat.ModEq
    rw [Nat.mul_comm, h, Nat.mod_eq_of_lt (by omega)]
  exact Nat.coprime_of_mul_modEq_one x this

theorem c02w_baseBSize_le (k tb tot : Nat) : k ≤ baseBSize k tb tot ∧ baseBSize k tb tot ≤ k + 1 := by
  unfold baseBSize
  split <;> omega

theorem c02w_base_q_of_list {b : RNSBase} {ms : List Modulus} (hb : b.base = ms.toArray) (i : Nat) :
    b.q i = ms.getD i ⟨0,0,0,0,0⟩ := by
  unfold RNSBase.q
  rw [hb, list_getD_toArray]

theorem c02w_toolMulOK_of_new {n : Nat} {q : RNSBase} {t : Modulus} {aux : List Modulus} {r : RNSTool}
    (hq : q.WF) (hq62 : q.size ≤ 62) (ht0 : ¬ t.value = 0) (haux : ∀ m ∈ aux, m.WF ∧ 2^32 ≤ m.value)
    (h : RNSTool.new n q t aux = .ok r) :
    c02w_ToolMulOK r ∧ r.n = n ∧ r.baseQ = q ∧
      r.baseB.size = baseBSize q.size t.bits (bitCount q.prod) ∧ (∀ i, i < r.baseBsk.size → r.baseBsk.q i ∈ aux) := by
  have hi := c01p_newOK h ht0
  have rq := hi.q_eq
  subst rq
  have hq1 := hi.q_pos
  obtain ⟨hbs1, hbs2⟩ := c02w_baseBSize_le r.baseQ.size t.bits (bitCount r.baseQ.prod)
  have hlen := hi.len; have hbB := hi.baseB; have hbBsk := hi.baseBsk
  generalize baseBSize r.baseQ.size t.bits (bitCount r.baseQ.prod) = bSize at hbs1 hbs2 hlen hbB hbBsk ⊢
  generalize hbP : (aux.drop 2).take bSize = bP at hbB hbBsk
  have hbPlen : bP.length = bSize := by rw [← hbP, List.length_take, List.length_drop]; omega
  have hbPmem : ∀ m ∈ bP, m ∈ aux := fun m hm => List.mem_of_mem_drop (List.mem_of_mem_take (hbP ▸ hm))
  have hmsk_mem : r.mSk ∈ aux := hi.msk_eq ▸ list_getD_mem default (by omega)
  obtain ⟨hmskwf, hmsk32⟩ := haux _ hmsk_mem
  obtain ⟨hmtwf, hmtv⟩ := Modulus.mk?_wf hi.mt (by norm_num)
  obtain ⟨hBwf, hBbase⟩ := RNSBase.new_wf (fun m hm => (haux m (hbPmem m hm)).1) (by omega) hbB
  obtain ⟨hBskwf, hBskbase⟩ := RNSBase.new_wf (ms := bP ++ [r.mSk])
    (fun m hm => (List.mem_append.mp hm).elim (fun h1 => (haux m (hbPmem m h1)).1)
      (fun h1 => List.eq_of_mem_singleton h1 ▸ hmskwf))
    (by simp; omega) hbBsk
  obtain ⟨bMt, hbMt, hqToMt⟩ := hi.qToMt
  obtain ⟨bMsk, hbMsk, hbToMsk⟩ := hi.bToMsk
  obtain ⟨hMtwf, hMt1, hMt0⟩ := c01p_base_single hmtwf hbMt
  obtain ⟨hMskwf, hMsk1, hMsk0⟩ := c01p_base_single hmskwf hbMsk
  have hBsz : r.baseB.size = bSize := by unfold RNSBase.size; rw [hBbase]; simpa using hbPlen
  have hBsksz : r.baseBsk.size = bSize + 1 := by unfold RNSBase.size; rw [hBskbase]; simp [hbPlen]
  have hBskq : ∀ i, i < bSize → r.baseBsk.q i = r.baseB.q i := fun i hi' => by
    rw [c02w_base_q_of_list hBskbase, c02w_base_q_of_list hBbase, list_getD_append_left _ _ _ (by rw [hbPlen]; exact hi')]
  have hBsklast : r.baseBsk.q bSize = r.mSk := by
    rw [c02w_base_q_of_list hBskbase, list_getD_append_right _ _ _ (by rw [hbPlen]), hbPlen, Nat.sub_self]
    rfl
  have hBskmem : ∀ i, i < r.baseBsk.size → r.baseBsk.q i ∈ aux := by
    intro i hi'
    rcases Nat.lt_or_ge i bSize with h1 | h1
    · rw [hBskq i h1, c02w_base_q_of_list hBbase]
      exact hbPmem _ (list_getD_mem _ (by rw [hbPlen]; exact h1))
    · rw [show i = bSize by omega, hBsklast]; exact hmsk_mem
  have hQlt := hq.prod_lt
  have hBlt := hBwf.prod_lt
  have hbsk : ∀ i, i < r.baseBsk.size →
      r.mTilde.value ≤ (r.baseBsk.q i).value ∧
      r.prodQModBsk.getD i 0 = r.baseQ.prod % (r.baseBsk.q i).value ∧
      WFOp (r.baseBsk.q i) (r.invMtModBsk.getD i default) ∧
      ((r.invMtModBsk.getD i default).operand * r.mTilde.value) % (r.baseBsk.q i).value = 1 ∧
      WFOp (r.baseBsk.q i) (r.invProdQModBsk.getD i default) ∧
      ((r.invProdQModBsk.getD i default).operand * r.baseQ.prod) % (r.baseBsk.q i).value = 1 := by
    intro i hi'
    have hbw := hBskwf.mwf i hi'
    have hb2 := hbw.two_le
    have hb61 := hbw.lt
    have e1 := c02w_mapM_base_get 0 hi.prodQModBsk hi'
    rw [RNSH.moduloUint_limbs hbw hq1 hQlt] at e1
    have e2 := c02w_mapM_base_get default hi.invMtModBsk hi'
    rw [barrett64_exact hbw (by rw [hmtv]; norm_num), R.ok_bind] at e2
    obtain ⟨w2, i2⟩ := c01p_invOf_spec hbw
      (Nat.lt_trans (hbw.mod_lt61 _) (by norm_num)) e2
    have e3 := c02w_mapM_base_get default hi.invProdQModBsk hi'
    rw [RNSH.moduloUint_limbs hbw hq1 hQlt, R.ok_bind] at e3
    obtain ⟨w3, i3⟩ := c01p_invOf_spec hbw
      (Nat.lt_trans (hbw.mod_lt61 _) (by norm_num)) e3
    exact ⟨by rw [hmtv]; exact (haux _ (hBskmem i hi')).2, (Except.ok.inj e1).symm, w2, c02w_inv_mod i2, w3, c02w_inv_mod i3⟩
  have hinvB := hi.invProdBModMsk
  rw [RNSH.moduloUint_limbs hmskwf (by omega : 0 < r.baseB.size) hBlt, R.ok_bind] at hinvB
  obtain ⟨wB, iB⟩ := c01p_invOf_spec hmskwf
    (Nat.lt_trans (hmskwf.mod_lt61 _) (by norm_num)) hinvB
  -- B is a unit modulo q_i, since every q_i divides Q and Q is a unit modulo every modulus of B
  have hpbqv : ∀ i, i < r.baseQ.size → r.prodBModQ.getD i 0 = r.baseB.prod % (r.baseQ.q i).value ∧ 0 < r.prodBModQ.getD i 0 := by
    intro i hi'
    have hqw := hq.mwf i hi'
    have e1 := c02w_mapM_base_get 0 hi.prodBModQ hi'
    rw [RNSH.moduloUint_limbs hqw (by omega : 0 < r.baseB.size) hBlt] at e1
    have e1 := Except.ok.inj e1
    refine ⟨e1.symm, ?_⟩
    rw [← e1]
    apply Nat.pos_of_ne_zero
    intro h0
    have hcop : Nat.Coprime (r.baseQ.q i).value r.baseB.prod := by
      rw [hBwf.prod_eq]
      apply Nat.coprime_list_prod_right_iff.mpr
      intro x hx
      simp only [List.mem_map, List.mem_range] at hx
      obtain ⟨j, hj, rfl⟩ := hx
      rw [hBsz] at hj
      have hc := c02w_coprime_of_inv (hbsk j (by omega)).2.2.2.2.2 (hBskwf.mwf j (by omega)).two_le
      rw [hBskq j hj] at hc
      exact Nat.Coprime.coprime_dvd_left (hq.q_dvd_prod hi') hc
    have := Nat.eq_one_of_dvd_coprimes hcop (dvd_refl _) (Nat.dvd_of_mod_eq_zero h0)
    have := hqw.two_le
    omega
  refine ⟨⟨hq, hBwf, hBskwf, by rw [hBsksz, hBsz], fun i hi' => hBskq i (hBsz ▸ hi'), hBsz ▸ hBsklast,
    hmtwf, hmtv, hi.qToBsk, ⟨bMt, hMtwf, hMt1, hMt0, hqToMt⟩, hi.bToQ, ⟨bMsk, hMskwf, hMsk1, hMsk0, hbToMsk⟩,
    c01p_negInv_spec hmtwf hq1 hQlt hi.negInvProdQModMt, hbsk, ⟨wB, c02w_inv_mod iB⟩, hpbqv⟩,
    hi.n_eq, rfl, hBsz, hBskmem⟩

theorem c02w_base_of_new {l : Level} {q : RNSBase} (hl : l.WF) (hlen : l.qs.size ≤ 64) (hq : RNSBase.new l.qs.toList = .ok q) :
    (∀ m ∈ l.qs.toList, m.WF) ∧ q.WF ∧ q.base = l.qs ∧ q.size = l.qs.size := by
  have hmw : ∀ m ∈ l.qs.toList, m.WF := by
    intro m hm
    obtain ⟨i, hi, rfl⟩ := Array.mem_iff_getElem.mp (Array.mem_toList_iff.mp hm)
    have := (c01o_level_comp hl (i := i) hi).2.2.2
    unfold Level.q at this
    simpa [Array.getD, hi] using this
  obtain ⟨hqwf, hqbase⟩ := RNSBase.new_wf hmw (by simpa using hlen) hq
  exact ⟨hmw, hqwf, hqbase, by unfold RNSBase.size; rw [hqbase]⟩

/-- `MulOK` from the constructors (the `_of_new` theorems of this file and of C02X build on it): a level with well-formed tables whose tool
    was built by the model's constructors (`RNSBase.new` on the level's moduli, `RNSTool.new` with the level's degree and plain modulus,
    auxiliary moduli well formed and ≥ 2^32) and Bsk tables built by `NTTTables.new` satisfies `MulOK` -/
theorem c02w_mulOK_of_new {l : Level} {T : Array NTTTables} {q : RNSBase} {aux : List Modulus}
    (hl : l.WF) (hlen : l.qs.size ≤ 62) (hk : l.k ≤ 60) (ht : l.t.WF) (haux : ∀ m ∈ aux, m.WF ∧ 2^32 ≤ m.value)
    (hq : RNSBase.new l.qs.toList = .ok q) (h : RNSTool.new l.n q l.t aux = .ok l.tool)
    (hT : ∀ i, i < l.tool.baseBsk.size → ∃ pr root0, root0 < 2^64 ∧
      NTTTables.new l.k (l.tool.baseBsk.q i) pr root0 = .ok (T.getD i default)) : MulOK l T := by
  obtain ⟨-, hqwf, hqbase, hqs⟩ := c02w_base_of_new hl (by omega) hq
  have ht2 := ht.two_le
  have ht61 := ht.lt
  obtain ⟨h1, h2, h3, _, _⟩ := c02w_toolMulOK_of_new hqwf (by omega) (by omega) haux h
  refine ⟨hl, h2, by rw [h3, hqbase], by omega, h1, fun i hi => ?_⟩
  obtain ⟨pr, root0, hr, hnew⟩ := hT i hi
  obtain ⟨w1, w2, w3, _⟩ := NTTTables.new_wf_u64 (h1.bskwf.mwf i hi) hk hr hnew
  exact ⟨w1, w3, w2⟩

/-! ## W2: integer semantics -/

theorem c02w_convVal_modEq {q n n1 n2 : Nat} (hq : 0 < q) (A B : Nat → Array Nat) (X Y : Nat → Nat → Int) (k : Nat)
    (hA : ∀ p ∈ mulPairs n1 n2 k, ∀ j, j < n → ((A p.1).getD j 0 : Int) ≡ X p.1 j [ZMOD q])
    (hB : ∀ p ∈ mulPairs n1 n2 k, ∀ j, j < n → ((B p.2).getD j 0 : Int) ≡ Y p.2 j [ZMOD q])
    {c : Nat} (hc : c < n) :
    (c02w_convVal n1 n2 n q A B k c : Int) ≡ c02w_Z n1 n2 n X Y k c [ZMOD q] := by
  unfold c02w_convVal c02w_Z
  rw [Int.natCast_mod]
  refine (Int.mod_modEq _ _).trans ?_
  rw [Nat.cast_list_sum, List.map_map]
  apply Int.ModEq.listSum_map
  intro p hp
  exact negMulNat_modEq hq _ _ _ _ (hA p hp) (hB p hp) hc

/-- the lifted operand coefficient: the Montgomery-reduced integer `(S + Q·r̃)/m̃`, `S = m̃·x + αQ` the fast conversion of `[m̃x]_Q`,
    `r̃` the centred residue of `−S·Q^{-1}` modulo `m̃` -/
def c02w_liftZ (r : RNSTool) (p : RnsPoly) (j : Nat) : Int :=
  ((c02w_mtSum r p j : Int) + (r.baseQ.prod : Int) *
    (if ((c02w_mtSum r p j % r.mTilde.value) * r.negInvProdQModMt.operand) % r.mTilde.value ≥ r.mTilde.value / 2
     then ((((c02w_mtSum r p j % r.mTilde.value) * r.negInvProdQModMt.operand) % r.mTilde.value : Nat) : Int) - r.mTilde.value
     else ((((c02w_mtSum r p j % r.mTilde.value) * r.negInvProdQModMt.operand) % r.mTilde.value : Nat) : Int)))
    / r.mTilde.value

theorem c02w_coprime_of_neginv {x Q m : Nat} (h : (x * Q + 1) % m = 0) : Nat.Coprime Q m := by
  have hd : Nat.gcd Q m ∣ x * Q + 1 := Nat.dvd_trans (Nat.gcd_dvd_right Q m) (Nat.dvd_of_mod_eq_zero h)
  have hd2 : Nat.gcd Q m ∣ x * Q := Dvd.dvd.mul_left (Nat.gcd_dvd_left Q m) x
  exact Nat.dvd_one.mp ((Nat.dvd_add_right hd2).mp hd)

theorem c02w_mtSum_facts {r : RNSTool} (hr : c02w_ToolMulOK r) (p : RnsPoly) (j : Nat) :
    c02w_mtSum r p j < r.baseQ.size * r.baseQ.prod ∧
    ∀ i, i < r.baseQ.size →
      c02w_mtSum r p j % (r.baseQ.q i).value = ((p.getD i #[]).getD j 0 * r.mTilde.value) % (r.baseQ.q i).value := by
  obtain ⟨y, hy, hyr⟩ := RNSBase.WF.crt_exists hr.qwf
    (fun i => ((p.getD i #[]).getD j 0 * r.mTilde.value) % (r.baseQ.q i).value)
  obtain ⟨al, hal, hS⟩ := c02w_crtSum_spec hr.qwf _ hy hyr
  have hS' : c02w_mtSum r p j = y + al * r.baseQ.prod := hS
  refine ⟨?_, fun i hi => ?_⟩
  · rw [hS']
    have : al * r.baseQ.prod ≤ (r.baseQ.size - 1) * r.baseQ.prod := Nat.mul_le_mul_right _ (by omega)
    have e : r.baseQ.size * r.baseQ.prod = (r.baseQ.size - 1) * r.baseQ.prod + r.baseQ.prod := by
      rw [← Nat.succ_mul]; congr 1; have := hr.qwf.pos; omega
    omega
  · rw [hS']
    obtain ⟨c, hc⟩ := hr.qwf.q_dvd_prod hi
    rw [hc, ← Nat.mul_assoc, Nat.mul_comm al, Nat.mul_assoc, Nat.add_mul_mod_self_left, hyr i hi, Nat.mod_mod]

theorem c02w_liftZ_spec {r : RNSTool} (hr : c02w_ToolMulOK r) (p : RnsPoly) (j : Nat) :
    (∀ i, i < r.baseQ.size → c02w_liftZ r p j ≡ ((p.getD i #[]).getD j 0 : Int) [ZMOD (r.baseQ.q i).value]) ∧
    (∀ i, i < r.baseBsk.size → (c02w_liftVal r p i j : Int) = c02w_liftZ r p j % (r.baseBsk.q i).value) ∧
    2 * (r.mTilde.value : Int) * |c02w_liftZ r p j| ≤ r.baseQ.prod * ((r.mTilde.value : Int) + 2 * r.baseQ.size) := by
  obtain ⟨hSlt, hSr⟩ := c02w_mtSum_facts hr p j
  have hscal : ∀ i, i < r.baseBsk.size → _ := fun i hi =>
    smMrq_scalar (mt := r.mTilde.value) (bi := (r.baseBsk.q i).value) (qModB := r.prodQModBsk.getD i 0)
      (invMt := (r.invMtModBsk.getD i default).operand) (negInvQ := r.negInvProdQModMt.operand)
      (yi := c02w_mtSum r p j % (r.baseBsk.q i).value) (ym := c02w_mtSum r p j % r.mTilde.value)
      (q := r.baseQ.prod) (Y := (c02w_mtSum r p j : Int))
      (hr.bsk i hi).1 (by rw [(hr.bsk i hi).2.1]; exact cast_mod_modEq _ _) (hr.bsk i hi).2.2.2.1 hr.negInvQ.2
      (cast_mod_modEq _ _) (cast_mod_modEq _ _)
  dsimp only at hscal
  unfold c02w_liftVal c02w_liftZ
  generalize (if ((c02w_mtSum r p j % r.mTilde.value) * r.negInvProdQModMt.operand) % r.mTilde.value ≥ r.mTilde.value / 2
     then ((((c02w_mtSum r p j % r.mTilde.value) * r.negInvProdQModMt.operand) % r.mTilde.value : Nat) : Int) - r.mTilde.value
     else ((((c02w_mtSum r p j % r.mTilde.value) * r.negInvProdQModMt.operand) % r.mTilde.value : Nat) : Int)) = rmc at *
  obtain ⟨hdvd, _, _, _, hbound⟩ := hscal r.baseB.size (by rw [hr.bsk_size]; omega)
  refine ⟨fun i hi => ?_, fun i hi => (hscal i hi).2.1, ?_⟩
  · -- m̃·Z = S + Q·r̃ ≡ m̃·x modulo q_i, and m̃ is a unit modulo q_i
    have hcop : Int.gcd (r.baseQ.q i).value r.mTilde.value = 1 :=
      Nat.Coprime.coprime_dvd_left (hr.qwf.q_dvd_prod hi) (c02w_coprime_of_neginv hr.negInvQ.2)
    have hq0 : (0 : Int) < (r.baseQ.q i).value := by
      have := (hr.qwf.mwf i hi).two_le
      exact_mod_cast (show 0 < (r.baseQ.q i).value by omega)
    have hQ0 : (r.baseQ.prod : Int) ≡ 0 [ZMOD (r.baseQ.q i).value] :=
      Int.modEq_zero_iff_dvd.mpr (by exact_mod_cast hr.qwf.q_dvd_prod hi)
    have hS : ((c02w_mtSum r p j : Nat) : Int) ≡ (((p.getD i #[]).getD j 0 * r.mTilde.value : Nat) : Int)
        [ZMOD (r.baseQ.q i).value] := Int.natCast_modEq_iff.mpr (hSr i hi)
    have h1 := hS.add (hQ0.mul_right rmc)
    rw [← Int.ediv_mul_cancel hdvd, zero_mul, add_zero, Nat.cast_mul] at h1
    have h2 := Int.ModEq.cancel_right_div_gcd hq0 h1
    rwa [hcop, Nat.cast_one, Int.ediv_one] at h2
  · have hS2 : (c02w_mtSum r p j : Int) ≤ r.baseQ.size * r.baseQ.prod := by exact_mod_cast hSlt.le
    rw [show r.mTilde.value % 2 = 0 by rw [hr.mt_val]; norm_num, Nat.add_zero,
      abs_of_nonneg (Int.natCast_nonneg _)] at hbound
    linarith

/-- step (7) on integers: the residues returned by `fast_floor` are those of `⌊V/Q⌋ − α` for ONE `α < |q|` -/
theorem c02w_floor_int {r : RNSTool} (hr : c02w_ToolMulOK r) (FQ FB : Nat → Nat → Nat) (V : Int) (c : Nat)
    (hFQ : ∀ i, i < r.baseQ.size → (FQ i c : Int) ≡ V [ZMOD (r.baseQ.q i).value])
    (hFB : ∀ i, i < r.baseBsk.size → (FB i c : Int) ≡ V [ZMOD (r.baseBsk.q i).value]) :
    ∃ al : Nat, al < r.baseQ.size ∧ ∀ i, i < r.baseBsk.size →
      (c02w_floorVal r FQ FB i c : Int) = (V / r.baseQ.prod - al) % (r.baseBsk.q i).value :=
  fastFloor_int hr.qwf (fun i hi => ⟨(hr.bskwf.mwf i hi).pos, (hr.bsk i hi).2.2.2.2.2⟩) (fun i => FQ i c) (fun i => FB i c) V hFQ hFB

/-- step (8) on integers: Shenoy–Kumaresan returns the residues of `W` itself when `W` is in the window -/
theorem c02w_sk_int {r : RNSTool} (hr : c02w_ToolMulOK r) (FL : Nat → Nat → Nat) (W : Int) (c : Nat)
    (hFL : ∀ i, i < r.baseBsk.size → (FL i c : Int) = W % (r.baseBsk.q i).value)
    (hwin : 2 * |W| + 2 * (r.baseB.size : Int) * r.baseB.prod ≤ (r.baseB.prod : Int) * r.mSk.value) :
    ∀ i, i < r.baseQ.size → (c02w_skVal r FL i c : Int) = W % (r.baseQ.q i).value := by
  have hlast : r.baseB.size < r.baseBsk.size := by rw [hr.bsk_size]; omega
  have hsk := hFL _ hlast
  rw [hr.bsk_last] at hsk
  have hxlt : FL r.baseB.size c < r.mSk.value := by
    have h1 := Int.emod_lt_of_pos W (show (0 : Int) < (r.mSk.value : Int) by exact_mod_cast hr.mskwf.pos)
    rw [← hsk] at h1
    exact_mod_cast h1
  intro i hi
  obtain ⟨e1, _⟩ := hr.pbq i hi
  exact fastbconvSk_int hr.bwf hr.invB.2 (fun i => FL i c) _ W
    (fun i hi' => by rw [hFL i (by rw [hr.bsk_size]; omega), hr.bsk_q i hi']; exact Int.mod_modEq _ _)
    hxlt.le (by rw [hsk]; exact Int.mod_modEq _ _) hwin
    (by rw [e1]; exact (Nat.mod_lt _ (hr.qwf.mwf i hi).pos).le) (by rw [e1]; exact cast_mod_modEq _ _)

theorem c02w_two_mul_le {a b Q M k : Int} (hb : 0 ≤ b) (hM : 0 < M) (hQ : 0 ≤ Q) (hk0 : 0 ≤ k)
    (hk : (M + 2 * k)^2 ≤ 2 * M^2) (h1 : 2 * M * a ≤ Q * (M + 2 * k)) (h2 : 2 * M * b ≤ Q * (M + 2 * k)) :
    2 * a * b ≤ Q^2 := by
  have h3 := mul_le_mul h1 h2 (by positivity) (by positivity)
  have h4 := mul_le_mul_of_nonneg_left hk (sq_nonneg Q)
  refine le_of_mul_le_mul_left (a := 2 * M^2) ?_ (by positivity)
  linarith

open Finset in
theorem c02w_negMulR_bound {n : Nat} (X Y : Nat → Int) (Bd : Int)
    (h : ∀ i j, i < n → j < n → 2 * |X i| * |Y j| ≤ Bd) {c : Nat} (hc : c < n) :
    2 * |negMulR n X Y c| ≤ n * Bd := by
  refine (mul_le_mul_of_nonneg_left (negMulR_abs_le_sum n X Y c) zero_le_two).trans ?_
  rw [Finset.mul_sum]
  refine (Finset.sum_le_sum fun i hi => ?_).trans (by rw [Finset.sum_const, Finset.card_range, nsmul_eq_mul])
  rw [← mul_assoc]
  exact h i _ (Finset.mem_range.mp hi) (c05u_refl_lt hc (Finset.mem_range.mp hi))

theorem c02w_listSum_bound {α : Type} (f : α → Int) (Bd : Int) : ∀ (l : List α), (∀ x ∈ l, 2 * |f x| ≤ Bd) →
    2 * |(l.map f).sum| ≤ l.length * Bd
  | [], _ => by simp
  | a :: l, h => by
    have ih := c02w_listSum_bound f Bd l (fun x hx => h x (by simp [hx]))
    have ha := h a (by simp)
    simp only [List.map_cons, List.sum_cons, List.length_cons]
    have := abs_add_le (f a) (l.map f).sum
    push_cast
    linarith

theorem c02w_mulPairs_length_le (n1 n2 k : Nat) (h1 : 1 ≤ n1) (h2 : 1 ≤ n2) : (mulPairs n1 n2 k).length ≤ min n1 n2 := by
  simp only [mulPairs, List.length_map, List.length_range]
  omega

theorem c02w_floor_abs {V : Int} {Q : Int} (hQ : 0 < Q) : Q * |V / Q| ≤ |V| + Q := by
  have h1 := Int.emod_add_mul_ediv V Q
  have h2 := Int.emod_nonneg V (ne_of_gt hQ)
  have h3 := Int.emod_lt_of_pos V hQ
  have h4 : |Q * (V / Q)| ≤ |V| + Q := by
    rw [abs_le]
    have := le_abs_self V
    have := neg_abs_le V
    constructor <;> linarith
  rwa [abs_mul, abs_of_pos hQ] at h4

theorem c02w_floor_window {t Z Q P k al : Int} (hQ : 0 < Q) (ht : 0 ≤ t) (hZ : 2 * |Z| ≤ P * Q^2)
    (hal0 : 0 ≤ al) (hal : al + 1 ≤ k) : 2 * |t * Z / Q - al| ≤ t * P * Q + 2 * k := by
  have h1 := c02w_floor_abs (V := t * Z) hQ
  rw [abs_mul, abs_of_nonneg ht] at h1
  have h2 := mul_le_mul_of_nonneg_left hZ ht
  have h3 := abs_sub (t * Z / Q) al
  rw [abs_of_nonneg hal0] at h3
  have h4 := mul_le_mul_of_nonneg_left h3 hQ.le
  have h5 := mul_le_mul_of_nonneg_left hal hQ.le
  refine le_of_mul_le_mul_left (a := Q) ?_ hQ
  linarith

theorem c02w_floor_rem {V Q k al : Int} (hQ : 0 < Q) (hal0 : 0 ≤ al) (hal : al + 1 ≤ k) :
    0 ≤ V - Q * (V / Q - al) ∧ V - Q * (V / Q - al) < k * Q := by
  have e1 := Int.emod_add_mul_ediv V Q
  have e2 := Int.emod_nonneg V (ne_of_gt hQ)
  have e3 := Int.emod_lt_of_pos V hQ
  have e4 := mul_le_mul_of_nonneg_left hal hQ.le
  have e5 := mul_nonneg hQ.le hal0
  constructor <;> linarith

/-- the explicit window condition of W2: `t·min(n1,n2)·N·Q + 2|q| + 2|B|·B ≤ B·m_sk` -/
def c02w_Window (l : Level) (n1 n2 : Nat) : Prop :=
  l.t.value * min n1 n2 * l.n * l.tool.baseQ.prod + 2 * l.tool.baseQ.size + 2 * l.tool.baseB.size * l.tool.baseB.prod
    ≤ l.tool.baseB.prod * l.tool.mSk.value

theorem c02w_lift_prod_bound {r : RNSTool} (hr : c02w_ToolMulOK r) (p p' : RnsPoly) (j j' : Nat) :
    2 * |c02w_liftZ r p j| * |c02w_liftZ r p' j'| ≤ (r.baseQ.prod : Int)^2 := by
  have h1 := (c02w_liftZ_spec hr p j).2.2
  have h2 := (c02w_liftZ_spec hr p' j').2.2
  have hk : (r.baseQ.size : Int) ≤ 64 := by exact_mod_cast hr.qwf.le64
  rw [hr.mt_val] at h1 h2
  refine c02w_two_mul_le (M := ((2^32 : Nat) : Int)) (k := r.baseQ.size) (abs_nonneg _) (by norm_num)
    (Int.natCast_nonneg _) (Int.natCast_nonneg _) ?_ h1 h2
  calc (((2^32 : Nat) : Int) + 2 * r.baseQ.size)^2 ≤ (((2^32 : Nat) : Int) + 2 * 64)^2 :=
        pow_le_pow_left₀ (by positivity) (by linarith) 2
    _ ≤ 2 * ((2^32 : Nat) : Int)^2 := by norm_num

theorem c02w_liftArr_modEq {r : RNSTool} (hr : c02w_ToolMulOK r) (p : RnsPoly) {i : Nat} (hi : i < r.baseBsk.size)
    {j : Nat} (hj : j < r.n) :
    ((c02w_liftArr r p i).getD j 0 : Int) ≡ c02w_liftZ r p j [ZMOD (r.baseBsk.q i).value] := by
  rw [c02w_liftArr_getD r p i hj, (c02w_liftZ_spec hr p j).2.1 i hi]
  exact Int.mod_modEq _ _

/-- steps (6)–(8) on integers: if the residues after step (5) are those of an integer `Z` with `2|Z| ≤ P·Q²` and `t·P·Q` fits the
    window of Shenoy–Kumaresan, the returned residues are those of `⌊t·Z/Q⌋ − α` for ONE `α < |q|` -/
theorem c02w_outVal_int {l : Level} {T : Array NTTTables} (hm : MulOK l T) (DQ DB : Nat → Nat → Nat) (Z : Int) (c P : Nat)
    (hDQ : ∀ i, i < l.tool.baseQ.size → (DQ i c : Int) ≡ Z [ZMOD (l.tool.baseQ.q i).value])
    (hDB : ∀ i, i < l.tool.baseBsk.size → (DB i c : Int) ≡ Z [ZMOD (l.tool.baseBsk.q i).value])
    (hZ : 2 * |Z| ≤ (P : Int) * (l.tool.baseQ.prod : Int)^2)
    (hwin : l.t.value * P * l.tool.baseQ.prod + 2 * l.tool.baseQ.size + 2 * l.tool.baseB.size * l.tool.baseB.prod
      ≤ l.tool.baseB.prod * l.tool.mSk.value) :
    ∃ al : Nat, al < l.tool.baseQ.size ∧ ∀ i, i < l.tool.baseQ.size →
      (c02w_outVal l DQ DB i c : Int) = ((l.t.value : Int) * Z / l.tool.baseQ.prod - al) % (l.tool.baseQ.q i).value := by
  have hr := hm.tool
  have hmulT : ∀ (d q : Nat), (d : Int) ≡ Z [ZMOD q] → (((d * l.t.value) % q : Nat) : Int) ≡ (l.t.value : Int) * Z [ZMOD q] :=
    fun d q hd => (cast_mul_modEq _ _ _).trans (mul_comm (l.t.value : Int) Z ▸ hd.mul_right _)
  obtain ⟨al, hal, hfl⟩ := c02w_floor_int hr (fun i c => (DQ i c * l.t.value) % (l.tool.baseQ.q i).value)
    (fun i c => (DB i c * l.t.value) % (l.tool.baseBsk.q i).value) ((l.t.value : Int) * Z) c
    (fun i hi => hmulT _ _ (hDQ i hi)) (fun i hi => hmulT _ _ (hDB i hi))
  have hfw := c02w_floor_window (by exact_mod_cast hr.qwf.prod_pos) (Int.natCast_nonneg l.t.value) hZ (Int.natCast_nonneg al)
    (show (al : Int) + 1 ≤ l.tool.baseQ.size by exact_mod_cast hal)
  have hw : (l.t.value : Int) * P * l.tool.baseQ.prod + 2 * l.tool.baseQ.size
      + 2 * l.tool.baseB.size * l.tool.baseB.prod ≤ (l.tool.baseB.prod : Int) * l.tool.mSk.value := by
    exact_mod_cast hwin
  exact ⟨al, hal, c02w_sk_int hr _ _ c hfl (by linarith)⟩

theorem c02w_mulVal_int {l : Level} {T : Array NTTTables} (hm : MulOK l T) {a b : Ct}
    (h1 : 1 ≤ a.polys.size) (h2 : 1 ≤ b.polys.size)
    (hwin : c02w_Window l a.polys.size b.polys.size) (k : Nat) {c : Nat} (hc : c < l.n) :
    ∃ al : Nat, al < l.tool.baseQ.size ∧ ∀ i, i < l.tool.baseQ.size →
      (c02w_mulVal l a b k i c : Int) =
        ((l.t.value : Int) * c02w_Z a.polys.size b.polys.size l.n
            (fun x j => c02w_liftZ l.tool (a.polys.getD x #[]) j) (fun y j => c02w_liftZ l.tool (b.polys.getD y #[]) j) k c
          / l.tool.baseQ.prod - al) % (l.tool.baseQ.q i).value := by
  have hr := hm.tool
  have hq0 := fun i hi => Nat.lt_of_lt_of_le Nat.zero_lt_two (hr.qwf.mwf i hi).two_le
  have hb0 := fun i hi => Nat.lt_of_lt_of_le Nat.zero_lt_two (hr.bskwf.mwf i hi).two_le
  unfold c02w_mulVal
  refine c02w_outVal_int hm _ _ _ c (min a.polys.size b.polys.size * l.n) (fun i hi => ?_) (fun i hi => ?_) ?_
    (by rw [← Nat.mul_assoc]; exact hwin)
  · refine c02w_convVal_modEq (hq0 i hi) _ _ _ _ k (fun p _ j _ => ?_) (fun p _ j _ => ?_) hc
    exacts [((c02w_liftZ_spec hr _ j).1 i hi).symm, ((c02w_liftZ_spec hr _ j).1 i hi).symm]
  · refine c02w_convVal_modEq (hb0 i hi) _ _ _ _ k (fun p _ j hj => ?_) (fun p _ j hj => ?_) hc
    exacts [c02w_liftArr_modEq hr _ hi (hm.n_eq ▸ hj), c02w_liftArr_modEq hr _ hi (hm.n_eq ▸ hj)]
  -- every product of two lifted coefficients is at most Q²/2; a negacyclic product sums N of them, Z_k[c] at most min(n1,n2) of those
  rw [Nat.cast_mul, mul_assoc]
  refine le_trans (c02w_listSum_bound _ ((l.n : Int) * (l.tool.baseQ.prod : Int)^2) (mulPairs a.polys.size b.polys.size k)
    (fun p _ => c02w_negMulR_bound _ _ _ (fun i j _ _ => c02w_lift_prod_bound hr _ _ i j) hc)) ?_
  exact mul_le_mul_of_nonneg_right (by exact_mod_cast c02w_mulPairs_length_le _ _ k h1 h2) (by positivity)

/-! ## the window condition from the sizing rule of `RNSTool.new` -/

/-- Bernoulli: A^(m+1) − m·d·A^m ≤ A·(A−d)^m for 0 ≤ d ≤ A -/
theorem c02w_bernoulli {A d : Int} (hd : 0 ≤ d) (hA : d ≤ A) : ∀ m : Nat,
    A^(m+1) - m * d * A^m ≤ A * (A - d)^m
  | 0 => by simp
  | m+1 => by
    have ih := c02w_bernoulli hd hA m
    have hA0 : 0 ≤ A := le_trans hd hA
    have h1 : (A - d) * (A^(m+1) - m * d * A^m) ≤ (A - d) * (A * (A - d)^m) :=
      mul_le_mul_of_nonneg_left ih (by linarith)
    have h2 : (0 : Int) ≤ m * d^2 * A^m := by positivity
    have e1 : A * (A - d)^(m+1) = (A - d) * (A * (A - d)^m) := by ring
    have e2 : A^(m+1+1) - ((m+1 : Nat) : Int) * d * A^(m+1)
        = (A - d) * (A^(m+1) - m * d * A^m) - m * d^2 * A^m := by push_cast; ring
    rw [e1, e2]
    linarith

theorem c02w_pow_lower {m : Nat} (hm : m ≤ 64) : 2^(61*m) ≤ 2 * (2^61 - 2^54 : Nat)^m := by
  have hb := c02w_bernoulli (A := 2^61) (d := 2^54) (by norm_num) (by norm_num) m
  have hp : (0 : Int) ≤ (2^61 : Int)^m := by positivity
  -- m·2^54 ≤ 2^60, so the left side of Bernoulli's inequality is at least (2^61)^m · 2^60
  have hm' := mul_le_mul_of_nonneg_right (show (m : Int) ≤ 64 by exact_mod_cast hm) hp
  rw [pow_succ (2^61 : Int) m] at hb
  have h5 : (2^61 : Int)^m ≤ 2 * (2^61 - 2^54)^m := by
    generalize (2^61 : Int)^m = X at *
    generalize ((2^61 : Int) - 2^54)^m = Y at *
    linarith
  have e : ((2^61 - 2^54 : Nat) : Int) = 2^61 - 2^54 := by norm_num
  rw [pow_mul, ← Int.ofNat_le]
  push_cast [e]
  exact h5

theorem c02w_base_prod_ge {b : RNSBase} (hb : b.WF) (c : Nat) (h : ∀ i, i < b.size → c ≤ (b.q i).value) :
    c ^ b.size ≤ b.prod := by
  rw [hb.prod_eq]
  have := List.pow_card_le_prod ((List.range b.size).map (fun i => (b.q i).value)) c (by
    intro x hx
    simp only [List.mem_map, List.mem_range] at hx
    obtain ⟨i, hi, rfl⟩ := hx
    exact h i hi)
  simpa using this

theorem c02w_base_prod_le {b : RNSBase} (hb : b.WF) : b.prod ≤ (2^61) ^ b.size := by
  rw [hb.prod_eq]
  have := List.prod_le_pow_card ((List.range b.size).map (fun i => (b.q i).value)) (2^61) (by
    intro x hx
    simp only [List.mem_map, List.mem_range] at hx
    obtain ⟨i, hi, rfl⟩ := hx
    exact (hb.mwf i hi).lt.le)
  simpa using this

/-- the window condition follows from the sizing rule of `RNSTool.new` (|B| = |q| or |q|+1 by the bit counts) when the auxiliary
    moduli are 61-bit values close to 2^61 (≥ 2^61 − 2^54, as `get_primes(2n, 61, ·)` delivers) and `min(n1,n2)·N ≤ 2^30` -/
theorem c02w_window_tool {n : Nat} {q : RNSBase} {t : Modulus} {aux : List Modulus} {r : RNSTool}
    (hq : q.WF) (hq62 : q.size ≤ 62) (ht : t.WF) (htb : t.value < 2^t.bits)
    (haux : ∀ m ∈ aux, m.WF ∧ 2^61 - 2^54 ≤ m.value) (h : RNSTool.new n q t aux = .ok r) (PN : Nat) (hPN : PN ≤ 2^30) :
    t.value * PN * r.baseQ.prod + 2 * r.baseQ.size + 2 * r.baseB.size * r.baseB.prod ≤ r.baseB.prod * r.mSk.value := by
  have ht2 := ht.two_le
  have ht61 := ht.lt
  obtain ⟨hr, _, rq, rBsz, rmem⟩ := c02w_toolMulOK_of_new hq hq62 (by omega)
    (fun m hm => ⟨(haux m hm).1, le_trans (by norm_num) (haux m hm).2⟩) h
  have hkB64 := hr.bwf.le64
  have hmsk : 2^61 - 2^54 ≤ r.mSk.value := by
    have := (haux _ (rmem r.baseB.size (by rw [hr.bsk_size]; omega))).2
    rwa [hr.bsk_last] at this
  have hBge : (2^61 - 2^54)^r.baseB.size ≤ r.baseB.prod := c02w_base_prod_ge hr.bwf _ (fun i hi => by
    have := (haux _ (rmem i (by rw [hr.bsk_size]; omega))).2
    rwa [hr.bsk_q i hi] at this)
  have hB2 : 2^(61 * r.baseB.size) ≤ 2 * r.baseB.prod :=
    le_trans (c02w_pow_lower hkB64) (Nat.mul_le_mul_left 2 hBge)
  have hQle : r.baseQ.prod ≤ 2^(61 * r.baseQ.size) := by
    rw [pow_mul]; exact c02w_base_prod_le hr.qwf
  rw [rq] at hQle ⊢
  -- t·Q ≤ 2^29·B in both cases of the sizing rule
  have hXB : t.value * q.prod ≤ 2^29 * r.baseB.prod := by
    unfold baseBSize at rBsz
    split at rBsz
    · -- |B| = |q| + 1:  t·Q ≤ 2^61·2^(61|q|) = 2^(61|B|) ≤ 2B
      rw [rBsz, Nat.mul_succ, Nat.pow_add] at hB2
      have hX := Nat.mul_le_mul ht61.le hQle
      generalize 2^(61 * q.size) = E at hB2 hX
      omega
    · -- |B| = |q|, so bits(t) + bits(Q) ≤ 61|q| + 28:  t·Q < 2^28·2^(61|q|) ≤ 2^29·B
      rw [rBsz] at hB2
      have hX : t.value * q.prod < 2^t.bits * 2^(bitCount q.prod) :=
        Nat.mul_lt_mul'' htb ((bitCount_le_iff _ _).mp (Nat.le_refl _))
      have hpw : 2^(t.bits + bitCount q.prod) ≤ 2^(61 * q.size + 28) := Nat.pow_le_pow_right (by norm_num) (by omega)
      rw [Nat.pow_add, Nat.pow_add] at hpw
      generalize 2^(61 * q.size) = E at hB2 hpw
      omega
  have ha : t.value * PN * q.prod ≤ (t.value * q.prod) * 2^30 := by
    rw [Nat.mul_right_comm]; exact Nat.mul_le_mul_left _ hPN
  have hb : 2 * r.baseB.size * r.baseB.prod ≤ 130 * r.baseB.prod := Nat.mul_le_mul_right _ (by omega)
  have hc : r.baseB.prod * (2^61 - 2^54) ≤ r.baseB.prod * r.mSk.value := Nat.mul_le_mul_left _ hmsk
  have hBpos := hr.bwf.prod_pos
  omega

/-- `c02w_Window` from the sizing rule, at a level whose tool was built by `RNSTool.new` -/
theorem c02w_window_of_new {l : Level} {q : RNSBase} {aux : List Modulus}
    (hq : q.WF) (hq62 : q.size ≤ 62) (ht : l.t.WF) (htb : l.t.value < 2^l.t.bits)
    (haux : ∀ m ∈ aux, m.WF ∧ 2^61 - 2^54 ≤ m.value) (h : RNSTool.new l.n q l.t aux = .ok l.tool)
    {n1 n2 : Nat} (hPN : min n1 n2 * l.n ≤ 2^30) : c02w_Window l n1 n2 := by
  unfold c02w_Window
  have := c02w_window_tool hq hq62 ht htb haux h (min n1 n2 * l.n) hPN
  rwa [← Nat.mul_assoc] at this

/-! ## W3 helpers: readings of integer coefficient vectors in a ring with ξ^N = −1 -/

/-- reading of an integer coefficient vector in a commutative ring `S` at `ξ` (`ξ^N = −1`: the image of `X`) -/
def c02w_ev {S : Type} [CommRing S] (n : Nat) (ξ : S) (F : Nat → Int) : S := ∑ c ∈ Finset.range n, ((F c : Int) : S) * ξ^c

/-- a root `ξ` of `X^n + 1` in `S` is a ring homomorphism ℤ[X]/(X^n+1) → S: coefficients cast into `S`, then evaluation at `ξ`;
    on an element `a` it is the reading `c02w_ev n ξ a.co` -/
def c02w_evHom {S : Type} [CommRing S] {n : Nat} (hn : 0 < n) (ξ : S) (hξ : ξ^n = -1) : c03k_NP Int n →+* S :=
  (evAt hn ξ hξ).comp (c03k_NP.map (Int.castRingHom S))

theorem c02w_evHom_toNP {S : Type} [CommRing S] {n : Nat} (hn : 0 < n) (ξ : S) (hξ : ξ^n = -1) (F : Nat → Int) :
    c02w_evHom hn ξ hξ (c03k_toNP n F) = c02w_ev n ξ F :=
  show ∑ c ∈ Finset.range n, ((c03k_toNP n F).co c : S) * ξ^c = _ from
    Finset.sum_congr rfl fun c hc => by rw [c03k_toNP_co F (Finset.mem_range.mp hc)]

/-! ## Property theorems -/

/-! ### W1 -/

/-- W1 (totality, shape, closed form).  For coefficient-form operands of ANY sizes ≥ 1 whose polynomials are canonical at a level
    satisfying `MulOK` and whose destination size `resize` accepts (`ctResizeRefuses … = false`, i.e. 2 ≤ n1 + n2 − 1 ≤ 16; anything
    else is refused: `bfvMultiply_refuse_size`), `bfvMultiply` succeeds (no overflow / out-of-range branch is reachable); the result has
    `size a + size b − 1` canonical polynomials, stays in coefficient form, keeps the correction factor, and every residue is the
    closed form `c02w_mulVal`. -/
theorem bfvMultiply_ok {l : Level} {T : Array NTTTables} (hm : MulOK l T) {a b : Ct}
    (ha : ∀ k, k < a.polys.size → RnsCanon l (a.polys.getD k #[]))
    (hb : ∀ k, k < b.polys.size → RnsCanon l (b.polys.getD k #[]))
    (hna : a.ntt = false) (hnb : b.ntt = false) (h1 : 1 ≤ a.polys.size) (h2 : 1 ≤ b.polys.size)
    (hsz : ctResizeRefuses (a.polys.size + b.polys.size - 1) = false) :
    ∃ r, bfvMultiply l T a b = .ok r ∧ r.polys.size = a.polys.size + b.polys.size - 1 ∧ r.ntt = false ∧ r.cf = a.cf ∧
      (∀ k, k < a.polys.size + b.polys.size - 1 → RnsCanon l (r.polys.getD k #[])) ∧
      ∀ k, k < a.polys.size + b.polys.size - 1 → ∀ i, i < l.size → ∀ c, c < l.n →
        r.c02v_res k i c = c02w_mulVal l a b k i c := by
  obtain ⟨outs, hr, hlen, hv⟩ := c02w_core hm ha hb hna hnb h1 h2 hsz
  simp only [← list_getD_toArray outs] at hv
  refine ⟨_, hr, hlen, hna, rfl, fun k hk => (hv k hk).1, ?_⟩
  unfold Ct.c02v_res
  exact fun k hk => (hv k hk).2

/-- W1 for valid BFV ciphertexts: canonical operands with `size a + size b − 1 ≤ 16` give a canonical ciphertext -/
theorem bfvMultiply_canon {l : Level} {T : Array NTTTables} (hm : MulOK l T) {a b : Ct}
    (ha : CtCanon l a) (hb : CtCanon l b) (hna : a.ntt = false) (hnb : b.ntt = false)
    (h16 : a.polys.size + b.polys.size - 1 ≤ 16) :
    ∃ r, bfvMultiply l T a b = .ok r ∧ CtCanon l r ∧ r.polys.size = a.polys.size + b.polys.size - 1 ∧ r.ntt = false := by
  have h2a := ha.two_le; have h2b := hb.two_le
  obtain ⟨r, hr, hsz, hntt, hcf, hcan, _⟩ := bfvMultiply_ok hm ha.canon hb.canon hna hnb (by omega) (by omega)
    ((ctResizeRefuses_eq_false_iff _).mpr (by omega))
  refine ⟨r, hr, ⟨⟨by omega, by omega, fun k hk => hcan k (by omega)⟩, ?_⟩, hsz, hntt⟩
  rw [hcf]; exact ha.cf

/-- refusal: an operand in NTT form -/
theorem bfvMultiply_refuse_ntt (l : Level) (T : Array NTTTables) (a b : Ct) (h : a.ntt = true ∨ b.ntt = true) :
    bfvMultiply l T a b = .error .refused := by
  rw [c02w_bfvMultiply_eq, if_pos h]

/-- refusal (size): `resize` comes first in `bfv_multiply`; a destination size n1 + n2 − 1 that it refuses (1, or more than 16)
    is refused whatever the operands and the level are -/
theorem bfvMultiply_refuse_size (l : Level) (T : Array NTTTables) (a b : Ct)
    (h : ctResizeRefuses (a.polys.size + b.polys.size - 1) = true) : bfvMultiply l T a b = .error .refused := by
  rw [c02w_bfvMultiply_eq, if_pos h, ite_self]

/-- a successful BEHZ product had an admissible destination size -/
theorem bfvMultiply_ok_size {l : Level} {T : Array NTTTables} {a b r : Ct} (hr : bfvMultiply l T a b = .ok r) :
    ctResizeRefuses (a.polys.size + b.polys.size - 1) = false := by
  cases h : ctResizeRefuses (a.polys.size + b.polys.size - 1) with
  | false => rfl
  | true => rw [bfvMultiply_refuse_size l T a b h] at hr; cases hr

theorem bfvMultiply_ok_le16 {l : Level} {T : Array NTTTables} {a b r : Ct} (hr : bfvMultiply l T a b = .ok r) :
    a.polys.size + b.polys.size - 1 ≤ 16 := by
  have := (ctResizeRefuses_eq_false_iff _).mp (bfvMultiply_ok_size hr)
  omega

/-- refusal: an operand without polynomials (by `resize` when the other operand has two, otherwise after the lifts of both
    operands succeeded) -/
theorem bfvMultiply_refuse_empty {l : Level} {T : Array NTTTables} (hm : MulOK l T) {a b : Ct}
    (ha : ∀ k, k < a.polys.size → RnsCanon l (a.polys.getD k #[]))
    (hb : ∀ k, k < b.polys.size → RnsCanon l (b.polys.getD k #[]))
    (hna : a.ntt = false) (hnb : b.ntt = false) (h : a.polys.size < 1 ∨ b.polys.size < 1) :
    bfvMultiply l T a b = .error .refused := by
  obtain ⟨ab, hA, _, _⟩ := c02w_lift_spec hm ha
  obtain ⟨bb, hB, _, _⟩ := c02w_lift_spec hm hb
  cases hsz : ctResizeRefuses (a.polys.size + b.polys.size - 1) with
  | true => exact bfvMultiply_refuse_size l T a b hsz
  | false =>
    rw [c02w_bfvMultiply_eq, if_neg (by simp [hna, hnb]), if_neg (by simp [hsz]), hA, R.ok_bind, hB, R.ok_bind, if_pos h]

/-! ### W2 -/

/-- W2, operands: the lifted coefficient `c02w_liftZ` of a canonical polynomial is congruent to the input residue modulo every
    q_i and satisfies `2·m̃·|X| ≤ Q·(m̃ + 2|q|)` (|X| ≤ Q/2 + |q|·Q/m̃, m̃ = 2^32): the "small BEHZ offset" -/
theorem bfvLift_spec {l : Level} {T : Array NTTTables} (hm : MulOK l T) (p : RnsPoly) (j : Nat) :
    (∀ i, i < l.size → c02w_liftZ l.tool p j ≡ ((p.getD i #[]).getD j 0 : Int) [ZMOD (l.q i).value]) ∧
    2 * (2^32 : Int) * |c02w_liftZ l.tool p j| ≤ (l.tool.baseQ.prod : Int) * (2^32 + 2 * (l.size : Int)) := by
  obtain ⟨h1, _, h3⟩ := c02w_liftZ_spec hm.tool p j
  refine ⟨fun i hi => ?_, ?_⟩
  · have := h1 i (by rw [c02w_base_size hm]; exact hi)
    rwa [c02w_base_q hm] at this
  · rw [hm.tool.mt_val, c02w_base_size hm] at h3
    exact_mod_cast h3

/-- W2, exact integer semantics of every output coefficient: under the window condition `c02w_Window`, for every output
    polynomial `k` and coefficient `c` there is ONE `α < |q|` (the fast-floor error) such that for every prime q_i the residue
    returned by the model is `⌊t·Z_k[c]/Q⌋ − α  mod q_i`, where `Z_k = Σ_{x+y=k} X_x ⋆ Y_y` over ℤ[X]/(X^N+1) is formed from the
    lifted operand coefficients (`bfvLift_spec`); the Montgomery correction is exact and Shenoy–Kumaresan is exact in the window. -/
theorem bfvMultiply_coeff {l : Level} {T : Array NTTTables} (hm : MulOK l T) {a b r : Ct}
    (ha : ∀ k, k < a.polys.size → RnsCanon l (a.polys.getD k #[]))
    (hb : ∀ k, k < b.polys.size → RnsCanon l (b.polys.getD k #[]))
    (hna : a.ntt = false) (hnb : b.ntt = false) (h1 : 1 ≤ a.polys.size) (h2 : 1 ≤ b.polys.size)
    (hwin : c02w_Window l a.polys.size b.polys.size) (hr : bfvMultiply l T a b = .ok r) :
    ∀ k, k < a.polys.size + b.polys.size - 1 → ∀ c, c < l.n → ∃ al : Nat, al < l.size ∧ ∀ i, i < l.size →
      (r.c02v_res k i c : Int) =
        ((l.t.value : Int) * c02w_Z a.polys.size b.polys.size l.n
            (fun x j => c02w_liftZ l.tool (a.polys.getD x #[]) j) (fun y j => c02w_liftZ l.tool (b.polys.getD y #[]) j) k c
          / l.tool.baseQ.prod - al) % (l.q i).value := by
  obtain ⟨r', hr', _, _, _, _, hv⟩ := bfvMultiply_ok hm ha hb hna hnb h1 h2 (bfvMultiply_ok_size hr)
  rw [hr] at hr'
  obtain rfl := Except.ok.inj hr'
  intro k hk c hc
  obtain ⟨al, hal, hval⟩ := c02w_mulVal_int hm h1 h2 hwin k hc
  refine ⟨al, by rw [← c02w_base_size hm]; exact hal, fun i hi => ?_⟩
  rw [hv k hk i hi c hc, hval i (by rw [c02w_base_size hm]; exact hi), c02w_base_q hm]

/-- W2 with every hypothesis discharged from the model's constructors: level tables well formed, tool built by `RNSBase.new` +
    `RNSTool.new` (auxiliary moduli well formed and ≥ 2^61 − 2^54), Bsk tables built by `NTTTables.new`, `min(n1,n2)·N ≤ 2^30` -/
theorem bfvMultiply_coeff_of_new {l : Level} {T : Array NTTTables} {q : RNSBase} {aux : List Modulus}
    (hl : l.WF) (hlen : l.qs.size ≤ 62) (hk : l.k ≤ 60) (ht : l.t.WF) (htb : l.t.value < 2^l.t.bits)
    (haux : ∀ m ∈ aux, m.WF ∧ 2^61 - 2^54 ≤ m.value)
    (hq : RNSBase.new l.qs.toList = .ok q) (h : RNSTool.new l.n q l.t aux = .ok l.tool)
    (hT : ∀ i, i < l.tool.baseBsk.size → ∃ pr root0, root0 < 2^64 ∧
      NTTTables.new l.k (l.tool.baseBsk.q i) pr root0 = .ok (T.getD i default))
    {a b r : Ct}
    (ha : ∀ k, k < a.polys.size → RnsCanon l (a.polys.getD k #[]))
    (hb : ∀ k, k < b.polys.size → RnsCanon l (b.polys.getD k #[]))
    (hna : a.ntt = false) (hnb : b.ntt = false) (h1 : 1 ≤ a.polys.size) (h2 : 1 ≤ b.polys.size)
    (hPN : min a.polys.size b.polys.size * l.n ≤ 2^30) (hr : bfvMultiply l T a b = .ok r) :
    ∀ k, k < a.polys.size + b.polys.size - 1 → ∀ c, c < l.n → ∃ al : Nat, al < l.size ∧ ∀ i, i < l.size →
      (r.c02v_res k i c : Int) =
        ((l.t.value : Int) * c02w_Z a.polys.size b.polys.size l.n
            (fun x j => c02w_liftZ l.tool (a.polys.getD x #[]) j) (fun y j => c02w_liftZ l.tool (b.polys.getD y #[]) j) k c
          / l.tool.baseQ.prod - al) % (l.q i).value := by
  have haux' : ∀ m ∈ aux, m.WF ∧ 2^32 ≤ m.value := fun m hm => ⟨(haux m hm).1, le_trans (by norm_num) (haux m hm).2⟩
  have hm := c02w_mulOK_of_new hl hlen hk ht haux' hq h hT
  obtain ⟨-, hqwf, -, hqs⟩ := c02w_base_of_new hl (by omega) hq
  exact bfvMultiply_coeff hm ha hb hna hnb h1 h2 (c02w_window_of_new hqwf (hqs ▸ hlen) ht htb haux h hPN) hr

/-! ### W3 -/

/-- W3 for every ring homomorphism `φ` out of ℤ[X]/(X^N+1) and every secret `s` of the target: the integer polynomials `D_k` (exact lifts
    of the output polynomials) and `E_k` (`0 ≤ E_k[c] < |q|·Q`) are chosen before `φ` and `s` -/
theorem c02w_phase_hom {S : Type} [CommRing S] {l : Level} {T : Array NTTTables} (hm : MulOK l T) {a b r : Ct}
    (ha : c05u_CtCanon l a)
    (hb : c05u_CtCanon l b)
    (hna : a.ntt = false) (hnb : b.ntt = false) (h1 : 1 ≤ a.polys.size) (h2 : 1 ≤ b.polys.size)
    (hwin : c02w_Window l a.polys.size b.polys.size) (hr : bfvMultiply l T a b = .ok r) :
    ∃ D E : Nat → Nat → Int,
      (∀ k, k < a.polys.size + b.polys.size - 1 → ∀ c, c < l.n → ∀ i, i < l.size →
        (r.c02v_res k i c : Int) ≡ D k c [ZMOD (l.q i).value]) ∧
      (∀ k, k < a.polys.size + b.polys.size - 1 → ∀ c, c < l.n →
        0 ≤ E k c ∧ E k c < (l.size : Int) * l.tool.baseQ.prod) ∧
      ∀ (φ : c03k_NP Int l.n →+* S) (s : S),
      ((l.tool.baseQ.prod : Int) : S) * ctPhase (a.polys.size + b.polys.size - 1) (fun k => φ (c03k_toNP l.n (D k))) s
        + ctPhase (a.polys.size + b.polys.size - 1) (fun k => φ (c03k_toNP l.n (E k))) s
        = ((l.t.value : Int) : S) *
          (ctPhase a.polys.size (fun x => φ (c03k_toNP l.n (fun j => c02w_liftZ l.tool (a.polys.getD x #[]) j))) s *
           ctPhase b.polys.size (fun y => φ (c03k_toNP l.n (fun j => c02w_liftZ l.tool (b.polys.getD y #[]) j))) s) := by
  have hcoeff := bfvMultiply_coeff hm ha hb hna hnb h1 h2 hwin hr
  choose! al hal hval using hcoeff
  have hQpos : (0 : Int) < (l.tool.baseQ.prod : Int) := by exact_mod_cast hm.tool.qwf.prod_pos
  generalize hZdef : c02w_Z a.polys.size b.polys.size l.n
      (fun x j => c02w_liftZ l.tool (a.polys.getD x #[]) j) (fun y j => c02w_liftZ l.tool (b.polys.getD y #[]) j) = Z at hval
  refine ⟨fun k c => (l.t.value : Int) * Z k c / l.tool.baseQ.prod - al k c,
    fun k c => (l.t.value : Int) * Z k c
      - (l.tool.baseQ.prod : Int) * ((l.t.value : Int) * Z k c / l.tool.baseQ.prod - al k c),
    fun k hk c hc i hi => by rw [hval k hk c hc i hi]; exact Int.mod_modEq _ _,
    fun k hk c hc => c02w_floor_rem hQpos (Int.natCast_nonneg _) (by exact_mod_cast hal k hk c hc), fun φ s => ?_⟩
  -- per output polynomial, in ℤ[X]/(X^N+1):  Q·D_k + E_k = t·Z_k = t·Σ_{x+y=k} X_x·Y_y
  have hk : ∀ k, (l.tool.baseQ.prod : Int) • c03k_toNP l.n (fun c => (l.t.value : Int) * Z k c / l.tool.baseQ.prod - al k c)
        + c03k_toNP l.n (fun c => (l.t.value : Int) * Z k c
            - (l.tool.baseQ.prod : Int) * ((l.t.value : Int) * Z k c / l.tool.baseQ.prod - al k c))
      = (l.t.value : Int) • ((mulPairs a.polys.size b.polys.size k).map (fun p =>
          c03k_toNP l.n (fun j => c02w_liftZ l.tool (a.polys.getD p.1 #[]) j)
            * c03k_toNP l.n (fun j => c02w_liftZ l.tool (b.polys.getD p.2 #[]) j))).sum := by
    intro k
    simp only [← c03k_toNP_mul, ← c03k_toNP_listsum, ← c03k_toNP_zsmul]
    refine c03k_np_ext fun c hc => ?_
    rw [c03k_NP.add_co, c03k_toNP_co _ hc, c03k_toNP_co _ hc, c03k_toNP_co _ hc, ← hZdef]
    unfold c02w_Z
    ring
  rw [← ct_mul_phase (R := S) h1 h2]
  unfold ctPhase
  rw [Finset.mul_sum, Finset.mul_sum, ← Finset.sum_add_distrib]
  refine Finset.sum_congr rfl fun k _ => ?_
  have := congrArg φ (hk k)
  rw [map_add, map_zsmul, map_zsmul, map_list_sum, List.map_map, zsmul_eq_mul, zsmul_eq_mul] at this
  simp only [Function.comp_def, map_mul] at this
  rw [← mul_assoc, ← mul_assoc, ← add_mul, this]

/-- W3 (ring form).  In ANY commutative ring `S` with an element `ξ`, `ξ^N = −1` (e.g. `ℤ[X]/(X^N+1)` or `ℤ_Q[X]/(X^N+1)`) and for ANY
    secret `s ∈ S`: there are integer polynomials `D_k` (the exact lifts of the output polynomials: every residue the model returns
    is `D_k[c] mod q_i`) and `E_k` with `0 ≤ E_k[c] < |q|·Q` such that
    `Q · phase_s(D) + phase_s(E) = t · phase_s(X) · phase_s(Y)`, i.e. `phase(result) = (t·phase(X)·phase(Y) − phase_s(E))/Q`,
    where `X`, `Y` are the lifted operands of `bfvLift_spec` (≡ the inputs modulo every q_i, size ≤ Q/2 + |q|Q/2^32). -/
theorem bfvMultiply_phase {S : Type} [CommRing S] {l : Level} {T : Array NTTTables} (hm : MulOK l T) {a b r : Ct}
    (ha : ∀ k, k < a.polys.size → RnsCanon l (a.polys.getD k #[]))
    (hb : ∀ k, k < b.polys.size → RnsCanon l (b.polys.getD k #[]))
    (hna : a.ntt = false) (hnb : b.ntt = false) (h1 : 1 ≤ a.polys.size) (h2 : 1 ≤ b.polys.size)
    (hwin : c02w_Window l a.polys.size b.polys.size) (hr : bfvMultiply l T a b = .ok r)
    (ξ s : S) (hξ : ξ^l.n = -1) :
    ∃ D E : Nat → Nat → Int,
      (∀ k, k < a.polys.size + b.polys.size - 1 → ∀ c, c < l.n → ∀ i, i < l.size →
        (r.c02v_res k i c : Int) ≡ D k c [ZMOD (l.q i).value]) ∧
      (∀ k, k < a.polys.size + b.polys.size - 1 → ∀ c, c < l.n →
        0 ≤ E k c ∧ E k c < (l.size : Int) * l.tool.baseQ.prod) ∧
      ((l.tool.baseQ.prod : Int) : S) * ctPhase (a.polys.size + b.polys.size - 1) (fun k => c02w_ev l.n ξ (D k)) s
        + ctPhase (a.polys.size + b.polys.size - 1) (fun k => c02w_ev l.n ξ (E k)) s
        = ((l.t.value : Int) : S) *
          (ctPhase a.polys.size (fun x => c02w_ev l.n ξ (fun j => c02w_liftZ l.tool (a.polys.getD x #[]) j)) s *
           ctPhase b.polys.size (fun y => c02w_ev l.n ξ (fun j => c02w_liftZ l.tool (b.polys.getD y #[]) j)) s) := by
  obtain ⟨D, E, hD, hE, h⟩ := c02w_phase_hom (S := S) hm ha hb hna hnb h1 h2 hwin hr
  have hn0 : 0 < l.n := by rw [hm.lwf.npow]; exact Nat.pos_of_ne_zero (by positivity)
  have := h (c02w_evHom hn0 ξ hξ) s
  simp only [c02w_evHom_toNP] at this
  exact ⟨D, E, hD, hE, this⟩

end HC
