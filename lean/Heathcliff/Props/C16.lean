import Heathcliff.Proofs.C16B
import Heathcliff.Proofs.C16C
import Heathcliff.Proofs.GenRng6
import Heathcliff.Model.Encrypt

/- C16: seeded expansion is reproducible, draws are fresh, samples are well-formed.
   Helper lemmas are in Heathcliff/Proofs/C16*.lean (the model) and Heathcliff/Proofs/GenRng*.lean (the generated functions).
   `xof` (BLAKE3 block function), `ent` (OS entropy) and `U` (rand's Uniform) are parameters; what the property says about
   the QUALITY of BLAKE3 / OS entropy (no repetition, different seeds give different streams) is outside the model and is
   checked empirically by the harness (labelled as tests) -- see `stored_seeds_fresh` for where such a hypothesis enters. -/
namespace HC.C16
open HC HC.Rng

/-! ## (a) the byte stream is a function of the seed alone and independent of chunking -/

/-- chunking law from ANY state (any buffer position, crossing any number of refills): reading `a+b` bytes at once gives
    the same bytes and the same final state as reading `a` then `b` -/
theorem fill_bytes_split (xof : Xof) (s : St) (a b : Nat) :
    fillBytes xof s (a + b) =
      ((fillBytes xof s a).1 ++ (fillBytes xof (fillBytes xof s a).2 b).1, (fillBytes xof (fillBytes xof s a).2 b).2) := by
  induction a generalizing s with
  | zero => simp [fillBytes_zero]
  | succ a ih =>
    have e : a + 1 + b = (a + b) + 1 := by omega
    rw [e, fillBytes_succ, fillBytes_succ, ih]
    simp

/-- for EVERY list of chunk lengths: the concatenation of the successive `fill_bytes` outputs and the state afterwards are
    those of one read of the total length (so both depend on the total only) -/
theorem fill_bytes_chunking (xof : Xof) (s : St) (chunks : List Nat) :
    ((runFills xof s chunks).1.flatten, (runFills xof s chunks).2) = fillBytes xof s chunks.sum := by
  induction chunks generalizing s with
  | nil => simp [runFills, fillBytes_zero]
  | cons n ns ih =>
    have := ih (fillBytes xof s n).2
    simp only [runFills, List.flatten_cons, List.sum_cons]
    rw [fill_bytes_split, ← this]

/-- ... and from a freshly seeded generator that concatenation is the prefix of `xof seed 0 ++ xof seed 1 ++ …`
    (`byteAt xof seed i` = byte `i mod 4096` of block `i / 4096`) of the total length -/
theorem fill_bytes_stream (xof : Xof) (seed : Seed) (chunks : List Nat) :
    (runFills xof (fromSeed seed) chunks).1.flatten = streamSlice xof seed 0 chunks.sum := by
  have h := fill_bytes_chunking xof (fromSeed seed) chunks
  have h2 := (rep_fillBytes (rep_fromSeed (xof := xof) seed) chunks.sum).1
  rw [← h] at h2
  exact h2

/-- the same, literally as in the property text: with 4096-byte blocks the concatenated outputs are the prefix of
    `xof seed 0 ++ xof seed 1 ++ … ++ xof seed (k-1)` (any `k ≤ 2^64` blocks that cover the total) -/
theorem fill_bytes_prefix_of_blocks (xof : Xof) (seed : Seed) (hsz : ∀ c, (xof seed c).size = BUF) (chunks : List Nat)
    (k : Nat) (hk : k ≤ B64) (hn : chunks.sum ≤ k * BUF) :
    (runFills xof (fromSeed seed) chunks).1.flatten = (blocksConcat xof seed k).take chunks.sum := by
  rw [fill_bytes_stream]
  exact streamSlice_eq_take seed hsz k hk _ hn

example : ∀ c, ((fun (_ : Seed) (_ : Nat) => Array.replicate BUF 7) [] c).size = BUF := fun _ => by simp

/-- two chunkings with the same total: same bytes, same state -/
theorem chunking_irrelevant (xof : Xof) (s : St) (c1 c2 : List Nat) (h : c1.sum = c2.sum) :
    (runFills xof s c1).1.flatten = (runFills xof s c2).1.flatten ∧ (runFills xof s c1).2 = (runFills xof s c2).2 := by
  have h1 := fill_bytes_chunking xof s c1
  have h2 := fill_bytes_chunking xof s c2
  rw [h, ← h2] at h1
  simp only [Prod.mk.injEq] at h1
  exact h1

/-- every interleaving of `fill_bytes`, `next_u32`, `next_u64` on a freshly seeded generator is the cursor semantics over
    the stream: `fill_bytes` takes the next bytes, `next_u32` / `next_u64` first round the cursor up to a multiple of 4 / 8
    (these are, by design, not chunking invariant) and read little endian -/
theorem generator_is_stream_cursor (xof : Xof) (seed : Seed) (ops : List Op) :
    (run xof (fromSeed seed) ops).1 = (cursorRun xof seed 0 ops).1 :=
  (rep_run (rep_fromSeed (xof := xof) seed) ops).1

/-- the alignment statements as coded (`(pos + 3) & !3`, `(pos + 7) & !7` on a 64-bit `usize`) are the roundings used in
    the model (`nextWord`) -/
theorem alignment_as_coded (x : Nat) (hx : x < 2^64) :
    x &&& (2^64 - 1 - Gen.U32_ALIGN_MASK) = x / (Gen.U32_ALIGN_MASK + 1) * (Gen.U32_ALIGN_MASK + 1) ∧
    x &&& (2^64 - 1 - Gen.U64_ALIGN_MASK) = x / (Gen.U64_ALIGN_MASK + 1) * (Gen.U64_ALIGN_MASK + 1) :=
  ⟨align4_as_coded x hx, align8_as_coded x hx⟩

/-! ## (b) hamming weight, bound of the error samples -/

/-- `hammingWeight` (the byte-wise bit tricks of `util::hamming_weight`) counts the set bits of a byte; exhaustive over the 256 bytes -/
theorem hamming_weight_popcount : ∀ x, x < 256 → hammingWeight x = popcount8 x := by decide +kernel

/-- `|cbd(bytes)| ≤ 21` for all 2^48 inputs -/
theorem cbd_bound (bytes : List Nat) (hl : bytes.length = Gen.CBD_BYTES) (hb : ∀ b ∈ bytes, b < 256) :
    -21 ≤ cbdValue bytes ∧ cbdValue bytes ≤ 21 := cbdValue_bound bytes hl hb

example : cbdValue [255, 255, 255, 0, 0, 0] = 21 := by decide
example : cbdValue [0, 0, 0, 255, 255, 255] = -21 := by decide

/-- exact distribution of the error sample: of the 2^48 possible 6-byte draws exactly `64·C(42, v+21)` give the value `v`
    (`cbdCount v` = nested sum over all six bytes of `[cbdValue bytes = v]`), i.e. the push-forward of the uniform
    distribution is Bin(21,½) − Bin(21,½) -/
theorem cbd_distribution (v : Int) :
    cbdCount v = if -21 ≤ v ∧ v ≤ 21 then 64 * binom 42 (v + 21).toNat else 0 := cbdCount_eq v

/-- hence mean 0 (symmetry) and variance 21/2 = 10.5 (standard deviation ≈ 3.24, the 3.2 the code asks for) -/
theorem cbd_moments :
    (∀ v, cbdCount v = cbdCount (-v)) ∧
    sumL (List.range 43) (fun j => cbdCount ((j : Int) - 21)) = 2 ^ 48 ∧
    2 * sumL (List.range 43) (fun j => ((j : Int) - 21).natAbs ^ 2 * cbdCount ((j : Int) - 21)) = 21 * 2 ^ 48 := by
  have e1 : sumL (List.range 43) (fun j => cbdCount ((j : Int) - 21)) = sumL (List.range 43) (fun j => 64 * binom 42 j) :=
    sumL_congr (fun j hj => cbdCount_in j (List.mem_range.mp hj))
  have e2 : sumL (List.range 43) (fun j => ((j : Int) - 21).natAbs ^ 2 * cbdCount ((j : Int) - 21)) =
      sumL (List.range 43) (fun j => ((j : Int) - 21).natAbs ^ 2 * (64 * binom 42 j)) :=
    sumL_congr (fun j hj => by rw [cbdCount_in j (List.mem_range.mp hj)])
  refine ⟨fun v => ?_, by rw [e1]; decide, by rw [e2]; decide⟩
  rw [cbdCount_eq, cbdCount_eq]
  by_cases h : -21 ≤ v ∧ v ≤ 21
  · have h' : -21 ≤ -v ∧ -v ≤ 21 := by omega
    rw [if_pos h, if_pos h']
    have hj : (v + 21).toNat < 43 := by omega
    have e : (-v + 21).toNat = 42 - (v + 21).toNat := by omega
    rw [e]
    have : ∀ j : Nat, j < 43 → binom 42 j = binom 42 (42 - j) := by decide
    rw [this _ hj]
  · have h' : ¬ (-21 ≤ -v ∧ -v ≤ 21) := by omega
    rw [if_neg h, if_neg h']

example : binom 42 21 = 538257874440 := by decide

/-! ## (c) sampled polynomials are well-formed -/

/-- rand 0.8.5's `UniformInt::sample` as modelled meets the contract assumed of `Uniform` -/
theorem rand_uniform_contract : randUniform.Contract := randUniform_contract

/-- ternary samples: one value `v_i ∈ {-1,0,1}` per coefficient, component `j` holds `v_i mod q_j` -/
theorem ternary_rns_consistent (U : Uniform) (hU : U.Contract) {xof : Xof} (hx : ByteXof xof) {s s' : St} (hs : ByteSt s)
    {n : Nat} {moduli : List Nat} {c : List (List Nat)} (hq : ∀ q ∈ moduli, 2 ≤ q)
    (h : ternary U xof s n moduli = .ok (c, s')) :
    ∃ vs : List Int, vs.length = n ∧ (∀ v ∈ vs, -1 ≤ v ∧ v ≤ 1) ∧
      c = moduli.map (fun (q : Nat) => vs.map fun v => (v % (q : Int)).toNat) ∧ ByteSt s' :=
  ternary_spec U hU hx hs hq h

/-- error samples: one value `|v_i| ≤ 21` per coefficient, component `j`
    holds `v_i mod q_j` -- for EVERY modulus `q_j ≥ 2`, also those not above the error bound -/
theorem error_rns_consistent {xof : Xof} (hx : ByteXof xof) {s s' : St} (hs : ByteSt s)
    {n : Nat} {moduli : List Nat} {c : List (List Nat)} (hq : ∀ q ∈ moduli, 2 ≤ q)
    (h : centeredBinomial xof s n moduli = .ok (c, s')) :
    ∃ vs : List Int, vs.length = n ∧ (∀ v ∈ vs, -21 ≤ v ∧ v ≤ 21) ∧
      c = moduli.map (fun (q : Nat) => vs.map fun v => (v % (q : Int)).toNat) ∧ ByteSt s' :=
  centeredBinomial_spec hx hs hq h

/-- the encoding never refuses and is the canonical residue, whatever the value and the modulus `q ≥ 1` -/
theorem error_encoding_total {q : Nat} (hq : 0 < q) (v : Int) : encError q v = .ok (v % (q : Int)).toNat :=
  encError_eq hq v

example : encError 5 (-7) = .ok 3 := by rfl
example : encError 5 (-10) = .ok 0 := by rfl
example : encError 2 21 = .ok 1 := by rfl

/-- uniform samples: component `j` has `n` coefficients below `q_j` (under the `Uniform` contract) -/
theorem uniform_below_modulus (U : Uniform) (hU : U.Contract) {xof : Xof} (hx : ByteXof xof) {s s' : St} (hs : ByteSt s)
    {n : Nat} {moduli : List Nat} {c : List (List Nat)} (hq : ∀ q ∈ moduli, q ≤ 2^64)
    (h : uniformPoly U xof s n moduli = .ok (c, s')) : AllBelow n moduli c ∧ ByteSt s' :=
  uniformPoly_spec U hU hx moduli s s' c hs hq h

-- non-vacuity of the hypotheses
example : ByteXof (fun _ _ => #[]) := fun _ _ i => by simp [Array.getD_eq_getD_getElem?]
example (seed : Seed) : ByteSt (fromSeed seed) := byteSt_fromSeed seed

/-! ## (d) freshness (history theorems over the factory) and determinism -/

/-- the factory stored in every context creates generators from fresh entropy -/
theorem context_factory_uses_entropy :
    Gen.CONTEXT_FACTORY_IS_NEW = true ∧ Gen.GET_RNG_FRESH_ENTROPY_PER_CALL = true ∧ Factory.new.useRandomSeed = true :=
  ⟨rfl, rfl, rfl⟩

/-- over ANY history of key generations / encryptions on one context: the entropy index advances by exactly the number of
    generators created (key generation 1; symmetric 2: c1 generator, then noise generator; asymmetric 2: u generator, then
    noise generator; 1 when the caller supplies the mask generator) and the generators are seeded with consecutive entropy
    outputs, none reused -/
theorem draws_consume_fresh_entropy (U : Uniform) (xof : Xof) (P : Parms) (ent : Entropy) (ops : List HOp) (w : Nat) :
    (hrun U xof P Factory.new ent w ops).2 = w + totalCnt ops ∧
      allFactorySeeds (hrun U xof P Factory.new ent w ops).1 = (List.range (totalCnt ops)).map fun i => ent (w + i) := by
  induction ops generalizing w with
  | nil => simp [hrun, totalCnt, allFactorySeeds]
  | cons o os ih =>
    obtain ⟨h1, h2⟩ := hstep_fresh (xof := xof) U P ent w o
    obtain ⟨i1, i2⟩ := ih (hstep U xof P Factory.new ent w o).2
    have e1 : totalCnt (o :: os) = o.cnt + totalCnt os := by simp [totalCnt]
    have e2 : (hrun U xof P Factory.new ent w (o :: os)).2 = (hrun U xof P Factory.new ent (hstep U xof P Factory.new ent w o).2 os).2 := rfl
    have e3 : allFactorySeeds (hrun U xof P Factory.new ent w (o :: os)).1 =
        (hstep U xof P Factory.new ent w o).1.factorySeeds ++
          allFactorySeeds (hrun U xof P Factory.new ent (hstep U xof P Factory.new ent w o).2 os).1 := by
      simp [hrun, allFactorySeeds]
    refine ⟨by rw [e2, i1, h1, e1]; omega, ?_⟩
    rw [e3, h2, i2, h1, e1, List.range_add, List.map_append, List.map_map]
    simp [Function.comp_def, Nat.add_assoc]

/-- with an injective entropy source no two generators of a history share a seed (in particular the mask generator and
    the noise generator of one encryption are different generators) -/
theorem draws_fresh (U : Uniform) (xof : Xof) (P : Parms) (ent : Entropy) (hent : Function.Injective ent)
    (ops : List HOp) (w : Nat) : (allFactorySeeds (hrun U xof P Factory.new ent w ops).1).Nodup := by
  rw [(draws_consume_fresh_entropy U xof P ent ops w).2]
  apply nodup_map_of_injective (fun i => ent (w + i))
  · intro a b hab
    have := hent hab
    omega
  · exact List.nodup_range

example : Function.Injective (fun i : Nat => [i]) := fun a b h => by simpa using h

/-- stored seeds: the seed saved in a symmetric ciphertext / key is the first 64 stream bytes of a fresh generator; if
    BLAKE3 maps the entropy outputs in use to different first blocks (assumption on BLAKE3 + entropy, outside the model),
    no two seeded objects of a history share their stored seed -/
theorem stored_seeds_fresh (U : Uniform) (xof : Xof) (P : Parms) (ent : Entropy)
    (hinj : Function.Injective fun i => firstBytes xof (ent i)) (ops : List HOp) (w : Nat) :
    (symPublicSeeds ops (hrun U xof P Factory.new ent w ops).1).Nodup := by
  rw [symPublicSeeds_eq]
  exact nodup_map_of_injective _ hinj _ (symIdx_nodup ops w)

-- non-vacuity of `hinj`: a block function whose first bytes repeat the seed, entropy outputs `[i]`
example : Function.Injective fun i : Nat => firstBytes (fun seed _ => seed.toArray) ((fun i => [i]) i) := by
  intro a b h
  have ha := (rep_fillBytes (rep_fromSeed (xof := fun seed _ => seed.toArray) [a]) Gen.PRNG_SEED_BYTES).1
  have hb := (rep_fillBytes (rep_fromSeed (xof := fun seed _ => seed.toArray) [b]) Gen.PRNG_SEED_BYTES).1
  simp only [firstBytes] at h
  rw [ha, hb] at h
  have e : Gen.PRNG_SEED_BYTES = 63 + 1 := rfl
  rw [e, streamSlice_succ, streamSlice_succ] at h
  injection h

/-- determinism: operations handed the same explicit mask-generator state derive exactly the same stored seed and mask,
    whatever the factory / entropy / history position -/
theorem mask_deterministic (U : Uniform) (xof : Xof) (P : Parms) (f f' : Factory) (ent ent' : Entropy) (w w' : Nat) (g : St) :
    (hstep U xof P f ent w (.symmetricWith g)).1.mask = (hstep U xof P f' ent' w' (.symmetricWith g)).1.mask ∧
    (hstep U xof P f ent w (.symmetricWith g)).1.publicSeed = (hstep U xof P f' ent' w' (.symmetricWith g)).1.publicSeed ∧
    (hstep U xof P f ent w (.asymmetricWith g)).1.mask = (hstep U xof P f' ent' w' (.asymmetricWith g)).1.mask :=
  ⟨rfl, rfl, rfl⟩

/-- a factory built with `from_seed` (not what contexts use) hands out the SAME seed every time: freshness rests entirely
    on `use_random_seed = true` -/
theorem fixed_seed_factory_repeats (seed : Seed) (ent : Entropy) (w w' : Nat) :
    ((Factory.fromSeed seed).getRng ent w).1.seed = ((Factory.fromSeed seed).getRng ent w').1.seed := rfl


/-! ## (e) THE CODE ITSELF (translator tie): `Gen/RngFns.lean` is generated on every run from src/util/random_generator.rs
    (`BlakeRNG::refill_buffer`, `next_u32`, `next_u64`, `fill_bytes`), src/util/basic.rs (`hamming_weight`) and src/util/rlwe.rs
    (`sample::centered_binomial`, `ternary`, `uniform`) by tools/rs2lean_rng.py; the generated functions equal the model the theorems
    above are about.  `ofSt s` = the model state as the generated `struct BlakeRNG`, `xofL xof` = the block function as byte lists.
    `SizedXof` / `SizedSt`: the buffer is a `[u8; BUFFER_SIZE]` (facts of the Rust types, not of values). -/
section generated
open HC.GenRng

/-- `refill_buffer` = `refill` (every state) -/
theorem gen_refill_buffer_eq (xof : Xof) (s : St) : GenRng.refill_buffer (xofL xof) (ofSt s) = .ok (ofSt (refill xof s)) :=
  gn_refill_buffer_eq xof s

/-- `next_u32` = `nextU32` for every state with `pos ≤ BUFFER_SIZE`: the checked `usize` additions do not trap, the raw-pointer read
    (rendered as a bounds-checked little-endian read: out of bounds would be undefined behaviour) stays inside the buffer -/
theorem gen_next_u32_eq {xof : Xof} (hx : SizedXof xof) (s : St) (hs : SizedSt s) (hp : s.pos ≤ BUF) :
    GenRng.next_u32 (xofL xof) (ofSt s) = .ok (ofSt (nextU32 xof s).2, (nextU32 xof s).1) := gn_next_u32_eq hx s hs hp

/-- the same for `next_u64` / `nextU64` -/
theorem gen_next_u64_eq {xof : Xof} (hx : SizedXof xof) (s : St) (hs : SizedSt s) (hp : s.pos ≤ BUF) :
    GenRng.next_u64 (xofL xof) (ofSt s) = .ok (ofSt (nextU64 xof s).2, (nextU64 xof s).1) := gn_next_u64_eq hx s hs hp

/-- `fill_bytes(dest)` = `fillBytes` for `dest.len()` bytes, from EVERY state (any cursor, also beyond the buffer), whatever `dest` held;
    the `while` loop needs at most `dest.len()` iterations (the fuel `dest.len() + 1` of the translation is never exhausted) -/
theorem gen_fill_bytes_eq {xof : Xof} (hx : SizedXof xof) (s : St) (hs : SizedSt s) (dest : List Nat) (hd : dest.length < 2^64) :
    GenRng.fill_bytes (xofL xof) (ofSt s) dest = .ok (ofSt (fillBytes xof s dest.length).2, (fillBytes xof s dest.length).1) :=
  gn_fill_bytes_eq hx s hs dest hd

/-- the invariants are kept by every operation (so the equalities chain over any sequence of calls) -/
theorem gen_invariants_kept {xof : Xof} (hx : SizedXof xof) (s : St) (hs : GenInv s) (o : Op) (ho : OpOK o) :
    GenInv (step xof s o).2 := (gs_genStep_eq hx s hs o ho).2

example (seed : Seed) : GenInv (fromSeed seed) := genInv_fromSeed seed
example : SizedXof (fun _ _ => Array.replicate BUF 7) := fun _ _ => by simp

/-- `util::hamming_weight` (checked `i32` arithmetic) = `hammingWeight` on every byte -/
theorem gen_hamming_weight_eq : ∀ x, x < 256 → GenRng.hamming_weight x = .ok (Int.ofNat (hammingWeight x)) := gn_hamming_weight_eq

/-- every interleaving of the three GENERATED functions, from ANY reachable state, returns what the model's `run` returns -/
theorem gen_run_eq {xof : Xof} (hx : SizedXof xof) (ops : List Op) (s : St) (hs : GenInv s) (hops : ∀ o ∈ ops, OpOK o) :
    gs_genRun (xofL xof) (ofSt s) ops = .ok ((run xof s ops).1, ofSt (run xof s ops).2) :=
  gs_genRun_eq hx ops s hs hops

/-- SOURCE TO MATHEMATICS, generator: every interleaving of the three GENERATED functions on a freshly seeded generator returns the
    cursor semantics over the stream `xof seed 0 ++ xof seed 1 ++ …` (composition with `generator_is_stream_cursor`) -/
theorem gen_generator_is_stream_cursor {xof : Xof} (hx : SizedXof xof) (seed : Seed) (ops : List Op) (hops : ∀ o ∈ ops, OpOK o) :
    ∃ g, gs_genRun (xofL xof) (ofSt (fromSeed seed)) ops = .ok ((cursorRun xof seed 0 ops).1, g) := by
  refine ⟨ofSt (run xof (fromSeed seed) ops).2, ?_⟩
  rw [gen_run_eq hx ops (fromSeed seed) (genInv_fromSeed seed) hops, (rep_run (rep_fromSeed (xof := xof) seed) ops).1]
  rfl

example : ∀ o ∈ [Op.fill 5, Op.u32, Op.fill 4090, Op.u64], OpOK o := by
  intro o ho
  simp only [List.mem_cons, List.not_mem_nil, or_false] at ho
  rcases ho with rfl | rfl | rfl | rfl <;> simp [OpOK]

/-- chunking law on the GENERATED `fill_bytes` (composition with `fill_bytes_split`) -/
theorem gen_fill_bytes_split {xof : Xof} (hx : SizedXof xof) (s : St) (hs : SizedSt s) (d1 d2 : List Nat) (hd : (d1 ++ d2).length < 2^64) :
    ∃ g1 o1 g2 o2, GenRng.fill_bytes (xofL xof) (ofSt s) d1 = .ok (g1, o1) ∧ GenRng.fill_bytes (xofL xof) g1 d2 = .ok (g2, o2) ∧
      GenRng.fill_bytes (xofL xof) (ofSt s) (d1 ++ d2) = .ok (g2, o1 ++ o2) := by
  have hl : d1.length + d2.length < 2^64 := by simpa using hd
  have h1 := gn_fill_bytes_eq hx s hs d1 (by omega)
  have h2 := gn_fill_bytes_eq hx (fillBytes xof s d1.length).2 (sizedSt_fillBytes hx _ s hs) d2 (by omega)
  have h3 := gn_fill_bytes_eq hx s hs (d1 ++ d2) hd
  rw [List.length_append, fill_bytes_split] at h3
  exact ⟨_, _, _, _, h1, h2, h3⟩

/-- from a fresh seed the generated `fill_bytes` writes the prefix of the stream (composition with `fill_bytes_stream`) -/
theorem gen_fill_bytes_stream {xof : Xof} (hx : SizedXof xof) (seed : Seed) (dest : List Nat) (hd : dest.length < 2^64) :
    ∃ g, GenRng.fill_bytes (xofL xof) (ofSt (fromSeed seed)) dest = .ok (g, streamSlice xof seed 0 dest.length) := by
  refine ⟨ofSt (fillBytes xof (fromSeed seed) dest.length).2, ?_⟩
  rw [gn_fill_bytes_eq hx (fromSeed seed) (sizedSt_fromSeed seed) dest hd, (rep_fillBytes (rep_fromSeed (xof := xof) seed) dest.length).1]
  rfl

/-- the `cbd` closure of `centered_binomial` run on the generated `BlakeRNG` (6 bytes from the generated `fill_bytes`, the masks, six
    generated `hamming_weight`s, five checked `i32` operations) = `cbdValue` of the model's draw … -/
theorem gen_cbd_closure_eq (U : Uniform) {xof : Xof} (hx : SizedXof xof) (hbx : ByteXof xof) (s : St) (hs : SizedSt s) (hbs : ByteSt s) :
    GenRng.centered_binomial_closure1 (blakeOps U xof) (ofSt s) = .ok (ofSt (fillBytes xof s 6).2, cbdValue (fillBytes xof s 6).1) :=
  gs_cbd_closure_eq U hx hbx s hs hbs

/-- … hence lies in `[-21, 21]` (composition with `cbd_bound`) -/
theorem gen_cbd_bound (U : Uniform) {xof : Xof} (hx : SizedXof xof) (hbx : ByteXof xof) (s : St) (hs : SizedSt s) (hbs : ByteSt s) :
    ∃ g v, GenRng.centered_binomial_closure1 (blakeOps U xof) (ofSt s) = .ok (g, v) ∧ -21 ≤ v ∧ v ≤ 21 := by
  refine ⟨_, _, gen_cbd_closure_eq U hx hbx s hs hbs, ?_⟩
  exact cbdValue_bound _ (fillBytes_length s 6) (byte_fillBytes hbx hbs 6).1

/-- generated `centered_binomial` = model, laid out flat (position `i + j·n`), for ANY old contents of the destination -/
theorem gen_centered_binomial_eq (U : Uniform) {xof : Xof} (hx : SizedXof xof) (hbx : ByteXof xof) (s : St) (hs : SizedSt s) (hbs : ByteSt s)
    (n : Nat) (moduli dest : List Nat) (hd : dest.length = moduli.length * n) (hB : moduli.length * n < B64)
    (c : List (List Nat)) (s' : St) (h : centeredBinomial xof s n moduli = .ok (c, s')) :
    GenRng.centered_binomial (blakeOps U xof) (ofSt s) moduli n dest = .ok (ofSt s', flatCM moduli.length n c) :=
  (gs_centered_binomial_iff U hx hbx s hs hbs n moduli dest hd hB _ _).2 ⟨c, s', h, rfl, rfl⟩

/-- SOURCE TO MATHEMATICS, error samples: on moduli `q_j ≥ 2` the generated `centered_binomial` NEVER PANICS, and there are `n` values
    `|v_i| ≤ 21` with `v_i mod q_j` at position `i + j·n` of the destination (composition with `error_rns_consistent`, `cbd_bound`) -/
theorem gen_centered_binomial_source_to_math (U : Uniform) {xof : Xof} (hx : SizedXof xof) (hbx : ByteXof xof) (s : St) (hs : SizedSt s)
    (hbs : ByteSt s) (n : Nat) (moduli dest : List Nat) (hd : dest.length = moduli.length * n) (hB : moduli.length * n < B64)
    (hq : ∀ q ∈ moduli, 2 ≤ q) :
    ∃ (vs : List Int) (s' : St), vs.length = n ∧ (∀ v ∈ vs, -21 ≤ v ∧ v ≤ 21) ∧ ByteSt s' ∧
      centeredBinomial xof s n moduli = .ok (moduli.map (fun (q : Nat) => vs.map fun v => (v % (q : Int)).toNat), s') ∧
      GenRng.centered_binomial (blakeOps U xof) (ofSt s) moduli n dest =
        .ok (ofSt s', flatCM moduli.length n (moduli.map fun (q : Nat) => vs.map fun v => (v % (q : Int)).toNat)) := by
  obtain ⟨c, s', h⟩ := centeredBinomial_total xof s n (moduli := moduli) (fun q hq' => by have := hq q hq'; omega)
  obtain ⟨vs, l1, p1, rfl, b1⟩ := error_rns_consistent hbx hbs hq h
  exact ⟨vs, s', l1, p1, b1, h, gen_centered_binomial_eq U hx hbx s hs hbs n moduli dest hd hB _ s' h⟩

/-- the layout: component `j`, coefficient `i` at `i + j·n` -/
theorem flat_layout (k n : Nat) (c : List (List Nat)) {i j : Nat} (hi : i < n) (hj : j < k) :
    (flatCM k n c).getD (i + j * n) 0 = (c.getD j []).getD i 0 := by
  have hp := gs_pos_lt hi hj
  have hn : 0 < n := by omega
  have h1 : (i + j * n) % n = i := by rw [Nat.add_mul_mod_self_right, Nat.mod_eq_of_lt hi]
  have h3 : (i + j * n) / n = j := by rw [Nat.add_mul_div_right _ _ hn, Nat.div_eq_of_lt hi, Nat.zero_add]
  simp [flatCM, List.getD_eq_getElem?_getD, hp, h1, h3]

-- non-vacuity of the shape hypotheses: two moduli (one below the error bound), degree 2, a dirty destination
example : ([9, 9, 9, 9] : List Nat).length = ([5, 13] : List Nat).length * 2 ∧ ([5, 13] : List Nat).length * 2 < B64 ∧ ∀ q ∈ ([5, 13] : List Nat), 2 ≤ q := by
  decide

/-- generated `ternary` = model, without any assumption on `Uniform` or the moduli: whatever the model returns, the generated code returns -/
theorem gen_ternary_eq (U : Uniform) (xof : Xof) (s : St) (n : Nat) (moduli dest : List Nat)
    (hd : dest.length = moduli.length * n) (hB : moduli.length * n < B64)
    (c : List (List Nat)) (s' : St) (h : Rng.ternary U xof s n moduli = .ok (c, s')) :
    GenRng.ternary (blakeOps U xof) (ofSt s) moduli n dest = .ok (ofSt s', flatCM moduli.length n c) :=
  (gs_ternary_iff U xof s n moduli dest hd hB _ _).2 ⟨c, s', h, rfl, rfl⟩

/-- … hence `v_i mod q_j`, `v_i ∈ {-1,0,1}` (composition with `ternary_rns_consistent`) -/
theorem gen_ternary_source_to_math (U : Uniform) (hU : U.Contract) {xof : Xof} (hbx : ByteXof xof) (s : St) (hbs : ByteSt s)
    (n : Nat) (moduli dest : List Nat) (hd : dest.length = moduli.length * n) (hB : moduli.length * n < B64) (hq : ∀ q ∈ moduli, 2 ≤ q)
    (c : List (List Nat)) (s' : St) (h : Rng.ternary U xof s n moduli = .ok (c, s')) :
    ∃ vs : List Int, vs.length = n ∧ (∀ v ∈ vs, -1 ≤ v ∧ v ≤ 1) ∧
      GenRng.ternary (blakeOps U xof) (ofSt s) moduli n dest =
        .ok (ofSt s', flatCM moduli.length n (moduli.map fun (q : Nat) => vs.map fun v => (v % (q : Int)).toNat)) := by
  obtain ⟨vs, l1, p1, rfl, _⟩ := ternary_rns_consistent U hU hbx hbs hq h
  exact ⟨vs, l1, p1, gen_ternary_eq U xof s n moduli dest hd hB _ s' h⟩

/-- generated `uniform` = model (whenever the model's draws succeed), coefficients of component `j` below `q_j` (composition with `uniform_below_modulus`) -/
theorem gen_uniform_source_to_math (U : Uniform) (hU : U.Contract) {xof : Xof} (hbx : ByteXof xof) (s : St) (hbs : ByteSt s)
    (n : Nat) (moduli dest : List Nat) (hd : dest.length = moduli.length * n) (hB : moduli.length * n < B64) (hq : ∀ q ∈ moduli, q ≤ 2^64)
    (c : List (List Nat)) (s' : St) (h : uniformPoly U xof s n moduli = .ok (c, s')) :
    GenRng.uniform (blakeOps U xof) (ofSt s) moduli n dest = .ok (ofSt s', flatCM moduli.length n c) ∧ AllBelow n moduli c :=
  ⟨(gs_uniform_iff U xof s n moduli dest hd hB _ _).2 ⟨c, s', h, rfl, rfl⟩, (uniformPoly_spec U hU hbx moduli s s' c hbs hq h).1⟩

/-- `SeedableRng::from_seed` = `fromSeed` (so "a freshly seeded generator" in the statements above is the generated constructor's result) -/
theorem gen_from_seed_eq (seed : Seed) : GenRng.from_seed seed = .ok (ofSt (fromSeed seed)) := by
  have hb : BUF = 4096 := BUF_eq
  unfold from_seed ofSt fromSeed
  simp only [hb, Array.toList_replicate, pure, Except.pure]

/-- EQUALITY ON SUCCESS, both directions: the generated `centered_binomial` returns `(g', d')` iff the model returns a polynomial `c` and a
    state `s'` with `g' = ofSt s'`, `d' = flat c` — generated code and model succeed on exactly the same inputs, with the same result
    (in particular: whenever one of them fails, so does the other) -/
theorem gen_centered_binomial_iff (U : Uniform) {xof : Xof} (hx : SizedXof xof) (hbx : ByteXof xof) (s : St) (hs : SizedSt s) (hbs : ByteSt s)
    (n : Nat) (moduli dest : List Nat) (hd : dest.length = moduli.length * n) (hB : moduli.length * n < B64) (g' : BlakeRNG) (d' : List Nat) :
    GenRng.centered_binomial (blakeOps U xof) (ofSt s) moduli n dest = .ok (g', d') ↔
      ∃ c s', centeredBinomial xof s n moduli = .ok (c, s') ∧ g' = ofSt s' ∧ d' = flatCM moduli.length n c :=
  gs_centered_binomial_iff U hx hbx s hs hbs n moduli dest hd hB g' d'

/-- the same for `ternary`: no assumption on `Uniform`, the moduli or the generator state (the code draws and encodes coefficient by
    coefficient, the model draws first and encodes afterwards: they still succeed together) -/
theorem gen_ternary_iff (U : Uniform) (xof : Xof) (s : St) (n : Nat) (moduli dest : List Nat)
    (hd : dest.length = moduli.length * n) (hB : moduli.length * n < B64) (g' : BlakeRNG) (d' : List Nat) :
    GenRng.ternary (blakeOps U xof) (ofSt s) moduli n dest = .ok (g', d') ↔
      ∃ c s', Rng.ternary U xof s n moduli = .ok (c, s') ∧ g' = ofSt s' ∧ d' = flatCM moduli.length n c :=
  gs_ternary_iff U xof s n moduli dest hd hB g' d'

/-- the same for `uniform` -/
theorem gen_uniform_iff (U : Uniform) (xof : Xof) (s : St) (n : Nat) (moduli dest : List Nat)
    (hd : dest.length = moduli.length * n) (hB : moduli.length * n < B64) (g' : BlakeRNG) (d' : List Nat) :
    GenRng.uniform (blakeOps U xof) (ofSt s) moduli n dest = .ok (g', d') ↔
      ∃ c s', uniformPoly U xof s n moduli = .ok (c, s') ∧ g' = ofSt s' ∧ d' = flatCM moduli.length n c :=
  gs_uniform_iff U xof s n moduli dest hd hB g' d'

/-- `Ciphertext::contains_seed` (skeleton over the flat buffer `data` = c0 ++ c1; `n` = degree, `k` = number of moduli of the ciphertext):
    `size == 2 && c1[0] == CIPHERTEXT_SEED_FLAG` -/
theorem gen_contains_seed_eq (data : List Nat) (n k : Nat) (hn : 0 < n) (hk : 0 < k) (hlen : data.length = 2 * (n * k)) (hB : 2 * (n * k) < B64) :
    GenRng.contains_seed data 2 n k = .ok (decide (data.getD (n * k) 0 = gs_FLAG)) ∧
    (∀ size, size ≠ 2 → GenRng.contains_seed data size n k = .ok false) :=
  ⟨gs_contains_seed_eq data n k hn hk hlen hB, fun size hs => by
    unfold contains_seed
    rw [if_pos hs]
    simp [R.ok_bind', pure, Except.pure]⟩

example : gs_FLAG = Gen.CIPHERTEXT_SEED_FLAG := rfl

/-- `Ciphertext::expand_seed` (skeleton; `seedBytes` = little-endian bytes of the 8 words after the flag word `data[n·k]`): on a flagged
    size-2 ciphertext whose polynomials have AT LEAST 9 WORDS, c0 is kept and c1 becomes `sample::uniform` drawn from
    `BlakeRNG::from_seed(seedBytes)` -/
theorem gen_expand_seed_eq (U : Uniform) (xof : Xof) (data moduli : List Nat) (n k : Nat) (hk : moduli.length = k)
    (hlen : data.length = 2 * (n * k)) (hflag : data.getD (n * k) 0 = gs_FLAG) (h9 : 9 ≤ n * k) (hB : 2 * (n * k) < B64)
    (c : List (List Nat)) (s' : St) (h : uniformPoly U xof (fromSeed (gs_seedBytes data (n * k))) n moduli = .ok (c, s')) :
    GenRng.expand_seed (blakeOps U xof) data 2 n k moduli n = .ok (data.take (n * k) ++ flatCM k n c) := by
  have hn : 0 < n := Nat.pos_of_ne_zero (by rintro rfl; simp at h9)
  have hk0 : 0 < k := Nat.pos_of_ne_zero (by rintro rfl; simp at h9)
  have lb := gs_leBytes_seed (data := data) (kn := n * k) (by omega)
  have hsub : ((data.drop (n * k)).take (2 * (n * k) - n * k)).length = moduli.length * n := by
    simp [hk, hlen]; rw [Nat.mul_comm k n]; omega
  have hu := (gs_uniform_iff U xof (fromSeed (gs_seedBytes data (n * k))) n moduli _ hsub (by rw [hk, Nat.mul_comm]; omega) _ _).2 ⟨c, s', h, rfl, rfl⟩
  rw [hk] at hu
  rw [gs_expand_seed_flagged _ data moduli n n k hn hk0 hlen hB hflag, lb]
  simp only [R.ok_bind', gen_from_seed_eq, hu]
  simp only [pure, Except.pure, splice, gs_flatCM_length, Except.ok.injEq]
  have hd : data.drop (n * k + k * n) = [] := List.drop_eq_nil_of_le (by rw [hlen, Nat.mul_comm k n]; omega)
  rw [hd, List.append_nil]

/-- the hypothesis `9 ≤ n·k` of the previous theorem is NOT a technicality: below it (N = 4 or 8 with one prime, N = 4 with two, N = 2 with
    up to four) the raw-pointer read of the seed LEAVES THE BUFFER - `.error .oob` is the translation's rendering of undefined behaviour.
    (`symmetric_with_c1_prng` never stores a seed there, but `expand_seed` / `deserialize_full` do not check.  Observed on the real code,
    notes/work7-R.md: one byte string deserializes to different ciphertexts.) -/
theorem gen_expand_seed_oob (B : RngOps BlakeRNG) (data qs : List Nat) (pn n k : Nat) (hn : 0 < n) (hk : 0 < k)
    (hlen : data.length = 2 * (n * k)) (hflag : data.getD (n * k) 0 = gs_FLAG) (h9 : n * k < 9) :
    GenRng.expand_seed B data 2 n k qs pn = .error .oob :=
  gs_expand_seed_oob B data qs pn n k hn hk hlen hflag h9

example : (0 : Nat) < 4 ∧ (0 : Nat) < 1 ∧ ([11, 12, 13, 14, 18446744073709551615, 1, 2, 3] : List Nat).length = 2 * (4 * 1) ∧
    ([11, 12, 13, 14, 18446744073709551615, 1, 2, 3] : List Nat).getD (4 * 1) 0 = gs_FLAG ∧ 4 * 1 < 9 := by decide

/-- a size-2 ciphertext that is not flagged is refused -/
theorem gen_expand_seed_refuses (B : RngOps BlakeRNG) (data qs : List Nat) (pn n k : Nat) (hn : 0 < n) (hk : 0 < k)
    (hlen : data.length = 2 * (n * k)) (hB : 2 * (n * k) < B64) (hflag : data.getD (n * k) 0 ≠ gs_FLAG) :
    GenRng.expand_seed B data 2 n k qs pn = .error .refused := by
  unfold expand_seed
  rw [gs_contains_seed_eq data n k hn hk hlen hB]
  simp only [R.ok_bind', hflag, decide_false]
  rfl

/-- tie to `Model/Encrypt.lean`: what `expandSeed` returns for the seeded ciphertext `(c0, seedBytes)` at level `l` is what the generated
    function writes over polynomial 1 -/
theorem gen_expand_seed_model (U : Uniform) (xof : Xof) (l : Level) (data : List Nat) (c0 : RnsPoly) (ntt : Bool) (cf : Nat)
    (hlen : data.length = 2 * (l.n * l.qs.size)) (hflag : data.getD (l.n * l.qs.size) 0 = gs_FLAG) (h9 : 9 ≤ l.n * l.qs.size)
    (hB : 2 * (l.n * l.qs.size) < B64) (ct : Ct)
    (h : expandSeed U xof l ⟨c0, gs_seedBytes data (l.n * l.qs.size), ntt, cf⟩ = .ok ct) :
    ∃ c : List (List Nat), ct.polys = #[c0, toRns c] ∧
      GenRng.expand_seed (blakeOps U xof) data 2 l.n l.qs.size (l.qs.toList.map (·.value)) l.n =
        .ok (data.take (l.n * l.qs.size) ++ flatCM l.qs.size l.n c) := by
  unfold expandSeed at h
  obtain ⟨r, hr, h⟩ := R.bind_eq_ok.1 h
  obtain ⟨c, s'⟩ := r
  simp only [pure, Except.pure, Except.ok.injEq] at h
  refine ⟨c, by rw [← h], ?_⟩
  exact gen_expand_seed_eq U xof data _ l.n l.qs.size (by simp) hlen hflag h9 hB c s' hr

end generated

end HC.C16
