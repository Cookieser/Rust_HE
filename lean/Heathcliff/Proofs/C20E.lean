/-
  C20E, convolution (conv2d.rs), one block: the three position maps as four-digit positions; the encoded input tile / weight block
  as functions of the position; and `c20_xcorr_coeff`, the read-back coefficient of the negacyclic product of ANY two polynomials
  laid out like an input tile and a weight block (valid cross-correlation with the flipped kernel layout) — no encoder of the model
  occurs in it.  C20F instantiates it with the model's encoders, for the convolution and for coefficient packing.
-/
import Heathcliff.Proofs.C20B

namespace HC
open Finset HC.MM

/-- the only pairs (input position, weight position) that sum to a read position are the expected ones: no carries -/
theorem c20_cv_low {W hb cib cob b tc r s oc m ki kj b0 oc0 R0 C0 : Nat}
    (h1 : C0 < W) (h1' : s + kj < C0 + W) (h2 : R0 < hb) (h2' : r + ki < R0 + hb)
    (hcib : 0 < cib) (h3 : tc + m + 1 < 2 * cib) (h4 : oc < cob) (h4' : oc0 < cob)
    (h : c20_pos4 (cib * cob) hb W b tc r s + c20_pos4 cib hb W oc m ki kj = c20_pos4 cib hb W (b0 * cob + oc0) (cib - 1) R0 C0) :
    s + kj = C0 ∧ r + ki = R0 ∧ tc + m = cib - 1 ∧ b = b0 ∧ oc = oc0 := by
  have e1 : c20_pos4 (cib * cob) hb W b tc r s + c20_pos4 cib hb W oc m ki kj
      = (((b * cob + oc) * cib + (tc + m)) * hb + (r + ki)) * W + (s + kj) := by unfold c20_pos4; ring
  have e2 : c20_pos4 cib hb W (b0 * cob + oc0) (cib - 1) R0 C0
      = (((b0 * cob + oc0) * cib + (cib - 1)) * hb + R0) * W + C0 := by unfold c20_pos4; ring
  rw [e1, e2] at h
  obtain ⟨a1, a2⟩ := c20_nocarry h1 h1' h
  obtain ⟨b1, b2⟩ := c20_nocarry h2 h2' a2
  obtain ⟨c1, c2⟩ := c20_nocarry (W := cib) (v := cib - 1) (by omega) (by omega) b2
  obtain ⟨d2, d1⟩ := grid_inj h4 h4' c2
  exact ⟨a1, b1, c1, d2, d1⟩

/-- wrap-around pairs do not reach a read position -/
theorem c20_cv_high {n W hb cib cob bb kh kw b tc r s oc m ki kj H0 R0 C0 : Nat}
    (hfit : bb * (cib * cob) * (hb * W) ≤ n) (hb' : b < bb) (htc : tc < cib) (hr : r < hb) (hs : s < W)
    (hoc : oc < cob) (hm : m < cib) (hki : ki < kh) (hkj : kj < kw) (hR0 : kh - 1 ≤ R0) (hC0 : kw - 1 ≤ C0)
    (h : c20_pos4 (cib * cob) hb W b tc r s + c20_pos4 cib hb W oc m ki kj = n + c20_pos4 cib hb W H0 (cib - 1) R0 C0) :
    False := by
  unfold c20_pos4 at h
  have hT : cib * cob * (hb * W) = cob * (cib * (hb * W)) := by ring
  have a1 := grid_succ_le (B := cib * cob * (hb * W)) hb'
  have a2 := grid_succ_le (B := hb * W) htc
  have a3 := grid_succ_le (B := W) hr
  have a4 := grid_succ_le (B := cib * (hb * W)) hoc
  have a5 := grid_succ_le (B := hb * W) hm
  have a6 : ki * W ≤ R0 * W := Nat.mul_le_mul_right W (by omega)
  have e1 : b * (cib * cob) * (hb * W) = b * (cib * cob * (hb * W)) := by ring
  have e2 : oc * cib * (hb * W) = oc * (cib * (hb * W)) := by ring
  have e3 : bb * (cib * cob) * (hb * W) = bb * (cib * cob * (hb * W)) := by ring
  have e4 : H0 * cib * (hb * W) = H0 * (cib * (hb * W)) := by ring
  have e5 : (cib - 1) * (hb * W) + hb * W = cib * (hb * W) := by
    rw [← Nat.succ_mul, Nat.succ_eq_add_one, Nat.sub_add_cancel (by omega)]
  rw [e1, e2, e4] at h
  rw [e3] at hfit
  rw [hT] at a1 hfit h
  omega

/-- input position + mirrored weight position = read position -/
theorem c20_cv_sum {W hb cib cob b0 oc0 ic ki kj i0 j0 kh kw : Nat} (hic : ic < cib) (hki : ki < kh) (hkj : kj < kw) :
    c20_pos4 (cib * cob) hb W b0 ic (i0 + ki) (j0 + kj) + c20_pos4 cib hb W oc0 (cib - 1 - ic) (kh - 1 - ki) (kw - 1 - kj)
      = c20_pos4 cib hb W (b0 * cob + oc0) (cib - 1) (kh - 1 + i0) (kw - 1 + j0) := by
  obtain ⟨e, he⟩ : ∃ e, cib - 1 = ic + e := ⟨cib - 1 - ic, by omega⟩
  obtain ⟨f, hf⟩ : ∃ f, kh - 1 = ki + f := ⟨kh - 1 - ki, by omega⟩
  obtain ⟨g, hg⟩ : ∃ g, kw - 1 = kj + g := ⟨kw - 1 - kj, by omega⟩
  rw [he, hf, hg, Nat.add_sub_cancel_left, Nat.add_sub_cancel_left, Nat.add_sub_cancel_left]
  unfold c20_pos4
  ring

theorem c20_cxPos_eq (h : CHelper) (db dc ti tj : Nat) :
    cxPos h db dc ti tj = c20_pos4 (h.cib * h.cob) h.hb h.wb db dc ti tj := by
  unfold cxPos CHelper.blockSize c20_pos4; rw [Nat.mul_assoc db]

theorem c20_cwPos_eq (h : CHelper) (doc dic ki kj : Nat) :
    cwPos h doc dic ki kj = c20_pos4 h.cib h.hb h.wb doc (h.cib - 1 - dic) ki kj := rfl

theorem c20_cyPos_eq (h : CHelper) (db dc i j : Nat) (hcib : 0 < h.cib) (hkh : 1 ≤ h.S.kh) (hkw : 1 ≤ h.S.kw)
    (hkhb : h.S.kh ≤ h.hb) (hkwb : h.S.kw ≤ h.wb) :
    cyPos h db dc i j = c20_pos4 h.cib h.hb h.wb (db * h.cob + dc) (h.cib - 1) (h.S.kh - 1 + i) (h.S.kw - 1 + j) := by
  have e : ∀ {b k : Nat}, 1 ≤ k → k ≤ b → b - (b - k + 1) = k - 1 := fun h1 h2 => by omega
  unfold cyPos CHelper.blockSize c20_pos4
  rw [Nat.add_sub_assoc hcib, e hkh hkhb, e hkw hkwb, Nat.add_mul (db * h.cob), Nat.mul_right_comm db h.cob, Nat.add_mul _ (h.cib - 1)]

/-- one encoded input polynomial (`encode_inputs_*`) as a function of the position -/
theorem c20_cvEncInput_spec {R : Type} (zero : R) (h : CHelper) (x : Nat → R)
    (hfit : h.bb * (h.cib * h.cob) * (h.hb * h.wb) ≤ h.n) (hcob : 0 < h.cob)
    (lb ub lci uci si ui sj uj : Nat) (hb : ub - lb ≤ h.bb) (hc : uci - lci ≤ h.cib) (hr : ui - si ≤ h.hb) (hs : uj - sj ≤ h.wb) :
    ∃ px, cvEncInputBlock h zero x lb ub lci uci si ui sj uj = .ok px ∧ px.size = h.n ∧
      (∀ q, (∀ db dc ti tj, db < ub - lb → dc < uci - lci → ti < ui - si → tj < uj - sj → cxPos h db dc ti tj ≠ q) → px.getD q zero = zero) ∧
      (∀ db dc ti tj, db < ub - lb → dc < uci - lci → ti < ui - si → tj < uj - sj →
        px.getD (cxPos h db dc ti tj) zero
          = x ((lb + db) * h.S.ci * (h.S.h * h.S.w) + (lci + dc) * (h.S.h * h.S.w) + (si + ti) * h.S.w + (sj + tj))) := by
  have hcc : uci - lci ≤ h.cib * h.cob := le_trans hc (Nat.le_mul_of_pos_right _ hcob)
  obtain ⟨a, hf, hsz, hz, hv⟩ := c20_scatter_map zero h.n h.n (quads (ub - lb) (uci - lci) (ui - si) (uj - sj))
    (fun q => cxPos h q.1 q.2.1 q.2.2.1 q.2.2.2)
    (fun q => x ((lb + q.1) * h.S.ci * (h.S.h * h.S.w) + (lci + q.2.1) * (h.S.h * h.S.w) + (si + q.2.2.1) * h.S.w + (sj + q.2.2.2)))
    (by
      intro q hq
      obtain ⟨h1, h2, h3, h4⟩ := c20_mem_quads.mp hq
      have := c20_pos4_bound (lt_of_lt_of_le h1 hb) (lt_of_lt_of_le h2 hcc) (lt_of_lt_of_le h3 hr) (lt_of_lt_of_le h4 hs) hfit
      rw [c20_cxPos_eq]
      exact ⟨this, this⟩)
    (by
      intro q hq q' hq' he
      obtain ⟨_, h2, h3, h4⟩ := c20_mem_quads.mp hq
      obtain ⟨_, h2', h3', h4'⟩ := c20_mem_quads.mp hq'
      simp only [c20_cxPos_eq] at he
      obtain ⟨e1, e2, e3, e4⟩ := c20_pos4_inj (lt_of_lt_of_le h2 hcc) (lt_of_lt_of_le h2' hcc) (lt_of_lt_of_le h3 hr)
        (lt_of_lt_of_le h3' hr) (lt_of_lt_of_le h4 hs) (lt_of_lt_of_le h4' hs) he
      rw [e1, e2, e3, e4])
  refine ⟨a, hf, hsz, ?_, ?_⟩
  · intro q hq
    exact hz q (fun k hk => by obtain ⟨h1, h2, h3, h4⟩ := c20_mem_quads.mp hk; exact hq _ _ _ _ h1 h2 h3 h4)
  · intro db dc ti tj h1 h2 h3 h4
    exact hv (db, dc, ti, tj) (c20_mem_quads.mpr ⟨h1, h2, h3, h4⟩)

/-- the weight buffer fits where the input buffer does -/
theorem c20_cv_fitW {h : CHelper} (hbb : 0 < h.bb) (hfit : h.bb * (h.cib * h.cob) * (h.hb * h.wb) ≤ h.n) :
    h.cob * h.cib * (h.hb * h.wb) ≤ h.n :=
  (Nat.le_mul_of_pos_left _ hbb).trans (Nat.mul_comm h.cib h.cob ▸ Nat.mul_assoc h.bb _ _ ▸ hfit)

/-- one encoded weight polynomial (`encode_weights_*`, buffer sized with the height block) as a function of the position: the kernel is
    stored flipped, entry (`ki`, `kj`) at row `kh − 1 − ki`, column `kw − 1 − kj` of its block -/
theorem c20_cvEncWeight_spec {R : Type} (zero : R) (h : CHelper) (w : Nat → R)
    (hfit : h.cob * h.cib * (h.hb * h.wb) ≤ h.n) (hkhb : h.S.kh ≤ h.hb) (hkwb : h.S.kw ≤ h.wb)
    (loc uoc lic uic : Nat) (ho : uoc - loc ≤ h.cob) (hc : uic - lic ≤ h.cib) :
    ∃ pw, cvEncWeightBlock h zero w loc uoc lic uic = .ok pw ∧
      (∀ q, (∀ doc dic ki kj, doc < uoc - loc → dic < uic - lic → ki < h.S.kh → kj < h.S.kw → cwPos h doc dic ki kj ≠ q) → pw.getD q zero = zero) ∧
      (∀ doc dic ki kj, doc < uoc - loc → dic < uic - lic → ki < h.S.kh → kj < h.S.kw →
        pw.getD (cwPos h doc dic (h.S.kh - 1 - ki) (h.S.kw - 1 - kj)) zero
          = w (((loc + doc) * h.S.ci + (lic + dic)) * (h.S.kh * h.S.kw) + ki * h.S.kw + kj)) := by
  have hsp : h.spreadSize = h.cob * h.cib * (h.hb * h.wb) := by unfold CHelper.spreadSize; ring
  obtain ⟨a, hf, hsz, hz, hv⟩ := c20_scatter_map zero h.spreadSize h.spreadSize (quads (uoc - loc) (uic - lic) h.S.kh h.S.kw)
    (fun q => cwPos h q.1 q.2.1 q.2.2.1 q.2.2.2)
    (fun q => w (((loc + q.1) * h.S.ci + (lic + q.2.1)) * (h.S.kh * h.S.kw) + (h.S.kh - q.2.2.1 - 1) * h.S.kw + (h.S.kw - q.2.2.2 - 1)))
    (by
      intro q hq
      obtain ⟨h1, h2, h3, h4⟩ := c20_mem_quads.mp hq
      have := c20_pos4_bound (lt_of_lt_of_le h1 ho) (c20_flip (lt_of_lt_of_le h2 hc)).1 (lt_of_lt_of_le h3 hkhb)
        (lt_of_lt_of_le h4 hkwb) (le_refl (h.cob * h.cib * (h.hb * h.wb)))
      rw [c20_cwPos_eq, hsp]
      exact ⟨this, this⟩)
    (by
      intro q hq q' hq' he
      obtain ⟨_, h2, h3, h4⟩ := c20_mem_quads.mp hq
      obtain ⟨_, h2', h3', h4'⟩ := c20_mem_quads.mp hq'
      simp only [c20_cwPos_eq] at he
      obtain ⟨e1, e2, e3, e4⟩ := c20_pos4_inj (c20_flip (lt_of_lt_of_le h2 hc)).1 (c20_flip (lt_of_lt_of_le h2' hc)).1
        (lt_of_lt_of_le h3 hkhb) (lt_of_lt_of_le h3' hkhb) (lt_of_lt_of_le h4 hkwb) (lt_of_lt_of_le h4' hkwb) he
      rw [e1, e3, e4, ← (c20_flip (lt_of_lt_of_le h2 hc)).2, e2, (c20_flip (lt_of_lt_of_le h2' hc)).2])
  refine ⟨a, ?_, ?_, ?_⟩
  · unfold cvEncWeightBlock
    rw [hf]
    simp only [bind, Except.bind, pure, Except.pure]
    rw [if_neg (by rw [hsz, hsp]; exact Nat.not_lt.mpr hfit)]
  · intro q hq
    exact hz q (fun k hk => by obtain ⟨h1, h2, h3, h4⟩ := c20_mem_quads.mp hk; exact hq _ _ _ _ h1 h2 h3 h4)
  · intro doc dic ki kj h1 h2 h3 h4
    have := hv (doc, dic, h.S.kh - 1 - ki, h.S.kw - 1 - kj) (c20_mem_quads.mpr ⟨h1, h2, (c20_flip h3).1, (c20_flip h4).1⟩)
    rw [(c20_flip h3).2, (c20_flip h4).2] at this
    exact this

/-- one axis of the window of an output entry: the read digit `kw − 1 + j` fits, a pixel digit `tj` plus a kernel digit `kj` never
    carries past it, and when they add up to it the pixel lies in the window `[j, j + kw)` -/
theorem c20_window {W kw j ns : Nat} (hkw : 1 ≤ kw) (hj : j + kw ≤ ns) (hns : ns ≤ W) :
    kw - 1 + j < W ∧ ∀ tj kj, tj < ns → kj < kw → tj + kj < kw - 1 + j + W ∧ (tj + kj = kw - 1 + j → j ≤ tj ∧ tj - j < kw) := by
  refine ⟨by omega, fun tj kj h1 h2 => ⟨by omega, fun h3 => by omega⟩⟩

/-- the convolution coefficient for ANY two polynomials laid out like an input tile (`X` at the four-digit positions, zero elsewhere)
    and a weight block (flipped kernels `K`, channels reversed): a sum of an input and a weight position has no carry between the
    digits, so only the window of the read entry contributes, and no sum reaches `n +` the read position. -/
theorem c20_xcorr_coeff {R : Type} [CommRing R] {n W hb cib cob bb kh kw nb nc nr ns no : Nat} (a b : Nat → R)
    (X K : Nat → Nat → Nat → Nat → R) (hfit : bb * (cib * cob) * (hb * W) ≤ n) (hkh : 1 ≤ kh) (hkw : 1 ≤ kw)
    (hnb : nb ≤ bb) (hnc : nc ≤ cib) (hnr : nr ≤ hb) (hns : ns ≤ W) (hno : no ≤ cob)
    (haz : ∀ q, (∀ db dc ti tj, db < nb → dc < nc → ti < nr → tj < ns → c20_pos4 (cib * cob) hb W db dc ti tj ≠ q) → a q = 0)
    (hav : ∀ db dc ti tj, db < nb → dc < nc → ti < nr → tj < ns → a (c20_pos4 (cib * cob) hb W db dc ti tj) = X db dc ti tj)
    (hbz : ∀ q, (∀ doc dic ki kj, doc < no → dic < nc → ki < kh → kj < kw →
      c20_pos4 cib hb W doc (cib - 1 - dic) ki kj ≠ q) → b q = 0)
    (hbv : ∀ doc dic ki kj, doc < no → dic < nc → ki < kh → kj < kw →
      b (c20_pos4 cib hb W doc (cib - 1 - dic) (kh - 1 - ki) (kw - 1 - kj)) = K doc dic ki kj)
    {db dc i j : Nat} (hdb : db < nb) (hdc : dc < no) (hi : i + kh ≤ nr) (hj : j + kw ≤ ns) :
    negMulR n a b (c20_pos4 cib hb W (db * cob + dc) (cib - 1) (kh - 1 + i) (kw - 1 + j))
      = ∑ ic ∈ range nc, ∑ ki ∈ range kh, ∑ kj ∈ range kw, X db ic (i + ki) (j + kj) * K dc ic ki kj := by
  rcases Nat.eq_zero_or_pos nc with rfl | hnc0
  · -- no input channel: both sides vanish
    rw [Finset.sum_range_zero]
    exact c04k_negMul_zero _ _ _ _ fun p _ => haz p fun _ _ _ _ _ hdc' => absurd hdc' (Nat.not_lt_zero _)
  have hcib : 0 < cib := lt_of_lt_of_le hnc0 hnc
  have hdcc : dc < cob := lt_of_lt_of_le hdc hno
  have hcc : cib ≤ cib * cob := Nat.le_mul_of_pos_right cib (Nat.zero_lt_of_lt hdcc)
  obtain ⟨hR0, hrow⟩ := c20_window hkh hi hnr
  obtain ⟨hC0, hcol⟩ := c20_window hkw hj hns
  have hwr : ∀ ki, ki < kh → i + ki < nr := fun ki h => lt_of_lt_of_le (Nat.add_lt_add_left h i) hi
  have hwc : ∀ kj, kj < kw → j + kj < ns := fun kj h => lt_of_lt_of_le (Nat.add_lt_add_left h j) hj
  rw [c20_negMul_supported n a b _ (range nc ×ˢ (range kh ×ˢ range kw))
    (fun t => c20_pos4 (cib * cob) hb W db t.1 (i + t.2.1) (j + t.2.2))
    (fun t => c20_pos4 cib hb W dc (cib - 1 - t.1) (kh - 1 - t.2.1) (kw - 1 - t.2.2))
    (fun p => ∃ db dc ti tj, db < nb ∧ dc < nc ∧ ti < nr ∧ tj < ns ∧ c20_pos4 (cib * cob) hb W db dc ti tj = p)
    (fun q => ∃ doc dic ki kj, doc < no ∧ dic < nc ∧ ki < kh ∧ kj < kw ∧ c20_pos4 cib hb W doc (cib - 1 - dic) ki kj = q)
    (fun p hp => haz p fun db dc ti tj h1 h2 h3 h4 e => hp ⟨db, dc, ti, tj, h1, h2, h3, h4, e⟩)
    (fun q hq => hbz q fun doc dic ki kj h1 h2 h3 h4 e => hq ⟨doc, dic, ki, kj, h1, h2, h3, h4, e⟩)]
  · rw [Finset.sum_product]
    refine Finset.sum_congr rfl fun ic hic => ?_
    rw [Finset.sum_product]
    refine Finset.sum_congr rfl fun ki hki => Finset.sum_congr rfl fun kj hkj => ?_
    have h2 := Finset.mem_range.mp hki
    have h3 := Finset.mem_range.mp hkj
    rw [hav db ic (i + ki) (j + kj) hdb (Finset.mem_range.mp hic) (hwr ki h2) (hwc kj h3), hbv dc ic ki kj hdc (Finset.mem_range.mp hic) h2 h3]
  · intro t ht t' ht' he
    simp only [Finset.mem_product, Finset.mem_range] at ht ht'
    obtain ⟨_, e2, e3, e4⟩ := c20_pos4_inj (lt_of_lt_of_le ht.1 (le_trans hnc hcc))
      (lt_of_lt_of_le ht'.1 (le_trans hnc hcc)) (lt_of_lt_of_le (hwr _ ht.2.1) hnr) (lt_of_lt_of_le (hwr _ ht'.2.1) hnr)
      (lt_of_lt_of_le (hwc _ ht.2.2) hns) (lt_of_lt_of_le (hwc _ ht'.2.2) hns) he
    exact Prod.ext e2 (Prod.ext (Nat.add_left_cancel e3) (Nat.add_left_cancel e4))
  · intro t ht
    simp only [Finset.mem_product, Finset.mem_range] at ht
    exact c20_cv_sum (lt_of_lt_of_le ht.1 hnc) ht.2.1 ht.2.2
  · have hlt : db * cob + dc < bb * cob := by
      have := grid_succ_le (B := cob) (lt_of_lt_of_le hdb hnb); omega
    exact c20_pos4_bound hlt (Nat.sub_lt hcib Nat.one_pos) hR0 hC0 (by rw [Nat.mul_assoc bb, Nat.mul_comm cob]; exact hfit)
  · rintro _ _ ⟨db', dc', ti, tj, hdb', hdc', hti, htj, rfl⟩ ⟨doc, dic, ki, kj, hdoc, hdic, hki, hkj, rfl⟩
    obtain ⟨r2, r3⟩ := hrow ti ki hti hki
    obtain ⟨s2, s3⟩ := hcol tj kj htj hkj
    have h3 : dc' + (cib - 1 - dic) + 1 < 2 * cib := by omega
    intro he
    obtain ⟨a1, a2, _, a4, _⟩ := c20_cv_low hC0 s2 hR0 r2 hcib h3 (lt_of_lt_of_le hdoc hno) hdcc he
    refine ⟨(dc', ti - i, tj - j), Finset.mem_product.mpr ⟨Finset.mem_range.mpr hdc', Finset.mem_product.mpr
      ⟨Finset.mem_range.mpr (r3 a2).2, Finset.mem_range.mpr (s3 a1).2⟩⟩, ?_⟩
    show c20_pos4 (cib * cob) hb W db dc' (i + (ti - i)) (j + (tj - j)) = _
    rw [a4, Nat.add_sub_cancel' (r3 a2).1, Nat.add_sub_cancel' (s3 a1).1]
  · rintro _ _ ⟨db', dc', ti, tj, hdb', hdc', hti, htj, rfl⟩ ⟨doc, dic, ki, kj, hdoc, hdic, hki, hkj, rfl⟩ he
    exact c20_cv_high (kh := kh) (kw := kw) hfit (lt_of_lt_of_le hdb' hnb) (lt_of_lt_of_le hdc' hnc) (lt_of_lt_of_le hti hnr)
      (lt_of_lt_of_le htj hns) (lt_of_lt_of_le hdoc hno) (lt_of_le_of_lt (Nat.sub_le _ _) (Nat.sub_lt hcib Nat.one_pos)) hki hkj
      (Nat.le_add_right _ _) (Nat.le_add_right _ _) he

end HC
