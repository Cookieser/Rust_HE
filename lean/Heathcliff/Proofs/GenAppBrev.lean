/-
  The prelude's `revBitsK` is the model's `brev`; reversing more bits than the operand has = shifting.
  Shared by the two generated copies of `reverse_bits_u64` (Gen/AppBatchFns.lean, Gen/AppLweFns.lean).  Imports no generated function file.
-/
import Heathcliff.Proofs.Base
import Heathcliff.Proofs.GenAppBase
import Heathcliff.Model.NTT
import Mathlib.Tactic.Ring

namespace HC
open HC.GenApp

theorem ga_revBitsK_eq_brev : ∀ k x, revBitsK k x = brev k x := by
  intro k; induction k with
  | zero => intro x; rfl
  | succ k ih => intro x; rw [revBitsK, brev, ih]

theorem ga_brev_zero : ∀ k, brev k 0 = 0 := by
  intro k; induction k with
  | zero => rfl
  | succ k ih => rw [brev, ih]; simp

theorem ga_brev_add : ∀ k j x, x < 2^k → brev (k + j) x = brev k x * 2^j := by
  intro k; induction k with
  | zero => intro j x hx; have : x = 0 := by simpa using hx
            subst this; rw [ga_brev_zero, brev]; simp
  | succ k ih =>
    intro j x hx
    have h2 : x / 2 < 2^k := by rw [Nat.pow_succ] at hx; omega
    rw [show k + 1 + j = (k + j) + 1 by omega, brev, brev, ih j _ h2, Nat.pow_add]; ring

/-- `x.reverse_bits() >> (64 - k)` (checked subtraction, checked shift) = `brev k x` for `1 ≤ k ≤ 64`, `x < 2^k` -/
theorem ga_rev_shift (x k : Nat) (hk : k ≤ 64) (h0 : k ≠ 0) (hx : x < 2^k) :
    (ckSub 64 k >>= fun t => GenApp.ckShr (revBitsK 64 x) t) = .ok (brev k x) := by
  rw [ckSub_of_le hk, R.ok_bind]
  unfold GenApp.ckShr
  rw [if_pos (by omega), ga_revBitsK_eq_brev]
  have := ga_brev_add k (64 - k) x hx
  rw [show k + (64 - k) = 64 by omega] at this
  rw [this, Nat.shiftRight_eq_div_pow, Nat.mul_div_cancel _ (Nat.two_pow_pos _)]

end HC
