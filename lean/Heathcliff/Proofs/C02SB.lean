/- C02, BFV: `bfvSquare` — the model of `bfv_square` (src/evaluator.rs): BEHZ steps (1)–(3), (5)–(8) as in `bfv_multiply`, step (4) the
   size-2 fast path `c0², c0·c1 + c0·c1, c1²` in base q and in base Bsk on the lazily transformed operands — IS `bfvMultiply l T x x` for
   every coefficient-form ciphertext with canonical polynomials at a level satisfying `MulOK` (Proofs/C02W.lean); hence every theorem about
   the BEHZ product (`bfvMultiply_ok`, `_coeff`, `_phase`, `_noise`, `_decode`, `bfvDecrypt_bfvMultiply`, …) applies to the square.
   Helper names carry the prefix `c02s_`. -/
import Heathcliff.Proofs.C02W
import Heathcliff.Proofs.C02S
namespace HC

/-- `bfvSquare` cut into the named stages of Proofs/C02W.lean (definitional) -/
theorem c02s_bfvSquare_stage (l : Level) (T : Array NTTTables) (a : Ct) :
    bfvSquare l T a =
      (if a.ntt then .error .refused else
       if a.polys.size ≠ 2 then bfvMultiply l T a a else
       if ctResizeRefuses (a.polys.size + a.polys.size - 1) then .error .refused else do
        let ab ← a.polys.toList.mapM (c02w_liftB l T)
        let dq ← c02s_sq l.qs (fun k => (a.polys.toList.map (c02w_liftQ l)).getD k #[])
        let db ← c02s_sq l.tool.baseBsk.base (fun k => ab.getD k #[])
        let outs ← (List.range 3).mapM (c02w_finish l
          (dq.map fun p => Array.ofFn (n := l.qs.size) fun i => intt (l.tbl i.val) (p.getD i.val #[]))
          (db.map fun p => Array.ofFn (n := l.tool.baseBsk.base.size) fun i =>
                    intt (T.getD i.val default) (p.getD i.val #[])))
        pure { a with polys := outs.toArray }) := rfl

/-- `bfvSquare l T x = bfvMultiply l T x x` for every ciphertext whose polynomials are canonical at a level satisfying `MulOK`
    (any size, either representation; the refusals - NTT form, result size 1 or > 16 - included).  `MulOK` (level well formed, tool built
    consistently, Bsk tables) is what makes the lazily transformed operands word-sized and the Bsk moduli well formed: the fast path
    `c0·c1 + c0·c1` and the routine's `(0 + c0·c1) + c1·c0` agree as VALUES on such operands. -/
theorem bfvSquare_eq {l : Level} {T : Array NTTTables} (hm : MulOK l T) {a : Ct}
    (ha : ∀ k, k < a.polys.size → RnsCanon l (a.polys.getD k #[])) :
    bfvSquare l T a = bfvMultiply l T a a := by
  rw [c02s_bfvSquare_stage]
  by_cases hn : a.ntt = true
  · rw [if_pos hn, bfvMultiply_refuse_ntt l T a a (Or.inl hn)]
  · rw [if_neg hn]
    by_cases hs : a.polys.size = 2
    · rw [if_neg (by simp [hs])]
      obtain ⟨bs, hA, hAl, hAv⟩ := c02w_lift_spec hm ha
      have hmap : a.polys.toList.mapM (c02w_liftB l T) = .ok bs := by
        obtain ⟨bs', h, h2⟩ := R.bind_eq_ok (x := a.polys.toList.mapM (c02w_liftB l T)) |>.mp hA
        cases h2
        exact h
      have hq0 : ∀ k, k < 2 → c02v_Bounded l.qs.size l.n (fun _ => 2^64) ((a.polys.toList.map (c02w_liftQ l)).getD k #[]) := by
        intro k hk
        rw [list_getD_map _ _ #[] #[] (by simpa [hs] using hk), array_getD_toList]
        exact c02w_liftQ_lazy hm.lwf (ha k (by omega))
      have hb0 : ∀ k, k < 2 → c02v_Bounded l.tool.baseBsk.base.size l.n (fun _ => 2^64) (bs.getD k #[]) := by
        intro k hk
        exact c02w_liftB_lazy hm (a.polys.getD k #[]) (fun i hi => hAv k (by omega) i hi)
      have hrz : ¬ (ctResizeRefuses (a.polys.size + a.polys.size - 1) = true) := by rw [hs]; decide
      rw [if_neg hrz, c02w_bfvMultiply_eq, if_neg (by simp [hn]), if_neg hrz, hA]
      simp only [R.ok_bind, hs, hmap]
      rw [if_neg (by omega)]
      rw [c02s_tensor_sq (ms := l.qs) (n := l.n) (c02v_qsWF_of_levelWF hm.lwf)
          (fun k => (a.polys.toList.map (c02w_liftQ l)).getD k #[]) (hq0 0 (by omega)) (hq0 1 (by omega)),
        c02s_tensor_sq (ms := l.tool.baseBsk.base) (n := l.n) hm.tool.bskwf.mwf (fun k => bs.getD k #[]) (hb0 0 (by omega))
          (hb0 1 (by omega))]
    · rw [if_pos hs]

/-- refusals of the BFV square: NTT form; more than 8 polynomials (result size > 16) -/
theorem bfvSquare_refuse_ntt (l : Level) (T : Array NTTTables) (a : Ct) (h : a.ntt = true) : bfvSquare l T a = .error .refused := by
  rw [c02s_bfvSquare_stage, if_pos h]

theorem bfvSquare_refuse_size (l : Level) (T : Array NTTTables) (a : Ct) (h : 8 < a.polys.size) : bfvSquare l T a = .error .refused := by
  rw [c02s_bfvSquare_stage]
  split
  · rfl
  · rw [if_pos (by omega)]
    exact bfvMultiply_refuse_size l T a a ((ctResizeRefuses_eq_true_iff _).mpr (Or.inr (by omega)))

/-- totality, shape and closed form of the square (`bfvMultiply_ok` transferred): for a coefficient-form ciphertext of n ≤ 8
    canonical polynomials the square succeeds, has 2n − 1 canonical polynomials, stays in coefficient form, keeps the correction factor, and
    every residue is the closed form `c02w_mulVal l x x` of the BEHZ product of x with itself (to which `bfvMultiply_coeff`, `_phase`,
    `_noise`, `_decode` and `bfvDecrypt_bfvMultiply` of C02W / C02X apply through `bfvSquare_eq`) -/
theorem bfvSquare_ok {l : Level} {T : Array NTTTables} (hm : MulOK l T) {a : Ct} (ha : CtCanon l a) (hna : a.ntt = false)
    (h8 : a.polys.size ≤ 8) :
    ∃ r, bfvSquare l T a = .ok r ∧ CtCanon l r ∧ r.polys.size = 2 * a.polys.size - 1 ∧ r.ntt = false ∧ r.cf = a.cf ∧
      ∀ k, k < 2 * a.polys.size - 1 → ∀ i, i < l.size → ∀ c, c < l.n → r.c02v_res k i c = c02w_mulVal l a a k i c := by
  have h2 := ha.two_le
  obtain ⟨r, hr, hsz, hntt, hcf, hcan, hval⟩ := bfvMultiply_ok hm ha.canon ha.canon hna hna (by omega) (by omega)
    ((ctResizeRefuses_eq_false_iff _).mpr (by omega))
  refine ⟨r, by rw [bfvSquare_eq hm ha.canon]; exact hr, ⟨⟨by omega, by omega, fun k hk => hcan k (by omega)⟩, ?_⟩, by omega, hntt, hcf,
    fun k hk => hval k (by omega)⟩
  rw [hcf]; exact ha.cf

end HC
