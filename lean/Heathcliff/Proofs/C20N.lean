/-
  C20N: `MatmulBoltCcCr` end to end over the model (`Model/Matmul.lean`): inputs column-major, weights row-major, the product
  collected by diagonals.

  `multiply` forms, for every shift `sh < m`, the slot-wise product of the input with the weight rotated by `sh` entries inside its
  column (cyclically within the first `m` entries: two rotations and two masks, `c20_rho_cyc`), sums it over all columns
  (`sum_inplace`: log-many doublings, the last one across the rows, `c20_boltSumAll_spec`), and keeps column `sh mod gsc` of
  polynomial `sh / gsc`: entry `u` there is the sum over all columns `c` and polynomials `i` of
  `(fb i)[c][(u + sh) mod m]·(fa i)[c][u]` (`c20_crMulSmall_spec`) — for the encoded blocks, entry (`u`, `(u + sh) mod m`) of the
  block product, its diagonal `sh`.  The decoder reads the diagonals back into the matrix.
-/
import Heathcliff.Proofs.C20K
import Heathcliff.Proofs.C20L
namespace HC
open Finset HC.MM

variable {S : Type}

/-! ### the accepted helpers -/

theorem c20_boltCrNew_ok {m r n N : Nat} {h : BoltCc} (hnew : BoltCc.newCr m r n N = .ok h) (hpow : ∃ e, N = 2^e) (hN64 : N < 2^64) :
    h.N = N ∧ h.mAll = m ∧ h.r = r ∧ h.nAll = n ∧ 0 < r ∧ ∃ half g, c20_CcOK h half g :=
  c20_boltCcNew_ok hnew hpow hN64

/-! ### `sum_inplace` -/

theorem c20_sumAll_go_succ (add : S → S → S) (z : S) (N f rc : Nat) (a : Array S) :
    boltSumAll.go add z N (f+1) rc a = if rc = N then a else
      boltSumAll.go add z N f (2 * rc) (slotZip add z N a (if rc < N / 2 then rotRows z N rc a else swapRows z N a)) := rfl

/-- the rotation phase: `j` more doublings starting from the sum over `2^k` columns -/
theorem c20_sumAll_phase [AddCommMonoid S] (half gap g : Nat) (hhalf : half = 2^g) (hgap : 0 < gap) (a : Array S) :
    ∀ j k f (ak : Array S), k + j = g →
      (∀ p, p < 2 * (half * gap) → ak.getD p 0 = ∑ d ∈ range (2^k), a.getD (c20_rho (half * gap) (d * gap) p) 0) →
      ∃ a', boltSumAll.go (· + ·) 0 (2 * (half * gap)) (f + j) (2^k * gap) ak
          = boltSumAll.go (· + ·) 0 (2 * (half * gap)) f (half * gap) a' ∧
        ∀ p, p < 2 * (half * gap) → a'.getD p 0 = ∑ d ∈ range half, a.getD (c20_rho (half * gap) (d * gap) p) 0 := by
  subst hhalf
  have hH : 0 < 2^g * gap := Nat.mul_pos (Nat.two_pow_pos g) hgap
  intro j
  induction j with
  | zero =>
    intro k f ak hk hak
    have : k = g := by omega
    subst this
    exact ⟨ak, rfl, hak⟩
  | succ j ih =>
    intro k f ak hk hak
    have hkg : k < g := by omega
    have hlt : 2^k * gap < 2^g * gap :=
      Nat.mul_lt_mul_of_pos_right (Nat.pow_lt_pow_right (by decide) hkg) hgap
    show ∃ a', boltSumAll.go (· + ·) 0 (2 * (2^g * gap)) ((f + j) + 1) (2^k * gap) ak = _ ∧ _
    rw [c20_sumAll_go_succ, if_neg (by omega), Nat.mul_div_cancel_left _ (by decide : 0 < 2), if_pos hlt]
    have e2 : 2 * (2^k * gap) = 2^(k+1) * gap := by rw [Nat.pow_succ]; ring
    rw [e2]
    apply ih (k+1) f _ (by omega)
    intro p hp
    rw [c20_slotZip_get _ _ _ _ _ hp, c20_rotRows_get 0 _ _ ak hp, hak p hp, hak _ (c20_rho_lt hH hp), Nat.pow_succ, Nat.mul_two,
      Finset.sum_range_add]
    congr 1
    apply Finset.sum_congr rfl
    intro d _
    rw [c20_rho_rho hH]
    congr 2
    ring

/-- **`sum_inplace`**: every column receives the sum of all columns (entry by entry) -/
theorem c20_boltSumAll_spec [AddCommMonoid S] (half gap g : Nat) (hhalf : half = 2^g) (hg : g ≤ 63) (hgap : 0 < gap) (a : Array S) :
    (boltSumAll (· + ·) 0 (2 * (half * gap)) gap a).size = 2 * (half * gap) ∧
    ∀ c j, c < 2 * half → j < gap →
      (boltSumAll (· + ·) 0 (2 * (half * gap)) gap a).getD (c * gap + j) 0 = ∑ c' ∈ range (2 * half), a.getD (c' * gap + j) 0 := by
  have hh : 0 < half := by rw [hhalf]; exact Nat.two_pow_pos g
  have hH : 0 < half * gap := Nat.mul_pos hh hgap
  obtain ⟨a', hgo, ha'⟩ := c20_sumAll_phase half gap g hhalf hgap a g 0 (63 - g + 1) a (by omega) (by
    intro p hp
    rw [Nat.pow_zero, Finset.sum_range_one, Nat.zero_mul]
    congr 1
    unfold c20_rho
    rw [Nat.add_zero, Nat.mod_mod, Nat.div_add_mod'])
  have hrun : boltSumAll (· + ·) 0 (2 * (half * gap)) gap a
      = slotZip (· + ·) 0 (2 * (half * gap)) a' (swapRows 0 (2 * (half * gap)) a') := by
    unfold boltSumAll
    have e64 : 64 = (63 - g + 1) + g := by omega
    rw [e64]
    rw [Nat.pow_zero, Nat.one_mul] at hgo
    rw [hgo, c20_sumAll_go_succ, if_neg (lt_two_mul_self hH).ne, Nat.mul_div_cancel_left _ (by decide : 0 < 2),
      if_neg (Nat.lt_irrefl _)]
    cases (63 - g) with
    | zero => rfl
    | succ f => rw [c20_sumAll_go_succ, if_pos rfl]
  rw [hrun]
  refine ⟨c20_slotZip_size _ _ _ _ _, ?_⟩
  intro c j hc hj
  have hp : c * gap + j < 2 * (half * gap) := by rw [← Nat.mul_assoc]; exact grid_lt hc hj
  have hrow : ∀ c0, c0 < 2 * half → (∑ d ∈ range half, a.getD (c20_rho (half * gap) (d * gap) (c0 * gap + j)) 0)
      = ∑ e ∈ range half, a.getD ((c0 / half * half + e) * gap + j) 0 := by
    intro c0 hc0
    have hp0 : c0 * gap + j < 2 * (half * gap) := by rw [← Nat.mul_assoc]; exact grid_lt hc0 hj
    have e1 : ∀ d, c20_rho (half * gap) (d * gap) (c0 * gap + j) = (c0 / half * half + (d + c0 % half) % half) * gap + j := by
      intro d
      have := c20_rho_iter_col (irc := 1) hh d c0 j hc0 hj
      rw [Nat.one_mul, c20_rho_iter hH hp0, Nat.mul_one] at this
      rw [this, Nat.add_comm d]
    rw [Finset.sum_congr rfl (fun d _ => by rw [e1 d])]
    exact c20_sum_rot (fun e => a.getD ((c0 / half * half + e) * gap + j) 0) half (c0 % half)
  rw [c20_slotZip_get _ _ _ _ _ hp, c20_swapRows_get 0 _ a' hp, ha' _ hp, ha' _ (c20_sigma_lt hH), c20_sigma_col hh c j hj,
    hrow c hc, hrow _ (Nat.mod_lt _ (by rw [Nat.two_mul]; exact Nat.add_pos_left hh _)), Nat.two_mul, Finset.sum_range_add]
  rcases Nat.lt_or_ge c half with hlt | hge
  · have d1 : c / half = 0 := Nat.div_eq_of_lt hlt
    have d2 : (c + half) % (half + half) / half = 1 := by
      rw [Nat.mod_eq_of_lt (Nat.add_lt_add_right hlt _)]
      exact c20_div_half (Nat.le_add_left _ _) (by rw [Nat.two_mul]; exact Nat.add_lt_add_right hlt _)
    rw [d1, d2, Nat.zero_mul, Nat.one_mul]
    congr 1
    apply Finset.sum_congr rfl; intro e _; rw [Nat.zero_add]
  · have d1 : c / half = 1 := c20_div_half hge hc
    have d2 : (c + half) % (half + half) / half = 0 := by
      have e : c + half = c - half + (half + half) := by omega
      rw [e, Nat.add_mod_right, Nat.mod_eq_of_lt (by omega)]
      exact Nat.div_eq_of_lt (by omega)
    rw [d1, d2, Nat.zero_mul, Nat.one_mul, add_comm]
    congr 1
    apply Finset.sum_congr rfl; intro e _; rw [Nat.zero_add]

/-! ### the weight encoder (row-major strips) -/

theorem c20_boltCrEncW_spec (z : S) (h : BoltCc) {half g : Nat} (ok : c20_CcOK h half g) (b : Nat → S) (blen cs ce i : Nat) :
    ∃ arr, boltCrEncW h z b blen cs ce i = .ok arr ∧ arr.size = h.N ∧
      ∀ c j, c < h.gsc → j < h.gap → arr.getD (c * h.gap + j) z =
        if (i * h.gsc + c < h.r ∧ j < min h.m (ce - cs)) ∧ (i * h.gsc + c) * h.nAll + j + cs < blen
        then b ((i * h.gsc + c) * h.nAll + j + cs) else z := by
  have hmod : ∀ c, c < min h.r (i * h.gsc + h.gsc) - i * h.gsc → (i * h.gsc + c) % h.gsc = c := fun c hc =>
    grid_mod _ (lt_of_lt_of_le hc c20_blk_le)
  obtain ⟨arr, hok, hsz, hv, hz⟩ := c20_scatter_cols z h.N h.gap (min h.r (i * h.gsc + h.gsc) - i * h.gsc) (min h.m (ce - cs)) h.gsc
    (fun rj => (i * h.gsc + rj.1) * h.nAll + rj.2 + cs < blen) (fun c => (i * h.gsc + c) % h.gsc)
    (fun rj => b ((i * h.gsc + rj.1) * h.nAll + rj.2 + cs))
    (fun c hc => by rw [hmod c hc]; exact lt_of_lt_of_le hc c20_blk_le)
    (fun c c' hc hc' e => by rwa [hmod c hc, hmod c' hc'] at e) (le_trans (Nat.min_le_left _ _) ok.hmg) (le_of_eq ok.hN.symm)
  refine ⟨arr, hok, hsz, fun c j hc hj => ?_⟩
  by_cases hA : c < min h.r (i * h.gsc + h.gsc) - i * h.gsc
  · have := hv c j hA hj
    rw [hmod c hA] at this
    rw [this]
    simp only [decide_eq_true_eq, lt_of_lt_of_le (Nat.add_lt_of_lt_sub' hA) (Nat.min_le_left _ _), true_and]
  · rw [hz c j hj fun a ha e => hA (by rw [hmod a ha] at e; exact e ▸ ha),
      if_neg fun hc' => hA (Nat.lt_sub_iff_add_lt'.mpr (lt_min hc'.1.1 (Nat.add_lt_add_left hc _)))]

/-- the weight polynomial of column strip `q`, row group `i` -/
def c20_crW (z : S) (h : BoltCc) (w : Nat → S) (q i : Nat) : Array S :=
  c20_val #[] (boltCrEncW h z w (h.r * h.nAll) (q * h.m) (min (q * h.m + h.m) h.nAll) i)

theorem c20_boltCrEncodeWeights_ok (z : S) (h : BoltCc) {half g : Nat} (ok : c20_CcOK h half g) (w : Nat → S) :
    boltCrEncodeWeights h z w (h.r * h.nAll)
      = .ok ((List.range (ceilDiv h.nAll h.m)).map fun q => (List.range (ceilDiv h.r h.gsc)).map fun i => c20_crW z h w q i) := by
  unfold boltCrEncodeWeights
  rw [if_neg (by simp)]
  apply R.mapM_ok
  intro q _
  apply R.mapM_ok
  intro i _
  obtain ⟨arr, hok, _⟩ := c20_boltCrEncW_spec z h ok w (h.r * h.nAll) (q * h.m) (min (q * h.m + h.m) h.nAll) i
  exact c20_val_ok #[] hok

/-- inside column strip `[b, min (b+m) n)` of a row `R < r`, the bound on the flat index `R·n + j + b < r·n` is implied -/
theorem c20_strip_cond {R r n m b j : Nat} :
    (R < r ∧ j < min m (min (b + m) n - b)) ∧ R * n + j + b < r * n ↔ R < r ∧ b + j < min (b + m) n := by
  constructor
  · rintro ⟨⟨h1, h2⟩, _⟩
    exact ⟨h1, Nat.lt_sub_iff_add_lt'.mp (lt_of_lt_of_le h2 (Nat.min_le_right _ _))⟩
  · rintro ⟨h1, h2⟩
    refine ⟨⟨h1, lt_min (Nat.lt_of_add_lt_add_left (lt_of_lt_of_le h2 (Nat.min_le_left _ _))) (Nat.lt_sub_iff_add_lt'.mpr h2)⟩, ?_⟩
    rw [Nat.add_assoc, Nat.add_comm j]
    exact lt_of_lt_of_le (Nat.add_lt_add_left (lt_of_lt_of_le h2 (Nat.min_le_right _ _)) _) (grid_succ_le h1)

theorem c20_crW_get (z : S) (h : BoltCc) {half g : Nat} (ok : c20_CcOK h half g) (w : Nat → S) (q i : Nat) {c j : Nat}
    (hc : c < h.gsc) (hj : j < h.gap) :
    (c20_crW z h w q i).size = h.N ∧
    (c20_crW z h w q i).getD (c * h.gap + j) z =
      if i * h.gsc + c < h.r ∧ q * h.m + j < min (q * h.m + h.m) h.nAll then w ((i * h.gsc + c) * h.nAll + (q * h.m + j)) else z := by
  obtain ⟨arr, hok, hsz, hget⟩ := c20_boltCrEncW_spec z h ok w (h.r * h.nAll) (q * h.m) (min (q * h.m + h.m) h.nAll) i
  have e : c20_crW z h w q i = arr := c20_val_eq #[] hok
  rw [e, hget c j hc hj]
  exact ⟨hsz, if_congr c20_strip_cond (by rw [Nat.add_assoc, Nat.add_comm j]) rfl⟩

/-! ### `MatmulBoltCcCrSmall::multiply` -/

/-- the product of the rotated weight polynomials and the input polynomials, summed over the polynomials (`Option` fold) -/
def c20_crPsO [Add S] [Mul S] [Zero S] (N ic : Nat) (fa fb : Nat → Array S) (rot : Nat) : Option (Array S) :=
  (List.range ic).foldl (fun acc i => accAdd (· + ·) 0 N acc (slotZip (· * ·) 0 N (rotRows 0 N rot (fb i)) (fa i))) none

/-- one `diag` call of `multiply`: the masked all-column sum -/
def c20_crDiag [Add S] [Mul S] [Zero S] (h : BoltCc) (ic : Nat) (fa fb : Nat → Array S) (rot lo hi : Nat) : Array S :=
  slotMask 0 h.N lo hi (boltSumAll (· + ·) 0 h.N h.gap ((c20_crPsO h.N ic fa fb rot).getD #[]))

theorem c20_crPsO_some [CommRing S] (N ic : Nat) (hic : 0 < ic) (fa fb : Nat → Array S) (rot : Nat) :
    ∃ ps, c20_crPsO N ic fa fb rot = some ps ∧ ps.size = N ∧
      ∀ p, p < N → ps.getD p 0 = ∑ i ∈ range ic, (rotRows 0 N rot (fb i)).getD p 0 * (fa i).getD p 0 := by
  obtain ⟨v, hv, hs, hval⟩ := c20_accFold_some N (fun i => slotZip (· * ·) 0 N (rotRows 0 N rot (fb i)) (fa i)) (List.range ic) none
    (Or.inl fun h0 => by rw [List.range_eq_nil] at h0; omega) (fun _ _ => c20_slotZip_size _ _ _ _ _) (c20_accSized_none _)
  refine ⟨v, hv, hs, fun p hp => ?_⟩
  rw [hval p hp, list_sum_range]
  show 0 + _ = _
  rw [zero_add]
  exact Finset.sum_congr rfl fun i _ => c20_slotZip_get _ _ _ _ _ hp

theorem c20_crDiag_get [CommRing S] (h : BoltCc) {half g : Nat} (ok : c20_CcOK h half g) (ic : Nat) (hic : 0 < ic)
    (fa fb : Nat → Array S) (rot lo hi : Nat) {c j : Nat} (hc : c < h.gsc) (hj : j < h.gap) :
    (c20_crDiag h ic fa fb rot lo hi).size = h.N ∧
    (c20_crDiag h ic fa fb rot lo hi).getD (c * h.gap + j) 0 =
      if lo ≤ c * h.gap + j ∧ c * h.gap + j < hi then
        ∑ c' ∈ range h.gsc, ∑ i ∈ range ic,
          (fb i).getD (c20_rho (half * h.gap) rot (c' * h.gap + j)) 0 * (fa i).getD (c' * h.gap + j) 0
      else 0 := by
  have hp : c * h.gap + j < h.N := by rw [ok.hN]; exact grid_lt hc hj
  unfold c20_crDiag
  refine ⟨c20_slotMask_size _ _ _ _ _, ?_⟩
  rw [c20_slotMask_get _ _ _ _ _ hp]
  split
  · obtain ⟨ps, hps, _, hpv⟩ := c20_crPsO_some h.N ic hic fa fb rot
    rw [hps, Option.getD_some]
    have hs := (c20_boltSumAll_spec half h.gap g ok.hhalf ok.hg ok.gap_pos ps).2 c j (by rw [← ok.hgsc]; exact hc) hj
    rw [← ok.hN2, ← ok.hgsc] at hs
    rw [hs]
    refine Finset.sum_congr rfl fun c' hc' => ?_
    have hp' : c' * h.gap + j < h.N := by rw [ok.hN]; exact grid_lt (Finset.mem_range.mp hc') hj
    rw [hpv _ hp']
    refine Finset.sum_congr rfl fun i _ => ?_
    congr 1
    have hp2 := hp'
    rw [ok.hN2] at hp2 ⊢
    exact c20_rotRows_get 0 _ _ _ hp2
  · rfl

/-- **`MatmulBoltCcCrSmall::multiply`** on ANY input polynomials `fa i` (column-major block of the LHS) and weight polynomials `fb i`
    (row-major block of the RHS): never fails; diagonal `sh` of the block product is found at polynomial `sh / gsc`, column
    `sh mod gsc`: entry `u` holds `Σ_c Σ_i (fb i)[c][(u + sh) mod m] · (fa i)[c][u]` -/
theorem c20_crMulSmall_spec [CommRing S] (h : BoltCc) {half g : Nat} (ok : c20_CcOK h half g) (ic : Nat) (hic : 0 < ic)
    (fa fb : Nat → Array S) :
    ∃ Yq, boltCrMulSmall h (· + ·) (· * ·) 0 ((List.range ic).map fa) ((List.range ic).map fb) = .ok Yq ∧
      Yq.length = ceilDiv h.m h.gsc ∧
      ∀ sh u, sh < h.m → u < h.m → ∃ v, Yq[sh / h.gsc]? = some v ∧ v.size = h.N ∧
        v.getD (sh % h.gsc * h.gap + u) 0
          = ∑ c ∈ range h.gsc, ∑ i ∈ range ic, (fb i).getD (c * h.gap + (u + sh) % h.m) 0 * (fa i).getD (c * h.gap + u) 0 := by
  have hh := ok.half_pos
  have hgs := ok.gsc_pos
  have hmg := ok.hmg
  have hH : h.N / 2 = half * h.gap := ok.hNdiv
  unfold boltCrMulSmall
  simp only [List.length_map, List.length_range, ne_eq, not_true_eq_false, if_false]
  refine Exists.imp (fun Yq hq => ⟨hq.1, hq.2.1, fun sh u hsh hu => ?_⟩) (c20_mapM_range _
    (fun (o : Nat) (v : Array S) => v.size = h.N ∧ ∀ σ u, σ < h.gsc → o * h.gsc + σ < h.m → u < h.m →
      v.getD (σ * h.gap + u) 0 = ∑ c ∈ range h.gsc, ∑ i ∈ range ic,
        (fb i).getD (c * h.gap + (u + (o * h.gsc + σ)) % h.m) 0 * (fa i).getD (c * h.gap + u) 0) _ fun o ho' => ?_)
  · obtain ⟨v, hv, hP⟩ := hq.2.2 (sh / h.gsc) (c20_div_lt_ceilDiv hgs hsh)
    refine ⟨v, hv, hP.1, ?_⟩
    have := hP.2 (sh % h.gsc) u (Nat.mod_lt _ hgs) (by rw [Nat.div_add_mod']; exact hsh) hu
    rw [Nat.div_add_mod'] at this
    exact this
  have hdiag : ∀ (rot lo hi : Nat) (acc : Option (Array S)),
      (do
        let ps ← (List.range ic).foldlM (fun (acc : Option (Array S)) i => do
          let ai ← getSlots ((List.range ic).map fa) i
          let bi ← getSlots ((List.range ic).map fb) i
          (pure (accAdd (· + ·) 0 h.N acc (slotZip (· * ·) 0 h.N (rotRows 0 h.N rot bi) ai)) : R (Option (Array S)))) none
        let ps ← unwrapAcc ps
        (pure (accAdd (· + ·) 0 h.N acc (slotMask 0 h.N lo hi (boltSumAll (· + ·) 0 h.N h.gap ps))) : R (Option (Array S))))
      = .ok (accAdd (· + ·) 0 h.N acc (c20_crDiag h ic fa fb rot lo hi)) := by
    intro rot lo hi acc
    rw [R.foldlM_ok (fun acc i => accAdd (· + ·) 0 h.N acc (slotZip (· * ·) 0 h.N (rotRows 0 h.N rot (fb i)) (fa i)))]
    swap
    · intro i hi st
      rw [c20_getSlots_map _ _ _ (List.mem_range.mp hi), c20_getSlots_map _ _ _ (List.mem_range.mp hi)]
      rfl
    obtain ⟨ps, hps, _⟩ := c20_crPsO_some h.N ic hic fa fb rot
    unfold c20_crDiag
    unfold c20_crPsO at hps ⊢
    rw [hps]
    rfl
  rw [R.foldlM_ok (fun acc sh => accAdd (· + ·) 0 h.N acc
    (c20_crDiag h ic fa fb (sh % (h.N / 2)) (sh % h.gsc * h.gap) (sh % h.gsc * h.gap + h.m - sh)))
    _ (fun sh _ st => hdiag _ _ _ st)]
  simp only [R.ok_bind]
  rw [R.foldlM_ok (fun acc sh => accAdd (· + ·) 0 h.N acc
    (c20_crDiag h ic fa fb ((h.N / 2 - (h.m - sh) % (h.N / 2)) % (h.N / 2)) (sh % h.gsc * h.gap + h.m - sh) (sh % h.gsc * h.gap + h.m)))
    _ (fun sh _ st => hdiag _ _ _ st)]
  have hosh : o * h.gsc < h.m := by
    have h1 : (o + 1) * h.gsc ≤ h.m + h.gsc - 1 := by
      rw [← Nat.le_div_iff_mul_le hgs]; exact ho'
    rw [Nat.succ_mul] at h1
    exact Nat.lt_of_add_lt_add_right (lt_of_le_of_lt h1 (Nat.sub_lt (Nat.add_pos_right _ hgs) Nat.one_pos))
  have hmem1 : ∀ sh, sh ∈ ((List.range h.m).filter fun sh => sh / h.gsc = o) ↔ sh < h.m ∧ sh / h.gsc = o := by
    intro sh; rw [List.mem_filter, List.mem_range, decide_eq_true_eq]
  have hl1 : ((List.range h.m).filter fun sh => sh / h.gsc = o) ≠ [] :=
    List.ne_nil_of_mem ((hmem1 (o * h.gsc)).mpr ⟨hosh, Nat.mul_div_cancel _ hgs⟩)
  have hd : ∀ rot lo hi, (c20_crDiag h ic fa fb rot lo hi).size = h.N := fun _ _ _ =>
    (c20_crDiag_get h ok ic hic fa fb _ _ _ hgs ok.gap_pos).1
  obtain ⟨v1, hv1, hs1, hval1⟩ := c20_accFold_some h.N
    (fun sh => c20_crDiag h ic fa fb (sh % (h.N / 2)) (sh % h.gsc * h.gap) (sh % h.gsc * h.gap + h.m - sh))
    ((List.range h.m).filter fun sh => sh / h.gsc = o) none (Or.inl hl1) (fun _ _ => hd _ _ _) (c20_accSized_none _)
  obtain ⟨v, hv, hs, hval⟩ := c20_accFold_some h.N
    (fun sh => c20_crDiag h ic fa fb ((h.N / 2 - (h.m - sh) % (h.N / 2)) % (h.N / 2)) (sh % h.gsc * h.gap + h.m - sh) (sh % h.gsc * h.gap + h.m))
    ((List.range h.m).reverse.filter fun sh => sh ≠ 0 ∧ sh / h.gsc = o) (some v1) (Or.inr (Option.some_ne_none v1))
    (fun _ _ => hd _ _ _) (fun w hw => by cases hw; exact hs1)
  rw [hv1, hv]
  refine ⟨v, rfl, hs, ?_⟩
  intro σ u hσ hsh0 hu
  have hug : u < h.gap := lt_of_lt_of_le hu hmg
  have hp : σ * h.gap + u < h.N := by rw [ok.hN]; exact grid_lt hσ hug
  have d0 := grid_div o hσ; have m0 := grid_mod o hσ
  rw [hval _ hp]
  show v1.getD _ 0 + _ = _
  rw [hval1 _ hp]
  -- only the shift `o·gsc + σ` reaches column `σ`
  have hz1 : ∀ x, x < h.m → x / h.gsc = o → x ≠ o * h.gsc + σ →
      (c20_crDiag h ic fa fb (x % (h.N / 2)) (x % h.gsc * h.gap) (x % h.gsc * h.gap + h.m - x)).getD (σ * h.gap + u) 0 = 0 := by
    intro x hx1 hx2 hne'
    rw [(c20_crDiag_get h ok ic hic fa fb _ _ _ hσ hug).2, if_neg]
    rintro ⟨c1, c2⟩
    have : σ = x % h.gsc :=
      c20_col_eq hug c1 (lt_of_lt_of_le c2 (le_trans (Nat.sub_le _ _) (Nat.add_le_add_left hmg _)))
    exact hne' (by rw [this, ← hx2, Nat.div_add_mod'])
  have hz2 : ∀ x, x < h.m → x / h.gsc = o → x ≠ o * h.gsc + σ →
      (c20_crDiag h ic fa fb ((h.N / 2 - (h.m - x) % (h.N / 2)) % (h.N / 2)) (x % h.gsc * h.gap + h.m - x)
        (x % h.gsc * h.gap + h.m)).getD (σ * h.gap + u) 0 = 0 := by
    intro x hx1 hx2 hne'
    rw [(c20_crDiag_get h ok ic hic fa fb _ _ _ hσ hug).2, if_neg]
    rintro ⟨c1, c2⟩
    have : σ = x % h.gsc :=
      c20_col_eq hug (le_trans (Nat.le_sub_of_add_le (Nat.add_le_add_left hx1.le _)) c1) (lt_of_lt_of_le c2 (Nat.add_le_add_left hmg _))
    exact hne' (by rw [this, ← hx2, Nat.div_add_mod'])
  have hx0 : o * h.gsc + σ ∈ range h.m := Finset.mem_range.mpr hsh0
  rw [c20_list_sum_filter (fun sh => sh / h.gsc = o), c20_list_sum_filter (fun sh => sh ≠ 0 ∧ sh / h.gsc = o), List.map_reverse,
    List.sum_reverse, list_sum_range, list_sum_range,
    Finset.sum_eq_single_of_mem _ hx0 (fun x hx hne' => by
      split
      · rename_i hp'; exact hz1 x (Finset.mem_range.mp hx) hp' hne'
      · rfl),
    Finset.sum_eq_single_of_mem _ hx0 (fun x hx hne' => by
      split
      · rename_i hp'; exact hz2 x (Finset.mem_range.mp hx) hp'.2 hne'
      · rfl),
    if_pos d0, (c20_crDiag_get h ok ic hic fa fb _ _ _ hσ hug).2,
    (c20_crDiag_get h ok ic hic fa fb _ _ _ hσ hug).2, m0, hH]
  show 0 + _ + _ = _
  rw [zero_add]
  have hcyc : ∀ c', c20_rho (half * h.gap) _ (c' * h.gap + u) = c' * h.gap + (u + (o * h.gsc + σ)) % h.m :=
    fun c' => c20_rho_cyc (c := c') hh hmg hsh0 hu
  rcases Nat.lt_or_ge u (h.m - (o * h.gsc + σ)) with hlo | hhi
  · -- the part of the diagonal that does not wrap
    have hlt : σ * h.gap + u < σ * h.gap + h.m - (o * h.gsc + σ) := by
      rw [Nat.add_sub_assoc hsh0.le]; exact Nat.add_lt_add_left hlo _
    rw [if_pos ⟨Nat.le_add_right _ _, hlt⟩,
      if_neg (c := σ * h.gap + h.m - (o * h.gsc + σ) ≤ σ * h.gap + u ∧ σ * h.gap + u < σ * h.gap + h.m)
        (fun hc => Nat.not_le.mpr hlt hc.1), ite_self, add_zero]
    apply Finset.sum_congr rfl; intro c' _
    apply Finset.sum_congr rfl; intro i _
    rw [← hcyc c', if_pos hlo]
  · -- the wrapped part
    have hsh0ne : o * h.gsc + σ ≠ 0 := fun h0 => by
      rw [h0, Nat.sub_zero] at hhi; exact Nat.not_le.mpr hu hhi
    have hge : σ * h.gap + h.m - (o * h.gsc + σ) ≤ σ * h.gap + u := by
      rw [Nat.add_sub_assoc hsh0.le]; exact Nat.add_le_add_left hhi _
    rw [if_neg (fun hc => Nat.not_le.mpr hc.2 hge), zero_add, if_pos ⟨hsh0ne, d0⟩,
      if_pos ⟨hge, Nat.add_lt_add_left hu _⟩]
    apply Finset.sum_congr rfl; intro c' _
    apply Finset.sum_congr rfl; intro i _
    rw [← hcyc c', if_neg (Nat.not_lt.mpr hhi)]

/-! ### decoding by diagonals -/

theorem c20_diag_shift {m r c : Nat} (hr : r < m) (hc : c < m) : (r + (c + m - r) % m) % m = c := by
  rw [Nat.add_mod_mod, Nat.add_sub_of_le (le_trans hr.le (Nat.le_add_left _ _)), Nat.add_mod_right, Nat.mod_eq_of_lt hc]

/-- `decode_outputs` (cc_cr) over all blocks, for ANY family of polynomial sets whose reads succeed (value `V i j sh u`) and carry
    `F row col` at the read position of every entry inside the matrix -/
theorem c20_boltCrDecode_spec (z : S) (h : BoltCc) (hm : 0 < h.m) (Y : List (List (Array S))) (F : Nat → Nat → S)
    (V : Nat → Nat → Nat → Nat → S) (hlen : Y.length = ceilDiv h.mAll h.m * ceilDiv h.nAll h.m)
    (hY : ∀ i j, i < ceilDiv h.mAll h.m → j < ceilDiv h.nAll h.m → ∃ part, getRow Y (i * ceilDiv h.nAll h.m + j) = .ok part ∧
      ∀ sh u, sh < h.m → u < h.m → ∃ poly, getSlots part (sh / h.gsc) = .ok poly ∧
        readAt poly (sh % h.gsc * h.gap + u) = .ok (V i j sh u) ∧
        (i * h.m + u < h.mAll → j * h.m + (u + sh) % h.m < h.nAll → V i j sh u = F (i * h.m + u) (j * h.m + (u + sh) % h.m))) :
    ∃ out, boltCrDecodeOutputs h z Y = .ok out ∧ out.size = h.mAll * h.nAll ∧
      ∀ row col, row < h.mAll → col < h.nAll → out.getD (row * h.nAll + col) z = F row col := by
  let ws : List (List (Nat × S)) := (pairs (ceilDiv h.mAll h.m) (ceilDiv h.nAll h.m)).map fun ij =>
    ((((pairs h.m h.m).map fun su => (su.2, (su.2 + su.1) % h.m, V ij.1 ij.2 su.1 su.2)).filter
      fun e => ij.1 * h.m + e.1 < h.mAll ∧ ij.2 * h.m + e.2.1 < h.nAll).map
      fun e => ((ij.1 * h.m + e.1) * h.nAll + (ij.2 * h.m + e.2.1), e.2.2))
  have hmem : ∀ pv, pv ∈ ws.flatten ↔ ∃ i j sh u, (i < ceilDiv h.mAll h.m ∧ j < ceilDiv h.nAll h.m) ∧ (sh < h.m ∧ u < h.m) ∧
      (i * h.m + u < h.mAll ∧ j * h.m + (u + sh) % h.m < h.nAll) ∧
      pv = ((i * h.m + u) * h.nAll + (j * h.m + (u + sh) % h.m), V i j sh u) := by
    intro pv
    simp only [ws, List.mem_flatten, List.mem_map]
    constructor
    · rintro ⟨l, ⟨ij, hij, rfl⟩, hpv⟩
      obtain ⟨e, he, rfl⟩ := List.mem_map.mp hpv
      rw [List.mem_filter, decide_eq_true_eq] at he
      obtain ⟨su, hsu, rfl⟩ := List.mem_map.mp he.1
      exact ⟨ij.1, ij.2, su.1, su.2, c20_mem_pairs.mp hij, c20_mem_pairs.mp hsu, he.2, rfl⟩
    · rintro ⟨i, j, sh, u, hij, hsu, hin, rfl⟩
      refine ⟨_, ⟨(i, j), c20_mem_pairs.mpr hij, rfl⟩, List.mem_map.mpr ⟨(u, (u + sh) % h.m, V i j sh u), ?_, rfl⟩⟩
      rw [List.mem_filter, decide_eq_true_eq]
      exact ⟨List.mem_map.mpr ⟨(sh, u), c20_mem_pairs.mpr hsu, rfl⟩, hin⟩
  have hrun : boltCrDecodeOutputs h z Y = scatterA z (h.mAll * h.nAll) (h.mAll * h.nAll) ws.flatten := by
    unfold boltCrDecodeOutputs
    simp only [hlen, ne_eq, not_true_eq_false, if_false]
    rw [R.mapM_ok _ (fun ij => ((((pairs h.m h.m).map fun su => (su.2, (su.2 + su.1) % h.m, V ij.1 ij.2 su.1 su.2)).filter
      fun e => ij.1 * h.m + e.1 < h.mAll ∧ ij.2 * h.m + e.2.1 < h.nAll).map
      fun e => ((ij.1 * h.m + e.1) * h.nAll + (ij.2 * h.m + e.2.1), e.2.2)))]
    · rfl
    intro ij hij
    obtain ⟨hi, hj⟩ := c20_mem_pairs.mp hij
    obtain ⟨part, hpart, hread⟩ := hY ij.1 ij.2 hi hj
    rw [hpart]
    simp only [R.ok_bind]
    rw [R.mapM_ok _ (fun su => (su.2, (su.2 + su.1) % h.m, V ij.1 ij.2 su.1 su.2))]
    · rfl
    intro su hsu
    obtain ⟨h1, h2⟩ := c20_mem_pairs.mp hsu
    obtain ⟨poly, hpoly, hr, _⟩ := hread su.1 su.2 h1 h2
    rw [hpoly]
    simp only [R.ok_bind]
    rw [hr]
    rfl
  rw [hrun]
  have hVF : ∀ i j sh u, i < ceilDiv h.mAll h.m → j < ceilDiv h.nAll h.m → sh < h.m → u < h.m → i * h.m + u < h.mAll →
      j * h.m + (u + sh) % h.m < h.nAll → V i j sh u = F (i * h.m + u) (j * h.m + (u + sh) % h.m) := by
    intro i j sh u hi hj hs hu h1 h2
    obtain ⟨_, _, hread⟩ := hY i j hi hj
    obtain ⟨_, _, _, hV⟩ := hread sh u hs hu
    exact hV h1 h2
  refine c20_scatter_matrix z h.mAll h.nAll _ F (fun pv hpv => ?_) fun row col hrow hcol => ?_
  · obtain ⟨i, j, sh, u, ⟨hi, hj⟩, ⟨hs, hu⟩, hin, rfl⟩ := (hmem pv).mp hpv
    exact ⟨_, _, hin.1, hin.2, by rw [hVF i j sh u hi hj hs hu hin.1 hin.2]⟩
  · have hmr := Nat.mod_lt row hm
    have hsh : (row % h.m + (col % h.m + h.m - row % h.m) % h.m) % h.m = col % h.m := c20_diag_shift hmr (Nat.mod_lt col hm)
    have hi := c20_div_lt_ceilDiv hm hrow
    have hj := c20_div_lt_ceilDiv hm hcol
    have h1 : row / h.m * h.m + row % h.m < h.mAll := by rw [Nat.div_add_mod']; exact hrow
    have h2 : col / h.m * h.m + (row % h.m + (col % h.m + h.m - row % h.m) % h.m) % h.m < h.nAll := by
      rw [hsh, Nat.div_add_mod']; exact hcol
    rw [hmem]
    refine ⟨row / h.m, col / h.m, (col % h.m + h.m - row % h.m) % h.m, row % h.m, ⟨hi, hj⟩, ⟨Nat.mod_lt _ hm, hmr⟩, ⟨h1, h2⟩, ?_⟩
    rw [hVF _ _ _ _ hi hj (Nat.mod_lt _ hm) hmr h1 h2, hsh, Nat.div_add_mod', Nat.div_add_mod']

/-! ### end to end -/

theorem c20_boltCrEncodeInputs_ok (z : S) (h : BoltCc) {half g : Nat} (ok : c20_CcOK h half g) (x : Nat → S) :
    boltCrEncodeInputs h z x (h.mAll * h.r)
      = .ok ((List.range (ceilDiv h.mAll h.m)).map fun p => (List.range (ceilDiv h.r h.gsc)).map fun i =>
          c20_colMajorArr z h.N h.gap h.gsc h.m h.mAll h.r x p i) := by
  unfold boltCrEncodeInputs
  rw [if_neg (by simp)]
  exact c20_boltRowParts_ok z h.N h.gap h.gsc h.m h.mAll h.r x ok.hN ok.hmg

/-- **`MatmulBoltCcCr`, whole pipeline** (any commutative ring, every helper satisfying `c20_CcOK`, `r > 0`): encode the LHS column-major
    and the RHS row-major, run `multiply` on the slot vectors for every block pair (rotate the RHS, multiply, `sum_inplace`, mask
    the diagonal, accumulate) and decode by diagonals: the result is `x · w`, row major `m × n` -/
theorem c20_boltCr_whole [CommRing S] (h : BoltCc) {half g : Nat} (ok : c20_CcOK h half g) (hr : 0 < h.r) (x w : Nat → S) :
    ∃ X W Y out, boltCrEncodeInputs h 0 x (h.mAll * h.r) = .ok X ∧ boltCrEncodeWeights h 0 w (h.r * h.nAll) = .ok W ∧
      boltCrMultiply h (· + ·) (· * ·) 0 X W = .ok Y ∧ boltCrDecodeOutputs h 0 Y = .ok out ∧ out.size = h.mAll * h.nAll ∧
      ∀ i j, i < h.mAll → j < h.nAll → out.getD (i * h.nAll + j) 0 = ∑ k ∈ range h.r, x (i * h.r + k) * w (k * h.nAll + j) := by
  have hgs := ok.gsc_pos
  have hic : 0 < ceilDiv h.r h.gsc := c20_ceilDiv_pos hr hgs
  let Xr : Nat → List (Array S) := fun p => (List.range (ceilDiv h.r h.gsc)).map fun i =>
    c20_colMajorArr 0 h.N h.gap h.gsc h.m h.mAll h.r x p i
  let Wr : Nat → List (Array S) := fun q => (List.range (ceilDiv h.r h.gsc)).map fun i => c20_crW 0 h w q i
  have hsm := fun p q => c20_val_spec [] (c20_crMulSmall_spec h ok (ceilDiv h.r h.gsc) hic
    (fun i => c20_colMajorArr 0 h.N h.gap h.gsc h.m h.mAll h.r x p i) (fun i => c20_crW 0 h w q i))
  have hmul : boltCrMultiply h (· + ·) (· * ·) 0 ((List.range (ceilDiv h.mAll h.m)).map Xr) ((List.range (ceilDiv h.nAll h.m)).map Wr)
      = .ok ((pairs (ceilDiv h.mAll h.m) (ceilDiv h.nAll h.m)).map fun ij =>
          c20_val [] (boltCrMulSmall h (· + ·) (· * ·) 0 (Xr ij.1) (Wr ij.2))) := by
    unfold boltCrMultiply
    simp only [List.length_map, List.length_range, ne_eq, not_true_eq_false, or_self, if_false]
    apply R.mapM_ok
    intro ij hij
    obtain ⟨hi, hj⟩ := c20_mem_pairs.mp hij
    rw [c20_getRow_map _ _ _ hi, c20_getRow_map _ _ _ hj]
    simp only [R.ok_bind]
    exact (hsm ij.1 ij.2).1
  obtain ⟨out, hout, hosz, hoval⟩ := c20_boltCrDecode_spec (0 : S) h ok.hm0
    ((pairs (ceilDiv h.mAll h.m) (ceilDiv h.nAll h.m)).map fun ij =>
      c20_val [] (boltCrMulSmall h (· + ·) (· * ·) 0 (Xr ij.1) (Wr ij.2)))
    (fun row col => ∑ k ∈ range h.r, x (row * h.r + k) * w (k * h.nAll + col))
    (fun p q sh u => ∑ c ∈ range h.gsc, ∑ i ∈ range (ceilDiv h.r h.gsc),
      (c20_crW 0 h w q i).getD (c * h.gap + (u + sh) % h.m) 0
        * (c20_colMajorArr 0 h.N h.gap h.gsc h.m h.mAll h.r x p i).getD (c * h.gap + u) 0)
    (by rw [List.length_map, c20_pairs_eq, List.length_map, List.length_range])
    (by
      intro p q hp hq
      refine ⟨_, c20_getRow_of (c20_pairs_map_getElem? _ _ _ _ _ hp hq), ?_⟩
      intro sh u hsh hu
      obtain ⟨v, hvg, hvs, hvv⟩ := (hsm p q).2.2 sh u hsh hu
      have hug : u < h.gap := lt_of_lt_of_le hu ok.hmg
      have hlt : sh % h.gsc * h.gap + u < v.size := by
        rw [hvs, ok.hN]; exact grid_lt (Nat.mod_lt sh hgs) hug
      refine ⟨v, c20_getSlots_of hvg, by rw [c20_readAt_getD 0 v hlt, hvv], ?_⟩
      intro hrow hcol
      have hjm : (u + sh) % h.m < h.m := Nat.mod_lt _ ok.hm0
      have hjg : (u + sh) % h.m < h.gap := lt_of_lt_of_le hjm ok.hmg
      let G : Nat → S := fun k => if k < h.r then w (k * h.nAll + (q * h.m + (u + sh) % h.m)) * x ((p * h.m + u) * h.r + k) else 0
      have hterm : ∀ c, c < h.gsc → ∀ i,
          (c20_crW 0 h w q i).getD (c * h.gap + (u + sh) % h.m) 0
            * (c20_colMajorArr 0 h.N h.gap h.gsc h.m h.mAll h.r x p i).getD (c * h.gap + u) 0 = G (i * h.gsc + c) := by
        intro c hc i
        rw [(c20_crW_get 0 h ok w q i hc hjg).2, (c20_colMajorArr_get 0 h.N h.gap h.gsc h.m h.mAll h.r x ok.hN ok.hmg p i hc hug).2]
        show _ = if _ < h.r then _ else 0
        by_cases hk : i * h.gsc + c < h.r
        · rw [if_pos ⟨hk, lt_min (Nat.add_lt_add_left hjm _) hcol⟩, if_pos ⟨lt_min (Nat.add_lt_add_left hu _) hrow, hk⟩, if_pos hk]
        · rw [if_neg (fun hc' => hk hc'.1), if_neg hk, zero_mul]
      rw [Finset.sum_congr rfl (fun c hc => Finset.sum_congr rfl (fun i _ => hterm c (Finset.mem_range.mp hc) i)), Finset.sum_comm]
      exact (c20_sum_pad (fun k => w (k * h.nAll + (q * h.m + (u + sh) % h.m)) * x ((p * h.m + u) * h.r + k)) h.r h.gsc hgs).trans
        (Finset.sum_congr rfl fun k _ => mul_comm _ _))
  exact ⟨_, _, _, out, c20_boltCrEncodeInputs_ok 0 h ok x, c20_boltCrEncodeWeights_ok 0 h ok w, hmul, hout, hosz, hoval⟩

/-- **... for every helper `MatmulBoltCcCr::new` accepts** (`N` a power of two in the `usize` range) -/
theorem c20_boltCr_new [CommRing S] {m r n N : Nat} {h : BoltCc} (hnew : BoltCc.newCr m r n N = .ok h) (hpow : ∃ e, N = 2^e)
    (hN64 : N < 2^64) (x w : Nat → S) :
    ∃ X W Y out, boltCrEncodeInputs h 0 x (m * r) = .ok X ∧ boltCrEncodeWeights h 0 w (r * n) = .ok W ∧
      boltCrMultiply h (· + ·) (· * ·) 0 X W = .ok Y ∧ boltCrDecodeOutputs h 0 Y = .ok out ∧ out.size = m * n ∧
      ∀ i j, i < m → j < n → out.getD (i * n + j) 0 = ∑ k ∈ range r, x (i * r + k) * w (k * n + j) := by
  obtain ⟨_, hm, hr, hn, hr0, half, g, ok⟩ := c20_boltCrNew_ok hnew hpow hN64
  have := c20_boltCr_whole h ok (by rw [hr]; exact hr0) x w
  rw [hm, hr, hn] at this
  exact this

end HC
