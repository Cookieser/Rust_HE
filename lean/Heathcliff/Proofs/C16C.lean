/- The exact distribution of the centred-binomial sample over all 2^48 inputs.
   A distribution on 0, 1, 2, … is the list `D` of its counts, and `wsum D F` = Σ_t D[t]·F(t) is the sum of `F` over a population with
   these counts.  The hamming weight of a byte has counts C(8,t) (a table read off the 256 bytes); a sum of independent quantities has the
   convolution of the count lists (`wsum_conv`), a reflected quantity the reversed list (`wsum_reverse`).  So the count of every value of
   the sample is an entry of `conv TP TP`, `TP` = the counts of `hw b0 + hw b1 + hw (b2 & 0x1f)`; that this list is 64·C(42, ·) is checked
   by evaluating its 43 entries (`conv_TP_TP`), not derived from Vandermonde's identity.  No Mathlib, hence `fact` / `binom` instead of
   `Nat.choose`.  From C16B the file takes `cbdValue_six` (the sample as a difference of hamming weights) and nothing else. -/
import Heathcliff.Proofs.C16B
namespace HC.Rng
open HC

def sumL {α : Type} (l : List α) (f : α → Nat) : Nat := (l.map f).sum

theorem sumL_nil {α : Type} (f : α → Nat) : sumL [] f = 0 := rfl
theorem sumL_cons {α : Type} (a : α) (l : List α) (f : α → Nat) : sumL (a :: l) f = f a + sumL l f := by simp [sumL]

theorem sumL_append {α : Type} (l1 l2 : List α) (f : α → Nat) : sumL (l1 ++ l2) f = sumL l1 f + sumL l2 f := by
  simp [sumL]

theorem sumL_congr {α : Type} {l : List α} {f g : α → Nat} (h : ∀ a ∈ l, f a = g a) : sumL l f = sumL l g := by
  induction l with
  | nil => rfl
  | cons a l ih => rw [sumL_cons, sumL_cons, h a (by simp), ih (fun x hx => h x (by simp [hx]))]

theorem sumL_flatMap {α β : Type} (l : List α) (f : α → List β) (G : β → Nat) :
    sumL (l.flatMap f) G = sumL l (fun a => sumL (f a) G) := by
  induction l with
  | nil => rfl
  | cons a l ih => rw [List.flatMap_cons, sumL_append, sumL_cons, ih]

theorem sumL_map {α β : Type} (l : List α) (f : α → β) (G : β → Nat) : sumL (l.map f) G = sumL l (fun a => G (f a)) := by
  simp [sumL, List.map_map, Function.comp_def]

/-- `Σ_t D[t]·F(t)` -/
def wsum : List Nat → (Nat → Nat) → Nat
  | [], _ => 0
  | d :: D, F => d * F 0 + wsum D fun t => F (t + 1)

theorem wsum_congr : ∀ (D : List Nat) {F G : Nat → Nat}, (∀ t, t < D.length → F t = G t) → wsum D F = wsum D G
  | [], _, _, _ => rfl
  | d :: D, F, G, h => by
    rw [wsum, wsum, h 0 (Nat.zero_lt_succ _), wsum_congr D fun t ht => h (t + 1) (Nat.succ_lt_succ ht)]

theorem wsum_append : ∀ (A B : List Nat) (F : Nat → Nat), wsum (A ++ B) F = wsum A F + wsum B fun t => F (t + A.length)
  | [], _, _ => (Nat.zero_add _).symm
  | a :: A, B, F => by rw [List.cons_append, wsum, wsum, wsum_append A B, Nat.add_assoc]; rfl

/-- the counts of `n − 1 − X` are those of `X` read backwards -/
theorem wsum_reverse : ∀ (D : List Nat) (F : Nat → Nat), wsum D.reverse F = wsum D fun t => F (D.length - (t + 1))
  | [], _ => rfl
  | d :: D, F => by
    rw [List.reverse_cons, wsum_append, wsum_reverse D, wsum, wsum, wsum, List.length_reverse, Nat.add_comm]
    simp only [Nat.add_zero, Nat.zero_add, List.length_cons, Nat.add_sub_cancel, Nat.add_sub_add_right]

theorem ind_congr {p q : Prop} [Decidable p] [Decidable q] (h : p ↔ q) : (if p then 1 else 0 : Nat) = if q then 1 else 0 :=
  ite_congr (propext h) (fun _ => rfl) fun _ => rfl

theorem wsum_indicator : ∀ (D : List Nat) (z : Int),
    wsum D (fun k => if (k : Int) = z then 1 else 0) = if 0 ≤ z then D.getD z.toNat 0 else 0
  | [], z => by rw [wsum]; split <;> rfl
  | d :: D, z => by
    have e : (fun k : Nat => if ((k + 1 : Nat) : Int) = z then 1 else 0) = fun k : Nat => if (k : Int) = z - 1 then 1 else 0 :=
      funext fun k => ind_congr (by omega)
    rw [wsum, e, wsum_indicator D (z - 1)]
    rcases Int.lt_trichotomy z 0 with h | rfl | h
    · rw [if_neg (by omega), if_neg (by omega), if_neg (by omega)]; rfl
    · rw [if_pos (by omega), if_neg (by omega), if_pos (by omega)]; exact Nat.mul_one d
    · obtain ⟨n, rfl⟩ : ∃ n : Nat, z = (n : Int) + 1 := ⟨(z - 1).toNat, by omega⟩
      rw [if_neg (by omega), if_pos (by omega), if_pos (by omega), Int.add_sub_cancel, Int.toNat_natCast, Int.toNat_natCast_add_one,
        List.getD_cons_succ, Nat.mul_zero, Nat.zero_add]

/-- pointwise sum of two count lists: the disjoint union of the populations -/
def ladd : List Nat → List Nat → List Nat
  | [], B => B
  | A, [] => A
  | a :: A, b :: B => (a + b) :: ladd A B

theorem wsum_ladd : ∀ (A B : List Nat) (F : Nat → Nat), wsum (ladd A B) F = wsum A F + wsum B F
  | [], _, _ => (Nat.zero_add _).symm
  | _ :: _, [], _ => rfl
  | a :: A, b :: B, F => by rw [ladd, wsum, wsum, wsum, wsum_ladd A B, Nat.add_mul]; omega

theorem wsum_map_mul (c : Nat) : ∀ (D : List Nat) (F : Nat → Nat), wsum (D.map (c * ·)) F = c * wsum D F
  | [], _ => rfl
  | d :: D, F => by rw [List.map_cons, wsum, wsum, wsum_map_mul c D, Nat.mul_add, Nat.mul_assoc]

/-- the counts of `X + Y` for independent `X`, `Y` -/
def conv : List Nat → List Nat → List Nat
  | [], _ => []
  | a :: A, B => ladd (B.map (a * ·)) (0 :: conv A B)

theorem wsum_conv : ∀ (A B : List Nat) (F : Nat → Nat), wsum (conv A B) F = wsum A fun i => wsum B fun j => F (i + j)
  | [], _, _ => rfl
  | a :: A, B, F => by
    rw [conv, wsum_ladd, wsum_map_mul, wsum, wsum, wsum_conv A B, Nat.zero_mul, Nat.zero_add]
    simp only [Nat.zero_add, Nat.succ_add]

/-- one more individual with value `v` -/
def bump : Nat → List Nat → List Nat
  | 0, [] => [1]
  | 0, d :: D => (d + 1) :: D
  | v + 1, [] => 0 :: bump v []
  | v + 1, d :: D => d :: bump v D

theorem wsum_bump : ∀ (v : Nat) (D : List Nat) (F : Nat → Nat), wsum (bump v D) F = F v + wsum D F
  | 0, [], F => by simp only [bump, wsum, Nat.one_mul]
  | 0, d :: D, F => by simp only [bump, wsum, Nat.add_mul, Nat.one_mul]; omega
  | v + 1, [], F => by simp only [bump, wsum, wsum_bump v, Nat.zero_mul, Nat.zero_add]
  | v + 1, d :: D, F => by rw [bump, wsum, wsum, wsum_bump v D]; omega

/-- the counts of a list of values -/
def hist (vs : List Nat) : List Nat := vs.foldr bump []

theorem sumL_eq_wsum_hist {α : Type} (g : α → Nat) (F : Nat → Nat) : ∀ l : List α, sumL l (fun a => F (g a)) = wsum (hist (l.map g)) F
  | [] => rfl
  | a :: l => by
    show _ = wsum (bump (g a) (hist (l.map g))) F
    rw [wsum_bump, sumL_cons, sumL_eq_wsum_hist g F l]

def bytes256 : List Nat := List.range 256

/-- hamming weight of the byte after masking with 0x1f (bytes 2 and 5 of a draw) -/
def hwMasked (b : Nat) : Nat := hammingWeight (b &&& 31)

def T8 : List Nat := [1, 8, 28, 56, 70, 56, 28, 8, 1]          -- C(8,t)
def T5 : List Nat := [8, 40, 80, 80, 40, 8]                    -- 8·C(5,t)
/-- 8·C(21,t) -/
def TP : List Nat := [8, 168, 1680, 10640, 47880, 162792, 434112, 930240, 1627920, 2351440, 2821728, 2821728, 2351440,
  1627920, 930240, 434112, 162792, 47880, 10640, 1680, 168, 8]

theorem hist_hw : hist (bytes256.map hammingWeight) = T8 := by decide +kernel
theorem hist_hwMasked : hist (bytes256.map hwMasked) = T5 := by decide +kernel
theorem conv_T8_T8_T5 : conv (conv T8 T8) T5 = TP := by decide +kernel
theorem TP_reverse : TP.reverse = TP := by decide +kernel

/-- three bytes: `hw b0 + hw b1 + hw (b2 & 0x1f)` takes the value `t` on `8·C(21,t)` of the 2^24 triples -/
theorem sum_triple (F : Nat → Nat) :
    sumL bytes256 (fun a => sumL bytes256 (fun b => sumL bytes256 (fun c =>
      F (hammingWeight a + hammingWeight b + hwMasked c)))) = wsum TP F := by
  have h5 : ∀ m, sumL bytes256 (fun c => F (m + hwMasked c)) = wsum T5 fun k => F (m + k) := fun m =>
    (sumL_eq_wsum_hist hwMasked (fun k => F (m + k)) bytes256).trans (by rw [hist_hwMasked])
  have h8 : ∀ G : Nat → Nat, sumL bytes256 (fun b => G (hammingWeight b)) = wsum T8 G := fun G =>
    (sumL_eq_wsum_hist hammingWeight G bytes256).trans (by rw [hist_hw])
  have hb : ∀ i, sumL bytes256 (fun b => wsum T5 fun k => F (i + hammingWeight b + k)) = wsum T8 fun j => wsum T5 fun k => F (i + j + k) :=
    fun i => h8 fun j => wsum T5 fun k => F (i + j + k)
  simp only [h5, hb]
  rw [h8 fun i => wsum T8 fun j => wsum T5 fun k => F (i + j + k), ← conv_T8_T8_T5, wsum_conv, wsum_conv]

/-- number of 6-byte inputs (out of 2^48) on which the `cbd` closure returns `v` -/
def cbdCount (v : Int) : Nat :=
  sumL bytes256 fun b0 => sumL bytes256 fun b1 => sumL bytes256 fun b2 =>
  sumL bytes256 fun b3 => sumL bytes256 fun b4 => sumL bytes256 fun b5 =>
    if cbdValue [b0, b1, b2, b3, b4, b5] = v then 1 else 0

theorem cbd_ind (b0 b1 b2 b3 b4 b5 : Nat) (v : Int) :
    (if cbdValue [b0, b1, b2, b3, b4, b5] = v then 1 else 0 : Nat) =
      (if ((hammingWeight b0 + hammingWeight b1 + hwMasked b2 : Nat) : Int) -
          ((hammingWeight b3 + hammingWeight b4 + hwMasked b5 : Nat) : Int) = v then 1 else 0) :=
  ind_congr (by rw [cbdValue_six]; simp only [hwMasked]; omega)

/-- the value is the difference of two independent three-byte weights -/
theorem cbdCount_eq_wsum (v : Int) : cbdCount v = wsum TP fun s => wsum TP fun t => if (s : Int) - (t : Int) = v then 1 else 0 := by
  have inner : ∀ s : Nat, (sumL bytes256 fun b3 => sumL bytes256 fun b4 => sumL bytes256 fun b5 =>
      (if (s : Int) - ((hammingWeight b3 + hammingWeight b4 + hwMasked b5 : Nat) : Int) = v then 1 else 0 : Nat)) =
      wsum TP fun t => if (s : Int) - (t : Int) = v then 1 else 0 :=
    fun s => sum_triple fun t => if (s : Int) - (t : Int) = v then 1 else 0
  unfold cbdCount
  simp only [cbd_ind, inner]
  exact sum_triple fun s => wsum TP fun t => if (s : Int) - (t : Int) = v then 1 else 0

/-- `n!` (the development has no Mathlib here; `binom 42 21` is evaluated in Props/C16.lean) -/
def fact : Nat → Nat
  | 0 => 1
  | n + 1 => (n + 1) * fact n

/-- binomial coefficient `n! / (k! (n-k)!)` -/
def binom (n k : Nat) : Nat := fact n / (fact k * fact (n - k))

/-- where counting becomes the closed form: 43 entries, evaluated -/
theorem conv_TP_TP : conv TP TP = (List.range 43).map fun j => 64 * binom 42 j := by decide +kernel

/-- the push-forward of the uniform distribution on the 2^48 inputs is Bin(21,½) − Bin(21,½) = Bin(42,½) − 21:
    exactly `64·C(42, v+21)` of the inputs give `v` -/
theorem cbdCount_eq (v : Int) :
    cbdCount v = if -21 ≤ v ∧ v ≤ 21 then 64 * binom 42 (v + 21).toNat else 0 := by
  -- `TP` is symmetric, so `21 − t` is distributed like `t`, and `s − t = v` reads `s + (21 − t) = v + 21`
  have refl : ∀ s : Nat, wsum TP (fun t => if (s : Int) - (t : Int) = v then 1 else 0) =
      wsum TP fun t => if ((s + t : Nat) : Int) = v + 21 then 1 else 0 := fun s =>
    ((congrArg (wsum · _) TP_reverse.symm).trans (wsum_reverse TP _)).trans
      (wsum_congr TP fun t ht => ind_congr (by have hl : TP.length = 22 := rfl; omega))
  rw [cbdCount_eq_wsum]
  simp only [refl]
  rw [← wsum_conv TP TP fun k => if (k : Int) = v + 21 then 1 else 0, wsum_indicator, conv_TP_TP]
  by_cases h : -21 ≤ v ∧ v ≤ 21
  · have hj : (v + 21).toNat < 43 := by omega
    rw [if_pos h, if_pos (by omega), List.getD_eq_getElem?_getD, List.getElem?_map, List.getElem?_range hj]; rfl
  · rw [if_neg h]
    split
    · rw [List.getD_eq_getElem?_getD, List.getElem?_eq_none (by simp; omega)]; rfl
    · rfl

theorem cbdCount_in (j : Nat) (hj : j < 43) : cbdCount ((j : Int) - 21) = 64 * binom 42 j := by
  rw [cbdCount_eq, if_pos (by omega)]; congr 2; omega

end HC.Rng
