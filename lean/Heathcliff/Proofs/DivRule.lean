/- The division by a prime p of its RNS base of a value X known by its residues, as the library performs it
   (`divide_and_round_q_last(_ntt)`, `mod_t_and_divide_q_last(_ntt)`, and, written out inside `switch_key`, the mod-down by the
   special prime).  A RULE ρ chooses a representative of the residue modulo p; the result is Y = (X − ρ(X mod p))/p, and the code
   computes (x_i − ρ(x_p))·p⁻¹ in Z_{q_i}.  Two rules occur: the centred lift `c04t_center` (BFV, CKKS) and the multiple of t
   `c04t_bgvE` (BGV).  Here: the ring identity behind every such routine (`c04t_scalar`), the integer facts of the two rules, and
   the row of the rounding division for data in NTT form (`c04t_roundRow_bind`), which `divide_and_round_q_last_ntt` and the
   mod-down of `switch_key` share stage for stage. -/
import Heathcliff.Proofs.C09G
import Heathcliff.Proofs.C10I
import Heathcliff.Proofs.Centred
import Mathlib.Tactic.Ring
import Mathlib.Tactic.LinearCombination
namespace HC

/-- `a` has `n` entries, all below `q`: one canonical component (`RnsCanon l p` says this of every component of `p`, `c04t_Canon` of the
    first `dsz` ones at a key level) -/
def c04t_Lt (n q : Nat) (a : Array Nat) : Prop := a.size = n ∧ ∀ i, i < n → a.getD i 0 < q

instance (n q : Nat) (a : Array Nat) : Decidable (c04t_Lt n q a) := inferInstanceAs (Decidable (_ ∧ _))

theorem c04t_Lt.mem {n q : Nat} {a : Array Nat} (h : c04t_Lt n q a) : ∀ x ∈ a, x < q :=
  mem_lt_of_getD fun i hi => h.2 i (h.1 ▸ hi)

theorem c04t_Lt.mono {n q q' : Nat} {a : Array Nat} (h : c04t_Lt n q a) (hq : q ≤ q') : c04t_Lt n q' a :=
  ⟨h.1, fun i hi => Nat.lt_of_lt_of_le (h.2 i hi) hq⟩

theorem c04t_pos {m : Modulus} (h : m.WF) : 0 < m.value := Nat.lt_of_lt_of_le Nat.zero_lt_two h.two_le

theorem c04t_lt64 {m : Modulus} (h : m.WF) {x : Nat} (hx : x ≤ m.value) : x < 2^64 :=
  Nat.lt_of_le_of_lt hx (Nat.lt_trans h.lt (by decide))

theorem c04t_add_lt64 {m : Modulus} (h : m.WF) {a b : Nat} (ha : a < 2 * m.value) (hb : b ≤ 4 * m.value) : a + b < 2^64 :=
  calc a + b < 2 * m.value + 4 * m.value := Nat.add_lt_add_of_lt_of_le ha hb
    _ = 6 * m.value := (Nat.add_mul 2 4 _).symm
    _ ≤ 6 * 2^61 := Nat.mul_le_mul_left 6 h.lt.le
    _ ≤ 2^64 := by decide

/-! ### the two rules -/

/-- the centred lift used by the code: ((b + ⌊P/2⌋) mod P) − ⌊P/2⌋ -/
def c04t_center (P b : Nat) : Int := (((b + P / 2) % P : Nat) : Int) - ((P / 2 : Nat) : Int)

theorem c04t_center_split {P : Nat} (X : Int) {b : Nat} (hXb : X % (P : Int) = b) :
    X = P * ((X + (P / 2 : Nat)) / (P : Int)) + c04t_center P b := by
  unfold c04t_center
  have e : (((b + P / 2) % P : Nat) : Int) = (X + (P / 2 : Nat)) % (P : Int) := by
    rw [Int.natCast_mod, Nat.cast_add, ← hXb, Int.emod_add_emod]
  rw [e]
  linear_combination -(Int.mul_ediv_add_emod (X + (P / 2 : Nat)) P)

theorem c04t_center_bound {P : Nat} (hP : 0 < P) (b : Nat) :
    -((P / 2 : Nat) : Int) ≤ c04t_center P b ∧ 2 * c04t_center P b < P := by
  unfold c04t_center
  have := Nat.mod_lt (b + P / 2) hP
  omega

theorem c04t_center_round {P : Nat} (hP : 0 < P) (b : Nat) (X : Int) (hXb : X % (P : Int) = b) :
    X = P * Spec.roundDiv X P + c04t_center P b ∧
    -((P / 2 : Nat) : Int) ≤ c04t_center P b ∧ 2 * c04t_center P b < P := by
  have hs := c04t_center_split X hXb
  obtain ⟨h1, h2⟩ := c04t_center_bound hP b
  refine ⟨?_, h1, h2⟩
  rw [c01j_roundDiv_unique (w := (X + (P / 2 : Nat)) / (P : Int)) hP (by omega) (by omega)]
  exact hs

theorem c04k_center_mod {P : Nat} (hP : 0 < P) {b : Nat} (hb : b < P) :
    c04t_center P b ≡ (b : Int) [ZMOD (P : Int)] ∧ (c04t_center P b).natAbs ≤ P / 2 := by
  have hs := c04t_center_split (P := P) (b : Int) (Int.emod_eq_of_lt (by omega) (by exact_mod_cast hb))
  obtain ⟨h1, h2⟩ := c04t_center_bound hP b
  exact ⟨(Int.modEq_iff_dvd.mpr ⟨-(((b : Int) + (P / 2 : Nat)) / (P : Int)), by linear_combination -hs⟩).symm, by omega⟩

/-- BGV correction digit: (−b)·P^{-1} mod t -/
def c04t_bgvKK (t it b : Nat) : Nat := (((t - b % t) % t) * it) % t

/-- BGV: the multiple-of-t representative of X mod P that is subtracted before dividing by P -/
def c04t_bgvE (P t it b : Nat) : Nat := b + P * c04t_bgvKK t it b

theorem c04t_bgvE_facts {P t it : Nat} (ht : 0 < t) (hit : (it * P) % t = 1 % t) {b : Nat} (hb : b < P) :
    t ∣ c04t_bgvE P t it b ∧ c04t_bgvE P t it b < P * t ∧ c04t_bgvE P t it b % P = b := by
  have hkk : c04t_bgvKK t it b < t := Nat.mod_lt _ ht
  refine ⟨(ZMod.natCast_eq_zero_iff _ _).mp ?_, ?_, ?_⟩
  · have h2 : (((t - b % t) % t : Nat) : ZMod t) = -(b : ZMod t) := by
      rw [ZMod.natCast_mod, Nat.cast_sub (Nat.mod_lt _ ht).le, ZMod.natCast_self, ZMod.natCast_mod, zero_sub]
    unfold c04t_bgvE c04t_bgvKK
    rw [Nat.cast_add, Nat.cast_mul, ZMod.natCast_mod, Nat.cast_mul, h2]
    linear_combination (-(b : ZMod t)) * c04t_inv_cast hit
  · calc b + P * c04t_bgvKK t it b < P * (c04t_bgvKK t it b + 1) :=
        Nat.mul_add_one .. ▸ Nat.add_comm .. ▸ Nat.add_lt_add_left hb _
      _ ≤ P * t := Nat.mul_le_mul_left _ hkk
  · unfold c04t_bgvE
    rw [Nat.add_mul_mod_self_left, Nat.mod_eq_of_lt hb]

theorem c04t_bgvE_split {P : Nat} (t it : Nat) {b : Nat} {X : Int} (hXb : X % (P : Int) = b) :
    X = P * (X / P - (c04t_bgvKK t it b : Int)) + (c04t_bgvE P t it b : Int) := by
  unfold c04t_bgvE
  push_cast
  linear_combination hXb - Int.mul_ediv_add_emod X P

/-! ### rules in general -/

/-- ρ is a rule of division by p: a representative of every residue modulo p, a multiple of tt, at most slack·tt·p/2 in size -/
structure IsDivRule (p tt slack : Nat) (ρ : Nat → Int) : Prop where
  rep : ∀ b, b < p → ρ b ≡ (b : Int) [ZMOD (p : Int)]
  dvd : ∀ b, b < p → (tt : Int) ∣ ρ b
  le : ∀ b, b < p → 2 * (ρ b).natAbs ≤ slack * (tt * p)

/-- the result of dividing X by p with the rule ρ -/
def divY (p : Nat) (ρ : Nat → Int) (X : Nat) : Int := ((X : Int) - ρ (X % p)) / (p : Int)

theorem divY_eq {p : Nat} (hp : 0 < p) {ρ : Nat → Int} {X : Nat} {Y : Int} (h : (X : Int) = p * Y + ρ (X % p)) : divY p ρ X = Y := by
  unfold divY
  rw [show (X : Int) - ρ (X % p) = p * Y by linear_combination h, Int.mul_ediv_cancel_left _ (Int.natCast_pos.mpr hp).ne']

theorem IsDivRule.divY_spec {p tt slack : Nat} {ρ : Nat → Int} (h : IsDivRule p tt slack ρ) (hp : 0 < p) (X : Nat) :
    (X : Int) = p * divY p ρ X + ρ (X % p) := by
  unfold divY
  rw [Int.mul_ediv_cancel' ((h.rep _ (Nat.mod_lt X hp)).trans (cast_mod_modEq X p)).dvd]
  ring

/-- the form in which the phase theorems of modulus switching take a rule: p·Y = X + tt·r with 2|r| ≤ slack·p -/
theorem IsDivRule.quot_rem {p tt slack : Nat} {ρ : Nat → Int} (h : IsDivRule p tt slack ρ) (hp : 0 < p) (htt : 0 < tt) (X : Nat) :
    (p : Int) * divY p ρ X = X + (tt : Int) * (-ρ (X % p) / (tt : Int)) ∧ 2 * (-ρ (X % p) / (tt : Int)).natAbs ≤ slack * p := by
  have hb := Nat.mod_lt X hp
  obtain ⟨k, hk⟩ := h.dvd _ hb
  have hle := h.le _ hb
  have hz : (tt : Int) ≠ 0 := (Int.natCast_pos.mpr htt).ne'
  rw [hk, ← mul_neg, Int.mul_ediv_cancel_left _ hz]
  refine ⟨by linear_combination -(h.divY_spec hp X) - hk, Nat.le_of_mul_le_mul_left ?_ htt⟩
  rw [hk, Int.natAbs_mul, Int.natAbs_natCast] at hle
  rw [Int.natAbs_neg, Nat.mul_left_comm, Nat.mul_left_comm tt]
  exact hle

theorem isDivRule_center {P : Nat} (hP : 0 < P) : IsDivRule P 1 1 (c04t_center P) :=
  ⟨fun _ hb => (c04k_center_mod hP hb).1, fun _ _ => Nat.cast_one (R := Int) ▸ one_dvd _,
    fun _ hb => by have := (c04k_center_mod hP hb).2; omega⟩

theorem isDivRule_bgvE {P t it : Nat} (ht : 0 < t) (hit : (it * P) % t = 1 % t) :
    IsDivRule P t 2 (fun b => ((c04t_bgvE P t it b : Nat) : Int)) :=
  ⟨fun _ hb => Int.natCast_modEq_iff.mpr (((c04t_bgvE_facts ht hit hb).2.2).trans (Nat.mod_eq_of_lt hb).symm),
    fun _ hb => Int.natCast_dvd_natCast.mpr (c04t_bgvE_facts ht hit hb).1,
    fun _ hb => by rw [Int.natAbs_natCast, Nat.mul_comm t P]; have := (c04t_bgvE_facts ht hit hb).2.1; omega⟩

/-- rounding: the quotient is ⌊(X + ⌊P/2⌋)/P⌋ -/
theorem divY_center {P : Nat} (hP : 0 < P) (X : Nat) : divY P (c04t_center P) X = (((X + P / 2) / P : Nat) : Int) :=
  divY_eq hP (by rw [Int.natCast_div, Nat.cast_add]; exact c04t_center_split (X : Int) (Int.natCast_mod X P).symm)

/-- BGV: the quotient is ⌊X/P⌋ minus the correction digit -/
theorem divY_bgvE {P : Nat} (hP : 0 < P) (t it X : Nat) :
    divY P (fun b => ((c04t_bgvE P t it b : Nat) : Int)) X = (X : Int) / (P : Int) - (c04t_bgvKK t it (X % P) : Int) :=
  divY_eq hP (c04t_bgvE_split t it (Int.natCast_mod X P).symm)

/-! ### what every routine of this kind computes: from X = P·Y + E and the residue of X, the residue of Y -/

theorem c04t_scalar {q P y a : Nat} (hy : (y : ZMod q) * (P : ZMod q) = 1) {X Y E : Int} (hX : X = P * Y + E)
    (hXa : (X : ZMod q) = a) : ((a : ZMod q) - (E : ZMod q)) * y = (Y : ZMod q) := by
  rw [← hXa, hX]
  push_cast
  linear_combination (Y : ZMod q) * hy

/-- the same read as a congruence of integers: P·δ ≡ a − r when δ = (a − r)·P⁻¹ in Z_q -/
theorem c04k_dz_z {q P y a d : Nat} {r : Int} (hy : (y * P) % q = 1 % q)
    (h : (d : ZMod q) = ((a : ZMod q) - (r : ZMod q)) * (y : ZMod q)) : (P : Int) * (d : Int) ≡ (a : Int) - r [ZMOD (q : Int)] := by
  apply (ZMod.intCast_eq_intCast_iff _ _ _).mp
  push_cast
  rw [h]
  linear_combination ((a : ZMod q) - (r : ZMod q)) * c04t_inv_cast hy

/-! ### the values of the library's two coefficient routines, in Z_q -/

theorem divRoundLastCoeff_cast (qL qi inv xL xi : Nat) (hqi : 0 < qi) :
    ((divRoundLastCoeff qL qi inv xL xi : Nat) : ZMod qi) =
      ((xi : ZMod qi) - ((c04t_center qL xL : Int) : ZMod qi)) * (inv : ZMod qi) := by
  unfold divRoundLastCoeff c04t_center
  simp only []
  have h1 := Nat.mod_lt (qL / 2) hqi
  have h2 := Nat.mod_lt (((xL + qL / 2) % qL) % qi + qi - qL / 2 % qi) hqi
  rw [ZMod.natCast_mod, Nat.cast_mul, ZMod.natCast_mod, Nat.cast_sub (by omega), Nat.cast_add, ZMod.natCast_self,
    ZMod.natCast_mod, Nat.cast_sub (by omega), Nat.cast_add, ZMod.natCast_self, ZMod.natCast_mod, ZMod.natCast_mod,
    Int.cast_sub, Int.cast_natCast, Int.cast_natCast, add_zero, add_zero]

theorem modTDivLastCoeff_cast (t qL qi inv invt xL xi : Nat) (hqi : 0 < qi) :
    ((modTDivLastCoeff t qL qi inv invt xL xi : Nat) : ZMod qi) =
      ((xi : ZMod qi) - ((c04t_bgvE qL t invt xL : Nat) : ZMod qi)) * (inv : ZMod qi) := by
  unfold modTDivLastCoeff c04t_bgvE c04t_bgvKK
  simp only []
  generalize (((t - xL % t) % t) * invt) % t = neg
  have h1 := Nat.mod_lt xL hqi
  have h2 := Nat.mod_lt ((neg % qi) * (qL % qi)) hqi
  rw [ZMod.natCast_mod, Nat.cast_mul, ZMod.natCast_mod, Nat.cast_sub (by omega), Nat.cast_sub (by omega)]
  simp only [Nat.cast_add, Nat.cast_mul, ZMod.natCast_mod, ZMod.natCast_self, Nat.cast_ofNat]
  ring

/-- ROUNDING DIVISION: the result is the nearest integer to x / q_L (ties up), reduced mod q_i -/
theorem divRoundLast_scalar {qL qi inv x : Nat} (hqL : 2 ≤ qL) (hqi : 2 ≤ qi) (hinv : (inv * qL) % qi = 1) :
    divRoundLastCoeff qL qi inv (x % qL) (x % qi) = ((x + qL / 2) / qL) % qi := by
  have hqi0 : 0 < qi := by omega
  apply cast_inj_lt (by unfold divRoundLastCoeff; exact Nat.mod_lt _ hqi0) (Nat.mod_lt _ hqi0)
  rw [divRoundLastCoeff_cast _ _ _ _ _ hqi0, ZMod.natCast_mod, ZMod.natCast_mod, ← Int.cast_natCast (R := ZMod qi) ((x + qL / 2) / qL)]
  exact c04t_scalar (a := x) (c04t_inv_cast (hinv.trans (Nat.mod_eq_of_lt hqi).symm))
    (by rw [Int.natCast_div, Nat.cast_add]; exact c04t_center_split (x : Int) (Int.natCast_mod x qL).symm) (Int.cast_natCast x)

/-- BGV DIVISION: with y = (x - x_L)/q_L - neg (an integer, |y - x/q_L| ≤ t + 1) the routine returns y mod q_i,
    and y·q_L ≡ x (mod t): the value modulo t is preserved up to the known factor q_L^{-1} -/
theorem modTDivLast_scalar {t qL qi inv invt x : Nat} (ht : 2 ≤ t) (hqL : 2 ≤ qL) (hqi : 2 ≤ qi)
    (hinv : (inv * qL) % qi = 1) (hinvt : (invt * qL) % t = 1) (hit : invt < t) :
    let xL := x % qL
    let neg := (((t - xL % t) % t) * invt) % t
    let y : Int := ((x - xL) / qL : Nat) - (neg : Int)
    (modTDivLastCoeff t qL qi inv invt xL (x % qi) : Int) = y % (qi : Int) ∧
    (y * qL - x) % (t : Int) = 0 ∧ neg < t := by
  have hqi0 : 0 < qi := by omega
  have ht0 : 0 < t := by omega
  intro xL neg y
  have hy : y = (x : Int) / (qL : Int) - (c04t_bgvKK t invt (x % qL) : Int) := by
    show (((x - x % qL) / qL : Nat) : Int) - _ = _
    rw [show x - x % qL = qL * (x / qL) by have := Nat.div_add_mod x qL; omega, Nat.mul_div_cancel_left _ (by omega), Int.natCast_div]
    rfl
  have hsp := c04t_bgvE_split t invt (P := qL) (b := x % qL) (X := x) (Int.natCast_mod x qL).symm
  rw [← hy] at hsp
  refine ⟨?_, ?_, Nat.mod_lt _ ht0⟩
  · rw [← c04t_emod_of_cast (d := modTDivLastCoeff t qL qi inv invt xL (x % qi)) (by
      rw [modTDivLastCoeff_cast _ _ _ _ _ _ _ hqi0, ZMod.natCast_mod, ← Int.cast_natCast (R := ZMod qi) (c04t_bgvE qL t invt xL)]
      exact c04t_scalar (a := x) (c04t_inv_cast (hinv.trans (Nat.mod_eq_of_lt hqi).symm)) hsp (Int.cast_natCast x))]
    exact (Int.emod_eq_of_lt (Int.natCast_nonneg _) (by unfold modTDivLastCoeff; exact_mod_cast Nat.mod_lt _ hqi0)).symm
  · obtain ⟨k, hk⟩ := (c04t_bgvE_facts (P := qL) ht0 (hinvt.trans (Nat.mod_eq_of_lt ht).symm) (Nat.mod_lt x (by omega))).1
    rw [show y * qL - x = (t : Int) * (-(k : Int)) by rw [hsp, hk]; push_cast; ring]
    exact Int.mul_emod_right _ _

/-! ### the row of the rounding division, data in NTT form -/

theorem c04t_intt_eq_lazy_mod {t : NTTTables} (hw : t.WF) {a : Array Nat} (ha : c04t_Lt (2^t.k) (2 * t.modulus.value) a)
    {i : Nat} (hi : i < 2^t.k) : (intt t a).getD i 0 = (inttLazy t a).getD i 0 % t.modulus.value := by
  obtain ⟨e1, e2⟩ := inttLazy_range hw a ha.1 ha.2
  unfold intt
  simp only []
  rw [array_getD_map _ _ 0 0 (e1 ▸ hi)]
  exact reduce2 (c04t_pos hw.mwf) (e2 i hi)

/-- coefficient form (as seen through `intt` when the data is in NTT form) -/
def c04t_coefOf (t : NTTTables) (isNtt : Bool) (p : Poly) : Poly := if isNtt then intt t p else p

/-- One row of the rounding division by the prime P, then the rest `K` of the routine (the form of `ent_bind`).  `tLast` holds
    (b + ⌊P/2⌋) mod P, b the residue modulo P in coefficient form; `prod` is the component modulo q, in NTT form.  The row δ is
    canonical and, in Z_q, its coefficient form is (a − centre(b))·P⁻¹, a the coefficient form of `prod`.  With `isNtt = false`
    (`switch_key` on coefficient-form data) the product is brought to coefficient form first and δ stays there. -/
theorem c04t_roundRow_bind {β : Type} {t : NTTTables} (hw : t.WF) {mj : Modulus} (hm : t.modulus = mj) {n : Nat} (hn : 2^t.k = n)
    {P : Modulus} (hP : P.WF) {op : MulOperand} (hop : WFOp mj op) (isNtt : Bool) {prod tLast : Poly} {b : Nat → Nat}
    (hp : c04t_Lt n mj.value prod) (ht : Ent n tLast (fun l => (b l + P.value / 2) % P.value))
    {K : Poly → R β} {Q : β → Prop}
    (hK : ∀ δ, c04t_Lt n mj.value δ → (∀ c, c < n → (((c04t_coefOf t isNtt δ).getD c 0 : Nat) : ZMod mj.value) =
        ((((intt t prod).getD c 0 : Nat) : ZMod mj.value) - ((c04t_center P.value (b c) : Int) : ZMod mj.value)) *
          (op.operand : ZMod mj.value)) → ∃ out, K δ = .ok out ∧ Q out) :
    ∃ out, (do
      let tmp0 ← if P.value > mj.value then mapM' tLast (fun x => barrett64 x mj) else pure tLast
      let hm ← barrett64 (P.value / 2) mj
      let fix ← ckSub mj.value hm
      let tmp1 ← mapM' tmp0 (fun x => ckAdd x fix)
      let (tmp2, pp, qiLazy) :=
        if isNtt then (nttLazy t tmp1, prod, mj.value * 4)
        else (tmp1, inttLazy t prod, mj.value * 2)
      let d ← zipM' pp tmp2 (fun a b => do let z ← ckSub qiLazy b; ckAdd a z)
      let d ← mapM' d (fun x => mulOperandMod x op mj)
      K d) = .ok out ∧ Q out := by
  subst hm hn
  have hmw := hw.mwf
  have hq0 := c04t_pos hmw
  have hP0 := c04t_pos hP
  have h2 : t.modulus.value ≤ 2 * t.modulus.value := Nat.le_mul_of_pos_left _ Nat.two_pos
  -- the entries of `tmp1`: (t_last mod q) + (q − ⌊P/2⌋ mod q), below 2q; in Z_q they are the centred lift
  have htmp1 : ∀ l, (b l + P.value / 2) % P.value % t.modulus.value + (t.modulus.value - P.value / 2 % t.modulus.value)
      < 2 * t.modulus.value := fun l => by
    rw [Nat.two_mul]; exact Nat.add_lt_add_of_lt_of_le (Nat.mod_lt _ hq0) (Nat.sub_le _ _)
  have hcen : ∀ c, (((b c + P.value / 2) % P.value % t.modulus.value + (t.modulus.value - P.value / 2 % t.modulus.value) : Nat) :
      ZMod t.modulus.value) = ((c04t_center P.value (b c) : Int) : ZMod t.modulus.value) := fun c => by
    unfold c04t_center
    rw [Int.cast_sub, Int.cast_natCast, Int.cast_natCast, Nat.cast_add, ZMod.natCast_mod,
      Nat.cast_sub (Nat.mod_lt _ hq0).le, ZMod.natCast_self, ZMod.natCast_mod]
    ring
  have hmul : ∀ {d : Poly} {cd : Nat → Nat}, Ent (2^t.k) d cd → (∀ l, l < 2^t.k → cd l < 2^64) →
      ∃ δ, mapM' d (fun x => mulOperandMod x op t.modulus) = .ok δ ∧ Ent (2^t.k) δ (fun l => cd l * op.operand % t.modulus.value) :=
    fun hd h64 => mapM'_ent hd fun l hl => mulOperandMod_exact hmw (h64 l hl) hop.1 (WFOp.new_eq hmw hop)
  rw [R.ite_bind]
  refine ent_bind (n := 2^t.k) (c := fun l => (b l + P.value / 2) % P.value % t.modulus.value) ?_ fun tmp0 h0 => ?_
  · by_cases h : P.value > t.modulus.value
    · rw [if_pos h]
      exact mapM'_ent ht fun l _ => barrett64_exact hmw (c04t_lt64 hP (Nat.mod_lt _ hP0).le)
    · rw [if_neg h]
      exact ⟨tLast, rfl, ht.1, fun l hl => (ht.2 l hl).trans
        (Nat.mod_eq_of_lt (Nat.lt_of_lt_of_le (Nat.mod_lt _ hP0) (Nat.le_of_not_gt h))).symm⟩
  dsimp only
  rw [barrett64_exact hmw (c04t_lt64 hP (Nat.div_le_self _ 2)), R.ok_bind, ckSub_of_le (Nat.mod_lt _ hq0).le, R.ok_bind]
  refine ent_bind (mapM'_ent h0 fun l _ => ckAdd_ok (c04t_add_lt64 hmw (Nat.lt_of_lt_of_le (Nat.mod_lt _ hq0) h2)
    (Nat.le_trans (Nat.sub_le _ _) (Nat.le_mul_of_pos_left _ (by decide))))) fun tmp1 h1 => ?_
  cases isNtt with
  | true =>
    simp only [↓reduceIte]
    obtain ⟨e1, e2⟩ := nttLazy_spec hw tmp1 h1.1 fun l hl => by
      rw [h1.2 l hl]; exact Nat.lt_of_lt_of_le (htmp1 l) (Nat.mul_le_mul_right _ (by decide))
    have h64 : ∀ l, l < 2^t.k → prod.getD l 0 + (t.modulus.value * 4 - (nttLazy t tmp1).getD l 0) < 2^64 := fun l hl =>
      c04t_add_lt64 hmw (Nat.lt_of_lt_of_le (hp.2 l hl) h2) (Nat.le_trans (Nat.sub_le _ _) (Nat.le_of_eq (Nat.mul_comm _ 4)))
    refine ent_bind (zipM'_ent (Ent.of_size hp.1) (b := nttLazy t tmp1) (fun _ _ => rfl) fun l hl => by
      rw [ckSub_of_le (Nat.le_of_lt (Nat.mul_comm 4 _ ▸ (e2 l hl).1)), R.ok_bind]
      exact ckAdd_ok (h64 l hl)) fun d hd => ?_
    refine ent_bind (hmul hd h64) fun δ hδ => ?_
    have hδl : c04t_Lt (2^t.k) t.modulus.value δ := ⟨hδ.1, fun l hl => by rw [hδ.2 l hl]; exact Nat.mod_lt _ hq0⟩
    refine hK δ hδl fun c hc => ?_
    unfold c04t_coefOf
    rw [if_pos rfl, intt_affine hw tmp1 hp.1 hp.1 hδ.1 (fun l hl => Nat.lt_of_lt_of_le (hp.2 l hl) h2)
      (fun l hl => Nat.lt_of_lt_of_le (hp.2 l hl) h2) (fun l hl => Nat.lt_of_lt_of_le (hδl.2 l hl) h2)
      (op.operand : ZMod t.modulus.value) 0 (-(op.operand : ZMod t.modulus.value)) (fun l hl => by
        rw [hδ.2 l hl, ZMod.natCast_mod, Nat.cast_mul,
          c04t_cast_add_sub (Nat.le_of_lt (Nat.mul_comm 4 _ ▸ (e2 l hl).1)) ⟨4, rfl⟩, ← (e2 l hl).2, ZMod.natCast_mod]
        ring) c hc, h1.2 c hc, hcen c]
    ring
  | false =>
    simp only [Bool.false_eq_true, ↓reduceIte]
    obtain ⟨e1, e2⟩ := inttLazy_range hw prod hp.1 fun l hl => Nat.lt_of_lt_of_le (hp.2 l hl) h2
    have hle : ∀ l, l < 2^t.k → tmp1.getD l 0 ≤ t.modulus.value * 2 := fun l hl => by
      rw [h1.2 l hl, Nat.mul_comm]; exact (htmp1 l).le
    have h64 : ∀ l, l < 2^t.k → (inttLazy t prod).getD l 0 + (t.modulus.value * 2 - tmp1.getD l 0) < 2^64 := fun l hl =>
      c04t_add_lt64 hmw (e2 l hl) (Nat.le_trans (Nat.sub_le _ _) (Nat.mul_comm 2 _ ▸ Nat.mul_le_mul_right _ (by decide : 2 ≤ 4)))
    refine ent_bind (zipM'_ent (Ent.of_size e1) (b := tmp1) (fun _ _ => rfl) fun l hl => by
      rw [ckSub_of_le (hle l hl), R.ok_bind]
      exact ckAdd_ok (h64 l hl)) fun d hd => ?_
    refine ent_bind (hmul hd h64) fun δ hδ => ?_
    refine hK δ ⟨hδ.1, fun l hl => by rw [hδ.2 l hl]; exact Nat.mod_lt _ hq0⟩ fun c hc => ?_
    unfold c04t_coefOf
    rw [if_neg Bool.false_ne_true, hδ.2 c hc, ZMod.natCast_mod, Nat.cast_mul, c04t_cast_add_sub (hle c hc) ⟨2, rfl⟩,
      c04t_intt_eq_lazy_mod hw (hp.mono h2) hc, ZMod.natCast_mod, h1.2 c hc, hcen c]

end HC
