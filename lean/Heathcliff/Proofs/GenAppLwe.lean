/-
  Index / loop arithmetic of src/app/lwe.rs regenerated into Gen/AppLweFns.lean (fragments of
  `extract_lwe`, `pack_lwe_ciphertexts`, `field_trace_inplace`) = the corresponding pieces of Model/Lwe.lean.  Helper prefix `ga_`.
-/
import Heathcliff.Proofs.Base
import Heathcliff.Proofs.GenAppBase
import Heathcliff.Gen.AppLweFns
import Heathcliff.Model.Lwe

namespace HC
open HC.GenApp

/-! ### `extract_lwe`: the shift `2N − term` -/

/-- the generated `let shift = if term == 0 {0} else {poly_modulus_degree * 2 - term}` is the model's shift computation (the model does
    not check `N * 2`; it cannot overflow for `N < 2^63`) -/
theorem ga_lwe_extract_shift_eq (term n : Nat) (hn : n * 2 < 2^64) :
    lwe_extract_shift term n = (if term = 0 then pure 0 else ckSub (n * 2) term) := by
  unfold lwe_extract_shift
  by_cases h : term = 0
  · simp [h, pure, Except.pure, bind, Except.bind]
  · simp only [if_neg h, ckMul_ok_pow hn, R.ok_bind]
    cases hc : ckSub (n * 2) term <;> simp [bind, Except.bind, pure, Except.pure]

/-! ### `pack_lwe_ciphertexts`: `l` minimal with `2^l ≥ count` -/

theorem ga_ckShl_one {l : Nat} (hl : l ≤ 63) : GenApp.ckShl 1 l = .ok (2^l) := by
  have h2 : 2^l ≤ 2^63 := Nat.pow_le_pow_right (by omega) hl
  unfold GenApp.ckShl
  rw [if_pos (by omega), Nat.shiftLeft_eq, Nat.one_mul, Nat.mod_eq_of_lt (by simp only [B64]; omega)]

theorem ga_lwe_pack_log_loop (c : Nat) (hc : c ≤ 2^63) : ∀ (f2 l f1 : Nat), c ≤ 2^(l + f2) → l ≤ 63 → 65 ≤ f1 + l →
    whileFuel f1 l (lwe_pack_log_loop1 c) = .ok (packLogGo f2 c l) := by
  intro f2
  induction f2 with
  | zero =>
    intro l f1 h hl hf
    obtain ⟨f, rfl⟩ : ∃ f, f1 = f + 1 := ⟨f1 - 1, by omega⟩
    have hb : lwe_pack_log_loop1 c l = .ok (.brk l) := by
      simp only [lwe_pack_log_loop1, ga_ckShl_one hl, R.ok_bind]
      rw [if_neg (by simpa using h)]; rfl
    simp [whileFuel, hb, packLogGo, pure, Except.pure]
  | succ f2 ih =>
    intro l f1 h hl hf
    obtain ⟨f, rfl⟩ : ∃ f, f1 = f + 1 := ⟨f1 - 1, by omega⟩
    by_cases hlt : 2^l < c
    · have hl' : l < 63 := by
        rcases Nat.lt_or_ge l 63 with h1 | h1
        · exact h1
        · have : l = 63 := by omega
          subst this; omega
      have hb : lwe_pack_log_loop1 c l = .ok (.next (l + 1)) := by
        simp only [lwe_pack_log_loop1, ga_ckShl_one hl, R.ok_bind, if_pos hlt, ckAdd_ok_pow (show l + 1 < 2^64 by omega)]
        rfl
      simp only [whileFuel, hb, packLogGo, if_pos hlt]
      exact ih (l + 1) f (by rw [show l + 1 + f2 = l + (f2 + 1) by omega]; exact h) (by omega) (by omega)
    · have hb : lwe_pack_log_loop1 c l = .ok (.brk l) := by
        simp only [lwe_pack_log_loop1, ga_ckShl_one hl, R.ok_bind, if_neg hlt]; rfl
      simp [whileFuel, hb, packLogGo, hlt, pure, Except.pure]

/-- the loop as the code starts it: `l = 0`; the fuel 65 is the entry of the translator's table (tools/rs2lean_app_table.py) for this `while`, and
    this lemma is the proof that it suffices (at most 64 rounds) -/
theorem ga_lwe_pack_log_run (c : Nat) (hc : c ≤ 2^63) : whileFuel 65 0 (lwe_pack_log_loop1 c) = .ok (packLog c) :=
  ga_lwe_pack_log_loop c hc c 0 65 (by rw [Nat.zero_add]; exact Nat.le_of_lt Nat.lt_two_pow_self) (by omega) (by omega)

/-- **the level computation of `pack_lwe_ciphertexts`, generated = `packLog`** for at most 2^63 inputs (the code admits at most N) -/
theorem ga_lwe_pack_log_eq (c : Nat) (hc : c ≤ 2^63) : lwe_pack_log c = .ok (packLog c) := by
  simp only [lwe_pack_log, ga_lwe_pack_log_run c hc, R.ok_bind]

/-! ### `field_trace_inplace`: the Galois elements of the trace loop -/

/-- **the loop of `field_trace_inplace`, generated = the loop structure of `fieldTracePoly`**: with the key-level degree `2^k` the code
    applies `apply_galois(·, g)` + `add_inplace` exactly for `g = 2^(k−i) + 1`, `i = 0 … k − logn − 1`, in this order -/
theorem ga_lwe_field_trace_plan_eq (k logn : Nat) (hk : k ≤ 62) (hl : logn ≤ 63) :
    lwe_field_trace_plan logn (2^k) = .ok ((List.range (k - logn)).map fun i => 2^(k - i) + 1) := by
  -- the loop walks through `(elements so far, 2^(k−j))`, `j = 0 … k − logn`
  have hw := ga_whileFuel_seq (lwe_field_trace_plan_loop1 logn)
    (fun j => ((List.range j).map fun i => 2^(k - i) + 1, 2^(k - j))) (k - logn)
    (fun j hj => by
      have hgt : 2^(k - j) > 2^logn := Nat.pow_lt_pow_right (by omega) (by omega)
      have h62 : 2^(k - j) ≤ 2^62 := Nat.pow_le_pow_right (by omega) (by omega)
      have hhalf : 2^(k - j) >>> 1 = 2^(k - (j + 1)) := by
        rw [Nat.shiftRight_eq_div_pow, Nat.pow_one, show k - j = (k - (j + 1)) + 1 by omega, Nat.pow_succ,
          Nat.mul_div_cancel _ (by omega)]
      simp only [lwe_field_trace_plan_loop1, ga_ckShl_one hl, R.ok_bind, if_pos hgt,
        ckAdd_ok_pow (show 2^(k - j) + 1 < 2^64 by omega), hhalf, List.range_succ, List.map_append, List.map_cons, List.map_nil]
      rfl)
    (by
      have hle : 2^(k - (k - logn)) ≤ 2^logn := Nat.pow_le_pow_right (by omega) (by omega)
      simp only [lwe_field_trace_plan_loop1, ga_ckShl_one hl, R.ok_bind, if_neg (Nat.not_lt.mpr hle)]
      rfl)
    (k - logn) 0 65 (by omega) (by omega)
  simp only [lwe_field_trace_plan, List.range_zero, List.map_nil, Nat.sub_zero] at hw ⊢
  rw [hw]
  rfl

/-- the model's trace loop, written over the plan the generated code produces -/
theorem ga_fieldTracePoly_plan {α : Type} [Zero α] [Add α] [Sub α] [Neg α] [Mul α] (k logn : Nat) (a : Array α) :
    fieldTracePoly k logn a
      = ((List.range (k - logn)).map fun i => 2^(k - i) + 1).foldl (fun a g => addPoly (2^k) a (sigmaPoly (2^k) a g)) a := by
  simp [fieldTracePoly, List.foldl_map]

end HC
