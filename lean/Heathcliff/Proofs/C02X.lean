/- C02: BEHZ `bfvMultiply` of the MODEL — invariant-noise bound, exact decoding, model-level decryption of the product.
   Method.  The ring form of the product (`c02w_phase_hom`, every ring homomorphism out of ℤ[X]/(X^N+1) = `c03k_NP ℤ N`) is read at the
   identity; the integer Horner phase `c02x_phZ` (Σ_k C_k ⋆ s^k, ⋆ = `negMulR` over ℤ) is `ctPhase` in that ring (`c02x_toNP_phZ`), which
   gives the identity on integer coefficients (`c02x_mul_coeff`).  `Spec.phase` is congruent modulo Q to `c02x_phZ` of any integer lifts
   of the residues (`c02x_phase_lift`, Proofs/C03P.lean).  The noise algebra
   `Q·(t·D − Q·M_a⋆M_b) = Q·(M_a⋆ν_b + ν_a⋆M_b) + ν_a⋆ν_b − t·E` (`c02x_noise_algebra`: `c02x_noise_ring` in the ring) and the norm bounds
   give the noise bound. -/
import Heathcliff.Proofs.C02W
import Heathcliff.Proofs.C01Q
import Heathcliff.Proofs.C04K
import Heathcliff.Proofs.C03P
namespace HC
open Finset

/-! ## `bfvMultiply_phase` on integer coefficients -/

theorem c02x_result {l : Level} {T : Array NTTTables} (hm : MulOK l T) {a b r : Ct}
    (ha : c05u_CtCanon l a)
    (hb : c05u_CtCanon l b)
    (hna : a.ntt = false) (hnb : b.ntt = false) (h1 : 1 ≤ a.polys.size) (h2 : 1 ≤ b.polys.size)
    (hr : bfvMultiply l T a b = .ok r) :
    r.polys.size = a.polys.size + b.polys.size - 1 ∧ r.ntt = false ∧
      c05u_CtCanon l r := by
  obtain ⟨r', hr', hsz, hntt, -, hcanr, -⟩ := bfvMultiply_ok hm ha hb hna hnb h1 h2 (bfvMultiply_ok_size hr)
  rw [hr] at hr'
  obtain rfl := Except.ok.inj hr'
  exact ⟨hsz, hntt, fun k hk => hcanr k (by rw [← hsz]; exact hk)⟩

/-- the ring form of the product on integer coefficients: `c02w_phase_hom` read at the identity -/
theorem c02x_mul_coeff {l : Level} {T : Array NTTTables} (hm : MulOK l T) {a b r : Ct}
    (ha : c05u_CtCanon l a)
    (hb : c05u_CtCanon l b)
    (hna : a.ntt = false) (hnb : b.ntt = false) (h1 : 1 ≤ a.polys.size) (h2 : 1 ≤ b.polys.size)
    (hwin : c02w_Window l a.polys.size b.polys.size) (hr : bfvMultiply l T a b = .ok r) (s : Nat → Int) :
    ∃ D E : Nat → Nat → Int,
      (∀ k, k < a.polys.size + b.polys.size - 1 → ∀ c, c < l.n → ∀ i, i < l.size →
        (r.c02v_res k i c : Int) ≡ D k c [ZMOD (l.q i).value]) ∧
      (∀ k, k < a.polys.size + b.polys.size - 1 → ∀ c, c < l.n →
        0 ≤ E k c ∧ E k c < (l.size : Int) * l.tool.baseQ.prod) ∧
      ∀ c, c < l.n →
        (l.tool.baseQ.prod : Int) * c02x_phZ l.n s (a.polys.size + b.polys.size - 1) D c
          + c02x_phZ l.n s (a.polys.size + b.polys.size - 1) E c
        = (l.t.value : Int) * negMulR l.n
            (c02x_phZ l.n s a.polys.size (fun x j => c02w_liftZ l.tool (a.polys.getD x #[]) j))
            (c02x_phZ l.n s b.polys.size (fun y j => c02w_liftZ l.tool (b.polys.getD y #[]) j)) c := by
  obtain ⟨D, E, hD, hE, h⟩ := c02w_phase_hom (S := c03k_NP Int l.n) hm ha hb hna hnb h1 h2 hwin hr
  refine ⟨D, E, hD, hE, fun c hc => ?_⟩
  have := h (RingHom.id _) (c03k_toNP l.n s)
  simp only [RingHom.id_apply, ← c02x_toNP_phZ, ← c03k_toNP_mul, ← zsmul_eq_mul, ← c03k_toNP_zsmul] at this
  exact c03k_toNP_inj (f := fun c => (l.tool.baseQ.prod : Int) * c02x_phZ l.n s (a.polys.size + b.polys.size - 1) D c
    + c02x_phZ l.n s (a.polys.size + b.polys.size - 1) E c) ((c03k_toNP_add _ _).trans this) hc

/-! ## the invariant-noise algebra of a product (a ring identity, read on coefficients) -/

theorem c02x_noise_ring {S : Type} [CommRing S] {t Q pa pb ma mb va vb d e : S}
    (ea : t * pa = Q * ma + va) (eb : t * pb = Q * mb + vb) (ed : Q * d + e = t * (pa * pb)) :
    Q * (t * d - Q * (ma * mb)) = Q * (ma * vb + va * mb) + va * vb - t * e := by
  linear_combination t * ed + (t * pb) * ea + (Q * ma + va) * eb

/-- the product's noise is `ν_mul = t·D − Q·(M_a ⋆ M_b) = M_a ⋆ ν_b + ν_a ⋆ M_b + (ν_a ⋆ ν_b − t·E)/Q` -/
theorem c02x_noise_algebra {n : Nat} (t Q : Int) (Pa Pb Ma Mb νa νb D E : Nat → Int)
    (ha : ∀ c, c < n → t * Pa c = Q * Ma c + νa c) (hb : ∀ c, c < n → t * Pb c = Q * Mb c + νb c)
    (hd : ∀ c, c < n → Q * D c + E c = t * negMulR n Pa Pb c) :
    ∀ c, c < n → Q * (t * D c - Q * negMulR n Ma Mb c)
      = Q * (negMulR n Ma νb c + negMulR n νa Mb c) + negMulR n νa νb c - t * E c := by
  have aff : ∀ {P M ν : Nat → Int}, (∀ c, c < n → t * P c = Q * M c + ν c) →
      (t : c03k_NP Int n) * c03k_toNP n P = (Q : c03k_NP Int n) * c03k_toNP n M + c03k_toNP n ν := fun h => by
    rw [← zsmul_eq_mul, ← zsmul_eq_mul, ← c03k_toNP_zsmul, ← c03k_toNP_zsmul]
    exact c03k_np_ext fun c hc => by
      rw [c03k_NP.add_co, c03k_toNP_co _ hc, c03k_toNP_co _ hc, c03k_toNP_co _ hc, h c hc]
  have ed := (aff (P := negMulR n Pa Pb) (M := D) (ν := E) fun c hc => (hd c hc).symm).symm
  rw [c03k_toNP_mul] at ed
  have e1 := c02x_noise_ring (aff ha) (aff hb) ed
  intro c hc
  have := congrArg (fun x => x.co c) e1
  simp only [← zsmul_eq_mul, ← c03k_toNP_mul, c03k_NP.add_co, c03k_NP.sub_co, c03k_zsmul_co, c03k_toNP_co _ hc, smul_eq_mul] at this
  exact this

/-- norms are carried with a weight `w` on the left (`w·|x| ≤ B`): the lifted operands satisfy `2·2^32·|X| ≤ Q·(2^32 + 2|q|)` (`bfvLift_spec`),
    a bound that is an integer only after scaling by `w = 2·m̃ = 2^33`; `c02x_M_bound`, `c02x_scaled_negMul_bound`, `c02x_noise_arith` run with the
    same weight and `c02x_F` is the resulting bound times `2·w` -/
theorem c02x_phZ_bound (n : Nat) (s : Nat → Int) (w B : Nat) (m : Nat) (C : Nat → Nat → Int)
    (h : ∀ k, k < m → ∀ c, c < n → w * (C k c).natAbs ≤ B) :
    ∀ c, c < n → w * (c02x_phZ n s m C c).natAbs ≤ B * c02x_geo (∑ k ∈ range n, (s k).natAbs) m := fun c hc => by
  have hb := c03k_phase_bound m (fun k => (w : Int) • c03k_toNP n (C k)) (c03k_toNP n s) B
    (fun k hk i hi => by
      rw [c03k_zsmul_co, c03k_toNP_co _ hi, smul_eq_mul, Int.natAbs_mul, Int.natAbs_natCast]
      exact h k hk i hi) hc
  have e1 : ctPhase m (fun k => (w : Int) • c03k_toNP n (C k)) (c03k_toNP n s) = (w : Int) • c03k_toNP n (c02x_phZ n s m C) := by
    rw [c02x_toNP_phZ]
    unfold ctPhase
    rw [Finset.smul_sum]
    exact Finset.sum_congr rfl fun k _ => smul_mul_assoc _ _ _
  have e2 : c03k_l1 (c03k_toNP n s) = ∑ k ∈ range n, (s k).natAbs :=
    Finset.sum_congr rfl fun k hk => by rw [c03k_toNP_co _ (mem_range.mp hk)]
  rw [e1, c03k_zsmul_co, c03k_toNP_co _ hc, smul_eq_mul, Int.natAbs_mul, Int.natAbs_natCast, e2, ← c02x_geo_eq] at hb
  exact hb

theorem c02x_M_bound {t Q w BP V : Nat} (hQ : 0 < Q) {P M ν : Int} (h : (t : Int) * P = Q * M + ν)
    (hP : w * P.natAbs ≤ Q * BP) (hν : ν.natAbs ≤ V) (h2 : 2 * V ≤ Q) : 2 * w * M.natAbs ≤ 2 * t * BP + w := by
  have e : (Q : Int) * M = t * P - ν := by linarith
  have h1 : Q * M.natAbs ≤ t * P.natAbs + ν.natAbs := by
    have := congrArg Int.natAbs e
    rw [Int.natAbs_mul, Int.natAbs_natCast] at this
    rw [this]
    refine le_trans (Int.natAbs_sub_le _ _) ?_
    rw [Int.natAbs_mul, Int.natAbs_natCast]
  refine Nat.le_of_mul_le_mul_left ?_ hQ
  calc Q * (2 * w * M.natAbs) = 2 * w * (Q * M.natAbs) := by ring
    _ ≤ 2 * w * (t * P.natAbs + ν.natAbs) := Nat.mul_le_mul_left _ h1
    _ = 2 * t * (w * P.natAbs) + w * (2 * ν.natAbs) := by ring
    _ ≤ 2 * t * (Q * BP) + w * Q :=
        Nat.add_le_add (Nat.mul_le_mul_left _ hP) (Nat.mul_le_mul_left _ (le_trans (Nat.mul_le_mul_left _ hν) h2))
    _ = Q * (2 * t * BP + w) := by ring

theorem c02x_scaled_negMul_bound (n : Nat) (M ν : Nat → Int) (w MB V c : Nat) (hc : c < n)
    (hM : ∀ i, i < n → w * (M i).natAbs ≤ MB) (hν : ∀ i, i < n → (ν i).natAbs ≤ V) :
    w * (negMulR n M ν c).natAbs ≤ n * MB * V := by
  have h := negMul_norm_le n (fun i => (w : Int) * M i) ν MB V
    (fun i hi => by rw [Int.natAbs_mul, Int.natAbs_natCast]; exact hM i hi) hν c hc
  rwa [c05u_negMul_smul, Int.natAbs_mul, Int.natAbs_natCast] at h

theorem c02x_noise_arith {Q w n t ν A1 A2 A3 e M1 M2 Va Vb BE : Nat} (hQ : 0 < Q)
    (h : Q * ν ≤ Q * (A1 + A2) + A3 + t * e)
    (b1 : 2 * w * A1 ≤ n * M1 * Vb) (b2 : 2 * w * A2 ≤ n * M2 * Va) (b3 : 2 * A3 ≤ n * Q * Vb) (b4 : e ≤ Q * BE) :
    2 * w * ν ≤ n * (M1 * Vb + M2 * Va) + w * n * Vb + 2 * w * t * BE := by
  refine Nat.le_of_mul_le_mul_left ?_ hQ
  calc Q * (2 * w * ν) = 2 * w * (Q * ν) := by ring
    _ ≤ 2 * w * (Q * (A1 + A2) + A3 + t * e) := Nat.mul_le_mul_left _ h
    _ = Q * (2 * w * A1) + Q * (2 * w * A2) + w * (2 * A3) + 2 * w * t * e := by ring
    _ ≤ Q * (n * M1 * Vb) + Q * (n * M2 * Va) + w * (n * Q * Vb) + 2 * w * t * (Q * BE) :=
        Nat.add_le_add (Nat.add_le_add (Nat.add_le_add (Nat.mul_le_mul_left _ b1) (Nat.mul_le_mul_left _ b2))
          (Nat.mul_le_mul_left _ b3)) (Nat.mul_le_mul_left _ b4)
    _ = Q * (n * (M1 * Vb + M2 * Va) + w * n * Vb + 2 * w * t * BE) := by ring

theorem c02x_noise_bound {n : Nat} {t Q : Nat} (hQ : 0 < Q) (Pa Pb Ma Mb νa νb D E : Nat → Int)
    (ha : ∀ c, c < n → (t : Int) * Pa c = Q * Ma c + νa c) (hb : ∀ c, c < n → (t : Int) * Pb c = Q * Mb c + νb c)
    (hd : ∀ c, c < n → (Q : Int) * D c + E c = t * negMulR n Pa Pb c)
    {w BPa BPb Va Vb BE : Nat}
    (hPa : ∀ c, c < n → w * (Pa c).natAbs ≤ Q * BPa) (hPb : ∀ c, c < n → w * (Pb c).natAbs ≤ Q * BPb)
    (hVa : ∀ c, c < n → (νa c).natAbs ≤ Va) (hVb : ∀ c, c < n → (νb c).natAbs ≤ Vb)
    (h2a : 2 * Va ≤ Q) (h2b : 2 * Vb ≤ Q) (hE : ∀ c, c < n → (E c).natAbs ≤ Q * BE) :
    ∀ c, c < n → 2 * w * ((t : Int) * D c - Q * negMulR n Ma Mb c).natAbs
      ≤ n * ((2 * t * BPa + w) * Vb + (2 * t * BPb + w) * Va) + w * n * Vb + 2 * w * t * BE := by
  intro c hc
  have halg := c02x_noise_algebra (t : Int) (Q : Int) Pa Pb Ma Mb νa νb D E ha hb hd c hc
  have hMa : ∀ i, i < n → 2 * w * (Ma i).natAbs ≤ 2 * t * BPa + w :=
    fun i hi => c02x_M_bound hQ (ha i hi) (hPa i hi) (hVa i hi) h2a
  have hMb : ∀ i, i < n → 2 * w * (Mb i).natAbs ≤ 2 * t * BPb + w :=
    fun i hi => c02x_M_bound hQ (hb i hi) (hPb i hi) (hVb i hi) h2b
  have b1 := c02x_scaled_negMul_bound n Ma νb (2 * w) _ Vb c hc hMa hVb
  have b2 := c02x_scaled_negMul_bound n Mb νa (2 * w) _ Va c hc hMb hVa
  rw [← c04k_comm n νa Mb hc] at b2
  have b3 := negMul_norm_le n νa νb Va Vb hVa hVb c hc
  have b4 := hE c hc
  generalize (t : Int) * D c - Q * negMulR n Ma Mb c = ν at halg ⊢
  generalize negMulR n Ma νb c = A1 at halg b1
  generalize negMulR n νa Mb c = A2 at halg b2
  generalize negMulR n νa νb c = A3 at halg b3
  generalize E c = e at halg b4
  have h1 : Q * ν.natAbs ≤ Q * (A1.natAbs + A2.natAbs) + A3.natAbs + t * e.natAbs := by
    have := congrArg Int.natAbs halg
    rw [Int.natAbs_mul, Int.natAbs_natCast] at this
    rw [this]
    refine le_trans (Int.natAbs_sub_le _ _) ?_
    rw [Int.natAbs_mul, Int.natAbs_natCast]
    refine Nat.add_le_add_right (le_trans (Int.natAbs_add_le _ _) ?_) _
    rw [Int.natAbs_mul, Int.natAbs_natCast]
    exact Nat.add_le_add_right (Nat.mul_le_mul_left _ (Int.natAbs_add_le _ _)) _
  have c3 : 2 * A3.natAbs ≤ n * Q * Vb :=
    calc 2 * A3.natAbs ≤ 2 * (n * Va * Vb) := Nat.mul_le_mul_left _ b3
      _ = n * (2 * Va) * Vb := by ring
      _ ≤ n * Q * Vb := Nat.mul_le_mul_right _ (Nat.mul_le_mul_left _ h2a)
  exact c02x_noise_arith hQ h1 b1 b2 c3 b4

/-! ## the invariant-noise splitting `t·x = Q·m + ν` of a phase coefficient -/

/-- the message part `m = (t·x − ν)/Q` of a phase coefficient, `ν = [t·x]_Q` (centred) the invariant noise `c07l_v true t Q x`
    measured by `Spec.budget` -/
def c02x_msg (t Q : Nat) (x : Int) : Int := ((t : Int) * x - c07l_v true t Q x) / (Q : Int)

/-- Operands (the invariant-noise convention of `Spec.budget`): every phase coefficient splits as `t·x = Q·m + ν` with
    `ν = [t·x]_Q` the centred residue measured by the budget (`c07l_v true t Q x`), `2|ν| ≤ Q`, `m = c02x_msg t Q x` -/
theorem bfv_noise_split (t : Nat) {Q : Nat} (hQ : 0 < Q) (x : Int) :
    (t : Int) * x = Q * c02x_msg t Q x + c07l_v true t Q x ∧ 2 * (c07l_v true t Q x).natAbs ≤ Q :=
  ⟨c07l_split t hQ x, centred_natAbs_le (Spec.imod (t * x) Q) hQ⟩

theorem c02x_split_rep (t : Nat) {Q : Nat} (hQ : 0 < Q) {x P : Int} (h : x ≡ P [ZMOD Q]) :
    ∃ M : Int, (t : Int) * P = Q * M + c07l_v true t Q x ∧ M ≡ c02x_msg t Q x [ZMOD t] := by
  obtain ⟨h1, -⟩ := bfv_noise_split t hQ x
  obtain ⟨r, hr⟩ := (Int.modEq_iff_dvd.mp h)
  refine ⟨c02x_msg t Q x + t * r, ?_, ?_⟩
  · have : P = x + Q * r := by linarith
    rw [this, mul_add, h1]; ring
  · rw [Int.modEq_iff_dvd]
    exact ⟨-r, by ring⟩

/-- the explicit noise-growth bound of `bfvMultiply` (scaled by `2·2^33`): N = degree, t, K = |q|, S ≥ ‖s‖₁, operand sizes
    `na`, `nb`, `Va ≥ ‖ν_a‖∞`, `Vb ≥ ‖ν_b‖∞`.  Reading: `‖ν_mul‖∞ ≤ N·t·(½ + K/2^32)·(G_a·V_b + G_b·V_a) + N·(V_a + V_b)/2 + N·V_b/2
    + t·K·G_r` with `G_x = Σ_{k<n_x} S^k`, `G_r = Σ_{k<na+nb−1} S^k`; the last term is the BEHZ floor error `α` and remainder `E`,
    the factor `(1 + 2K/2^32)` the BEHZ lift offset (`bfvLift_spec`).  `Model/Program.lean` has the same expression as `bfvMulF` (the model imports
    no proofs); `c02f_F_eq` (C02PF) identifies them -/
def c02x_F (N t K S na nb Va Vb : Nat) : Nat :=
  N * ((2 * t * ((2^32 + 2 * K) * c02x_geo S na) + 2^33) * Vb + (2 * t * ((2^32 + 2 * K) * c02x_geo S nb) + 2^33) * Va)
    + 2^33 * N * Vb + 2 * 2^33 * t * (K * c02x_geo S (na + nb - 1))

/-! ## the noise form of the product -/

theorem c02x_levelQ {l : Level} {T : Array NTTTables} (hm : MulOK l T) : c07s_LevelQ l := ⟨hm.tool.qwf, hm.base_eq⟩

theorem c02x_toList_ne {polys : Array RnsPoly} (h1 : 1 ≤ polys.size) : polys.toList ≠ [] := by
  intro h
  have h1' := congrArg List.length h
  rw [Array.length_toList, List.length_nil] at h1'
  omega

/-- the exact phase of a ciphertext is congruent modulo Q to the integer Horner phase `P` of its BEHZ-lifted polynomials;
    hence `t·P = Q·M + ν` with `ν` the invariant noise of the exact phase -/
theorem c02x_operand_split {l : Level} {T : Array NTTTables} (hm : MulOK l T) (sk : Array Int)
    {polys : Array RnsPoly} (h1 : 1 ≤ polys.size) :
    ∃ M : Nat → Int, ∀ j, j < l.n →
      (l.t.value : Int) * c02x_phZ l.n (fun i => sk.getD i 0) polys.size (fun x c => c02w_liftZ l.tool (polys.getD x #[]) c) j
        = l.tool.baseQ.prod * M j
          + c07l_v true l.t.value l.tool.baseQ.prod ((Spec.phase (c01p_qvals l) l.n sk polys.toList).getD j 0) ∧
      M j ≡ c02x_msg l.t.value l.tool.baseQ.prod ((Spec.phase (c01p_qvals l) l.n sk polys.toList).getD j 0)
        [ZMOD l.t.value] := by
  have hex : ∀ j, ∃ M : Int, j < l.n → _ ∧ _ := fun j => by
    by_cases hj : j < l.n
    · have h := c02x_phase_lift (sk := sk) (c02x_levelQ hm) (c02x_toList_ne h1)
        (fun x c => c02w_liftZ l.tool (polys.getD x #[]) c)
        (fun k _ i hi c _ => by
          rw [array_getD_toList]
          exact ((bfvLift_spec hm (polys.getD k #[]) c).1 i hi).symm) hj
      rw [Array.length_toList] at h
      obtain ⟨M, hM⟩ := c02x_split_rep l.t.value hm.tool.qwf.prod_pos h
      exact ⟨M, fun _ => hM⟩
    · exact ⟨0, fun h' => absurd h' hj⟩
  choose M hM using hex
  exact ⟨M, hM⟩

/-- the lift offset of `bfvLift_spec` through the Horner sum -/
theorem c02x_operand_bound {l : Level} {T : Array NTTTables} (hm : MulOK l T) (sk : Array Int) (polys : Array RnsPoly) :
    ∀ c, c < l.n →
      2^33 * (c02x_phZ l.n (fun i => sk.getD i 0) polys.size (fun x c => c02w_liftZ l.tool (polys.getD x #[]) c) c).natAbs
        ≤ l.tool.baseQ.prod * ((2^32 + 2 * l.size) * c02x_geo (∑ k ∈ range l.n, (sk.getD k 0).natAbs) polys.size) := by
  intro c hc
  rw [← Nat.mul_assoc]
  refine c02x_phZ_bound l.n _ _ _ _ _ (fun k _ c _ => ?_) c hc
  have h := (bfvLift_spec hm (polys.getD k #[]) c).2
  rw [← Int.natCast_natAbs] at h
  exact_mod_cast h

/-! ## `Spec.negMul` is the negacyclic product modulo q -/

theorem c02x_foldl_pm (p : Nat → Prop) [DecidablePred p] (f : Nat → Int) : ∀ (L : List Nat) (acc : Int),
    L.foldl (fun acc i => if p i then acc + f i else acc - f i) acc
      = acc + (L.map (fun i => if p i then f i else - f i)).sum
  | [], acc => by simp
  | i :: L, acc => by
    rw [List.foldl_cons, c02x_foldl_pm p f L, List.map_cons, List.sum_cons]
    split <;> ring

theorem c02x_specNegMul_size (a b : Array Nat) (q : Nat) : (Spec.negMul a b q).size = a.size := Array.size_ofFn

theorem c02x_specNegMul_getD (a b : Array Nat) (q : Nat) {k : Nat} (hk : k < a.size) :
    (Spec.negMul a b q).getD k 0
      = Spec.imod (negMulR a.size (fun i => ((a.getD i 0 : Nat) : Int)) (fun i => ((b.getD i 0 : Nat) : Int)) k) q := by
  unfold Spec.negMul Spec.imod
  simp only
  have e : ∀ (f : Fin a.size → Nat), (Array.ofFn f).getD k 0 = f ⟨k, hk⟩ := by
    intro f; simp [Array.getD, hk]
  rw [e]
  simp only
  rw [c02x_foldl_pm (fun i => i ≤ k) (fun i => ((a.getD i 0 : Nat) : Int) * ((b.getD ((k + a.size - i) % a.size) 0 : Nat) : Int)),
    list_sum_range, zero_add]
  unfold negMulR
  refine congrArg (fun s : Int => (s % (q : Int)).toNat) (Finset.sum_congr rfl fun i hi => ?_)
  have hi := Finset.mem_range.mp hi
  split
  · rename_i hik
    have : (k + a.size - i) % a.size = k - i := by
      have : k + a.size - i = (k - i) + a.size := by omega
      rw [this, Nat.add_mod_right, Nat.mod_eq_of_lt (by omega)]
    rw [this]
    simp [Array.getD, hi]
  · rename_i hik
    have : (k + a.size - i) % a.size = a.size + k - i := by
      rw [Nat.mod_eq_of_lt (by omega)]; omega
    rw [this]
    simp [Array.getD, hi]

/-! ## exact decoding below the threshold `2|ν| < Q`; the BEHZ decryption threshold in terms of the bound `F` -/

theorem c02x_decode_msg (t : Nat) {Q : Nat} (hQ : 0 < Q) (ph : Array Int) {j : Nat} (hj : j < ph.size)
    (hν : 2 * (c07l_v true t Q (ph.getD j 0)).natAbs < Q) :
    (Spec.bfvDecode t Q ph).getD j 0 = Spec.imod (c02x_msg t Q (ph.getD j 0)) t := by
  rw [c01p_bfvDecode_getD t Q ph hj, exact_below_threshold hQ (bfv_noise_split t hQ _).1 hν]

theorem c02x_F_lt_of_gamma {g F K Q : Nat} (hK : 0 < K) (hQ : 0 < Q) (h : g * F + 2^34 * K * Q ≤ 2^33 * Q * g) :
    F < 2^33 * Q := by
  by_contra hc
  have h1 : g * (2^33 * Q) ≤ g * F := Nat.mul_le_mul_left _ (by omega)
  have h2 : 0 < 2^34 * K * Q := by positivity
  have h3 : g * (2^33 * Q) = 2^33 * Q * g := by ring
  omega

theorem c02x_behz_coeff {g F K Q : Nat} {ν : Int} (h : g * F + 2^34 * K * Q ≤ 2^33 * Q * g)
    (hν : 2 * 2^33 * ν.natAbs ≤ F) :
    2 * (g : Int) * |ν| + 2 * (K : Int) * (Q : Int) ≤ (Q : Int) * (g : Int) := by
  have h1 : g * (2 * 2^33 * ν.natAbs) ≤ g * F := Nat.mul_le_mul_left _ hν
  have h2 : 2^33 * (2 * g * ν.natAbs + 2 * K * Q) ≤ 2^33 * (Q * g) := by
    have e1 : 2^33 * (2 * g * ν.natAbs + 2 * K * Q) = g * (2 * 2^33 * ν.natAbs) + 2^34 * K * Q := by ring
    have e2 : 2^33 * (Q * g) = 2^33 * Q * g := by ring
    rw [e1, e2]; omega
  have h3 : 2 * g * ν.natAbs + 2 * K * Q ≤ Q * g := Nat.le_of_mul_le_mul_left h2 (by positivity)
  rw [Int.abs_eq_natAbs]
  exact_mod_cast h3

theorem c02x_prodL {l : Level} {T : Array NTTTables} (hm : MulOK l T) : Spec.prodL (c01p_qvals l) = l.tool.baseQ.prod :=
  (c02x_levelQ hm).prodL

theorem c02x_F_mono (N t K S na nb : Nat) {Va Vb Va' Vb' : Nat} (ha : Va ≤ Va') (hb : Vb ≤ Vb') :
    c02x_F N t K S na nb Va Vb ≤ c02x_F N t K S na nb Va' Vb' := by
  unfold c02x_F
  gcongr

/-! ## the growth factor: `F ≤ G·max(V_a, V_b, 1) = G1·max(V_a, V_b) + C`, and `G`, `G1`, `C` below powers of two -/

/-- the invariant noise of the coefficients of a phase polynomial is bounded by `V` -/
def c02x_NoiseLe (t Q : Nat) (ph : Spec.ZPoly) (n V : Nat) : Prop :=
  ∀ j, j < n → (c07l_v true t Q (ph.getD j 0)).natAbs ≤ V

/-- the noise-growth factor: `F ≤ G·max(V_a, V_b, 1)` -/
def c02x_G (N t K S na nb : Nat) : Nat :=
  N * ((2 * t * ((2^32 + 2 * K) * c02x_geo S na) + 2^33) + (2 * t * ((2^32 + 2 * K) * c02x_geo S nb) + 2^33))
    + 2^33 * N + 2 * 2^33 * t * (K * c02x_geo S (na + nb - 1))

/-- the multiplicative part of the growth factor (`F ≤ G1·max(V_a, V_b) + C`, `C = 2^34·t·|q|·G_r` the additive BEHZ part) -/
def c02x_G1 (N t K S na nb : Nat) : Nat :=
  N * ((2 * t * ((2^32 + 2 * K) * c02x_geo S na) + 2^33) + (2 * t * ((2^32 + 2 * K) * c02x_geo S nb) + 2^33)) + 2^33 * N

theorem c02x_G_eq (N t K S na nb : Nat) :
    c02x_G N t K S na nb = c02x_G1 N t K S na nb + 2 * 2^33 * t * (K * c02x_geo S (na + nb - 1)) := rfl

theorem c02x_F_le_G1_aux (N A B C p V Va Vb : Nat) (h1 : Va ≤ V) (h2 : Vb ≤ V) :
    N * (A * Vb + B * Va) + p * N * Vb + C ≤ (N * (A + B) + p * N) * V + C := by
  have e : (N * (A + B) + p * N) * V = N * (A * V + B * V) + p * N * V := by ring
  rw [e]
  exact Nat.add_le_add_right (Nat.add_le_add
    (Nat.mul_le_mul_left N (Nat.add_le_add (Nat.mul_le_mul_left A h2) (Nat.mul_le_mul_left B h1)))
    (Nat.mul_le_mul_left _ h2)) C

theorem c02x_F_le_G1 (N t K S na nb Va Vb : Nat) :
    c02x_F N t K S na nb Va Vb
      ≤ c02x_G1 N t K S na nb * max Va Vb + 2 * 2^33 * t * (K * c02x_geo S (na + nb - 1)) :=
  c02x_F_le_G1_aux N _ _ _ _ _ Va Vb (le_max_left _ _) (le_max_right _ _)

theorem c02x_F_le_G (N t K S na nb Va Vb : Nat) :
    c02x_F N t K S na nb Va Vb ≤ c02x_G N t K S na nb * max (max Va Vb) 1 := by
  rw [c02x_G_eq, Nat.add_mul]
  exact le_trans (c02x_F_le_G1 N t K S na nb Va Vb) (Nat.add_le_add (Nat.mul_le_mul_left _ (le_max_left _ _))
    (Nat.le_mul_of_pos_right _ (Nat.lt_of_lt_of_le Nat.one_pos (le_max_right _ _))))

theorem c02x_mul_geo_le {S N : Nat} (hS : S ≤ N) (hN : 2 ≤ N) (m : Nat) : N * c02x_geo S m ≤ 2 * N^m := by
  have h1 := c02x_geo_pow N hN m
  have h2 := Nat.mul_le_mul_left N (c02x_geo_le_S S N hS m)
  have e : c02x_geo N (m+1) = 1 + N * c02x_geo N m := rfl
  omega

theorem c02x_G1_le {N t K S T na nb P : Nat} (hT1 : 1 ≤ T) (hT : t ≤ T) (hK : K ≤ 64) (hN : N ≤ P)
    (ha : N * c02x_geo S na ≤ 2 * P) (hb : N * c02x_geo S nb ≤ 2 * P) : c02x_G1 N t K S na nb ≤ 2^36 * (T * P) := by
  have hP : N ≤ T * P := le_trans hN (Nat.le_mul_of_pos_left _ hT1)
  calc c02x_G1 N t K S na nb
      = 2 * t * (2^32 + 2 * K) * (N * c02x_geo S na) + 2 * t * (2^32 + 2 * K) * (N * c02x_geo S nb) + 3 * 2^33 * N := by
        unfold c02x_G1; ring
    _ ≤ 2 * T * (2^32 + 2 * 64) * (2 * P) + 2 * T * (2^32 + 2 * 64) * (2 * P) + 3 * 2^33 * (T * P) := by gcongr
    _ = (8 * (2^32 + 2 * 64) + 3 * 2^33) * (T * P) := by ring
    _ ≤ 2^36 * (T * P) := Nat.mul_le_mul_right _ (by norm_num)

theorem c02x_C_le {t K T Kb g gb : Nat} (hT : t ≤ T) (hK : K ≤ Kb) (hg : g ≤ gb) :
    2 * 2^33 * t * (K * g) ≤ 2 * 2^33 * T * (Kb * gb) :=
  Nat.mul_le_mul (Nat.mul_le_mul_left _ hT) (Nat.mul_le_mul hK hg)

theorem c02x_G_le {N t K S T na nb P : Nat} (hT1 : 1 ≤ T) (hT : t ≤ T) (hK : K ≤ 64) (hN : N ≤ P)
    (ha : N * c02x_geo S na ≤ 2 * P) (hb : N * c02x_geo S nb ≤ 2 * P) (hr : c02x_geo S (na + nb - 1) ≤ 3 * P) :
    c02x_G N t K S na nb ≤ 2^42 * (T * P) := by
  rw [c02x_G_eq]
  calc c02x_G1 N t K S na nb + 2 * 2^33 * t * (K * c02x_geo S (na + nb - 1))
      ≤ 2^36 * (T * P) + 2 * 2^33 * T * (64 * (3 * P)) := Nat.add_le_add (c02x_G1_le hT1 hT hK hN ha hb) (c02x_C_le hT hK hr)
    _ = (2^36 + 3 * 2^40) * (T * P) := by ring
    _ ≤ 2^42 * (T * P) := Nat.mul_le_mul_right _ (by norm_num)

theorem c02x_G_2x2_pow {l : Level} (hl : l.WF) {K S lt : Nat} (hK : K ≤ 64) (hS : S ≤ l.n) (hlt : l.t.value ≤ 2^lt) :
    c02x_G l.n l.t.value K S 2 2 ≤ 2^(34 + (lt + 2 * l.k + 8)) := by
  have hN := c01q_n_pos hl
  have hNN : l.n ≤ l.n^2 := Nat.le_self_pow (by norm_num) l.n
  have h2 : l.n * c02x_geo S 2 ≤ 2 * l.n^2 := by
    rw [c02x_geo_two]
    calc l.n * (1 + S) ≤ l.n * (2 * l.n) := Nat.mul_le_mul_left _ (by omega)
      _ = 2 * l.n^2 := by ring
  have h3 : c02x_geo S 3 ≤ 3 * l.n^2 := by
    rw [c02x_geo_three]
    have := Nat.pow_le_pow_left hS 2
    omega
  refine le_trans (c02x_G_le Nat.one_le_two_pow hlt hK hNN h2 h2 h3) ?_
  rw [hl.npow, ← pow_mul, ← pow_add, ← pow_add]
  exact Nat.pow_le_pow_right (by norm_num) (by omega)

theorem c02x_G_general {N t K S T na nb : Nat} (hN : 2 ≤ N) (hT1 : 1 ≤ T) (hT : t ≤ T) (hK : K ≤ 64) (hS : S ≤ N)
    (ha : 2 ≤ na) (hb : 2 ≤ nb) : c02x_G N t K S na nb ≤ 2^42 * (T * N^(na + nb - 2)) := by
  have hN1 : 0 < N := by omega
  have hr := c02x_geo_bound hS hN (show 1 ≤ na + nb - 1 by omega)
  rw [Nat.sub_sub] at hr
  exact c02x_G_le hT1 hT hK (Nat.le_self_pow (by omega) N)
    (le_trans (c02x_mul_geo_le hS hN na) (Nat.mul_le_mul_left 2 (Nat.pow_le_pow_right hN1 (by omega))))
    (le_trans (c02x_mul_geo_le hS hN nb) (Nat.mul_le_mul_left 2 (Nat.pow_le_pow_right hN1 (by omega))))
    (le_trans hr (Nat.mul_le_mul_right _ (by norm_num)))

/-! ## the norm `Spec.budget` is computed from, bit counts, and `budget = bits(Q) − bits(norm) − 1` -/

/-- the budget noise of a coefficient is at most the size of ANY noise term of a splitting `t·x = Q·μ + ν` -/
theorem c02x_v_le_any {t Q : Nat} (hQ : 0 < Q) {x μ ν : Int} (h : (t : Int) * x = Q * μ + ν) :
    (c07l_v true t Q x).natAbs ≤ ν.natAbs := by
  by_cases hν : 2 * ν.natAbs < Q
  · rw [c07s_noise_unique h hν]
  · have := (bfv_noise_split t hQ x).2
    omega

theorem c02x_noiseNorm_le {t Q : Nat} (ph : Array Int) (B : Nat)
    (h : ∀ j, j < ph.size → (c07l_v true t Q (ph.getD j 0)).natAbs ≤ B) : noiseNorm true t Q ph ≤ B := by
  rw [c07l_noiseNorm_le_iff]
  intro x hx
  obtain ⟨j, hj, rfl⟩ := List.mem_iff_getElem.mp hx
  have hj' : j < ph.size := by simpa using hj
  have := h j hj'
  simpa [Array.getD, hj'] using this

theorem c02x_noiseNorm_half (t : Nat) {Q : Nat} (hQ : 0 < Q) (ph : Array Int) : 2 * noiseNorm true t Q ph ≤ Q := by
  have := c02x_noiseNorm_le (t := t) (Q := Q) ph (Q / 2) (fun j _ => by
    have := (bfv_noise_split t hQ (ph.getD j 0)).2
    omega)
  omega

theorem c02x_bitCount_max2 (a b : Nat) : bitCount (max a b) = max (bitCount a) (bitCount b) := by
  rcases le_total a b with h | h
  · rw [max_eq_right h, max_eq_right (bitCount_mono h)]
  · rw [max_eq_left h, max_eq_left (bitCount_mono h)]

theorem c02x_bitCount_max (a b : Nat) : bitCount (max (max a b) 1) = max (max (bitCount a) (bitCount b)) 1 := by
  rw [c02x_bitCount_max2, c02x_bitCount_max2, (by decide : bitCount 1 = 1)]

theorem c02x_bitCount_half {V Q : Nat} (hQ : 0 < Q) (h : 2 * V ≤ Q) : bitCount V + 1 ≤ bitCount Q := by
  have h1 := bitCount_lt Q
  have hb : 1 ≤ bitCount Q := by unfold bitCount; rw [if_neg (by omega)]; omega
  have hp : 2^(bitCount Q) = 2^(bitCount Q - 1) * 2 := by rw [← pow_succ]; congr 1; omega
  have h2 : bitCount V ≤ bitCount Q - 1 := by
    rw [bitCount_le_iff]
    omega
  omega

theorem c02x_pow_le_of_bitCount {Q : Nat} (hQ : 0 < Q) : 2^(bitCount Q - 1) ≤ Q := by
  by_contra hc
  have h1 := (bitCount_le_iff Q (bitCount Q - 1)).2 (by omega)
  have hb : 1 ≤ bitCount Q := by unfold bitCount; rw [if_neg (by omega)]; omega
  omega

/-- the subtraction in `Spec.budget` never truncates: the measured noise is at most `Q/2` -/
theorem c02x_budget_add (t : Nat) {Q : Nat} (hQ : 0 < Q) (ph : Array Int) :
    Spec.budget true t Q ph + bitCount (noiseNorm true t Q ph) + 1 = bitCount Q := by
  have := c02x_bitCount_half hQ (c02x_noiseNorm_half t hQ ph)
  rw [budget_eq]
  omega

theorem c02x_budget_lt (t : Nat) {Q : Nat} (hQ : 0 < Q) (ph : Array Int) : Spec.budget true t Q ph + 1 ≤ bitCount Q := by
  have := c02x_budget_add t hQ ph
  omega

theorem c02x_two_mul_lt {V Q : Nat} (hQ : 0 < Q) (h : bitCount V + 2 ≤ bitCount Q) : 2 * V < Q :=
  calc 2 * V < 2 * 2^(bitCount V) := Nat.mul_lt_mul_of_pos_left (bitCount_lt V) Nat.two_pos
    _ = 2^(bitCount V + 1) := (pow_succ' 2 _).symm
    _ ≤ 2^(bitCount Q - 1) := Nat.pow_le_pow_right Nat.two_pos (by omega)
    _ ≤ Q := c02x_pow_le_of_bitCount hQ

theorem c02x_pow_chain {F G V g m : Nat} (hF : F ≤ G * V) (hG : G ≤ 2^g) (hV : V < 2^m) : F < 2^(g + m) :=
  calc F ≤ G * V := hF
    _ ≤ 2^g * V := Nat.mul_le_mul_right _ hG
    _ < 2^g * 2^m := Nat.mul_lt_mul_of_pos_left hV (Nat.two_pow_pos g)
    _ = 2^(g + m) := (pow_add 2 g m).symm

/-! ## from the bound to thresholds and budgets.  `c02x_threshold_of_*`: a budget hypothesis gives the numeric threshold of the decoding /
    decryption theorems; `c02x_bits_of_F*`: `F` and `G ≤ 2^(34+L)` bound the bits of the result's norm; `c02x_budget_of_bits*`: bits of the norm
    read as a budget.  `_split`: the same with the multiplicative part `G1` and the additive BEHZ part `C` bounded separately -/

theorem c02x_gamma_of_new {n : Nat} {q : RNSBase} {t : Modulus} {aux : List Modulus} {r : RNSTool}
    (ht : t.WF) (h : RNSTool.new n q t aux = .ok r) : r.gamma ∈ aux := by
  have ht2 := ht.two_le
  have hi := c01p_newOK h (by omega)
  have hlen := hi.len
  rw [hi.gamma_eq]
  have e : aux.getD 1 default = aux[1] := by
    simp [List.getD, List.getElem?_eq_getElem (by omega : 1 < aux.length)]
  rw [e]; exact List.getElem_mem _

theorem c02x_threshold_of_gamma {g F K Q : Nat} (hg : 2^40 ≤ g) (hK : K ≤ 64) (hF : F ≤ (2^33 - 1) * Q) :
    g * F + 2^34 * K * Q ≤ 2^33 * Q * g := by
  have h1 : g * F ≤ g * ((2^33 - 1) * Q) := Nat.mul_le_mul_left _ hF
  have h2 : 2^34 * K * Q ≤ 2^34 * 64 * Q := Nat.mul_le_mul_right _ (Nat.mul_le_mul_left _ hK)
  have h3 : 2^40 * Q ≤ g * Q := Nat.mul_le_mul_right _ hg
  have e1 : g * ((2^33 - 1) * Q) + g * Q = 2^33 * Q * g := by
    have : (2^33 - 1 : Nat) + 1 = 2^33 := by norm_num
    calc g * ((2^33 - 1) * Q) + g * Q = g * Q * ((2^33 - 1) + 1) := by ring
      _ = 2^33 * Q * g := by rw [this]; ring
  have e2 : 2^34 * 64 * Q = 2^40 * Q := by norm_num
  omega

/-- `e` spare bits of budget buy a factor `2^e` in the threshold: `e = 0` is what exact decoding needs (`F < 2^33·Q`), `e = 1` what the BEHZ
    decryption with γ ≥ 2^40 needs (`c02x_threshold_of_gamma`) -/
theorem c02x_threshold_of_budget (t : Nat) {Q : Nat} (hQ : 0 < Q) (pha phb : Array Int) {F G L e : Nat}
    (hF : F ≤ G * max (max (noiseNorm true t Q pha) (noiseNorm true t Q phb)) 1) (hG : G ≤ 2^(34 + L))
    (hβ : L + 2 + e ≤ min (Spec.budget true t Q pha) (Spec.budget true t Q phb)) :
    2^e * F < 2^33 * Q ∧ 2 * noiseNorm true t Q pha < Q ∧ 2 * noiseNorm true t Q phb < Q := by
  obtain ⟨hβa, hβb⟩ := le_min_iff.1 hβ
  clear hβ
  have ea := c02x_budget_add t hQ pha
  have eb := c02x_budget_add t hQ phb
  generalize noiseNorm true t Q pha = Va at hF ea
  generalize noiseNorm true t Q phb = Vb at hF eb
  have hV : max (max Va Vb) 1 < 2^(max (max (bitCount Va) (bitCount Vb)) 1) := by
    rw [← c02x_bitCount_max]; exact bitCount_lt _
  refine ⟨?_, c02x_two_mul_lt hQ (by omega), c02x_two_mul_lt hQ (by omega)⟩
  calc 2^e * F < 2^e * 2^(34 + L + max (max (bitCount Va) (bitCount Vb)) 1) :=
        Nat.mul_lt_mul_of_pos_left (c02x_pow_chain hF hG hV) (Nat.two_pow_pos e)
    _ = 2^(e + (34 + L + max (max (bitCount Va) (bitCount Vb)) 1)) := (pow_add 2 _ _).symm
    _ ≤ 2^(33 + (bitCount Q - 1)) := Nat.pow_le_pow_right Nat.two_pos (by omega)
    _ = 2^33 * 2^(bitCount Q - 1) := pow_add 2 _ _
    _ ≤ 2^33 * Q := Nat.mul_le_mul_left _ (c02x_pow_le_of_bitCount hQ)

theorem c02x_bits_of_F {Vr Va Vb F G L : Nat} (hn : Vr ≤ F / (2 * 2^33)) (hF : F ≤ G * max (max Va Vb) 1)
    (hG : G ≤ 2^(34 + L)) : bitCount Vr ≤ L + max (max (bitCount Va) (bitCount Vb)) 1 := by
  have hV : max (max Va Vb) 1 < 2^(max (max (bitCount Va) (bitCount Vb)) 1) := by
    rw [← c02x_bitCount_max]; exact bitCount_lt _
  have h1 := c02x_pow_chain hF hG hV
  rw [Nat.add_assoc, pow_add] at h1
  exact (bitCount_le_iff _ _).2 (lt_of_le_of_lt hn (Nat.div_lt_of_lt_mul h1))

theorem c02x_budget_of_bits (t : Nat) {Q : Nat} (hQ : 0 < Q) (pha phb phr : Array Int) {L : Nat}
    (h : bitCount (noiseNorm true t Q phr)
      ≤ L + max (max (bitCount (noiseNorm true t Q pha)) (bitCount (noiseNorm true t Q phb))) 1) :
    min (min (Spec.budget true t Q pha) (Spec.budget true t Q phb)) (bitCount Q - 2) ≤ Spec.budget true t Q phr + L := by
  have ea := c02x_budget_add t hQ pha
  have eb := c02x_budget_add t hQ phb
  have er := c02x_budget_add t hQ phr
  rw [Nat.add_comm, ← Nat.sub_le_iff_le_add, le_max_iff, le_max_iff] at h
  rw [min_le_iff, min_le_iff]
  omega

theorem c02x_threshold_of_budget_split (t : Nat) {Q : Nat} (hQ : 0 < Q) (pha phb : Array Int) {F G1 C L1 L2 : Nat}
    (hF : F ≤ G1 * max (noiseNorm true t Q pha) (noiseNorm true t Q phb) + C)
    (hG : G1 ≤ 2^(34 + L1)) (hC : C ≤ 2^(34 + L2))
    (hβ : L1 + 2 ≤ min (Spec.budget true t Q pha) (Spec.budget true t Q phb)) (hQ2 : L2 + 3 ≤ bitCount Q) :
    F < 2^33 * Q ∧ 2 * noiseNorm true t Q pha < Q ∧ 2 * noiseNorm true t Q phb < Q := by
  obtain ⟨hβa, hβb⟩ := le_min_iff.1 hβ
  clear hβ
  have ea := c02x_budget_add t hQ pha
  have eb := c02x_budget_add t hQ phb
  generalize noiseNorm true t Q pha = Va at hF ea
  generalize noiseNorm true t Q phb = Vb at hF eb
  have hV : max Va Vb < 2^(max (bitCount Va) (bitCount Vb)) := by
    rw [← c02x_bitCount_max2]; exact bitCount_lt _
  refine ⟨?_, c02x_two_mul_lt hQ (by omega), c02x_two_mul_lt hQ (by omega)⟩
  have h1 : G1 * max Va Vb < 2^(32 + (bitCount Q - 1)) :=
    lt_of_lt_of_le (c02x_pow_chain (Nat.le_refl _) hG hV) (Nat.pow_le_pow_right Nat.two_pos (by omega))
  have h2 : C ≤ 2^(32 + (bitCount Q - 1)) := le_trans hC (Nat.pow_le_pow_right Nat.two_pos (by omega))
  have hP := c02x_pow_le_of_bitCount hQ
  rw [Nat.pow_add] at h1 h2
  omega

theorem c02x_bits_of_F_split {Vr Va Vb F G1 C L1 L2 : Nat} (hn : Vr ≤ F / (2 * 2^33)) (hF : F ≤ G1 * max Va Vb + C)
    (hG : G1 ≤ 2^(34 + L1)) (hC : C ≤ 2^(34 + L2)) :
    bitCount Vr ≤ max (L1 + max (bitCount Va) (bitCount Vb)) (L2 + 1) + 1 := by
  have hV : max Va Vb < 2^(max (bitCount Va) (bitCount Vb)) := by
    rw [← c02x_bitCount_max2]; exact bitCount_lt _
  have h1 : G1 * max Va Vb < 2^(34 + max (L1 + max (bitCount Va) (bitCount Vb)) (L2 + 1)) :=
    lt_of_lt_of_le (c02x_pow_chain (Nat.le_refl _) hG hV) (Nat.pow_le_pow_right Nat.two_pos (by omega))
  have h2 : C ≤ 2^(34 + max (L1 + max (bitCount Va) (bitCount Vb)) (L2 + 1)) :=
    le_trans hC (Nat.pow_le_pow_right Nat.two_pos (by omega))
  refine (bitCount_le_iff _ _).2 (lt_of_le_of_lt hn (Nat.div_lt_of_lt_mul ?_))
  generalize max (L1 + max (bitCount Va) (bitCount Vb)) (L2 + 1) = k at h1 h2 ⊢
  rw [Nat.pow_add] at h1 h2
  omega

theorem c02x_budget_of_bits_split (t : Nat) {Q : Nat} (hQ : 0 < Q) (pha phb phr : Array Int) {L1 L2 : Nat}
    (h : bitCount (noiseNorm true t Q phr)
      ≤ max (L1 + max (bitCount (noiseNorm true t Q pha)) (bitCount (noiseNorm true t Q phb))) (L2 + 1) + 1) :
    min (Spec.budget true t Q pha) (Spec.budget true t Q phb) ≤ Spec.budget true t Q phr + L1 + 1 ∨
    bitCount Q ≤ Spec.budget true t Q phr + L2 + 3 := by
  have ea := c02x_budget_add t hQ pha
  have eb := c02x_budget_add t hQ phb
  have er := c02x_budget_add t hQ phr
  rw [← Nat.sub_le_iff_le_add, le_max_iff, Nat.add_comm L1, ← Nat.sub_le_iff_le_add, le_max_iff] at h
  rw [min_le_iff]
  omega

/-! ## Property theorems -/

theorem c02x_noiseLe_half {t Q : Nat} (hQ : 0 < Q) {ph : Spec.ZPoly} {n V : Nat} (h : c02x_NoiseLe t Q ph n V) :
    c02x_NoiseLe t Q ph n (min V (Q / 2)) := fun j hj => by
  have h1 := h j hj
  have h2 := (bfv_noise_split t hQ (ph.getD j 0)).2
  omega

/-- Noise bound (ANY operand sizes ≥ 1, any integer secret key).  With the exact centred phases `x_a, x_b, x_r` (`Spec.phase`) of the
    operands and of the result of `bfvMultiply`, `Q = Π q_i`, `t·x_a = Q·m_a + ν_a`, `t·x_b = Q·m_b + ν_b` (`bfv_noise_split`),
    `‖ν_a‖∞ ≤ V_a`, `‖ν_b‖∞ ≤ V_b`: for every coefficient `c`
    `t·x_r[c] = Q·μ + ν`,  `μ ≡ (m_a ⋆ m_b)[c] (mod t)` (⋆ negacyclic over ℤ),  `2·2^33·|ν| ≤ c02x_F N t |q| ‖s‖₁ n_a n_b V_a V_b`,
    i.e. `‖ν_mul‖∞ ≤ N·t·(½+|q|/2^32)·(G_a·V_b + G_b·V_a) + N·(V_a+2V_b)/2 + t·|q|·G_r`, `G_x = Σ_{k<n_x}‖s‖₁^k`, `G_r = Σ_{k<n_a+n_b−1}‖s‖₁^k`. -/
theorem bfvMultiply_noise {l : Level} {T : Array NTTTables} (hm : MulOK l T) {a b r : Ct}
    (ha : ∀ k, k < a.polys.size → RnsCanon l (a.polys.getD k #[]))
    (hb : ∀ k, k < b.polys.size → RnsCanon l (b.polys.getD k #[]))
    (hna : a.ntt = false) (hnb : b.ntt = false) (h1 : 1 ≤ a.polys.size) (h2 : 1 ≤ b.polys.size)
    (hwin : c02w_Window l a.polys.size b.polys.size) (hr : bfvMultiply l T a b = .ok r)
    {sk : Array Int} (hsk : sk.size = l.n) {Va Vb : Nat}
    (hVa : c02x_NoiseLe l.t.value (Spec.prodL (c01p_qvals l)) (Spec.phase (c01p_qvals l) l.n sk a.polys.toList) l.n Va)
    (hVb : c02x_NoiseLe l.t.value (Spec.prodL (c01p_qvals l)) (Spec.phase (c01p_qvals l) l.n sk b.polys.toList) l.n Vb) :
    ∀ c, c < l.n → ∃ μ ν : Int,
      (l.t.value : Int) * (Spec.phase (c01p_qvals l) l.n sk r.polys.toList).getD c 0
        = (Spec.prodL (c01p_qvals l) : Int) * μ + ν ∧
      μ ≡ negMulR l.n
          (fun j => c02x_msg l.t.value (Spec.prodL (c01p_qvals l)) ((Spec.phase (c01p_qvals l) l.n sk a.polys.toList).getD j 0))
          (fun j => c02x_msg l.t.value (Spec.prodL (c01p_qvals l)) ((Spec.phase (c01p_qvals l) l.n sk b.polys.toList).getD j 0)) c
        [ZMOD l.t.value] ∧
      2 * 2^33 * ν.natAbs ≤ c02x_F l.n l.t.value l.size (∑ k ∈ range l.n, (sk.getD k 0).natAbs)
        a.polys.size b.polys.size Va Vb := by
  rw [c02x_prodL hm] at hVa hVb ⊢
  have hQ := hm.tool.qwf.prod_pos
  obtain ⟨hsz, -, hcanr⟩ := c02x_result hm ha hb hna hnb h1 h2 hr
  obtain ⟨D, E, hD, hE, hid⟩ := c02x_mul_coeff hm ha hb hna hnb h1 h2 hwin hr (fun i => sk.getD i 0)
  unfold Ct.c02v_res at hD
  obtain ⟨Ma, hMa⟩ := c02x_operand_split hm sk h1
  obtain ⟨Mb, hMb⟩ := c02x_operand_split hm sk h2
  have hEb : ∀ c, c < l.n → (c02x_phZ l.n (fun i => sk.getD i 0) (a.polys.size + b.polys.size - 1) E c).natAbs
      ≤ l.tool.baseQ.prod * (l.size * c02x_geo (∑ k ∈ range l.n, (sk.getD k 0).natAbs) (a.polys.size + b.polys.size - 1)) := by
    intro c hc
    have h := c02x_phZ_bound l.n (fun i => sk.getD i 0) 1 (l.size * l.tool.baseQ.prod) _ E
      (fun k hk c hc => by
        obtain ⟨e1, e2⟩ := hE k hk c hc
        have e3 : ((E k c).natAbs : Int) < ((l.size * l.tool.baseQ.prod : Nat) : Int) := by
          push_cast; rw [abs_of_nonneg e1]; exact e2
        have : (E k c).natAbs < l.size * l.tool.baseQ.prod := by exact_mod_cast e3
        omega) c hc
    rwa [Nat.one_mul, Nat.mul_comm l.size, Nat.mul_assoc] at h
  intro c hc
  -- the noise of the product, with the operand noises capped at Q/2
  have hbd := c02x_noise_bound hQ _ _ Ma Mb _ _ _ _ (fun j hj => (hMa j hj).1) (fun j hj => (hMb j hj).1) hid
    (c02x_operand_bound hm sk a.polys) (c02x_operand_bound hm sk b.polys)
    (c02x_noiseLe_half hQ hVa) (c02x_noiseLe_half hQ hVb) (by omega) (by omega) hEb c hc
  -- the exact phase of the result is the Horner phase of `D` modulo Q
  have hlr := c02x_phase_lift (sk := sk) (c02x_levelQ hm) (c02x_toList_ne (by rw [hsz]; omega)) D
    (fun k hk i hi c hc => by
      rw [array_getD_toList]
      exact hD k (by rw [← hsz, ← Array.length_toList]; exact hk) c hc i hi) hc
  rw [Array.length_toList, hsz] at hlr
  obtain ⟨w, hw⟩ := Int.modEq_iff_dvd.mp hlr
  refine ⟨negMulR l.n Ma Mb c - l.t.value * w, _, by linear_combination (-(l.t.value : Int)) * hw, ?_,
    le_trans hbd (c02x_F_mono _ _ _ _ _ _ (Nat.min_le_left _ _) (Nat.min_le_left _ _))⟩
  have e1 : negMulR l.n Ma Mb c - l.t.value * w ≡ negMulR l.n Ma Mb c [ZMOD l.t.value] := by
    rw [Int.modEq_iff_dvd]; exact ⟨w, by ring⟩
  exact e1.trans (c04k_negMul_modEq l.n _ hc (fun j hj => (hMa j hj).2) (fun j hj => (hMb j hj).2))

/-- Noise bound for two fresh-size ciphertexts (2 × 2 → size 3, phase `c0 + c1·s + c2·s²`): the bound with the geometric sums spelled out -/
theorem bfvMultiply_noise_2x2 {l : Level} {T : Array NTTTables} (hm : MulOK l T) {a b r : Ct}
    (ha : ∀ k, k < a.polys.size → RnsCanon l (a.polys.getD k #[]))
    (hb : ∀ k, k < b.polys.size → RnsCanon l (b.polys.getD k #[]))
    (hna : a.ntt = false) (hnb : b.ntt = false) (h1 : a.polys.size = 2) (h2 : b.polys.size = 2)
    (hwin : c02w_Window l 2 2) (hr : bfvMultiply l T a b = .ok r)
    {sk : Array Int} (hsk : sk.size = l.n) {Va Vb S : Nat} (hS : ∑ k ∈ range l.n, (sk.getD k 0).natAbs = S)
    (hVa : c02x_NoiseLe l.t.value (Spec.prodL (c01p_qvals l)) (Spec.phase (c01p_qvals l) l.n sk a.polys.toList) l.n Va)
    (hVb : c02x_NoiseLe l.t.value (Spec.prodL (c01p_qvals l)) (Spec.phase (c01p_qvals l) l.n sk b.polys.toList) l.n Vb) :
    r.polys.size = 3 ∧ ∀ c, c < l.n → ∃ μ ν : Int,
      (l.t.value : Int) * (Spec.phase (c01p_qvals l) l.n sk r.polys.toList).getD c 0
        = (Spec.prodL (c01p_qvals l) : Int) * μ + ν ∧
      μ ≡ negMulR l.n
          (fun j => c02x_msg l.t.value (Spec.prodL (c01p_qvals l)) ((Spec.phase (c01p_qvals l) l.n sk a.polys.toList).getD j 0))
          (fun j => c02x_msg l.t.value (Spec.prodL (c01p_qvals l)) ((Spec.phase (c01p_qvals l) l.n sk b.polys.toList).getD j 0)) c
        [ZMOD l.t.value] ∧
      2 * 2^33 * ν.natAbs ≤
        l.n * ((2 * l.t.value * ((2^32 + 2 * l.size) * (1 + S)) + 2^33) * Vb
             + (2 * l.t.value * ((2^32 + 2 * l.size) * (1 + S)) + 2^33) * Va)
          + 2^33 * l.n * Vb + 2 * 2^33 * l.t.value * (l.size * (1 + S + S^2)) := by
  obtain ⟨hsz, -⟩ := c02x_result hm ha hb hna hnb (by omega) (by omega) hr
  refine ⟨by rw [hsz, h1, h2], ?_⟩
  have h := bfvMultiply_noise hm ha hb hna hnb (by omega) (by omega) (by rw [h1, h2]; exact hwin) hr hsk hVa hVb
  rw [h1, h2, hS] at h
  unfold c02x_F at h
  rw [c02x_geo_two, show 2 + 2 - 1 = 3 from rfl, c02x_geo_three] at h
  exact h

/-- `c02x_NoiseLe` is always satisfied by the norm `Spec.budget` is computed from -/
theorem c02x_noiseLe_norm (t Q : Nat) (ph : Spec.ZPoly) (n : Nat) : c02x_NoiseLe t Q ph n (noiseNorm true t Q ph) :=
  fun j _ => c07l_getD_le true t Q ph j

/-- Noise bound, chaining form: the invariant noise of the product (the quantity `Spec.budget` measures) is bounded by `F / 2^34`, so the
    result can be fed to the next `bfvMultiply_noise` -/
theorem bfvMultiply_noiseLe {l : Level} {T : Array NTTTables} (hm : MulOK l T) {a b r : Ct}
    (ha : ∀ k, k < a.polys.size → RnsCanon l (a.polys.getD k #[]))
    (hb : ∀ k, k < b.polys.size → RnsCanon l (b.polys.getD k #[]))
    (hna : a.ntt = false) (hnb : b.ntt = false) (h1 : 1 ≤ a.polys.size) (h2 : 1 ≤ b.polys.size)
    (hwin : c02w_Window l a.polys.size b.polys.size) (hr : bfvMultiply l T a b = .ok r)
    {sk : Array Int} (hsk : sk.size = l.n) {Va Vb : Nat}
    (hVa : c02x_NoiseLe l.t.value (Spec.prodL (c01p_qvals l)) (Spec.phase (c01p_qvals l) l.n sk a.polys.toList) l.n Va)
    (hVb : c02x_NoiseLe l.t.value (Spec.prodL (c01p_qvals l)) (Spec.phase (c01p_qvals l) l.n sk b.polys.toList) l.n Vb) :
    c02x_NoiseLe l.t.value (Spec.prodL (c01p_qvals l)) (Spec.phase (c01p_qvals l) l.n sk r.polys.toList) l.n
      (c02x_F l.n l.t.value l.size (∑ k ∈ range l.n, (sk.getD k 0).natAbs) a.polys.size b.polys.size Va Vb / (2 * 2^33)) := by
  intro c hc
  have hQ : 0 < Spec.prodL (c01p_qvals l) := by rw [c02x_prodL hm]; exact hm.tool.qwf.prod_pos
  obtain ⟨μ, ν, e1, -, e3⟩ := bfvMultiply_noise hm ha hb hna hnb h1 h2 hwin hr hsk hVa hVb c hc
  refine le_trans (c02x_v_le_any hQ e1) ?_
  rw [Nat.le_div_iff_mul_le (by positivity)]
  rw [Nat.mul_comm]; exact e3

theorem c02x_product_norm {l : Level} {T : Array NTTTables} (hm : MulOK l T) {a b r : Ct}
    (ha : c05u_CtCanon l a)
    (hb : c05u_CtCanon l b)
    (hna : a.ntt = false) (hnb : b.ntt = false) (h1 : 1 ≤ a.polys.size) (h2 : 1 ≤ b.polys.size)
    (hwin : c02w_Window l a.polys.size b.polys.size) (hr : bfvMultiply l T a b = .ok r)
    {sk : Array Int} (hsk : sk.size = l.n) :
    noiseNorm true l.t.value (Spec.prodL (c01p_qvals l)) (Spec.phase (c01p_qvals l) l.n sk r.polys.toList)
      ≤ c02x_F l.n l.t.value l.size (∑ k ∈ range l.n, (sk.getD k 0).natAbs) a.polys.size b.polys.size
          (noiseNorm true l.t.value (Spec.prodL (c01p_qvals l)) (Spec.phase (c01p_qvals l) l.n sk a.polys.toList))
          (noiseNorm true l.t.value (Spec.prodL (c01p_qvals l)) (Spec.phase (c01p_qvals l) l.n sk b.polys.toList))
        / (2 * 2^33) := by
  obtain ⟨hsz, -, hcanr⟩ := c02x_result hm ha hb hna hnb h1 h2 hr
  have hsr := c01p_phase_size (c01p_qvals l) l.n sk r.polys.toList
  exact c02x_noiseNorm_le _ _ (fun j hj => bfvMultiply_noiseLe hm ha hb hna hnb h1 h2 hwin hr hsk
    (c02x_noiseLe_norm _ _ _ _) (c02x_noiseLe_norm _ _ _ _) j (by rw [← hsr]; exact hj))

/-- Decoding (ANY sizes): if the operand noises are below Q/2 and the bound `F` of `bfvMultiply_noise` is below `2^33·Q`
    (i.e. `‖ν_mul‖∞ < Q/2`), the exact decoding of the product's phase is the negacyclic product modulo `(X^N+1, t)` of the
    exact decodings of the operands' phases -/
theorem bfvMultiply_decode {l : Level} {T : Array NTTTables} (hm : MulOK l T) (ht : 0 < l.t.value) {a b r : Ct}
    (ha : ∀ k, k < a.polys.size → RnsCanon l (a.polys.getD k #[]))
    (hb : ∀ k, k < b.polys.size → RnsCanon l (b.polys.getD k #[]))
    (hna : a.ntt = false) (hnb : b.ntt = false) (h1 : 1 ≤ a.polys.size) (h2 : 1 ≤ b.polys.size)
    (hwin : c02w_Window l a.polys.size b.polys.size) (hr : bfvMultiply l T a b = .ok r)
    {sk : Array Int} (hsk : sk.size = l.n) {Va Vb : Nat}
    (hVa : c02x_NoiseLe l.t.value (Spec.prodL (c01p_qvals l)) (Spec.phase (c01p_qvals l) l.n sk a.polys.toList) l.n Va)
    (hVb : c02x_NoiseLe l.t.value (Spec.prodL (c01p_qvals l)) (Spec.phase (c01p_qvals l) l.n sk b.polys.toList) l.n Vb)
    (h2a : 2 * Va < Spec.prodL (c01p_qvals l)) (h2b : 2 * Vb < Spec.prodL (c01p_qvals l))
    (hF : c02x_F l.n l.t.value l.size (∑ k ∈ range l.n, (sk.getD k 0).natAbs) a.polys.size b.polys.size Va Vb
      < 2^33 * Spec.prodL (c01p_qvals l)) :
    Spec.bfvDecode l.t.value (Spec.prodL (c01p_qvals l)) (Spec.phase (c01p_qvals l) l.n sk r.polys.toList)
      = Spec.negMul (Spec.bfvDecode l.t.value (Spec.prodL (c01p_qvals l)) (Spec.phase (c01p_qvals l) l.n sk a.polys.toList))
          (Spec.bfvDecode l.t.value (Spec.prodL (c01p_qvals l)) (Spec.phase (c01p_qvals l) l.n sk b.polys.toList))
          l.t.value := by
  have hQ : 0 < Spec.prodL (c01p_qvals l) := by rw [c02x_prodL hm]; exact hm.tool.qwf.prod_pos
  obtain ⟨hsz, -, hcanr⟩ := c02x_result hm ha hb hna hnb h1 h2 hr
  have hsa := c01p_phase_size (c01p_qvals l) l.n sk a.polys.toList
  have hsb := c01p_phase_size (c01p_qvals l) l.n sk b.polys.toList
  have hsr := c01p_phase_size (c01p_qvals l) l.n sk r.polys.toList
  have hda : (Spec.bfvDecode l.t.value (Spec.prodL (c01p_qvals l)) (Spec.phase (c01p_qvals l) l.n sk a.polys.toList)).size
      = l.n := by
    unfold Spec.bfvDecode; rw [Array.size_map, hsa]
  apply array_ext_getD (n := l.n)
  · unfold Spec.bfvDecode; rw [Array.size_map, hsr]
  · rw [c02x_specNegMul_size, hda]
  intro c hc
  obtain ⟨μ, ν, e1, e2, e3⟩ := bfvMultiply_noise hm ha hb hna hnb h1 h2 hwin hr hsk hVa hVb c hc
  have hν : 2 * ν.natAbs < Spec.prodL (c01p_qvals l) := by omega
  rw [c01p_bfvDecode_getD _ _ _ (by rw [hsr]; exact hc), exact_below_threshold hQ e1 hν,
    c02x_specNegMul_getD _ _ _ (by rw [hda]; exact hc), hda]
  apply imod_congr
  refine e2.trans (c04k_negMul_modEq l.n _ hc (fun j hj => ?_) (fun j hj => ?_))
  · rw [c02x_decode_msg _ hQ _ (by rw [hsa]; exact hj) (lt_of_le_of_lt (Nat.mul_le_mul_left 2 (hVa j hj)) h2a)]
    exact (imod_modEq ht _).symm
  · rw [c02x_decode_msg _ hQ _ (by rw [hsb]; exact hj) (lt_of_le_of_lt (Nat.mul_le_mul_left 2 (hVb j hj)) h2b)]
    exact (imod_modEq ht _).symm

/-- Decryption of the product (model level): `bfvDecrypt (bfvMultiply a b) = trim (decode(a) ⋆ decode(b) mod (X^N+1, t))` under the BEHZ decryption
    threshold `γ·F + 2^34·|q|·Q ≤ 2^33·Q·γ` (`‖ν_mul‖∞ ≤ Q·(½ − |q|/γ)`; it implies the decoding condition `F < 2^33·Q`) -/
theorem bfvDecrypt_bfvMultiply {l : Level} {T : Array NTTTables} (hm : MulOK l T) (hd : DecOK l) (ht : 0 < l.t.value)
    {a b r : Ct}
    (ha : ∀ k, k < a.polys.size → RnsCanon l (a.polys.getD k #[]))
    (hb : ∀ k, k < b.polys.size → RnsCanon l (b.polys.getD k #[]))
    (hna : a.ntt = false) (hnb : b.ntt = false) (h1 : 1 ≤ a.polys.size) (h2 : 1 ≤ b.polys.size)
    (h3 : 3 ≤ a.polys.size + b.polys.size)
    (hwin : c02w_Window l a.polys.size b.polys.size) (hr : bfvMultiply l T a b = .ok r)
    {sk : Array Int} (hsk : sk.size = l.n) {Va Vb : Nat}
    (hVa : c02x_NoiseLe l.t.value (Spec.prodL (c01p_qvals l)) (Spec.phase (c01p_qvals l) l.n sk a.polys.toList) l.n Va)
    (hVb : c02x_NoiseLe l.t.value (Spec.prodL (c01p_qvals l)) (Spec.phase (c01p_qvals l) l.n sk b.polys.toList) l.n Vb)
    (h2a : 2 * Va < Spec.prodL (c01p_qvals l)) (h2b : 2 * Vb < Spec.prodL (c01p_qvals l))
    (hF : l.tool.gamma.value *
        c02x_F l.n l.t.value l.size (∑ k ∈ range l.n, (sk.getD k 0).natAbs) a.polys.size b.polys.size Va Vb
        + 2^34 * l.size * Spec.prodL (c01p_qvals l) ≤ 2^33 * Spec.prodL (c01p_qvals l) * l.tool.gamma.value) :
    bfvDecrypt l sk r = .ok (Spec.trim
      (Spec.negMul (Spec.bfvDecode l.t.value (Spec.prodL (c01p_qvals l)) (Spec.phase (c01p_qvals l) l.n sk a.polys.toList))
          (Spec.bfvDecode l.t.value (Spec.prodL (c01p_qvals l)) (Spec.phase (c01p_qvals l) l.n sk b.polys.toList))
          l.t.value)) := by
  have hQ : 0 < Spec.prodL (c01p_qvals l) := by rw [c02x_prodL hm]; exact hm.tool.qwf.prod_pos
  have hK : 0 < l.size := by rw [← c02w_base_size hm]; exact hm.tool.qwf.pos
  have hFlt := c02x_F_lt_of_gamma hK hQ hF
  obtain ⟨hsz, hntt, hcanr⟩ := c02x_result hm ha hb hna hnb h1 h2 hr
  have hdec := bfvDecrypt_eq_spec hm.lwf hd hsk (polys := r.polys) (by rw [hsz]; omega) hcanr r.cf (fun j hj => by
      obtain ⟨μ, ν, e1, -, e3⟩ := bfvMultiply_noise hm ha hb hna hnb h1 h2 hwin hr hsk hVa hVb j hj
      have hν : 2 * ν.natAbs < Spec.prodL (c01p_qvals l) := by omega
      rw [exact_below_threshold hQ e1 hν, e1, add_sub_cancel_left]
      exact c02x_behz_coeff hF e3)
  rw [← hntt] at hdec
  rw [hdec, bfvMultiply_decode hm ht ha hb hna hnb h1 h2 hwin hr hsk hVa hVb h2a h2b hFlt]

/-- Decoding, budget form (ANY sizes).  With the noise-growth factor `G = c02x_G N t |q| ‖s‖₁ n_a n_b`
    (`≈ N·t·(2^33+4|q|)·(G_a + G_b) + 3·2^33·N + 2^34·t·|q|·G_r`, scaled by 2^34) and any `L` with `G ≤ 2^(34+L)`:
    `budget(result) ≥ min(budget a, budget b, bits(Q) − 2) − L`. -/
theorem bfvMultiply_budget {l : Level} {T : Array NTTTables} (hm : MulOK l T) {a b r : Ct}
    (ha : ∀ k, k < a.polys.size → RnsCanon l (a.polys.getD k #[]))
    (hb : ∀ k, k < b.polys.size → RnsCanon l (b.polys.getD k #[]))
    (hna : a.ntt = false) (hnb : b.ntt = false) (h1 : 1 ≤ a.polys.size) (h2 : 1 ≤ b.polys.size)
    (hwin : c02w_Window l a.polys.size b.polys.size) (hr : bfvMultiply l T a b = .ok r)
    {sk : Array Int} (hsk : sk.size = l.n) (L : Nat)
    (hG : c02x_G l.n l.t.value l.size (∑ k ∈ range l.n, (sk.getD k 0).natAbs) a.polys.size b.polys.size ≤ 2^(34 + L)) :
    min (min (Spec.budget true l.t.value (Spec.prodL (c01p_qvals l)) (Spec.phase (c01p_qvals l) l.n sk a.polys.toList))
             (Spec.budget true l.t.value (Spec.prodL (c01p_qvals l)) (Spec.phase (c01p_qvals l) l.n sk b.polys.toList)))
        (bitCount (Spec.prodL (c01p_qvals l)) - 2)
      ≤ Spec.budget true l.t.value (Spec.prodL (c01p_qvals l)) (Spec.phase (c01p_qvals l) l.n sk r.polys.toList) + L := by
  have hQ : 0 < Spec.prodL (c01p_qvals l) := by rw [c02x_prodL hm]; exact hm.tool.qwf.prod_pos
  exact c02x_budget_of_bits _ hQ _ _ _
    (c02x_bits_of_F (c02x_product_norm hm ha hb hna hnb h1 h2 hwin hr hsk) (c02x_F_le_G _ _ _ _ _ _ _ _) hG)

/-- Decoding from budgets (ANY sizes): if `G ≤ 2^(34+L)` and both operand budgets are at least `L + 2` bits, the decoding of the product
    is exact (the threshold of `bfvMultiply_decode` holds) -/
theorem bfvMultiply_decode_of_budget {l : Level} {T : Array NTTTables} (hm : MulOK l T) (ht : 0 < l.t.value) {a b r : Ct}
    (ha : ∀ k, k < a.polys.size → RnsCanon l (a.polys.getD k #[]))
    (hb : ∀ k, k < b.polys.size → RnsCanon l (b.polys.getD k #[]))
    (hna : a.ntt = false) (hnb : b.ntt = false) (h1 : 1 ≤ a.polys.size) (h2 : 1 ≤ b.polys.size)
    (hwin : c02w_Window l a.polys.size b.polys.size) (hr : bfvMultiply l T a b = .ok r)
    {sk : Array Int} (hsk : sk.size = l.n) (L : Nat)
    (hG : c02x_G l.n l.t.value l.size (∑ k ∈ range l.n, (sk.getD k 0).natAbs) a.polys.size b.polys.size ≤ 2^(34 + L))
    (hβ : L + 2 ≤ min
      (Spec.budget true l.t.value (Spec.prodL (c01p_qvals l)) (Spec.phase (c01p_qvals l) l.n sk a.polys.toList))
      (Spec.budget true l.t.value (Spec.prodL (c01p_qvals l)) (Spec.phase (c01p_qvals l) l.n sk b.polys.toList))) :
    Spec.bfvDecode l.t.value (Spec.prodL (c01p_qvals l)) (Spec.phase (c01p_qvals l) l.n sk r.polys.toList)
      = Spec.negMul (Spec.bfvDecode l.t.value (Spec.prodL (c01p_qvals l)) (Spec.phase (c01p_qvals l) l.n sk a.polys.toList))
          (Spec.bfvDecode l.t.value (Spec.prodL (c01p_qvals l)) (Spec.phase (c01p_qvals l) l.n sk b.polys.toList))
          l.t.value := by
  have hQ : 0 < Spec.prodL (c01p_qvals l) := by rw [c02x_prodL hm]; exact hm.tool.qwf.prod_pos
  obtain ⟨f1, f2, f3⟩ := c02x_threshold_of_budget (e := 0) _ hQ _ _ (c02x_F_le_G _ _ _ _ _ _ _ _) hG hβ
  rw [pow_zero, Nat.one_mul] at f1
  exact bfvMultiply_decode hm ht ha hb hna hnb h1 h2 hwin hr hsk
    (c02x_noiseLe_norm _ _ _ _) (c02x_noiseLe_norm _ _ _ _) f2 f3 f1

/-- the common form of the three `pred_mul_sound_…` theorems (the budget rule of the harness, `Prog::pred_mul` of harness/src/c02.rs): any `L` with
    `G ≤ 2^(34+L)` costs `L + 1` bits of budget, and `L + 2` bits of operand budget make the decoding of the product exact.  The three theorems
    differ in how `L` is bounded: `lt + 2k + 8` for 2 × 2, `lt + (n_a+n_b−2)·k + 8` in general, and the harness's own constant for its
    directed shapes (`n_a + n_b ≤ 5`, `k ≤ 8`, `|q| ≤ 8`: the parameter ranges the harness draws from) -/
theorem c02x_pred_mul_of_G {l : Level} {T : Array NTTTables} (hm : MulOK l T) (ht : 0 < l.t.value) {a b r : Ct}
    (ha : c05u_CtCanon l a)
    (hb : c05u_CtCanon l b)
    (hna : a.ntt = false) (hnb : b.ntt = false) (h1 : 1 ≤ a.polys.size) (h2 : 1 ≤ b.polys.size)
    (hwin : c02w_Window l a.polys.size b.polys.size) (hr : bfvMultiply l T a b = .ok r)
    {sk : Array Int} (hsk : sk.size = l.n) (L : Nat)
    (hG : c02x_G l.n l.t.value l.size (∑ k ∈ range l.n, (sk.getD k 0).natAbs) a.polys.size b.polys.size ≤ 2^(34 + L)) :
    (min (Spec.budget true l.t.value (Spec.prodL (c01p_qvals l)) (Spec.phase (c01p_qvals l) l.n sk a.polys.toList))
         (Spec.budget true l.t.value (Spec.prodL (c01p_qvals l)) (Spec.phase (c01p_qvals l) l.n sk b.polys.toList))
      ≤ Spec.budget true l.t.value (Spec.prodL (c01p_qvals l)) (Spec.phase (c01p_qvals l) l.n sk r.polys.toList) + (L + 1)) ∧
    (L + 2 ≤ min
        (Spec.budget true l.t.value (Spec.prodL (c01p_qvals l)) (Spec.phase (c01p_qvals l) l.n sk a.polys.toList))
        (Spec.budget true l.t.value (Spec.prodL (c01p_qvals l)) (Spec.phase (c01p_qvals l) l.n sk b.polys.toList)) →
      Spec.bfvDecode l.t.value (Spec.prodL (c01p_qvals l)) (Spec.phase (c01p_qvals l) l.n sk r.polys.toList)
        = Spec.negMul (Spec.bfvDecode l.t.value (Spec.prodL (c01p_qvals l)) (Spec.phase (c01p_qvals l) l.n sk a.polys.toList))
            (Spec.bfvDecode l.t.value (Spec.prodL (c01p_qvals l)) (Spec.phase (c01p_qvals l) l.n sk b.polys.toList))
            l.t.value) := by
  refine ⟨?_, bfvMultiply_decode_of_budget hm ht ha hb hna hnb h1 h2 hwin hr hsk L hG⟩
  have hQ : 0 < Spec.prodL (c01p_qvals l) := by rw [c02x_prodL hm]; exact hm.tool.qwf.prod_pos
  have hbud := bfvMultiply_budget hm ha hb hna hnb h1 h2 hwin hr hsk L hG
  have hlt := c02x_budget_lt l.t.value hQ (Spec.phase (c01p_qvals l) l.n sk a.polys.toList)
  rcases min_le_iff.1 hbud with h | h
  · exact le_trans h (Nat.add_le_add_left (Nat.le_succ L) _)
  · exact le_trans (min_le_left _ _) (by omega)

/-- Decoding, the harness rule `Prog::pred_mul` (harness/src/c02.rs: `min(pred a, pred b) − (log2 t + 2·log2 N + 10 + size a + size b)`)
    is SOUND for 2 × 2 products, for every secret with `‖s‖₁ ≤ N` (e.g. ternary), `t ≤ 2^lt`, `N = 2^k`:
    (i) the true budget of the product is at least `min(budget a, budget b) − (lt + 2k + 9)` — the rule subtracts `lt + 2k + 14`;
    (ii) whenever `min(budget a, budget b) ≥ lt + 2k + 10` (in particular whenever the rule predicts ≥ 1 bit from lower bounds of
    the operand budgets) the decoding of the product is exact. -/
theorem pred_mul_sound_2x2 {l : Level} {T : Array NTTTables} (hm : MulOK l T) (ht : 0 < l.t.value) {a b r : Ct}
    (ha : ∀ k, k < a.polys.size → RnsCanon l (a.polys.getD k #[]))
    (hb : ∀ k, k < b.polys.size → RnsCanon l (b.polys.getD k #[]))
    (hna : a.ntt = false) (hnb : b.ntt = false) (h1 : a.polys.size = 2) (h2 : b.polys.size = 2)
    (hwin : c02w_Window l 2 2) (hr : bfvMultiply l T a b = .ok r)
    {sk : Array Int} (hsk : sk.size = l.n) (hS : ∑ k ∈ range l.n, (sk.getD k 0).natAbs ≤ l.n)
    {lt : Nat} (hlt : l.t.value ≤ 2^lt) :
    (min (Spec.budget true l.t.value (Spec.prodL (c01p_qvals l)) (Spec.phase (c01p_qvals l) l.n sk a.polys.toList))
         (Spec.budget true l.t.value (Spec.prodL (c01p_qvals l)) (Spec.phase (c01p_qvals l) l.n sk b.polys.toList))
      ≤ Spec.budget true l.t.value (Spec.prodL (c01p_qvals l)) (Spec.phase (c01p_qvals l) l.n sk r.polys.toList)
          + (lt + 2 * l.k + 9)) ∧
    (lt + 2 * l.k + 10 ≤ min
        (Spec.budget true l.t.value (Spec.prodL (c01p_qvals l)) (Spec.phase (c01p_qvals l) l.n sk a.polys.toList))
        (Spec.budget true l.t.value (Spec.prodL (c01p_qvals l)) (Spec.phase (c01p_qvals l) l.n sk b.polys.toList)) →
      Spec.bfvDecode l.t.value (Spec.prodL (c01p_qvals l)) (Spec.phase (c01p_qvals l) l.n sk r.polys.toList)
        = Spec.negMul (Spec.bfvDecode l.t.value (Spec.prodL (c01p_qvals l)) (Spec.phase (c01p_qvals l) l.n sk a.polys.toList))
            (Spec.bfvDecode l.t.value (Spec.prodL (c01p_qvals l)) (Spec.phase (c01p_qvals l) l.n sk b.polys.toList))
            l.t.value) := by
  have hK : l.size ≤ 64 := by rw [← c02w_base_size hm]; exact hm.tool.qwf.le64
  refine c02x_pred_mul_of_G hm ht ha hb hna hnb (by omega) (by omega) ?_ hr hsk _ ?_
  · rw [h1, h2]; exact hwin
  · rw [h1, h2]; exact c02x_G_2x2_pow hm.lwf hK hS hlt

theorem c02x_bundles_of_new {l : Level} {T : Array NTTTables} {q : RNSBase} {aux : List Modulus}
    (hl : l.WF) (hlen : l.qs.size ≤ 62) (hk : l.k ≤ 60) (ht : l.t.WF) (htb : l.t.value < 2^l.t.bits)
    (haux : ∀ m ∈ aux, m.WF ∧ 2^61 - 2^54 ≤ m.value)
    (hq : RNSBase.new l.qs.toList = .ok q) (h : RNSTool.new l.n q l.t aux = .ok l.tool)
    (hT : ∀ i, i < l.tool.baseBsk.size → ∃ pr root0, root0 < 2^64 ∧
      NTTTables.new l.k (l.tool.baseBsk.q i) pr root0 = .ok (T.getD i default)) :
    MulOK l T ∧ DecOK l ∧ 2^40 ≤ l.tool.gamma.value ∧
      ∀ n1 n2, min n1 n2 * l.n ≤ 2^30 → c02w_Window l n1 n2 := by
  obtain ⟨hmw, hqwf, -, hqs⟩ := c02w_base_of_new hl (by omega) hq
  exact ⟨c02w_mulOK_of_new hl hlen hk ht (fun m hm => ⟨(haux m hm).1, le_trans (by norm_num) (haux m hm).2⟩) hq h hT,
    c01p_decOK_of_new hmw (by omega) ht (fun m hm => (haux m hm).1) hq h,
    le_trans (by norm_num) (haux _ (c02x_gamma_of_new ht h)).2,
    fun _ _ hPN => c02w_window_of_new hqwf (hqs ▸ hlen) ht htb haux h hPN⟩

/-- Decryption of the product, with every hypothesis bundle discharged from the model's constructors (`RNSBase.new`, `RNSTool.new`, `NTTTables.new`; at most
    62 moduli, auxiliary moduli ≥ 2^61 − 2^54, `min(n_a, n_b)·N ≤ 2^30`): decryption of the product is the negacyclic product of the
    operands' exact decodings whenever the noise bound satisfies `F ≤ (2^33 − 1)·Q` (`‖ν_mul‖∞ ≤ Q/2·(1 − 2^-33)`; the BEHZ
    γ-correction costs nothing more because γ > 2^60) -/
theorem bfvDecrypt_bfvMultiply_of_new {l : Level} {T : Array NTTTables} {q : RNSBase} {aux : List Modulus}
    (hl : l.WF) (hlen : l.qs.size ≤ 62) (hk : l.k ≤ 60) (ht : l.t.WF) (htb : l.t.value < 2^l.t.bits)
    (haux : ∀ m ∈ aux, m.WF ∧ 2^61 - 2^54 ≤ m.value)
    (hq : RNSBase.new l.qs.toList = .ok q) (h : RNSTool.new l.n q l.t aux = .ok l.tool)
    (hT : ∀ i, i < l.tool.baseBsk.size → ∃ pr root0, root0 < 2^64 ∧
      NTTTables.new l.k (l.tool.baseBsk.q i) pr root0 = .ok (T.getD i default))
    {a b r : Ct}
    (ha : ∀ k, k < a.polys.size → RnsCanon l (a.polys.getD k #[]))
    (hb : ∀ k, k < b.polys.size → RnsCanon l (b.polys.getD k #[]))
    (hna : a.ntt = false) (hnb : b.ntt = false) (h1 : 1 ≤ a.polys.size) (h2 : 1 ≤ b.polys.size)
    (h3 : 3 ≤ a.polys.size + b.polys.size) (hPN : min a.polys.size b.polys.size * l.n ≤ 2^30)
    (hr : bfvMultiply l T a b = .ok r)
    {sk : Array Int} (hsk : sk.size = l.n) {Va Vb : Nat}
    (hVa : c02x_NoiseLe l.t.value (Spec.prodL (c01p_qvals l)) (Spec.phase (c01p_qvals l) l.n sk a.polys.toList) l.n Va)
    (hVb : c02x_NoiseLe l.t.value (Spec.prodL (c01p_qvals l)) (Spec.phase (c01p_qvals l) l.n sk b.polys.toList) l.n Vb)
    (h2a : 2 * Va < Spec.prodL (c01p_qvals l)) (h2b : 2 * Vb < Spec.prodL (c01p_qvals l))
    (hF : c02x_F l.n l.t.value l.size (∑ k ∈ range l.n, (sk.getD k 0).natAbs) a.polys.size b.polys.size Va Vb
      ≤ (2^33 - 1) * Spec.prodL (c01p_qvals l)) :
    bfvDecrypt l sk r = .ok (Spec.trim
      (Spec.negMul (Spec.bfvDecode l.t.value (Spec.prodL (c01p_qvals l)) (Spec.phase (c01p_qvals l) l.n sk a.polys.toList))
          (Spec.bfvDecode l.t.value (Spec.prodL (c01p_qvals l)) (Spec.phase (c01p_qvals l) l.n sk b.polys.toList))
          l.t.value)) := by
  obtain ⟨hm, hd, hg, hwin⟩ := c02x_bundles_of_new hl hlen hk ht htb haux hq h hT
  have hK : l.size ≤ 64 := by rw [← c02w_base_size hm]; exact hm.tool.qwf.le64
  exact bfvDecrypt_bfvMultiply hm hd (Nat.lt_of_lt_of_le Nat.zero_lt_two ht.two_le) ha hb hna hnb h1 h2 h3 (hwin _ _ hPN) hr hsk
    hVa hVb h2a h2b (c02x_threshold_of_gamma hg hK hF)

/-- Decoding, the worst-case-sound form of the product rule for ANY operand sizes `n_a, n_b ≥ 2` (secret with `‖s‖₁ ≤ N`, `N = 2^k ≥ 2`,
    `t ≤ 2^lt`): (i) `budget(result) ≥ min(budget a, budget b) − (lt + (n_a+n_b−2)·k + 9)`; (ii) decoding of the product is exact
    whenever `min(budget a, budget b) ≥ lt + (n_a+n_b−2)·k + 10`.  The harness rule subtracts `lt + 2k + 10 + n_a + n_b`; it is
    covered by this worst-case bound exactly when `(n_a+n_b−4)·k ≤ n_a+n_b` (always for 2 × 2, see `pred_mul_sound_2x2`). -/
theorem pred_mul_sound_general {l : Level} {T : Array NTTTables} (hm : MulOK l T) (ht : 0 < l.t.value) {a b r : Ct}
    (ha : ∀ k, k < a.polys.size → RnsCanon l (a.polys.getD k #[]))
    (hb : ∀ k, k < b.polys.size → RnsCanon l (b.polys.getD k #[]))
    (hna : a.ntt = false) (hnb : b.ntt = false) (h1 : 2 ≤ a.polys.size) (h2 : 2 ≤ b.polys.size)
    (hwin : c02w_Window l a.polys.size b.polys.size) (hr : bfvMultiply l T a b = .ok r)
    {sk : Array Int} (hsk : sk.size = l.n) (hS : ∑ k ∈ range l.n, (sk.getD k 0).natAbs ≤ l.n) (hk1 : 1 ≤ l.k)
    {lt : Nat} (hlt : l.t.value ≤ 2^lt) :
    (min (Spec.budget true l.t.value (Spec.prodL (c01p_qvals l)) (Spec.phase (c01p_qvals l) l.n sk a.polys.toList))
         (Spec.budget true l.t.value (Spec.prodL (c01p_qvals l)) (Spec.phase (c01p_qvals l) l.n sk b.polys.toList))
      ≤ Spec.budget true l.t.value (Spec.prodL (c01p_qvals l)) (Spec.phase (c01p_qvals l) l.n sk r.polys.toList)
          + (lt + (a.polys.size + b.polys.size - 2) * l.k + 9)) ∧
    (lt + (a.polys.size + b.polys.size - 2) * l.k + 10 ≤ min
        (Spec.budget true l.t.value (Spec.prodL (c01p_qvals l)) (Spec.phase (c01p_qvals l) l.n sk a.polys.toList))
        (Spec.budget true l.t.value (Spec.prodL (c01p_qvals l)) (Spec.phase (c01p_qvals l) l.n sk b.polys.toList)) →
      Spec.bfvDecode l.t.value (Spec.prodL (c01p_qvals l)) (Spec.phase (c01p_qvals l) l.n sk r.polys.toList)
        = Spec.negMul (Spec.bfvDecode l.t.value (Spec.prodL (c01p_qvals l)) (Spec.phase (c01p_qvals l) l.n sk a.polys.toList))
            (Spec.bfvDecode l.t.value (Spec.prodL (c01p_qvals l)) (Spec.phase (c01p_qvals l) l.n sk b.polys.toList))
            l.t.value) := by
  have hK : l.size ≤ 64 := by rw [← c02w_base_size hm]; exact hm.tool.qwf.le64
  have hN2 : 2 ≤ l.n := by
    rw [hm.lwf.npow]
    exact Nat.pow_le_pow_right Nat.two_pos hk1
  have hG : c02x_G l.n l.t.value l.size (∑ k ∈ range l.n, (sk.getD k 0).natAbs) a.polys.size b.polys.size
      ≤ 2^(34 + (lt + (a.polys.size + b.polys.size - 2) * l.k + 8)) := by
    refine le_trans (c02x_G_general hN2 (Nat.one_le_two_pow) hlt hK hS h1 h2) ?_
    rw [hm.lwf.npow, ← pow_mul, ← pow_add, ← pow_add, Nat.mul_comm l.k]
    exact Nat.pow_le_pow_right (by norm_num) (by omega)
  exact c02x_pred_mul_of_G hm ht ha hb hna hnb (Nat.le_of_succ_le h1) (Nat.le_of_succ_le h2) hwin hr hsk _ hG

/-- Decryption of the product, from budgets (ANY sizes): with `G ≤ 2^(34+L)`, both operand budgets `≥ L + 3` bits and γ ≥ 2^40, the model's decryption
    of the model's product is the negacyclic product modulo t of the operands' exact decodings -/
theorem bfvDecrypt_bfvMultiply_of_budget {l : Level} {T : Array NTTTables} (hm : MulOK l T) (hd : DecOK l)
    (ht : 0 < l.t.value) (hγ : 2^40 ≤ l.tool.gamma.value) {a b r : Ct}
    (ha : ∀ k, k < a.polys.size → RnsCanon l (a.polys.getD k #[]))
    (hb : ∀ k, k < b.polys.size → RnsCanon l (b.polys.getD k #[]))
    (hna : a.ntt = false) (hnb : b.ntt = false) (h1 : 1 ≤ a.polys.size) (h2 : 1 ≤ b.polys.size)
    (h3 : 3 ≤ a.polys.size + b.polys.size)
    (hwin : c02w_Window l a.polys.size b.polys.size) (hr : bfvMultiply l T a b = .ok r)
    {sk : Array Int} (hsk : sk.size = l.n) (L : Nat)
    (hG : c02x_G l.n l.t.value l.size (∑ k ∈ range l.n, (sk.getD k 0).natAbs) a.polys.size b.polys.size ≤ 2^(34 + L))
    (hβ : L + 3 ≤ min
      (Spec.budget true l.t.value (Spec.prodL (c01p_qvals l)) (Spec.phase (c01p_qvals l) l.n sk a.polys.toList))
      (Spec.budget true l.t.value (Spec.prodL (c01p_qvals l)) (Spec.phase (c01p_qvals l) l.n sk b.polys.toList))) :
    bfvDecrypt l sk r = .ok (Spec.trim
      (Spec.negMul (Spec.bfvDecode l.t.value (Spec.prodL (c01p_qvals l)) (Spec.phase (c01p_qvals l) l.n sk a.polys.toList))
          (Spec.bfvDecode l.t.value (Spec.prodL (c01p_qvals l)) (Spec.phase (c01p_qvals l) l.n sk b.polys.toList))
          l.t.value)) := by
  have hQ : 0 < Spec.prodL (c01p_qvals l) := by rw [c02x_prodL hm]; exact hm.tool.qwf.prod_pos
  have hK : l.size ≤ 64 := by rw [← c02w_base_size hm]; exact hm.tool.qwf.le64
  obtain ⟨f1, f2, f3⟩ := c02x_threshold_of_budget (e := 1) _ hQ _ _ (c02x_F_le_G _ _ _ _ _ _ _ _) hG hβ
  refine bfvDecrypt_bfvMultiply hm hd ht ha hb hna hnb h1 h2 h3 hwin hr hsk
    (c02x_noiseLe_norm _ _ _ _) (c02x_noiseLe_norm _ _ _ _) f2 f3 (c02x_threshold_of_gamma hγ hK ?_)
  rw [pow_one] at f1
  generalize c02x_F _ _ _ _ _ _ _ _ = F at f1 ⊢
  omega

/-- Decryption of the product, end to end for two size-2 ciphertexts on a level built by the model's constructors, in the terms of the harness rule:
    whenever both operand budgets are at least `lt + 2k + 11` bits (in particular whenever `Prog::pred_mul`, which subtracts
    `lt + 2k + 14`, predicts ≥ 1 bit from lower bounds of the operand budgets), `bfvDecrypt (bfvMultiply a b)` succeeds and equals
    `trim (decode a ⋆ decode b mod (X^N+1, t))` -/
theorem pred_mul_decrypt_2x2_of_new {l : Level} {T : Array NTTTables} {q : RNSBase} {aux : List Modulus}
    (hl : l.WF) (hlen : l.qs.size ≤ 62) (hk : l.k ≤ 29) (ht : l.t.WF) (htb : l.t.value < 2^l.t.bits)
    (haux : ∀ m ∈ aux, m.WF ∧ 2^61 - 2^54 ≤ m.value)
    (hq : RNSBase.new l.qs.toList = .ok q) (h : RNSTool.new l.n q l.t aux = .ok l.tool)
    (hT : ∀ i, i < l.tool.baseBsk.size → ∃ pr root0, root0 < 2^64 ∧
      NTTTables.new l.k (l.tool.baseBsk.q i) pr root0 = .ok (T.getD i default))
    {a b r : Ct}
    (ha : ∀ k, k < a.polys.size → RnsCanon l (a.polys.getD k #[]))
    (hb : ∀ k, k < b.polys.size → RnsCanon l (b.polys.getD k #[]))
    (hna : a.ntt = false) (hnb : b.ntt = false) (h1 : a.polys.size = 2) (h2 : b.polys.size = 2)
    (hr : bfvMultiply l T a b = .ok r)
    {sk : Array Int} (hsk : sk.size = l.n) (hS : ∑ k ∈ range l.n, (sk.getD k 0).natAbs ≤ l.n)
    {lt : Nat} (hlt : l.t.value ≤ 2^lt)
    (hβ : lt + 2 * l.k + 11 ≤ min
      (Spec.budget true l.t.value (Spec.prodL (c01p_qvals l)) (Spec.phase (c01p_qvals l) l.n sk a.polys.toList))
      (Spec.budget true l.t.value (Spec.prodL (c01p_qvals l)) (Spec.phase (c01p_qvals l) l.n sk b.polys.toList))) :
    bfvDecrypt l sk r = .ok (Spec.trim
      (Spec.negMul (Spec.bfvDecode l.t.value (Spec.prodL (c01p_qvals l)) (Spec.phase (c01p_qvals l) l.n sk a.polys.toList))
          (Spec.bfvDecode l.t.value (Spec.prodL (c01p_qvals l)) (Spec.phase (c01p_qvals l) l.n sk b.polys.toList))
          l.t.value)) := by
  obtain ⟨hm, hd, hg, hwin⟩ := c02x_bundles_of_new hl hlen (by omega) ht htb haux hq h hT
  have hK : l.size ≤ 64 := by rw [← c02w_base_size hm]; exact hm.tool.qwf.le64
  have hPN : min a.polys.size b.polys.size * l.n ≤ 2^30 := by
    rw [h1, h2, hl.npow]
    calc min 2 2 * 2^l.k = 2^(l.k + 1) := by rw [pow_succ]; simp [Nat.mul_comm]
      _ ≤ 2^30 := Nat.pow_le_pow_right (by norm_num) (by omega)
  refine bfvDecrypt_bfvMultiply_of_budget hm hd (Nat.lt_of_lt_of_le Nat.zero_lt_two ht.two_le) hg ha hb hna hnb
    (by omega) (by omega) (by omega) (hwin _ _ hPN) hr hsk _ ?_ (by omega)
  rw [h1, h2]
  exact c02x_G_2x2_pow hl hK hS hlt

/-- Decoding, budget form with the multiplicative and the additive (BEHZ) parts separated (ANY sizes): if `c02x_G1 ≤ 2^(34+L1)` and
    `2^34·t·|q|·G_r ≤ 2^(34+L2)` then `budget(result) ≥ min(budget a, budget b) − L1 − 1` or `budget(result) ≥ bits(Q) − L2 − 3`
    (i.e. `budget(result) ≥ min(min(budget a, budget b) − L1 − 1, bits(Q) − L2 − 3)`) -/
theorem bfvMultiply_budget_split {l : Level} {T : Array NTTTables} (hm : MulOK l T) {a b r : Ct}
    (ha : ∀ k, k < a.polys.size → RnsCanon l (a.polys.getD k #[]))
    (hb : ∀ k, k < b.polys.size → RnsCanon l (b.polys.getD k #[]))
    (hna : a.ntt = false) (hnb : b.ntt = false) (h1 : 1 ≤ a.polys.size) (h2 : 1 ≤ b.polys.size)
    (hwin : c02w_Window l a.polys.size b.polys.size) (hr : bfvMultiply l T a b = .ok r)
    {sk : Array Int} (hsk : sk.size = l.n) (L1 L2 : Nat)
    (hG : c02x_G1 l.n l.t.value l.size (∑ k ∈ range l.n, (sk.getD k 0).natAbs) a.polys.size b.polys.size ≤ 2^(34 + L1))
    (hC : 2 * 2^33 * l.t.value * (l.size * c02x_geo (∑ k ∈ range l.n, (sk.getD k 0).natAbs) (a.polys.size + b.polys.size - 1))
      ≤ 2^(34 + L2)) :
    min (Spec.budget true l.t.value (Spec.prodL (c01p_qvals l)) (Spec.phase (c01p_qvals l) l.n sk a.polys.toList))
        (Spec.budget true l.t.value (Spec.prodL (c01p_qvals l)) (Spec.phase (c01p_qvals l) l.n sk b.polys.toList))
      ≤ Spec.budget true l.t.value (Spec.prodL (c01p_qvals l)) (Spec.phase (c01p_qvals l) l.n sk r.polys.toList) + L1 + 1 ∨
    bitCount (Spec.prodL (c01p_qvals l))
      ≤ Spec.budget true l.t.value (Spec.prodL (c01p_qvals l)) (Spec.phase (c01p_qvals l) l.n sk r.polys.toList) + L2 + 3 := by
  have hQ : 0 < Spec.prodL (c01p_qvals l) := by rw [c02x_prodL hm]; exact hm.tool.qwf.prod_pos
  exact c02x_budget_of_bits_split _ hQ _ _ _
    (c02x_bits_of_F_split (c02x_product_norm hm ha hb hna hnb h1 h2 hwin hr hsk) (c02x_F_le_G1 _ _ _ _ _ _ _ _) hG hC)

/-- Decoding from budgets, split form (ANY sizes): `c02x_G1 ≤ 2^(34+L1)`, additive part `≤ 2^(34+L2)`, both operand budgets `≥ L1 + 2`
    and `bits(Q) ≥ L2 + 3` give exact decoding of the product -/
theorem bfvMultiply_decode_of_budget_split {l : Level} {T : Array NTTTables} (hm : MulOK l T) (ht : 0 < l.t.value) {a b r : Ct}
    (ha : ∀ k, k < a.polys.size → RnsCanon l (a.polys.getD k #[]))
    (hb : ∀ k, k < b.polys.size → RnsCanon l (b.polys.getD k #[]))
    (hna : a.ntt = false) (hnb : b.ntt = false) (h1 : 1 ≤ a.polys.size) (h2 : 1 ≤ b.polys.size)
    (hwin : c02w_Window l a.polys.size b.polys.size) (hr : bfvMultiply l T a b = .ok r)
    {sk : Array Int} (hsk : sk.size = l.n) (L1 L2 : Nat)
    (hG : c02x_G1 l.n l.t.value l.size (∑ k ∈ range l.n, (sk.getD k 0).natAbs) a.polys.size b.polys.size ≤ 2^(34 + L1))
    (hC : 2 * 2^33 * l.t.value * (l.size * c02x_geo (∑ k ∈ range l.n, (sk.getD k 0).natAbs) (a.polys.size + b.polys.size - 1))
      ≤ 2^(34 + L2))
    (hβ : L1 + 2 ≤ min
      (Spec.budget true l.t.value (Spec.prodL (c01p_qvals l)) (Spec.phase (c01p_qvals l) l.n sk a.polys.toList))
      (Spec.budget true l.t.value (Spec.prodL (c01p_qvals l)) (Spec.phase (c01p_qvals l) l.n sk b.polys.toList)))
    (hQ2 : L2 + 3 ≤ bitCount (Spec.prodL (c01p_qvals l))) :
    Spec.bfvDecode l.t.value (Spec.prodL (c01p_qvals l)) (Spec.phase (c01p_qvals l) l.n sk r.polys.toList)
      = Spec.negMul (Spec.bfvDecode l.t.value (Spec.prodL (c01p_qvals l)) (Spec.phase (c01p_qvals l) l.n sk a.polys.toList))
          (Spec.bfvDecode l.t.value (Spec.prodL (c01p_qvals l)) (Spec.phase (c01p_qvals l) l.n sk b.polys.toList))
          l.t.value := by
  have hQ : 0 < Spec.prodL (c01p_qvals l) := by rw [c02x_prodL hm]; exact hm.tool.qwf.prod_pos
  obtain ⟨f1, f2, f3⟩ := c02x_threshold_of_budget_split _ hQ _ _ (c02x_F_le_G1 _ _ _ _ _ _ _ _) hG hC hβ hQ2
  exact bfvMultiply_decode hm ht ha hb hna hnb h1 h2 hwin hr hsk
    (c02x_noiseLe_norm _ _ _ _) (c02x_noiseLe_norm _ _ _ _) f2 f3 f1

/-- Decoding, the harness rule `Prog::pred_mul` is SOUND for the directed shapes of the harness (2×2, 3×2, 2×3), for at most 8 moduli,
    `N = 2^k` with `1 ≤ k ≤ 8`, `‖s‖₁ ≤ N`, `t ≤ 2^lt`:
    (i) the rule's value `p = min(budget a, budget b) − (lt + 2k + 10 + n_a + n_b)` is a LOWER BOUND of the true budget of the product;
    (ii) when the rule predicts at least one bit the decoding of the product is exact. -/
theorem pred_mul_sound_small {l : Level} {T : Array NTTTables} (hm : MulOK l T) (ht : 0 < l.t.value) {a b r : Ct}
    (ha : ∀ k, k < a.polys.size → RnsCanon l (a.polys.getD k #[]))
    (hb : ∀ k, k < b.polys.size → RnsCanon l (b.polys.getD k #[]))
    (hna : a.ntt = false) (hnb : b.ntt = false) (h1 : 2 ≤ a.polys.size) (h2 : 2 ≤ b.polys.size)
    (h5 : a.polys.size + b.polys.size ≤ 5)
    (hwin : c02w_Window l a.polys.size b.polys.size) (hr : bfvMultiply l T a b = .ok r)
    {sk : Array Int} (hsk : sk.size = l.n) (hS : ∑ k ∈ range l.n, (sk.getD k 0).natAbs ≤ l.n)
    (hk1 : 1 ≤ l.k) (hk8 : l.k ≤ 8) (hK8 : l.size ≤ 8) {lt : Nat} (hlt : l.t.value ≤ 2^lt) :
    (∀ p, p + (lt + 2 * l.k + 10 + (a.polys.size + b.polys.size)) ≤ min
        (Spec.budget true l.t.value (Spec.prodL (c01p_qvals l)) (Spec.phase (c01p_qvals l) l.n sk a.polys.toList))
        (Spec.budget true l.t.value (Spec.prodL (c01p_qvals l)) (Spec.phase (c01p_qvals l) l.n sk b.polys.toList)) →
      p ≤ Spec.budget true l.t.value (Spec.prodL (c01p_qvals l)) (Spec.phase (c01p_qvals l) l.n sk r.polys.toList)) ∧
    (1 + (lt + 2 * l.k + 10 + (a.polys.size + b.polys.size)) ≤ min
        (Spec.budget true l.t.value (Spec.prodL (c01p_qvals l)) (Spec.phase (c01p_qvals l) l.n sk a.polys.toList))
        (Spec.budget true l.t.value (Spec.prodL (c01p_qvals l)) (Spec.phase (c01p_qvals l) l.n sk b.polys.toList)) →
      Spec.bfvDecode l.t.value (Spec.prodL (c01p_qvals l)) (Spec.phase (c01p_qvals l) l.n sk r.polys.toList)
        = Spec.negMul (Spec.bfvDecode l.t.value (Spec.prodL (c01p_qvals l)) (Spec.phase (c01p_qvals l) l.n sk a.polys.toList))
            (Spec.bfvDecode l.t.value (Spec.prodL (c01p_qvals l)) (Spec.phase (c01p_qvals l) l.n sk b.polys.toList))
            l.t.value) := by
  have h1' := Nat.le_of_succ_le h1
  have h2' := Nat.le_of_succ_le h2
  have hN2 : 2 ≤ l.n := by
    rw [hm.lwf.npow]
    exact Nat.pow_le_pow_right Nat.two_pos hk1
  have hTN : (2:Nat)^lt * l.n^3 = 2^(lt + 3 * l.k) := by
    rw [hm.lwf.npow, ← pow_mul, ← pow_add, Nat.mul_comm]
  have hG : c02x_G1 l.n l.t.value l.size (∑ k ∈ range l.n, (sk.getD k 0).natAbs) a.polys.size b.polys.size
      ≤ 2^(34 + (lt + 3 * l.k + 2)) := by
    have g3 := fun {m} (hm : m ≤ 3) => le_trans (Nat.mul_le_mul_left l.n (c02x_geo_mono _ hm)) (c02x_mul_geo_le hS hN2 3)
    refine le_trans (c02x_G1_le Nat.one_le_two_pow hlt (le_trans hK8 (by norm_num)) (Nat.le_self_pow (by norm_num) l.n) (g3 (by omega))
      (g3 (by omega))) ?_
    rw [hTN, ← pow_add]
    exact Nat.pow_le_pow_right (by norm_num) (by omega)
  have hC : 2 * 2^33 * l.t.value * (l.size * c02x_geo (∑ k ∈ range l.n, (sk.getD k 0).natAbs) (a.polys.size + b.polys.size - 1))
      ≤ 2^(34 + (lt + 3 * l.k + 4)) := by
    refine le_trans (c02x_C_le hlt hK8 (le_trans (c02x_geo_mono _ (by omega)) (c02x_geo_bound hS hN2 (m := 4) (by norm_num)))) ?_
    rw [show 2 * 2^33 * 2^lt * (8 * (2 * l.n^(4 - 1))) = 2^38 * (2^lt * l.n^3) by ring, hTN, ← pow_add]
    exact Nat.pow_le_pow_right (by norm_num) (by omega)
  have hQ : 0 < Spec.prodL (c01p_qvals l) := by rw [c02x_prodL hm]; exact hm.tool.qwf.prod_pos
  have hlt' := c02x_budget_lt l.t.value hQ (Spec.phase (c01p_qvals l) l.n sk a.polys.toList)
  constructor
  · intro p hp
    have hsp := bfvMultiply_budget_split hm ha hb hna hnb h1' h2' hwin hr hsk _ _ hG hC
    rw [le_min_iff] at hp
    rw [min_le_iff] at hsp
    omega
  · intro hβ
    refine bfvMultiply_decode_of_budget_split hm ht ha hb hna hnb h1' h2' hwin hr hsk _ _ hG hC
      (le_trans (by omega) hβ) ?_
    rw [le_min_iff] at hβ
    omega

/-- why the decryption theorems need `n_a + n_b ≥ 3`: the product of two single-polynomial operands would have size 1, which `resize` refuses (as in
    the code: `[Invalid argument] Size invalid.`), so nothing reaches decryption — for every level and all operands -/
theorem bfvDecrypt_bfvMultiply_refuses_1x1 (l : Level) (T : Array NTTTables) (a b : Ct)
    (h1 : a.polys.size = 1) (h2 : b.polys.size = 1) (sk : Array Int) :
    bfvMultiply l T a b = .error .refused ∧ (bfvMultiply l T a b >>= bfvDecrypt l sk) = .error .refused := by
  have h : bfvMultiply l T a b = .error .refused :=
    bfvMultiply_refuse_size l T a b (by rw [h1, h2, ctResizeRefuses_eq_true_iff]; omega)
  exact ⟨h, by rw [h]; rfl⟩

/-- refusal: operands in NTT form never reach decryption -/
theorem bfvDecrypt_bfvMultiply_refuses_ntt (l : Level) (T : Array NTTTables) (a b : Ct) (sk : Array Int)
    (h : a.ntt = true ∨ b.ntt = true) :
    (bfvMultiply l T a b >>= bfvDecrypt l sk) = .error .refused := by
  rw [bfvMultiply_refuse_ntt l T a b h]; rfl

/-! ### satisfiability of the numeric thresholds (N = 4096, t = 65537, three moduli, worst-case ternary secret ‖s‖₁ = N,
    operand noises ≤ 2^40, Q = 2^109): the threshold of `bfvMultiply_decode` / `bfvDecrypt_bfvMultiply_of_new` holds with a wide margin, and so does the 2 × 2 growth-factor bound -/

theorem c02x_threshold_example :
    c02x_F 4096 65537 3 4096 2 2 (2^40) (2^40) ≤ (2^33 - 1) * 2^109 ∧
    c02x_G 4096 65537 3 4096 2 2 ≤ 2^(34 + (17 + 2 * 12 + 8)) := by
  constructor <;> decide

end HC
