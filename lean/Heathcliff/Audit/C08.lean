/- Audit of property C08: `#print axioms` for every property theorem of Props/C08.lean; `audit()` of tools/runner.py elaborates this file
   and compares each axiom list with the three standard axioms. -/
import Heathcliff.Props.C08
#print axioms HC.C08.incrementMod_exact
#print axioms HC.C08.decrementMod_exact
#print axioms HC.C08.negateMod_exact
#print axioms HC.C08.div2Mod_exact
#print axioms HC.C08.addMod_exact
#print axioms HC.C08.subMod_exact
#print axioms HC.C08.barrett128_exact
#print axioms HC.C08.barrett64_exact
#print axioms HC.C08.mulMod_exact
#print axioms HC.C08.mulOperand_new
#print axioms HC.C08.mulOperandModLazy_spec
#print axioms HC.C08.mulOperandMod_exact
#print axioms HC.C08.mulAddMod_exact
#print axioms HC.C08.mulOperandAddMod_exact
#print axioms HC.C08.dotProductMod_exact
#print axioms HC.C08.dotProduct_sum_bound
#print axioms HC.C08.moduloUint_exact
#print axioms HC.C08.exponentiateMod_exact
#print axioms HC.C08.gcdU64_exact
#print axioms HC.C08.naf_spec
#print axioms HC.C08.toNat_lt
#print axioms HC.C08.toNat_fromNat
#print axioms HC.C08.addU64Carry_spec
#print axioms HC.C08.subU64Borrow_spec
#print axioms HC.C08.addUint_spec
#print axioms HC.C08.subUint_spec
#print axioms HC.C08.addUintU64_spec
#print axioms HC.C08.subUintU64_spec
#print axioms HC.C08.negateUint_spec
#print axioms HC.C08.multiplyUintU64_spec
#print axioms HC.C08.multiplyUint_spec
#print axioms HC.C08.leftShiftUint_spec
#print axioms HC.C08.rightShiftUint_spec
#print axioms HC.C08.leftShiftU192_spec
#print axioms HC.C08.rightShiftU192_spec
#print axioms HC.C08.halfRoundUp_spec
#print axioms HC.C08.compareUint_spec
#print axioms HC.C08.multiplyManyU64_spec
#print axioms HC.C08.addUintMod_spec
#print axioms HC.C08.subUintMod_spec
#print axioms HC.C08.negateUintMod_spec
#print axioms HC.C08.modulus_new_wf
#print axioms HC.C08.tryInvert_full_statement_false
#print axioms HC.C08.tryInvert_overflow_witness
#print axioms HC.C08.tryInvert_spec_partial
#print axioms HC.C08.divideUint_spec
#print axioms HC.C08.gen_add_u64_eq
#print axioms HC.C08.gen_add_u64_carry_eq
#print axioms HC.C08.gen_sub_u64_eq
#print axioms HC.C08.gen_sub_u64_borrow_eq
#print axioms HC.C08.gen_multiply_u64_high_word_eq
#print axioms HC.C08.gen_multiply_u64_u64_eq
#print axioms HC.C08.gen_increment_u64_mod_eq
#print axioms HC.C08.gen_decrement_u64_mod_eq
#print axioms HC.C08.gen_negate_u64_mod_eq
#print axioms HC.C08.gen_div2_u64_mod_eq
#print axioms HC.C08.gen_add_u64_mod_eq
#print axioms HC.C08.gen_sub_u64_mod_eq
#print axioms HC.C08.gen_barrett_reduce_u128_eq
#print axioms HC.C08.gen_barrett_reduce_u64_eq
#print axioms HC.C08.gen_multiply_u64_mod_eq
#print axioms HC.C08.gen_multiply_u64operand_mod_eq
#print axioms HC.C08.gen_multiply_u64operand_mod_lazy_eq
#print axioms HC.C08.gen_multiply_add_u64_mod_eq
#print axioms HC.C08.gen_multiply_u64operand_add_u64_mod_eq
#print axioms HC.C08.gen_exponentiate_u64_mod_eq
#print axioms HC.C08.gen_get_significant_bit_count_eq
#print axioms HC.C08.gen_gcd_eq
#print axioms HC.C08.gen_modulo_uint_eq
#print axioms HC.C08.gen_add_u128_inplace_eq
#print axioms HC.C08.gen_dot_product_mod_eq
#print axioms HC.C08.gen_xgcd_eq
#print axioms HC.C08.gen_try_invert_u64_mod_u64_eq
#print axioms HC.C08.gen_divide_u128_u64_inplace_eq
#print axioms HC.C08.gen_mulop_new_eq
#print axioms HC.C08.gen_mulop_set_quotient_eq
#print axioms HC.C08.gen_add_uint_eq
#print axioms HC.C08.gen_sub_uint_eq
#print axioms HC.C08.gen_add_uint_u64_eq
#print axioms HC.C08.gen_sub_uint_u64_eq
#print axioms HC.C08.gen_negate_uint_eq
#print axioms HC.C08.gen_compare_uint_eq
#print axioms HC.C08.gen_is_greater_than_or_equal_uint_eq
#print axioms HC.C08.gen_add_uint_inplace_eq
#print axioms HC.C08.gen_sub_uint_inplace_eq
#print axioms HC.C08.gen_add_uint_mod_eq
#print axioms HC.C08.gen_add_uint_mod_inplace_eq
#print axioms HC.C08.gen_sub_uint_mod_eq
#print axioms HC.C08.gen_left_shift_u192_eq
#print axioms HC.C08.gen_right_shift_u192_eq
