/-
  Three definitions in which the transform proofs (C09) and the modules about products of polynomials state their results:
  `exactArith`, the butterfly network's arithmetic over any commutative ring; `negMulR`, the product modulo X^n + 1 by explicit
  sum (NegAlg, C01J, C02K, C19 speak of products through it); `WFOp`, a well-formed Harvey operand — the form in which C09 and
  everything later takes a table entry.  C08A states the same with `MulOperand.new y m = .ok o`; `WFOp.new_eq` / `WFOp.of_new`
  (C09E) go between the two.
-/
import Heathcliff.Model.NTT
import Mathlib.Algebra.BigOperators.Intervals
import Mathlib.Algebra.BigOperators.Ring.Finset
import Mathlib.Data.ZMod.Basic
import Mathlib.Tactic.Ring
import Mathlib.Tactic.Linarith

namespace HC
open Finset

/-- the `Arithmetic` instance with exact ring operations (no laziness): add, sub, mul, identity guard -/
def exactArith (R : Type) [CommRing R] : Arith R R where
  add a b := a + b
  sub a b := a - b
  mulRoot a r := a * r
  guard a := a

/-- coefficient `c` of `a·b mod (X^n + 1)` by the explicit sum (wrap-around terms enter negated) -/
def negMulR {R : Type} [CommRing R] (n : Nat) (a b : Nat → R) (c : Nat) : R :=
  ∑ i ∈ range n, if i ≤ c then a i * b (c - i) else - (a i * b (n + c - i))

/-- a well-formed `MultiplyU64ModOperand`: operand reduced, quotient = ⌊operand·2^64 / q⌋ -/
def WFOp (m : Modulus) (o : MulOperand) : Prop :=
  o.operand < m.value ∧ o.quotient = o.operand * 2^64 / m.value

end HC
