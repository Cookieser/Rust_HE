/- The MODEL's dot product of a ciphertext with the secret key (`dotProductCtSk`) for every size ≥ 2 and either representation, read in
   `ZMod q_i`: in every RNS component the coefficient form of the result is the phase Σ_k c_k s^k of the coefficient forms of the input in
   the ring Z_{q_i}[X]/(X^N+1) (`c07s_dot_form`; for size ≥ 3 `c07s_dot_ring_gen`, from the entries of the NTT-form result by `NttRing.lean`);
   the Horner fold of `Spec.phase` read modulo a divisor of Q is the same sum (`c07s_evalO_spec`).
   Every statement is written in three readings: `c07s_qsv` (the values of a base), `c07s_vecN` (NttRing: a vector of naturals in `ZMod q`),
   `c07s_vecZ` (a vector of integers in `ZMod q`).  The suffix `_gen` in names here and in C07S means "size ≥ 3" (the size-2 case is C01O's
   base case), not "generated code".  The file also holds `c07s_LevelQ` (the level's base is the tool's base Q), whose readings
   `.qvals`, `.prodL` are in C01R. -/
import Heathcliff.Spec.Scheme
import Heathcliff.Proofs.C01O
import Heathcliff.Proofs.C01J
import Heathcliff.Proofs.C01N
import Heathcliff.Proofs.NttRing
import Heathcliff.Proofs.BaseMath
import Heathcliff.Proofs.C02K
import Mathlib.Algebra.BigOperators.Intervals
import Mathlib.Algebra.BigOperators.Ring.Finset
import Mathlib.Data.ZMod.Basic
import Mathlib.Tactic.Ring
import Mathlib.Tactic.Linarith
namespace HC
open Finset

/-! ### `Spec.crt` on the moduli of a well-formed base -/

/-- the values of the moduli of a base, as `Spec.crt` and `Spec.phase` take them.  The same list as `c01p_bvals b` (C01N):
    `c07s_qsv_eq_range`; for a level with `c07s_LevelQ` also `c01p_qvals l`: `c07s_LevelQ.qvals` (C01R). -/
def c07s_qsv (b : RNSBase) : List Nat := b.base.toList.map (·.value)

theorem c07s_qsv_eq_range (b : RNSBase) : c07s_qsv b = (List.range b.size).map (fun i => (b.q i).value) := by
  apply List.ext_getElem
  · simp [c07s_qsv, RNSBase.size]
  · intro i h1 h2
    have hi : i < b.base.size := by simpa [c07s_qsv] using h1
    simp [c07s_qsv, RNSBase.q, Array.getD, hi]

theorem c07s_prodL_qsv {b : RNSBase} (hb : b.WF) : Spec.prodL (c07s_qsv b) = b.prod := by
  rw [c07s_qsv_eq_range]; exact c01p_prodL_bvals hb

/-- `Spec.crt` returns THE number below Q with the given residues -/
theorem c07s_crt_spec {b : RNSBase} (hb : b.WF) (rs : List Nat) :
    Spec.crt (c07s_qsv b) rs < b.prod ∧
    ∀ i, i < b.size → Spec.crt (c07s_qsv b) rs % (b.q i).value = rs.getD i 0 % (b.q i).value := by
  rw [c07s_qsv_eq_range]; exact c01p_crt_spec hb rs

/-- the model's `compose` computes `Spec.crt` -/
theorem c07s_compose_eq_crt {b : RNSBase} (hb : b.WF) {rs : Array Nat} (hs : rs.size = b.size)
    (hr : ∀ i, i < b.size → rs.getD i 0 < (b.q i).value) :
    b.compose rs = .ok (Spec.crt (c07s_qsv b) rs.toList) := by
  obtain ⟨x, hx, hxl, hxr⟩ := compose_spec hb hs hr
  obtain ⟨hcl, hcr⟩ := c07s_crt_spec hb rs.toList
  rw [hx]
  congr 1
  apply crt_unique hb hxl hcl
  intro i hi
  rw [hxr i hi, hcr i hi]
  congr 1
  have hi' : i < rs.size := by omega
  simp [Array.getD, List.getD, hi']

/-! ### residues: casts into `ZMod q` -/

theorem c07s_cast_emod {q Q : Nat} (h : q ∣ Q) (a : Int) : (((a % (Q : Int) : Int)) : ZMod q) = (a : ZMod q) := by
  rw [← ZMod.intCast_mod (a % (Q : Int)) q, Int.emod_emod_of_dvd a (Int.natCast_dvd_natCast.mpr h), ZMod.intCast_mod]

theorem c07s_cast_toNat {q : Nat} {y : Int} (hy : 0 ≤ y) : ((y.toNat : Nat) : ZMod q) = (y : ZMod q) := by
  conv_rhs => rw [← Int.toNat_of_nonneg hy]
  rw [Int.cast_natCast]

theorem c07s_cast_emod_toNat {q : Nat} (hq : 0 < q) (a : Int) : (((a % (q : Int)).toNat : Nat) : ZMod q) = (a : ZMod q) := by
  rw [c07s_cast_toNat (Int.emod_nonneg a (by omega)), ZMod.intCast_mod]

theorem c07s_skRes_cast (l : Level) (sk : Array Int) (m : Nat) (hq : 0 < (l.q m).value) {k : Nat} (hk : k < sk.size) :
    (((skRes l sk m).getD k 0 : Nat) : ZMod (l.q m).value) = ((sk.getD k 0 : Int) : ZMod (l.q m).value) := by
  have e : (skRes l sk m).getD k 0 = (sk.getD k 0 % ((l.q m).value : Int)).toNat := by
    simp [skRes, Array.getD, hk]
  rw [e, c07s_cast_emod_toNat hq]

/-- CRT uniqueness with the residues compared in `ZMod q_i` -/
theorem c07s_crt_unique_cast {b : RNSBase} (hb : b.WF) {x y : Nat} (hx : x < b.prod) (hy : y < b.prod)
    (h : ∀ i, i < b.size → ((x : Nat) : ZMod (b.q i).value) = ((y : Nat) : ZMod (b.q i).value)) : x = y := by
  apply crt_unique hb hx hy
  intro i hi
  exact (ZMod.natCast_eq_natCast_iff' x y _).mp (h i hi)

theorem c07s_crt_cast {b : RNSBase} (hb : b.WF) (rs : List Nat) {i : Nat} (hi : i < b.size) :
    ((Spec.crt (c07s_qsv b) rs : Nat) : ZMod (b.q i).value) = ((rs.getD i 0 : Nat) : ZMod (b.q i).value) :=
  (ZMod.natCast_eq_natCast_iff' _ _ _).mpr ((c07s_crt_spec hb rs).2 i hi)

/-! ### the level's base Q -/

/-- the `RNSTool` of the level carries the well-formed base of the level's moduli (what `RNSBase.new l.qs.toList` returns,
    see `c07s_levelQ_of_new`) -/
structure c07s_LevelQ (l : Level) : Prop where
  bwf : l.tool.baseQ.WF
  base : l.tool.baseQ.base = l.qs

theorem c07s_LevelQ.size_eq {l : Level} (h : c07s_LevelQ l) : l.tool.baseQ.size = l.size := by
  unfold RNSBase.size Level.size; rw [h.base]

theorem c07s_LevelQ.q_eq {l : Level} (h : c07s_LevelQ l) {i : Nat} (hi : i < l.size) : l.tool.baseQ.q i = l.q i := by
  have hi' : i < l.qs.size := hi
  unfold RNSBase.q Level.q
  rw [h.base]
  simp [Array.getD, hi']

theorem c07s_levelQ_of_new {l : Level} (hl : l.WF) (h64 : l.qs.size ≤ 64) (h : RNSBase.new l.qs.toList = .ok l.tool.baseQ) :
    c07s_LevelQ l := by
  have hm : ∀ m ∈ l.qs.toList, m.WF := by
    intro m hm
    obtain ⟨i, hi, rfl⟩ := List.mem_iff_getElem.mp hm
    have hi' : i < l.size := by simpa [Level.size] using hi
    have := (c01o_level_comp hl hi').2.2.2
    have e : l.q i = l.qs.toList[i] := by
      have hi2 : i < l.qs.size := hi'
      simp only [Level.q, Array.getD, hi2, dite_true]
      rfl
    rw [e] at this
    exact this
  obtain ⟨h1, h2⟩ := RNSBase.new_wf hm (by simpa using h64) h
  exact ⟨h1, by rw [h2]⟩

theorem c07s_listcol_getD (c : RnsPoly) (i m : Nat) :
    (c.toList.map (fun comp => comp.getD i 0)).getD m 0 = (c.getD m #[]).getD i 0 := by
  by_cases hm : m < c.size
  · simp [List.getD, Array.getD, hm]
  · simp [List.getD, Array.getD, hm]

/-! ### the Horner fold of `Spec.phase` in the ring -/

theorem c03k_ctPhase_succ {S : Type} [CommRing S] (k : Nat) (c : Nat → S) (s : S) :
    ctPhase (k + 1) c s = c 0 + s * ctPhase k (fun i => c (i + 1)) s := by
  unfold ctPhase
  rw [Finset.sum_range_succ', Finset.mul_sum, pow_zero, mul_one, add_comm]
  exact congrArg _ (Finset.sum_congr rfl fun i _ => by rw [pow_succ]; ring)

theorem c03k_ctPhase_congr {S : Type} [CommRing S] (k : Nat) {c c' : Nat → S} (s : S) (h : ∀ i, i < k → c i = c' i) :
    ctPhase k c s = ctPhase k c' s :=
  Finset.sum_congr rfl fun i hi => by rw [h i (Finset.mem_range.mp hi)]

/-- the option-valued Horner fold of `Spec.phase`, as a right fold over the polynomials -/
def c07s_evalO (sk : Array Int) (Q : Nat) (zs : List (Array Int)) : Option (Array Int) :=
  zs.foldr (fun c acc => match acc with
    | none => some c
    | some a => some (Spec.zAdd (Spec.zNegMul a sk Q) c Q)) none

theorem c07s_phase_unfold (qs : List Nat) (n : Nat) (sk : Array Int) (polys : List RnsPoly) :
    Spec.phase qs n sk polys =
      ((c07s_evalO sk (Spec.prodL qs) (polys.map (fun p => Spec.crtPoly qs p n))).getD (Array.replicate n 0)).map
        (fun x => Spec.centred x.toNat (Spec.prodL qs)) := by
  unfold Spec.phase c07s_evalO
  simp only
  rw [List.foldl_reverse]
  rfl

/-- a vector of integers (a secret key, a coefficient vector of `Spec.phase`) read in `ZMod q`; positions beyond the size read 0 -/
def c07s_vecZ (q : Nat) (a : Array Int) : Nat → ZMod q := fun j => ((a.getD j 0 : Int) : ZMod q)

theorem c07s_toNP_zNegMul {q Q n : Nat} (h : q ∣ Q) (a sk : Array Int) (ha : a.size = n) :
    c03k_toNP n (c07s_vecZ q (Spec.zNegMul a sk Q)) = c03k_toNP n (c07s_vecZ q a) * c03k_toNP n (c07s_vecZ q sk) := by
  rw [← c03k_toNP_mul]
  refine c03k_toNP_congr fun j hj => ?_
  unfold c07s_vecZ
  rw [c01p_zNegMul_getD _ _ _ (by rw [ha]; exact hj), ha, c01p_contrib_sum n _ _ hj, c07s_cast_emod h]
  exact c04k_map (Int.castRingHom (ZMod q)) n (fun i => a.getD i 0) (fun i => sk.getD i 0) j

theorem c07s_vecZ_zAdd {q Q : Nat} (h : q ∣ Q) (a b : Array Int) (hab : b.size = a.size) :
    c07s_vecZ q (Spec.zAdd a b Q) = c07s_vecZ q a + c07s_vecZ q b := by
  funext j
  unfold c07s_vecZ
  simp only [Pi.add_apply]
  by_cases hj : j < a.size
  · rw [c01p_zAdd_getD _ _ _ hj, c07s_cast_emod h, Int.cast_add]
  · have hj := Nat.le_of_not_lt hj
    rw [array_getD_of_ge _ _ (by rw [c01p_zAdd_size]; exact hj), array_getD_of_ge _ _ hj, array_getD_of_ge _ _ (by rw [hab]; exact hj)]
    simp

theorem c07s_zAdd_nonneg (a b : Array Int) {Q : Nat} (hQ : 0 < Q) (j : Nat) : 0 ≤ (Spec.zAdd a b Q).getD j 0 := by
  by_cases hj : j < a.size
  · rw [c01p_zAdd_getD _ _ _ hj]; exact Int.emod_nonneg _ (by omega)
  · rw [array_getD_of_ge _ _ (by rw [c01p_zAdd_size]; exact Nat.le_of_not_lt hj)]

theorem c07s_evalO_cons (sk : Array Int) (Q : Nat) (z : Array Int) (zs : List (Array Int)) :
    c07s_evalO sk Q (z :: zs) = match c07s_evalO sk Q zs with
      | none => some z
      | some a => some (Spec.zAdd (Spec.zNegMul a sk Q) z Q) := rfl

/-- the Horner fold of the definition, read modulo a divisor q of Q, is Σ_k z_k s^k in Z_q[X]/(X^n+1) -/
theorem c07s_evalO_spec {q Q n : Nat} (h : q ∣ Q) (hQ : 0 < Q) (sk : Array Int) (zs : List (Array Int))
    (hz : ∀ z ∈ zs, z.size = n ∧ ∀ j, 0 ≤ z.getD j 0) (hne : zs ≠ []) :
    ∃ H, c07s_evalO sk Q zs = some H ∧ H.size = n ∧ (∀ j, 0 ≤ H.getD j 0) ∧
      c03k_toNP n (c07s_vecZ q H) =
        ctPhase zs.length (fun k => c03k_toNP n (c07s_vecZ q (zs.getD k #[]))) (c03k_toNP n (c07s_vecZ q sk)) := by
  induction zs with
  | nil => exact absurd rfl hne
  | cons z zs ih =>
    obtain ⟨hzs, hzn⟩ := hz z (by simp)
    rw [List.length_cons, c03k_ctPhase_succ]
    by_cases hnil : zs = []
    · subst hnil
      refine ⟨z, rfl, hzs, hzn, ?_⟩
      rw [List.length_nil, ctPhase, Finset.sum_range_zero, mul_zero, add_zero]
      rfl
    · obtain ⟨H', e1, e2, _, e4⟩ := ih (fun z hz' => hz z (by simp [hz'])) hnil
      refine ⟨Spec.zAdd (Spec.zNegMul H' sk Q) z Q, ?_, ?_, fun j => c07s_zAdd_nonneg _ _ hQ j, ?_⟩
      · rw [c07s_evalO_cons, e1]
      · rw [c01p_zAdd_size, c01p_zNegMul_size, e2]
      · rw [c07s_vecZ_zAdd h _ _ (by rw [c01p_zNegMul_size, e2, hzs]), c03k_toNP_add, c07s_toNP_zNegMul h _ _ e2, e4, add_comm,
          mul_comm]
        rfl

/-! ### sums of arrays modulo q -/

theorem c07s_vecN_oob (q : Nat) (a : Array Nat) {j : Nat} (hj : ¬ j < a.size) : c07s_vecN q a j = 0 := by
  unfold c07s_vecN; rw [array_getD_of_ge _ _ (Nat.le_of_not_lt hj)]; simp

def c07s_addArr (q : Nat) (a d : Array Nat) : Array Nat :=
  ((List.range a.size).map (fun j => (a.getD j 0 + d.getD j 0) % q)).toArray

theorem c07s_addArr_size (q : Nat) (a d : Array Nat) : (c07s_addArr q a d).size = a.size := by simp [c07s_addArr]

theorem c07s_addArr_getD (q : Nat) (a d : Array Nat) {j : Nat} (hj : j < a.size) :
    (c07s_addArr q a d).getD j 0 = (a.getD j 0 + d.getD j 0) % q := array_getD_range_map _ 0 hj

theorem c07s_toNP_addArr {q N : Nat} {a b : Array Nat} (ha : a.size = N) :
    c03k_toNP N (c07s_vecN q (c07s_addArr q a b)) = c03k_toNP N (c07s_vecN q a) + c03k_toNP N (c07s_vecN q b) := by
  rw [← c03k_toNP_add]
  refine c03k_toNP_congr fun j hj => ?_
  show (((c07s_addArr q a b).getD j 0 : Nat) : ZMod q) = ((a.getD j 0 : Nat) : ZMod q) + ((b.getD j 0 : Nat) : ZMod q)
  rw [c07s_addArr_getD _ _ _ (by rw [ha]; exact hj), ZMod.natCast_mod, Nat.cast_add]

theorem c07s_fold_addArr_cast (q : Nat) (Ds : List (Array Nat)) (acc : Array Nat) {j : Nat} (hj : j < acc.size) :
    (((Ds.foldl (c07s_addArr q) acc).getD j 0 : Nat) : ZMod q) =
      ((acc.getD j 0 : Nat) : ZMod q) + (Ds.map (fun d => ((d.getD j 0 : Nat) : ZMod q))).sum := by
  induction Ds generalizing acc with
  | nil => simp
  | cons d Ds ih =>
    rw [List.foldl_cons, ih _ (by rw [c07s_addArr_size]; exact hj), c07s_addArr_getD _ _ _ hj, ZMod.natCast_mod, Nat.cast_add,
      List.map_cons, List.sum_cons, add_assoc]

/-! ### general size, model side: evaluating the monadic code -/

theorem c07s_rns_ext {l : Level} {a b : RnsPoly} (ha : a.size = l.size) (hb : b.size = l.size)
    (h : ∀ i, i < l.size → a.getD i #[] = b.getD i #[]) : a = b := by
  apply Array.ext (by omega)
  intro i h1 h2
  have := h i (by omega)
  simpa [Array.getD, h1, h2] using this

/-- k-th entry of the key-power list: the (k+1)-st pointwise power of the transformed key -/
def c07s_Pw (l : Level) (s : RnsPoly) (k : Nat) : RnsPoly :=
  ((List.range l.size).map fun i =>
    ((List.range l.n).map fun j => ((s.getD i #[]).getD j 0 ^ (k+1)) % (l.q i).value).toArray).toArray

theorem c07s_Pw_size (l : Level) (s : RnsPoly) (k : Nat) : (c07s_Pw l s k).size = l.size := by simp [c07s_Pw]

theorem c07s_Pw_comp_size (l : Level) (s : RnsPoly) (k : Nat) {i : Nat} (hi : i < l.size) :
    ((c07s_Pw l s k).getD i #[]).size = l.n := by
  unfold c07s_Pw; rw [array_getD_range_map _ _ hi]; simp

theorem c07s_Pw_coeff (l : Level) (s : RnsPoly) (k : Nat) {i j : Nat} (hi : i < l.size) (hj : j < l.n) :
    ((c07s_Pw l s k).getD i #[]).getD j 0 = ((s.getD i #[]).getD j 0 ^ (k+1)) % (l.q i).value := by
  unfold c07s_Pw; rw [array_getD_range_map _ _ hi]; exact array_getD_range_map _ 0 hj

theorem c07s_Pw_canon {l : Level} (hl : l.WF) (s : RnsPoly) (k : Nat) : RnsCanon l (c07s_Pw l s k) := by
  refine ⟨c07s_Pw_size l s k, fun i hi => ⟨c07s_Pw_comp_size l s k hi, fun j hj => ?_⟩⟩
  rw [c07s_Pw_coeff l s k hi hj]
  have := (c01o_level_comp hl hi).2.2.2.two_le
  exact Nat.mod_lt _ (by omega)

theorem c07s_Pw_zero {l : Level} {s : RnsPoly} (hs : RnsCanon l s) : c07s_Pw l s 0 = s := by
  apply c07s_rns_ext (c07s_Pw_size l s 0) hs.1
  intro i hi
  apply array_ext_getD (c07s_Pw_comp_size l s 0 hi) (hs.2 i hi).1
  intro j hj
  rw [c07s_Pw_coeff l s 0 hi hj, Nat.zero_add, pow_one, Nat.mod_eq_of_lt ((hs.2 i hi).2 j hj)]

theorem c07s_skPowers_succ (l : Level) (s : RnsPoly) (m : Nat) :
    skPowers l s (m+2) = (do
      let prev ← skPowers l s (m+1)
      let nxt ← rnsDyadic l (prev.getLastD s) s
      pure (prev ++ [nxt])) := rfl

theorem c07s_Pw_succ {l : Level} (hl : l.WF) (s : RnsPoly) (k : Nat) :
    c01o_zipVal l.size (c07s_Pw l s k) s (fun i x y => (x * y) % (l.q i).value) = c07s_Pw l s (k+1) := by
  have hc := c07s_Pw_canon hl s k
  apply c07s_rns_ext (c01o_zipVal_size _ _ _ _) (c07s_Pw_size l s (k+1))
  intro i hi
  apply array_ext_getD (n := l.n)
  · rw [c01o_zipVal_comp_size _ _ _ _ hi]; exact (hc.2 i hi).1
  · exact c07s_Pw_comp_size l s (k+1) hi
  intro j hj
  rw [c01o_zipVal_coeff _ _ _ _ hi (by rw [(hc.2 i hi).1]; exact hj), c07s_Pw_coeff l s k hi hj,
    c07s_Pw_coeff l s (k+1) hi hj, Nat.mod_mul_mod, ← pow_succ]

theorem c07s_skPowers_ok {l : Level} (hl : l.WF) {s : RnsPoly} (hs : RnsCanon l s) (m : Nat) :
    skPowers l s (m+1) = .ok ((List.range (m+1)).map (c07s_Pw l s)) := by
  induction m with
  | zero =>
    show (pure [s] : R (List RnsPoly)) = _
    simp [c07s_Pw_zero hs, pure, Except.pure]
  | succ m ih =>
    rw [c07s_skPowers_succ, ih]
    have hlast : ((List.range (m+1)).map (c07s_Pw l s)).getLastD s = c07s_Pw l s m := by
      rw [List.range_succ, List.map_append]; simp
    simp only [bind, Except.bind]
    rw [hlast, (c07s_dyadic_canon hl (c07s_Pw_canon hl s m) hs).1, c07s_Pw_succ hl s]
    simp only [pure, Except.pure]
    rw [List.range_succ (n := m+1), List.map_append]
    rfl

theorem c07s_foldAdd_ok {l : Level} (hl : l.WF) (Ds : List RnsPoly) (hD : ∀ d ∈ Ds, RnsCanon l d) (acc : RnsPoly)
    (ha : RnsCanon l acc) :
    Ds.foldlM (fun acc p => rnsAdd l acc p) acc =
      .ok (Ds.foldl (fun a p => c01o_zipVal l.size a p (fun i x y => (x + y) % (l.q i).value)) acc) ∧
    RnsCanon l (Ds.foldl (fun a p => c01o_zipVal l.size a p (fun i x y => (x + y) % (l.q i).value)) acc) := by
  induction Ds generalizing acc with
  | nil => exact ⟨rfl, ha⟩
  | cons d Ds ih =>
    obtain ⟨e1, e2⟩ := c07s_add_canon hl ha (hD d (by simp))
    obtain ⟨r1, r2⟩ := ih (fun d' hd' => hD d' (by simp [hd'])) _ e2
    refine ⟨?_, r2⟩
    rw [List.foldlM_cons, e1]
    exact r1

theorem c07s_dot_gen_eq (l : Level) (sk : Array Int) (polys : Array RnsPoly) (nf : Bool) (cf : Nat) (h3 : 3 ≤ polys.size) :
    dotProductCtSk l sk ⟨polys, nf, cf⟩ = (do
      let pows ← skPowers l (skNtt l sk) (polys.size - 1)
      let prods ← (List.range (polys.size - 1)).mapM fun i =>
        rnsDyadic l (if nf then polys.getD (i+1) #[] else rnsNtt l (polys.getD (i+1) #[])) (pows.getD i #[])
      let sum ← prods.foldlM (fun acc p => rnsAdd l acc p) (rnsZero l)
      rnsAdd l (if nf then sum else rnsIntt l sum) (polys.getD 0 #[])) := by
  unfold dotProductCtSk
  simp only [if_neg (show ¬ polys.size < 2 by omega), if_neg (show ¬ polys.size = 2 by omega)]

/-! ### general size, model side: assembling one component -/

theorem c07s_zipAdd_getD (l : Level) (a b : RnsPoly) {i : Nat} (hi : i < l.size) :
    (c01o_zipVal l.size a b (fun i x y => (x + y) % (l.q i).value)).getD i #[] =
      c07s_addArr (l.q i).value (a.getD i #[]) (b.getD i #[]) := by
  rw [c01o_zipVal_getD _ _ _ _ hi]; rfl

theorem c07s_fold_comp (l : Level) (Ds : List RnsPoly) (acc : RnsPoly) {i : Nat} (hi : i < l.size) :
    (Ds.foldl (fun a p => c01o_zipVal l.size a p (fun i x y => (x + y) % (l.q i).value)) acc).getD i #[] =
      (Ds.map (fun d => d.getD i #[])).foldl (c07s_addArr (l.q i).value) (acc.getD i #[]) := by
  induction Ds generalizing acc with
  | nil => rfl
  | cons d Ds ih => rw [List.foldl_cons, ih, c07s_zipAdd_getD l acc d hi, List.map_cons, List.foldl_cons]

/-- the coefficient form of component `i` of a polynomial held in NTT form (`nf = true`) or in coefficient form -/
def c07s_cform (l : Level) (nf : Bool) (i : Nat) (a : Array Nat) : Array Nat := if nf then intt (l.tbl i) a else a

theorem c07s_nform_canon {l : Level} (hl : l.WF) (nf : Bool) {c : RnsPoly} (hc : RnsCanon l c) :
    RnsCanon l (if nf then c else rnsNtt l c) := by
  cases nf
  · rw [if_neg Bool.false_ne_true]; exact c07s_rnsNtt_canon hl hc
  · rw [if_pos rfl]; exact hc

/-- the k-th product of the general-size dot product -/
def c07s_D (l : Level) (sk : Array Int) (polys : Array RnsPoly) (nf : Bool) (k : Nat) : RnsPoly :=
  c01o_zipVal l.size (if nf then polys.getD (k+1) #[] else rnsNtt l (polys.getD (k+1) #[])) (c07s_Pw l (skNtt l sk) k)
    (fun i x y => (x * y) % (l.q i).value)

theorem c07s_toNP_skRes {l : Level} {sk : Array Int} (hsk : sk.size = l.n) {i : Nat} (hq0 : 0 < (l.q i).value) :
    c03k_toNP l.n (c07s_vecN (l.q i).value (skRes l sk i)) = c03k_toNP l.n (c07s_vecZ (l.q i).value sk) :=
  c03k_toNP_congr fun k hk => c07s_skRes_cast l sk i hq0 (by rw [hsk]; exact hk)

/-- PHASE, either form, any size ≥ 3, in the ring: the coefficient form of the model's result is Σ_k c_k s^k in every component -/
theorem c07s_dot_ring_gen {l : Level} (hl : l.WF) {sk : Array Int} (hsk : sk.size = l.n) (nf : Bool) {polys : Array RnsPoly}
    (h3 : 3 ≤ polys.size) (hc : ∀ k, k < polys.size → RnsCanon l (polys.getD k #[])) (cf : Nat) :
    ∃ ph, dotProductCtSk l sk ⟨polys, nf, cf⟩ = .ok ph ∧ RnsCanon l ph ∧
      ∀ i, i < l.size → c03k_toNP l.n (c07s_vecN (l.q i).value (c07s_cform l nf i (ph.getD i #[]))) =
        ctPhase polys.size (fun k => c03k_toNP l.n (c07s_vecN (l.q i).value (c07s_cform l nf i ((polys.getD k #[]).getD i #[]))))
          (c03k_toNP l.n (c07s_vecZ (l.q i).value sk)) := by
  obtain ⟨m, hm⟩ : ∃ m, polys.size - 1 = m + 1 := ⟨polys.size - 2, by omega⟩
  have hs := c07s_skNtt_canon hl hsk
  have hDk : ∀ k, k < m + 1 → rnsDyadic l (if nf then polys.getD (k+1) #[] else rnsNtt l (polys.getD (k+1) #[]))
      (c07s_Pw l (skNtt l sk) k) = .ok (c07s_D l sk polys nf k) ∧ RnsCanon l (c07s_D l sk polys nf k) := fun k hk =>
    c07s_dyadic_canon hl (c07s_nform_canon hl nf (hc (k+1) (by omega))) (c07s_Pw_canon hl _ k)
  obtain ⟨f1, f2⟩ := c07s_foldAdd_ok hl ((List.range (m+1)).map (c07s_D l sk polys nf)) (fun d hd => by
    obtain ⟨k, hk, rfl⟩ := List.mem_map.mp hd
    exact (hDk k (List.mem_range.mp hk)).2) (rnsZero l) (c07s_rnsZero_canon hl)
  generalize hSdef : ((List.range (m+1)).map (c07s_D l sk polys nf)).foldl
    (fun a p => c01o_zipVal l.size a p (fun i x y => (x + y) % (l.q i).value)) (rnsZero l) = S at f1 f2
  have hIc : RnsCanon l (if nf then S else rnsIntt l S) := by
    cases nf
    · rw [if_neg Bool.false_ne_true]; exact c07s_rnsIntt_canon hl f2
    · rw [if_pos rfl]; exact f2
  obtain ⟨g1, g2⟩ := c07s_add_canon hl hIc (hc 0 (by omega))
  refine ⟨_, ?_, g2, ?_⟩
  · rw [c07s_dot_gen_eq _ _ _ _ _ h3, hm, c07s_skPowers_ok hl hs m]
    simp only [bind, Except.bind]
    rw [R.mapM_ok _ (c07s_D l sk polys nf)]
    · simp only
      rw [f1]
      simp only
      exact g1
    · intro k hk
      have hk' := List.mem_range.mp hk
      rw [list_getD_range_map _ _ hk']
      exact (hDk k hk').1
  · intro i hi
    obtain ⟨htw, htm, htn, hqw⟩ := c01o_level_comp hl hi
    obtain ⟨s1, s2, s3, s4⟩ := c01o_sk_comp hl hsk hi
    have hq0 : 0 < (l.q i).value := by have := hqw.two_le; omega
    have hXc := fun k (hk : k < m + 1) => (c07s_nform_canon hl nf (hc (k+1) (by omega))).2 i hi
    have hz : ((rnsZero l).getD i #[]).size = l.n := ((c07s_rnsZero_canon hl).2 i hi).1
    have hz0 : ∀ j, ((rnsZero l).getD i #[]).getD j 0 = 0 := by
      intro j
      have e : (rnsZero l).getD i #[] = Array.replicate l.n 0 := by simp [rnsZero, Array.getD, hi]
      rw [e]
      by_cases hj : j < l.n <;> simp [Array.getD, hj]
    -- the entries of the NTT-form sum, modulo q_i
    have hent : ∀ j, j < l.n → (((S.getD i #[]).getD j 0 : Nat) : ZMod (l.q i).value) =
        ∑ k ∈ range (m+1),
          ((((if nf then polys.getD (k+1) #[] else rnsNtt l (polys.getD (k+1) #[])).getD i #[]).getD j 0 : Nat) : ZMod (l.q i).value) *
          (((ntt (l.tbl i) (skRes l sk i)).getD j 0 : Nat) : ZMod (l.q i).value) ^ (k+1) := by
      intro j hj
      rw [← hSdef, c07s_fold_comp l _ _ hi, c07s_fold_addArr_cast _ _ _ (by rw [hz]; exact hj), hz0, Nat.cast_zero, zero_add,
        List.map_map, List.map_map, list_sum_range]
      refine Finset.sum_congr rfl fun k hk => ?_
      simp only [Function.comp]
      unfold c07s_D
      rw [c01o_zipVal_coeff _ _ _ _ hi (by rw [(hXc k (mem_range.mp hk)).1]; exact hj), c07s_Pw_coeff _ _ _ hi hj,
        c01o_skNtt_getD l sk hi, ZMod.natCast_mod, Nat.cast_mul, ZMod.natCast_mod, Nat.cast_pow]
    have hS := intt_toNP_sum_mul_pow htw htm htn (m+1) (fun k => k+1) hXc ⟨s3, s4⟩ (f2.2 i hi) hent
    have hsh : c03k_toNP l.n (c07s_vecN (l.q i).value (intt (l.tbl i) (ntt (l.tbl i) (skRes l sk i)))) =
        c03k_toNP l.n (c07s_vecZ (l.q i).value sk) :=
      (intt_toNP_ntt htw htm htn ⟨s1, s2⟩).trans (c03k_toNP_congr fun k hk => c07s_skRes_cast l sk i hq0 (by rw [hsk]; exact hk))
    have hX : ∀ k, k < m + 1 →
        c03k_toNP l.n (c07s_vecN (l.q i).value
          (intt (l.tbl i) ((if nf then polys.getD (k+1) #[] else rnsNtt l (polys.getD (k+1) #[])).getD i #[]))) =
        c03k_toNP l.n (c07s_vecN (l.q i).value (c07s_cform l nf i ((polys.getD (k+1) #[]).getD i #[]))) := by
      intro k hk
      unfold c07s_cform
      cases nf
      · rw [if_neg Bool.false_ne_true, if_neg Bool.false_ne_true, c01o_rnsNtt_getD l _ hi]
        exact intt_toNP_ntt htw htm htn ((hc (k+1) (by omega)).2 i hi)
      · rw [if_pos rfl, if_pos rfl]
    have hc0 := (hc 0 (by omega)).2 i hi
    -- adding c_0: before the inverse transform (NTT form) or after it
    have hadd : c03k_toNP l.n (c07s_vecN (l.q i).value (c07s_cform l nf i
        (c07s_addArr (l.q i).value ((if nf then S else rnsIntt l S).getD i #[]) ((polys.getD 0 #[]).getD i #[])))) =
        c03k_toNP l.n (c07s_vecN (l.q i).value (intt (l.tbl i) (S.getD i #[]))) +
          c03k_toNP l.n (c07s_vecN (l.q i).value (c07s_cform l nf i ((polys.getD 0 #[]).getD i #[]))) := by
      unfold c07s_cform
      cases nf
      · rw [if_neg Bool.false_ne_true, if_neg Bool.false_ne_true, if_neg Bool.false_ne_true, c01o_rnsIntt_getD l _ hi]
        exact c07s_toNP_addArr (by rw [← c01o_rnsIntt_getD l _ hi]; exact ((c07s_rnsIntt_canon hl f2).2 i hi).1)
      · rw [if_pos rfl, if_pos rfl, if_pos rfl]
        exact intt_toNP_add htw htm htn (f2.2 i hi) hc0
          ⟨by rw [c07s_addArr_size]; exact (f2.2 i hi).1, fun j hj => by
            rw [c07s_addArr_getD _ _ _ (by rw [(f2.2 i hi).1]; exact hj)]; exact Nat.mod_lt _ hq0⟩
          (fun j hj => c07s_addArr_getD _ _ _ (by rw [(f2.2 i hi).1]; exact hj))
    rw [c07s_zipAdd_getD l _ _ hi, hadd, hS, hsh, show polys.size = (m+1)+1 by omega]
    unfold ctPhase
    conv_rhs => rw [Finset.sum_range_succ', pow_zero, mul_one]
    exact congrArg (· + _) (Finset.sum_congr rfl fun k hk => by rw [hX k (mem_range.mp hk)])
theorem c07s_vec2 {n q : Nat} (hq : 0 < q) {p c0 c1 skr : Array Nat}
    (hv : ∀ j, j < n → p.getD j 0 = (c0.getD j 0 + negMulNat n q c1 skr j) % q) :
    c03k_toNP n (c07s_vecN q p) = c03k_toNP n (c07s_vecN q c0) + c03k_toNP n (c07s_vecN q c1) * c03k_toNP n (c07s_vecN q skr) := by
  rw [← c03k_toNP_mul, ← c03k_toNP_add]
  refine c03k_toNP_congr fun j hj => ?_
  show ((p.getD j 0 : Nat) : ZMod q) = ((c0.getD j 0 : Nat) : ZMod q) + _
  rw [hv j hj, ZMod.natCast_mod, Nat.cast_add, (negMulNat_cast hq n c1 skr j).2]
  rfl

/-- PHASE, either form, any size ≥ 2, in the ring (size 2 is the special-cased branch of `dotProductCtSk`: `dotProduct_size2_coeff`,
    `dotProduct_size2_ntt`) -/
theorem c07s_dot_form {l : Level} (hl : l.WF) {sk : Array Int} (hsk : sk.size = l.n) (nf : Bool) {polys : Array RnsPoly}
    (h2 : 2 ≤ polys.size) (hc : ∀ k, k < polys.size → RnsCanon l (polys.getD k #[])) (cf : Nat) :
    ∃ ph, dotProductCtSk l sk ⟨polys, nf, cf⟩ = .ok ph ∧ RnsCanon l ph ∧
      ∀ i, i < l.size → c03k_toNP l.n (c07s_vecN (l.q i).value (c07s_cform l nf i (ph.getD i #[]))) =
        ctPhase polys.size (fun k => c03k_toNP l.n (c07s_vecN (l.q i).value (c07s_cform l nf i ((polys.getD k #[]).getD i #[]))))
          (c03k_toNP l.n (c07s_vecZ (l.q i).value sk)) := by
  by_cases h : polys.size = 2
  · obtain ⟨c0, c1, rfl⟩ : ∃ c0 c1, polys = #[c0, c1] := by
      obtain ⟨L⟩ := polys
      match L, h with
      | [a, b], _ => exact ⟨a, b, rfl⟩
    have h0 : RnsCanon l c0 := hc 0 (by simp)
    have h1 : RnsCanon l c1 := hc 1 (by simp)
    -- stated at correction factor 1 and used at `cf`: `dotProductCtSk` does not look at the correction factor (`c07s_dot_cf`, C07S)
    obtain ⟨ph, hd, hpc, hpv⟩ : ∃ ph, dotProductCtSk l sk ⟨#[c0, c1], nf, 1⟩ = .ok ph ∧ RnsCanon l ph ∧
        ∀ i, i < l.size → ∀ j, j < l.n → (c07s_cform l nf i (ph.getD i #[])).getD j 0 =
          ((c07s_cform l nf i (c0.getD i #[])).getD j 0 +
            negMulNat l.n (l.q i).value (c07s_cform l nf i (c1.getD i #[])) (skRes l sk i) j) % (l.q i).value := by
      unfold c07s_cform
      cases nf
      · simp only [Bool.false_eq_true, if_false]; exact dotProduct_size2_coeff hl hsk h0 h1
      · simp only [if_true]; exact dotProduct_size2_ntt hl hsk h0 h1
    refine ⟨ph, hd, hpc, fun i hi => ?_⟩
    have hq0 : 0 < (l.q i).value := by have := (c01o_level_comp hl hi).2.2.2.two_le; omega
    rw [c07s_vec2 hq0 (hpv i hi), c07s_toNP_skRes hsk hq0, show (#[c0, c1] : Array RnsPoly).size = 1 + 1 from rfl, c03k_ctPhase_succ,
      c03k_ctPhase_succ, ctPhase, Finset.sum_range_zero, mul_zero, add_zero, mul_comm]
    rfl
  · exact c07s_dot_ring_gen hl hsk nf (by omega) hc cf

end HC
