/- Audit of property C03: `#print axioms` for every property theorem of Props/C03.lean; `audit()` of tools/runner.py elaborates this file
   and compares each axiom list with the three standard axioms. -/
import Heathcliff.Props.C03
#print axioms HC.C03.ckks_mul_phase
#print axioms HC.C03.ckks_translate_phase
#print axioms HC.C03.rescale_error
#print axioms HC.C03.drop_phase
#print axioms HC.C03.scale_append
#print axioms HC.C03.gen_is_scale_within_bounds_eq
#print axioms HC.C03.gen_is_scale_within_bounds_ckks
#print axioms HC.C03.ckks_add_phase
#print axioms HC.C03.ckks_sub_phase
#print axioms HC.C03.ckks_negate_phase
#print axioms HC.C03.ckks_multiply_phase
#print axioms HC.C03.ckks_multiply_plain_phase
#print axioms HC.C03.ckks_phase_centred
#print axioms HC.C03.ckks_phase_exact
#print axioms HC.C03.ckks_mod_switch_drop_phase
#print axioms HC.C03.ckks_rescale_phase
#print axioms HC.C03.ckks_relinearize_phase
#print axioms HC.C03.ckks_relinearize_noise
#print axioms HC.C03.ckks_rescale_phase_exact
#print axioms HC.C03.ckks_relinearize_refusals
#print axioms HC.C03.c03k_inv_of_modEq
#print axioms HC.C03.c03k_translate_sound
#print axioms HC.C03.c03k_neg_sound
#print axioms HC.C03.c03k_mul_sound
#print axioms HC.C03.c03k_mulPlain_sound
#print axioms HC.C03.c03k_drop_sound
#print axioms HC.C03.c03k_abs_natAbs_le
#print axioms HC.C03.c03k_rescale_sound
#print axioms HC.C03.c03k_relin_sound
#print axioms HC.C03.c03k_obind
#print axioms HC.C03.ckks_program_inv
#print axioms HC.C03.ckks_program_sound
#print axioms HC.C03.ckks_add_refuses_repr
#print axioms HC.C03.ckks_multiply_refuses_coeff
#print axioms HC.C03.ckks_multiply_plain_refuses_coeff
#print axioms HC.C03.ckks_rescale_refusals
#print axioms HC.C03.ckks_scaleOk_false_iff
#print axioms HC.C03.c03k_scaleOk_iff
#print axioms HC.C03.ckks_prog_refuses_levels
#print axioms HC.C03.ckks_prog_refuses_scale_mismatch
#print axioms HC.C03.ckks_prog_refuses_oversize_scale
#print axioms HC.C03.ckks_prog_refuses_invalid
#print axioms HC.C03.ckks_prog_relin_refusals
#print axioms HC.C03.ckks_prog_refuses_last_level
#print axioms HC.C03.c03k_exL1_ok
#print axioms HC.C03.c03k_exL0_ok
#print axioms HC.C03.c03k_exNext
#print axioms HC.C03.c03k_exChainOK
#print axioms HC.C03.c03k_exPhase
#print axioms HC.C03.c03k_exPhase0
#print axioms HC.C03.c03k_exCanon
#print axioms HC.C03.c03k_exInv
#print axioms HC.C03.c03k_env_single
#print axioms HC.C03.c03k_exEnv
#print axioms HC.C03.c03k_exRun_ok
#print axioms HC.C03.c03k_exRef_ok
#print axioms HC.C03.c03k_program_nonvacuous
#print axioms HC.C03.c03k_exRL_wf
#print axioms HC.C03.c03k_exRL_levelQ
#print axioms HC.C03.c03k_exRL_of
#print axioms HC.C03.c03k_exRL_ct
#print axioms HC.C03.c03k_relinearize_nonvacuous
#print axioms HC.C03.c03k_canon_kl
#print axioms HC.C03.c03k_exRL_tool
#print axioms HC.C03.c03k_exChain1OK
#print axioms HC.C03.c03k_exPhase2
#print axioms HC.C03.c03k_exInv2
#print axioms HC.C03.c03k_exRelinOK
#print axioms HC.C03.c03k_exRun2_ok
#print axioms HC.C03.c03k_exRef2_ok
#print axioms HC.C03.c03k_program_relin_nonvacuous
#print axioms HC.C03.gen_ckks_multiply_bookkeeping_eq
#print axioms HC.C03.gen_ckks_square_bookkeeping_eq
#print axioms HC.C03.gen_ckks_multiply_refuses
#print axioms HC.C03.gen_multiply_plain_ntt_eq
#print axioms HC.C03.gen_mod_switch_drop_decision_bits
#print axioms HC.C03.gen_mod_switch_drop_refuses_unfit
#print axioms HC.C03.gen_multiply_plain_normal_plan_eq
#print axioms HC.C03.scales_close_self
#print axioms HC.C03.scales_close_symm
#print axioms HC.C03.scales_far_refused
#print axioms HC.C03.ckksSquare_eq
#print axioms HC.C03.ckks_square_phase
#print axioms HC.C03.ckks_square_refuses_coeff
#print axioms HC.C03.ckks_square_refuses_size
#print axioms HC.C03.gen_ct_ckks_square_eq
#print axioms HC.C03.gen_ct_ckks_square_dispatch
#print axioms HC.C03.ckksSquare_fallback
#print axioms HC.C03.gen_ct_ckks_multiply_eq
#print axioms HC.C03.gen_ct_ckks_square_all
