import Heathcliff.Gen.GaloisFns
import Heathcliff.Model.Galois
import Heathcliff.Proofs.GenGaloisElts
import Heathcliff.Proofs.C04M
import Mathlib.Data.ZMod.Basic

/-!
  Translator tie for `GaloisTool::apply` (src/util/galois.rs, generated into Gen/GaloisFns.lean) against `galoisApply` of Model/Galois.lean:
  on a zero-initialised result buffer for every `galois_elt` (`gy_`); with a DIRTY result buffer for odd `galois_elt`, where
  `i ↦ i·g mod N` is a permutation of `0..N`, every slot of `result` is overwritten, and the outcome does not depend on the initial contents
  of the `&mut [u64]` buffer; and as the substitution `X ↦ X^g` modulo `X^N + 1` (`gz_`).
-/
namespace HC

section
open HC.GenG

/-- one iteration of `GaloisTool::apply` on lists -/
def gy_applyStep (n : Nat) (a : List Nat) (g : Nat) (m : Modulus) (res : List Nat) (i : Nat) : R (List Nat) :=
  (if (i * g / n) % 2 = 1 then negateMod (a.getD i 0) m else pure (a.getD i 0)) >>= fun v => pure (res.set (i * g % n) v)

/-- the generated loop = the model's `foldlM` over the coefficients, by induction on the fuel.  The loop threads `index_raw = i·g` beside the
    buffer, its step can fail (`negateMod`), and for even `g` positions repeat, so the model side is itself a fold of failing `set` steps:
    not the closed forms of GenLoop (`Loop.fold` has total steps, `Loop.scatter` ends in `scat`), hence a direct induction. -/
theorem gy_apply_loop_eq (a : List Nat) (g : Nat) (m : Modulus) (k : Nat) (hk : k < 64) (ha : 2^k ≤ a.length)
    (hg : 2^k * g < 2^64) : ∀ cnt i res, i + cnt = 2^k → res.length = 2^k →
    GenG.galois_apply_loop1 a g m (2^k - 1) k cnt i res (i * g) = (List.range' i cnt).foldlM (gy_applyStep (2^k) a g m) res := by
  intro cnt
  induction cnt with
  | zero => intro i res _ _; rfl
  | succ c ih =>
    intro i res hic hlen
    have hi : i < a.length := by omega
    have hlt : i * g % 2^k < res.length := by rw [hlen]; exact Nat.mod_lt _ (Nat.two_pow_pos _)
    have hadd : ckAdd (i * g) g = .ok ((i + 1) * g) := by
      rw [Nat.succ_mul]
      exact ckAdd_ok (Nat.succ_mul i g ▸ Nat.lt_of_le_of_lt (Nat.mul_le_mul_right g (show i + 1 ≤ 2^k by omega)) hg)
    have hgt : ∀ x : Nat, (x % 2 > 0) ↔ (x % 2 = 1) := by intro x; omega
    rw [GenG.galois_apply_loop1, List.range'_succ, List.foldlM_cons, gy_applyStep]
    simp only [if_pos hi.le, GenW.idx_getD a hi, GenW.ckShr_ok hk, Nat.shiftRight_eq_div_pow, R.ok_bind', Nat.and_two_pow_sub_one_eq_mod, Nat.and_one_is_mod, hgt, gw_negate_u64_mod_eq]
    cases (if i * g / 2^k % 2 = 1 then negateMod (a.getD i 0) m else pure (a.getD i 0) : R Nat) with
    | error e => rfl
    | ok v =>
      simp only [R.ok_bind', R.pure_eq', GenW.setIdx_ok res v hlt, hadd]
      exact ih (i + 1) _ (by omega) (by rw [List.length_set]; exact hlen)

/-- `GaloisTool::apply` (generated; tool fields `coeff_count = 2^k`, `coeff_count_power = k`, result buffer zero-initialised) =
    `galoisApply` of the hand model.  `2^k ≤ operand.len()`: the code reads `operand[i]` for every `i < 2^k` (its guard is
    `i <= operand.len()`, so a SHORTER operand panics at `i = len` where the model reads 0); `2^k·g < 2^64`: `index_raw += galois_elt`
    is overflow-checked. -/
theorem gy_galois_apply_eq (a : List Nat) (g : Nat) (m : Modulus) (k : Nat) (hk : k < 64) (ha : 2^k ≤ a.length)
    (hg : 2^k * g < 2^64) :
    GenG.galois_apply a g m (List.replicate (2^k) 0) (2^k) k = (galoisApply k a.toArray g m >>= fun r => pure r.toList) := by
  unfold GenG.galois_apply galoisApply
  simp only [ckSub_of_le (Nat.one_le_two_pow : 1 ≤ 2^k), R.ok_bind']
  have h0 := gy_apply_loop_eq a g m k hk ha hg (2^k) 0 (List.replicate (2^k) 0) (by omega) (by simp)
  rw [Nat.zero_mul] at h0
  rw [h0, List.range_eq_range']
  rw [← List.toArray_replicate]
  refine R.foldlM_toArray (gy_applyStep (2^k) a g m) _ ?_ (List.range' 0 (2^k)) (List.replicate (2^k) 0)
  intro res i
  have hget : a.toArray.getD i 0 = a.getD i 0 := by simp
  unfold gy_applyStep
  by_cases hodd : i * g / 2 ^ k % 2 = 1
  · simp only [hodd, if_true, hget]
    cases negateMod (a.getD i 0) m with
    | error e => rfl
    | ok v => simp only [R.ok_bind', R.pure_eq', List.setIfInBounds_toArray]
  · simp only [hodd, if_false, hget, R.ok_bind', R.pure_eq', List.setIfInBounds_toArray]

end

section
open HC.GenG Finset

/-- two runs of a loop `for i in l { res[pos i] = v i? }` from two buffers, in lock-step: same error, or results that agree wherever
    the buffers agreed (`P`) and on every position written.  Nothing is asked of `v` or `pos`.
    Induction on `l`, with `P` widened by the position just written.  These two lemmas are about the MODEL-side fold `foldlM … set`
    (what `gy_apply_loop_eq` reduces the loop to); `Loop.scatter` of GenLoop is about a generated loop and is another statement. -/
theorem scatter_lockstep {ι τ : Type} (v : ι → R τ) (pos : ι → Nat) :
    ∀ (l : List ι) (P : Nat → Prop) (res res' : List τ), res.length = res'.length → (∀ p, P p → res[p]? = res'[p]?) →
      (∃ e, l.foldlM (fun r i => v i >>= fun x => pure (r.set (pos i) x)) res = .error e ∧
            l.foldlM (fun r i => v i >>= fun x => pure (r.set (pos i) x)) res' = .error e) ∨
      (∃ r r', l.foldlM (fun r i => v i >>= fun x => pure (r.set (pos i) x)) res = .ok r ∧
               l.foldlM (fun r i => v i >>= fun x => pure (r.set (pos i) x)) res' = .ok r' ∧
        r.length = res.length ∧ r'.length = res'.length ∧ ∀ p, (P p ∨ ∃ i ∈ l, p = pos i) → r[p]? = r'[p]?) := by
  intro l
  induction l with
  | nil =>
    intro P res res' _ hP
    exact Or.inr ⟨res, res', rfl, rfl, rfl, rfl, fun p hp => hp.elim (hP p) (fun ⟨_, hi, _⟩ => absurd hi List.not_mem_nil)⟩
  | cons i tl ih =>
    intro P res res' hlen hP
    rw [List.foldlM_cons, List.foldlM_cons]
    cases v i with
    | error e => exact Or.inl ⟨e, rfl, rfl⟩
    | ok x =>
      simp only [R.ok_bind', R.pure_eq']
      have hP' : ∀ p, (P p ∨ p = pos i) → (res.set (pos i) x)[p]? = (res'.set (pos i) x)[p]? := by
        intro p hp
        rw [List.getElem?_set, List.getElem?_set, hlen]
        by_cases hq : pos i = p
        · rw [if_pos hq, if_pos hq]
        · rw [if_neg hq, if_neg hq]; exact hp.elim (hP p) (fun h => absurd h.symm hq)
      rcases ih (fun p => P p ∨ p = pos i) (res.set (pos i) x) (res'.set (pos i) x)
        (by rw [List.length_set, List.length_set]; exact hlen) hP' with ⟨e, h1, h2⟩ | ⟨r, r', h1, h2, h3, h4, h5⟩
      · exact Or.inl ⟨e, h1, h2⟩
      · refine Or.inr ⟨r, r', h1, h2, by rw [h3, List.length_set], by rw [h4, List.length_set], fun p hp => h5 p ?_⟩
        rcases hp with hp | ⟨j, hj, hpj⟩
        · exact Or.inl (Or.inl hp)
        · rcases List.mem_cons.mp hj with rfl | hj
          · exact Or.inl (Or.inr hpj)
          · exact Or.inr ⟨j, hj, hpj⟩

/-- if the positions written cover the buffer, the outcome does not depend on what the buffer held -/
theorem scatter_indep {ι τ : Type} (v : ι → R τ) (pos : ι → Nat) (l : List ι) (res res' : List τ) (hlen : res.length = res'.length)
    (hcov : ∀ p, p < res.length → ∃ i ∈ l, p = pos i) :
    l.foldlM (fun r i => v i >>= fun x => pure (r.set (pos i) x)) res = l.foldlM (fun r i => v i >>= fun x => pure (r.set (pos i) x)) res' := by
  rcases scatter_lockstep v pos l (fun _ => False) res res' hlen (fun _ hp => hp.elim) with ⟨e, h1, h2⟩ | ⟨r, r', h1, h2, h3, h4, h5⟩
  · rw [h1, h2]
  · rw [h1, h2]
    refine congrArg _ (List.ext_getElem? fun p => ?_)
    by_cases hp : p < res.length
    · exact h5 p (Or.inr (hcov p hp))
    · rw [List.getElem?_eq_none (by omega), List.getElem?_eq_none (by omega)]

/-- for odd `g`, every position `< 2^k` is `i·g mod 2^k` for some `i < 2^k` -/
theorem gz_surj {k g : Nat} (hodd : g % 2 = 1) (p : Nat) (hp : p < 2^k) : ∃ i, i < 2^k ∧ p = i * g % 2^k := by
  have h : p ∈ (range (2^k)).image (fun i => (i * g) % 2^k) := by
    rw [c04m_image_eq hodd]; exact Finset.mem_range.mpr hp
  obtain ⟨i, hi, hip⟩ := Finset.mem_image.mp h
  exact ⟨i, Finset.mem_range.mp hi, hip.symm⟩

/-- `GaloisTool::apply` (generated) with an ARBITRARY (dirty) result buffer of the right length, odd `galois_elt`:
    same outcome as the hand model `galoisApply` (which starts from zeros). -/
theorem gz_galois_apply_dirty (a : List Nat) (g : Nat) (m : Modulus) (k : Nat) (hk : k < 64) (ha : 2^k ≤ a.length)
    (hg : 2^k * g < 2^64) (hodd : g % 2 = 1) (res : List Nat) (hres : res.length = 2^k) :
    GenG.galois_apply a g m res (2^k) k = (galoisApply k a.toArray g m >>= fun r => pure r.toList) := by
  rw [← gy_galois_apply_eq a g m k hk ha hg]
  unfold GenG.galois_apply
  simp only [ckSub_of_le (Nat.one_le_two_pow : 1 ≤ 2^k), R.ok_bind']
  have h0 := gy_apply_loop_eq a g m k hk ha hg (2^k) 0 res (by omega) hres
  have h1 := gy_apply_loop_eq a g m k hk ha hg (2^k) 0 (List.replicate (2^k) 0) (by omega) (by simp)
  rw [Nat.zero_mul] at h0 h1
  rw [h0, h1]
  exact scatter_indep _ (fun i => i * g % 2^k) _ res _ (hres.trans (List.length_replicate ..).symm) (fun p hp => by
    obtain ⟨i, hi, hip⟩ := gz_surj hodd p (hres ▸ hp)
    exact ⟨i, List.mem_range'_1.mpr ⟨Nat.zero_le _, by omega⟩, hip⟩)

/-- index / sign rule of the generated `GaloisTool::apply` for any dirty result buffer -/
theorem gz_galois_apply_spec (a : List Nat) (g : Nat) (m : Modulus) (k : Nat) (hm : m.WF) (hk : k < 64)
    (ha : a.length = 2^k) (hg : 2^k * g < 2^64) (hodd : g % 2 = 1) (hlt : ∀ i, i < 2^k → a.getD i 0 < m.value)
    (res : List Nat) (hres : res.length = 2^k) :
    ∃ r : List Nat, GenG.galois_apply a g m res (2^k) k = .ok r ∧ r.length = 2^k ∧ ∀ i, i < 2^k →
      r.getD ((i * g) % 2^k) 0 = (if ((i * g) / 2^k) % 2 = 1 then (m.value - a.getD i 0) % m.value else a.getD i 0) := by
  have hget : ∀ i, a.toArray.getD i 0 = a.getD i 0 := by intro i; simp
  obtain ⟨r, h1, h2, h3⟩ := galoisApply_spec (k := k) (g := g) hm hodd (a := a.toArray) (by simpa using ha)
    (by intro i hi; rw [hget]; exact hlt i hi)
  refine ⟨r.toList, ?_, by simpa using h2, ?_⟩
  · rw [gz_galois_apply_dirty a g m k hk ha.ge hg hodd res hres, h1]; rfl
  · intro i hi
    have := h3 i hi
    rw [hget] at this
    rw [← this]
    simp

/-- the generated `GaloisTool::apply` (dirty result buffer, odd `g`) is the substitution `X ↦ X^g` modulo `X^N + 1` over
    `Z/q`: evaluating the output at any `x` with `x^N = -1` equals evaluating the operand at `x^g`. -/
theorem gz_galois_apply_subst (a : List Nat) (g : Nat) (m : Modulus) (k : Nat) (hm : m.WF) (hk : k < 64)
    (ha : a.length = 2^k) (hg : 2^k * g < 2^64) (hodd : g % 2 = 1) (hlt : ∀ i, i < 2^k → a.getD i 0 < m.value)
    (res : List Nat) (hres : res.length = 2^k) (x : ZMod m.value) (hx : x ^ (2^k) = -1) :
    ∃ r : List Nat, GenG.galois_apply a g m res (2^k) k = .ok r ∧ r.length = 2^k ∧
      ∑ j ∈ range (2^k), (r.getD j 0 : ZMod m.value) * x ^ j =
        ∑ i ∈ range (2^k), (a.getD i 0 : ZMod m.value) * (x ^ g) ^ i := by
  obtain ⟨r, h1, h2, h3⟩ := galoisApply_zmod (k := k) (g := g) hm hodd (a := a.toArray) (by simpa using ha)
    (fun i hi => by simpa using hlt i hi)
  refine ⟨r.toList, by rw [gz_galois_apply_dirty a g m k hk ha.ge hg hodd res hres, h1]; rfl, by simpa using h2, ?_⟩
  apply subst_eval hodd x hx (fun i => (a.getD i 0 : ZMod m.value)) (fun j => (r.toList.getD j 0 : ZMod m.value))
  intro i hi
  simpa using h3 i hi

/-- non-vacuity: N = 4, g = 3, q = 17, dirty buffer `[9,9,9,9]`: `1 + 2X + 3X^2 + 4X^3 ↦ 1 + 4X - 3X^2 + 2X^3` -/
example : GenG.galois_apply [1, 2, 3, 4] 3 ⟨17, (2^128 / 17) % B64, (2^128 / 17) / B64, 2^128 % 17, bitCount 17⟩
    [9, 9, 9, 9] (2^2) 2 = .ok [1, 4, 14, 2] := by decide

/-- `hodd` is needed: for even `g = 2` slots 1 and 3 are never written and keep the dirty contents -/
example : GenG.galois_apply [1, 2, 3, 4] 2 ⟨17, (2^128 / 17) % B64, (2^128 / 17) / B64, 2^128 % 17, bitCount 17⟩
    [9, 9, 9, 9] (2^2) 2 = .ok [14, 9, 13, 9] := by decide

end

end HC
