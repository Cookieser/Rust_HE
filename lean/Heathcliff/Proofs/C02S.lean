/- C02 / C03: the squaring routines of the MODEL (`bgvSquare`, `ckksSquare` — mirrors of `bgv_square` / `ckks_square` of
   src/evaluator.rs with their size-2 fast path `c0², c0·c1 + c0·c1, c1²`) ARE the products of the ciphertext with itself
   (`bgvMultiply l x x`, `ctMultiplyDyadic l x x`) on every canonical ciphertext; hence the `_spec` / `_phase` theorems of the
   product (Proofs/C02V.lean) transfer: phase(square x) = phase(x)².  Helper names carry the prefix `c02s_`. -/
import Heathcliff.Model.Evaluator
import Heathcliff.Proofs.C02V
namespace HC
open Finset

/-! ## canonical RNS polynomials are determined by their residues -/

theorem c02s_canon_ext {ms : Array Modulus} {n : Nat} {x y : RnsPoly} (hx : c02v_Canon ms n x) (hy : c02v_Canon ms n y)
    (h : ∀ i, i < ms.size → ∀ j, j < n → (x.getD i #[]).getD j 0 = (y.getD i #[]).getD j 0) : x = y := by
  apply array_eq_of_getD #[] (by rw [hx.1, hy.1])
  intro i hi
  rw [hx.1] at hi
  apply array_eq_of_getD 0 (by rw [(hx.2 i hi).1, (hy.2 i hi).1])
  intro j hj
  rw [(hx.2 i hi).1] at hj
  exact h i hi j hj

/-- adding to the zero accumulator (first step of the accumulation loop of the product) returns the canonical summand itself -/
theorem c02s_add_zero {ms : Array Modulus} {n : Nat} (hq : ∀ i, i < ms.size → (ms.getD i default).WF) {x : RnsPoly}
    (hx : c02v_Canon ms n x) : compsZip ms (Array.replicate ms.size (Array.replicate n 0)) x addMod = .ok x := by
  obtain ⟨z1, z2⟩ := c02v_zero_spec (n := n) hq
  obtain ⟨r, hr, cr, vr⟩ := c02v_add_spec hq z1 hx
  rw [hr]
  congr 1
  apply c02s_canon_ext cr hx
  intro i hi j hj
  rw [vr i hi j hj, z2 i hi j hj, Nat.zero_add]
  exact Nat.mod_eq_of_lt ((hx.2 i hi).2 j hj)

/-! ## the product of a size-2 ciphertext with itself, unfolded -/

theorem c02s_mulPairs_220 : mulPairs 2 2 0 = [(0, 0)] := by decide
theorem c02s_mulPairs_221 : mulPairs 2 2 1 = [(0, 1), (1, 0)] := by decide
theorem c02s_mulPairs_222 : mulPairs 2 2 2 = [(1, 1)] := by decide

/-- the size-2 fast path of the squaring routines in one family of moduli: `c0²`, `c0·c1 + c0·c1`, `c1²` -/
def c02s_sq (ms : Array Modulus) (X : Nat → RnsPoly) : R (List RnsPoly) := do
  let d0 ← compsZip ms (X 0) (X 0) mulMod
  let m ← compsZip ms (X 0) (X 1) mulMod
  let d1 ← compsZip ms m m addMod
  let d2 ← compsZip ms (X 1) (X 1) mulMod
  pure [d0, d1, d2]

/-- the tensor step of the product routines on (x, x) for two polynomials IS the fast path, on word-sized operands: the routine's
    `(0 + c0·c1) + c1·c0` and the fast path's `c0·c1 + c0·c1` agree as VALUES -/
theorem c02s_tensor_sq {ms : Array Modulus} {n : Nat} (hq : ∀ i, i < ms.size → (ms.getD i default).WF) (X : Nat → RnsPoly)
    (h0 : c02v_Bounded ms.size n (fun _ => 2^64) (X 0)) (h1 : c02v_Bounded ms.size n (fun _ => 2^64) (X 1)) :
    c02v_tensor 2 2 ms X X (Array.replicate ms.size (Array.replicate n 0)) = c02s_sq ms X := by
  obtain ⟨d0, e0, c0, _⟩ := c02v_dyadic_word hq h0 h0
  obtain ⟨m, em, cm, vm⟩ := c02v_dyadic_word hq h0 h1
  obtain ⟨m', em', cm', vm'⟩ := c02v_dyadic_word hq h1 h0
  obtain ⟨d2, e2, c2, _⟩ := c02v_dyadic_word hq h1 h1
  have hmm : m' = m := c02s_canon_ext cm' cm (fun i hi j hj => by
    rw [vm' i hi j hj, vm i hi j hj, Nat.mul_comm])
  subst hmm
  obtain ⟨d1, e1, _, _⟩ := c02v_add_spec hq cm' cm'
  unfold c02v_tensor c02s_sq
  have r3 : List.range (2 + 2 - 1) = [0, 1, 2] := by decide
  rw [r3]
  simp only [List.mapM_cons, List.mapM_nil, c02s_mulPairs_220, c02s_mulPairs_221, c02s_mulPairs_222, List.foldlM_cons,
    List.foldlM_nil, e0, em, em', e2, R.ok_bind', R.pure_eq', c02s_add_zero hq c0, c02s_add_zero hq cm',
    c02s_add_zero hq c2, e1]

/-- for a canonical NTT-form ciphertext of size 2 the four kernel calls of the fast path succeed, and the general product routine
    applied to (x, x) returns exactly their results -/
theorem c02s_dyadic_size2 {l : Level} (hq : c02v_QsWF l) {a : Ct} (ha : CtCanon l a) (hna : a.ntt = true)
    (hs : a.polys.size = 2) :
    ∃ d0 m d1 d2, rnsDyadic l (a.polys.getD 0 #[]) (a.polys.getD 0 #[]) = .ok d0 ∧
      rnsDyadic l (a.polys.getD 0 #[]) (a.polys.getD 1 #[]) = .ok m ∧ rnsAdd l m m = .ok d1 ∧
      rnsDyadic l (a.polys.getD 1 #[]) (a.polys.getD 1 #[]) = .ok d2 ∧
      ctMultiplyDyadic l a a = .ok { a with polys := #[d0, d1, d2] } := by
  have w0 := c02v_canon_word hq (ha.canon 0 (by omega))
  have w1 := c02v_canon_word hq (ha.canon 1 (by omega))
  obtain ⟨d0, h0, _, _⟩ := c02v_dyadic_word hq w0 w0
  obtain ⟨m, hm, cm, _⟩ := c02v_dyadic_word hq w0 w1
  obtain ⟨d2, h2, _, _⟩ := c02v_dyadic_word hq w1 w1
  obtain ⟨d1, h1, _, _⟩ := c02v_add_spec hq cm cm
  refine ⟨d0, m, d1, d2, h0, hm, h1, h2, ?_⟩
  rw [c02v_ctMultiplyDyadic_eq, if_neg (by simp [hna]), hs, if_neg (by omega), if_neg (by decide),
    c02s_tensor_sq (ms := l.qs) (n := l.n) hq (fun k => a.polys.getD k #[]) w0 w1]
  simp only [c02s_sq, h0, hm, h1, h2, R.ok_bind', R.pure_eq']

/-! ## Property theorems -/

/-- CKKS: `ckksSquare` — the model of `ckks_square`: fast path for size 2, `ckks_multiply(x, x.clone())` otherwise — IS the dyadic
    product of the ciphertext with itself, for EVERY canonical ciphertext (all sizes 2..16, both representations: a coefficient-form
    operand and a result size 2n − 1 > 16, i.e. n > 8, are refused by both sides) -/
theorem ckksSquare_eq {l : Level} (hq : c02v_QsWF l) {a : Ct} (ha : CtCanon l a) :
    ckksSquare l a = ctMultiplyDyadic l a a := by
  unfold ckksSquare
  by_cases hna : a.ntt = true
  · rw [if_neg (by simp [hna])]
    by_cases hs : a.polys.size = 2
    · rw [if_neg (by simp [hs])]
      obtain ⟨d0, m, d1, d2, h0, hm, h1, h2, hmul⟩ := c02s_dyadic_size2 hq ha hna hs
      rw [hmul, if_neg (by rw [hs]; decide)]
      simp only [h0, hm, h1, h2, R.ok_bind', R.pure_eq']
    · rw [if_pos hs]
  · rw [if_pos (by simpa using hna), ctMultiplyDyadic_refuse l a a (Or.inl (by simpa using hna))]

/-- BGV: `bgvSquare` — the model of `bgv_square` — IS `bgvMultiply l x x`, for EVERY canonical ciphertext (sizes 2..16, either
    representation; refusals included: coefficient form, result size 2n − 1 > 16).  Hypotheses: the moduli are well-formed word moduli
    (`c02v_QsWF`: what `Modulus::new` builds — Barrett reduction is exact) and the ciphertext is canonical (`CtCanon`: what `is_valid_for`
    establishes), because the fast path computes `c0·c1 + c0·c1` where the product routine computes `(0 + c0·c1) + c1·c0`: the two agree
    as VALUES only on reduced residues and equal component lengths. -/
theorem bgvSquare_eq {l : Level} (hq : c02v_QsWF l) {a : Ct} (ha : CtCanon l a) :
    bgvSquare l a = bgvMultiply l a a := by
  unfold bgvSquare
  by_cases hna : a.ntt = true
  · rw [if_neg (by simp [hna])]
    by_cases hs : a.polys.size = 2
    · rw [if_neg (by simp [hs])]
      obtain ⟨d0, m, d1, d2, h0, hm, h1, h2, hmul⟩ := c02s_dyadic_size2 hq ha hna hs
      unfold bgvMultiply
      rw [hmul, if_neg (by rw [hs]; decide)]
      simp only [h0, hm, h1, h2, R.ok_bind', R.pure_eq']
    · rw [if_pos hs]
  · rw [if_pos (by simpa using hna), bgvMultiply_refuse l a a (Or.inl (by simpa using hna))]

/-- refusals of the squares: coefficient form -/
theorem ckksSquare_refuse (l : Level) (a : Ct) (h : a.ntt = false) : ckksSquare l a = .error .refused := by
  unfold ckksSquare
  rw [if_pos (by simp [h])]

/-- refusals: coefficient form; more than 8 polynomials (result size > 16), whatever the data are -/
theorem bgvSquare_refuse (l : Level) (a : Ct) (h : a.ntt = false) : bgvSquare l a = .error .refused := by
  unfold bgvSquare
  rw [if_pos (by simp [h])]

/-- refusals of the squares: more than 8 polynomials (the result would have 2n − 1 > 16), whatever the data are -/
theorem ckksSquare_refuse_size (l : Level) (a : Ct) (h : 8 < a.polys.size) : ckksSquare l a = .error .refused := by
  unfold ckksSquare
  split
  · rfl
  · rw [if_pos (by omega)]
    exact ctMultiplyDyadic_refuse_size l a a ((ctResizeRefuses_eq_true_iff _).mpr (Or.inr (by omega)))

theorem bgvSquare_refuse_size (l : Level) (a : Ct) (h : 8 < a.polys.size) : bgvSquare l a = .error .refused := by
  unfold bgvSquare
  split
  · rfl
  · rw [if_pos (by omega)]
    unfold bgvMultiply
    rw [ctMultiplyDyadic_refuse_size l a a ((ctResizeRefuses_eq_true_iff _).mpr (Or.inr (by omega)))]
    rfl

/-- residues (CKKS): the square of a canonical NTT-form ciphertext of size n ≤ 8 succeeds, has 2n − 1 canonical polynomials, and
    residue (i, j) of polynomial k is Σ_{x + y = k} a_x[i][j] · a_y[i][j] mod q_i -/
theorem ckksSquare_spec {l : Level} (hq : c02v_QsWF l) {a : Ct} (ha : CtCanon l a) (hna : a.ntt = true) (h8 : a.polys.size ≤ 8) :
    ∃ r, ckksSquare l a = .ok r ∧ r.polys.size = 2 * a.polys.size - 1 ∧ r.ntt = true ∧ r.cf = a.cf ∧ CtCanon l r ∧
      ∀ k, k < 2 * a.polys.size - 1 → ∀ i, i < l.size → ∀ j, j < l.n →
        r.c02v_res k i j = ((mulPairs a.polys.size a.polys.size k).map (fun p => a.c02v_res p.1 i j * a.c02v_res p.2 i j)).sum
          % (l.q i).value := by
  obtain ⟨r, hr, hsz, hn, hcf, _, hcan, hres⟩ := ctMultiplyDyadic_spec hq ha ha hna hna (by omega)
  refine ⟨r, by rw [ckksSquare_eq hq ha]; exact hr, by omega, hn, hcf, hcan (by omega), fun k hk => hres k (by omega)⟩

/-- phase (CKKS): in every commutative ring in which `q_i = 0`, NTT slots read through orthogonal idempotents `e`,
    phase(square x) = phase(x)², for every secret `s` -/
theorem ckksSquare_phase {S : Type} [CommRing S] {l : Level} (hq : c02v_QsWF l) {a r : Ct} (ha : CtCanon l a)
    (hr : ckksSquare l a = .ok r)
    {i : Nat} (hi : i < l.size) (hS : (((l.q i).value : Nat) : S) = 0) (e : Nat → S)
    (he : ∀ j j', j < l.n → j' < l.n → e j * e j' = if j = j' then e j else 0) (s : S) :
    c02v_phase l r i e s = c02v_phase l a i e s ^ 2 := by
  rw [ckksSquare_eq hq ha] at hr
  rw [ctMultiplyDyadic_phase hq ha ha hr hi hS e he s, sq]

/-- BGV: the square succeeds on canonical BGV ciphertexts of size n ≤ 8 with unit correction factor; the result is canonical,
    carries the factor cf² mod t (again a unit), and its polynomial part is the dyadic square (`ckksSquare`, to which
    `ckksSquare_spec` applies) -/
theorem bgvSquare_spec {l : Level} (hq : c02v_QsWF l) (ht : l.t.WF) {a : Ct} (ha : CtCanon l a) (hna : a.ntt = true)
    (hs : l.scheme = .bgv) (h8 : a.polys.size ≤ 8) (c1 : Nat.Coprime a.cf l.t.value) :
    ∃ r c, bgvSquare l a = .ok r ∧ ckksSquare l a = .ok c ∧ r = { c with cf := (a.cf * a.cf) % l.t.value } ∧ CtCanon l r ∧
      Nat.Coprime r.cf l.t.value := by
  obtain ⟨c, hc, _⟩ := ctMultiplyDyadic_spec hq ha ha hna hna (by omega)
  obtain ⟨r, hr, hcan, hcf, hcop⟩ := bgvMultiply_canon hq ht ha ha hna hna hs (by omega) c1 c1
  have hfa := ha.cf
  unfold c02v_cfOk at hfa
  rw [hs] at hfa
  simp only at hfa
  have htlt := ht.lt
  have hr' := bgvMultiply_spec ht hc (show a.cf < 2^64 by omega) (show a.cf < 2^64 by omega)
  rw [hr] at hr'
  refine ⟨r, c, by rw [bgvSquare_eq hq ha]; exact hr, by rw [ckksSquare_eq hq ha]; exact hc, Except.ok.inj hr', hcan, hcop⟩

/-- phase (BGV): phase(square x) = phase(x)² in every commutative ring in which `q_i = 0`, for every secret -/
theorem bgvSquare_phase {S : Type} [CommRing S] {l : Level} (hq : c02v_QsWF l) {a r : Ct} (ha : CtCanon l a)
    (hr : bgvSquare l a = .ok r)
    {i : Nat} (hi : i < l.size) (hS : (((l.q i).value : Nat) : S) = 0) (e : Nat → S)
    (he : ∀ j j', j < l.n → j' < l.n → e j * e j' = if j = j' then e j else 0) (s : S) :
    c02v_phase l r i e s = c02v_phase l a i e s ^ 2 := by
  rw [bgvSquare_eq hq ha] at hr
  unfold bgvMultiply at hr
  cases hc : ctMultiplyDyadic l a a with
  | error err => rw [hc] at hr; cases hr
  | ok c =>
    rw [hc] at hr
    cases hm : mulMod a.cf a.cf l.t with
    | error err => simp only [hm, R.error_bind'] at hr; cases hr
    | ok f =>
      simp only [hm, R.ok_bind', R.pure_eq'] at hr
      obtain rfl := Except.ok.inj hr
      have := ctMultiplyDyadic_phase hq ha ha hc hi hS e he s
      rw [sq, ← this]
      rfl

/-- the correction factor of a successful BGV square is cf·cf mod t -/
theorem bgvSquare_cf {l : Level} (hq : c02v_QsWF l) (ht : l.t.WF) {a r : Ct} (ha : CtCanon l a) (hcf : a.cf < 2^64)
    (hr : bgvSquare l a = .ok r) : r.cf = (a.cf * a.cf) % l.t.value := by
  rw [bgvSquare_eq hq ha] at hr
  cases hc : ctMultiplyDyadic l a a with
  | error err => unfold bgvMultiply at hr; rw [hc] at hr; cases hr
  | ok c =>
    rw [bgvMultiply_spec ht hc hcf hcf] at hr
    obtain rfl := Except.ok.inj hr
    rfl

/-! ## non-vacuity: a size-2 (fast path) and a size-3 (fallback) canonical ciphertext on the example BGV level (two moduli 17, n = 2, t = 5) -/

/-- non-vacuity: the fast path (size 2 → 3, factor 2·2 mod 5 = 4) and the fallback (size 3 → 5) on the example BGV level -/
theorem c02s_witness_fast : ∃ r, bgvSquare c02v_exLevel c02v_exCt2 = .ok r ∧ r.polys.size = 3 ∧ r.cf = 4 ∧ CtCanon c02v_exLevel r := by
  obtain ⟨r, c, hr, hc, he, hcan, _⟩ := bgvSquare_spec c02v_exLevel_qsWF c02v_exT_wf c02v_exCt2_canon rfl rfl (by decide) (by decide)
  obtain ⟨c', hc', hsz, _⟩ := ckksSquare_spec c02v_exLevel_qsWF c02v_exCt2_canon rfl (by decide)
  rw [hc] at hc'
  obtain rfl := Except.ok.inj hc'
  refine ⟨r, hr, ?_, ?_, hcan⟩
  · rw [he]; exact hsz
  · rw [he]; rfl

theorem c02s_witness_fallback : ∃ r, bgvSquare c02v_exLevel c02v_exCt = .ok r ∧ r.polys.size = 5 ∧ r.cf = 4 := by
  obtain ⟨r, c, hr, hc, he, _, _⟩ := bgvSquare_spec c02v_exLevel_qsWF c02v_exT_wf c02v_exCt_canon rfl rfl (by decide) (by decide)
  obtain ⟨c', hc', hsz, _⟩ := ckksSquare_spec c02v_exLevel_qsWF c02v_exCt_canon rfl (by decide)
  rw [hc] at hc'
  obtain rfl := Except.ok.inj hc'
  refine ⟨r, hr, ?_, ?_⟩
  · rw [he]; exact hsz
  · rw [he]; rfl

end HC
