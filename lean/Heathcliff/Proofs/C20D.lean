/-
  C20D, RNS plaintexts (`RnspBatchEncoder`): evaluating component-wise (one BFV/BGV instance per plain modulus t_i) and merging with
  the CRT computes the operation modulo the product of the plain moduli.  The three theorems are about `RNSBase.decompose` /
  `RNSBase.compose` of one value and rest on the C10 theorems about `RNSBase`; the model's array versions `rnsSplit` / `rnsMerge`
  (`Model/Matmul.lean`) map these over a vector, and no theorem is stated about them.
-/
import Heathcliff.Model.Matmul
import Heathcliff.Proofs.C10H

namespace HC
open HC.MM

/-- **CRT for the RNS-plaintext wrapper.**  `op` is any operation compatible with reduction (sum, difference representative,
    product, ...).  Splitting `u`, `v` (`rns_decompose`), applying `op` modulo each `t_i` and merging (`rns_compose`) yields
    `op u v mod Π t_i` — for all `k`-word inputs (they need not be reduced) when there are at least two plain moduli: on a base of
    one modulus `decompose` returns its argument without reducing it (C10H, `decompose_spec_of`). -/
theorem c20_rnsp_crt {b : RNSBase} (hb : b.WF) (hk : 1 < b.size) (op : Nat → Nat → Nat)
    (hop : ∀ m x y, 0 < m → op (x % m) (y % m) % m = op x y % m)
    {u v : Nat} (hu : u < 2^(64 * b.size)) (hv : v < 2^(64 * b.size)) :
    ∃ ru rv, b.decompose u = .ok ru ∧ b.decompose v = .ok rv ∧
      ∀ rs : Array Nat, rs.size = b.size →
        (∀ i, i < b.size → rs.getD i 0 = op (ru.getD i 0) (rv.getD i 0) % (b.q i).value) →
        b.compose rs = .ok (op u v % b.prod) := by
  obtain ⟨ru, hru, _, hruv⟩ := decompose_spec_of hb hu (Or.inl hk)
  obtain ⟨rv, hrv, _, hrvv⟩ := decompose_spec_of hb hv (Or.inl hk)
  refine ⟨ru, rv, hru, hrv, ?_⟩
  intro rs hs hrs
  have hpos : ∀ i, i < b.size → 0 < (b.q i).value := fun i hi => by have := (hb.mwf i hi).two_le; omega
  obtain ⟨x, hx, hxlt, hxr⟩ := compose_spec hb hs (by
    intro i hi
    rw [hrs i hi]
    exact Nat.mod_lt _ (hpos i hi))
  have : x = op u v % b.prod := by
    apply crt_unique hb hxlt (Nat.mod_lt _ hb.prod_pos)
    intro i hi
    rw [hxr i hi, hrs i hi, hruv i hi, hrvv i hi, Nat.mod_mod, hop _ _ _ (hpos i hi),
      Nat.mod_mod_of_dvd _ (hb.q_dvd_prod hi)]
  rw [hx, this]

/-- the same for a unary operation (negation) -/
theorem c20_rnsp_crt1 {b : RNSBase} (hb : b.WF) (hk : 1 < b.size) (op : Nat → Nat)
    (hop : ∀ m x, 0 < m → op (x % m) % m = op x % m) {u : Nat} (hu : u < 2^(64 * b.size)) :
    ∃ ru, b.decompose u = .ok ru ∧
      ∀ rs : Array Nat, rs.size = b.size → (∀ i, i < b.size → rs.getD i 0 = op (ru.getD i 0) % (b.q i).value) →
        b.compose rs = .ok (op u % b.prod) := by
  obtain ⟨ru, _, hru, _, h⟩ := c20_rnsp_crt hb hk (fun x _ => op x) (fun m x _ hm => hop m x hm) hu hu
  exact ⟨ru, hru, h⟩

/-- split then merge is reduction modulo the product (values need not be reduced beforehand) -/
theorem c20_rnsp_split_merge {b : RNSBase} (hb : b.WF) (hk : 1 < b.size) {u : Nat} (hu : u < 2^(64 * b.size)) :
    ∃ ru, b.decompose u = .ok ru ∧ b.compose ru = .ok (u % b.prod) := by
  obtain ⟨ru, hru, hsz, hruv⟩ := decompose_spec_of hb hu (Or.inl hk)
  obtain ⟨ru', hru', h⟩ := c20_rnsp_crt1 hb hk (fun x => x) (fun m x _ => Nat.mod_mod _ _) hu
  rw [hru] at hru'
  cases hru'
  refine ⟨ru, hru, h ru hsz ?_⟩
  intro i hi
  have hpos : 0 < (b.q i).value := by have := (hb.mwf i hi).two_le; omega
  rw [hruv i hi, Nat.mod_mod]

end HC
