import Heathcliff.Gen.Word2Fns
import Heathcliff.Proofs.GenWordScalar

/-!
  Translator tie for `util::naf` (src/util/number_theory.rs; i32 arithmetic), generated into Gen/Word2Fns.lean
  (`GenW2.naf`, `GenW2.naf_loop1`), against `HC.naf` / `nafLoop` of Model/Word.lean.
  Helper names start with `gn_` (n for NAF; the `gn_` of GenRng is another family).  The literals `4294967296` = 2^32, `2147483648` = 2^31,
  `1073741824` = 2^30 are written out as the generated `i32` prelude (`asI32`, `ckI32`, `andI32`) has them.
-/
namespace HC
open HC.GenW2

theorem gn_toNat_mod (v : Nat) (hv : v < 2^31) : ((v : Int) % 4294967296).toNat = v := by omega

theorem gn_asI32_small (n : Nat) (hn : n < 2^31) : GenW2.asI32 n = (n : Int) := by
  unfold GenW2.asI32
  have : n % 4294967296 = n := Nat.mod_eq_of_lt (by omega)
  rw [this, if_pos (by omega)]; rfl

theorem gn_andI32_1 (v : Nat) (hv : v < 2^31) : GenW2.andI32 (v : Int) 1 = ((v % 2 : Nat) : Int) := by
  unfold GenW2.andI32
  rw [gn_toNat_mod v hv, show ((1 : Int) % 4294967296).toNat = 1 by decide, Nat.and_one_is_mod, gn_asI32_small _ (by omega)]

theorem gn_andI32_3 (v : Nat) (hv : v < 2^31) : GenW2.andI32 (v : Int) 3 = ((v % 4 : Nat) : Int) := by
  unfold GenW2.andI32
  rw [gn_toNat_mod v hv, show ((3 : Int) % 4294967296).toNat = 3 by decide,
    show (3 : Nat) = 2^2 - 1 by decide, Nat.and_two_pow_sub_one_eq_mod, gn_asI32_small _ (by omega)]

theorem gn_ckI32_ok (z : Int) (h1 : -(2^31 : Int) ≤ z) (h2 : z < 2^31) : GenW2.ckI32 z = .ok z := by
  unfold GenW2.ckI32; rw [if_pos ⟨h1, h2⟩]; rfl

/-- a digit `±1` at a bit position below 31 fits an `i32` -/
theorem gn_digit_ok (d : Int) (P : Nat) (hd : -1 ≤ d ∧ d ≤ 1) (hP : P ≤ 1073741824) : GenW2.ckI32 (d * (P : Int)) = .ok (d * (P : Int)) := by
  obtain rfl | rfl | rfl : d = -1 ∨ d = 0 ∨ d = 1 := by omega
  all_goals exact gn_ckI32_ok _ (by omega) (by omega)

theorem gn_shl_one (i : Nat) (hi : i ≤ 30) : GenW2.ckShlI32 1 (i : Int) = .ok ((2^i : Nat) : Int) := by
  unfold GenW2.ckShlI32
  have hp : 2^i ≤ 2^30 := Nat.pow_le_pow_right (by omega) hi
  rw [if_pos (by omega), show ((1 : Int) % 4294967296).toNat = 1 by decide, Int.toNat_natCast, Nat.one_mul,
    gn_asI32_small _ (by omega)]

/-- the model's digit at a non-zero `v`, and what is left after it: `(v - zi) / 2` -/
def gn_zi (v : Nat) : Int := if v % 2 = 1 then 2 - ((v % 4 : Nat) : Int) else 0
def gn_next (v : Nat) : Nat := if v % 4 = 3 then v / 2 + 1 else v / 2

theorem gn_zi_range (v : Nat) : -1 ≤ gn_zi v ∧ gn_zi v ≤ 1 := by unfold gn_zi; split <;> omega
theorem gn_next_eq (v : Nat) : ((v : Int) - gn_zi v) / 2 = gn_next v := by unfold gn_zi gn_next; split <;> split <;> omega
theorem gn_next_le (v : Nat) : gn_next v ≤ (v + 1) / 2 := by unfold gn_next; split <;> omega
theorem gn_next_pos (v : Nat) (h : 1 ≤ gn_next v) : 2 ≤ v := by unfold gn_next at h; split at h <;> omega

theorem gn_nafLoop_succ (fuel v i : Nat) (s : Bool) (acc : List Int) (hv : v ≠ 0) :
    nafLoop (fuel + 1) v i s acc =
      nafLoop fuel (gn_next v) (i + 1) s (if gn_zi v ≠ 0 then ((if s then -gn_zi v else gn_zi v) * ((2^i : Nat) : Int)) :: acc else acc) := by
  have e : (((v : Int) - gn_zi v) / 2).toNat = gn_next v := by rw [gn_next_eq]; rfl
  rw [nafLoop, if_neg hv, ← e]; rfl

theorem gn_nafLoop_acc : ∀ fuel v i s acc, nafLoop fuel v i s acc = acc.reverse ++ nafLoop fuel v i s [] := by
  intro fuel
  induction fuel with
  | zero => intro v i s acc; simp [nafLoop]
  | succ n ih =>
    intro v i s acc
    by_cases hv : v = 0
    · subst hv; simp [nafLoop]
    · rw [gn_nafLoop_succ _ _ _ _ _ hv, gn_nafLoop_succ _ _ _ _ _ hv]
      by_cases hz : gn_zi v ≠ 0
      · rw [if_pos hz, if_pos hz, ih _ _ _ (_ :: acc), ih _ _ _ [_]]; simp
      · rw [if_neg hz, if_neg hz]; exact ih _ _ _ _

/-- loop invariant: `V` = |value|; `v` = what is left at bit position `i` -/
def gn_Inv (V v i : Nat) : Prop := v * 2^i < V + 2^i ∧ (1 ≤ v → 2^i ≤ 2 * V)

theorem gn_Inv_bounds {V v i : Nat} (hV : V < 2^30) (h : gn_Inv V v i) (hv : 1 ≤ v) : v < 2^30 ∧ i ≤ 30 := by
  obtain ⟨h1, h2⟩ := h
  have h3 := h2 hv
  have hpos : 0 < 2^i := Nat.two_pow_pos i
  constructor
  · have : (v - 1) * 2^i < V := by
      have : (v - 1) * 2^i + 2^i = v * 2^i := by rw [← Nat.succ_mul]; congr 1; omega
      omega
    have : v - 1 ≤ (v - 1) * 2^i := Nat.le_mul_of_pos_right _ hpos
    omega
  · by_contra hc
    have : 2^31 ≤ 2^i := Nat.pow_le_pow_right (by omega) (by omega)
    omega

theorem gn_Inv_step {V v i : Nat} (h : gn_Inv V v i) : gn_Inv V (gn_next v) (i + 1) := by
  obtain ⟨h1, h2⟩ := h
  have hpos : 0 < 2^i := Nat.two_pow_pos i
  have hv' := gn_next_le v
  have h6 : 2^(i+1) = 2^i + 2^i := by rw [Nat.pow_succ]; omega
  refine ⟨?_, ?_⟩
  · have : gn_next v * 2^(i+1) ≤ (v + 1) / 2 * 2^(i+1) := Nat.mul_le_mul_right _ hv'
    have h4 : (v + 1) / 2 * 2^(i+1) ≤ (v + 1) * 2^i := by
      rw [Nat.pow_succ, ← Nat.mul_assoc, Nat.mul_right_comm]
      exact Nat.mul_le_mul_right _ (Nat.div_mul_le_self _ _)
    have h5 : (v + 1) * 2^i = v * 2^i + 2^i := by rw [Nat.succ_mul]
    omega
  · intro h
    have hv2 := gn_next_pos v h
    have : 2 * 2^i ≤ v * 2^i := Nat.mul_le_mul_right _ hv2
    omega

theorem gn_loop_eq (V : Nat) (hV : V < 2^30) (s : Bool) : ∀ fuel v i (res : List Int), gn_Inv V v i →
    GenW2.naf_loop1 res s fuel (v : Int) (i : Int) = .ok (res ++ nafLoop fuel v i s []) := by
  intro fuel
  induction fuel with
  | zero => intro v i res _; simp [GenW2.naf_loop1, nafLoop, R.pure_eq']
  | succ n ih =>
    intro v i res hinv
    by_cases hv0 : v = 0
    · subst hv0; simp [GenW2.naf_loop1, nafLoop, R.pure_eq']
    · have hv : 1 ≤ v := by omega
      obtain ⟨hvb, hib⟩ := gn_Inv_bounds hV hinv hv
      have hnext := gn_Inv_step hinv
      have hpos : ((v : Int) > 0) := by omega
      have hp : 2^i ≤ 1073741824 := Nat.pow_le_pow_right (by omega) hib
      have hzr := gn_zi_range v
      rw [GenW2.naf_loop1, gn_nafLoop_succ _ _ _ _ _ hv0, if_pos hpos, gn_andI32_1 v (by omega), gn_andI32_3 v (by omega)]
      have hzi : (if ((v % 2 : Nat) : Int) ≠ 0 then GenW2.ckI32 (2 - ((v % 4 : Nat) : Int)) else pure 0) = .ok (gn_zi v) := by
        unfold gn_zi
        by_cases hodd : v % 2 = 1
        · rw [if_pos (by omega), if_pos hodd, gn_ckI32_ok _ (by omega) (by omega)]
        · rw [if_neg (by omega), if_neg hodd]; rfl
      have hsub : GenW2.ckI32 ((v : Int) - gn_zi v) = .ok ((v : Int) - gn_zi v) := gn_ckI32_ok _ (by omega) (by omega)
      have hshr : GenW2.shrI32 ((v : Int) - gn_zi v) 1 = ((gn_next v : Nat) : Int) := gn_next_eq v
      have hinc : GenW2.ckI32 ((i : Int) + 1) = .ok (((i + 1 : Nat)) : Int) := by
        rw [gn_ckI32_ok _ (by omega) (by omega)]; rfl
      simp only [hzi, R.ok_bind', hsub, hshr]
      by_cases hz : gn_zi v ≠ 0
      · have hzc : gn_zi v = 1 ∨ gn_zi v = -1 := by omega
        have hsg : (if s = true then GenW2.ckI32 (-gn_zi v) else (Except.ok (gn_zi v) : R Int)) = .ok (if s = true then -gn_zi v else gn_zi v) := by
          cases s
          · rfl
          · simp only [if_true]; exact gn_ckI32_ok _ (by omega) (by omega)
        have hd := gn_digit_ok (if s = true then -gn_zi v else gn_zi v) (2^i) (by split <;> omega) hp
        simp only [if_pos hz, hsg, R.ok_bind', gn_shl_one i hib, hd, R.pure_eq', hinc]
        rw [ih _ _ _ hnext, gn_nafLoop_acc _ _ _ _ [_]]
        simp
      · simp only [if_neg hz, R.pure_eq', R.ok_bind', hinc]
        exact ih _ _ _ hnext

/-- `util::naf` (generated) = `HC.naf` of the hand model for `|value| < 2^30`.  The bound is where the two can part: the code computes the
    digit at position `i` as `±1 * (1_i32 << i)`; for `2^30 ≤ |value| < 2^31` a digit at `i = 31` can occur, where `1 << 31 = i32::MIN` (so
    `+2^31` becomes `-2^31`, and `-1 * i32::MIN` panics), whereas the model's `2^i` is unbounded.  Rotation steps are `< N/2 ≤ 2^16`. -/
theorem gn_naf_eq (value : Int) (h : value.natAbs < 2^30) : GenW2.naf value = HC.naf value := by
  unfold GenW2.naf HC.naf
  have habs : GenW2.ckI32 (Int.ofNat value.natAbs) = .ok ((value.natAbs : Nat) : Int) := gn_ckI32_ok _ (by simp only [Int.ofNat_eq_natCast]; omega) (by simp only [Int.ofNat_eq_natCast]; omega)
  rw [if_neg (by omega)]
  simp only [habs, R.ok_bind']
  have hinv : gn_Inv value.natAbs value.natAbs 0 := ⟨by omega, by intro _; omega⟩
  have := gn_loop_eq value.natAbs h (decide (value < 0)) 40 value.natAbs 0 [] hinv
  rw [Nat.cast_zero] at this
  rw [this]; simp [R.pure_eq']

/-- outside the range of `i32::abs`: `naf(i32::MIN)` panics in the code and is refused by the model -/
theorem gn_naf_min : GenW2.naf (-2147483648) = .error .overflow ∧ HC.naf (-2147483648) = .error .overflow := by
  constructor <;> decide

end HC
