/-
  Writers that also report `ErrorKind::Interrupted`: `write_all` retries, so a serializer whose scalar writers all use
  `write_all` behaves on an interrupting stream EXACTLY as on the underlying stream (refinement: erase the interrupts), for any
  finite set of interrupted calls; in particular it is still all-or-error, and total.  No Mathlib: stands on Sink and the model only.
-/
import Heathcliff.Proofs.Sink
namespace HC.Codec

theorem SinkI.write_cases (w : SinkI) (buf : Bytes) :
    (w.icalls ∈ w.intr ∧ w.write buf = (.error .interrupted, { w with icalls := w.icalls + 1 })) ∨
    (w.icalls ∉ w.intr ∧ ∃ n s', w.s.write buf = (.ok n, s') ∧ w.write buf = (.ok n, { w with s := s', icalls := w.icalls + 1 })) ∨
    (w.icalls ∉ w.intr ∧ ∃ e s', w.s.write buf = (.error e, s') ∧ w.write buf = (.error (.io e), { w with s := s', icalls := w.icalls + 1 })) := by
  by_cases h : w.icalls ∈ w.intr
  · left; exact ⟨h, by simp [SinkI.write, h]⟩
  · rcases hw : w.s.write buf with ⟨r, s'⟩
    cases r with
    | ok n => right; left; exact ⟨h, n, s', rfl, by simp [SinkI.write, h, hw]⟩
    | error e => right; right; exact ⟨h, e, s', rfl, by simp [SinkI.write, h, hw]⟩

theorem sinki_countP_step (l : List Nat) (c : Nat) (h : c ∈ l) :
    l.countP (fun i => decide (c + 1 ≤ i)) + 1 ≤ l.countP (fun i => decide (c ≤ i)) := by
  induction l with
  | nil => simp at h
  | cons a l ih =>
    have hmono : l.countP (fun i => decide (c + 1 ≤ i)) ≤ l.countP (fun i => decide (c ≤ i)) := by
      apply List.countP_mono_left
      intro x _ hx; simp only [decide_eq_true_eq] at hx ⊢; omega
    simp only [List.countP_cons, decide_eq_true_eq]
    rcases List.mem_cons.1 h with rfl | hm
    · simp only [Nat.le_refl, if_true]
      have : ¬ (c + 1 ≤ c) := by omega
      simp only [this, if_false]; omega
    · have := ih hm
      split <;> split <;> omega

/-- an interrupted call uses up one pending interrupt; any other call does not increase the count -/
theorem SinkI.pending_step_intr (w : SinkI) (h : w.icalls ∈ w.intr) :
    ({ w with icalls := w.icalls + 1 } : SinkI).pending + 1 ≤ w.pending := sinki_countP_step w.intr w.icalls h

theorem SinkI.pending_step_other (w : SinkI) (s' : Sink) :
    ({ w with s := s', icalls := w.icalls + 1 } : SinkI).pending ≤ w.pending := by
  unfold SinkI.pending
  apply List.countP_mono_left
  intro x _ hx; simp only [decide_eq_true_eq] at hx ⊢; omega

theorem SinkI.pending_le (w : SinkI) : w.pending ≤ w.intr.length := List.countP_le_length

/-- REFINEMENT (one `write_all`), both loops with explicit fuel: whenever each has enough fuel, the interrupting stream returns
    the result of the underlying stream, the underlying stream ends in the same state, the interrupt set is untouched.
    Two fuels because the loops take different numbers of rounds: an interrupted call burns one unit of `fuel` (the interrupting loop goes
    round again) and none of `fuel'` (the underlying stream is not called), every other call burns one of each; hence `fuel` must cover the
    bytes plus the `pending` interrupts, `fuel'` the bytes alone -/
theorem writeAllIFuel_erase (fuel : Nat) : ∀ (fuel' : Nat) (w : SinkI) (buf : Bytes), buf.length + w.pending ≤ fuel → buf.length ≤ fuel' →
    ∃ r w', writeAllFuel fuel' w.s buf = some r ∧ writeAllIFuel fuel w buf = some (r.1, w') ∧ w'.s = r.2 ∧ w'.intr = w.intr := by
  induction fuel with
  | zero =>
    intro fuel' w buf h _
    cases buf with
    | nil => exact ⟨(.ok (), w.s), w, by simp [writeAllFuel], by simp [writeAllIFuel], rfl, rfl⟩
    | cons b bs => simp at h
  | succ f ih =>
    intro fuel' w buf h h'
    cases buf with
    | nil => exact ⟨(.ok (), w.s), w, by simp [writeAllFuel], by simp [writeAllIFuel], rfl, rfl⟩
    | cons b bs =>
      rcases SinkI.write_cases w (b :: bs) with ⟨hi, hw⟩ | ⟨hi, n, s', hs, hw⟩ | ⟨hi, e, s', hs, hw⟩
      · have hp := SinkI.pending_step_intr w hi
        obtain ⟨r, w', h0, h1, h2, h3⟩ := ih fuel' { w with icalls := w.icalls + 1 } (b :: bs)
          (by simp only [List.length_cons] at h ⊢; omega) h'
        exact ⟨r, w', h0, by simp only [writeAllIFuel, hw]; exact h1, h2, h3⟩
      · have hp := SinkI.pending_step_other w s'
        cases fuel' with
        | zero => simp at h'
        | succ f' =>
          cases n with
          | zero =>
            exact ⟨(.error .writeZero, s'), { w with s := s', icalls := w.icalls + 1 }, by simp only [writeAllFuel, hs],
              by simp only [writeAllIFuel, hw], rfl, rfl⟩
          | succ m =>
            have hm : m + 1 ≤ (b :: bs).length := by
              rcases Sink.write_cases w.s (b :: bs) with ⟨_, hx⟩ | ⟨_, hx⟩
              · rw [hs] at hx; cases hx
              · rw [hs] at hx
                have := (Prod.mk.inj hx).1
                simp only [Except.ok.injEq] at this
                rw [this]; exact Nat.min_le_right _ _
            obtain ⟨r, w', h0, h1, h2, h3⟩ := ih f' { w with s := s', icalls := w.icalls + 1 } ((b :: bs).drop (m + 1))
              (by simp only [List.length_drop, List.length_cons] at h hm ⊢; omega)
              (by simp only [List.length_drop, List.length_cons] at h' hm ⊢; omega)
            exact ⟨r, w', by simp only [writeAllFuel, hs]; exact h0, by simp only [writeAllIFuel, hw]; exact h1, h2, h3⟩
      · cases fuel' with
        | zero => simp at h'
        | succ f' =>
          exact ⟨(.error e, s'), { w with s := s', icalls := w.icalls + 1 }, by simp only [writeAllFuel, hs],
            by simp only [writeAllIFuel, hw], rfl, rfl⟩

/-- `write_all` on an interrupting stream = `write_all` on the underlying stream, for ANY finite set of interrupted calls -/
theorem writeAllI_erase (w : SinkI) (buf : Bytes) :
    (writeAllI w buf).1 = (writeAll w.s buf).1 ∧ (writeAllI w buf).2.s = (writeAll w.s buf).2 ∧ (writeAllI w buf).2.intr = w.intr := by
  obtain ⟨r, w', h0, h1, h2, h3⟩ := writeAllIFuel_erase (buf.length + w.intr.length) buf.length w buf
    (by have := SinkI.pending_le w; omega) (Nat.le_refl _)
  have e : writeAllI w buf = (r.1, w') := by simp only [writeAllI, h1, Option.getD_some]
  have e' : writeAll w.s buf = r := by simp only [writeAll, h0, Option.getD_some]
  rw [e, e']
  exact ⟨rfl, h2, h3⟩

/-- the whole serializer: when every scalar writer uses `write_all`, interrupts are invisible — same result (count or error),
    same bytes on the underlying stream -/
theorem serializeI_erase (mode : SK → WMode) (hm : ∀ k, mode k = .writeAll) :
    ∀ (cs : List Chunk) (w : SinkI),
      ((serializeI mode cs w).1 = match (serialize mode cs w.s).1 with | .ok n => .ok n | .error e => .error (.io e)) ∧
      (serializeI mode cs w).2.s = (serialize mode cs w.s).2 ∧ (serializeI mode cs w).2.intr = w.intr := by
  intro cs
  induction cs with
  | nil => intro w; simp [serializeI, serialize]
  | cons c cs ih =>
    intro w
    obtain ⟨e1, e2, e3⟩ := writeAllI_erase w c.bytes
    rcases hI : writeAllI w c.bytes with ⟨rI, wI⟩
    rcases hS : writeAll w.s c.bytes with ⟨rS, sS⟩
    rw [hI, hS] at e1 e2
    rw [hI] at e3
    simp only at e1 e2 e3
    subst e1
    cases rI with
    | error e =>
      simp [serializeI, serialize, scalarWriteI, scalarWrite, hm, hI, hS, e2, e3]
    | ok u =>
      cases u
      obtain ⟨i1, i2, i3⟩ := ih wI
      rw [e2] at i1 i2
      rcases hI2 : serializeI mode cs wI with ⟨r2, w2⟩
      rcases hS2 : serialize mode cs sS with ⟨q2, s2⟩
      rw [hI2, hS2] at i1 i2
      rw [hI2] at i3
      simp only at i1 i2 i3
      cases q2 with
      | error e => simp only at i1; subst i1; simp [serializeI, serialize, scalarWriteI, scalarWrite, hm, hI, hS, hI2, hS2, i2, i3, e3]
      | ok n => simp only at i1; subst i1; simp [serializeI, serialize, scalarWriteI, scalarWrite, hm, hI, hS, hI2, hS2, i2, i3, e3]

/-- hence all-or-error also holds on interrupting streams -/
theorem serializeI_clean (mode : SK → WMode) (hm : ∀ k, mode k = .writeAll) (cs : List Chunk) (w : SinkI) :
    (∀ n, (serializeI mode cs w).1 = .ok n → n = (flat cs).length ∧ (serializeI mode cs w).2.s.out = w.s.out ++ flat cs) ∧
    (∀ e, (serializeI mode cs w).1 = .error e → ∃ j, j ≤ (flat cs).length ∧ (serializeI mode cs w).2.s.out = w.s.out ++ (flat cs).take j) := by
  obtain ⟨h1, h2, _⟩ := serializeI_erase mode hm cs w
  have hc := serialize_clean mode hm cs w.s
  rw [h2]
  refine ⟨fun n hn => ?_, fun e he => ?_⟩
  · rw [h1] at hn
    cases hr : (serialize mode cs w.s).1 with
    | ok k => rw [hr] at hn; simp only [Except.ok.injEq] at hn; subst hn; exact hc.1 k hr
    | error e => rw [hr] at hn; cases hn
  · rw [h1] at he
    cases hr : (serialize mode cs w.s).1 with
    | ok k => rw [hr] at he; cases he
    | error e' => exact hc.2 e' hr

/-- (`pinned_`: about the pinned Rust tree of DESIGN.md §0.4, whose scalar writers call `write`)  with `write` in place of `write_all`,
    `serializeI_erase` fails: an interrupted call surfaces as an error with nothing sent -/
theorem pinned_write_interrupt_witness :
    (serializeI (fun _ => .write) (u64C.chunks 578437695752307201) ⟨⟨[8], none, 0, []⟩, [0], 0⟩).1 = .error .interrupted := by rfl

end HC.Codec
