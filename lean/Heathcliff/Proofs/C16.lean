/- The generator of Model/Rng.lean as a cursor into the stream `xof seed 0 ++ xof seed 1 ++ …`: `Rep xof s off` says that the state `s` stands at
   offset `off` of the stream of its seed; every operation returns the next bytes of that stream and moves the cursor.  `fillBytes` is taken
   byte by byte (`readByte`, `fillBytes_succ`), whatever its chunking. -/
import Heathcliff.Model.Rng
import Heathcliff.Proofs.Base
namespace HC.Rng
open HC

variable {xof : Xof}

theorem bufSlice_zero (b : Array Nat) (p : Nat) : bufSlice b p 0 = [] := by simp [bufSlice]

theorem bufSlice_add (b : Array Nat) (p a c : Nat) :
    bufSlice b p (a + c) = bufSlice b p a ++ bufSlice b (p + a) c := by
  simp [bufSlice, List.range_add, List.map_append, List.map_map, Function.comp_def, Nat.add_assoc]

theorem bufSlice_one (b : Array Nat) (p : Nat) : bufSlice b p 1 = [b.getD p 0] := by
  simp [bufSlice, List.range_succ]

theorem bufSlice_length (b : Array Nat) (p n : Nat) : (bufSlice b p n).length = n := by simp [bufSlice]

theorem fillBytes_zero (s : St) : fillBytes xof s 0 = ([], s) := by rw [fillBytes]; simp

theorem fillBytes_unfold (s : St) {n : Nat} (h : n ≠ 0) :
    fillBytes xof s n =
      (bufSlice (preFill xof s).buffer (preFill xof s).pos (min n (BUF - (preFill xof s).pos)) ++
        (fillBytes xof { preFill xof s with pos := (preFill xof s).pos + min n (BUF - (preFill xof s).pos) }
          (n - min n (BUF - (preFill xof s).pos))).1,
       (fillBytes xof { preFill xof s with pos := (preFill xof s).pos + min n (BUF - (preFill xof s).pos) }
          (n - min n (BUF - (preFill xof s).pos))).2) := by
  rw [fillBytes]; simp [h]

/-- the step of the byte-wise view of `fillBytes` (`fillBytes_succ`) -/
def readByte (xof : Xof) (s : St) : Nat × St :=
  ((preFill xof s).buffer.getD (preFill xof s).pos 0, { preFill xof s with pos := (preFill xof s).pos + 1 })

theorem fillBytes_one (s : St) : fillBytes xof s 1 = ([(readByte xof s).1], (readByte xof s).2) := by
  have hp := preFill_pos_lt xof s
  rw [fillBytes_unfold s (by decide)]
  have h1 : min 1 (BUF - (preFill xof s).pos) = 1 := by omega
  rw [h1]; simp [fillBytes_zero, bufSlice_one, readByte]

theorem preFill_of_lt {s : St} (h : s.pos < BUF) : preFill xof s = s := by
  unfold preFill; rw [if_neg (by omega)]

theorem fillBytes_succ (s : St) (n : Nat) :
    fillBytes xof s (n + 1) =
      ((readByte xof s).1 :: (fillBytes xof (readByte xof s).2 n).1, (fillBytes xof (readByte xof s).2 n).2) := by
  have hp := preFill_pos_lt xof s
  rw [fillBytes_unfold s (by omega)]
  by_cases hn : n = 0
  · subst hn
    have h1 : min (0 + 1) (BUF - (preFill xof s).pos) = 1 := by omega
    rw [h1]; simp [fillBytes_zero, bufSlice_one, readByte]
  · by_cases hlast : (preFill xof s).pos + 1 = BUF
    · -- the byte read is the last one of the buffer
      have h1 : min (n + 1) (BUF - (preFill xof s).pos) = 1 := by omega
      rw [h1]
      have h2 : n + 1 - 1 = n := by omega
      rw [h2]; simp [bufSlice_one, readByte]
    · -- more bytes left in the buffer after this one
      have hlt : (readByte xof s).2.pos < BUF := by simp [readByte]; omega
      rw [fillBytes_unfold (readByte xof s).2 hn, preFill_of_lt hlt]
      have h3 : min (n + 1) (BUF - (preFill xof s).pos) = 1 + min n (BUF - (readByte xof s).2.pos) := by
        simp [readByte]; omega
      rw [h3, bufSlice_add, bufSlice_one]
      have h4 : n + 1 - (1 + min n (BUF - (readByte xof s).2.pos)) = n - min n (BUF - (readByte xof s).2.pos) := by omega
      rw [h4]
      simp [readByte, Nat.add_assoc]

theorem fillBytes_length (s : St) (n : Nat) : (fillBytes xof s n).1.length = n := by
  induction n generalizing s with
  | zero => simp [fillBytes_zero]
  | succ n ih => rw [fillBytes_succ]; simp [ih]

/-! ### the buffer only ever becomes a block of `xof`: what holds of every block is kept by every operation -/

section bufQ
variable (Q : Array Nat → Prop) (hx : ∀ seed c, Q (xof seed c))
include hx

theorem bufQ_preFill {s : St} (hs : Q s.buffer) : Q (preFill xof s).buffer := by
  unfold preFill; split
  · exact hx _ _
  · exact hs

theorem bufQ_fillBytes : ∀ (n : Nat) {s : St}, Q s.buffer → Q (fillBytes xof s n).2.buffer
  | 0, s, hs => by rw [fillBytes_zero]; exact hs
  | n + 1, s, hs => by rw [fillBytes_succ]; exact bufQ_fillBytes n (s := (readByte xof s).2) (bufQ_preFill Q hx hs)

theorem bufQ_nextWord (add mask w : Nat) {s : St} (hs : Q s.buffer) : Q (nextWord add mask w xof s).2.buffer := by
  unfold nextWord; simp only; split
  · exact hx _ _
  · exact hs

end bufQ

theorem BUF_eq : BUF = 4096 := rfl

/-- `s` is the state of a generator whose cursor stands at absolute offset `off` of the stream of `s.seed`:
    `off + BUF = k·BUF + pos`, the counter is `k` (mod 2^64) and the unread part of the buffer is the stream -/
structure Rep (xof : Xof) (s : St) (off : Nat) : Prop where
  pos_le : s.pos ≤ BUF
  cnt : ∃ k, off + BUF = k * BUF + s.pos ∧ s.counter = k % B64
  buf : ∀ i, s.pos ≤ i → i < BUF → s.buffer.getD i 0 = byteAt xof s.seed (off + (i - s.pos))

theorem rep_fromSeed (seed : Seed) : Rep xof (fromSeed seed) 0 where
  pos_le := by simp [fromSeed]
  cnt := ⟨0, by simp [fromSeed], by simp [fromSeed]⟩
  buf := by intro i h1 h2; simp [fromSeed] at h1; omega

theorem rep_refill {s : St} {off : Nat} (h : Rep xof s off) (hp : s.pos = BUF) : Rep xof (refill xof s) off := by
  obtain ⟨k, hk, hc⟩ := h.cnt
  -- the cursor stands at the end of block `k − 1`: `off = k·BUF`
  have hoff : off = k * BUF := Nat.add_right_cancel (hp ▸ hk)
  refine ⟨Nat.zero_le _, ⟨k + 1, by rw [Nat.succ_mul, hoff]; exact (Nat.add_zero _).symm, ?_⟩, ?_⟩
  · simp only [refill]; rw [hc, Nat.mod_add_mod]
  · intro i _ hi
    simp only [refill, byteAt, Nat.sub_zero]
    rw [hoff, Nat.add_comm, Nat.add_mul_div_right _ _ BUF_pos, Nat.add_mul_mod_self_right, Nat.div_eq_of_lt hi, Nat.mod_eq_of_lt hi,
      Nat.zero_add, hc]

theorem refill_seed (s : St) : (refill xof s).seed = s.seed := rfl

theorem rep_preFill {s : St} {off : Nat} (h : Rep xof s off) : Rep xof (preFill xof s) off := by
  unfold preFill
  by_cases hp : s.pos ≥ BUF
  · rw [if_pos hp]; exact rep_refill h (Nat.le_antisymm h.pos_le hp)
  · rw [if_neg hp]; exact h

theorem preFill_seed (s : St) : (preFill xof s).seed = s.seed := by
  unfold preFill; split <;> rfl

theorem rep_move {s : St} {off : Nat} (h : Rep xof s off) (d : Nat) (hd : s.pos + d ≤ BUF) :
    Rep xof { s with pos := s.pos + d } (off + d) := by
  obtain ⟨k, hk, hc⟩ := h.cnt
  refine ⟨hd, ⟨k, by simp only; omega, hc⟩, ?_⟩
  intro i h1 h2
  simp only at h1 ⊢
  rw [h.buf i (by omega) h2]
  congr 1; omega

theorem rep_readByte {s : St} {off : Nat} (h : Rep xof s off) :
    (readByte xof s).1 = byteAt xof s.seed off ∧ Rep xof (readByte xof s).2 (off + 1) ∧ (readByte xof s).2.seed = s.seed := by
  have h1 := rep_preFill h
  have hlt := preFill_pos_lt xof s
  refine ⟨?_, ?_, ?_⟩
  · simp only [readByte]
    rw [h1.buf _ (Nat.le_refl _) hlt, preFill_seed]; simp
  · exact rep_move h1 1 (by omega)
  · simp [readByte, preFill_seed]

theorem streamSlice_succ (seed : Seed) (a n : Nat) :
    streamSlice xof seed a (n + 1) = byteAt xof seed a :: streamSlice xof seed (a + 1) n := by
  simp [streamSlice, List.range_succ_eq_map, List.map_map, Function.comp_def, Nat.add_assoc, Nat.add_comm 1]

theorem rep_fillBytes {s : St} {off : Nat} (h : Rep xof s off) (n : Nat) :
    (fillBytes xof s n).1 = streamSlice xof s.seed off n ∧ Rep xof (fillBytes xof s n).2 (off + n) ∧
      (fillBytes xof s n).2.seed = s.seed := by
  induction n generalizing s off with
  | zero => simp [fillBytes_zero, streamSlice, h]
  | succ n ih =>
    obtain ⟨hb, hr, hs⟩ := rep_readByte h
    obtain ⟨i1, i2, i3⟩ := ih hr
    rw [fillBytes_succ, streamSlice_succ]
    refine ⟨?_, ?_, ?_⟩
    · simp only; rw [hb, i1, hs]
    · simp only; have e : off + (n + 1) = off + 1 + n := by omega
      rw [e]; exact i2
    · simp only; rw [i3, hs]

theorem foldr_congr_of_mem {α β : Type} (f g : α → β → β) (b : β) (l : List α) (h : ∀ a ∈ l, ∀ acc, f a acc = g a acc) :
    l.foldr f b = l.foldr g b := by
  induction l with
  | nil => rfl
  | cons a l ih =>
    rw [List.foldr_cons, List.foldr_cons, ih (fun k hk => h k (List.mem_cons_of_mem a hk)), h a List.mem_cons_self]

theorem rep_leRead {s : St} {off : Nat} (h : Rep xof s off) (w : Nat) (hw : s.pos + w ≤ BUF) :
    leRead s.buffer s.pos w = streamWord xof s.seed off w := by
  unfold leRead streamWord
  apply foldr_congr_of_mem
  intro k hk acc
  have hk' : k < w := List.mem_range.mp hk
  rw [h.buf (s.pos + k) (by omega) (by omega), show off + (s.pos + k - s.pos) = off + k by omega]

/-- the part of `nextWord` after the alignment -/
def takeWord (w : Nat) (xof : Xof) (s1 : St) : Nat × St :=
  (leRead (if s1.pos + w > BUF then refill xof s1 else s1).buffer (if s1.pos + w > BUF then refill xof s1 else s1).pos w,
   { (if s1.pos + w > BUF then refill xof s1 else s1) with pos := (if s1.pos + w > BUF then refill xof s1 else s1).pos + w })

theorem nextWord_eq (add mask w : Nat) (s : St) :
    nextWord add mask w xof s = takeWord w xof { s with pos := (s.pos + add) / (mask + 1) * (mask + 1) } := rfl

theorem rep_takeWord {s1 : St} {a : Nat} (h : Rep xof s1 a) (w : Nat) (hw : w ≤ BUF)
    (hfull : s1.pos + w > BUF → s1.pos = BUF) :
    (takeWord w xof s1).1 = streamWord xof s1.seed a w ∧ Rep xof (takeWord w xof s1).2 (a + w) ∧
      (takeWord w xof s1).2.seed = s1.seed := by
  by_cases hc : s1.pos + w > BUF
  · have hr := rep_refill h (hfull hc)
    have hw' : (refill xof s1).pos + w ≤ BUF := by simp [refill, hw]
    simp only [takeWord, if_pos hc]
    exact ⟨by rw [rep_leRead hr w hw']; rfl, rep_move hr w hw', rfl⟩
  · have hw' : s1.pos + w ≤ BUF := by omega
    simp only [takeWord, if_neg hc]
    exact ⟨rep_leRead h w hw', rep_move h w hw', trivial⟩

theorem roundUp_add_mul {m : Nat} (hm : 0 < m) (x q : Nat) : (x + m * q + (m - 1)) / m * m = (x + (m - 1)) / m * m + m * q := by
  rw [Nat.add_right_comm, Nat.add_mul_div_left _ _ hm, Nat.add_mul, Nat.mul_comm q m]

/-- `next_u32` / `next_u64` for any word size `m` that divides the buffer size: round the cursor up to a multiple of `m`, read `m` bytes
    little endian.  The buffer position and the stream offset differ by a multiple of `BUF`, hence of `m`, so they are rounded alike. -/
theorem rep_nextWord (m : Nat) (hm : 0 < m) (hdvd : m ∣ BUF) {s : St} {off : Nat} (h : Rep xof s off) :
    (nextWord (m - 1) (m - 1) m xof s).1 = streamWord xof s.seed ((off + (m - 1)) / m * m) m ∧
      Rep xof (nextWord (m - 1) (m - 1) m xof s).2 ((off + (m - 1)) / m * m + m) ∧ (nextWord (m - 1) (m - 1) m xof s).2.seed = s.seed := by
  obtain ⟨c, hc⟩ := hdvd
  obtain ⟨k, hk, _⟩ := h.cnt
  have hle := h.pos_le
  -- the same equation between the rounded values
  have hk' : (off + (m - 1)) / m * m + BUF = k * BUF + (s.pos + (m - 1)) / m * m := by
    have := congrArg (fun x => (x + (m - 1)) / m * m) hk
    simp only [hc] at this ⊢
    rw [roundUp_add_mul hm, Nat.add_comm (k * _), Nat.mul_comm k, Nat.mul_assoc, roundUp_add_mul hm, Nat.add_comm (_ / m * m) (m * (c * k))] at this
    rw [this, Nat.mul_comm k, Nat.mul_assoc]
  have up : s.pos ≤ (s.pos + (m - 1)) / m * m := by have := Nat.lt_div_mul_add (a := s.pos + (m - 1)) hm; omega
  have upB : (s.pos + (m - 1)) / m * m ≤ BUF := by
    have h0 : (m - 1) / m = 0 := Nat.div_eq_of_lt (by omega)
    have := Nat.mul_le_mul_right m (Nat.div_le_div_right (c := m) (Nat.add_le_add_right hle (m - 1)))
    rw [hc] at this ⊢
    rwa [Nat.add_comm (m * c), Nat.add_mul_div_left _ _ hm, h0, Nat.zero_add, Nat.mul_comm c] at this
  have hmv := rep_move h ((s.pos + (m - 1)) / m * m - s.pos) (by rw [Nat.add_sub_cancel' up]; exact upB)
  rw [Nat.add_sub_cancel' up, show off + ((s.pos + (m - 1)) / m * m - s.pos) = (off + (m - 1)) / m * m by omega] at hmv
  have e : nextWord (m - 1) (m - 1) m xof s = takeWord m xof { s with pos := (s.pos + (m - 1)) / m * m } := by
    rw [nextWord_eq, Nat.sub_add_cancel hm]
  rw [e]
  refine rep_takeWord hmv m (hc ▸ Nat.le_mul_of_pos_right m (Nat.pos_of_ne_zero fun h0 => by rw [h0, Nat.mul_zero] at hc; exact absurd hc (by decide))) ?_
  -- a multiple of `m` below `BUF = m·c` with less than `m` bytes left is `BUF`
  intro hgt
  simp only at hgt ⊢
  rw [hc] at hgt upB ⊢
  have : c ≤ (s.pos + (m - 1)) / m := Nat.le_of_lt_succ (Nat.lt_of_mul_lt_mul_right (a := m) (by rw [Nat.succ_mul, Nat.mul_comm c]; exact hgt))
  exact Nat.le_antisymm upB (by rw [Nat.mul_comm m c]; exact Nat.mul_le_mul_right m this)

theorem rep_nextU32 {s : St} {off : Nat} (h : Rep xof s off) :
    (nextU32 xof s).1 = streamWord xof s.seed ((off + 3) / 4 * 4) 4 ∧
      Rep xof (nextU32 xof s).2 ((off + 3) / 4 * 4 + 4) ∧ (nextU32 xof s).2.seed = s.seed :=
  rep_nextWord 4 (by decide) ⟨1024, rfl⟩ h

theorem rep_nextU64 {s : St} {off : Nat} (h : Rep xof s off) :
    (nextU64 xof s).1 = streamWord xof s.seed ((off + 7) / 8 * 8) 8 ∧
      Rep xof (nextU64 xof s).2 ((off + 7) / 8 * 8 + 8) ∧ (nextU64 xof s).2.seed = s.seed :=
  rep_nextWord 8 (by decide) ⟨512, rfl⟩ h

theorem rep_step {s : St} {off : Nat} (h : Rep xof s off) (o : Op) :
    (step xof s o).1 = (cursorStep xof s.seed off o).1 ∧ Rep xof (step xof s o).2 (cursorStep xof s.seed off o).2 ∧
      (step xof s o).2.seed = s.seed := by
  cases o with
  | fill n => obtain ⟨a, b, c⟩ := rep_fillBytes h n; exact ⟨by simp [step, cursorStep, a], b, c⟩
  | u32 => obtain ⟨a, b, c⟩ := rep_nextU32 h; exact ⟨by simp [step, cursorStep, a], b, c⟩
  | u64 => obtain ⟨a, b, c⟩ := rep_nextU64 h; exact ⟨by simp [step, cursorStep, a], b, c⟩

theorem rep_run {s : St} {off : Nat} (h : Rep xof s off) (ops : List Op) :
    (run xof s ops).1 = (cursorRun xof s.seed off ops).1 ∧ Rep xof (run xof s ops).2 (cursorRun xof s.seed off ops).2 := by
  induction ops generalizing s off with
  | nil => exact ⟨rfl, h⟩
  | cons o os ih =>
    obtain ⟨a, b, c⟩ := rep_step h o
    obtain ⟨i1, i2⟩ := ih b
    simp only [run, cursorRun]
    rw [c] at i1 i2
    exact ⟨by rw [a, i1], i2⟩

/-- `xof seed 0 ++ xof seed 1 ++ … ++ xof seed (k-1)` -/
def blocksConcat (xof : Xof) (seed : Seed) (k : Nat) : List Nat := (List.range k).flatMap fun c => (xof seed c).toList

theorem blocksConcat_succ (seed : Seed) (k : Nat) :
    blocksConcat xof seed (k + 1) = blocksConcat xof seed k ++ (xof seed k).toList := by
  simp [blocksConcat, List.range_succ, List.flatMap_append]

theorem blocksConcat_length (seed : Seed) (hsz : ∀ c, (xof seed c).size = BUF) (k : Nat) :
    (blocksConcat xof seed k).length = k * BUF := by
  induction k with
  | zero => simp [blocksConcat]
  | succ k ih => rw [blocksConcat_succ, List.length_append, ih, Array.length_toList, hsz]; rw [Nat.succ_mul]

theorem blocksConcat_getD (seed : Seed) (hsz : ∀ c, (xof seed c).size = BUF) (k : Nat) (hk : k ≤ B64) (i : Nat)
    (hi : i < k * BUF) : (blocksConcat xof seed k).getD i 0 = byteAt xof seed i := by
  induction k with
  | zero => omega
  | succ k ih =>
    have hl := blocksConcat_length (xof := xof) seed hsz k
    rw [blocksConcat_succ]
    by_cases hlt : i < k * BUF
    · rw [list_getD_append_left _ _ 0 (hl ▸ hlt)]
      exact ih (Nat.le_of_succ_le hk) hlt
    · have h1 : i / BUF = k := Nat.div_eq_of_lt_le (Nat.le_of_not_lt hlt) hi
      rw [list_getD_append_right _ _ 0 (by rw [hl]; omega), hl, byteAt, h1, Nat.mod_eq_of_lt hk, Nat.mod_def, h1, Nat.mul_comm BUF k,
        ← array_getD_toList]

theorem streamSlice_eq_take (seed : Seed) (hsz : ∀ c, (xof seed c).size = BUF) (k : Nat) (hk : k ≤ B64) (n : Nat)
    (hn : n ≤ k * BUF) : streamSlice xof seed 0 n = (blocksConcat xof seed k).take n := by
  refine list_eq_of_getD 0 (by simp [streamSlice, blocksConcat_length seed hsz, Nat.min_eq_left hn]) fun i hi => ?_
  rw [streamSlice, List.length_map, List.length_range] at hi
  rw [list_getD_take _ 0 hi, blocksConcat_getD seed hsz k hk i (by omega), streamSlice, list_getD_range_map _ 0 hi, Nat.zero_add]
/-! ### `x & !m` as coded = rounding down to a multiple of `m + 1` (the form used in the model) -/

theorem and_not_mask (k : Nat) (x : Nat) (hx : x < 2^64) :
    x &&& ((2^(64-k) - 1) * 2^k) = x / 2^k * 2^k := by
  apply Nat.eq_of_testBit_eq
  intro i
  rw [Nat.testBit_and, Nat.testBit_mul_two_pow, Nat.testBit_mul_two_pow, Nat.testBit_div_two_pow, Nat.testBit_two_pow_sub_one]
  by_cases h1 : k ≤ i
  · have e : i - k + k = i := by omega
    by_cases h2 : i < 64
    · have : i - k < 64 - k := by omega
      simp [h1, this, e]
    · have : x < 2 ^ i := Nat.lt_of_lt_of_le hx (Nat.pow_le_pow_right (by decide) (by omega))
      have hb := Nat.testBit_lt_two_pow this
      simp [hb, e]
  · simp [h1]

/-- `(pos + 3) & !3` on a 64-bit `usize` -/
theorem align4_as_coded (x : Nat) (hx : x < 2^64) : x &&& (2^64 - 1 - Gen.U32_ALIGN_MASK) = x / (Gen.U32_ALIGN_MASK + 1) * (Gen.U32_ALIGN_MASK + 1) :=
  and_not_mask 2 x hx

/-- `(pos + 7) & !7` on a 64-bit `usize` -/
theorem align8_as_coded (x : Nat) (hx : x < 2^64) : x &&& (2^64 - 1 - Gen.U64_ALIGN_MASK) = x / (Gen.U64_ALIGN_MASK + 1) * (Gen.U64_ALIGN_MASK + 1) :=
  and_not_mask 3 x hx

end HC.Rng
