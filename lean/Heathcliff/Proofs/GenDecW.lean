/-
  Witnesses (non-vacuity) for the decryptor theorems of GenDecBgv, GenDecPlan, GenDecBudget: a COMPOSITE plain modulus t = 12 with
  correction factor 5; concrete runs of the norm, of the budget tail and of the composition theorem; the dot-product plan.
-/
import Heathcliff.Proofs.GenDecBgv
import Heathcliff.Proofs.GenDecPlan
import Heathcliff.Proofs.GenDecBudget
namespace HC
open HC.GenDec

def gd_m12 : Modulus := ⟨12, 6148914691236517205, 1537228672809129301, 4, 4⟩
theorem gd_m12_mk : Modulus.mk? 12 = .ok gd_m12 := by rfl
theorem gd_m12_wf : gd_m12.WF := (Modulus.mk?_wf gd_m12_mk (by decide)).1

/-- composite t = 12, cf = 5 (5·5 = 25 = 1 mod 12; Fermat's 5^(t-2) = 5^10 = 1 mod 12 would be WRONG): the generated `bgv_decrypt`
    skeleton on `decrypt_mod_t` output [1, 2, 3, 11, 0, 0, 0, 0] multiplies by 5 and trims to 4 coefficients -/
theorem gd_bgv_witness :
    dec_bgv_decrypt true 8 2 5 gd_m12 [1, 2, 3, 11, 0, 0, 0, 0] [] [] = .ok ([5, 10, 3, 7], [1, 2, 3]) := by decide +kernel

/-- the hypotheses of `gd_bgvFixup_spec` are satisfiable at the composite modulus -/
theorem gd_bgvFixup_witness : ∃ inv, inv < 12 ∧ (inv * 5) % 12 = 1 ∧
    bgvFixupL 5 gd_m12 [1, 2, 3, 11] = .ok ([1, 2, 3, 11].map (fun x => (x * inv) % 12)) :=
  gd_bgvFixup_spec gd_m12 gd_m12_wf (by decide) (by decide) 5 (by decide) (by decide) (by decide) _ (by decide)

/-- budget tail at a concrete two-word modulus Q = 2^64 + 13 (65 bits), composed noise 5 and Q - 3 (norm 5, 3 bits): budget 65 - 3 - 1 = 61 -/
theorem gd_budget_witness :
    dec_invariant_noise_budget true 2 .bgv false 2 2 [13, 1] 65 [5, 0, 10, 1] [] = .ok ([1, 3], 61) := by decide +kernel

/-- concrete run (Q = 7, threshold 4): coefficients 4, 1, 6, 3 have centred absolute values 3, 1, 1, 3 (the coefficient EQUAL to the threshold is lifted) -/
theorem gd_norm_witness : poly_infty_norm [4, 1, 6, 3] 1 [7] [0] = .ok [3] := by decide

/-- the hypotheses of `gd_budget_source_spec_full` are satisfiable: two-word Q = 2^64 + 13, two coefficients 5 and Q - 3 -/
theorem gd_budget_source_witness :
    dec_invariant_noise_budget true 2 .bgv false 2 2 [13, 1] 65 [5, 0, 10, 1] [] =
      .ok ([] ++ [1] ++ (if Scheme.bgv = .bfv then [2] else []) ++ [3],
           budgetOfBits 65 (bitCount (normFoldV (toNat [13, 1]) ((toNat [13, 1] + 1) / 2)
             ((List.range' 0 2).map (fun j => toNat (coefW [5, 0, 10, 1] 2 j))) 0))) :=
  gd_budget_source_spec_full 2 .bgv 2 2 [13, 1] 65 [5, 0, 10, 1] [] (by decide) (Or.inr rfl) (by decide) (by decide)
    (by unfold Limbs; decide) rfl (by unfold Limbs; decide) rfl (by decide) (by decide) (by decide)

/-- size 3, NTT form, n = 4, level of 1 prime under a KEY level of 2 primes: the second key power is read at offset 1·(4·2) = 8 (not 4) -/
theorem gd_dot_plan_witness :
    dec_dot_product_plan (List.replicate 12 0) 3 true 4 1 2 [] =
      .ok [100, 2, 20, 0, 4, 0, 4, 20, 4, 8, 8, 12, 22, 23, 0, 4, 23, 4, 8, 25] := by decide +kernel

/-- size 2, coefficient form: copy c1, NTT, multiply by the key, inverse NTT, add c0 -/
theorem gd_dot_plan_witness2 :
    dec_dot_product_plan (List.replicate 8 0) 2 false 4 1 2 [] = .ok [100, 1, 12, 13, 14, 15, 11] := by decide +kernel

/-- the hypotheses of `gd_dot_product_plan_eq` are satisfiable (size 16) -/
theorem gd_dot_plan_witness16 :
    dec_dot_product_plan (List.replicate (16 * (8 * 3)) 0) 16 false 8 3 5 [] = .ok ([] ++ dotPlanModel 16 false 8 3 5) :=
  gd_dot_product_plan_eq _ 16 false 8 3 5 [] (by decide) (by decide) (by rw [List.length_replicate]) (by decide) (by decide) (by decide)

/-- witness: BFV decryption of 8 coefficients [3, 0, 7, 0, 0, 0, 0, 0] is trimmed to 3 -/
theorem gd_bfv_witness : dec_bfv_decrypt false 8 2 [3, 0, 7, 0, 0, 0, 0, 0] [] [] = .ok ([3, 0, 7], [1, 4]) := by decide +kernel

end HC
