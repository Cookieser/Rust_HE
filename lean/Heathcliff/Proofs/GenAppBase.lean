/-
  Generic facts about the prelude of the app-mode files (Gen/AppPrelude.lean): the loop combinators
  `forUp` / `forDown` with `Ctl`, and the checked primitives.  Imports NO generated function file, so that the proofs about
  src/app/lwe.rs, src/batch_encoder.rs and src/app/{matmul,conv2d} depend only on their own generated file.  Helper prefix `ga_`.
-/
import Heathcliff.Gen.AppPrelude
import Heathcliff.Proofs.GenLoop

namespace HC
open HC.GenApp

/-- a `for lo..lo+k` loop whose body never fails and either breaks at an index from which on the model step is the identity, or
    performs the model step: the loop computes the model's fold (state related through `e`) -/
theorem ga_forUp_eq {σ τ : Type} (e : τ → σ) (g : τ → Nat → τ) (P : Nat → Prop) (f : Nat → σ → R (Ctl σ))
    (hmono : ∀ j, P j → P (j+1)) (hskip : ∀ j t, P j → g t j = t) :
    ∀ (k lo : Nat) (t : τ),
    (∀ j t, lo ≤ j → j < lo + k → (P j ∧ f j (e t) = .ok (.brk (e t))) ∨ f j (e t) = .ok (.next (e (g t j)))) →
    forUp lo k (e t) f = .ok (e ((List.range' lo k).foldl g t)) := by
  intro k
  induction k with
  | zero => intro lo t _; simp [forUp, pure, Except.pure]
  | succ k ih =>
    intro lo t h
    have hP : ∀ (k' lo' : Nat) (t' : τ), P lo' → (List.range' lo' k').foldl g t' = t' := by
      intro k'
      induction k' with
      | zero => intro lo' t' _; simp
      | succ k' ih' =>
        intro lo' t' hp
        rw [List.range'_succ, List.foldl_cons, hskip lo' t' hp]
        exact ih' (lo'+1) t' (hmono lo' hp)
    rw [List.range'_succ, List.foldl_cons]
    rcases h lo t (Nat.le_refl _) (by omega) with ⟨hp, hb⟩ | hn
    · rw [hskip lo t hp, hP k (lo+1) t (hmono lo hp)]
      simp [forUp, hb, pure, Except.pure]
    · have := ih (lo+1) (g t lo) (fun j t' h1 h2 => h j t' (by omega) (by omega))
      simp only [forUp, hn]
      exact this

/-- a reversed `for` loop without `break` whose body performs the model step: the model's fold over `lo+k-1, …, lo` -/
theorem ga_forDown_eq {σ τ : Type} (e : τ → σ) (g : τ → Nat → τ) (f : Nat → σ → R (Ctl σ)) (lo : Nat) :
    ∀ (k : Nat) (t : τ),
    (∀ j t, lo ≤ j → j < lo + k → f j (e t) = .ok (.next (e (g t j)))) →
    forDown lo k (e t) f = .ok (e (((List.range k).reverse.map (· + lo)).foldl g t)) := by
  intro k
  induction k with
  | zero => intro t _; simp [forDown, pure, Except.pure]
  | succ k ih =>
    intro t h
    have h0 := h (lo + k) t (by omega) (by omega)
    have := ih (g t (lo + k)) (fun j t' h1 h2 => h j t' h1 (by omega))
    simp only [forDown, h0]
    rw [this, List.range_succ, List.reverse_append]
    simp [Nat.add_comm]

/-- a `for` loop without `break` whose body performs the model step on every state that satisfies an invariant (kept by the step): the model's
    fold; with `ga_forUp_eq` (loops that may `break`) and `ga_forDown_eq` (reversed) the three rules "loop = fold of the model step" -/
theorem ga_forUp_inv {σ τ : Type} (e : τ → σ) (g : τ → Nat → τ) (Inv : Nat → τ → Prop) (f : Nat → σ → R (Ctl σ))
    (k lo : Nat) (t : τ) (hI : Inv lo t)
    (h : ∀ j t, lo ≤ j → j < lo + k → Inv j t → f j (e t) = .ok (.next (e (g t j))) ∧ Inv (j+1) (g t j)) :
    forUp lo k (e t) f = .ok (e ((List.range' lo k).foldl g t)) :=
  Loop.fold (fun k lo s => forUp lo k s f) e g Inv k lo t hI fun m j t a b hj =>
    ⟨by simp only [forUp, (h j t a b hj).1], (h j t a b hj).2⟩

theorem ga_foldl_append {α : Type} (v : Nat → List α) (l : List Nat) (acc : List α) :
    l.foldl (fun a j => a ++ v j) acc = acc ++ l.flatMap v := by
  induction l generalizing acc with
  | nil => simp
  | cons x xs ih => simp [List.foldl_cons, ih, List.flatMap_cons, List.append_assoc]

/-! ### loops that append to a list.  Which to take: the outermost loop of a function is `forUp lo k l f` itself: `ga_forUp_pushL` (any lower
    bound, step `lo + a` appends the list `val a`), with its cases `ga_forUp_push_list` (`lo = 0`) and `ga_forUp_push` (`lo = 0`, one element per
    step).  A loop INSIDE a loop body comes with `pure (Ctl.next ·)` behind it: `ga_forUp_pushL_next`; a nest is peeled level by level. -/

theorem ga_forUp_pushL (f : Nat → List Nat → R (Ctl (List Nat))) (val : Nat → List Nat) (lo k : Nat) (l : List Nat)
    (h : ∀ a l, a < k → f (lo + a) l = .ok (.next (l ++ val a))) :
    forUp lo k l f = .ok (l ++ (List.range k).flatMap val) := by
  have := ga_forUp_inv id (fun (l : List Nat) j => l ++ val (j - lo)) (fun _ _ => True) f k lo l trivial (fun j t h1 h2 _ => by
    have := h (j - lo) t (by omega)
    rw [Nat.add_sub_cancel' h1] at this
    exact ⟨this, trivial⟩)
  simp only [id] at this
  rw [this, ga_foldl_append fun j => val (j - lo), List.range'_eq_map_range, List.flatMap_map]
  simp only [Nat.add_sub_cancel_left]

/-- one inner level of a loop nest, generated as `let v ← forUp lo k l f; pure (Ctl.next v)`, whose step `lo + a` appends `val a` -/
theorem ga_forUp_pushL_next (f : Nat → List Nat → R (Ctl (List Nat))) (val : Nat → List Nat) (lo k : Nat) (l : List Nat)
    (h : ∀ a l, a < k → f (lo + a) l = .ok (.next (l ++ val a))) :
    (do let v ← forUp lo k l f; pure (Ctl.next v)) = .ok (.next (l ++ (List.range k).flatMap val)) := by
  rw [ga_forUp_pushL f val lo k l h]; rfl

theorem ga_forUp_push_list (f : Nat → List Nat → R (Ctl (List Nat))) (val : Nat → List Nat) (k : Nat) (l : List Nat)
    (h : ∀ j l, j < k → f j l = .ok (.next (l ++ val j))) :
    forUp 0 k l f = .ok (l ++ (List.range k).flatMap val) :=
  ga_forUp_pushL f val 0 k l fun a l ha => by rw [Nat.zero_add]; exact h a l ha

/-- a `for j in 0..k { list.push(val j) }` loop -/
theorem ga_forUp_push (f : Nat → List Nat → R (Ctl (List Nat))) (val : Nat → Nat) (k : Nat) (l : List Nat)
    (h : ∀ j l, j < k → f j l = .ok (.next (l ++ [val j]))) :
    forUp 0 k l f = .ok (l ++ (List.range k).map val) := by
  rw [ga_forUp_push_list f (fun j => [val j]) k l h, List.map_eq_flatMap]

/-- a `while` loop that walks through the states `st 0, st 1, …, st m` and leaves at `st m` -/
theorem ga_whileFuel_seq {σ : Type} (f : σ → R (Ctl σ)) (st : Nat → σ) (m : Nat)
    (hstep : ∀ j, j < m → f (st j) = .ok (.next (st (j+1)))) (hend : f (st m) = .ok (.brk (st m))) :
    ∀ (d j fuel : Nat), j + d = m → d < fuel → whileFuel fuel (st j) f = .ok (st m) := by
  intro d
  induction d with
  | zero =>
    intro j fuel hj hf
    obtain ⟨f', rfl⟩ : ∃ f', fuel = f' + 1 := ⟨fuel - 1, by omega⟩
    have : j = m := by omega
    subst this
    simp [whileFuel, hend, pure, Except.pure]
  | succ d ih =>
    intro j fuel hj hf
    obtain ⟨f', rfl⟩ : ∃ f', fuel = f' + 1 := ⟨fuel - 1, by omega⟩
    simp only [whileFuel, hstep j (by omega)]
    exact ih (j + 1) f' (by omega) (by omega)

theorem ga_ckDiv {a b : Nat} (h : 1 ≤ b) : GenApp.ckDiv a b = .ok (a / b) := if_neg (Nat.ne_of_gt h)

/-! a checked operation that does not trap, followed by the rest of the program: rewriting with these from the first operation on
    (`rw [ga_ckMul_bind h₁, ga_ckAdd_bind h₂, …]`) runs a generated body symbolically; every step acts at the head of the term, which
    keeps the proof term small (`simp only` with the `ga_ck*` equations rewrites inside the nested `fun`s, and the kernel then checks a congruence
    proof through every binder of the body) -/

theorem ga_ckAdd_bind {β : Type} {a b : Nat} (h : a + b < 2^64) (f : Nat → R β) : (ckAdd a b >>= f) = f (a + b) := by
  rw [ckAdd_ok_pow h]; rfl
theorem ga_ckMul_bind {β : Type} {a b : Nat} (h : a * b < 2^64) (f : Nat → R β) : (ckMul a b >>= f) = f (a * b) := by
  rw [ckMul_ok_pow h]; rfl
theorem ga_ckSub_bind {β : Type} {a b : Nat} (h : b ≤ a) (f : Nat → R β) : (ckSub a b >>= f) = f (a - b) := by
  rw [ckSub_of_le h]; rfl
theorem ga_ckDiv_bind {β : Type} {a b : Nat} (h : 1 ≤ b) (f : Nat → R β) : (GenApp.ckDiv a b >>= f) = f (a / b) := by
  rw [ga_ckDiv h]; rfl

theorem ga_ckPow {a e : Nat} (h : a ^ e < 2^64) : GenApp.ckPow a e = .ok (a ^ e) := if_pos h

end HC
