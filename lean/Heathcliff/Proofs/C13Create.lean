/- C13: `CoeffModulus::create` / `PlainModulus::batching` return distinct primes of the requested sizes, ≡ 1 (mod 2N) (`create_spec`,
   `batching_spec`), from the contract of `get_primes` (C13Primes) and the bookkeeping of `createEntries` (one `get_primes` call per bit size). -/
import Heathcliff.Proofs.C13Primes
namespace HC.Ctx
open HC

theorem createEntries_cons_ok {isPrime : Nat → Bool} {factor : Nat} {all seen rest l : List Nat} {b : Nat}
    (h : createEntries isPrime factor all seen (b :: rest) = .ok l) :
    ∃ ps p tl, getPrimes isPrime factor b (all.count b) = .ok ps ∧
      ps[all.count b - 1 - seen.count b]? = some p ∧
      createEntries isPrime factor all (seen ++ [b]) rest = .ok tl ∧ l = p :: tl := by
  unfold createEntries at h
  obtain ⟨ps, hps, h⟩ := R.bind_eq_ok.mp h
  split at h
  · cases h
  · rename_i p hp
    obtain ⟨tl, htl, h⟩ := R.bind_eq_ok.mp h
    exact ⟨ps, p, tl, hps, hp, htl, (Except.ok.inj h).symm⟩

/-- each entry is the `(v-1-j)`-th prime of `getPrimes factor b v`, `j` = number of earlier occurrences of `b` -/
theorem createEntries_inv {isPrime : Nat → Bool} {factor : Nat} {all : List Nat} :
    ∀ (rest seen l : List Nat), createEntries isPrime factor all seen rest = .ok l →
      l.length = rest.length ∧
      ∀ i (hi : i < rest.length) (hl : i < l.length), ∃ ps,
        getPrimes isPrime factor rest[i] (all.count rest[i]) = .ok ps ∧
        ps[all.count rest[i] - 1 - (seen ++ rest.take i).count rest[i]]? = some l[i] := by
  intro rest
  induction rest with
  | nil =>
    intro seen l h
    unfold createEntries at h
    simp only [pure, Except.pure] at h
    injection h with h
    subst h
    exact ⟨rfl, fun i hi => absurd hi (by simp)⟩
  | cons b rest ih =>
    intro seen l h
    obtain ⟨ps, p, tl, hps, hp, htl, rfl⟩ := createEntries_cons_ok h
    obtain ⟨hlen, hent⟩ := ih _ _ htl
    refine ⟨by simp [hlen], ?_⟩
    intro i hi hl
    cases i with
    | zero =>
      refine ⟨ps, by simpa using hps, ?_⟩
      simpa using hp
    | succ k =>
      have hk : k < rest.length := by simpa using hi
      have hk' : k < tl.length := by simpa using hl
      obtain ⟨qs, hqs, hq⟩ := hent k hk hk'
      refine ⟨qs, by simpa using hqs, ?_⟩
      simp only [List.getElem_cons_succ, List.take_succ_cons]
      rw [List.append_cons]
      exact hq

theorem count_take_succ {l : List Nat} {i : Nat} (hi : i < l.length) :
    (l.take (i + 1)).count l[i] = (l.take i).count l[i] + 1 := by
  rw [List.take_succ_eq_append_getElem hi, List.count_append]
  simp

theorem count_take_mono {l : List Nat} {i j : Nat} (hij : i ≤ j) (b : Nat) :
    (l.take i).count b ≤ (l.take j).count b := by
  have : l.take i = (l.take j).take i := by
    rw [List.take_take, Nat.min_eq_left hij]
  rw [this]
  exact (List.take_sublist _ _).count_le _

theorem count_take_le (l : List Nat) (i b : Nat) : (l.take i).count b ≤ l.count b :=
  (List.take_sublist _ _).count_le _

theorem degreeOk_two_le {n : Nat} (h : degreeOk n = true) : 2 ≤ n := by
  unfold degreeOk at h
  simp only [Bool.and_eq_true, Gen.HE_POLY_MOD_DEGREE_MIN] at h
  exact (of_decide_eq_true h.1).1

/-- `CoeffModulus::create`: one modulus per requested size, of exactly that many bits, accepted by `isPrime`,
    congruent to 1 modulo 2N, and all distinct (`isPrime (2^b) = false` excludes the out-of-range candidate `2^b`,
    which a genuine primality test never accepts for `b ≥ 2`) -/
theorem create_spec {isPrime : Nat → Bool} {n : Nat} {sizes l : List Nat}
    (h2 : ∀ b ∈ sizes, isPrime (2^b) = false)
    (h : create isPrime n sizes = .ok l) :
    l.length = sizes.length ∧
    (∀ i (hi : i < l.length) (hj : i < sizes.length),
        bitCount l[i] = sizes[i] ∧ isPrime l[i] = true ∧ l[i] % (2 * n) = 1) ∧
    l.Nodup ∧ 2 ≤ n ∧ (∀ b ∈ sizes, 2 ≤ b ∧ b ≤ 60) := by
  unfold create at h
  obtain ⟨hdeg, h⟩ := R.guard_eq_ok.mp h
  obtain ⟨_, h⟩ := R.guard_eq_ok.mp h
  obtain ⟨_, h⟩ := R.guard_eq_ok.mp h
  obtain ⟨hmax, h⟩ := R.guard_eq_ok.mp h
  obtain ⟨hmin, h⟩ := R.guard_eq_ok.mp h
  have hn : 2 ≤ n := degreeOk_two_le (by simpa using hdeg)
  have hsz : ∀ b ∈ sizes, 2 ≤ b ∧ b ≤ 60 := fun b hb =>
    ⟨Nat.not_lt.1 fun hlt => hmin (List.any_eq_true.2 ⟨b, hb, decide_eq_true hlt⟩),
      Nat.not_lt.1 fun hlt => hmax (List.any_eq_true.2 ⟨b, hb, decide_eq_true hlt⟩)⟩
  obtain ⟨hlen, hent⟩ := createEntries_inv _ _ _ h
  -- per-entry facts
  have key : ∀ i (hi : i < l.length) (hj : i < sizes.length), ∃ ps,
      getPrimes isPrime (2 * n) sizes[i] (sizes.count sizes[i]) = .ok ps ∧
      ps.Nodup ∧ ps.length = sizes.count sizes[i] ∧
      ps[sizes.count sizes[i] - 1 - (sizes.take i).count sizes[i]]? = some l[i] ∧
      bitCount l[i] = sizes[i] ∧ isPrime l[i] = true ∧ l[i] % (2 * n) = 1 := by
    intro i hi hj
    obtain ⟨ps, hps, hp⟩ := hent i hj hi
    rw [List.nil_append] at hp
    have hmem : sizes[i] ∈ sizes := List.getElem_mem hj
    obtain ⟨hl, -, hnd, hall, -⟩ :=
      get_primes_spec (by have := (hsz _ hmem).1; omega) (by omega) (h2 _ hmem) hps
    have hin : l[i] ∈ ps := List.mem_of_getElem? hp
    obtain ⟨hpr, hmod, -, -, hbc⟩ := hall _ hin
    refine ⟨ps, hps, hnd, hl, hp, hbc, hpr, ?_⟩
    rw [hmod]; exact Nat.mod_eq_of_lt (by omega)
  refine ⟨hlen, ?_, ?_, hn, hsz⟩
  · intro i hi hj
    obtain ⟨ps, -, -, -, -, h1, h2', h3⟩ := key i hi hj
    exact ⟨h1, h2', h3⟩
  · rw [List.nodup_iff_injective_getElem]
    -- it suffices to exclude i < j
    have main : ∀ i j (hi : i < l.length) (hj : j < l.length), i < j → l[i] ≠ l[j] := by
      intro i j hi hj hij heq
      have hi' : i < sizes.length := hlen ▸ hi
      have hj' : j < sizes.length := hlen ▸ hj
      obtain ⟨ps, hps, hnd, hpl, hpi, hbi, -, -⟩ := key i hi hi'
      obtain ⟨qs, hqs, -, -, hqj, hbj, -, -⟩ := key j hj hj'
      have hb : sizes[i] = sizes[j] := by rw [← hbi, ← hbj, heq]
      rw [← hb] at hqs hqj
      have hpq : qs = ps := by
        rw [hps] at hqs; injection hqs with hqs; exact hqs.symm
      subst hpq
      rw [← heq] at hqj
      -- counters
      have c1 := count_take_succ hi'
      have c2 : (sizes.take (i+1)).count sizes[i] ≤ (sizes.take j).count sizes[i] :=
        count_take_mono (by omega) _
      have c3 := count_take_succ hj'
      rw [← hb] at c3
      have c4 := count_take_le sizes (j+1) sizes[i]
      obtain ⟨hki, hki'⟩ := List.getElem?_eq_some_iff.mp hpi
      obtain ⟨hkj, hkj'⟩ := List.getElem?_eq_some_iff.mp hqj
      have := (hnd.getElem_inj_iff (hi := hki) (hj := hkj)).mp (hki'.trans hkj'.symm)
      omega
    intro ⟨i, hi⟩ ⟨j, hj⟩ heq
    simp only at heq
    rcases Nat.lt_trichotomy i j with hlt | he | hgt
    · exact absurd heq (main i j hi hj hlt)
    · exact Fin.ext he
    · exact absurd heq.symm (main j i hj hi hgt)

theorem batching_spec {isPrime : Nat → Bool} {n b v : Nat} (h2 : isPrime (2^b) = false)
    (h : batching isPrime n b = .ok v) :
    bitCount v = b ∧ isPrime v = true ∧ v % (2 * n) = 1 := by
  unfold batching at h
  simp only [bind, Except.bind, pure, Except.pure] at h
  split at h
  · exact absurd h (by simp)
  rename_i l hl
  obtain ⟨hlen, hent, -⟩ := create_spec (sizes := [b]) (by simpa using h2) hl
  split at h
  · rename_i p tl
    injection h with h
    subst h
    have := hent 0 (by simp) (by simp)
    simpa using this
  · exact absurd h (by simp)

end HC.Ctx
