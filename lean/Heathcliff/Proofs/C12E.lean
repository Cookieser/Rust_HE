/- C12 part E: assembly of the exact-arithmetic embedding statements about the MODEL's pieces: the scatter loop of
   `encode_internal_c64_array` through `Ckks.indexMap`, encode = inverse network · (scale/N), decode = (· 1/scale), forward
   network, gather through the index map; root tables selected by `Ckks.rootPowerSel` / `invRootPowerSel` from exact octant values.

   `c12_scatter`, `c12_encodeExact`, `c12_decodeExact` below are transcriptions BY HAND of the float code of `encode_internal_c64_array` and
   of decode into exact arithmetic over a *-ring (they use the MODEL's `indexMap` and the generic network of C09D, nothing else of the model):
   `embedding_exact` (Props/C12) is a theorem about these three, and that they describe the Rust lines named in their docstrings is TRUSTED
   (no translator tie; the double-precision code is compared with the big-integer oracle by the harness, Driver/C12.lean). -/
import Heathcliff.Proofs.C12B
import Heathcliff.Proofs.C12C
namespace HC
open Ckks Finset

variable {K : Type} [CommRing K] [StarRing K]

/-- the scatter loop: `conj_values[map[i]] = values[i]; conj_values[map[i + slots]] = values[i].conj()` for i < len, on a zero vector -/
def c12_scatter (k : Nat) (v : Nat → K) (len : Nat) : Nat → K :=
  (List.range len).foldl (fun a i =>
    Function.update (Function.update a ((indexMap k).getD i 0) (v i)) ((indexMap k).getD (i + 2^k/2) 0) (star (v i))) (fun _ => 0)

/-- coefficient j of the encoding in exact arithmetic: `transform_from_rev(conj_values, inv_root_powers, fix = scale / n)` -/
def c12_encodeExact (k : Nat) (iroots : Nat → K) (s Ninv : K) (v : Nat → K) (len : Nat) (j : Nat) : K :=
  runInv (exactArith K) k iroots (c12_scatter k v len) k j * (s * Ninv)

/-- slot i of the decoding in exact arithmetic: coefficients times `inv_scale`, `transform_to_rev(root_powers)`, gather at `map[i]` -/
def c12_decodeExact (k : Nat) (roots : Nat → K) (sinv : K) (c : Nat → K) (i : Nat) : K :=
  runFwd (exactArith K) k roots (fun j => c j * sinv) k ((indexMap k).getD i 0)

theorem c12e_scatter_succ (k : Nat) (v : Nat → K) (len : Nat) :
    c12_scatter k v (len+1) =
      Function.update (Function.update (c12_scatter k v len) ((indexMap k).getD len 0) (v len))
        ((indexMap k).getD (len + 2^k/2) 0) (star (v len)) := by
  unfold c12_scatter
  rw [List.range_succ, List.foldl_append]
  rfl

/-- what the scatter loop leaves at the position of slot i (both rows) -/
theorem c12e_scatter_at (k : Nat) (hk : 1 ≤ k) (v : Nat → K) : ∀ len, len ≤ 2^k/2 → ∀ i, i < 2^k →
    c12_scatter k v len ((indexMap k).getD i 0) =
      if i < 2^k/2 then (if i < len then v i else 0) else (if i - 2^k/2 < len then star (v (i - 2^k/2)) else 0) := by
  have inj := (indexMap_perm hk).2.1
  have e2 := c11n_two_row hk
  intro len
  induction len with
  | zero =>
    intro _ i _
    simp [c12_scatter]
  | succ n ih =>
    intro hn i hi
    rw [c12e_scatter_succ, Function.update_apply, Function.update_apply]
    by_cases h1 : i = n + 2^k/2
    · subst h1
      rw [if_pos rfl, if_neg (by omega), Nat.add_sub_cancel, if_pos (by omega)]
    · have hne : (indexMap k).getD i 0 ≠ (indexMap k).getD (n + 2^k/2) 0 := fun h => h1 (inj i (n + 2^k/2) hi (by omega) h)
      rw [if_neg hne]
      by_cases h2 : i = n
      · subst h2
        rw [if_pos rfl, if_pos (by omega), if_pos (by omega)]
      · have hne2 : (indexMap k).getD i 0 ≠ (indexMap k).getD n 0 := fun h => h2 (inj i n hi (by omega) h)
        rw [if_neg hne2, ih (by omega) i hi]
        by_cases h3 : i < 2^k/2
        · rw [if_pos h3, if_pos h3]
          by_cases h4 : i < n
          · rw [if_pos h4, if_pos (by omega)]
          · rw [if_neg h4, if_neg (by omega)]
        · rw [if_neg h3, if_neg h3]
          by_cases h4 : i - 2^k/2 < n
          · rw [if_pos h4, if_pos (by omega)]
          · rw [if_neg h4, if_neg (by omega)]

/-- the scattered vector takes conjugate values at conjugate positions -/
theorem c12e_scatter_conj (k : Nat) (hk : 1 ≤ k) (v : Nat → K) (len : Nat) (hlen : len ≤ 2^k/2) :
    ∀ p, p < 2^k → c12_scatter k v len (c12_conjPos k p) = star (c12_scatter k v len p) := by
  obtain ⟨hlt, _, surj⟩ := indexMap_perm hk
  have e2 := c11n_two_row hk
  intro p hp
  obtain ⟨i, hi, rfl⟩ := surj p hp
  by_cases h : i < 2^k/2
  · have hc : c12_conjPos k ((indexMap k).getD i 0) = (indexMap k).getD (i + 2^k/2) 0 := (indexMap_conj hk h).symm
    rw [hc, c12e_scatter_at k hk v len hlen (i + 2^k/2) (by omega), c12e_scatter_at k hk v len hlen i hi,
      if_neg (by omega), if_pos h, Nat.add_sub_cancel]
    by_cases h4 : i < len
    · rw [if_pos h4, if_pos h4]
    · rw [if_neg h4, if_neg h4, star_zero]
  · have hi' : i - 2^k/2 < 2^k/2 := by omega
    have hc : (indexMap k).getD i 0 = c12_conjPos k ((indexMap k).getD (i - 2^k/2) 0) := by
      have := indexMap_conj hk hi'
      rw [Nat.sub_add_cancel (by omega)] at this
      exact this
    rw [hc, c12c_conjPos_invol (hlt _ (by omega)), ← hc,
      c12e_scatter_at k hk v len hlen (i - 2^k/2) (by omega), c12e_scatter_at k hk v len hlen i hi,
      if_pos hi', if_neg h]
    by_cases h4 : i - 2^k/2 < len
    · rw [if_pos h4, if_pos h4, star_star]
    · rw [if_neg h4, if_neg h4, star_zero]

theorem c12e_star_inv (k : Nat) (Ninv : K) (hN : Ninv * 2^k = 1) : star Ninv = Ninv := by
  have h1 : star Ninv * 2^k = 1 := by
    have := congrArg star hN
    rwa [star_mul', c12c_star_two_pow, star_one] at this
  calc star Ninv = star Ninv * (Ninv * 2^k) := by rw [hN, mul_one]
    _ = (star Ninv * 2^k) * Ninv := by ring
    _ = Ninv := by rw [h1, one_mul]

/-- DECODE ∘ ENCODE = ID on at most N/2 slots (missing slots decode to 0) -/
theorem c12e_decode_encode (k : Nat) (hk : 1 ≤ k) (ψ : K) (hu : ψ * star ψ = 1) (roots iroots : Nat → K)
    (hroots : ∀ j, 0 < j → j < 2^k → roots j = ψ^(brev k j))
    (hiroots : ∀ p, 0 < p → p < 2^k → iroots p = (star ψ)^(brev k (p-1) + 1))
    (Ninv s sinv : K) (hN : Ninv * 2^k = 1) (hs : s * sinv = 1) (v : Nat → K) (len : Nat) (hlen : len ≤ 2^k/2) :
    ∀ i, i < 2^k/2 →
      c12_decodeExact k roots sinv (c12_encodeExact k iroots s Ninv v len) i = if i < len then v i else 0 := by
  intro i hi
  have e2 := c11n_two_row hk
  have hp := (indexMap_perm hk).1 i (by omega)
  unfold c12_decodeExact c12_encodeExact
  rw [c12c_roundtrip k ψ (star ψ) hu roots iroots hroots hiroots Ninv s sinv hN hs _ _ hp,
    c12e_scatter_at k hk v len hlen i (by omega), if_pos hi]

/-- CONJUGATE SYMMETRY ⇒ REAL COEFFICIENTS: every coefficient of the encoding is fixed by star -/
theorem c12e_encode_real (k : Nat) (hk : 1 ≤ k) (ψ : K) (hψ : ψ^(2^k) = -1) (hu : ψ * star ψ = 1) (roots iroots : Nat → K)
    (hroots : ∀ j, 0 < j → j < 2^k → roots j = ψ^(brev k j))
    (hiroots : ∀ p, 0 < p → p < 2^k → iroots p = (star ψ)^(brev k (p-1) + 1))
    (Ninv s : K) (hN : Ninv * 2^k = 1) (hsr : star s = s) (v : Nat → K) (len : Nat) (hlen : len ≤ 2^k/2) :
    ∀ j, j < 2^k → star (c12_encodeExact k iroots s Ninv v len j) = c12_encodeExact k iroots s Ninv v len j := by
  intro j hj
  unfold c12_encodeExact
  rw [star_mul', star_mul', hsr, c12e_star_inv k Ninv hN,
    c12c_real_coeffs k ψ hψ hu roots iroots hroots hiroots Ninv hN _ (c12e_scatter_conj k hk v len hlen) j hj]

/-- SLOT ORDER: slot i of decode is the evaluation of the (scaled-down) coefficient polynomial at ψ^(3^i);
    the position of slot i + N/2 holds the evaluation at the conjugate point -/
theorem c12e_decode_slot (k : Nat) (hk : 1 ≤ k) (ψ : K) (hψ : ψ^(2^k) = -1) (hu : ψ * star ψ = 1) (roots : Nat → K)
    (hroots : ∀ j, 0 < j → j < 2^k → roots j = ψ^(brev k j)) (sinv : K) (c : Nat → K) :
    ∀ i, i < 2^k/2 →
      c12_decodeExact k roots sinv c i = ∑ j ∈ range (2^k), (c j * sinv) * (ψ^(3^i))^j ∧
      c12_decodeExact k roots sinv c (i + 2^k/2) = ∑ j ∈ range (2^k), (c j * sinv) * (star (ψ^(3^i)))^j := by
  intro i hi
  have e2 := c11n_two_row hk
  obtain ⟨_, m1, o1, l1⟩ := indexMap_spec hk (show i < 2^k by omega)
  obtain ⟨_, m2, o2, l2⟩ := indexMap_spec hk (show i + 2^k/2 < 2^k by omega)
  have hpow : ψ^(c12_slotExp k i) = ψ^(3^i) := by rw [c12_slotExp_eq, c11n_slotExp_lo hi, root_pow_mod hψ]
  unfold c12_decodeExact
  constructor
  · rw [m1, c12c_fwd_at k ψ hψ roots hroots _ o1 l1, hpow]
  · rw [m2, c12c_fwd_at k ψ hψ roots hroots _ o2 l2]
    have hc := c12_slotExp_conj hi
    have hee : c12_slotExp k (i + 2^k/2) + c12_slotExp k i = 2 * 2^k := by omega
    rw [← hpow, ← c12c_star_pow k ψ hψ hu hee]

/-! ### the root tables the model selects -/

/-- `root_powers[j]` / `inv_root_powers[j]` computed by the model's index logic from exact octant values ψ^0 … ψ^(m/8) -/
def c12_rootTable (k : Nat) (ψ I : K) (j : Nat) : K :=
  match rootPowerSel k j with
  | .ok s => c12_selVal I (fun i => ψ^i) s
  | .error _ => 0
def c12_invRootTable (k : Nat) (ψ I : K) (j : Nat) : K :=
  match invRootPowerSel k j with
  | .ok s => c12_selVal I (fun i => ψ^i) s
  | .error _ => 0

theorem c12e_rootTable (k : Nat) (hk : 2 ≤ k) (ψ I : K) (hI : ψ^(2 * 2^k / 4) = I) (hI2 : I * I = -1) (hu : ψ * star ψ = 1) (j : Nat) :
    c12_rootTable k ψ I j = ψ^(brev k j) := by
  obtain ⟨s, h1, _, h3⟩ := rootPowerSel_spec k hk ψ I hI hI2 hu j
  unfold c12_rootTable; rw [h1]; exact h3

theorem c12e_invRootTable (k : Nat) (hk : 2 ≤ k) (ψ I : K) (hI : ψ^(2 * 2^k / 4) = I) (hI2 : I * I = -1) (hu : ψ * star ψ = 1) (j : Nat) :
    c12_invRootTable k ψ I j = (star ψ)^(brev k (j - 1) + 1) := by
  obtain ⟨s, h1, _, h3⟩ := invRootPowerSel_spec k hk ψ I hI hI2 hu j
  unfold c12_invRootTable; rw [h1]; exact h3

omit [StarRing K] in
theorem c12e_psi_pow (k : Nat) (hk : 2 ≤ k) (ψ I : K) (hI : ψ^(2 * 2^k / 4) = I) (hI2 : I * I = -1) : ψ^(2^k) = -1 := by
  obtain ⟨j, rfl⟩ : ∃ j, k = j + 2 := ⟨k - 2, by omega⟩
  rw [show 2 * 2^(j+2) = 4 * (2 * 2^j) by ring, Nat.mul_div_cancel_left _ (by decide)] at hI
  rw [show 2^(j+2) = 2 * 2^j + 2 * 2^j by ring, pow_add, hI, hI2]

end HC
