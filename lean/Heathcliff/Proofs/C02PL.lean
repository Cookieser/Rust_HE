/- C02: every BGV evaluator operation of the MODEL acts on the EXACT phase (`Spec.phase`, the centred integer
   polynomial that `bgvDecrypt_eq_spec` decodes) as the ring operation of ℤ_Q[X]/(X^N+1).  Helper prefix `c02p_`.

   `c02p_ph l sk ct j` = coefficient j of the exact phase of the (NTT-form) ciphertext `ct`.
   `c02p_ph` is `c03k_phase` and Q is `c03k_Q` (C03P), so negate, multiply, multiply_plain are the scheme-free theorems
   `ckks_negate_phase`, `ckks_multiply_phase`, `ckks_multiply_plain_phase` read for a BGV level, and add / sub with balancing
   multipliers e1, e2 is C02V's `ctTranslateBalanced_phase` read per prime at the slot reading (`c03k_phNP_slot`), merged by CRT (`c02p_tr_ph`).
     negate            ph(r) ≡ −ph(a)
     add / sub         ph(r) ≡ e1·ph(a) ± e2·ph(b)      (any sizes; e1 = e2 = 1 for equal correction factors, else the balancing multipliers)
     multiply          ph(r) ≡ ph(a) ⋆ ph(b)            (any sizes)
     multiply_plain    ph(r) ≡ ph(a) ⋆ P                (P any integer reading of the coefficient form of the NTT-form plaintext)
   all modulo Q = Π q_i, coefficient-wise. -/
import Heathcliff.Proofs.C03P
import Heathcliff.Model.Program
namespace HC
open Finset

/-- coefficient `j` of the exact (centred) phase of an NTT-form ciphertext.  It unfolds to `c03k_phase l sk ct j` (C03P) and is passed for it
    without a lemma; likewise `c02p_sk sk` = `c03k_skf sk` = `fun i => sk.getD i 0`, and Q is written `l.tool.baseQ.prod` here, `c03k_Q l` there
    (`c03k_Q_eq`) -/
def c02p_ph (l : Level) (sk : Array Int) (ct : Ct) (j : Nat) : Int :=
  (Spec.phase (c01p_qvals l) l.n sk (ct.polys.toList.map (rnsIntt l))).getD j 0

def c02p_sk (sk : Array Int) : Nat → Int := fun i => sk.getD i 0

/-- the geometric sum of the model's bookkeeping (`geoSum`, Model/Program.lean) is the one of the proofs (`c02x_geo`, C02K) -/
theorem c02p_geoSum_eq (S : Nat) : ∀ m, geoSum S m = c02x_geo S m
  | 0 => rfl
  | m+1 => by simp [geoSum, c02x_geo, c02p_geoSum_eq S m]

/-- the level: tables, CRT base and decryption constants as the constructors build them (`level_bundles_of_constructors`), scheme BGV -/
structure c02p_LevelOK (l : Level) : Prop where
  wf : l.WF
  lq : c07s_LevelQ l
  dec : DecOK l
  bgv : l.scheme = .bgv

theorem c02p_LevelOK.twf {l : Level} (h : c02p_LevelOK l) : l.t.WF := by rw [← h.dec.t_eq]; exact h.dec.tool.twf
theorem c02p_LevelOK.qwf {l : Level} (h : c02p_LevelOK l) : c02v_QsWF l := c02v_qsWF_of_levelWF h.wf
theorem c02p_LevelOK.npos {l : Level} (h : c02p_LevelOK l) : 0 < l.n := c01q_n_pos h.wf

/-- the ciphertexts the induction runs over: canonical (`is_valid_for`), NTT form, correction factor a UNIT modulo t
    (`CtCanon` alone only gives 0 < cf < t; for composite t the product of two such factors can be 0: `c02v_bgvMultiply_cf_zero_witness`) -/
structure c02p_Good (l : Level) (ct : Ct) : Prop where
  canon : CtCanon l ct
  ntt : ct.ntt = true
  unit : Nat.Coprime ct.cf l.t.value

theorem c02p_Good.cf_lt {l : Level} (h : c02p_LevelOK l) {ct : Ct} (g : c02p_Good l ct) : ct.cf < l.t.value := by
  have := g.canon.cf
  unfold c02v_cfOk at this
  rw [h.bgv] at this
  exact this.2

theorem c02p_polysCanon_pair {l : Level} {p0 p1 : RnsPoly} (h0 : RnsCanon l p0) (h1 : RnsCanon l p1) (ntt : Bool) (cf : Nat) :
    c02v_PolysCanon l ⟨#[p0, p1], ntt, cf⟩ := by
  refine ⟨Nat.le_refl 2, (by decide : 2 ≤ 16), fun k hk => ?_⟩
  have hk' : k < 2 := hk
  interval_cases k
  · exact h0
  · exact h1

theorem c02p_good_fresh {l : Level} (hs : l.scheme = .bgv) (ht : 2 ≤ l.t.value) {p0 p1 : RnsPoly} (h0 : RnsCanon l p0)
    (h1 : RnsCanon l p1) : c02p_Good l ⟨#[p0, p1], true, 1⟩ := by
  refine ⟨⟨c02p_polysCanon_pair h0 h1 true 1, ?_⟩, rfl, Nat.coprime_one_left _⟩
  unfold c02v_cfOk
  rw [hs]
  exact ⟨Nat.one_ne_zero, ht⟩

theorem c02p_tr_ph {l : Level} (h : c02p_LevelOK l) (sk : Array Int) {a b r : Ct} (ca : c03k_Canon l a) (cb : c03k_Canon l b)
    (cr : c03k_Canon l r) (sub : Bool) (e1 e2 : Nat)
    (hnp : ∀ m, m < l.size → c03k_phNP l sk r m =
      if sub then c03k_phNP l sk a m * ((e1 : Nat) : c03k_NP (ZMod (l.q m).value) l.n) - c03k_phNP l sk b m * ((e2 : Nat) : c03k_NP (ZMod (l.q m).value) l.n)
      else c03k_phNP l sk a m * ((e1 : Nat) : c03k_NP (ZMod (l.q m).value) l.n) + c03k_phNP l sk b m * ((e2 : Nat) : c03k_NP (ZMod (l.q m).value) l.n)) :
    ∀ j, j < l.n → c02p_ph l sk r j ≡ (e1 : Int) * c02p_ph l sk a j + (if sub then -(e2 : Int) else (e2 : Int)) * c02p_ph l sk b j
      [ZMOD l.tool.baseQ.prod] := by
  rw [← c03k_Q_eq h.lq]
  refine c03k_merge h.lq (f := c03k_phase l sk r)
    (g := fun j => (e1 : Int) * c03k_phase l sk a j + (if sub then -(e2 : Int) else (e2 : Int)) * c03k_phase l sk b j) fun m hm => ?_
  rw [c03k_phase_np h.wf h.lq sk cr hm, hnp m hm, ← c03k_phase_np h.wf h.lq sk ca hm, ← c03k_phase_np h.wf h.lq sk cb hm]
  refine c03k_np_ext fun i hi => ?_
  unfold c03k_red
  cases sub
  · rw [if_neg Bool.false_ne_true, c03k_NP.add_co, mul_comm, ← nsmul_eq_mul, c03k_nsmul_co, mul_comm, ← nsmul_eq_mul, c03k_nsmul_co,
      c03k_toNP_co _ hi, c03k_toNP_co _ hi, c03k_toNP_co _ hi, if_neg Bool.false_ne_true]
    push_cast; simp only [nsmul_eq_mul]
  · rw [if_pos rfl, c03k_NP.sub_co, mul_comm, ← nsmul_eq_mul, c03k_nsmul_co, mul_comm, ← nsmul_eq_mul, c03k_nsmul_co,
      c03k_toNP_co _ hi, c03k_toNP_co _ hi, c03k_toNP_co _ hi, if_pos rfl]
    push_cast; simp only [nsmul_eq_mul]; ring

theorem c02p_negate_ph {l : Level} (h : c02p_LevelOK l) {sk : Array Int} (hsk : sk.size = l.n) {a r : Ct} (ha : c02p_Good l a)
    (hr : ctNegate l a = .ok r) :
    c02p_Good l r ∧ r.cf = a.cf ∧ r.polys.size = a.polys.size ∧
      ∀ j, j < l.n → c02p_ph l sk r j ≡ - c02p_ph l sk a j [ZMOD l.tool.baseQ.prod] := by
  obtain ⟨r', hr', hcan, hn, hcf, hsz, hph⟩ := ckks_negate_phase h.wf h.lq sk ha.canon ha.ntt
  obtain rfl := Except.ok.inj (hr.symm.trans hr')
  rw [c03k_Q_eq h.lq] at hph
  exact ⟨⟨hcan, hn, by rw [hcf]; exact ha.unit⟩, hcf, hsz, hph⟩

theorem c02p_translate_ph {l : Level} (h : c02p_LevelOK l) {sk : Array Int} (hsk : sk.size = l.n) {a b r : Ct} (ha : c02p_Good l a)
    (hb : c02p_Good l b) (sub : Bool) (hr : ctTranslateBalanced l a b sub = .ok r) :
    ∃ e1 e2 : Nat, c02p_balance l.t a.cf b.cf = some (r.cf, e1, e2) ∧ c02p_Good l r ∧ r.polys.size = max a.polys.size b.polys.size ∧
      (e1 * a.cf) % l.t.value = r.cf ∧ (e2 * b.cf) % l.t.value = r.cf ∧
      ∀ j, j < l.n → c02p_ph l sk r j ≡ (e1 : Int) * c02p_ph l sk a j + (if sub then -(e2 : Int) else (e2 : Int)) * c02p_ph l sk b j
        [ZMOD l.tool.baseQ.prod] := by
  have htw := h.twf
  have hntt : a.ntt = b.ntt := by rw [ha.ntt, hb.ntt]
  have hfa := ha.cf_lt h
  have hfb := hb.cf_lt h
  by_cases hcf : a.cf = b.cf
  · rw [ctTranslateBalanced_same l a b sub hcf] at hr
    obtain ⟨r', hr', hcan, hsz, hn, hf, _⟩ := ctTranslate_spec h.qwf ha.canon hb.canon sub hntt hcf
    obtain rfl := Except.ok.inj (hr.symm.trans hr')
    exact ⟨1, 1, by unfold c02p_balance; rw [if_pos hcf, hf], ⟨hcan, by rw [hn]; exact ha.ntt, by rw [hf]; exact ha.unit⟩, hsz,
      by rw [hf, Nat.one_mul, Nat.mod_eq_of_lt hfa], by rw [hf, hcf, Nat.one_mul, Nat.mod_eq_of_lt hfb],
      c02p_tr_ph h sk (.of_ctCanon ha.canon ha.ntt) (.of_ctCanon hb.canon hb.ntt) (.of_ctCanon hcan (hn.trans ha.ntt)) sub 1 1 fun m hm => by
        rw [Nat.cast_one, mul_one, mul_one]
        exact c03k_translate_np h.wf ha.canon hb.canon sub hntt hcf hr sk hm⟩
  · obtain ⟨⟨f, e1, e2⟩, hbal⟩ := balance_total htw hfa hfb ha.unit
    obtain ⟨r', hr', hpc, hsz, hn, hf, hflt, hm1, hm2, he1, he2, _, hunit, _⟩ :=
      ctTranslateBalanced_spec h.qwf htw ha.canon hb.canon sub hntt hcf hfa hfb hbal
    obtain rfl := Except.ok.inj (hr.symm.trans hr')
    obtain ⟨hu, hcan⟩ := hunit hb.unit
    exact ⟨e1, e2, by unfold c02p_balance; rw [if_neg hcf, hbal, hf], ⟨hcan h.bgv, by rw [hn]; exact ha.ntt, by rw [hf]; exact hu⟩, hsz,
      by rw [hf]; exact hm1, by rw [hf]; exact hm2,
      c02p_tr_ph h sk (.of_ctCanon ha.canon ha.ntt) (.of_ctCanon hb.canon hb.ntt) (.of_ctCanon (hcan h.bgv) (hn.trans ha.ntt)) sub e1 e2
        fun m hm => by
          rw [c03k_phNP_slot h.wf hpc.canon sk hm, c03k_phNP_slot h.wf ha.canon.canon sk hm, c03k_phNP_slot h.wf hb.canon.canon sk hm]
          exact ctTranslateBalanced_phase h.qwf htw ha.canon hb.canon hcf hfa hfb hbal hr hm (c02v_natCast_self _ _) _ _⟩

theorem c02p_ph_polys (l : Level) (sk : Array Int) {c r : Ct} (h : r.polys = c.polys) (j : Nat) : c02p_ph l sk r j = c02p_ph l sk c j := by
  unfold c02p_ph; rw [h]

theorem c02p_mul_ph {l : Level} (h : c02p_LevelOK l) {sk : Array Int} (hsk : sk.size = l.n) {a b r : Ct} (ha : c02p_Good l a)
    (hb : c02p_Good l b) (hr : bgvMultiply l a b = .ok r) :
    c02p_Good l r ∧ r.cf = (a.cf * b.cf) % l.t.value ∧ r.polys.size = a.polys.size + b.polys.size - 1 ∧
      ∀ j, j < l.n → c02p_ph l sk r j ≡ negMulR l.n (c02p_ph l sk a) (c02p_ph l sk b) j [ZMOD l.tool.baseQ.prod] := by
  have htw := h.twf
  obtain ⟨c, hc⟩ : ∃ c, ctMultiplyDyadic l a b = .ok c := by
    unfold bgvMultiply at hr
    cases hcd : ctMultiplyDyadic l a b with
    | error e => rw [hcd] at hr; cases hr
    | ok c => exact ⟨c, rfl⟩
  have h16 := ctMultiplyDyadic_ok_le16 hc
  obtain ⟨r', hr', hcan, hcf, hunit⟩ := bgvMultiply_canon h.qwf htw ha.canon hb.canon ha.ntt hb.ntt h.bgv h16 ha.unit hb.unit
  rw [hr] at hr'
  obtain rfl := Except.ok.inj hr'
  have hfa := ha.cf_lt h
  have hfb := hb.cf_lt h
  have h61 := htw.lt
  have hspec := bgvMultiply_spec htw hc (by omega : a.cf < 2^64) (by omega : b.cf < 2^64)
  rw [hr] at hspec
  have hrc : r = { c with cf := (a.cf * b.cf) % l.t.value } := Except.ok.inj hspec
  have hpol : r.polys = c.polys := by rw [hrc]
  obtain ⟨c', hc', hcc, _, hcsz, _, hph⟩ := ckks_multiply_phase h.wf h.lq sk ha.canon hb.canon ha.ntt hb.ntt h16
  obtain rfl := Except.ok.inj (hc.symm.trans hc')
  rw [c03k_Q_eq h.lq] at hph
  refine ⟨⟨hcan, by rw [hrc]; exact hcc.ntt, hunit⟩, hcf, by rw [hpol]; exact hcsz, fun j hj => ?_⟩
  rw [c02p_ph_polys l sk hpol]
  exact hph j hj

/-- `P` is an integer reading of the coefficient form of the NTT-form plaintext `p` -/
def c02p_PlainLift (l : Level) (p : RnsPoly) (P : Nat → Int) : Prop :=
  ∀ i, i < l.size → ∀ c, c < l.n → (((intt (l.tbl i) (p.getD i #[])).getD c 0 : Nat) : Int) ≡ P c [ZMOD (l.q i).value]

theorem c02p_plainLift_np {l : Level} {p : RnsPoly} {P : Nat → Int} (hP : c02p_PlainLift l p P) : c03k_PlainLift l p P := by
  intro m hm
  refine c03k_np_ext fun j hj => ?_
  unfold c03k_red c03k_plainNP
  rw [c03k_toNP_co _ hj, c03k_toNP_co _ hj]
  have := (ZMod.intCast_eq_intCast_iff _ _ _).mpr (hP m hm j hj)
  rw [Int.cast_natCast] at this
  exact this.symm

theorem c02p_mulPlain_ph {l : Level} (h : c02p_LevelOK l) {sk : Array Int} (hsk : sk.size = l.n) {a r : Ct} (ha : c02p_Good l a)
    {p : RnsPoly} (hp : RnsCanon l p) {P : Nat → Int} (hP : c02p_PlainLift l p P) (hr : ctMultiplyPlainNtt l a p = .ok r) :
    c02p_Good l r ∧ r.cf = a.cf ∧ r.polys.size = a.polys.size ∧
      ∀ j, j < l.n → c02p_ph l sk r j ≡ negMulR l.n (c02p_ph l sk a) P j [ZMOD l.tool.baseQ.prod] := by
  obtain ⟨r', hr', hcan, hn, hcf, hsz, hph⟩ := ckks_multiply_plain_phase h.wf h.lq sk ha.canon ha.ntt hp (c02p_plainLift_np hP)
  obtain rfl := Except.ok.inj (hr.symm.trans hr')
  rw [c03k_Q_eq h.lq] at hph
  exact ⟨⟨hcan, hn, by rw [hcf]; exact ha.unit⟩, hcf, hsz, hph⟩

end HC
