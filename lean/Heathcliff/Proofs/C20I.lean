/-
  C20I: the whole-tensor statement for the 2-D convolution helper of `Model/Matmul.lean` (conv2d.rs), composed from the block
  theorems of C20E / C20F (helpers tagged `c20_`).

    encode the image tiles (`cvEncodeInputs`: batch blocks × overlapping tiles × input-channel blocks, flattened as the code does),
    encode the weights (`cvEncodeWeights`), multiply every (tile, input-channel block) polynomial with the (output-channel block,
    input-channel block) polynomial in S[X]/(X^n + 1) and accumulate over the input-channel blocks (`c20_cvEval`), decode
    (`cvDecodeOutputs`)   =   the VALID cross-correlation  y[b][c][i][j] = Σ_ic Σ_ki Σ_kj x[b][ic][i+ki][j+kj] · w[c][ic][ki][kj]

  for EVERY shape and EVERY block tuple with `b·ci·co·h·w ≤ n`, kernel inside the tile, positive blocks (in particular the tuple the
  model's search returns: `c20_conv2d_search`), in an ARBITRARY commutative ring S.  `c20_cvEval` is defined here, on plaintext
  polynomials (see the head of C20H for what that leaves out); `cvOutIdx`, the loop nest shared by `decrypt_outputs_*` and
  `encode_outputs_*`, is covered for the decoder only.
-/
import Heathcliff.Proofs.C20F
import Heathcliff.Proofs.C20H
namespace HC
open Finset HC.MM

/-! ### index arithmetic -/

/-- the flat row-major index of a 4-tensor entry in digit form -/
theorem c20_flat4_eq (C H W b c i j : Nat) : b * C * H * W + c * H * W + i * W + j = ((b * C + c) * H + i) * W + j := by ring

theorem c20_flat4_lt {B C H W b c i j : Nat} (hb : b < B) (hc : c < C) (hi : i < H) (hj : j < W) :
    ((b * C + c) * H + i) * W + j < B * C * H * W := by
  have h1 : b * C + c + 1 ≤ B * C := by
    have := grid_succ_le (B := C) hb; omega
  have h2 : (b * C + c) * H + i + 1 ≤ B * C * H := by
    have := Nat.mul_le_mul_right H h1
    rw [Nat.succ_mul] at this; omega
  have h3 := Nat.mul_le_mul_right W h2
  rw [Nat.succ_mul] at h3; omega

theorem c20_digits4 {C H W b c i j : Nat} (hc : c < C) (hi : i < H) (hj : j < W) :
    (((b * C + c) * H + i) * W + j) % W = j ∧ (((b * C + c) * H + i) * W + j) / W % H = i ∧
    (((b * C + c) * H + i) * W + j) / W / H % C = c ∧ (((b * C + c) * H + i) * W + j) / W / H / C = b := by
  have a1 := grid_div ((b * C + c) * H + i) hj; have a2 := grid_mod ((b * C + c) * H + i) hj
  have b1 := grid_div (b * C + c) hi; have b2 := grid_mod (b * C + c) hi
  have c1 := grid_div b hc; have c2 := grid_mod b hc
  rw [a1, a2, b1, b2, c1, c2]
  exact ⟨rfl, rfl, rfl, rfl⟩

variable {S : Type}

/-! ### the encoders over all blocks -/

/-- encoded input polynomial: batch block starting at `lb`, tile (t1, t2), input-channel block starting at `lci` -/
def c20_cvInBlk (zero : S) (h : CHelper) (x : Nat → S) (lb t1 t2 lci : Nat) : Array S :=
  c20_val #[] (cvEncInputBlock h zero x lb (min h.S.b (lb + h.bb)) lci (min h.S.ci (lci + h.cib))
    (t1 * (h.hb - (h.S.kh - 1))) (min h.S.h (t1 * (h.hb - (h.S.kh - 1)) + h.hb))
    (t2 * (h.wb - (h.S.kw - 1))) (min h.S.w (t2 * (h.wb - (h.S.kw - 1)) + h.wb)))

/-- encoded weight polynomial: output-channel block starting at `loc`, input-channel block starting at `lic` -/
def c20_cvWBlk (zero : S) (h : CHelper) (w : Nat → S) (loc lic : Nat) : Array S :=
  c20_val #[] (cvEncWeightBlock h zero w loc (min h.S.co (loc + h.cob)) lic (min h.S.ci (lic + h.cib)))

/-- the bundle of block conditions (what the block search establishes) -/
structure c20_CvOK (h : CHelper) : Prop where
  bb : 0 < h.bb
  cib : 0 < h.cib
  cob : 0 < h.cob
  kh : 1 ≤ h.S.kh
  kw : 1 ≤ h.S.kw
  khb : h.S.kh ≤ h.hb
  kwb : h.S.kw ≤ h.wb
  fit : h.bb * (h.cib * h.cob) * (h.hb * h.wb) ≤ h.n

theorem c20_CvOK.fitW {h : CHelper} (ok : c20_CvOK h) : h.cob * h.cib * (h.hb * h.wb) ≤ h.n := c20_cv_fitW ok.bb ok.fit

/-- `encode_inputs_*` over all (batch block, tile, input-channel block): total; the groups are flattened as in the code -/
theorem c20_cvEncodeInputs_ok (zero : S) (h : CHelper) (x : Nat → S) (ok : c20_CvOK h) :
    cvEncodeInputs h zero x (h.S.b * h.S.ci * h.S.h * h.S.w)
      = .ok ((List.range (ceilDiv h.S.b h.bb * (h.sh * h.sw))).map fun eb =>
          (List.range (ceilDiv h.S.ci h.cib)).map fun icb =>
            c20_cvInBlk zero h x (eb / (h.sh * h.sw) * h.bb) (eb % (h.sh * h.sw) / h.sw) (eb % (h.sh * h.sw) % h.sw) (icb * h.cib)) := by
  unfold cvEncodeInputs
  have hkh := ok.kh; have hkw := ok.kw; have hbb := ok.bb; have hcib := ok.cib
  rw [if_neg (by simp), if_neg (by omega)]
  have hg : (blockStarts h.S.b h.bb).mapM (fun lb => (pairs h.sh h.sw).mapM fun (t : Nat × Nat) =>
      (blockStarts h.S.ci h.cib).mapM fun lci =>
        cvEncInputBlock h zero x lb (min h.S.b (lb + h.bb)) lci (min h.S.ci (lci + h.cib))
          (t.1 * (h.hb - (h.S.kh - 1))) (min h.S.h (t.1 * (h.hb - (h.S.kh - 1)) + h.hb))
          (t.2 * (h.wb - (h.S.kw - 1))) (min h.S.w (t.2 * (h.wb - (h.S.kw - 1)) + h.wb)))
      = .ok ((blockStarts h.S.b h.bb).map fun lb => (pairs h.sh h.sw).map fun (t : Nat × Nat) =>
          (blockStarts h.S.ci h.cib).map fun lci => c20_cvInBlk zero h x lb t.1 t.2 lci) := by
    apply R.mapM_ok
    intro lb _
    apply R.mapM_ok
    intro t _
    apply R.mapM_ok
    intro lci _
    obtain ⟨px, hpx, _⟩ := c20_cvEncInput_spec zero h x ok.fit ok.cob lb (min h.S.b (lb + h.bb)) lci (min h.S.ci (lci + h.cib))
      (t.1 * (h.hb - (h.S.kh - 1))) (min h.S.h (t.1 * (h.hb - (h.S.kh - 1)) + h.hb))
      (t.2 * (h.wb - (h.S.kw - 1))) (min h.S.w (t.2 * (h.wb - (h.S.kw - 1)) + h.wb))
      (by omega) (by omega) (by omega) (by omega)
    exact c20_val_ok #[] hpx
  simp only [bind, Except.bind]
  rw [hg]
  show Except.ok (List.flatten _) = _
  congr 1
  simp only [blockStarts, c20_pairs_eq, List.map_map]
  exact c20_flatten_grid (fun g k => (List.range (ceilDiv h.S.ci h.cib)).map fun icb =>
    c20_cvInBlk zero h x (g * h.bb) (k / h.sw) (k % h.sw) (icb * h.cib)) _ _

/-- `encode_weights_*` over all (output-channel block, input-channel block): total (incl. the `encode_polynomial` size check) -/
theorem c20_cvEncodeWeights_ok (zero : S) (h : CHelper) (w : Nat → S) (ok : c20_CvOK h) :
    cvEncodeWeights h zero w (h.S.kh * h.S.kw * h.S.ci * h.S.co)
      = .ok ((List.range (ceilDiv h.S.co h.cob)).map fun ocb => (List.range (ceilDiv h.S.ci h.cib)).map fun icb =>
          c20_cvWBlk zero h w (ocb * h.cob) (icb * h.cib)) := by
  unfold cvEncodeWeights
  have hcib := ok.cib; have hcob := ok.cob
  rw [if_neg (by simp), if_neg (by omega)]
  have : (blockStarts h.S.co h.cob).mapM (fun loc => (blockStarts h.S.ci h.cib).mapM fun lic =>
      cvEncWeightBlock h zero w loc (min h.S.co (loc + h.cob)) lic (min h.S.ci (lic + h.cib)))
      = .ok ((blockStarts h.S.co h.cob).map fun loc => (blockStarts h.S.ci h.cib).map fun lic => c20_cvWBlk zero h w loc lic) := by
    apply R.mapM_ok
    intro loc _
    apply R.mapM_ok
    intro lic _
    obtain ⟨pw, hpw, _⟩ := c20_cvEncWeight_spec zero h w ok.fitW ok.khb ok.kwb loc (min h.S.co (loc + h.cob)) lic
      (min h.S.ci (lic + h.cib)) (by omega) (by omega)
    exact c20_val_ok #[] hpw
  rw [this, c20_blocks_eq]

/-! ### the decoder over all blocks -/

/-- the loop nest of `decrypt_outputs_*` / `encode_outputs_*` for group `eb`, output-channel block starting at `lc`, as a predicate -/
theorem c20_mem_cvOutIdx (h : CHelper) (eb lc : Nat) (pi : Nat × Nat) :
    pi ∈ cvOutIdx h eb lc ↔ ∃ q1 q2 q3 q4,
      q1 < min h.S.b (eb / (h.sh * h.sw) * h.bb + h.bb) - eb / (h.sh * h.sw) * h.bb ∧ q2 < min h.S.co (lc + h.cob) - lc ∧
      q3 < h.hb - h.S.kh + 1 ∧ q4 < h.wb - h.S.kw + 1 ∧
      eb % (h.sh * h.sw) / h.sw * (h.hb - h.S.kh + 1) + q3 < h.S.h - h.S.kh + 1 ∧
      eb % h.sw * (h.wb - h.S.kw + 1) + q4 < h.S.w - h.S.kw + 1 ∧
      pi = (cyPos h q1 q2 q3 q4,
        (eb / (h.sh * h.sw) * h.bb + q1) * h.S.co * (h.S.h - h.S.kh + 1) * (h.S.w - h.S.kw + 1)
          + (lc + q2) * (h.S.h - h.S.kh + 1) * (h.S.w - h.S.kw + 1)
          + (eb % (h.sh * h.sw) / h.sw * (h.hb - h.S.kh + 1) + q3) * (h.S.w - h.S.kw + 1)
          + (eb % h.sw * (h.wb - h.S.kw + 1) + q4)) := by
  unfold cvOutIdx
  simp only [List.mem_map, List.mem_filter, c20_mem_quads, decide_eq_true_eq]
  constructor
  · rintro ⟨q, ⟨⟨h1, h2, h3, h4⟩, h5, h6⟩, rfl⟩
    exact ⟨q.1, q.2.1, q.2.2.1, q.2.2.2, h1, h2, h3, h4, h5, h6, rfl⟩
  · rintro ⟨q1, q2, q3, q4, h1, h2, h3, h4, h5, h6, rfl⟩
    exact ⟨(q1, q2, q3, q4), ⟨⟨h1, h2, h3, h4⟩, h5, h6⟩, rfl⟩

/-- the index map of `decrypt_outputs_*` for ANY family of decoded polynomials whose block (eb, ocb) carries, at every position
    the loop nest reads, the value `G` of the flat output index it is written to: the result holds `G k` at every written index -/
theorem c20_cvDecode_spec (zero : S) (h : CHelper) (bufs : List (List (Array S))) (G : Nat → S) (ok : c20_CvOK h)
    (hbufs : ∀ eb ocb, eb < h.totalBatch → ocb < ceilDiv h.S.co h.cob → ∃ buf, getPoly bufs eb ocb = .ok buf ∧
      ∀ pi ∈ cvOutIdx h eb (ocb * h.cob), readAt buf pi.1 = .ok (G pi.2))
    (hbound : ∀ eb ocb, eb < h.totalBatch → ocb < ceilDiv h.S.co h.cob → ∀ pi ∈ cvOutIdx h eb (ocb * h.cob),
      pi.2 < h.S.b * h.S.co * (h.S.h - h.S.kh + 1) * (h.S.w - h.S.kw + 1)) :
    ∃ Y, cvDecodeOutputs h zero bufs = .ok Y ∧ Y.size = h.S.b * h.S.co * (h.S.h - h.S.kh + 1) * (h.S.w - h.S.kw + 1) ∧
      ∀ eb ocb, eb < h.totalBatch → ocb < ceilDiv h.S.co h.cob → ∀ pi ∈ cvOutIdx h eb (ocb * h.cob),
        Y.getD pi.2 zero = G pi.2 := by
  have hkh := ok.kh; have hkw := ok.kw; have hbb := ok.bb; have hcob := ok.cob
  have hrun : cvDecodeOutputs h zero bufs
      = scatterA zero (h.S.b * h.S.co * (h.S.h - h.S.kh + 1) * (h.S.w - h.S.kw + 1)) (h.S.b * h.S.co * (h.S.h - h.S.kh + 1) * (h.S.w - h.S.kw + 1))
          ((pairs h.totalBatch (ceilDiv h.S.co h.cob)).flatMap fun d => (cvOutIdx h d.1 (d.2 * h.cob)).map fun pi => (pi.2, G pi.2)) := by
    unfold cvDecodeOutputs
    rw [if_neg (by omega), List.flatMap_def]
    simp only []
    rw [R.mapM_ok _ fun d => (cvOutIdx h d.1 (d.2 * h.cob)).map fun pi => (pi.2, G pi.2)]
    · rfl
    intro d hd
    obtain ⟨hd1, hd2⟩ := c20_mem_pairs.mp hd
    obtain ⟨buf, hbuf, hread⟩ := hbufs d.1 d.2 hd1 hd2
    rw [hbuf]
    show (cvOutIdx _ _ _).mapM _ = _
    apply R.mapM_ok
    intro pi hpi
    rw [hread pi hpi]
    rfl
  rw [hrun]
  refine (c20_scatter_fn zero _ _ G ?_).imp fun Y hY => ⟨hY.1, hY.2.1, fun eb ocb heb hocb pi hpi => ?_⟩
  · intro pv hpv
    obtain ⟨d, hd, hpv⟩ := List.mem_flatMap.mp hpv
    obtain ⟨pi, hpi, rfl⟩ := List.mem_map.mp hpv
    obtain ⟨hd1, hd2⟩ := c20_mem_pairs.mp hd
    exact ⟨hbound d.1 d.2 hd1 hd2 pi hpi, rfl⟩
  · exact hY.2.2 (pi.2, G pi.2)
      (List.mem_flatMap.mpr ⟨(eb, ocb), c20_mem_pairs.mpr ⟨heb, hocb⟩, List.mem_map.mpr ⟨pi, hpi, rfl⟩⟩)

/-! ### the plaintext-level evaluation and the whole-tensor theorem -/

/-- what `conv2d` computes at plaintext level: output polynomial `[group eb][output-channel block ocb]` is
    `Σ_icb X[eb][icb] ⋆ W[ocb][icb]` in S[X]/(X^n + 1) -/
def c20_cvEvalPoly [CommRing S] (h : CHelper) (X W : List (List (Array S))) (eb ocb : Nat) : Array S :=
  Array.ofFn (n := h.n) fun p => ∑ icb ∈ range (ceilDiv h.S.ci h.cib),
    negMulR h.n (fun q => ((X.getD eb []).getD icb #[]).getD q 0) (fun q => ((W.getD ocb []).getD icb #[]).getD q 0) p.val

def c20_cvEval [CommRing S] (h : CHelper) (X W : List (List (Array S))) : List (List (Array S)) :=
  (List.range h.totalBatch).map fun eb => (List.range (ceilDiv h.S.co h.cob)).map fun ocb => c20_cvEvalPoly h X W eb ocb

/-- the valid cross-correlation (no padding, stride 1): entry (b, c, i, j) of the output tensor -/
def c20_xcorr [CommRing S] (Sh : ConvShape) (x w : Nat → S) (b c i j : Nat) : S :=
  ∑ ic ∈ range Sh.ci, ∑ ki ∈ range Sh.kh, ∑ kj ∈ range Sh.kw,
    x (b * Sh.ci * (Sh.h * Sh.w) + ic * (Sh.h * Sh.w) + (i + ki) * Sh.w + (j + kj))
      * w ((c * Sh.ci + ic) * (Sh.kh * Sh.kw) + ki * Sh.kw + kj)

theorem c20_cyPos_lt {h : CHelper} (ok : c20_CvOK h) {db dc i j : Nat} (hdb : db < h.bb) (hdc : dc < h.cob)
    (hi : i < h.hb - h.S.kh + 1) (hj : j < h.wb - h.S.kw + 1) : cyPos h db dc i j < h.n := by
  have hkh := ok.kh; have hkw := ok.kw; have hkhb := ok.khb; have hkwb := ok.kwb
  rw [c20_cyPos_eq h db dc i j ok.cib ok.kh ok.kw ok.khb ok.kwb]
  exact c20_pos4_bound (grid_lt hdb hdc) (Nat.sub_lt ok.cib Nat.one_pos) (by omega) (by omega)
    (by rw [Nat.mul_assoc h.bb, Nat.mul_comm h.cob]; exact ok.fit)

/-- one axis of the tiling: the stride `hb − (kh − 1)` of the overlapping tiles is the number `hb − kh + 1` of output rows one tile
    yields, and the window of output row `q` of the tile starting at `T` lies inside the (clipped) tile -/
theorem c20_tile_axis {H kh hb T q : Nat} (hkh : 1 ≤ kh) (hkhb : kh ≤ hb) (hH : kh ≤ H) (hq : q < hb - kh + 1)
    (ht : T + q < H - kh + 1) :
    hb - (kh - 1) = hb - kh + 1 ∧ q + kh ≤ min H (T + hb) - T := ⟨by omega, by omega⟩

theorem c20_tiles_eq {H kh hb : Nat} (hkh : 1 ≤ kh) (hkhb : kh ≤ hb) (hH : kh ≤ H) :
    ceilDiv (H - (kh - 1)) (hb - (kh - 1)) = ceilDiv (H - kh + 1) (hb - kh + 1) := by
  rw [show H - (kh - 1) = H - kh + 1 by omega, show hb - (kh - 1) = hb - kh + 1 by omega]

theorem c20_cvBlk_coeff [CommRing S] (h : CHelper) (x w : Nat → S) (ok : c20_CvOK h) (hH : h.S.kh ≤ h.S.h) (hW : h.S.kw ≤ h.S.w)
    (lb t1 t2 lci loc : Nat) {q1 q2 q3 q4 : Nat}
    (h1 : q1 < min h.S.b (lb + h.bb) - lb) (h2 : q2 < min h.S.co (loc + h.cob) - loc)
    (h3 : q3 < h.hb - h.S.kh + 1) (h4 : q4 < h.wb - h.S.kw + 1)
    (h5 : t1 * (h.hb - h.S.kh + 1) + q3 < h.S.h - h.S.kh + 1) (h6 : t2 * (h.wb - h.S.kw + 1) + q4 < h.S.w - h.S.kw + 1) :
    negMulR h.n (fun p => (c20_cvInBlk 0 h x lb t1 t2 lci).getD p 0) (fun p => (c20_cvWBlk 0 h w loc lci).getD p 0)
        (cyPos h q1 q2 q3 q4)
      = ∑ ic ∈ range (min h.S.ci (lci + h.cib) - lci), ∑ ki ∈ range h.S.kh, ∑ kj ∈ range h.S.kw,
          x ((lb + q1) * h.S.ci * (h.S.h * h.S.w) + (lci + ic) * (h.S.h * h.S.w)
              + (t1 * (h.hb - h.S.kh + 1) + (q3 + ki)) * h.S.w + (t2 * (h.wb - h.S.kw + 1) + (q4 + kj)))
            * w (((loc + q2) * h.S.ci + (lci + ic)) * (h.S.kh * h.S.kw) + ki * h.S.kw + kj) := by
  obtain ⟨e1, w1⟩ := c20_tile_axis ok.kh ok.khb hH h3 h5
  obtain ⟨e2, w2⟩ := c20_tile_axis ok.kw ok.kwb hW h4 h6
  obtain ⟨px, pw, hpx, hpw, heq⟩ := c20_conv2d_coeff h x w ok.fit ok.kh ok.kw ok.khb ok.kwb lb (min h.S.b (lb + h.bb)) lci
    (min h.S.ci (lci + h.cib)) (t1 * (h.hb - h.S.kh + 1)) (min h.S.h (t1 * (h.hb - h.S.kh + 1) + h.hb))
    (t2 * (h.wb - h.S.kw + 1)) (min h.S.w (t2 * (h.wb - h.S.kw + 1) + h.wb)) loc (min h.S.co (loc + h.cob))
    c20_blk_le c20_blk_le c20_blk_le c20_blk_le c20_blk_le q1 q2 q3 q4 h1 h2 w1 w2
  unfold c20_cvInBlk c20_cvWBlk
  rw [e1, e2, hpx, hpw]
  exact heq

/-- **what the decoder reads**: for input polynomials `X` and weight polynomials `Wt` laid out as the encoders lay them out, the
    accumulated product polynomial of group `eb`, output-channel block `ocb` carries at the position of entry (`q1`, `q2`, `q3`, `q4`)
    of its tile the cross-correlation entry of the tensor position that entry stands for -/
theorem c20_cvEvalPoly_read [CommRing S] (h : CHelper) (x w : Nat → S) (ok : c20_CvOK h) (hH : h.S.kh ≤ h.S.h) (hW : h.S.kw ≤ h.S.w)
    (X Wt : List (List (Array S))) (eb ocb : Nat)
    (hX : ∀ icb, icb < ceilDiv h.S.ci h.cib → (X.getD eb []).getD icb #[]
      = c20_cvInBlk 0 h x (eb / (h.sh * h.sw) * h.bb) (eb % (h.sh * h.sw) / h.sw) (eb % h.sw) (icb * h.cib))
    (hWt : ∀ icb, icb < ceilDiv h.S.ci h.cib → (Wt.getD ocb []).getD icb #[] = c20_cvWBlk 0 h w (ocb * h.cob) (icb * h.cib))
    {q1 q2 q3 q4 : Nat} (h1 : q1 < min h.S.b (eb / (h.sh * h.sw) * h.bb + h.bb) - eb / (h.sh * h.sw) * h.bb)
    (h2 : q2 < min h.S.co (ocb * h.cob + h.cob) - ocb * h.cob) (h3 : q3 < h.hb - h.S.kh + 1) (h4 : q4 < h.wb - h.S.kw + 1)
    (h5 : eb % (h.sh * h.sw) / h.sw * (h.hb - h.S.kh + 1) + q3 < h.S.h - h.S.kh + 1)
    (h6 : eb % h.sw * (h.wb - h.S.kw + 1) + q4 < h.S.w - h.S.kw + 1) :
    readAt (c20_cvEvalPoly h X Wt eb ocb) (cyPos h q1 q2 q3 q4)
      = .ok (c20_xcorr h.S x w (eb / (h.sh * h.sw) * h.bb + q1) (ocb * h.cob + q2)
          (eb % (h.sh * h.sw) / h.sw * (h.hb - h.S.kh + 1) + q3) (eb % h.sw * (h.wb - h.S.kw + 1) + q4)) := by
  have hlt : cyPos h q1 q2 q3 q4 < h.n :=
    c20_cyPos_lt ok (lt_of_lt_of_le h1 c20_blk_le) (lt_of_lt_of_le h2 c20_blk_le) h3 h4
  unfold c20_cvEvalPoly c20_xcorr
  rw [c20_readAt_getD 0 _ (by simpa using hlt), array_getD_ofFn _ _ hlt,
    ← c20_sum_blocks (fun ic => ∑ ki ∈ range h.S.kh, ∑ kj ∈ range h.S.kw,
      x ((eb / (h.sh * h.sw) * h.bb + q1) * h.S.ci * (h.S.h * h.S.w) + ic * (h.S.h * h.S.w)
          + (eb % (h.sh * h.sw) / h.sw * (h.hb - h.S.kh + 1) + q3 + ki) * h.S.w + (eb % h.sw * (h.wb - h.S.kw + 1) + q4 + kj))
        * w (((ocb * h.cob + q2) * h.S.ci + ic) * (h.S.kh * h.S.kw) + ki * h.S.kw + kj)) h.cib h.S.ci ok.cib]
  congr 1
  refine Finset.sum_congr rfl fun icb hicb => ?_
  rw [hX icb (Finset.mem_range.mp hicb), hWt icb (Finset.mem_range.mp hicb), c20_cvBlk_coeff h x w ok hH hW _ _ _ _ _ h1 h2 h3 h4 h5 h6]
  refine Finset.sum_congr rfl fun ic _ => Finset.sum_congr rfl fun ki _ => Finset.sum_congr rfl fun kj _ => ?_
  rw [Nat.add_assoc _ q3 ki, Nat.add_assoc _ q4 kj]

/-- **the loop nest of `decrypt_outputs_*` / `encode_outputs_*` covers the output tensor**: entry (`b`, `c`, `i`, `j`) is written (at its
    flat index) from group `b / bb · (sh·sw) + (i / yh · sw + j / yw)`, output-channel block `c / cob` -/
theorem c20_cvOutIdx_cover (h : CHelper) (ok : c20_CvOK h) (hH : h.S.kh ≤ h.S.h) (hW : h.S.kw ≤ h.S.w) {b c i j : Nat}
    (hb : b < h.S.b) (hc : c < h.S.co) (hi : i < h.S.h - h.S.kh + 1) (hj : j < h.S.w - h.S.kw + 1) :
    ∃ eb ocb pos, eb < h.totalBatch ∧ ocb < ceilDiv h.S.co h.cob ∧
      (pos, b * h.S.co * (h.S.h - h.S.kh + 1) * (h.S.w - h.S.kw + 1) + c * (h.S.h - h.S.kh + 1) * (h.S.w - h.S.kw + 1)
        + i * (h.S.w - h.S.kw + 1) + j) ∈ cvOutIdx h eb (ocb * h.cob) := by
  have hkh := ok.kh; have hkw := ok.kw; have hkhb := ok.khb; have hkwb := ok.kwb
  have hbb := ok.bb; have hcob := ok.cob
  set T := h.sh * h.sw with hT
  set yh := h.hb - h.S.kh + 1 with hyh
  set yw := h.wb - h.S.kw + 1 with hyw
  set oyh := h.S.h - h.S.kh + 1 with hoyh
  set oyw := h.S.w - h.S.kw + 1 with hoyw
  have htb : h.totalBatch = ceilDiv h.S.b h.bb * T := by unfold CHelper.totalBatch; rw [hT, Nat.mul_assoc]
  have hyh0 : 0 < yh := by omega
  have hyw0 : 0 < yw := by omega
  have ht1 : i / yh < h.sh := by
    rw [show h.sh = _ from c20_tiles_eq hkh hkhb hH]; exact c20_div_lt_ceilDiv hyh0 hi
  have ht2 : j / yw < h.sw := by
    rw [show h.sw = _ from c20_tiles_eq hkw hkwb hW]; exact c20_div_lt_ceilDiv hyw0 hj
  have hob : b / h.bb < ceilDiv h.S.b h.bb := c20_div_lt_ceilDiv hbb hb
  have hocb : c / h.cob < ceilDiv h.S.co h.cob := c20_div_lt_ceilDiv hcob hc
  have htl : i / yh * h.sw + j / yw < T := by
    have := grid_succ_le (B := h.sw) ht1; omega
  have e1 := grid_div (b / h.bb) htl; have e2 := grid_mod (b / h.bb) htl
  have e3 := grid_div (i / yh) ht2; have e4 := grid_mod (i / yh) ht2
  have e5 : (b / h.bb * T + (i / yh * h.sw + j / yw)) % h.sw = j / yw := by
    have : b / h.bb * T + (i / yh * h.sw + j / yw) = (b / h.bb * h.sh + i / yh) * h.sw + j / yw := by rw [hT]; ring
    rw [this]; exact grid_mod _ ht2
  have heb : b / h.bb * T + (i / yh * h.sw + j / yw) < h.totalBatch := by
    rw [htb]
    have := grid_succ_le (B := T) hob; omega
  have er := Nat.div_add_mod' b h.bb
  have ec := Nat.div_add_mod' c h.cob
  have ei := Nat.div_add_mod' i yh
  have ej := Nat.div_add_mod' j yw
  have hmi := Nat.mod_lt i hyh0
  have hmj := Nat.mod_lt j hyw0
  have hpi : (cyPos h (b % h.bb) (c % h.cob) (i % yh) (j % yw),
      b * h.S.co * oyh * oyw + c * oyh * oyw + i * oyw + j) ∈
        cvOutIdx h (b / h.bb * T + (i / yh * h.sw + j / yw)) (c / h.cob * h.cob) := by
    rw [c20_mem_cvOutIdx]
    simp only [← hT, ← hyh, ← hyw, ← hoyh, ← hoyw]
    refine ⟨b % h.bb, c % h.cob, i % yh, j % yw, ?_, ?_, hmi, hmj, ?_, ?_, ?_⟩
    · rw [e1]; exact c20_mod_in_blk hbb hb
    · exact c20_mod_in_blk hcob hc
    · rw [e2, e3]; omega
    · rw [e5]; omega
    · rw [e1, e2, e3, e5, er, ec, ei, ej]
  exact ⟨_, _, _, heb, hocb, hpi⟩

/-- **2-D convolution, whole tensor** (any commutative ring, ALL shapes with the kernel inside the image, ALL block tuples with
    positive blocks, kernel inside the tile and `b·ci·co·h·w ≤ n`): encoding the image tiles and the weights with the model's
    encoders, multiplying and accumulating over the input-channel blocks in S[X]/(X^n + 1), and decoding with the model's decoder
    returns the valid cross-correlation, row major `b × co × (H − kh + 1) × (W − kw + 1)`. -/
theorem c20_conv2d_whole [CommRing S] (h : CHelper) (x w : Nat → S) (ok : c20_CvOK h) (hH : h.S.kh ≤ h.S.h) (hW : h.S.kw ≤ h.S.w) :
    ∃ X Wt Y, cvEncodeInputs h 0 x (h.S.b * h.S.ci * h.S.h * h.S.w) = .ok X ∧
      cvEncodeWeights h 0 w (h.S.kh * h.S.kw * h.S.ci * h.S.co) = .ok Wt ∧
      cvDecodeOutputs h 0 (c20_cvEval h X Wt) = .ok Y ∧
      Y.size = h.S.b * h.S.co * (h.S.h - h.S.kh + 1) * (h.S.w - h.S.kw + 1) ∧
      ∀ b c i j, b < h.S.b → c < h.S.co → i < h.S.h - h.S.kh + 1 → j < h.S.w - h.S.kw + 1 →
        Y.getD (b * h.S.co * (h.S.h - h.S.kh + 1) * (h.S.w - h.S.kw + 1) + c * (h.S.h - h.S.kh + 1) * (h.S.w - h.S.kw + 1)
            + i * (h.S.w - h.S.kw + 1) + j) 0 = c20_xcorr h.S x w b c i j := by
  set T := h.sh * h.sw with hT
  set yh := h.hb - h.S.kh + 1 with hyh
  set yw := h.wb - h.S.kw + 1 with hyw
  set oyh := h.S.h - h.S.kh + 1 with hoyh
  set oyw := h.S.w - h.S.kw + 1 with hoyw
  have htb : h.totalBatch = ceilDiv h.S.b h.bb * T := by unfold CHelper.totalBatch; rw [hT, Nat.mul_assoc]
  let G : Nat → S := fun k => c20_xcorr h.S x w (k / oyw / oyh / h.S.co) (k / oyw / oyh % h.S.co) (k / oyw % oyh) (k % oyw)
  let X := (List.range (ceilDiv h.S.b h.bb * T)).map fun eb =>
          (List.range (ceilDiv h.S.ci h.cib)).map fun icb =>
            c20_cvInBlk 0 h x (eb / T * h.bb) (eb % T / h.sw) (eb % T % h.sw) (icb * h.cib)
  let Wt := (List.range (ceilDiv h.S.co h.cob)).map fun ocb => (List.range (ceilDiv h.S.ci h.cib)).map fun icb =>
          c20_cvWBlk 0 h w (ocb * h.cob) (icb * h.cib)
  have hfacts : ∀ eb ocb, eb < h.totalBatch → ocb < ceilDiv h.S.co h.cob → ∀ pi ∈ cvOutIdx h eb (ocb * h.cob),
      ∃ q1 q2 q3 q4, q1 < min h.S.b (eb / T * h.bb + h.bb) - eb / T * h.bb ∧ q2 < min h.S.co (ocb * h.cob + h.cob) - ocb * h.cob ∧
        q3 < yh ∧ q4 < yw ∧ eb % T / h.sw * yh + q3 < oyh ∧ eb % h.sw * yw + q4 < oyw ∧
        pi = (cyPos h q1 q2 q3 q4,
          (((eb / T * h.bb + q1) * h.S.co + (ocb * h.cob + q2)) * oyh + (eb % T / h.sw * yh + q3)) * oyw + (eb % h.sw * yw + q4)) := by
    intro eb ocb _ _ pi hpi
    obtain ⟨q1, q2, q3, q4, h1, h2, h3, h4, h5, h6, rfl⟩ := (c20_mem_cvOutIdx h eb (ocb * h.cob) pi).mp hpi
    exact ⟨q1, q2, q3, q4, h1, h2, h3, h4, h5, h6, by rw [c20_flat4_eq]⟩
  obtain ⟨Y, hY, hsz, hval⟩ := c20_cvDecode_spec (0 : S) h (c20_cvEval h X Wt) G ok
    (by
      intro eb ocb heb hocb
      refine ⟨c20_cvEvalPoly h X Wt eb ocb, c20_getPoly_grid _ _ _ _ _ heb hocb, ?_⟩
      intro pi hpi
      obtain ⟨q1, q2, q3, q4, h1, h2, h3, h4, h5, h6, rfl⟩ := hfacts eb ocb heb hocb pi hpi
      obtain ⟨d1, d2, d3, d4⟩ := c20_digits4 (b := eb / T * h.bb + q1)
        (c20_blk_lt h2) h5 h6
      show readAt _ (cyPos h q1 q2 q3 q4) = Except.ok (c20_xcorr h.S x w _ _ _ _)
      rw [d1, d2, d3, d4]
      refine c20_cvEvalPoly_read h x w ok hH hW X Wt eb ocb (fun icb hicb => ?_) (fun icb hicb => ?_) h1 h2 h3 h4 h5 h6
      · show ((List.map _ (List.range _)).getD eb []).getD icb #[] = _
        rw [list_getD_range_map _ _ (htb ▸ heb), list_getD_range_map _ _ hicb,
          Nat.mod_mod_of_dvd eb (Dvd.intro_left h.sh rfl)]
      · show ((List.map _ (List.range _)).getD ocb []).getD icb #[] = _
        rw [list_getD_range_map _ _ hocb, list_getD_range_map _ _ hicb])
    (by
      intro eb ocb heb hocb pi hpi
      obtain ⟨q1, q2, q3, q4, h1, h2, h3, h4, h5, h6, rfl⟩ := hfacts eb ocb heb hocb pi hpi
      exact c20_flat4_lt (c20_blk_lt h1)
        (c20_blk_lt h2) h5 h6)
  refine ⟨X, Wt, Y, ?_, c20_cvEncodeWeights_ok 0 h w ok, hY, hsz, ?_⟩
  · rw [c20_cvEncodeInputs_ok 0 h x ok]
  · intro b c i j hb hc hi hj
    obtain ⟨eb, ocb, pos, heb, hocb, hpi⟩ := c20_cvOutIdx_cover h ok hH hW hb hc hi hj
    have := hval _ _ heb hocb _ hpi
    rw [this]
    show c20_xcorr h.S x w _ _ _ _ = _
    rw [c20_flat4_eq]
    obtain ⟨d1, d2, d3, d4⟩ := c20_digits4 (b := b) hc hi hj
    rw [d1, d2, d3, d4]

/-- **... for the blocks the model's search returns**: every admissible shape (positive dimensions ≤ 2^15, kernel inside the image,
    `kh·kw ≤ N`), every objective -/
theorem c20_conv2d_search [CommRing S] (Sh : ConvShape) (N : Nat) (obj : Objective) (hb : 1 ≤ Sh.b) (hci : 1 ≤ Sh.ci)
    (hco : 1 ≤ Sh.co) (hkh : 1 ≤ Sh.kh) (hkw : 1 ≤ Sh.kw) (hh : Sh.kh ≤ Sh.h) (hw : Sh.kw ≤ Sh.w) (hN : Sh.kh * Sh.kw ≤ N)
    (hsz : Sh.b ≤ 2^15 ∧ Sh.ci ≤ 2^15 ∧ Sh.co ≤ 2^15 ∧ Sh.h ≤ 2^15 ∧ Sh.w ≤ 2^15) (x w : Nat → S) :
    ∃ X Wt Y, cvEncodeInputs (CHelper.new Sh N obj) 0 x (Sh.b * Sh.ci * Sh.h * Sh.w) = .ok X ∧
      cvEncodeWeights (CHelper.new Sh N obj) 0 w (Sh.kh * Sh.kw * Sh.ci * Sh.co) = .ok Wt ∧
      cvDecodeOutputs (CHelper.new Sh N obj) 0 (c20_cvEval (CHelper.new Sh N obj) X Wt) = .ok Y ∧
      Y.size = Sh.b * Sh.co * (Sh.h - Sh.kh + 1) * (Sh.w - Sh.kw + 1) ∧
      ∀ b c i j, b < Sh.b → c < Sh.co → i < Sh.h - Sh.kh + 1 → j < Sh.w - Sh.kw + 1 →
        Y.getD (b * Sh.co * (Sh.h - Sh.kh + 1) * (Sh.w - Sh.kw + 1) + c * (Sh.h - Sh.kh + 1) * (Sh.w - Sh.kw + 1)
            + i * (Sh.w - Sh.kw + 1) + j) 0 = c20_xcorr Sh x w b c i j := by
  obtain ⟨b1, _, h1, _, w1, _, ci1, _, co1, _, hfit⟩ := c20_cvSearch_sound Sh N obj hb hci hco hkh hkw hh hw hN hsz
  have ok : c20_CvOK (CHelper.new Sh N obj) :=
    ⟨b1, ci1, co1, hkh, hkw, h1, w1, by
      show (cvSearch Sh N obj).b * ((cvSearch Sh N obj).ci * (cvSearch Sh N obj).co) * ((cvSearch Sh N obj).h * (cvSearch Sh N obj).w) ≤ N
      have e : (cvSearch Sh N obj).b * ((cvSearch Sh N obj).ci * (cvSearch Sh N obj).co) * ((cvSearch Sh N obj).h * (cvSearch Sh N obj).w)
          = (cvSearch Sh N obj).ci * (cvSearch Sh N obj).co * (cvSearch Sh N obj).w * (cvSearch Sh N obj).h * (cvSearch Sh N obj).b := by ring
      rw [e]; exact hfit⟩
  exact c20_conv2d_whole (CHelper.new Sh N obj) x w ok hh hw

end HC
