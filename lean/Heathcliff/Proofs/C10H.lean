/- C10 part H: CRT tables, decompose/compose are mutually inverse bijections, fast base conversion returns the exact
   value plus alpha·Q with 0 ≤ alpha < k.

   `DecomposeSpecStatement` (for every `v < 2^(64·size)`) is FALSE for single-modulus
   bases (`decompose` does not reduce when `size = 1`): `decomposeSpecStatement_false`.  The true version is
   `decompose_spec_of` (extra hypothesis `1 < b.size ∨ v < b.prod`). -/
import Heathcliff.Model.RNS
import Heathcliff.Proofs.C08B
import Heathcliff.Proofs.C08L
import Heathcliff.Proofs.C08A
import Heathcliff.Proofs.C09E
import Mathlib.Data.Nat.ChineseRemainder
namespace HC

/-- what `RNSBase::new` establishes -/
structure RNSBase.WF (b : RNSBase) : Prop where
  pos : 0 < b.size
  le64 : b.size ≤ 64
  mwf : ∀ i, i < b.size → (b.q i).WF
  punct_size : b.punct.size = b.size
  inv_size : b.invPunct.size = b.size
  coprime : ∀ i j, i < b.size → j < b.size → i ≠ j → Nat.Coprime (b.q i).value (b.q j).value
  prod_eq : b.prod = ((List.range b.size).map (fun i => (b.q i).value)).prod
  punct_eq : ∀ i, i < b.size → b.punct.getD i 0 * (b.q i).value = b.prod
  inv_wf : ∀ i, i < b.size → WFOp (b.q i) (b.invPunct.getD i default) ∧
            ((b.punct.getD i 0 % (b.q i).value) * (b.invPunct.getD i default).operand) % (b.q i).value = 1 % (b.q i).value

/-! ### limbs -/

theorem RNSH.fromNat_lt (n v : Nat) : ∀ x ∈ fromNat n v, x < 2^64 := fromNat_limbs n v

theorem RNSH.toNat_fromNat (n v : Nat) : toNat (fromNat n v) = v % 2^(64*n) := toNat_fromNat' n v

theorem RNSH.moduloUint_limbs {m : Modulus} (h : m.WF) {n v : Nat} (hn : 0 < n) (hv : v < 2^(64*n)) :
    moduloUint (limbsOf n v) m = .ok (v % m.value) := by
  unfold limbsOf
  rw [moduloUint_exact h _ (RNSH.fromNat_lt n v), RNSH.toNat_fromNat, Nat.mod_eq_of_lt hv]
  intro h0
  have := fromNat_length n v
  rw [h0] at this
  simp at this
  omega

theorem RNSH.prod_lt_of (ms : List Modulus) (hm : ∀ m ∈ ms, m.WF) (hpos : 0 < ms.length) :
    (ms.map (·.value)).prod < 2^(64 * ms.length) := by
  have h1 := List.prod_le_pow_card (ms.map (·.value)) (2^61) (fun x hx => by
    obtain ⟨m, hmm, rfl⟩ := List.mem_map.mp hx
    exact (hm m hmm).lt.le)
  rw [List.length_map, ← Nat.pow_mul] at h1
  exact lt_of_le_of_lt h1 (Nat.pow_lt_pow_right (by norm_num) (by omega))

namespace RNSBase.WF
variable {b : RNSBase} (hb : b.WF)
include hb

theorem prod_lt : b.prod < 2^(64 * b.size) := by
  rw [hb.prod_eq]
  simpa [List.map_map, Function.comp_def] using RNSH.prod_lt_of ((List.range b.size).map b.q)
    (fun m hm => by obtain ⟨i, hi, rfl⟩ := List.mem_map.mp hm; exact hb.mwf i (List.mem_range.mp hi)) (by simpa using hb.pos)

theorem q_dvd_prod {i : Nat} (hi : i < b.size) : (b.q i).value ∣ b.prod :=
  ⟨b.punct.getD i 0, by rw [← hb.punct_eq i hi, Nat.mul_comm]⟩

theorem prod_pos : 0 < b.prod := by
  have h0 := hb.punct_eq 0 hb.pos
  have h1 := (hb.mwf 0 hb.pos).two_le
  rcases Nat.eq_zero_or_pos b.prod with h | h
  · exfalso
    rw [hb.prod_eq] at h
    rw [List.prod_eq_zero_iff] at h
    simp only [List.mem_map, List.mem_range] at h
    obtain ⟨i, hi, h⟩ := h
    have := (hb.mwf i hi).two_le
    omega
  · exact h

theorem punct_le {i : Nat} (hi : i < b.size) : b.punct.getD i 0 ≤ b.prod := by
  have h0 := hb.punct_eq i hi
  have h1 := (hb.mwf i hi).two_le
  rw [← h0]
  exact Nat.le_mul_of_pos_right _ (by omega)

theorem q_dvd_punct {i j : Nat} (hi : i < b.size) (hj : j < b.size) (hij : i ≠ j) :
    (b.q j).value ∣ b.punct.getD i 0 := by
  have h1 : (b.q j).value ∣ b.punct.getD i 0 * (b.q i).value := by
    rw [hb.punct_eq i hi]; exact hb.q_dvd_prod hj
  exact (hb.coprime j i hj hi (Ne.symm hij)).dvd_of_dvd_mul_right h1

theorem crt_modEq {x y : Nat} (h : ∀ i, i < b.size → x % (b.q i).value = y % (b.q i).value) :
    x ≡ y [MOD b.prod] := by
  rw [hb.prod_eq]
  rw [Nat.modEq_list_map_prod_iff]
  · intro i hi
    exact h i (List.mem_range.mp hi)
  · apply (List.pairwise_lt_range (n := b.size)).imp_of_mem
    intro i j hi hj hij
    exact hb.coprime i j (List.mem_range.mp hi) (List.mem_range.mp hj) (Nat.ne_of_lt hij)

end RNSBase.WF

/-- CRT uniqueness below the product -/
theorem crt_unique {b : RNSBase} (hb : b.WF) {x y : Nat} (hx : x < b.prod) (hy : y < b.prod)
    (h : ∀ i, i < b.size → x % (b.q i).value = y % (b.q i).value) : x = y :=
  (hb.crt_modEq h).eq_of_lt_of_lt hx hy

/-- the same for integers: congruent modulo every q_i, congruent modulo the product -/
theorem RNSBase.WF.crt_modEq_int {b : RNSBase} (hb : b.WF) {x y : Int}
    (h : ∀ i, i < b.size → x ≡ y [ZMOD ((b.q i).value : Int)]) : x ≡ y [ZMOD (b.prod : Int)] := by
  apply (Int.modEq_iff_dvd).mpr
  apply Int.natCast_dvd.mpr
  have h1 : (y - x).natAbs ≡ 0 [MOD b.prod] := by
    apply hb.crt_modEq
    intro i hi
    rw [Nat.zero_mod]
    exact Nat.mod_eq_zero_of_dvd (Int.natCast_dvd.mp ((Int.modEq_iff_dvd).mp (h i hi)))
  exact (Nat.modEq_zero_iff_dvd).mp h1

/-! ### decompose -/

theorem RNSBase.WF.prod_of_size_one {b : RNSBase} (hb : b.WF) (h1 : b.size = 1) : b.prod = (b.q 0).value := by
  rw [hb.prod_eq, h1]; simp

/-- `decompose` is correct when the base has at least two moduli, or the value is already reduced. -/
theorem decompose_spec_of {b : RNSBase} (hb : b.WF) {v : Nat} (hv : v < 2^(64 * b.size))
    (h1 : 1 < b.size ∨ v < b.prod) :
    ∃ rs, b.decompose v = .ok rs ∧ rs.size = b.size ∧ ∀ i, i < b.size → rs.getD i 0 = v % (b.q i).value := by
  unfold RNSBase.decompose
  by_cases hs : b.size > 1
  · rw [if_pos hs]
    refine ⟨_, R.foldlM_push_step (fun i => v % (b.q i).value) _ #[] (fun acc i hi => ?_), by simp, fun i hi => ?_⟩
    · rw [RNSH.moduloUint_limbs (hb.mwf i (List.mem_range.mp hi)) hb.pos hv]; rfl
    · simp [Array.getD, hi]
  · rw [if_neg hs]
    have hs1 : b.size = 1 := by have := hb.pos; omega
    have hvp : v < b.prod := by
      rcases h1 with h | h
      · omega
      · exact h
    refine ⟨#[v], rfl, by simp [hs1], ?_⟩
    intro i hi
    have hi0 : i = 0 := by omega
    subst hi0
    rw [hb.prod_of_size_one hs1] at hvp
    rw [Nat.mod_eq_of_lt hvp]
    simp

/-- FALSE for single-modulus bases (the statement ranges over every `v < 2^(64·size)`):
    `decompose` does not reduce in that case (as in the code: `if size_ > 1 { … }`). -/
def DecomposeSpecStatement : Prop :=
  ∀ {b : RNSBase} (_ : b.WF) {v : Nat} (_ : v < 2^(64 * b.size)),
    ∃ rs, b.decompose v = .ok rs ∧ rs.size = b.size ∧ ∀ i, i < b.size → rs.getD i 0 = v % (b.q i).value

def RNSH.cexBase : RNSBase := ⟨#[⟨2, 0, 2^63, 0, 2⟩], 2, #[1], #[⟨1, 2^63⟩]⟩

theorem RNSH.cexBase_wf : RNSH.cexBase.WF := by
  have hq : ∀ i, i < 1 → RNSH.cexBase.q i = ⟨2, 0, 2^63, 0, 2⟩ := by
    intro i hi
    have : i = 0 := by omega
    subst this; rfl
  have hsz : RNSH.cexBase.size = 1 := rfl
  refine ⟨by rw [hsz]; omega, by rw [hsz]; omega, ?_, rfl, rfl, ?_, ?_, ?_, ?_⟩
  · intro i hi
    rw [hq i (by rw [hsz] at hi; exact hi)]
    exact ⟨by norm_num, by norm_num, by norm_num [B64], by norm_num [B64], by norm_num⟩
  · intro i j hi hj hij
    rw [hsz] at hi hj; omega
  · rw [hsz]; simp [hq 0 (by omega)]; rfl
  · intro i hi
    rw [hsz] at hi
    have : i = 0 := by omega
    subst this
    rfl
  · intro i hi
    rw [hsz] at hi
    have : i = 0 := by omega
    subst this
    refine ⟨⟨by show 1 < 2; omega, by show 2^63 = 1 * 2^64 / 2; norm_num⟩, by show (1 % 2 * 1) % 2 = 1 % 2; rfl⟩

theorem decomposeSpecStatement_false : ¬ DecomposeSpecStatement := by
  intro h
  obtain ⟨rs, h1, _, h3⟩ := @h RNSH.cexBase RNSH.cexBase_wf 3 (by show 3 < 2^(64 * 1); norm_num)
  have h2 : RNSH.cexBase.decompose 3 = .ok #[3] := rfl
  rw [h2] at h1
  injection h1 with h1
  subst h1
  have := h3 0 (by show 0 < 1; omega)
  revert this
  show ¬ ((3 : Nat) = 3 % 2)
  omega

/-! ### compose -/

theorem RNSH.mulOperandMod_wf {m : Modulus} (h : m.WF) {o : MulOperand} (ho : WFOp m o) {x : Nat} (hx : x < 2^64) :
    mulOperandMod x o m = .ok ((x * o.operand) % m.value) :=
  mulOperandMod_exact h hx ho.1 (WFOp.new_eq h ho)

theorem RNSH.foldlM_range_inv {α : Type} (f : α → Nat → R α) (P : Nat → α → Prop) (n : Nat) (a0 : α) (h0 : P 0 a0)
    (hstep : ∀ i a, i < n → P i a → ∃ a', f a i = .ok a' ∧ P (i+1) a') :
    ∃ a, (List.range n).foldlM f a0 = .ok a ∧ P n a := by
  induction n with
  | zero => exact ⟨a0, rfl, h0⟩
  | succ k ih =>
    obtain ⟨a, h1, h2⟩ := ih (fun i a hi hp => hstep i a (by omega) hp)
    obtain ⟨a', h3, h4⟩ := hstep k a (by omega) h2
    refine ⟨a', ?_, h4⟩
    rw [List.range_succ, List.foldlM_append, h1]
    show List.foldlM f a [k] = _
    rw [List.foldlM_cons, h3]; rfl

theorem RNSH.inv_cancel {p r v q : Nat} (h : (p % q * v) % q = 1 % q) : (p * ((r * v) % q)) % q = r % q := by
  have h1 : p * v ≡ 1 [MOD q] := by
    have : (p * v) % q = (p % q * v) % q := by rw [Nat.mul_mod p v, Nat.mul_mod (p % q) v, Nat.mod_mod]
    unfold Nat.ModEq
    rw [this]; exact h
  have h2 : p * ((r * v) % q) ≡ p * (r * v) [MOD q] := Nat.ModEq.mul_left _ (Nat.mod_modEq _ _)
  have h3 : p * (r * v) ≡ r * 1 [MOD q] := by
    rw [show p * (r * v) = r * (p * v) by ring]
    exact Nat.ModEq.mul_left _ h1
  have := h2.trans h3
  rw [Nat.mul_one] at this
  exact this

/-- the `add_uint_mod` step at the value level -/
theorem RNSH.addUintMod_val {acc term P M : Nat} (ha : acc < P) (ht : term < P) (hP : P < M) :
    let s := acc + term
    let r := if s ≥ M ∨ s ≥ P then (s + M - P) % M else s
    r < P ∧ r ≡ acc + term [MOD P] := by
  intro s r
  by_cases hc : s ≥ P
  · have hr : r = s - P := by
      show (if s ≥ M ∨ s ≥ P then (s + M - P) % M else s) = _
      rw [if_pos (Or.inr hc), show s + M - P = (s - P) + M by omega, Nat.add_mod_right,
        Nat.mod_eq_of_lt (show acc + term - P < M by omega)]
    rw [hr]
    exact ⟨show acc + term - P < P by omega, (Nat.mod_eq_sub_mod hc).symm⟩
  · have hr : r = s := if_neg (fun h => h.elim (fun h => hc (by omega)) hc)
    rw [hr]
    exact ⟨by omega, Nat.ModEq.refl _⟩

theorem RNSH.list_sum_mod_congr {α : Type} (l : List α) (f g : α → Nat) (p : Nat) (h : ∀ a ∈ l, f a % p = g a % p) :
    (l.map f).sum % p = (l.map g).sum % p := by
  induction l with
  | nil => rfl
  | cons a l ih =>
    simp only [List.map_cons, List.sum_cons]
    rw [Nat.add_mod, h a (by simp), ih (fun x hx => h x (by simp [hx])), ← Nat.add_mod]

theorem RNSH.list_sum_le {α : Type} (l : List α) (f : α → Nat) (B : Nat) (h : ∀ a ∈ l, f a ≤ B) :
    (l.map f).sum ≤ l.length * B := by
  induction l with
  | nil => simp
  | cons a l ih =>
    simp only [List.map_cons, List.sum_cons, List.length_cons]
    have := ih (fun x hx => h x (by simp [hx]))
    have := h a (by simp)
    rw [Nat.succ_mul]; omega

theorem RNSH.sum_range_mod_single (f : Nat → Nat) (q j n : Nat) (h : ∀ i, i < n → i ≠ j → f i % q = 0) :
    ((List.range n).map f).sum % q = if j < n then f j % q else 0 := by
  induction n with
  | zero => simp
  | succ k ih =>
    have ih' := ih (fun i hi => h i (by omega))
    rw [List.range_succ, List.map_append, List.sum_append, Nat.add_mod, ih']
    simp only [List.map_cons, List.map_nil, List.sum_cons, List.sum_nil, Nat.add_zero]
    by_cases hjk : j = k
    · subst hjk
      rw [if_neg (by omega), if_pos (by omega)]; simp
    · rw [h k (by omega) (Ne.symm hjk)]
      by_cases hlt : j < k
      · rw [if_pos hlt, if_pos (by omega)]; simp
      · rw [if_neg hlt, if_neg (by omega)]; simp

/-- the integer `Σ_i [f_i · (Q/q_i)^{-1}]_{q_i} · (Q/q_i)` the fast base conversion reduces modulo the output moduli
    (the name is the one the BEHZ multiplication of C02W uses it under) -/
def c02w_crtSum (b : RNSBase) (f : Nat → Nat) : Nat :=
  ((List.range b.size).map fun i =>
    ((f i * (b.invPunct.getD i default).operand) % (b.q i).value) * b.punct.getD i 0).sum

theorem c02w_crtSum_congr (b : RNSBase) {f g : Nat → Nat} (h : ∀ i, i < b.size → f i = g i) :
    c02w_crtSum b f = c02w_crtSum b g := by
  unfold c02w_crtSum
  congr 1
  apply List.map_congr_left
  intro i hi
  rw [h i (List.mem_range.mp hi)]

theorem c02w_crtSum_mod {b : RNSBase} (hb : b.WF) (f : Nat → Nat) {j : Nat} (hj : j < b.size) :
    c02w_crtSum b f % (b.q j).value = f j % (b.q j).value := by
  unfold c02w_crtSum
  rw [RNSH.sum_range_mod_single _ _ j, if_pos hj, Nat.mul_comm]
  · exact RNSH.inv_cancel (hb.inv_wf j hj).2
  · intro i hi hij
    exact Nat.mod_eq_zero_of_dvd (Dvd.dvd.mul_left (hb.q_dvd_punct hi hj hij) _)

theorem compose_spec {b : RNSBase} (hb : b.WF) {rs : Array Nat} (hs : rs.size = b.size) (hr : ∀ i, i < b.size → rs.getD i 0 < (b.q i).value) :
    ∃ x, b.compose rs = .ok x ∧ x < b.prod ∧ ∀ i, i < b.size → x % (b.q i).value = rs.getD i 0 % (b.q i).value := by
  have _ := hs
  unfold RNSBase.compose
  by_cases hk : b.size > 1
  · rw [if_pos hk]
    -- the accumulator stays below the product and congruent to the partial CRT sum
    obtain ⟨x, h1, h2, h3⟩ := RNSH.foldlM_range_inv
      (fun acc i => do
        let tp ← mulOperandMod (rs.getD i 0) (b.invPunct.getD i default) (b.q i)
        let term := (b.punct.getD i 0 * tp) % 2^(64 * b.size)
        let s := acc + term
        pure (if s ≥ 2^(64 * b.size) ∨ s ≥ b.prod then (s + 2^(64 * b.size) - b.prod) % 2^(64 * b.size) else s))
      (fun i acc => acc < b.prod ∧ acc ≡ ((List.range i).map fun i =>
        ((rs.getD i 0 * (b.invPunct.getD i default).operand) % (b.q i).value) * b.punct.getD i 0).sum [MOD b.prod])
      b.size 0 ⟨hb.prod_pos, Nat.ModEq.refl _⟩ (by
        intro i acc hi ⟨ha, hinv⟩
        have hq2 := (hb.mwf i hi).two_le
        have hql := (hb.mwf i hi).lt
        have hri := hr i hi
        rw [RNSH.mulOperandMod_wf (hb.mwf i hi) (hb.inv_wf i hi).1 (by omega)]
        have hterm : b.punct.getD i 0 * ((rs.getD i 0 * (b.invPunct.getD i default).operand) % (b.q i).value) < b.prod := by
          rw [← hb.punct_eq i hi]
          exact Nat.mul_lt_mul_of_le_of_lt (Nat.le_refl _) (Nat.mod_lt _ (by omega))
            (Nat.pos_of_ne_zero (fun h0 => by have := hb.punct_eq i hi; have := hb.prod_pos; rw [h0, Nat.zero_mul] at *; omega))
        have hPM := hb.prod_lt
        obtain ⟨r1, r2⟩ := RNSH.addUintMod_val ha hterm hPM
        refine ⟨_, rfl, ?_, ?_⟩
        · simp only [Nat.mod_eq_of_lt (Nat.lt_trans hterm hPM)]; exact r1
        · simp only [Nat.mod_eq_of_lt (Nat.lt_trans hterm hPM)]
          rw [List.range_succ, List.map_append, List.sum_append, List.map_singleton, List.sum_singleton,
            Nat.mul_comm (_ % _)]
          exact r2.trans (hinv.add_right _))
    exact ⟨x, h1, h2, fun i hi => (h3.of_dvd (hb.q_dvd_prod hi)).trans (c02w_crtSum_mod hb (fun i => rs.getD i 0) hi)⟩
  · rw [if_neg hk]
    have hs1 : b.size = 1 := by have := hb.pos; omega
    refine ⟨_, rfl, by rw [hb.prod_of_size_one hs1]; exact hr 0 hb.pos, fun i hi => ?_⟩
    obtain rfl : i = 0 := by omega
    rfl

/-- CRT existence below the product (the witness is what `compose` returns on the reduced residues) -/
theorem RNSBase.WF.crt_exists {b : RNSBase} (hb : b.WF) (f : Nat → Nat) :
    ∃ x, x < b.prod ∧ ∀ i, i < b.size → x % (b.q i).value = f i % (b.q i).value := by
  obtain ⟨x, -, hx, hxr⟩ := compose_spec hb (rs := ((List.range b.size).map fun i => f i % (b.q i).value).toArray) (by simp)
    (fun i hi => by rw [array_getD_range_map _ 0 hi]; exact Nat.mod_lt _ (by have := (hb.mwf i hi).two_le; omega))
  exact ⟨x, hx, fun i hi => by rw [hxr i hi, array_getD_range_map _ 0 hi, Nat.mod_mod]⟩

/-- compose ∘ decompose = id below the product -/
theorem compose_decompose {b : RNSBase} (hb : b.WF) {v : Nat} (hv : v < b.prod) :
    ∃ rs, b.decompose v = .ok rs ∧ b.compose rs = .ok v := by
  have hvM : v < 2^(64 * b.size) := Nat.lt_trans hv hb.prod_lt
  obtain ⟨rs, h1, h2, h3⟩ := decompose_spec_of hb hvM (Or.inr hv)
  refine ⟨rs, h1, ?_⟩
  have hq : ∀ i, i < b.size → 0 < (b.q i).value := fun i hi => by have := (hb.mwf i hi).two_le; omega
  obtain ⟨x, c1, c2, c3⟩ := compose_spec hb h2 (fun i hi => by rw [h3 i hi]; exact Nat.mod_lt _ (hq i hi))
  have : x = v := crt_unique hb c2 hv (fun i hi => by rw [c3 i hi, h3 i hi, Nat.mod_mod])
  rw [c1, this]

/-- decompose ∘ compose = id on canonical residue vectors -/
theorem decompose_compose {b : RNSBase} (hb : b.WF) {rs : Array Nat} (hs : rs.size = b.size)
    (hr : ∀ i, i < b.size → rs.getD i 0 < (b.q i).value) :
    ∃ x, b.compose rs = .ok x ∧ b.decompose x = .ok rs := by
  obtain ⟨x, c1, c2, c3⟩ := compose_spec hb hs hr
  refine ⟨x, c1, ?_⟩
  obtain ⟨rs', h1, h2, h3⟩ := decompose_spec_of hb (Nat.lt_trans c2 hb.prod_lt) (Or.inr c2)
  rw [h1]
  congr 1
  apply Array.ext (by rw [h2, hs])
  intro i hi1 hi2
  have hi : i < b.size := by rw [← hs]; exact hi2
  have e := h3 i hi
  rw [c3 i hi, Nat.mod_eq_of_lt (hr i hi)] at e
  simpa [Array.getD, hi1, hi2] using e

/-! ### fast base conversion -/

theorem BaseConverter.new_eq {ib ob : RNSBase} (hi : ib.WF) (ho : ob.WF) :
    BaseConverter.new ib ob = .ok ⟨ib, ob,
      (((List.range ob.size).map fun i => (List.range ib.size).map fun j =>
          ib.punct.getD j 0 % (ob.q i).value).map List.toArray).toArray⟩ := by
  have key : (List.range ob.size).mapM (fun i =>
      (List.range ib.size).mapM fun j => moduloUint (limbsOf ib.size (ib.punct.getD j 0)) (ob.q i))
      = .ok ((List.range ob.size).map fun i => (List.range ib.size).map fun j =>
          ib.punct.getD j 0 % (ob.q i).value) :=
    R.mapM_ok _ _ _ (fun i hi' => R.mapM_ok _ _ _ (fun j hj =>
      RNSH.moduloUint_limbs (ho.mwf i (List.mem_range.mp hi')) hi.pos
        (Nat.lt_of_le_of_lt (hi.punct_le (List.mem_range.mp hj)) hi.prod_lt)))
  unfold BaseConverter.new
  rw [key]
  rfl

theorem RNSH.scaled_ok (c : BaseConverter) (hi : c.ibase.WF) {xs : Array Nat}
    (hx : ∀ i, i < c.ibase.size → xs.getD i 0 < 2^64) :
    c.scaled xs = .ok ((List.range c.ibase.size).map fun i =>
      (xs.getD i 0 * (c.ibase.invPunct.getD i default).operand) % (c.ibase.q i).value) := by
  unfold BaseConverter.scaled
  apply R.mapM_ok
  intro i hi'
  have hi'' := List.mem_range.mp hi'
  have hm := hi.mwf i hi''
  obtain ⟨hop, _⟩ := hi.inv_wf i hi''
  simp only []
  split
  · rename_i h1
    rw [barrett64_exact hm (hx i hi''), h1, Nat.mul_one]
  · exact RNSH.mulOperandMod_wf hm hop (hx i hi'')

/-- the CRT reconstruction sum `S = Σ temp_i · (Q/q_i)` of the residues `f i` of `x < Q` equals `x + α·Q` with `α < k` -/
theorem c02w_crtSum_spec {b : RNSBase} (hb : b.WF) (f : Nat → Nat) {x : Nat} (hxl : x < b.prod)
    (hxr : ∀ i, i < b.size → x % (b.q i).value = f i % (b.q i).value) :
    ∃ alpha, alpha < b.size ∧ c02w_crtSum b f = x + alpha * b.prod := by
  have hmodj := fun j hj => c02w_crtSum_mod hb f (j := j) hj
  unfold c02w_crtSum at hmodj ⊢
  generalize hS : ((List.range b.size).map fun i =>
        ((f i * (b.invPunct.getD i default).operand) % (b.q i).value) * b.punct.getD i 0).sum = S
  have hQ := hb.prod_pos
  have hbound : S ≤ b.size * (b.prod - 1) := by
    rw [← hS]
    have := RNSH.list_sum_le (List.range b.size) (fun i =>
        ((f i * (b.invPunct.getD i default).operand) % (b.q i).value) * b.punct.getD i 0) (b.prod - 1) (by
      intro i hi
      have hi' := List.mem_range.mp hi
      have h2 := (hb.mwf i hi').two_le
      have hpe := hb.punct_eq i hi'
      have hlt : (f i * (b.invPunct.getD i default).operand) % (b.q i).value ≤ (b.q i).value - 1 := by
        have := Nat.mod_lt (f i * (b.invPunct.getD i default).operand) (show 0 < (b.q i).value by omega)
        omega
      have hpp : 0 < b.punct.getD i 0 :=
        Nat.pos_of_ne_zero (fun h0 => by rw [h0, Nat.zero_mul] at hpe; omega)
      calc _ ≤ ((b.q i).value - 1) * b.punct.getD i 0 := Nat.mul_le_mul_right _ hlt
        _ = b.prod - b.punct.getD i 0 := by
            rw [Nat.sub_mul, Nat.one_mul, Nat.mul_comm, hpe]
        _ ≤ b.prod - 1 := by omega)
    simpa using this
  have hmod : S ≡ x [MOD b.prod] :=
    hb.crt_modEq (fun j hj => by rw [← hS, hmodj j hj, hxr j hj])
  have hSx : S % b.prod = x := by
    rw [hmod, Nat.mod_eq_of_lt hxl]
  refine ⟨S / b.prod, ?_, ?_⟩
  · apply Nat.div_lt_of_lt_mul
    have hk := hb.pos
    have : b.size * (b.prod - 1) < b.prod * b.size := by
      rw [Nat.mul_comm b.prod]
      exact Nat.mul_lt_mul_of_pos_left (by omega) hk
    omega
  · have := Nat.mod_add_div S b.prod
    rw [hSx] at this
    rw [Nat.mul_comm]; exact this.symm

theorem RNSH.dot_ok {ib : RNSBase} (hi : ib.WF) {p : Modulus} (hp : p.WF) (t : Nat → Nat)
    (ht : ∀ i, i < ib.size → t i < (ib.q i).value) :
    dotProductMod ((List.range ib.size).map t)
        ((List.range ib.size).map fun i => ib.punct.getD i 0 % p.value) p
      = .ok (((List.range ib.size).map fun i => t i * ib.punct.getD i 0).sum % p.value) := by
  have hp2 := hp.two_le
  have hpl := hp.lt
  have hT : ∀ x ∈ (List.range ib.size).map t, x < 2^61 := by
    intro x hx
    simp only [List.mem_map, List.mem_range] at hx
    obtain ⟨i, hi', rfl⟩ := hx
    exact Nat.lt_trans (ht i hi') (hi.mwf i hi').lt
  have hMx : ∀ y ∈ (List.range ib.size).map (fun i => ib.punct.getD i 0 % p.value), y < 2^61 := by
    intro y hy
    simp only [List.mem_map, List.mem_range] at hy
    obtain ⟨i, _, rfl⟩ := hy
    exact Nat.lt_trans (Nat.mod_lt _ (by omega)) hpl
  have hlen : ((List.range ib.size).map t).length
      = ((List.range ib.size).map fun i => ib.punct.getD i 0 % p.value).length := by simp
  rw [dotProductMod_exact hp hlen
    (fun x hx => Nat.lt_trans (hT x hx) (by norm_num))
    (fun y hy => Nat.lt_trans (hMx y hy) (by norm_num))
    (dotProduct_sum_bound hlen (by simpa using hi.le64) hT hMx)]
  congr 1
  rw [List.zip_map', List.map_map]
  apply RNSH.list_sum_mod_congr
  intro i _
  simp only [Function.comp]
  rw [Nat.mul_mod, Nat.mod_mod, ← Nat.mul_mod]

/-- the fast conversion returns the CRT sum itself, reduced modulo each output modulus -/
theorem RNSH.fastConvert_eq (c : BaseConverter) (hi : c.ibase.WF) (ho : c.obase.WF)
    (hM : ∀ j, j < c.obase.size → (c.matrix.getD j #[]).toList =
        (List.range c.ibase.size).map (fun i => c.ibase.punct.getD i 0 % (c.obase.q j).value))
    {xs : Array Nat} (hx : ∀ i, i < c.ibase.size → xs.getD i 0 < 2^64) :
    c.fastConvert xs = .ok ((List.range c.obase.size).map fun j =>
      c02w_crtSum c.ibase (fun i => xs.getD i 0) % (c.obase.q j).value).toArray := by
  unfold BaseConverter.fastConvert
  rw [RNSH.scaled_ok c hi hx]
  have key : (List.range c.obase.size).mapM (fun j =>
      dotProductMod ((List.range c.ibase.size).map fun i =>
        (xs.getD i 0 * (c.ibase.invPunct.getD i default).operand) % (c.ibase.q i).value)
        (c.matrix.getD j #[]).toList (c.obase.q j))
      = .ok ((List.range c.obase.size).map fun j => c02w_crtSum c.ibase (fun i => xs.getD i 0) % (c.obase.q j).value) := by
    apply R.mapM_ok
    intro j hj
    have hj' := List.mem_range.mp hj
    rw [hM j hj', RNSH.dot_ok hi (ho.mwf j hj') _ (fun i hi' =>
      Nat.mod_lt _ (by have := (hi.mwf i hi').two_le; omega))]
    rfl
  simp only [bind, Except.bind]
  rw [key]
  rfl

/-- the scaled residues `[x_i · (Q/q_i)^{-1}]_{q_i}` -/
def crtScaled (b : RNSBase) (f : Nat → Nat) : List Nat :=
  (List.range b.size).map fun i => (f i * (b.invPunct.getD i default).operand) % (b.q i).value

/-- `exact_convey_array` on one coefficient, for a converter with the punctured-product matrix into ONE modulus `p`: the final subtraction
    `S mod p − v·(Q mod p)` modulo `p`, `S` the CRT sum and `v` the rounded quotient `exactRound` (a word) -/
theorem RNSH.exactConvey_eq (c : BaseConverter) (hi : c.ibase.WF) (ho : c.obase.WF) (ho1 : c.obase.size = 1)
    (hM : (c.matrix.getD 0 #[]).toList = (List.range c.ibase.size).map (fun i => c.ibase.punct.getD i 0 % (c.obase.q 0).value))
    {xs : Array Nat} (hx : ∀ i, i < c.ibase.size → xs.getD i 0 < 2^64)
    (hv : exactRound c (crtScaled c.ibase fun i => xs.getD i 0) < 2^64) :
    c.exactConvey xs = subMod (c02w_crtSum c.ibase (fun i => xs.getD i 0) % (c.obase.q 0).value)
      ((exactRound c (crtScaled c.ibase fun i => xs.getD i 0) * (c.ibase.prod % (c.obase.q 0).value)) % (c.obase.q 0).value) (c.obase.q 0) := by
  have hp := ho.mwf 0 (by omega)
  have hp0 : 0 < (c.obase.q 0).value := hp.pos
  unfold crtScaled at hv ⊢
  unfold BaseConverter.exactConvey
  dsimp only
  rw [if_neg (by omega), RNSH.scaled_ok _ hi hx, R.ok_bind, RNSH.moduloUint_limbs hp hi.pos hi.prod_lt, R.ok_bind, hM,
    RNSH.dot_ok hi hp _ (fun i hi' => Nat.mod_lt _ (hi.mwf i hi').pos), R.ok_bind,
    mulMod_exact hp hv (Nat.lt_trans (Nat.mod_lt _ hp0) (Nat.lt_trans hp.lt (by norm_num))), R.ok_bind]
  rfl

theorem RNSH.fastConvert_core (c : BaseConverter) (hi : c.ibase.WF) (ho : c.obase.WF)
    (hM : ∀ j, j < c.obase.size → (c.matrix.getD j #[]).toList =
        (List.range c.ibase.size).map (fun i => c.ibase.punct.getD i 0 % (c.obase.q j).value))
    {xs : Array Nat} (hx : ∀ i, i < c.ibase.size → xs.getD i 0 < 2^64)
    {x : Nat} (hxl : x < c.ibase.prod)
    (hxr : ∀ i, i < c.ibase.size → x % (c.ibase.q i).value = xs.getD i 0 % (c.ibase.q i).value) :
    ∃ out alpha, c.fastConvert xs = .ok out ∧ out.size = c.obase.size ∧ alpha < c.ibase.size ∧
      ∀ j, j < c.obase.size → out.getD j 0 = (x + alpha * c.ibase.prod) % (c.obase.q j).value := by
  obtain ⟨alpha, ha, hS⟩ := c02w_crtSum_spec hi (fun i => xs.getD i 0) hxl hxr
  refine ⟨_, alpha, RNSH.fastConvert_eq c hi ho hM hx,
    by rw [List.size_toArray, List.length_map, List.length_range], ha, fun j hj => ?_⟩
  rw [array_getD_range_map _ 0 hj, hS]

/-- what `BaseConverter.new` builds from well-formed bases -/
theorem RNSH.new_spec {ib ob : RNSBase} {c : BaseConverter} (hi : ib.WF) (ho : ob.WF) (hc : BaseConverter.new ib ob = .ok c) :
    c.ibase = ib ∧ c.obase = ob ∧ c.matrix.size = ob.size ∧ ∀ j, j < ob.size → (c.matrix.getD j #[]).toList =
      (List.range ib.size).map (fun i => ib.punct.getD i 0 % (ob.q j).value) := by
  rw [BaseConverter.new_eq hi ho] at hc
  injection hc with hc
  subst hc
  exact ⟨rfl, rfl, by simp, fun j hj => by simp [Array.getD, hj]⟩

/-- for a converter built by `BaseConverter.new`: ONE sum for every output modulus and every converter of the same input -/
theorem c02w_fastConvert_eq {ib ob : RNSBase} {c : BaseConverter} (hi : ib.WF) (ho : ob.WF)
    (hc : BaseConverter.new ib ob = .ok c) {xs : Array Nat} (hx : ∀ i, i < ib.size → xs.getD i 0 < 2^64) :
    c.fastConvert xs = .ok ((List.range ob.size).map fun j =>
      c02w_crtSum ib (fun i => xs.getD i 0) % (ob.q j).value).toArray := by
  obtain ⟨rfl, rfl, -, hM⟩ := RNSH.new_spec hi ho hc
  exact RNSH.fastConvert_eq c hi ho hM hx

theorem transpose_toList (p : RnsPoly) (n : Nat) :
    (transpose p n).toList = (List.range n).map (fun j => p.map (fun comp => comp.getD j 0)) := by
  apply List.ext_getElem
  · simp [transpose]
  · intro i h1 h2
    simp [transpose]

/-- `fast_convert_array` as an equation: entry `j` of output component `o` is the CRT sum of column `j` of the input, reduced modulo the
    `o`-th output modulus -/
theorem RNSH.fastConvertArray_eq (c : BaseConverter) (hi : c.ibase.WF) (ho : c.obase.WF)
    (hM : ∀ j, j < c.obase.size → (c.matrix.getD j #[]).toList =
        (List.range c.ibase.size).map (fun i => c.ibase.punct.getD i 0 % (c.obase.q j).value))
    (p : RnsPoly) (n : Nat) (hp : p.size = c.ibase.size) (hx : ∀ i j, i < c.ibase.size → j < n → (p.getD i #[]).getD j 0 < 2^64) :
    c.fastConvertArray p n = .ok ((List.range c.obase.size).map fun o => ((List.range n).map fun j =>
      c02w_crtSum c.ibase (fun i => (p.getD i #[]).getD j 0) % (c.obase.q o).value).toArray).toArray := by
  have hcol : ∀ j i, i < c.ibase.size → (p.map (fun comp => comp.getD j 0)).getD i 0 = (p.getD i #[]).getD j 0 := fun j i hi' => by
    have : i < p.size := hp ▸ hi'
    simp [Array.getD, this]
  unfold BaseConverter.fastConvertArray
  rw [transpose_toList, List.mapM_map, R.mapM_ok _ (fun j => ((List.range c.obase.size).map fun o =>
      c02w_crtSum c.ibase (fun i => (p.getD i #[]).getD j 0) % (c.obase.q o).value).toArray) _ (fun j hj => by
    show c.fastConvert (p.map fun comp => comp.getD j 0) = _
    rw [RNSH.fastConvert_eq c hi ho hM (fun i hi' => by rw [hcol j i hi']; exact hx i j hi' (List.mem_range.mp hj)),
      c02w_crtSum_congr _ (hcol j)])]
  refine congrArg Except.ok (Array.ext (by rw [untranspose, Array.size_ofFn, List.size_toArray, List.length_map, List.length_range])
    fun o h1 _ => ?_)
  rw [untranspose, Array.size_ofFn] at h1
  simp only [untranspose, Array.getElem_ofFn, List.getElem_toArray, List.getElem_map, List.getElem_range, List.map_toArray, List.map_map]
  exact congrArg List.toArray (List.map_congr_left fun j _ => array_getD_range_map _ 0 h1)

theorem fastConvertArray_eq {ib ob : RNSBase} {c : BaseConverter} (hi : ib.WF) (ho : ob.WF) (hc : BaseConverter.new ib ob = .ok c)
    (p : RnsPoly) (n : Nat) (hp : p.size = ib.size) (hx : ∀ i j, i < ib.size → j < n → (p.getD i #[]).getD j 0 < 2^64) :
    c.fastConvertArray p n = .ok ((List.range ob.size).map fun o => ((List.range n).map fun j =>
      c02w_crtSum ib (fun i => (p.getD i #[]).getD j 0) % (ob.q o).value).toArray).toArray := by
  obtain ⟨rfl, rfl, -, hM⟩ := RNSH.new_spec hi ho hc
  exact RNSH.fastConvertArray_eq c hi ho hM p n hp hx

/-- the residues `f i` of an integer `V` have a CRT lift below the product: `V mod Q` -/
theorem crt_int {b : RNSBase} (hb : b.WF) (f : Nat → Nat) (V : Int)
    (hf : ∀ i, i < b.size → (f i : Int) ≡ V [ZMOD (b.q i).value]) :
    (V % (b.prod : Int)).toNat < b.prod ∧ ((V % (b.prod : Int)).toNat : Int) = V % b.prod ∧
      ∀ i, i < b.size → (V % (b.prod : Int)).toNat % (b.q i).value = f i % (b.q i).value := by
  have hpos := hb.prod_pos
  have hx0 : 0 ≤ V % (b.prod : Int) := Int.emod_nonneg _ (by omega)
  have hlt := Int.emod_lt_of_pos V (show (0 : Int) < b.prod by omega)
  refine ⟨by omega, Int.toNat_of_nonneg hx0, fun i hi => ?_⟩
  have hdvd : ((b.q i).value : Int) ∣ (b.prod : Int) := by exact_mod_cast hb.q_dvd_prod hi
  have e1 : (((V % (b.prod : Int)).toNat % (b.q i).value : Nat) : Int) = ((f i % (b.q i).value : Nat) : Int) := by
    rw [Int.natCast_mod, Int.natCast_mod, Int.toNat_of_nonneg hx0, Int.emod_emod_of_dvd _ hdvd]
    exact (hf i hi).symm
  exact_mod_cast e1

/-- the CRT sum of the residues of an integer `V` is `V mod Q` plus a multiple `α < k` of `Q` -/
theorem crtSum_int {b : RNSBase} (hb : b.WF) (f : Nat → Nat) (V : Int)
    (hf : ∀ i, i < b.size → (f i : Int) ≡ V [ZMOD (b.q i).value]) :
    ∃ α : Nat, α < b.size ∧ (c02w_crtSum b f : Int) = V % b.prod + α * b.prod := by
  obtain ⟨hxl, hxV, hxr⟩ := crt_int hb f V hf
  obtain ⟨al, hal, hS⟩ := c02w_crtSum_spec hb f hxl hxr
  exact ⟨al, hal, by rw [hS]; push_cast; rw [hxV]⟩

/-- FAST BASE CONVERSION: output = (x + alpha·Q) mod p_j for ONE alpha < k common to all output moduli -/
theorem fastConvert_spec {ib ob : RNSBase} {c : BaseConverter} (hi : ib.WF) (ho : ob.WF)
    (hc : BaseConverter.new ib ob = .ok c) {xs : Array Nat} (hs : xs.size = ib.size) (hx : ∀ i, i < ib.size → xs.getD i 0 < 2^64)
    {x : Nat} (hxl : x < ib.prod) (hxr : ∀ i, i < ib.size → x % (ib.q i).value = xs.getD i 0 % (ib.q i).value) :
    ∃ out alpha, c.fastConvert xs = .ok out ∧ out.size = ob.size ∧ alpha < ib.size ∧
      ∀ j, j < ob.size → out.getD j 0 = (x + alpha * ib.prod) % (ob.q j).value := by
  have _ := hs
  obtain ⟨rfl, rfl, -, hM⟩ := RNSH.new_spec hi ho hc
  exact RNSH.fastConvert_core c hi ho hM hx hxl hxr

/-! ### `RNSBase::new` -/

theorem RNSH.coprimeAll_pairwise (l : List Nat) (h : RNSBase.new.coprimeAll l = true) :
    l.Pairwise (fun x y => gcdU64 x y ≤ 1) := by
  induction l with
  | nil => exact List.Pairwise.nil
  | cons x xs ih =>
    unfold RNSBase.new.coprimeAll at h
    rw [Bool.and_eq_true, List.all_eq_true] at h
    refine List.Pairwise.cons ?_ (ih h.2)
    intro y hy
    have := h.1 y hy
    simpa using this

theorem RNSH.mapM_ok_inv {α β : Type} (f : α → R β) (l : List α) (r : List β) (h : l.mapM f = .ok r) :
    List.Forall₂ (fun a b => f a = .ok b) l r := by
  induction l generalizing r with
  | nil =>
    have : r = [] := by
      have h' : (Except.ok [] : R (List β)) = .ok r := h
      injection h' with h'; exact h'.symm
    subst this; exact List.Forall₂.nil
  | cons a l ih =>
    rw [List.mapM_cons] at h
    cases hfa : f a with
    | error e => rw [hfa] at h; cases h
    | ok b =>
      rw [hfa] at h
      cases hl : l.mapM f with
      | error e => rw [hl] at h; cases h
      | ok r' =>
        rw [hl] at h
        have h' : (Except.ok (b :: r') : R (List β)) = .ok r := h
        injection h' with h'
        subst h'
        exact List.Forall₂.cons hfa (ih r' hl)

theorem RNSH.invStep_spec {m : Modulus} (hm : m.WF) {n p : Nat} (hn : 0 < n) (hp : p < 2^(64*n)) {o : MulOperand}
    (h : (do
      let t ← moduloUint (limbsOf n p) m
      match ← tryInvert t m.value with
      | none => .error .refused
      | some iv => MulOperand.new iv m : R MulOperand) = .ok o) :
    WFOp m o ∧ (p % m.value * o.operand) % m.value = 1 % m.value := by
  have h2 := hm.two_le
  have hl := hm.lt
  rw [RNSH.moduloUint_limbs hm hn hp] at h
  obtain ⟨inv, hinv, h⟩ := (R.bind_eq_ok (x := tryInvert (p % m.value) m.value)).mp h
  have ht : p % m.value < m.value := Nat.mod_lt _ (by omega)
  split at h
  · cases h
  obtain ⟨hr2, hr3⟩ := tryInvert_some h2 hl (by omega) hinv
  obtain ⟨hwf, e1⟩ := WFOp.of_new hm hr2 h
  exact ⟨hwf, by rw [e1, Nat.mul_comm, hr3, Nat.mod_eq_of_lt (by omega)]⟩

theorem RNSH.mk_wf (ms : List Modulus) (pl : List Nat) (il : List MulOperand) (P : Nat)
    (hm : ∀ m ∈ ms, m.WF) (hpos : 0 < ms.length) (hl : ms.length ≤ 64)
    (hpl : pl.length = ms.length) (hil : il.length = ms.length)
    (hcop : ∀ i j (hi : i < ms.length) (hj : j < ms.length), i < j → Nat.Coprime ms[i].value ms[j].value)
    (hP : P = (ms.map (·.value)).prod)
    (hpu : ∀ i (h : i < ms.length), pl.getD i 0 * ms[i].value = P)
    (hinv : ∀ i (h : i < ms.length), WFOp ms[i] (il.getD i default) ∧
      (pl.getD i 0 % ms[i].value * (il.getD i default).operand) % ms[i].value = 1 % ms[i].value) :
    (⟨ms.toArray, P, pl.toArray, il.toArray⟩ : RNSBase).WF := by
  subst hP
  have hsz : (⟨ms.toArray, (ms.map (·.value)).prod, pl.toArray, il.toArray⟩ : RNSBase).size = ms.length := by
    simp [RNSBase.size]
  have hq : ∀ i (h : i < ms.length), (⟨ms.toArray, (ms.map (·.value)).prod, pl.toArray, il.toArray⟩ : RNSBase).q i = ms[i] := by
    intro i h
    simp [RNSBase.q, h]
  have hpg : ∀ i, (pl.toArray).getD i 0 = pl.getD i 0 := by intro i; simp
  have hig : ∀ i, (il.toArray).getD i default = il.getD i default := by intro i; simp
  refine ⟨by rw [hsz]; exact hpos, by rw [hsz]; exact hl, ?_, ?_, ?_, ?_, ?_, ?_, ?_⟩
  · intro i hi
    rw [hsz] at hi
    rw [hq i hi]
    exact hm _ (List.getElem_mem hi)
  · rw [hsz]; simpa using hpl
  · rw [hsz]; simpa using hil
  · intro i j hi hj hij
    rw [hsz] at hi hj
    rw [hq i hi, hq j hj]
    rcases Nat.lt_or_gt_of_ne hij with h | h
    · exact hcop i j hi hj h
    · exact (hcop j i hj hi h).symm
  · rw [hsz]
    show (ms.map (·.value)).prod = _
    congr 1
    apply List.ext_getElem (by simp)
    intro i h1 h2
    simp only [List.length_map] at h1
    simp only [List.getElem_map, List.getElem_range]
    rw [hq i h1]
  · intro i hi
    rw [hsz] at hi
    rw [hq i hi]
    show (pl.toArray).getD i 0 * _ = _
    rw [hpg]
    exact hpu i hi
  · intro i hi
    rw [hsz] at hi
    rw [hq i hi]
    show WFOp ms[i] ((il.toArray).getD i default) ∧
      ((pl.toArray).getD i 0 % ms[i].value * ((il.toArray).getD i default).operand) % ms[i].value = 1 % ms[i].value
    rw [hpg, hig]
    exact hinv i hi

theorem RNSH.pairwise_coprime_vals (ms : List Modulus) (hm : ∀ m ∈ ms, m.WF)
    (h : RNSBase.new.coprimeAll (ms.map (·.value)) = true) :
    ∀ i j (hi : i < ms.length) (hj : j < ms.length), i < j → Nat.Coprime ms[i].value ms[j].value := by
  intro i j hi hj hij
  have hp := RNSH.coprimeAll_pairwise _ h
  rw [List.pairwise_iff_getElem] at hp
  have := hp i j (by simpa using hi) (by simpa using hj) hij
  simp only [List.getElem_map] at this
  have wi := hm _ (List.getElem_mem hi)
  have wj := hm _ (List.getElem_mem hj)
  have h1 := wi.two_le; have h2 := wi.lt; have h3 := wj.two_le; have h4 := wj.lt
  rw [gcdU64_exact (by omega) (by omega)] at this
  have hpos : 0 < Nat.gcd ms[i].value ms[j].value := Nat.gcd_pos_of_pos_left _ (by omega)
  show Nat.gcd _ _ = 1
  omega

theorem RNSBase.new_wf {ms : List Modulus} {b : RNSBase} (hm : ∀ m ∈ ms, m.WF) (hl : ms.length ≤ 64)
    (h : RNSBase.new ms = .ok b) : b.WF ∧ b.base = ms.toArray := by
  unfold RNSBase.new at h
  simp only [bind, Except.bind, pure, Except.pure] at h
  split at h
  · cases h
  rename_i hne
  split at h
  · cases h
  split at h
  · cases h
  rename_i hcop
  have hcop' : RNSBase.new.coprimeAll (ms.map (·.value)) = true := by simpa using hcop
  have hco := RNSH.pairwise_coprime_vals ms hm hcop'
  have hpos : 0 < ms.length := by
    cases ms with
    | nil => simp at hne
    | cons a l => simp
  split at h
  · rename_i h1
    obtain ⟨m, rfl⟩ := List.length_eq_one_iff.mp h1
    have hmw := hm m (by simp)
    have h2 := hmw.two_le
    split at h
    · cases h
    rename_i one hone
    injection h with h
    subst h
    obtain ⟨hwf, e1⟩ := WFOp.of_new hmw (by omega) (show MulOperand.new 1 m = .ok one from hone)
    refine ⟨?_, rfl⟩
    show (⟨[m].toArray, m.value, [1].toArray, [one].toArray⟩ : RNSBase).WF
    apply RNSH.mk_wf [m] [1] [one] m.value hm hpos hl rfl rfl hco (by simp)
    · intro i hi
      have : i = 0 := by simpa using hi
      subst this
      simp
    · intro i hi
      have : i = 0 := by simpa using hi
      subst this
      simp only [List.getD_cons_zero, List.getElem_cons_zero]
      exact ⟨hwf, by rw [e1, Nat.mul_one, Nat.mod_mod]⟩
  · rename_i hn1
    split at h
    · cases h
    rename_i v heq
    injection h with h
    subst h
    refine ⟨?_, rfl⟩
    have hf := RNSH.mapM_ok_inv _ _ _ heq
    have hlen := hf.length_eq
    simp only [List.length_range] at hlen
    generalize hP : List.foldl (fun x1 x2 => x1 * x2) 1 (List.map (fun x => x.value) ms) = P at *
    have hP' : P = (ms.map (·.value)).prod := by rw [← hP]; exact List.prod_eq_foldl_nat.symm
    have hPlt : P < 2^(64 * ms.length) := hP' ▸ RNSH.prod_lt_of ms hm hpos
    have hpl : ∀ i (hi : i < ms.length),
        (List.map (fun v => P / v) (List.map (fun x => x.value) ms)).getD i 0 = P / ms[i].value := by
      intro i hi
      simp [List.getD_eq_getElem?_getD, hi]
    show (⟨ms.toArray, P, (List.map (fun v => P / v) (List.map (fun x => x.value) ms)).toArray, v.toArray⟩ : RNSBase).WF
    apply RNSH.mk_wf ms _ v P hm hpos hl (by simp) hlen.symm hco hP'
    · intro i hi
      rw [hpl i hi]
      apply Nat.div_mul_cancel
      rw [hP']
      exact List.dvd_prod (List.mem_map_of_mem (List.getElem_mem hi))
    · intro i hi
      have hiv : i < v.length := by omega
      have := hf.get (i := i) (by simpa using hi) hiv
      simp only [List.get_eq_getElem, List.getElem_range] at this
      have hg : ms.getD i default = ms[i] := by simp [hi]
      have hgv : v.getD i default = v[i] := by simp [hiv]
      rw [hg] at this
      rw [hgv]
      have hmi := hm _ (List.getElem_mem hi)
      refine RNSH.invStep_spec hmi hpos ?_ (by simp only [bind, Except.bind]; exact this)
      rw [hpl i hi]
      exact Nat.lt_of_le_of_lt (Nat.div_le_self _ _) hPlt

end HC
