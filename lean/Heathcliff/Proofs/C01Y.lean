/- C01 part Y: THE TAPE FROM THE GENERATORS.  The end-to-end theorems of C01V quantify over drawn polynomials in their ranges
   (`DrvMode`: ternary u, ‖e‖∞ ≤ 21, canonical mask).  Here these ranges are THEOREMS about the samplers of the generator model
   (Model/Rng.lean; specs in C16B): whatever `sample::ternary`, `sample::centered_binomial`, `sample::uniform` return at the level's
   moduli, on any byte-valued extendable-output function, any generator state and any integer sampler satisfying the range contract
   (`Rng.randUniform` does: `randUniform_contract`), IS an admissible tape:
     •   the samplers' RNS encoding of signed values is `rnsOfInt`;
     •   `ternary` / `centeredBinomial` / `uniformPoly` at a level: tapes in range;
     •   `drvMode_pk_of_prng`, `drvMode_pkPrev_of_prng`, `drvMode_sk_of_prng`: the draws of `Rng.asymCore` / `Rng.symCore` (the draw order of
         `encrypt_zero::asymmetric_with_u_prng` / `symmetric_with_c1_prng`) are admissible modes;
     •   composed: BFV / BGV / CKKS decrypt ∘ encrypt from generator states.
   Helper names carry the prefix `c01y_`. -/
import Heathcliff.Proofs.C01X
import Heathcliff.Proofs.C16B
namespace HC
open Finset

/-- the RNS encoding the samplers write for signed values (`(v mod q_i)` in every component) is `rnsOfInt` -/
theorem c01y_toRns_encode (l : Level) (vs : List Int) :
    toRns ((l.qs.toList.map (·.value)).map fun (q : Nat) => vs.map fun v => (v % (q : Int)).toNat) = rnsOfInt l vs.toArray := by
  apply Array.ext
  · simp [toRns, rnsOfInt, Level.size]
  · intro i h1 h2
    have hi : i < l.qs.size := by simpa [toRns] using h1
    simp [toRns, rnsOfInt, skRes, Level.q, Array.getD, hi]

theorem c01y_moduli {scheme : Scheme} {n : Nat} {qs : List Nat} {t : Nat} {l : Level}
    (hl : Drv.Sch.mkLevel scheme n qs t = .ok l) : l.qs.toList.map (·.value) = qs ∧ (∀ q ∈ qs, 2 ≤ q) ∧ (∀ q ∈ qs, q ≤ 2^64) := by
  have m := mkLevel_facts hl
  refine ⟨m.moduli, fun q hq => m.q_ge hq, fun q hq => ?_⟩
  have := m.q_lt hq
  have : (2:Nat)^61 < 2^64 := by norm_num
  omega

theorem c01y_bounds {vs : List Int} {n B : Nat} (hlen : vs.length = n) (h : ∀ v ∈ vs, -(B : Int) ≤ v ∧ v ≤ B) :
    vs.toArray.size = n ∧ ∀ p, p < n → (vs.toArray.getD p 0).natAbs ≤ B := by
  refine ⟨by simpa using hlen, fun p hp => ?_⟩
  have hp' : p < vs.length := by omega
  have e : vs.toArray.getD p 0 = vs[p] := by simp [Array.getD, hp']
  rw [e]
  have := h _ (List.getElem_mem hp')
  omega

/-- `sample::ternary` at the level's moduli returns the encoding of a ternary polynomial -/
theorem ternary_tape {U : Rng.Uniform} (hU : U.Contract) {xof : Rng.Xof} (hx : Rng.ByteXof xof) {scheme : Scheme} {n : Nat} {qs : List Nat}
    {t : Nat} {l : Level} (hl : Drv.Sch.mkLevel scheme n qs t = .ok l) {s s' : Rng.St} (hs : Rng.ByteSt s) {c : List (List Nat)}
    (h : Rng.ternary U xof s n qs = .ok (c, s')) :
    ∃ u : Array Int, u.size = n ∧ (∀ p, p < n → (u.getD p 0).natAbs ≤ 1) ∧ toRns c = rnsOfInt l u ∧ Rng.ByteSt s' := by
  obtain ⟨hm, h2, _⟩ := c01y_moduli hl
  obtain ⟨vs, hlen, hr, hc, hb⟩ := Rng.ternary_spec U hU hx hs h2 h
  obtain ⟨b1, b2⟩ := c01y_bounds (B := 1) hlen (fun v hv => by have := hr v hv; omega)
  refine ⟨vs.toArray, b1, b2, ?_, hb⟩
  rw [hc, ← hm]
  exact c01y_toRns_encode l vs

/-- `sample::centered_binomial` at the level's moduli returns the encoding of a polynomial with ‖e‖∞ ≤ 21 -/
theorem cbd_tape {xof : Rng.Xof} (hx : Rng.ByteXof xof) {scheme : Scheme} {n : Nat} {qs : List Nat}
    {t : Nat} {l : Level} (hl : Drv.Sch.mkLevel scheme n qs t = .ok l) {s s' : Rng.St} (hs : Rng.ByteSt s) {c : List (List Nat)}
    (h : Rng.centeredBinomial xof s n qs = .ok (c, s')) :
    ∃ e : Array Int, e.size = n ∧ (∀ p, p < n → (e.getD p 0).natAbs ≤ 21) ∧ toRns c = rnsOfInt l e ∧ Rng.ByteSt s' := by
  obtain ⟨hm, h2, _⟩ := c01y_moduli hl
  obtain ⟨vs, hlen, hr, hc, hb⟩ := Rng.centeredBinomial_spec hx hs h2 h
  obtain ⟨b1, b2⟩ := c01y_bounds (B := 21) hlen (fun v hv => by have := hr v hv; omega)
  refine ⟨vs.toArray, b1, b2, ?_, hb⟩
  rw [hc, ← hm]
  exact c01y_toRns_encode l vs

/-- `sample::uniform` at the level's moduli returns a canonical polynomial -/
theorem uniform_tape {U : Rng.Uniform} (hU : U.Contract) {xof : Rng.Xof} (hx : Rng.ByteXof xof) {scheme : Scheme} {n : Nat} {qs : List Nat}
    {t : Nat} {l : Level} (hl : Drv.Sch.mkLevel scheme n qs t = .ok l) {s s' : Rng.St} (hs : Rng.ByteSt s) {c : List (List Nat)}
    (h : Rng.uniformPoly U xof s n qs = .ok (c, s')) : RnsCanon l (toRns c) ∧ Rng.ByteSt s' := by
  obtain ⟨hA, hb⟩ := Rng.uniformPoly_spec U hU hx qs s s' c hs (c01y_moduli hl).2.2 h
  obtain ⟨a1, a2⟩ := Rng.allBelow_getD hA
  refine ⟨(mkLevel_facts hl).canon ⟨by simp [toRns]; omega, fun i hi => ?_⟩, hb⟩
  obtain ⟨c1, c2⟩ := a2 i hi
  have e : (toRns c).getD i #[] = (c.getD i []).toArray := by
    simp [toRns, Array.getD, show i < c.length by omega, List.getD_eq_getElem?_getD]
  rw [e]
  refine ⟨by simpa using c1, fun j hj => ?_⟩
  rw [list_getD_toArray]
  exact c2 j hj

theorem c01y_noiseMany2 {xof : Rng.Xof} {P : Rng.Parms} {s : Rng.St} {e0 e1 : List (List Nat)}
    (h : Rng.noiseMany xof P 2 s = [.ok e0, .ok e1]) :
    ∃ s1 s2, Rng.centeredBinomial xof s P.n P.moduli = .ok (e0, s1) ∧ Rng.centeredBinomial xof s1 P.n P.moduli = .ok (e1, s2) := by
  unfold Rng.noiseMany at h
  split at h
  · simp at h
  · rename_i c s1 h1
    unfold Rng.noiseMany at h
    split at h
    · simp at h
    · rename_i c' s2 h2
      simp only [Rng.noiseMany, List.cons.injEq, Except.ok.injEq, and_true] at h
      obtain ⟨rfl, rfl⟩ := h
      exact ⟨s1, s2, h1, h2⟩

theorem c01y_asym_tape {U : Rng.Uniform} (hU : U.Contract) {xof : Rng.Xof} (hx : Rng.ByteXof xof) {scheme : Scheme} {n t : Nat}
    {qs : List Nat} {l : Level} (hl : Drv.Sch.mkLevel scheme n qs t = .ok l) {uprng noisePrng : Rng.St} (hs1 : Rng.ByteSt uprng)
    (hs2 : Rng.ByteSt noisePrng) {um e0m e1m : List (List Nat)}
    (hmask : (Rng.asymCore U xof ⟨n, qs, 2⟩ uprng noisePrng []).1.mask = .ok um)
    (hnoise : (Rng.asymCore U xof ⟨n, qs, 2⟩ uprng noisePrng []).1.noise = [.ok e0m, .ok e1m]) :
    ∃ u e0 e1 : Array Int, u.size = n ∧ e0.size = n ∧ e1.size = n ∧ (∀ p, p < n → (u.getD p 0).natAbs ≤ 1) ∧
      (∀ p, p < n → (e0.getD p 0).natAbs ≤ 21) ∧ (∀ p, p < n → (e1.getD p 0).natAbs ≤ 21) ∧
      toRns um = rnsOfInt l u ∧ toRns e0m = rnsOfInt l e0 ∧ toRns e1m = rnsOfInt l e1 := by
  obtain ⟨r, hu, rfl⟩ := R.map_eq_ok.mp hmask
  obtain ⟨s1, s2, hc0, hc1⟩ := c01y_noiseMany2 hnoise
  obtain ⟨u, u1, u2, u3, _⟩ := ternary_tape hU hx hl hs1 (c := r.1) (s' := r.2) hu
  obtain ⟨e0, a1, a2, a3, hb1⟩ := cbd_tape hx hl hs2 hc0
  obtain ⟨e1, d1, d2, d3, _⟩ := cbd_tape hx hl hb1 hc1
  exact ⟨u, e0, e1, u1, a1, d1, u2, a2, d2, u3, a3, d3⟩

/-- PUBLIC KEY, head of the chain: the tape `Rng.asymCore` draws at the level's parameters (u from the u-generator, two errors from the
    noise generator) is an admissible mode -/
theorem drvMode_pk_of_prng {U : Rng.Uniform} (hU : U.Contract) {xof : Rng.Xof} (hx : Rng.ByteXof xof) {scheme : Scheme} {n t : Nat}
    {kqs lqs r : List Nat} {sk : Array Int} {pk0 pk1 : RnsPoly} {l : Level} (hk : kqs = lqs ++ r)
    (hl : Drv.Sch.mkLevel scheme n lqs t = .ok l) {uprng noisePrng : Rng.St} (hs1 : Rng.ByteSt uprng) (hs2 : Rng.ByteSt noisePrng)
    {um e0m e1m : List (List Nat)}
    (hmask : (Rng.asymCore U xof ⟨n, lqs, 2⟩ uprng noisePrng []).1.mask = .ok um)
    (hnoise : (Rng.asymCore U xof ⟨n, lqs, 2⟩ uprng noisePrng []).1.noise = [.ok e0m, .ok e1m]) :
    DrvMode scheme n t kqs sk pk0 pk1 lqs l (.asym none #[pk0, pk1] (toRns um) #[toRns e0m, toRns e1m]) (21 * (2 * n + 1)) := by
  obtain ⟨u, e0, e1, u1, a1, d1, u2, a2, d2, u3, a3, d3⟩ := c01y_asym_tape hU hx hl hs1 hs2 hmask hnoise
  rw [u3, a3, d3]
  exact DrvMode.pk hk u1 a1 d1 u2 a2 d2

/-- PUBLIC KEY THROUGH THE PREVIOUS LEVEL: the tape is drawn with the PREVIOUS level's parameters -/
theorem drvMode_pkPrev_of_prng {U : Rng.Uniform} (hU : U.Contract) {xof : Rng.Xof} (hx : Rng.ByteXof xof) {scheme : Scheme} {n t : Nat}
    {kqs lqs r : List Nat} {qL : Nat} {sk : Array Int} {pk0 pk1 : RnsPoly} {l pl : Level} (hk : kqs = (lqs ++ [qL]) ++ r)
    (hpl : Drv.Sch.mkLevel scheme n (lqs ++ [qL]) t = .ok pl) {uprng noisePrng : Rng.St} (hs1 : Rng.ByteSt uprng)
    (hs2 : Rng.ByteSt noisePrng) {um e0m e1m : List (List Nat)}
    (hmask : (Rng.asymCore U xof ⟨n, lqs ++ [qL], 2⟩ uprng noisePrng []).1.mask = .ok um)
    (hnoise : (Rng.asymCore U xof ⟨n, lqs ++ [qL], 2⟩ uprng noisePrng []).1.noise = [.ok e0m, .ok e1m]) :
    DrvMode scheme n t kqs sk pk0 pk1 lqs l (.asym (some pl) #[pk0, pk1] (toRns um) #[toRns e0m, toRns e1m])
      (spBound qL (21 * (2 * n + 1)) (drvSlack scheme) n) := by
  obtain ⟨u, e0, e1, u1, a1, d1, u2, a2, d2, u3, a3, d3⟩ := c01y_asym_tape hU hx hpl hs1 hs2 hmask hnoise
  rw [u3, a3, d3]
  exact DrvMode.pkPrev hk hpl u1 a1 d1 u2 a2 d2

theorem c01y_sym_tape {U : Rng.Uniform} (hU : U.Contract) {xof : Rng.Xof} (hx : Rng.ByteXof xof) {scheme : Scheme} {n t : Nat}
    {lqs : List Nat} {l : Level} (hl : Drv.Sch.mkLevel scheme n lqs t = .ok l) {c1prng boot : Rng.St} (hs2 : Rng.ByteSt boot)
    {am em : List (List Nat)}
    (hmask : (Rng.symCore U xof ⟨n, lqs, 2⟩ c1prng boot []).1.mask = .ok am)
    (hnoise : (Rng.symCore U xof ⟨n, lqs, 2⟩ c1prng boot []).1.noise = [.ok em]) :
    (∃ e : Array Int, RnsCanon l (toRns am) ∧ e.size = n ∧ (∀ p, p < n → (e.getD p 0).natAbs ≤ 21) ∧ toRns em = rnsOfInt l e) ∧
      SeedExpands U xof l (((Rng.symCore U xof ⟨n, lqs, 2⟩ c1prng boot []).1.publicSeed).getD []) (toRns am) := by
  obtain ⟨r, hu, rfl⟩ := R.map_eq_ok.mp hmask
  obtain ⟨r', he, rfl⟩ := R.map_eq_ok.mp (List.cons.inj hnoise).1
  obtain ⟨hcan, _⟩ := uniform_tape hU hx hl (Rng.byteSt_fromSeed _) (c := r.1) (s' := r.2) hu
  obtain ⟨e, a1, a2, a3, _⟩ := cbd_tape hx hl hs2 (c := r'.1) (s' := r'.2) he
  refine ⟨⟨e, hcan, a1, a2, a3⟩, r.2, ?_⟩
  rw [(mkLevel_facts hl).n_eq, (c01y_moduli hl).1, c01e_ofRns_toRns]
  exact hu

/-- SECRET KEY / SEED-COMPRESSED: the tape `Rng.symCore` draws (mask expanded from the public seed taken from the c1 generator, error
    from the noise generator) is an admissible mode; moreover the stored public seed expands to the mask (`SeedExpands`) -/
theorem drvMode_sk_of_prng {U : Rng.Uniform} (hU : U.Contract) {xof : Rng.Xof} (hx : Rng.ByteXof xof) {scheme : Scheme} {n t : Nat}
    {kqs lqs : List Nat} {sk : Array Int} {pk0 pk1 : RnsPoly} {l : Level}
    (hl : Drv.Sch.mkLevel scheme n lqs t = .ok l) {c1prng boot : Rng.St} (hs2 : Rng.ByteSt boot)
    {am em : List (List Nat)}
    (hmask : (Rng.symCore U xof ⟨n, lqs, 2⟩ c1prng boot []).1.mask = .ok am)
    (hnoise : (Rng.symCore U xof ⟨n, lqs, 2⟩ c1prng boot []).1.noise = [.ok em]) (saveSeed : Bool) :
    DrvMode scheme n t kqs sk pk0 pk1 lqs l (.sym sk (toRns am) (toRns em) saveSeed) 21 ∧
      SeedExpands U xof l (((Rng.symCore U xof ⟨n, lqs, 2⟩ c1prng boot []).1.publicSeed).getD []) (toRns am) := by
  obtain ⟨⟨e, hcan, a1, a2, a3⟩, hexp⟩ := c01y_sym_tape hU hx hl hs2 hmask hnoise
  rw [a3]
  exact ⟨DrvMode.sk hcan a1 a2 saveSeed, hexp⟩

/-- END TO END FROM THE GENERATORS, BFV, public key through the special prime / at a lower level: for EVERY state of the two generators
    (any bytes), every byte-valued XOF and every integer sampler within its range contract, if the samplers deliver a tape at all
    (the rejection loops have bounded fuel in the model), the model's decryption of the model's encryption is the plaintext -/
theorem drv_bfv_encrypt_decrypt_prng_sp {U : Rng.Uniform} (hU : U.Contract) {xof : Rng.Xof} (hx : Rng.ByteXof xof) {n t : Nat}
    {kqs lqs r : List Nat} {qL : Nat} {kl : Level} {sk : Array Int} {pk0 pk1 : RnsPoly} {l pl : Level}
    (hc : DrvCtx .bfv n t kqs kl sk pk0 pk1) (hl : Drv.Sch.mkLevel .bfv n lqs t = .ok l) (ht : t ≠ 0)
    (hk : kqs = (lqs ++ [qL]) ++ r) (hpl : Drv.Sch.mkLevel .bfv n (lqs ++ [qL]) t = .ok pl)
    {uprng noisePrng : Rng.St} (hs1 : Rng.ByteSt uprng) (hs2 : Rng.ByteSt noisePrng) {um e0m e1m : List (List Nat)}
    (hmask : (Rng.asymCore U xof ⟨n, lqs ++ [qL], 2⟩ uprng noisePrng []).1.mask = .ok um)
    (hnoise : (Rng.asymCore U xof ⟨n, lqs ++ [qL], 2⟩ uprng noisePrng []).1.noise = [.ok e0m, .ok e1m])
    {plain : Poly} (hp : plain.size ≤ n) (hpm : ∀ i, i < plain.size → plain.getD i 0 < t)
    (hok : FreshEncOK l (spBound qL (21 * (2 * n + 1)) 1 n)) :
    ∃ cdp ct, Drv.C01E.bfvConsts l lqs t = .ok cdp ∧
      bfvEncrypt l cdp (Spec.prodL lqs % t) ((t + 1) / 2) (.asym (some pl) #[pk0, pk1] (toRns um) #[toRns e0m, toRns e1m]) plain = .ok ct ∧
      bfvDecrypt l sk ct = .ok (trimPlain (padPlain n plain)) :=
  drv_bfv_encrypt_decrypt hc hl ht (drvMode_pkPrev_of_prng hU hx hk hpl hs1 hs2 hmask hnoise) hp hpm hok

/-- END TO END FROM THE GENERATORS, BGV, secret key -/
theorem drv_bgv_encrypt_decrypt_prng_sk {U : Rng.Uniform} (hU : U.Contract) {xof : Rng.Xof} (hx : Rng.ByteXof xof) {n t : Nat}
    {kqs lqs : List Nat} {kl : Level} {sk : Array Int} {pk0 pk1 : RnsPoly} {l : Level}
    (hc : DrvCtx .bgv n t kqs kl sk pk0 pk1) (hl : Drv.Sch.mkLevel .bgv n lqs t = .ok l)
    {c1prng boot : Rng.St} (hs2 : Rng.ByteSt boot) {am em : List (List Nat)}
    (hmask : (Rng.symCore U xof ⟨n, lqs, 2⟩ c1prng boot []).1.mask = .ok am)
    (hnoise : (Rng.symCore U xof ⟨n, lqs, 2⟩ c1prng boot []).1.noise = [.ok em]) (saveSeed : Bool)
    {plain : Poly} (hp : plain.size ≤ n) (hpm : ∀ i, i < plain.size → plain.getD i 0 < t)
    (hok : 2 * (t * (21 + 1)) < Spec.prodL lqs) :
    ∃ ct, bgvEncrypt l (Drv.C01E.bgvIncr lqs t).1 ((t + 1) / 2) (Drv.C01E.bgvIncr lqs t).2 (.sym sk (toRns am) (toRns em) saveSeed) plain
        = .ok ct ∧ ct.cf = 1 ∧ bgvDecrypt l sk ct = .ok (trimPlain (padPlain n plain)) :=
  drv_bgv_encrypt_decrypt hc hl (drvMode_sk_of_prng (kqs := kqs) hU hx hl hs2 hmask hnoise saveSeed).1 hp hpm hok

/-- END TO END FROM THE GENERATORS, CKKS, public key at the head of the chain, over the integers -/
theorem drv_ckks_encrypt_decrypt_prng_pk {U : Rng.Uniform} (hU : U.Contract) {xof : Rng.Xof} (hx : Rng.ByteXof xof) {n t : Nat}
    {kqs lqs r : List Nat} {kl : Level} {sk : Array Int} {pk0 pk1 : RnsPoly} {l : Level}
    (hc : DrvCtx .ckks n t kqs kl sk pk0 pk1) (hl : Drv.Sch.mkLevel .ckks n lqs t = .ok l) (hk : kqs = lqs ++ r)
    {uprng noisePrng : Rng.St} (hs1 : Rng.ByteSt uprng) (hs2 : Rng.ByteSt noisePrng) {um e0m e1m : List (List Nat)}
    (hmask : (Rng.asymCore U xof ⟨n, lqs, 2⟩ uprng noisePrng []).1.mask = .ok um)
    (hnoise : (Rng.asymCore U xof ⟨n, lqs, 2⟩ uprng noisePrng []).1.noise = [.ok e0m, .ok e1m])
    {M : Array Int} (hMs : M.size = n) (hsmall : ∀ c, c < n → 2 * ((M.getD c 0).natAbs + 21 * (2 * n + 1)) < Spec.prodL lqs) :
    ∃ (ν : Nat → Int) (ct : Ct) (dec : RnsPoly), (∀ c, c < n → (ν c).natAbs ≤ 21 * (2 * n + 1)) ∧
      ckksEncrypt l (.asym none #[pk0, pk1] (toRns um) #[toRns e0m, toRns e1m]) (ckksPlainOfInt l M) = .ok ct ∧
      ckksDecrypt l sk ct = .ok dec ∧ RnsCanon l dec ∧
      (∀ c, c < n → (Drv.Sch.exactPhase l lqs sk ct).getD c 0 = M.getD c 0 + ν c) ∧
      ∀ i, i < l.size → ∀ c, c < n → (intt (l.tbl i) (dec.getD i #[])).getD c 0 = Spec.imod (M.getD c 0 + ν c) (l.q i).value :=
  drv_ckks_encrypt_decrypt hc hl (drvMode_pk_of_prng hU hx hk hl hs1 hs2 hmask hnoise) hMs hsmall

theorem c01y_noiseMany_len (xof : Rng.Xof) (P : Rng.Parms) : ∀ (k : Nat) (s : Rng.St) (es : List (List (List Nat))),
    Rng.noiseMany xof P k s = es.map .ok → es.length = k
  | 0, s, es, h => by
    simp only [Rng.noiseMany] at h
    cases es with
    | nil => rfl
    | cons a b => simp at h
  | k + 1, s, es, h => by
    unfold Rng.noiseMany at h
    split at h
    · cases es with
      | nil => simp at h
      | cons a b => simp at h
    · rename_i c s' _
      cases es with
      | nil => simp at h
      | cons a b =>
        simp only [List.map_cons, List.cons.injEq] at h
        have := c01y_noiseMany_len xof P k s' b h.2
        simp [this]

/-- the generator-level function IS the tape-level function on the tape the generators deliver -/
theorem encryptZeroAsymPrng_eq_tape {U : Rng.Uniform} {xof : Rng.Xof} {l : Level} {pk : Array RnsPoly} (hsz : pk.size = 2)
    {uprng noisePrng : Rng.St} (isNtt : Bool) {um e0m e1m : List (List Nat)}
    (hmask : (Rng.asymCore U xof ⟨l.n, l.qs.toList.map (·.value), 2⟩ uprng noisePrng []).1.mask = .ok um)
    (hnoise : (Rng.asymCore U xof ⟨l.n, l.qs.toList.map (·.value), 2⟩ uprng noisePrng []).1.noise = [.ok e0m, .ok e1m]) :
    encryptZeroAsymPrng U xof l pk uprng noisePrng isNtt =
      (encryptZeroAsym l pk (toRns um) #[toRns e0m, toRns e1m] isNtt).map
        (fun ct => (ct, (Rng.asymCore U xof ⟨l.n, l.qs.toList.map (·.value), 2⟩ uprng noisePrng []).2)) := by
  unfold encryptZeroAsymPrng
  simp only []
  rw [hsz, hmask, hnoise]
  show (do
    let ct ← encryptZeroAsym l pk (toRns um) #[toRns e0m, toRns e1m] isNtt
    pure (ct, (Rng.asymCore U xof ⟨l.n, l.qs.toList.map (fun m : Modulus => m.value), 2⟩ uprng noisePrng []).2)) = _
  cases encryptZeroAsym l pk (toRns um) #[toRns e0m, toRns e1m] isNtt <;> rfl

/-- WHATEVER the model's generator-level public-key encryption of zero (`encryptZeroAsymPrng`: ternary u from the u-generator, one error
    per key polynomial from the noise generator, then `encryptZeroAsym`) RETURNS at the head of the chain IS a fresh encryption of zero
    with ‖ν‖∞ ≤ 21(2N+1) — for every generator state, byte-valued XOF, integer sampler within its contract -/
theorem encryptZeroAsymPrng_fresh {U : Rng.Uniform} (hU : U.Contract) {xof : Rng.Xof} (hx : Rng.ByteXof xof) {scheme : Scheme} {n t : Nat}
    {kqs lqs r : List Nat} {kl : Level} {sk : Array Int} {pk0 pk1 : RnsPoly} {l : Level}
    (hc : DrvCtx scheme n t kqs kl sk pk0 pk1) (hk : kqs = lqs ++ r) (hl : Drv.Sch.mkLevel scheme n lqs t = .ok l)
    {uprng noisePrng : Rng.St} (hs1 : Rng.ByteSt uprng) (hs2 : Rng.ByteSt noisePrng) {ct : Ct} {st : Rng.St}
    (h : encryptZeroAsymPrng U xof l #[pk0, pk1] uprng noisePrng l.scheme.encNtt = .ok (ct, st)) :
    ∃ ν : Nat → Int, FreshZero l sk (.ok ct) ν ∧ ∀ c, c < l.n → (ν c).natAbs ≤ 21 * (2 * n + 1) := by
  obtain ⟨hm, _, _⟩ := c01y_moduli hl
  have b6 := (mkLevel_facts hl).n_eq
  unfold encryptZeroAsymPrng at h
  simp only [] at h
  rw [b6, hm, show (#[pk0, pk1] : Array RnsPoly).size = 2 from rfl] at h
  obtain ⟨um, hmask, h⟩ := R.bind_eq_ok.mp h
  obtain ⟨es, hes, h⟩ := R.bind_eq_ok.mp h
  obtain ⟨ct', hct, h⟩ := R.bind_eq_ok.mp h
  obtain ⟨rfl, -⟩ := Prod.mk.inj (Except.ok.inj h)
  have hnoise := R.mapM_id_eq_ok (Rng.mapR_eq_mapM id _ ▸ hes)
  have hlen : es.length = 2 := c01y_noiseMany_len xof ⟨n, lqs, 2⟩ 2 noisePrng es hnoise
  obtain ⟨e0m, e1m, rfl⟩ : ∃ a b, es = [a, b] := by
    rcases es with _ | ⟨a, _ | ⟨b, _ | ⟨c, r⟩⟩⟩ <;> simp at hlen
    exact ⟨a, b, rfl⟩
  have hmode := drvMode_pk_of_prng (sk := sk) (pk0 := pk0) (pk1 := pk1) (t := t) hU hx hk hl hs1 hs2 hmask hnoise
  obtain ⟨ν, hf, hν⟩ := drvMode_fresh hc hl hmode
  have e : encryptZeroInternal l (.asym none #[pk0, pk1] (toRns um) #[toRns e0m, toRns e1m]) = .ok ct' := hct
  rw [e] at hf
  exact ⟨ν, hf, hν⟩

/-- … and the generator-level secret-key encryption of zero (`encryptZeroSymPrng`: public seed from the c1 generator, mask expanded
    from it, error from the noise generator): fresh with ‖ν‖∞ ≤ 21, at every level, with or without a saved seed; moreover the returned
    public seed expands to polynomial 1's mask (what `expand_seed` needs) -/
theorem encryptZeroSymPrng_fresh {U : Rng.Uniform} (hU : U.Contract) {xof : Rng.Xof} (hx : Rng.ByteXof xof) {scheme : Scheme} {n t : Nat}
    {kqs lqs : List Nat} {kl : Level} {sk : Array Int} {pk0 pk1 : RnsPoly} {l : Level}
    (hc : DrvCtx scheme n t kqs kl sk pk0 pk1) (hl : Drv.Sch.mkLevel scheme n lqs t = .ok l)
    {c1prng boot : Rng.St} (hs2 : Rng.ByteSt boot) (saveSeed : Bool) {ct : Ct} {seed : Rng.Seed} {st : Rng.St}
    (h : encryptZeroSymPrng U xof l sk c1prng boot l.scheme.encNtt saveSeed = .ok (ct, seed, st)) :
    ∃ ν : Nat → Int, FreshZero l sk (.ok ct) ν ∧ (∀ c, c < l.n → (ν c).natAbs ≤ 21) ∧
      ∃ a, SeedExpands U xof l seed a ∧ (seedSaved l saveSeed = true → ∃ c0, ct = ⟨#[c0, a], l.scheme.encNtt, 1⟩) := by
  obtain ⟨hm, _, _⟩ := c01y_moduli hl
  have b6 := (mkLevel_facts hl).n_eq
  unfold encryptZeroSymPrng at h
  simp only [] at h
  rw [b6, hm] at h
  obtain ⟨am, hmask, h⟩ := R.bind_eq_ok.mp h
  obtain ⟨em, hem, h⟩ := R.bind_eq_ok.mp h
  obtain ⟨ct', hct, h⟩ := R.bind_eq_ok.mp h
  obtain ⟨rfl, hc2⟩ := Prod.mk.inj (Except.ok.inj h)
  obtain ⟨hc2, -⟩ := Prod.mk.inj hc2
  have hnoise : (Rng.symCore U xof ⟨n, lqs, 2⟩ c1prng boot []).1.noise = [.ok em] := congrArg (fun x => [x]) hem
  obtain ⟨hmode, hexp⟩ := drvMode_sk_of_prng (kqs := kqs) (sk := sk) (pk0 := pk0) (pk1 := pk1) (t := t) hU hx hl hs2 hmask hnoise saveSeed
  obtain ⟨ν, hf, hν⟩ := drvMode_fresh hc hl hmode
  have e : encryptZeroInternal l (.sym sk (toRns am) (toRns em) saveSeed) = .ok ct' := hct
  rw [e] at hf
  refine ⟨ν, hf, hν, toRns am, ?_, fun hs => ?_⟩
  · rw [← hc2]; exact hexp
  · cases saveSeed with
    | false => simp [seedSaved] at hs
    | true => exact encryptZeroSym_seeded_shape hs hct

/-- THE KEY MATERIAL FROM THE GENERATORS: a ternary draw at the key level gives a secret whose stored form is `genSecretKey` of the draw,
    and the public key the model generates from the draws of `Rng.symCore` exists; together they form a `DrvCtx` -/
theorem drvCtx_of_prng {U : Rng.Uniform} (hU : U.Contract) {xof : Rng.Xof} (hx : Rng.ByteXof xof) {scheme : Scheme} {n t : Nat}
    {kqs : List Nat} {kl : Level} (hkl : Drv.Sch.mkLevel scheme n kqs t = .ok kl) (hbgv : scheme = .bgv → t ≠ 0)
    {skprng skprng' : Rng.St} (hs0 : Rng.ByteSt skprng) {tern : List (List Nat)}
    (htern : Rng.ternary U xof skprng n kqs = .ok (tern, skprng'))
    {c1prng boot : Rng.St} (hs2 : Rng.ByteSt boot) {am em : List (List Nat)}
    (hmask : (Rng.symCore U xof ⟨n, kqs, 2⟩ c1prng boot []).1.mask = .ok am)
    (hnoise : (Rng.symCore U xof ⟨n, kqs, 2⟩ c1prng boot []).1.noise = [.ok em]) (saveSeed : Bool) :
    ∃ (sk : Array Int) (pk0 : RnsPoly), genSecretKey kl (toRns tern) = skNtt kl sk ∧
      genPublicKey kl sk (toRns am) (toRns em) saveSeed = .ok ⟨#[pk0, toRns am], true, 1⟩ ∧
      DrvCtx scheme n t kqs kl sk pk0 (toRns am) := by
  have m := mkLevel_facts hkl
  obtain ⟨sk, k1, k2, k3, _⟩ := ternary_tape hU hx hkl hs0 htern
  obtain ⟨⟨e, ha, hes, he, hem⟩, -⟩ := c01y_sym_tape hU hx hkl hs2 hmask hnoise
  obtain ⟨pk0, hgen, _, _⟩ := genPublicKey_pkRel m.wf m.t64 (sk := sk) (by rw [m.n_eq]; exact k1) ha (e := e) (by rw [m.n_eq]; exact hes)
    saveSeed
  rw [hem]
  refine ⟨sk, pk0, ?_, hgen, ⟨hkl, hbgv, k1, k2, e, saveSeed, hes, he, ha, hgen⟩⟩
  rw [k3]; exact genSecretKey_eq_skNtt kl sk

/-- `sample::centered_binomial` never fails for non-zero moduli (no rejection loop, no fuel): every generator state yields an error
    polynomial -/
theorem centeredBinomial_total (xof : Rng.Xof) (s : Rng.St) (n : Nat) {moduli : List Nat} (hq : ∀ q ∈ moduli, 0 < q) :
    ∃ c s', Rng.centeredBinomial xof s n moduli = .ok (c, s') :=
  Rng.centeredBinomial_total xof s n hq

/-- the two errors of a public-key encryption are always delivered -/
theorem noiseMany_total2 (xof : Rng.Xof) (P : Rng.Parms) (s : Rng.St) (hq : ∀ q ∈ P.moduli, 0 < q) :
    ∃ e0 e1, Rng.noiseMany xof P 2 s = [.ok e0, .ok e1] := by
  obtain ⟨c0, s1, h0⟩ := centeredBinomial_total xof s P.n hq
  obtain ⟨c1, s2, h1⟩ := centeredBinomial_total xof s1 P.n hq
  refine ⟨c0, c1, ?_⟩
  simp only [Rng.noiseMany, h0, h1]

end HC
