import Heathcliff.Proofs.GenEvalCt
import Heathcliff.Proofs.GenEval2

/-!
  Flat-buffer level: `Evaluator::multiply_plain_ntt` (generated as a skeleton over the flat ciphertext / plaintext
  buffers into Gen/EvalCtFns.lean) = `ctMultiplyPlainNtt` of Model/Evaluator.lean followed by the CKKS scale rule `mulPlainScaleRule`.
  Helper names start with `gc_`.
-/
namespace HC
open HC.GenW HC.GenP HC.GenC

/-- what the generated loop does once all polynomials are multiplied: the CKKS scale bookkeeping -/
def gc_mpn_tail (s : Scheme) (okOwn okProd : Bool) (sc : Nat) (a0 : List Nat) : R (List Nat × Nat) :=
  if s = Scheme.ckks then
    (do
      let v1 ← ckAdd sc 1
      let t8 := if v1 = 0 then (okOwn = true) else (okProd = true)
      if ¬ t8 then .error .refused else pure (a0, v1))
  else pure (a0, sc)


/-- the loop over the polynomials, on a buffer in normal form: `done` are the products already written, `S` the polynomials still to do -/
theorem gc_mpn_loop_flat (l : Level) (pd : List Nat) (s : Scheme) (okOwn okProd : Bool) (sc sz : Nat) (hp : l.size * l.n ≤ pd.length)
    (hpl : l.n * l.size < B64) :
    ∀ (S done : List RnsPoly), (∀ p, p ∈ S → gs_Shape l p) → (done.length + S.length) * (l.size * l.n) < B64 → done.length + S.length < B64 →
    GenC.ct_multiply_plain_ntt_loop1 pd l.qs.toList l.n s okOwn okProd sc l.n sz S.length done.length (gs_flat l (done ++ S)) =
      (do let outs ← S.mapM (fun c => rnsDyadic l c (unflattenRns l.size l.n pd))
          gc_mpn_tail s okOwn okProd sc (gs_flat l (done ++ outs))) := by
  have hlen := gp_qs_length l
  have hD : l.size * l.n < B64 := by rw [Nat.mul_comm]; exact hpl
  intro S
  induction S with
  | nil =>
    intro done _ _ _
    simp only [List.length_nil, GenC.ct_multiply_plain_ntt_loop1, gc_mpn_tail, List.mapM_nil, pure_bind]
  | cons x S ih =>
    intro done hS hB hsz
    rw [List.length_cons] at hB hsz
    obtain ⟨c, _⟩ := gs_ck_blocks (l.size * l.n) (done.length + (S.length + 1)) hB
    have hget : (done ++ x :: S).getD done.length #[] = x := by simp
    have hset : ∀ q : RnsPoly, (done ++ x :: S).take done.length ++ q :: (done ++ x :: S).drop (done.length + 1) = (done ++ [q]) ++ S := fun q => by
      simp
    rw [List.length_cons, GenC.ct_multiply_plain_ntt_loop1]
    simp only [hlen, ckMul_ok hpl, Nat.mul_comm l.n l.size, c done.length (Nat.le_add_right _ _), ckAdd_ok (a := done.length) (b := 1) (by omega), c (done.length + 1) (by omega),
      R.ok_bind', gs_flat_slice1 l (done ++ x :: S) done.length (by simp), hget,
      gs_dyadic_inplace_p_flat l x pd (hS x List.mem_cons_self) hp hD, R.map_bind, List.mapM_cons, bind_assoc, pure_bind]
    refine bind_congr fun o => ?_
    rw [gs_flat_splice1, hset]
    have h := ih (done ++ [o]) (fun p hp => hS p (List.mem_cons_of_mem _ hp))
      (by rw [List.length_append, List.length_singleton, Nat.add_assoc, Nat.add_comm 1]; exact hB)
      (by rw [List.length_append, List.length_singleton]; omega)
    rw [List.length_append, List.length_singleton] at h
    rw [h]
    simp only [List.append_assoc, List.singleton_append]

theorem gc_mpn_tail_eq (s : Scheme) (okOwn okProd : Bool) (a : List Nat) :
    gc_mpn_tail s okOwn okProd 0 a = Except.map (fun sc => (a, sc)) (mulPlainScaleRule s okProd) := by
  unfold gc_mpn_tail mulPlainScaleRule
  have hadd : ckAdd 0 1 = .ok 1 := ckAdd_ok_pow (by decide)
  cases s <;> cases okProd <;> simp [hadd, Except.map, bind, Except.bind, pure, Except.pure]

theorem gc_multiply_plain_ntt_flat (l : Level) (A : List RnsPoly) (pd : List Nat) (cf : Nat) (s : Scheme) (okOwn okProd : Bool)
    (hA : ∀ p, p ∈ A → gs_Shape l p) (hp : l.size * l.n ≤ pd.length) (hpl : l.n * l.size < B64) (hB : A.length * (l.size * l.n) < B64)
    (hsz : A.length < B64) :
    GenC.ct_multiply_plain_ntt (gs_flat l A) A.length pd true true l.qs.toList l.n s okOwn okProd =
      (do let c ← ctMultiplyPlainNtt l ⟨A.toArray, true, cf⟩ (unflattenRns l.size l.n pd)
          let sc ← mulPlainScaleRule s okProd
          pure (gs_flat l c.polys.toList, sc)) := by
  have h := gc_mpn_loop_flat l pd s okOwn okProd 0 A.length hp hpl A [] hA (by simpa using hB) (by simpa using hsz)
  rw [List.length_nil, List.nil_append] at h
  unfold GenC.ct_multiply_plain_ntt ctMultiplyPlainNtt
  simp only [not_true_eq_false, if_false, h, Bool.not_true, Bool.false_eq_true, bind_assoc, pure_bind, List.nil_append,
    gc_mpn_tail_eq]
  refine bind_congr fun outs => ?_
  cases mulPlainScaleRule s okProd <;> rfl

/-- `Evaluator::multiply_plain_ntt` (generated from src/evaluator.rs as a skeleton over the flat buffers; checks passed) IS the hand model:
    every polynomial of the ciphertext times the NTT-form plaintext (`ctMultiplyPlainNtt`), THEN the scale rule (`mulPlainScaleRule`:
    CKKS records the product scale and refuses it when it is out of the bounds of the ciphertext's level - verdict `okProd`; the verdict about
    the ciphertext's own scale is not consulted).  Both sides walk the polynomials left to right, so they agree on failures too. -/
theorem gc_multiply_plain_ntt_eq (l : Level) (d pd : List Nat) (size cf : Nat) (s : Scheme) (okOwn okProd : Bool)
    (hd : d.length = size * (l.size * l.n)) (hp : l.size * l.n ≤ pd.length) (hpl : l.n * l.size < B64) (hB : d.length < B64)
    (hsz : size < B64) :
    GenC.ct_multiply_plain_ntt d size pd true true l.qs.toList l.n s okOwn okProd =
      (do let c ← ctMultiplyPlainNtt l (unflattenCt l size d true cf) (unflattenRns l.size l.n pd)
          let sc ← mulPlainScaleRule s okProd
          pure (flattenCt l c, sc)) := by
  have h := gc_multiply_plain_ntt_flat l ((List.range size).map (gt_U l d)) pd cf s okOwn okProd (gs_buffer_shape l size d) hp hpl
  simp only [List.length_map, List.length_range, gs_flat_unflattenCt l size d hd] at h
  exact h (hd ▸ hB) hsz


/-- refusals of `multiply_plain_ntt`: a coefficient-form plaintext, operands at different levels -/
theorem gc_multiply_plain_ntt_refuses (d pd : List Nat) (size : Nat) (pn sp : Bool) (mods : List Modulus) (n : Nat) (s : Scheme) (o1 o2 : Bool)
    (h : pn = false ∨ sp = false) : GenC.ct_multiply_plain_ntt d size pd pn sp mods n s o1 o2 = .error .refused := by
  unfold GenC.ct_multiply_plain_ntt
  rcases h with h | h
  · subst h; simp
  · subst h; cases pn <;> simp

end HC

