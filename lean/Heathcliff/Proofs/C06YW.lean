/- C06: the statements of `Proofs/C06Y.lean` that live in the constructor-built world of `Proofs/World.lean`
   (N = 4, q = {97, 113}, t = 17; tool and tables built by the model's constructors): the level / key bundles of C06Y are inhabited
   there, the general theorems apply (examples, incl. the strong closure for the PRIME plain modulus 17), the boundary of the
   accepted BGV correction factors is witnessed (t = 17 is rejected, t − 1 = 16 is accepted and survives BGV `mod_switch_to_next`) and so is the oversize
   product, which the model refuses as `resize` does.  The general theorems are in `Proofs/C06Y.lean`. -/
import Heathcliff.Proofs.C06Y
import Heathcliff.Proofs.NonVac
namespace HC

/-! ### non-vacuity of the level bundles: the two-level world of `Proofs/World.lean` (N = 4, q = {97, 113}, t = 17, tool and
      tables built by the model's constructors `RNSTool.new`, `NTTTables.new`, `RNSBase.new`), with the scheme as a parameter -/

def c06y_nvL (s : Scheme) : Level := { nv_level with scheme := s }
def c06y_nvL1 (s : Scheme) : Level := { nv_level1 with scheme := s }

/-- `c06y_nvL s` is the level the driver builds for the scheme `s`: its bundles are `mkLevel_facts` -/
theorem c06y_nvL_facts (s : Scheme) : MkLevel s 4 [97, 113] 17 (c06y_nvL s) := mkLevel_facts (nv_mkLevel_scheme s)
theorem c06y_nvL_wf (s : Scheme) : (c06y_nvL s).WF := (c06y_nvL_facts s).wf
theorem c06y_nvL_tool (s : Scheme) : c05u_ToolOK (c06y_nvL s) := (c06y_nvL_facts s).tool
theorem c06y_nvL_bgv (s : Scheme) : c05u_BgvOK (c06y_nvL s) := (c06y_nvL_facts s).bgv (by decide)
theorem c06y_nvL_next (s : Scheme) : c06y_NextLevel (c06y_nvL s) (c06y_nvL1 s) := ⟨⟨nv_isNext.size, nv_isNext.n, nv_isNext.q⟩, rfl, rfl⟩
theorem c06y_nvL_qs (s : Scheme) : c02v_QsWF (c06y_nvL s) := c02v_qsWF_of_levelWF (c06y_nvL_wf s)

/-- the ciphertext of `NonVac` with representation flag and correction factor as parameters -/
def c06y_nvCt (ntt : Bool) (f : Nat) : Ct := ⟨#[nv_c0enc, nv_c1], ntt, f⟩

theorem c06y_nvCt_canon (s : Scheme) (ntt : Bool) (f : Nat) : c05u_CtCanon (c06y_nvL s) (c06y_nvCt ntt f) :=
  nv_lt2 nv_c0enc_canon nv_c1_canon

theorem c06y_nvCt_valid_bgv (ntt : Bool) (f : Nat) (h0 : f ≠ 0) (h17 : f < 17) :
    ctValid (c06y_nvL .bgv) (c06y_nvCt ntt f) true false = true :=
  c06y_valid_mk (Or.inr ⟨Nat.le_refl 2, (by decide : 2 ≤ 16)⟩) (c06y_nvCt_canon .bgv ntt f) (rfl : true = true) ⟨h0, h17⟩

theorem c06y_nvCt_valid_bfv : ctValid (c06y_nvL .bfv) (c06y_nvCt false 1) true false = true :=
  c06y_valid_mk (Or.inr ⟨by decide, by decide⟩) (c06y_nvCt_canon .bfv false 1) (rfl : true = true) (rfl : (1 : Nat) = 1)

theorem c06y_nvCt_valid_ckks : ctValid (c06y_nvL .ckks) (c06y_nvCt true 1) false false = true :=
  c06y_valid_mk (Or.inr ⟨by decide, by decide⟩) (c06y_nvCt_canon .ckks true 1) (rfl : false = false) (rfl : (1 : Nat) = 1)

/-! ### non-vacuity of the key-switching bundles: key level {97, P = 113} of `Proofs/NonVac.lean`, ciphertext level {97} -/

theorem c06y_nv_keyLevelOf (s : Scheme) : c06y_KeyLevelOf nv_kl (c06y_nvL1 s) :=
  ⟨rfl, nv_lt1 rfl⟩

theorem c06y_nv_klok : c06y_KLOK nv_kl 1 := ⟨nv_ksinput.hkl, nv_ksinput.hsz, nv_ksinput.hd, nv_ksinput.hov, nv_ksinput.hinv⟩

theorem c06y_nv_keyok : c06y_KeyOK nv_kl 1 nv_kskey := ⟨nv_ksinput.hks, by decide, nv_ksinput.hkey⟩

/-- a size-3 coefficient-form ciphertext at the level {97} -/
def c06y_nvCt3 : Ct := ⟨#[#[#[69, 3, 49, 39]], #[#[0, 0, 0, 0]], #[#[73, 12, 45, 82]]], false, 1⟩

theorem c06y_nvCt3_valid : ctValid (c06y_nvL1 .bfv) c06y_nvCt3 true false = true :=
  c06y_valid_mk (Or.inr ⟨by decide, by decide⟩) (by unfold c05u_CtCanon RnsCanon; decide +kernel) (rfl : true = true) (rfl : (1 : Nat) = 1)

theorem c06y_nv_bgvData : c04t_BgvData nv_kl := nv_kl_bgv
theorem c06y_nvL1_wf (s : Scheme) : (c06y_nvL1 s).WF := ⟨nv_level1_wf.npow, nv_level1_wf.tsize, nv_level1_wf.twf⟩

/-- a size-2 NTT-form BGV ciphertext at the level {97} with correction factor 3 -/
def c06y_nvCt2 : Ct := ⟨#[#[#[69, 3, 49, 39]], #[#[73, 12, 45, 82]]], true, 3⟩

theorem c06y_nvCt2_valid : ctValid (c06y_nvL1 .bgv) c06y_nvCt2 true false = true :=
  c06y_valid_mk (Or.inr ⟨by decide, by decide⟩) (by unfold c05u_CtCanon RnsCanon; decide +kernel) (rfl : true = true) ⟨by decide, by decide⟩

/-! ### a valid size-9 ciphertext -/

/-- nine copies of a canonical polynomial: a valid size-9 CKKS ciphertext in the constructor-built world -/
def c06y_nvBig : Ct := ⟨Array.replicate 9 nv_c0enc, true, 1⟩

theorem c06y_nvBig_valid : ctValid (c06y_nvL .ckks) c06y_nvBig false false = true :=
  c06y_valid_mk (Or.inr ⟨by decide, by decide⟩) (by unfold c05u_CtCanon RnsCanon; decide +kernel) (rfl : false = false) (rfl : (1 : Nat) = 1)

/-! ## instances -/

/-! ### modulus switching, products and balanced add / sub in the world of `Proofs/World.lean` (polynomials of `Proofs/NonVac.lean`) -/

theorem c06y_nv_prime17 : Nat.Prime (c06y_nvL .bgv).t.value := by
  show Nat.Prime 17
  norm_num

/-- the boundary of the accepted BGV correction factors in the constructor-built world (t = 17): the correction factor t is REJECTED, t − 1 = 16 is accepted, and BGV
    `mod_switch_to_next` of that boundary ciphertext succeeds with a VALID result at the next level. -/
theorem modSwitchScaleNext_bgv_boundary :
    ctValid (c06y_nvL .bgv) (c06y_nvCt true 17) true false = false ∧
    ctValid (c06y_nvL .bgv) (c06y_nvCt true 16) true false = true ∧
    ∃ r, modSwitchScaleNext (c06y_nvL .bgv) (c06y_nvCt true 16) = .ok r ∧ ctValid (c06y_nvL1 .bgv) r true false = true ∧
      Nat.Coprime r.cf 17 := by
  have hv := c06y_nvCt_valid_bgv true 16 (by decide) (by decide)
  obtain ⟨r, hr, hv', _, _, _, hc⟩ := modSwitchScaleNext_bgv_valid_prime (c06y_nvL_wf .bgv) (c06y_nvL_tool .bgv) (c06y_nvL_bgv .bgv)
    (c06y_nvL_next .bgv) (by decide) rfl c06y_nv_prime17 hv rfl
  exact ⟨ctValid_rejects_cf_t (l := c06y_nvL .bgv) (ct := c06y_nvCt true 17) rfl, hv, r, hr, hv', hc⟩

/-- the three switching theorems are not vacuous: they apply in the constructor-built world -/
example : ∃ r, modSwitchScaleNext (c06y_nvL .bfv) (c06y_nvCt false 1) = .ok r ∧ ctValid (c06y_nvL1 .bfv) r true false = true :=
  let ⟨r, h, v, _⟩ := modSwitchScaleNext_bfv_valid (c06y_nvL_tool .bfv) (c06y_nvL_next .bfv) (by decide) rfl c06y_nvCt_valid_bfv rfl
  ⟨r, h, v⟩
example : ∃ r, modSwitchScaleNext (c06y_nvL .ckks) (c06y_nvCt true 1) = .ok r ∧ ctValid (c06y_nvL1 .ckks) r false false = true :=
  let ⟨r, h, v, _⟩ := modSwitchScaleNext_ckks_valid (c06y_nvL_wf .ckks) (c06y_nvL_tool .ckks) (c06y_nvL_next .ckks) (by decide) rfl
    c06y_nvCt_valid_ckks rfl
  ⟨r, h, v⟩
example : ∃ r, modSwitchScaleNext (c06y_nvL .bgv) (c06y_nvCt true 3) = .ok r ∧ ctValid (c06y_nvL1 .bgv) r true false = true :=
  let ⟨r, h, v, _⟩ := modSwitchScaleNext_bgv_valid (c06y_nvL_wf .bgv) (c06y_nvL_tool .bgv) (c06y_nvL_bgv .bgv) (c06y_nvL_next .bgv)
    (by decide) rfl (c06y_nvCt_valid_bgv true 3 (by decide) (by decide)) rfl (by decide)
  ⟨r, h, v⟩
example : ∃ r, modSwitchDropNext (c06y_nvL .ckks) (c06y_nvCt true 1) = .ok r ∧ ctValid (c06y_nvL1 .ckks) r false false = true :=
  let ⟨r, h, v, _⟩ := modSwitchDropNext_valid (c06y_nvL_next .ckks) (by decide) c06y_nvCt_valid_ckks (fun _ => rfl)
  ⟨r, h, v⟩
example : ∃ r, bgvMultiply (c06y_nvL .bgv) (c06y_nvCt true 3) (c06y_nvCt true 5) = .ok r ∧
    ctValid (c06y_nvL .bgv) r true false = true ∧ r.polys.size = 3 :=
  let ⟨r, h, v, sz, _⟩ := bgvMultiply_valid (c06y_nvL_qs .bgv) nv_m17_wf rfl (c06y_nvCt_valid_bgv true 3 (by decide) (by decide))
    (c06y_nvCt_valid_bgv true 5 (by decide) (by decide)) rfl rfl (by decide) (by decide) (by decide) (by decide) (by decide)
  ⟨r, h, v, sz⟩
example : ∃ r, ctTranslateBalanced (c06y_nvL .bgv) (c06y_nvCt true 3) (c06y_nvCt true 5) true = .ok r ∧
    ctValid (c06y_nvL .bgv) r true false = true :=
  let ⟨r, h, v, _⟩ := ctTranslateBalanced_valid (c06y_nvL_qs .bgv) (fun _ => nv_m17_wf)
    (c06y_nvCt_valid_bgv true 3 (by decide) (by decide)) (c06y_nvCt_valid_bgv true 5 (by decide) (by decide)) true rfl
    (fun _ => ⟨by decide, by decide⟩)
  ⟨r, h, v⟩

/-- the strong closure for the prime plain modulus 17 is not vacuous: no unit hypothesis is supplied -/
example : ∃ r, bgvMultiply (c06y_nvL .bgv) (c06y_nvCt true 16) (c06y_nvCt true 16) = .ok r ∧
    ctValid (c06y_nvL .bgv) r true false = true ∧ r.polys.size = 3 :=
  let ⟨r, h, v, sz, _⟩ := bgvMultiply_valid_prime (c06y_nvL_qs .bgv) nv_m17_wf c06y_nv_prime17 rfl
    (c06y_nvCt_valid_bgv true 16 (by decide) (by decide)) (c06y_nvCt_valid_bgv true 16 (by decide) (by decide)) rfl rfl
    (by decide) (by decide) (by decide)
  ⟨r, h, v, sz⟩
example : ∃ r, ctTranslateBalanced (c06y_nvL .bgv) (c06y_nvCt true 16) (c06y_nvCt true 5) false = .ok r ∧
    ctValid (c06y_nvL .bgv) r true false = true :=
  let ⟨r, h, v, _⟩ := ctTranslateBalanced_valid_prime (c06y_nvL_qs .bgv) (fun _ => nv_m17_wf) (fun _ => c06y_nv_prime17)
    (c06y_nvCt_valid_bgv true 16 (by decide) (by decide)) (c06y_nvCt_valid_bgv true 5 (by decide) (by decide)) false rfl
  ⟨r, h, v⟩

/-! ### key switching: `relinearize` and `applyGalois` in the world of `Proofs/World.lean` (polynomials of `Proofs/NonVac.lean`) -/

example : ∃ r, relinearize nv_kl .bfv 1 (fun m => if m = 2 then some nv_kskey else none) 2 c06y_nvCt3 = .ok r ∧
    ctValid (c06y_nvL1 .bfv) r true false = true ∧ r.polys.size = 2 :=
  let ⟨r, h, v, sz, _⟩ := relinearize_valid (c06y_nv_keyLevelOf .bfv) c06y_nv_klok (fun h => Scheme.noConfusion h)
    (fun m => if m = 2 then some nv_kskey else none) 2 c06y_nvCt3 c06y_nvCt3_valid (by decide) (by decide)
    (fun _ => ⟨fun h => Bool.noConfusion h, fun h => absurd rfl h⟩)
    (fun m h1 h2 => by
      have h3 : m < 3 := h2
      have : m = 2 := by omega
      subst this
      exact ⟨nv_kskey, rfl, c06y_nv_keyok⟩)
  ⟨r, h, v, sz⟩

example : ∃ r, applyGalois nv_kl (c06y_nvL1 .bgv) .bgv c06y_nvCt2 3 nv_kskey = .ok r ∧
    ctValid (c06y_nvL1 .bgv) r true false = true :=
  let ⟨r, h, v, _⟩ := applyGalois_valid (c06y_nvL1_wf .bgv) (c06y_nv_keyLevelOf .bgv) c06y_nv_klok (fun _ => c06y_nv_bgvData)
    c06y_nv_keyok c06y_nvCt2_valid rfl ⟨fun _ h => Scheme.noConfusion h, fun _ => rfl⟩ (g := 3) (by decide) (by decide)
  ⟨r, h, v⟩

/-! ### the size bound is enforced by the multiplications themselves (as `Ciphertext::resize` does in the code) -/

/-- model = code: the product of two VALID size-9 ciphertexts is REFUSED by the model — 9 + 9 − 1 = 17 > 16 =
    `HE_CIPHERTEXT_SIZE_MAX` (the regenerated constant).  The Rust code panics in `Ciphertext::resize`
    ("[Invalid argument] Size invalid.") before computing anything; the model refuses at the same place. -/
theorem ctMultiplyDyadic_oversize_refused :
    ctValid (c06y_nvL .ckks) c06y_nvBig false false = true ∧ c06y_nvBig.polys.size = 9 ∧
    ctMultiplyDyadic (c06y_nvL .ckks) c06y_nvBig c06y_nvBig = .error .refused ∧
    bgvMultiply (c06y_nvL .ckks) c06y_nvBig c06y_nvBig = .error .refused :=
  ⟨c06y_nvBig_valid, by decide, ctMultiplyDyadic_refuse_oversize _ _ _ (by decide), bgvMultiply_refuse_oversize _ _ _ (by decide)⟩

/-- the valid-or-refused theorem is not vacuous on either side: 9 × 9 is refused (above), 9 × 8 lands on the maximum and is valid -/
example : ∃ r, ctMultiplyDyadic (c06y_nvL .ckks) c06y_nvBig { c06y_nvBig with polys := c06y_nvBig.polys.pop } = .ok r ∧
    r.polys.size = 16 := by
  have hv8 : ctValid (c06y_nvL .ckks) { c06y_nvBig with polys := c06y_nvBig.polys.pop } false false = true :=
    c06y_valid_mk (Or.inr ⟨by decide, by decide⟩) (by unfold c05u_CtCanon RnsCanon; decide +kernel) (rfl : false = false) (rfl : (1 : Nat) = 1)
  obtain ⟨r, hr, sr, _⟩ := ctMultiplyDyadic_valid (c06y_nvL_qs .ckks) c06y_nvBig_valid hv8 rfl rfl (by decide) (by decide) (by decide)
  exact ⟨r, hr, sr⟩

end HC
