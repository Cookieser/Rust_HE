/- C10 part I: integer-level correctness of the RNSTool routines: division by the last prime with rounding, its BGV
   variant, and the BEHZ steps.  For every routine a `…Coeff` definition (what the model computes for one coefficient),
   an integer theorem about that value, and a lifting theorem `…_ent`: the model routine succeeds, its result has the
   expected sizes and holds the `…Coeff` value in every position (`Ent`: an array known by its size and its entries);
   `…_spec` is the same without the sizes.  The integer theorems of the two divisions (`divRoundLast_scalar`,
   `modTDivLast_scalar`) stand in DivRule, read off the rule of the division. -/
import Heathcliff.Proofs.C10H
import Heathcliff.Proofs.Ent
import Heathcliff.Proofs.Centred
import Mathlib.Data.Nat.ModEq
import Mathlib.Data.Int.ModEq
import Mathlib.Tactic.Ring
import Mathlib.Tactic.Linarith
import Mathlib.Tactic.LinearCombination
import Mathlib.Tactic.Push
import Mathlib.Tactic.NormNum
import Mathlib.Tactic.Positivity
import Mathlib.Tactic.Choose
import Mathlib.Algebra.Order.Ring.Abs
namespace HC

/-! ## Nat residues as integer congruences -/

theorem negInv_cast {ninv m q : Nat} (h : (ninv * m + 1) % q = 0) : (ninv : Int) * m ≡ -1 [ZMOD q] := by
  obtain ⟨c, hc⟩ := Nat.dvd_of_mod_eq_zero h
  have hcZ : (ninv : Int) * m + 1 = q * c := by exact_mod_cast hc
  exact Int.modEq_iff_dvd.2 ⟨-c, by linear_combination -hcZ⟩

theorem mul_inv_modEq {inv m q : Nat} {x Z : Int} (hinv : (inv * m) % q = 1) (hx : x ≡ Z * m [ZMOD q]) :
    x * inv ≡ Z [ZMOD q] :=
  calc x * inv ≡ Z * m * inv [ZMOD q] := hx.mul_right _
    _ = Z * (inv * m) := by ring
    _ ≡ Z * 1 [ZMOD q] := (inv_cast hinv).mul_left Z
    _ = Z := mul_one Z

theorem mul_negInv_modEq {ninv m q : Nat} {x Z : Int} (h : (ninv * m + 1) % q = 0) (hx : x ≡ Z * m [ZMOD q]) :
    x * ninv ≡ -Z [ZMOD q] :=
  calc x * ninv ≡ Z * m * ninv [ZMOD q] := hx.mul_right _
    _ = Z * (ninv * m) := by ring
    _ ≡ Z * -1 [ZMOD q] := (negInv_cast h).mul_left Z
    _ = -Z := mul_neg_one Z

theorem centred_eq {a m : Nat} {A : Int} (ha : a < m) (hA : (a : Int) ≡ A [ZMOD m])
    (hlo : -(m : Int) + (m / 2 : Nat) < A) (hhi : A ≤ (m / 2 : Nat)) :
    (if a > m / 2 then (a : Int) - m else a) = A := by
  split
  · exact eq_of_modEq_of_abs_lt (Int.sub_modulus_modEq_iff.2 hA) (by rw [abs_lt]; constructor <;> omega)
  · exact eq_of_modEq_of_abs_lt hA (by rw [abs_lt]; constructor <;> omega)

/-- `X` the value a fast conversion delivers up to an overshoot `α·M`, `0 ≤ α < k`: the corrected quotient is centred -/
theorem centred_window {X α : Int} {M k m : Nat} (hM : 0 < M) (hα0 : 0 ≤ α) (hαk : α < k)
    (h : 2 * |X| + 2 * k * M ≤ M * m) :
    -(m : Int) < 2 * (X / M - α) ∧ 2 * (X / M - α) ≤ m - 2 * k := by
  have hMpos : (0 : Int) < M := by exact_mod_cast hM
  have h1 := Int.emod_add_mul_ediv X M
  have h2 := Int.emod_nonneg X hMpos.ne'
  have h3 := Int.emod_lt_of_pos X hMpos
  have ab1 := le_abs_self X
  have ab2 := neg_abs_le X
  have m1 : (M : Int) * α ≤ M * (k - 1) := mul_le_mul_of_nonneg_left (by omega) hMpos.le
  have m0 : (0 : Int) ≤ M * α := mul_nonneg hMpos.le hα0
  constructor
  · apply lt_of_mul_lt_mul_left (a := (M : Int)) _ hMpos.le
    linarith
  · apply le_of_mul_le_mul_left (a := (M : Int)) _ hMpos
    linarith

theorem round_of_small_rem {N w e : Int} {Q : Nat} (h : N = Q * w + e) (he : 2 * |e| < Q) :
    w = (2 * N + Q) / (2 * Q) :=
  h ▸ (c01j_roundDiv_small w e (by have := Int.abs_eq_natAbs e; omega)).symm

theorem abs_quot_bound {Y r Z : Int} {q m M : Nat} (hZ : Y + q * r = m * Z) (hr : |2 * r| ≤ M) :
    2 * m * |Z| ≤ 2 * |Y| + q * (M : Int) := by
  have hq0 : (0 : Int) ≤ q := Int.natCast_nonneg q
  calc 2 * (m : Int) * |Z| = 2 * |(m : Int) * Z| := by rw [abs_mul, abs_of_nonneg (Int.natCast_nonneg m)]; ring
    _ = 2 * |Y + q * r| := by rw [hZ]
    _ ≤ 2 * (|Y| + |(q : Int) * r|) := mul_le_mul_of_nonneg_left (abs_add_le _ _) (by norm_num)
    _ = 2 * |Y| + q * |2 * r| := by
        rw [abs_mul, abs_mul, abs_of_nonneg hq0, abs_of_nonneg (by norm_num : (0 : Int) ≤ 2)]; ring
    _ ≤ 2 * |Y| + q * (M : Int) := Int.add_le_add_left (mul_le_mul_of_nonneg_left hr hq0) _

/-! ## Division by the last prime, per coefficient and per output component -/

/-- the value `divide_and_round_q_last_inplace` computes for output component i from the residues
    xL = x mod q_L and xi = x mod q_i (h = ⌊q_L/2⌋, inv = q_L^{-1} mod q_i) -/
def divRoundLastCoeff (qL qi inv xL xi : Nat) : Nat :=
  let h := qL / 2
  let a := (xL + h) % qL                      -- add_scalar (mod q_L)
  let tmp := (a % qi + qi - h % qi) % qi       -- modulo q_i, then sub_scalar half_mod
  (((xi + qi - tmp) % qi) * inv) % qi          -- sub, multiply by q_L^{-1}

/-- the value `mod_t_and_divide_q_last_inplace` computes (neg = -x_L·q_L^{-1} mod t, invt = q_L^{-1} mod t) -/
def modTDivLastCoeff (t qL qi inv invt xL xi : Nat) : Nat :=
  let neg := (((t - xL % t) % t) * invt) % t
  let delta := ((neg % qi) * (qL % qi)) % qi
  (((xi + 2 * qi - xL % qi - delta) % qi) * inv) % qi

/-! ## The BEHZ steps, per coefficient

   For each routine a `…Coeff` definition that is syntactically what the model computes for one coefficient and one
   output modulus (Heathcliff/Model/RNS.lean: `smMrq`, `fastFloor`, `fastbconvSk`, `decryptScaleAndRound`), and the
   integer theorem about it:
   * sm_mrq (Montgomery reduction mod q, m̃ = 2^32): Y given by residues mod b_i and mod m̃, rm the centred representative
     of -Y·q⁻¹ mod m̃: m̃ ∣ Y + q·rm, the routine returns ((Y + q·rm)/m̃) mod b_i, and |(Y + q·rm)/m̃| ≤ |Y|/m̃ + q/2.
   * fast_floor: Y ≡ x (mod Q), the fast conversion of x delivers x + αQ: the routine returns ((Y - (x + αQ))/Q) mod b_i,
     which is (⌊Y/Q⌋ - α) mod b_i for reduced x.
   * fastbconv_sk (Shenoy–Kumaresan): 2|V| + 2kB ≤ B·m_sk and the fast conversion of V mod B delivers (V mod B) + αB:
     the centred α_sk is exactly ((V mod B) + αB - V)/B and the routine returns V mod q_i.
   * decrypt_scale_and_round (γ-correction): t·x̃ = Q·w + e with 2γ|e| + 2kQ ≤ Qγ: the routine returns w mod t, and w is
     the rounding of t·x̃/Q. -/

/-! ### sm_mrq -/

/-- `sm_mrq`, one coefficient, output component with modulus `bi`:
    `yi`/`ym` the input residues for `bi` and `m̃ = mt`, `qModB = prodQModBsk[i]`, `invMt = invMtModBsk[i].operand`,
    `negInvQ = negInvProdQModMt.operand` -/
def smMrqCoeff (mt bi qModB invMt negInvQ yi ym : Nat) : Nat :=
  let rm := (ym * negInvQ) % mt                                 -- mulOperandMod x negInvProdQModMt mTilde
  let temp := if rm ≥ mt / 2 then rm + (bi - mt) else rm        -- ckSub b mt, ckAdd rm d
  (((temp * qModB + yi) % bi) * invMt) % bi                     -- mulOperandAddMod temp pq x b, mulOperandMod u invMt b

/-- SMALL MONTGOMERY REDUCTION mod q: with rm the centred representative of -Y·q⁻¹ mod m̃, m̃ ∣ Y + q·rm, the routine
    returns ((Y + q·rm)/m̃) mod b_i, and (for even m̃) |(Y + q·rm)/m̃| ≤ |Y|/m̃ + q/2 -/
theorem smMrq_scalar {mt bi qModB invMt negInvQ yi ym q : Nat} {Y : Int}
    (hmb : mt ≤ bi) (hq : (qModB : Int) ≡ q [ZMOD bi])
    (hinv : (invMt * mt) % bi = 1) (hneg : (negInvQ * q + 1) % mt = 0)
    (hyi : (yi : Int) ≡ Y [ZMOD bi]) (hym : (ym : Int) ≡ Y [ZMOD mt]) :
    let rm := (ym * negInvQ) % mt
    let rmc : Int := if rm ≥ mt / 2 then (rm : Int) - mt else rm
    (mt : Int) ∣ Y + q * rmc ∧
    (smMrqCoeff mt bi qModB invMt negInvQ yi ym : Int) = ((Y + q * rmc) / mt) % bi ∧
    -((mt + mt % 2 : Nat) : Int) ≤ 2 * rmc ∧ 2 * rmc < mt ∧
    2 * mt * |(Y + q * rmc) / mt| ≤ 2 * |Y| + q * ((mt + mt % 2 : Nat) : Int) := by
  have hmt0 : 0 < mt := pos_of_negInv hneg
  have hbi0 : 0 < bi := by omega
  unfold smMrqCoeff
  dsimp only
  have hrmlt : (ym * negInvQ) % mt < mt := Nat.mod_lt _ hmt0
  have hrm : (((ym * negInvQ) % mt : Nat) : Int) ≡ ym * negInvQ [ZMOD mt] := cast_mul_modEq _ _ _
  generalize (ym * negInvQ) % mt = rm at *
  -- everything follows from: rmc is congruent to rm, temp is its stand-in modulo b_i, and rmc is centred
  have key : ∀ (rmc : Int) (temp : Nat), rmc ≡ rm [ZMOD mt] → (temp : Int) ≡ rmc [ZMOD bi] →
      -((mt + mt % 2 : Nat) : Int) ≤ 2 * rmc → 2 * rmc < mt →
      (mt : Int) ∣ Y + q * rmc ∧
      ((((temp * qModB + yi) % bi) * invMt) % bi : Nat) = ((Y + q * rmc) / mt) % bi ∧
      -((mt + mt % 2 : Nat) : Int) ≤ 2 * rmc ∧ 2 * rmc < mt ∧
      2 * mt * |(Y + q * rmc) / mt| ≤ 2 * |Y| + q * ((mt + mt % 2 : Nat) : Int) := by
    intro rmc temp hrmc htemp hlo hhi
    -- q·rmc ≡ q·(ym·negInvQ) ≡ -Y (mod m̃)
    have hqr : (q : Int) * rmc ≡ -Y [ZMOD mt] := by
      have h1 := mul_negInv_modEq hneg ((hym.mul_right (q : Int)))
      exact (((hrmc.trans hrm).mul_left (q : Int)).trans (by rwa [mul_right_comm, mul_comm] at h1))
    obtain ⟨Z, hZ⟩ : (mt : Int) ∣ Y + q * rmc := by
      have := (Int.ModEq.refl Y).add hqr
      rw [add_neg_cancel] at this
      exact Int.modEq_zero_iff_dvd.1 this
    rw [hZ, Int.mul_ediv_cancel_left _ (by exact_mod_cast hmt0.ne' : (mt : Int) ≠ 0)]
    refine ⟨⟨Z, rfl⟩, ?_, hlo, hhi, ?_⟩
    · have u1 : (((temp * qModB + yi) % bi : Nat) : Int) ≡ Z * mt [ZMOD bi] := by
        refine (cast_mod_modEq _ _).trans ?_
        rw [Nat.cast_add, Nat.cast_mul, mul_comm Z, ← hZ, add_comm Y, mul_comm (q : Int)]
        exact (htemp.mul hq).add hyi
      exact eq_emod_of_modEq (Nat.mod_lt _ hbi0) ((cast_mul_modEq _ invMt bi).trans (mul_inv_modEq hinv u1))
    · exact abs_quot_bound hZ (abs_le.2 ⟨hlo, by push_cast; omega⟩)
  by_cases hc : rm ≥ mt / 2
  · rw [if_pos hc, if_pos hc]
    refine key _ _ (Int.sub_modulus_modEq_iff.2 (Int.ModEq.refl _)) ?_ (by push_cast; omega) (by omega)
    rw [Nat.cast_add, Nat.cast_sub hmb, ← add_sub_assoc, add_sub_right_comm]
    exact Int.add_modEq_right
  · rw [if_neg hc, if_neg hc]
    exact key _ _ (Int.ModEq.refl _) (Int.ModEq.refl _) (by push_cast; omega) (by omega)

/-- for even m̃ (the code's m̃ = 2^32): rm ∈ [-m̃/2, m̃/2) and m̃·|(Y + q·rm)/m̃| ≤ |Y| + q·m̃/2 -/
theorem smMrq_scalar_even {mt bi qModB invMt negInvQ yi ym q : Nat} {Y : Int}
    (heven : mt % 2 = 0)
    (hmb : mt ≤ bi) (hq : (qModB : Int) ≡ q [ZMOD bi])
    (hinv : (invMt * mt) % bi = 1) (hneg : (negInvQ * q + 1) % mt = 0)
    (hyi : (yi : Int) ≡ Y [ZMOD bi]) (hym : (ym : Int) ≡ Y [ZMOD mt]) :
    let rm := (ym * negInvQ) % mt
    let rmc : Int := if rm ≥ mt / 2 then (rm : Int) - mt else rm
    (-((mt / 2 : Nat) : Int) ≤ rmc) ∧ rmc < (mt / 2 : Nat) ∧
    (mt : Int) * (|(Y + q * rmc) / mt|) ≤ (|Y|) + q * ((mt / 2 : Nat) : Int) := by
  intro rm rmc
  obtain ⟨-, -, h1, h2, h3⟩ := smMrq_scalar hmb hq hinv hneg hyi hym
  have e1 : ((mt + mt % 2 : Nat) : Int) = 2 * ((mt / 2 : Nat) : Int) := by omega
  refine ⟨?_, ?_, ?_⟩
  · have : -((mt + mt % 2 : Nat) : Int) ≤ 2 * rmc := h1
    omega
  · have : 2 * rmc < mt := h2
    omega
  · have : 2 * (mt : Int) * (|(Y + q * rmc) / mt|) ≤ 2 * (|Y|) + q * ((mt + mt % 2 : Nat) : Int) := h3
    rw [e1] at this
    have e2 : ((mt : Nat) : Int) = 2 * ((mt / 2 : Nat) : Int) := by omega
    linarith

/-! ### fast_floor -/

/-- `fast_floor`, one coefficient, Bsk component with modulus `bi`: `yi` the input residue mod `bi`,
    `d` the fast conversion (base q → `bi`) of the base-q part, `invQ = invProdQModBsk[i].operand` -/
def fastFloorCoeff (bi invQ yi d : Nat) : Nat :=
  ((yi + (bi - d)) * invQ) % bi                   -- ckSub b d, ckAdd x nd, mulOperandMod s invQ b

/-- FAST FLOOR: Y the integer with residues `yi` in Bsk and x mod Q in base q, `d` a residue of the fast conversion
    x + αQ: the routine returns ((Y - (x + αQ))/Q) mod b_i (an exact division), which is (⌊Y/Q⌋ - α) mod b_i
    when x is the reduced residue of Y. -/
theorem fastFloor_scalar {bi invQ yi d Q : Nat} {Y x α : Int}
    (hd : d ≤ bi) (hinv : (invQ * Q) % bi = 1)
    (hyi : (yi : Int) ≡ Y [ZMOD bi]) (hdW : (d : Int) ≡ x + α * Q [ZMOD bi]) (hx : Y ≡ x [ZMOD Q]) :
    (Q : Int) ∣ Y - (x + α * Q) ∧
    (fastFloorCoeff bi invQ yi d : Int) = ((Y - (x + α * Q)) / Q) % bi ∧
    (0 ≤ x → x < Q → (Y - (x + α * Q)) / Q = Y / Q - α ∧
      (fastFloorCoeff bi invQ yi d : Int) = (Y / Q - α) % bi) := by
  have hQne : (Q : Int) ≠ 0 := by
    rintro h
    rw [Nat.cast_eq_zero.1 h, Nat.mul_zero, Nat.zero_mod] at hinv; omega
  obtain ⟨c, hc⟩ := Int.modEq_iff_dvd.1 hx.symm     -- Y - x = Q * c
  have hZ : Y - (x + α * Q) = Q * (c - α) := by linear_combination hc
  have hquo : (Y - (x + α * Q)) / Q = c - α := by rw [hZ, Int.mul_ediv_cancel_left _ hQne]
  have hres : (fastFloorCoeff bi invQ yi d : Int) = (c - α) % bi := by
    unfold fastFloorCoeff
    apply cast_mod_eq_emod
    rw [Nat.cast_mul, Nat.cast_add, Nat.cast_sub hd]
    refine mul_inv_modEq hinv ?_
    rw [mul_comm, ← hZ, sub_eq_add_neg Y, ← zero_sub (x + α * Q)]
    exact hyi.add (Int.modulus_modEq_zero.sub hdW)
  refine ⟨⟨c - α, hZ⟩, by rw [hquo]; exact hres, ?_⟩
  intro hx0 hxQ
  have hcq : c = Y / Q := by
    rw [show Y = x + Q * c by linear_combination hc, Int.add_mul_ediv_left _ _ hQne,
      Int.ediv_eq_zero_of_lt hx0 hxQ, zero_add]
  rw [hquo, ← hcq]
  exact ⟨rfl, hres⟩

/-! ### fastbconv_sk -/

/-- `fastbconv_sk`, one coefficient, output component with modulus `qi`: `tv`/`d` the fast conversions (base B → m_sk
    resp. → `qi`) of the base-B part, `xsk` the input residue mod m_sk, `invB = invProdBModMsk.operand`,
    `bModQ = prodBModQ[i]` -/
def fastbconvSkCoeff (msk qi invB bModQ tv xsk d : Nat) : Nat :=
  let a := ((tv + (msk - xsk)) * invB) % msk                   -- ckSub mSk x, ckAdd tv d, mulOperandMod s invB mSk
  if a > msk / 2 then (((msk - a) % msk) * bModQ + d) % qi      -- negateMod a mSk, mulOperandAddMod na pb d b
  else (a * (qi - bModQ) + d) % qi                              -- ckSub b pb, mulOperandAddMod a npb d b

/-- SHENOY–KUMARESAN: W the integer delivered by the fast conversion (W ≡ V mod B), A = (W - V)/B.  If A lies in the
    centred window (-m_sk + ⌊m_sk/2⌋, ⌊m_sk/2⌋] then the centred α_sk equals A and the routine returns V mod q_i. -/
theorem fastbconvSk_scalar {msk qi invB bModQ tv xsk d B : Nat} {V W A : Int}
    (hx : xsk ≤ msk) (hb : bModQ ≤ qi) (hbq : (bModQ : Int) ≡ B [ZMOD qi]) (hinv : (invB * B) % msk = 1)
    (hxsk : (xsk : Int) ≡ V [ZMOD msk]) (htv : (tv : Int) ≡ W [ZMOD msk]) (hd : (d : Int) ≡ W [ZMOD qi])
    (hA : W - V = B * A)
    (hlo : -(msk : Int) + (msk / 2 : Nat) < A) (hhi : A ≤ (msk / 2 : Nat)) :
    let a := ((tv + (msk - xsk)) * invB) % msk
    (if a > msk / 2 then (a : Int) - msk else a) = A ∧
    (fastbconvSkCoeff msk qi invB bModQ tv xsk d : Int) = V % qi := by
  have hm0 : 0 < msk := by omega
  unfold fastbconvSkCoeff
  dsimp only
  have halt : ((tv + (msk - xsk)) * invB) % msk < msk := Nat.mod_lt _ hm0
  -- α_sk = (tv - xsk)·B⁻¹ ≡ (W - V)/B = A
  have ha : ((((tv + (msk - xsk)) * invB) % msk : Nat) : Int) ≡ A [ZMOD msk] := by
    refine (cast_mul_modEq _ _ _).trans (mul_inv_modEq hinv ?_)
    rw [Nat.cast_add, Nat.cast_sub hx, mul_comm A, ← hA, sub_eq_add_neg W, ← zero_sub V]
    exact htv.add (Int.modulus_modEq_zero.sub hxsk)
  generalize ((tv + (msk - xsk)) * invB) % msk = a at *
  have hcen := centred_eq halt ha hlo hhi
  refine ⟨hcen, ?_⟩
  -- both branches add -A·B to the conversion W
  by_cases hc : a > msk / 2
  · rw [if_pos hc] at hcen ⊢
    rw [Nat.mod_eq_of_lt (show msk - a < msk by omega)]
    apply cast_mod_eq_emod
    rw [Nat.cast_add, Nat.cast_mul, Nat.cast_sub halt.le,
      show V = ((msk : Int) - a) * B + W by linear_combination (B : Int) * hcen - hA]
    exact (hbq.mul_left _).add hd
  · rw [if_neg hc] at hcen ⊢
    apply cast_mod_eq_emod
    rw [Nat.cast_add, Nat.cast_mul, Nat.cast_sub hb,
      show V = (a : Int) * (0 - B) + W by linear_combination (B : Int) * hcen - hA]
    exact ((Int.modulus_modEq_zero.sub hbq).mul_left _).add hd

/-- the hypothesis of the BEHZ paper: V small against B·m_sk, fast conversion W = (V mod B) + αB with 0 ≤ α < k -/
theorem fastbconvSk_scalar_bound {msk qi invB bModQ tv xsk d B k : Nat} {V α : Int}
    (hx : xsk ≤ msk) (hb : bModQ ≤ qi) (hbq : (bModQ : Int) ≡ B [ZMOD qi]) (hinv : (invB * B) % msk = 1)
    (hxsk : (xsk : Int) ≡ V [ZMOD msk])
    (htv : (tv : Int) ≡ V % B + α * B [ZMOD msk]) (hd : (d : Int) ≡ V % B + α * B [ZMOD qi])
    (hα0 : 0 ≤ α) (hαk : α < k) (hV : 2 * |V| + 2 * k * B ≤ B * msk) :
    let a := ((tv + (msk - xsk)) * invB) % msk
    (if a > msk / 2 then (a : Int) - msk else a) = (V % B + α * B - V) / B ∧
    (fastbconvSkCoeff msk qi invB bModQ tv xsk d : Int) = V % qi := by
  have hB0 : 0 < B := by
    rcases Nat.eq_zero_or_pos B with rfl | h
    · rw [Nat.mul_zero, Nat.zero_mod] at hinv; omega
    · exact h
  have hBne : (B : Int) ≠ 0 := by exact_mod_cast hB0.ne'
  have hA : V % B + α * B - V = B * (α - V / B) := by linear_combination Int.emod_add_mul_ediv V B
  rw [hA, Int.mul_ediv_cancel_left _ hBne]
  obtain ⟨hdn, hup⟩ := centred_window hB0 hα0 hαk hV
  exact fastbconvSk_scalar hx hb hbq hinv hxsk htv hd hA (by omega) (by omega)

/-! ### decrypt_scale_and_round -/

/-- `decrypt_scale_and_round`, one coefficient: `c0`/`c1` the fast conversions (base q → t resp. γ) of t·γ·x,
    `negInvQt`/`negInvQg = negInvQModTGamma[0/1].operand`, `invG = invGammaModT.operand` -/
def scaleAndRoundCoeff (t gamma negInvQt negInvQg invG c0 c1 : Nat) : Nat :=
  let a := (c0 * negInvQt) % t                       -- mulOperandMod x negInvQModTGamma[0] t
  let g := (c1 * negInvQg) % gamma                   -- mulOperandMod x negInvQModTGamma[1] gamma
  let d := if g > gamma / 2 then (a + (gamma - g) % t) % t      -- ckSub gamma g, barrett64 ng t, addMod a rg t
           else (a + t - g % t) % t                              -- barrett64 g t, subMod a rg t
  if d ≠ 0 then (d * invG) % t else d                -- mulOperandMod d invGammaModT t

theorem scaleTail_eq (d invG t : Nat) : (if d ≠ 0 then (d * invG) % t else d) = (d * invG) % t := by
  by_cases h : d = 0
  · subst h; simp
  · rw [if_pos h]

/-- γ-CORRECTION: t·x̃ = Q·w + e, W the integer delivered by the fast conversion of γ·t·x̃ mod Q, written as
    W = γ·e - Q·v.  If v lies in the centred window (-γ + ⌊γ/2⌋, ⌊γ/2⌋] the routine returns w mod t. -/
theorem scaleAndRound_scalar {t gamma negInvQt negInvQg invG c0 c1 Q : Nat} {xt w e W v : Int}
    (hnt : (negInvQt * Q + 1) % t = 0) (hng : (negInvQg * Q + 1) % gamma = 0) (hig : (invG * gamma) % t = 1)
    (hc0 : (c0 : Int) ≡ W [ZMOD t]) (hc1 : (c1 : Int) ≡ W [ZMOD gamma])
    (hphase : t * xt = Q * w + e) (hv : gamma * e - W = Q * v)
    (hlo : -(gamma : Int) + (gamma / 2 : Nat) < v) (hhi : v ≤ (gamma / 2 : Nat)) :
    (scaleAndRoundCoeff t gamma negInvQt negInvQg invG c0 c1 : Int) = w % t := by
  have ht0 : 0 < t := pos_of_negInv hnt
  have hg0 : 0 < gamma := pos_of_negInv hng
  unfold scaleAndRoundCoeff
  dsimp only
  rw [scaleTail_eq]
  have hglt : (c1 * negInvQg) % gamma < gamma := Nat.mod_lt _ hg0
  -- W = -Q·(γw + v) + t·γ·x̃ = -Q·v + γ·e: the two products by -Q⁻¹ recover γw + v (mod t) and v (mod γ)
  have ha : (((c0 * negInvQt) % t : Nat) : Int) ≡ gamma * w + v [ZMOD t] := by
    have hW : W ≡ -(gamma * w + v) * Q [ZMOD t] :=
      Int.modEq_iff_dvd.2 ⟨-(gamma * xt), by linear_combination hv + (gamma : Int) * hphase⟩
    have := (cast_mul_modEq _ _ _).trans (mul_negInv_modEq hnt (hc0.trans hW))
    rwa [neg_neg] at this
  have hg : (((c1 * negInvQg) % gamma : Nat) : Int) ≡ v [ZMOD gamma] := by
    have hW : W ≡ -v * Q [ZMOD gamma] := Int.modEq_iff_dvd.2 ⟨-e, by linear_combination hv⟩
    have := (cast_mul_modEq _ _ _).trans (mul_negInv_modEq hng (hc1.trans hW))
    rwa [neg_neg] at this
  generalize (c0 * negInvQt) % t = a at *
  generalize (c1 * negInvQg) % gamma = g at *
  have hcen := centred_eq hglt hg hlo hhi
  -- either branch subtracts the centred g = v, leaving γ·w, which γ⁻¹ turns into w
  refine eq_emod_of_modEq (Nat.mod_lt _ ht0) ((cast_mul_modEq _ invG t).trans (mul_inv_modEq hig ?_))
  rw [mul_comm w, show (gamma : Int) * w = gamma * w + v - v by ring]
  by_cases hc : g > gamma / 2
  · rw [if_pos hc] at hcen ⊢
    subst hcen
    refine (cast_mod_modEq _ _).trans ?_
    rw [Nat.cast_add, sub_eq_add_neg _ ((g : Int) - gamma), neg_sub, ← Nat.cast_sub hglt.le]
    exact ha.add (cast_mod_modEq _ t)
  · rw [if_neg hc] at hcen ⊢
    subst hcen
    have hlt := Nat.mod_lt g ht0
    exact (cast_subrep_modEq (by omega)).trans (ha.sub (cast_mod_modEq g t))

/-- the BEHZ sufficient condition: fast conversion W = (γ·t·x̃ mod Q) + αQ with 0 ≤ α < k and
    2γ|e| + 2kQ ≤ Qγ, i.e. |e/Q| ≤ 1/2 - k/γ: the routine returns w mod t and w is the rounding of t·x̃/Q -/
theorem scaleAndRound_scalar_bound {t gamma negInvQt negInvQg invG c0 c1 Q k : Nat} {xt w e α : Int}
    (hnt : (negInvQt * Q + 1) % t = 0) (hng : (negInvQg * Q + 1) % gamma = 0) (hig : (invG * gamma) % t = 1)
    (hQ : 0 < Q)
    (hc0 : (c0 : Int) ≡ (gamma * t * xt) % Q + α * Q [ZMOD t])
    (hc1 : (c1 : Int) ≡ (gamma * t * xt) % Q + α * Q [ZMOD gamma])
    (hphase : t * xt = Q * w + e) (hα0 : 0 ≤ α) (hαk : α < k)
    (he : 2 * gamma * |e| + 2 * k * Q ≤ Q * gamma) :
    (scaleAndRoundCoeff t gamma negInvQt negInvQg invG c0 c1 : Int) = w % t ∧
    w = (2 * t * xt + Q) / (2 * Q) := by
  have hgpos : (0 : Int) < gamma := by exact_mod_cast pos_of_negInv hng
  have hmod : ((gamma : Int) * t * xt) % Q = ((gamma : Int) * e) % Q := by
    have : (gamma : Int) * t * xt = gamma * e + Q * (gamma * w) := by linear_combination (gamma : Int) * hphase
    rw [this, Int.add_mul_emod_self_left]
  rw [hmod] at hc0 hc1
  have hv : (gamma : Int) * e - (((gamma : Int) * e) % Q + α * Q) = Q * (((gamma : Int) * e) / Q - α) := by
    linear_combination -Int.emod_add_mul_ediv ((gamma : Int) * e) Q
  have hab : |(gamma : Int) * e| = gamma * |e| := by rw [abs_mul, abs_of_pos hgpos]
  obtain ⟨hdn, hup⟩ := centred_window (X := gamma * e) (m := gamma) hQ hα0 hαk (by rw [hab]; linarith)
  refine ⟨scaleAndRound_scalar hnt hng hig hc0 hc1 hphase hv (by omega) (by omega), ?_⟩
  rw [mul_assoc]
  apply round_of_small_rem hphase
  -- `2γ|e| ≤ Qγ - 2kQ < γQ` since `k ≥ 1`
  have hkQ : (Q : Int) ≤ k * Q := le_mul_of_one_le_left (by positivity) (by omega)
  apply lt_of_mul_lt_mul_left (a := (gamma : Int)) _ hgpos.le
  linarith

/-! ## Lifting to the model: every routine succeeds and returns the `…Coeff` value in every position

   The fast base conversions enter as given results (`hconv`/`hdest`/`htemp`); their correctness belongs to
   `BaseConverter`. -/

theorem divideAndRoundQLast_ent {r : RNSTool} {p : RnsPoly}
    (hq : ∀ i, i < r.baseQ.size → (r.baseQ.q i).WF) (hs : 2 ≤ r.baseQ.size)
    (hinv : ∀ i, i < r.baseQ.size - 1 → WFOp (r.baseQ.q i) (r.invQLastModQ.getD i default))
    (hn : ∀ i, i < r.baseQ.size → (p.getD i #[]).size = r.n)
    (hc : ∀ i j, i < r.baseQ.size → j < r.n → (p.getD i #[]).getD j 0 < (r.baseQ.q i).value) :
    ∃ out, r.divideAndRoundQLast p = .ok out ∧ out.size = r.baseQ.size ∧ ∀ i, i < r.baseQ.size - 1 →
      Ent r.n (out.getD i #[]) (fun j =>
        divRoundLastCoeff (r.baseQ.q (r.baseQ.size - 1)).value (r.baseQ.q i).value (r.invQLastModQ.getD i default).operand
          ((p.getD (r.baseQ.size - 1) #[]).getD j 0) ((p.getD i #[]).getD j 0)) := by
  have hlastWF := hq (r.baseQ.size - 1) (by omega)
  have hl2 := hlastWF.two_le
  have hl61 := hlastWF.lt
  unfold RNSTool.divideAndRoundQLast
  dsimp only
  refine ent_bind (mapM'_ent (Ent.of_size (hn _ (by omega))) fun j hj =>
    addMod_exact hlastWF (hc _ j (by omega) hj) (by omega)) fun lastc h0 => ?_
  refine rangeMapM_ent _ (fun l hl => by rw [Array.size_push, List.size_toArray, hl]; omega)
    (fun G i hi => getD_push_rangeMap _ G _ _ hi) (fun i hi => ?_)
  have hb := hq i (by omega)
  have hb2 := hb.two_le
  have hb61 := hb.lt
  have hb0 : 0 < (r.baseQ.q i).value := by omega
  rw [barrett64_exact hb (by omega), R.ok_bind]
  refine ent_bind (mapM'_ent h0 fun j _ => by
    rw [barrett64_exact hb (Nat.lt_trans (Nat.mod_lt _ (by omega)) (by omega)), R.ok_bind]
    exact subMod_exact hb (Nat.mod_lt _ hb0) (Nat.mod_lt _ hb0)) fun temp h1 => ?_
  refine ent_bind (zipM'_ent (Ent.of_size (hn i (by omega))) h1.2 fun j hj =>
    subMod_exact hb (hc i j (by omega) hj) (Nat.mod_lt _ hb0)) fun d h2 => ?_
  exact mapM'_ent h2 fun j _ => RNSH.mulOperandMod_wf hb (hinv i hi) (Nat.lt_trans (Nat.mod_lt _ hb0) (by omega))

/-- LIFT to the model (coefficient form): every output component i < size-1, every coefficient j -/
theorem divideAndRoundQLast_spec {r : RNSTool} {p : RnsPoly}
    (hq : ∀ i, i < r.baseQ.size → (r.baseQ.q i).WF) (hs : 2 ≤ r.baseQ.size)
    (hinv : ∀ i, i < r.baseQ.size - 1 → WFOp (r.baseQ.q i) (r.invQLastModQ.getD i default) ∧
        ((r.invQLastModQ.getD i default).operand * (r.baseQ.q (r.baseQ.size - 1)).value) % (r.baseQ.q i).value = 1)
    (hp : p.size = r.baseQ.size) (hn : ∀ i, i < r.baseQ.size → (p.getD i #[]).size = r.n)
    (hc : ∀ i j, i < r.baseQ.size → j < r.n → (p.getD i #[]).getD j 0 < (r.baseQ.q i).value) :
    ∃ out, r.divideAndRoundQLast p = .ok out ∧ ∀ i j, i < r.baseQ.size - 1 → j < r.n →
      (out.getD i #[]).getD j 0 =
        divRoundLastCoeff (r.baseQ.q (r.baseQ.size - 1)).value (r.baseQ.q i).value (r.invQLastModQ.getD i default).operand
          ((p.getD (r.baseQ.size - 1) #[]).getD j 0) ((p.getD i #[]).getD j 0) :=
  have _ := hp
  (divideAndRoundQLast_ent hq hs (fun i hi => (hinv i hi).1) hn hc).imp
    fun _ h => ⟨h.1, fun i j hi hj => (h.2.2 i hi).2 j hj⟩

theorem smMrq_step_ok {b mt : Modulus} {pq invMt : MulOperand} {pqv half rm x : Nat}
    (hb : b.WF) (hmb : mt.value ≤ b.value) (hpq : MulOperand.new pqv b = .ok pq) (hpqv : pqv < b.value)
    (hinv : WFOp b invMt) (hrm : rm < mt.value) (hx : x < 2^64) :
    (do
      let temp ← if rm ≥ half then do let d ← ckSub b.value mt.value; ckAdd rm d else pure rm
      let u ← mulOperandAddMod temp pq x b
      mulOperandMod u invMt b) =
    .ok ((((if rm ≥ half then rm + (b.value - mt.value) else rm) * pqv + x) % b.value * invMt.operand) % b.value) := by
  have hb2 := hb.two_le
  have hb61 := hb.lt
  have key : ∀ temp : Nat, temp < 2^64 →
      (do let u ← mulOperandAddMod temp pq x b; mulOperandMod u invMt b) =
        .ok (((temp * pqv + x) % b.value * invMt.operand) % b.value) := by
    intro temp ht
    have hlt : (temp * pqv + x) % b.value < b.value := Nat.mod_lt _ (by omega)
    rw [mulOperandAddMod_exact hb ht hpqv hx hpq, R.ok_bind, RNSH.mulOperandMod_wf hb hinv (by omega)]
  by_cases hc : rm ≥ half
  · rw [if_pos hc, if_pos hc]
    unfold ckSub ckAdd
    rw [if_pos hmb, R.ok_bind, if_pos (by rw [B64_eq]; omega), R.ok_bind]
    exact key _ (by omega)
  · rw [if_neg hc, if_neg hc]
    exact key _ (by omega)

theorem smMrq_ent {r : RNSTool} {p : RnsPoly}
    (hmt : r.mTilde.WF) (hneg : WFOp r.mTilde r.negInvProdQModMt)
    (hb : ∀ i, i < r.baseBsk.size → (r.baseBsk.q i).WF ∧ r.mTilde.value ≤ (r.baseBsk.q i).value ∧
      r.prodQModBsk.getD i 0 < (r.baseBsk.q i).value ∧ WFOp (r.baseBsk.q i) (r.invMtModBsk.getD i default))
    (hn : (p.getD r.baseBsk.size #[]).size = r.n)
    (hc : ∀ i j, i ≤ r.baseBsk.size → j < r.n → (p.getD i #[]).getD j 0 < 2^64) :
    ∃ out, r.smMrq p = .ok out ∧ out.size = r.baseBsk.size ∧ ∀ i, i < r.baseBsk.size → Ent r.n (out.getD i #[]) (fun j =>
        smMrqCoeff r.mTilde.value (r.baseBsk.q i).value (r.prodQModBsk.getD i 0)
          (r.invMtModBsk.getD i default).operand r.negInvProdQModMt.operand
          ((p.getD i #[]).getD j 0) ((p.getD r.baseBsk.size #[]).getD j 0)) := by
  have hm0 : 0 < r.mTilde.value := by have := hmt.two_le; omega
  unfold RNSTool.smMrq
  dsimp only
  refine ent_bind (mapM'_ent (Ent.of_size hn) fun j hj =>
    RNSH.mulOperandMod_wf hmt hneg (hc _ j (le_refl _) hj)) fun rmt h0 => ?_
  refine rangeMapM_ent _ (fun l hl => by rw [List.size_toArray, hl]) (fun G i hi => array_getD_range_map G _ hi) (fun i hi => ?_)
  obtain ⟨hbi, hmb, hpqv, hinv⟩ := hb i hi
  obtain ⟨pq, hpq, -, -⟩ := mulOperand_new hbi hpqv
  rw [hpq, R.ok_bind]
  exact zipM'_ent h0 (fun _ _ => rfl) fun j hj =>
    smMrq_step_ok hbi hmb hpq hpqv hinv (Nat.mod_lt _ hm0) (hc i j (by omega) hj)

theorem smMrq_spec {r : RNSTool} {p : RnsPoly}
    (hmt : r.mTilde.WF) (hneg : WFOp r.mTilde r.negInvProdQModMt)
    (hb : ∀ i, i < r.baseBsk.size → (r.baseBsk.q i).WF ∧ r.mTilde.value ≤ (r.baseBsk.q i).value ∧
      r.prodQModBsk.getD i 0 < (r.baseBsk.q i).value ∧ WFOp (r.baseBsk.q i) (r.invMtModBsk.getD i default))
    (hn : (p.getD r.baseBsk.size #[]).size = r.n)
    (hc : ∀ i j, i ≤ r.baseBsk.size → j < r.n → (p.getD i #[]).getD j 0 < 2^64) :
    ∃ out, r.smMrq p = .ok out ∧ ∀ i j, i < r.baseBsk.size → j < r.n →
      (out.getD i #[]).getD j 0 =
        smMrqCoeff r.mTilde.value (r.baseBsk.q i).value (r.prodQModBsk.getD i 0)
          (r.invMtModBsk.getD i default).operand r.negInvProdQModMt.operand
          ((p.getD i #[]).getD j 0) ((p.getD r.baseBsk.size #[]).getD j 0) :=
  (smMrq_ent hmt hneg hb hn hc).imp fun _ h => ⟨h.1, fun i j hi hj => (h.2.2 i hi).2 j hj⟩

theorem fastFloor_step_ok {b : Modulus} {invQ : MulOperand} {x d : Nat}
    (hb : b.WF) (hinv : WFOp b invQ) (hd : d ≤ b.value) (hx : x + b.value < 2^64) :
    (do
      let nd ← ckSub b.value d
      let s ← ckAdd x nd
      mulOperandMod s invQ b) = .ok (((x + (b.value - d)) * invQ.operand) % b.value) := by
  unfold ckSub ckAdd
  rw [if_pos hd, R.ok_bind, if_pos (by rw [B64_eq]; omega), R.ok_bind]
  exact RNSH.mulOperandMod_wf hb hinv (by omega)

theorem fastFloor_ent {r : RNSTool} {p conv : RnsPoly}
    (hconv : r.qToBsk.fastConvertArray (p.extract 0 r.baseQ.size) r.n = .ok conv)
    (hb : ∀ i, i < r.baseBsk.size → (r.baseBsk.q i).WF ∧ WFOp (r.baseBsk.q i) (r.invProdQModBsk.getD i default))
    (hn : ∀ i, i < r.baseBsk.size → (p.getD (r.baseQ.size + i) #[]).size = r.n)
    (hx : ∀ i j, i < r.baseBsk.size → j < r.n →
      (p.getD (r.baseQ.size + i) #[]).getD j 0 + (r.baseBsk.q i).value < 2^64)
    (hd : ∀ i j, i < r.baseBsk.size → j < r.n → (conv.getD i #[]).getD j 0 ≤ (r.baseBsk.q i).value) :
    ∃ out, r.fastFloor p = .ok out ∧ out.size = r.baseBsk.size ∧ ∀ i, i < r.baseBsk.size → Ent r.n (out.getD i #[]) (fun j =>
        fastFloorCoeff (r.baseBsk.q i).value (r.invProdQModBsk.getD i default).operand
          ((p.getD (r.baseQ.size + i) #[]).getD j 0) ((conv.getD i #[]).getD j 0)) := by
  unfold RNSTool.fastFloor
  dsimp only
  rw [hconv, R.ok_bind]
  refine rangeMapM_ent _ (fun l hl => by rw [List.size_toArray, hl]) (fun G i hi => array_getD_range_map G _ hi) (fun i hi => ?_)
  exact zipM'_ent (Ent.of_size (hn i hi)) (fun _ _ => rfl) fun j hj =>
    fastFloor_step_ok (hb i hi).1 (hb i hi).2 (hd i j hi hj) (hx i j hi hj)

theorem fastFloor_spec {r : RNSTool} {p conv : RnsPoly}
    (hconv : r.qToBsk.fastConvertArray (p.extract 0 r.baseQ.size) r.n = .ok conv)
    (hb : ∀ i, i < r.baseBsk.size → (r.baseBsk.q i).WF ∧ WFOp (r.baseBsk.q i) (r.invProdQModBsk.getD i default))
    (hn : ∀ i, i < r.baseBsk.size → (p.getD (r.baseQ.size + i) #[]).size = r.n)
    (hx : ∀ i j, i < r.baseBsk.size → j < r.n →
      (p.getD (r.baseQ.size + i) #[]).getD j 0 + (r.baseBsk.q i).value < 2^64)
    (hd : ∀ i j, i < r.baseBsk.size → j < r.n → (conv.getD i #[]).getD j 0 ≤ (r.baseBsk.q i).value) :
    ∃ out, r.fastFloor p = .ok out ∧ ∀ i j, i < r.baseBsk.size → j < r.n →
      (out.getD i #[]).getD j 0 =
        fastFloorCoeff (r.baseBsk.q i).value (r.invProdQModBsk.getD i default).operand
          ((p.getD (r.baseQ.size + i) #[]).getD j 0) ((conv.getD i #[]).getD j 0) :=
  (fastFloor_ent hconv hb hn hx hd).imp fun _ h => ⟨h.1, fun i j hi hj => (h.2.2 i hi).2 j hj⟩

theorem fastbconvSk_step_ok {b msk : Modulus} {pb npb : MulOperand} {pbv half a d : Nat}
    (hb : b.WF) (hmsk : msk.WF) (hpb : MulOperand.new pbv b = .ok pb)
    (hnpb : MulOperand.new (b.value - pbv) b = .ok npb) (hpbv : pbv < b.value) (hpbv0 : 0 < pbv)
    (ha : a < msk.value) (hd : d < 2^64) :
    (if a > half then do
        let na ← negateMod a msk
        mulOperandAddMod na pb d b
      else mulOperandAddMod a npb d b) =
    .ok (if a > half then (((msk.value - a) % msk.value) * pbv + d) % b.value
         else (a * (b.value - pbv) + d) % b.value) := by
  have hm61 := hmsk.lt
  have hm2 := hmsk.two_le
  by_cases hc : a > half
  · rw [if_pos hc, if_pos hc, negateMod_exact hmsk ha.le, R.ok_bind]
    have : (msk.value - a) % msk.value < msk.value := Nat.mod_lt _ (by omega)
    exact mulOperandAddMod_exact hb (by omega) hpbv hd hpb
  · rw [if_neg hc, if_neg hc]
    exact mulOperandAddMod_exact hb (by omega) (by omega) hd hnpb

theorem fastbconvSk_ent {r : RNSTool} {p dest temp : RnsPoly}
    (hdest : r.bToQ.fastConvertArray (p.extract 0 r.baseB.size) r.n = .ok dest)
    (htemp : r.bToMsk.fastConvertArray (p.extract 0 r.baseB.size) r.n = .ok temp)
    (hmsk : r.mSk.WF) (hinvB : WFOp r.mSk r.invProdBModMsk)
    (hq : ∀ i, i < r.baseQ.size → (r.baseQ.q i).WF ∧ 0 < r.prodBModQ.getD i 0 ∧
      r.prodBModQ.getD i 0 < (r.baseQ.q i).value)
    (hn : (temp.getD 0 #[]).size = r.n)
    (htv : ∀ j, j < r.n → (temp.getD 0 #[]).getD j 0 + r.mSk.value < 2^64)
    (hx : ∀ j, j < r.n → (p.getD r.baseB.size #[]).getD j 0 ≤ r.mSk.value)
    (hd : ∀ i j, i < r.baseQ.size → j < r.n → (dest.getD i #[]).getD j 0 < 2^64) :
    ∃ out, r.fastbconvSk p = .ok out ∧ out.size = r.baseQ.size ∧ ∀ i, i < r.baseQ.size → Ent r.n (out.getD i #[]) (fun j =>
        fastbconvSkCoeff r.mSk.value (r.baseQ.q i).value r.invProdBModMsk.operand (r.prodBModQ.getD i 0)
          ((temp.getD 0 #[]).getD j 0) ((p.getD r.baseB.size #[]).getD j 0) ((dest.getD i #[]).getD j 0)) := by
  have hm0 : 0 < r.mSk.value := by have := hmsk.two_le; omega
  unfold RNSTool.fastbconvSk
  dsimp only
  rw [hdest, R.ok_bind, htemp, R.ok_bind]
  refine ent_bind (zipM'_ent (Ent.of_size hn) (fun _ _ => rfl) fun j hj =>
    fastFloor_step_ok hmsk hinvB (hx j hj) (htv j hj)) fun alpha ha => ?_
  refine rangeMapM_ent _ (fun l hl => by rw [List.size_toArray, hl]) (fun G i hi => array_getD_range_map G _ hi) (fun i hi => ?_)
  obtain ⟨hbi, hpb0, hpblt⟩ := hq i hi
  obtain ⟨pb, hpb, -, -⟩ := mulOperand_new hbi hpblt
  obtain ⟨npb, hnpb, -, -⟩ := mulOperand_new hbi
    (show (r.baseQ.q i).value - r.prodBModQ.getD i 0 < (r.baseQ.q i).value by omega)
  rw [hpb, R.ok_bind, show ckSub (r.baseQ.q i).value (r.prodBModQ.getD i 0) = .ok _ from if_pos hpblt.le, R.ok_bind, hnpb, R.ok_bind]
  exact zipM'_ent ha (fun _ _ => rfl) fun j hj =>
    fastbconvSk_step_ok hbi hmsk hpb hnpb hpblt hpb0 (Nat.mod_lt _ hm0) (hd i j hi hj)

theorem fastbconvSk_spec {r : RNSTool} {p dest temp : RnsPoly}
    (hdest : r.bToQ.fastConvertArray (p.extract 0 r.baseB.size) r.n = .ok dest)
    (htemp : r.bToMsk.fastConvertArray (p.extract 0 r.baseB.size) r.n = .ok temp)
    (hmsk : r.mSk.WF) (hinvB : WFOp r.mSk r.invProdBModMsk)
    (hq : ∀ i, i < r.baseQ.size → (r.baseQ.q i).WF ∧ 0 < r.prodBModQ.getD i 0 ∧
      r.prodBModQ.getD i 0 < (r.baseQ.q i).value)
    (hn : (temp.getD 0 #[]).size = r.n)
    (htv : ∀ j, j < r.n → (temp.getD 0 #[]).getD j 0 + r.mSk.value < 2^64)
    (hx : ∀ j, j < r.n → (p.getD r.baseB.size #[]).getD j 0 ≤ r.mSk.value)
    (hd : ∀ i j, i < r.baseQ.size → j < r.n → (dest.getD i #[]).getD j 0 < 2^64) :
    ∃ out, r.fastbconvSk p = .ok out ∧ ∀ i j, i < r.baseQ.size → j < r.n →
      (out.getD i #[]).getD j 0 =
        fastbconvSkCoeff r.mSk.value (r.baseQ.q i).value r.invProdBModMsk.operand (r.prodBModQ.getD i 0)
          ((temp.getD 0 #[]).getD j 0) ((p.getD r.baseB.size #[]).getD j 0) ((dest.getD i #[]).getD j 0) :=
  (fastbconvSk_ent hdest htemp hmsk hinvB hq hn htv hx hd).imp fun _ h => ⟨h.1, fun i j hi hj => (h.2.2 i hi).2 j hj⟩

/-- `fast_convert_array` of a converter built by `BaseConverter.new` on word-sized input: ONE sum per coefficient for every output modulus
    and every converter of the same input base -/
theorem fastConvertArray_ent {ib ob : RNSBase} {c : BaseConverter} (hi : ib.WF) (ho : ob.WF) (hc : BaseConverter.new ib ob = .ok c)
    (p : RnsPoly) (n : Nat) (hp : p.size = ib.size) (hx : ∀ i j, i < ib.size → j < n → (p.getD i #[]).getD j 0 < 2^64) :
    ∃ tg, c.fastConvertArray p n = .ok tg ∧ tg.size = ob.size ∧ ∀ o, o < ob.size → Ent n (tg.getD o #[]) (fun j =>
      c02w_crtSum ib (fun i => (p.getD i #[]).getD j 0) % (ob.q o).value) :=
  ⟨_, fastConvertArray_eq hi ho hc p n hp hx, by rw [List.size_toArray, List.length_map, List.length_range], fun o ho' => by
    rw [array_getD_range_map _ _ ho']
    exact ⟨by rw [List.size_toArray, List.length_map, List.length_range], fun j hj => array_getD_range_map _ 0 hj⟩⟩

/-- `fastbconv_m_tilde`: the input `tmp` of its two conversions is the polynomial multiplied by `m̃` modulo every `q_i` -/
theorem fastbconvMTilde_ent {r : RNSTool} {p : RnsPoly}
    (hq : ∀ i, i < r.baseQ.size → (r.baseQ.q i).WF) (hmt : r.mTilde.value < 2^64)
    (hn : ∀ i, i < r.baseQ.size → (p.getD i #[]).size = r.n)
    (hx : ∀ i j, i < r.baseQ.size → j < r.n → (p.getD i #[]).getD j 0 < 2^64) :
    ∃ tmp : RnsPoly, tmp.size = r.baseQ.size ∧
      (∀ i, i < r.baseQ.size → Ent r.n (tmp.getD i #[]) (fun j =>
        ((p.getD i #[]).getD j 0 * r.mTilde.value) % (r.baseQ.q i).value)) ∧
      ∀ {a b : RnsPoly}, r.qToBsk.fastConvertArray tmp r.n = .ok a → r.qToMt.fastConvertArray tmp r.n = .ok b →
        r.fastbconvMTilde p = .ok (a ++ b) := by
  have h : ∀ i, i < r.baseQ.size → ∃ row, mapM' (p.getD i #[]) (fun x => mulMod x r.mTilde.value (r.baseQ.q i)) = .ok row ∧
      Ent r.n row (fun j => ((p.getD i #[]).getD j 0 * r.mTilde.value) % (r.baseQ.q i).value) := fun i hi =>
    mapM'_ent (Ent.of_size (hn i hi)) fun j hj => mulMod_exact (hq i hi) (hx i j hi hj) hmt
  choose! rows hrows using h
  refine ⟨((List.range r.baseQ.size).map rows).toArray, by rw [List.size_toArray, List.length_map, List.length_range],
    fun i hi => by rw [array_getD_range_map rows _ hi]; exact (hrows i hi).2, fun ha hb => ?_⟩
  unfold RNSTool.fastbconvMTilde
  rw [R.mapM_ok _ rows _ (fun i hi => (hrows i (List.mem_range.mp hi)).1), R.ok_bind, ha, R.ok_bind, hb, R.ok_bind]
  rfl

/-- `fast_floor` on integers: `FQ`, `FB` are the residues of `V` in base q and base Bsk; the coefficients the routine returns are the
    residues of `⌊V/Q⌋ − α` for ONE `α < |q|`, the error of the conversion -/
theorem fastFloor_int {r : RNSTool} (hQ : r.baseQ.WF)
    (hinv : ∀ i, i < r.baseBsk.size → 0 < (r.baseBsk.q i).value ∧
      ((r.invProdQModBsk.getD i default).operand * r.baseQ.prod) % (r.baseBsk.q i).value = 1)
    (FQ FB : Nat → Nat) (V : Int)
    (hFQ : ∀ i, i < r.baseQ.size → (FQ i : Int) ≡ V [ZMOD (r.baseQ.q i).value])
    (hFB : ∀ i, i < r.baseBsk.size → (FB i : Int) ≡ V [ZMOD (r.baseBsk.q i).value]) :
    ∃ al : Nat, al < r.baseQ.size ∧ ∀ i, i < r.baseBsk.size →
      (fastFloorCoeff (r.baseBsk.q i).value (r.invProdQModBsk.getD i default).operand (FB i)
        (c02w_crtSum r.baseQ FQ % (r.baseBsk.q i).value) : Int) = (V / r.baseQ.prod - al) % (r.baseBsk.q i).value := by
  obtain ⟨al, hal, hS⟩ := crtSum_int hQ FQ V hFQ
  refine ⟨al, hal, fun i hi => ?_⟩
  have hQz : (0 : Int) < (r.baseQ.prod : Int) := by exact_mod_cast hQ.prod_pos
  have key := fastFloor_scalar (bi := (r.baseBsk.q i).value) (invQ := (r.invProdQModBsk.getD i default).operand)
    (yi := FB i) (d := c02w_crtSum r.baseQ FQ % (r.baseBsk.q i).value) (Q := r.baseQ.prod)
    (Y := V) (x := V % r.baseQ.prod) (α := (al : Int))
    (Nat.le_of_lt (Nat.mod_lt _ (hinv i hi).1)) (hinv i hi).2 (hFB i hi)
    ((cast_mod_modEq _ _).trans (by rw [hS])) (Int.mod_modEq _ _).symm
  exact (key.2.2 (Int.emod_nonneg _ (ne_of_gt hQz)) (Int.emod_lt_of_pos _ hQz)).2

/-- Shenoy–Kumaresan on integers: `FL` are the residues of `W` in base B, `xsk` its residue modulo `m_sk`; in the window the
    coefficient returned for the output modulus `q_i` is the residue of `W` itself -/
theorem fastbconvSk_int {r : RNSTool} (hB : r.baseB.WF)
    (hinv : (r.invProdBModMsk.operand * r.baseB.prod) % r.mSk.value = 1)
    (FL : Nat → Nat) (xsk : Nat) (W : Int)
    (hFL : ∀ i, i < r.baseB.size → (FL i : Int) ≡ W [ZMOD (r.baseB.q i).value])
    (hxsk : xsk ≤ r.mSk.value) (hsk : (xsk : Int) ≡ W [ZMOD r.mSk.value])
    (hwin : 2 * |W| + 2 * (r.baseB.size : Int) * r.baseB.prod ≤ (r.baseB.prod : Int) * r.mSk.value)
    {i : Nat} (hpb : r.prodBModQ.getD i 0 ≤ (r.baseQ.q i).value)
    (hpbq : ((r.prodBModQ.getD i 0 : Nat) : Int) ≡ r.baseB.prod [ZMOD (r.baseQ.q i).value]) :
    (fastbconvSkCoeff r.mSk.value (r.baseQ.q i).value r.invProdBModMsk.operand (r.prodBModQ.getD i 0)
      (c02w_crtSum r.baseB FL % r.mSk.value) xsk (c02w_crtSum r.baseB FL % (r.baseQ.q i).value) : Int) = W % (r.baseQ.q i).value := by
  obtain ⟨be, hbe, hS⟩ := crtSum_int hB FL W hFL
  exact (fastbconvSk_scalar_bound (k := r.baseB.size) (α := (be : Int)) (B := r.baseB.prod) (V := W) hxsk hpb hpbq hinv hsk
    ((cast_mod_modEq _ _).trans (by rw [hS])) ((cast_mod_modEq _ _).trans (by rw [hS]))
    (Int.natCast_nonneg _) (by exact_mod_cast hbe) hwin).2

theorem scaleAndRound_step_ok {t gamma : Modulus} {ig : MulOperand} {a g gdiv2 : Nat}
    (ht : t.WF) (hig : WFOp t ig) (ha : a < t.value) (hg : g ≤ gamma.value) (hgw : gamma.value < 2^64) :
    (do
      let d ← if g > gdiv2 then do
                let ng ← ckSub gamma.value g
                let rg ← barrett64 ng t
                addMod a rg t
              else do
                let rg ← barrett64 g t
                subMod a rg t
      if d ≠ 0 then mulOperandMod d ig t else pure d) =
    .ok (if (if g > gdiv2 then (a + (gamma.value - g) % t.value) % t.value else (a + t.value - g % t.value) % t.value) ≠ 0
         then ((if g > gdiv2 then (a + (gamma.value - g) % t.value) % t.value
                else (a + t.value - g % t.value) % t.value) * ig.operand) % t.value
         else (if g > gdiv2 then (a + (gamma.value - g) % t.value) % t.value else (a + t.value - g % t.value) % t.value)) := by
  have ht2 := ht.two_le
  have ht61 := ht.lt
  have ht0 : 0 < t.value := by omega
  have key : ∀ d : Nat, d < t.value →
      (if d ≠ 0 then mulOperandMod d ig t else pure d) = .ok (if d ≠ 0 then (d * ig.operand) % t.value else d) := by
    intro d hd
    by_cases h0 : d ≠ 0
    · rw [if_pos h0, if_pos h0]
      exact RNSH.mulOperandMod_wf ht hig (by omega)
    · rw [if_neg h0, if_neg h0]; rfl
  by_cases hc : g > gdiv2
  · simp only [if_pos hc]
    unfold ckSub
    rw [if_pos hg, R.ok_bind, barrett64_exact ht (by omega), R.ok_bind,
      addMod_exact ht ha (Nat.mod_lt _ ht0), R.ok_bind]
    exact key _ (Nat.mod_lt _ ht0)
  · simp only [if_neg hc]
    rw [barrett64_exact ht (by omega), R.ok_bind, subMod_exact ht ha (Nat.mod_lt _ ht0), R.ok_bind]
    exact key _ (Nat.mod_lt _ ht0)

theorem decryptScaleAndRound_ent {r : RNSTool} {p tg : RnsPoly} {btg : RNSBase} {conv : BaseConverter}
    {ig : MulOperand}
    (h1 : r.baseTGamma = some btg) (h2 : r.qToTGamma = some conv) (h3 : r.invGammaModT = some ig)
    (hconv : conv.fastConvertArray ((List.range r.baseQ.size).map (fun i =>
        (p.getD i #[]).map (fun x => (x * (r.prodTGammaModQ.getD i default).operand) % (r.baseQ.q i).value))).toArray r.n
        = .ok tg)
    (hq : ∀ i, i < r.baseQ.size → (r.baseQ.q i).WF ∧ WFOp (r.baseQ.q i) (r.prodTGammaModQ.getD i default))
    (hp : ∀ i, i < r.baseQ.size → ∀ x ∈ p.getD i #[], x < 2^64)
    (ht : r.t.WF) (hgam : r.gamma.WF) (hig : WFOp r.t ig)
    (hn0 : WFOp r.t (r.negInvQModTGamma.getD 0 default)) (hn1 : WFOp r.gamma (r.negInvQModTGamma.getD 1 default))
    (hs0 : (tg.getD 0 #[]).size = r.n) (hs1 : (tg.getD 1 #[]).size = r.n)
    (hw0 : ∀ x ∈ tg.getD 0 #[], x < 2^64) (hw1 : ∀ x ∈ tg.getD 1 #[], x < 2^64) :
    ∃ out, r.decryptScaleAndRound p = .ok out ∧ Ent r.n out (fun j =>
        scaleAndRoundCoeff r.t.value r.gamma.value (r.negInvQModTGamma.getD 0 default).operand
          (r.negInvQModTGamma.getD 1 default).operand ig.operand
          ((tg.getD 0 #[]).getD j 0) ((tg.getD 1 #[]).getD j 0)) := by
  have ht0 : 0 < r.t.value := by have := ht.two_le; omega
  have hg0 : 0 < r.gamma.value := by have := hgam.two_le; omega
  have hg61 := hgam.lt
  have htemp : (List.range r.baseQ.size).mapM (fun i =>
      mapM' (p.getD i #[]) (fun x => mulOperandMod x (r.prodTGammaModQ.getD i default) (r.baseQ.q i)))
      = .ok ((List.range r.baseQ.size).map (fun i =>
        (p.getD i #[]).map (fun x => (x * (r.prodTGammaModQ.getD i default).operand) % (r.baseQ.q i).value))) :=
    R.mapM_ok _ _ _ (fun i hi => mapM'_ok _ (fun x hx =>
      RNSH.mulOperandMod_wf (hq i (List.mem_range.mp hi)).1 (hq i (List.mem_range.mp hi)).2 (hp i (List.mem_range.mp hi) x hx)))
  unfold RNSTool.decryptScaleAndRound
  simp only [h1, h2, h3]
  rw [htemp, R.ok_bind, hconv, R.ok_bind]
  refine ent_bind (mapM'_ent (Ent.of_size hs0) fun j _ =>
    RNSH.mulOperandMod_wf ht hn0 (getD_lt_of_forall hw0 (by norm_num) j)) fun a ha => ?_
  refine ent_bind (mapM'_ent (Ent.of_size hs1) fun j _ =>
    RNSH.mulOperandMod_wf hgam hn1 (getD_lt_of_forall hw1 (by norm_num) j)) fun g hg => ?_
  exact zipM'_ent ha hg.2 fun j _ =>
    scaleAndRound_step_ok ht hig (Nat.mod_lt _ ht0) (Nat.mod_lt _ hg0).le (by omega)

theorem decryptScaleAndRound_spec {r : RNSTool} {p tg : RnsPoly} {btg : RNSBase} {conv : BaseConverter}
    {ig : MulOperand}
    (h1 : r.baseTGamma = some btg) (h2 : r.qToTGamma = some conv) (h3 : r.invGammaModT = some ig)
    (hconv : conv.fastConvertArray ((List.range r.baseQ.size).map (fun i =>
        (p.getD i #[]).map (fun x => (x * (r.prodTGammaModQ.getD i default).operand) % (r.baseQ.q i).value))).toArray r.n
        = .ok tg)
    (hq : ∀ i, i < r.baseQ.size → (r.baseQ.q i).WF ∧ WFOp (r.baseQ.q i) (r.prodTGammaModQ.getD i default))
    (hp : ∀ i, i < r.baseQ.size → ∀ x ∈ p.getD i #[], x < 2^64)
    (ht : r.t.WF) (hgam : r.gamma.WF) (hig : WFOp r.t ig)
    (hn0 : WFOp r.t (r.negInvQModTGamma.getD 0 default)) (hn1 : WFOp r.gamma (r.negInvQModTGamma.getD 1 default))
    (hs0 : (tg.getD 0 #[]).size = r.n) (hs1 : (tg.getD 1 #[]).size = r.n)
    (hw0 : ∀ x ∈ tg.getD 0 #[], x < 2^64) (hw1 : ∀ x ∈ tg.getD 1 #[], x < 2^64) :
    ∃ out, r.decryptScaleAndRound p = .ok out ∧ ∀ j, j < r.n →
      out.getD j 0 =
        scaleAndRoundCoeff r.t.value r.gamma.value (r.negInvQModTGamma.getD 0 default).operand
          (r.negInvQModTGamma.getD 1 default).operand ig.operand
          ((tg.getD 0 #[]).getD j 0) ((tg.getD 1 #[]).getD j 0) :=
  (decryptScaleAndRound_ent h1 h2 h3 hconv hq hp ht hgam hig hn0 hn1 hs0 hs1 hw0 hw1).imp fun _ h => ⟨h.1, h.2.2⟩

theorem modTDiv_step_ok {b : Modulus} {acc : Array Nat} {cl0 dl x : Nat} (hb : b.WF)
    (hcl : cl0 < 2^64) (hdl : dl < b.value) (hx : x + 2 * b.value < 2^64) :
    (do
      let cl ← barrett64 cl0 b
      let a ← ckSub (b.value * 2) cl
      let a2 ← ckSub a dl
      let v ← ckAdd x a2
      pure (acc.push v)) = .ok (acc.push (x + (b.value * 2 - cl0 % b.value - dl))) := by
  have hb2 := hb.two_le
  have hlt : cl0 % b.value < b.value := Nat.mod_lt _ (by omega)
  rw [barrett64_exact hb hcl, R.ok_bind]
  unfold ckSub ckAdd
  rw [if_pos (by omega), R.ok_bind, if_pos (by omega), R.ok_bind, if_pos (by rw [B64_eq]; omega), R.ok_bind]
  rfl

theorem modTDiv_value {qi inv xi c δ δ' : Nat} (hc : c < qi) (hδ : δ < qi) (hδ' : δ = δ') :
    ((xi + (qi * 2 - c - δ)) * inv) % qi = (((xi + 2 * qi - c - δ') % qi) * inv) % qi := by
  subst hδ'
  rw [Nat.mod_mul_mod]
  congr 2
  omega

theorem modTAndDivideQLast_ent {r : RNSTool} {p : RnsPoly}
    (hq : ∀ i, i < r.baseQ.size → (r.baseQ.q i).WF) (hs : 2 ≤ r.baseQ.size) (ht : r.t.WF)
    (hinvt : r.invQLastModT < 2^64)
    (hinv : ∀ i, i < r.baseQ.size - 1 → WFOp (r.baseQ.q i) (r.invQLastModQ.getD i default))
    (hn : (p.getD (r.baseQ.size - 1) #[]).size = r.n)
    (hcl : ∀ j, j < r.n → (p.getD (r.baseQ.size - 1) #[]).getD j 0 < 2^64)
    (hc : ∀ i j, i < r.baseQ.size - 1 → j < r.n →
      (p.getD i #[]).getD j 0 + 2 * (r.baseQ.q i).value < 2^64) :
    ∃ out, r.modTAndDivideQLast p = .ok out ∧ out.size = r.baseQ.size ∧ ∀ i, i < r.baseQ.size - 1 →
      Ent r.n (out.getD i #[]) (fun j =>
        modTDivLastCoeff r.t.value (r.baseQ.q (r.baseQ.size - 1)).value (r.baseQ.q i).value
          (r.invQLastModQ.getD i default).operand r.invQLastModT
          ((p.getD (r.baseQ.size - 1) #[]).getD j 0) ((p.getD i #[]).getD j 0)) := by
  have ht2 := ht.two_le
  have ht61 := ht.lt
  have ht0 : 0 < r.t.value := by omega
  have hl61 := (hq (r.baseQ.size - 1) (by omega)).lt
  unfold RNSTool.modTAndDivideQLast
  dsimp only
  refine ent_bind (mapM'_ent (Ent.of_size hn) fun j hj => by
    rw [barrett64_exact ht (hcl j hj), R.ok_bind]
    exact negateMod_exact ht (Nat.mod_lt _ ht0).le) fun neg0 h0 => ?_
  -- the code skips the multiplication by q_L⁻¹ mod t when that is 1
  rw [R.ite_bind]
  refine ent_bind (n := r.n) (c := fun j => (((r.t.value - (p.getD (r.baseQ.size - 1) #[]).getD j 0 % r.t.value) % r.t.value)
        * r.invQLastModT) % r.t.value) ?_ fun neg h1 => ?_
  · by_cases h1 : r.invQLastModT ≠ 1
    · rw [if_pos h1]
      exact mapM'_ent h0 (fun j _ => mulMod_exact ht (Nat.lt_trans (Nat.mod_lt _ ht0) (by omega)) hinvt)
    · rw [if_neg h1, not_not.mp h1]
      refine ⟨neg0, rfl, h0.1, fun j hj => ?_⟩
      rw [h0.2 j hj]
      show _ = _ * 1 % _
      rw [Nat.mul_one, Nat.mod_mod]
  refine rangeMapM_ent _ (fun l hl => by rw [Array.size_push, List.size_toArray, hl]; omega)
    (fun G i hi => getD_push_rangeMap _ G _ _ hi) (fun i hi => ?_)
  have hb := hq i (by omega)
  have hb2 := hb.two_le
  have hb61 := hb.lt
  have hb0 : 0 < (r.baseQ.q i).value := by omega
  refine ent_bind (mapM'_ent h1 fun j _ => by
    rw [barrett64_exact hb (Nat.lt_trans (Nat.mod_lt _ ht0) (by omega)), R.ok_bind]
    exact mulMod_exact hb (Nat.lt_trans (Nat.mod_lt _ hb0) (by omega)) (by omega)) fun delta h2 => ?_
  refine ent_bind (foldPush_ent fun acc j hj => by
    rw [h2.2 j hj]
    exact modTDiv_step_ok hb (hcl j hj) (Nat.mod_lt _ hb0) (hc i j hi hj)) fun d h3 => ?_
  refine (mapM'_ent h3 fun j hj => RNSH.mulOperandMod_wf hb (hinv i hi) (by have := hc i j hi hj; omega)).imp
    fun out h => ⟨h.1, h.2.1, fun j hj => (h.2.2 j hj).trans ?_⟩
  unfold modTDivLastCoeff
  exact modTDiv_value (Nat.mod_lt _ hb0) (Nat.mod_lt _ hb0) (by dsimp only; rw [Nat.mul_mod, Nat.mod_mod])

theorem modTAndDivideQLast_spec {r : RNSTool} {p : RnsPoly}
    (hq : ∀ i, i < r.baseQ.size → (r.baseQ.q i).WF) (hs : 2 ≤ r.baseQ.size) (ht : r.t.WF)
    (hinvt : r.invQLastModT < 2^64)
    (hinv : ∀ i, i < r.baseQ.size - 1 → WFOp (r.baseQ.q i) (r.invQLastModQ.getD i default))
    (hn : (p.getD (r.baseQ.size - 1) #[]).size = r.n)
    (hcl : ∀ j, j < r.n → (p.getD (r.baseQ.size - 1) #[]).getD j 0 < 2^64)
    (hc : ∀ i j, i < r.baseQ.size - 1 → j < r.n →
      (p.getD i #[]).getD j 0 + 2 * (r.baseQ.q i).value < 2^64) :
    ∃ out, r.modTAndDivideQLast p = .ok out ∧ ∀ i j, i < r.baseQ.size - 1 → j < r.n →
      (out.getD i #[]).getD j 0 =
        modTDivLastCoeff r.t.value (r.baseQ.q (r.baseQ.size - 1)).value (r.baseQ.q i).value
          (r.invQLastModQ.getD i default).operand r.invQLastModT
          ((p.getD (r.baseQ.size - 1) #[]).getD j 0) ((p.getD i #[]).getD j 0) :=
  (modTAndDivideQLast_ent hq hs ht hinvt hinv hn hcl hc).imp fun _ h => ⟨h.1, fun i j hi hj => (h.2.2 i hi).2 j hj⟩

end HC
