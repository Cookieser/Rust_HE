import Heathcliff.Gen.WordFns
import Heathcliff.Model.Word
import Heathcliff.Proofs.GenBase
import Heathcliff.Proofs.C08B

/-!
  Kernel-checked equalities `generated function = hand-model function` for the one-word layer of src/util/basic.rs, uintsmallmod.rs and
  number_theory.rs.  `Heathcliff/Gen/WordFns.lean` is regenerated from the Rust sources on every run (tools/rs2lean.py); the theorems below
  are what ties it to `Heathcliff/Model/Word.lean`, about which the C08 theorems are stated: carry primitives, modular primitives, Barrett
  and Harvey products, `exponentiate`, `gcd` / `xgcd` / `try_invert`, the slice reductions `modulo_uint` and `dot_product_mod` (`gw_`), and
  `MultiplyU64ModOperand::new` / `set_quotient` with the native `u128` division `divide_u128_u64_inplace` (`gx_`).
  The tags `gw_`, `gx_` say in which run of the translator a function was generated, nothing else (`gx_` also heads names in GenUint, GenNttArith,
  GenGaloisElts: other functions).
-/
namespace HC
open HC.GenW

theorem gw_add_u64_eq (a b : Nat) : GenW.add_u64 a b = addU64 a b := rfl
theorem gw_add_u64_carry_eq (a b c : Nat) : GenW.add_u64_carry a b c = addU64Carry a b c := rfl
theorem gw_sub_u64_eq (a b : Nat) : GenW.sub_u64 a b = subU64 a b := rfl
theorem gw_sub_u64_borrow_eq (a b c : Nat) : GenW.sub_u64_borrow a b c = subU64Borrow a b c := rfl

theorem gw_increment_u64_mod_eq (x : Nat) (m : Modulus) : GenW.increment_u64_mod x m = incrementMod x m := rfl
theorem gw_decrement_u64_mod_eq (x : Nat) (m : Modulus) : GenW.decrement_u64_mod x m = decrementMod x m := rfl
theorem gw_negate_u64_mod_eq (x : Nat) (m : Modulus) : GenW.negate_u64_mod x m = negateMod x m := rfl
theorem gw_add_u64_mod_eq (a b : Nat) (m : Modulus) : GenW.add_u64_mod a b m = addMod a b m := rfl
theorem gw_sub_u64_mod_eq (a b : Nat) (m : Modulus) : GenW.sub_u64_mod a b m = subMod a b m := rfl

/-! ### u128 products (`(a as u128) * (b as u128)`, `>> 64`, `as u64`) -/
theorem gw_multiply_u64_high_word_eq (a b : Nat) : GenW.multiply_u64_high_word a b = mulHi a b := by
  unfold GenW.multiply_u64_high_word mulHi; exact shiftRight_64 _

theorem gw_multiply_u64_u64_eq (a b : Nat) : GenW.multiply_u64_u64 a b = (mulLo a b, mulHi a b) := by
  unfold GenW.multiply_u64_u64 mulHi mulLo; simp only [shiftRight_64]

theorem gw_barrett_reduce_u128_eq (x0 x1 : Nat) (m : Modulus) : GenW.barrett_reduce_u128 x0 x1 m = barrett128 x0 x1 m := by
  unfold GenW.barrett_reduce_u128 barrett128
  simp only [gw_multiply_u64_high_word_eq, gw_multiply_u64_u64_eq, gw_add_u64_eq]

theorem gw_barrett_reduce_u64_eq (x : Nat) (m : Modulus) : GenW.barrett_reduce_u64 x m = barrett64 x m := by
  unfold GenW.barrett_reduce_u64 barrett64
  simp only [gw_multiply_u64_high_word_eq]

theorem gw_multiply_u64_mod_eq (a b : Nat) (m : Modulus) : GenW.multiply_u64_mod a b m = mulMod a b m := by
  unfold GenW.multiply_u64_mod mulMod
  simp only [gw_multiply_u64_u64_eq, gw_barrett_reduce_u128_eq]

theorem gw_multiply_u64operand_mod_lazy_eq (x : Nat) (y : MulOperand) (m : Modulus) :
    GenW.multiply_u64operand_mod_lazy x y m = mulOperandModLazy x y m := by
  unfold GenW.multiply_u64operand_mod_lazy mulOperandModLazy
  simp only [gw_multiply_u64_high_word_eq]

theorem gw_multiply_u64operand_mod_eq (x : Nat) (y : MulOperand) (m : Modulus) :
    GenW.multiply_u64operand_mod x y m = mulOperandMod x y m := by
  unfold GenW.multiply_u64operand_mod mulOperandMod mulOperandModLazy
  simp only [gw_multiply_u64_high_word_eq]

theorem gw_multiply_add_u64_mod_eq (a b c : Nat) (m : Modulus) : GenW.multiply_add_u64_mod a b c m = mulAddMod a b c m := by
  unfold GenW.multiply_add_u64_mod mulAddMod
  simp only [gw_multiply_u64_u64_eq, gw_add_u64_eq, gw_barrett_reduce_u128_eq]

theorem gw_multiply_u64operand_add_u64_mod_eq (a : Nat) (b : MulOperand) (c : Nat) (m : Modulus) :
    GenW.multiply_u64operand_add_u64_mod a b c m = mulOperandAddMod a b c m := by
  unfold GenW.multiply_u64operand_add_u64_mod mulOperandAddMod
  simp only [gw_multiply_u64operand_mod_eq, gw_barrett_reduce_u64_eq, gw_add_u64_mod_eq]

theorem gw_bit63 : (1 <<< 63) % B64 = 2^63 := by decide

/-- the halved word is below `2^63`, so `| (1 << 63)` adds `2^63` (which is how the hand model writes it) -/
theorem gw_div2_u64_mod_eq (x : Nat) (m : Modulus) : GenW.div2_u64_mod x m = div2Mod x m := by
  have hr : (addU64 x m.value).1 / 2 < 2^63 := Nat.div_lt_of_lt_mul (Nat.mod_lt _ (by decide))
  unfold GenW.div2_u64_mod div2Mod
  simp only [gw_add_u64_eq, Nat.and_one_is_mod, gw_bit63, Nat.shiftRight_eq_div_pow, Nat.pow_one, Nat.or_two_pow_eq_add_of_lt hr,
    Nat.div_eq_of_lt hr, Nat.zero_mod, Nat.zero_mul, Nat.sub_zero]
  by_cases h : x % 2 = 1
  · rw [if_pos h, if_pos (by omega)]
  · rw [if_neg h, if_neg (by omega)]

theorem gw_exp_loop_eq (m : Modulus) : ∀ fuel e p i,
    GenW.exponentiate_u64_mod_loop1 m fuel e p i = expLoop m fuel p e i := by
  intro fuel
  induction fuel with
  | zero => intro e p i; rfl
  | succ n ih =>
    intro e p i
    rw [GenW.exponentiate_u64_mod_loop1, expLoop]
    simp only [gw_multiply_u64_mod_eq, Nat.and_one_is_mod, Nat.shiftRight_eq_div_pow, Nat.pow_one, ih, bind_pure]
    by_cases h : e % 2 = 1
    · simp only [h, (by decide : (1:Nat) > 0), if_true]
    · have h0 : e % 2 = 0 := by omega
      simp only [h0, (by decide : ¬ (0:Nat) > 0), (by decide : ¬ (0:Nat) = 1), if_false]

theorem gw_exponentiate_u64_mod_eq (x e : Nat) (m : Modulus) : GenW.exponentiate_u64_mod x e m = exponentiateMod x e m := by
  unfold GenW.exponentiate_u64_mod exponentiateMod
  simp only [gw_exp_loop_eq]

/-- `u64::leading_zeros` is modelled by `64 - bitlength`, which is only meaningful for values below 2^64: hence the hypothesis -/
theorem gw_get_significant_bit_count_eq (v : Nat) (hv : v < 2^64) :
    GenW.get_significant_bit_count v = pure (bitCount v) := by
  unfold GenW.get_significant_bit_count bitCount GenW.clz64
  by_cases h : v = 0
  · simp only [h, if_true]
  · have hl : Nat.log2 v < 64 := (Nat.log2_lt h).2 hv
    simp only [h, if_false, ckSub]
    rw [if_pos (Nat.sub_le _ _)]
    have : 64 - (64 - (Nat.log2 v + 1)) = Nat.log2 v + 1 := by omega
    rw [this]; rfl

theorem gw_gcd_rec_eq : ∀ fuel x y, GenW.gcd_rec fuel x y = pure (gcdLoop fuel x y) := by
  intro fuel
  induction fuel with
  | zero => intro x y; rfl
  | succ n ih =>
    intro x y
    rw [GenW.gcd_rec, gcdLoop]
    by_cases h1 : x < y
    · simp only [h1, if_true, ih]
    · by_cases h2 : y = 0
      · subst h2
        simp only [Nat.not_lt_zero, if_false, if_true]
      · simp only [h1, h2, if_false, GenW.ckMod, ih]
        by_cases h3 : x % y = 0
        · simp only [bind, Except.bind, h3, if_true]
        · simp only [bind, Except.bind, h3, if_false]

/-- The fuel `200` is the MODEL's (`gcdU64 = gcdLoop 200`, `xgcd = xgcdLoop 200` in Model/Word.lean; the Rust recursion / loop has none).  The
    translator's table gives the generated recursion the same number, so the two sides agree also where the fuel would run out; the ties
    `gw_gcd_rec_eq`, `gw_xgcd_loop_eq` hold for every fuel.  That 200 steps suffice for 64-bit words is C08's (`gcdLoop_exact`, C08B). -/
theorem gw_gcd_eq (x y : Nat) : GenW.gcd x y = pure (gcdU64 x y) := gw_gcd_rec_eq 200 x y

/-! ### modulo_uint: slice as list, reversed `for` loop -/
theorem gw_modulo_uint_loop_eq (v : List Nat) (m : Modulus) : ∀ n, n ≤ v.length → ∀ x acc,
    GenW.modulo_uint_loop1 v m n x acc = ((v.take n).reverse).foldlM (fun acc lo => barrett128 lo acc m) acc := by
  intro n
  induction n with
  | zero => intro _ x acc; rfl
  | succ n ih =>
    intro hn x acc
    have hlt : n < v.length := hn
    rw [GenW.modulo_uint_loop1, List.take_succ_eq_append_getElem hlt, List.reverse_concat, List.foldlM_cons]
    simp only [GenW.idx_ok v hlt, gw_barrett_reduce_u128_eq, bind, Except.bind]
    cases barrett128 v[n] acc m with
    | error e => rfl
    | ok a => exact ih (Nat.le_of_lt hlt) _ _

/-- for the empty slice the code panics on `value.len() - 1` (`overflow`), the hand model says `oob`: hence `v ≠ []` -/
theorem gw_modulo_uint_eq (v : List Nat) (m : Modulus) (hv : v ≠ []) : GenW.modulo_uint v m = moduloUint v m := by
  match v, hv with
  | [x], _ =>
    unfold GenW.modulo_uint moduloUint
    simp only [List.length_singleton, if_true, GenW.idx_ok [x] (i := 0) (by simp), bind, Except.bind, List.getElem_cons_zero,
      gw_barrett_reduce_u64_eq]
    by_cases h : x < m.value <;> simp only [h, if_true, if_false]; rfl
  | x :: y :: t, _ =>
    have hlast : t.length + 1 < (x :: y :: t).length := Nat.lt_succ_self _
    have hrev : (x :: y :: t).reverse = (x :: y :: t)[t.length + 1] :: ((x :: y :: t).take (t.length + 1)).reverse := by
      rw [← List.reverse_concat, ← List.take_succ_eq_append_getElem hlast, List.take_of_length_le (show (x :: y :: t).length ≤ t.length + 1 + 1 from Nat.le_refl _)]
    unfold GenW.modulo_uint moduloUint
    rw [if_neg (show ¬ (x :: y :: t).length = 1 from fun h => Nat.succ_ne_zero _ (Nat.succ.inj h)), show ckSub (x :: y :: t).length 1 = .ok (t.length + 1) from rfl]
    simp only [bind, Except.bind, GenW.idx_ok _ hlast, gw_modulo_uint_loop_eq _ _ _ (Nat.le_of_lt hlast), hrev]

/-! ### dot_product_mod: two slices, forward `for` loop -/
theorem gw_add_u128_inplace_eq (a0 a1 b0 b1 : Nat) :
    GenW.add_u128_inplace a0 a1 b0 b1 =
      ((addU128 a0 a1 b0 b1).1, (addU128 a0 a1 b0 b1).2, (addU64Carry a1 b1 (addU64 a0 b0).2).2) := rfl

/-- the accumulation step of the hand model -/
def gw_dotF (acc : Nat × Nat) (p : Nat × Nat) : Nat × Nat := addU128 acc.1 acc.2 (mulLo p.1 p.2) (mulHi p.1 p.2)

/-- the loop from index `i`: it panics at `operand2[operand2.len()]` if `operand2` is the shorter slice -/
theorem gw_dot_loop (xs ys : List Nat) (m : Modulus) : ∀ n i a0 a1 q0 q1, i + n = xs.length → i ≤ ys.length →
    GenW.dot_product_mod_loop1 xs ys m n i a0 a1 q0 q1 =
      if ys.length < xs.length then .error .oob else
        barrett128 (((xs.drop i).zip (ys.drop i)).foldl gw_dotF (a0, a1)).1 (((xs.drop i).zip (ys.drop i)).foldl gw_dotF (a0, a1)).2 m := by
  intro n
  induction n with
  | zero =>
    intro i a0 a1 q0 q1 h hi
    rw [GenW.dot_product_mod_loop1, if_neg (by omega), List.drop_eq_nil_of_le (show xs.length ≤ i from Nat.le_of_eq h.symm), gw_barrett_reduce_u128_eq]; rfl
  | succ n ih =>
    intro i a0 a1 q0 q1 h hi
    have hx : i < xs.length := by omega
    rw [GenW.dot_product_mod_loop1]
    by_cases hy : i < ys.length
    · rw [List.drop_eq_getElem_cons hx, List.drop_eq_getElem_cons hy, List.zip_cons_cons, List.foldl_cons]
      simp only [GenW.idx_ok _ hx, GenW.idx_ok _ hy, bind, Except.bind, gw_multiply_u64_u64_eq, gw_add_u128_inplace_eq]
      exact ih (i + 1) _ _ _ _ (by omega) hy
    · simp only [GenW.idx_ok _ hx, GenW.idx_oob _ (Nat.le_of_not_lt hy), bind, Except.bind]
      rw [if_pos (by omega)]

theorem gw_dot_product_mod_eq (xs ys : List Nat) (m : Modulus) : GenW.dot_product_mod xs ys m = dotProductMod xs ys m :=
  gw_dot_loop xs ys m xs.length 0 0 0 0 0 (Nat.zero_add _) (Nat.zero_le _)

/-! ### xgcd: `while` loop with fuel, i64 arithmetic -/
theorem gw_B64_int : (18446744073709551616 : Int) = 2^64 := by norm_num

theorem gw_asU64_nonneg (s : Int) (h0 : 0 ≤ s) (h1 : s < 2^64) : GenW.asU64 s = s.toNat := by
  unfold GenW.asU64; rw [gw_B64_int, Int.emod_eq_of_lt h0 h1]

theorem gw_asU64_asI64 (v : Nat) (h : v < 2^64) : GenW.asU64 (asI64 v) = v := by
  have hv : GenW.asU64 (v : Int) = v := gw_asU64_nonneg _ (Int.natCast_nonneg v) (by exact_mod_cast h)
  unfold asI64
  split
  · exact hv
  · unfold GenW.asU64 at hv ⊢
    rw [gw_B64_int, Int.ofNat_eq_natCast, Int.sub_emod_right, ← gw_B64_int]; exact hv

/-- the generated loop and `xgcdLoop` step together (induction on the fuel, any fuel): same quotient, the same two checked `i64` products,
    the same refusals.  `(x % y) as i64 as u64` is the identity only for values below 2^64: hence `y < 2^64`, kept by the step (`x % y < y`). -/
theorem gw_xgcd_loop_eq : ∀ fuel x y pa a pb b, y < 2^64 →
    GenW.xgcd_loop1 fuel x y pa a pb b = xgcdLoop fuel x y pa a pb b := by
  intro fuel
  induction fuel with
  | zero => intro x y pa a pb b _; rfl
  | succ n ih =>
    intro x y pa a pb b hy
    rw [GenW.xgcd_loop1, xgcdLoop]
    by_cases h : y = 0
    · simp only [h, ne_eq, not_true_eq_false, if_false, if_true]
    · have hm : x % y < 2^64 := Nat.lt_trans (Nat.mod_lt _ (Nat.pos_of_ne_zero h)) hy
      simp only [h, ne_eq, not_false_eq_true, if_true, if_false, GenW.ckDiv, GenW.ckMod, bind, Except.bind,
        gw_asU64_asI64 _ hm]
      cases ckI64 (asI64 (x / y) * a) with
      | error e => rfl
      | ok qa =>
        simp only []
        cases ckI64 (pa - qa) with
        | error e => rfl
        | ok a' =>
          simp only []
          cases ckI64 (asI64 (x / y) * b) with
          | error e => rfl
          | ok qb =>
            simp only []
            cases ckI64 (pb - qb) with
            | error e => rfl
            | ok b' => exact ih _ _ _ _ _ _ hm

theorem gw_xgcd_eq (x y : Nat) (hy : y < 2^64) : GenW.xgcd x y = HC.xgcd x y := gw_xgcd_loop_eq 200 x y 1 0 0 1 hy

/-! ### try_invert_u64_mod_u64 (uses `xgcd_spec` of Proofs/C08B for the range of the Bezout coefficient) -/
/-- result of `try_invert_u64_mod_u64` as (new `*result`, returned bool), against the hand model's `Option`.
    Domain: the one of `xgcd_spec` (operand below 2^63, modulus 2 ≤ m < 2^61), where the Bezout coefficient lies in [-m, m];
    outside it `(m as i64 + a) as u64` (two's complement) and the hand model's `toNat` may differ. -/
theorem gw_try_invert_u64_mod_u64_eq (v m r0 : Nat) (hv : v < 2^63) (hm2 : 2 ≤ m) (hm : m < 2^61) :
    GenW.try_invert_u64_mod_u64 v m r0 =
      (tryInvert v m >>= fun o => pure (match o with | none => (r0, false) | some r => (r, true))) := by
  unfold GenW.try_invert_u64_mod_u64 tryInvert
  by_cases h0 : v = 0
  · simp only [h0, if_true]; rfl
  · obtain ⟨pa, pb, hx, -, hlo, hhi⟩ := xgcd_spec h0 hv hm2 hm
    have hm64 : m < 2^64 := by omega
    simp only [h0, if_false, gw_xgcd_eq v m hm64, hx, bind, Except.bind]
    by_cases hg : Nat.gcd v m = 1
    · simp only [hg, ne_eq, not_true_eq_false, if_false]
      by_cases ha : pa < 0
      · have hs0 : 0 ≤ (m : Int) + pa := by omega
        have hs1 : (m : Int) + pa < 2^64 := by omega
        have hck : ckI64 ((m : Int) + pa) = .ok ((m : Int) + pa) := by
          unfold ckI64; rw [if_pos (by constructor <;> omega)]; rfl
        simp only [ha, if_true, asI64_small (v := m) (by omega), Int.ofNat_eq_natCast, hck, gw_asU64_nonneg _ hs0 hs1]
        rfl
      · have hs1 : pa < 2^64 := by omega
        simp only [ha, if_false, gw_asU64_nonneg _ (by omega) hs1]
        rfl
    · simp only [hg, ne_eq, not_false_eq_true, if_true]; rfl

theorem gx_B128_eq : GenW.B128 = B64 * B64 := by decide

/-- `divide_u128_u64_inplace` on a numerator `(n0, n1)` of two words and a non-zero denominator:
    remainder (low word, 0) and the two words of the quotient -/
theorem gx_divide_u128_u64_inplace_eq (n0 n1 d : Nat) (h0 : n0 < 2^64) (h1 : n1 < 2^64) :
    GenW.divide_u128_u64_inplace n0 n1 d =
      if d = 0 then .error .other
      else .ok (((n1 <<< 64 ||| n0) % d) % B64, 0, ((n1 <<< 64 ||| n0) / d) % B64, ((n1 <<< 64 ||| n0) / d) / B64) := by
  have hlt : (n1 <<< 64 ||| n0) < GenW.B128 := by
    rw [Nat.shiftLeft_eq, Nat.mul_comm, ← Nat.two_pow_add_eq_or_of_lt h0, gx_B128_eq]
    calc 2^64 * n1 + n0 < 2^64 * n1 + 2^64 := Nat.add_lt_add_left h0 _
      _ = 2^64 * (n1 + 1) := (Nat.mul_succ _ _).symm
      _ ≤ B64 * B64 := Nat.mul_le_mul_left _ h1
  unfold GenW.divide_u128_u64_inplace GenW.ckDiv GenW.ckMul128
  generalize n1 <<< 64 ||| n0 = N at hlt ⊢
  have hq : N / d * d ≤ N := Nat.div_mul_le_self _ _
  by_cases hd : d = 0
  · simp only [hd, if_true, bind, Except.bind]
  · simp only [hd, if_false, if_pos (Nat.lt_of_le_of_lt hq hlt), ckSub_of_le hq, shiftRight_64, Nat.mod_def N, Nat.mul_comm d, bind, Except.bind]
    rfl

/-- `set_quotient`: recomputes the quotient field from the operand field.
    `operand < 2^64` is the type of the Rust field (the model's `Nat` is unbounded: above 2^64 the checked u128 product fails). -/
theorem gx_mulop_set_quotient_eq (s : MulOperand) (m : Modulus) (hy : s.operand < 2^64) :
    GenW.mulop_set_quotient s m = MulOperand.new s.operand m := by
  unfold GenW.mulop_set_quotient MulOperand.new
  simp only [gx_divide_u128_u64_inplace_eq 0 s.operand m.value (by decide) hy]
  have hn : (s.operand <<< 64 ||| 0) = s.operand * B64 := by rw [Nat.or_zero, Nat.shiftLeft_eq]; rfl
  by_cases hd : m.value = 0
  · simp only [hd, if_true, bind, Except.bind]
  · simp only [hd, if_false, bind, Except.bind, hn]

theorem gx_mulop_new_eq (y : Nat) (m : Modulus) (hy : y < 2^64) : GenW.mulop_new y m = MulOperand.new y m := by
  unfold GenW.mulop_new
  rw [gx_mulop_set_quotient_eq ⟨y, 0⟩ m hy]

end HC
