import Heathcliff.Proofs.GenRnsView
import Heathcliff.Proofs.C10H
import Heathcliff.Gen.Rns2Fns
import Heathcliff.Proofs.GenUint
import Heathcliff.Proofs.C08C

/-!
  `RNSBase::decompose`, `decompose_array` (iterator chains read as documented in tools/rs2lean_rns4k.py: `count` multi-word values of `size` limbs, stored one
  after the other, become `size` components of `count` residues) and `compose` (generated into `Gen/Rns2Fns.lean`; it calls `add_uint_mod_inplace` of
  `Gen/Word2Fns.lean` and the generated `multiply_uint_u64`) EQUAL the hand model's value-level `RNSBase.decompose` / `compose` on well-formed bases (the
  multi-word value is a `Nat`; the limbs returned are the limbs of the model's value), with the C10 theorems about them and the round trip.
-/
namespace HC
open HC.GenW HC.GenR

/-- the limbs of the value of a word list are the list itself -/
theorem gr_fromNat_toNat : ∀ (v : List Nat), (∀ x ∈ v, x < 2^64) → fromNat v.length (toNat v) = v := by
  intro v
  induction v with
  | nil => intro _; rfl
  | cons x xs ih =>
    intro h
    have hx : x < B64 := by have := h x (by simp); simpa [B64] using this
    rw [List.length_cons, toNat, fromNat, Nat.add_mul_mod_self_left, Nat.mod_eq_of_lt hx, Nat.add_mul_div_left _ _ (by simp [B64] : 0 < B64),
      Nat.div_eq_of_lt hx, Nat.zero_add, ih (fun y hy => h y (by simp [hy]))]

/-- **`RNSBase::decompose` (generated from src/util/rns.rs) = the hand model `RNSBase.decompose`** on the value of the limbs; `self.base.len()` and
    `self.base[i]` are inputs of the generated function, instantiated with the model base's fields.  A value buffer of the wrong length is refused
    by the code's `assert_eq!` (`gr_rnsbase_decompose_refuses`).  `0 < size`: for the EMPTY base (which `RNSBase::new` refuses to build) the code
    returns the empty buffer while the model returns the one-element array `#[v]`. -/
theorem gr_rnsbase_decompose_eq (b : RNSBase) (v : List Nat) (hpos : 0 < b.size) (hl : v.length = b.size) (hw : ∀ x ∈ v, x < 2^64) :
    GenR.rnsbase_decompose v b.size b.base.toList = (b.decompose (toNat v)).map Array.toList := by
  unfold GenR.rnsbase_decompose RNSBase.decompose
  rw [if_pos hl]
  by_cases hs : b.size > 1
  · have efn : fromNat b.size (toNat v) = v := by rw [← hl]; exact gr_fromNat_toNat v hw
    rw [if_pos hs, if_pos hs, R.foldlM_push, limbsOf, efn]
    have hne : v ≠ [] := by intro h; rw [h] at hl; simp at hl; omega
    have hloop := gr_idxloop (GenR.rnsbase_decompose_loop1 v b.base.toList) (fun i _ => moduloUint v (b.q i)) v.length (fun _ _ => rfl) (by
      intro n i l h hi
      have e1 : GenR.idxMod b.base.toList i = .ok (b.q i) := by
        rw [gr_idxMod_ok b.base.toList i gr_dflt (by rw [Array.length_toList]; have : b.base.size = b.size := rfl; omega), gr_baseq_toList]
      rw [GenR.rnsbase_decompose_loop1]
      simp only [e1, R.ok_bind, gw_modulo_uint_eq v _ hne]
      cases moduloUint v (b.q i) with
      | error e => rfl
      | ok y => simp only [R.ok_bind, GenW.setIdx_ok _ _ h]) b.size 0 v (by omega) (Nat.le_refl _)
    rw [hloop, List.range_eq_range']
    cases (List.range' 0 b.size).mapM (fun i => moduloUint v (b.q i)) with
    | error e => rfl
    | ok ys => simp [R.ok_bind, Except.map]
  · rw [if_neg hs, if_neg hs]
    have h1 : v.length = 1 := by omega
    match v, h1 with
    | [x], _ => simp [toNat, Except.map, pure, Except.pure]

theorem gr_rnsbase_decompose_refuses (b : RNSBase) (v : List Nat) (hl : v.length ≠ b.size) :
    GenR.rnsbase_decompose v b.size b.base.toList = .error .refused := by
  unfold GenR.rnsbase_decompose; rw [if_neg hl]

/-- END TO END with the C10 theorem `decompose_spec_of`: for a well-formed base and limbs of a value `x` (below the product when the base has a
    single modulus), the generated function returns the residues `x mod q_i` -/
theorem gr_rnsbase_decompose_residues {b : RNSBase} (hb : b.WF) (v : List Nat) (hl : v.length = b.size) (hw : ∀ x ∈ v, x < 2^64)
    (h1 : 1 < b.size ∨ toNat v < b.prod) :
    ∃ out, GenR.rnsbase_decompose v b.size b.base.toList = .ok out ∧ out.length = b.size ∧ ∀ i, i < b.size → out.getD i 0 = toNat v % (b.q i).value := by
  have hv : toNat v < 2^(64 * b.size) := by
    have := RNSH.toNat_fromNat v.length (toNat v)
    rw [gr_fromNat_toNat v hw, hl] at this
    have hp : 0 < 2^(64 * b.size) := Nat.two_pow_pos _
    by_contra hc
    have := Nat.mod_lt (toNat v) hp
    omega
  obtain ⟨rs, hok, hsz, hr⟩ := decompose_spec_of hb hv h1
  rw [gr_rnsbase_decompose_eq b v hb.pos hl hw, hok]
  refine ⟨rs.toList, rfl, by rw [Array.length_toList, hsz], fun i hi => ?_⟩
  rw [array_getD_toList _ _ 0, hr i hi]

/-- the inner loop: for the modulus `q`, component `i` of the destination receives the residues of all `count` values -/
theorem gr_da_loop2 (vals cs : List (List Nat)) (size count i : Nat) (q : Modulus)
    (hv1 : vals.length = count) (hv2 : ∀ c ∈ vals, c.length = size) (hs : 0 < size) (hi : i < size)
    (hcs : cs.length = size) (hcn : ∀ c ∈ cs, c.length = count) (hsn : size * count < 2^64) :
    GenR.rnsbase_decompose_array_loop2 count vals.flatten i q size count count 0 cs.flatten
      = ((List.range' 0 count).mapM (fun j => moduloUint (vals.getD j []) q) >>= fun d => .ok (cs.set i d).flatten) := by
  have hfv := Blk.length (D := size) hv2
  rw [hv1] at hfv
  refine gr_coefloop (GenR.rnsbase_decompose_array_loop2 count vals.flatten i q size count) (fun j _ => moduloUint (vals.getD j []) q) count i cs hcn
    (hcs.symm ▸ hi) (fun _ _ => rfl) ?_
  intro k j l hl hj _ _
  have hjv : j < vals.length := hv1.symm ▸ hj
  have hjs := grid_succ_le (B := size) hj
  have hcm : count * size = size * count := Nat.mul_comm _ _
  have e1 : ckMul j size = .ok (j * size) := ckMul_ok (by rw [B64_eq]; omega)
  have e2 : ckSub vals.flatten.length (j * size) = .ok (count * size - j * size) := by rw [hfv]; exact ckSub_of_le (by omega)
  have hnl : ¬ (count * size - j * size < size) := by omega
  have e3 : ckAdd (j * size) size = .ok (j * size + size) := ckAdd_ok (by rw [B64_eq]; omega)
  have e4 := gr_slice_flat size vals j hv2 hjv
  have hne : vals.getD j [] ≠ [] := by
    intro h0
    have := hv2 _ (list_getD_mem [] hjv)
    rw [h0] at this; simp at this; omega
  obtain ⟨e5, e6⟩ := gr_addr_ok hi hj hsn
  rw [GenR.rnsbase_decompose_array_loop2]
  simp only [e1, e2, if_neg hnl, e3, e4, e5, e6, R.ok_bind, gw_modulo_uint_eq _ _ hne]
  refine R.bind_congr _ fun y _ => ?_
  rw [GenW.setIdx_ok _ _ hl, R.ok_bind]

/-- **`RNSBase::decompose_array` (generated from src/util/rns.rs)** on `count` values of `size > 1` limbs each (`vals`, stored one after the other):
    component `i` of the result holds `modulo_uint(value_j, q_i)` for `j = 0 .. count−1`; traps (of `modulo_uint` on malformed moduli) come in the
    order `i` outer, `j` inner, as in the code -/
theorem gr_rnsbase_decompose_array_eq (b : RNSBase) (vals : List (List Nat)) (count : Nat)
    (hs : 1 < b.size) (hv1 : vals.length = count) (hv2 : ∀ c ∈ vals, c.length = b.size) (hsn : b.size * count < 2^64) :
    GenR.rnsbase_decompose_array vals.flatten b.size b.base.toList
      = ((List.range' 0 b.size).mapM (fun i => (List.range' 0 count).mapM (fun j => moduloUint (vals.getD j []) (b.q i))) >>= fun outs => .ok outs.flatten) := by
  have hfv := Blk.length (D := b.size) hv2
  rw [hv1] at hfv
  have hs0 : b.size ≠ 0 := by omega
  have e1 : ckMod vals.flatten.length b.size = .ok 0 := by unfold ckMod; rw [if_neg hs0, hfv, Nat.mul_mod_left]
  have e2 : ckDiv vals.flatten.length b.size = .ok count := by unfold ckDiv; rw [if_neg hs0, hfv, Nat.mul_div_cancel _ (by omega)]
  obtain ⟨hr1, hr2, hr3⟩ := Blk.cut_spec count b.size vals.flatten (by rw [hfv, Nat.mul_comm])
  unfold GenR.rnsbase_decompose_array
  simp only [e1, e2, R.ok_bind, if_true, if_pos hs]
  have key := gr_comploop (GenR.rnsbase_decompose_array_loop1 count b.size vals.flatten b.base.toList)
    (fun i _ => (List.range' 0 count).mapM (fun j => moduloUint (vals.getD j []) (b.q i))) (fun l => .ok l) b.size count (fun _ _ => rfl) (by
      intro k i cs hi hcs hcn
      have e3 : GenR.idxMod b.base.toList i = .ok (b.q i) := by
        rw [gr_idxMod_ok b.base.toList i gr_dflt (by rw [Array.length_toList]; exact hi), gr_baseq_toList]
      rw [GenR.rnsbase_decompose_array_loop1]
      simp only [e3, e2, e1, R.ok_bind, if_pos hs0, ne_eq, not_true_eq_false, if_false, gr_pure]
      rw [gr_da_loop2 vals cs b.size count i (b.q i) hv1 hv2 (by omega) hi hcs hcn hsn, bind_assoc]
      simp only [R.ok_bind])
    (fun i c y _ _ hy => by rw [R.mapM_length hy, List.length_range']) b.size 0 (Blk.cut count b.size vals.flatten) (by omega) hr2 hr3
  rw [hr1] at key
  rw [key, gr_foldM_all _ b.size _ hr2 (fun _ _ _ _ _ => rfl)]

/-- END TO END: for a well-formed base with at least two moduli and word limbs, position `i·count + j` of the result = `value_j mod q_i`
    (the values are `toNat` of their limbs) -/
theorem gr_rnsbase_decompose_array_residues {b : RNSBase} (hb : b.WF) (vals : List (List Nat)) (count : Nat)
    (hs : 1 < b.size) (hv1 : vals.length = count) (hv2 : ∀ c ∈ vals, c.length = b.size) (hw : ∀ c ∈ vals, ∀ x ∈ c, x < 2^64)
    (hsn : b.size * count < 2^64) :
    ∃ out, GenR.rnsbase_decompose_array vals.flatten b.size b.base.toList = .ok out ∧ out.length = b.size * count ∧
      ∀ i j, i < b.size → j < count → out.getD (i * count + j) 0 = toNat (vals.getD j []) % (b.q i).value := by
  have hres : ∀ i, i < b.size → (List.range' 0 count).mapM (fun j => moduloUint (vals.getD j []) (b.q i))
      = .ok ((List.range' 0 count).map (fun j => toNat (vals.getD j []) % (b.q i).value)) := by
    intro i hi
    apply R.mapM_ok
    intro j hj
    rw [List.mem_range'_1] at hj
    have hm := list_getD_mem (l := vals) (i := j) [] (by omega)
    refine moduloUint_exact (hb.mwf i hi) ?_ (hw _ hm)
    intro h0
    have := hv2 _ hm
    rw [h0] at this; simp at this; omega
  rw [gr_rnsbase_decompose_array_eq b vals count hs hv1 hv2 hsn,
    R.mapM_ok _ (fun i => (List.range' 0 count).map (fun j => toNat (vals.getD j []) % (b.q i).value)) _
      (fun i hi => hres i (by rw [List.mem_range'_1] at hi; omega))]
  have hall : ∀ c ∈ (List.range' 0 b.size).map (fun i => (List.range' 0 count).map (fun j => toNat (vals.getD j []) % (b.q i).value)), c.length = count := by
    intro c hc
    obtain ⟨i, _, rfl⟩ := List.mem_map.mp hc
    rw [List.length_map, List.length_range']
  refine ⟨_, rfl, by rw [Blk.length (D := count) hall, List.length_map, List.length_range'], fun i j hi hj => ?_⟩
  rw [Blk.getD hall (by rw [List.length_map, List.length_range']; exact hi) hj, gr_getD_map_range' _ _ _ _ hi,
    gr_getD_map_range' _ _ _ _ hj]

/-- the rows of `punctured_prod` as the code stores them: `size` limbs each -/
def gr_punctRows (b : RNSBase) : List (List Nat) := (List.range b.size).map (fun i => limbsOf b.size (b.punct.getD i 0))

/-- one step of the model's fold -/
def gr_compStep (b : RNSBase) (res : List Nat) (acc i : Nat) : R Nat :=
  mulOperandMod (res.getD i 0) (b.invPunct.getD i default) (b.q i) >>= fun tp =>
    let term := (b.punct.getD i 0 * tp) % 2^(64 * b.size)
    let s := acc + term
    pure (if s ≥ 2^(64 * b.size) ∨ s ≥ b.prod then (s + 2^(64 * b.size) - b.prod) % 2^(64 * b.size) else s)

/-- the model's accumulation step (computed in `M = 2^(64·size)`-bit arithmetic) is addition modulo the base product -/
theorem gr_addmod_step {P M acc term : Nat} (hPM : P < M) (hacc : acc < P) (hterm : term < P) :
    (if acc + term ≥ M ∨ acc + term ≥ P then (acc + term + M - P) % M else acc + term) = (acc + term) % P := by
  by_cases hge : acc + term ≥ P
  · rw [if_pos (Or.inr hge), show acc + term + M - P = (acc + term - P) + M by omega, Nat.add_mod_right, Nat.mod_eq_of_lt (by omega),
      Nat.mod_eq_sub_mod hge, Nat.mod_eq_of_lt (by omega)]
  · rw [if_neg (by omega), Nat.mod_eq_of_lt (by omega)]

theorem gr_comp_loop {b : RNSBase} (hb : b.WF) (res : List Nat) (hres : res.length = b.size) (hrw : ∀ x ∈ res, x < 2^64) :
    ∀ k i (a0 v3 : List Nat) (acc : Nat), i + k = b.size → a0.length = b.size → Limbs a0 → toNat a0 = acc → acc < b.prod → v3.length = b.size →
      ∃ a0' v3' acc', GenR2.rnsbase_compose_loop1 b.size res b.invPunct.toList b.base.toList (gr_punctRows b) (limbsOf b.size b.prod) k i a0 v3 = .ok (a0', v3') ∧
        (List.range' i k).foldlM (gr_compStep b res) acc = .ok acc' ∧ toNat a0' = acc' ∧ a0'.length = b.size ∧ Limbs a0' ∧ acc' < b.prod := by
  have hpos := hb.pos
  have hprod := hb.prod_lt
  have hP0 := hb.prod_pos
  have hprodL : toNat (limbsOf b.size b.prod) = b.prod := by
    unfold limbsOf; rw [RNSH.toNat_fromNat, Nat.mod_eq_of_lt hprod]
  have hprodLen : (limbsOf b.size b.prod).length = b.size := fromNat_length _ _
  intro k
  induction k with
  | zero =>
    intro i a0 v3 acc _ hl hlim hv hacc _
    exact ⟨a0, v3, acc, rfl, rfl, hv, hl, hlim, hacc⟩
  | succ k ih =>
    intro i a0 v3 acc hik hl hlim hv hacc hv3
    have hi : i < b.size := by omega
    have hir : i < res.length := by omega
    have hq := hb.mwf i hi
    have hq2 := hq.two_le
    have hq61 := hq.lt
    have hxw : res.getD i 0 < 2^64 := list_getD_lt_of_forall hrw (by norm_num) i
    have e1 : GenW.idx res i = .ok (res.getD i 0) := by rw [GenW.idx_ok _ hir, list_getD_eq_getElem _ 0 hir]
    have e2 : GenR.idxOp b.invPunct.toList i = .ok (b.invPunct.getD i default) := by
      rw [gr_idxOp_ok _ i default (by rw [Array.length_toList, hb.inv_size]; exact hi), gr_ops_toList]
    have e3 : GenR.idxMod b.base.toList i = .ok (b.q i) := by
      rw [gr_idxMod_ok _ i gr_dflt (by rw [Array.length_toList]; exact hi), gr_baseq_toList]
    have etp := RNSH.mulOperandMod_wf hq (hb.inv_wf i hi).1 hxw
    generalize htp : (res.getD i 0 * (b.invPunct.getD i default).operand) % (b.q i).value = tp at etp
    have htpl : tp < (b.q i).value := by rw [← htp]; exact Nat.mod_lt _ (by omega)
    have e4 : GenR.idxRow (gr_punctRows b) i = .ok (limbsOf b.size (b.punct.getD i 0)) := by
      rw [gr_idxRow_ok _ i (by unfold gr_punctRows; rw [List.length_map, List.length_range]; exact hi)]
      unfold gr_punctRows
      rw [List.range_eq_range', gr_getD_map_range' _ _ _ _ hi]
    have hpe := hb.punct_eq i hi
    have hpunct_le : b.punct.getD i 0 ≤ b.prod := by rw [← hpe]; exact Nat.le_mul_of_pos_right _ (by omega)
    have hrowv : toNat (limbsOf b.size (b.punct.getD i 0)) = b.punct.getD i 0 := by
      unfold limbsOf; rw [RNSH.toNat_fromNat, Nat.mod_eq_of_lt (by omega)]
    obtain ⟨r, hr, hrl, hrlim, hrv⟩ := multiplyUintU64_spec (a := limbsOf b.size (b.punct.getD i 0)) (w := tp) (n := b.size) hpos
      (fromNat_limbs _ _) (by omega)
    rw [hrowv] at hrv
    have hppos : 0 < b.punct.getD i 0 := by
      rcases Nat.eq_zero_or_pos (b.punct.getD i 0) with h | h
      · rw [h, Nat.zero_mul] at hpe; omega
      · exact h
    have hterm_lt : b.punct.getD i 0 * tp < b.prod := by rw [← hpe]; exact Nat.mul_lt_mul_of_pos_left htpl hppos
    have hterm : (b.punct.getD i 0 * tp) % 2^(64 * b.size) = b.punct.getD i 0 * tp := Nat.mod_eq_of_lt (by omega)
    rw [hterm] at hrv
    obtain ⟨a1, ha1, ha1l, ha1lim, ha1v⟩ := addUintMod_spec (a := a0) (b := r) (md := limbsOf b.size b.prod) (by rw [hprodLen]; exact hpos) hlim hrlim
      (fromNat_limbs _ _) (by rw [hprodLen]; exact hl) (by rw [hprodLen]; exact hrl) (by rw [hprodL, hv]; exact hacc) (by rw [hprodL, hrv]; exact hterm_lt)
    rw [hprodL, hv, hrv] at ha1v
    rw [hprodLen] at ha1l
    have hacc1 : (acc + b.punct.getD i 0 * tp) % b.prod < b.prod := Nat.mod_lt _ hP0
    obtain ⟨a0', v3', acc', hg, hm, h1, h2, h3, h4⟩ := ih (i + 1) a1 r ((acc + b.punct.getD i 0 * tp) % b.prod) (by omega) ha1l ha1lim ha1v hacc1 hrl
    refine ⟨a0', v3', acc', ?_, ?_, h1, h2, h3, h4⟩
    · rw [GenR2.rnsbase_compose_loop1]
      simp only [e1, e2, e3, e4, R.ok_bind, gw_multiply_u64operand_mod_eq, etp, gr_multiply_uint_u64_eq, hv3, hr]
      rw [gq_add_uint_mod_inplace_eq a0 r (limbsOf b.size b.prod) (by rw [hprodLen]; exact hl), ha1, R.ok_bind]
      exact hg
    · rw [List.range'_succ, List.foldlM_cons]
      have hstep : gr_compStep b res acc i = .ok ((acc + b.punct.getD i 0 * tp) % b.prod) := by
        unfold gr_compStep
        rw [etp, R.ok_bind]
        simp only [hterm]
        exact congrArg Except.ok (gr_addmod_step hprod hacc hterm_lt)
      rw [hstep]
      exact hm

/-- **`RNSBase::compose` (generated from src/util/rns.rs) = the hand model `RNSBase.compose`** on a well-formed base: the limbs the code leaves in `value` are the
    `size` limbs of the model's value.  `self.punctured_prod[i]` / `self.base_prod` are inputs of the generated function, instantiated with the limbs of the
    model's `punct i` / `prod`.  Stated on the well-formed domain (residues as words): the code works on limbs (`multiply_uint_u64`, `add_uint_mod_inplace`), the
    model on values; off that domain the multi-word helpers and the value-level formula need not agree. -/
theorem gr_rnsbase_compose_eq {b : RNSBase} (hb : b.WF) (res : List Nat) (hl : res.length = b.size) (hw : ∀ x ∈ res, x < 2^64) :
    GenR2.rnsbase_compose res b.size b.base.toList b.invPunct.toList (gr_punctRows b) (limbsOf b.size b.prod)
      = (b.compose res.toArray).map (limbsOf b.size) := by
  have hpos := hb.pos
  unfold GenR2.rnsbase_compose RNSBase.compose
  rw [if_pos hl]
  by_cases hs : b.size > 1
  · rw [if_pos hs, if_pos hs]
    simp only [gr_set_zero_uint_eq, hl]
    obtain ⟨a0', v3', acc', hg, hm, h1, h2, h3, h4⟩ := gr_comp_loop hb res hl hw b.size 0 (List.replicate b.size 0) (List.replicate b.size 0) 0 (by omega)
      List.length_replicate (Limbs.replicate_zero _) (toNat_replicate_zero _) hb.prod_pos List.length_replicate
    rw [hg]
    have hmodel : (List.range b.size).foldlM (fun acc i => do
        let tp ← mulOperandMod (res.toArray.getD i 0) (b.invPunct.getD i default) (b.q i)
        let term := (b.punct.getD i 0 * tp) % 2^(64 * b.size)
        let s := acc + term
        pure (if s ≥ 2^(64 * b.size) ∨ s ≥ b.prod then (s + 2^(64 * b.size) - b.prod) % 2^(64 * b.size) else s)) 0 = .ok acc' := by
      rw [List.range_eq_range', ← hm]
      congr 1
      funext acc i
      unfold gr_compStep
      have : res.toArray.getD i 0 = res.getD i 0 := by rw [← array_getD_toList _ _ 0]
      rw [this]
    rw [hmodel]
    simp only [R.ok_bind, gr_pure]
    show Except.ok a0' = Except.ok (limbsOf b.size acc')
    congr 1
    unfold limbsOf
    rw [← h1, ← h2, gr_fromNat_toNat a0' h3]
  · rw [if_neg hs, if_neg hs]
    have h1 : res.length = 1 := by omega
    have hb1 : b.size = 1 := by omega
    match res, h1, hw with
    | [x], _, hw =>
      have hx : x < B64 := by have := hw x (by simp); simpa [B64] using this
      simp [Except.map, pure, Except.pure, limbsOf, hb1, fromNat, Nat.mod_eq_of_lt hx, Array.getD]

/-- END TO END with the C10 theorem `compose_spec`: for canonical residues the generated `compose` returns `size` word limbs of THE integer below the base
    product with these residues -/
theorem gr_rnsbase_compose_crt {b : RNSBase} (hb : b.WF) (res : List Nat) (hl : res.length = b.size)
    (hr : ∀ i, i < b.size → res.getD i 0 < (b.q i).value) :
    ∃ out, GenR2.rnsbase_compose res b.size b.base.toList b.invPunct.toList (gr_punctRows b) (limbsOf b.size b.prod) = .ok out ∧
      out.length = b.size ∧ Limbs out ∧ toNat out < b.prod ∧ ∀ i, i < b.size → toNat out % (b.q i).value = res.getD i 0 := by
  have hw : ∀ x ∈ res, x < 2^64 := by
    intro x hx
    obtain ⟨i, hi, rfl⟩ := List.getElem_of_mem hx
    have := hr i (by omega)
    have h61 := (hb.mwf i (by omega)).lt
    rw [list_getD_eq_getElem _ 0 hi] at this
    omega
  obtain ⟨x, hok, hxl, hxr⟩ := compose_spec hb (rs := res.toArray) (by simpa using hl) (fun i hi => by rw [← array_getD_toList _ _ 0]; exact hr i hi)
  rw [gr_rnsbase_compose_eq hb res hl hw, hok]
  have hx64 : x < 2^(64 * b.size) := Nat.lt_trans hxl hb.prod_lt
  refine ⟨limbsOf b.size x, rfl, fromNat_length _ _, fromNat_limbs _ _, ?_, fun i hi => ?_⟩
  · unfold limbsOf; rw [RNSH.toNat_fromNat, Nat.mod_eq_of_lt hx64]; exact hxl
  · unfold limbsOf
    rw [RNSH.toNat_fromNat, Nat.mod_eq_of_lt hx64, hxr i hi, ← array_getD_toList _ _ 0, List.toList_toArray, Nat.mod_eq_of_lt (hr i hi)]

/-- **decompose ∘ compose = id on the GENERATED code**: for canonical residues, the generated `compose` succeeds and the generated `decompose` of its result
    returns the residues again -/
theorem gr_decompose_compose_gen {b : RNSBase} (hb : b.WF) (res : List Nat) (hl : res.length = b.size)
    (hr : ∀ i, i < b.size → res.getD i 0 < (b.q i).value) :
    ∃ out, GenR2.rnsbase_compose res b.size b.base.toList b.invPunct.toList (gr_punctRows b) (limbsOf b.size b.prod) = .ok out ∧
      GenR.rnsbase_decompose out b.size b.base.toList = .ok res := by
  obtain ⟨out, hok, hlen, hlim, hlt, hres⟩ := gr_rnsbase_compose_crt hb res hl hr
  obtain ⟨out2, hok2, hlen2, hv2⟩ := gr_rnsbase_decompose_residues hb out hlen hlim (Or.inr hlt)
  refine ⟨out, hok, ?_⟩
  rw [hok2]
  congr 1
  apply list_eq_of_getD 0 (by rw [hlen2, hl])
  intro i hi
  rw [hlen2] at hi
  rw [hv2 i hi, hres i hi]

end HC
