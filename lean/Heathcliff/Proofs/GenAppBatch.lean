/-
  `reverse_bits_u64` (src/util/basic.rs) and the `matrix_reps_index_map` loop of `BatchEncoder::new`
  (src/batch_encoder.rs, a fragment) regenerated into Gen/AppBatchFns.lean = `brev` / `batchIndexMap` of the hand model.  Helper prefix `ga_`.
-/
import Heathcliff.Proofs.GenAppBrev
import Heathcliff.Gen.AppBatchFns
import Heathcliff.Model.Galois

namespace HC
open HC.GenApp

/-- **`reverse_bits_u64`, generated = `brev`**: `bit_count ≤ 64` (`64 - bit_count` is a checked subtraction; `bit_count = 0` gives 0 in
    both) and an operand of at most `bit_count` bits -/
theorem ga_reverse_bits_u64_eq (x k : Nat) (hk : k ≤ 64) (hx : x < 2^k) : reverse_bits_u64 x k = .ok (brev k x) := by
  unfold reverse_bits_u64
  by_cases h0 : k = 0
  · subst h0; rw [if_pos rfl]; rfl
  · rw [if_neg h0]; exact ga_rev_shift x k hk h0 hx

/-- the model's loop step (`batchIndexMap` of Model/Galois.lean) -/
def ga_bimStep (k : Nat) (acc : Array Nat × Nat) (i : Nat) : Array Nat × Nat :=
  let (arr, pos) := acc
  let i1 := (pos - 1) / 2
  let i2 := (2 * 2^k - pos - 1) / 2
  ((arr.setIfInBounds i (brev k i1)).setIfInBounds (i + 2^k / 2) (brev k i2), (pos * galoisGenerator) % (2 * 2^k))

theorem ga_batchIndexMap_eq (k : Nat) :
    batchIndexMap k = ((List.range (2^k / 2)).foldl (ga_bimStep k) (Array.replicate (2^k) 0, 1)).1 := rfl

def ga_ofBim (s : Array Nat × Nat) : List Nat × Nat := (s.1.toList, s.2)

/-- what the body's index arithmetic needs of the cursor `pos` (odd, below `m = 2n`) -/
theorem ga_bim_bounds {n pos : Nat} (hpos : pos < 2 * n) (hodd : pos % 2 = 1) :
    1 ≤ pos ∧ pos ≤ 2 * n ∧ 1 ≤ 2 * n - pos ∧ (pos - 1) / 2 < n ∧ (2 * n - pos - 1) / 2 < n := by omega

theorem ga_be_index_map_loop1 (k : Nat) (hk1 : 1 ≤ k) (hk : k ≤ 61) (i : Nat) (hi : i < 2^k / 2) (s : Array Nat × Nat)
    (hsz : s.1.size = 2^k) (hpos : s.2 < 2 * 2^k) (hodd : s.2 % 2 = 1) :
    be_index_map_loop1 k (2^k / 2) (2 * 2^k) 3 i (ga_ofBim s) = .ok (.next (ga_ofBim (ga_bimStep k s i))) ∧
      (ga_bimStep k s i).1.size = 2^k ∧ (ga_bimStep k s i).2 < 2 * 2^k ∧ (ga_bimStep k s i).2 % 2 = 1 := by
  obtain ⟨arr, pos⟩ := s
  simp only at hsz hpos hodd
  have hn : 2^k ≤ 2^61 := Nat.pow_le_pow_right (by decide) hk
  have hn0 : 0 < 2 * 2^k := Nat.mul_pos (by decide) (Nat.two_pow_pos k)
  obtain ⟨p1, p2, p3, hi1, hi2⟩ := ga_bim_bounds hpos hodd
  have hk64 : k ≤ 64 := Nat.le_trans hk (by decide)
  have hm : 2 * 2^k = 2^(k+1) := by rw [Nat.pow_succ, Nat.mul_comm]
  have hand : (pos * 3) &&& (2 * 2^k - 1) = (pos * 3) % (2 * 2^k) := by
    rw [hm]; exact Nat.and_two_pow_sub_one_eq_mod _ _
  have hi' : i + 2^k / 2 < 2^k := Nat.lt_of_lt_of_le (Nat.add_lt_add_right hi _) (by rw [← Nat.two_mul]; exact Nat.mul_div_le _ 2)
  refine ⟨?_, ?_, Nat.mod_lt _ hn0, ?_⟩
  · have l1 : i < arr.toList.length := by rw [Array.length_toList, hsz]; exact Nat.lt_of_le_of_lt (Nat.le_add_right _ _) hi'
    have l2 : i + 2^k / 2 < (arr.toList.set i (brev k ((pos - 1) / 2))).length := by rw [List.length_set, Array.length_toList, hsz]; exact hi'
    show be_index_map_loop1 k (2^k / 2) (2 * 2^k) 3 i (arr.toList, pos) = _
    simp only [be_index_map_loop1, GenApp.setIdx, Nat.shiftRight_eq_div_pow, Nat.pow_one]
    rw [ga_ckSub_bind p1, ga_ckSub_bind p2, ga_ckSub_bind p3, ga_reverse_bits_u64_eq _ k hk64 hi1, R.ok_bind, if_pos l1, R.ok_bind,
      ga_reverse_bits_u64_eq _ k hk64 hi2, R.ok_bind, ga_ckAdd_bind (Nat.lt_trans hi' (Nat.lt_of_le_of_lt hn (by decide))), if_pos l2,
      R.ok_bind, ga_ckMul_bind (Nat.lt_of_lt_of_le (Nat.mul_lt_mul_of_pos_right hpos (by decide))
        (Nat.le_trans (Nat.mul_le_mul_right 3 (Nat.mul_le_mul_left 2 hn)) (by decide))),
      ga_ckSub_bind hn0, hand]
    simp only [ga_ofBim, ga_bimStep, galoisGenerator, Array.toList_setIfInBounds]
    rfl
  · simp [ga_bimStep, hsz]
  · show (pos * galoisGenerator) % (2 * 2^k) % 2 = 1
    rw [Nat.mod_mod_of_dvd _ (Dvd.intro _ rfl)]
    simp only [galoisGenerator]; omega

/-- **the `matrix_reps_index_map` loop of `BatchEncoder::new`, generated = `batchIndexMap`**, at `slots = 2^k`, `logn = k`
    (what `get_power_of_two` returns and the `assert!(logn > 0)` admits), `1 ≤ k ≤ 61` -/
theorem ga_be_index_map_eq (k : Nat) (hk1 : 1 ≤ k) (hk : k ≤ 61) :
    be_index_map (2^k) k = .ok (batchIndexMap k).toList := by
  have hn : 2^k ≤ 2^61 := Nat.pow_le_pow_right (by omega) hk
  have hl := ga_forUp_inv ga_ofBim (ga_bimStep k) (fun _ s => s.1.size = 2^k ∧ s.2 < 2 * 2^k ∧ s.2 % 2 = 1)
    (be_index_map_loop1 k (2^k / 2) (2 * 2^k) 3) (2^k / 2) 0 (Array.replicate (2^k) 0, 1)
    ⟨by simp, by have := Nat.two_pow_pos k; omega, rfl⟩
    (fun j s _ h2 hI => ga_be_index_map_loop1 k hk1 hk j (by omega) s hI.1 hI.2.1 hI.2.2)
  have hsh : (2^k <<< 1) % B64 = 2 * 2^k := by
    rw [Nat.shiftLeft_eq, Nat.pow_one, Nat.mul_comm]
    exact Nat.mod_eq_of_lt (by simp only [B64]; omega)
  simp only [be_index_map, Nat.shiftRight_eq_div_pow, Nat.pow_one, hsh, Nat.sub_zero]
  have he : ga_ofBim (Array.replicate (2^k) 0, 1) = (List.replicate (2^k) 0, 1) := by simp [ga_ofBim]
  rw [he] at hl
  rw [hl, R.ok_bind, ga_batchIndexMap_eq, List.range_eq_range']
  rfl

end HC
