/-
  C20F: the coefficient of the negacyclic product of an encoded input tile and an encoded weight block at an output position is
  the valid cross-correlation entry (partial sum over the input-channel block).  Both theorems instantiate `c20_xcorr_coeff`
  (C20E) with the model's encoders: `c20_conv2d_coeff` for conv2d.rs, `c20_cheetah_coeff` for coefficient packing (cheetah.rs), its
  case of 1×1 tiles and kernels.
-/
import Heathcliff.Proofs.C20E

namespace HC
open Finset HC.MM

/-- **convolution, one (tile, input-channel block, output-channel block)**: the coefficient of the negacyclic product of the encoded
    input tile (batch rows `lb..ub`, input channels `lci..uci`, image rows `si..ui`, columns `sj..uj`) and the encoded weight block
    (output channels `loc..uoc`, the same input channels) at the output position of (`db`, `dc`, `i`, `j`) is the valid
    cross-correlation entry, summed over the block's input channels, for every entry whose window lies inside the tile.  The model's
    position maps are `c20_pos4` (`c20_cxPos_eq`, `c20_cwPos_eq`, `c20_cyPos_eq`), so this is `c20_xcorr_coeff`. -/
theorem c20_conv2d_coeff {R : Type} [CommRing R] (h : CHelper) (x w : Nat → R)
    (hfit : h.bb * (h.cib * h.cob) * (h.hb * h.wb) ≤ h.n)
    (hkh : 1 ≤ h.S.kh) (hkw : 1 ≤ h.S.kw) (hkhb : h.S.kh ≤ h.hb) (hkwb : h.S.kw ≤ h.wb)
    (lb ub lci uci si ui sj uj loc uoc : Nat)
    (hb : ub - lb ≤ h.bb) (hc : uci - lci ≤ h.cib) (hr : ui - si ≤ h.hb) (hs : uj - sj ≤ h.wb) (ho : uoc - loc ≤ h.cob)
    (db dc i j : Nat) (hdb : db < ub - lb) (hdc : dc < uoc - loc) (hi : i + h.S.kh ≤ ui - si) (hj : j + h.S.kw ≤ uj - sj) :
    ∃ px pw, cvEncInputBlock h 0 x lb ub lci uci si ui sj uj = .ok px ∧ cvEncWeightBlock h 0 w loc uoc lci uci = .ok pw ∧
      negMulR h.n (fun p => px.getD p 0) (fun p => pw.getD p 0) (cyPos h db dc i j)
        = ∑ ic ∈ range (uci - lci), ∑ ki ∈ range h.S.kh, ∑ kj ∈ range h.S.kw,
            x ((lb + db) * h.S.ci * (h.S.h * h.S.w) + (lci + ic) * (h.S.h * h.S.w) + (si + (i + ki)) * h.S.w + (sj + (j + kj)))
              * w (((loc + dc) * h.S.ci + (lci + ic)) * (h.S.kh * h.S.kw) + ki * h.S.kw + kj) := by
  obtain ⟨px, hpx, _, hxz, hxv⟩ := c20_cvEncInput_spec (0 : R) h x hfit (by omega) lb ub lci uci si ui sj uj hb hc hr hs
  obtain ⟨pw, hpw, hwz, hwv⟩ := c20_cvEncWeight_spec (0 : R) h w (c20_cv_fitW (by omega) hfit) hkhb hkwb loc uoc lci uci ho hc
  refine ⟨px, pw, hpx, hpw, ?_⟩
  by_cases hcib : 0 < h.cib
  swap
  · rw [show uci - lci = 0 by omega, Finset.sum_range_zero]
    exact c04k_negMul_zero _ _ _ _ fun p _ => hxz p fun _ dc' _ _ _ hdc' _ _ => by omega
  simp only [c20_cxPos_eq] at hxz hxv
  simp only [c20_cwPos_eq] at hwz hwv
  rw [c20_cyPos_eq h db dc i j hcib hkh hkw hkhb hkwb]
  exact c20_xcorr_coeff (fun p => px.getD p 0) (fun p => pw.getD p 0)
    (fun db dc ti tj => x ((lb + db) * h.S.ci * (h.S.h * h.S.w) + (lci + dc) * (h.S.h * h.S.w) + (si + ti) * h.S.w + (sj + tj)))
    (fun doc dic ki kj => w (((loc + doc) * h.S.ci + (lci + dic)) * (h.S.kh * h.S.kw) + ki * h.S.kw + kj))
    hfit hkh hkw hb hc hr hs ho hxz hxv hwz hwv hdb hdc hi hj

/-- **coefficient packing, one block pair**: the coefficient of the negacyclic product of an encoded input block (batch rows
    `li..ui`, input columns `lj..uj`) and the encoded weight block (input rows `lj..uj`, output columns `lk..uk`) at the
    output position of (row `db`, column `dk`) is the partial dot product over the block's input columns.  The three position maps
    are `c20_pos4` with a 1×1 tile (C20B), so this is `c20_xcorr_coeff` with a 1×1 kernel. -/
theorem c20_cheetah_coeff {R : Type} [CommRing R] (h : Helper) (x w : Nat → R) (hfit : h.bb * h.ib * h.ob ≤ h.n)
    (li ui lj uj lk uk : Nat) (hb : ui - li ≤ h.bb) (hi : uj - lj ≤ h.ib) (ho : uk - lk ≤ h.ob)
    (db dk : Nat) (hdb : db < ui - li) (hdk : dk < uk - lk) :
    ∃ px pw, encInputBlock h 0 x li ui lj uj = .ok px ∧ encWeightSmall h 0 w lj uj lk uk = .ok pw ∧
      negMulR h.n (fun p => px.getD p 0) (fun p => pw.getD p 0) (outPos h db dk)
        = ∑ j ∈ range (uj - lj), x ((li + db) * h.id + (lj + j)) * w ((lj + j) * h.od + (lk + dk)) := by
  obtain ⟨px, hpx, _, hxz, hxv⟩ := c20_encInput_spec (0 : R) h x hfit (by omega) li ui lj uj hb hi
  obtain ⟨pw, hpw, _, hwz, hwv⟩ := c20_encWeight_spec (0 : R) h w (c20_fitW (by omega) hfit) lj uj lk uk hi ho
  refine ⟨px, pw, hpx, hpw, ?_⟩
  simp only [c20_inPos_pos4] at hxz hxv
  rw [c20_outPos_pos4]
  refine (c20_xcorr_coeff (bb := h.bb) (cob := h.ob) (kh := 1) (kw := 1) (nb := ui - li) (nc := uj - lj) (nr := 1) (ns := 1)
    (no := uk - lk) (fun p => px.getD p 0) (fun p => pw.getD p 0)
    (fun db dc _ _ => x ((li + db) * h.id + (lj + dc))) (fun doc dic _ _ => w ((lj + dic) * h.od + (lk + doc)))
    (by simpa [Nat.mul_assoc] using hfit) (le_refl _) (le_refl _) hb hi (le_refl _) (le_refl _) ho
    (fun q hq => hxz q fun a c h1 h2 => hq a c 0 0 h1 h2 Nat.one_pos Nat.one_pos)
    (fun a c ti tj h1 h2 h3 h4 => by rw [Nat.lt_one_iff.mp h3, Nat.lt_one_iff.mp h4]; exact hxv a c h1 h2)
    (fun q hq => hwz q fun a c h1 h2 e => hq a c 0 0 h1 h2 Nat.one_pos Nat.one_pos (c20_wPos_pos4 h a c (lt_of_lt_of_le h2 hi) ▸ e))
    (fun a c ki kj h1 h2 h3 h4 => by
      rw [Nat.lt_one_iff.mp h3, Nat.lt_one_iff.mp h4, ← c20_wPos_pos4 h a c (lt_of_lt_of_le h2 hi)]; exact hwv a c h1 h2)
    hdb hdk (le_refl _) (le_refl _)).trans ?_
  exact Finset.sum_congr rfl fun j _ => by rw [Finset.sum_range_one, Finset.sum_range_one]

end HC
