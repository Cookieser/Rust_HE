/-
  C20L: what the three end-to-end theorems of the BOLT slot-packing helpers (C20M `bolt_cp`, C20N `bolt_cc_cr`, C20O `bolt_cc_dc`)
  share.  All three run a schedule of slot-wise products, rotations and sums over lists of slot vectors, accumulate in an
  `Option (Array S)`, and read / write matrices column by column.  Accordingly: a list sum is a `Finset` sum; `mapM` over an index
  range with a postcondition per index (`c20_mapM_range`); `slotZip` / `slotMask` and the accessors `getSlots` / `getRow` as
  functions of the slot; the optional accumulator never ends in `None` on a non-empty list and holds the slot-wise sum
  (`c20_accFold_some`); an encoder that writes `m` entries into each of `B` columns (`c20_scatter_cols`), with the column-major
  encoder and decoder the helpers share; and `c20_CcOK`, the arithmetic facts about a helper the two cc constructors accept.
-/
import Heathcliff.Proofs.C20A
import Heathcliff.Proofs.BaseMath
namespace HC
open Finset HC.MM

variable {S : Type}

/-! ### list sums, `mapM` with a pointwise postcondition -/

theorem c20_list_sum_pairs {M : Type} [AddCommMonoid M] (f : Nat × Nat → M) (A C : Nat) :
    ((pairs A C).map f).sum = ∑ a ∈ range A, ∑ c ∈ range C, f (a, c) := by
  unfold pairs
  rw [← list_sum_range]
  induction (List.range A) with
  | nil => simp
  | cons a l ih =>
    rw [List.flatMap_cons, List.map_append, List.sum_append, ih, List.map_cons, List.sum_cons, List.map_map,
      ← list_sum_range]
    rfl

theorem c20_list_sum_filter {M : Type} [AddCommMonoid M] (p : Nat → Prop) [DecidablePred p] (F : Nat → M) :
    ∀ l : List Nat, ((l.filter fun x => decide (p x)).map F).sum = (l.map fun x => if p x then F x else 0).sum
  | [] => rfl
  | x :: l => by
    rw [List.filter_cons]
    by_cases hx : p x
    · simp only [hx, decide_true, if_true, List.map_cons, List.sum_cons]
      rw [c20_list_sum_filter p F l]
    · simp only [hx, decide_false, if_false, List.map_cons, List.sum_cons, Bool.false_eq_true]
      rw [c20_list_sum_filter p F l, zero_add]

/-- `mapM` over an index range with a postcondition per index, the results read with `[i]?` as the accessors `getSlots` / `getRow` do -/
theorem c20_mapM_range {β : Type} (f : Nat → R β) (P : Nat → β → Prop) (n : Nat) (h : ∀ i, i < n → ∃ b, f i = .ok b ∧ P i b) :
    ∃ bs, (List.range n).mapM f = .ok bs ∧ bs.length = n ∧ ∀ i, i < n → ∃ b, bs[i]? = some b ∧ P i b := by
  obtain ⟨bs, h1, h2, h3⟩ := R.mapM_range_spec f P n h
  refine ⟨bs, h1, h2, fun i hi => ⟨bs[i]'(h2 ▸ hi), List.getElem?_eq_getElem _, ?_⟩⟩
  have := h3 (bs[i]'(h2 ▸ hi)) i hi
  rwa [list_getD_eq_getElem _ _ (h2 ▸ hi)] at this

theorem c20_pairs_ne_nil {A C : Nat} (hA : 0 < A) (hC : 0 < C) : pairs A C ≠ [] :=
  List.ne_nil_of_mem (c20_mem_pairs.mpr ⟨hA, hC⟩ : ((0, 0) : Nat × Nat) ∈ pairs A C)

/-! ### slot views -/

theorem c20_slotZip_size (f : S → S → S) (z : S) (N : Nat) (a b : Array S) : (slotZip f z N a b).size = N := by
  unfold slotZip; simp

theorem c20_slotZip_get (f : S → S → S) (z : S) (N : Nat) (a b : Array S) {p : Nat} (hp : p < N) :
    (slotZip f z N a b).getD p z = f (a.getD p z) (b.getD p z) := by
  unfold slotZip; rw [array_getD_ofFn _ _ hp]

theorem c20_rotRows_size (z : S) (N s : Nat) (v : Array S) : (rotRows z N s v).size = N := by
  unfold rotRows; simp

theorem c20_swapRows_size (z : S) (N : Nat) (v : Array S) : (swapRows z N v).size = N := by
  unfold swapRows; simp

theorem c20_slotMask_size (z : S) (N lo hi : Nat) (v : Array S) : (slotMask z N lo hi v).size = N := by
  unfold slotMask; simp

theorem c20_slotMask_get (z : S) (N lo hi : Nat) (v : Array S) {p : Nat} (hp : p < N) :
    (slotMask z N lo hi v).getD p z = if lo ≤ p ∧ p < hi then v.getD p z else z := by
  unfold slotMask; rw [array_getD_ofFn _ _ hp]

/-! ### optional accumulators -/

/-- the slot view of an optional accumulator (`None` counts as zero) -/
def c20_accGet [Zero S] : Option (Array S) → Nat → S
  | none, _ => 0
  | some v, p => v.getD p 0

/-- the arrays stored in an optional accumulator have `N` slots -/
def c20_accSized (N : Nat) (o : Option (Array S)) : Prop := ∀ v, o = some v → v.size = N

theorem c20_accSized_none (N : Nat) : c20_accSized N (none : Option (Array S)) := fun _ h => by cases h

theorem c20_accAdd_get [AddCommMonoid S] (N : Nat) (acc : Option (Array S)) (v : Array S) {p : Nat} (hp : p < N) :
    c20_accGet (accAdd (· + ·) 0 N acc v) p = c20_accGet acc p + v.getD p 0 := by
  cases acc with
  | none => show v.getD p 0 = 0 + v.getD p 0; rw [zero_add]
  | some a => exact c20_slotZip_get _ _ _ _ _ hp

theorem c20_accAdd_sized [Zero S] (f : S → S → S) (N : Nat) (acc : Option (Array S)) (v : Array S) (hv : v.size = N) :
    c20_accSized N (accAdd f 0 N acc v) := by
  intro u hu
  cases acc with
  | none => cases hu; exact hv
  | some a => cases hu; exact c20_slotZip_size _ _ _ _ _

theorem c20_accAdd_ne_none [Zero S] (f : S → S → S) (N : Nat) (acc : Option (Array S)) (v : Array S) :
    accAdd f 0 N acc v ≠ none := by
  cases acc <;> simp [accAdd]

/-- `set_or_add` folded over a list, from `None` over a non-empty list or from a `Some` of `N` slots: a `Some` of `N` slots that holds the
    slot-wise sum -/
theorem c20_accFold_some [AddCommMonoid S] {β : Type} (N : Nat) (g : β → Array S) :
    ∀ (l : List β) (init : Option (Array S)), (l ≠ [] ∨ init ≠ none) → (∀ x ∈ l, (g x).size = N) → c20_accSized N init →
      ∃ v, l.foldl (fun acc x => accAdd (· + ·) 0 N acc (g x)) init = some v ∧ v.size = N ∧
        ∀ p, p < N → v.getD p 0 = c20_accGet init p + (l.map fun x => (g x).getD p 0).sum
  | [], init, h, _, hwf => by
    obtain ⟨v, rfl⟩ := Option.ne_none_iff_exists'.mp (h.resolve_left fun h => h rfl)
    exact ⟨v, rfl, hwf v rfl, fun p _ => (add_zero _).symm⟩
  | x :: l, init, _, hg, hwf => by
    obtain ⟨v, hv, hs, hval⟩ := c20_accFold_some N g l (accAdd (· + ·) 0 N init (g x)) (Or.inr (c20_accAdd_ne_none _ _ _ _))
      (fun y hy => hg y (List.mem_cons_of_mem _ hy)) (c20_accAdd_sized _ _ _ _ (hg x List.mem_cons_self))
    exact ⟨v, hv, hs, fun p hp => by rw [hval p hp, c20_accAdd_get N _ _ hp, List.map_cons, List.sum_cons, add_assoc]⟩

theorem c20_unwrapAcc_some {o : Option (Array S)} (h : o ≠ none) : ∃ v, o = some v ∧ unwrapAcc o = .ok v := by
  cases o with
  | none => exact absurd rfl h
  | some v => exact ⟨v, rfl, rfl⟩

/-- the accessors `getSlots` / `getRow` return the item found at the index -/
theorem c20_getSlots_of {β : Type} {l : List (Array β)} {i : Nat} {v : Array β} (h : l[i]? = some v) : getSlots l i = .ok v := by
  unfold getSlots; rw [h]

theorem c20_getRow_of {β : Type} {l : List (List (Array β))} {i : Nat} {v : List (Array β)} (h : l[i]? = some v) :
    getRow l i = .ok v := by
  unfold getRow; rw [h]

theorem c20_getSlots_map {β : Type} (f : Nat → Array β) (A i : Nat) (hi : i < A) :
    getSlots ((List.range A).map f) i = .ok (f i) :=
  c20_getSlots_of (c20_range_map_getElem? _ _ _ hi)

theorem c20_getRow_map {β : Type} (f : Nat → List (Array β)) (A i : Nat) (hi : i < A) :
    getRow ((List.range A).map f) i = .ok (f i) :=
  c20_getRow_of (c20_range_map_getElem? _ _ _ hi)

theorem c20_pairs_map_getElem? {β : Type} (f : Nat × Nat → β) (A C a c : Nat) (ha : a < A) (hc : c < C) :
    ((pairs A C).map f)[a * C + c]? = some (f (a, c)) := by
  have hlt : a * C + c < A * C := by have := grid_succ_le (B := C) ha; omega
  rw [c20_pairs_eq, List.map_map, c20_range_map_getElem? _ _ _ hlt]
  have d := grid_div a hc; have m := grid_mod a hc
  show some (f ((a * C + c) / C, (a * C + c) % C)) = _
  rw [d, m]

/-! ### the column-major layout (`bolt_cp` inputs / outputs, `bolt_cc_cr` inputs, `bolt_cc_dc` outputs) -/

/-- the column layout of the slot-packing encoders: entry `j` of column `col a` is slot `col a · gap + j` -/
theorem c20_scatter_cols (z : S) (N gap A B w : Nat) (P : Nat × Nat → Bool) (col : Nat → Nat) (val : Nat × Nat → S)
    (hcol : ∀ a, a < A → col a < w) (hinj : ∀ a a', a < A → a' < A → col a = col a' → a = a') (hB : B ≤ gap) (hN : w * gap ≤ N) :
    ∃ arr, scatterA z N N (((pairs A B).filter P).map fun k => (col k.1 * gap + k.2, val k)) = .ok arr ∧ arr.size = N ∧
      (∀ a j, a < A → j < gap → arr.getD (col a * gap + j) z = if j < B ∧ P (a, j) = true then val (a, j) else z) ∧
      (∀ c j, j < gap → (∀ a, a < A → col a ≠ c) → arr.getD (c * gap + j) z = z) := by
  obtain ⟨arr, hok, hsz, hv, hz⟩ := c20_scatter_filter z N N (pairs A B) P (fun k => col k.1 * gap + k.2) val
    (fun k hk => by
      obtain ⟨h1, h2⟩ := c20_mem_pairs.mp hk
      have := lt_of_lt_of_le (grid_lt (hcol _ h1) (lt_of_lt_of_le h2 hB)) hN
      exact ⟨this, this⟩)
    (fun k hk k' hk' e => by
      obtain ⟨h1, h2⟩ := c20_mem_pairs.mp hk
      obtain ⟨h1', h2'⟩ := c20_mem_pairs.mp hk'
      obtain ⟨e1, e2⟩ := grid_inj (lt_of_lt_of_le h2 hB) (lt_of_lt_of_le h2' hB) e
      exact Prod.ext (hinj _ _ h1 h1' e1) e2)
  refine ⟨arr, hok, hsz, fun a j ha hj => ?_, fun c j hj hc => hz _ fun k hk e => ?_⟩
  · by_cases hjB : j < B
    · rw [hv (a, j) (c20_mem_pairs.mpr ⟨ha, hjB⟩)]
      simp only [hjB, true_and]
    · rw [if_neg (fun h => hjB h.1)]
      exact hz _ fun k hk e => by
        obtain ⟨h1, h2⟩ := c20_mem_pairs.mp hk
        exact hjB ((grid_inj (lt_of_lt_of_le h2 hB) hj e).2 ▸ h2)
  · obtain ⟨h1, h2⟩ := c20_mem_pairs.mp hk
    exact hc _ h1 (grid_inj (lt_of_lt_of_le h2 hB) hj e).1

/-- `MatmulBolt*Small::encode_inputs` on a row slice: total; column `c` of polynomial `i`, entry `j` -/
theorem c20_boltColMajor_spec (z : S) (N gap s m width : Nat) (a : Nat → S) (len i : Nat) (hN : N = s * gap) (hm : m ≤ gap) :
    ∃ arr, boltColMajor N gap s m width z a len i = .ok arr ∧ arr.size = N ∧
      ∀ c j, c < s → j < gap → arr.getD (c * gap + j) z =
        if j < m ∧ i * s + c < width ∧ j * width + (i * s + c) < len then a (j * width + (i * s + c)) else z := by
  have hmod : ∀ c, c < min width (i * s + s) - i * s → (i * s + c) % s = c := fun c hc =>
    grid_mod _ (lt_of_lt_of_le hc c20_blk_le)
  obtain ⟨arr, hok, hsz, hv, hz⟩ := c20_scatter_cols z N gap (min width (i * s + s) - i * s) m s
    (fun cj => cj.2 * width + (i * s + cj.1) < len) (fun c => (i * s + c) % s)
    (fun cj => a (cj.2 * width + (i * s + cj.1)))
    (fun c hc => by rw [hmod c hc]; exact lt_of_lt_of_le hc c20_blk_le)
    (fun c c' hc hc' e => by rwa [hmod c hc, hmod c' hc'] at e) hm (le_of_eq hN.symm)
  refine ⟨arr, hok, hsz, fun c j hc hj => ?_⟩
  by_cases hA : c < min width (i * s + s) - i * s
  · have := hv c j hA hj
    rw [hmod c hA] at this
    rw [this]
    simp only [decide_eq_true_eq, show i * s + c < width by omega, true_and]
  · rw [hz c j hj fun a ha e => hA (by rw [hmod a ha] at e; exact e ▸ ha), if_neg fun hc' => hA (by omega)]

/-- the column-major array of part `p`, polynomial `i` -/
def c20_colMajorArr (z : S) (N gap s m mAll width : Nat) (x : Nat → S) (p i : Nat) : Array S :=
  c20_val #[] (boltColMajor N gap s m width z (fun id => x (p * m * width + id)) ((min (p * m + m) mAll - p * m) * width) i)

theorem c20_boltRowParts_ok (z : S) (N gap s m mAll width : Nat) (x : Nat → S) (hN : N = s * gap) (hm : m ≤ gap) :
    boltRowParts N gap s m mAll width z x
      = .ok ((List.range (ceilDiv mAll m)).map fun p => (List.range (ceilDiv width s)).map fun i =>
          c20_colMajorArr z N gap s m mAll width x p i) := by
  unfold boltRowParts
  apply R.mapM_ok
  intro p _
  apply R.mapM_ok
  intro i _
  obtain ⟨arr, hok, _⟩ := c20_boltColMajor_spec z N gap s m width (fun id => x (p * m * width + id))
    ((min (p * m + m) mAll - p * m) * width) i hN hm
  exact c20_val_ok #[] hok

/-- entry (`row` of the part, column `i·s + c`) of the matrix at column `c`, entry `j` of polynomial `i` of part `p` -/
theorem c20_colMajorArr_get (z : S) (N gap s m mAll width : Nat) (x : Nat → S) (hN : N = s * gap) (hm : m ≤ gap) (p i : Nat)
    {c j : Nat} (hc : c < s) (hj : j < gap) :
    (c20_colMajorArr z N gap s m mAll width x p i).size = N ∧
    (c20_colMajorArr z N gap s m mAll width x p i).getD (c * gap + j) z
      = if p * m + j < min (p * m + m) mAll ∧ i * s + c < width then x ((p * m + j) * width + (i * s + c)) else z := by
  obtain ⟨arr, hok, hsz, hget⟩ := c20_boltColMajor_spec z N gap s m width (fun id => x (p * m * width + id))
    ((min (p * m + m) mAll - p * m) * width) i hN hm
  have e : c20_colMajorArr z N gap s m mAll width x p i = arr := c20_val_eq #[] hok
  rw [e, hget c j hc hj]
  refine ⟨hsz, ?_⟩
  by_cases hw : i * s + c < width
  · have hiff : j * width + (i * s + c) < (min (p * m + m) mAll - p * m) * width ↔ j < min (p * m + m) mAll - p * m := by
      rw [← Nat.div_lt_iff_lt_mul (Nat.zero_lt_of_lt hw), grid_div j hw]
    by_cases hjm : j < min (p * m + m) mAll - p * m
    · rw [if_pos ⟨by omega, hw, hiff.mpr hjm⟩, if_pos ⟨by omega, hw⟩]
      congr 1; ring
    · rw [if_neg (fun h => hjm (hiff.mp h.2.2)), if_neg (fun h => hjm (by omega))]
  · rw [if_neg (fun h => hw h.2.1), if_neg (fun h => hw h.2)]

/-- the length test of the column-major decoders passes on a list of parts that all have the length `n` -/
theorem c20_any_length_ne {α : Type} {Y : List (List α)} {n : Nat}
    (h : ∀ p, p < Y.length → ∃ part, Y[p]? = some part ∧ part.length = n) : (Y.any fun p => p.length ≠ n) = false := by
  rw [List.any_eq_false]
  intro part hpart
  obtain ⟨p, hp, hget⟩ := List.getElem_of_mem hpart
  obtain ⟨b, hb, hbl⟩ := h p hp
  rw [List.getElem?_eq_getElem hp, hget] at hb
  cases hb
  simp [hbl]

/-- `decode_outputs` of the column-major layout over all parts, for ANY family of polynomials carrying `F row col` at the read
    position of every entry: the result is the `mAll × width` matrix `F`, row major -/
theorem c20_boltColMajorDecode_spec (z : S) (gap s m mAll width : Nat) (Y : List (List (Array S))) (F : Nat → Nat → S)
    (hm : 0 < m) (hlen : Y.length = ceilDiv mAll m)
    (hY : ∀ p, p < ceilDiv mAll m → ∃ part, getRow Y p = .ok part ∧
      ∀ i j, i < min (p * m + m) mAll - p * m → j < width → ∃ poly, getSlots part (j / s) = .ok poly ∧
        readAt poly (j % s * gap + i) = .ok (F (p * m + i) j)) :
    ∃ out, boltColMajorDecode gap s m mAll width z Y = .ok out ∧ out.size = mAll * width ∧
      ∀ row col, row < mAll → col < width → out.getD (row * width + col) z = F row col := by
  have hrun : boltColMajorDecode gap s m mAll width z Y = scatterA z (mAll * width) (mAll * width)
      ((List.range (ceilDiv mAll m)).flatMap fun p =>
        (pairs (min (p * m + m) mAll - p * m) width).map fun ij => ((p * m + ij.1) * width + ij.2, F (p * m + ij.1) ij.2)) := by
    unfold boltColMajorDecode
    rw [hlen, List.flatMap_def, R.mapM_ok _ fun p =>
      (pairs (min (p * m + m) mAll - p * m) width).map fun ij => ((p * m + ij.1) * width + ij.2, F (p * m + ij.1) ij.2)]
    · rfl
    intro p hp
    obtain ⟨part, hpart, hread⟩ := hY p (List.mem_range.mp hp)
    rw [hpart]
    show (pairs _ _).mapM _ = _
    apply R.mapM_ok
    intro ij hij
    obtain ⟨h1, h2⟩ := c20_mem_pairs.mp hij
    obtain ⟨poly, hpoly, hr⟩ := hread ij.1 ij.2 h1 h2
    rw [hpoly]
    show (do let v ← readAt poly (ij.2 % s * gap + ij.1); (pure ((p * m + ij.1) * width + ij.2, v) : R (Nat × S))) = _
    rw [hr]
    rfl
  rw [hrun]
  refine c20_scatter_matrix z mAll width _ F (fun pv hpv => ?_) fun row col hrow hcol => ?_
  · obtain ⟨p, _, hpv⟩ := List.mem_flatMap.mp hpv
    obtain ⟨ij, hij, rfl⟩ := List.mem_map.mp hpv
    obtain ⟨h1, h2⟩ := c20_mem_pairs.mp hij
    exact ⟨_, _, c20_blk_lt (Nat.min_comm _ _ ▸ h1), h2, rfl⟩
  · refine List.mem_flatMap.mpr ⟨row / m, List.mem_range.mpr (c20_div_lt_ceilDiv hm hrow),
      List.mem_map.mpr ⟨(row % m, col), c20_mem_pairs.mpr ⟨Nat.min_comm _ _ ▸ c20_mod_in_blk hm hrow, hcol⟩, ?_⟩⟩
    show ((row / m * m + row % m) * width + col, F (row / m * m + row % m) col) = _
    rw [Nat.div_add_mod']

/-- a slot of column `σ` that lies in the range `[τ·gap, τ·gap + gap)` of column `τ`: the same column -/
theorem c20_col_eq {gap σ τ u : Nat} (hu : u < gap) (h1 : τ * gap ≤ σ * gap + u) (h2 : σ * gap + u < τ * gap + gap) : σ = τ := by
  rcases Nat.lt_trichotomy σ τ with hlt | heq | hgt
  · have := grid_succ_le (B := gap) hlt; omega
  · exact heq
  · have := grid_succ_le (B := gap) hgt; omega

/-! ### the helpers `MatmulBoltCcCr::new` / `MatmulBoltCcDc::new` accept -/

/-- the arithmetic facts about a helper `BoltCc.newCr` / `BoltCc.newDc` accept (`c20_boltCcNew_ok`): the `N` slots are `gsc` columns
    of `gap` entries, the column count is `2·half` with `half = 2^g` (a row holds `half` columns), and the block side `m` is positive
    and fits into a column.  `half` and `g` are parameters and not fields so that statements can mention them (`c20_rho (half·gap)`).
    `g ≤ 63`: `boltSumAll` and `boltSpread` double their rotation `g + 1` times inside a loop of fuel 64, the width of `usize`. -/
structure c20_CcOK (h : BoltCc) (half g : Nat) : Prop where
  hN : h.N = h.gsc * h.gap
  hgsc : h.gsc = 2 * half
  hhalf : half = 2 ^ g
  hg : g ≤ 63
  hm0 : 0 < h.m
  hmg : h.m ≤ h.gap

theorem c20_CcOK.half_pos {h : BoltCc} {half g : Nat} (ok : c20_CcOK h half g) : 0 < half := by
  rw [ok.hhalf]; exact Nat.two_pow_pos g

theorem c20_CcOK.gap_pos {h : BoltCc} {half g : Nat} (ok : c20_CcOK h half g) : 0 < h.gap := lt_of_lt_of_le ok.hm0 ok.hmg

theorem c20_CcOK.hN2 {h : BoltCc} {half g : Nat} (ok : c20_CcOK h half g) : h.N = 2 * (half * h.gap) := by
  rw [ok.hN, ok.hgsc, Nat.mul_assoc]

theorem c20_CcOK.hNdiv {h : BoltCc} {half g : Nat} (ok : c20_CcOK h half g) : h.N / 2 = half * h.gap := by
  rw [ok.hN2, Nat.mul_div_cancel_left _ (by decide : 0 < 2)]

theorem c20_CcOK.gsc_pos {h : BoltCc} {half g : Nat} (ok : c20_CcOK h half g) : 0 < h.gsc := by
  have := ok.half_pos; rw [ok.hgsc]; omega

/-- the common part of `MatmulBoltCcCr::new` / `MatmulBoltCcDc::new`: block side `mr ≤ N/2`, `gap = ceilTwoPower mr`, `gsc = ⌈N/gap⌉` -/
theorem c20_boltCc_params {N mr : Nat} (hpow : ∃ e, N = 2^e) (hN64 : N < 2^64) (hmr : mr ≤ N / 2) (hN2 : N / 2 ≠ 0) :
    ∃ half g, N = ceilDiv N (ceilTwoPower mr) * ceilTwoPower mr ∧ ceilDiv N (ceilTwoPower mr) = 2 * half ∧ half = 2^g ∧ g ≤ 63 ∧
      mr ≤ ceilTwoPower mr := by
  obtain ⟨e, rfl⟩ := hpow
  have he : 1 ≤ e := by
    rcases Nat.eq_zero_or_pos e with h | h
    · subst h; simp at hN2
    · exact h
  have he64 : e < 64 := (Nat.pow_lt_pow_iff_right (by decide : 1 < 2)).mp hN64
  have hdiv : 2^e / 2 = 2^(e-1) := by
    have : 2^e = 2 * 2^(e-1) := by rw [← Nat.pow_add_one', Nat.sub_add_cancel he]
    rw [this, Nat.mul_div_cancel_left _ (by decide : 0 < 2)]
  obtain ⟨a, ha, hale, hmin⟩ := c20_ceilTwoPower_least mr
  have hmr64 : mr ≤ 2^64 := le_trans hmr (le_trans (Nat.div_le_self _ _) hN64.le)
  rw [ha]
  have hae : a ≤ e - 1 := hmin (e - 1) (by rw [← hdiv]; exact hmr)
  have hae' : a < e := lt_of_le_of_lt hae (Nat.sub_lt he (by decide))
  have hsplit : 2^e = 2^(e-a) * 2^a := by rw [← Nat.pow_add, Nat.sub_add_cancel hae'.le]
  have hcd : ceilDiv (2^e) (2^a) = 2^(e-a) := by
    unfold ceilDiv
    have hp := Nat.two_pow_pos a
    rw [hsplit, Nat.add_sub_assoc hp, Nat.add_comm, Nat.add_mul_div_right _ _ hp, Nat.div_eq_of_lt (Nat.sub_lt hp (by decide)),
      Nat.zero_add]
  refine ⟨2^(e-a-1), e-a-1, ?_, ?_, rfl, le_trans (Nat.sub_le _ _) (le_trans (Nat.sub_le _ _) (Nat.le_of_lt_succ he64)), hale hmr64⟩
  · rw [hcd]; exact hsplit
  · rw [hcd, ← Nat.pow_add_one', Nat.sub_add_cancel (Nat.sub_pos_of_lt hae')]

/-- `MatmulBoltCcCr::new` and `MatmulBoltCcDc::new` differ in the block side (`X` = `max m n` / `max m r`) and in the dimension that must
    not vanish (`Y` = `r` / `n`) only -/
theorem c20_boltCcNew_ok {m r n N X Y : Nat} {h : BoltCc}
    (hnew : (if min X (N / 2) = 0 ∨ Y = 0 ∨ N / 2 = 0 then (.error .other : R BoltCc) else
      .ok ⟨N, m, r, n, min X (N / 2), ceilTwoPower (min X (N / 2)), ceilDiv N (ceilTwoPower (min X (N / 2)))⟩) = .ok h)
    (hpow : ∃ e, N = 2^e) (hN64 : N < 2^64) :
    h.N = N ∧ h.mAll = m ∧ h.r = r ∧ h.nAll = n ∧ 0 < Y ∧ ∃ half g, c20_CcOK h half g := by
  split at hnew
  · cases hnew
  rename_i hc
  cases hnew
  have h1 : min X (N / 2) ≠ 0 := fun h => hc (Or.inl h)
  have h2 : Y ≠ 0 := fun h => hc (Or.inr (Or.inl h))
  have h3 : N / 2 ≠ 0 := fun h => hc (Or.inr (Or.inr h))
  obtain ⟨half, g, e1, e2, e3, e4, e5⟩ := c20_boltCc_params hpow hN64 (Nat.min_le_right _ _) h3
  exact ⟨rfl, rfl, rfl, rfl, Nat.pos_of_ne_zero h2, half, g,
    { hN := e1, hgsc := e2, hhalf := e3, hg := e4, hm0 := Nat.pos_of_ne_zero h1, hmg := e5 }⟩

end HC
