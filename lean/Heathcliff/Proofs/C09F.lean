/- C09 part F: the minimal primitive 2N-th root is a function of (N, q) when q is prime, whatever primitive root the
   random search handed in; correctness of `isPrimitiveRoot` / `minimalRootFrom`. -/
import Heathcliff.Proofs.NTTDefs
import Heathcliff.Proofs.C08A
import Heathcliff.Proofs.C08B
import Mathlib.RingTheory.RootsOfUnity.PrimitiveRoots
import Mathlib.FieldTheory.Finite.Basic
namespace HC

variable {m : Modulus}

/-- "primitive 2N-th root" in the sense the library tests it: g^N ≡ -1 (mod q), 0 < g < q -/
def IsPrim (n q g : Nat) : Prop := 0 < g ∧ g < q ∧ g^n % q = q - 1

/-! ### translation to `ZMod q` -/

theorem pow_mod_eq_pred_iff {q : Nat} (hq : 1 ≤ q) (x n : Nat) :
    x^n % q = q - 1 ↔ ((x : ZMod q))^n = -1 := by
  have hc : ((q - 1 : Nat) : ZMod q) = -1 := by rw [Nat.cast_sub hq, ZMod.natCast_self, zero_sub, Nat.cast_one]
  rw [← hc, ← Nat.cast_pow, ZMod.natCast_eq_natCast_iff', Nat.mod_eq_of_lt (a := q - 1) (by omega)]

/-- `isPrimitiveRoot` on any u64 value: the exponentiation returns the operand itself (unreduced) for exponent 1 -/
theorem isPrimitiveRoot_eq (h : m.WF) {n g : Nat} (hg : g < 2^64) (hn0 : 0 < n) (hn : 2 * n < 2^64) :
    isPrimitiveRoot g (2*n) m =
      .ok (decide (g ≠ 0 ∧ (if n = 1 then g else g ^ n % m.value) = m.value - 1)) := by
  unfold isPrimitiveRoot
  by_cases hg0 : g = 0
  · simp [hg0, pure, Except.pure]
  · rw [if_neg hg0, show 2 * n / 2 = n by omega, exponentiateMod_exact (mulMod_exact h) h hg (by omega),
      if_neg (by omega)]
    simp [bind, Except.bind, pure, Except.pure, hg0]

theorem isPrimitiveRoot_spec (h : m.WF) {n g : Nat} (hg : g < m.value) (hn0 : 0 < n) (hn : 2 * n < 2^64) :
    ∃ b, isPrimitiveRoot g (2*n) m = .ok b ∧ (b = true ↔ IsPrim n m.value g) := by
  refine ⟨_, isPrimitiveRoot_eq h (lt_trans hg (lt_trans h.lt (by norm_num))) hn0 hn, ?_⟩
  have hval : (if n = 1 then g else g ^ n % m.value) = g ^ n % m.value := by
    split
    · rename_i h1; rw [h1, pow_one, Nat.mod_eq_of_lt hg]
    · rfl
  rw [decide_eq_true_eq, hval]
  exact ⟨fun ⟨h0, h1⟩ => ⟨Nat.pos_of_ne_zero h0, hg, h1⟩, fun ⟨h0, _, h1⟩ => ⟨h0.ne', h1⟩⟩

/-- odd powers of a primitive root are primitive -/
theorem isPrim_odd_pow {n q g : Nat} (hq : 2 < q) (hn : 0 < n) (hg : IsPrim n q g) (j : Nat) :
    IsPrim n q (g^(2*j+1) % q) := by
  obtain ⟨_, _, hgn⟩ := hg
  have hq1 : 1 ≤ q := by omega
  have hpow : (g^(2*j+1) % q)^n % q = q - 1 := by
    rw [pow_mod_eq_pred_iff hq1] at hgn ⊢
    rw [ZMod.natCast_mod, Nat.cast_pow, ← pow_mul, mul_comm, pow_mul, hgn]
    exact Odd.neg_one_pow ⟨j, rfl⟩
  refine ⟨?_, Nat.mod_lt _ (by omega), hpow⟩
  rcases Nat.eq_zero_or_pos (g^(2*j+1) % q) with h0 | h0
  · rw [h0, zero_pow (by omega), Nat.zero_mod] at hpow; omega
  · exact h0

/-! ### the loop of `minimalRootFrom` -/

theorem odd_pow_step (g t q : Nat) :
    (g^(2*t+1) % q * (g * g % q)) % q = g^(2*(t+1)+1) % q := by
  have h1 : (g^(2*t+1) % q * (g * g % q)) ≡ g^(2*t+1) * (g * g) [MOD q] :=
    (Nat.mod_modEq _ _).mul (Nat.mod_modEq _ _)
  have h2 : g^(2*t+1) * (g * g) = g^(2*(t+1)+1) := by ring
  rw [← h2]; exact h1

theorem minimalRootFrom_go_spec (h : m.WF) (g : Nat) :
    ∀ (c t best cur : Nat), cur = g^(2*t+1) % m.value →
      ∃ r, minimalRootFrom.go m (g * g % m.value) c best cur = .ok r ∧
        (r = best ∨ ∃ j, t ≤ j ∧ j < t + c ∧ r = g^(2*j+1) % m.value) ∧ r ≤ best ∧
        ∀ j, t ≤ j → j < t + c → r ≤ g^(2*j+1) % m.value := by
  have hq : m.value < 2^64 := lt_trans h.lt (by norm_num)
  have hq0 : 0 < m.value := lt_of_lt_of_le (by norm_num) h.two_le
  have hmod : ∀ z, z % m.value < 2^64 := fun z => lt_trans (Nat.mod_lt _ hq0) hq
  intro c
  induction c with
  | zero =>
    intro t best cur _
    exact ⟨best, rfl, Or.inl rfl, le_refl _, fun j h1 h2 => by omega⟩
  | succ c ih =>
    intro t best cur hcur
    rw [minimalRootFrom.go]
    simp only [bind, Except.bind, mulMod_exact h (hcur ▸ hmod _) (hmod (g * g))]
    obtain ⟨r, hr, hmem, hle, hmin⟩ := ih (t+1) (if cur < best then cur else best)
      (cur * (g * g % m.value) % m.value) (by rw [hcur, odd_pow_step])
    have hb : (if cur < best then cur else best) ≤ best ∧ (if cur < best then cur else best) ≤ cur := by
      split <;> omega
    refine ⟨r, hr, ?_, le_trans hle hb.1, fun j h1 h2 => ?_⟩
    · rcases hmem with h1 | ⟨j, h1, h2, h3⟩
      · split at h1
        · exact Or.inr ⟨t, le_refl _, by omega, by rw [h1, hcur]⟩
        · exact Or.inl h1
      · exact Or.inr ⟨j, by omega, by omega, h3⟩
    · rcases Nat.eq_or_lt_of_le h1 with rfl | h1
      · rw [← hcur]; exact le_trans hle hb.2
      · exact hmin j h1 (by omega)

/-- the value `minimalRootFrom` returns: the minimum of the N odd powers g^1, g^3, …, g^(2N-1) (mod q) -/
theorem minimalRootFrom_spec (h : m.WF) {n g : Nat} (hn : 0 < n) (hg : g < m.value) :
    ∃ r, minimalRootFrom (2*n) m g = .ok r ∧
      (∃ j, j < n ∧ r = g^(2*j+1) % m.value) ∧ (∀ j, j < n → r ≤ g^(2*j+1) % m.value) := by
  have hg64 : g < 2^64 := lt_trans hg (lt_trans h.lt (by norm_num))
  unfold minimalRootFrom
  simp only [bind, Except.bind, mulMod_exact h hg64 hg64]
  rw [show (2 * n + 1) / 2 = n by omega]
  have hg1 : g = g^(2*0+1) % m.value := by simp [Nat.mod_eq_of_lt hg]
  obtain ⟨r, hr, hmem, -, hmin⟩ := minimalRootFrom_go_spec h g n 0 g g hg1
  rw [Nat.zero_add] at hmem hmin
  refine ⟨r, hr, ?_, fun j hj => hmin j (Nat.zero_le _) hj⟩
  rcases hmem with h1 | ⟨j, -, hj, h1⟩
  · exact ⟨0, hn, h1.trans hg1⟩
  · exact ⟨j, hj, h1⟩

/-! ### prime modulus: the orbit of odd powers is the set of all primitive roots

  For an arbitrary `n > 0` the three statements below (`…Statement : Prop`, universally quantified over `n`) are FALSE:
  for q = 7, n = 3 both 6 and 3 satisfy x^3 ≡ -1, but 6 = -1 has order 2 only, so its odd powers are {6} and 3 is not
  among them.  Each is refuted (`prim_is_odd_powerStatement_false`, `root_deterministicStatement_false`,
  `minimalRoot_leastStatement_false`), and each is proved for `n` a power of two (`…_pow2`; the only case the code
  uses: `n = 2^k` is the ring degree), where x^n = -1 forces the order to be exactly 2n. -/

def prim_is_odd_powerStatement : Prop :=
  ∀ {n q g g' : Nat} (_ : Nat.Prime q) (_ : 0 < n)
    (_ : IsPrim n q g) (_ : IsPrim n q g'), ∃ j, j < n ∧ g' = g^(2*j+1) % q

def root_deterministicStatement : Prop :=
  ∀ {m : Modulus} (_ : m.WF) (_ : Nat.Prime m.value) {n g g' : Nat} (_ : 0 < n)
    (_ : IsPrim n m.value g) (_ : IsPrim n m.value g'),
    minimalRootFrom (2*n) m g = minimalRootFrom (2*n) m g'

def minimalRoot_leastStatement : Prop :=
  ∀ {m : Modulus} (_ : m.WF) (_ : Nat.Prime m.value) {n g : Nat} (_ : 0 < n) (_ : IsPrim n m.value g),
    ∃ r, minimalRootFrom (2*n) m g = .ok r ∧ IsPrim n m.value r ∧ ∀ x, IsPrim n m.value x → r ≤ x

theorem prim_is_odd_powerStatement_false : ¬ prim_is_odd_powerStatement := by
  intro hS
  have h6 : IsPrim 3 7 6 := by unfold IsPrim; decide
  have h3 : IsPrim 3 7 3 := by unfold IsPrim; decide
  obtain ⟨j, hj, he⟩ := hS Nat.prime_seven (by norm_num : 0 < 3) h6 h3
  interval_cases j <;> omega

theorem isPrim_two {n g : Nat} (hg : IsPrim n 2 g) : g = 1 := by
  obtain ⟨h0, h1, _⟩ := hg; omega

/-- in the field Z/q (q prime) every primitive 2N-th root is an odd power (< 2N) of any other one (N = 2^k) -/
theorem prim_is_odd_power_pow2 {n q g g' : Nat} (hp : Nat.Prime q) (hn2 : ∃ k, n = 2^k)
    (hg : IsPrim n q g) (hg' : IsPrim n q g') : ∃ j, j < n ∧ g' = g^(2*j+1) % q := by
  obtain ⟨k, rfl⟩ := hn2
  rcases Nat.lt_or_ge 2 q with hq | hq
  · have : Fact q.Prime := ⟨hp⟩
    have : Fact (2 < q) := ⟨hq⟩
    have hq1 : 1 ≤ q := by omega
    have ha := (pow_mod_eq_pred_iff hq1 g (2^k)).mp hg.2.2
    have hb := (pow_mod_eq_pred_iff hq1 g' (2^k)).mp hg'.2.2
    have ha1 : ¬ (g : ZMod q) ^ 2 ^ k = 1 := by rw [ha]; exact ZMod.neg_one_ne_one
    have ha2 : (g : ZMod q) ^ 2 ^ (k+1) = 1 := by rw [pow_succ, pow_mul, ha]; norm_num
    have hb2 : (g' : ZMod q) ^ 2 ^ (k+1) = 1 := by rw [pow_succ, pow_mul, hb]; norm_num
    have hprim : IsPrimitiveRoot (g : ZMod q) (2^(k+1)) :=
      IsPrimitiveRoot.iff_orderOf.mpr (orderOf_eq_prime_pow ha1 ha2)
    have : NeZero (2^(k+1)) := ⟨by positivity⟩
    obtain ⟨i, hi, hgi⟩ := hprim.eq_pow_of_pow_eq_one hb2
    rcases Nat.even_or_odd' i with ⟨l, hl | hl⟩
    · exfalso
      apply ZMod.neg_one_ne_one (n := q)
      rw [← hb, ← hgi, hl, ← pow_mul, mul_comm 2 l, mul_assoc, ← pow_succ', pow_mul', ha2, one_pow]
    · refine ⟨l, ?_, ?_⟩
      · rw [pow_succ] at hi; omega
      · have : ((g' : Nat) : ZMod q) = ((g^(2*l+1) : Nat) : ZMod q) := by
          rw [Nat.cast_pow, ← hl, hgi]
        rw [ZMod.natCast_eq_natCast_iff', Nat.mod_eq_of_lt hg'.2.1] at this
        exact this
  · have : q = 2 := by have := hp.two_le; omega
    subst this
    rw [isPrim_two hg, isPrim_two hg']
    exact ⟨0, by positivity, by norm_num⟩

/-- odd powers of a primitive root are primitive, prime modulus (covers q = 2) -/
theorem isPrim_odd_pow_prime {n q g : Nat} (hp : Nat.Prime q) (hn : 0 < n) (hg : IsPrim n q g) (j : Nat) :
    IsPrim n q (g^(2*j+1) % q) := by
  rcases Nat.lt_or_ge 2 q with hq | hq
  · exact isPrim_odd_pow hq hn hg j
  · have : q = 2 := by have := hp.two_le; omega
    subst this
    have h1 := isPrim_two hg
    subst h1
    simpa using hg

/-- ROOT DETERMINISM: for prime q the result does not depend on which primitive root the search found -/
theorem root_deterministic_pow2 (h : m.WF) (hp : Nat.Prime m.value) {n g g' : Nat} (hn2 : ∃ k, n = 2^k)
    (hg : IsPrim n m.value g) (hg' : IsPrim n m.value g') :
    minimalRootFrom (2*n) m g = minimalRootFrom (2*n) m g' := by
  have hn : 0 < n := by obtain ⟨k, rfl⟩ := hn2; positivity
  obtain ⟨r, hr, ⟨j, hj, hrj⟩, hle⟩ := minimalRootFrom_spec h hn hg.2.1
  obtain ⟨r', hr', ⟨j', hj', hrj'⟩, hle'⟩ := minimalRootFrom_spec h hn hg'.2.1
  have hrP : IsPrim n m.value r := hrj ▸ isPrim_odd_pow_prime hp hn hg j
  have hrP' : IsPrim n m.value r' := hrj' ▸ isPrim_odd_pow_prime hp hn hg' j'
  obtain ⟨s, hs, hrs⟩ := prim_is_odd_power_pow2 hp hn2 hg' hrP
  obtain ⟨s', hs', hrs'⟩ := prim_is_odd_power_pow2 hp hn2 hg hrP'
  have h1 : r' ≤ r := by rw [hrs]; exact hle' s hs
  have h2 : r ≤ r' := by rw [hrs']; exact hle s' hs'
  rw [hr, hr', le_antisymm h2 h1]

/-- and it is the least primitive root: r ≤ every x with x^N ≡ -1 -/
theorem minimalRoot_least_pow2 (h : m.WF) (hp : Nat.Prime m.value) {n g : Nat} (hn2 : ∃ k, n = 2^k)
    (hg : IsPrim n m.value g) :
    ∃ r, minimalRootFrom (2*n) m g = .ok r ∧ IsPrim n m.value r ∧ ∀ x, IsPrim n m.value x → r ≤ x := by
  have hn : 0 < n := by obtain ⟨k, rfl⟩ := hn2; positivity
  obtain ⟨r, hr, ⟨j, hj, hrj⟩, hle⟩ := minimalRootFrom_spec h hn hg.2.1
  refine ⟨r, hr, hrj ▸ isPrim_odd_pow_prime hp hn hg j, ?_⟩
  intro x hx
  obtain ⟨s, hs, hxs⟩ := prim_is_odd_power_pow2 hp hn2 hg hx
  rw [hxs]; exact hle s hs

/-- the modulus 7 with its Barrett constants -/
def mod7 : Modulus := ⟨7, (2^128 / 7) % B64, (2^128 / 7) / B64, 2^128 % 7, 3⟩

theorem mod7_wf : mod7.WF :=
  ⟨by decide, by decide, by simp only [mod7, B64]; norm_num, by simp only [mod7, B64]; norm_num, rfl⟩

theorem odd_pow_six (j : Nat) : 6^(2*j+1) % 7 = 6 := by
  induction j with
  | zero => rfl
  | succ j ih =>
    have : 6^(2*(j+1)+1) = 6^(2*j+1) * 36 := by ring
    rw [this, Nat.mul_mod, ih]

theorem root_deterministicStatement_false : ¬ root_deterministicStatement := by
  intro hS
  have h6 : IsPrim 3 mod7.value 6 := by unfold IsPrim; decide
  have h3 : IsPrim 3 mod7.value 3 := by unfold IsPrim; decide
  have heq := hS mod7_wf Nat.prime_seven (by norm_num : 0 < 3) h6 h3
  obtain ⟨r, hr, ⟨j, _, hrj⟩, _⟩ := minimalRootFrom_spec mod7_wf (by norm_num : 0 < 3) h6.2.1
  obtain ⟨r', hr', _, hle'⟩ := minimalRootFrom_spec mod7_wf (by norm_num : 0 < 3) h3.2.1
  rw [hr, hr'] at heq
  injection heq with heq
  have h0 := hle' 0 (by norm_num)
  have : r = 6 := by rw [hrj]; exact odd_pow_six j
  have h3' : 3 ^ (2 * 0 + 1) % mod7.value = 3 := by decide
  omega

theorem minimalRoot_leastStatement_false : ¬ minimalRoot_leastStatement := by
  intro hS
  have h6 : IsPrim 3 mod7.value 6 := by unfold IsPrim; decide
  have h3 : IsPrim 3 mod7.value 3 := by unfold IsPrim; decide
  obtain ⟨r0, hr0, _, hmin⟩ := hS mod7_wf Nat.prime_seven (by norm_num : 0 < 3) h6
  obtain ⟨r, hr, ⟨j, _, hrj⟩, _⟩ := minimalRootFrom_spec mod7_wf (by norm_num : 0 < 3) h6.2.1
  rw [hr] at hr0
  injection hr0 with hr0
  have : r = 6 := by rw [hrj]; exact odd_pow_six j
  have := hmin 3 h3
  omega

/-- the determinism genuinely needs primality: for q = 85 = 5·17, N = 2, both 13 and 38 are primitive and minimal
    for their own orbit of odd powers (this is the defect repaired in NTTTables::new) -/
theorem composite_counterexample :
    IsPrim 2 85 13 ∧ IsPrim 2 85 38 ∧
    (∀ j, j < 2 → 13 ≤ 13^(2*j+1) % 85) ∧ (∀ j, j < 2 → 38 ≤ 38^(2*j+1) % 85) := by
  refine ⟨by unfold IsPrim; decide, by unfold IsPrim; decide, ?_, ?_⟩
  · intro j hj; interval_cases j <;> decide
  · intro j hj; interval_cases j <;> decide

end HC
