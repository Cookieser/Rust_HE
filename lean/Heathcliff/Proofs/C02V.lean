/- C02: the evaluator operations of the MODEL (`ctNegate`, `ctTranslate`, `ctTranslateBalanced`, `ctMultiplyDyadic`,
   `bgvMultiply`, `ctMultiplyPlainNtt`) are the ring operations on phases — for canonical operands of ALL sizes 2..16
   (no enumeration of sizes: the proofs follow the `mapM` / `foldlM` structure of the model).  The steps under negate, add / sub,
   balancing and the plain product hold for ANY number of canonical polynomials (`c05u_CtCanon`: the validity theorems of C06Y, where
   the empty ciphertext is valid, read them too); the `_spec` theorems add the bounds on the size.
   For each operation: `_spec` (success, shape, canonicity, every residue), `_phase` (the phase Σ_k c_k s^k in ANY commutative
   ring in which q_i = 0, any secret s, any reading `e` of the positions), refusals; for the product also the coefficient form
   (`ctMultiplyDyadic_coeff`, negacyclic products via the NTT theorems of C09) and for BGV the correction factors and decoding.
   The component-wise layer under them (map, zip, dyadic product of words, tensor step) is stated for a family of moduli and a degree
   (`c02v_Canon ms n`): the level's base and, in `bfvMultiply`, the auxiliary base Bsk are instances.  Read through `c02v_slot` (NTT form)
   or `c02v_mono` (coefficient form) the phase theorems are statements in the ring Z_q[X]/(X^N+1). -/
import Heathcliff.Model.Evaluator
import Heathcliff.Proofs.C01J
import Heathcliff.Proofs.C01O
import Heathcliff.Proofs.C02K
import Heathcliff.Proofs.NttRing
import Mathlib.Algebra.BigOperators.Intervals
import Mathlib.Algebra.BigOperators.Ring.Finset
import Mathlib.Data.Int.ModEq
import Mathlib.Tactic.Ring
import Mathlib.Tactic.Linarith
import Mathlib.Tactic.IntervalCases
namespace HC
open Finset

/-- residue `j` of RNS component `i` of polynomial `k` of a ciphertext -/
def Ct.c02v_res (ct : Ct) (k i j : Nat) : Nat := ((ct.polys.getD k #[]).getD i #[]).getD j 0

/-- every modulus of the level is a well-formed word modulus (2 ≤ q < 2^61 with its Barrett constants) -/
def c02v_QsWF (l : Level) : Prop := ∀ i, i < l.size → (l.q i).WF

theorem c02v_qsWF_of_levelWF {l : Level} (hl : l.WF) : c02v_QsWF l :=
  fun _ hi => (c01o_level_comp hl hi).2.2.2

/-- the correction factor is in the range `Ciphertext::is_valid_for` accepts -/
def c02v_cfOk (l : Level) (f : Nat) : Prop :=
  match l.scheme with
  | .bfv | .ckks => f = 1
  | .bgv => f ≠ 0 ∧ f < l.t.value

/-- the polynomial part of canonicity: 2 ≤ size ≤ 16 and every polynomial canonical at level `l` -/
structure c02v_PolysCanon (l : Level) (ct : Ct) : Prop where
  two_le : 2 ≤ ct.polys.size
  le16 : ct.polys.size ≤ 16
  canon : ∀ k, k < ct.polys.size → RnsCanon l (ct.polys.getD k #[])

/-- canonical ciphertext at level `l`: 2 ≤ size ≤ 16, every polynomial canonical, correction factor in range -/
structure CtCanon (l : Level) (ct : Ct) : Prop extends c02v_PolysCanon l ct where
  cf : c02v_cfOk l ct.cf

/-- value of an RNS component under an assignment `e` of ring elements to the `n` positions
    (`e j = X^j`: the polynomial in coefficient form; `e j = δ_j`: the vector of NTT slots; `e = δ_{j0}`: one slot) -/
def c02v_polyVal {S : Type} [CommRing S] (e : Nat → S) (n : Nat) (p : Array Nat) : S :=
  ∑ j ∈ range n, ((p.getD j 0 : Nat) : S) * e j

/-- phase Σ_k c_k s^k of RNS component `i` of a ciphertext, in a commutative ring `S`, for the secret `s` -/
def c02v_phase {S : Type} [CommRing S] (l : Level) (ct : Ct) (i : Nat) (e : Nat → S) (s : S) : S :=
  ctPhase ct.polys.size (fun k => c02v_polyVal e l.n ((ct.polys.getD k #[]).getD i #[])) s

theorem c02v_mod_cast {S : Type} [CommRing S] {q : Nat} (hS : ((q : Nat) : S) = 0) (x : Nat) :
    (((x % q : Nat)) : S) = ((x : Nat) : S) := by
  conv_rhs => rw [← Nat.div_add_mod x q]
  push_cast
  rw [hS]; ring

theorem c02v_range_getD {m k : Nat} (hk : k < m) : (List.range m).getD k 0 = k := by
  simp [List.getD, List.getElem?_range hk]

/-! ## the component-wise layer, for a family of moduli `ms` and a degree `n`
     (`ms = l.qs`: the level's base, where `RnsCanon l = c02v_Canon l.qs l.n` and `rnsZip l = compsZip l.qs` by unfolding;
      `ms` = base Bsk in `bfvMultiply`) -/

/-- the first `k` components have `n` entries, entry `(i, j)` below `B i` -/
def c02v_Bounded (k n : Nat) (B : Nat → Nat) (p : RnsPoly) : Prop :=
  ∀ i, i < k → (p.getD i #[]).size = n ∧ ∀ j, j < n → (p.getD i #[]).getD j 0 < B i

/-- canonical for the family `ms`: one component of `n` reduced entries per modulus -/
def c02v_Canon (ms : Array Modulus) (n : Nat) (p : RnsPoly) : Prop :=
  p.size = ms.size ∧ c02v_Bounded ms.size n (fun i => (ms.getD i default).value) p

theorem c02v_mapComps_spec {ms : Array Modulus} {n : Nat} {f : Nat → Modulus → R Nat} (g : Nat → Nat → Nat)
    (hf : ∀ i, i < ms.size → ∀ x, x < (ms.getD i default).value →
      f x (ms.getD i default) = .ok (g i x) ∧ g i x < (ms.getD i default).value)
    {a : RnsPoly} (ha : c02v_Canon ms n a) :
    ∃ r, compsMap ms a f = .ok r ∧ c02v_Canon ms n r ∧ ∀ i, i < ms.size → ∀ j, j < n →
      (r.getD i #[]).getD j 0 = g i ((a.getD i #[]).getD j 0) := by
  have hget : ∀ i, i < ms.size → (#[] ++ ((List.range ms.size).map (fun i => (a.getD i #[]).map (g i))).toArray).getD i #[]
      = (a.getD i #[]).map (g i) := fun i hi => by rw [Array.empty_append]; exact array_getD_range_map _ _ hi
  refine ⟨_, R.foldlM_push_ok (fun i => mapM' (a.getD i #[]) (fun x => f x (ms.getD i default))) _ (List.range ms.size)
    (fun i hi => mapM'_ok (g i) (fun x hx => (hf i (List.mem_range.mp hi) x ?_).1)) #[],
    ⟨by simp, fun i hi => ?_⟩, fun i hi j hj => ?_⟩
  · have hi := List.mem_range.mp hi
    exact mem_lt_of_getD (fun j hj => (ha.2 i hi).2 j (by rw [← (ha.2 i hi).1]; exact hj)) x hx
  · rw [hget i hi]
    refine ⟨by rw [Array.size_map]; exact (ha.2 i hi).1, fun j hj => ?_⟩
    rw [array_getD_map _ _ 0 0 (by rw [(ha.2 i hi).1]; exact hj)]
    exact (hf i hi _ ((ha.2 i hi).2 j hj)).2
  · rw [hget i hi, array_getD_map _ _ 0 0 (by rw [(ha.2 i hi).1]; exact hj)]

theorem c02v_rnsNeg_spec {l : Level} (hq : c02v_QsWF l) {a : RnsPoly} (ha : RnsCanon l a) :
    ∃ r, rnsNeg l a = .ok r ∧ RnsCanon l r ∧ ∀ i, i < l.size → ∀ j, j < l.n →
      (r.getD i #[]).getD j 0 = ((l.q i).value - (a.getD i #[]).getD j 0) % (l.q i).value :=
  c02v_mapComps_spec (ms := l.qs) (f := negateMod) (fun i x => ((l.q i).value - x) % (l.q i).value)
    (fun i hi _ hx => ⟨negateMod_exact (hq i hi) hx.le, Nat.mod_lt _ (Nat.zero_lt_of_lt hx)⟩) ha

theorem c02v_scaleComps_spec {ms : Array Modulus} {n : Nat} (hq : ∀ i, i < ms.size → (ms.getD i default).WF) {e : Nat} (he : e < 2^64)
    {a : RnsPoly} (ha : c02v_Canon ms n a) :
    ∃ r, compsMap ms a (fun x m => mulMod x e m) = .ok r ∧ c02v_Canon ms n r ∧ ∀ i, i < ms.size → ∀ j, j < n →
      (r.getD i #[]).getD j 0 = ((a.getD i #[]).getD j 0 * e) % (ms.getD i default).value :=
  c02v_mapComps_spec (fun i x => (x * e) % (ms.getD i default).value)
    (fun i hi _ hx => ⟨mulMod_exact (hq i hi) (Nat.lt_trans hx (Nat.lt_trans (hq i hi).lt (by norm_num))) he,
      Nat.mod_lt _ (Nat.zero_lt_of_lt hx)⟩) ha

theorem c02v_compsMap_spec {l : Level} (hq : c02v_QsWF l) {e : Nat} (he : e < 2^64) {a : RnsPoly} (ha : RnsCanon l a) :
    ∃ r, compsMap l.qs a (fun x m => mulMod x e m) = .ok r ∧ RnsCanon l r ∧ ∀ i, i < l.size → ∀ j, j < l.n →
      (r.getD i #[]).getD j 0 = ((a.getD i #[]).getD j 0 * e) % (l.q i).value :=
  c02v_scaleComps_spec hq he ha

theorem c02v_neg_cast {S : Type} [CommRing S] {q : Nat} (hS : ((q : Nat) : S) = 0) {x : Nat} (hx : x ≤ q) :
    ((((q - x) % q : Nat)) : S) = - ((x : Nat) : S) := by
  rw [c02v_mod_cast hS, Nat.cast_sub hx, hS, zero_sub]

theorem c02v_polyVal_neg {S : Type} [CommRing S] {q n : Nat} (hS : ((q : Nat) : S) = 0) (e : Nat → S) {p r : Array Nat}
    (hp : ∀ j, j < n → p.getD j 0 < q) (hr : ∀ j, j < n → r.getD j 0 = (q - p.getD j 0) % q) :
    c02v_polyVal e n r = - c02v_polyVal e n p := by
  unfold c02v_polyVal
  rw [← Finset.sum_neg_distrib]
  refine Finset.sum_congr rfl (fun j hj => ?_)
  have hj := Finset.mem_range.mp hj
  rw [hr j hj, c02v_neg_cast hS (hp j hj).le]
  ring

theorem c02v_polyVal_scale {S : Type} [CommRing S] {q n : Nat} (hS : ((q : Nat) : S) = 0) (e : Nat → S) (c : Nat) {p r : Array Nat}
    (hr : ∀ j, j < n → r.getD j 0 = (p.getD j 0 * c) % q) :
    c02v_polyVal e n r = c02v_polyVal e n p * ((c : Nat) : S) := by
  unfold c02v_polyVal
  rw [Finset.sum_mul]
  refine Finset.sum_congr rfl (fun j hj => ?_)
  rw [hr j (Finset.mem_range.mp hj), c02v_mod_cast hS]
  push_cast; ring

theorem c02v_mapPolys_spec {l : Level} {F : RnsPoly → R RnsPoly} {g : Nat → Nat → Nat → Nat}
    (hF : ∀ p, RnsCanon l p → ∃ r, F p = .ok r ∧ RnsCanon l r ∧ ∀ i, i < l.size → ∀ j, j < l.n →
      (r.getD i #[]).getD j 0 = g i j ((p.getD i #[]).getD j 0))
    {a : Ct} (ha : c05u_CtCanon l a) (ntt : Bool) (cf : Nat) :
    ∃ ys, a.polys.toList.mapM F = .ok ys ∧ c05u_CtCanon l ⟨ys.toArray, ntt, cf⟩ ∧ ys.toArray.size = a.polys.size ∧
      ∀ k, k < a.polys.size → ∀ i, i < l.size → ∀ j, j < l.n →
        (⟨ys.toArray, ntt, cf⟩ : Ct).c02v_res k i j = g i j (a.c02v_res k i j) := by
  obtain ⟨ys, hys, hlen, hk⟩ := R.mapM_spec F
    (fun (p r : RnsPoly) => RnsCanon l r ∧ ∀ i, i < l.size → ∀ j, j < l.n →
      (r.getD i #[]).getD j 0 = g i j ((p.getD i #[]).getD j 0)) a.polys.toList (fun p hp => by
      obtain ⟨k, hk, rfl⟩ := List.mem_iff_getElem.mp hp
      have hc := ha k (by simpa using hk)
      rw [show a.polys.getD k #[] = a.polys.toList[k] by simp [Array.getD, show k < a.polys.size by simpa using hk]] at hc
      exact hF _ hc)
  specialize hk #[] #[]
  rw [Array.length_toList] at hlen hk
  simp only [array_getD_toList, ← list_getD_toArray ys] at hk
  have hsz : ys.toArray.size = a.polys.size := hlen
  refine ⟨ys, hys, fun k hk' => (hk k (hsz ▸ hk')).1, hsz, ?_⟩
  unfold Ct.c02v_res
  exact fun k hk' => (hk k hk').2

theorem c02v_phase_mul {S : Type} [CommRing S] {l : Level} {a r : Ct} (hsz : r.polys.size = a.polys.size) (i : Nat)
    (e : Nat → S) (c s : S)
    (h : ∀ k, k < a.polys.size → c02v_polyVal e l.n ((r.polys.getD k #[]).getD i #[])
      = c02v_polyVal e l.n ((a.polys.getD k #[]).getD i #[]) * c) :
    c02v_phase l r i e s = c02v_phase l a i e s * c := by
  unfold c02v_phase
  rw [hsz, ← mul_plain_phase]
  exact Finset.sum_congr rfl (fun k hk => congrArg (· * s ^ k) (h k (Finset.mem_range.mp hk)))

/-- `ctNegate` on any number of canonical polynomials -/
theorem c02v_ctNegate_core {l : Level} (hq : c02v_QsWF l) {a : Ct} (ha : c05u_CtCanon l a) :
    ∃ r, ctNegate l a = .ok r ∧ c05u_CtCanon l r ∧ r.polys.size = a.polys.size ∧ r.ntt = a.ntt ∧ r.cf = a.cf ∧
      ∀ k, k < a.polys.size → ∀ i, i < l.size → ∀ j, j < l.n →
        r.c02v_res k i j = ((l.q i).value - a.c02v_res k i j) % (l.q i).value := by
  obtain ⟨ys, hys, hc, hsz, hres⟩ := c02v_mapPolys_spec (g := fun i _ x => ((l.q i).value - x) % (l.q i).value)
    (fun _ hp => c02v_rnsNeg_spec hq hp) ha a.ntt a.cf
  refine ⟨_, ?_, hc, hsz, rfl, rfl, hres⟩
  unfold ctNegate
  rw [hys]; rfl

/-- residues: `ctNegate` succeeds on a canonical ciphertext, keeps size / representation / correction factor, the result is
    canonical and every residue is `(q_i − x) mod q_i` -/
theorem ctNegate_spec {l : Level} (hq : c02v_QsWF l) {a : Ct} (ha : CtCanon l a) :
    ∃ r, ctNegate l a = .ok r ∧ CtCanon l r ∧ r.polys.size = a.polys.size ∧ r.ntt = a.ntt ∧ r.cf = a.cf ∧
      ∀ k, k < a.polys.size → ∀ i, i < l.size → ∀ j, j < l.n →
        r.c02v_res k i j = ((l.q i).value - a.c02v_res k i j) % (l.q i).value := by
  obtain ⟨r, hr, cr, sr, nr, fr, rr⟩ := c02v_ctNegate_core hq ha.canon
  exact ⟨r, hr, ⟨⟨sr ▸ ha.two_le, sr ▸ ha.le16, cr⟩, fr ▸ ha.cf⟩, sr, nr, fr, rr⟩

/-- phase: in every commutative ring in which `q_i = 0`, for every secret `s` (and every reading `e` of the positions),
    the phase Σ_k c_k s^k of component `i` is negated -/
theorem ctNegate_phase {S : Type} [CommRing S] {l : Level} (hq : c02v_QsWF l) {a r : Ct} (ha : CtCanon l a)
    (hr : ctNegate l a = .ok r) {i : Nat} (hi : i < l.size) (hS : (((l.q i).value : Nat) : S) = 0) (e : Nat → S) (s : S) :
    c02v_phase l r i e s = - c02v_phase l a i e s := by
  obtain ⟨r', hr', _, hsz, _, _, hres⟩ := ctNegate_spec hq ha
  obtain rfl := Except.ok.inj (hr.symm.trans hr')
  unfold Ct.c02v_res at hres
  rw [c02v_phase_mul hsz i e (-1) s (fun k hk => by
    rw [c02v_polyVal_neg hS e (fun j hj => ((ha.canon k hk).2 i hi).2 j hj) (fun j hj => hres k hk i hi j hj), mul_neg_one]),
    mul_neg_one]

theorem c02v_zipComps_spec {ms : Array Modulus} {n : Nat} {f : Nat → Nat → Modulus → R Nat} (g : Nat → Nat → Nat → Nat)
    {A B : Nat → Nat}
    (hf : ∀ i, i < ms.size → ∀ x y, x < A i → y < B i →
      f x y (ms.getD i default) = .ok (g i x y) ∧ g i x y < (ms.getD i default).value)
    {a b : RnsPoly} (ha : c02v_Bounded ms.size n A a) (hb : c02v_Bounded ms.size n B b) :
    ∃ r, compsZip ms a b f = .ok r ∧ c02v_Canon ms n r ∧ ∀ i, i < ms.size → ∀ j, j < n →
      (r.getD i #[]).getD j 0 = g i ((a.getD i #[]).getD j 0) ((b.getD i #[]).getD j 0) :=
  ⟨_, c01o_zipFold_ok g fun i hi j hj => (hf i hi _ _ ((ha i hi).2 j ((ha i hi).1 ▸ hj)) ((hb i hi).2 j ((ha i hi).1 ▸ hj))).1,
    c01o_zipVal_canon b (fun i hi => (ha i hi).1) fun i hi j hj => (hf i hi _ _ ((ha i hi).2 j hj) ((hb i hi).2 j hj)).2,
    fun i hi j hj => c01o_zipVal_coeff _ _ _ _ hi (by rw [(ha i hi).1]; exact hj)⟩

theorem c02v_add_spec {ms : Array Modulus} {n : Nat} (hq : ∀ i, i < ms.size → (ms.getD i default).WF) {a b : RnsPoly}
    (ha : c02v_Canon ms n a) (hb : c02v_Canon ms n b) :
    ∃ r, compsZip ms a b addMod = .ok r ∧ c02v_Canon ms n r ∧ ∀ i, i < ms.size → ∀ j, j < n →
      (r.getD i #[]).getD j 0 = ((a.getD i #[]).getD j 0 + (b.getD i #[]).getD j 0) % (ms.getD i default).value :=
  c02v_zipComps_spec (fun i x y => (x + y) % (ms.getD i default).value)
    (fun i hi _ _ hx hy => ⟨addMod_exact (hq i hi) hx hy, Nat.mod_lt _ (Nat.zero_lt_of_lt hx)⟩) ha.2 hb.2

theorem c02v_rnsAdd_spec {l : Level} (hq : c02v_QsWF l) {a b : RnsPoly} (ha : RnsCanon l a) (hb : RnsCanon l b) :
    ∃ r, rnsAdd l a b = .ok r ∧ RnsCanon l r ∧ ∀ i, i < l.size → ∀ j, j < l.n →
      (r.getD i #[]).getD j 0 = ((a.getD i #[]).getD j 0 + (b.getD i #[]).getD j 0) % (l.q i).value :=
  c02v_add_spec (ms := l.qs) hq ha hb

theorem c02v_rnsSub_spec {l : Level} (hq : c02v_QsWF l) {a b : RnsPoly} (ha : RnsCanon l a) (hb : RnsCanon l b) :
    ∃ r, rnsSub l a b = .ok r ∧ RnsCanon l r ∧ ∀ i, i < l.size → ∀ j, j < l.n →
      (r.getD i #[]).getD j 0 = ((a.getD i #[]).getD j 0 + (l.q i).value - (b.getD i #[]).getD j 0) % (l.q i).value :=
  c02v_zipComps_spec (ms := l.qs) (f := subMod) (fun i x y => (x + (l.q i).value - y) % (l.q i).value)
    (fun i hi _ _ hx hy => ⟨subMod_exact (hq i hi) hx hy, Nat.mod_lt _ (Nat.zero_lt_of_lt hx)⟩) ha.2 hb.2

/-- the dyadic product needs word-sized operands only (the lazy NTT outputs of `bfvMultiply`) -/
theorem c02v_dyadic_word {ms : Array Modulus} {n : Nat} (hq : ∀ i, i < ms.size → (ms.getD i default).WF) {a b : RnsPoly}
    (ha : c02v_Bounded ms.size n (fun _ => 2^64) a) (hb : c02v_Bounded ms.size n (fun _ => 2^64) b) :
    ∃ r, compsZip ms a b mulMod = .ok r ∧ c02v_Canon ms n r ∧ ∀ i, i < ms.size → ∀ j, j < n →
      (r.getD i #[]).getD j 0 = ((a.getD i #[]).getD j 0 * (b.getD i #[]).getD j 0) % (ms.getD i default).value :=
  c02v_zipComps_spec (fun i x y => (x * y) % (ms.getD i default).value)
    (fun i hi _ _ hx hy => ⟨mulMod_exact (hq i hi) hx hy, Nat.mod_lt _ (Nat.lt_of_lt_of_le Nat.zero_lt_two (hq i hi).two_le)⟩)
    ha hb

theorem c02v_canon_word {ms : Array Modulus} {n : Nat} (hq : ∀ i, i < ms.size → (ms.getD i default).WF) {a : RnsPoly}
    (ha : c02v_Canon ms n a) : c02v_Bounded ms.size n (fun _ => 2^64) a :=
  fun i hi => ⟨(ha.2 i hi).1, fun j hj => (hq i hi).lt_word ((ha.2 i hi).2 j hj)⟩

theorem c02v_rnsDyadic_spec {l : Level} (hq : c02v_QsWF l) {a b : RnsPoly} (ha : RnsCanon l a) (hb : RnsCanon l b) :
    ∃ r, rnsDyadic l a b = .ok r ∧ RnsCanon l r ∧ ∀ i, i < l.size → ∀ j, j < l.n →
      (r.getD i #[]).getD j 0 = ((a.getD i #[]).getD j 0 * (b.getD i #[]).getD j 0) % (l.q i).value :=
  c02v_dyadic_word (ms := l.qs) hq (c02v_canon_word hq ha) (c02v_canon_word hq hb)

/-- residue `(i, j)` of polynomial `k` of `a ± b`: both operands where both have a polynomial `k`, else the one that has -/
def c02v_trRes (l : Level) (a b : Ct) (sub : Bool) (k i j : Nat) : Nat :=
  if k < a.polys.size ∧ k < b.polys.size then
    (if sub then (a.c02v_res k i j + (l.q i).value - b.c02v_res k i j) % (l.q i).value
     else (a.c02v_res k i j + b.c02v_res k i j) % (l.q i).value)
  else if k < a.polys.size then a.c02v_res k i j
  else (if sub then ((l.q i).value - b.c02v_res k i j) % (l.q i).value else b.c02v_res k i j)

/-- the term of `translateShape` at position k -/
def c02v_trTerm (n1 n2 k : Nat) : TrTerm :=
  if k < min n1 n2 then .both k else if n1 > n2 then .left k else .right k

/-- the step of `ctTranslate` at position `k` succeeds with a canonical polynomial with the residues `c02v_trRes` -/
theorem c02v_tr_step {l : Level} (hq : c02v_QsWF l) {a b : Ct} (ha : c05u_CtCanon l a) (hb : c05u_CtCanon l b) (sub : Bool)
    {k : Nat} (hk : k < max a.polys.size b.polys.size) :
    ∃ y, (match c02v_trTerm a.polys.size b.polys.size k with
        | .both i => if sub then rnsSub l (a.polys.getD i #[]) (b.polys.getD i #[]) else rnsAdd l (a.polys.getD i #[]) (b.polys.getD i #[])
        | .left i => pure (a.polys.getD i #[])
        | .right i => if sub then rnsNeg l (b.polys.getD i #[]) else pure (b.polys.getD i #[])) = Except.ok y ∧
      RnsCanon l y ∧ ∀ i, i < l.size → ∀ j, j < l.n → (y.getD i #[]).getD j 0 = c02v_trRes l a b sub k i j := by
  unfold c02v_trTerm c02v_trRes Ct.c02v_res
  by_cases h1 : k < a.polys.size <;> by_cases h2 : k < b.polys.size
  · simp only [show k < min a.polys.size b.polys.size by omega, h1, h2, and_self, if_true]
    cases sub <;> simp only [Bool.false_eq_true, ↓reduceIte]
    · exact c02v_rnsAdd_spec hq (ha k h1) (hb k h2)
    · exact c02v_rnsSub_spec hq (ha k h1) (hb k h2)
  · simp only [show ¬ k < min a.polys.size b.polys.size by omega, show a.polys.size > b.polys.size by omega, h1, h2,
      and_false, if_true, if_false]
    exact ⟨_, rfl, ha k h1, fun _ _ _ _ => rfl⟩
  · simp only [show ¬ k < min a.polys.size b.polys.size by omega, show ¬ a.polys.size > b.polys.size by omega, h1, h2,
      false_and, if_false]
    cases sub <;> simp only [Bool.false_eq_true, ↓reduceIte]
    · exact ⟨_, rfl, hb k h2, fun _ _ _ _ => rfl⟩
    · exact c02v_rnsNeg_spec hq (hb k h2)
  · omega

theorem c02v_polyVal_congr {S : Type} [CommRing S] {n : Nat} (e : Nat → S) {p r : Array Nat}
    (hr : ∀ j, j < n → r.getD j 0 = p.getD j 0) : c02v_polyVal e n r = c02v_polyVal e n p := by
  unfold c02v_polyVal
  exact Finset.sum_congr rfl (fun j hj => by rw [hr j (Finset.mem_range.mp hj)])

theorem c02v_polyVal_add {S : Type} [CommRing S] {q n : Nat} (hS : ((q : Nat) : S) = 0) (e : Nat → S) {p p' r : Array Nat}
    (hr : ∀ j, j < n → r.getD j 0 = (p.getD j 0 + p'.getD j 0) % q) :
    c02v_polyVal e n r = c02v_polyVal e n p + c02v_polyVal e n p' := by
  unfold c02v_polyVal
  rw [← Finset.sum_add_distrib]
  refine Finset.sum_congr rfl (fun j hj => ?_)
  rw [hr j (Finset.mem_range.mp hj), c02v_mod_cast hS]
  push_cast; ring

theorem c02v_polyVal_sub {S : Type} [CommRing S] {q n : Nat} (hS : ((q : Nat) : S) = 0) (e : Nat → S) {p p' r : Array Nat}
    (hp' : ∀ j, j < n → p'.getD j 0 < q)
    (hr : ∀ j, j < n → r.getD j 0 = (p.getD j 0 + q - p'.getD j 0) % q) :
    c02v_polyVal e n r = c02v_polyVal e n p - c02v_polyVal e n p' := by
  unfold c02v_polyVal
  rw [← Finset.sum_sub_distrib]
  refine Finset.sum_congr rfl (fun j hj => ?_)
  have hj := Finset.mem_range.mp hj
  rw [hr j hj, c02v_mod_cast hS, Nat.cast_sub (by have := hp' j hj; omega)]
  push_cast; rw [hS]; ring

/-- `ctTranslate` on any two numbers of canonical polynomials -/
theorem c02v_ctTranslate_core {l : Level} (hq : c02v_QsWF l) {a b : Ct} (ha : c05u_CtCanon l a) (hb : c05u_CtCanon l b) (sub : Bool)
    (hntt : a.ntt = b.ntt) (hcf : a.cf = b.cf) :
    ∃ r, ctTranslate l a b sub = .ok r ∧ c05u_CtCanon l r ∧ r.polys.size = max a.polys.size b.polys.size ∧
      r.ntt = a.ntt ∧ r.cf = a.cf ∧
      ∀ k, k < max a.polys.size b.polys.size → ∀ i, i < l.size → ∀ j, j < l.n → r.c02v_res k i j = c02v_trRes l a b sub k i j := by
  obtain ⟨ys, hys, hlen, hk⟩ := R.mapM_spec _ _ (List.range (max a.polys.size b.polys.size))
    (fun k hk => c02v_tr_step hq ha hb sub (List.mem_range.mp hk))
  specialize hk 0 #[]
  rw [List.length_range] at hlen hk
  have hsz : ys.toArray.size = max a.polys.size b.polys.size := hlen
  simp only [← list_getD_toArray ys] at hk
  refine ⟨⟨ys.toArray, a.ntt, a.cf⟩, ?_, fun k hk' => (hk k (hsz ▸ hk')).1, hsz, rfl, rfl, fun k hk' => ?_⟩
  · unfold ctTranslate translateShape
    rw [if_neg (not_not.mpr hntt), if_neg (not_not.mpr hcf), List.mapM_map]
    erw [hys]; rfl
  · have := (hk k hk').2
    rw [c02v_range_getD hk'] at this
    unfold Ct.c02v_res
    exact this

/-- refusals: operands in different representations are refused; different correction factors are not handled by
    `ctTranslate` itself (error; they go through `ctTranslateBalanced`) -/
theorem ctTranslate_refuse_ntt (l : Level) (a b : Ct) (sub : Bool) (h : a.ntt ≠ b.ntt) :
    ctTranslate l a b sub = .error .refused := by
  unfold ctTranslate
  rw [if_pos h]

theorem ctTranslate_error_cf (l : Level) (a b : Ct) (sub : Bool) (h : a.ntt = b.ntt) (hcf : a.cf ≠ b.cf) :
    ctTranslate l a b sub = .error .other := by
  unfold ctTranslate
  rw [if_neg (not_not.mpr h), if_pos hcf]

/-- the phase of `ctTranslate` on any two numbers of canonical polynomials -/
theorem c02v_ctTranslate_phase_core {S : Type} [CommRing S] {l : Level} (hq : c02v_QsWF l) {a b r : Ct} (ha : c05u_CtCanon l a)
    (hb : c05u_CtCanon l b) {sub : Bool} (hr : ctTranslate l a b sub = .ok r)
    {i : Nat} (hi : i < l.size) (hS : (((l.q i).value : Nat) : S) = 0) (e : Nat → S) (s : S) :
    c02v_phase l r i e s = if sub then c02v_phase l a i e s - c02v_phase l b i e s
      else c02v_phase l a i e s + c02v_phase l b i e s := by
  have hntt : a.ntt = b.ntt := by
    by_contra h; rw [ctTranslate_refuse_ntt l a b sub h] at hr; cases hr
  have hcf : a.cf = b.cf := by
    by_contra h; rw [ctTranslate_error_cf l a b sub hntt h] at hr; cases hr
  obtain ⟨r', hr', _, hsz, _, _, hres⟩ := c02v_ctTranslate_core hq ha hb sub hntt hcf
  obtain rfl := Except.ok.inj (hr.symm.trans hr')
  unfold c02v_phase
  rw [hsz, ← translate_phase]
  refine Finset.sum_congr rfl (fun k hk => congrArg (· * s ^ k) ?_)
  have hk := Finset.mem_range.mp hk
  beta_reduce
  rw [c02k_tr_getD _ _ _ _ _ hk]
  have hres' := fun j hj => hres k hk i hi j hj
  unfold c02v_trRes Ct.c02v_res at hres'
  have hbk := fun h2 j hj => ((hb k h2).2 i hi).2 j hj
  by_cases h1 : k < a.polys.size <;> by_cases h2 : k < b.polys.size <;> cases sub <;>
    simp only [h1, h2, and_self, and_false, false_and, Bool.false_eq_true, ↓reduceIte] at hres' ⊢
  · exact c02v_polyVal_add hS e hres'
  · rw [c02v_polyVal_sub hS e (hbk h2) hres', sub_eq_add_neg]
  · rw [c02v_polyVal_congr e hres', add_zero]
  · rw [c02v_polyVal_congr e hres', neg_zero, add_zero]
  · rw [c02v_polyVal_congr e hres', zero_add]
  · rw [c02v_polyVal_neg hS e (hbk h2) hres', zero_add]
  · omega
  · omega

/-- residues: `ctTranslate` (add / sub of canonical ciphertexts of ANY two sizes, same representation and correction factor)
    succeeds; the result has size max(n1, n2), is canonical, and polynomial k is `a_k ± b_k` where both exist, `a_k` beyond the
    size of b, and `b_k` resp. `−b_k` (subtraction) beyond the size of a -/
theorem ctTranslate_spec {l : Level} (hq : c02v_QsWF l) {a b : Ct} (ha : CtCanon l a) (hb : CtCanon l b) (sub : Bool)
    (hntt : a.ntt = b.ntt) (hcf : a.cf = b.cf) :
    ∃ r, ctTranslate l a b sub = .ok r ∧ CtCanon l r ∧ r.polys.size = max a.polys.size b.polys.size ∧
      r.ntt = a.ntt ∧ r.cf = a.cf ∧
      ∀ k, k < max a.polys.size b.polys.size → ∀ i, i < l.size → ∀ j, j < l.n →
        r.c02v_res k i j =
          if k < a.polys.size ∧ k < b.polys.size then
            (if sub then (a.c02v_res k i j + (l.q i).value - b.c02v_res k i j) % (l.q i).value
             else (a.c02v_res k i j + b.c02v_res k i j) % (l.q i).value)
          else if k < a.polys.size then a.c02v_res k i j
          else (if sub then ((l.q i).value - b.c02v_res k i j) % (l.q i).value else b.c02v_res k i j) := by
  obtain ⟨r, h, hc, hsz, hn, hf, hres⟩ := c02v_ctTranslate_core hq ha.canon hb.canon sub hntt hcf
  exact ⟨r, h, ⟨⟨hsz ▸ le_max_of_le_left ha.two_le, hsz ▸ max_le ha.le16 hb.le16, hc⟩, hf ▸ ha.cf⟩, hsz, hn, hf, hres⟩

/-- phase: in every commutative ring in which `q_i = 0`, the phase of the result of `ctTranslate` is the sum resp. difference
    of the phases — for all pairs of sizes (this is `translate_phase` of C02K instantiated with the model's output) -/
theorem ctTranslate_phase {S : Type} [CommRing S] {l : Level} (hq : c02v_QsWF l) {a b r : Ct} (ha : CtCanon l a)
    (hb : CtCanon l b) {sub : Bool} (hr : ctTranslate l a b sub = .ok r)
    {i : Nat} (hi : i < l.size) (hS : (((l.q i).value : Nat) : S) = 0) (e : Nat → S) (s : S) :
    c02v_phase l r i e s = if sub then c02v_phase l a i e s - c02v_phase l b i e s
      else c02v_phase l a i e s + c02v_phase l b i e s :=
  c02v_ctTranslate_phase_core hq ha.canon hb.canon hr hi hS e s

theorem c02v_zero_spec {ms : Array Modulus} {n : Nat} (hq : ∀ i, i < ms.size → (ms.getD i default).WF) :
    c02v_Canon ms n (Array.replicate ms.size (Array.replicate n 0)) ∧
      ∀ i, i < ms.size → ∀ j, j < n → ((Array.replicate ms.size (Array.replicate n 0)).getD i #[]).getD j 0 = 0 := by
  have hget : ∀ i, i < ms.size → (Array.replicate ms.size (Array.replicate n 0)).getD i #[] = Array.replicate n 0 := by
    intro i hi; simp [Array.getD, hi]
  have hget2 : ∀ j, j < n → (Array.replicate n 0).getD j 0 = 0 := by
    intro j hj; simp [Array.getD, hj]
  refine ⟨⟨by simp, fun i hi => ⟨by rw [hget i hi]; simp, fun j hj => ?_⟩⟩, fun i hi j hj => ?_⟩
  · rw [hget i hi, hget2 j hj]; exact Nat.lt_of_lt_of_le Nat.zero_lt_two (hq i hi).two_le
  · rw [hget i hi, hget2 j hj]

/-- the tensor step of the product routines in the family `ms` (step (4) of `bfvMultiply` in base q and in base Bsk; the whole of
    `ctMultiplyDyadic` for `ms = l.qs`): output polynomial `k` accumulates the dyadic products of the pairs `mulPairs n1 n2 k` -/
def c02v_tensor (n1 n2 : Nat) (ms : Array Modulus) (X Y : Nat → RnsPoly) (zero : RnsPoly) : R (List RnsPoly) :=
  (List.range (n1 + n2 - 1)).mapM fun k =>
    (mulPairs n1 n2 k).foldlM (fun acc p => do
      let pr ← compsZip ms (X p.1) (Y p.2) mulMod
      compsZip ms acc pr addMod) zero

/-- the accumulation loop of one output polynomial: Σ over the visited pairs of dyadic products, reduced -/
theorem c02v_mulFold {ms : Array Modulus} {n : Nat} (hq : ∀ i, i < ms.size → (ms.getD i default).WF) (X Y : Nat → RnsPoly) :
    ∀ (ps : List (Nat × Nat)) (acc : RnsPoly), c02v_Canon ms n acc →
    (∀ p ∈ ps, c02v_Bounded ms.size n (fun _ => 2^64) (X p.1) ∧ c02v_Bounded ms.size n (fun _ => 2^64) (Y p.2)) →
    ∃ r, ps.foldlM (fun acc p => do
        let pr ← compsZip ms (X p.1) (Y p.2) mulMod
        compsZip ms acc pr addMod) acc = .ok r ∧ c02v_Canon ms n r ∧ ∀ i, i < ms.size → ∀ j, j < n →
      (r.getD i #[]).getD j 0
        = ((acc.getD i #[]).getD j 0 + (ps.map (fun p => ((X p.1).getD i #[]).getD j 0 * ((Y p.2).getD i #[]).getD j 0)).sum)
            % (ms.getD i default).value
  | [], acc, hacc, _ => ⟨acc, rfl, hacc, fun i hi j hj => by
      simp only [List.map_nil, List.sum_nil, Nat.add_zero]
      exact (Nat.mod_eq_of_lt ((hacc.2 i hi).2 j hj)).symm⟩
  | p :: ps, acc, hacc, hmem => by
    obtain ⟨pr, hpr, cpr, vpr⟩ := c02v_dyadic_word hq (hmem p (by simp)).1 (hmem p (by simp)).2
    obtain ⟨acc', hacc', cacc', vacc'⟩ := c02v_add_spec hq hacc cpr
    obtain ⟨r, hr, cr, vr⟩ := c02v_mulFold hq X Y ps acc' cacc' (fun p' hp' => hmem p' (by simp [hp']))
    refine ⟨r, ?_, cr, fun i hi j hj => ?_⟩
    · rw [List.foldlM_cons, hpr]
      simp only [R.ok_bind']
      rw [hacc']
      exact hr
    · rw [vr i hi j hj, vacc' i hi j hj, vpr i hi j hj]
      simp only [List.map_cons, List.sum_cons]
      rw [Nat.mod_add_mod, Nat.add_right_comm, Nat.add_mod_mod, Nat.add_right_comm, Nat.add_assoc]

theorem c02v_tensor_spec {ms : Array Modulus} {n : Nat} (hq : ∀ i, i < ms.size → (ms.getD i default).WF) {n1 n2 : Nat}
    (h1 : 1 ≤ n1) (h2 : 1 ≤ n2) (X Y : Nat → RnsPoly)
    (hX : ∀ k, k < n1 → c02v_Bounded ms.size n (fun _ => 2^64) (X k))
    (hY : ∀ k, k < n2 → c02v_Bounded ms.size n (fun _ => 2^64) (Y k)) :
    ∃ out, c02v_tensor n1 n2 ms X Y (Array.replicate ms.size (Array.replicate n 0)) = .ok out ∧
      out.length = n1 + n2 - 1 ∧ ∀ k, k < n1 + n2 - 1 → c02v_Canon ms n (out.getD k #[]) ∧
        ∀ i, i < ms.size → ∀ j, j < n → ((out.getD k #[]).getD i #[]).getD j 0 =
          ((mulPairs n1 n2 k).map (fun p => ((X p.1).getD i #[]).getD j 0 * ((Y p.2).getD i #[]).getD j 0)).sum
            % (ms.getD i default).value := by
  obtain ⟨z1, z2⟩ := c02v_zero_spec (n := n) hq
  obtain ⟨out, hout, hlen, hk⟩ := R.mapM_spec _
    (fun (k : Nat) (y : RnsPoly) => c02v_Canon ms n y ∧ ∀ i, i < ms.size → ∀ j, j < n → (y.getD i #[]).getD j 0 =
        ((mulPairs n1 n2 k).map (fun p => ((X p.1).getD i #[]).getD j 0 * ((Y p.2).getD i #[]).getD j 0)).sum
          % (ms.getD i default).value)
    (List.range (n1 + n2 - 1)) (fun k hk => by
      obtain ⟨_, hmem⟩ := mulPairs_spec h1 h2 (List.mem_range.mp hk)
      obtain ⟨r, hr, cr, vr⟩ := c02v_mulFold hq X Y (mulPairs n1 n2 k) _ z1
        (fun p hp => by have := (hmem p.1 p.2).mp hp; exact ⟨hX _ this.1, hY _ this.2.1⟩)
      exact ⟨r, hr, cr, fun i hi j hj => by rw [vr i hi j hj, z2 i hi j hj, Nat.zero_add]⟩)
  specialize hk 0 #[]
  rw [List.length_range] at hlen hk
  exact ⟨out, hout, hlen, fun k hk' => by have := hk k hk'; rwa [c02v_range_getD hk'] at this⟩

theorem c02v_polyVal_mul {S : Type} [CommRing S] (e : Nat → S) {n : Nat}
    (he : ∀ j j', j < n → j' < n → e j * e j' = if j = j' then e j else 0) (x y : Array Nat) :
    ∑ j ∈ range n, (((x.getD j 0 : Nat) : S) * ((y.getD j 0 : Nat) : S)) * e j = c02v_polyVal e n x * c02v_polyVal e n y := by
  unfold c02v_polyVal
  rw [Finset.sum_mul_sum]
  refine Finset.sum_congr rfl (fun j hj => ?_)
  have hj' := Finset.mem_range.mp hj
  have : ∀ j' ∈ range n, ((x.getD j 0 : Nat) : S) * e j * (((y.getD j' 0 : Nat) : S) * e j')
      = if j = j' then ((x.getD j 0 : Nat) : S) * ((y.getD j' 0 : Nat) : S) * e j else 0 := by
    intro j' hj2
    have := he j j' hj' (Finset.mem_range.mp hj2)
    split
    · rename_i h; rw [if_pos h] at this
      calc _ = ((x.getD j 0 : Nat) : S) * ((y.getD j' 0 : Nat) : S) * (e j * e j') := by ring
        _ = _ := by rw [this]
    · rename_i h; rw [if_neg h] at this
      calc _ = ((x.getD j 0 : Nat) : S) * ((y.getD j' 0 : Nat) : S) * (e j * e j') := by ring
        _ = _ := by rw [this]; ring
  rw [Finset.sum_congr rfl this, Finset.sum_ite_eq, if_pos hj]

theorem c02v_sum_list {S : Type} [CommRing S] (n : Nat) (F : Nat × Nat → Nat → S) :
    ∀ ps : List (Nat × Nat), ∑ j ∈ range n, (ps.map (fun p => F p j)).sum = (ps.map (fun p => ∑ j ∈ range n, F p j)).sum
  | [] => by simp
  | p :: ps => by
    simp only [List.map_cons, List.sum_cons, Finset.sum_add_distrib, c02v_sum_list n F ps]

/-- an RNS component whose residues are the reduced sums of position-wise products has the value Σ (value · value) -/
theorem c02v_polyVal_mulsum {S : Type} [CommRing S] {q n : Nat} (hS : ((q : Nat) : S) = 0) (e : Nat → S)
    (he : ∀ j j', j < n → j' < n → e j * e j' = if j = j' then e j else 0)
    (X Y : Nat → Array Nat) (ps : List (Nat × Nat)) {r : Array Nat}
    (hr : ∀ j, j < n → r.getD j 0 = (ps.map (fun p => (X p.1).getD j 0 * (Y p.2).getD j 0)).sum % q) :
    c02v_polyVal e n r = (ps.map (fun p => c02v_polyVal e n (X p.1) * c02v_polyVal e n (Y p.2))).sum := by
  have h1 : c02v_polyVal e n r = ∑ j ∈ range n,
      (ps.map (fun p => (((X p.1).getD j 0 : Nat) : S) * (((Y p.2).getD j 0 : Nat) : S) * e j)).sum := by
    unfold c02v_polyVal
    refine Finset.sum_congr rfl (fun j hj => ?_)
    rw [hr j (Finset.mem_range.mp hj), c02v_mod_cast hS, Nat.cast_list_sum, List.map_map,
      ← List.sum_map_mul_right]
    congr 1
    apply List.map_congr_left
    intro p _
    simp only [Function.comp, Nat.cast_mul]
  rw [h1, c02v_sum_list n (fun p j => (((X p.1).getD j 0 : Nat) : S) * (((Y p.2).getD j 0 : Nat) : S) * e j) ps]
  congr 1
  apply List.map_congr_left
  intro p _
  exact c02v_polyVal_mul e he _ _

theorem c02v_ctMultiplyDyadic_eq (l : Level) (a b : Ct) :
    ctMultiplyDyadic l a b =
      (if !a.ntt ∨ !b.ntt then .error .refused else
       if a.polys.size < 1 ∨ b.polys.size < 1 then .error .refused else
       if ctResizeRefuses (a.polys.size + b.polys.size - 1) then .error .refused else do
        let ps ← c02v_tensor a.polys.size b.polys.size l.qs (fun k => a.polys.getD k #[]) (fun k => b.polys.getD k #[])
          (Array.replicate l.qs.size (Array.replicate l.n 0))
        pure { a with polys := ps.toArray }) := rfl

/-- refusal: the dyadic product needs both operands in NTT form -/
theorem ctMultiplyDyadic_refuse (l : Level) (a b : Ct) (h : a.ntt = false ∨ b.ntt = false) :
    ctMultiplyDyadic l a b = .error .refused := by
  unfold ctMultiplyDyadic
  rw [if_pos (by rcases h with h | h <;> simp [h])]

/-- the size check of `Ciphertext::resize_internal` with the regenerated limits: a size is accepted iff it is 0 or in [2, 16]
    (the limits are those of `Gen/Constants.lean`, regenerated from the Rust source) -/
theorem ctResizeRefuses_eq_false_iff (s : Nat) : ctResizeRefuses s = false ↔ (s = 0 ∨ (2 ≤ s ∧ s ≤ 16)) := by
  unfold ctResizeRefuses
  by_cases h1 : s < 2 <;> by_cases h2 : s = 0 <;> by_cases h3 : s > 16 <;>
    simp [Gen.HE_CIPHERTEXT_SIZE_MIN, Gen.HE_CIPHERTEXT_SIZE_MAX, h1, h2, h3] <;> omega

theorem ctResizeRefuses_eq_true_iff (s : Nat) : ctResizeRefuses s = true ↔ (s = 1 ∨ 16 < s) := by
  rw [← Bool.not_eq_false, ctResizeRefuses_eq_false_iff]
  omega

/-- refusal (size): a destination size n1 + n2 − 1 that `resize` refuses (1, or more than 16) is refused by the dyadic product,
    whatever the operands are -/
theorem ctMultiplyDyadic_refuse_size (l : Level) (a b : Ct) (h : ctResizeRefuses (a.polys.size + b.polys.size - 1) = true) :
    ctMultiplyDyadic l a b = .error .refused := by
  rw [c02v_ctMultiplyDyadic_eq, if_pos h, ite_self, ite_self]

/-- a successful dyadic product had an admissible destination size -/
theorem ctMultiplyDyadic_ok_size {l : Level} {a b r : Ct} (hr : ctMultiplyDyadic l a b = .ok r) :
    ctResizeRefuses (a.polys.size + b.polys.size - 1) = false := by
  cases h : ctResizeRefuses (a.polys.size + b.polys.size - 1) with
  | false => rfl
  | true => rw [ctMultiplyDyadic_refuse_size l a b h] at hr; cases hr

theorem ctMultiplyDyadic_ok_le16 {l : Level} {a b r : Ct} (hr : ctMultiplyDyadic l a b = .ok r) :
    a.polys.size + b.polys.size - 1 ≤ 16 := by
  have := (ctResizeRefuses_eq_false_iff _).mp (ctMultiplyDyadic_ok_size hr)
  omega

/-- residues: the dyadic product of canonical NTT-form ciphertexts of ANY sizes n1, n2 with n1 + n2 − 1 ≤ 16 (a larger product is
    refused as in the code: `ctMultiplyDyadic_refuse_size`) succeeds, has n1 + n2 − 1 canonical polynomials, and residue (i, j) of polynomial k is Σ_{x + y = k} a_x[i][j] · b_y[i][j] mod q_i (the pairs are those of
    `mulPairs`, characterised by `mulPairs_spec`) -/
theorem ctMultiplyDyadic_spec {l : Level} (hq : c02v_QsWF l) {a b : Ct} (ha : CtCanon l a) (hb : CtCanon l b)
    (hna : a.ntt = true) (hnb : b.ntt = true) (hsz16 : a.polys.size + b.polys.size - 1 ≤ 16) :
    ∃ r, ctMultiplyDyadic l a b = .ok r ∧ r.polys.size = a.polys.size + b.polys.size - 1 ∧ r.ntt = true ∧ r.cf = a.cf ∧
      (∀ k, k < a.polys.size + b.polys.size - 1 → RnsCanon l (r.polys.getD k #[])) ∧
      (a.polys.size + b.polys.size - 1 ≤ 16 → CtCanon l r) ∧
      ∀ k, k < a.polys.size + b.polys.size - 1 → ∀ i, i < l.size → ∀ j, j < l.n →
        r.c02v_res k i j = ((mulPairs a.polys.size b.polys.size k).map (fun p => a.c02v_res p.1 i j * b.c02v_res p.2 i j)).sum
          % (l.q i).value := by
  have h2a := ha.two_le; have h2b := hb.two_le
  obtain ⟨ys, hys, hlen, hk⟩ := c02v_tensor_spec (ms := l.qs) (n := l.n) hq (by omega : 1 ≤ a.polys.size)
    (by omega : 1 ≤ b.polys.size) (fun k => a.polys.getD k #[]) (fun k => b.polys.getD k #[])
    (fun k hk => c02v_canon_word hq (ha.canon k hk)) (fun k hk => c02v_canon_word hq (hb.canon k hk))
  have hsz : ys.toArray.size = a.polys.size + b.polys.size - 1 := hlen
  have h2 : 2 ≤ ys.toArray.size ∧ ys.toArray.size ≤ 16 := by omega
  simp only [← list_getD_toArray ys] at hk
  refine ⟨⟨ys.toArray, a.ntt, a.cf⟩, ?_, hsz, hna, rfl, fun k hk' => (hk k hk').1,
    fun _ => ⟨⟨h2.1, h2.2, fun k hk' => (hk k (hsz ▸ hk')).1⟩, ha.cf⟩, ?_⟩
  · rw [c02v_ctMultiplyDyadic_eq, if_neg (by simp [hna, hnb]), if_neg (by omega),
      if_neg (by rw [Bool.not_eq_true, ctResizeRefuses_eq_false_iff]; omega), hys]
    rfl
  · unfold Ct.c02v_res
    exact fun k hk' => (hk k hk').2

/-- phase: in every commutative ring in which `q_i = 0`, reading the NTT slots through orthogonal idempotents `e`
    (`e j = δ_j` in the product ring of the slots, or `e = δ_{j0}` for one slot), the phase of the result is the PRODUCT of
    the phases, for every secret `s` — `ct_mul_phase` of C02K instantiated with the model's output -/
theorem ctMultiplyDyadic_phase {S : Type} [CommRing S] {l : Level} (hq : c02v_QsWF l) {a b r : Ct} (ha : CtCanon l a)
    (hb : CtCanon l b) (hr : ctMultiplyDyadic l a b = .ok r)
    {i : Nat} (hi : i < l.size) (hS : (((l.q i).value : Nat) : S) = 0) (e : Nat → S)
    (he : ∀ j j', j < l.n → j' < l.n → e j * e j' = if j = j' then e j else 0) (s : S) :
    c02v_phase l r i e s = c02v_phase l a i e s * c02v_phase l b i e s := by
  have hna : a.ntt = true := by
    by_contra h; rw [ctMultiplyDyadic_refuse l a b (Or.inl (by simpa using h))] at hr; cases hr
  have hnb : b.ntt = true := by
    by_contra h; rw [ctMultiplyDyadic_refuse l a b (Or.inr (by simpa using h))] at hr; cases hr
  obtain ⟨r', hr', hsz, _, _, _, _, hres⟩ := ctMultiplyDyadic_spec hq ha hb hna hnb (ctMultiplyDyadic_ok_le16 hr)
  obtain rfl := Except.ok.inj (hr.symm.trans hr')
  unfold Ct.c02v_res at hres
  have h2a := ha.two_le; have h2b := hb.two_le
  unfold c02v_phase
  rw [hsz, ← ct_mul_phase (by omega) (by omega)]
  exact Finset.sum_congr rfl (fun k hk => congrArg (· * s ^ k)
    (c02v_polyVal_mulsum hS e he (fun k => (a.polys.getD k #[]).getD i #[]) (fun k => (b.polys.getD k #[]).getD i #[])
      (mulPairs a.polys.size b.polys.size k) (fun j hj => hres k (Finset.mem_range.mp hk) i hi j hj)))

/-! ## coefficient form: the inverse transform of the accumulated dyadic products is the sum of negacyclic products -/

/-- a canonical vector `z` whose entry `i` is Σ_p X_{p.1}(ψ_i)·Y_{p.2}(ψ_i), the sum of products of the evaluations at the i-th root of
    X^N + 1, has the reduced sum of the negacyclic products `X_{p.1} ⋆ Y_{p.2}` as coefficient form: the transform is an injective ring
    homomorphism (`evR`, `intt_toNP_unique`) -/
theorem c02v_conv_sum {t : NTTTables} {q N : Nat} (hw : t.WF) (hq : t.modulus.value = q) (hN : 2^t.k = N) (X Y : Nat → Array Nat)
    (ps : List (Nat × Nat)) {z : Array Nat} (hz : z.size = N ∧ ∀ j, j < N → z.getD j 0 < q)
    (h : ∀ i, i < N → ((z.getD i 0 : Nat) : ZMod q) = (ps.map fun p =>
      ((evalSpec t (X p.1) i : Nat) : ZMod q) * ((evalSpec t (Y p.2) i : Nat) : ZMod q)).sum) :
    ∀ c, c < N → (intt t z).getD c 0 = (ps.map (fun p => negMulNat N q (X p.1) (Y p.2) c)).sum % q := by
  subst hq hN
  have hq0 : 0 < t.modulus.value := Nat.lt_of_lt_of_le Nat.zero_lt_two hw.mwf.two_le
  have key := intt_toNP_unique hw hz ((ps.map fun p => c03k_toNP (2^t.k) (c07s_vecN t.modulus.value (X p.1))
      * c03k_toNP (2^t.k) (c07s_vecN t.modulus.value (Y p.2))).sum) (fun i hi => by
    show _ = ((Pi.evalRingHom (fun _ : Nat => ZMod t.modulus.value) i).comp (evR hw)) _
    rw [h i hi, map_list_sum, List.map_map]
    refine congrArg List.sum (List.map_congr_left fun p _ => ?_)
    rw [Function.comp_apply, map_mul]
    show _ = evR hw _ i * evR hw _ i
    rw [evR_vecN, evR_vecN])
  intro c hc
  refine cast_inj_lt ((intt_sim hw z hz.1 (fun j hj => by have := hz.2 j hj; omega)).2 c hc).1 (Nat.mod_lt _ hq0) ?_
  have hc' := congrArg (fun a => a.co c) key
  rw [c03k_toNP_co _ hc, c03k_listsum_co] at hc'
  rw [ZMod.natCast_mod, Nat.cast_list_sum, List.map_map]
  refine hc'.trans (congrArg List.sum (List.map_congr_left fun p _ => ?_))
  rw [Function.comp_apply, (negMulNat_cast hq0 _ _ _ c).2, ← c03k_toNP_mul, c03k_toNP_co _ hc]
  rfl

/-- one output component, coefficient form: if z_j = Σ_p A_{p.1}[j]·B_{p.2}[j] mod q for canonical NTT-form vectors, then
    intt z = Σ_p (intt A_{p.1}) ⊛ (intt B_{p.2}) mod (X^N + 1, q) -/
theorem c02v_comp_coeff {t : NTTTables} {q N : Nat} (hw : t.WF) (hq : t.modulus.value = q) (hN : 2^t.k = N) (A B : Nat → Array Nat)
    (ps : List (Nat × Nat))
    (hA : ∀ p ∈ ps, (A p.1).size = N ∧ ∀ j, j < N → (A p.1).getD j 0 < q)
    (hB : ∀ p ∈ ps, (B p.2).size = N ∧ ∀ j, j < N → (B p.2).getD j 0 < q)
    {z : Array Nat} (hz : z.size = N)
    (hzv : ∀ j, j < N → z.getD j 0 = (ps.map (fun p => (A p.1).getD j 0 * (B p.2).getD j 0)).sum % q) :
    ∀ c, c < N → (intt t z).getD c 0
      = (ps.map (fun p => negMulNat N q (intt t (A p.1)) (intt t (B p.2)) c)).sum % q := by
  subst hq hN
  have hq0 : 0 < t.modulus.value := hw.mwf.pos
  -- the entries of a canonical NTT-form vector are the evaluations of its coefficient form
  have hev : ∀ {x : Array Nat}, (x.size = 2^t.k ∧ ∀ j, j < 2^t.k → x.getD j 0 < t.modulus.value) → ∀ i, i < 2^t.k →
      evalSpec t (intt t x) i = x.getD i 0 := fun {x} hx i hi => by
    obtain ⟨a1, a2⟩ := intt_sim hw x hx.1 (fun j hj => by have := hx.2 j hj; omega)
    rw [← (ntt_eval hw (intt t x) a1 (fun j hj => by have := (a2 j hj).1; omega)).2 i hi, ntt_intt hw x hx.1 hx.2]
  refine c02v_conv_sum hw rfl rfl (fun k => intt t (A k)) (fun k => intt t (B k)) ps
    ⟨hz, fun j hj => by rw [hzv j hj]; exact Nat.mod_lt _ hq0⟩ (fun i hi => ?_)
  rw [hzv i hi, ZMod.natCast_mod, Nat.cast_list_sum, List.map_map]
  refine congrArg List.sum (List.map_congr_left fun p hp => ?_)
  rw [Function.comp_apply, Nat.cast_mul, hev (hA p hp) i hi, hev (hB p hp) i hi]

/-- coefficient form (NTT multiplicativity of C09): for a level whose tables are well formed, the coefficient form
    `intt` of result polynomial k is Σ_{x + y = k} (intt a_x) ⊛ (intt b_y), the NEGACYCLIC products modulo (X^N + 1, q_i)
    (`negMulNat`), summed modulo q_i — i.e. the coefficient-form ciphertext is the Cauchy product of the coefficient-form
    operands in Z_{q_i}[X]/(X^N + 1), whose phase is the product of the phases by `ct_mul_phase` -/
theorem ctMultiplyDyadic_coeff {l : Level} (hl : l.WF) {a b r : Ct} (ha : CtCanon l a) (hb : CtCanon l b)
    (hr : ctMultiplyDyadic l a b = .ok r) :
    ∀ k, k < a.polys.size + b.polys.size - 1 → ∀ i, i < l.size → ∀ c, c < l.n →
      (intt (l.tbl i) ((r.polys.getD k #[]).getD i #[])).getD c 0 =
        ((mulPairs a.polys.size b.polys.size k).map (fun p => negMulNat l.n (l.q i).value
          (intt (l.tbl i) ((a.polys.getD p.1 #[]).getD i #[])) (intt (l.tbl i) ((b.polys.getD p.2 #[]).getD i #[])) c)).sum
          % (l.q i).value := by
  have hq := c02v_qsWF_of_levelWF hl
  have hna : a.ntt = true := by
    by_contra h; rw [ctMultiplyDyadic_refuse l a b (Or.inl (by simpa using h))] at hr; cases hr
  have hnb : b.ntt = true := by
    by_contra h; rw [ctMultiplyDyadic_refuse l a b (Or.inr (by simpa using h))] at hr; cases hr
  obtain ⟨r', hr', _, _, _, hcan, _, hres⟩ := ctMultiplyDyadic_spec hq ha hb hna hnb (ctMultiplyDyadic_ok_le16 hr)
  obtain rfl := Except.ok.inj (hr.symm.trans hr')
  unfold Ct.c02v_res at hres
  have h2a := ha.two_le; have h2b := hb.two_le
  intro k hk i hi c hc
  obtain ⟨htw, htm, htn, _⟩ := c01o_level_comp hl hi
  obtain ⟨_, hmem⟩ := mulPairs_spec (n1 := a.polys.size) (n2 := b.polys.size) (by omega) (by omega) hk
  exact c02v_comp_coeff htw (by rw [htm]) htn (fun x => (a.polys.getD x #[]).getD i #[]) (fun y => (b.polys.getD y #[]).getD i #[])
    (mulPairs a.polys.size b.polys.size k)
    (fun p hp => (ha.canon p.1 ((hmem p.1 p.2).mp hp).1).2 i hi)
    (fun p hp => (hb.canon p.2 ((hmem p.1 p.2).mp hp).2.1).2 i hi)
    ((hcan k hk).2 i hi).1 (fun j hj => hres k hk i hi j hj) c hc

/-- refusal: `multiply_plain_ntt` needs the ciphertext in NTT form -/
theorem ctMultiplyPlainNtt_refuse (l : Level) (a : Ct) (p : RnsPoly) (h : a.ntt = false) :
    ctMultiplyPlainNtt l a p = .error .refused := by
  unfold ctMultiplyPlainNtt
  rw [if_pos (by simp [h])]

/-- residues: every polynomial of a canonical NTT-form ciphertext is multiplied dyadically by the canonical plaintext -/
theorem ctMultiplyPlainNtt_spec {l : Level} (hq : c02v_QsWF l) {a : Ct} (ha : CtCanon l a) (hna : a.ntt = true)
    {p : RnsPoly} (hp : RnsCanon l p) :
    ∃ r, ctMultiplyPlainNtt l a p = .ok r ∧ CtCanon l r ∧ r.polys.size = a.polys.size ∧ r.ntt = true ∧ r.cf = a.cf ∧
      ∀ k, k < a.polys.size → ∀ i, i < l.size → ∀ j, j < l.n →
        r.c02v_res k i j = (a.c02v_res k i j * (p.getD i #[]).getD j 0) % (l.q i).value := by
  obtain ⟨ys, hys, hc, hsz, hres⟩ := c02v_mapPolys_spec (g := fun i j x => (x * (p.getD i #[]).getD j 0) % (l.q i).value)
    (fun _ hc => c02v_rnsDyadic_spec hq hc hp) ha.canon a.ntt a.cf
  refine ⟨_, ?_, ⟨⟨hsz ▸ ha.two_le, hsz ▸ ha.le16, hc⟩, ha.cf⟩, hsz, hna, rfl, hres⟩
  unfold ctMultiplyPlainNtt
  rw [if_neg (by simp [hna])]
  erw [hys]; rfl

/-- phase: the phase is multiplied by the value of the plaintext (NTT slots read through orthogonal idempotents) -/
theorem ctMultiplyPlainNtt_phase {S : Type} [CommRing S] {l : Level} (hq : c02v_QsWF l) {a r : Ct} (ha : CtCanon l a)
    {p : RnsPoly} (hp : RnsCanon l p) (hr : ctMultiplyPlainNtt l a p = .ok r)
    {i : Nat} (hi : i < l.size) (hS : (((l.q i).value : Nat) : S) = 0) (e : Nat → S)
    (he : ∀ j j', j < l.n → j' < l.n → e j * e j' = if j = j' then e j else 0) (s : S) :
    c02v_phase l r i e s = c02v_phase l a i e s * c02v_polyVal e l.n (p.getD i #[]) := by
  have hna : a.ntt = true := by
    by_contra h; rw [ctMultiplyPlainNtt_refuse l a p (by simpa using h)] at hr; cases hr
  obtain ⟨r', hr', _, hsz, _, _, hres⟩ := ctMultiplyPlainNtt_spec hq ha hna hp
  obtain rfl := Except.ok.inj (hr.symm.trans hr')
  unfold Ct.c02v_res at hres
  refine c02v_phase_mul hsz i e _ s (fun k hk => ?_)
  have := c02v_polyVal_mulsum hS e he (fun _ => (a.polys.getD k #[]).getD i #[]) (fun _ => p.getD i #[]) [(0, 0)]
    (r := (r.polys.getD k #[]).getD i #[]) (fun j hj => by
      simp only [List.map_cons, List.map_nil, List.sum_cons, List.sum_nil, Nat.add_zero]
      exact hres k hk i hi j hj)
  simpa using this

theorem c02v_coprime_mul_mod {a b t : Nat} (ha : Nat.Coprime a t) (hb : Nat.Coprime b t) : Nat.Coprime ((a * b) % t) t := by
  unfold Nat.Coprime
  rw [← Nat.gcd_rec, Nat.gcd_comm]
  exact Nat.Coprime.mul_left ha hb

/-- what `balance_spec` of C02K does not state: both multipliers are reduced, a successful call certifies that `f1` is a unit,
    and if `f2` is a unit too then so are `e1` and the common factor `f` -/
theorem c02v_balance_inv {t : Modulus} (ht : t.WF) {f1 f2 f e1 e2 : Nat} (h1 : f1 < t.value) (h2 : f2 < t.value)
    (h : balanceCorrectionFactors f1 f2 t = .ok (f, e1, e2)) :
    e1 < t.value ∧ e2 < t.value ∧ Nat.Coprime f1 t.value ∧
      (Nat.Coprime f2 t.value → Nat.Coprime e1 t.value ∧ Nat.Coprime f t.value) := by
  have h2le := ht.two_le
  have hlt := ht.lt
  by_cases hc : Nat.Coprime f1 t.value
  · obtain ⟨inv, r1, r2, b⟩ := c02k_balance_run ht h1 h2 hc
    rw [b.run] at h
    simp only [Except.ok.injEq, Prod.mk.injEq] at h
    obtain ⟨hf, rfl, rfl⟩ := h
    refine ⟨b.e1_lt, b.e2_lt, hc, fun hc2 => ?_⟩
    have hci : Nat.Coprime inv t.value := Nat.coprime_of_mul_modEq_one f1 (by
      unfold Nat.ModEq; rw [b.inv_mul, Nat.mod_eq_of_lt (by omega)])
    have hce := b.unit (c02v_coprime_mul_mod hci hc2)
    exact ⟨hce, hf ▸ c02v_coprime_mul_mod hce hc⟩
  · rw [c02k_balance_refuse ht f2 (by omega) hc] at h
    cases h

/-- the `scale` step of `ctTranslateBalanced`: every residue times `e`, correction factor set to `f` -/
def c02v_scale (l : Level) (f : Nat) (c : Ct) (e : Nat) : R Ct := do
  let ps ← c.polys.toList.mapM (fun p => compsMap l.qs p (fun x m => mulMod x e m))
  pure { c with polys := ps.toArray, cf := f }

/-- `r` is `a` with every residue multiplied by `e` and the correction factor set to `f` -/
structure c02v_Scaled (l : Level) (a r : Ct) (f e : Nat) : Prop where
  canon : c05u_CtCanon l r
  size : r.polys.size = a.polys.size
  ntt : r.ntt = a.ntt
  cf : r.cf = f
  res : ∀ k, k < a.polys.size → ∀ i, i < l.size → ∀ j, j < l.n → r.c02v_res k i j = (a.c02v_res k i j * e) % (l.q i).value

theorem c02v_scale_spec {l : Level} (hq : c02v_QsWF l) (f : Nat) {e : Nat} (he : e < 2^64) {a : Ct} (ha : c05u_CtCanon l a) :
    ∃ r, c02v_scale l f a e = .ok r ∧ c02v_Scaled l a r f e := by
  obtain ⟨ys, hys, hc, hsz, hres⟩ := c02v_mapPolys_spec (g := fun i _ x => (x * e) % (l.q i).value)
    (fun _ hc => c02v_compsMap_spec hq he hc) ha a.ntt f
  refine ⟨_, ?_, hc, hsz, rfl, rfl, hres⟩
  unfold c02v_scale
  rw [hys]; rfl

theorem c02v_balanced_eq (l : Level) (a b : Ct) (sub : Bool) (h : a.cf ≠ b.cf) :
    ctTranslateBalanced l a b sub = (do
      let r ← balanceCorrectionFactors a.cf b.cf l.t
      let a' ← c02v_scale l r.1 a r.2.1
      let b' ← c02v_scale l r.1 b r.2.2
      ctTranslate l a' b' sub) := by
  unfold ctTranslateBalanced
  rw [if_neg h]
  rfl

theorem c02v_scale_phase {S : Type} [CommRing S] {l : Level} {a r : Ct} {c : Nat} (hsz : r.polys.size = a.polys.size)
    {i : Nat} (hi : i < l.size) (hS : (((l.q i).value : Nat) : S) = 0)
    (hres : ∀ k, k < a.polys.size → ∀ i, i < l.size → ∀ j, j < l.n → r.c02v_res k i j = (a.c02v_res k i j * c) % (l.q i).value)
    (e : Nat → S) (s : S) :
    c02v_phase l r i e s = c02v_phase l a i e s * ((c : Nat) : S) := by
  unfold Ct.c02v_res at hres
  exact c02v_phase_mul hsz i e _ s (fun k hk => c02v_polyVal_scale hS e c (fun j hj => hres k hk i hi j hj))

/-- decomposition of the balancing branch of `ctTranslateBalanced`: both operands are scaled, then `ctTranslate` runs -/
theorem c02v_balanced_decomp {l : Level} (hq : c02v_QsWF l) (ht : l.t.WF) {a b : Ct} (ha : c05u_CtCanon l a)
    (hb : c05u_CtCanon l b) (sub : Bool) (hne : a.cf ≠ b.cf) (h1 : a.cf < l.t.value) (h2 : b.cf < l.t.value)
    {f e1 e2 : Nat} (hbal : balanceCorrectionFactors a.cf b.cf l.t = .ok (f, e1, e2)) :
    ∃ a' b', ctTranslateBalanced l a b sub = ctTranslate l a' b' sub ∧ c02v_Scaled l a a' f e1 ∧ c02v_Scaled l b b' f e2 := by
  obtain ⟨he1, he2, _, _⟩ := c02v_balance_inv ht h1 h2 hbal
  have htlt := ht.lt
  obtain ⟨a', ha', A⟩ := c02v_scale_spec hq f (e := e1) (by omega) ha
  obtain ⟨b', hb', B⟩ := c02v_scale_spec hq f (e := e2) (by omega) hb
  refine ⟨a', b', ?_, A, B⟩
  rw [c02v_balanced_eq l a b sub hne, hbal]
  rw [R.ok_bind, ha', R.ok_bind, hb', R.ok_bind]

/-- decoding of one BGV phase coefficient: reduce modulo t, multiply by the inverse of the correction factor -/
def c02v_dec (t cf : Nat) (x : Int) : Nat := (Spec.imod x t * Spec.invMod cf t) % t

theorem c02v_bgvDecode_eq (t cf : Nat) (ph : Spec.ZPoly) : Spec.bgvDecode t cf ph = ph.map (c02v_dec t cf) := rfl

theorem c02v_inv_zmod {t cf : Nat} (ht : 2 ≤ t) (ht199 : t < 2^199) (hc : Nat.Coprime cf t) :
    ((Spec.invMod cf t : Nat) : ZMod t) * ((cf : Nat) : ZMod t) = 1 := by
  have := c01j_invMod_spec ht ht199 hc
  have h2 := (ZMod.natCast_eq_natCast_iff' (Spec.invMod cf t * cf) 1 t).mpr this
  push_cast at h2
  exact h2

/-! ## Satisfiability of the hypotheses: the reading `e = δ_j` of one slot, a concrete level and ciphertexts -/

def c02v_delta {S : Type} [CommRing S] (j0 : Nat) : Nat → S := fun j => if j = j0 then 1 else 0

theorem c02v_delta_orth {S : Type} [CommRing S] (j0 n : Nat) :
    ∀ j j', j < n → j' < n → (c02v_delta j0 j : S) * c02v_delta j0 j' = if j = j' then c02v_delta j0 j else 0 := by
  intro j j' _ _
  unfold c02v_delta
  by_cases h1 : j = j0 <;> by_cases h2 : j' = j0 <;> by_cases h3 : j = j' <;> simp [h1, h2, h3] <;> omega

theorem c02v_single_orth {T : Type} [CommRing T] (n : Nat) :
    ∀ j j', j < n → j' < n →
      (Pi.single j (1 : T) : Nat → T) * Pi.single j' 1 = if j = j' then Pi.single j 1 else 0 := by
  intro j j' _ _
  ext x
  by_cases h3 : j = j'
  · subst h3
    rw [if_pos rfl]
    simp only [Pi.mul_apply, Pi.single_apply]
    by_cases hx : x = j <;> simp [hx]
  · rw [if_neg h3]
    simp only [Pi.mul_apply, Pi.single_apply, Pi.zero_apply]
    by_cases hx : x = j <;> by_cases hx' : x = j' <;> simp [hx, hx'] <;> omega

theorem c02v_polyVal_delta {S : Type} [CommRing S] {j0 n : Nat} (hj : j0 < n) (p : Array Nat) :
    c02v_polyVal (c02v_delta j0 : Nat → S) n p = ((p.getD j0 0 : Nat) : S) := by
  unfold c02v_polyVal c02v_delta
  simp only [mul_ite, mul_one, mul_zero]
  rw [Finset.sum_ite_eq' , if_pos (Finset.mem_range.mpr hj)]

theorem c02v_phase_delta {S : Type} [CommRing S] (l : Level) (ct : Ct) (i : Nat) {j : Nat} (hj : j < l.n) (s : S) :
    c02v_phase l ct i (c02v_delta j) s = ctPhase ct.polys.size (fun k => ((ct.c02v_res k i j : Nat) : S)) s := by
  unfold c02v_phase
  simp only [c02v_polyVal_delta hj]
  rfl

def c02v_exQ : Modulus := ⟨17, (2^128 / 17) % B64, (2^128 / 17) / B64, 2^128 % 17, bitCount 17⟩
def c02v_exT : Modulus := ⟨5, (2^128 / 5) % B64, (2^128 / 5) / B64, 2^128 % 5, bitCount 5⟩
/-- the example level of this file and of C02S / GenEval*: BGV, N = 2, t = 5, the modulus 17 TWICE and `default` tables — it satisfies `c02v_QsWF`
    only (no `Level.WF`, the moduli are not coprime): enough for the component-wise theorems of this file, nothing about transforms or CRT -/
def c02v_exLevel : Level := { (default : Level) with scheme := .bgv, n := 2, k := 1, qs := #[c02v_exQ, c02v_exQ], t := c02v_exT }
def c02v_exCt : Ct := ⟨#[#[#[1, 2], #[3, 16]], #[#[0, 5], #[7, 11]], #[#[4, 4], #[9, 0]]], true, 3⟩

def c02v_exCt2 : Ct := ⟨#[#[#[6, 2], #[3, 1]], #[#[0, 15], #[8, 11]]], true, 2⟩

theorem c02v_exQ_wf : c02v_exQ.WF := (Modulus.mk?_wf (v := 17) (m := c02v_exQ) rfl (by decide)).1
theorem c02v_exT_wf : c02v_exLevel.t.WF := (Modulus.mk?_wf (v := 5) (m := c02v_exT) rfl (by decide)).1

theorem c02v_exLevel_qsWF : c02v_QsWF c02v_exLevel := by
  intro i hi
  have hi' : i < 2 := hi
  have : c02v_exLevel.q i = c02v_exQ := by
    interval_cases i <;> rfl
  rw [this]; exact c02v_exQ_wf

theorem c02v_exCt_canon : CtCanon c02v_exLevel c02v_exCt := by
  refine ⟨⟨by decide, by decide, fun k hk => ?_⟩, ?_⟩
  · have hk' : k < 3 := hk
    interval_cases k <;> refine ⟨rfl, fun i hi => ?_⟩ <;>
      (have hi' : i < 2 := hi
       interval_cases i <;> refine ⟨rfl, fun j hj => ?_⟩ <;>
         (have hj' : j < 2 := hj
          interval_cases j <;> decide))
  · exact ⟨by decide, by decide⟩

theorem c02v_exCt2_canon : CtCanon c02v_exLevel c02v_exCt2 := by
  refine ⟨⟨by decide, by decide, fun k hk => ?_⟩, ?_⟩
  · have hk' : k < 2 := hk
    interval_cases k <;> refine ⟨rfl, fun i hi => ?_⟩ <;>
      (have hi' : i < 2 := hi
       interval_cases i <;> refine ⟨rfl, fun j hj => ?_⟩ <;>
         (have hj' : j < 2 := hj
          interval_cases j <;> decide))
  · exact ⟨by decide, by decide⟩

/-! ## BGV: the product with its correction factor, balanced add / sub, decoding of balanced sums and products -/

/-- product: `bgvMultiply` is the dyadic product (all conclusions of `ctMultiplyDyadic_spec` / `_phase` apply to `c`) with the
    correction factor replaced by the product of the factors modulo t -/
theorem bgvMultiply_spec {l : Level} (ht : l.t.WF) {a b c : Ct} (hc : ctMultiplyDyadic l a b = .ok c)
    (h1 : a.cf < 2^64) (h2 : b.cf < 2^64) :
    bgvMultiply l a b = .ok { c with cf := (a.cf * b.cf) % l.t.value } := by
  unfold bgvMultiply
  rw [hc]
  simp only [mulMod_exact ht h1 h2, R.ok_bind']
  rfl

theorem bgvMultiply_refuse (l : Level) (a b : Ct) (h : a.ntt = false ∨ b.ntt = false) :
    bgvMultiply l a b = .error .refused := by
  unfold bgvMultiply
  rw [ctMultiplyDyadic_refuse l a b h]
  rfl

/-- the product of unit correction factors is a unit in range, so the product of canonical BGV ciphertexts is canonical -/
theorem bgvMultiply_canon {l : Level} (hq : c02v_QsWF l) (ht : l.t.WF) {a b : Ct} (ha : CtCanon l a) (hb : CtCanon l b)
    (hna : a.ntt = true) (hnb : b.ntt = true) (hs : l.scheme = .bgv) (h16 : a.polys.size + b.polys.size - 1 ≤ 16)
    (c1 : Nat.Coprime a.cf l.t.value) (c2 : Nat.Coprime b.cf l.t.value) :
    ∃ r, bgvMultiply l a b = .ok r ∧ CtCanon l r ∧ r.cf = (a.cf * b.cf) % l.t.value ∧ Nat.Coprime r.cf l.t.value := by
  obtain ⟨c, hc, _, _, _, _, hcan, _⟩ := ctMultiplyDyadic_spec hq ha hb hna hnb h16
  have hfa := ha.cf; have hfb := hb.cf
  unfold c02v_cfOk at hfa hfb
  rw [hs] at hfa hfb
  simp only at hfa hfb
  have htlt := ht.lt
  have hcop : Nat.Coprime ((a.cf * b.cf) % l.t.value) l.t.value := c02v_coprime_mul_mod c1 c2
  refine ⟨_, bgvMultiply_spec ht hc (by omega) (by omega), ⟨⟨(hcan h16).two_le, (hcan h16).le16, (hcan h16).canon⟩, ?_⟩, rfl, hcop⟩
  unfold c02v_cfOk
  rw [hs]
  simp only
  have h2 := ht.two_le
  refine ⟨fun h0 => ?_, Nat.mod_lt _ (by omega)⟩
  rw [h0, Nat.Coprime, Nat.gcd_zero_left] at hcop
  omega

/-- sum, equal factors: no balancing -/
theorem ctTranslateBalanced_same (l : Level) (a b : Ct) (sub : Bool) (h : a.cf = b.cf) :
    ctTranslateBalanced l a b sub = ctTranslate l a b sub := by
  unfold ctTranslateBalanced
  rw [if_pos h]

/-- refusal: a first correction factor that is not a unit modulo t cannot be balanced -/
theorem ctTranslateBalanced_refuse {l : Level} (ht : l.t.WF) (a b : Ct) (sub : Bool) (hne : a.cf ≠ b.cf)
    (h1 : a.cf < 2^63) (hc : ¬ Nat.Coprime a.cf l.t.value) :
    ctTranslateBalanced l a b sub = .error .refused := by
  rw [c02v_balanced_eq l a b sub hne, c02k_balance_refuse ht b.cf h1 hc]
  rfl

/-- sum, different factors: with the multipliers (f, e1, e2) returned by `balanceCorrectionFactors` (characterised by
    `balance_spec`: e1·f1 ≡ e2·f2 ≡ f mod t), the result has correction factor f and polynomial k is
    `e1·a_k ± e2·b_k` (all residue-wise mod q_i) with the tail of the longer operand scaled (and negated for a subtrahend) -/
theorem ctTranslateBalanced_spec {l : Level} (hq : c02v_QsWF l) (ht : l.t.WF) {a b : Ct} (ha : CtCanon l a) (hb : CtCanon l b)
    (sub : Bool) (hntt : a.ntt = b.ntt) (hne : a.cf ≠ b.cf) (h1 : a.cf < l.t.value) (h2 : b.cf < l.t.value)
    {f e1 e2 : Nat} (hbal : balanceCorrectionFactors a.cf b.cf l.t = .ok (f, e1, e2)) :
    ∃ r, ctTranslateBalanced l a b sub = .ok r ∧ c02v_PolysCanon l r ∧ r.polys.size = max a.polys.size b.polys.size ∧
      r.ntt = a.ntt ∧ r.cf = f ∧ f < l.t.value ∧ (e1 * a.cf) % l.t.value = f ∧ (e2 * b.cf) % l.t.value = f ∧
      e1 < l.t.value ∧ e2 < l.t.value ∧ Nat.Coprime a.cf l.t.value ∧
      (Nat.Coprime b.cf l.t.value → Nat.Coprime f l.t.value ∧ (l.scheme = .bgv → CtCanon l r)) ∧
      ∀ k, k < max a.polys.size b.polys.size → ∀ i, i < l.size → ∀ j, j < l.n →
        r.c02v_res k i j =
          if k < a.polys.size ∧ k < b.polys.size then
            (if sub then ((a.c02v_res k i j * e1) % (l.q i).value + (l.q i).value - (b.c02v_res k i j * e2) % (l.q i).value) % (l.q i).value
             else ((a.c02v_res k i j * e1) % (l.q i).value + (b.c02v_res k i j * e2) % (l.q i).value) % (l.q i).value)
          else if k < a.polys.size then (a.c02v_res k i j * e1) % (l.q i).value
          else (if sub then ((l.q i).value - (b.c02v_res k i j * e2) % (l.q i).value) % (l.q i).value
                else (b.c02v_res k i j * e2) % (l.q i).value) := by
  obtain ⟨a', b', heq, A, B⟩ := c02v_balanced_decomp hq ht ha.canon hb.canon sub hne h1 h2 hbal
  obtain ⟨s1, s2, s3⟩ := balance_spec ht h1 h2 hbal
  obtain ⟨i1, i2, i3, i4⟩ := c02v_balance_inv ht h1 h2 hbal
  obtain ⟨r, hr, cr, sr, nr, fr, rr⟩ := c02v_ctTranslate_core hq A.canon B.canon sub (by rw [A.ntt, B.ntt, hntt]) (by rw [A.cf, B.cf])
  unfold c02v_trRes at rr
  rw [A.size, B.size] at sr rr
  have cr : c02v_PolysCanon l r := ⟨sr ▸ le_max_of_le_left ha.two_le, sr ▸ max_le ha.le16 hb.le16, cr⟩
  refine ⟨r, by rw [heq]; exact hr, cr, sr, by rw [nr, A.ntt], by rw [fr, A.cf], s3, s1, s2, i1, i2, i3, fun hcb => ?_, ?_⟩
  · obtain ⟨_, hcf⟩ := i4 hcb
    refine ⟨hcf, fun hs => ⟨cr, ?_⟩⟩
    unfold c02v_cfOk
    rw [hs, fr, A.cf]
    simp only
    have h2t := ht.two_le
    refine ⟨fun h0 => ?_, s3⟩
    rw [h0, Nat.Coprime, Nat.gcd_zero_left] at hcf
    omega
  · intro k hk i hi j hj
    rw [rr k hk i hi j hj]
    by_cases hka : k < a.polys.size <;> by_cases hkb : k < b.polys.size
    · simp only [hka, hkb, and_self, if_true, A.res k hka i hi j hj, B.res k hkb i hi j hj]
    · simp only [hka, hkb, and_false, if_true, if_false, A.res k hka i hi j hj]
    · simp only [hka, hkb, false_and, if_false, B.res k hkb i hi j hj]
    · omega

/-- phase: in every commutative ring in which `q_i = 0`, phase(result) = e1·phase(a) ± e2·phase(b) -/
theorem ctTranslateBalanced_phase {S : Type} [CommRing S] {l : Level} (hq : c02v_QsWF l) (ht : l.t.WF) {a b r : Ct}
    (ha : CtCanon l a) (hb : CtCanon l b) {sub : Bool} (hne : a.cf ≠ b.cf) (h1 : a.cf < l.t.value) (h2 : b.cf < l.t.value)
    {f e1 e2 : Nat} (hbal : balanceCorrectionFactors a.cf b.cf l.t = .ok (f, e1, e2))
    (hr : ctTranslateBalanced l a b sub = .ok r)
    {i : Nat} (hi : i < l.size) (hS : (((l.q i).value : Nat) : S) = 0) (e : Nat → S) (s : S) :
    c02v_phase l r i e s = if sub then c02v_phase l a i e s * ((e1 : Nat) : S) - c02v_phase l b i e s * ((e2 : Nat) : S)
      else c02v_phase l a i e s * ((e1 : Nat) : S) + c02v_phase l b i e s * ((e2 : Nat) : S) := by
  obtain ⟨a', b', heq, A, B⟩ := c02v_balanced_decomp hq ht ha.canon hb.canon sub hne h1 h2 hbal
  rw [heq] at hr
  rw [c02v_ctTranslate_phase_core hq A.canon B.canon hr hi hS e s, c02v_scale_phase A.size hi hS A.res e s, c02v_scale_phase B.size hi hS B.res e s]

/-- totality: for unit correction factors below t the balanced add / sub always succeeds -/
theorem ctTranslateBalanced_total {l : Level} (hq : c02v_QsWF l) (ht : l.t.WF) {a b : Ct} (ha : CtCanon l a) (hb : CtCanon l b)
    (sub : Bool) (hntt : a.ntt = b.ntt) (h1 : a.cf < l.t.value) (h2 : b.cf < l.t.value)
    (c1 : Nat.Coprime a.cf l.t.value) : ∃ r, ctTranslateBalanced l a b sub = .ok r := by
  by_cases hne : a.cf = b.cf
  · rw [ctTranslateBalanced_same l a b sub hne]
    obtain ⟨r, hr, _⟩ := ctTranslate_spec hq ha hb sub hntt hne
    exact ⟨r, hr⟩
  · obtain ⟨⟨f, e1, e2⟩, hbal⟩ := balance_total ht h1 h2 c1
    obtain ⟨r, hr, _⟩ := ctTranslateBalanced_spec hq ht ha hb sub hntt hne h1 h2 hbal
    exact ⟨r, hr⟩

/-- decoding (per coefficient, `Spec.bgvDecode = map (c02v_dec t cf)`): if the exact phase coefficient of the balanced sum is
    congruent to e1·x1 ± e2·x2 modulo t (which the phase theorem gives as long as the integers do not wrap modulo Q), then
    decoding with the new factor f gives the sum resp. difference of the operands' decodings modulo t -/
theorem bgvDecode_balanced {t f1 f2 f e1 e2 : Nat} (ht : 2 ≤ t) (ht199 : t < 2^199)
    (c1 : Nat.Coprime f1 t) (c2 : Nat.Coprime f2 t) (cf : Nat.Coprime f t)
    (he1 : (e1 * f1) % t = f) (he2 : (e2 * f2) % t = f) (sub : Bool) {x x1 x2 : Int}
    (hx : x ≡ (if sub then (e1 : Int) * x1 - e2 * x2 else (e1 : Int) * x1 + e2 * x2) [ZMOD t]) :
    c02v_dec t f x = if sub then (c02v_dec t f1 x1 + t - c02v_dec t f2 x2) % t
      else (c02v_dec t f1 x1 + c02v_dec t f2 x2) % t := by
  have htpos : 0 < t := by omega
  have hI := c02v_inv_zmod ht ht199 cf
  have hI1 := c02v_inv_zmod ht ht199 c1
  have hI2 := c02v_inv_zmod ht ht199 c2
  have hF1 := he1 ▸ (ZMod.natCast_mod (e1 * f1) t).symm
  have hF2 := he2 ▸ (ZMod.natCast_mod (e2 * f2) t).symm
  push_cast at hF1 hF2
  have hX := (ZMod.intCast_eq_intCast_iff x _ t).mpr hx
  have hd : ∀ c y, ((c02v_dec t c y : Nat) : ZMod t) = ((y : Int) : ZMod t) * ((Spec.invMod c t : Nat) : ZMod t) := by
    intro c y
    unfold c02v_dec
    rw [ZMod.natCast_mod, Nat.cast_mul, imod_cast (dvd_refl _) htpos y]
  have hdlt : c02v_dec t f2 x2 < t := Nat.mod_lt _ htpos
  have k1 : ((e1 : Nat) : ZMod t) * ((Spec.invMod f t : Nat) : ZMod t) = ((Spec.invMod f1 t : Nat) : ZMod t) := by
    linear_combination (((Spec.invMod f t : Nat) : ZMod t) * ((Spec.invMod f1 t : Nat) : ZMod t)) * hF1
      - (((e1 : Nat) : ZMod t) * ((Spec.invMod f t : Nat) : ZMod t)) * hI1 + ((Spec.invMod f1 t : Nat) : ZMod t) * hI
  have k2 : ((e2 : Nat) : ZMod t) * ((Spec.invMod f t : Nat) : ZMod t) = ((Spec.invMod f2 t : Nat) : ZMod t) := by
    linear_combination (((Spec.invMod f t : Nat) : ZMod t) * ((Spec.invMod f2 t : Nat) : ZMod t)) * hF2
      - (((e2 : Nat) : ZMod t) * ((Spec.invMod f t : Nat) : ZMod t)) * hI2 + ((Spec.invMod f2 t : Nat) : ZMod t) * hI
  have hlhs : c02v_dec t f x = c02v_dec t f x % t := (Nat.mod_eq_of_lt (Nat.mod_lt _ htpos)).symm
  cases sub
  · simp only [Bool.false_eq_true, if_false] at hX ⊢
    rw [hlhs]
    apply (ZMod.natCast_eq_natCast_iff' _ _ t).mp
    rw [Nat.cast_add, hd, hd, hd, hX]
    push_cast
    linear_combination ((x1 : Int) : ZMod t) * k1 + ((x2 : Int) : ZMod t) * k2
  · simp only [if_true] at hX ⊢
    rw [hlhs]
    apply (ZMod.natCast_eq_natCast_iff' _ _ t).mp
    rw [Nat.cast_sub (by omega), Nat.cast_add, hd, hd, hd, hX, ZMod.natCast_self]
    push_cast
    linear_combination ((x1 : Int) : ZMod t) * k1 - ((x2 : Int) : ZMod t) * k2

/-- decoding of a product: correction factors multiply, decodings multiply -/
theorem bgvDecode_mul {t f1 f2 : Nat} (ht : 2 ≤ t) (ht199 : t < 2^199)
    (c1 : Nat.Coprime f1 t) (c2 : Nat.Coprime f2 t) {x x1 x2 : Int} (hx : x ≡ x1 * x2 [ZMOD t]) :
    c02v_dec t ((f1 * f2) % t) x = (c02v_dec t f1 x1 * c02v_dec t f2 x2) % t := by
  have htpos : 0 < t := by omega
  have cf : Nat.Coprime ((f1 * f2) % t) t := c02v_coprime_mul_mod c1 c2
  have hI := c02v_inv_zmod ht ht199 cf
  have hI1 := c02v_inv_zmod ht ht199 c1
  have hI2 := c02v_inv_zmod ht ht199 c2
  rw [ZMod.natCast_mod, Nat.cast_mul] at hI
  have hX := (ZMod.intCast_eq_intCast_iff x _ t).mpr hx
  have hd : ∀ c y, ((c02v_dec t c y : Nat) : ZMod t) = ((y : Int) : ZMod t) * ((Spec.invMod c t : Nat) : ZMod t) := by
    intro c y
    unfold c02v_dec
    rw [ZMod.natCast_mod, Nat.cast_mul, imod_cast (dvd_refl _) htpos y]
  have k : ((Spec.invMod ((f1 * f2) % t) t : Nat) : ZMod t)
      = ((Spec.invMod f1 t : Nat) : ZMod t) * ((Spec.invMod f2 t : Nat) : ZMod t) := by
    linear_combination (((Spec.invMod f1 t : Nat) : ZMod t) * ((Spec.invMod f2 t : Nat) : ZMod t)) * hI
      - (((Spec.invMod ((f1 * f2) % t) t : Nat) : ZMod t) * ((f2 : Nat) : ZMod t) * ((Spec.invMod f2 t : Nat) : ZMod t)) * hI1
      - ((Spec.invMod ((f1 * f2) % t) t : Nat) : ZMod t) * hI2
  have hlhs : c02v_dec t ((f1 * f2) % t) x = c02v_dec t ((f1 * f2) % t) x % t :=
    (Nat.mod_eq_of_lt (Nat.mod_lt _ htpos)).symm
  rw [hlhs]
  apply (ZMod.natCast_eq_natCast_iff' _ _ t).mp
  rw [Nat.cast_mul, hd, hd, hd, hX, k]
  push_cast
  ring

/-- decoding, whole polynomials under `Spec.bgvDecode` -/
theorem bgvDecode_balanced_poly {t f1 f2 f e1 e2 : Nat} (ht : 2 ≤ t) (ht199 : t < 2^199)
    (c1 : Nat.Coprime f1 t) (c2 : Nat.Coprime f2 t) (cf : Nat.Coprime f t)
    (he1 : (e1 * f1) % t = f) (he2 : (e2 * f2) % t = f) (sub : Bool) {ph ph1 ph2 : Spec.ZPoly}
    (hs1 : ph1.size = ph.size) (hs2 : ph2.size = ph.size)
    (hx : ∀ j, j < ph.size → ph.getD j 0 ≡
      (if sub then (e1 : Int) * ph1.getD j 0 - e2 * ph2.getD j 0 else (e1 : Int) * ph1.getD j 0 + e2 * ph2.getD j 0) [ZMOD t]) :
    ∀ j, j < ph.size → (Spec.bgvDecode t f ph).getD j 0 =
      if sub then ((Spec.bgvDecode t f1 ph1).getD j 0 + t - (Spec.bgvDecode t f2 ph2).getD j 0) % t
      else ((Spec.bgvDecode t f1 ph1).getD j 0 + (Spec.bgvDecode t f2 ph2).getD j 0) % t := by
  intro j hj
  have hm : ∀ (c : Nat) (p : Spec.ZPoly), j < p.size → (Spec.bgvDecode t c p).getD j 0 = c02v_dec t c (p.getD j 0) := by
    intro c p hp
    rw [c02v_bgvDecode_eq]
    simp [Array.getD, hp]
  rw [hm f ph hj, hm f1 ph1 (by omega), hm f2 ph2 (by omega)]
  exact bgvDecode_balanced ht ht199 c1 c2 cf he1 he2 sub (hx j hj)

/-- the example level with the COMPOSITE plain modulus t = 4 (same N = 2, q = 17·17) -/
def c02v_exT4 : Modulus := ⟨4, (2^128 / 4) % B64, (2^128 / 4) / B64, 2^128 % 4, bitCount 4⟩
def c02v_exLevel4 : Level := { c02v_exLevel with t := c02v_exT4 }

theorem c02v_exT4_wf : c02v_exLevel4.t.WF := (Modulus.mk?_wf (v := 4) (m := c02v_exT4) rfl (by decide)).1

theorem c02v_exLevel4_qsWF : c02v_QsWF c02v_exLevel4 := c02v_exLevel_qsWF

/-- `c02v_exCt2` (correction factor 2, a NON-UNIT modulo 4 in the accepted range [1, t − 1]) is canonical at the composite level -/
theorem c02v_exCt2_canon4 : CtCanon c02v_exLevel4 c02v_exCt2 :=
  ⟨⟨c02v_exCt2_canon.two_le, c02v_exCt2_canon.le16, c02v_exCt2_canon.canon⟩, by decide, by decide⟩

/-- REMARK (validity predicate, not the arithmetic): `ctValid` / `c02v_cfOk` accept exactly the BGV correction factors 1 ≤ cf ≤ t − 1
    (the factor t itself is rejected by `is_metadata_valid_for`).  For a COMPOSITE plain modulus that range still
    contains non-units; the product of two such ciphertexts can have correction factor 0, which the same predicate rejects —
    canonicity is preserved by `bgvMultiply` for unit factors (`bgvMultiply_canon`), hence for every factor in range when t is prime.
    Witness at the composite example level (t = 4, cf = 2, 2·2 ≡ 0). -/
theorem c02v_bgvMultiply_cf_zero_witness :
    ∃ a r, CtCanon c02v_exLevel4 a ∧ bgvMultiply c02v_exLevel4 a c02v_exCt2 = .ok r ∧ r.cf = 0 := by
  have ha : CtCanon c02v_exLevel4 c02v_exCt2 := c02v_exCt2_canon4
  obtain ⟨c, hc, _⟩ := ctMultiplyDyadic_spec c02v_exLevel4_qsWF ha ha rfl rfl (by decide)
  refine ⟨_, _, ha, bgvMultiply_spec c02v_exT4_wf hc (by decide) (by decide), ?_⟩
  show (2 * 2) % 4 = 0
  rfl

/-! ### what the validator establishes; one slot; the hypotheses on the example level -/

/-- `CtCanon` is what the model's validator `ctValid` (`Ciphertext::is_valid_for`) establishes for a non-empty ciphertext -/
theorem CtCanon.of_ctValid {l : Level} {ct : Ct} {s1 s2 : Bool} (h : ctValid l ct s1 s2 = true)
    (h0 : ct.polys.size ≠ 0) : CtCanon l ct := by
  unfold ctValid at h
  simp only [Bool.and_eq_true, decide_eq_true_eq, Array.all_eq_true, List.all_eq_true, List.mem_range] at h
  obtain ⟨⟨⟨hsz, hshape⟩, _⟩, hcf⟩ := h
  refine ⟨⟨by omega, by omega, fun k hk => ?_⟩, ?_⟩
  · obtain ⟨h1, h2⟩ := hshape k hk
    have e : ct.polys.getD k #[] = ct.polys[k] := by simp [Array.getD, hk]
    rw [e]
    refine ⟨h1, fun i hi => ⟨(h2 i hi).1, fun j hj => ?_⟩⟩
    have hj' : j < (Array.getD ct.polys[k] i #[]).size := by rw [(h2 i hi).1]; exact hj
    have key : ∀ (arr : Array Nat) (j : Nat) (hj' : j < arr.size), arr[j] < (l.q i).value → arr.getD j 0 < (l.q i).value := by
      intro arr j hj' h; simpa [Array.getD, hj'] using h
    exact key _ j hj' ((h2 i hi).2 j hj')
  · unfold c02v_cfOk
    cases hs : l.scheme <;> rw [hs] at hcf <;> simpa using hcf

/-- moduli produced by the model's constructor `Modulus.mk?` are well formed -/
theorem c02v_qsWF_of_mk {l : Level} (h : ∀ i, i < l.size → ∃ v, v ≠ 0 ∧ Modulus.mk? v = .ok (l.q i)) : c02v_QsWF l :=
  fun i hi => let ⟨_, hv, hm⟩ := h i hi; (Modulus.mk?_wf hm hv).1

/-- one NTT slot, in `ZMod q_i` (the reading `e = δ_j`; `q_i = 0` holds by `ZMod.natCast_self`): the slot-wise phase of the
    dyadic product is the product of the slot-wise phases, for every value `s` of the secret in that slot -/
theorem ctMultiplyDyadic_slot {l : Level} (hq : c02v_QsWF l) {a b r : Ct} (ha : CtCanon l a) (hb : CtCanon l b)
    (hr : ctMultiplyDyadic l a b = .ok r) {i : Nat} (hi : i < l.size) {j : Nat} (hj : j < l.n) (s : ZMod (l.q i).value) :
    ctPhase r.polys.size (fun k => ((r.c02v_res k i j : Nat) : ZMod (l.q i).value)) s
      = ctPhase a.polys.size (fun k => ((a.c02v_res k i j : Nat) : ZMod (l.q i).value)) s
        * ctPhase b.polys.size (fun k => ((b.c02v_res k i j : Nat) : ZMod (l.q i).value)) s := by
  have := ctMultiplyDyadic_phase hq ha hb hr hi (ZMod.natCast_self _) (c02v_delta j) (c02v_delta_orth j l.n) s
  rwa [c02v_phase_delta l r i hj, c02v_phase_delta l a i hj, c02v_phase_delta l b i hj] at this

/-- the hypotheses are jointly satisfiable (non-trivial instance: 2 moduli, N = 2, size 3, BGV factors 3 and 3 resp. 3 and 2) -/
example : ∃ r, ctNegate c02v_exLevel c02v_exCt = .ok r ∧ CtCanon c02v_exLevel r :=
  let ⟨r, h, c, _⟩ := ctNegate_spec c02v_exLevel_qsWF c02v_exCt_canon
  ⟨r, h, c⟩

example : ∃ r, ctMultiplyDyadic c02v_exLevel c02v_exCt c02v_exCt = .ok r ∧ r.polys.size = 5 :=
  let ⟨r, h, sz, _⟩ := ctMultiplyDyadic_spec c02v_exLevel_qsWF c02v_exCt_canon c02v_exCt_canon rfl rfl (by decide)
  ⟨r, h, sz⟩

example : ∃ r, ctTranslateBalanced c02v_exLevel c02v_exCt c02v_exCt2 true = .ok r :=
  ctTranslateBalanced_total c02v_exLevel_qsWF c02v_exT_wf c02v_exCt_canon c02v_exCt2_canon true rfl
    (by decide) (by decide) (by decide)

/-! ## readings in the ring Z_q[X]/(X^N+1): NTT slot `j` is read as the coefficient form of the j-th unit vector (`c02v_slot`), position `j`
     of a coefficient-form vector as the monomial of degree `j` (`c02v_mono`).  With them the `_phase` theorems above are statements about
     the ring phase Σ_k c_k s^k of the coefficient forms. -/

section slot
variable {t : NTTTables} {q N : Nat}

theorem c02v_evR_inj (hw : t.WF) {a b : c03k_NP (ZMod t.modulus.value) (2^t.k)} (h : ∀ i, i < 2^t.k → evR hw a i = evR hw b i) :
    a = b := by
  have : NeZero t.modulus.value := ⟨(hw.mwf.pos).ne'⟩
  have hz : (((List.range (2^t.k)).map fun i => (evR hw a i).val).toArray).size = 2^t.k ∧ ∀ j, j < 2^t.k →
      (((List.range (2^t.k)).map fun i => (evR hw a i).val).toArray).getD j 0 < t.modulus.value :=
    ⟨by simp, fun j hj => by rw [array_getD_range_map _ 0 hj]; exact ZMod.val_lt _⟩
  rw [← intt_toNP_unique hw hz a (fun i hi => by rw [array_getD_range_map _ 0 hi, ZMod.natCast_zmod_val]),
    ← intt_toNP_unique hw hz b (fun i hi => by rw [array_getD_range_map _ 0 hi, ZMod.natCast_zmod_val, h i hi])]

theorem c02v_natCast_self (q n : Nat) : ((q : Nat) : c03k_NP (ZMod q) n) = 0 := by
  rw [← nsmul_one]
  refine c03k_np_ext fun i _ => ?_
  rw [show (q • (1 : c03k_NP (ZMod q) n)).co i = q • (1 : c03k_NP (ZMod q) n).co i from map_nsmul (c03k_coHom n i) q 1,
    nsmul_eq_mul, ZMod.natCast_self, zero_mul]
  rfl

def c02v_unit (n j : Nat) : Array Nat := ((List.range n).map fun i => if i = j then 1 else 0).toArray

theorem c02v_unit_canon (hw : t.WF) (j : Nat) :
    (c02v_unit (2^t.k) j).size = 2^t.k ∧ ∀ i, i < 2^t.k → (c02v_unit (2^t.k) j).getD i 0 < t.modulus.value := by
  have := hw.mwf.two_le
  refine ⟨by simp [c02v_unit], fun i hi => ?_⟩
  rw [c02v_unit, array_getD_range_map _ 0 hi]
  split <;> omega

def c02v_slot (t : NTTTables) (q N j : Nat) : c03k_NP (ZMod q) N := c03k_toNP N (c07s_vecN q (intt t (c02v_unit N j)))

theorem c02v_evR_slot (hw : t.WF) {j i : Nat} (hi : i < 2^t.k) :
    evR hw (c02v_slot t t.modulus.value (2^t.k) j) i = if i = j then 1 else 0 := by
  unfold c02v_slot
  rw [evR_intt hw (c02v_unit_canon hw j) hi, c02v_unit, array_getD_range_map _ 0 hi]
  split <;> simp

theorem c02v_polyVal_slot (hw : t.WF) (hq : t.modulus.value = q) (hN : 2^t.k = N) {p : Array Nat}
    (hp : p.size = N ∧ ∀ j, j < N → p.getD j 0 < q) :
    c02v_polyVal (c02v_slot t q N) N p = c03k_toNP N (c07s_vecN q (intt t p)) := by
  subst hq hN
  refine (intt_toNP_unique hw hp _ fun i hi => ?_).symm
  unfold c02v_polyVal
  show _ = ((Pi.evalRingHom (fun _ : Nat => ZMod t.modulus.value) i).comp (evR hw)) _
  rw [map_sum, Finset.sum_eq_single_of_mem i (mem_range.mpr hi) (fun j _ hj => by
    rw [map_mul]
    show _ * evR hw (c02v_slot t _ _ j) i = 0
    rw [c02v_evR_slot hw hi, if_neg (Ne.symm hj), mul_zero]), map_mul, map_natCast]
  show _ = _ * evR hw (c02v_slot t _ _ i) i
  rw [c02v_evR_slot hw hi, if_pos rfl, mul_one]

/-- the slot readings are orthogonal idempotents: the transform is injective -/
theorem c02v_slot_orth (hw : t.WF) (hq : t.modulus.value = q) (hN : 2^t.k = N) : ∀ j j', j < N → j' < N →
    c02v_slot t q N j * c02v_slot t q N j' = if j = j' then c02v_slot t q N j else 0 := by
  subst hq hN
  intro j j' _ _
  refine c02v_evR_inj hw fun i hi => ?_
  have e : evR hw (c02v_slot t _ _ j * c02v_slot t _ _ j') i = evR hw (c02v_slot t _ _ j) i * evR hw (c02v_slot t _ _ j') i := by
    rw [map_mul]; rfl
  rw [e, c02v_evR_slot hw hi, c02v_evR_slot hw hi]
  by_cases hjj : j = j'
  · subst hjj
    rw [if_pos rfl, c02v_evR_slot hw hi]
    split <;> simp
  · rw [if_neg hjj, map_zero]
    by_cases h1 : i = j
    · rw [if_pos h1, if_neg (fun h2 => hjj (h1.symm.trans h2)), mul_zero]; rfl
    · rw [if_neg h1, zero_mul]; rfl

theorem c02v_phase_slot {l : Level} (hl : l.WF) {ct : Ct} (hc : c05u_CtCanon l ct)
    {m : Nat} (hm : m < l.size) (s : c03k_NP (ZMod (l.q m).value) l.n) :
    c02v_phase l ct m (c02v_slot (l.tbl m) (l.q m).value l.n) s
      = ctPhase ct.polys.size
          (fun k => c03k_toNP l.n (c07s_vecN (l.q m).value (intt (l.tbl m) ((ct.polys.getD k #[]).getD m #[])))) s := by
  obtain ⟨htw, htm, htn, _⟩ := c01o_level_comp hl hm
  unfold c02v_phase
  exact Finset.sum_congr rfl fun k hk => congrArg (· * s ^ k)
    (c02v_polyVal_slot htw (by rw [htm]) htn ((hc k (Finset.mem_range.mp hk)).2 m hm))

/-- the coefficient reading: position `j` of a coefficient-form vector is read as the monomial of degree `j` -/
def c02v_mono (q N j : Nat) : c03k_NP (ZMod q) N := c03k_toNP N (fun i => if i = j then 1 else 0)

theorem c02v_polyVal_mono (q N : Nat) (p : Array Nat) :
    c02v_polyVal (c02v_mono q N) N p = c03k_toNP N (c07s_vecN q p) := by
  refine c03k_np_ext fun c hc => ?_
  unfold c02v_polyVal
  rw [show (∑ j ∈ range N, ((p.getD j 0 : Nat) : c03k_NP (ZMod q) N) * c02v_mono q N j).co c
      = ∑ j ∈ range N, (((p.getD j 0 : Nat) : c03k_NP (ZMod q) N) * c02v_mono q N j).co c from map_sum (c03k_coHom N c) _ _,
    Finset.sum_eq_single_of_mem c (mem_range.mpr hc) (fun j _ hj => by
      rw [← nsmul_eq_mul, show ((p.getD j 0) • c02v_mono q N j).co c = (p.getD j 0) • (c02v_mono q N j).co c from
        map_nsmul (c03k_coHom N c) _ _, c02v_mono, c03k_toNP_co _ hc, if_neg (Ne.symm hj), smul_zero]),
    ← nsmul_eq_mul, show ((p.getD c 0) • c02v_mono q N c).co c = (p.getD c 0) • (c02v_mono q N c).co c from
      map_nsmul (c03k_coHom N c) _ _, c02v_mono, c03k_toNP_co _ hc, if_pos rfl, c03k_toNP_co _ hc, nsmul_eq_mul, mul_one]
  rfl

theorem c02v_phase_mono (l : Level) (ct : Ct) (m : Nat) (s : c03k_NP (ZMod (l.q m).value) l.n) :
    c02v_phase l ct m (c02v_mono (l.q m).value l.n) s
      = ctPhase ct.polys.size (fun k => c03k_toNP l.n (c07s_vecN (l.q m).value ((ct.polys.getD k #[]).getD m #[]))) s := by
  unfold c02v_phase
  exact Finset.sum_congr rfl fun k _ => congrArg (· * s ^ k) (c02v_polyVal_mono _ _ _)

end slot

end HC
