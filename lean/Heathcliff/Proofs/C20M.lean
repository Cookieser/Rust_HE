/-
  C20M: `MatmulBoltCp` end to end over the model (`Model/Matmul.lean`): for every helper the model's constructor accepts,
  encode inputs → encode weights → baby-step / giant-step rotate-multiply-accumulate schedule → decode  =  x·w  (any commutative ring).

  The input is rotated by `ir < irc` columns (baby steps, C20K), multiplied with the weight polynomial of class (`ir`, `or`), whose
  column `k` is encoded with the matrix column `boltShift half k (or·irc + ir)`, and the class sums are rotated by `or·irc`
  columns (giant steps).  The giant-step loop runs downwards and keeps two accumulators, since the classes `or ≥ orc/2` cross the
  row boundary and are set aside with their rows exchanged: its invariant `c20_TailInv` states both as sums of the class vectors
  read through iterates of the slot map `c20_rho`.  Column by column the two shifts compose to `boltShift half k (or·irc + ir)`
  (`c20_cp_connect_lo` / `_hi`), and over all classes this index runs through every column once (`c20_bolt_bsgs_sum`): the slot holds
  the dot product.
-/
import Heathcliff.Proofs.C20K
import Heathcliff.Proofs.C20L
namespace HC
open Finset HC.MM

variable {S : Type}

/-! ### the accepted helpers -/

/-- the arithmetic facts about a helper `BoltCp.new` accepts (`c20_boltCpNew_ok`, for `N` a power of two below `2^64`): the `N` slots
    are `s = 2·half` columns of `gap` entries, the rotations split as `s = irc·orc` with `orc = 2·h2` even, the block side `m` is
    positive and fits into a column, and the matrix is not empty.  `half` and `h2` are parameters and not fields so that statements
    can mention them. -/
structure c20_CpOK (h : BoltCp) (half h2 : Nat) : Prop where
  hN : h.N = h.s * h.gap
  hs : h.s = 2 * half
  hio : h.irc * h.orc = h.s
  ho : h.orc = 2 * h2
  hh2 : 0 < h2
  hirc : 0 < h.irc
  hm0 : 0 < h.m
  hmg : h.m ≤ h.gap
  hr : 0 < h.r
  hn : 0 < h.n

theorem c20_CpOK.half_eq {h : BoltCp} {half h2 : Nat} (ok : c20_CpOK h half h2) : half = h.irc * h2 := by
  have h1 := ok.hio
  rw [ok.ho, ok.hs] at h1
  have : 2 * (h.irc * h2) = 2 * half := by rw [← h1]; ring
  omega

theorem c20_CpOK.half_pos {h : BoltCp} {half h2 : Nat} (ok : c20_CpOK h half h2) : 0 < half := by
  rw [ok.half_eq]; exact Nat.mul_pos ok.hirc ok.hh2

theorem c20_CpOK.gap_pos {h : BoltCp} {half h2 : Nat} (ok : c20_CpOK h half h2) : 0 < h.gap :=
  lt_of_lt_of_le ok.hm0 ok.hmg

theorem c20_CpOK.hN2 {h : BoltCp} {half h2 : Nat} (ok : c20_CpOK h half h2) : h.N = 2 * (half * h.gap) := by
  rw [ok.hN, ok.hs, Nat.mul_assoc]

theorem c20_boltCpSplit_go_spec (s ic oc : Nat) : ∀ f c bi best, (∃ b, bi = 2^b ∧ 2^b < s) →
    ∃ b, boltCpSplit.go s ic oc f (2^c) bi best = 2^b ∧ 2^b < s
  | 0, _, _, _, h => h
  | f+1, c, bi, best, h => by
    unfold boltCpSplit.go
    split
    · rename_i hlt
      have e : 2 * 2^c = 2^(c+1) := by rw [Nat.pow_succ, Nat.mul_comm]
      dsimp only
      split
      · rw [e]; exact c20_boltCpSplit_go_spec s ic oc f (c+1) _ _ ⟨c, rfl, hlt⟩
      · rw [e]; exact c20_boltCpSplit_go_spec s ic oc f (c+1) _ _ h
    · exact h

theorem c20_boltCpSplit_spec (s ic oc : Nat) (hs : 2 ≤ s) : ∃ b, boltCpSplit s ic oc = 2^b ∧ 2^b < s :=
  c20_boltCpSplit_go_spec s ic oc 64 0 1 usizeMax ⟨0, rfl, by omega⟩

/-- **`MatmulBoltCp::new`**: every helper the constructor accepts for a power-of-two `N` in the `usize` range satisfies `c20_CpOK` -/
theorem c20_boltCpNew_ok {m r n N : Nat} {h : BoltCp} (hnew : BoltCp.new m r n N = .ok h) (hpow : ∃ e, N = 2^e) (hN64 : N < 2^64) :
    h.N = N ∧ h.mAll = m ∧ h.m = min m (N / 2) ∧ h.r = r ∧ h.n = n ∧ ∃ half h2, c20_CpOK h half h2 := by
  obtain ⟨e, rfl⟩ := hpow
  unfold BoltCp.new at hnew
  obtain ⟨a, ha, hale, _⟩ := c20_ceilTwoPower_least (min m (2^e / 2))
  simp only [ha] at hnew
  split at hnew
  · cases hnew
  rename_i hc
  have hc' : min m (2^e / 2) ≠ 0 ∧ r ≠ 0 ∧ n ≠ 0 ∧ 2 ≤ 2^e / 2^a := by
    refine ⟨fun h => hc (Or.inl h), fun h => hc (Or.inr (Or.inl h)), fun h => hc (Or.inr (Or.inr (Or.inl h))), ?_⟩
    by_contra h; exact hc (Or.inr (Or.inr (Or.inr (Nat.lt_of_not_le h))))
  obtain ⟨hmr, hr, hn, hs2⟩ := hc'
  have hae : a < e := by
    by_contra hge
    have h1 : 2^e / 2^a ≤ 2^a / 2^a := Nat.div_le_div_right (Nat.pow_le_pow_right (by decide) (Nat.le_of_not_lt hge))
    rw [Nat.div_self (Nat.two_pow_pos a)] at h1
    exact absurd (le_trans hs2 h1) (by decide)
  have hs : 2^e / 2^a = 2^(e - a) := Nat.pow_div hae.le (by decide)
  rw [hs] at hnew hs2
  obtain ⟨b, hb, hblt⟩ := c20_boltCpSplit_spec (2^(e-a)) (ceilDiv r (2^(e-a))) (ceilDiv n (2^(e-a))) hs2
  simp only [hb] at hnew
  split at hnew
  · cases hnew
  cases hnew
  have hbe : b < e - a := (Nat.pow_lt_pow_iff_right (by decide)).mp hblt
  have ho : 2^(e-a) / 2^b = 2^(e-a-b) := Nat.pow_div hbe.le (by decide)
  refine ⟨rfl, rfl, rfl, rfl, rfl, 2^(e-a-1), 2^(e-a-b-1), ?_⟩
  have hmle : min m (2^e / 2) ≤ 2^a := hale (le_trans (Nat.min_le_right _ _) (le_trans (Nat.div_le_self _ _) hN64.le))
  exact {
    hN := by show 2^e = 2^(e-a) * 2^a; rw [← Nat.pow_add, Nat.sub_add_cancel hae.le]
    hs := by show 2^(e-a) = 2 * 2^(e-a-1); rw [← Nat.pow_add_one', Nat.sub_add_cancel (Nat.sub_pos_of_lt hae)]
    hio := by show 2^b * (2^(e-a) / 2^b) = 2^(e-a); rw [ho, ← Nat.pow_add, Nat.add_sub_of_le hbe.le]
    ho := by show 2^(e-a) / 2^b = 2 * 2^(e-a-b-1); rw [ho, ← Nat.pow_add_one', Nat.sub_add_cancel (Nat.sub_pos_of_lt hbe)]
    hh2 := Nat.two_pow_pos _
    hirc := Nat.two_pow_pos _
    hm0 := Nat.pos_of_ne_zero hmr
    hmg := hmle
    hr := Nat.pos_of_ne_zero hr
    hn := Nat.pos_of_ne_zero hn }

/-! ### the encoders -/

/-- one weight polynomial (rotation class `ir`, `or`; output polynomial `i`, input polynomial `j`) as a function of (column, entry):
    the column `boltShift half k corr` holds `b[j·s + boltShift half k rot][i·s + k]` in every entry -/
theorem c20_boltCpEncW_spec (z : S) (h : BoltCp) {half h2 : Nat} (ok : c20_CpOK h half h2) (b : Nat → S) (ir or i j : Nat) :
    ∃ arr, boltCpEncW h z b ir or i j = .ok arr ∧ arr.size = h.N ∧
      ∀ k t, k < h.s → t < h.gap → arr.getD (boltShift half k (or * h.irc % h.s) * h.gap + t) z =
        if j * h.s + boltShift half k (or * h.irc + ir) < h.r ∧ i * h.s + k < h.n
        then b ((j * h.s + boltShift half k (or * h.irc + ir)) * h.n + (i * h.s + k)) else z := by
  have hh := ok.half_pos
  have hs2 : h.s / 2 = half := by rw [ok.hs, Nat.mul_div_cancel_left _ (by decide : 0 < 2)]
  obtain ⟨arr, hok, hsz, hv, _⟩ := c20_scatter_cols z h.N h.gap h.s h.gap h.s
    (fun kt => j * h.s + boltShift half kt.1 (or * h.irc + ir) < h.r ∧ i * h.s + kt.1 < h.n)
    (fun k => boltShift half k (or * h.irc % h.s))
    (fun kt => b ((j * h.s + boltShift half kt.1 (or * h.irc + ir)) * h.n + (i * h.s + kt.1)))
    (fun k _ => by rw [ok.hs]; exact c20_boltShift_lt half k _ hh)
    (fun k k' hk hk' e => c20_boltShift_inj hh (ok.hs ▸ hk) (ok.hs ▸ hk') e) (le_refl _) (le_of_eq ok.hN.symm)
  refine ⟨arr, by unfold boltCpEncW; simp only [hs2]; exact hok, hsz, fun k t hk ht => ?_⟩
  rw [hv k t hk ht]
  simp only [ht, true_and, decide_eq_true_eq]

/-- the weight polynomial of rotation class (`ir`, `or`), output polynomial `i`, input polynomial `j` -/
def c20_cpW (z : S) (h : BoltCp) (w : Nat → S) (ir or i j : Nat) : Array S := c20_val #[] (boltCpEncW h z w ir or i j)

theorem c20_boltCpEncodeWeights_ok (z : S) (h : BoltCp) {half h2 : Nat} (ok : c20_CpOK h half h2) (w : Nat → S) :
    boltCpEncodeWeights h z w (h.r * h.n)
      = .ok ((pairs h.irc h.orc).map fun io => (pairs (ceilDiv h.n h.s) (ceilDiv h.r h.s)).map fun ij =>
          c20_cpW z h w io.1 io.2 ij.1 ij.2) := by
  unfold boltCpEncodeWeights
  rw [if_neg (by simp)]
  apply R.mapM_ok
  intro io _
  apply R.mapM_ok
  intro ij _
  obtain ⟨arr, hok, _⟩ := c20_boltCpEncW_spec z h ok w io.1 io.2 ij.1 ij.2
  exact c20_val_ok #[] hok

theorem c20_cpW_get (z : S) (h : BoltCp) {half h2 : Nat} (ok : c20_CpOK h half h2) (w : Nat → S) (ir i j : Nat) {or k t : Nat}
    (hor : or < h.orc) (hk : k < h.s) (ht : t < h.gap) :
    (c20_cpW z h w ir or i j).size = h.N ∧
    (c20_cpW z h w ir or i j).getD (boltShift half k (or * h.irc) * h.gap + t) z =
      if j * h.s + boltShift half k (or * h.irc + ir) < h.r ∧ i * h.s + k < h.n
      then w ((j * h.s + boltShift half k (or * h.irc + ir)) * h.n + (i * h.s + k)) else z := by
  obtain ⟨arr, hok, hsz, hget⟩ := c20_boltCpEncW_spec z h ok w ir or i j
  have e : c20_cpW z h w ir or i j = arr := c20_val_eq #[] hok
  have hlt : or * h.irc < h.s := by
    have := grid_succ_le (B := h.irc) hor
    have := ok.hio
    have := ok.hirc
    rw [Nat.mul_comm h.irc] at *
    omega
  have := hget k t hk ht
  rw [Nat.mod_eq_of_lt hlt] at this
  rw [e]
  exact ⟨hsz, this⟩

theorem c20_boltCpEncodeInputs_ok (z : S) (h : BoltCp) {half h2 : Nat} (ok : c20_CpOK h half h2) (x : Nat → S) :
    boltCpEncodeInputs h z x (h.mAll * h.r)
      = .ok ((List.range (ceilDiv h.mAll h.m)).map fun p => (List.range (ceilDiv h.r h.s)).map fun i =>
          c20_colMajorArr z h.N h.gap h.s h.m h.mAll h.r x p i) := by
  unfold boltCpEncodeInputs
  rw [if_neg (by simp)]
  exact c20_boltRowParts_ok z h.N h.gap h.s h.m h.mAll h.r x ok.hN ok.hmg

/-! ### the giant-step tail -/

/-- one iteration of the giant-step loop (`for (i, outputs_partial) in outputs.into_iter().enumerate().rev()`), as a pure function:
    the model's step is this function followed by `pure` in every branch (first step of `c20_cpMulPart_spec`) -/
def c20_cpTailStep [Add S] [Zero S] (h : BoltCp) (outs : List (Option (Array S))) (st : Option (Array S) × Option (Array S))
    (or : Nat) : Option (Array S) × Option (Array S) :=
  let sum := match st.1 with
    | some v => if h.irc * h.gap < h.N / 2 then some (rotRows 0 h.N (h.irc * h.gap) v) else some v
    | none => none
  let sum := match outs.getD or none with
    | some p => accAdd (· + ·) 0 h.N sum p
    | none => sum
  if or = h.orc / 2 then
    match sum with
    | some v => (none, some (swapRows 0 h.N v))
    | none => (sum, st.2)
  else (sum, st.2)

/-- the invariant of the giant-step loop after the classes `q ≤ or < orc` have been processed (`H` slots per row, `ρ` the slot map
    of the rotation by `irc` columns, `σ` of the row exchange, `O or` the slot view of class `or`) -/
structure c20_TailInv [AddCommMonoid S] (h : BoltCp) (H h2 : Nat) (O : Nat → Nat → S) (q : Nat)
    (st : Option (Array S) × Option (Array S)) : Prop where
  wf1 : c20_accSized h.N st.1
  wf2 : c20_accSized h.N st.2
  hf_some : q ≤ h2 → st.2 ≠ none
  sm_val : ∀ p, p < h.N → c20_accGet st.1 p
      = ∑ or ∈ Ico q (if h2 < q then h.orc else h2), O or ((c20_rho H (h.irc * h.gap))^[or - q] p)
  hf_val : q ≤ h2 → ∀ p, p < h.N → c20_accGet st.2 p
      = ∑ or ∈ Ico h2 h.orc, O or ((c20_rho H (h.irc * h.gap))^[or - h2] (c20_sigma H p))

theorem c20_cpTailStep_inv [AddCommMonoid S] (h : BoltCp) {half h2 : Nat} (ok : c20_CpOK h half h2)
    (outs : List (Option (Array S))) (O : Nat → Nat → S)
    (houts : ∀ or, or < h.orc → ∃ v, outs.getD or none = some v ∧ v.size = h.N ∧ ∀ p, p < h.N → v.getD p 0 = O or p)
    (q : Nat) (hq : q < h.orc) (st : Option (Array S) × Option (Array S))
    (inv : c20_TailInv h (half * h.gap) h2 O (q + 1) st) :
    c20_TailInv h (half * h.gap) h2 O q (c20_cpTailStep h outs st q) := by
  have hH : 0 < half * h.gap := Nat.mul_pos ok.half_pos ok.gap_pos
  have hN2 := ok.hN2
  have hNdiv : h.N / 2 = half * h.gap := by rw [hN2, Nat.mul_div_cancel_left _ (by decide : 0 < 2)]
  have ho2 : h.orc / 2 = h2 := by rw [ok.ho, Nat.mul_div_cancel_left _ (by decide : 0 < 2)]
  obtain ⟨v, hv, hvs, hvg⟩ := houts q hq
  obtain ⟨sum1, hsum1, hs1wf, hs1v⟩ : ∃ sum1 : Option (Array S),
      (match st.1 with
        | some v => if h.irc * h.gap < h.N / 2 then some (rotRows 0 h.N (h.irc * h.gap) v) else some v
        | none => none) = sum1 ∧ c20_accSized h.N sum1 ∧
      ∀ p, p < h.N → c20_accGet sum1 p = c20_accGet st.1 (c20_rho (half * h.gap) (h.irc * h.gap) p) := by
    cases hst : st.1 with
    | none => exact ⟨none, rfl, c20_accSized_none _, fun p _ => rfl⟩
    | some u =>
      have hu : u.size = h.N := inv.wf1 u hst
      by_cases hc : h.irc * h.gap < h.N / 2
      · refine ⟨some (rotRows 0 h.N (h.irc * h.gap) u), by simp only [hc, if_true], ?_, ?_⟩
        · intro w hw; cases hw; exact c20_rotRows_size _ _ _ _
        · intro p hp
          show (rotRows 0 h.N (h.irc * h.gap) u).getD p 0 = u.getD _ 0
          rw [hN2] at hp ⊢
          exact c20_rotRows_get 0 _ _ u hp
      · refine ⟨some u, by simp only [hc, if_false], fun w hw => by cases hw; exact hu, ?_⟩
        intro p hp
        -- no rotation is made when `irc` columns are a whole row: the rotation is the identity
        have hirc : h.irc * h.gap = half * h.gap := by
          have h1 : h.irc ≤ half := by rw [ok.half_eq]; exact Nat.le_mul_of_pos_right _ ok.hh2
          exact le_antisymm (Nat.mul_le_mul_right h.gap h1) (hNdiv ▸ Nat.le_of_not_lt hc)
        show u.getD p 0 = u.getD (c20_rho (half * h.gap) (h.irc * h.gap) p) 0
        congr 1
        unfold c20_rho
        rw [hirc, Nat.add_mod_right, Nat.mod_mod, Nat.div_add_mod']
  have hsum2n : accAdd (· + ·) 0 h.N sum1 v ≠ none := c20_accAdd_ne_none _ _ _ _
  have hsum2wf : c20_accSized h.N (accAdd (· + ·) 0 h.N sum1 v) := c20_accAdd_sized _ _ _ _ hvs
  have hsum2v : ∀ p, p < h.N → c20_accGet (accAdd (· + ·) 0 h.N sum1 v) p
      = c20_accGet st.1 (c20_rho (half * h.gap) (h.irc * h.gap) p) + O q p := by
    intro p hp
    rw [c20_accAdd_get _ _ _ hp, hs1v p hp, hvg p hp]
  have hrho : ∀ p, p < h.N → c20_rho (half * h.gap) (h.irc * h.gap) p < h.N := by
    intro p hp; rw [hN2] at hp ⊢; exact c20_rho_lt hH hp
  have hsumstep : ∀ T, q < T → (T = if h2 < q + 1 then h.orc else h2) → ∀ p, p < h.N →
      c20_accGet st.1 (c20_rho (half * h.gap) (h.irc * h.gap) p) + O q p
        = ∑ or ∈ Ico q T, O or ((c20_rho (half * h.gap) (h.irc * h.gap))^[or - q] p) := by
    intro T hqT hT p hp
    rw [inv.sm_val _ (hrho p hp), ← hT, Finset.sum_eq_sum_Ico_succ_bot hqT, Nat.sub_self, Function.iterate_zero, id, add_comm]
    refine congrArg₂ (· + ·) rfl ?_
    apply Finset.sum_congr rfl
    intro or hor
    have := (Finset.mem_Ico.mp hor).1
    rw [← Function.iterate_succ_apply, Nat.sub_add_eq, Nat.succ_eq_add_one, Nat.sub_add_cancel (Nat.sub_pos_of_lt this)]
  unfold c20_cpTailStep
  simp only [hsum1, hv, ho2]
  by_cases hqh : q = h2
  · rw [if_pos hqh]
    obtain ⟨u, hu⟩ := Option.ne_none_iff_exists'.mp hsum2n
    simp only [hu]
    have huv : ∀ p, p < h.N → u.getD p 0 = c20_accGet st.1 (c20_rho (half * h.gap) (h.irc * h.gap) p) + O q p := by
      intro p hp; have := hsum2v p hp; rw [hu] at this; exact this
    exact {
      wf1 := c20_accSized_none _
      wf2 := by intro w hw; cases hw; exact c20_swapRows_size _ _ _
      hf_some := by intro _; simp
      sm_val := by
        intro p _
        rw [if_neg (by omega), hqh, Finset.Ico_self, Finset.sum_empty]; rfl
      hf_val := by
        intro _ p hp
        have hsg : c20_sigma (half * h.gap) p < h.N := by rw [hN2]; exact c20_sigma_lt hH
        show (swapRows 0 h.N u).getD p 0 = _
        rw [hN2] at hp
        have e := c20_swapRows_get (0 : S) (half * h.gap) u hp
        rw [← hN2] at e
        rw [e, huv _ hsg, hsumstep h.orc hq (by rw [if_pos (by omega)]) _ hsg, hqh] }
  · rw [if_neg hqh]
    have hT : q < (if h2 < q then h.orc else h2) := by
      split
      · exact hq
      · omega
    have hTeq : (if h2 < q then h.orc else h2) = if h2 < q + 1 then h.orc else h2 := by
      by_cases hlt : h2 < q
      · rw [if_pos hlt, if_pos (by omega)]
      · rw [if_neg hlt, if_neg (by omega)]
    exact {
      wf1 := hsum2wf
      wf2 := inv.wf2
      hf_some := fun hle => inv.hf_some (by omega)
      sm_val := by
        intro p hp
        show c20_accGet (accAdd (· + ·) 0 h.N sum1 v) p = _
        rw [hsum2v p hp, hsumstep _ hT hTeq p hp]
      hf_val := fun hle => inv.hf_val (by omega) }

/-- **the giant-step tail**: the loop over the classes from the last one down (never fails on `orc ≥ 2` classes that are all present)
    returns `Σ_{or < orc/2} O_or ∘ ρ^or  +  Σ_{orc/2 ≤ or < orc} O_or ∘ ρ^(or − orc/2) ∘ σ` -/
theorem c20_cpTail_spec [AddCommMonoid S] (h : BoltCp) {half h2 : Nat} (ok : c20_CpOK h half h2)
    (outs : List (Option (Array S))) (O : Nat → Nat → S)
    (houts : ∀ or, or < h.orc → ∃ v, outs.getD or none = some v ∧ v.size = h.N ∧ ∀ p, p < h.N → v.getD p 0 = O or p) :
    ∃ (hv fin : Array S),
      ((List.range h.orc).reverse.foldl (c20_cpTailStep h outs) (none, none)).2 = some hv ∧
      accAdd (· + ·) 0 h.N ((List.range h.orc).reverse.foldl (c20_cpTailStep h outs) (none, none)).1 hv = some fin ∧
      fin.size = h.N ∧
      ∀ p, p < h.N → fin.getD p 0
        = ∑ or ∈ range h2, O or ((c20_rho (half * h.gap) (h.irc * h.gap))^[or] p)
          + ∑ or ∈ Ico h2 h.orc, O or ((c20_rho (half * h.gap) (h.irc * h.gap))^[or - h2] (c20_sigma (half * h.gap) p)) := by
  have key : ∀ q, q ≤ h.orc → ∀ st, c20_TailInv h (half * h.gap) h2 O q st →
      c20_TailInv h (half * h.gap) h2 O 0 ((List.range q).reverse.foldl (c20_cpTailStep h outs) st) := by
    intro q
    induction q with
    | zero => intro _ st inv; exact inv
    | succ q ih =>
      intro hq st inv
      rw [List.range_succ, List.reverse_append, List.reverse_singleton, List.singleton_append, List.foldl_cons]
      exact ih (by omega) _ (c20_cpTailStep_inv h ok outs O houts q (by omega) st inv)
  have h2lt : h2 < h.orc := by have := ok.ho; have := ok.hh2; omega
  have inv0 : c20_TailInv h (half * h.gap) h2 O h.orc ((none, none) : Option (Array S) × Option (Array S)) := {
    wf1 := c20_accSized_none _
    wf2 := c20_accSized_none _
    hf_some := fun hle => by omega
    sm_val := by
      intro p _
      rw [if_pos h2lt, Finset.Ico_self, Finset.sum_empty]; rfl
    hf_val := fun hle => by omega }
  have inv := key h.orc (le_refl _) _ inv0
  generalize (List.range h.orc).reverse.foldl (c20_cpTailStep h outs) (none, none) = st at inv
  obtain ⟨hv, hhv⟩ := Option.ne_none_iff_exists'.mp (inv.hf_some (Nat.zero_le _))
  have hne : accAdd (· + ·) 0 h.N st.1 hv ≠ none := c20_accAdd_ne_none _ _ _ _
  obtain ⟨fin, hfin⟩ := Option.ne_none_iff_exists'.mp hne
  refine ⟨hv, fin, hhv, hfin, c20_accAdd_sized _ _ _ _ (inv.wf2 hv hhv) fin hfin, ?_⟩
  intro p hp
  have h1 := c20_accAdd_get h.N st.1 hv hp
  rw [hfin] at h1
  have h3 := inv.hf_val (Nat.zero_le _) p hp
  rw [hhv] at h3
  have h4 := inv.sm_val p hp
  rw [if_neg (by omega)] at h4
  show c20_accGet (some fin) p = _
  rw [h1, h4, ← h3]
  congr 1
  rw [Finset.range_eq_Ico]
  rfl

/-! ### the slot maps of the tail in (column, entry) form -/

/-- the first half of the giant steps: `or` rotations by `irc` columns move column `boltShift half k (or·irc)` to column `k` -/
theorem c20_cp_connect_lo {half gap irc h2 : Nat} (hhalf : half = irc * h2) (hh : 0 < half) {or k t : Nat} (hor : or < h2)
    (hk : k < 2 * half) (ht : t < gap) :
    (c20_rho (half * gap) (irc * gap))^[or] (k * gap + t) = boltShift half k (or * irc) * gap + t := by
  have hirc : 0 < irc := Nat.pos_of_ne_zero fun h => by rw [h, Nat.zero_mul] at hhalf; omega
  rw [c20_rho_iter_col hh or k t hk ht,
    c20_rowrot_eq_shift hh hk (by rw [hhalf, Nat.mul_comm irc]; exact Nat.mul_lt_mul_of_pos_right hor hirc)]

/-- the second half: the row exchange followed by `or − orc/2` rotations -/
theorem c20_cp_connect_hi {half gap irc h2 : Nat} (hhalf : half = irc * h2) (hh : 0 < half) {or k t : Nat} (hor1 : h2 ≤ or)
    (hor2 : or < 2 * h2) (hk : k < 2 * half) (ht : t < gap) :
    (c20_rho (half * gap) (irc * gap))^[or - h2] (c20_sigma (half * gap) (k * gap + t)) = boltShift half k (or * irc) * gap + t := by
  have hirc : 0 < irc := Nat.pos_of_ne_zero fun h => by rw [h, Nat.zero_mul] at hhalf; omega
  have hlt : (or - h2) * irc < half := by
    rw [hhalf, Nat.mul_comm irc]; exact Nat.mul_lt_mul_of_pos_right (by omega) hirc
  have e : half + (or - h2) * irc = or * irc := by
    rw [hhalf, Nat.mul_comm irc h2, ← Nat.add_mul, Nat.add_sub_cancel' hor1]
  rw [c20_sigma_col hh k t ht, ← c20_shift_half hh hk,
    c20_rho_iter_col hh (or - h2) _ t (c20_boltShift_lt half k half hh) ht,
    c20_rowrot_eq_shift hh (c20_boltShift_lt half k half hh) hlt,
    c20_boltShift_add hh (by rw [Nat.mod_self, Nat.zero_add]; exact Nat.mod_lt _ hh), e]

/-! ### `MatmulBoltCpSmall::multiply` -/

/-- **`MatmulBoltCpSmall::multiply`** for one row part, on ANY input polynomials `fa j` and weight polynomials `fB ir or i j`: the
    schedule never fails and output polynomial `i` holds at column `k`, entry `t`
    `Σ_or Σ_ir Σ_j (fa j)[boltShift half k (or·irc + ir)][t] · (fB ir or i j)[boltShift half k (or·irc)][t]` -/
theorem c20_cpMulPart_spec [CommRing S] (h : BoltCp) {half h2 : Nat} (ok : c20_CpOK h half h2)
    (fa : Nat → Array S) (fB : Nat → Nat → Nat → Nat → Array S) :
    ∃ Yp, boltCpMulPart h (· + ·) (· * ·) 0 ((List.range (ceilDiv h.r h.s)).map fa)
        ((pairs h.irc h.orc).map fun io => (pairs (ceilDiv h.n h.s) (ceilDiv h.r h.s)).map fun ij => fB io.1 io.2 ij.1 ij.2) = .ok Yp ∧
      Yp.length = ceilDiv h.n h.s ∧
      ∀ i, i < ceilDiv h.n h.s → ∃ v, Yp[i]? = some v ∧ v.size = h.N ∧ ∀ k t, k < h.s → t < h.gap →
        v.getD (k * h.gap + t) 0 = ∑ or ∈ range h.orc, ∑ ir ∈ range h.irc, ∑ j ∈ range (ceilDiv h.r h.s),
          (fa j).getD (boltShift half k (or * h.irc + ir) * h.gap + t) 0
            * (fB ir or i j).getD (boltShift half k (or * h.irc) * h.gap + t) 0 := by
  have hh := ok.half_pos
  have hspos : 0 < h.s := by rw [ok.hs]; omega
  have hic : 0 < ceilDiv h.r h.s := c20_ceilDiv_pos ok.hr hspos
  unfold boltCpMulPart
  simp only [List.length_map, List.length_range, ne_eq, not_true_eq_false, if_false]
  refine c20_mapM_range _ _ _ fun i hi => ?_
  let gterm : Nat → Nat × Nat → Array S := fun or x =>
    slotZip (· * ·) 0 h.N (boltCpRotIn h 0 (fa x.2) x.1) (fB x.1 or i x.2)
  let outsL : List (Option (Array S)) := (List.range h.orc).map fun or =>
    (pairs h.irc (ceilDiv h.r h.s)).foldl (fun acc x => accAdd (· + ·) 0 h.N acc (gterm or x)) none
  have houtsM : (List.range h.orc).mapM (fun or =>
      (pairs h.irc (ceilDiv h.r h.s)).foldlM (fun (acc : Option (Array S)) irj => do
        let aj ← getSlots ((List.range (ceilDiv h.r h.s)).map fa) irj.2
        let row ← getRow ((pairs h.irc h.orc).map fun (io : Nat × Nat) =>
          (pairs (ceilDiv h.n h.s) (ceilDiv h.r h.s)).map fun (ij : Nat × Nat) => fB io.1 io.2 ij.1 ij.2) (irj.1 * h.orc + or)
        let b ← getSlots row (i * ceilDiv h.r h.s + irj.2)
        (pure (accAdd (· + ·) 0 h.N acc (slotZip (· * ·) 0 h.N (boltCpRotIn h 0 aj irj.1) b)) : R (Option (Array S)))) none)
      = .ok outsL := by
    apply R.mapM_ok
    intro or hor
    apply R.foldlM_ok
    intro x hx st
    obtain ⟨hx1, hx2⟩ := c20_mem_pairs.mp hx
    rw [c20_getSlots_map _ _ _ hx2]
    have hrow : getRow ((pairs h.irc h.orc).map fun io =>
        (pairs (ceilDiv h.n h.s) (ceilDiv h.r h.s)).map fun ij => fB io.1 io.2 ij.1 ij.2) (x.1 * h.orc + or)
        = .ok ((pairs (ceilDiv h.n h.s) (ceilDiv h.r h.s)).map fun ij => fB x.1 or ij.1 ij.2) :=
      c20_getRow_of (c20_pairs_map_getElem? _ _ _ _ _ hx1 (List.mem_range.mp hor))
    have hb : getSlots ((pairs (ceilDiv h.n h.s) (ceilDiv h.r h.s)).map fun ij => fB x.1 or ij.1 ij.2) (i * ceilDiv h.r h.s + x.2)
        = .ok (fB x.1 or i x.2) :=
      c20_getSlots_of (c20_pairs_map_getElem? _ _ _ _ _ hi hx2)
    show (do
        let row ← getRow _ (x.1 * h.orc + or)
        let b ← getSlots row (i * ceilDiv h.r h.s + x.2)
        (pure (accAdd (· + ·) 0 h.N st (slotZip (· * ·) 0 h.N (boltCpRotIn h 0 (fa x.2) x.1) b)) : R (Option (Array S)))) = _
    rw [hrow]
    show (do
        let b ← getSlots _ (i * ceilDiv h.r h.s + x.2)
        (pure (accAdd (· + ·) 0 h.N st (slotZip (· * ·) 0 h.N (boltCpRotIn h 0 (fa x.2) x.1) b)) : R (Option (Array S)))) = _
    rw [hb]
    rfl
  rw [houtsM]
  -- the tail as a pure fold
  simp only [R.ok_bind]
  rw [R.foldlM_ok (c20_cpTailStep h outsL)]
  swap
  · -- every branch of the model's step ends in `pure`; the case split only brings the `pure` to the front
    intro or _ st
    obtain ⟨s1, s2⟩ := st
    unfold c20_cpTailStep
    by_cases hc : h.irc * h.gap < h.N / 2 <;> by_cases ho : or = h.orc / 2 <;>
      cases s1 <;> cases outsL.getD or none <;> (try simp only [hc, ho, if_true, if_false]) <;> (try rfl)
  simp only [R.ok_bind]
  have houts : ∀ or, or < h.orc → ∃ v, outsL.getD or none = some v ∧ v.size = h.N ∧ ∀ p, p < h.N → v.getD p 0
      = ∑ ir ∈ range h.irc, ∑ j ∈ range (ceilDiv h.r h.s), (boltCpRotIn h 0 (fa j) ir).getD p 0 * (fB ir or i j).getD p 0 := by
    intro or hor
    obtain ⟨v, hv, hvs, hvv⟩ := c20_accFold_some h.N (gterm or) (pairs h.irc (ceilDiv h.r h.s)) none
      (Or.inl (c20_pairs_ne_nil ok.hirc hic)) (fun x _ => c20_slotZip_size _ _ _ _ _) (c20_accSized_none _)
    refine ⟨v, by rw [list_getD_range_map _ _ hor]; exact hv, hvs, fun p hp => ?_⟩
    rw [hvv p hp, c20_list_sum_pairs]
    show 0 + _ = _
    rw [zero_add]
    apply Finset.sum_congr rfl
    intro ir _
    apply Finset.sum_congr rfl
    intro j _
    exact c20_slotZip_get _ _ _ _ _ hp
  obtain ⟨hv, fin, hst2, hfin, hfsz, hfv⟩ := c20_cpTail_spec h ok outsL _ houts
  refine ⟨fin, ?_, hfsz, ?_⟩
  · simp only [hst2]
    rw [hfin]
    rfl
  · intro k t hk ht
    have hk' : k < 2 * half := by rw [← ok.hs]; exact hk
    have hp : k * h.gap + t < h.N := by rw [ok.hN]; exact grid_lt hk ht
    have hN' : h.N = 2 * half * h.gap := by rw [ok.hN, ok.hs]
    have hval : ∀ or, or < h.orc →
        (∑ ir ∈ range h.irc, ∑ j ∈ range (ceilDiv h.r h.s),
          (boltCpRotIn h 0 (fa j) ir).getD (boltShift half k (or * h.irc) * h.gap + t) 0
            * (fB ir or i j).getD (boltShift half k (or * h.irc) * h.gap + t) 0)
        = ∑ ir ∈ range h.irc, ∑ j ∈ range (ceilDiv h.r h.s),
          (fa j).getD (boltShift half k (or * h.irc + ir) * h.gap + t) 0
            * (fB ir or i j).getD (boltShift half k (or * h.irc) * h.gap + t) 0 := by
      intro or _
      apply Finset.sum_congr rfl
      intro ir hir
      have hir' := Finset.mem_range.mp hir
      have hirs : ir < 2 * half := by
        have : h.irc ≤ half := by rw [ok.half_eq]; exact Nat.le_mul_of_pos_right _ ok.hh2
        omega
      apply Finset.sum_congr rfl
      intro j _
      rw [c20_boltCpRotIn_col h 0 half hh ok.hs hN' (fa j) ir hirs _ t (c20_boltShift_lt half k _ hh) ht,
        c20_boltShift_comp ok.half_eq hh hir']
    rw [hfv _ hp, ← Finset.sum_range_add_sum_Ico _ (by have := ok.ho; omega : h2 ≤ h.orc)]
    refine congrArg₂ (· + ·) ?_ ?_
    · apply Finset.sum_congr rfl
      intro or hor
      have hor' := Finset.mem_range.mp hor
      rw [c20_cp_connect_lo ok.half_eq hh hor' hk' ht]
      exact hval or (by have := ok.ho; omega)
    · apply Finset.sum_congr rfl
      intro or hor
      obtain ⟨hor1, hor2⟩ := Finset.mem_Ico.mp hor
      rw [c20_cp_connect_hi ok.half_eq hh hor1 (by rw [← ok.ho]; exact hor2) hk' ht]
      exact hval or hor2

/-! ### end to end -/

/-- **`MatmulBoltCp`, whole pipeline** (any commutative ring, every helper satisfying `c20_CpOK`: every shape, every split
    `s = irc·orc` with `orc` even): encode the inputs (column-major row parts) and the weights (one polynomial per rotation class
    and polynomial pair), run the rotate-multiply-accumulate schedule of `multiply` on the slot vectors and decode:
    the result is the matrix product `x · w`, row major `m × n`. -/
theorem c20_boltCp_whole [CommRing S] (h : BoltCp) {half h2 : Nat} (ok : c20_CpOK h half h2) (x w : Nat → S) :
    ∃ X W Y out, boltCpEncodeInputs h 0 x (h.mAll * h.r) = .ok X ∧ boltCpEncodeWeights h 0 w (h.r * h.n) = .ok W ∧
      boltCpMultiply h (· + ·) (· * ·) 0 X W = .ok Y ∧ boltCpDecodeOutputs h 0 Y = .ok out ∧ out.size = h.mAll * h.n ∧
      ∀ i j, i < h.mAll → j < h.n → out.getD (i * h.n + j) 0 = ∑ k ∈ range h.r, x (i * h.r + k) * w (k * h.n + j) := by
  have hh := ok.half_pos
  have hspos : 0 < h.s := by rw [ok.hs]; omega
  obtain ⟨Y, hmul, hlen, hall⟩ : ∃ Y, boltCpMultiply h (· + ·) (· * ·) 0
      ((List.range (ceilDiv h.mAll h.m)).map fun p => (List.range (ceilDiv h.r h.s)).map fun i =>
        c20_colMajorArr 0 h.N h.gap h.s h.m h.mAll h.r x p i)
      ((pairs h.irc h.orc).map fun io => (pairs (ceilDiv h.n h.s) (ceilDiv h.r h.s)).map fun ij => c20_cpW 0 h w io.1 io.2 ij.1 ij.2)
      = .ok Y ∧ Y.length = ceilDiv h.mAll h.m ∧
      ∀ p, p < ceilDiv h.mAll h.m → ∃ Yp, Y[p]? = some Yp ∧ Yp.length = ceilDiv h.n h.s ∧
        ∀ i, i < ceilDiv h.n h.s → ∃ v, Yp[i]? = some v ∧ v.size = h.N ∧ ∀ k t, k < h.s → t < h.gap →
          v.getD (k * h.gap + t) 0 = ∑ or ∈ range h.orc, ∑ ir ∈ range h.irc, ∑ j ∈ range (ceilDiv h.r h.s),
            (c20_colMajorArr 0 h.N h.gap h.s h.m h.mAll h.r x p j).getD (boltShift half k (or * h.irc + ir) * h.gap + t) 0
              * (c20_cpW 0 h w ir or i j).getD (boltShift half k (or * h.irc) * h.gap + t) 0 := by
    unfold boltCpMultiply
    rw [if_neg (by simp), List.mapM_map]
    exact c20_mapM_range _ _ _ fun p _ => c20_cpMulPart_spec h ok
      (fun i => c20_colMajorArr 0 h.N h.gap h.s h.m h.mAll h.r x p i) (fun ir or i j => c20_cpW 0 h w ir or i j)
  have hany : (Y.any fun p => p.length ≠ ceilDiv h.n h.s) = false :=
    c20_any_length_ne fun p hp => (hall p (hlen ▸ hp)).imp fun _ hp => ⟨hp.1, hp.2.1⟩
  obtain ⟨out, hout, hosz, hoval⟩ := c20_boltColMajorDecode_spec (0 : S) h.gap h.s h.m h.mAll h.n Y
    (fun row col => ∑ k ∈ range h.r, x (row * h.r + k) * w (k * h.n + col)) ok.hm0 hlen
    (by
      intro p hp
      obtain ⟨part, hpart, hpl, hpv⟩ := hall p hp
      refine ⟨part, c20_getRow_of hpart, ?_⟩
      intro i j hi hj
      have hjo : j / h.s < ceilDiv h.n h.s := c20_div_lt_ceilDiv hspos hj
      have hjk : j % h.s < h.s := Nat.mod_lt _ hspos
      have hpi : p * h.m + i < min (p * h.m + h.m) h.mAll := Nat.lt_sub_iff_add_lt'.mp hi
      have hig : i < h.gap := lt_of_lt_of_le hi (le_trans (Nat.sub_le_iff_le_add'.mpr (Nat.min_le_left _ _)) ok.hmg)
      obtain ⟨v, hv, hvs, hvv⟩ := hpv (j / h.s) hjo
      refine ⟨v, c20_getSlots_of hv, ?_⟩
      have hlt : j % h.s * h.gap + i < v.size := by
        rw [hvs, ok.hN]; exact grid_lt hjk hig
      rw [c20_readAt_getD 0 v hlt, hvv _ _ hjk hig]
      refine congrArg Except.ok ?_
      -- the value: re-index the rotation classes, then the columns
      have ej : j / h.s * h.s + j % h.s = j := Nat.div_add_mod' j h.s
      let G : Nat → S := fun q => if q < h.r then x ((p * h.m + i) * h.r + q) * w (q * h.n + j) else 0
      have hsum1 : (∑ or ∈ range h.orc, ∑ ir ∈ range h.irc, ∑ jj ∈ range (ceilDiv h.r h.s),
          (c20_colMajorArr 0 h.N h.gap h.s h.m h.mAll h.r x p jj).getD (boltShift half (j % h.s) (or * h.irc + ir) * h.gap + i) 0
            * (c20_cpW 0 h w ir or (j / h.s) jj).getD (boltShift half (j % h.s) (or * h.irc) * h.gap + i) 0)
          = ∑ rot ∈ range (h.orc * h.irc), ∑ jj ∈ range (ceilDiv h.r h.s), G (jj * h.s + boltShift half (j % h.s) rot) := by
        rw [← c20_sum_range_mul]
        apply Finset.sum_congr rfl; intro or hor
        apply Finset.sum_congr rfl; intro ir _
        apply Finset.sum_congr rfl; intro jj _
        have hc : boltShift half (j % h.s) (or * h.irc + ir) < h.s := by rw [ok.hs]; exact c20_boltShift_lt _ _ _ hh
        rw [(c20_colMajorArr_get 0 h.N h.gap h.s h.m h.mAll h.r x ok.hN ok.hmg p jj hc hig).2,
          (c20_cpW_get 0 h ok w ir (j / h.s) jj (Finset.mem_range.mp hor) hjk hig).2]
        show _ = if _ < h.r then _ else 0
        by_cases hq : jj * h.s + boltShift half (j % h.s) (or * h.irc + ir) < h.r
        · rw [if_pos ⟨hpi, hq⟩, if_pos ⟨hq, by rw [ej]; exact hj⟩, if_pos hq, ej]
        · rw [if_neg (fun hc' => hq hc'.2), if_neg hq, zero_mul]
      rw [hsum1, Nat.mul_comm h.orc, ok.hio, Finset.sum_comm]
      have hsum2 : ∀ jj, (∑ rot ∈ range h.s, G (jj * h.s + boltShift half (j % h.s) rot)) = ∑ c ∈ range h.s, G (jj * h.s + c) := by
        intro jj
        rw [ok.hs]
        exact c20_bolt_bsgs_sum (fun c => G (jj * (2 * half) + c)) half (j % (2 * half)) hh
      rw [Finset.sum_congr rfl (fun jj _ => hsum2 jj)]
      exact c20_sum_pad (fun q => x ((p * h.m + i) * h.r + q) * w (q * h.n + j)) h.r h.s hspos)
  refine ⟨_, _, Y, out, c20_boltCpEncodeInputs_ok 0 h ok x, c20_boltCpEncodeWeights_ok 0 h ok w, hmul, ?_, hosz, hoval⟩
  unfold boltCpDecodeOutputs
  rw [hany]
  exact hout

/-- **... for every helper `MatmulBoltCp::new` accepts** (positive dimensions, `N` a power of two with at least two columns per
    polynomial, `usize` range), with the baby-step / giant-step split the constructor's search returns -/
theorem c20_boltCp_new [CommRing S] {m r n N : Nat} {h : BoltCp} (hnew : BoltCp.new m r n N = .ok h) (hpow : ∃ e, N = 2^e)
    (hN64 : N < 2^64) (x w : Nat → S) :
    ∃ X W Y out, boltCpEncodeInputs h 0 x (m * r) = .ok X ∧ boltCpEncodeWeights h 0 w (r * n) = .ok W ∧
      boltCpMultiply h (· + ·) (· * ·) 0 X W = .ok Y ∧ boltCpDecodeOutputs h 0 Y = .ok out ∧ out.size = m * n ∧
      ∀ i j, i < m → j < n → out.getD (i * n + j) 0 = ∑ k ∈ range r, x (i * r + k) * w (k * n + j) := by
  obtain ⟨_, hm, _, hr, hn, half, h2, ok⟩ := c20_boltCpNew_ok hnew hpow hN64
  have := c20_boltCp_whole h ok x w
  rw [hm, hr, hn] at this
  exact this

end HC
