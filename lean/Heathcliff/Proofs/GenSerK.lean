/-
  Key containers: `PublicKey`, the context-dependent `Vec<I>`, `KSwitchKeys`, `RelinKeys`,
  `GaloisKeys` writers (Gen/SerFns.lean) are the chunk programs of the model's `ctC`, `vecC`, `kswitchC`.  The generated functions
  work on VIEWS (`CtV`) of the model objects (`Ct`), hence the relational statements (`List.Forall₂`).  Helper prefix `gk_`.
-/
import Heathcliff.Proofs.GenSerD
namespace HC.GS
open HC HC.Codec HC.GenS

variable {S E : Type}

theorem gk_pk_serialize (st : WStream S E) (ctx : Ctx) (v : CtV) : pk_serialize st ctx v = ct_serialize st ctx v := rfl

theorem gk_cvec_loop {α β} (st : WStream S E) (item : α → W S E Nat) (c : Codec β) (vs : List α) (xs : List β)
    (h : List.Forall₂ (fun v x => item v = runChunks st (c.chunks x)) vs xs) (acc : Nat) :
    cvec_serialize_loop1 st item vs acc
      = wbind (runChunks st (seqChunks (List.replicate xs.length c) xs)) fun n => wpure (acc + n) := by
  induction h generalizing acc with
  | nil => rfl
  | cons hx _ ih =>
    simp only [cvec_serialize_loop1, List.length_cons, List.replicate_succ, seqChunks, runChunks_append, hx, ih, wbind_assoc, wbind_wpure,
      Nat.add_assoc]

/-- the context-dependent `Vec<I>::serialize`: length prefix, then the items — relationally: the views' writers are the items' chunk programs -/
theorem gk_cvec_serialize {α β} (st : WStream S E) (item : α → W S E Nat) (c : Codec β) (vs : List α) (xs : List β)
    (h : List.Forall₂ (fun v x => item v = runChunks st (c.chunks x)) vs xs) :
    cvec_serialize st item vs = runChunks st ((vecC c).chunks xs) := by
  have hc : (vecC c).chunks xs = usizeC.chunks xs.length ++ seqChunks (List.replicate xs.length c) xs := rfl
  have hl : vs.length = xs.length := h.length_eq
  rw [hc, runChunks_append]
  simp only [cvec_serialize, gs_usize_serialize, gk_cvec_loop st item c vs xs h, hl, wbind_assoc, wbind_wpure, Nat.zero_add]

/-- "the view `v` is a view of the model ciphertext `x` whose writer hypotheses hold" -/
def PkView (ctx : Ctx) (v : CtV) (x : Ct) : Prop :=
  ∃ lv, ctx.find x.pid = some lv ∧ (∀ q ∈ lv.moduli, q < 2 ^ 64) ∧ x.pid.length = 4 ∧
    (lv.scheme = 1 ∨ lv.scheme = 2 ∨ lv.scheme = 3) ∧ CtShape lv x ∧ v = ctvOfCt lv x

theorem gk_pk_of_view (st : WStream S E) (ctx : Ctx) (expand : List Nat → Level → Poly) (v : CtV) (x : Ct) (h : PkView ctx v x) :
    pk_serialize st ctx v = runChunks st ((ctC ctx expand).chunks x) := by
  obtain ⟨lv, hf, hq, hl, hs, hw, rfl⟩ := h
  exact gd_ct_serialize_view st ctx expand x lv hf hq hl hs hw

/-- `KSwitchKeys::serialize` (= `RelinKeys`, `GaloisKeys`): parms id, then `Vec<Vec<PublicKey>>`; a missing key is an empty inner vector -/
theorem gk_kswitch_serialize (st : WStream S E) (ctx : Ctx) (expand : List Nat → Level → Poly) (kv : KSwitch CtV) (k : KSwitch Ct)
    (hpid : kv.pid = k.pid) (hl : k.pid.length = 4)
    (hkeys : List.Forall₂ (List.Forall₂ (PkView ctx)) kv.keys k.keys) :
    kswitch_serialize st ctx kv = runChunks st ((kswitchC (ctC ctx expand)).chunks k) := by
  have hc : (kswitchC (ctC ctx expand)).chunks k = pidC.chunks k.pid ++ (vecC (vecC (ctC ctx expand))).chunks k.keys := rfl
  have hin : List.Forall₂ (fun vs xs => cvec_serialize st (pk_serialize st ctx) vs = runChunks st ((vecC (ctC ctx expand)).chunks xs))
      kv.keys k.keys :=
    List.Forall₂.imp (fun vs xs h => gk_cvec_serialize st _ (ctC ctx expand) vs xs
      (List.Forall₂.imp (fun v x hv => gk_pk_of_view st ctx expand v x hv) h)) hkeys
  have hv := gk_cvec_serialize st (cvec_serialize st (pk_serialize st ctx)) (vecC (ctC ctx expand)) kv.keys k.keys hin
  rw [hc, runChunks_append]
  simp only [kswitch_serialize, hpid, gs_pid_serialize st _ hl, hv, Nat.zero_add]

theorem gk_relin_serialize (st : WStream S E) (ctx : Ctx) (kv : KSwitch CtV) : relin_serialize st ctx kv = kswitch_serialize st ctx kv := rfl
theorem gk_galois_serialize (st : WStream S E) (ctx : Ctx) (kv : KSwitch CtV) : galois_serialize st ctx kv = kswitch_serialize st ctx kv := rfl

/-- C14: generated `KSwitchKeys` / `RelinKeys` / `GaloisKeys` writers on an in-memory stream append exactly `kswitchC.enc` -/
theorem c14g_kswitch_serialize (ctx : Ctx) (expand : List Nat → Level → Poly) (kv : KSwitch CtV) (k : KSwitch Ct)
    (hpid : kv.pid = k.pid) (hl : k.pid.length = 4) (hkeys : List.Forall₂ (List.Forall₂ (PkView ctx)) kv.keys k.keys) (s : Bytes) :
    kswitch_serialize idealStream ctx kv s = (.ok ((kswitchC (ctC ctx expand)).enc k).length, s ++ (kswitchC (ctC ctx expand)).enc k) ∧
    relin_serialize idealStream ctx kv s = kswitch_serialize idealStream ctx kv s ∧
    galois_serialize idealStream ctx kv s = kswitch_serialize idealStream ctx kv s :=
  ⟨gs_ideal (kswitchC (ctC ctx expand)) k _ (gk_kswitch_serialize idealStream ctx expand kv k hpid hl hkeys) s, rfl, rfl⟩

/-- C15: … and fail cleanly on every faulty sink -/
theorem c15g_kswitch_serialize_fails_cleanly (ctx : Ctx) (expand : List Nat → Level → Poly) (kv : KSwitch CtV) (k : KSwitch Ct)
    (hpid : kv.pid = k.pid) (hl : k.pid.length = 4) (hkeys : List.Forall₂ (List.Forall₂ (PkView ctx)) kv.keys k.keys) (s : Sink) :
    let w := kswitch_serialize sinkStream ctx kv
    (∀ n, (w s).1 = .ok n → n = ((kswitchC (ctC ctx expand)).enc k).length ∧ (w s).2.out = s.out ++ (kswitchC (ctC ctx expand)).enc k) ∧
    (∀ e, (w s).1 = .error e → (∃ io, e = .io io) ∧
      ∃ j, j ≤ ((kswitchC (ctC ctx expand)).enc k).length ∧ (w s).2.out = s.out ++ ((kswitchC (ctC ctx expand)).enc k).take j) :=
  gs_writer_clean (kswitchC (ctC ctx expand)) k _ (gk_kswitch_serialize sinkStream ctx expand kv k hpid hl hkeys) s

end HC.GS
