import Heathcliff.Gen.EvalCtFns
import Heathcliff.Proofs.GenEval
import Heathcliff.Proofs.GenValid

/-!
  Evaluator-level DECISION skeletons generated from src/evaluator.rs (Gen/EvalFns.lean, Gen/EvalCtFns.lean) against
  the decision functions of Model/Evaluator.lean.  Helper names start with `gl_`.

  * C05: `mod_switch_to_next`, `rescale_to_next`, `rescale_to` (level walk) and the refusals of `mod_switch_drop_to_next_internal`
    (the scale must fit the TARGET level);
  * C03: the CKKS scale bookkeeping of `ckks_multiply` / `ckks_square` (product scale, checked against the operands' level);
  * C06: the dispatch of `multiply_plain_inplace` over the four representation combinations.
-/
namespace HC
open HC.GenW

/-! ### C05: level walk -/

/-- `Evaluator::mod_switch_to_next` (skeleton over chain indices; trace = [routine code, chain index reached]) = `modSwitchToNextPlan` -/
theorem gl_mod_switch_to_next_eq (valid : Bool) (cur : Nat) (s : Scheme) :
    GenE.mod_switch_to_next valid cur s = Except.map (fun p => [p.1.code, p.2]) (modSwitchToNextPlan valid cur s) := by
  unfold GenE.mod_switch_to_next modSwitchToNextPlan
  cases valid
  · simp [Except.map]
  · by_cases hc : cur = 0
    · simp [hc, Except.map]
    · have hs : ckSub cur 1 = .ok (cur - 1) := ckSub_of_le (Nat.pos_of_ne_zero hc)
      cases s <;>
        simp [hc, hs, Except.map, modSwitchNextKind, SwitchKind.code, bind, Except.bind, pure, Except.pure]

/-- `Evaluator::rescale_to_next` = `rescaleToNextPlan` -/
theorem gl_rescale_to_next_eq (valid : Bool) (cur : Nat) (s : Scheme) :
    GenE.rescale_to_next valid cur s = Except.map (fun p => [p.1.code, p.2]) (rescaleToNextPlan valid cur s) := by
  unfold GenE.rescale_to_next rescaleToNextPlan
  cases valid
  · simp [Except.map]
  · by_cases hc : cur = 0
    · simp [hc, Except.map]
    · have hs : ckSub cur 1 = .ok (cur - 1) := ckSub_of_le (Nat.pos_of_ne_zero hc)
      cases s <;>
        simp [hc, hs, Except.map, SwitchKind.code, bind, Except.bind, pure, Except.pure]

theorem gl_rescale_walk_loop_eq (tgt : Nat) : ∀ (fuel cur : Nat) (trace : List Nat), tgt ≤ cur → cur - tgt < fuel →
    GenE.rescale_to_loop1 tgt trace fuel cur = .ok (trace ++ (List.range (cur - tgt)).map (fun i => cur - 1 - i)) :=
  gy_walk tgt (GenE.rescale_to_loop1 tgt)
    (fun trace n => by rw [GenE.rescale_to_loop1]; simp)
    (fun trace n cur h => by
      rw [GenE.rescale_to_loop1]; simp only [ne_eq, Nat.ne_of_gt h, not_false_eq_true, if_true, ckSub_of_le (Nat.zero_lt_of_lt h), R.ok_bind'])

/-- `Evaluator::rescale_to` (decision skeleton: validity, direction guard, scheme dispatch, loop condition, one level down per step)
    = `rescaleToPlan`: for CKKS the walk `switchSteps`, every other scheme refused WHATEVER the target is -/
theorem gl_rescale_to_eq (valid : Bool) (cur tgt : Nat) (s : Scheme) (hc : cur < 2^64) :
    GenE.rescale_to valid cur tgt s = rescaleToPlan valid cur tgt s := by
  unfold GenE.rescale_to rescaleToPlan switchSteps
  cases valid
  · simp
  · by_cases h : cur < tgt
    · cases s <;> simp [h]
    · cases s
      · simp [h]
      · simp only [h, if_false, if_true, Bool.true_eq_false, ne_eq, not_true_eq_false, reduceCtorEq, or_self, R.pure_eq']
        rw [gl_rescale_walk_loop_eq tgt _ cur _ (by omega) (by omega)]
        simp
      · simp [h]

/-! ### C05 / C03: the refusals of `mod_switch_drop_to_next_internal` -/

/-- `Evaluator::mod_switch_drop_to_next_internal` (decision skeleton; `okCur` / `okNext` = `is_scale_within_bounds` of the ciphertext's
    scale at the current / the next level) = `modSwitchDropDecision` with the NEXT level's verdict; the current level's is not consulted -/
theorem gl_mod_switch_drop_decision_eq (s : Scheme) (ntt hasNext okCur okNext : Bool) :
    GenE.mod_switch_drop_to_next_internal s ntt hasNext okCur okNext = Except.map (fun _ => 1) (modSwitchDropDecision s ntt hasNext okNext) := by
  unfold GenE.mod_switch_drop_to_next_internal modSwitchDropDecision
  cases s <;> cases ntt <;> cases hasNext <;> cases okNext <;> simp [Except.map, pure, Except.pure]

/-- the same with the two Booleans instantiated by the GENERATED `is_scale_within_bounds` at the two levels' bit counts: the decision is
    `gx_scaleOk` (positive scale, `⌊log2 scale⌋ < bound`) at the bound of the level the ciphertext ARRIVES at -/
theorem gl_mod_switch_drop_decision_bits (s : Scheme) (ntt hasNext : Bool) (plainBits curBits nextBits : Nat) (nonPos : Bool) (l2 : Int)
    (hp : plainBits < 2^63) (hn : nextBits < 2^63) :
    GenE.mod_switch_drop_to_next_internal s ntt hasNext
        (GenV.is_scale_within_bounds s plainBits curBits nonPos l2) (GenV.is_scale_within_bounds s plainBits nextBits nonPos l2) =
      Except.map (fun _ => 1) (modSwitchDropDecision s ntt hasNext
        (gx_scaleOk nonPos l2 (match s with | .bfv | .bgv => (plainBits : Int) | .ckks => (nextBits : Int)))) := by
  rw [gl_mod_switch_drop_decision_eq, gx_is_scale_within_bounds_eq _ _ _ _ _ hp hn]
  cases s <;> rfl

/-- the non-scale refusals are those of the model's `modSwitchDropNext` (last level: fewer than two moduli; CKKS in coefficient form) -/
theorem gl_modSwitchDropDecision_model (l : Level) (ct : Ct) :
    modSwitchDropDecision l.scheme ct.ntt (decide (2 ≤ l.size)) true = Except.map (fun _ => ()) (modSwitchDropNext l ct) := by
  unfold modSwitchDropDecision modSwitchDropNext
  by_cases h2 : l.size < 2
  · have : ¬ 2 ≤ l.size := by omega
    simp [h2, this, Except.map]
  · have : 2 ≤ l.size := by omega
    cases hs : l.scheme <;> cases hn : ct.ntt <;> simp [h2, this, Except.map, pure, Except.pure]

/-- a scale that fits the current level but not the next one is refused: the bound is tested at the level the ciphertext arrives at -/
theorem gl_mod_switch_drop_refuses_unfit (s : Scheme) (ntt hasNext okCur : Bool) :
    GenE.mod_switch_drop_to_next_internal s ntt hasNext okCur false = .error .refused := by
  rw [gl_mod_switch_drop_decision_eq]; unfold modSwitchDropDecision; simp [Except.map]

/-! ### C03: CKKS scale bookkeeping of products -/
theorem gl_resize_guard (v : Nat) : (¬ ((v < 2 ∧ v ≠ 0) ∨ v > 16)) ↔ ctResizeRefuses v = false := by
  unfold ctResizeRefuses Gen.HE_CIPHERTEXT_SIZE_MIN Gen.HE_CIPHERTEXT_SIZE_MAX
  by_cases h1 : v < 2 <;> by_cases h2 : v = 0 <;> by_cases h3 : v > 16 <;> simp [h1, h2, h3] <;> try omega

/-- `Evaluator::ckks_multiply` (bookkeeping skeleton: NTT-form checks, destination size, `resize` refusal, scale := product, bounds check)
    = `ckksProductBookkeeping`: the verdict used is the one about the PRODUCT scale at the OPERANDS' level (`okProd`); the verdict about
    the own scale and the verdicts at the first level are not consulted.  Hypotheses: at least one polynomial in total (`0 + 0 - 1`
    traps), the buffer length `(n1 + n2 - 1) * n * k` fits a usize (the code computes it with checked multiplications). -/
theorem gl_ckks_multiply_eq (ntt1 ntt2 : Bool) (n1 n2 n k : Nat) (okOwn okProd okOwnF okProdF : Bool)
    (h1 : 1 ≤ n1 + n2) (hB1 : (n1 + n2 - 1) * n < 2^64) (hB : (n1 + n2 - 1) * n * k < 2^64) (hs : n1 + n2 < 2^64) :
    GenC.ckks_multiply_sk ntt1 ntt2 n1 n2 n k okOwn okProd okOwnF okProdF = ckksProductBookkeeping ntt1 ntt2 n1 n2 okProd := by
  unfold GenC.ckks_multiply_sk ckksProductBookkeeping
  cases ntt1
  · simp
  cases ntt2
  · simp
  have ha : ckAdd n1 n2 = .ok (n1 + n2) := ckAdd_ok_pow hs
  have hsb : ckSub (n1 + n2) 1 = .ok (n1 + n2 - 1) := ckSub_of_le h1
  have hm1 : ckMul (n1 + n2 - 1) n = .ok ((n1 + n2 - 1) * n) := ckMul_ok_pow hB1
  have hm2 : ckMul ((n1 + n2 - 1) * n) k = .ok ((n1 + n2 - 1) * n * k) := ckMul_ok_pow hB
  have hadd : ckAdd 0 1 = .ok 1 := ckAdd_ok_pow (by decide)
  simp only [not_true_eq_false, or_self, if_false, ha, hsb, R.ok_bind', Bool.true_eq_false]
  by_cases hr : ctResizeRefuses (n1 + n2 - 1) = true
  · have : ¬ ¬ ((n1 + n2 - 1 < 2 ∧ n1 + n2 - 1 ≠ 0) ∨ n1 + n2 - 1 > 16) := by
      rw [gl_resize_guard]; simp [hr]
    simp only [hr, if_true, this, if_false]
  · have hr' : ctResizeRefuses (n1 + n2 - 1) = false := by simpa using hr
    have hg := (gl_resize_guard (n1 + n2 - 1)).mpr hr'
    simp only [hg, hr', hm1, hm2, hadd, R.ok_bind', Bool.false_eq_true, if_false]
    cases okProd <;> simp [pure, Except.pure]

/-- `Evaluator::ckks_square` = the same bookkeeping with both operands the ciphertext itself (size 2: the in-place branch; any other
    size: `ckks_multiply` with a clone) -/
theorem gl_ckks_square_eq (ntt : Bool) (n1 n k : Nat) (okOwn okProd okOwnF okProdF : Bool)
    (h1 : 1 ≤ n1) (hB1 : (n1 + n1 - 1) * n < 2^64) (hB : (n1 + n1 - 1) * n * k < 2^64) (hk : n * k < 2^64) (hs : n1 + n1 < 2^64) :
    GenC.ckks_square_sk ntt n1 n k okOwn okProd okOwnF okProdF = ckksProductBookkeeping ntt ntt n1 n1 okProd := by
  unfold GenC.ckks_square_sk
  cases ntt
  · simp [ckksProductBookkeeping]
  by_cases h2 : n1 = 2
  · subst h2
    have ha : ckAdd 2 2 = .ok 4 := ckAdd_ok_pow (by decide)
    have hsb : ckSub 4 1 = .ok 3 := ckSub_of_le (by decide)
    have hm : ckMul n k = .ok (n * k) := ckMul_ok_pow hk
    have hadd : ckAdd 0 1 = .ok 1 := ckAdd_ok_pow (by decide)
    have hr : ctResizeRefuses 3 = false := by decide
    unfold ckksProductBookkeeping
    simp only [not_true_eq_false, if_false, ne_eq, ha, hsb, hm, hadd, R.ok_bind', Bool.true_eq_false, or_self, hr]
    cases okProd <;> simp [pure, Except.pure]
  · simp only [not_true_eq_false, if_false, ne_eq, h2, not_false_eq_true, if_true, decide_true, Bool.decide_eq_true]
    rw [gl_ckks_multiply_eq true true n1 n1 n k _ _ _ _ (by omega) hB1 hB hs]
    cases ckksProductBookkeeping true true n1 n1 okProd with
    | error e => rfl
    | ok r => rfl

/-- an out-of-bounds product scale is refused; an in-bounds one is recorded as THE PRODUCT (the bound is that of the operands' level) -/
theorem gl_ckks_multiply_refuses (n1 n2 : Nat) : ckksProductBookkeeping true true n1 n2 false = .error .refused := by
  unfold ckksProductBookkeeping; cases ctResizeRefuses (n1 + n2 - 1) <;> simp

/-! ### C06: the dispatch of `multiply_plain_inplace` -/

/-- `Evaluator::multiply_plain_inplace` (plan skeleton) = `multiplyPlainPlan` for the four representation combinations; invalid operands
    are refused -/
theorem gl_multiply_plain_plan_eq (ctNtt ptNtt : Bool) :
    GenC.ct_multiply_plain_plan true true ctNtt ptNtt = .ok ((multiplyPlainPlan ctNtt ptNtt).map PlainStep.code) := by
  cases ctNtt <;> cases ptNtt <;> rfl

theorem gl_multiply_plain_plan_refuses (v1 v2 a b : Bool) (h : v1 = false ∨ v2 = false) :
    GenC.ct_multiply_plain_plan v1 v2 a b = .error .refused := by
  unfold GenC.ct_multiply_plain_plan
  rcases h with h | h
  · subst h; simp
  · subst h; cases v1 <;> simp

/-- the plan for an NTT-form plaintext, run with the model's operations, IS `ctMultiplyPlain` (for a coefficient-form ciphertext: full
    forward transform, dyadic product, FULL inverse transform - reduced residues) -/
theorem gl_runPlainPlan (l : Level) (a : Ct) (p : RnsPoly) :
    runPlainPlan l p (multiplyPlainPlan a.ntt true) a = ctMultiplyPlain l a p := by
  unfold ctMultiplyPlain
  cases h : a.ntt
  · simp only [multiplyPlainPlan, runPlainPlan, Bool.false_eq_true, if_false]
    cases ctToNtt l a with
    | error e => rfl
    | ok a' =>
      simp only [bind, Except.bind]
      cases ctMultiplyPlainNtt l a' p with
      | error e => rfl
      | ok r =>
        simp only []
        cases ctFromNtt l r with
        | error e => rfl
        | ok r' => rfl
  · simp only [multiplyPlainPlan, runPlainPlan, if_true]
    cases ctMultiplyPlainNtt l a p with
    | error e => rfl
    | ok r => rfl

/-- `Evaluator::multiply_plain_normal` (route + bookkeeping skeleton) = `multiplyPlainNormalPlan`: which data steps run for a monomial /
    general plaintext with / without the fast plain lift, and the CKKS scale rule after the data at BOTH exits (verdict about the PRODUCT
    scale; the verdict about the own scale is not consulted).  `n * k < 2^64`: the temporary RNS polynomial is allocated with a checked product. -/
theorem gl_multiply_plain_normal_plan_eq (nonzero : Nat) (monoUpper fastLift : Bool) (n k : Nat) (s : Scheme) (okOwn okProd : Bool)
    (hnk : n * k < 2^64) :
    GenC.ct_multiply_plain_normal_plan nonzero monoUpper fastLift n k s okOwn okProd = multiplyPlainNormalPlan nonzero monoUpper fastLift s okProd := by
  have hadd : ckAdd 0 1 = .ok 1 := ckAdd_ok_pow (by decide)
  have h100 : ckAdd 100 0 = .ok 100 := ckAdd_ok_pow (by decide)
  have h101 : ckAdd 100 1 = .ok 101 := ckAdd_ok_pow (by decide)
  have hm : ckMul n k = .ok (n * k) := ckMul_ok_pow hnk
  unfold GenC.ct_multiply_plain_normal_plan multiplyPlainNormalPlan multiplyPlainNormalRoute mulPlainScaleRule
  by_cases h1 : nonzero = 1
  · cases monoUpper <;> cases fastLift <;> cases s <;> cases okProd <;>
      simp [h1, hadd, h100, h101, bind, Except.bind, pure, Except.pure]
  · cases fastLift <;> cases s <;> cases okProd <;>
      simp [h1, hadd, h100, h101, hm, bind, Except.bind, pure, Except.pure]

end HC
