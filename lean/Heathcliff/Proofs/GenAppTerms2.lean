/-
  `Conv2dHelper::output_terms` (src/app/conv2d.rs, four nested loops pushing `mask_index`) and `Conv2dHelper::get_total_batch_size`
  regenerated into Gen/AppFns.lean = `cvOutputTerms` resp. `CHelper.totalBatch` of the hand model.  Helper prefix `ga_`.
-/
import Heathcliff.Proofs.GenAppTerms

namespace HC
open HC.MM HC.GenApp

theorem ga_quads_map {β : Type} (A B C D : Nat) (g : Nat → Nat → Nat → Nat → β) :
    (quads A B C D).map (fun q => g q.1 q.2.1 q.2.2.1 q.2.2.2)
      = (List.range A).flatMap fun a => (List.range B).flatMap fun b => (List.range C).flatMap fun c =>
          (List.range D).map fun d => g a b c d := by
  simp [quads, List.map_flatMap, List.map_map, Function.comp_def]

/-- row `hb − yh + i`, column `wb − yw + j` of an `hb × wb` block that starts at `base` -/
theorem ga_block_pixel {β : Type} {hb wb yh yw i j base : Nat} (hyh : yh ≤ hb) (hi : i < yh) (hyw : yw ≤ wb) (hj : j < yw)
    (hfit : base + hb * wb < 2^64) (f : Nat → R β) :
    (do let t1 ← ckSub hb yh
        let t2 ← ckAdd t1 i
        let t3 ← ckMul t2 wb
        let t4 ← ckAdd base t3
        let t5 ← ckSub wb yw
        let t6 ← ckAdd t5 j
        let t7 ← ckAdd t4 t6
        f t7) = f (base + (hb - yh + i) * wb + (wb - yw + j)) := by
  have hcol : wb - yw + j < wb := by omega
  have hrow : (hb - yh + i) * wb + wb ≤ hb * wb := grid_succ_le (by omega)
  -- every intermediate is at most the block size `hb·wb`
  have lt : ∀ {x}, x ≤ hb * wb → base + x < 2^64 := fun h => Nat.lt_of_le_of_lt (Nat.add_le_add_left h base) hfit
  have lt' : ∀ {x}, x ≤ hb * wb → x < 2^64 := fun h => Nat.lt_of_le_of_lt (Nat.le_add_left _ base) (lt h)
  have hmul : (hb - yh + i) * wb ≤ hb * wb := Nat.le_of_add_right_le hrow
  simp only [ckSub_of_le hyh, ckAdd_ok_pow (lt' (Nat.le_trans (Nat.le_mul_of_pos_right _ (Nat.zero_lt_of_lt hcol)) hmul)),
    ckMul_ok_pow (lt' hmul), ckAdd_ok_pow (lt hmul), ckSub_of_le hyw,
    ckAdd_ok_pow (lt' (Nat.le_trans (Nat.le_of_lt hcol) (Nat.le_trans (Nat.le_add_left _ _) hrow))),
    ckAdd_ok_pow (Nat.add_assoc _ _ _ ▸ lt (Nat.le_trans (Nat.add_le_add_left (Nat.le_of_lt hcol) _) hrow)), R.ok_bind]

/-- one push of `output_terms`, for any `yh × yw` window at the bottom right of the block -/
theorem ga_cv_output_terms_loop1_eq (H : Conv2dHelper) (hcib : 1 ≤ H.input_channel_block)
    (hfit : H.batch_block * H.input_channel_block * H.output_channel_block * (H.image_height_block * H.image_width_block) < 2^64)
    {yh yw b c i j : Nat} (hb : b < H.batch_block) (hc : c < H.output_channel_block)
    (hyh : yh ≤ H.image_height_block) (hi : i < yh) (hyw : yw ≤ H.image_width_block) (hj : j < yw) (l : List Nat) :
    cv_output_terms_loop1 H (H.image_height_block * H.image_width_block) yh yw b c i j l
      = .ok (.next (l ++ [(b * H.input_channel_block * H.output_channel_block + c * H.input_channel_block + H.input_channel_block - 1)
          * (H.image_height_block * H.image_width_block)
          + (H.image_height_block - yh + i) * H.image_width_block + (H.image_width_block - yw + j)])) := by
  have hI : 0 < H.image_height_block * H.image_width_block := Nat.mul_pos (by omega) (by omega)
  have hP : H.batch_block * H.input_channel_block * H.output_channel_block < 2^64 :=
    Nat.lt_of_le_of_lt (Nat.le_mul_of_pos_right _ hI) hfit
  -- the block with that index ends where the next one starts, inside the product
  have hT : (b * H.input_channel_block * H.output_channel_block + c * H.input_channel_block + H.input_channel_block - 1)
        * (H.image_height_block * H.image_width_block) + H.image_height_block * H.image_width_block
      ≤ H.batch_block * H.input_channel_block * H.output_channel_block * (H.image_height_block * H.image_width_block) := by
    rw [← Nat.succ_mul, Nat.succ_eq_add_one, Nat.sub_add_cancel (Nat.le_trans hcib (Nat.le_add_left _ _))]
    exact Nat.mul_le_mul_right _ (ga_block_le hb hc)
  simp only [cv_output_terms_loop1, ga_block_last hb hc hcib hP, ckMul_ok_pow (Nat.lt_of_le_of_lt (Nat.le_of_add_right_le hT) hfit),
    ga_block_pixel hyh hi hyw hj (Nat.lt_of_le_of_lt hT hfit), R.ok_bind]
  rfl

/-- **`Conv2dHelper::output_terms`, generated = model**, for every helper whose blocks contain a non-empty kernel, whose input-channel
    block is non-zero and whose block product fits a word (what `Conv2dHelper::new` returns: `gen_cv_new_sound`) -/
theorem ga_cv_output_terms_eq (H : Conv2dHelper)
    (hkh1 : 1 ≤ H.kernel_height) (hkh2 : H.kernel_height ≤ H.image_height_block)
    (hkw1 : 1 ≤ H.kernel_width) (hkw2 : H.kernel_width ≤ H.image_width_block) (hbb : 1 ≤ H.batch_block)
    (hcib : 1 ≤ H.input_channel_block) (hcob : 1 ≤ H.output_channel_block)
    (hfit : H.batch_block * H.input_channel_block * H.output_channel_block * (H.image_height_block * H.image_width_block) < 2^64) :
    cv_output_terms H = .ok (cvOutputTerms (ga_toCHelper H)) := by
  have hyh : H.image_height_block - H.kernel_height + 1 ≤ H.image_height_block := by omega
  have hyw : H.image_width_block - H.kernel_width + 1 ≤ H.image_width_block := by omega
  have hI : H.image_height_block * H.image_width_block < 2^64 :=
    Nat.lt_of_le_of_lt (Nat.le_mul_of_pos_left _ (Nat.mul_pos (Nat.mul_pos hbb hcib) hcob)) hfit
  have hh : H.image_height_block ≤ H.image_height_block * H.image_width_block :=
    Nat.le_mul_of_pos_right _ (Nat.lt_of_lt_of_le hkw1 hkw2)
  have hw : H.image_width_block ≤ H.image_height_block * H.image_width_block :=
    Nat.le_mul_of_pos_left _ (Nat.lt_of_lt_of_le hkh1 hkh2)
  rw [cvOutputTerms, ga_quads_map]
  simp only [cv_output_terms, ckMul_ok_pow hI, ckSub_of_le hkh2, ckAdd_ok_pow (Nat.lt_of_le_of_lt (Nat.le_trans hyh hh) hI), ckSub_of_le hkw2,
    ckAdd_ok_pow (Nat.lt_of_le_of_lt (Nat.le_trans hyw hw) hI), R.ok_bind]
  refine ga_forUp_push_list _ _ _ [] fun b l hb => ?_
  refine ga_forUp_push_list_next _ _ _ _ fun c l hc => ?_
  refine ga_forUp_push_list_next _ _ _ _ fun i l hi => ?_
  refine ga_forUp_push_next _ _ _ _ fun j l hj => ?_
  exact ga_cv_output_terms_loop1_eq H hcib hfit hb hc hyh hi hyw hj l

/-- **`Conv2dHelper::get_total_batch_size`, generated = `CHelper.totalBatch`** (number of input groups: batch blocks × tile rows × tile columns)
    for a helper whose blocks contain a non-empty kernel that fits the image, non-zero batch block, dimensions ≤ 2^15 -/
theorem ga_cv_total_batch_eq (H : Conv2dHelper)
    (hkh1 : 1 ≤ H.kernel_height) (hkh2 : H.kernel_height ≤ H.image_height_block) (hkh3 : H.kernel_height ≤ H.image_height)
    (hkw1 : 1 ≤ H.kernel_width) (hkw2 : H.kernel_width ≤ H.image_width_block) (hkw3 : H.kernel_width ≤ H.image_width)
    (hbb : 1 ≤ H.batch_block) (hsz : H.batch_size ≤ 2^15 ∧ H.image_height ≤ 2^15 ∧ H.image_width ≤ 2^15)
    (hblk : H.batch_block ≤ 2^15 ∧ H.image_height_block ≤ 2^15 ∧ H.image_width_block ≤ 2^15) :
    cv_total_batch H = .ok (ga_toCHelper H).totalBatch := by
  obtain ⟨s1, s2, s3⟩ := hsz
  obtain ⟨k1, k2, k3⟩ := hblk
  have d1 : 1 ≤ H.image_height_block - (H.kernel_height - 1) :=
    Nat.sub_pos_of_lt (Nat.lt_of_lt_of_le (Nat.sub_lt hkh1 Nat.one_pos) hkh2)
  have d2 : 1 ≤ H.image_width_block - (H.kernel_width - 1) :=
    Nat.sub_pos_of_lt (Nat.lt_of_lt_of_le (Nat.sub_lt hkw1 Nat.one_pos) hkw2)
  have b1 : ceilDiv H.batch_size H.batch_block ≤ 2^15 := Nat.le_trans (c20_ceilDiv_le hbb) s1
  have b2 : ceilDiv (H.image_height - (H.kernel_height - 1)) (H.image_height_block - (H.kernel_height - 1)) ≤ 2^15 :=
    Nat.le_trans (c20_ceilDiv_le d1) (Nat.le_trans (Nat.sub_le _ _) s2)
  have b3 : ceilDiv (H.image_width - (H.kernel_width - 1)) (H.image_width_block - (H.kernel_width - 1)) ≤ 2^15 :=
    Nat.le_trans (c20_ceilDiv_le d2) (Nat.le_trans (Nat.sub_le _ _) s3)
  have add : ∀ {x y : Nat}, x ≤ 2^15 → y ≤ 2^15 → x + y < 2^64 := fun hx hy =>
    Nat.lt_of_le_of_lt (Nat.add_le_add hx hy) (by decide)
  simp only [cv_total_batch, ckSub_of_le hkh1, ckSub_of_le hkw1, ckSub_of_le (Nat.le_trans (Nat.sub_le _ _) hkh3),
    ckSub_of_le (Nat.le_trans (Nat.sub_le _ _) hkh2),
    ga_cv_ceil_div d1 (add (Nat.le_trans (Nat.sub_le _ _) s2) (Nat.le_trans (Nat.sub_le _ _) k2)),
    ckSub_of_le (Nat.le_trans (Nat.sub_le _ _) hkw3), ckSub_of_le (Nat.le_trans (Nat.sub_le _ _) hkw2),
    ga_cv_ceil_div d2 (add (Nat.le_trans (Nat.sub_le _ _) s3) (Nat.le_trans (Nat.sub_le _ _) k3)),
    ga_cv_ceil_div hbb (add s1 k1), R.ok_bind,
    ckMul_ok_pow (Nat.lt_of_le_of_lt (Nat.mul_le_mul b1 b2) (by decide)),
    ckMul_ok_pow (Nat.lt_of_le_of_lt (Nat.mul_le_mul (Nat.mul_le_mul b1 b2) b3) (by decide))]
  rfl

end HC
