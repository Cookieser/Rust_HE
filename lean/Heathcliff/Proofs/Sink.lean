/-
  Writers obeying the `Write` contract: `write_all` terminates and is all-or-error; a serializer whose
  scalar writers use `write_all` either transmits the complete encoding or returns an error (and then a
  prefix of the encoding is on the wire).  No Mathlib: the only import is the model, Model/Codec.lean.
-/
import Heathcliff.Model.Codec
namespace HC.Codec

/-- the two possible outcomes of one `write` call (the `Write` contract of the model stream) -/
theorem Sink.write_cases (s : Sink) (buf : Bytes) :
    (s.failAt = some s.calls ∧ s.write buf = (.error .fault, { s with calls := s.calls + 1 })) ∨
    (s.failAt ≠ some s.calls ∧
      s.write buf = (.ok (min s.limit buf.length),
        { s with calls := s.calls + 1, out := s.out ++ buf.take (min s.limit buf.length) })) := by
  by_cases h : s.failAt = some s.calls
  · left; exact ⟨h, by simp [Sink.write, h]⟩
  · right; exact ⟨h, by simp [Sink.write, h]⟩

/-- outcome of `write_all`-like transmission of `buf` starting from stream state `s` (the result is `()`): all of `buf` is appended to the
    stream, or an error is returned and a prefix of `buf` is; `Clean` below is the same for a serializer, whose result is the byte count -/
def AllOrErr (buf : Bytes) (s : Sink) (r : Except IOErr Unit × Sink) : Prop :=
  (r.1 = .ok () → r.2.out = s.out ++ buf) ∧
  (∀ e, r.1 = .error e → ∃ j, j ≤ buf.length ∧ r.2.out = s.out ++ buf.take j)

theorem Sink.limit_pos (s : Sink) (h : ∀ l ∈ s.limits, 1 ≤ l) : 1 ≤ s.limit := by
  unfold Sink.limit
  split
  · decide
  · rename_i hne
    have hlen : 0 < s.limits.length := by
      cases hl : s.limits with
      | nil => simp [hl] at hne
      | cons _ _ => simp
    have hi : s.calls % s.limits.length < s.limits.length := Nat.mod_lt _ hlen
    rw [List.getD_eq_getElem?_getD, List.getElem?_eq_getElem hi, Option.getD_some]
    exact h _ (List.getElem_mem hi)

/-- liveness (the third conjunct) rides along with safety, so that the loop is analysed once -/
theorem writeAllFuel_spec (fuel : Nat) : ∀ (s : Sink) (buf : Bytes), buf.length ≤ fuel →
    ∃ r, writeAllFuel fuel s buf = some r ∧ AllOrErr buf s r ∧
      (s.failAt = none → (∀ l ∈ s.limits, 1 ≤ l) → r.1 = .ok ()) := by
  induction fuel with
  | zero =>
    intro s buf h
    cases buf with
    | nil => exact ⟨(.ok (), s), rfl, by simp [AllOrErr], fun _ _ => rfl⟩
    | cons b bs => simp at h
  | succ f ih =>
    intro s buf h
    cases buf with
    | nil => exact ⟨(.ok (), s), rfl, by simp [AllOrErr], fun _ _ => rfl⟩
    | cons b bs =>
      rcases Sink.write_cases s (b :: bs) with ⟨hfail, hw⟩ | ⟨_, hw⟩
      · refine ⟨(.error .fault, { s with calls := s.calls + 1 }), by simp only [writeAllFuel, hw],
          ⟨(by intro h; cases h), fun e _ => ⟨0, by simp, by simp⟩⟩, fun hf _ => ?_⟩
        rw [hf] at hfail; cases hfail
      · generalize hn : min s.limit (b :: bs).length = n at hw
        cases n with
        | zero =>
          refine ⟨(.error .writeZero, { s with calls := s.calls + 1, out := s.out ++ (b :: bs).take 0 }),
            by simp only [writeAllFuel, hw], ⟨(by intro h; cases h), fun e _ => ⟨0, by simp, by simp⟩⟩, fun _ hl => ?_⟩
          -- a stream whose limits are all ≥ 1 never accepts 0 bytes of a non-empty buffer
          have := Sink.limit_pos s hl
          simp only [List.length_cons] at hn; omega
        | succ m =>
          have hm : m + 1 ≤ (b :: bs).length := by rw [← hn]; exact Nat.min_le_right _ _
          have hlen : ((b :: bs).drop (m + 1)).length ≤ f := by
            simp only [List.length_drop, List.length_cons] at h hm ⊢; omega
          obtain ⟨r, hr, ⟨hok, herr⟩, hlive⟩ := ih { s with calls := s.calls + 1, out := s.out ++ (b :: bs).take (m + 1) }
            ((b :: bs).drop (m + 1)) hlen
          refine ⟨r, by simp only [writeAllFuel, hw]; exact hr, ⟨fun h1 => ?_, fun e h1 => ?_⟩, hlive⟩
          · have := hok h1
            simp only [List.append_assoc, List.take_append_drop] at this
            exact this
          · obtain ⟨j, hj, ho⟩ := herr e h1
            refine ⟨m + 1 + j, ?_, ?_⟩
            · simp only [List.length_drop] at hj; omega
            · simp only at ho
              rw [ho, List.append_assoc, ← List.take_add]

/-- liveness: a stream that never fails and accepts at least one byte per call makes `write_all` succeed -/
theorem writeAllFuel_ok (fuel : Nat) (s : Sink) (buf : Bytes) (h : buf.length ≤ fuel)
    (hf : s.failAt = none) (hl : ∀ l ∈ s.limits, 1 ≤ l) :
    ∃ s', writeAllFuel fuel s buf = some (.ok (), s') ∧ s'.out = s.out ++ buf := by
  obtain ⟨⟨r1, s'⟩, hr, hs, hlive⟩ := writeAllFuel_spec fuel s buf h
  obtain rfl : r1 = .ok () := hlive hf hl
  exact ⟨s', hr, hs.1 rfl⟩

/-- `write_all` (fuel = `|buf|`) never runs out of fuel and is all-or-error -/
theorem writeAll_spec (s : Sink) (buf : Bytes) : AllOrErr buf s (writeAll s buf) := by
  obtain ⟨r, hr, h, _⟩ := writeAllFuel_spec buf.length s buf (Nat.le_refl _)
  simp only [writeAll, hr, Option.getD_some]
  exact h

/-- outcome of a serializer over the stream: complete encoding and its exact length, or an error with a
    prefix of the encoding on the wire (`AllOrErr` with the byte count as result); `serialize_clean`, the C15 statement, is stated with it -/
def Clean (buf : Bytes) (s : Sink) (r : Except IOErr Nat × Sink) : Prop :=
  (∀ n, r.1 = .ok n → n = buf.length ∧ r.2.out = s.out ++ buf) ∧
  (∀ e, r.1 = .error e → ∃ j, j ≤ buf.length ∧ r.2.out = s.out ++ buf.take j)

theorem scalarWrite_writeAll_clean (s : Sink) (buf : Bytes) : Clean buf s (scalarWrite .writeAll s buf) := by
  have h := writeAll_spec s buf
  unfold scalarWrite
  generalize writeAll s buf = r at h
  obtain ⟨res, s'⟩ := r
  cases res with
  | ok u =>
    cases u
    refine ⟨fun n hn => ?_, fun e he => (by cases he)⟩
    simp only [Except.ok.injEq] at hn
    exact ⟨hn.symm, h.1 rfl⟩
  | error e =>
    exact ⟨fun n hn => (by cases hn), fun e' _ => h.2 e rfl⟩

theorem serialize_clean (mode : SK → WMode) (hm : ∀ k, mode k = .writeAll) :
    ∀ (cs : List Chunk) (s : Sink), Clean (flat cs) s (serialize mode cs s) := by
  intro cs
  induction cs with
  | nil =>
    intro s
    refine ⟨fun n hn => ?_, fun e he => ?_⟩
    · simp only [serialize, Except.ok.injEq] at hn
      simp [serialize, flat, ← hn]
    · simp [serialize] at he
  | cons c cs ih =>
    intro s
    have h1 := scalarWrite_writeAll_clean s c.bytes
    rcases hsw : scalarWrite .writeAll s c.bytes with ⟨res1, s1⟩
    rw [hsw] at h1
    cases res1 with
    | error e =>
      have hs : serialize mode (c :: cs) s = (.error e, s1) := by simp only [serialize, hm, hsw]
      rw [hs]
      obtain ⟨j, hj, ho⟩ := h1.2 e rfl
      refine ⟨fun n hn => (by cases hn), fun e' _ => ⟨j, ?_, ?_⟩⟩
      · simp only [flat, List.length_append]; omega
      · simp only [flat]; simp only at ho; rw [ho, List.take_append_of_le_length hj]
    | ok n1 =>
      obtain ⟨hn1, ho1⟩ := h1.1 n1 rfl
      simp only at ho1
      have h2 := ih s1
      rcases hse : serialize mode cs s1 with ⟨res2, s2⟩
      rw [hse] at h2
      cases res2 with
      | error e =>
        have hs : serialize mode (c :: cs) s = (.error e, s2) := by simp only [serialize, hm, hsw, hse]
        rw [hs]
        obtain ⟨j, hj, ho⟩ := h2.2 e rfl
        simp only at ho
        refine ⟨fun n hn => (by cases hn), fun e' _ => ⟨c.bytes.length + j, ?_, ?_⟩⟩
        · simp only [flat, List.length_append]; omega
        · simp only [flat]
          have e1 : List.take (c.bytes.length + j) c.bytes = c.bytes := List.take_of_length_le (by omega)
          rw [ho, ho1, List.append_assoc, List.take_append, e1, Nat.add_sub_cancel_left]
      | ok n2 =>
        have hs : serialize mode (c :: cs) s = (.ok (n1 + n2), s2) := by simp only [serialize, hm, hsw, hse]
        rw [hs]
        obtain ⟨hn2, ho2⟩ := h2.1 n2 rfl
        simp only at ho2
        refine ⟨fun n hn => ?_, fun e he => (by cases he)⟩
        simp only [Except.ok.injEq] at hn
        refine ⟨?_, ?_⟩
        · simp only [flat, List.length_append]; omega
        · simp only [flat]; rw [ho2, ho1, List.append_assoc]

/-- (`pinned_`: about the pinned Rust tree of DESIGN.md §0.4, whose scalar writers call `write`)  with `write` in place of `write_all`
    (count unchecked), `serialize_clean` fails: a stream that
    accepts 3 bytes per call makes `0x0807060504030201u64.serialize` return `Ok(3)` with 3 bytes sent -/
theorem pinned_short_write_witness :
    serialize (fun _ => .write) (u64C.chunks 578437695752307201) ⟨[3], none, 0, []⟩
      = (.ok 3, ⟨[3], none, 1, [1, 2, 3]⟩) := by rfl

end HC.Codec
