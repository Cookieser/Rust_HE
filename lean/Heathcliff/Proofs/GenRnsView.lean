import Heathcliff.Proofs.GenRnsKernels
import Heathcliff.Proofs.BaseRns
import Heathcliff.Proofs.C10H

/-!
  An RNS polynomial of the hand model (`RnsPoly` = array of components) as the flat buffer the generated routines work on: `flatP p`, shapes, what
  `flatP` does to the ways the model builds a polynomial (`gr_flatP_*`), the model's `mapM'` / `zipM'` over arrays as `List.mapM` in the forms the
  generated loops are brought to.  `gr_rows_tie`: a model routine that builds its result row by row, read through `flatP`, is the row form on lists in
  which every generated routine is expressed; a tie is (generated = row form) + this + (model row = list row).  `gr_read`: from a tie and a
  successful model run, the generated run and its flat result read at `i * n + j`.
-/
namespace HC
open HC.GenW HC.GenR

/-- the flat `&[u64]` layout of an RNS polynomial: component `i`, coefficient `j` at `i * n + j` -/
def flatP (p : RnsPoly) : List Nat := (p.toList.map Array.toList).flatten

theorem gr_foldlM_push {α : Type} (step : Array Nat → α → R (Array Nat)) (F : α → R Nat) (l : List α) (acc : Array Nat)
    (h : ∀ acc x, x ∈ l → step acc x = (F x >>= fun y => .ok (acc.push y))) :
    l.foldlM step acc = (l.mapM F >>= fun ys => .ok (acc ++ ys.toArray)) := by
  rw [← R.foldlM_push F l acc]
  exact R.foldlM_congr acc fun x hx acc => h acc x hx

/-- `zipM'` in the form the generated loops are brought to: over `List.range'`, reading the lists -/
theorem gr_zipM'_eq (a b : Array Nat) (f : Nat → Nat → R Nat) :
    zipM' a b f = ((List.range' 0 a.size).mapM (fun j => f (a.toList.getD j 0) (b.toList.getD j 0)) >>= fun ys => .ok ys.toArray) := by
  rw [zipM'_eq, List.range_eq_range']
  simp only [array_getD_toList _ _ 0]

theorem gr_cs_getD (p : RnsPoly) (i : Nat) : (p.toList.map Array.toList).getD i [] = (p.getD i #[]).toList := by
  rw [List.getD_eq_getElem?_getD, List.getElem?_map]
  by_cases h : i < p.size
  · simp [Array.getD_eq_getD_getElem?, h]
  · simp [Array.getD_eq_getD_getElem?, h]

theorem gr_baseq_toList (b : RNSBase) (i : Nat) : b.base.toList.getD i gr_dflt = b.q i := by
  unfold RNSBase.q gr_dflt
  simp [Array.getD_eq_getD_getElem?, List.getD_eq_getElem?_getD]

theorem gr_ops_toList (a : Array MulOperand) (i : Nat) : a.toList.getD i default = a.getD i default := array_getD_toList a i default

/-- shape of an RNS polynomial for a tool: one component of `n` coefficients per prime of the base -/
def gr_Shape (r : RNSTool) (p : RnsPoly) : Prop := p.size = r.baseQ.size ∧ ∀ i, i < r.baseQ.size → (p.getD i #[]).size = r.n

/-- a polynomial of `s` components of size `n`, read as a list of lists: `s` blocks of length `n` (`Blk n`); `gr_shape_cs` is the case of a tool's base `q` -/
theorem gr_shape_cs' {p : RnsPoly} {s n : Nat} (h1 : p.size = s) (h2 : ∀ i, i < s → (p.getD i #[]).size = n) :
    (p.toList.map Array.toList).length = s ∧ ∀ c ∈ p.toList.map Array.toList, c.length = n := by
  refine ⟨by simp [h1], ?_⟩
  intro c hc
  obtain ⟨a, ha, rfl⟩ := List.mem_map.mp hc
  obtain ⟨i, hi, rfl⟩ := List.getElem_of_mem ha
  have hi' : i < p.size := by simpa using hi
  have := h2 i (by rw [← h1]; exact hi')
  rw [Array.length_toList]
  simpa [Array.getD_eq_getD_getElem?, hi'] using this

theorem gr_shape_cs {r : RNSTool} {p : RnsPoly} (h : gr_Shape r p) :
    (p.toList.map Array.toList).length = r.baseQ.size ∧ ∀ c ∈ p.toList.map Array.toList, c.length = r.n := gr_shape_cs' h.1 h.2

theorem gr_flatP_extract (p : RnsPoly) (s : Nat) : flatP (p.extract 0 s) = ((p.toList.map Array.toList).take s).flatten := by
  unfold flatP
  rw [Array.toList_extract, List.map_take]
  simp

/-- reading the flat layout needs the shape of the rows up to the one read only -/
theorem gr_flatP_getD {p : RnsPoly} {s n i j : Nat} (h1 : s ≤ p.size) (h2 : ∀ i, i < s → (p.getD i #[]).size = n) (hi : i < s) (hj : j < n) :
    (flatP p).getD (i * n + j) 0 = (p.getD i #[]).getD j 0 := by
  have hex : ∀ i, i < s → (p.extract 0 s).getD i #[] = p.getD i #[] := fun i hi => array_getD_extract p #[] h1 hi
  obtain ⟨hcs, hn⟩ := gr_shape_cs' (p := p.extract 0 s) (s := s) (by simp; omega) (fun i hi => by rw [hex i hi]; exact h2 i hi)
  have hsplit : flatP p = flatP (p.extract 0 s) ++ ((p.toList.map Array.toList).drop s).flatten := by
    rw [gr_flatP_extract, ← List.flatten_append, List.take_append_drop]; rfl
  rw [hsplit, list_getD_append_left _ _ 0 (by rw [flatP, Blk.length (D := n) hn, hcs]; exact grid_lt hi hj), flatP,
    Blk.getD hn (hcs.symm ▸ hi) hj, gr_cs_getD, hex i hi, ← array_getD_toList _ _ 0]

theorem gr_flatP_lists (outs : List (List Nat)) : flatP (outs.map List.toArray).toArray = outs.flatten := by
  unfold flatP; simp [List.map_map, Function.comp_def]

/-- from a tie, a successful model run and the shape of the first `s` rows of its output: the generated run, and position `i * n + j` of its
    flat result read as coefficient `j` of component `i < s` -/
theorem gr_read {g : R (List Nat)} {m : R RnsPoly} (heq : g = m.map flatP) {o : RnsPoly} (ho : m = .ok o) {s n : Nat}
    (h1 : s ≤ o.size) (h2 : ∀ i, i < s → (o.getD i #[]).size = n) :
    g = .ok (flatP o) ∧ ∀ i j, i < s → j < n → (flatP o).getD (i * n + j) 0 = (o.getD i #[]).getD j 0 :=
  ⟨by rw [heq, ho]; rfl, fun _ _ hi hj => gr_flatP_getD h1 h2 hi hj⟩

theorem gr_range_mapM_lists (s : Nat) (F : Nat → R (Array Nat)) (comp : Nat → R (List Nat))
    (h : ∀ i, i < s → F i = (comp i >>= fun c => .ok c.toArray)) :
    (List.range s).mapM F = ((List.range' 0 s).mapM comp >>= fun outs => .ok (outs.map List.toArray)) := by
  rw [← R.mapM_map_after, List.range_eq_range']
  exact R.mapM_congr (fun i hi => h i (by rw [List.mem_range'_1] at hi; omega))

/-- from rows to polynomials: a model routine that builds its result row by row (`F i`, then `tail`), read through `flatP`, is the row form
    on lists in which the generated routines are expressed, provided each model row is the list row (an equation between programs) -/
theorem gr_rows_tie {k : Nat} {F : Nat → R (Array Nat)} {row : Nat → R (List Nat)} (tail : List (Array Nat))
    (h : ∀ i, i < k → F i = (row i >>= fun c => .ok c.toArray)) :
    ((List.range k).mapM F >>= fun outs => (.ok (outs ++ tail).toArray : R RnsPoly)).map flatP
      = ((List.range' 0 k).mapM row >>= fun outs => .ok (outs ++ tail.map Array.toList).flatten) := by
  rw [gr_range_mapM_lists k F row h, bind_assoc, R.bind_map]
  refine R.bind_congr _ fun outs _ => ?_
  rw [R.ok_bind, R.map_ok]
  unfold flatP
  simp [List.map_map, Function.comp_def]

theorem gr_rows_tie₀ {k : Nat} {F : Nat → R (Array Nat)} {row : Nat → R (List Nat)}
    (h : ∀ i, i < k → F i = (row i >>= fun c => .ok c.toArray)) :
    ((List.range k).mapM F >>= fun outs => (.ok outs.toArray : R RnsPoly)).map flatP
      = ((List.range' 0 k).mapM row >>= fun outs => .ok outs.flatten) := by
  simpa only [List.append_nil, List.map_nil] using gr_rows_tie [] h

theorem gr_mapM'_mulOp (a : Array Nat) (o : MulOperand) (m : Modulus) :
    mapM' a (fun x => mulOperandMod x o m) = .ok (a.toList.map (fun x => mulOpV x o m)).toArray := by
  rw [mapM'_eq, R.mapM_ok _ (fun x => mulOpV x o m) _ (fun x _ => gr_mulOperandMod _ _ _)]
  rfl

theorem gr_flatP_mk (m n : Nat) (F : Nat → Nat → Nat) :
    flatP (((List.range m).map (fun o => ((List.range n).map (fun j => F o j)).toArray)).toArray)
      = ((List.range' 0 m).map (fun o => (List.range' 0 n).map (F o))).flatten := by
  unfold flatP
  rw [List.map_map, List.range_eq_range', List.range_eq_range']
  rfl

theorem gr_flatP_zero (m n : Nat) : flatP (Array.replicate m (Array.replicate n 0)) = List.replicate (n * m) 0 := by
  unfold flatP
  simp [List.flatten_replicate_replicate, Nat.mul_comm]

theorem gr_flatP_single (a : RnsPoly) (h : a.size = 1) : flatP a = (a.getD 0 #[]).toList := by
  unfold flatP
  have h1 : a.toList.map Array.toList = [(a.getD 0 #[]).toList] := by
    apply List.ext_getElem
    · simp [h]
    · intro i h1 h2
      have hi0 : i = 0 := by simpa [h] using h1
      subst hi0
      have h0 : 0 < a.size := by omega
      simp [Array.getD, h0]
  rw [h1]; simp

theorem gr_flatP_append (a b : RnsPoly) : flatP (a ++ b) = flatP a ++ flatP b := by
  unfold flatP; simp

end HC
