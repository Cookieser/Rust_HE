import Heathcliff.Proofs.GenPoly
import Heathcliff.Proofs.GenScaling
import Heathcliff.Proofs.GenBlk
import Heathcliff.Model.Evaluator

/-!
  The multi-component wrappers (`_p`: all RNS components of one polynomial, `_ps`: several polynomials) of
  src/util/polysmallmod.rs against the model's `RnsPoly`-level folds (`rnsZip` = `compsZip l.qs`, `rnsNeg`, `compsMap l.qs`) on
  `unflattenRns` / `flattenRns`; block `j` of a flat operand is `gp_blk n r j` (Proofs/GenBlk.lean), which is component `j` of
  `unflattenRns` (`gp_unflatten_blk`).  Generic part: a wrapper's loop, taken by its two unfolding equations, has a step of one of two shapes
  (`gp_step`, `gp_stepI`); `gp_step_loop` / `gp_stepI_loop` turn it into `gp_blocks` (kernel applied blockwise), `gp_blocks_model` into the
  model's component fold via the FLATTEN LEMMA `flattenRns_blocks`; `gp_binI_model`, `gp_unI_model`, `gp_ps_model` are the three kinds of wrapper.  Helper names start with `gp_`.
-/
namespace HC
open HC.GenW HC.GenP

theorem gp_qs_length (l : Level) : l.qs.toList.length = l.size := by simp [Level.size]

theorem gp_unflatten_blk (size n : Nat) (r : List Nat) (j : Nat) (hj : j < size) (h : j * n + n ≤ r.length) :
    (unflattenRns size n r).getD j #[] = (gp_blk n r j).toArray := by
  unfold unflattenRns
  rw [list_getD_toArray, list_getD_range_map _ _ hj]
  congr 1
  apply List.ext_getElem
  · simp [gp_blk_length n r j h]
  · intro k h1 h2
    have hk : k < n := by simpa using h1
    simp only [List.getElem_map, List.getElem_range]
    have := gp_blk_getD n r j k hk
    rw [← this]
    simp [List.getD, h2]

theorem gp_flattenRns_length (size n : Nat) (p : RnsPoly) : (flattenRns size n p).length = size * n := by
  unfold flattenRns; rw [List.length_map, List.length_range]

/-- FLATTEN LEMMA: the flat layout of an `RnsPoly` given as a list of `n`-blocks is the concatenation of the blocks -/
theorem flattenRns_blocks (n : Nat) : ∀ (bs : List (List Nat)), (∀ b, b ∈ bs → b.length = n) →
    flattenRns bs.length n (bs.map List.toArray).toArray = bs.flatten := by
  intro bs (h : Blk n bs)
  apply List.ext_getElem
  · rw [gp_flattenRns_length, h.length]
  · intro x hx _
    rw [gp_flattenRns_length] at hx
    have hi := gz_div_lt hx
    have hrow : (bs.map List.toArray).toArray.getD (x / n) #[] = (bs.getD (x / n) []).toArray := by
      rw [list_getD_toArray, list_getD_eq_getElem _ _ (by rw [List.length_map]; exact hi), list_getD_eq_getElem bs [] hi, List.getElem_map]
    rw [← list_getD_eq_getElem _ 0, ← list_getD_eq_getElem _ 0, flattenRns, list_getD_range_map _ _ hx, hrow,
      list_getD_toArray (bs.getD (x / n) []), ← h.getD hi (Nat.mod_lt x (gz_npos hx)), gz_div_mod]

theorem gp_blocks_mapM (B : Nat → List Nat → R (List Nat)) (n : Nat) (r0 : List Nat) : ∀ cnt i,
    gp_blocks B n cnt i (r0.drop (i * n)) =
      (do let outs ← (List.range' i cnt).mapM (fun j => B j (gp_blk n r0 j)); pure (outs.flatten ++ r0.drop ((i + cnt) * n))) := by
  intro cnt
  induction cnt with
  | zero => intro i; simp [gp_blocks]
  | succ c ih =>
    intro i
    rw [gp_blocks, List.drop_drop, show i * n + n = (i + 1) * n by rw [Nat.succ_mul], ih (i + 1), List.range'_succ, List.mapM_cons]
    show (do let o ← B i (gp_blk n r0 i); _) = _
    cases B i (gp_blk n r0 i) with
    | error e => rfl
    | ok o =>
      simp only [bind, Except.bind]
      cases (List.range' (i + 1) c).mapM (fun j => B j (gp_blk n r0 j)) with
      | error e => rfl
      | ok outs =>
        simp only [pure, Except.pure, List.flatten_cons, List.append_assoc]
        rw [show i + 1 + c = i + (c + 1) by omega]

theorem gp_mapM_map {α β γ : Type} (f : α → R β) (g : β → γ) (l : List α) :
    l.mapM (fun j => Except.map g (f j)) = Except.map (List.map g) (l.mapM f) := by
  have e : ∀ {α β : Type} (g : α → β) (x : R α), Except.map g x = x >>= fun b => .ok (g b) := fun g x => by cases x <;> rfl
  simp only [e]
  exact R.mapM_map_after f g l

/-- a blockwise computation on the flat buffer whose blocks are the model's component computations `C j` IS the model's component fold
    (`rnsZip` / `rnsMap` / `rnsNeg` … are literally such folds), flattened -/
theorem gp_blocks_model (B : Nat → List Nat → R (List Nat)) (C : Nat → R (Array Nat)) (n size : Nat) (r0 : List Nat)
    (hl : r0.length = size * n)
    (hBC : ∀ j, j < size → B j (gp_blk n r0 j) = Except.map Array.toList (C j))
    (hlen : ∀ j o, j < size → C j = .ok o → o.size = n) :
    gp_blocks B n size 0 r0 =
      Except.map (flattenRns size n) ((List.range size).foldlM (fun acc j => do let c ← C j; pure (acc.push c)) #[]) := by
  have h := gp_blocks_mapM B n r0 size 0
  simp only [Nat.zero_mul, List.drop_zero, Nat.zero_add] at h
  rw [h, R.foldlM_push, ← List.range_eq_range',
    R.mapM_congr (g := fun j => Except.map Array.toList (C j)) (fun j hj => hBC j (List.mem_range.mp hj)), gp_mapM_map]
  cases hm : (List.range size).mapM C with
  | error e => rfl
  | ok cs =>
    have hcl : cs.length = size := by rw [R.mapM_length hm, List.length_range]
    have hall : ∀ c, c ∈ cs → c.size = n :=
      fun c hc => (R.mapM_mem hm c hc).elim fun j hj => hlen j c (List.mem_range.mp hj.1) hj.2
    have hfl := flattenRns_blocks n (cs.map Array.toList) (by
      intro b hb
      obtain ⟨c, hc, rfl⟩ := List.mem_map.mp hb
      simpa using hall c hc)
    have hmm : (cs.map Array.toList).map List.toArray = cs := by simp [List.map_map, Function.comp_def]
    rw [hmm, List.length_map, hcl] at hfl
    have e1 : (#[] : Array (Array Nat)) ++ cs.toArray = cs.toArray := by simp
    show (Except.ok ((cs.map Array.toList).flatten ++ r0.drop (size * n)) : R (List Nat)) = Except.ok (flattenRns size n (#[] ++ cs.toArray))
    rw [e1, hfl, ← hl, List.drop_length, List.append_nil]

/-- out-of-place shape: the other arguments (`Pre`: sub-slices of the inputs, `&moduli[i]`) are evaluated before the destination block is sliced;
    the two shapes differ only in this order, which shows in which of two failing sub-slices reports its error -/
def gp_step {α : Type} (Pre : Nat → Nat → Nat → R α) (K : Nat → α → List Nat → R (List Nat)) (i off up : Nat) (r : List Nat) : R (List Nat) := do
  let a ← Pre i off up
  let t ← GenP.slice r off up
  let o ← K i a t
  pure (GenP.splice r off o)

/-- in-place shape: the destination block is the first argument -/
def gp_stepI {α : Type} (Post : Nat → Nat → Nat → R α) (K : Nat → α → List Nat → R (List Nat)) (i off up : Nat) (r : List Nat) : R (List Nat) := do
  let t ← GenP.slice r off up
  let a ← Post i off up
  let o ← K i a t
  pure (GenP.splice r off o)

theorem gp_step_loop {α : Type} (L : Nat → Nat → List Nat → Nat → R (List Nat)) (Pre : Nat → Nat → Nat → R α)
    (K : Nat → α → List Nat → R (List Nat)) (n size : Nat) (h0 : ∀ i r off, L 0 i r off = pure r)
    (hs : ∀ c i r off, L (c + 1) i r off = (do let upper ← ckAdd off n; let r ← gp_step Pre K i off upper r; L c (i + 1) r upper))
    (hlen : ∀ i a x o, i < size → x.length = n → Pre i (i * n) (i * n + n) = .ok a → K i a x = .ok o → o.length = n) (r : List Nat)
    (hr : size * n ≤ r.length) (hB : r.length < B64) :
    L size 0 r 0 = gp_blocks (fun j x => do let a ← Pre j (j * n) (j * n + n); K j a x) n size 0 r := by
  have h := gp_bloop_blocks L (gp_step Pre K) (fun j x => do let a ← Pre j (j * n) (j * n + n); K j a x) n size h0 hs
    (fun i pre rest hp hn => by simp only [gp_step, gp_slice_block pre rest i n hp hn, R.ok_bind, bind_assoc])
    (fun i x o hi hx ho => by obtain ⟨a, ha, ho⟩ := R.bind_eq_ok.mp ho; exact hlen i a x o hi hx ha ho)
    size 0 [] r (Nat.le_of_eq (Nat.zero_add _)) (Nat.zero_mul n).symm hr hB
  rw [Nat.zero_mul, List.nil_append] at h
  rw [h]
  exact bind_pure _

theorem gp_stepI_loop {α : Type} (L : Nat → Nat → List Nat → Nat → R (List Nat)) (Post : Nat → Nat → Nat → R α)
    (K : Nat → α → List Nat → R (List Nat)) (n size : Nat) (h0 : ∀ i r off, L 0 i r off = pure r)
    (hs : ∀ c i r off, L (c + 1) i r off = (do let upper ← ckAdd off n; let r ← gp_stepI Post K i off upper r; L c (i + 1) r upper))
    (hlen : ∀ i a x o, i < size → x.length = n → Post i (i * n) (i * n + n) = .ok a → K i a x = .ok o → o.length = n) (r : List Nat)
    (hr : size * n ≤ r.length) (hB : r.length < B64) :
    L size 0 r 0 = gp_blocks (fun j x => do let a ← Post j (j * n) (j * n + n); K j a x) n size 0 r := by
  have h := gp_bloop_blocks L (gp_stepI Post K) (fun j x => do let a ← Post j (j * n) (j * n + n); K j a x) n size h0 hs
    (fun i pre rest hp hn => by simp only [gp_stepI, gp_slice_block pre rest i n hp hn, R.ok_bind, bind_assoc])
    (fun i x o hi hx ho => by obtain ⟨a, ha, ho⟩ := R.bind_eq_ok.mp ho; exact hlen i a x o hi hx ha ho)
    size 0 [] r (Nat.le_of_eq (Nat.zero_add _)) (Nat.zero_mul n).symm hr hB
  rw [Nat.zero_mul, List.nil_append] at h
  rw [h]
  exact bind_pure _

theorem gp_idxT_getD {α : Type} [Inhabited α] (l : List α) (i : Nat) (h : i < l.length) : GenP.idxT l i = .ok (l.getD i default) := by
  unfold GenP.idxT; simp [List.getD, h]

theorem gp_compsZip_eq (l : Level) (a b : RnsPoly) (f : Nat → Nat → Modulus → R Nat) : rnsZip l a b f = compsZip l.qs a b f := rfl

theorem gp_rnsNeg_eq (l : Level) (a : RnsPoly) : rnsNeg l a = compsMap l.qs a negateMod := rfl

/-- the other arguments of an in-place binary wrapper iteration: block of the second operand, `&moduli[i]` -/
def gp_binPost (b : List Nat) (mods : List Modulus) (i off up : Nat) : R (List Nat × Modulus) := do
  let t3 ← GenP.slice b off up
  let t4 ← GenP.idxT mods i
  pure (t3, t4)

/-! `zipM'_size` / `mapM'_size` (Proofs/BaseRns.lean) read through `Except.map Array.toList`, the form in which the wrapper ties meet them -/

theorem gp_zipM'_length {A B : Array Nat} {f : Nat → Nat → R Nat} {o : List Nat} (h : Except.map Array.toList (zipM' A B f) = .ok o) :
    o.length = A.size := by
  obtain ⟨v, hv, rfl⟩ := R.map_eq_ok.mp h
  rw [Array.length_toList, zipM'_size hv]

theorem gp_mapM'_length {A : Array Nat} {f : Nat → R Nat} {o : List Nat} (h : Except.map Array.toList (mapM' A f) = .ok o) :
    o.length = A.size := by
  obtain ⟨v, hv, rfl⟩ := R.map_eq_ok.mp h
  rw [Array.length_toList, mapM'_size hv]

theorem gp_slice_length {l t : List Nat} {a b : Nat} (h : GenP.slice l a b = .ok t) : t.length = b - a := by
  unfold GenP.slice at h
  split at h
  · cases h; rw [List.length_take, List.length_drop]; omega
  · cases h

theorem gp_binI_model (L : Nat → Nat → List Nat → Nat → R (List Nat)) (Kf : List Nat → List Nat → Modulus → R (List Nat))
    (f : Nat → Nat → Modulus → R Nat) (l : Level) (b : List Nat) (h0 : ∀ i r off, L 0 i r off = pure r)
    (hs : ∀ c i r off, L (c + 1) i r off = (do
      let upper ← ckAdd off l.n
      let r ← gp_stepI (gp_binPost b l.qs.toList) (fun _ p x => Kf x p.1 p.2) i off upper r
      L c (i + 1) r upper))
    (hK : ∀ x y m, x.length ≤ y.length → Kf x y m = Except.map Array.toList (zipM' x.toArray (y.take x.length).toArray (fun u v => f u v m)))
    (a : List Nat) (ha : a.length = l.size * l.n) (hb : l.size * l.n ≤ b.length) (hB : a.length < B64) :
    L l.size 0 a 0 =
      Except.map (flattenRns l.size l.n) (compsZip l.qs (unflattenRns l.size l.n a) (unflattenRns l.size l.n b) f) := by
  rw [gp_stepI_loop L _ _ l.n l.size h0 hs (fun i p x o _ hx hp ho => by
    obtain ⟨t3, h3, hp⟩ := R.bind_eq_ok.mp hp
    obtain ⟨t4, _, hp⟩ := R.bind_eq_ok.mp hp
    cases hp
    have h3l : t3.length = l.n := by rw [gp_slice_length h3, Nat.add_sub_cancel_left]
    rw [hK x t3 t4 (by rw [hx, h3l])] at ho
    rw [gp_zipM'_length ho, List.size_toArray, hx]) a (by omega) hB]
  unfold compsZip
  apply gp_blocks_model _ (fun j => zipM' ((unflattenRns l.size l.n a).getD j #[]) ((unflattenRns l.size l.n b).getD j #[])
    (fun x y => f x y (l.qs.getD j default))) l.n l.size a ha
  · intro j hj
    have hja : j * l.n + l.n ≤ a.length := by rw [ha]; exact grid_succ_le hj
    have hjb : j * l.n + l.n ≤ b.length := by omega
    simp only [gp_binPost, gp_slice_blk b j l.n hjb, gp_idxT_getD l.qs.toList j (by simpa [Level.size] using hj), bind, Except.bind,
      pure, Except.pure]
    rw [hK _ _ _ (by rw [gp_blk_length _ _ _ hja, gp_blk_length _ _ _ hjb]), gp_unflatten_blk _ _ _ _ hj hja,
      gp_unflatten_blk _ _ _ _ hj hjb, gp_blk_length _ _ _ hja, array_getD_toList,
      List.take_of_length_le (by rw [gp_blk_length _ _ _ hjb])]
  · intro j o hj h
    have hja : j * l.n + l.n ≤ a.length := by rw [ha]; exact grid_succ_le hj
    rw [zipM'_size h, gp_unflatten_blk _ _ _ _ hj hja]
    simp only [List.size_toArray]
    exact gp_blk_length _ _ _ hja

theorem gp_unI_model (L : Nat → Nat → List Nat → Nat → R (List Nat)) (Ku : List Nat → Modulus → R (List Nat)) (F : Nat → Modulus → R Nat)
    (l : Level) (h0 : ∀ i r off, L 0 i r off = pure r)
    (hs : ∀ c i r off, L (c + 1) i r off = (do
      let upper ← ckAdd off l.n
      let r ← gp_stepI (fun i _ _ => GenP.idxT l.qs.toList i) (fun _ m x => Ku x m) i off upper r
      L c (i + 1) r upper))
    (hK : ∀ x m, Ku x m = Except.map Array.toList (mapM' x.toArray (fun u => F u m)))
    (a : List Nat) (ha : a.length = l.size * l.n) (hB : a.length < B64) :
    L l.size 0 a 0 = Except.map (flattenRns l.size l.n) (compsMap l.qs (unflattenRns l.size l.n a) F) := by
  rw [gp_stepI_loop L _ _ l.n l.size h0 hs (fun i m x o _ hx _ ho => by
    rw [hK] at ho; rw [gp_mapM'_length ho, List.size_toArray, hx]) a (by omega) hB]
  unfold compsMap
  apply gp_blocks_model _ (fun j => mapM' ((unflattenRns l.size l.n a).getD j #[]) (fun x => F x (l.qs.getD j default))) l.n l.size a ha
  · intro j hj
    have hja : j * l.n + l.n ≤ a.length := by rw [ha]; exact grid_succ_le hj
    simp only [gp_idxT_getD l.qs.toList j (by simpa [Level.size] using hj), bind, Except.bind]
    rw [hK, gp_unflatten_blk _ _ _ _ hj hja, array_getD_toList]
  · intro j o hj h
    have hja : j * l.n + l.n ≤ a.length := by rw [ha]; exact grid_succ_le hj
    rw [mapM'_size h, gp_unflatten_blk _ _ _ _ hj hja]
    simp only [List.size_toArray]
    exact gp_blk_length _ _ _ hja

/-- `add_inplace_p(poly1, poly2, degree, moduli)` on the flat layout = the hand model's `rnsAdd` -/
theorem gp_poly_add_inplace_p_model (l : Level) (a b : List Nat) (ha : a.length = l.size * l.n) (hb : l.size * l.n ≤ b.length)
    (hB : a.length < B64) :
    GenP.poly_add_inplace_p a b l.n l.qs.toList =
      Except.map (flattenRns l.size l.n) (rnsAdd l (unflattenRns l.size l.n a) (unflattenRns l.size l.n b)) := by
  unfold GenP.poly_add_inplace_p rnsAdd
  simp only []
  rw [gp_compsZip_eq, gp_qs_length l]
  exact gp_binI_model _ GenP.poly_add_inplace addMod l b (fun _ _ _ => rfl)
    (fun c i r off => by rw [GenP.poly_add_inplace_p_loop1]; simp only [gp_stepI, gp_binPost, bind_assoc, pure_bind])
    (fun x y m h => by rw [gp_poly_add_inplace_eq, if_pos h]) a ha hb hB

/-- `sub_inplace_p` = the hand model's `rnsSub` -/
theorem gp_poly_sub_inplace_p_model (l : Level) (a b : List Nat) (ha : a.length = l.size * l.n) (hb : l.size * l.n ≤ b.length)
    (hB : a.length < B64) :
    GenP.poly_sub_inplace_p a b l.n l.qs.toList =
      Except.map (flattenRns l.size l.n) (rnsSub l (unflattenRns l.size l.n a) (unflattenRns l.size l.n b)) := by
  unfold GenP.poly_sub_inplace_p rnsSub
  simp only []
  rw [gp_compsZip_eq, gp_qs_length l]
  exact gp_binI_model _ GenP.poly_sub_inplace subMod l b (fun _ _ _ => rfl)
    (fun c i r off => by rw [GenP.poly_sub_inplace_p_loop1]; simp only [gp_stepI, gp_binPost, bind_assoc, pure_bind])
    (fun x y m h => by rw [gp_poly_sub_inplace_eq, if_pos h]) a ha hb hB

/-- `dyadic_product_inplace_p` = the hand model's `rnsDyadic` -/
theorem gp_poly_dyadic_product_inplace_p_model (l : Level) (a b : List Nat) (ha : a.length = l.size * l.n) (hb : l.size * l.n ≤ b.length)
    (hB : a.length < B64) :
    GenP.poly_dyadic_product_inplace_p a b l.n l.qs.toList =
      Except.map (flattenRns l.size l.n) (rnsDyadic l (unflattenRns l.size l.n a) (unflattenRns l.size l.n b)) := by
  unfold GenP.poly_dyadic_product_inplace_p rnsDyadic
  simp only []
  rw [gp_compsZip_eq, gp_qs_length l]
  exact gp_binI_model _ GenP.poly_dyadic_product_inplace mulMod l b (fun _ _ _ => rfl)
    (fun c i r off => by rw [GenP.poly_dyadic_product_inplace_p_loop1]; simp only [gp_stepI, gp_binPost, bind_assoc, pure_bind])
    (fun x y m h => by rw [gp_poly_dyadic_product_inplace_eq _ _ _ h]; rfl) a ha hb hB

/-- `multiply_scalar_inplace_p` = the model's component map with `mulMod · scalar` (`rnsScale`, the `scale` step of `ctTranslateBalanced`) -/
theorem gp_poly_multiply_scalar_inplace_p_model (l : Level) (a : List Nat) (s : Nat) (ha : a.length = l.size * l.n) (hB : a.length < B64) :
    GenP.poly_multiply_scalar_inplace_p a s l.n l.qs.toList =
      Except.map (flattenRns l.size l.n) (compsMap l.qs (unflattenRns l.size l.n a) (fun x m => mulMod x s m)) := by
  unfold GenP.poly_multiply_scalar_inplace_p
  simp only []
  rw [gp_qs_length l]
  exact gp_unI_model _ (fun x m => GenP.poly_multiply_scalar_inplace x s m) (fun x m => mulMod x s m) l (fun _ _ _ => rfl)
    (fun c i r off => by rw [GenP.poly_multiply_scalar_inplace_p_loop1]; simp only [gp_stepI, bind_assoc, pure_bind])
    (fun x m => gp_poly_multiply_scalar_inplace_eq x s m) a ha hB

/-- `negate_inplace_p` = the hand model's `rnsNeg` -/
theorem gp_poly_negate_inplace_p_model (l : Level) (a : List Nat) (ha : a.length = l.size * l.n) (hB : a.length < B64) :
    GenP.poly_negate_inplace_p a l.n l.qs.toList = Except.map (flattenRns l.size l.n) (rnsNeg l (unflattenRns l.size l.n a)) := by
  unfold GenP.poly_negate_inplace_p
  simp only []
  rw [gp_rnsNeg_eq, gp_qs_length l]
  -- the code computes `offset + degree` twice per iteration
  exact gp_unI_model _ GenP.poly_negate_inplace negateMod l (fun _ _ _ => rfl)
    (fun c i r off => by
      rw [GenP.poly_negate_inplace_p_loop1]
      refine R.bind_congr _ fun up hup => ?_
      simp only [gp_stepI, bind_assoc, pure_bind, hup, R.ok_bind])
    (fun x m => gp_poly_negate_inplace_eq x m) a ha hB

/-- a `_ps` wrapper's loop `L`: iteration `i` applies `K i` (a `_p` wrapper, `= Except.map FL (M i ·)` on a buffer of one polynomial) to
    polynomial `i` of the buffer -/
theorem gp_ps_model {α : Type} (L : Nat → Nat → List Nat → Nat → R (List Nat)) (Post : Nat → Nat → Nat → R α)
    (K : Nat → α → List Nat → R (List Nat)) (d pc : Nat) (a : List Nat) (M : Nat → List Nat → R RnsPoly) (FL : RnsPoly → List Nat)
    (h0 : ∀ i r off, L 0 i r off = pure r)
    (hs : ∀ c i r off, L (c + 1) i r off = (do let upper ← ckAdd off d; let r ← gp_stepI Post K i off upper r; L c (i + 1) r upper))
    (hFL : ∀ p, (FL p).length = d)
    (hBM : ∀ i x, i < pc → x.length = d → (do let p ← Post i (i * d) (i * d + d); K i p x) = Except.map FL (M i x))
    (hr : pc * d ≤ a.length) (hB : a.length < B64) :
    L pc 0 a 0 = (do let outs ← (List.range pc).mapM (fun i => M i (gp_blk d a i)); pure ((outs.map FL).flatten ++ a.drop (pc * d))) := by
  rw [gp_stepI_loop L Post K d pc h0 hs (fun i p x o hi hx hp ho => by
    have := hBM i x hi hx
    rw [hp, R.ok_bind, ho] at this
    obtain ⟨v, _, rfl⟩ := R.map_eq_ok.mp this.symm
    exact hFL v) a hr hB]
  have h := gp_blocks_mapM (fun j x => do let p ← Post j (j * d) (j * d + d); K j p x) d a pc 0
  simp only [Nat.zero_mul, List.drop_zero, Nat.zero_add] at h
  rw [h, ← List.range_eq_range', R.mapM_congr (g := fun j => Except.map FL (M j (gp_blk d a j))) (fun j hj => by
      have hj := List.mem_range.mp hj
      exact hBM j _ hj (gp_blk_length _ _ _ (Nat.le_trans (grid_succ_le hj) hr))),
    gp_mapM_map]
  cases (List.range pc).mapM (fun i => M i (gp_blk d a i)) with
  | error e => rfl
  | ok outs => rfl

/-- `add_inplace_ps(polys1, polys2, pcount, degree, moduli)`: `rnsAdd` of the first `pcount` polynomials, the rest of `polys1` kept -/
theorem gp_poly_add_inplace_ps_model (l : Level) (a b : List Nat) (pc : Nat) (hd : l.n * l.size < B64)
    (ha : pc * (l.size * l.n) ≤ a.length) (hb : pc * (l.size * l.n) ≤ b.length) (hB : a.length < B64) :
    GenP.poly_add_inplace_ps a b pc l.n l.qs.toList =
      (do let outs ← (List.range pc).mapM (fun i => rnsAdd l (unflattenRns l.size l.n (gp_blk (l.size * l.n) a i))
                                                           (unflattenRns l.size l.n (gp_blk (l.size * l.n) b i)))
          pure ((outs.map (flattenRns l.size l.n)).flatten ++ a.drop (pc * (l.size * l.n)))) := by
  unfold GenP.poly_add_inplace_ps
  have hck : ckMul l.n l.qs.toList.length = .ok (l.size * l.n) := by
    unfold ckMul; rw [gp_qs_length l, if_pos hd, Nat.mul_comm]
  simp only [hck, bind, Except.bind]
  refine gp_ps_model _ (fun _ off up => GenP.slice b off up) (fun _ t3 x => GenP.poly_add_inplace_p x t3 l.n l.qs.toList) _ pc a
    (fun i x => rnsAdd l (unflattenRns l.size l.n x) (unflattenRns l.size l.n (gp_blk (l.size * l.n) b i))) (flattenRns l.size l.n)
    (fun _ _ _ => rfl) (fun c i r off => by rw [GenP.poly_add_inplace_ps_loop1]; simp only [gp_stepI, bind_assoc, pure_bind])
    (gp_flattenRns_length _ _) (fun i x hi hx => ?_) ha hB
  have hib : i * (l.size * l.n) + l.size * l.n ≤ b.length := Nat.le_trans (grid_succ_le hi) hb
  rw [gp_slice_blk b i _ hib, R.ok_bind]
  exact gp_poly_add_inplace_p_model l _ _ hx (by rw [gp_blk_length _ _ _ hib]) (by rw [hx, Nat.mul_comm]; exact hd)

/-- `sub_inplace_ps`: `rnsSub` of the first `pcount` polynomials, the rest of `polys1` kept -/
theorem gp_poly_sub_inplace_ps_model (l : Level) (a b : List Nat) (pc : Nat) (hd : l.n * l.size < B64)
    (ha : pc * (l.size * l.n) ≤ a.length) (hb : pc * (l.size * l.n) ≤ b.length) (hB : a.length < B64) :
    GenP.poly_sub_inplace_ps a b pc l.n l.qs.toList =
      (do let outs ← (List.range pc).mapM (fun i => rnsSub l (unflattenRns l.size l.n (gp_blk (l.size * l.n) a i))
                                                           (unflattenRns l.size l.n (gp_blk (l.size * l.n) b i)))
          pure ((outs.map (flattenRns l.size l.n)).flatten ++ a.drop (pc * (l.size * l.n)))) := by
  unfold GenP.poly_sub_inplace_ps
  have hck : ckMul l.n l.qs.toList.length = .ok (l.size * l.n) := by
    unfold ckMul; rw [gp_qs_length l, if_pos hd, Nat.mul_comm]
  simp only [hck, bind, Except.bind]
  refine gp_ps_model _ (fun _ off up => GenP.slice b off up) (fun _ t3 x => GenP.poly_sub_inplace_p x t3 l.n l.qs.toList) _ pc a
    (fun i x => rnsSub l (unflattenRns l.size l.n x) (unflattenRns l.size l.n (gp_blk (l.size * l.n) b i))) (flattenRns l.size l.n)
    (fun _ _ _ => rfl) (fun c i r off => by rw [GenP.poly_sub_inplace_ps_loop1]; simp only [gp_stepI, bind_assoc, pure_bind])
    (gp_flattenRns_length _ _) (fun i x hi hx => ?_) ha hB
  have hib : i * (l.size * l.n) + l.size * l.n ≤ b.length := Nat.le_trans (grid_succ_le hi) hb
  rw [gp_slice_blk b i _ hib, R.ok_bind]
  exact gp_poly_sub_inplace_p_model l _ _ hx (by rw [gp_blk_length _ _ _ hib]) (by rw [hx, Nat.mul_comm]; exact hd)

/-- `negate_inplace_ps(polys, pcount, degree, moduli)`: `rnsNeg` of the first `pcount` polynomials (the body of `ctNegate`) -/
theorem gp_poly_negate_inplace_ps_model (l : Level) (a : List Nat) (pc : Nat) (hd : l.n * l.size < B64)
    (ha : pc * (l.size * l.n) ≤ a.length) (hB : a.length < B64) :
    GenP.poly_negate_inplace_ps a pc l.n l.qs.toList =
      (do let outs ← (List.range pc).mapM (fun i => rnsNeg l (unflattenRns l.size l.n (gp_blk (l.size * l.n) a i)))
          pure ((outs.map (flattenRns l.size l.n)).flatten ++ a.drop (pc * (l.size * l.n)))) := by
  unfold GenP.poly_negate_inplace_ps
  have hck : ckMul l.n l.qs.toList.length = .ok (l.size * l.n) := by
    unfold ckMul; rw [gp_qs_length l, if_pos hd, Nat.mul_comm]
  simp only [hck, bind, Except.bind]
  -- the code computes `offset + d` twice per iteration
  refine gp_ps_model _ (fun _ _ _ => (pure () : R Unit)) (fun _ _ x => GenP.poly_negate_inplace_p x l.n l.qs.toList) _ pc a
    (fun _ x => rnsNeg l (unflattenRns l.size l.n x)) (flattenRns l.size l.n) (fun _ _ _ => rfl)
    (fun c i r off => by
      rw [GenP.poly_negate_inplace_ps_loop1]
      refine R.bind_congr _ fun up hup => ?_
      simp only [gp_stepI, bind_assoc, pure_bind, hup, R.ok_bind])
    (gp_flattenRns_length _ _) (fun i x _ hx => ?_) ha hB
  rw [R.pure_eq, R.ok_bind]
  exact gp_poly_negate_inplace_p_model l _ hx (by rw [hx, Nat.mul_comm]; exact hd)

/-- `multiply_scalar_inplace_ps`: every word of the first `pcount` polynomials times the scalar (the `scale` step of `ctTranslateBalanced`) -/
theorem gp_poly_multiply_scalar_inplace_ps_model (l : Level) (a : List Nat) (s pc : Nat) (hd : l.n * l.size < B64)
    (ha : pc * (l.size * l.n) ≤ a.length) (hB : a.length < B64) :
    GenP.poly_multiply_scalar_inplace_ps a s pc l.n l.qs.toList =
      (do let outs ← (List.range pc).mapM (fun i => compsMap l.qs (unflattenRns l.size l.n (gp_blk (l.size * l.n) a i)) (fun x m => mulMod x s m))
          pure ((outs.map (flattenRns l.size l.n)).flatten ++ a.drop (pc * (l.size * l.n)))) := by
  unfold GenP.poly_multiply_scalar_inplace_ps
  have hck : ckMul l.n l.qs.toList.length = .ok (l.size * l.n) := by
    unfold ckMul; rw [gp_qs_length l, if_pos hd, Nat.mul_comm]
  simp only [hck, bind, Except.bind]
  refine gp_ps_model _ (fun _ _ _ => (pure () : R Unit)) (fun _ _ x => GenP.poly_multiply_scalar_inplace_p x s l.n l.qs.toList) _ pc a
    (fun _ x => compsMap l.qs (unflattenRns l.size l.n x) (fun x m => mulMod x s m)) (flattenRns l.size l.n) (fun _ _ _ => rfl)
    (fun c i r off => by rw [GenP.poly_multiply_scalar_inplace_ps_loop1]; simp only [gp_stepI, bind_assoc, pure_bind])
    (gp_flattenRns_length _ _) (fun i x _ hx => ?_) ha hB
  rw [R.pure_eq, R.ok_bind]
  exact gp_poly_multiply_scalar_inplace_p_model l _ s hx (by rw [hx, Nat.mul_comm]; exact hd)
end HC
