/- The concrete world of the non-vacuity witnesses, as the model's and the driver's constructors build it: N = 4 (k = 2), coefficient moduli
   {97}, {97, 113}, {97, 113, 193} (all ≡ 1 mod 8), plain moduli 17 (≡ 1 mod 8, batching), 101 (≥ q_0: the multi-word BGV lift) and 0 (CKKS),
   auxiliary 61-bit primes ≡ 1 mod 8 for the BEHZ tool.  Every object is written out as a literal and each constructor is evaluated ONCE
   here (`… = .ok literal`, or only that it succeeds where nothing is computed on the result); the scheme is a parameter, since
   `Drv.Sch.mkLevel` only stores it (`mkLevel_scheme`).  `nv_worlds` lists the levels, `c01w_lv_mk` says the driver builds each of them.
   Nothing here uses a theorem about the model from another module (only Base's lemmas on the result monad; `mkLevel_scheme`, `mkLevel_new`,
   `RNSTool.new_take` unfold the constructors themselves): what the objects SATISFY is derived from the constructor theorems in
   Proofs/WorldOK.lean; the witnesses of the single properties rewrite a level with its literal (`c01w_lv2`, `c01w_lv3`) before they
   evaluate anything on it.

   The main level {97, 113}, t = 17 appears under several names, one object: `nv_level` (its tool is the constructor call `nv_tool`, as the
   statements about single operations have it) = `nv_levelV` (the tool written out, `nv_level_eq`) = `nv_lv2 .bfv` (the scheme as a parameter)
   = `c01w_l .bfv 17` (the term `mkLevel` returns, `c01w_lv2`; `c01q_exL`, `c02p_wL1` are this term for .bfv / .bgv); `nv_mkLevel` says that
   the driver builds `nv_level`. -/
import Driver.Scheme
import Heathcliff.Proofs.Base
import Heathcliff.Model.Evaluator
namespace HC
-- the `nv_dec…` are plain definitions, made instances only locally (Lean warns about definitions of class type that are not instances)
set_option warn.classDefReducibility false

/-! ## decidable equality (local instances only) -/

def nv_decModulus : DecidableEq Modulus := fun a b =>
  decidable_of_iff (a.value = b.value ∧ a.cr0 = b.cr0 ∧ a.cr1 = b.cr1 ∧ a.cr2 = b.cr2 ∧ a.bits = b.bits)
    (by cases a; cases b; simp)
def nv_decMulOperand : DecidableEq MulOperand := fun a b =>
  decidable_of_iff (a.operand = b.operand ∧ a.quotient = b.quotient) (by cases a; cases b; simp)
attribute [local instance] nv_decModulus nv_decMulOperand
def nv_decNTTTables : DecidableEq NTTTables := fun a b =>
  decidable_of_iff (a.k = b.k ∧ a.modulus = b.modulus ∧ a.root = b.root ∧ a.rootPowers = b.rootPowers ∧
      a.invRootPowers = b.invRootPowers ∧ a.invDegree = b.invDegree) (by cases a; cases b; simp)
def nv_decRNSBase : DecidableEq RNSBase := fun a b =>
  decidable_of_iff (a.base = b.base ∧ a.prod = b.prod ∧ a.punct = b.punct ∧ a.invPunct = b.invPunct)
    (by cases a; cases b; simp)
attribute [local instance] nv_decNTTTables nv_decRNSBase

theorem nv_ok_of_toOption {α : Type} {r : R α} {a : α} (h : r.toOption = some a) : r = .ok a := by
  cases r with
  | error e => simp [Except.toOption] at h
  | ok b => simp [Except.toOption] at h; rw [h]

/-- a constructor that succeeds returns `(r.toOption.getD d)` -/
theorem nv_ok_of_isOk {α : Type} {r : R α} (d : α) (h : r.toOption.isSome = true) : r = .ok (r.toOption.getD d) := by
  cases r with
  | error e => simp [Except.toOption] at h
  | ok b => simp [Except.toOption]

theorem nv_val_of_ok {α : Type} {r : R α} {a v : α} (h : r = .ok a) (hv : r.toOption = some v) : a = v := by
  rw [h] at hv; exact Option.some.inj hv

/-- for results without decidable equality: compare a view `f` of them -/
theorem nv_view_of_ok {α β : Type} {r : R α} {a : α} {f : α → β} {b : β} (h : r = .ok a) (hv : r.toOption.map f = some b) : f a = b := by
  rw [h] at hv; exact Option.some.inj hv

theorem nv_spec_val {α : Type} {r : R α} {v : α} {P : α → Prop} (hv : r.toOption = some v) (h : ∃ out, r = .ok out ∧ P out) :
    ∃ out, r = .ok out ∧ out = v ∧ P out := by
  obtain ⟨out, h1, h2⟩ := h
  exact ⟨out, h1, nv_val_of_ok h1 hv, h2⟩

theorem nv_ok_map {α β : Type} {r : R α} {f : α → β} {b : β} (h : r.toOption.map f = some b) : ∃ a, r = .ok a ∧ f a = b := by
  cases r with
  | error e => simp [Except.toOption] at h
  | ok a => exact ⟨a, rfl, by simpa [Except.toOption] using h⟩

theorem nv_lt1 {P : Nat → Prop} (h0 : P 0) : ∀ i, i < 1 → P i := fun _ hi => Nat.lt_one_iff.mp hi ▸ h0
theorem nv_lt2 {P : Nat → Prop} (h0 : P 0) (h1 : P 1) : ∀ i, i < 2 → P i
  | 0, _ => h0
  | 1, _ => h1
  | _ + 2, h => absurd h (by omega)

/-- the bounded quantifiers in the order `decide` can enumerate -/
theorem nv_all2 {A B : Nat → Prop} {P : Nat → Nat → Prop} (h : ∀ i, A i → ∀ j, B j → P i j) : ∀ i j, A i → B j → P i j :=
  fun i j hi hj => h i hi j hj

def nv_errOf {α : Type} : R α → Option Err
  | .error e => some e
  | .ok _ => none
theorem nv_err_of {α : Type} {r : R α} {e : Err} (h : nv_errOf r = some e) : r = .error e := by
  cases r with
  | error e' => simp [nv_errOf] at h; rw [h]
  | ok b => simp [nv_errOf] at h

/-! ## moduli — `Modulus.mk?` -/

def nv_m17 : Modulus := ⟨17, 1085102592571150095, 1085102592571150095, 1, 5⟩
def nv_m97 : Modulus := ⟨97, 11600529778312192253, 190172619316593315, 35, 7⟩
def nv_m113 : Modulus := ⟨113, 4897365683285721667, 163245522776190722, 109, 7⟩
theorem nv_m17_mk : Modulus.mk? 17 = .ok nv_m17 := by rfl
theorem nv_m97_mk : Modulus.mk? 97 = .ok nv_m97 := by rfl
theorem nv_m113_mk : Modulus.mk? 113 = .ok nv_m113 := by rfl
def nv_m193 : Modulus := ⟨193, 8028634726381359252, 95578984837873324, 108, 8⟩

/-! ## NTT tables — `NTTTables.new` -/

def nv_t17 : NTTTables := ⟨2, nv_m17, 2,
  #[⟨1, 1085102592571150095⟩, ⟨4, 4340410370284600380⟩, ⟨2, 2170205185142300190⟩, ⟨8, 8680820740569200760⟩],
  #[⟨1, 1085102592571150095⟩, ⟨9, 9765923333140350855⟩, ⟨15, 16276538888567251425⟩, ⟨13, 14106333703424951235⟩],
  ⟨13, 14106333703424951235⟩⟩
def nv_t97 : NTTTables := ⟨2, nv_m97, 33,
  #[⟨1, 190172619316593315⟩, ⟨22, 4183797624965052943⟩, ⟨33, 6275696437447579415⟩, ⟨47, 8938113107879885834⟩],
  #[⟨1, 190172619316593315⟩, ⟨50, 9508630965829665781⟩, ⟨64, 12171047636261972200⟩, ⟨75, 14262946448744498672⟩],
  ⟨73, 13882601210111312040⟩⟩
def nv_t113 : NTTTables := ⟨2, nv_m113, 18,
  #[⟨1, 163245522776190722⟩, ⟨98, 15998061232066690782⟩, ⟨18, 2938419409971433000⟩, ⟨69, 11263941071557159836⟩],
  #[⟨1, 163245522776190722⟩, ⟨44, 7182803002152391779⟩, ⟨95, 15508324663738118615⟩, ⟨15, 2448682841642860833⟩],
  ⟨85, 13875869435976211392⟩⟩
def nv_t193 : NTTTables := ⟨2, nv_m193, 9,
  #[⟨1, 95578984837873324⟩, ⟨81, 7741897771867739279⟩, ⟨9, 860210863540859919⟩, ⟨150, 14336847725680998665⟩],
  #[⟨1, 95578984837873324⟩, ⟨43, 4109896348028552950⟩, ⟨184, 17586533210168691696⟩, ⟨112, 10704846301841812336⟩],
  ⟨145, 13858952801491632043⟩⟩

/-- the random root search may hand in ANY primitive root: 2 and 15 give the same table (root 2) -/
theorem nv_t17_new : NTTTables.new 2 nv_m17 true 2 = .ok nv_t17 ∧ NTTTables.new 2 nv_m17 true 15 = .ok nv_t17 :=
  ⟨nv_ok_of_toOption (by decide +kernel), nv_ok_of_toOption (by decide +kernel)⟩
theorem nv_t97_new : NTTTables.new 2 nv_m97 true 64 = .ok nv_t97 := nv_ok_of_toOption (by decide +kernel)
theorem nv_t113_new : NTTTables.new 2 nv_m113 true 95 = .ok nv_t113 := nv_ok_of_toOption (by decide +kernel)

/-! ## RNS bases — `RNSBase.new` -/

def nv_base : RNSBase := ⟨#[nv_m97, nv_m113], 10961, #[113, 97], #[⟨91, 17305708357809991722⟩, ⟨7, 1142718659433335055⟩]⟩
theorem nv_base_new : RNSBase.new [nv_m97, nv_m113] = .ok nv_base := nv_ok_of_toOption (by decide +kernel)

/-- single-modulus base (the code path that does not reduce) -/
def nv_base17 : RNSBase := ⟨#[nv_m17], 17, #[1], #[⟨1, 1085102592571150095⟩]⟩
theorem nv_base17_new : RNSBase.new [nv_m17] = .ok nv_base17 := nv_ok_of_toOption (by decide +kernel)

/-- the converter {97, 113} → {17}: matrix of (Q/q_j) mod 17 -/
def nv_conv : BaseConverter := ⟨nv_base, nv_base17, #[#[11, 12]]⟩

def nv_base3 : RNSBase := ⟨#[nv_m97, nv_m113, nv_m193], 2115473, #[21809, 18721, 10961],
  #[⟨6, 1141035715899559893⟩, ⟨58, 9468240321019061891⟩, ⟨82, 7837476756705612603⟩]⟩

def nv_base97 : RNSBase := ⟨#[nv_m97], 97, #[1], #[⟨1, 190172619316593315⟩]⟩
theorem nv_base97_new : RNSBase.new [nv_m97] = .ok nv_base97 := nv_ok_of_toOption (by decide +kernel)

/-! ## the BEHZ tools — `RNSTool.new` on the auxiliary primes `get_primes(8, 61, ·)` -/

def nv_a0 : Modulus := ⟨2305843009213693921, 1984, 8, 61504, 61⟩
def nv_a1 : Modulus := ⟨2305843009213693561, 25024, 8, 9784384, 61⟩
def nv_a2 : Modulus := ⟨2305843009213693193, 48576, 8, 36869184, 61⟩
def nv_a3 : Modulus := ⟨2305843009213693153, 51136, 8, 40857664, 61⟩
theorem nv_aux_mk : Modulus.mk? 2305843009213693921 = .ok nv_a0 ∧ Modulus.mk? 2305843009213693561 = .ok nv_a1 ∧
    Modulus.mk? 2305843009213693193 = .ok nv_a2 ∧ Modulus.mk? 2305843009213693153 = .ok nv_a3 := ⟨by rfl, by rfl, by rfl, by rfl⟩
def nv_a4 : Modulus := ⟨2305843009213692937, 64960, 8, 65934400, 61⟩
def nv_a5 : Modulus := ⟨2305843009213692737, 77760, 8, 94478400, 61⟩
def nv_a6 : Modulus := ⟨2305843009213692601, 86464, 8, 116812864, 61⟩

/-- `RNSTool::new(4, {97, 113}, 17)` with the auxiliary primes `get_primes(8, 61, 4)` -/
def nv_tool : RNSTool := (RNSTool.new 4 nv_base nv_m17 [nv_a0, nv_a1, nv_a2, nv_a3]).toOption.getD default

/-! The same tool written out: m_sk = `nv_a0`, γ = `nv_a1`, B = {`nv_a2`, `nv_a3`}, m̃ = 2^32.  Evaluating `RNSTool.new` costs the kernel
    far more than anything done with the result, so it is evaluated once, inside the driver's `mkLevel` (`nv_mkLevel_eval`; `nv_toolV_new`
    reads it off), and every later statement about `nv_tool` is rewritten with `nv_tool_eq` before anything is computed. -/

def nv_mt : Modulus := ⟨4294967296, 0, 4294967296, 0, 33⟩
def nv_baseB : RNSBase := ⟨#[nv_a2, nv_a3], 5316911983139659899111819886186807529, #[2305843009213693153, 2305843009213693193],
  #[⟨979983278915819607, 7839866231326559436⟩, ⟨1325859730297873563, 10606877842382992179⟩]⟩
def nv_baseBsk : RNSBase := ⟨#[nv_a2, nv_a3, nv_a0], 12259964326927102418293635008278695017698247400344331209,
  #[5316911983139661577765530593755422913, 5316911983139661669999250962303179753, 5316911983139659899111819886186807529],
  #[⟨207224970985997084, 1657799767887977217⟩, ⟨785352715019624722, 6282821720156999953⟩, ⟨1313265323208071788, 10506122585664574445⟩]⟩
def nv_baseBskMt : RNSBase := ⟨#[nv_a2, nv_a3, nv_a0, nv_mt], 52656145834278557062613674485517684354572113780995921681647140864,
  #[22835963083295349877010714656267003233984053248, 22835963083295350273151527227588685875944357888,
    22835963083295342667247925858214780483701571584, 12259964326927102418293635008278695017698247400344331209],
  #[⟨918618155903890645, 7348945247231127579⟩, ⟨1128776047981371547, 9030208383850975505⟩, ⟨1747296610904811459, 13978372887238491859⟩,
    ⟨1521772153, 6535961629098508288⟩]⟩
def nv_baseTG : RNSBase := ⟨#[nv_m17, nv_a1], 39199331156632790537, #[2305843009213693561, 17],
  #[⟨8, 8680820740569200760⟩, ⟨1220740416642543650, 9765923333140350856⟩]⟩
def nv_bMt : RNSBase := ⟨#[nv_mt], 4294967296, #[1], #[⟨1, 4294967296⟩]⟩
def nv_bMsk : RNSBase := ⟨#[nv_a0], 2305843009213693921, #[1], #[⟨1, 8⟩]⟩

def nv_toolV : RNSTool where
  n := 4
  k := 2
  baseQ := nv_base
  baseB := nv_baseB
  baseBsk := nv_baseBsk
  baseBskMt := nv_baseBskMt
  baseTGamma := some nv_baseTG
  qToBsk := ⟨nv_base, nv_baseBsk, #[#[113, 97], #[113, 97], #[113, 97]]⟩
  qToMt := ⟨nv_base, nv_bMt, #[#[113, 97]]⟩
  bToQ := ⟨nv_baseB, nv_base, #[#[21, 61], #[24, 64]]⟩
  bToMsk := ⟨nv_baseB, nv_bMsk, #[#[2305843009213693153, 2305843009213693193]]⟩
  qToTGamma := some ⟨nv_base, nv_baseTG, #[#[11, 12], #[113, 97]]⟩
  qToT := some nv_conv
  invProdQModBsk := #[⟨53854193080805169, 430833544646441493⟩, ⟨563575715872957208, 4508605726983659226⟩,
    ⟨1996602134882507892, 15972817079060063350⟩]
  negInvProdQModMt := ⟨3406664143, 14631511082640867328⟩
  invProdBModMsk := ⟨1313265323208071788, 10506122585664574445⟩
  invGammaModT := some ⟨8, 8680820740569200760⟩
  prodBModQ := #[20, 67]
  invMtModBsk := #[⟨2229892975972842786, 17839143807782748160⟩, ⟨733021432216289026, 5864171457730314240⟩,
    ⟨1710786748788768745, 13686293990310150144⟩]
  prodQModBsk := #[10961, 10961, 10961]
  negInvQModTGamma := #[⟨13, 14106333703424951235⟩, ⟨1280088925377732444, 10240711403021861288⟩]
  prodTGammaModQ := #[⟨18, 3423107147698679681⟩, ⟨112, 18283498550933360893⟩]
  invQLastModQ := #[⟨91, 17305708357809991722⟩]
  mTilde := nv_mt
  mSk := nv_a0
  t := nv_m17
  gamma := nv_a1
  invQLastModT := 14

def nv_decConv : DecidableEq BaseConverter := fun a b =>
  decidable_of_iff (a.ibase = b.ibase ∧ a.obase = b.obase ∧ a.matrix = b.matrix) (by cases a; cases b; simp)
attribute [local instance] nv_decConv in
def nv_decRNSTool : DecidableEq RNSTool := fun a b =>
  decidable_of_iff (a.n = b.n ∧ a.k = b.k ∧ a.baseQ = b.baseQ ∧ a.baseB = b.baseB ∧ a.baseBsk = b.baseBsk ∧ a.baseBskMt = b.baseBskMt ∧
      a.baseTGamma = b.baseTGamma ∧ a.qToBsk = b.qToBsk ∧ a.qToMt = b.qToMt ∧ a.bToQ = b.bToQ ∧ a.bToMsk = b.bToMsk ∧
      a.qToTGamma = b.qToTGamma ∧ a.qToT = b.qToT ∧ a.invProdQModBsk = b.invProdQModBsk ∧ a.negInvProdQModMt = b.negInvProdQModMt ∧
      a.invProdBModMsk = b.invProdBModMsk ∧ a.invGammaModT = b.invGammaModT ∧ a.prodBModQ = b.prodBModQ ∧ a.invMtModBsk = b.invMtModBsk ∧
      a.prodQModBsk = b.prodQModBsk ∧ a.negInvQModTGamma = b.negInvQModTGamma ∧ a.prodTGammaModQ = b.prodTGammaModQ ∧
      a.invQLastModQ = b.invQLastModQ ∧ a.mTilde = b.mTilde ∧ a.mSk = b.mSk ∧ a.t = b.t ∧ a.gamma = b.gamma ∧
      a.invQLastModT = b.invQLastModT) (by cases a; cases b; simp)


/-! The tool of the three-modulus level {97, 113, 193}, t = 17: m_sk = `nv_a0`, γ = `nv_a1`, B = {`nv_a2`, `nv_a3`, `nv_a4`}. -/

def nv_baseB3 : RNSBase := ⟨#[nv_a2, nv_a3, nv_a4], 12259964326927097186452243598853354291667479392525722673,
  #[5316911983139659308816009527481360361, 5316911983139659401049729896029077841, 5316911983139659899111819886186807529],
  #[⟨851855869517129038, 6814846956137034547⟩, ⟨794501694262634782, 6356013554101080458⟩, ⟨659485445433929286, 5275883563471436610⟩]⟩
def nv_baseBsk3 : RNSBase := ⟨#[nv_a2, nv_a3, nv_a4, nv_a0], 28269553036454117348385652693702055423527728692495605777785362828351970833,
  #[12259964326927101057164167324525331109722415398956065481, 12259964326927101269840646650111774297860039542857504561,
    12259964326927102418293635008278695017698247400344331209, 12259964326927097186452243598853354291667479392525722673],
  #[⟨539622482741545291, 4316979861932363748⟩, ⟨871730435372700064, 6973843482981602928⟩, ⟨99090337228057960, 792722697824464028⟩,
    ⟨795399753871390103, 6363198030971120909⟩]⟩
def nv_baseBskMt3 : RNSBase := ⟨#[nv_a2, nv_a3, nv_a4, nv_a0, nv_mt],
    121416805764107929815862616715064633212031023683429467439296776655265776304880877568,
  #[52656145834278551216607125161908115839829161776643093781729509376, 52656145834278552130045648493722025353842232621839772477665837056,
    52656145834278557062613674485517684354572113780995921681647140864, 52656145834278534592026000522900499782613069297651925719300702208,
    28269553036454117348385652693702055423527728692495605777785362828351970833],
  #[⟨978196366595268232, 7825570932762148431⟩, ⟨1478626862188527670, 11829014897508225458⟩, ⟨1129060431564900402, 9032483452519207191⟩,
    ⟨792615328772903890, 6340922630183231205⟩, ⟨434344689, 1865496234446290944⟩]⟩
def nv_tool3 : RNSTool where
  n := 4
  k := 2
  baseQ := nv_base3
  baseB := nv_baseB3
  baseBsk := nv_baseBsk3
  baseBskMt := nv_baseBskMt3
  baseTGamma := some nv_baseTG
  qToBsk := ⟨nv_base3, nv_baseBsk3, #[#[21809, 18721, 10961], #[21809, 18721, 10961], #[21809, 18721, 10961], #[21809, 18721, 10961]]⟩
  qToMt := ⟨nv_base3, nv_bMt, #[#[21809, 18721, 10961]]⟩
  bToQ := ⟨nv_baseB3, nv_base3, #[#[76, 36, 20], #[25, 29, 67], #[121, 85, 143]]⟩
  bToMsk := ⟨nv_baseB3, nv_bMsk, #[#[755712, 716352, 559104]]⟩
  qToTGamma := some ⟨nv_base3, nv_baseTG, #[#[15, 4, 13], #[21809, 18721, 10961]]⟩
  qToT := some ⟨nv_base3, nv_base17, #[#[15, 4, 13]]⟩
  invProdQModBsk := #[⟨1183068974638530732, 9464551797108248971⟩, ⟨444972886304557533, 3559783090436461497⟩, ⟨1437492105316464934,
    11499936842531724534⟩, ⟨1336503503407267011, 10692028027258136231⟩]
  negInvProdQModMt := ⟨3734021775, 16037501406176870400⟩
  invProdBModMsk := ⟨795399753871390103, 6363198030971120909⟩
  invGammaModT := some ⟨8, 8680820740569200760⟩
  prodBModQ := #[77, 18, 45]
  invMtModBsk := #[⟨2229892975972842786, 17839143807782748160⟩, ⟨733021432216289026, 5864171457730314240⟩, ⟨679258186951163605,
    5434065495609311232⟩, ⟨1710786748788768745, 13686293990310150144⟩]
  prodQModBsk := #[2115473, 2115473, 2115473, 2115473]
  negInvQModTGamma := #[⟨5, 5425512962855750475⟩, ⟨2133264997748265214, 17066119981986124605⟩]
  prodTGammaModQ := #[⟨18, 3423107147698679681⟩, ⟨112, 18283498550933360893⟩, ⟨190, 18160007119195931642⟩]
  invQLastModQ := #[⟨96, 18256571454392958300⟩, ⟨89, 14528851527080974281⟩]
  mTilde := nv_mt
  mSk := nv_a0
  t := nv_m17
  gamma := nv_a1
  invQLastModT := 3

/-- NTT tables for the moduli of `nv_baseBsk3` exist: `NTTTables.new` succeeds on the primitive root the driver's search finds -/
theorem nv_bsk3_tables : ∀ i, i < nv_baseBsk3.size →
    (NTTTables.new 2 (nv_baseBsk3.q i) true ((Spec.somePrimitiveRoot 4 (nv_baseBsk3.q i).value).getD 0)).toOption.isSome = true ∧
    (Spec.somePrimitiveRoot 4 (nv_baseBsk3.q i).value).getD 0 < 2^64 := by decide +kernel

/-! The tools of the CKKS levels {97, 113} and {97} (t = 0: the tool has no plain-modulus constants; the rest of the first is `nv_toolV`). -/

def nv_tool2c : RNSTool :=
  { nv_toolV with baseTGamma := none, qToTGamma := none, qToT := none, invGammaModT := none, negInvQModTGamma := #[], prodTGammaModQ := #[],
                  t := ⟨0, 0, 0, 0, 0⟩, invQLastModT := 1 }

def nv_baseB1 : RNSBase := ⟨#[nv_a2], 2305843009213693193, #[1], #[⟨1, 8⟩]⟩
def nv_baseBsk1 : RNSBase := ⟨#[nv_a2, nv_a0], 5316911983139661669999250962303179753, #[2305843009213693921, 2305843009213693193],
  #[⟨934373197414889412, 7474985579319117756⟩, ⟨1371469811798804214, 10971758494390433859⟩]⟩
def nv_baseBskMt1 : RNSBase := ⟨#[nv_a2, nv_a0, nv_mt], 22835963083295350273151527227588685875944357888,
  #[9903520314283042066049007616, 9903520314283038939312816128, 5316911983139661669999250962303179753],
  #[⟨148761911263465288, 1190095290107722695⟩, ⟨76834187474661510, 614673499797292088⟩, ⟨3874761817, 16641975283804536832⟩]⟩

def nv_tool1c : RNSTool where
  n := 4
  k := 2
  baseQ := nv_base97
  baseB := nv_baseB1
  baseBsk := nv_baseBsk1
  baseBskMt := nv_baseBskMt1
  baseTGamma := none
  qToBsk := ⟨nv_base97, nv_baseBsk1, #[#[1], #[1]]⟩
  qToMt := ⟨nv_base97, nv_bMt, #[#[1]]⟩
  bToQ := ⟨nv_baseB1, nv_base97, #[#[1]]⟩
  bToMsk := ⟨nv_baseB1, nv_bMsk, #[#[1]]⟩
  qToTGamma := none
  qToT := none
  invProdQModBsk := #[⟨1473837799703597711, 11790702397628785569⟩, ⟨1949269347995081459, 15594154783960651881⟩]
  negInvProdQModMt := ⟨2700958815, 11600529778267914240⟩
  invProdBModMsk := ⟨1371469811798804214, 10971758494390433859⟩
  invGammaModT := none
  prodBModQ := #[61]
  invMtModBsk := #[⟨2229892975972842786, 17839143807782748160⟩, ⟨1710786748788768745, 13686293990310150144⟩]
  prodQModBsk := #[97, 97]
  negInvQModTGamma := #[]
  prodTGammaModQ := #[]
  invQLastModQ := #[]
  mTilde := nv_mt
  mSk := nv_a0
  t := ⟨0, 0, 0, 0, 0⟩
  gamma := nv_a1
  invQLastModT := 1

/-- the one-modulus level below: `RNSTool::new(4, {97}, 17)` -/
def nv_tool1 : RNSTool := (RNSTool.new 4 nv_base97 nv_m17 [nv_a0, nv_a1, nv_a2, nv_a3]).toOption.getD default

/-! ## levels -/

def nv_level : Level := ⟨.bfv, 4, 2, #[nv_m97, nv_m113], nv_m17, #[nv_t97, nv_t113], nv_tool⟩
def nv_levelV : Level := { nv_level with tool := nv_toolV }
def nv_level1 : Level := ⟨.bfv, 4, 2, #[nv_m97], nv_m17, #[nv_t97], nv_tool1⟩
def nv_ct1 : Ct := ⟨#[#[#[69, 3, 49, 39]], #[#[73, 12, 45, 82]]], false, 1⟩
/-- a ternary secret key of full length -/
def nv_sk : Array Int := #[1, -1, 0, 1]
/-- the one evaluation of this tool: it exists, the fields that later proofs read, and the one computation that runs through it -/
theorem nv_tool1_shape : (RNSTool.new 4 nv_base97 nv_m17 [nv_a0, nv_a1, nv_a2, nv_a3]).toOption.isSome = true ∧
    nv_level1.tool.n = 4 ∧ nv_level1.tool.baseQ = nv_base97 ∧ nv_level1.tool.gamma = nv_a1 ∧
    (bfvDecrypt nv_level1 nv_sk nv_ct1).toOption = some #[3, 16, 0, 9] := by decide +kernel
theorem nv_tool1_new : RNSTool.new 4 nv_base97 nv_m17 [nv_a0, nv_a1, nv_a2, nv_a3] = .ok nv_tool1 :=
  nv_ok_of_isOk default nv_tool1_shape.1
theorem nv_level1_new : RNSTool.new nv_level1.n nv_base97 nv_level1.t [nv_a0, nv_a1, nv_a2, nv_a3] = .ok nv_level1.tool := by
  dsimp only [nv_level1]; exact nv_tool1_new

/-! ## the driver's constructor `Drv.Sch.mkLevel` -/

attribute [local instance] nv_decRNSTool in
def nv_decLevel : DecidableEq Level := fun a b =>
  decidable_of_iff (a.scheme = b.scheme ∧ a.n = b.n ∧ a.k = b.k ∧ a.qs = b.qs ∧ a.t = b.t ∧ a.tables = b.tables ∧ a.tool = b.tool)
    (by cases a; cases b; simp)

theorem mkLevel_scheme {s : Scheme} (s' : Scheme) {n : Nat} {qs : List Nat} {t : Nat} {l : Level} (h : Drv.Sch.mkLevel s n qs t = .ok l) :
    Drv.Sch.mkLevel s' n qs t = .ok { l with scheme := s' } := by
  unfold Drv.Sch.mkLevel at h ⊢
  dsimp only at h ⊢
  obtain ⟨ms, hms, h1⟩ := R.bind_eq_ok.mp h
  obtain ⟨tm, htm, h2⟩ := R.bind_eq_ok.mp h1
  obtain ⟨tb, htb, h3⟩ := R.bind_eq_ok.mp h2
  obtain ⟨tool, htool, h4⟩ := R.bind_eq_ok.mp h3
  rw [hms, htm, htb, htool]
  cases h4
  rfl

/-- the call of `RNSTool.new` inside `mkLevel` -/
theorem mkLevel_new {s : Scheme} {n : Nat} {qs : List Nat} {t : Nat} {l : Level} {ms aux : List Modulus} {q : RNSBase} {tm : Modulus}
    (h : Drv.Sch.mkLevel s n qs t = .ok l) (hms : Drv.C10.mkMods qs = .ok ms) (hq : RNSBase.new ms = .ok q) (htm : Modulus.mk? t = .ok tm)
    (haux : Drv.C10.auxPrimes n (q.size + 4) = .ok aux) : RNSTool.new n q tm aux = .ok l.tool := by
  unfold Drv.Sch.mkLevel at h
  dsimp only at h
  obtain ⟨_, -, h1⟩ := R.bind_eq_ok.mp h
  obtain ⟨_, -, h2⟩ := R.bind_eq_ok.mp h1
  obtain ⟨_, -, h3⟩ := R.bind_eq_ok.mp h2
  obtain ⟨tool, htool, h4⟩ := R.bind_eq_ok.mp h3
  cases h4
  unfold Drv.C10.mkTool Drv.C10.mkBase at htool
  rwa [hms, R.ok_bind, hq, R.ok_bind, htm, R.ok_bind, haux] at htool

/-- `RNSTool.new` reads of the auxiliary primes only the first `baseBSize + 2` -/
theorem RNSTool.new_take (n : Nat) (q : RNSBase) (t : Modulus) (aux : List Modulus)
    (h : baseBSize q.size t.bits (bitCount q.prod) + 2 ≤ aux.length) :
    RNSTool.new n q t (aux.take (baseBSize q.size t.bits (bitCount q.prod) + 2)) = RNSTool.new n q t aux := by
  unfold RNSTool.new
  by_cases c1 : q.size < 1 ∨ q.size > 64
  · rw [if_pos c1, if_pos c1]
  by_cases c2 : (!(isPow2 n)) = true ∨ n < 2 ∨ n > 131072
  · rw [if_neg c1, if_neg c1, if_pos c2, if_pos c2]
  rw [if_neg c1, if_neg c1, if_neg c2, if_neg c2]
  show ite _ _ _ = ite _ _ _
  rw [List.length_take_of_le h, if_neg (Nat.lt_irrefl _), if_neg (by omega), list_getD_take aux default (by omega),
    list_getD_take aux default (by omega), List.drop_take, Nat.add_sub_cancel, List.take_take, Nat.min_self]

/-- the levels {97, 113} and {97, 113, 193} with t = 17, for every scheme -/
def nv_lv2 (s : Scheme) : Level := { nv_levelV with scheme := s }
def nv_lv3 (s : Scheme) : Level := ⟨s, 4, 2, #[nv_m97, nv_m113, nv_m193], nv_m17, #[nv_t97, nv_t113, nv_t193], nv_tool3⟩
/-- the levels {97, 113} and {97} with t = 0 -/
def nv_lv2c (s : Scheme) : Level := ⟨s, 4, 2, #[nv_m97, nv_m113], ⟨0, 0, 0, 0, 0⟩, #[nv_t97, nv_t113], nv_tool2c⟩
def nv_lv1c (s : Scheme) : Level := ⟨s, 4, 2, #[nv_m97], ⟨0, 0, 0, 0, 0⟩, #[nv_t97], nv_tool1c⟩

/-- the (moduli, plain modulus) pairs of the levels the witnesses use.  For the first four `mkLevel` is evaluated to a literal; the levels with
    t = 101 and the CKKS level {97, 113, 193} are only used through what `mkLevel` guarantees: for them it is enough that they exist. -/
def nv_worlds : List (List Nat × Nat) :=
  [([97, 113], 17), ([97, 113, 193], 17), ([97, 113], 0), ([97], 0), ([97, 113, 193], 101), ([97, 113], 101), ([97, 113, 193], 0)]

/-- what the one evaluation of the driver's constructor establishes -/
structure NvEval : Prop where
  lv2 : (Drv.Sch.mkLevel .bfv 4 [97, 113] 17).toOption = some (nv_lv2 .bfv)
  lv3 : (Drv.Sch.mkLevel .bfv 4 [97, 113, 193] 17).toOption = some (nv_lv3 .bfv)
  lv2c : (Drv.Sch.mkLevel .bfv 4 [97, 113] 0).toOption = some (nv_lv2c .bfv)
  lv1c : (Drv.Sch.mkLevel .bfv 4 [97] 0).toOption = some (nv_lv1c .bfv)
  exist : ∀ x ∈ nv_worlds.drop 4, (Drv.Sch.mkLevel .bfv 4 x.1 x.2).toOption.isSome = true
  /-- `get_primes(8, 61, ·)`, as `mkLevel` hands them to `RNSTool.new` for two and for three moduli -/
  aux6 : (Drv.C10.auxPrimes 4 6).toOption = some [nv_a0, nv_a1, nv_a2, nv_a3, nv_a4, nv_a5]
  aux7 : (Drv.C10.auxPrimes 4 7).toOption = some [nv_a0, nv_a1, nv_a2, nv_a3, nv_a4, nv_a5, nv_a6]

/- What is evaluated: `mkLevel` seven times, once per world, and the two lists of auxiliary primes, in ONE `decide`: within a declaration the
   kernel runs the search for the 61-bit primes (most of the work) once. -/
attribute [local instance] nv_decRNSTool nv_decLevel in
theorem nv_mkLevel_eval : NvEval :=
  have h : _ ∧ _ ∧ _ ∧ _ ∧ _ ∧ _ ∧ _ := by decide +kernel
  ⟨h.1, h.2.1, h.2.2.1, h.2.2.2.1, h.2.2.2.2.1, h.2.2.2.2.2.1, h.2.2.2.2.2.2⟩

/-- the hand-written level {97, 113} IS the level the driver builds -/
theorem nv_mkLevel2 (s : Scheme) : Drv.Sch.mkLevel s 4 [97, 113] 17 = .ok (nv_lv2 s) := mkLevel_scheme s (nv_ok_of_toOption nv_mkLevel_eval.lv2)
theorem nv_mkLevel3 (s : Scheme) : Drv.Sch.mkLevel s 4 [97, 113, 193] 17 = .ok (nv_lv3 s) := mkLevel_scheme s (nv_ok_of_toOption nv_mkLevel_eval.lv3)
theorem nv_mkLevel2c (s : Scheme) : Drv.Sch.mkLevel s 4 [97, 113] 0 = .ok (nv_lv2c s) := mkLevel_scheme s (nv_ok_of_toOption nv_mkLevel_eval.lv2c)
theorem nv_mkLevel1c (s : Scheme) : Drv.Sch.mkLevel s 4 [97] 0 = .ok (nv_lv1c s) := mkLevel_scheme s (nv_ok_of_toOption nv_mkLevel_eval.lv1c)
theorem nv_auxPrimes3 : Drv.C10.auxPrimes 4 ([97, 113, 193].length + 4) = .ok [nv_a0, nv_a1, nv_a2, nv_a3, nv_a4, nv_a5, nv_a6] :=
  nv_ok_of_toOption nv_mkLevel_eval.aux7

/-- `nv_tool` is handed four auxiliary primes, the driver hands six; the tool is the one evaluated inside `mkLevel` -/
theorem nv_toolV_new : RNSTool.new 4 nv_base nv_m17 [nv_a0, nv_a1, nv_a2, nv_a3] = .ok nv_toolV :=
  (RNSTool.new_take 4 nv_base nv_m17 [nv_a0, nv_a1, nv_a2, nv_a3, nv_a4, nv_a5] (by decide)).trans
    (mkLevel_new (nv_mkLevel2 .bfv) (ms := [nv_m97, nv_m113]) (by rfl) nv_base_new nv_m17_mk (nv_ok_of_toOption nv_mkLevel_eval.aux6))
theorem nv_tool_eq : nv_tool = nv_toolV := by rw [nv_tool, nv_toolV_new]; rfl
theorem nv_tool_new : RNSTool.new 4 nv_base nv_m17 [nv_a0, nv_a1, nv_a2, nv_a3] = .ok nv_tool := nv_tool_eq ▸ nv_toolV_new
/- `dsimp` reduces the projection first; the unifier, asked `nv_level.tool =?= nv_tool`, would unfold `nv_tool` and run the constructor -/
theorem nv_level_tool : nv_level.tool = nv_toolV := by dsimp only [nv_level]; exact nv_tool_eq
theorem nv_level_eq : nv_level = nv_levelV := by rw [nv_levelV, nv_level, nv_tool_eq]
theorem nv_mkLevel : Drv.Sch.mkLevel .bfv 4 [97, 113] 17 = .ok nv_level := nv_level_eq ▸ nv_mkLevel2 .bfv
/-- … and `nv_level` with another scheme is what the driver builds for that scheme -/
theorem nv_mkLevel_scheme (s : Scheme) : Drv.Sch.mkLevel s 4 [97, 113] 17 = .ok { nv_level with scheme := s } := mkLevel_scheme s nv_mkLevel

/-- the level the driver builds for (scheme, {…}, t), N = 4 -/
def c01w_lv (s : Scheme) (qs : List Nat) (t : Nat) : Level := (Drv.Sch.mkLevel s 4 qs t).toOption.getD default
def c01w_pl (s : Scheme) (t : Nat) : Level := c01w_lv s [97, 113, 193] t
def c01w_l (s : Scheme) (t : Nat) : Level := c01w_lv s [97, 113] t

theorem c01w_lv_eq {s s' : Scheme} {qs : List Nat} {t : Nat} {l : Level} (h : Drv.Sch.mkLevel s' 4 qs t = .ok l) :
    c01w_lv s qs t = { l with scheme := s } := by
  unfold c01w_lv
  rw [mkLevel_scheme s h]
  rfl

theorem c01w_lv_ok {s s' : Scheme} {qs : List Nat} {t : Nat} {l : Level} (h : Drv.Sch.mkLevel s' 4 qs t = .ok l) :
    Drv.Sch.mkLevel s 4 qs t = .ok (c01w_lv s qs t) := by
  rw [c01w_lv_eq h]
  exact mkLevel_scheme s h

/-- the driver builds every level of `nv_worlds` -/
theorem c01w_lv_mk (s : Scheme) (qs : List Nat) (t : Nat) (hx : (qs, t) ∈ nv_worlds := by decide) :
    Drv.Sch.mkLevel s 4 qs t = .ok (c01w_lv s qs t) := by
  rcases List.mem_cons.mp hx with h | hx
  · cases h; exact c01w_lv_ok (nv_mkLevel2 s)
  rcases List.mem_cons.mp hx with h | hx
  · cases h; exact c01w_lv_ok (nv_mkLevel3 s)
  rcases List.mem_cons.mp hx with h | hx
  · cases h; exact c01w_lv_ok (nv_mkLevel2c s)
  rcases List.mem_cons.mp hx with h | hx
  · cases h; exact c01w_lv_ok (nv_mkLevel1c s)
  obtain ⟨_, h⟩ := R.isSome_toOption.mp (nv_mkLevel_eval.exist _ hx)
  exact c01w_lv_ok h

theorem c01w_lv2 (s : Scheme) : c01w_l s 17 = nv_lv2 s := (c01w_lv_eq (l := nv_lv2 s) (nv_mkLevel2 s)).trans rfl
theorem c01w_lv3 (s : Scheme) : c01w_pl s 17 = nv_lv3 s := (c01w_lv_eq (l := nv_lv3 s) (nv_mkLevel3 s)).trans rfl
theorem c01w_lv2c (s : Scheme) : c01w_l s 0 = nv_lv2c s := (c01w_lv_eq (l := nv_lv2c s) (nv_mkLevel2c s)).trans rfl
theorem c01w_lv1c (s : Scheme) : c01w_lv s [97] 0 = nv_lv1c s := (c01w_lv_eq (l := nv_lv1c s) (nv_mkLevel1c s)).trans rfl

end HC
