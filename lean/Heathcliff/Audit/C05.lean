/- Audit of property C05: `#print axioms` for every property theorem of Props/C05.lean; `audit()` of tools/runner.py elaborates this file
   and compares each axiom list with the three standard axioms. -/
import Heathcliff.Props.C05
#print axioms HC.C05.switch_up_refused
#print axioms HC.C05.switch_steps
#print axioms HC.C05.bfv_switch_noise
#print axioms HC.C05.bfv_switch_message
#print axioms HC.C05.bgv_switch_message
#print axioms HC.C05.ckks_drop_phase
#print axioms HC.C05.ckks_rescale_error
#print axioms HC.C05.modSwitchScaleNext_bfv_spec
#print axioms HC.C05.modSwitchScaleNext_ckks_spec
#print axioms HC.C05.modSwitchScaleNext_bgv_spec
#print axioms HC.C05.modSwitchScaleNext_next_canon
#print axioms HC.C05.modSwitchScaleNext_round_phase
#print axioms HC.C05.modSwitchScaleNext_bgv_phase
#print axioms HC.C05.modSwitchScaleNext_bgv_message
#print axioms HC.C05.modSwitchScaleNext_refusals
#print axioms HC.C05.modSwitchDropNext_spec
#print axioms HC.C05.modSwitchDropNext_crt
#print axioms HC.C05.modSwitchDropNext_refusals
#print axioms HC.C05.switchTo_walk
#print axioms HC.C05.switchTo_ends_on_target
#print axioms HC.C05.gen_mod_switch_to_inplace_eq
#print axioms HC.C05.gen_divide_and_round_q_last_inplace_eq
#print axioms HC.C05.gen_mod_t_and_divide_q_last_ntt_inplace_eq
#print axioms HC.C05.gen_divide_and_round_q_last_ntt_inplace_eq
#print axioms HC.C05.gen_mod_t_and_divide_q_last_ntt_inplace_bgv
#print axioms HC.C05.gen_mod_switch_to_next_eq
#print axioms HC.C05.gen_rescale_to_next_eq
#print axioms HC.C05.gen_rescale_to_eq
#print axioms HC.C05.gen_mod_switch_drop_decision_eq
#print axioms HC.C05.gen_mod_switch_drop_decision_bits
#print axioms HC.C05.gen_modSwitchDropDecision_model
#print axioms HC.C05.gen_mod_switch_drop_refuses_unfit
#print axioms HC.C05.gen_plain_drop_next_eq
#print axioms HC.C05.gen_mod_switch_plain_to_eq
#print axioms HC.C05.plain_walk_data
#print axioms HC.C05.plain_switch_to_data
