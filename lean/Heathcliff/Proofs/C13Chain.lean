/- C13: the structure of the modulus-switching chain built by `Context.new`.  Level i is `validate` of the parameters with the last i primes
   dropped (`keep`, `Chain.Below`, `chain_levels`; the key level `chain_key`), consecutive levels are one `Step` apart (`dropLastP`,
   `createNext_ok`, `chain_step`, `chain_prefix`), the chain stops only where the next level would be invalid or one prime is left
   (`chain_maximal`), and the chain indices count down to 0 at the last level (`chain_index`, `chain_entry`). -/
import Heathcliff.Proofs.C13Ladder
namespace HC.Ctx
open HC

/-- the parameters of the next level: the last modulus dropped -/
def dropLastP (p : Params) : Params := { p with q := p.q.dropLast }

theorem validate_parms {isPrime : Nat → Bool} {p : Params} {sec : SecLevel} {c : ContextData}
    (h : validate isPrime p sec = .ok c) : c.parms = p := by
  rcases validate_eval isPrime p sec with ⟨c1, h1, hp, _⟩ | ⟨_, _, hv⟩
  · rw [h] at h1
    cases h1
    exact hp
  · rcases toolStep_ok (hv ▸ h) with ⟨_, rfl⟩ | ⟨_, rfl⟩ <;> exact schemeLevel_parms ..

namespace Chain

theorem setCoeff_ok {p p' : Params} {q : List Nat} (h : p.setCoeff q = .ok p') :
    p' = { p with q := q } ∧ 1 ≤ q.length := by
  unfold Params.setCoeff at h
  split_ifs at h with h1 h2 h3
  cases h
  refine ⟨rfl, ?_⟩
  simp only [Gen.HE_COEFF_MOD_COUNT_MIN] at h3
  omega

theorem createNext_ok {isPrime : Nat → Bool} {prev : Params} {sec : SecLevel} {o : Option ContextData}
    (h : createNext isPrime prev sec = .ok o) :
    1 < prev.q.length ∧ ∃ c, validate isPrime (dropLastP prev) sec = .ok c ∧ o = if c.valid then some c else none := by
  unfold createNext at h
  obtain ⟨next, h1, h⟩ := R.bind_eq_ok.mp h
  obtain ⟨rfl, hl⟩ := setCoeff_ok h1
  obtain ⟨c, h2, h⟩ := R.bind_eq_ok.mp h
  rw [List.length_dropLast] at hl
  refine ⟨by omega, c, h2, ?_⟩
  split_ifs at h ⊢ <;> (cases h; rfl)

end Chain
open Chain

/-- a level produced by `createNext` is the validated, valid parameter set with the last modulus dropped -/
theorem createNext_some {isPrime : Nat → Bool} {prev : Params} {sec : SecLevel} {c : ContextData}
    (h : createNext isPrime prev sec = .ok (some c)) :
    c.parms = dropLastP prev ∧ c.valid = true ∧ validate isPrime (dropLastP prev) sec = .ok c := by
  obtain ⟨_, c', hv, ho⟩ := createNext_ok h
  split_ifs at ho with hval
  cases ho
  exact ⟨validate_parms hv, hval, hv⟩

theorem createNext_none {isPrime : Nat → Bool} {prev : Params} {sec : SecLevel}
    (h : createNext isPrime prev sec = .ok none) :
    ∃ c, validate isPrime (dropLastP prev) sec = .ok c ∧ c.valid = false := by
  obtain ⟨_, c', hv, ho⟩ := createNext_ok h
  split_ifs at ho with hval
  exact ⟨c', hv, by simpa using hval⟩

/-- `d` is the level after `c` in a chain: `c` has more than one modulus, `d` is what `validate` returns for `c`'s parameters without the last
    modulus, and it is valid -/
def Step (isPrime : Nat → Bool) (sec : SecLevel) (c d : ContextData) : Prop :=
  c.parms.q.length > 1 ∧ d.parms = dropLastP c.parms ∧ d.valid = true ∧ validate isPrime d.parms sec = .ok d

/-- the parameter object with the first `j` moduli -/
def keep (p : Params) (j : Nat) : Params := { p with q := p.q.take j }

theorem keep_all (p : Params) : keep p p.q.length = p := by
  unfold keep; rw [List.take_length]

theorem keep_length {p : Params} {j : Nat} (hj : j ≤ p.q.length) : (keep p j).q.length = j :=
  (List.length_take ..).trans (Nat.min_eq_left hj)

theorem keep_pred (p : Params) : keep p (p.q.length - 1) = dropLastP p := by
  unfold keep dropLastP; rw [List.dropLast_eq_take]

theorem keep_dropLastP {p : Params} {j : Nat} (hj : j ≤ p.q.length - 1) : keep (dropLastP p) j = keep p j := by
  unfold dropLastP keep
  simp only [List.dropLast_eq_take, List.take_take, Nat.min_eq_left hj]

theorem dropLastP_keep {p : Params} {j : Nat} (hj : j ≤ p.q.length) : dropLastP (keep p j) = keep p (j - 1) := by
  rw [← keep_pred, keep_length hj]
  unfold keep
  simp only [List.take_take, Nat.min_eq_left (Nat.sub_le j 1)]

namespace Chain

/-- a run of levels below the parameters `prev`: entry `j` is the accepted validation of the first `K − (j+1)` moduli, and (when `m`
    holds: the loop is allowed to run to its end) it stops only at a single modulus or in front of a rejected parameter set -/
def Below (isPrime : Nat → Bool) (sec : SecLevel) (m : Prop) (prev : Params) (l : List ContextData) : Prop :=
  (∀ j d, l[j]? = some d → j + 1 < prev.q.length ∧ d.valid = true ∧
      validate isPrime (keep prev (prev.q.length - (j+1))) sec = .ok d) ∧
  (m → prev.q.length - l.length ≤ 1 ∨ createNext isPrime (keep prev (prev.q.length - l.length)) sec = .ok none)

theorem Below.nil {isPrime : Nat → Bool} {sec : SecLevel} {m : Prop} {prev : Params}
    (h : m → prev.q.length ≤ 1 ∨ createNext isPrime prev sec = .ok none) : Below isPrime sec m prev [] :=
  ⟨fun j d hj => by simp at hj, fun hm => by rw [List.length_nil, Nat.sub_zero, keep_all]; exact h hm⟩

theorem Below.cons {isPrime : Nat → Bool} {sec : SecLevel} {m : Prop} {prev : Params} {c : ContextData} {rest : List ContextData}
    (hc : createNext isPrime prev sec = .ok (some c)) (hr : Below isPrime sec m c.parms rest) :
    Below isPrime sec m prev (c :: rest) := by
  obtain ⟨e1, e2, e3⟩ := createNext_some hc
  have hlen := (createNext_ok hc).1
  have hcl : c.parms.q.length = prev.q.length - 1 := by rw [e1]; exact List.length_dropLast
  obtain ⟨h1, h2⟩ := hr
  rw [hcl, e1] at h1 h2
  refine ⟨fun j d hj => ?_, fun hm => ?_⟩
  · cases j with
    | zero =>
      simp only [List.getElem?_cons_zero, Option.some.injEq] at hj
      subst hj
      exact ⟨hlen, e2, by rw [keep_pred]; exact e3⟩
    | succ j =>
      simp only [List.getElem?_cons_succ] at hj
      obtain ⟨a1, a2, a3⟩ := h1 j d hj
      rw [keep_dropLastP (by omega), Nat.sub_sub, Nat.add_comm 1] at a3
      exact ⟨by omega, a2, a3⟩
  · rw [List.length_cons, Nat.add_comm, ← Nat.sub_sub]
    rw [keep_dropLastP (Nat.sub_le _ _)] at h2
    exact h2 hm

theorem expandFrom_below {isPrime : Nat → Bool} {sec : SecLevel} (m : Prop) :
    ∀ (fuel : Nat) (prev : Params) (l : List ContextData),
      expandFrom isPrime sec fuel prev = .ok l → (m → prev.q.length ≤ fuel) → Below isPrime sec m prev l := by
  intro fuel
  induction fuel with
  | zero =>
    intro prev l h hm
    cases h
    exact .nil (fun hm' => Or.inl (by have := hm hm'; omega))
  | succ fuel ih =>
    intro prev l h hm
    unfold expandFrom at h
    split_ifs at h with hlen
    · obtain ⟨o, ho, h⟩ := R.bind_eq_ok.mp h
      cases o with
      | none =>
        cases h
        exact .nil (fun _ => Or.inr ho)
      | some c =>
        obtain ⟨rest, hr, h⟩ := R.bind_eq_ok.mp h
        cases h
        refine .cons ho (ih _ _ hr fun hm' => ?_)
        have := hm hm'
        rw [(createNext_some ho).1]
        simp only [dropLastP, List.length_dropLast]
        omega
    · cases h
      exact .nil (fun _ => Or.inl (by omega))

theorem new_shape {isPrime : Nat → Bool} {p : Params} {expand : Bool} {sec : SecLevel} {x : Context}
    (h : Context.new isPrime p expand sec = .ok x) :
    ∃ key first? rest, validate isPrime p sec = .ok key ∧
      (first? = none ∧ (key.valid = false ∨ p.q.length = 1 ∨ p.special = true) ∨
        (key.valid = true ∧ p.q.length ≠ 1 ∧ p.special = false ∧ createNext isPrime p sec = .ok first?)) ∧
      (rest = [] ∧ (expand = false ∨ (first?.getD key).valid = false) ∨
        (expand = true ∧ (first?.getD key).valid = true ∧
          expandFrom isPrime sec (first?.getD key).parms.q.length (first?.getD key).parms = .ok rest)) ∧
      x = { levels := key :: (first?.toList ++ rest), firstIdx := if first?.isSome then 1 else 0,
            usingKeyswitching := first?.isSome, sec := sec } := by
  unfold Context.new at h
  obtain ⟨key, hk, h⟩ := R.bind_eq_ok.mp h
  extract_lets jp at h
  have hjp : ∀ first?, jp first? = .ok x → ∃ rest,
      (rest = [] ∧ (expand = false ∨ (first?.getD key).valid = false) ∨
        (expand = true ∧ (first?.getD key).valid = true ∧
          expandFrom isPrime sec (first?.getD key).parms.q.length (first?.getD key).parms = .ok rest)) ∧
      x = { levels := key :: (first?.toList ++ rest), firstIdx := if first?.isSome then 1 else 0,
            usingKeyswitching := first?.isSome, sec := sec } := by
    intro first? hj
    simp only [jp] at hj
    by_cases hc : (expand && (first?.getD key).valid) = true
    · rw [if_pos hc] at hj
      obtain ⟨rest, hr, hj⟩ := R.bind_eq_ok.mp hj
      cases hj
      simp only [Bool.and_eq_true] at hc
      exact ⟨rest, Or.inr ⟨hc.1, hc.2, hr⟩, rfl⟩
    · rw [if_neg hc] at hj
      obtain ⟨rest, hr, hj⟩ := R.bind_eq_ok.mp hj
      cases hj; cases hr
      refine ⟨[], Or.inl ⟨rfl, ?_⟩, rfl⟩
      simp only [Bool.and_eq_true, not_and, Bool.not_eq_true] at hc
      cases expand
      · exact Or.inl rfl
      · exact Or.inr (hc rfl)
  clear_value jp
  split_ifs at h with hc
  · obtain ⟨first?, hf, h⟩ := R.bind_eq_ok.mp h
    cases hf
    obtain ⟨rest, h1, h2⟩ := hjp _ h
    refine ⟨key, none, rest, hk, Or.inl ⟨rfl, ?_⟩, h1, h2⟩
    simpa [or_assoc] using hc
  · obtain ⟨first?, hf, h⟩ := R.bind_eq_ok.mp h
    obtain ⟨rest, h1, h2⟩ := hjp _ h
    refine ⟨key, first?, rest, hk, Or.inr ?_, h1, h2⟩
    simp only [Bool.or_eq_true, Bool.not_eq_eq_eq_not, Bool.not_true, beq_iff_eq, not_or, Bool.not_eq_true,
      Bool.not_eq_false] at hc
    exact ⟨hc.1.1, hc.1.2, hc.2, hf⟩

theorem new_shape2 {isPrime : Nat → Bool} {p : Params} {expand : Bool} {sec : SecLevel} {x : Context}
    (h : Context.new isPrime p expand sec = .ok x) :
    ∃ key tl, validate isPrime p sec = .ok key ∧ key.parms = p ∧ x.levels = key :: tl ∧
      Below isPrime sec (expand = true ∧ key.valid = true) p tl ∧ (tl ≠ [] → key.valid = true) ∧
      (expand = false → tl.length ≤ 1) := by
  obtain ⟨key, first?, rest, hk, hf, hr, rfl⟩ := new_shape h
  have hkp := validate_parms hk
  have hv : (first?.getD key).valid = key.valid := by
    rcases hf with ⟨rfl, _⟩ | ⟨h1, _, _, h4⟩
    · rfl
    · cases first? with
      | none => rfl
      | some f => simp only [Option.getD_some]; rw [h1]; exact (createNext_some h4).2.1
  rw [hv] at hr
  have hd : Below isPrime sec (expand = true ∧ key.valid = true) (first?.getD key).parms rest := by
    rcases hr with ⟨rfl, h1⟩ | ⟨_, _, h3⟩
    · refine .nil (fun hm => ?_)
      rcases h1 with h1 | h1
      · rw [hm.1] at h1; cases h1
      · rw [hm.2] at h1; cases h1
    · exact expandFrom_below _ _ _ _ h3 (fun _ => le_refl _)
  refine ⟨key, first?.toList ++ rest, hk, hkp, rfl, ?_, ?_, ?_⟩
  · cases first? with
    | none => simpa [hkp] using hd
    | some f =>
      rcases hf with ⟨h0, _⟩ | ⟨_, _, _, h4⟩
      · cases h0
      · exact .cons h4 hd
  · intro hne
    rcases hf with ⟨rfl, _⟩ | ⟨h1, _⟩
    · rcases hr with ⟨rfl, _⟩ | ⟨_, h2, _⟩
      · simp at hne
      · exact h2
    · exact h1
  · intro he
    rcases hr with ⟨rfl, _⟩ | ⟨h1, _⟩
    · cases first? <;> simp
    · rw [he] at h1; cases h1

end Chain
open Chain

/-- level `i` of the chain is `validate` of the parameters with the first `K − i` moduli, accepted below the key level -/
theorem chain_levels {isPrime : Nat → Bool} {p : Params} {expand : Bool} {sec : SecLevel} {x : Context}
    (h : Context.new isPrime p expand sec = .ok x) :
    ∀ (i : Nat) (c : ContextData), x.levels[i]? = some c →
      validate isPrime (keep p (p.q.length - i)) sec = .ok c ∧ (0 < i → c.valid = true ∧ i < p.q.length) := by
  obtain ⟨key, tl, h1, _, h3, h4, _, _⟩ := new_shape2 h
  rw [h3]
  intro i c hi
  cases i with
  | zero =>
    simp only [List.getElem?_cons_zero, Option.some.injEq] at hi
    subst hi
    exact ⟨by rw [Nat.sub_zero, keep_all]; exact h1, fun h0 => absurd h0 (Nat.lt_irrefl 0)⟩
  | succ j =>
    simp only [List.getElem?_cons_succ] at hi
    obtain ⟨a1, a2, a3⟩ := h4.1 j c hi
    exact ⟨a3, fun _ => ⟨a2, a1⟩⟩

theorem chain_key {isPrime : Nat → Bool} {p : Params} {expand : Bool} {sec : SecLevel} {x : Context}
    (h : Context.new isPrime p expand sec = .ok x) :
    ∃ key rest, x.levels = key :: rest ∧ key.parms = p ∧ validate isPrime p sec = .ok key ∧
      (rest ≠ [] → key.valid = true) := by
  obtain ⟨key, tl, h1, h2, h3, _, h5, _⟩ := new_shape2 h
  exact ⟨key, tl, h3, h2, h1, h5⟩

theorem chain_step {isPrime : Nat → Bool} {p : Params} {expand : Bool} {sec : SecLevel} {x : Context}
    (h : Context.new isPrime p expand sec = .ok x) :
    ∀ (i : Nat) (c d : ContextData), x.levels[i]? = some c → x.levels[i+1]? = some d → Step isPrime sec c d := by
  intro i c d hc hd
  obtain ⟨hvc, _⟩ := chain_levels h i c hc
  obtain ⟨hvd, hpos⟩ := chain_levels h (i+1) d hd
  obtain ⟨hval, hlt⟩ := hpos (Nat.succ_pos i)
  have ec := validate_parms hvc
  have ed := validate_parms hvd
  refine ⟨by rw [ec, keep_length (Nat.sub_le _ _)]; omega, ?_, hval, by rw [ed]; exact hvd⟩
  rw [ec, ed, dropLastP_keep (Nat.sub_le _ _), Nat.sub_sub]

theorem chain_prefix {isPrime : Nat → Bool} {p : Params} {expand : Bool} {sec : SecLevel} {x : Context}
    (h : Context.new isPrime p expand sec = .ok x) :
    ∀ (i : Nat) (c : ContextData), x.levels[i]? = some c →
      c.parms = { p with q := p.q.take (p.q.length - i) } ∧ i < p.q.length ∨ (i = 0 ∧ c.parms = p) := by
  intro i c hi
  obtain ⟨hv, hpos⟩ := chain_levels h i c hi
  rcases Nat.eq_zero_or_pos i with rfl | h0
  · exact Or.inr ⟨rfl, by rw [validate_parms hv, Nat.sub_zero, keep_all]⟩
  · exact Or.inl ⟨validate_parms hv, (hpos h0).2⟩

theorem chainIndex_facts (x : Context) (h : x.firstIdx < x.levels.length) :
    (∀ i, i + 1 < x.levels.length → x.chainIndex (i + 1) + 1 = x.chainIndex i) ∧
    x.chainIndex x.lastIdx = 0 ∧ x.lastIdx < x.levels.length ∧ x.firstIdx < x.levels.length ∧ x.firstIdx ≤ x.lastIdx := by
  unfold Context.chainIndex Context.lastIdx
  exact ⟨fun i hi => by omega, by omega, by omega, h, by omega⟩

/-- `chain_index` decreases by one along the chain and ends at 0; the entry points are inside the chain -/
theorem chain_index {isPrime : Nat → Bool} {p : Params} {expand : Bool} {sec : SecLevel} {x : Context}
    (h : Context.new isPrime p expand sec = .ok x) :
    (∀ i, i + 1 < x.levels.length → x.chainIndex (i + 1) + 1 = x.chainIndex i) ∧
    x.chainIndex x.lastIdx = 0 ∧ x.lastIdx < x.levels.length ∧ x.firstIdx < x.levels.length ∧ x.firstIdx ≤ x.lastIdx := by
  obtain ⟨key, first?, rest, _, _, _, rfl⟩ := new_shape h
  apply chainIndex_facts
  cases first? with
  | none => exact Nat.succ_pos _
  | some f => exact Nat.succ_lt_succ (Nat.succ_pos _)

/-- first = key exactly when the key level is invalid, or there is a single modulus, or the special-prime flag is set,
    or the parameters without the last modulus are invalid; `using_keyswitching` says the same -/
theorem chain_entry {isPrime : Nat → Bool} {p : Params} {expand : Bool} {sec : SecLevel} {x : Context}
    (h : Context.new isPrime p expand sec = .ok x) :
    (x.firstIdx = 0 ∨ x.firstIdx = 1) ∧ (x.usingKeyswitching = true ↔ x.firstIdx = 1) ∧
    (x.firstIdx = 0 ↔
      (∃ key, validate isPrime p sec = .ok key ∧ key.valid = false) ∨ p.q.length = 1 ∨ p.special = true ∨
      (∃ c, validate isPrime (dropLastP p) sec = .ok c ∧ c.valid = false)) := by
  obtain ⟨key, first?, rest, hk, hf, hr, rfl⟩ := new_shape h
  cases first? with
  | none =>
    refine ⟨Or.inl rfl, by simp, ?_⟩
    simp only [Option.isSome_none, Bool.false_eq_true, if_false, true_iff]
    rcases hf with ⟨_, h1 | h1 | h1⟩ | ⟨_, _, _, h4⟩
    · exact Or.inl ⟨key, hk, h1⟩
    · exact Or.inr (Or.inl h1)
    · exact Or.inr (Or.inr (Or.inl h1))
    · exact Or.inr (Or.inr (Or.inr (createNext_none h4)))
  | some f =>
    refine ⟨Or.inr rfl, by simp, ?_⟩
    simp only [Option.isSome_some, if_true, one_ne_zero, false_iff]
    rcases hf with ⟨h0, _⟩ | ⟨h1, h2, h3, h4⟩
    · cases h0
    · obtain ⟨_, e2, e3⟩ := createNext_some h4
      rintro (⟨key', hk', hv'⟩ | hl | hs | ⟨c, hc, hcv⟩)
      · rw [hk] at hk'; cases hk'; rw [h1] at hv'; cases hv'
      · exact h2 hl
      · rw [h3] at hs; cases hs
      · rw [e3] at hc; cases hc; rw [e2] at hcv; cases hcv

/-- with chain expansion the chain only stops at a single modulus or in front of an invalid parameter set;
    without it there is at most one level below the key level -/
theorem chain_maximal {isPrime : Nat → Bool} {p : Params} {expand : Bool} {sec : SecLevel} {x : Context}
    (h : Context.new isPrime p expand sec = .ok x) :
    (expand = true → ∀ last, x.levels[x.lastIdx]? = some last → last.valid = true →
        last.parms.q.length ≤ 1 ∨ ∃ c, validate isPrime (dropLastP last.parms) sec = .ok c ∧ c.valid = false) ∧
    (expand = false → x.levels.length ≤ 2) := by
  obtain ⟨key, tl, _, _, h3, h4, h5, h6⟩ := new_shape2 h
  constructor
  · intro he last hl hv
    have hp := validate_parms (chain_levels h _ _ hl).1
    simp only [Context.lastIdx, h3, List.length_cons, Nat.add_sub_cancel] at hl hp
    have hkv : key.valid = true := by
      by_cases hne : tl = []
      · subst hne
        simp only [List.length_nil, List.getElem?_cons_zero, Option.some.injEq] at hl
        rw [hl]; exact hv
      · exact h5 hne
    rw [hp, keep_length (Nat.sub_le _ _)]
    exact (h4.2 ⟨he, hkv⟩).imp_right createNext_none
  · intro he
    have := h6 he
    rw [h3, List.length_cons]
    omega

end HC.Ctx
