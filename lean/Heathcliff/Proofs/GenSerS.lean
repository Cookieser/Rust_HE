/-
  `SecretKey` (a wrapper over `Plaintext`), the SIZE functions of `PublicKey`, the context-dependent
  `Vec<I>`, `KSwitchKeys` / `RelinKeys` / `GaloisKeys`, "announced size = bytes written" for key sets from the source, and the
  statements about the compact ciphertext reader.  Helper prefix `gs2_`.
-/
import Heathcliff.Proofs.GenSerM
import Heathcliff.Proofs.C14S
namespace HC.GS
open HC HC.Codec HC.GenS

variable {S E : Type}

theorem gs2_sk_serialize (st : WStream S E) (p : Plain) : sk_serialize st p = plain_serialize st p := rfl
theorem gs2_sk_size (p : Plain) : sk_serialized_size p = plain_serialized_size p := rfl
theorem gs2_sk_deserialize : sk_deserialize = plain_deserialize := dbind_pure_right _

/-- `SecretKey`: generated writer / reader / size = those of its plaintext, hence = `plainC` (source round trip included) -/
theorem c14g_secret_key (p : Plain) (hv : plainC.valid p) (hl : p.pid.length = 4) (rest : Bytes) :
    sk_serialize idealStream p [] = (.ok (plainC.enc p).length, plainC.enc p) ∧
    sk_deserialize ((sk_serialize idealStream p []).2 ++ rest) = .ok (p, rest) ∧
    sk_serialized_size p = (plainC.enc p).length := by
  have hw := gs_ideal plainC p _ (gs_plain_serialize idealStream p hl) []
  refine ⟨by rw [gs2_sk_serialize, hw]; rfl, ?_, ?_⟩
  · rw [gs2_sk_deserialize, gs2_sk_serialize]; exact c14g_plain_source_round_trip p hv hl rest
  · rw [gs2_sk_size, gr_plain_size, plainC_lawful.len p hv, c14s_plainC_size p hv]

theorem gs2_cvec_size_loop {α β} (item : α → R Nat) (c : Codec β) (vs : List α) (xs : List β)
    (h : List.Forall₂ (fun v x => item v = .ok (c.size x)) vs xs) (acc : Nat) :
    cvec_serialized_size_loop1 item vs acc = .ok (acc + seqSize (List.replicate xs.length c) xs) := by
  induction h generalizing acc with
  | nil => simp [cvec_serialized_size_loop1, seqSize, ppure]
  | cons hx _ ih =>
    simp only [cvec_serialized_size_loop1, hx, pbind, ih, List.length_cons, List.replicate_succ, seqSize, Nat.add_assoc]

theorem gs2_cvec_size {α β} (item : α → R Nat) (c : Codec β) (vs : List α) (xs : List β)
    (h : List.Forall₂ (fun v x => item v = .ok (c.size x)) vs xs) :
    cvec_serialized_size item vs = .ok ((vecC c).size xs) := by
  have hc : (vecC c).size xs = 8 + seqSize (List.replicate xs.length c) xs := rfl
  simp only [cvec_serialized_size, gs2_cvec_size_loop item c vs xs h, pbind, ppure, usize_serialized_size, Nat.zero_add, hc]

/-- `PublicKey::serialized_size` on the view of a valid model ciphertext = the model's `size` (through the closed form) -/
theorem gs2_pk_size (ctx : Ctx) (expand : List Nat → Level → Poly) (v : CtV) (x : Ct) (h : PkView ctx v x)
    (hv : (ctC ctx expand).valid x) : pk_serialized_size ctx v = .ok ((ctC ctx expand).size x) := by
  obtain ⟨lv, hf, hq, _, _, _, rfl⟩ := h
  have hlv : (ctx.find x.pid).getD noLevel = lv := by rw [hf]; rfl
  have hs := gr_ct_size ctx lv (ctvOfCt lv x) hf hq
  rw [HC.Codec.c14s_SizeClosedFormStatement_proof ctx expand x hv, hlv]
  simp only [pk_serialized_size, hs, pbind, ppure]
  rfl

def PkViewV (ctx : Ctx) (expand : List Nat → Level → Poly) (v : CtV) (x : Ct) : Prop := PkView ctx v x ∧ (ctC ctx expand).valid x

theorem gs2_kswitch_size (ctx : Ctx) (expand : List Nat → Level → Poly) (kv : KSwitch CtV) (k : KSwitch Ct)
    (hpid : kv.pid = k.pid) (hl : k.pid.length = 4)
    (hkeys : List.Forall₂ (List.Forall₂ (PkViewV ctx expand)) kv.keys k.keys) :
    kswitch_serialized_size ctx kv = .ok ((kswitchC (ctC ctx expand)).size k) ∧
    relin_serialized_size ctx kv = kswitch_serialized_size ctx kv ∧ galois_serialized_size ctx kv = kswitch_serialized_size ctx kv := by
  have hin : List.Forall₂ (fun vs xs => cvec_serialized_size (pk_serialized_size ctx) vs = .ok ((vecC (ctC ctx expand)).size xs))
      kv.keys k.keys :=
    List.Forall₂.imp (fun vs xs h => gs2_cvec_size _ (ctC ctx expand) vs xs
      (List.Forall₂.imp (fun v x hv => gs2_pk_size ctx expand v x hv.1 hv.2) h)) hkeys
  have hv := gs2_cvec_size (cvec_serialized_size (pk_serialized_size ctx)) (vecC (ctC ctx expand)) kv.keys k.keys hin
  have hc : (kswitchC (ctC ctx expand)).size k = pidC.size k.pid + (vecC (vecC (ctC ctx expand))).size k.keys := rfl
  have hp : pidC.size k.pid = 32 := c14s_pidC_size k.pid hl
  refine ⟨?_, ?_, ?_⟩
  · simp only [kswitch_serialized_size, hv, pbind, ppure, pid_serialized_size, Nat.zero_add, hc, hp]
  · exact (pbind_eq _ _).trans (bind_pure _)
  · exact (pbind_eq _ _).trans (bind_pure _)

/-- C14 for key sets, FROM THE SOURCE: the size the generated `serialized_size` announces = the count the generated writer returns = the
    number of bytes it puts on the wire (= `|kswitchC.enc|`); the bytes a reader consumes are not part of this statement: the generated
    readers tied to the model are those of the full ciphertext format (`gf_full_ok` of GenSerF, `c14g_ct_full_source_round_trip` of GenSerM);
    for the compact format see the last section of this file -/
theorem c14g_kswitch_announced_eq_written (ctx : Ctx) (expand : List Nat → Level → Poly) (kv : KSwitch CtV) (k : KSwitch Ct)
    (hvk : (kswitchC (ctC ctx expand)).valid k)
    (hpid : kv.pid = k.pid) (hl : k.pid.length = 4)
    (hkeys : List.Forall₂ (List.Forall₂ (PkViewV ctx expand)) kv.keys k.keys) :
    ∃ n, kswitch_serialized_size ctx kv = .ok n ∧ (kswitch_serialize idealStream ctx kv []).1 = .ok n ∧
      ((kswitch_serialize idealStream ctx kv []).2).length = n := by
  have hk' : List.Forall₂ (List.Forall₂ (PkView ctx)) kv.keys k.keys :=
    List.Forall₂.imp (fun _ _ h => List.Forall₂.imp (fun _ _ hv => hv.1) h) hkeys
  have hw := (c14g_kswitch_serialize ctx expand kv k hpid hl hk' []).1
  have hs := (gs2_kswitch_size ctx expand kv k hpid hl hkeys).1
  have hlen := (kswitchC_lawful _ (ctC_lawful ctx expand)).len k hvk
  exact ⟨_, hs, by rw [hw, hlen], by rw [hw]; simpa using hlen⟩

/-! ### the compact ciphertext reader: what is proved, and what is only stated -/

/-- PROVED (partial): the generated compact `Ciphertext::deserialize` answers `UnexpectedEof` on every strict prefix of ANY stream it
    accepts completely — no panic of its windows / `chunks_mut` / indexed stores / `unwrap` can fire on a truncation -/
theorem c15g_ct_reader_truncation_partial (expand : List Nat → Level → List Nat) (ctx : Ctx) (e : Bytes) (v : CtFlat)
    (h : ct_deserialize expand ctx e = .ok (v, [])) (k : Nat) (hk : k < e.length) :
    ∃ s, ct_deserialize expand ctx (e.take k) = .error (.eof s) :=
  gm_truncation _ (gm_ct_deserialize expand ctx) e v h k hk

def flatOfCt (lv : Level) (c : Ct) : CtFlat :=
  ⟨c.size, lv.moduli.length, lv.n, (c.polys.map List.flatten).flatten, c.pid, c.scale, c.cf, c.ntt⟩

/-- NOT PROVED (statement only): the compact reader accepts every valid encoding and returns the model's round-trip value.  Together
    with `c15g_ct_reader_truncation_partial` this gives the truncation clause for the compact format. -/
def GenCtSourceRoundTripStatement : Prop :=
  ∀ (ctx : Ctx) (expand : List Nat → Level → Poly) (c : Ct) (lv : Level) (rest : Bytes),
    (ctC ctx expand).valid c → ctx.find c.pid = some lv → (∀ q ∈ lv.moduli, q < 2 ^ 64) → 0 < lv.n → 0 < lv.moduli.length →
    (c.seeded = true → c.size = 2 ∧ 9 ≤ lv.moduli.length * lv.n) → CtShape lv c → (∀ b ∈ rest, b < 256) →
    ct_deserialize (fun s l => (expand s l).flatten) ctx ((ctC ctx expand).enc c ++ rest)
      = .ok (flatOfCt lv ((ctC ctx expand).norm c), rest)

end HC.GS
