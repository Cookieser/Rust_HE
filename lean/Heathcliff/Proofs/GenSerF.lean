/-
  The READER `Ciphertext::deserialize_full` (Gen/SerFns.lean `ct_deserialize_full`: header, word
  count, indexed stores into a zeroed buffer, `from_members`, `contains_seed` / `expand_seed`) against the model's `ctFullC.dec`.
  Helper prefix `gf_`.
-/
import Heathcliff.Proofs.GenSerK
namespace HC.GS
open HC HC.Codec HC.GenS

theorem gf_seqDec_length {α} (c : Codec α) : ∀ (m : Nat) (bs : Bytes) (ws : List α) (r : Bytes),
    seqDec (List.replicate m c) bs = .ok (ws, r) → ws.length = m
  | 0, _, _, _, h => by cases h; rfl
  | m + 1, bs, ws, r, h => by
    rw [List.replicate_succ, seqDec_cons] at h
    obtain ⟨x, r1, _, h⟩ := dbind_ok_inv h
    obtain ⟨xs, r2, h2, h⟩ := dbind_ok_inv h
    cases h
    rw [List.length_cons, gf_seqDec_length c m _ _ _ h2]

theorem gf_set_splice (data ws : List Nat) (s m w : Nat) (hlt : s < data.length) :
    (data.set s w).take (s + 1) ++ ws ++ (data.set s w).drop (s + 1 + m) = data.take s ++ (w :: ws) ++ data.drop (s + (m + 1)) := by
  rw [List.take_succ_eq_append_getElem (by rw [List.length_set]; exact hlt), List.getElem_set_self, List.take_set_of_le (Nat.le_refl s),
    List.drop_set_of_lt (by omega), List.append_assoc, List.append_assoc, List.singleton_append, Nat.add_assoc, Nat.add_comm 1 m,
    List.append_assoc, List.cons_append]

/-- the store loop, as long as it stays inside the buffer: the words read replace positions `s .. s+m` -/
theorem gf_loop (expand : List Nat → Level → List Nat) (m s : Nat) (data : List Nat) (hs : s + m ≤ data.length) :
    ct_deserialize_full_loop1 expand (List.range' s m) data
      = rbind (seqDec (List.replicate m u64C)) fun ws => rpure (data.take s ++ ws ++ data.drop (s + m)) := by
  induction m generalizing s data with
  | zero => rw [List.replicate_zero, seqDec_nil, rbind_eq, dbind_dpure, List.append_nil, Nat.add_zero, List.take_append_drop]; rfl
  | succ m ih =>
    have hlt : s < data.length := by omega
    have hs' : s + 1 + m ≤ data.length := by omega
    simp only [rbind_eq, rpure_eq, rfail_eq, List.range'_succ, ct_deserialize_full_loop1, hlt, if_true, gr_u64_deserialize, List.replicate_succ, seqDec_cons,
      dbind_assoc, dbind_dpure, ih (s + 1), List.length_set, hs', fun ws w => gf_set_splice data ws s m w hlt]

/-- the flat ciphertext `from_members` builds from the model's `CtFull` at level `lv` -/
def flatOfFull (lv : Level) (c : CtFull) : CtFlat := ⟨c.size, lv.moduli.length, lv.n, c.data, c.pid, c.scale, c.cf, c.ntt⟩

/-- everything after the scheme-dependent header field, as the generated code does it -/
def fullTail (expand : List Nat → Level → List Nat) (ctx : Ctx) (lv : Level) (pid : List Nat) (size : Nat) (ntt : Bool)
    (scale cf : Option Nat) : Rd CtFlat :=
  rbind usizeC.dec fun data_len =>
  rbind (ct_deserialize_full_loop1 expand (List.range' 0 (data_len - 0)) (List.replicate ((lv.moduli.length * size) * lv.n) 0)) fun data =>
  let ret := CtFlat.mk size lv.moduli.length lv.n data pid (scale.getD oneF64) (cf.getD 1) ntt
  (match ctfContainsSeed ret with
  | some b => (if b then (match ctfExpandSeed expand ctx ret with | some t => rpure t | none => rfail .bad) else rpure ret)
  | none => rfail .bad)

theorem gf_tail (expand : List Nat → Level → List Nat) (ctx : Ctx) (lv : Level) (pid : List Nat) (size : Nat) (ntt : Bool)
    (scale cf : Option Nat) (hfind : ctx.find pid = some lv) (hpos : 0 < lv.moduli.length * lv.n)
    (bs r : Bytes) (ws : List Nat) (hv : (vecC u64C).dec bs = .ok (ws, r)) (hcap : ws.length ≤ lv.moduli.length * lv.n * size) :
    fullTail expand ctx lv pid size ntt scale cf bs
      = .ok (CtFlat.mk size lv.moduli.length lv.n (fullAssemble expand lv size ws) pid (scale.getD oneF64) (cf.getD 1) ntt, r) := by
  rw [vecC_dec] at hv
  obtain ⟨L, r1, hL, hws⟩ := dbind_ok_inv hv
  have hlen := gf_seqDec_length u64C L r1 ws r hws
  have hcap' : lv.moduli.length * size * lv.n = lv.moduli.length * lv.n * size := Nat.mul_right_comm _ _ _
  have hdata : List.take 0 (List.replicate ((lv.moduli.length * size) * lv.n) 0) ++ ws
      ++ List.drop (0 + L) (List.replicate ((lv.moduli.length * size) * lv.n) 0)
      = ws ++ List.replicate (lv.moduli.length * lv.n * size - ws.length) 0 := by
    simp [hlen, hcap']
  have hdl : (ws ++ List.replicate (lv.moduli.length * lv.n * size - ws.length) 0).length = lv.moduli.length * lv.n * size := by
    rw [List.length_append, List.length_replicate]; omega
  unfold fullTail
  rw [rbind_eq, dbind_ok hL, Nat.sub_zero, gf_loop expand L 0 _ (by rw [List.length_replicate]; omega), rbind_eq, dbind_assoc, dbind_ok hws, rpure_eq, dbind_dpure, hdata]
  unfold fullAssemble ctfContainsSeed ctfExpandSeed ctfContainsSeed
  simp only [hdl, hfind, HC.Gen.HE_CIPHERTEXT_SIZE_MIN]
  by_cases h2 : size = 2
  · subst h2
    have hle : 2 * (lv.moduli.length * lv.n) ≤ lv.moduli.length * lv.n * 2 := by omega
    simp only [bne_self_eq_false, Bool.false_eq_true, if_false, hle, hpos, and_self, if_true, beq_self_eq_true, Bool.true_and]
    cases (ws ++ List.replicate (lv.moduli.length * lv.n * 2 - ws.length) 0).getD (lv.moduli.length * lv.n) 0 == seedFlag <;> rfl
  · have hne : (size != 2) = true := by simp [h2]
    have hne' : (size == 2) = false := by simp [h2]
    simp only [hne, hne', if_true, Bool.false_and, Bool.false_eq_true, if_false]
    rfl

/-- the generated reader, with its duplicated continuations folded into `fullTail` -/
theorem gf_unfold (expand : List Nat → Level → List Nat) (ctx : Ctx) (bs : Bytes) :
    ct_deserialize_full expand ctx bs =
      (rbind pidC.dec fun pid =>
        match ctx.find pid with
        | some lv =>
          rbind usizeC.dec fun size => rbind boolC.dec fun ntt =>
            if lv.scheme == 2 then rbind f64C.dec fun sc =>
              (if lv.scheme == 3 then rbind u64C.dec fun cf => fullTail expand ctx lv pid size ntt (some sc) (some cf)
               else fullTail expand ctx lv pid size ntt (some sc) none)
            else (if lv.scheme == 3 then rbind u64C.dec fun cf => fullTail expand ctx lv pid size ntt none (some cf)
               else fullTail expand ctx lv pid size ntt none none)
        | none => rfail .bad) bs := by
  simp only [ct_deserialize_full, gr_pid_deserialize, gr_usize_deserialize, gr_bool_deserialize, gr_f64_deserialize, gr_u64_deserialize]
  rfl

theorem gf_scheme_fields {α} (scheme : Nat) (tail : Option Nat → Option Nat → Rd α) (bs : Bytes) :
    (if scheme == 2 then dbind f64C.dec fun sc =>
        (if scheme == 3 then dbind u64C.dec fun cf => tail (some sc) (some cf) else tail (some sc) none)
      else (if scheme == 3 then dbind u64C.dec fun cf => tail none (some cf) else tail none none)) bs
    = match (extraC scheme).dec bs with
      | .error e => .error e
      | .ok (extra, r) => tail (if scheme == 2 then extra.head? else none) (if scheme == 3 then extra.head? else none) r := by
  unfold extraC
  by_cases h2 : scheme = 2
  · subst h2
    simp only [Nat.reduceBEq, ↓reduceIte, Bool.false_eq_true, dbind, repC, seqC, List.replicate, seqDec]
    cases f64C.dec bs <;> rfl
  · by_cases h3 : scheme = 3
    · subst h3
      simp only [Nat.reduceBEq, ↓reduceIte, Bool.false_eq_true, dbind, repC, seqC, List.replicate, seqDec]
      cases u64C.dec bs <;> rfl
    · simp only [beq_iff_eq, h2, h3, ↓reduceIte, repC, seqC, List.replicate, seqDec]

theorem gf_getD_head (b : Bool) (l : List Nat) (d : Nat) : (if b then l.head? else none).getD d = if b then l.headD d else d := by
  cases b <;> cases l <;> rfl

/-- AGREEMENT ON SUCCESS: whatever the model's `ctFullC.dec` accepts, the generated `deserialize_full` accepts, with the same
    ciphertext (as the flat record `from_members` builds) and the same remaining bytes.  `hpos`: every level has at least one
    coefficient (k·N > 0) — at k·N = 0 and size 2 the code's `poly(1)[0]` panics. -/
theorem gf_full_ok (ctx : Ctx) (expand : List Nat → Level → List Nat)
    (hpos : ∀ pid lv, ctx.find pid = some lv → 0 < lv.moduli.length * lv.n) (bs : Bytes) (c : CtFull) (r : Bytes)
    (h : (ctFullC ctx expand).dec bs = .ok (c, r)) :
    ct_deserialize_full expand ctx bs = .ok (flatOfFull ((ctx.find c.pid).getD noLevel) c, r) := by
  simp only [ctFullC, ctFullWireC, mapC_dec, guardC_dec, depC_dec, pairC_dec, dbind_assoc, dbind_dpure, dbind_ite, dbind_dfail] at h
  obtain ⟨pid, r1, hp, h⟩ := dbind_ok_inv h
  cases hf : ctx.find pid with
  | none => simp [hf, dfail] at h
  | some lv =>
    simp only [hf, Option.isSome_some, if_true, Option.getD_some] at h
    obtain ⟨size, r2, hs, h⟩ := dbind_ok_inv h
    obtain ⟨ntt, r3, hn, h⟩ := dbind_ok_inv h
    obtain ⟨extra, r4, hx, h⟩ := dbind_ok_inv h
    obtain ⟨ws, r5, hw, h⟩ := dbind_ok_inv h
    by_cases hg : ws.length ≤ lv.moduli.length * lv.n * size
    · rw [if_pos (decide_eq_true hg)] at h
      injection h with h; injection h with hc hr
      subst hc hr
      rw [gf_unfold, rbind_eq, dbind_ok hp]
      simp only [hf]
      rw [dbind_ok hs, dbind_ok hn, gf_scheme_fields, hx]
      simp only []
      rw [gf_tail expand ctx lv pid size ntt _ _ hf (hpos pid lv hf) r4 r5 ws hw hg]
      simp only [flatOfFull, Option.getD_some, gf_getD_head]
    · simp [hg, dfail] at h

end HC.GS
