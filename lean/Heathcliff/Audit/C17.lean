/- Audit of property C17: `#print axioms` for every property theorem of Props/C17.lean; `audit()` of tools/runner.py elaborates this file
   and compares each axiom list with the three standard axioms. -/
import Heathcliff.Props.C17
#print axioms HC.C17.cache_inv
#print axioms HC.C17.cache_monotone
#print axioms HC.C17.use_sees_enough
#print axioms HC.C17.never_panics
#print axioms HC.C17.result_deterministic
#print axioms HC.C17.linearizable
#print axioms HC.C17.no_deadlock
#print axioms HC.C17.wait_free
#print axioms HC.C17.bounded_steps
#print axioms HC.C17.norecheck_shrinks
#print axioms HC.C17.table_inv
#print axioms HC.C17.table_use_sees_table
#print axioms HC.C17.table_result_deterministic
#print axioms HC.C17.table_no_deadlock
#print axioms HC.C17.lock_no_deadlock
#print axioms HC.C17.lock_exclusion
#print axioms HC.C17.sync_fields_modelled
#print axioms HC.C17.lock_sites_modelled
#print axioms HC.C17.gen_step_actions_sound
#print axioms HC.C17.gen_global_step_is_exec
#print axioms HC.C17.gen_dec_compute_secret_key_array_eq
#print axioms HC.C17.gen_kg_compute_secret_key_array_eq
#print axioms HC.C17.gen_compute_empty_cache_panics
#print axioms HC.C17.gen_compute_in_run
#print axioms HC.C17.gen_call_closed_form
#print axioms HC.C17.gen_dot_product_use_eq
#print axioms HC.C17.gen_dot_product_use_refuses
#print axioms HC.C17.gen_use_phase_in_run
#print axioms HC.C17.gen_generate_rlk_use_eq
#print axioms HC.C17.gen_apply_ntt_eq
