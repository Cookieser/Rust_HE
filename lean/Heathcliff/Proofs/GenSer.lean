/-
  The WRITERS of src/serialize.rs, regenerated into Gen/SerFns.lean, are the model's chunk
  lists (`Codec.chunks`) run on the stream — for EVERY stream (`WStream S E`), hence in particular
  * on the faulty sinks of C15 (`Codec.serialize (fun _ => .writeAll)`) and the interrupting ones (`Codec.serializeI`), and
  * on an ideal in-memory stream (bytes = `Codec.enc`, count = their number).
  Helper prefix `gs_`.
-/
import Heathcliff.Gen.SerFns
import Heathcliff.Proofs.Codec
namespace HC.GS
open HC HC.Codec HC.GenS

variable {S E : Type}

theorem wbind_wpure {α β} (a : α) (f : α → W S E β) : wbind (wpure a) f = f a := rfl

theorem wbind_pure_right {α} (m : W S E α) : wbind m (fun a => wpure a) = m := by
  funext s; unfold wbind wpure; rcases h : m s with ⟨r, s'⟩; cases r <;> simp

theorem wbind_assoc {α β γ} (m : W S E α) (f : α → W S E β) (g : β → W S E γ) :
    wbind (wbind m f) g = wbind m (fun a => wbind (f a) g) := by
  funext s; unfold wbind; rcases h : m s with ⟨r, s'⟩; cases r <;> simp

/-- the model's chunk list run on an arbitrary stream: every chunk is ONE `write_all` call, the count is the number of bytes handed over -/
def runChunks (st : WStream S E) : List Chunk → W S E Nat
  | [] => wpure 0
  | c :: cs => wbind (wio (st.writeAll c.bytes)) fun _ => wbind (runChunks st cs) fun m => wpure (c.bytes.length + m)

theorem runChunks_append (st : WStream S E) (a b : List Chunk) :
    runChunks st (a ++ b) = wbind (runChunks st a) fun n => wbind (runChunks st b) fun m => wpure (n + m) := by
  induction a with
  | nil => simp only [List.nil_append, runChunks, wbind_wpure, Nat.zero_add, wbind_pure_right]
  | cons c cs ih => simp only [List.cons_append, runChunks, ih, wbind_assoc, wbind_wpure, Nat.add_assoc]

theorem runChunks_acc (st : WStream S E) (a : List Chunk) (acc : Nat) {β} (k : Nat → W S E β) :
    wbind (runChunks st a) (fun n => k (acc + n)) = wbind (wbind (runChunks st a) fun n => wpure (acc + n)) k := by
  rw [wbind_assoc]; rfl

theorem gs_u64_serialize (st : WStream S E) (v : Nat) : u64_serialize st v = runChunks st (u64C.chunks v) := by
  simp [u64_serialize, runChunks, u64C, scalarC, leBytes_length, wbind_wpure]

theorem gs_usize_serialize (st : WStream S E) (v : Nat) : usize_serialize st v = runChunks st (usizeC.chunks v) := by
  simp [usize_serialize, runChunks, usizeC, scalarC, leBytes_length, wbind_wpure]

/-- `u8`: the code hands over `[*self]`; this is `to_le_bytes` truncated to one byte exactly for a value that IS a byte -/
theorem gs_u8_serialize (st : WStream S E) (v : Nat) (hv : v < 256) : u8_serialize st v = runChunks st (u8C.chunks v) := by
  have : v % 256 = v := Nat.mod_eq_of_lt hv
  simp [u8_serialize, runChunks, u8C, scalarC, leBytes, wbind_wpure, this]

theorem gs_bool_serialize (st : WStream S E) (b : Bool) : bool_serialize st b = runChunks st (boolC.chunks b) := by
  unfold bool_serialize boolC mapC
  cases b <;> simp [gs_u8_serialize]

theorem gs_f64_serialize (st : WStream S E) (v : Nat) : f64_serialize st v = runChunks st (f64C.chunks v) := by
  simp [f64_serialize, f64C, gs_u64_serialize]

theorem gs_modulus_serialize (st : WStream S E) (v : Nat) : modulus_serialize st v = runChunks st (modulusC.chunks v) := by
  simp [modulus_serialize, modulusC, gs_u64_serialize]

/-- `SchemeType as u8` -/
theorem gs_scheme_serialize (st : WStream S E) (v : Nat) (hv : v < 256) : scheme_serialize st v = runChunks st (schemeC.chunks v) := by
  simp [scheme_serialize, schemeC, guardC, gs_u8_serialize st v hv]

/-- `loop`: any of the generated `for x in v { bytes_written += x.serialize(stream)?; }` loops, given by its two equations -/
theorem gs_item_loop {α} (st : WStream S E) (loop : List α → Nat → W S E Nat) (item : α → W S E Nat)
    (hnil : ∀ acc, loop [] acc = wpure acc) (hcons : ∀ x xs acc, loop (x :: xs) acc = wbind (item x) fun u => loop xs (acc + u))
    (c : Codec α) (l : List α) (hi : ∀ x ∈ l, item x = runChunks st (c.chunks x)) (acc : Nat) :
    loop l acc = wbind (runChunks st (seqChunks (List.replicate l.length c) l)) fun n => wpure (acc + n) := by
  induction l generalizing acc with
  | nil => rw [hnil]; rfl
  | cons x xs ih =>
    rw [hcons, hi x List.mem_cons_self]
    simp only [ih (fun y hy => hi y (List.mem_cons_of_mem _ hy)), List.length_cons, List.replicate_succ, seqChunks, runChunks_append,
      wbind_assoc, wbind_wpure, Nat.add_assoc]

theorem gs_vec_serialize {α} (st : WStream S E) (item : α → W S E Nat) (c : Codec α) (l : List α)
    (hi : ∀ x ∈ l, item x = runChunks st (c.chunks x)) :
    vec_serialize st item l = runChunks st ((vecC c).chunks l) := by
  have : (vecC c).chunks l = usizeC.chunks l.length ++ seqChunks (List.replicate l.length c) l := rfl
  rw [this, runChunks_append]
  simp only [vec_serialize, gs_usize_serialize, gs_item_loop st (vec_serialize_loop1 st item) item (fun _ => rfl) (fun _ _ _ => rfl) c l hi, wbind_assoc, wbind_wpure,
    Nat.zero_add]

/-- `ParmsID = [u64; 4]`: the hypothesis is the array type's length -/
theorem gs_pid_serialize (st : WStream S E) (l : List Nat) (hl : l.length = 4) :
    pid_serialize st l = runChunks st (pidC.chunks l) := by
  have : pidC.chunks l = seqChunks (List.replicate l.length u64C) l := by rw [hl]; rfl
  rw [this]
  simp only [pid_serialize, gs_item_loop st (pid_serialize_loop1 st) _ (fun _ => rfl) (fun _ _ _ => rfl) u64C l fun x _ => gs_u64_serialize st x,
    Nat.zero_add, wbind_pure_right]

theorem gs_params_serialize (st : WStream S E) (p : Params) (hs : p.scheme < 256) :
    params_serialize st p = runChunks st (paramsC.chunks p) := by
  have hv := gs_vec_serialize st (modulus_serialize st) modulusC p.coeffMod (fun x _ => gs_modulus_serialize st x)
  have hc : paramsC.chunks p = schemeC.chunks p.scheme ++ (usizeC.chunks p.n ++ ((vecC modulusC).chunks p.coeffMod ++
      ((repC (if hasPlain p.scheme then 1 else 0) modulusC).chunks (if hasPlain p.scheme then [p.plainMod] else []) ++ boolC.chunks p.special))) := rfl
  rw [hc]
  unfold params_serialize
  cases h : hasPlain p.scheme
  all_goals
    have h' : (p.scheme == 1 || p.scheme == 3) = _ := h
    simp only [h', gs_scheme_serialize st _ hs, gs_usize_serialize, hv, gs_bool_serialize, gs_modulus_serialize, runChunks_append,
      Bool.false_eq_true, ↓reduceIte, repC, List.replicate, seqC, seqChunks, List.append_nil, runChunks, wbind_assoc, wbind_wpure,
      Nat.zero_add, Nat.add_assoc]

theorem gs_plain_serialize (st : WStream S E) (p : Plain) (hl : p.pid.length = 4) :
    plain_serialize st p = runChunks st (plainC.chunks p) := by
  have hv := gs_vec_serialize st (u64_serialize st) u64C p.data (fun x _ => gs_u64_serialize st x)
  have hc : plainC.chunks p = pidC.chunks p.pid ++ ((vecC u64C).chunks p.data ++ f64C.chunks p.scale) := rfl
  rw [hc]
  simp only [plain_serialize, gs_pid_serialize st _ hl, hv, gs_f64_serialize, runChunks_append, wbind_assoc, wbind_wpure, Nat.zero_add,
    Nat.add_assoc]

/-- the faulty sinks of C15 as a stream -/
def sinkStream : WStream Sink IOErr := ⟨fun b s => s.write b, fun b s => writeAll s b⟩

def liftIO {α} (r : Except IOErr α × Sink) : Except (WErr IOErr) α × Sink :=
  match r with
  | (.ok a, s) => (.ok a, s)
  | (.error e, s) => (.error (.io e), s)

theorem runChunks_sink (cs : List Chunk) (s : Sink) :
    runChunks sinkStream cs s = liftIO (Codec.serialize (fun _ => .writeAll) cs s) := by
  induction cs generalizing s with
  | nil => rfl
  | cons c cs ih =>
    simp only [runChunks, Codec.serialize, scalarWrite, wbind, wio, show sinkStream.writeAll c.bytes s = writeAll s c.bytes from rfl, ih]
    rcases writeAll s c.bytes with ⟨_ | ⟨⟨⟩⟩, s'⟩
    · rfl
    · dsimp only
      rcases Codec.serialize (fun _ => WMode.writeAll) cs s' with ⟨_ | _, s''⟩ <;> rfl

/-- an interrupting sink as a stream: `write_all` is the retry loop `writeAllI` -/
def sinkIStream : WStream SinkI IOErrI :=
  ⟨fun b w => w.write b, fun b w => match writeAllI w b with
    | (.ok (), w') => (.ok (), w')
    | (.error e, w') => (.error (.io e), w')⟩

def liftIOI {α} (r : Except IOErrI α × SinkI) : Except (WErr IOErrI) α × SinkI :=
  match r with
  | (.ok a, s) => (.ok a, s)
  | (.error e, s) => (.error (.io e), s)

theorem runChunks_sinkI (cs : List Chunk) (w : SinkI) :
    runChunks sinkIStream cs w = liftIOI (serializeI (fun _ => .writeAll) cs w) := by
  induction cs generalizing w with
  | nil => rfl
  | cons c cs ih =>
    have hw : sinkIStream.writeAll c.bytes w = (match writeAllI w c.bytes with
      | (.ok (), w') => (.ok (), w')
      | (.error e, w') => (.error (.io e), w')) := rfl
    simp only [runChunks, serializeI, scalarWriteI, wbind, wio, hw, ih]
    rcases writeAllI w c.bytes with ⟨_ | ⟨⟨⟩⟩, w'⟩
    · rfl
    · dsimp only
      rcases serializeI (fun _ => WMode.writeAll) cs w' with ⟨_ | _, w''⟩ <;> rfl

/-- an in-memory stream that takes everything (`Vec<u8>`) -/
def idealStream : WStream Bytes Empty := ⟨fun b s => (.ok b.length, s ++ b), fun b s => (.ok (), s ++ b)⟩

theorem runChunks_ideal (cs : List Chunk) (s : Bytes) :
    runChunks idealStream cs s = (.ok (flat cs).length, s ++ flat cs) := by
  induction cs generalizing s with
  | nil => simp [runChunks, wpure, flat]
  | cons c cs ih =>
    simp only [runChunks, wbind, wio, idealStream, flat] at ih ⊢
    simp [ih, wpure, List.length_append, List.append_assoc]

end HC.GS
