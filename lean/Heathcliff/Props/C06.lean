import Heathcliff.Proofs.C06Y
import Heathcliff.Gen.Forms
import Heathcliff.Model.Evaluator
import Heathcliff.Proofs.GenValid
import Heathcliff.Proofs.GenEvalCt2
/-
  C06 — API variants agree: the shape of every public Evaluator method family is extracted from the Rust source on every run
  (`Heathcliff/Gen/Forms.lean`); the theorems below are about that generated table, so a `_new` / destination form that stops
  being "clone the read-only operand, then run the in-place core" (or the reverse construction through the destination form)
  breaks `forms_table_ok`.  That check on the extracted table, with the extraction trusted, is the whole claim about the forms.
  Then: the tie of the model's `ctValid` with the generated `is_metadata_valid_for` / `is_buffer_valid` (Proofs/GenValid.lean), and the
  validity theorems of Proofs/C06Y.lean and their witnesses of Proofs/C06YW.lean, restated with `type_of%`.
-/
namespace HC.C06
open HC.Gen

/-- a family is well-formed if one form is the core and the other two are derived from it without touching the operand -/
def familyOk (f : FormFamily) : Bool :=
  match f.inplace, f.dest, f.new with
  | .core, .cloneThen c, .cloneThen c' => c == f.name ++ "_inplace" && c' == c
  | .direct d, .cloneThen c, .cloneThen c' => (c == f.name ++ "_inplace" || c == d) && c' == c
  | .viaDest c, .core, .viaDest c' => c == f.name && c' == f.name
  | _, _, _ => false

/-- OBLIGATION ON THE SOURCE: every one of the extracted families has an admissible shape -/
theorem forms_table_ok : evaluatorForms.all familyOk = true := by decide +kernel

/-- semantics of the shapes: `core` is a function from the object (with the other, read-only, arguments fixed) to the result;
    cloning is the identity on values; the destination form overwrites its destination with the result -/
def denote {α : Type} (core : α → α) : FormShape → α → α
  | .core => core
  | .cloneThen _ => fun a => core (id a)
  | .viaDest _ => fun a => core a
  | .direct _ => core

/-- under `denote` the in-place, destination and returning forms of a family denote the same function of the operand.  `denote` reads
    EVERY shape as the core applied to the operand, so this holds of any three shapes and the hypothesis is not used: what is checked
    about the source is `forms_table_ok` (each extracted form is "clone, then the core" or the core itself), not this theorem -/
theorem forms_agree {α : Type} (core : α → α) (f : FormFamily) (_h : familyOk f = true) (a : α) :
    denote core f.inplace a = denote core f.dest a ∧ denote core f.dest a = denote core f.new a := by
  have h : ∀ s : FormShape, denote core s a = core a := fun s => by cases s <;> rfl
  rw [h, h, h]
  exact ⟨rfl, rfl⟩

/-- there are at least the 25 families of the pinned tree (a family silently losing one of its forms shrinks the table) -/
theorem forms_table_size : 25 ≤ evaluatorForms.length := by decide

/-- level walk / refusal model facts used by the check -/
theorem upward_refused {cur tgt : Nat} (h : cur < tgt) : switchSteps cur tgt = .error .refused :=
  HC.switchSteps_up h

/-! ### translator tie: `Ciphertext::is_metadata_valid_for` / `is_buffer_valid` (src/valcheck.rs) generated into Gen/ValidFns.lean
     (Proofs/GenValid.lean): `ctValid` of the hand model = generated metadata check ∧ shape/data part -/
open HC in
theorem gen_ctValid_split (l : Level) (ct : Ct) (s1 s0 : Bool) :
    ctValid l ct s1 s0 = (HC.gx_ctMetaValid l ct s1 s0 && HC.gx_ctShapeOk l ct) := HC.gx_ctValid_split l ct s1 s0
open HC in
theorem gen_ct_is_metadata_valid_for_eq (l : Level) (ct : Ct) (s1 s0 allow : Bool) (chain first : Nat)
    (hk : allow = true ∨ chain ≤ first) :
    GenV.ct_is_metadata_valid_for allow true false chain first l.size l.n l.size l.n ct.polys.size
        (decide (l.scheme = .bfv)) (decide (l.scheme = .bgv)) (decide (l.scheme = .ckks)) (!s1) s0 ct.cf l.t.value =
      HC.gx_ctMetaValid l ct s1 s0 := HC.gx_ct_is_metadata_valid_for_eq l ct s1 s0 allow chain first hk
open HC in
theorem gen_ctValid_eq (l : Level) (ct : Ct) (s1 s0 allow : Bool) (chain first : Nat) (hk : allow = true ∨ chain ≤ first) :
    ctValid l ct s1 s0 =
      (GenV.ct_is_metadata_valid_for allow true false chain first l.size l.n l.size l.n ct.polys.size
        (decide (l.scheme = .bfv)) (decide (l.scheme = .bgv)) (decide (l.scheme = .ckks)) (!s1) s0 ct.cf l.t.value
       && HC.gx_ctShapeOk l ct) := HC.gx_ctValid_eq_gen l ct s1 s0 allow chain first hk
open HC in
theorem gen_ct_is_metadata_valid_for_refuses (allow pset missing : Bool) (chain first ls ln cc cn sz : Nat) (b1 b2 b3 sn sz0 : Bool) (cf t : Nat)
    (h : pset = false ∨ missing = true ∨ (allow = false ∧ chain > first) ∨ cc ≠ ls ∨ cn ≠ ln) :
    GenV.ct_is_metadata_valid_for allow pset missing chain first ls ln cc cn sz b1 b2 b3 sn sz0 cf t = false :=
  HC.gx_ct_is_metadata_valid_for_refuses allow pset missing chain first ls ln cc cn sz b1 b2 b3 sn sz0 cf t h
open HC in
theorem gen_ct_is_buffer_valid_eq (dataLen cc sz n : Nat) (h1 : cc * sz < 2^64) (h : cc * sz * n < 2^64) :
    GenV.ct_is_buffer_valid dataLen cc sz n = .ok (decide (dataLen = cc * sz * n)) := HC.gx_ct_is_buffer_valid_eq dataLen cc sz n h1 h


/-! ### validity (`ctValid`) is preserved by every modelled operation; refusals; exact relationship with canonicity; findings about the validity predicate (the accepted BGV correction factors are 1 ≤ cf ≤ t − 1 — `cf = t` is rejected: `is_metadata_valid_for` compares with `>=` —; for a COMPOSITE t that range still contains non-units, for a PRIME t validity is closed under every operation without any unit hypothesis)
    (statements and hypothesis bundles: Heathcliff/Proofs/C06Y.lean; concrete witnesses in the NonVac world: Heathcliff/Proofs/C06YW.lean) -/

/-- `ctValid` is exactly: size 0 or 2..16, all polynomials canonical, scale condition, correction factor in range -/
theorem ctValid_iff : type_of% @HC.ctValid_iff := @HC.ctValid_iff

/-- converse of `CtCanon.of_ctValid`: a canonical ciphertext with the right scale flags is valid -/
theorem ctValid_of_CtCanon : type_of% @HC.ctValid_of_CtCanon := @HC.ctValid_of_CtCanon

/-- for a NON-EMPTY ciphertext, validity is canonicity plus the scale condition (an iff: the correction-factor ranges of the two
    predicates coincide, for BGV both are 1 ≤ cf ≤ t − 1) -/
theorem ctValid_iff_CtCanon : type_of% @HC.ctValid_iff_CtCanon := @HC.ctValid_iff_CtCanon

/-- the only difference between validity and `CtCanon`: the EMPTY ciphertext (size 0) is valid (with the right flags and correction factor) but not `CtCanon` -/
theorem ctValid_empty : type_of% @HC.ctValid_empty := @HC.ctValid_empty

/-- the polynomial / size / correction-factor part of validity does not depend on the scale flags -/
theorem ctValid_flags : type_of% @HC.ctValid_flags := @HC.ctValid_flags

/-- for BGV a correction factor EQUAL to `t` (≡ 0, not a unit modulo t) is rejected, whatever the rest of the ciphertext is
    (`is_metadata_valid_for`: `correction_factor == 0 || correction_factor >= plain_modulus` is refused) -/
theorem ctValid_rejects_cf_t : type_of% @HC.ctValid_rejects_cf_t := @HC.ctValid_rejects_cf_t

/-- for BGV the accepted correction factors are exactly 1 ≤ cf ≤ t − 1: replacing the factor of a valid ciphertext by `f` keeps it
    valid iff `f ≠ 0 ∧ f < t` -/
theorem ctValid_bgv_cf_range : type_of% @HC.ctValid_bgv_cf_range := @HC.ctValid_bgv_cf_range

/-- `negate`: total on valid ciphertexts, result valid (same size, representation, correction factor) -/
theorem ctNegate_valid : type_of% @HC.ctNegate_valid := @HC.ctNegate_valid

theorem ctNegate_preserves_valid : type_of% @HC.ctNegate_preserves_valid := @HC.ctNegate_preserves_valid

/-- `add` / `sub` (equal correction factors): total on valid operands in the same representation, result valid, size max -/
theorem ctTranslate_valid : type_of% @HC.ctTranslate_valid := @HC.ctTranslate_valid

theorem ctTranslate_preserves_valid : type_of% @HC.ctTranslate_preserves_valid := @HC.ctTranslate_preserves_valid

/-- `add` / `sub` with balancing: total on valid operands in the same representation whose correction factors are equal or
    both UNITS modulo t; the result is valid.  (For BFV / CKKS validity forces both factors to be 1, so the unit hypothesis is
    vacuous there; `ht` is only used when the factors differ, which forces BGV.) -/
theorem ctTranslateBalanced_valid : type_of% @HC.ctTranslateBalanced_valid := @HC.ctTranslateBalanced_valid

/-- `.ok` form: whenever the balanced add / sub of valid operands succeeds and (in case the factors differ) the SECOND factor
    is a unit, the result is valid (success already certifies that the first factor is a unit) -/
theorem ctTranslateBalanced_preserves_valid : type_of% @HC.ctTranslateBalanced_preserves_valid := @HC.ctTranslateBalanced_preserves_valid

/-- `add` / `sub` with balancing, PRIME plain modulus: strong closure — total on valid operands in the same representation, the
    result is valid; no unit hypothesis (every accepted factor 1 ≤ cf ≤ t − 1 is a unit modulo a prime) -/
theorem ctTranslateBalanced_valid_prime : type_of% @HC.ctTranslateBalanced_valid_prime := @HC.ctTranslateBalanced_valid_prime

/-- refusal: an empty operand is refused by the dyadic product -/
theorem ctMultiplyDyadic_refuse_empty : type_of% @HC.ctMultiplyDyadic_refuse_empty := @HC.ctMultiplyDyadic_refuse_empty

/-- `multiply` (CKKS product / dyadic step): on valid non-empty NTT-form operands whose product fits
    (`n1 + n2 − 1 ≤ 16`) the model succeeds, and the result has `n1 + n2 − 1` canonical polynomials and is VALID.  (Oversize
    products are refused, as `Ciphertext::resize` does in the code: `ctMultiplyDyadic_valid_or_refused`.) -/
theorem ctMultiplyDyadic_valid : type_of% @HC.ctMultiplyDyadic_valid := @HC.ctMultiplyDyadic_valid

/-- the size check of `Ciphertext::resize_internal` with the regenerated limits `HE_CIPHERTEXT_SIZE_MIN/MAX`: a size is accepted
    iff it is 0 or in [2, 16] (re-checked whenever `Gen/Constants.lean` changes) -/
theorem ctResizeRefuses_eq_false_iff : type_of% @HC.ctResizeRefuses_eq_false_iff := @HC.ctResizeRefuses_eq_false_iff

/-- refusal (size), as in the code (`Ciphertext::resize`: "[Invalid argument] Size invalid."): a product of more than 16
    polynomials is refused, whatever the operands are -/
theorem ctMultiplyDyadic_refuse_oversize : type_of% @HC.ctMultiplyDyadic_refuse_oversize := @HC.ctMultiplyDyadic_refuse_oversize

/-- refusal (size) for `bgv_multiply` -/
theorem bgvMultiply_refuse_oversize : type_of% @HC.bgvMultiply_refuse_oversize := @HC.bgvMultiply_refuse_oversize

/-- refusal (size) for `bfv_multiply`: `resize` comes first; a destination size it refuses (1, or more than 16) is refused
    whatever the operands and the level are -/
theorem bfvMultiply_refuse_size : type_of% @HC.bfvMultiply_refuse_size := @HC.bfvMultiply_refuse_size

/-- the complete case analysis of `multiply` (CKKS product / dyadic step) on VALID operands: the model either returns a
    VALID result of `n1 + n2 − 1` polynomials or REFUSES (error code `refused`, never another error); it refuses exactly when an
    operand is not in NTT form, an operand is empty, or the product would have more than 16 polynomials. -/
theorem ctMultiplyDyadic_valid_or_refused : type_of% @HC.ctMultiplyDyadic_valid_or_refused := @HC.ctMultiplyDyadic_valid_or_refused

/-- for non-empty NTT-form valid operands: refused IFF the product would have more than 16 polynomials -/
theorem ctMultiplyDyadic_refused_iff : type_of% @HC.ctMultiplyDyadic_refused_iff := @HC.ctMultiplyDyadic_refused_iff

/-- `bgv_multiply` with a PRIME plain modulus, the complete case analysis on VALID operands: a VALID result or the
    error `refused`; refused exactly when an operand is not in NTT form, an operand is empty, or the product would have more than 16
    polynomials.  For composite t validity of the result additionally needs unit correction factors
    (`bgvMultiply_valid_needs_unit`). -/
theorem bgvMultiply_valid_or_refused : type_of% @HC.bgvMultiply_valid_or_refused := @HC.bgvMultiply_valid_or_refused

/-- `bfv_multiply` (BEHZ), with the data part (C02W): on valid non-empty coefficient-form operands at a level satisfying
    `MulOK` (derived from the constructors: `c02w_mulOK_of_new`) whose product fits, the model succeeds and the result is VALID -/
theorem bfvMultiply_valid : type_of% @HC.bfvMultiply_valid := @HC.bfvMultiply_valid

/-- `bfv_multiply`, the complete case analysis on VALID operands at a `MulOK` level: a VALID result or the error
    `refused` (never another error: no overflow / out-of-range branch of the BEHZ pipeline is reachable); refused exactly when an
    operand is in NTT form, an operand is empty, or the product would have more than 16 polynomials -/
theorem bfvMultiply_valid_or_refused : type_of% @HC.bfvMultiply_valid_or_refused := @HC.bfvMultiply_valid_or_refused

theorem ctMultiplyDyadic_preserves_valid : type_of% @HC.ctMultiplyDyadic_preserves_valid := @HC.ctMultiplyDyadic_preserves_valid

/-- the size law of the product, from `.ok` alone (no validity needed) -/
theorem ctMultiplyDyadic_size : type_of% @HC.ctMultiplyDyadic_size := @HC.ctMultiplyDyadic_size

/-- `bgv_multiply`: on valid non-empty NTT-form BGV operands whose product fits (`n1 + n2 − 1 ≤ 16`; otherwise refused:
    `bgvMultiply_refuse_oversize`) the model succeeds with correction factor `cf_a·cf_b mod t`; the result is valid IF AND ONLY IF
    that product is non-zero modulo t -/
theorem bgvMultiply_valid_iff : type_of% @HC.bgvMultiply_valid_iff := @HC.bgvMultiply_valid_iff

/-- `bgv_multiply`, unit correction factors: the result is valid -/
theorem bgvMultiply_valid : type_of% @HC.bgvMultiply_valid := @HC.bgvMultiply_valid

theorem bgvMultiply_preserves_valid : type_of% @HC.bgvMultiply_preserves_valid := @HC.bgvMultiply_preserves_valid

/-- `bgv_multiply`, PRIME plain modulus: strong closure — valid non-empty NTT-form operands give a valid result (with a unit
    correction factor); no unit hypothesis (every accepted factor 1 ≤ cf ≤ t − 1 is a unit modulo a prime) -/
theorem bgvMultiply_valid_prime : type_of% @HC.bgvMultiply_valid_prime := @HC.bgvMultiply_valid_prime

/-- `multiply_plain_ntt`: total on valid NTT-form ciphertexts and canonical plaintexts, result valid -/
theorem ctMultiplyPlainNtt_valid : type_of% @HC.ctMultiplyPlainNtt_valid := @HC.ctMultiplyPlainNtt_valid

theorem ctMultiplyPlainNtt_preserves_valid : type_of% @HC.ctMultiplyPlainNtt_preserves_valid := @HC.ctMultiplyPlainNtt_preserves_valid

/-- composite t: `bgv_multiply` of two VALID ciphertexts (t = 4, correction factors 2 and 2, in the accepted
    range but not units) succeeds and returns a ciphertext with correction factor 0, which is NOT valid: validity is not preserved
    without the unit hypothesis when t is composite (for prime t it is: `bgvMultiply_valid_prime`) -/
theorem bgvMultiply_valid_needs_unit : type_of% @HC.bgvMultiply_valid_needs_unit := @HC.bgvMultiply_valid_needs_unit

/-- composite t: a VALID first operand (t = 4, correction factor 2) is REFUSED by the balanced add / sub ("accepted by any
    later operation" fails for the non-unit factors that `ctValid` admits when t is composite) -/
theorem ctTranslateBalanced_refuses_valid : type_of% @HC.ctTranslateBalanced_refuses_valid := @HC.ctTranslateBalanced_refuses_valid

/-- composite t: with a unit first factor (1) and a VALID non-unit second factor (2, t = 4) the balanced add / sub SUCCEEDS and
    the result is valid, but its correction factor (2) is again not a unit: validity does not imply that the BGV factor is a unit -/
theorem ctTranslateBalanced_valid_nonunit_result : type_of% @HC.ctTranslateBalanced_valid_nonunit_result := @HC.ctTranslateBalanced_valid_nonunit_result

/-- `mod_switch_drop_to_next` (CKKS `mod_switch_to_next`, also the plain drop): total on valid ciphertexts at a level with ≥ 2
    moduli (CKKS: NTT form), the result is valid at the next level -/
theorem modSwitchDropNext_valid : type_of% @HC.modSwitchDropNext_valid := @HC.modSwitchDropNext_valid

theorem modSwitchDropNext_preserves_valid : type_of% @HC.modSwitchDropNext_preserves_valid := @HC.modSwitchDropNext_preserves_valid

/-- BFV `mod_switch_to_next`: total on valid coefficient-form ciphertexts, the result is valid at the next level -/
theorem modSwitchScaleNext_bfv_valid : type_of% @HC.modSwitchScaleNext_bfv_valid := @HC.modSwitchScaleNext_bfv_valid

/-- CKKS `rescale_to_next`: total on valid NTT-form ciphertexts, the result is valid at the next level (for the flags of the
    new scale use `ctValid_flags`) -/
theorem modSwitchScaleNext_ckks_valid : type_of% @HC.modSwitchScaleNext_ckks_valid := @HC.modSwitchScaleNext_ckks_valid

/-- BGV `mod_switch_to_next`, strong closure: total on valid NTT-form ciphertexts; the polynomials are canonical at the next level,
    the new correction factor is `cf·q_L^{-1} mod t`, and the result is VALID at the next level — for every valid operand, whatever t is
    (q_L^{-1} is a unit modulo t, so a factor in [1, t − 1] cannot be mapped to 0) -/
theorem modSwitchScaleNext_bgv_valid_closed : type_of% @HC.modSwitchScaleNext_bgv_valid_closed := @HC.modSwitchScaleNext_bgv_valid_closed

/-- BGV `mod_switch_to_next`: the result is valid IF AND ONLY IF `cf ≠ t`; `ctValid` rejects `cf = t`, so both sides hold for every valid
    operand and `modSwitchScaleNext_bgv_valid_closed` says the same without the iff -/
theorem modSwitchScaleNext_bgv_valid_iff : type_of% @HC.modSwitchScaleNext_bgv_valid_iff := @HC.modSwitchScaleNext_bgv_valid_iff

/-- the same with a unit hypothesis on the correction factor, which the proof does not use: `modSwitchScaleNext_bgv_valid_closed` is the statement -/
theorem modSwitchScaleNext_bgv_valid : type_of% @HC.modSwitchScaleNext_bgv_valid := @HC.modSwitchScaleNext_bgv_valid

/-- BGV `mod_switch_to_next`, PRIME plain modulus: valid operand ⇒ valid result at the next level, and the new correction factor
    is again a unit (no unit hypothesis on the operand) -/
theorem modSwitchScaleNext_bgv_valid_prime : type_of% @HC.modSwitchScaleNext_bgv_valid_prime := @HC.modSwitchScaleNext_bgv_valid_prime

/-- `.ok` form for all three schemes: whenever the scheme-specific switch of a valid ciphertext succeeds (and, for BGV, the
    correction factor is not t), the result is valid at the next level.  `Level.WF` is needed for the NTT-form schemes only. -/
theorem modSwitchScaleNext_preserves_valid : type_of% @HC.modSwitchScaleNext_preserves_valid := @HC.modSwitchScaleNext_preserves_valid

/-- `.ok` form for all three schemes, strong closure: whenever the scheme-specific switch of a valid ciphertext succeeds, the result is
    valid at the next level (no side condition on the BGV correction factor: `ctValid` rejects `cf = t`) -/
theorem modSwitchScaleNext_preserves_valid_closed : type_of% @HC.modSwitchScaleNext_preserves_valid_closed := @HC.modSwitchScaleNext_preserves_valid_closed

/-- operands in different representations are never accepted by the balanced add / sub either (on the balancing path the
    error is the first one met: a failed balancing, or the representation check after the scaling) -/
theorem ctTranslateBalanced_refuse_ntt : type_of% @HC.ctTranslateBalanced_refuse_ntt := @HC.ctTranslateBalanced_refuse_ntt

/-- summary of the representation / scheme / level / size refusals of the modelled operations (a ciphertext of the model has
    no level tag: "operands at different levels" is not representable in the single-level signatures `op (l : Level) a b`;
    representation and scheme mismatches are, and they are refused) -/
theorem evaluator_refusals : type_of% @HC.evaluator_refusals := @HC.evaluator_refusals

/-- what the model does NOT do: the operations of the model are the bodies AFTER `check_ciphertext`; they do not re-run the
    validator.  E.g. `ctNegate` of a (canonical) ciphertext with the invalid correction factor 0 succeeds and returns an invalid
    ciphertext — the refusal of invalid operands is `ctValid` itself (`Evaluator::check_ciphertext` panics iff it is false). -/
theorem ctNegate_does_not_validate : type_of% @HC.ctNegate_does_not_validate := @HC.ctNegate_does_not_validate

/-- `switch_key_inplace`: for inputs satisfying the bundle `c04t_KSInput` of C04T (for BGV also `c04t_BgvData`), a valid ciphertext
    in the representation its scheme prescribes is switched to a VALID ciphertext of the same level (same size, representation,
    correction factor).  The ciphertext level is the first `l.size` moduli of the key level (`c06y_KeyLevelOf`). -/
theorem switchKey_valid : type_of% @HC.switchKey_valid := @HC.switchKey_valid

theorem switchKey_preserves_valid : type_of% @HC.switchKey_preserves_valid := @HC.switchKey_preserves_valid

/-- `relinearize` (any size 2..16, enough fuel): with a good key (`c06y_KeyOK`) for every power s^m, 2 ≤ m < size, a valid
    ciphertext (in the prescribed representation if there is anything to switch) is relinearized to a VALID size-2 ciphertext -/
theorem relinearize_valid : type_of% @HC.relinearize_valid := @HC.relinearize_valid

/-- `apply_galois_inplace` (size 2, odd element ≤ 2N): the Galois images of the two polynomials are canonical, and the key switch of
    (σ(c0), 0) with target σ(c1) returns a VALID ciphertext -/
theorem applyGalois_valid : type_of% @HC.applyGalois_valid := @HC.applyGalois_valid

/-- `bfv_multiply`: whenever the model succeeds, both operands are non-empty and in coefficient form, the result has
    `n1 + n2 − 1` polynomials, coefficient form and the correction factor of the first operand -/
theorem bfvMultiply_shape_of_ok : type_of% @HC.bfvMultiply_shape_of_ok := @HC.bfvMultiply_shape_of_ok

/-- `bfv_multiply` at ANY level (no `MulOK`): the result of a successful product of a valid first operand is valid iff its
    polynomials are canonical (the size fits because the model refuses otherwise; scale and correction factor are handled here;
    canonicity of the output of `fastbconvSk` at a `MulOK` level is `bfvMultiply_valid`) -/
theorem bfvMultiply_valid_iff_canon : type_of% @HC.bfvMultiply_valid_iff_canon := @HC.bfvMultiply_valid_iff_canon

/-- the product of two valid size-2 NTT-form ciphertexts (CKKS, or the dyadic step of BGV) is valid of size 3, is ACCEPTED by
    `relinearize` with a good key for s², whose result is valid of size 2 and is in turn ACCEPTED by `modSwitchDropNext`, giving a
    valid ciphertext at the next level — every intermediate object satisfies the hypotheses of the next operation -/
theorem multiply_relinearize_drop_valid : type_of% @HC.multiply_relinearize_drop_valid := @HC.multiply_relinearize_drop_valid

/-! ### translator tie: `Evaluator::multiply_plain_inplace` (dispatch over the four representation combinations, generated as a PLAN:
     which routines run in which order) and `multiply_plain_ntt` (on the flat buffers), src/evaluator.rs -> Gen/EvalCtFns.lean, = `multiplyPlainPlan`
     / `ctMultiplyPlainNtt` + `mulPlainScaleRule` of Model/Evaluator.lean (Proofs/GenEval2.lean, Proofs/GenEvalCt2.lean).  TRUSTED table reading:
     the step codes (1 `multiply_plain_ntt`, 2 `multiply_plain_normal`, 3 `transform_plain_to_ntt_inplace` on a clone, 4 / 5
     `transform_to_ntt_inplace` / `transform_from_ntt_inplace` = the checked, fully reducing transforms; the raw kernels `polymod::ntt_lazy_ps`,
     `intt_lazy_ps`, ... have codes of their own).  `multiply_plain_normal` itself is NOT tied (no hand model of the plaintext lift + NTT route). -/
theorem gen_multiply_plain_plan_eq : type_of% @HC.gl_multiply_plain_plan_eq := @HC.gl_multiply_plain_plan_eq
theorem gen_multiply_plain_plan_refuses : type_of% @HC.gl_multiply_plain_plan_refuses := @HC.gl_multiply_plain_plan_refuses
theorem gen_runPlainPlan : type_of% @HC.gl_runPlainPlan := @HC.gl_runPlainPlan
theorem gen_multiply_plain_ntt_eq : type_of% @HC.gc_multiply_plain_ntt_eq := @HC.gc_multiply_plain_ntt_eq
theorem gen_multiply_plain_ntt_refuses : type_of% @HC.gc_multiply_plain_ntt_refuses := @HC.gc_multiply_plain_ntt_refuses

/-- `multiply_plain_normal` (coefficient-form operands): the ROUTE (monomial shortcut / generic NTT route, with / without the fast plain lift; the
    data steps are codes, the last of the generic route being the FULL inverse transform `intt_ps`) and the CKKS scale rule at both exits -/
theorem gen_multiply_plain_normal_plan_eq : type_of% @HC.gl_multiply_plain_normal_plan_eq := @HC.gl_multiply_plain_normal_plan_eq
/-- non-vacuity of the hypothesis bundle of `gen_multiply_plain_ntt_eq`: the example BGV level (two moduli 17, n = 2), a size-2 ciphertext -/
example : HC.GenC.ct_multiply_plain_ntt (List.replicate 8 3) 2 (List.replicate 4 2) true true HC.c02v_exLevel.qs.toList HC.c02v_exLevel.n .bgv true true =
    (do let c ← HC.ctMultiplyPlainNtt HC.c02v_exLevel (HC.unflattenCt HC.c02v_exLevel 2 (List.replicate 8 3) true 1)
                  (HC.unflattenRns HC.c02v_exLevel.size HC.c02v_exLevel.n (List.replicate 4 2))
        let sc ← HC.mulPlainScaleRule .bgv true
        pure (HC.flattenCt HC.c02v_exLevel c, sc)) :=
  HC.gc_multiply_plain_ntt_eq HC.c02v_exLevel _ _ 2 1 .bgv true true (by decide) (by decide) (by decide) (by decide) (by decide)
end HC.C06
