/-
  C13 helper proofs: TOTALITY of the model of `HeContext::validate` / `HeContext::new` up to `RNSTool::new`.

  Every `.error` of the model is a panic of the code (`unwrap`, `assert!`, arithmetic overflow).  Shown here: on EVERY input
  (any primality oracle, any parameter object, any security level) the only panics `validate` can reach are those inside
  `RNSTool::new` (`get_primes(..).unwrap()`, `create_ntt_tables(..).unwrap()`, the `assert!(try_invert ..)` family): if that call
  returns (`Ok` or `Err`), `validate` returns a `ContextData` whose error code is classified by the ladder — `Success`
  (`parameters_set`) or one specific code, never the initial `None`.  All other partial operations on the way (`RNSBase::new`'s
  inversions, `Modulus::new`, `MultiplyU64ModOperand::new`, the checked subtractions of the plain-lift constants, Barrett reductions)
  are proved total on the values that reach them.  `Context.new` is total under the same hypothesis for every prefix of the modulus
  chain.  (That `RNSTool::new` itself never panics needs the existence of up to 67 61-bit NTT primes per degree under the REAL
  primality test — a number-theoretic fact outside the model; the model takes the primality test as a parameter, for which the
  statement is false in general.)
-/
import Heathcliff.Proofs.C13Validate
import Heathcliff.Proofs.C13Chain
namespace HC.Ctx
open HC Chain

/-! ### `validate` -/

/-- **totality of `HeContext::validate` up to `RNSTool::new`**: for every primality oracle, parameter object and security level, if
    `RNSTool::new(n, q, t)` returns (does not panic), `validate` returns -/
theorem validate_total (isPrime : Nat → Bool) (p : Params) (sec : SecLevel)
    (hT : ∃ b, rnsToolNew isPrime p.n p.q p.t = .ok b) : ∃ c, validate isPrime p sec = .ok c := by
  rcases validate_eval isPrime p sec with ⟨c, hc, _⟩ | ⟨_, _, hv⟩
  · exact ⟨c, hc⟩
  · rw [hv]
    exact toolStep_total _ hT

theorem firstFailing_ne_none : ∀ (l : List (Prop × ErrorType)), (∀ ce ∈ l, ce.2 ≠ .None) → firstFailing l ≠ .None
  | [], _ => by simp [firstFailing]
  | (c, e) :: r, h => by
    unfold firstFailing
    split
    · exact h (c, e) (by simp)
    · exact firstFailing_ne_none r (fun ce hce => h ce (by simp [hce]))

theorem ladder_codes (isPrime : Nat → Bool) (p : Params) (sec : SecLevel) : ∀ ce ∈ ladder isPrime p sec, ce.2 ≠ .None := by
  intro ce hce
  have h2 : ce.2 ∈ (ladder isPrime p sec).map Prod.snd := List.mem_map.mpr ⟨ce, hce, rfl⟩
  have key : ∀ e ∈ (ladder isPrime p sec).map Prod.snd, e ≠ Gen.ErrorType.None := by
    rcases p with ⟨s, n, q, t, sp⟩
    unfold ladder
    cases s <;> simp only [List.map_append, List.map_cons, List.map_nil] <;> decide
  exact key _ h2

/-- **`validate` is total and its verdict classified**: whenever `RNSTool::new` returns, `validate` returns a `ContextData` whose
    error code is the code of the first failing rung of the ladder (`Success` = `parameters_set` if none fails) — in particular
    never the initial `ErrorType::None` -/
theorem validate_total_classified (isPrime : Nat → Bool) (p : Params) (sec : SecLevel)
    (hT : ∃ b, rnsToolNew isPrime p.n p.q p.t = .ok b) :
    ∃ c, validate isPrime p sec = .ok c ∧ c.parms = p ∧ c.err = firstFailing (ladder isPrime p sec) ∧ c.err ≠ .None ∧
      (c.valid = true ↔ c.err = .Success) := by
  obtain ⟨c, hc⟩ := validate_total isPrime p sec hT
  have he := error_ladder hc
  refine ⟨c, hc, validate_parms hc, he, ?_, ?_⟩
  · rw [he]; exact firstFailing_ne_none _ (ladder_codes isPrime p sec)
  · exact ContextData.valid_iff

/-- before `RNSTool::new` is reached nothing can panic: a parameter object rejected by an earlier rung is classified without any
    hypothesis — stated for the rungs up to the security test -/
theorem validate_total_early (isPrime : Nat → Bool) (p : Params) (sec : SecLevel)
    (h : p.scheme = .None ∨ p.q.length > 64 ∨ p.q.length < 1 ∨ (∃ q ∈ p.q, q < 2 ∨ 2^60 ≤ q) ∨ p.n < 2 ∨ 131072 < p.n ∨
      (¬ ∃ e, p.n = 2^e)) : ∃ c, validate isPrime p sec = .ok c ∧ c.err ≠ .Success ∧ c.err ≠ .None := by
  rcases validate_eval isPrime p sec with ⟨c, hc, _, hne, hff⟩ | ⟨a, _⟩
  · exact ⟨c, hc, hne, hff ▸ firstFailing_ne_none _ (ladder_codes isPrime p sec)⟩
  · exfalso
    have h2 := a.count
    have h4 := a.degree
    rcases h with h | h | h | ⟨q, hq, h⟩ | h | h | h
    · exact a.scheme h
    · omega
    · omega
    · have := a.range q hq; omega
    · omega
    · omega
    · exact h ⟨_, a.pow⟩

/-! ### `create_next_context_data`, the expansion loop and `HeContext::new` -/

theorem modulusOk_of_range {v : Nat} (h : 2 ≤ v ∧ v < 2^60) : modulusOk v = true := by
  unfold modulusOk
  have : v / 2^Gen.HE_MOD_BIT_COUNT_MAX = 0 := Nat.div_eq_of_lt (by simp only [Gen.HE_MOD_BIT_COUNT_MAX]; omega)
  simp [this]; omega

/-- `create_next_context_data` is total on a parameter object with a scheme, ≥ 2 and ≤ 64 moduli in the user range, as soon as
    `RNSTool::new` returns for the shortened chain -/
theorem createNext_total (isPrime : Nat → Bool) (prev : Params) (sec : SecLevel) (hs : prev.scheme ≠ .None)
    (hl : 2 ≤ prev.q.length ∧ prev.q.length ≤ 65) (hq : ∀ v ∈ prev.q, 2 ≤ v ∧ v < 2^60)
    (hT : ∃ b, rnsToolNew isPrime prev.n prev.q.dropLast prev.t = .ok b) : ∃ o, createNext isPrime prev sec = .ok o := by
  unfold createNext
  have hset : prev.setCoeff prev.q.dropLast = .ok (dropLastP prev) := by
    unfold Params.setCoeff
    have h1 : (prev.q.dropLast.all modulusOk) = true := by
      rw [List.all_eq_true]
      intro v hv
      exact modulusOk_of_range (hq v (List.dropLast_subset _ hv))
    rw [if_neg (by simp [h1]), if_neg (by intro h; exact hs h.1),
      if_neg (by simp only [Gen.HE_COEFF_MOD_COUNT_MAX, Gen.HE_COEFF_MOD_COUNT_MIN, List.length_dropLast]; omega)]
    rfl
  rw [hset]
  obtain ⟨c, hc⟩ := validate_total isPrime (dropLastP prev) sec hT
  simp only [bind, Except.bind, hc]
  split <;> exact ⟨_, rfl⟩

theorem expandFrom_total (isPrime : Nat → Bool) (sec : SecLevel) (P : Params) (hs : P.scheme ≠ .None)
    (hT : ∀ j, 1 ≤ j → j ≤ P.q.length → ∃ b, rnsToolNew isPrime P.n (P.q.take j) P.t = .ok b)
    (hq : ∀ v ∈ P.q, 2 ≤ v ∧ v < 2^60) (hl : P.q.length ≤ 65) :
    ∀ (fuel j : Nat), j ≤ P.q.length → ∃ l, expandFrom isPrime sec fuel (keep P j) = .ok l
  | 0, _, _ => ⟨_, rfl⟩
  | fuel + 1, j, hj => by
    have hjl := keep_length hj
    unfold expandFrom
    split
    · rename_i hlen
      obtain ⟨o, ho⟩ := createNext_total isPrime (keep P j) sec hs ⟨by omega, by omega⟩
        (fun v hv => hq v (List.take_subset _ _ hv))
        (by rw [show (keep P j).q.dropLast = P.q.take (j - 1) from congrArg Params.q (dropLastP_keep hj)]
            exact hT (j - 1) (by omega) (by omega))
      rw [ho]
      cases o with
      | none => exact ⟨_, rfl⟩
      | some c =>
        obtain ⟨hcp, _, _⟩ := createNext_some ho
        rw [dropLastP_keep hj] at hcp
        obtain ⟨l, hrest⟩ := expandFrom_total isPrime sec P hs hT hq hl fuel (j - 1) (by omega)
        simp only [bind, Except.bind, hcp, hrest]
        exact ⟨_, rfl⟩
    · exact ⟨_, rfl⟩

/-- **totality of `HeContext::new` up to `RNSTool::new`**: for every primality oracle, parameter object, expansion flag and security
    level, if `RNSTool::new` returns (`Ok` or `Err`, no panic) for every non-empty prefix of the modulus chain, the model of
    `HeContext::new` returns a context.  (By `chain_wellformed` / `error_ladder` every level of it then carries `Success` or one
    specific error code.) -/
theorem new_total (isPrime : Nat → Bool) (p : Params) (expand : Bool) (sec : SecLevel)
    (hT : ∀ j, 1 ≤ j → j ≤ p.q.length → ∃ b, rnsToolNew isPrime p.n (p.q.take j) p.t = .ok b) :
    ∃ x, Context.new isPrime p expand sec = .ok x := by
  have hTkey : ∃ b, rnsToolNew isPrime p.n p.q p.t = .ok b := by
    by_cases h0 : p.q = []
    · rw [h0]
      refine ⟨false, ?_⟩
      unfold rnsToolNew
      simp [Gen.HE_COEFF_MOD_COUNT_MIN]
      rfl
    · have := hT p.q.length (by have := List.length_pos_iff.mpr h0; omega) (le_refl _)
      rwa [List.take_length] at this
  obtain ⟨key, hkey⟩ := validate_total isPrime p sec hTkey
  unfold Context.new
  rw [hkey]
  simp only [bind, Except.bind]
  by_cases hcond : (!key.valid || p.q.length == 1 || p.special) = true
  · -- no separate first level
    rw [if_pos hcond]
    simp only [pure, Except.pure, Option.getD_none]
    by_cases he : (expand && key.valid) = true
    · rw [if_pos he]
      obtain ⟨a, _⟩ := validate_accepts hkey (ContextData.valid_iff.mp (Bool.and_eq_true_iff.mp he).2)
      have := a.count
      obtain ⟨l, hl⟩ := expandFrom_total isPrime sec p a.scheme hT a.range (by omega) p.q.length p.q.length (le_refl _)
      rw [validate_parms hkey, ← keep_all p, keep_length (le_refl _), hl]
      exact ⟨_, rfl⟩
    · rw [if_neg he]
      exact ⟨_, rfl⟩
  · rw [if_neg hcond]
    have hc' : key.valid = true ∧ p.q.length ≠ 1 ∧ p.special = false := by
      simp only [Bool.or_eq_true, Bool.not_eq_true', beq_iff_eq, not_or] at hcond
      refine ⟨by simpa using hcond.1.1, hcond.1.2, by simpa using hcond.2⟩
    obtain ⟨a, _⟩ := validate_accepts hkey (ContextData.valid_iff.mp hc'.1)
    have hlen := a.count
    obtain ⟨o, ho⟩ := createNext_total isPrime p sec a.scheme ⟨by omega, by omega⟩ a.range
      (by rw [List.dropLast_eq_take]; exact hT (p.q.length - 1) (by omega) (by omega))
    rw [ho]
    simp only []
    by_cases he : (expand && (o.getD key).valid) = true
    · rw [if_pos he]
      have hfd : ∃ j, j ≤ p.q.length ∧ (o.getD key).parms = keep p j := by
        cases o with
        | none => exact ⟨p.q.length, le_refl _, by rw [keep_all]; exact validate_parms hkey⟩
        | some c => exact ⟨p.q.length - 1, Nat.sub_le _ _, by rw [keep_pred]; exact (createNext_some ho).1⟩
      obtain ⟨j, hj, h1⟩ := hfd
      obtain ⟨l, hl⟩ := expandFrom_total isPrime sec p a.scheme hT a.range (by omega) j j hj
      rw [h1, keep_length hj, hl]
      exact ⟨_, rfl⟩
    · rw [if_neg he]
      exact ⟨_, rfl⟩

end HC.Ctx
