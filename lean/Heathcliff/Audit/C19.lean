/- Audit of property C19: `#print axioms` for every property theorem of Props/C19.lean; `audit()` of tools/runner.py elaborates this file
   and compares each axiom list with the three standard axioms. -/
import Heathcliff.Props.C19
#print axioms HC.C19.shift_coeff_rule
#print axioms HC.C19.shift_size
#print axioms HC.C19.shift_is_monomial_mul
#print axioms HC.C19.shiftPoly_is_monomial_mul
#print axioms HC.C19.extract_identity
#print axioms HC.C19.extract_assemble
#print axioms HC.C19.extract_refuses
#print axioms HC.C19.sigma_sign
#print axioms HC.C19.field_trace_coeffs
#print axioms HC.C19.field_trace_noop
#print axioms HC.C19.packLog_is_ceil_log2
#print axioms HC.C19.pack_spec
#print axioms HC.C19.fieldTrace_layer_noisy
#print axioms HC.C19.fieldTrace_layer_noisy_bgv
#print axioms HC.C19.fieldTrace_noisy
#print axioms HC.C19.fieldTrace_noisy_bgv
#print axioms HC.C19.fieldTrace_noisy_coeffs
#print axioms HC.C19.fieldTrace_refuses_missing_key
#print axioms HC.C19.fieldTrace_refuses_size
#print axioms HC.C19.fieldTrace_noop
#print axioms HC.C19.pack_merge_noisy
#print axioms HC.C19.pack_noisy
#print axioms HC.C19.fieldTrace_noisy_nonvacuous
#print axioms HC.C19.pack_noisy_nonvacuous
#print axioms HC.C19.gen_lwe_extract_shift_eq
#print axioms HC.C19.gen_lwe_extract_shift_spec
#print axioms HC.C19.gen_lwe_pack_log_eq
#print axioms HC.C19.gen_lwe_pack_log_is_ceil_log2
#print axioms HC.C19.gen_lwe_field_trace_plan_eq
#print axioms HC.C19.gen_lwe_field_trace_coeffs
#print axioms HC.C19.gen_lwe_pack_leaves_eq
#print axioms HC.C19.gen_lwe_pack_leaves_model
#print axioms HC.C19.gen_lwe_pack_merge_plan_eq
#print axioms HC.C19.gen_lwe_pack_merge_model
#print axioms HC.C19.gen_lwe_pack_plan_eq
#print axioms HC.C19.gen_lwe_pack_plan_is_packPoly
#print axioms HC.C19.gen_pack_spec
#print axioms HC.C19.gen_negacyclic_shift_eq
#print axioms HC.C19.gen_extract_c1_eq
