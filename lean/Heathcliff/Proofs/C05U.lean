/- C05 part U: modulus switching / rescaling of the MODEL at ciphertext level.  `modSwitchScaleNext` divides every polynomial by the
   last prime with the routine of its scheme (`divide_and_round_q_last`, its NTT form, `mod_t_and_divide_q_last_ntt`): each is
   proved to return, coefficient by coefficient, the division of the CRT value X of the source (`c05u_RoundDivOf`,
   `c05u_RoundDivOfNtt`: ⌊(X + q_L/2)/q_L⌋; `c05u_BgvDivOfNtt`: `c05u_bgvY`), through the rules of DivRule.  `modSwitchDropNext` drops
   the last component; `c05u_switchTo` walks the chain along `switchSteps` carrying an invariant.
   In names: `drq` = `divide_and_round_q_last`, `mtd` = `mod_t_and_divide_q_last`, `lastI` = the inverse transform of the last component.
   The chain q = (17, 41), t = 7 near the end shows that the hypothesis bundles of this file can be met together. -/
import Heathcliff.Model.Evaluator
import Heathcliff.Proofs.C01O
import Heathcliff.Proofs.C10H
import Heathcliff.Proofs.C10I
import Heathcliff.Proofs.DivRule
import Heathcliff.Proofs.C09G
import Heathcliff.Proofs.Base
import Heathcliff.Proofs.Walk
import Mathlib.Algebra.Order.BigOperators.Group.Finset
import Mathlib.Data.ZMod.Basic
import Mathlib.Tactic.Ring
import Mathlib.Tactic.Linarith
import Mathlib.Tactic.LinearCombination
import Mathlib.Tactic.NormNum
namespace HC
open Finset

/-! ## hypotheses: the level's tool is the tool of the level's moduli -/

/-- the part of `RNSTool::new` that modulus switching relies on: base q of the tool is the well-formed base of the level's moduli,
    the degree agrees, and `inv_q_last_mod_q[i]` is the (well-formed operand of the) inverse of the last prime modulo q_i -/
structure c05u_ToolOK (l : Level) : Prop where
  bwf : l.tool.baseQ.WF
  base : l.tool.baseQ.base = l.qs
  tn : l.tool.n = l.n
  inv : ∀ i, i < l.size - 1 → WFOp (l.q i) (l.tool.invQLastModQ.getD i default) ∧
      ((l.tool.invQLastModQ.getD i default).operand * (l.q (l.size - 1)).value) % (l.q i).value = 1

/-- the BGV constants: plain modulus of the tool = plain modulus of the level, `inv_q_last_mod_t` is the reduced inverse -/
structure c05u_BgvOK (l : Level) : Prop where
  tt : l.tool.t = l.t
  twf : l.t.WF
  invt_lt : l.tool.invQLastModT < l.t.value
  invt : (l.tool.invQLastModT * (l.q (l.size - 1)).value) % l.t.value = 1

/-- `l'` is the level below `l`: the last modulus is dropped -/
structure c05u_IsNext (l l' : Level) : Prop where
  size : l'.size + 1 = l.size
  n : l'.n = l.n
  q : ∀ i, i < l'.size → l'.q i = l.q i

theorem c05u_size {l : Level} (h : c05u_ToolOK l) : l.tool.baseQ.size = l.size := by
  unfold RNSBase.size Level.size; rw [h.base]

theorem c05u_q {l : Level} (h : c05u_ToolOK l) (i : Nat) : l.tool.baseQ.q i = l.q i := by
  unfold RNSBase.q Level.q; rw [h.base]; rfl

theorem c05u_qwf {l : Level} (h : c05u_ToolOK l) {i : Nat} (hi : i < l.size) : (l.q i).WF := by
  rw [← c05u_q h i]; exact h.bwf.mwf i (by rw [c05u_size h]; exact hi)

theorem c05u_crt_exists {l : Level} (h : c05u_ToolOK l) {p : RnsPoly} (hp : RnsCanon l p) {j : Nat} (hj : j < l.n) :
    ∃ X, c05u_IsCrt l p j X := by
  obtain ⟨x, hx, hxr⟩ := h.bwf.crt_exists fun i => (p.getD i #[]).getD j 0
  refine ⟨x, hx, fun i hi => ?_⟩
  have := hxr i (by rw [c05u_size h]; exact hi)
  rwa [c05u_q h, Nat.mod_eq_of_lt ((hp.2 i hi).2 j hj)] at this

theorem c05u_crt_unique {l : Level} (h : c05u_ToolOK l) {p : RnsPoly} {j X Y : Nat}
    (hX : c05u_IsCrt l p j X) (hY : c05u_IsCrt l p j Y) : X = Y := by
  apply crt_unique h.bwf hX.1 hY.1
  intro i hi
  rw [c05u_size h] at hi
  rw [c05u_q h, hX.2 i hi, hY.2 i hi]

/-! ## dropping the last component (`mod_switch_drop_to_next`) -/

theorem c05u_extract_size (p : RnsPoly) {m : Nat} (hm : m ≤ p.size) : (p.extract 0 m).size = m := by
  simp [Array.size_extract]; omega

/-- REFUSALS of `modSwitchDropNext`: last level; CKKS in coefficient form -/
theorem modSwitchDropNext_refusals {l : Level} (ct : Ct) :
    (l.size < 2 → modSwitchDropNext l ct = .error .refused) ∧
    (l.scheme = .ckks → ct.ntt = false → modSwitchDropNext l ct = .error .refused) := by
  unfold modSwitchDropNext
  refine ⟨fun h => if_pos h, fun hs hn => ?_⟩
  split
  · rfl
  · rw [if_pos ⟨hs, by simp [hn]⟩]

/-- `mod_switch_drop_to_next`: succeeds (for CKKS: on NTT form), same number of polynomials, representation and correction
    factor, one component fewer, every remaining residue unchanged, canonical at the next level -/
theorem modSwitchDropNext_spec {l : Level} {ct : Ct} (h2 : 2 ≤ l.size) (hs : l.scheme = .ckks → ct.ntt = true)
    (hc : c05u_CtCanon l ct) :
    ∃ ct', modSwitchDropNext l ct = .ok ct' ∧ ct'.polys.size = ct.polys.size ∧ ct'.ntt = ct.ntt ∧ ct'.cf = ct.cf ∧
      (∀ k, k < ct.polys.size → (ct'.polys.getD k #[]).size = l.size - 1 ∧
        ∀ i, i < l.size - 1 → (ct'.polys.getD k #[]).getD i #[] = (ct.polys.getD k #[]).getD i #[]) ∧
      ∀ l', c05u_IsNext l l' → c05u_CtCanon l' ct' := by
  have hmap : ∀ k, k < ct.polys.size → (ct.polys.map (fun p => p.extract 0 (l.size - 1))).getD k #[] =
      (ct.polys.getD k #[]).extract 0 (l.size - 1) := fun k hk => array_getD_map _ ct.polys #[] #[] hk
  refine ⟨{ ct with polys := ct.polys.map (fun p => p.extract 0 (l.size - 1)) }, ?_, Array.size_map .., rfl, rfl,
    fun k hk => ?_, fun l' hn k hk => ?_⟩
  · unfold modSwitchDropNext
    rw [if_neg (by omega), if_neg]
    · rfl
    · rintro ⟨h1, h3⟩
      simp [hs h1] at h3
  · have hp := (hc k hk).1
    rw [hmap k hk]
    exact ⟨c05u_extract_size _ (by omega), fun i hi => array_getD_extract _ #[] (by omega) hi⟩
  · have hk' : k < ct.polys.size := by simpa using hk
    have hp := hc k hk'
    have hsz : l'.size = l.size - 1 := by have := hn.size; omega
    rw [hmap k hk']
    refine ⟨by rw [c05u_extract_size _ (by rw [hp.1]; omega), hsz], fun i hi => ?_⟩
    rw [array_getD_extract _ #[] (by rw [hp.1]; omega) (by omega), hn.q i hi, hn.n]
    exact hp.2 i (by omega)

theorem c05u_Q_next {l l' : Level} (h : c05u_ToolOK l) (h' : c05u_ToolOK l') (hn : c05u_IsNext l l') :
    c05u_Q l = c05u_Q l' * (l.q (l.size - 1)).value := by
  unfold c05u_Q
  rw [h.bwf.prod_eq, h'.bwf.prod_eq, c05u_size h, c05u_size h', ← hn.size, List.range_succ, List.map_append, List.prod_append]
  simp only [List.map_cons, List.map_nil, List.prod_cons, List.prod_nil, Nat.mul_one, Nat.add_sub_cancel]
  rw [c05u_q h]
  congr 2
  apply List.map_congr_left
  intro i hi
  rw [c05u_q h, c05u_q h', hn.q i (List.mem_range.mp hi)]

/-- VALUE: the CRT value of every coefficient of the dropped polynomial is the old CRT value reduced modulo the new product
    (so the phase, as an integer polynomial, is unchanged modulo Q'; cf. `C05.ckks_drop_phase`) -/
theorem modSwitchDropNext_crt {l l' : Level} (h' : c05u_ToolOK l') (hn : c05u_IsNext l l')
    {p : RnsPoly} (hp : p.size = l.size) {j X : Nat} (hX : c05u_IsCrt l p j X) :
    c05u_IsCrt l' (p.extract 0 (l.size - 1)) j (X % c05u_Q l') := by
  have hQ' : 0 < c05u_Q l' := h'.bwf.prod_pos
  refine ⟨Nat.mod_lt _ hQ', fun i hi => ?_⟩
  have hsz : l'.size = l.size - 1 := by have := hn.size; omega
  rw [array_getD_extract _ #[] (by omega) (by omega), ← hX.2 i (by omega), hn.q i hi]
  have hd : (l'.q i).value ∣ c05u_Q l' := by
    rw [← c05u_q h' i]; exact h'.bwf.q_dvd_prod (by rw [c05u_size h']; exact hi)
  rw [← hn.q i hi]
  exact Nat.mod_mod_of_dvd _ hd

/-! ## generic: `List.mapM` over the polynomials of a ciphertext -/

theorem c05u_polys_mapM (F : RnsPoly → R RnsPoly) (P : RnsPoly → RnsPoly → Prop) (ct : Ct)
    (h : ∀ k, k < ct.polys.size → ∃ y, F (ct.polys.getD k #[]) = .ok y ∧ P (ct.polys.getD k #[]) y) :
    ∃ ps, ct.polys.toList.mapM F = .ok ps ∧ ps.toArray.size = ct.polys.size ∧
      ∀ k, k < ct.polys.size → P (ct.polys.getD k #[]) (ps.toArray.getD k #[]) := by
  obtain ⟨ys, h1, h2, h3⟩ := R.mapM_spec F P ct.polys.toList (fun x hx => by
    obtain ⟨k, hk, rfl⟩ := Array.mem_iff_getElem.mp (Array.mem_toList_iff.mp hx)
    have := h k hk
    simpa [Array.getD, hk] using this)
  refine ⟨ys, h1, by simpa using h2, fun k hk => ?_⟩
  have := h3 #[] #[] k (by simpa using hk)
  rw [array_getD_toList] at this
  rw [list_getD_toArray ys]; exact this

/-! ## BFV: `divide_and_round_q_last_inplace` on every polynomial -/

/-- what the three divisions by the last prime need of the tool and of the polynomial -/
structure c05u_DivOK (r : RNSTool) (p : RnsPoly) : Prop where
  qwf : ∀ i, i < r.baseQ.size → (r.baseQ.q i).WF
  two : 2 ≤ r.baseQ.size
  inv : ∀ i, i < r.baseQ.size - 1 → WFOp (r.baseQ.q i) (r.invQLastModQ.getD i default)
  sz : ∀ i, i < r.baseQ.size → (p.getD i #[]).size = r.n
  lt : ∀ i j, i < r.baseQ.size → j < r.n → (p.getD i #[]).getD j 0 < (r.baseQ.q i).value

theorem c05u_divOK {l : Level} (h : c05u_ToolOK l) (h2 : 2 ≤ l.size) {p : RnsPoly} (hp : RnsCanon l p) :
    c05u_DivOK l.tool p := by
  have hs := c05u_size h
  have hq := c05u_q h
  refine ⟨h.bwf.mwf, by rw [hs]; exact h2, fun i hi => ?_, fun i hi => ?_, fun i j hi hj => ?_⟩
  · rw [hs] at hi; rw [hq]; exact (h.inv i hi).1
  · rw [hs] at hi; rw [h.tn]; exact (hp.2 i hi).1
  · rw [hs] at hi; rw [h.tn] at hj; rw [hq]; exact (hp.2 i hi).2 j hj

/-- `o` is the rounding division of the (coefficient-form) polynomial `p` by the last prime of `l`, on the remaining components -/
def c05u_RoundDivOf (l : Level) (p o : RnsPoly) : Prop :=
  o.size = l.size - 1 ∧ ∀ i, i < l.size - 1 → (o.getD i #[]).size = l.n ∧
    ∀ j, j < l.n → ∀ X, c05u_IsCrt l p j X →
      (o.getD i #[]).getD j 0 =
        ((X + (l.q (l.size - 1)).value / 2) / (l.q (l.size - 1)).value) % (l.q i).value

theorem c05u_bfv_poly {l : Level} (h : c05u_ToolOK l) (h2 : 2 ≤ l.size) {p : RnsPoly} (hp : RnsCanon l p) :
    ∃ o, (do let o ← l.tool.divideAndRoundQLast p; pure (o.extract 0 (l.size - 1))) = .ok o ∧ c05u_RoundDivOf l p o := by
  have hs := c05u_size h
  have hq := c05u_q h
  have hd := c05u_divOK h h2 hp
  obtain ⟨out, e, hsz, hE⟩ := divideAndRoundQLast_ent hd.qwf hd.two hd.inv hd.sz hd.lt
  have hm : l.size - 1 ≤ out.size := by rw [hsz, hs]; omega
  refine ⟨out.extract 0 (l.size - 1), by rw [e]; rfl, c05u_extract_size out hm, fun i hi => ?_⟩
  obtain ⟨hrow, hent⟩ := hE i (by rw [hs]; exact hi)
  rw [array_getD_extract out #[] hm hi]
  refine ⟨by rw [hrow, h.tn], fun j hj X hX => ?_⟩
  rw [hent j (by rw [h.tn]; exact hj)]
  dsimp only
  rw [hs, hq, hq, ← hX.2 i (by omega), ← hX.2 (l.size - 1) (by omega)]
  exact divRoundLast_scalar (c05u_qwf h (by omega)).two_le (c05u_qwf h (by omega)).two_le (h.inv i hi).2

/-- REFUSALS of `modSwitchScaleNext`: last level; BFV in NTT form; CKKS / BGV in coefficient form -/
theorem modSwitchScaleNext_refusals {l : Level} (ct : Ct) :
    (l.size < 2 → modSwitchScaleNext l ct = .error .refused) ∧
    (l.scheme = .bfv → ct.ntt = true → modSwitchScaleNext l ct = .error .refused) ∧
    (l.scheme = .ckks → ct.ntt = false → modSwitchScaleNext l ct = .error .refused) ∧
    (l.scheme = .bgv → ct.ntt = false → modSwitchScaleNext l ct = .error .refused) := by
  unfold modSwitchScaleNext
  by_cases h2 : l.size < 2
  · rw [if_pos h2]
    exact ⟨fun _ => rfl, fun _ _ => rfl, fun _ _ => rfl, fun _ _ => rfl⟩
  · rw [if_neg h2]
    refine ⟨fun h => absurd h h2, fun hs hn => ?_, fun hs hn => ?_, fun hs hn => ?_⟩
    · simp only [hs]; rw [if_pos hn]
    · simp only [hs]; rw [if_pos (by simp [hn])]
    · simp only [hs]; rw [if_pos (by simp [hn])]

/-- BFV `mod_switch_to_next`: for a canonical coefficient-form ciphertext at a level with ≥ 2 moduli the model returns a
    ciphertext with the same number of polynomials, coefficient form, same correction factor, `l.size - 1` components of `l.n`
    coefficients, and coefficient j of component i of polynomial k equals ⌊(X + q_L/2)/q_L⌋ mod q_i for the CRT value X of the
    source coefficient (`c05u_RoundDivOf`); a CRT value exists and is unique (`c05u_crt_exists`, `c05u_crt_unique`) -/
theorem modSwitchScaleNext_bfv_spec {l : Level} (h : c05u_ToolOK l) (h2 : 2 ≤ l.size) (hs : l.scheme = .bfv) {ct : Ct}
    (hn : ct.ntt = false) (hc : c05u_CtCanon l ct) :
    ∃ ct', modSwitchScaleNext l ct = .ok ct' ∧ ct'.polys.size = ct.polys.size ∧ ct'.ntt = false ∧ ct'.cf = ct.cf ∧
      ∀ k, k < ct.polys.size → c05u_RoundDivOf l (ct.polys.getD k #[]) (ct'.polys.getD k #[]) := by
  obtain ⟨ps, h1, h3, h4⟩ := c05u_polys_mapM
    (fun p => do let o ← l.tool.divideAndRoundQLast p; pure (o.extract 0 (l.size - 1)))
    (c05u_RoundDivOf l) ct (fun k hk => c05u_bfv_poly h h2 (hc k hk))
  unfold modSwitchScaleNext
  rw [if_neg (by omega)]
  simp only [hs]
  rw [if_neg (by simp [hn]), h1, R.ok_bind]
  exact ⟨_, rfl, h3, hn, rfl, h4⟩

theorem c05u_roundDiv_canon {l l' : Level} (h : c05u_ToolOK l) (hn : c05u_IsNext l l') {p o : RnsPoly}
    (hp : RnsCanon l p) (ho : c05u_RoundDivOf l p o) : RnsCanon l' o := by
  have hsz : l'.size = l.size - 1 := by have := hn.size; omega
  refine ⟨by rw [ho.1, hsz], fun i hi => ?_⟩
  rw [hsz] at hi
  obtain ⟨h1, h2⟩ := ho.2 i hi
  refine ⟨by rw [h1, hn.n], fun j hj => ?_⟩
  rw [hn.n] at hj
  obtain ⟨X, hX⟩ := c05u_crt_exists h hp hj
  rw [h2 j hj X hX, hn.q i (by omega)]
  exact Nat.mod_lt _ (by have := (c05u_qwf h (show i < l.size by omega)).two_le; omega)

/-! ## the level walk (`mod_switch_to` / `rescale_to`) -/

/-- walk down the modulus chain along the model's `switchSteps`: the step that arrives at chain index `idx` is taken at the level
    with chain index `idx + 1`.  This is a definition on the model's side, placed with the theorems about it: Model/Evaluator.lean stops at the
    plan (`switchSteps`, `rescaleToPlan`); running the plan over a chain of levels is `c05u_switchTo`. -/
def c05u_switchTo (step : Level → Ct → R Ct) (chain : Nat → Level) (cur tgt : Nat) (ct : Ct) : R Ct := do
  let steps ← switchSteps cur tgt
  steps.foldlM (fun c idx => step (chain (idx + 1)) c) ct

theorem c05u_switchTo_up (step : Level → Ct → R Ct) (chain : Nat → Level) {cur tgt : Nat} (h : cur < tgt) (ct : Ct) :
    c05u_switchTo step chain cur tgt ct = .error .refused := by
  unfold c05u_switchTo
  rw [switchSteps_up h]; rfl

theorem c05u_switchTo_self (step : Level → Ct → R Ct) (chain : Nat → Level) (cur : Nat) (ct : Ct) :
    c05u_switchTo step chain cur cur ct = .ok ct := by
  unfold c05u_switchTo
  rw [switchSteps_down (Nat.le_refl _)]
  simp [pure, Except.pure, bind, Except.bind]

theorem c05u_steps_succ {cur tgt : Nat} (h : tgt < cur) :
    (List.range (cur - tgt)).map (fun i => cur - 1 - i) =
      (cur - 1) :: (List.range (cur - 1 - tgt)).map (fun i => cur - 1 - 1 - i) := by
  obtain ⟨d, hd⟩ : ∃ d, cur - tgt = d + 1 := ⟨cur - tgt - 1, by omega⟩
  rw [hd, List.range_succ_eq_map, List.map_cons, List.map_map]
  have e : cur - 1 - tgt = d := by omega
  rw [e]
  congr 1
  apply List.map_congr_left
  intro i _
  simp only [Function.comp]
  omega

theorem c05u_switchTo_step (step : Level → Ct → R Ct) (chain : Nat → Level) {cur tgt : Nat} (h : tgt < cur) (ct : Ct) :
    c05u_switchTo step chain cur tgt ct = (do
      let c ← step (chain cur) ct
      c05u_switchTo step chain (cur - 1) tgt c) := by
  unfold c05u_switchTo
  rw [switchSteps_down h.le, switchSteps_down (show tgt ≤ cur - 1 by omega)]
  simp only [bind, Except.bind]
  rw [c05u_steps_succ h, List.foldlM_cons]
  have e : cur - 1 + 1 = cur := by omega
  rw [e]
  rfl

/-- a step-indexed invariant is carried from `cur` down to `tgt` (the walk performs `cur - tgt` steps, `C05.switch_steps`) -/
theorem c05u_switchTo_inv (step : Level → Ct → R Ct) (chain : Nat → Level) (Inv : Nat → Ct → Prop) {tgt : Nat}
    (hstep : ∀ c ct, tgt ≤ c → Inv (c + 1) ct → ∃ ct', step (chain (c + 1)) ct = .ok ct' ∧ Inv c ct') :
    ∀ cur, tgt ≤ cur → ∀ ct, Inv cur ct → ∃ ct', c05u_switchTo step chain cur tgt ct = .ok ct' ∧ Inv tgt ct' := by
  intro cur
  induction cur with
  | zero =>
    intro h ct hi
    have : tgt = 0 := by omega
    subst this
    exact ⟨ct, c05u_switchTo_self _ _ _ _, hi⟩
  | succ c ih =>
    intro h ct hi
    by_cases he : tgt = c + 1
    · subst he; exact ⟨ct, c05u_switchTo_self _ _ _ _, hi⟩
    · have hle : tgt ≤ c := by omega
      obtain ⟨c1, h1, h2⟩ := hstep c ct hle hi
      obtain ⟨c2, h3, h4⟩ := ih hle c1 h2
      refine ⟨c2, ?_, h4⟩
      rw [c05u_switchTo_step _ _ (by omega), h1, R.ok_bind]
      exact h3

/-- a chain of levels: index c+1 is one modulus longer than index c, and every level's tool is well formed -/
structure c05u_ChainOK (chain : Nat → Level) (top : Nat) : Prop where
  next : ∀ c, c < top → c05u_IsNext (chain (c + 1)) (chain c)
  tool : ∀ c, c ≤ top → c05u_ToolOK (chain c)

theorem c05u_chain_size {chain : Nat → Level} {top : Nat} (hch : c05u_ChainOK chain top) {c : Nat} (hc : c < top) :
    2 ≤ (chain (c + 1)).size := by
  have h1 := (hch.next c hc).size
  have h2 := (hch.tool c (by omega)).bwf.pos
  rw [c05u_size (hch.tool c (by omega))] at h2
  omega

theorem c05u_switchTo_canon (step : Level → Ct → R Ct) (chain : Nat → Level) {top : Nat} (P : Ct → Prop)
    (hstep : ∀ c x, c < top → c05u_CtCanon (chain (c + 1)) x → P x →
      ∃ x', step (chain (c + 1)) x = .ok x' ∧ c05u_CtCanon (chain c) x' ∧ P x')
    {cur tgt : Nat} (hcur : cur ≤ top) (ht : tgt ≤ cur) {ct : Ct} (hc : c05u_CtCanon (chain cur) ct) (hP : P ct) :
    ∃ ct', c05u_switchTo step chain cur tgt ct = .ok ct' ∧ c05u_CtCanon (chain tgt) ct' ∧ P ct' := by
  obtain ⟨ct', h1, -, h2⟩ := c05u_switchTo_inv step chain (fun c x => c ≤ top ∧ c05u_CtCanon (chain c) x ∧ P x) (tgt := tgt)
    (fun c x _ ⟨h1, h2, h3⟩ => by
      obtain ⟨x', e1, e2, e3⟩ := hstep c x h1 h2 h3
      exact ⟨x', e1, Nat.le_of_succ_le h1, e2, e3⟩) cur ht ct ⟨hcur, hc, hP⟩
  exact ⟨ct', h1, h2⟩

/-! ## CKKS: `divide_and_round_q_last_ntt_inplace` -/

/-- the default element the model's NTT variants pass to `getD` on the table array (never reached under `c05u_TablesOK`) -/
abbrev c05u_dflt : NTTTables := RNSTool.divideAndRoundQLastNtt.dflt

/-- the tables handed to the NTT variants are the well-formed tables of the tool's base -/
def c05u_TablesOK (r : RNSTool) (tables : Array NTTTables) : Prop :=
  ∀ i, i < r.baseQ.size → (tables.getD i c05u_dflt).WF ∧ (tables.getD i c05u_dflt).modulus = r.baseQ.q i ∧
    2^(tables.getD i c05u_dflt).k = r.n

/-- size and range of the inverse transform of the last component -/
theorem c05u_lastI_facts {r : RNSTool} {tables : Array NTTTables} {p : RnsPoly}
    (hs : 2 ≤ r.baseQ.size) (htb : c05u_TablesOK r tables)
    (hn : ∀ i, i < r.baseQ.size → (p.getD i #[]).size = r.n)
    (hc : ∀ i j, i < r.baseQ.size → j < r.n → (p.getD i #[]).getD j 0 < (r.baseQ.q i).value) :
    (intt (tables.getD (r.baseQ.size - 1) c05u_dflt) (p.getD (r.baseQ.size - 1) #[])).size = r.n ∧
    ∀ j, j < r.n → (intt (tables.getD (r.baseQ.size - 1) c05u_dflt) (p.getD (r.baseQ.size - 1) #[])).getD j 0
        < (r.baseQ.q (r.baseQ.size - 1)).value := by
  obtain ⟨htw, htm, htn⟩ := htb (r.baseQ.size - 1) (by omega)
  obtain ⟨a1, a2⟩ := intt_sim htw (p.getD (r.baseQ.size - 1) #[]) (by rw [hn _ (by omega), htn])
    (fun j hj => by rw [htm]; have := hc (r.baseQ.size - 1) j (by omega) (by omega); omega)
  rw [htm] at a2
  exact ⟨by rw [a1, htn], fun j hj => (a2 j (by omega)).1⟩

/-- every output component of `divide_and_round_q_last_ntt_inplace` is a canonical row whose coefficient form is
    `divRoundLastCoeff` of the coefficient forms of the last component and of component i -/
theorem c05u_drqNtt_rows {r : RNSTool} {tables : Array NTTTables} {p : RnsPoly} (h : c05u_DivOK r p)
    (htb : c05u_TablesOK r tables) :
    ∃ out, r.divideAndRoundQLastNtt tables p = .ok out ∧ out.size = r.baseQ.size ∧ ∀ i, i < r.baseQ.size - 1 →
      (out.getD i #[]).size = r.n ∧ (∀ j, j < r.n → (out.getD i #[]).getD j 0 < (r.baseQ.q i).value) ∧
      ∀ j, j < r.n → (intt (tables.getD i c05u_dflt) (out.getD i #[])).getD j 0 =
        divRoundLastCoeff (r.baseQ.q (r.baseQ.size - 1)).value (r.baseQ.q i).value (r.invQLastModQ.getD i default).operand
          ((intt (tables.getD (r.baseQ.size - 1) c05u_dflt) (p.getD (r.baseQ.size - 1) #[])).getD j 0)
          ((intt (tables.getD i c05u_dflt) (p.getD i #[])).getD j 0) := by
  have hs := h.two
  have hlastWF := h.qwf (r.baseQ.size - 1) (by omega)
  have hl2 := hlastWF.two_le
  obtain ⟨f1, f2⟩ := c05u_lastI_facts hs htb h.sz h.lt
  unfold RNSTool.divideAndRoundQLastNtt
  dsimp only
  refine ent_bind (mapM'_ent (Ent.of_size f1) fun j hj => addMod_exact hlastWF (f2 j hj) (by omega)) fun lastc h0 => ?_
  let Q : Nat → Array Nat → Prop := fun i row => row.size = r.n ∧ (∀ j, j < r.n → row.getD j 0 < (r.baseQ.q i).value) ∧
    ∀ j, j < r.n → (intt (tables.getD i c05u_dflt) row).getD j 0 =
      divRoundLastCoeff (r.baseQ.q (r.baseQ.size - 1)).value (r.baseQ.q i).value (r.invQLastModQ.getD i default).operand
        ((intt (tables.getD (r.baseQ.size - 1) c05u_dflt) (p.getD (r.baseQ.size - 1) #[])).getD j 0)
        ((intt (tables.getD i c05u_dflt) (p.getD i #[])).getD j 0)
  refine rangeMapM_rows (Q := Q) _ (fun l hl => by rw [Array.size_push, List.size_toArray, hl]; omega)
    (fun G i hi => getD_push_rangeMap _ G _ _ hi) fun i hi => ?_
  obtain ⟨htw, htm, htn⟩ := htb i (by omega)
  have hb0 : 0 < (r.baseQ.q i).value := c04t_pos (h.qwf i (by omega))
  -- the row is the one `switch_key` also runs; here nothing follows it, and its Z_q value is read as `divRoundLastCoeff`
  have := c04t_roundRow_bind (β := Poly) htw htm htn hlastWF (h.inv i hi) true
    ⟨h.sz i (by omega), fun j hj => h.lt i j (by omega) hj⟩ h0 (K := pure) (Q := Q i)
    fun δ hδ hz => ⟨δ, rfl, hδ.1, hδ.2, fun j hj => by
      have hlt := ((intt_sim htw δ (hδ.1.trans htn.symm) fun j hj => by
        rw [htm]; exact Nat.lt_of_lt_of_le (hδ.2 j (htn ▸ hj)) (Nat.le_mul_of_pos_left _ Nat.two_pos)).2 j (htn ▸ hj)).1
      rw [htm] at hlt
      apply cast_inj_lt hlt (by unfold divRoundLastCoeff; exact Nat.mod_lt _ hb0)
      rw [divRoundLastCoeff_cast _ _ _ _ _ hb0]
      exact hz j hj⟩
  simpa only [↓reduceIte, bind_pure] using this

theorem c05u_tables_ok {l : Level} (hl : l.WF) (h : c05u_ToolOK l) : c05u_TablesOK l.tool l.tables := by
  intro i hi
  rw [c05u_size h] at hi
  obtain ⟨h1, h2, h3, _⟩ := c01o_level_comp hl hi
  have e : l.tables.getD i c05u_dflt = l.tbl i := rfl
  rw [e, c05u_q h, h.tn]
  exact ⟨h1, (hl.twf i hi).2.1, h3⟩

/-- `o` (NTT form, canonical) is the rounding division by the last prime of the NTT-form polynomial `p`: stated on the coefficient
    forms, `X` being the CRT value of a coefficient of INTT(p) -/
def c05u_RoundDivOfNtt (l : Level) (p o : RnsPoly) : Prop :=
  o.size = l.size - 1 ∧ ∀ i, i < l.size - 1 → (o.getD i #[]).size = l.n ∧
    (∀ j, j < l.n → (o.getD i #[]).getD j 0 < (l.q i).value) ∧
    ∀ j, j < l.n → ∀ X, c05u_IsCrt l (rnsIntt l p) j X →
      (intt (l.tbl i) (o.getD i #[])).getD j 0 =
        ((X + (l.q (l.size - 1)).value / 2) / (l.q (l.size - 1)).value) % (l.q i).value

theorem c05u_ckks_poly {l : Level} (hl : l.WF) (h : c05u_ToolOK l) (h2 : 2 ≤ l.size) {p : RnsPoly} (hp : RnsCanon l p) :
    ∃ o, (do let o ← l.tool.divideAndRoundQLastNtt l.tables p; pure (o.extract 0 (l.size - 1))) = .ok o ∧
      c05u_RoundDivOfNtt l p o := by
  have hs := c05u_size h
  have hq := c05u_q h
  have hLwf := c05u_qwf h (show l.size - 1 < l.size by omega)
  obtain ⟨out, ho, hsz, hv⟩ := c05u_drqNtt_rows (c05u_divOK h h2 hp) (c05u_tables_ok hl h)
  refine ⟨out.extract 0 (l.size - 1), by rw [ho]; rfl, by rw [Array.size_extract, hsz, hs]; omega, fun i hi => ?_⟩
  obtain ⟨g1, g2, g3⟩ := hv i (by rw [hs]; exact hi)
  rw [array_getD_extract _ _ (by rw [hsz, hs]; omega) hi]
  rw [h.tn] at g1 g2 g3
  refine ⟨g1, fun j hj => by rw [← hq]; exact g2 j hj, fun j hj X hX => ?_⟩
  have e1 : l.tables.getD i c05u_dflt = l.tbl i := rfl
  have e2 : l.tables.getD (l.size - 1) c05u_dflt = l.tbl (l.size - 1) := rfl
  rw [← e1, g3 j hj, hs, hq, hq, e1, e2]
  have x1 := hX.2 i (by omega)
  have x2 := hX.2 (l.size - 1) (by omega)
  rw [c01o_rnsIntt_getD l p (by omega)] at x1 x2
  rw [← x1, ← x2]
  exact divRoundLast_scalar hLwf.two_le (c05u_qwf h (by omega)).two_le (h.inv i hi).2

/-- CKKS `rescale_to_next`: NTT-form input and output; the output is canonical and its coefficient form (INTT) is the rounding
    division ⌊(X + q_L/2)/q_L⌋ mod q_i of the CRT value X of the input's coefficient form (`c05u_RoundDivOfNtt`) -/
theorem modSwitchScaleNext_ckks_spec {l : Level} (hl : l.WF) (h : c05u_ToolOK l) (h2 : 2 ≤ l.size) (hs : l.scheme = .ckks) {ct : Ct}
    (hn : ct.ntt = true) (hc : c05u_CtCanon l ct) :
    ∃ ct', modSwitchScaleNext l ct = .ok ct' ∧ ct'.polys.size = ct.polys.size ∧ ct'.ntt = true ∧ ct'.cf = ct.cf ∧
      ∀ k, k < ct.polys.size → c05u_RoundDivOfNtt l (ct.polys.getD k #[]) (ct'.polys.getD k #[]) := by
  obtain ⟨ps, h1, h3, h4⟩ := c05u_polys_mapM
    (fun p => do let o ← l.tool.divideAndRoundQLastNtt l.tables p; pure (o.extract 0 (l.size - 1)))
    (c05u_RoundDivOfNtt l) ct (fun k hk => c05u_ckks_poly hl h h2 (hc k hk))
  unfold modSwitchScaleNext
  rw [if_neg (by omega)]
  simp only [hs]
  rw [if_neg (by simp [hn]), h1, R.ok_bind]
  exact ⟨_, rfl, h3, hn, rfl, h4⟩

theorem c05u_canon_next {l l' : Level} (hn : c05u_IsNext l l') {o : RnsPoly} (hs : o.size = l.size - 1)
    (ho : ∀ i, i < l.size - 1 → (o.getD i #[]).size = l.n ∧ ∀ j, j < l.n → (o.getD i #[]).getD j 0 < (l.q i).value) :
    RnsCanon l' o := by
  have hsz : l'.size = l.size - 1 := by have := hn.size; omega
  refine ⟨by rw [hs, hsz], fun i hi => ?_⟩
  rw [hn.q i hi, hn.n]
  exact ho i (by rw [← hsz]; exact hi)

theorem c05u_roundDivNtt_canon {l l' : Level} (hn : c05u_IsNext l l') {p o : RnsPoly}
    (ho : c05u_RoundDivOfNtt l p o) : RnsCanon l' o :=
  c05u_canon_next hn ho.1 (fun i hi => ⟨(ho.2 i hi).1, (ho.2 i hi).2.1⟩)

/-! ## BGV: `mod_t_and_divide_q_last_ntt_inplace` -/

theorem c05u_dflt_eq : RNSTool.modTAndDivideQLastNtt.dflt = c05u_dflt := rfl

/-- one output component of `mod_t_and_divide_q_last_ntt_inplace`: the monadic code succeeds with a canonical row whose coefficient
    form is `modTDivLastCoeff` of the coefficient forms of the last component and of component i -/
theorem c05u_mtdNtt_row {b t : Modulus} {lastv invt : Nat} {tbl : NTTTables} {inv : MulOperand} {lastI neg pi : Array Nat} {N : Nat}
    {cn : Nat → Nat} (hb : b.WF) (hlv : lastv < 2^64) (htw : tbl.WF) (htm : tbl.modulus = b) (htn : 2^tbl.k = N)
    (hop : WFOp b inv) (hN : Ent N neg cn) (hnl : ∀ j, j < N → cn j < 2^64)
    (hcn : ∀ j, j < N → cn j = (((t.value - lastI.getD j 0 % t.value) % t.value) * invt) % t.value)
    (hll : ∀ j, j < N → lastI.getD j 0 < 2^64) (hps : pi.size = N) (hpl : ∀ j, j < N → pi.getD j 0 < b.value) :
    ∃ out, (do let delta0 ← mapM' neg (fun x => do let y ← barrett64 x b; mulMod y lastv b)
               let delta1 ← zipM' delta0 lastI (fun d c => do let cl ← barrett64 c b; ckAdd d cl)
               let d ← zipM' pi (ntt tbl delta1) (fun x y => subMod x y b)
               mapM' d (fun x => mulOperandMod x inv b)) = .ok out ∧
      out.size = N ∧ (∀ j, j < N → out.getD j 0 < b.value) ∧
      ∀ j, j < N → (intt tbl out).getD j 0 =
        modTDivLastCoeff t.value lastv b.value inv.operand invt (lastI.getD j 0) ((intt tbl pi).getD j 0) := by
  subst htn htm
  have hb2 := hb.two_le
  have hb61 := hb.lt
  have hb0 : 0 < tbl.modulus.value := by omega
  refine ent_bind (mapM'_ent hN fun j hj => by
    rw [barrett64_exact hb (hnl j hj), R.ok_bind]
    exact mulMod_exact hb (by have := Nat.mod_lt (cn j) hb0; omega) hlv) fun delta0 h0 => ?_
  have hd1 : ∀ j, (cn j % tbl.modulus.value * lastv) % tbl.modulus.value + lastI.getD j 0 % tbl.modulus.value
      < 2 * tbl.modulus.value := fun j => by
    have h1 := Nat.mod_lt (cn j % tbl.modulus.value * lastv) hb0
    have h2 := Nat.mod_lt (lastI.getD j 0) hb0
    omega
  refine ent_bind (zipM'_ent h0 (fun _ _ => rfl) fun j hj => by
    rw [barrett64_exact hb (hll j hj), R.ok_bind]
    exact ckAdd_ok (by rw [B64_eq]; have := hd1 j; omega)) fun delta1 h1 => ?_
  have hd4 : ∀ j, j < 2^tbl.k → delta1.getD j 0 < 4 * tbl.modulus.value := fun j hj => by
    rw [h1.2 j hj]; dsimp only; have := hd1 j; omega
  obtain ⟨n1, n2⟩ := ntt_sim htw delta1 h1.1 hd4
  have n3 := (ntt_eval htw delta1 h1.1 hd4).2
  refine ent_bind (zipM'_ent (Ent.of_size hps) (fun _ _ => rfl) fun j hj =>
    subMod_exact hb (hpl j hj) (n2 j hj).2.1) fun d h2 => ?_
  refine (mapM'_ent h2 fun j hj => RNSH.mulOperandMod_wf hb hop
    (by have := Nat.mod_lt (pi.getD j 0 + tbl.modulus.value - (ntt tbl delta1).getD j 0) hb0; omega)).imp
    fun out h => ⟨h.1, h.2.1, ?_⟩
  have hol : ∀ j, j < 2^tbl.k → out.getD j 0 < tbl.modulus.value := fun j hj => by rw [h.2.2 j hj]; exact Nat.mod_lt _ hb0
  refine ⟨hol, fun j hj => ?_⟩
  -- in `ZMod b`: out = (pi − NTT delta1)·inv entrywise, hence INTT out = (INTT pi − delta1)·inv
  have hpl2 : ∀ j, j < 2^tbl.k → pi.getD j 0 < 2 * tbl.modulus.value := fun j hj => by have := hpl j hj; omega
  have hlin := intt_affine htw delta1 hps hps h.2.1 hpl2 hpl2 (fun j hj => by have := hol j hj; omega) inv.operand 0 (-inv.operand)
    (fun i hi => by
      have hyl := evalSpec_lt tbl hb0 delta1 i
      rw [h.2.2 i hi]
      dsimp only
      rw [n3 i hi, ZMod.natCast_mod, Nat.cast_mul, ZMod.natCast_mod, Nat.cast_sub (by omega), Nat.cast_add, ZMod.natCast_self]
      ring) j hj
  apply cast_inj_lt ((intt_sim htw out h.2.1 (fun j hj => by have := hol j hj; omega)).2 j hj).1
    (by unfold modTDivLastCoeff; exact Nat.mod_lt _ hb0)
  rw [hlin, modTDivLastCoeff_cast _ _ _ _ _ _ _ hb0, h1.2 j hj]
  unfold c04t_bgvE c04t_bgvKK
  rw [← hcn j hj, Nat.cast_add (lastI.getD j 0), Nat.cast_mul lastv]
  dsimp only
  rw [Nat.cast_add, ZMod.natCast_mod, Nat.cast_mul, ZMod.natCast_mod, ZMod.natCast_mod]
  ring

theorem c05u_mtdNtt_rows {r : RNSTool} {tables : Array NTTTables} {p : RnsPoly} (h : c05u_DivOK r p)
    (ht : r.t.WF) (hinvt : r.invQLastModT < 2^64) (htb : c05u_TablesOK r tables) :
    ∃ out, r.modTAndDivideQLastNtt tables p = .ok out ∧ out.size = r.baseQ.size ∧ ∀ i, i < r.baseQ.size - 1 →
      (out.getD i #[]).size = r.n ∧ (∀ j, j < r.n → (out.getD i #[]).getD j 0 < (r.baseQ.q i).value) ∧
      ∀ j, j < r.n → (intt (tables.getD i c05u_dflt) (out.getD i #[])).getD j 0 =
        modTDivLastCoeff r.t.value (r.baseQ.q (r.baseQ.size - 1)).value (r.baseQ.q i).value
          (r.invQLastModQ.getD i default).operand r.invQLastModT
          ((intt (tables.getD (r.baseQ.size - 1) c05u_dflt) (p.getD (r.baseQ.size - 1) #[])).getD j 0)
          ((intt (tables.getD i c05u_dflt) (p.getD i #[])).getD j 0) := by
  have hs := h.two
  have hl61 := (h.qwf (r.baseQ.size - 1) (by omega)).lt
  have ht61 := ht.lt
  have ht0 : 0 < r.t.value := by have := ht.two_le; omega
  obtain ⟨f1, f2⟩ := c05u_lastI_facts hs htb h.sz h.lt
  unfold RNSTool.modTAndDivideQLastNtt
  dsimp only
  rw [c05u_dflt_eq]
  refine ent_bind (mapM'_ent (Ent.of_size f1) fun j hj => by
    rw [barrett64_exact ht (by have := f2 j hj; omega), R.ok_bind]
    exact negateMod_exact ht (Nat.mod_lt _ ht0).le) fun neg0 h0 => ?_
  rw [R.ite_bind]
  refine ent_bind (n := r.n) (c := fun j => (((r.t.value - (intt (tables.getD (r.baseQ.size - 1) c05u_dflt)
      (p.getD (r.baseQ.size - 1) #[])).getD j 0 % r.t.value) % r.t.value) * r.invQLastModT) % r.t.value) ?_ fun neg hN => ?_
  · by_cases h1 : r.invQLastModT ≠ 1
    · rw [if_pos h1]
      exact mapM'_ent h0 fun j hj => mulMod_exact ht (by have := Nat.mod_lt (r.t.value - (intt (tables.getD (r.baseQ.size - 1) c05u_dflt)
        (p.getD (r.baseQ.size - 1) #[])).getD j 0 % r.t.value) ht0; omega) hinvt
    · rw [if_neg h1]
      exact ⟨neg0, rfl, h0.1, fun j hj => by rw [h0.2 j hj, not_not.mp h1]; dsimp only; rw [Nat.mul_one, Nat.mod_mod]⟩
  let Q : Nat → Array Nat → Prop := fun i row => row.size = r.n ∧ (∀ j, j < r.n → row.getD j 0 < (r.baseQ.q i).value) ∧
    ∀ j, j < r.n → (intt (tables.getD i c05u_dflt) row).getD j 0 =
      modTDivLastCoeff r.t.value (r.baseQ.q (r.baseQ.size - 1)).value (r.baseQ.q i).value
        (r.invQLastModQ.getD i default).operand r.invQLastModT
        ((intt (tables.getD (r.baseQ.size - 1) c05u_dflt) (p.getD (r.baseQ.size - 1) #[])).getD j 0)
        ((intt (tables.getD i c05u_dflt) (p.getD i #[])).getD j 0)
  refine rangeMapM_rows (Q := Q) _ (fun l hl => by rw [Array.size_push, List.size_toArray, hl]; omega)
    (fun G i hi => getD_push_rangeMap _ G _ _ hi) fun i hi => ?_
  obtain ⟨htw, htm, htn⟩ := htb i (by omega)
  exact c05u_mtdNtt_row (t := r.t) (h.qwf i (by omega)) (by omega) htw htm htn (h.inv i hi) hN
    (fun j _ => by have := Nat.mod_lt (((r.t.value - (intt (tables.getD (r.baseQ.size - 1) c05u_dflt)
      (p.getD (r.baseQ.size - 1) #[])).getD j 0 % r.t.value) % r.t.value) * r.invQLastModT) ht0; omega)
    (fun _ _ => rfl) (fun j hj => by have := f2 j hj; omega) (h.sz i (by omega)) (fun j hj => h.lt i j (by omega) hj)

/-- the integer the BGV division returns for the CRT value X: (X − [X]_{q_L})/q_L − [−X·q_L^{-1}]_t -/
def c05u_bgvY (t qL invt X : Nat) : Int :=
  (((X - X % qL) / qL : Nat) : Int) - (((((t - (X % qL) % t) % t) * invt) % t : Nat) : Int)

/-- `o` (NTT form, canonical) is the BGV division by the last prime of the NTT-form polynomial `p` -/
def c05u_BgvDivOfNtt (l : Level) (p o : RnsPoly) : Prop :=
  o.size = l.size - 1 ∧ ∀ i, i < l.size - 1 → (o.getD i #[]).size = l.n ∧
    (∀ j, j < l.n → (o.getD i #[]).getD j 0 < (l.q i).value) ∧
    ∀ j, j < l.n → ∀ X, c05u_IsCrt l (rnsIntt l p) j X →
      (((intt (l.tbl i) (o.getD i #[])).getD j 0 : Nat) : Int) =
        c05u_bgvY l.t.value (l.q (l.size - 1)).value l.tool.invQLastModT X % ((l.q i).value : Int)

theorem c05u_bgv_poly {l : Level} (hl : l.WF) (h : c05u_ToolOK l) (hg : c05u_BgvOK l) (h2 : 2 ≤ l.size) {p : RnsPoly}
    (hp : RnsCanon l p) :
    ∃ o, (do let o ← l.tool.modTAndDivideQLastNtt l.tables p; pure (o.extract 0 (l.size - 1))) = .ok o ∧
      c05u_BgvDivOfNtt l p o := by
  have hs := c05u_size h
  have hq := c05u_q h
  have hLwf := c05u_qwf h (show l.size - 1 < l.size by omega)
  obtain ⟨out, ho, hsz, hv⟩ := c05u_mtdNtt_rows (c05u_divOK h h2 hp) (by rw [hg.tt]; exact hg.twf)
    (by have := hg.invt_lt; have := hg.twf.lt; omega) (c05u_tables_ok hl h)
  refine ⟨out.extract 0 (l.size - 1), by rw [ho]; rfl, by rw [Array.size_extract, hsz, hs]; omega, fun i hi => ?_⟩
  obtain ⟨g1, g2, g3⟩ := hv i (by rw [hs]; exact hi)
  rw [array_getD_extract _ _ (by rw [hsz, hs]; omega) hi]
  rw [h.tn] at g1 g2 g3
  refine ⟨g1, fun j hj => by rw [← hq]; exact g2 j hj, fun j hj X hX => ?_⟩
  have e1 : l.tables.getD i c05u_dflt = l.tbl i := rfl
  have e2 : l.tables.getD (l.size - 1) c05u_dflt = l.tbl (l.size - 1) := rfl
  rw [← e1, g3 j hj, hs, hq, hq, e1, e2, hg.tt]
  have x1 := hX.2 i (by omega)
  have x2 := hX.2 (l.size - 1) (by omega)
  rw [c01o_rnsIntt_getD l p (by omega)] at x1 x2
  rw [← x1, ← x2]
  exact (modTDivLast_scalar hg.twf.two_le hLwf.two_le (c05u_qwf h (by omega)).two_le (h.inv i hi).2 hg.invt hg.invt_lt).1

/-- BGV: same shape facts, the new correction factor is cf·q_L^{-1} mod t, the result is canonical in NTT form and the
    coefficient form of every polynomial is Y mod q_i with Y = `c05u_bgvY` of the CRT value of the source's coefficient form -/
theorem c05u_scale_bgv {l : Level} (hl : l.WF) (h : c05u_ToolOK l) (hg : c05u_BgvOK l) (h2 : 2 ≤ l.size) (hs : l.scheme = .bgv)
    {ct : Ct} (hn : ct.ntt = true) (hcf : ct.cf < 2^64) (hc : c05u_CtCanon l ct) :
    ∃ ct', modSwitchScaleNext l ct = .ok ct' ∧ ct'.polys.size = ct.polys.size ∧ ct'.ntt = true ∧
      ct'.cf = (ct.cf * l.tool.invQLastModT) % l.t.value ∧
      ∀ k, k < ct.polys.size → c05u_BgvDivOfNtt l (ct.polys.getD k #[]) (ct'.polys.getD k #[]) := by
  obtain ⟨ps, h1, h3, h4⟩ := c05u_polys_mapM
    (fun p => do let o ← l.tool.modTAndDivideQLastNtt l.tables p; pure (o.extract 0 (l.size - 1)))
    (c05u_BgvDivOfNtt l) ct (fun k hk => c05u_bgv_poly hl h hg h2 (hc k hk))
  have ht61 := hg.twf.lt
  unfold modSwitchScaleNext
  rw [if_neg (by omega)]
  simp only [hs]
  rw [if_neg (by simp [hn]), h1, R.ok_bind, mulMod_exact hg.twf hcf (by have := hg.invt_lt; omega), R.ok_bind]
  exact ⟨_, rfl, h3, hn, rfl, h4⟩

theorem c05u_bgvDivNtt_canon {l l' : Level} (hn : c05u_IsNext l l') {p o : RnsPoly}
    (ho : c05u_BgvDivOfNtt l p o) : RnsCanon l' o :=
  c05u_canon_next hn ho.1 (fun i hi => ⟨(ho.2 i hi).1, (ho.2 i hi).2.1⟩)

/-! ## integer facts about the two divisions, and the phase -/

theorem c05u_bgvY_eq (t qL invt X : Nat) (hqL : 0 < qL) :
    c05u_bgvY t qL invt X = divY qL (fun b => ((c04t_bgvE qL t invt b : Nat) : Int)) X := by
  unfold c05u_bgvY
  rw [divY_bgvE hqL, show X - X % qL = qL * (X / qL) by have := Nat.div_add_mod X qL; omega, Nat.mul_div_cancel_left _ hqL,
    Int.natCast_div]
  rfl

/-- coefficient `c` of the phase c0 + c1 ⋆ s of a size-2 ciphertext over the integers (⋆ = negacyclic product, `negMulR`) -/
def c05u_phase2 (n : Nat) (c0 c1 s : Nat → Int) (c : Nat) : Int := c0 c + negMulR n c1 s c

/-- dividing every polynomial of a ciphertext divides its phase, up to the phase of the corrections `D`: for any number of
    polynomials, in any commutative ring (e.g. ℤ[X]/(X^N+1)) -/
theorem c05u_phase_switch {R : Type} [CommRing R] (m : Nat) (q : R) (X Y D : Nat → R) (s : R)
    (h : ∀ k, k < m → q * Y k = X k + D k) :
    q * ∑ k ∈ range m, Y k * s^k = ∑ k ∈ range m, X k * s^k + ∑ k ∈ range m, D k * s^k := by
  rw [Finset.mul_sum, ← Finset.sum_add_distrib]
  apply Finset.sum_congr rfl
  intro k hk
  have := h k (mem_range.mp hk)
  linear_combination s^k * this

/-! ## satisfiability of the hypothesis bundles: a concrete two-level chain q = (17, 41), t = 7 -/

def c05u_exMod (v bits : Nat) : Modulus := ⟨v, (2^128 / v) % B64, (2^128 / v) / B64, 2^128 % v, bits⟩

theorem c05u_exMod_wf (v bits : Nat) (h2 : 2 ≤ v) (h61 : v < 2^61) : (c05u_exMod v bits).WF :=
  ⟨h2, h61, Nat.mod_add_div _ _, Nat.mod_lt _ B64_pos, rfl⟩

def c05u_exOp (x q : Nat) : MulOperand := ⟨x, x * 2^64 / q⟩

def c05u_exBase2 : RNSBase :=
  ⟨#[c05u_exMod 17 5, c05u_exMod 41 6], 697, #[41, 17], #[c05u_exOp 5 17, c05u_exOp 29 41]⟩
def c05u_exBase1 : RNSBase := ⟨#[c05u_exMod 17 5], 17, #[1], #[c05u_exOp 1 17]⟩

theorem c05u_exBase2_wf : c05u_exBase2.WF := by
  have hsz : c05u_exBase2.size = 2 := rfl
  have hcases : ∀ i, i < c05u_exBase2.size → i = 0 ∨ i = 1 := by intro i hi; rw [hsz] at hi; omega
  refine ⟨by rw [hsz]; omega, by rw [hsz]; omega, ?_, rfl, rfl, ?_, ?_, ?_, ?_⟩
  · intro i hi
    rcases hcases i hi with rfl | rfl
    · exact c05u_exMod_wf 17 5 (by norm_num) (by norm_num)
    · exact c05u_exMod_wf 41 6 (by norm_num) (by norm_num)
  · intro i j hi hj hij
    rcases hcases i hi with rfl | rfl <;> rcases hcases j hj with rfl | rfl
    · exact absurd rfl hij
    · show Nat.Coprime 17 41; norm_num
    · show Nat.Coprime 41 17; norm_num
    · exact absurd rfl hij
  · rfl
  · intro i hi
    rcases hcases i hi with rfl | rfl <;> rfl
  · intro i hi
    rcases hcases i hi with rfl | rfl
    · exact ⟨⟨by show 5 < 17; omega, rfl⟩, by decide⟩
    · exact ⟨⟨by show 29 < 41; omega, rfl⟩, by decide⟩

theorem c05u_exBase1_wf : c05u_exBase1.WF :=
  (RNSBase.new_wf (ms := [c05u_exMod 17 5])
    (fun m hm => by rw [List.mem_singleton.mp hm]; exact c05u_exMod_wf 17 5 (by norm_num) (by norm_num)) (by decide) rfl).1

def c05u_exTool (b : RNSBase) (ops : Array MulOperand) (invt : Nat) : RNSTool :=
  { (default : RNSTool) with baseQ := b, n := 4, t := c05u_exMod 7 3, invQLastModQ := ops, invQLastModT := invt }

/-- the two levels of the example chain (only the fields modulus switching reads are filled in) -/
def c05u_exLevel (s : Scheme) : Nat → Level
  | 0 => { scheme := s, n := 4, k := 2, qs := #[c05u_exMod 17 5], t := c05u_exMod 7 3, tables := #[],
           tool := c05u_exTool c05u_exBase1 #[] 5 }
  | _ => { scheme := s, n := 4, k := 2, qs := #[c05u_exMod 17 5, c05u_exMod 41 6], t := c05u_exMod 7 3, tables := #[],
           tool := c05u_exTool c05u_exBase2 #[c05u_exOp 5 17] 6 }

theorem c05u_exTool1 (s : Scheme) : c05u_ToolOK (c05u_exLevel s 1) := by
  refine ⟨c05u_exBase2_wf, rfl, rfl, ?_⟩
  intro i hi
  have : i = 0 := by have : (c05u_exLevel s 1).size = 2 := rfl; omega
  subst this
  exact ⟨⟨by show 5 < 17; omega, rfl⟩, by show (5 * 41) % 17 = 1; decide⟩

theorem c05u_exTool0 (s : Scheme) : c05u_ToolOK (c05u_exLevel s 0) := by
  refine ⟨c05u_exBase1_wf, rfl, rfl, ?_⟩
  intro i hi
  have : (c05u_exLevel s 0).size = 1 := rfl
  omega

/-- `c05u_ToolOK`, `c05u_IsNext`, `c05u_ChainOK` are satisfiable (a chain with two levels) -/
theorem c05u_exChain (s : Scheme) : c05u_ChainOK (c05u_exLevel s) 1 := by
  refine ⟨fun c hc => ?_, fun c hc => ?_⟩
  · have : c = 0 := by omega
    subst this
    refine ⟨rfl, rfl, fun i hi => ?_⟩
    have : i = 0 := by have : (c05u_exLevel s 0).size = 1 := rfl; omega
    subst this; rfl
  · have : c = 0 ∨ c = 1 := by omega
    rcases this with rfl | rfl
    · exact c05u_exTool0 s
    · exact c05u_exTool1 s

/-- `c05u_BgvOK` is satisfiable: t = 7, 41^{-1} = 6 (mod 7) -/
theorem c05u_exBgv (s : Scheme) : c05u_BgvOK (c05u_exLevel s 1) :=
  ⟨rfl, c05u_exMod_wf 7 3 (by norm_num) (by norm_num), by show 6 < 7; omega, by show (6 * 41) % 7 = 1; decide⟩

def c05u_exCt : Ct := ⟨#[#[#[1, 2, 3, 4], #[5, 6, 7, 40]], #[#[16, 0, 9, 4], #[0, 33, 7, 8]]], false, 1⟩

theorem c05u_exCt_canon : c05u_CtCanon (c05u_exLevel .bfv 1) c05u_exCt := by
  intro k hk
  have : k = 0 ∨ k = 1 := by have : c05u_exCt.polys.size = 2 := rfl; omega
  rcases this with rfl | rfl
  · unfold RnsCanon; decide
  · unfold RnsCanon; decide

/-- the hypotheses of the BFV theorem are simultaneously satisfiable: a concrete instance of `modSwitchScaleNext_bfv_spec` -/
example : ∃ ct', modSwitchScaleNext (c05u_exLevel .bfv 1) c05u_exCt = .ok ct' ∧ ct'.polys.size = 2 ∧ ct'.ntt = false ∧ ct'.cf = 1 ∧
    ∀ k, k < 2 → c05u_RoundDivOf (c05u_exLevel .bfv 1) (c05u_exCt.polys.getD k #[]) (ct'.polys.getD k #[]) :=
  modSwitchScaleNext_bfv_spec (c05u_exTool1 .bfv) (by decide) rfl rfl c05u_exCt_canon

/-! ## BGV `mod_switch_to_next` and the level walk -/

/-- BGV `mod_switch_to_next`: NTT-form input and output, new correction factor cf·q_L^{-1} mod t, the output is canonical and
    its coefficient form is Y mod q_i, Y = (X − [X]_{q_L})/q_L − [−X·q_L^{-1}]_t (`c05u_BgvDivOfNtt`, `c05u_bgvY`) -/
theorem modSwitchScaleNext_bgv_spec {l : Level} (hl : l.WF) (h : c05u_ToolOK l) (hg : c05u_BgvOK l) (h2 : 2 ≤ l.size)
    (hs : l.scheme = .bgv) {ct : Ct} (hn : ct.ntt = true) (hcf : ct.cf < 2^64) (hc : c05u_CtCanon l ct) :
    ∃ ct', modSwitchScaleNext l ct = .ok ct' ∧ ct'.polys.size = ct.polys.size ∧ ct'.ntt = true ∧
      ct'.cf = (ct.cf * l.tool.invQLastModT) % l.t.value ∧
      ∀ k, k < ct.polys.size → c05u_BgvDivOfNtt l (ct.polys.getD k #[]) (ct'.polys.getD k #[]) :=
  c05u_scale_bgv hl h hg h2 hs hn hcf hc

/-- the results of the three divisions are canonical ciphertexts of the next level -/
theorem modSwitchScaleNext_next_canon {l l' : Level} (h : c05u_ToolOK l) (hn : c05u_IsNext l l') {p o : RnsPoly} :
    (RnsCanon l p → c05u_RoundDivOf l p o → RnsCanon l' o) ∧ (c05u_RoundDivOfNtt l p o → RnsCanon l' o) ∧
    (c05u_BgvDivOfNtt l p o → RnsCanon l' o) :=
  ⟨fun hp ho => c05u_roundDiv_canon h hn hp ho, fun ho => c05u_roundDivNtt_canon hn ho, fun ho => c05u_bgvDivNtt_canon hn ho⟩

/-- the level walk along `switchSteps` refuses upward targets, is the identity on the current level, and otherwise is one
    step at the current level followed by the walk from the level below (iterating "next") -/
theorem switchTo_walk (step : Level → Ct → R Ct) (chain : Nat → Level) (cur tgt : Nat) (ct : Ct) :
    (cur < tgt → c05u_switchTo step chain cur tgt ct = .error .refused) ∧
    (c05u_switchTo step chain cur cur ct = .ok ct) ∧
    (tgt < cur → c05u_switchTo step chain cur tgt ct =
      (do let c ← step (chain cur) ct; c05u_switchTo step chain (cur - 1) tgt c)) :=
  ⟨fun h => c05u_switchTo_up step chain h ct, c05u_switchTo_self step chain cur ct,
    fun h => c05u_switchTo_step step chain h ct⟩

/-- on a well-formed chain every downward walk succeeds and ends exactly on the target level (canonical there), for the plain
    drop and for the three scheme-specific switches -/
theorem switchTo_ends_on_target {chain : Nat → Level} {top : Nat} (hch : c05u_ChainOK chain top) {cur tgt : Nat}
    (hcur : cur ≤ top) (ht : tgt ≤ cur) {ct : Ct} (hc : c05u_CtCanon (chain cur) ct) :
    ((∀ c, c ≤ top → (chain c).scheme = .ckks → ct.ntt = true) →
      ∃ ct', c05u_switchTo modSwitchDropNext chain cur tgt ct = .ok ct' ∧ c05u_CtCanon (chain tgt) ct' ∧
        ct'.ntt = ct.ntt ∧ ct'.cf = ct.cf ∧ ct'.polys.size = ct.polys.size) ∧
    ((∀ c, c ≤ top → (chain c).scheme = .bfv) → ct.ntt = false →
      ∃ ct', c05u_switchTo modSwitchScaleNext chain cur tgt ct = .ok ct' ∧ c05u_CtCanon (chain tgt) ct' ∧
        ct'.ntt = false ∧ ct'.cf = ct.cf ∧ ct'.polys.size = ct.polys.size) ∧
    ((∀ c, c ≤ top → (chain c).WF) → (∀ c, c ≤ top → (chain c).scheme = .ckks) → ct.ntt = true →
      ∃ ct', c05u_switchTo modSwitchScaleNext chain cur tgt ct = .ok ct' ∧ c05u_CtCanon (chain tgt) ct' ∧
        ct'.ntt = true ∧ ct'.cf = ct.cf ∧ ct'.polys.size = ct.polys.size) ∧
    ((∀ c, c ≤ top → (chain c).WF) → (∀ c, c ≤ top → c05u_BgvOK (chain c)) → (∀ c, c ≤ top → (chain c).scheme = .bgv) →
      ct.ntt = true → ct.cf < 2^64 →
      ∃ ct', c05u_switchTo modSwitchScaleNext chain cur tgt ct = .ok ct' ∧ c05u_CtCanon (chain tgt) ct' ∧
        ct'.ntt = true ∧ ct'.cf < 2^64 ∧ ct'.polys.size = ct.polys.size) := by
  refine ⟨fun hs => ?_, fun hs hn => ?_, fun hwf hs hn => ?_, fun hwf hbg hs hn hcf => ?_⟩
  · refine c05u_switchTo_canon modSwitchDropNext chain
      (fun x => x.ntt = ct.ntt ∧ x.cf = ct.cf ∧ x.polys.size = ct.polys.size)
      (fun c x hct hx ⟨h3, h4, h5⟩ => ?_) hcur ht hc ⟨rfl, rfl, rfl⟩
    obtain ⟨x', e1, e2, e3, e4, -, e6⟩ := modSwitchDropNext_spec (c05u_chain_size hch hct)
      (fun hck => by rw [h3]; exact hs (c + 1) hct hck) hx
    exact ⟨x', e1, e6 _ (hch.next c hct), by rw [e3, h3], by rw [e4, h4], by rw [e2, h5]⟩
  · refine c05u_switchTo_canon modSwitchScaleNext chain
      (fun x => x.ntt = false ∧ x.cf = ct.cf ∧ x.polys.size = ct.polys.size)
      (fun c x hct hx ⟨h3, h4, h5⟩ => ?_) hcur ht hc ⟨hn, rfl, rfl⟩
    obtain ⟨x', e1, e2, e3, e4, e5⟩ := modSwitchScaleNext_bfv_spec (hch.tool (c + 1) hct) (c05u_chain_size hch hct)
      (hs (c + 1) hct) h3 hx
    refine ⟨x', e1, fun k hk => ?_, e3, by rw [e4, h4], by rw [e2, h5]⟩
    rw [e2] at hk
    exact c05u_roundDiv_canon (hch.tool (c + 1) hct) (hch.next c hct) (hx k hk) (e5 k hk)
  · refine c05u_switchTo_canon modSwitchScaleNext chain
      (fun x => x.ntt = true ∧ x.cf = ct.cf ∧ x.polys.size = ct.polys.size)
      (fun c x hct hx ⟨h3, h4, h5⟩ => ?_) hcur ht hc ⟨hn, rfl, rfl⟩
    obtain ⟨x', e1, e2, e3, e4, e5⟩ := modSwitchScaleNext_ckks_spec (hwf (c + 1) hct) (hch.tool (c + 1) hct)
      (c05u_chain_size hch hct) (hs (c + 1) hct) h3 hx
    refine ⟨x', e1, fun k hk => ?_, e3, by rw [e4, h4], by rw [e2, h5]⟩
    rw [e2] at hk
    exact c05u_roundDivNtt_canon (hch.next c hct) (e5 k hk)
  · refine c05u_switchTo_canon modSwitchScaleNext chain
      (fun x => x.ntt = true ∧ x.cf < 2^64 ∧ x.polys.size = ct.polys.size)
      (fun c x hct hx ⟨h3, h4, h5⟩ => ?_) hcur ht hc ⟨hn, hcf, rfl⟩
    obtain ⟨x', e1, e2, e3, e4, e5⟩ := c05u_scale_bgv (hwf (c + 1) hct) (hch.tool (c + 1) hct) (hbg (c + 1) hct)
      (c05u_chain_size hch hct) (hs (c + 1) hct) h3 h4 hx
    refine ⟨x', e1, fun k hk => ?_, e3, ?_, by rw [e2, h5]⟩
    · rw [e2] at hk
      exact c05u_bgvDivNtt_canon (hch.next c hct) (e5 k hk)
    · -- the new correction factor is reduced modulo t < 2^61
      rw [e4]
      have h61 := (hbg (c + 1) hct).twf.lt
      have := Nat.mod_lt (x.cf * (chain (c + 1)).tool.invQLastModT) (show 0 < (chain (c + 1)).t.value by
        have := (hbg (c + 1) hct).twf.two_le; omega)
      omega

end HC
