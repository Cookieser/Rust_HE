/-
  C20K: the BOLT slot-packing helpers (model: `Model/Matmul.lean`, section "BOLT slot packing") — the index algebra of their rotation
  schedules.  A slot vector has two rows of `H = N/2` slots and is read in (column, entry) coordinates, `slot = column·gap + entry`;
  a step of a schedule is followed through the map it applies to the slot index, and the sums are re-indexed at the end.

    * `boltShift half k rot`, the column found at column `k` after a rotation by `rot` columns with the row exchange at every
      multiple of `half`: its two digits, the steps `0`, `half`, `+1`, injectivity, additivity as long as nothing carries into the
      row digit, and the re-indexing of a sum over all total rotations (`c20_bolt_bsgs_sum`);
    * `c20_rho H a`, `c20_sigma H`: the slot that `rotRows` by `a` / `swapRows` reads at a slot (`c20_rotRows_get`,
      `c20_swapRows_get`), their composition, their (column, entry) forms, and the rotations that stay inside a column
      (`c20_rho_cyc`: the cyclic shift of the cc helpers);
    * `c20_boltCpRotIn_col`: the baby steps of `bolt_cp`.

  `rotRows` / `swapRows` are the model's slot actions of `rotate_rows` / `rotate_columns`.  What C04R proves of the evaluator's
  rotations (`batchDecode_rotate_rows`, `batchDecode_swap_rows`) is stated with its own index maps `c04r_rotIdx`, `c04r_swapIdx`;
  `c20_rho (2^k / 2) s` and `c04r_rotIdx k s` are the same function by their definitions, and no theorem joins the two: the C20
  statements are about the model's slot vectors, which the driver compares with the code.
-/
import Heathcliff.Proofs.C20A
import Mathlib.Algebra.BigOperators.Fin
import Mathlib.Data.Fintype.BigOperators
namespace HC
open Finset HC.MM

/-! ### `boltShift` -/

theorem c20_boltShift_split (half k rot : Nat) (hh : 0 < half) :
    boltShift half k rot / half = (rot / half + k / half) % 2 ∧ boltShift half k rot % half = (rot + k) % half := by
  unfold boltShift
  have h1 := Nat.mod_lt (rot + k) hh
  rw [Nat.add_comm]
  exact ⟨grid_div _ h1, grid_mod _ h1⟩

theorem c20_boltShift_lt (half k rot : Nat) (hh : 0 < half) : boltShift half k rot < 2 * half := by
  unfold boltShift
  have h1 := Nat.mod_lt (rot + k) hh
  have h2 : (rot / half + k / half) % 2 < 2 := Nat.mod_lt _ (by decide)
  have h3 : (rot / half + k / half) % 2 * half ≤ 1 * half := Nat.mul_le_mul_right _ (by omega)
  omega

theorem c20_div_half {half x : Nat} (h1 : half ≤ x) (h2 : x < 2 * half) : x / half = 1 :=
  Nat.div_eq_of_lt_le (by omega) (by omega)

theorem c20_shift_zero {half c : Nat} (hh : 0 < half) (hc : c < 2 * half) : boltShift half c 0 = c := by
  unfold boltShift
  rw [Nat.zero_add, Nat.zero_div, Nat.zero_add]
  have h2 : c / half < 2 := by rw [Nat.div_lt_iff_lt_mul hh]; omega
  rw [Nat.mod_eq_of_lt h2]
  have := Nat.div_add_mod' c half
  omega

theorem c20_shift_half {half c : Nat} (hh : 0 < half) (hc : c < 2 * half) : boltShift half c half = (c + half) % (2 * half) := by
  unfold boltShift
  rw [Nat.add_mod_left, Nat.div_self hh]
  rcases Nat.lt_or_ge c half with h | h
  · rw [Nat.div_eq_of_lt h, Nat.mod_eq_of_lt h, Nat.mod_eq_of_lt (by omega : c + half < 2 * half)]
    simp
  · have d : c / half = 1 := c20_div_half h hc
    have m1 : c % half = c - half := by rw [Nat.mod_eq_sub_mod h]; exact Nat.mod_eq_of_lt (by omega)
    have m2 : (c + half) % (2 * half) = c - half := by
      have e : c + half = c - half + 2 * half := by omega
      rw [e, Nat.add_mod_right]; exact Nat.mod_eq_of_lt (by omega)
    rw [d, m1, m2]
    simp

theorem c20_shift_step {half c ir : Nat} (hh : 0 < half) (hir : ir + 1 < 2 * half) (hne : ir + 1 ≠ half) :
    boltShift half (c / half * half + (c % half + 1) % half) ir = boltShift half c (ir + 1) := by
  have d1 := grid_div (c / half) (Nat.mod_lt (c % half + 1) hh); have d2 := grid_mod (c / half) (Nat.mod_lt (c % half + 1) hh)
  unfold boltShift
  rw [d1]
  have e1 : (ir + (c / half * half + (c % half + 1) % half)) % half = (ir + 1 + c) % half := by
    have a1 : ir + (c / half * half + (c % half + 1) % half) = ir + (c % half + 1) % half + c / half * half := by ring
    rw [a1, Nat.add_mul_mod_self_right, Nat.add_mod_mod]
    have h1 : c % half ≡ c [MOD half] := Nat.mod_modEq c half
    have h2 : ir + (c % half + 1) ≡ ir + (c + 1) [MOD half] := Nat.ModEq.add_left ir (Nat.ModEq.add_right 1 h1)
    have e : ir + (c + 1) = ir + 1 + c := by ring
    rw [e] at h2; exact h2
  have e2 : ir / half = (ir + 1) / half := by
    rcases Nat.lt_or_ge (ir + 1) half with h | h
    · rw [Nat.div_eq_of_lt h, Nat.div_eq_of_lt (by omega)]
    · rw [c20_div_half (by omega) (by omega), c20_div_half h hir]
  rw [e1, e2]

theorem c20_boltShift_inj {half rot k k' : Nat} (hh : 0 < half) (hk : k < 2 * half) (hk' : k' < 2 * half)
    (h : boltShift half k rot = boltShift half k' rot) : k = k' := by
  obtain ⟨d1, m1⟩ := c20_boltShift_split half k rot hh
  obtain ⟨d2, m2⟩ := c20_boltShift_split half k' rot hh
  rw [h, d2] at d1
  rw [h, m2] at m1
  have hm : k % half = k' % half := by
    have : rot + k' ≡ rot + k [MOD half] := m1
    exact (Nat.ModEq.add_left_cancel' rot this).symm
  have hq : k / half < 2 := by rw [Nat.div_lt_iff_lt_mul hh]; omega
  have hq' : k' / half < 2 := by rw [Nat.div_lt_iff_lt_mul hh]; omega
  have hd : k / half = k' / half := by
    generalize rot / half = A at d1
    generalize k / half = B at d1 hq ⊢
    generalize k' / half = B' at d1 hq' ⊢
    omega
  have e1 := Nat.div_add_mod' k half
  have e2 := Nat.div_add_mod' k' half
  rw [hd, hm] at e1
  omega

/-- shifts compose additively as long as the column parts do not carry into the row part -/
theorem c20_boltShift_add {half k a b : Nat} (hh : 0 < half) (hnc : a % half + b % half < half) :
    boltShift half (boltShift half k a) b = boltShift half k (a + b) := by
  obtain ⟨d, m⟩ := c20_boltShift_split half k a hh
  have hdiv : (a + b) / half = a / half + b / half := by
    rw [Nat.add_div hh, if_neg (Nat.not_le.mpr hnc), Nat.add_zero]
  show (b + boltShift half k a) % half + (b / half + boltShift half k a / half) % 2 * half
    = (a + b + k) % half + ((a + b) / half + k / half) % 2 * half
  rw [← Nat.add_mod_mod b, m, Nat.add_mod_mod, d, Nat.add_mod_mod, hdiv]
  congr 2
  · rw [Nat.add_left_comm, Nat.add_assoc]
  · rw [Nat.add_left_comm, Nat.add_assoc]

/-- a rotation by fewer than `half` columns inside the row is a shift -/
theorem c20_rowrot_eq_shift {half c a : Nat} (hh : 0 < half) (hc : c < 2 * half) (ha : a < half) :
    c / half * half + (c % half + a) % half = boltShift half c a := by
  have hq : c / half < 2 := by rw [Nat.div_lt_iff_lt_mul hh]; omega
  unfold boltShift
  rw [Nat.div_eq_of_lt ha, Nat.zero_add, Nat.mod_eq_of_lt hq, Nat.add_comm (c / half * half), Nat.add_comm (c % half), Nat.add_mod_mod]

/-- shifting by a multiple of `irc` and then by less than `irc` is the shift by the sum (no carry: `irc` divides `half`) -/
theorem c20_boltShift_comp {half irc h2 k or ir : Nat} (hhalf : half = irc * h2) (hh : 0 < half) (hir : ir < irc) :
    boltShift half (boltShift half k (or * irc)) ir = boltShift half k (or * irc + ir) := by
  refine c20_boltShift_add hh ?_
  -- `or·irc mod half` is a multiple of `irc` below `half`
  have hirc : 0 < irc := by omega
  have h2pos : 0 < h2 := Nat.pos_of_ne_zero fun h => by rw [h, Nat.mul_zero] at hhalf; omega
  have e : or * irc % half = or % h2 * irc := by
    rw [hhalf, Nat.mul_comm or irc, Nat.mul_mod_mul_left, Nat.mul_comm]
  have := grid_succ_le (B := irc) (Nat.mod_lt or h2pos)
  rw [e, Nat.mod_eq_of_lt (lt_of_lt_of_le hir (hhalf ▸ Nat.le_mul_of_pos_right irc h2pos)), hhalf, Nat.mul_comm irc h2]
  omega

/-- summing over a rotation of `range n` -/
theorem c20_sum_rot {M : Type} [AddCommMonoid M] (g : Nat → M) (n k : Nat) :
    ∑ p ∈ range n, g ((p + k) % n) = ∑ c ∈ range n, g c := by
  cases n with
  | zero => simp
  | succ m =>
    rw [Finset.sum_range, Finset.sum_range]
    let k' : Fin (m + 1) := ⟨k % (m + 1), Nat.mod_lt _ (Nat.succ_pos m)⟩
    have : ∀ i : Fin (m + 1), g ((i.val + k) % (m + 1)) = (fun j : Fin (m + 1) => g j.val) (i + k') := by
      intro i
      show _ = g ((i + k').val)
      rw [Fin.val_add]
      show _ = g ((i.val + k % (m + 1)) % (m + 1))
      rw [Nat.add_mod_mod]
    rw [Finset.sum_congr rfl (fun i _ => this i)]
    exact Equiv.sum_comp (Equiv.addRight k') (fun j : Fin (m + 1) => g j.val)

/-- **baby-step / giant-step re-indexing**: as the total rotation runs over all `s = 2·half` values, the column read at column `k`
    runs over all columns exactly once -/
theorem c20_bolt_bsgs_sum {M : Type} [AddCommMonoid M] (f : Nat → M) (half k : Nat) (hh : 0 < half) :
    ∑ rot ∈ range (2 * half), f (boltShift half k rot) = ∑ c ∈ range (2 * half), f c := by
  have key : ∀ (F : Nat → M), ∑ x ∈ range (2 * half), F x = ∑ q ∈ range 2, ∑ p ∈ range half, F (q * half + p) := by
    intro F
    rw [Finset.sum_range_succ, Finset.sum_range_succ, Finset.sum_range_zero, zero_add, two_mul, Finset.sum_range_add]
    simp
  rw [key, key f]
  have e : ∀ q p, p < half → boltShift half k (q * half + p) = (q + k / half) % 2 * half + (p + k) % half := by
    intro q p hp
    unfold boltShift
    have d1 := grid_div q hp
    rw [d1, Nat.add_comm ((q * half + p + k) % half)]
    congr 1
    rw [Nat.add_assoc, Nat.add_comm (q * half), Nat.add_mul_mod_self_right]
  have step1 : ∀ q, ∑ p ∈ range half, f (boltShift half k (q * half + p)) = ∑ c ∈ range half, f ((q + k / half) % 2 * half + c) := by
    intro q
    rw [Finset.sum_congr rfl (fun p hp => by rw [e q p (Finset.mem_range.mp hp)])]
    exact c20_sum_rot (fun c => f ((q + k / half) % 2 * half + c)) half k
  rw [Finset.sum_congr rfl (fun q _ => step1 q)]
  exact c20_sum_rot (fun b => ∑ c ∈ range half, f (b * half + c)) 2 (k / half)

/-! ### the slot maps of `rotRows` and `swapRows` -/

/-- column arithmetic: `(x·gap + j) mod (w·gap) = (x mod w)·gap + j` and the quotient is `x / w` -/
theorem c20_col_divmod {x w gap j : Nat} (hw : 0 < w) (hj : j < gap) :
    (x * gap + j) / (w * gap) = x / w ∧ (x * gap + j) % (w * gap) = x % w * gap + j := by
  have h1 : x % w * gap + j < w * gap := grid_lt (Nat.mod_lt x hw) hj
  have e : x * gap + j = x / w * (w * gap) + (x % w * gap + j) := by
    have := Nat.div_add_mod' x w
    calc x * gap + j = (x / w * w + x % w) * gap + j := by rw [this]
      _ = _ := by ring
  rw [e]
  exact ⟨grid_div _ h1, grid_mod _ h1⟩

variable {α : Type}

/-- the slot read by `rotate_rows` by `a` slots at slot `p` (two rows of `H` slots) -/
def c20_rho (H a p : Nat) : Nat := p / H * H + (p % H + a) % H

/-- the slot read by `rotate_columns` at slot `p` -/
def c20_sigma (H p : Nat) : Nat := (p + H) % (2 * H)

theorem c20_rotRows_get (z : α) (H a : Nat) (v : Array α) {p : Nat} (hp : p < 2 * H) :
    (rotRows z (2 * H) a v).getD p z = v.getD (c20_rho H a p) z := by
  unfold rotRows
  rw [array_getD_ofFn _ _ hp]
  simp only [Nat.mul_div_cancel_left _ (by decide : 0 < 2)]
  rfl

theorem c20_swapRows_get (z : α) (H : Nat) (v : Array α) {p : Nat} (hp : p < 2 * H) :
    (swapRows z (2 * H) v).getD p z = v.getD (c20_sigma H p) z := by
  unfold swapRows
  rw [array_getD_ofFn _ _ hp]
  simp only [Nat.mul_div_cancel_left _ (by decide : 0 < 2)]
  rfl

theorem c20_rho_lt {H a p : Nat} (hH : 0 < H) (hp : p < 2 * H) : c20_rho H a p < 2 * H := by
  unfold c20_rho
  have h1 : p / H < 2 := by rw [Nat.div_lt_iff_lt_mul hH]; omega
  have h2 := Nat.mod_lt (p % H + a) hH
  have h3 := grid_succ_le (B := H) h1
  omega

theorem c20_sigma_lt {H p : Nat} (hH : 0 < H) : c20_sigma H p < 2 * H := Nat.mod_lt _ (by omega)

theorem c20_rho_divmod {H a p : Nat} (hH : 0 < H) : c20_rho H a p / H = p / H ∧ c20_rho H a p % H = (p % H + a) % H :=
  ⟨grid_div _ (Nat.mod_lt _ hH), grid_mod _ (Nat.mod_lt _ hH)⟩

theorem c20_rho_rho {H a b p : Nat} (hH : 0 < H) : c20_rho H a (c20_rho H b p) = c20_rho H (b + a) p := by
  obtain ⟨d, m⟩ := c20_rho_divmod (a := b) (p := p) hH
  show c20_rho H b p / H * H + (c20_rho H b p % H + a) % H = _
  rw [d, m, Nat.mod_add_mod, Nat.add_assoc]
  rfl

theorem c20_rho_iter {H a p : Nat} (hH : 0 < H) (hp : p < 2 * H) : ∀ k, (c20_rho H a)^[k] p = c20_rho H (k * a) p
  | 0 => by
    show p = p / H * H + (p % H + 0 * a) % H
    rw [Nat.zero_mul, Nat.add_zero, Nat.mod_mod, Nat.div_add_mod']
  | k+1 => by
    rw [Function.iterate_succ_apply', c20_rho_iter hH hp k, c20_rho_rho hH, Nat.succ_mul]

theorem c20_rho_iter_col {half gap irc : Nat} (hh : 0 < half) (a c t : Nat) (hc : c < 2 * half) (ht : t < gap) :
    (c20_rho (half * gap) (irc * gap))^[a] (c * gap + t) = (c / half * half + (c % half + a * irc) % half) * gap + t := by
  have hg : 0 < gap := by omega
  have hp : c * gap + t < 2 * (half * gap) := by rw [← Nat.mul_assoc]; exact grid_lt hc ht
  rw [c20_rho_iter (Nat.mul_pos hh hg) hp]
  unfold c20_rho
  obtain ⟨d1, d2⟩ := c20_col_divmod (x := c) (w := half) hh ht
  rw [d1, d2]
  have e : c % half * gap + t + a * (irc * gap) = (c % half + a * irc) * gap + t := by ring
  rw [e, (c20_col_divmod (x := c % half + a * irc) (w := half) hh ht).2]
  ring

theorem c20_sigma_col {half gap : Nat} (hh : 0 < half) (c t : Nat) (ht : t < gap) :
    c20_sigma (half * gap) (c * gap + t) = (c + half) % (2 * half) * gap + t := by
  unfold c20_sigma
  have e : c * gap + t + half * gap = (c + half) * gap + t := by ring
  rw [e, ← Nat.mul_assoc, (c20_col_divmod (x := c + half) (w := 2 * half) (by omega) ht).2]

/-- `rotate_rows` by `a` columns, read at column `c`, entry `j`: the column `a` places further in the same row -/
theorem c20_rotRows_col (zero : α) (half gap a c j : Nat) (v : Array α) (hh : 0 < half) (hc : c < 2 * half) (hj : j < gap) :
    (rotRows zero (2 * half * gap) (a * gap) v).getD (c * gap + j) zero
      = v.getD ((c / half * half + (c % half + a) % half) * gap + j) zero := by
  have hp : c * gap + j < 2 * (half * gap) := by rw [← Nat.mul_assoc]; exact grid_lt hc hj
  have := c20_rho_iter_col (irc := a) hh 1 c j hc hj
  rw [Function.iterate_one, Nat.one_mul] at this
  rw [Nat.mul_assoc, c20_rotRows_get zero _ _ v hp, this]

/-- `rotate_columns`, read at column `c`: the same column of the other row -/
theorem c20_swapRows_col (zero : α) (half gap c j : Nat) (v : Array α) (hh : 0 < half) (hc : c < 2 * half) (hj : j < gap) :
    (swapRows zero (2 * half * gap) v).getD (c * gap + j) zero = v.getD ((c + half) % (2 * half) * gap + j) zero := by
  have hp : c * gap + j < 2 * (half * gap) := by rw [← Nat.mul_assoc]; exact grid_lt hc hj
  rw [Nat.mul_assoc, c20_swapRows_get zero _ v hp, c20_sigma_col hh c j hj]

/-! ### rotations that stay inside a column -/

theorem c20_rho_incol_add {half gap : Nat} (hh : 0 < half) {c t a : Nat} (ht : t + a < gap) :
    c20_rho (half * gap) a (c * gap + t) = c * gap + (t + a) := by
  unfold c20_rho
  obtain ⟨d1, d2⟩ := c20_col_divmod (x := c) (w := half) (j := t) (gap := gap) hh (lt_of_le_of_lt (Nat.le_add_right _ _) ht)
  rw [d1, d2]
  have hlt : c % half * gap + t + a < half * gap := by rw [Nat.add_assoc]; exact grid_lt (Nat.mod_lt c hh) ht
  rw [Nat.mod_eq_of_lt hlt]
  have := Nat.div_add_mod' c half
  calc c / half * (half * gap) + (c % half * gap + t + a) = (c / half * half + c % half) * gap + (t + a) := by ring
    _ = _ := by rw [this]

theorem c20_rho_incol_sub {half gap : Nat} (hh : 0 < half) {c t d : Nat} (ht : t < gap) (hd : d ≤ t) :
    c20_rho (half * gap) (half * gap - d) (c * gap + t) = c * gap + (t - d) := by
  unfold c20_rho
  obtain ⟨d1, d2⟩ := c20_col_divmod (x := c) (w := half) (j := t) hh ht
  rw [d1, d2]
  have hlt : c % half * gap + t < half * gap := grid_lt (Nat.mod_lt c hh) ht
  have e : c % half * gap + t + (half * gap - d) = c % half * gap + (t - d) + half * gap := by omega
  rw [e, Nat.add_mod_right, Nat.mod_eq_of_lt (lt_of_le_of_lt (Nat.add_le_add_left (Nat.sub_le _ _) _) hlt)]
  have := Nat.div_add_mod' c half
  calc c / half * (half * gap) + (c % half * gap + (t - d)) = (c / half * half + c % half) * gap + (t - d) := by ring
    _ = _ := by rw [this]

theorem c20_wrap_mod {m s u : Nat} (hs : s < m) (hu : u < m) (h : m - s ≤ u) : (u + s) % m = u - (m - s) := by
  have e : u + s = (u - (m - s)) + m := by omega
  rw [e, Nat.add_mod_right, Nat.mod_eq_of_lt (by omega)]

/-- a cyclic shift by `sh` inside the first `m` entries of a column, as `multiply` of the cc helpers realises it: the entries below
    `m − sh` are reached by the rotation by `sh` slots, the others by the rotation by `−(m − sh)` slots -/
theorem c20_rho_cyc {half gap m sh c u : Nat} (hh : 0 < half) (hm : m ≤ gap) (hsh : sh < m) (hu : u < m) :
    c20_rho (half * gap) (if u < m - sh then sh % (half * gap) else (half * gap - (m - sh) % (half * gap)) % (half * gap))
      (c * gap + u) = c * gap + (u + sh) % m := by
  have hgH : gap ≤ half * gap := Nat.le_mul_of_pos_left _ hh
  split
  · rename_i hlo
    rw [Nat.mod_eq_of_lt (by omega), c20_rho_incol_add hh (by omega), Nat.mod_eq_of_lt (by omega)]
  · rename_i hhi
    rw [Nat.mod_eq_of_lt (by omega : m - sh < half * gap), Nat.mod_eq_of_lt (by omega), c20_rho_incol_sub hh (by omega) (by omega),
      c20_wrap_mod hsh hu (by omega)]

/-! ### the baby steps of `bolt_cp` -/

/-- **the baby steps**: after `ir` steps of the input-rotation loop (one column per step, reload with the rows exchanged at `s/2`) the
    polynomial holds at column `c` the original column `boltShift half c ir` -/
theorem c20_boltCpRotIn_col (h : BoltCp) (zero : α) (half : Nat) (hh : 0 < half) (hs : h.s = 2 * half) (hN : h.N = 2 * half * h.gap)
    (a : Array α) : ∀ ir, ir < 2 * half → ∀ c j, c < 2 * half → j < h.gap →
      (boltCpRotIn h zero a ir).getD (c * h.gap + j) zero = a.getD (boltShift half c ir * h.gap + j) zero := by
  have hs2 : h.s / 2 = half := by rw [hs, Nat.mul_div_cancel_left _ (by decide : 0 < 2)]
  intro ir
  induction ir with
  | zero =>
    intro _ c j hc hj
    rw [c20_shift_zero hh hc]; rfl
  | succ ir ih =>
    intro hir c j hc hj
    unfold boltCpRotIn
    rw [hs2, hN]
    split
    · rename_i heq
      rw [c20_swapRows_col zero half h.gap c j a hh hc hj, heq, c20_shift_half hh hc]
    · rename_i hne
      have := c20_rotRows_col zero half h.gap 1 c j (boltCpRotIn h zero a ir) hh hc hj
      rw [Nat.one_mul] at this
      rw [this]
      have hc' : c / half * half + (c % half + 1) % half < 2 * half := by
        have h2 : c / half < 2 := by rw [Nat.div_lt_iff_lt_mul hh]; omega
        have := grid_succ_le (B := half) h2
        have := Nat.mod_lt (c % half + 1) hh
        omega
      rw [ih (by omega) _ j hc' hj, c20_shift_step hh hir hne]

end HC
