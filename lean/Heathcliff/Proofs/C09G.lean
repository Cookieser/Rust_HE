/- C09 part G: link between the tables built by `NTTTables.new` and the hypotheses of the generic theorems, and the
   final API-level theorems about `ntt`, `nttLazy`, `intt`, `inttLazy`, `dyadicProduct`, among them the linearity of
   `intt` over ZMod q (`intt_lin`, `intt_affine`). -/
import Heathcliff.Proofs.C09D
import Heathcliff.Proofs.C09E
import Heathcliff.Proofs.C09F
namespace HC
open Finset

/-- what `NTTTables::new` establishes about its tables.  `klt`: k ≤ 60 (hypothesis of `NTTTables.new_wf_u64`; the model's
    constructor puts no bound on `k`).  Used of it: `2N < 2^64`, the exponent in `isPrimitiveRoot` (`exponentiateMod` runs 64 rounds),
    `N < 2^63` for `tryInvert`, and `k < 64` for the shift `1 << k` of the generated code.  Entry 0 of either table is never read: layer l of the forward network
    reads `rootPowers[2^l + i]`, the inverse network `invRootPowers[N - 2m + 1 + i]`, both ≥ 1; hence `0 < j`.  `rootPowers[j] = ψ^brev(j)`
    is the bit-reversed order of `NTTTables::new`; `invRootPowers[p] = ψ⁻¹^(brev(p-1)+1)` is its "scrambled" order (the inverse powers are
    stored shifted by one so that the inverse network reads them sequentially). -/
structure NTTTables.WF (t : NTTTables) : Prop where
  mwf : t.modulus.WF
  klt : 2^(t.k+1) < 2^62
  root_lt : t.root < t.modulus.value
  root_pow : t.root ^ (2^t.k) % t.modulus.value = t.modulus.value - 1
  rp_size : t.rootPowers.size = 2^t.k
  rp : ∀ j, 0 < j → j < 2^t.k → WFOp t.modulus (arrFn t.rootPowers j) ∧
        (arrFn t.rootPowers j).operand = t.root ^ (brev t.k j) % t.modulus.value
  irp_size : t.invRootPowers.size = 2^t.k
  irp : ∃ ri, ri < t.modulus.value ∧ (t.root * ri) % t.modulus.value = 1 ∧
        ∀ p, 0 < p → p < 2^t.k → WFOp t.modulus (arrFn t.invRootPowers p) ∧
          (arrFn t.invRootPowers p).operand = ri ^ (brev t.k (p-1) + 1) % t.modulus.value
  inv_deg : WFOp t.modulus t.invDegree ∧ (t.invDegree.operand * 2^t.k) % t.modulus.value = 1

/-! ### TABLE LINK

  A successful `NTTTables.new` yields well-formed tables (`NTTTables.new_wf_u64`) PROVIDED `root0 < 2^64`.  Without that
  bound the claim (`NTTTables.new_wf_Statement : Prop`) is FALSE and is refuted (`NTTTables.new_wf_Statement_false`): the
  model takes `root0` as an unbounded natural number whereas the code takes a `u64`; for `root0 ≥ 2^64` the 128-bit Barrett
  reduction inside `mulMod` receives a high word ≥ 2^64 and wraps, so `isPrimitiveRoot` can accept a value that is
  not a primitive root.  Witness: k = 1, q = 1152921504606846869, root0 = 121844678647361623314922772 (≈ 2^86.7):
  `NTTTables.new` succeeds with root = 880585176969361125, root^2 mod q = 10271 ≠ q - 1.

  The Boolean `pr` is the model's argument `isPrime` of `NTTTables.new`: the verdict of `modulus.is_prime()` that the code
  caches in the `Modulus` (Miller–Rabin).  The theorems below return `pr = true` — the constructor refuses when it is handed
  `false` — and say nothing about `Nat.Prime m.value`: no theorem ties the cached verdict to primality. -/

theorem arrFn_setIfInBounds_ne {α : Type} [Inhabited α] (tbl : Array α) {i j : Nat} (e : α) (hne : i ≠ j) :
    arrFn (tbl.setIfInBounds i e) j = arrFn tbl j := by
  by_cases hj : j < tbl.size <;> simp [arrFn, Array.getD, hj, hne]

theorem fill_spec {m : Modulus} (hm : m.WF) {op : MulOperand} (hop : WFOp m op) (idx : Nat → Nat) :
    ∀ (cnt i power : Nat) (tbl : Array MulOperand), power = op.operand ^ i % m.value →
      ∃ tbl', NTTTables.new.fill m tbl op idx cnt i power = .ok tbl' ∧ tbl'.size = tbl.size ∧
        (∀ j, (∀ a, i ≤ a → a < i + cnt → idx a ≠ j) → arrFn tbl' j = arrFn tbl j) ∧
        ((∀ a b, i ≤ a → a < i + cnt → i ≤ b → b < i + cnt → idx a = idx b → a = b) →
         (∀ a, i ≤ a → a < i + cnt → idx a < tbl.size) →
         ∀ a, i ≤ a → a < i + cnt → WFOp m (arrFn tbl' (idx a)) ∧
            (arrFn tbl' (idx a)).operand = op.operand ^ a % m.value) := by
  have hq2 := hm.two_le
  have hq61 := hm.lt
  intro cnt
  induction cnt with
  | zero =>
    intro i power tbl _
    refine ⟨tbl, rfl, rfl, fun j _ => rfl, ?_⟩
    intro _ _ a h1 h2; omega
  | succ cnt ih =>
    intro i power tbl hpow
    have hplt : power < m.value := by rw [hpow]; exact Nat.mod_lt _ (by omega)
    obtain ⟨e, he, -, -⟩ := mulOperand_new hm hplt
    obtain ⟨hwf, he1⟩ := WFOp.of_new hm hplt he
    have hstep : mulOperandMod power op m = .ok ((power * op.operand) % m.value) :=
      mulOperandMod_exact hm (by omega) hop.1 (WFOp.new_eq hm hop)
    have hpow' : (power * op.operand) % m.value = op.operand ^ (i+1) % m.value := by
      rw [hpow, pow_succ, Nat.mod_mul_mod]
    obtain ⟨tbl', h1, h2, h3, h4⟩ := ih (i+1) _ (tbl.setIfInBounds (idx i) e) hpow'
    refine ⟨tbl', ?_, ?_, ?_, ?_⟩
    · rw [NTTTables.new.fill]
      simp only [bind, Except.bind, he, hstep]
      exact h1
    · rw [h2, Array.size_setIfInBounds]
    · intro j hj
      rw [h3 j (fun a ha1 ha2 => hj a (by omega) (by omega))]
      have hne : idx i ≠ j := hj i (le_refl _) (by omega)
      exact arrFn_setIfInBounds_ne _ _ hne
    · intro hinj hbd a ha1 ha2
      rcases Nat.eq_or_lt_of_le ha1 with heq | hlt
      · subst heq
        have hun : arrFn tbl' (idx i) = arrFn (tbl.setIfInBounds (idx i) e) (idx i) := by
          apply h3
          intro a ha1 ha2 heq
          have := hinj a i (by omega) (by omega) (le_refl _) (by omega) heq
          omega
        have hb := hbd i (le_refl _) (by omega)
        have hval : arrFn (tbl.setIfInBounds (idx i) e) (idx i) = e := by
          simp [arrFn, Array.getD, hb]
        rw [hun, hval]
        exact ⟨hwf, by rw [he1, hpow]⟩
      · apply h4
        · intro a b h1 h2 h3 h4; exact hinj a b (by omega) (by omega) (by omega) (by omega)
        · intro a h1 h2; rw [Array.size_setIfInBounds]; exact hbd a (by omega) (by omega)
        · omega
        · omega

/-- `isPrimitiveRoot` accepted a (possibly unreduced) u64 value: its residue is a primitive root, and for n = 1
    the value itself is reduced -/
theorem isPrimitiveRoot_inv {m : Modulus} (hm : m.WF) {n g : Nat} (hg : g < 2^64) (hn0 : 0 < n) (hn : 2 * n < 2^64)
    (h : isPrimitiveRoot g (2*n) m = .ok true) :
    IsPrim n m.value (g % m.value) ∧ (n = 1 → g < m.value) := by
  have hq2 := hm.two_le
  rw [isPrimitiveRoot_eq hm hg hn0 hn] at h
  injection h with h
  obtain ⟨h0, h1⟩ := of_decide_eq_true h
  have hlt : g % m.value < m.value := Nat.mod_lt _ (by omega)
  split at h1
  · have hgq : g < m.value := by omega
    rename_i hn1
    rw [hn1, Nat.mod_eq_of_lt hgq]
    exact ⟨⟨Nat.pos_of_ne_zero h0, hgq, by rw [pow_one, Nat.mod_eq_of_lt hgq]; exact h1⟩, fun _ => hgq⟩
  · have hp : (g % m.value) ^ n % m.value = m.value - 1 := by rw [← Nat.pow_mod]; exact h1
    refine ⟨⟨Nat.pos_of_ne_zero (fun h0 => ?_), hlt, hp⟩, fun h1 => by omega⟩
    rw [h0, zero_pow (by omega), Nat.zero_mod] at hp; omega

theorem minimalRootFrom_inv {m : Modulus} (hm : m.WF) {n g r : Nat} (hn : 0 < n) (hg : g < 2^64)
    (hg1 : n = 1 → g < m.value) (h : minimalRootFrom (2*n) m g = .ok r) :
    r < m.value ∧ ∃ j, r = (g % m.value)^(2*j+1) % m.value := by
  have hq : m.value < 2^64 := lt_trans hm.lt (by norm_num)
  have hq0 : 0 < m.value := lt_of_lt_of_le (by norm_num) hm.two_le
  unfold minimalRootFrom at h
  simp only [bind, Except.bind, mulMod_exact hm hg hg] at h
  have hdiv : (2 * n + 1) / 2 = n := by omega
  rw [hdiv] at h
  obtain ⟨c, rfl⟩ : ∃ c, n = c + 1 := ⟨n - 1, by omega⟩
  rw [minimalRootFrom.go] at h
  have hgg : g * g % m.value = (g % m.value) * (g % m.value) % m.value := Nat.mul_mod _ _ _
  have hsq64 : g * g % m.value < 2^64 := lt_trans (Nat.mod_lt _ hq0) hq
  simp only [bind, Except.bind, mulMod_exact hm hg hsq64, lt_irrefl, if_false] at h
  have hcur : g * (g * g % m.value) % m.value = (g % m.value)^(2*1+1) % m.value := by
    rw [Nat.mul_mod, Nat.mod_mod, ← Nat.mul_mod, ← Nat.pow_mod]
    congr 1; ring
  rw [hgg] at h
  obtain ⟨r', hr', h1, -, h2⟩ := minimalRootFrom_go_spec hm (g % m.value) c 1 g _ (hgg ▸ hcur)
  rw [hr'] at h
  injection h with h
  subst h
  have hodd : ∀ j, (g % m.value)^(2*j+1) % m.value < m.value := fun j => Nat.mod_lt _ hq0
  rcases h1 with h1 | ⟨j, -, -, hj⟩
  · -- r = g: either n = 1, or g is below the next odd power, which is reduced
    have hgq : g < m.value := by
      rcases Nat.eq_zero_or_pos c with hc | hc
      · exact hg1 (by omega)
      · have := h2 1 (le_refl _) (by omega)
        have := hodd 1
        omega
    rw [h1]
    exact ⟨hgq, 0, by simp [Nat.mod_eq_of_lt hgq]⟩
  · exact ⟨hj ▸ hodd j, j, hj⟩

/-- structural inversion of a successful `NTTTables.new` -/
theorem NTTTables.new_inv {k : Nat} {m : Modulus} {pr : Bool} {root0 : Nat} {t : NTTTables}
    (h : NTTTables.new k m pr root0 = .ok t) :
    pr = true ∧ 2 ≤ m.value ∧ (m.value - 1) % (2 * 2^k) = 0 ∧
    isPrimitiveRoot root0 (2 * 2^k) m = .ok true ∧
    ∃ root invRoot rootOp one rp invOp irp dinv d,
      minimalRootFrom (2 * 2^k) m root0 = .ok root ∧
      tryInvert root m.value = .ok (some invRoot) ∧
      MulOperand.new root m = .ok rootOp ∧
      MulOperand.new 1 m = .ok one ∧
      NTTTables.new.fill m (Array.replicate (2^k) default) rootOp (fun i => brev k i) (2^k - 1) 1 root = .ok rp ∧
      MulOperand.new invRoot m = .ok invOp ∧
      NTTTables.new.fill m (Array.replicate (2^k) default) invOp (fun i => brev k (i-1) + 1) (2^k - 1) 1 invRoot
        = .ok irp ∧
      tryInvert (2^k) m.value = .ok (some dinv) ∧
      MulOperand.new dinv m = .ok d ∧
      t = ⟨k, m, root, rp.setIfInBounds 0 one, irp.setIfInBounds 0 one, d⟩ := by
  unfold NTTTables.new at h
  dsimp only at h
  split at h
  · cases h
  rename_i hpr
  split at h
  · cases h
  rename_i hq2
  split at h
  · cases h
  rename_i hdiv
  obtain ⟨okr, hokr, h⟩ := R.bind_eq_ok.mp h
  split at h
  · cases h
  rename_i hokr2
  obtain ⟨root, hroot, h⟩ := R.bind_eq_ok.mp h
  obtain ⟨inv, hinv, h⟩ := R.bind_eq_ok.mp h
  split at h
  · cases h
  rename_i invRoot
  obtain ⟨rootOp, hrootOp, h⟩ := R.bind_eq_ok.mp h
  obtain ⟨one, hone, h⟩ := R.bind_eq_ok.mp h
  obtain ⟨rp, hrp, h⟩ := R.bind_eq_ok.mp h
  obtain ⟨invOp, hinvOp, h⟩ := R.bind_eq_ok.mp h
  obtain ⟨irp, hirp, h⟩ := R.bind_eq_ok.mp h
  obtain ⟨invN, hinvN, h⟩ := R.bind_eq_ok.mp h
  split at h
  · cases h
  rename_i dinv
  obtain ⟨d, hd, h⟩ := R.bind_eq_ok.mp h
  injection h with h
  refine ⟨by simpa using hpr, by omega, by simpa using hdiv, ?_, root, invRoot, rootOp, one, rp, invOp, irp, dinv, d,
    hroot, hinv, hrootOp, hone, hrp, hinvOp, hirp, hinvN, hd, h.symm⟩
  rw [hokr, show okr = true by simpa using hokr2]

theorem fill_entries {m : Modulus} (hm : m.WF) {k : Nat} {op one : MulOperand} {tbl : Array MulOperand} (idx : Nat → Nat)
    (hop : WFOp m op) (hidx : ∀ a, 0 < a → a < 2^k → 0 < idx a ∧ idx a < 2^k ∧ idx (idx a) = a)
    (h : NTTTables.new.fill m (Array.replicate (2^k) default) op idx (2^k - 1) 1 op.operand = .ok tbl) :
    (tbl.setIfInBounds 0 one).size = 2^k ∧
    ∀ p, 0 < p → p < 2^k → WFOp m (arrFn (tbl.setIfInBounds 0 one) p) ∧
        (arrFn (tbl.setIfInBounds 0 one) p).operand = op.operand ^ (idx p) % m.value := by
  obtain ⟨tbl', h1, h2, _, h4⟩ := fill_spec hm hop idx (2^k - 1) 1 op.operand
    (Array.replicate (2^k) default) (by rw [pow_one, Nat.mod_eq_of_lt hop.1])
  rw [h] at h1
  injection h1 with h1
  subst h1
  refine ⟨by rw [Array.size_setIfInBounds, h2, Array.size_replicate], fun p hp0 hp => ?_⟩
  obtain ⟨i0, i1, i2⟩ := hidx p hp0 hp
  rw [arrFn_setIfInBounds_ne _ _ (by omega : 0 ≠ p), ← i2]
  exact i2.symm ▸ h4
    (fun a b ha1 ha2 hb1 hb2 hab => by
      rw [← (hidx a (by omega) (by omega)).2.2, hab, (hidx b (by omega) (by omega)).2.2])
    (fun a ha1 ha2 => by rw [Array.size_replicate]; exact (hidx a (by omega) (by omega)).2.1)
    (idx p) (by omega) (by omega)

theorem NTTTables.new_wf_u64 {k : Nat} {m : Modulus} {pr : Bool} {root0 : Nat} {t : NTTTables}
    (hm : m.WF) (hk : k ≤ 60) (hr0 : root0 < 2^64) (h : NTTTables.new k m pr root0 = .ok t) :
    t.WF ∧ t.k = k ∧ t.modulus = m ∧ pr = true := by
  obtain ⟨hpr, hq2, hdiv, hprim, root, invRoot, rootOp, one, rp, invOp, irp, dinv, d,
    hroot, hinv, hrootOp, hone, hrp, hinvOp, hirp, hinvN, hd, ht⟩ := NTTTables.new_inv h
  have hq61 := hm.lt
  have hp : 0 < 2^k := Nat.two_pow_pos k
  have hklt : 2^(k+1) < 2^62 := Nat.pow_lt_pow_right (by norm_num) (by omega)
  have hk63 : 2^k < 2^62 := Nat.pow_lt_pow_right (by norm_num) (by omega)
  have h2n : 2 * 2^k < 2^64 := by rw [pow_succ] at hklt; omega
  have hq3 : 2 < m.value := by
    have := Nat.le_of_dvd (by omega) (Nat.dvd_of_mod_eq_zero hdiv)
    omega
  obtain ⟨hg, hg1⟩ := isPrimitiveRoot_inv hm hr0 hp h2n hprim
  obtain ⟨hrlt, j, hrj⟩ := minimalRootFrom_inv hm hp hr0 hg1 hroot
  have hrP : IsPrim (2^k) m.value root := hrj ▸ isPrim_odd_pow hq3 hp hg j
  obtain ⟨hri, hrinv⟩ := tryInvert_some hq2 hq61 (by omega) hinv
  obtain ⟨hdi, hdinv⟩ := tryInvert_some hq2 hq61 (by omega) hinvN
  obtain ⟨rwf, rfl⟩ := WFOp.of_new hm hrlt hrootOp
  obtain ⟨iwf, rfl⟩ := WFOp.of_new hm hri hinvOp
  obtain ⟨dwf, rfl⟩ := WFOp.of_new hm hdi hd
  obtain ⟨rs, re⟩ := fill_entries (one := one) hm (fun i => brev k i) rwf (fun a ha0 ha => by
    refine ⟨Nat.pos_of_ne_zero (fun h0 => ?_), brev_lt k a, brev_brev ha⟩
    have := brev_eq_zero ha h0; omega) hrp
  obtain ⟨is, ie⟩ := fill_entries (one := one) hm (fun i => brev k (i-1) + 1) iwf (fun a ha0 ha => by
    -- `brev k (a-1)` is not the all-ones index, whose reversal is itself
    have hne : brev k (a-1) ≠ 2^k - 1 := fun he => by
      have := brev_brev (show a - 1 < 2^k by omega)
      rw [he, brev_allones] at this; omega
    have := brev_lt k (a-1)
    refine ⟨Nat.succ_pos _, by omega, ?_⟩
    show brev k (brev k (a-1) + 1 - 1) + 1 = a
    rw [Nat.add_sub_cancel, brev_brev (by omega)]; omega) hirp
  subst ht
  exact ⟨⟨hm, hklt, hrlt, hrP.2.2, rs, re, is, ⟨_, hri, by rw [Nat.mul_comm]; exact hrinv, ie⟩, dwf, hdinv⟩,
    rfl, rfl, hpr⟩

/-- the table link WITHOUT a bound on `root0`: false, refuted in `NTTTables.new_wf_Statement_false` -/
def NTTTables.new_wf_Statement : Prop :=
  ∀ {k : Nat} {m : Modulus} {pr : Bool} {root0 : Nat} {t : NTTTables},
    m.WF → k ≤ 60 → NTTTables.new k m pr root0 = .ok t → t.WF ∧ t.k = k ∧ t.modulus = m ∧ pr = true

/-- the witness against `NTTTables.new_wf_Statement`: a 60-bit modulus with its Barrett constants -/
def cexM : Modulus := ⟨1152921504606846869, 27392, 16, 2930944, 60⟩
/-- … and a `root0` above 2^64 that `isPrimitiveRoot` wrongly accepts -/
def cexRoot0 : Nat := 121844678647361623314922772

theorem cexM_wf : cexM.WF :=
  ⟨by decide, by decide, by simp only [cexM, B64]; norm_num, by simp only [cexM, B64]; norm_num, by simp only [cexM]; norm_num⟩

/-- the root of a successful construction (what `cex_eval` evaluates) -/
def rootOf : R NTTTables → Option Nat
  | .ok t => some t.root
  | .error _ => none

theorem cex_eval : rootOf (NTTTables.new 1 cexM true cexRoot0) = some 880585176969361125 := by decide

theorem NTTTables.new_wf_Statement_false : ¬ NTTTables.new_wf_Statement := by
  intro hS
  have he := cex_eval
  cases hnew : NTTTables.new 1 cexM true cexRoot0 with
  | error e => rw [hnew] at he; cases he
  | ok t =>
    rw [hnew] at he
    have hr : t.root = 880585176969361125 := by injection he
    obtain ⟨hw, hk, hmod, _⟩ := hS cexM_wf (by norm_num) hnew
    have := hw.root_pow
    rw [hk, hmod, hr] at this
    revert this
    simp only [cexM]
    norm_num

variable {t : NTTTables}

/-! ### the transforms of the API against the generic network over `ZMod q` -/

/-- the exact evaluation the property documents: Σ_j a_j · (ψ^(2·brev k i + 1))^j mod q -/
def evalSpec (t : NTTTables) (a : Array Nat) (i : Nat) : Nat :=
  (∑ j ∈ range (2^t.k), a.getD j 0 * (t.root ^ (2 * brev t.k i + 1)) ^ j) % t.modulus.value

theorem evalSpec_lt (t : NTTTables) (hq : 0 < t.modulus.value) (a : Array Nat) (i : Nat) : evalSpec t a i < t.modulus.value :=
  Nat.mod_lt _ hq

theorem evalSpec_sum (t : NTTTables) (a : Array Nat) (i : Nat) :
    ((evalSpec t a i : Nat) : ZMod t.modulus.value) =
      ∑ j ∈ range (2^t.k), ((a.getD j 0 : Nat) : ZMod t.modulus.value) *
        ((t.root : ZMod t.modulus.value) ^ (2 * brev t.k i + 1)) ^ j := by
  unfold evalSpec
  rw [ZMod.natCast_mod]
  push_cast
  rfl

theorem arrFn_nat (a : Array Nat) (i : Nat) : arrFn a i = a.getD i 0 := rfl

/-- the ZMod-level facts carried by a well-formed table.  `roots` and `inv` are stated on `(fun j => …) j`, unreduced, so that they
    unify with the hypotheses `hroots` / `hiroots` of the generic theorems of C09D at the table's cast function. -/
structure ZFacts (t : NTTTables) : Prop where
  q2 : 2 ≤ t.modulus.value
  q61 : t.modulus.value < 2^61
  psi : ((t.root : ZMod t.modulus.value))^(2^t.k) = -1
  roots : ∀ j, 0 < j → j < 2^t.k →
    (fun j => (((arrFn t.rootPowers j).operand : Nat) : ZMod t.modulus.value)) j
      = (t.root : ZMod t.modulus.value)^(brev t.k j)
  rwf : ∀ j, 0 < j → j < 2^t.k → WFOp t.modulus (arrFn t.rootPowers j)
  irwf : ∀ j, 0 < j → j < 2^t.k → WFOp t.modulus (arrFn t.invRootPowers j)
  inv : ∃ ψi : ZMod t.modulus.value, (t.root : ZMod t.modulus.value) * ψi = 1 ∧
    ∀ p, 0 < p → p < 2^t.k →
      (fun j => (((arrFn t.invRootPowers j).operand : Nat) : ZMod t.modulus.value)) p = ψi^(brev t.k (p-1) + 1)
  deg : ((t.invDegree.operand : Nat) : ZMod t.modulus.value) * 2^t.k = 1

theorem NTTTables.WF.zfacts (hw : t.WF) : ZFacts t := by
  have hq2 := hw.mwf.two_le
  refine ⟨hq2, hw.mwf.lt, ?_, ?_, fun j h0 h1 => (hw.rp j h0 h1).1, ?_, ?_, ?_⟩
  · exact (pow_mod_eq_pred_iff (by omega) _ _).mp hw.root_pow
  · intro j h0 h1
    show (((arrFn t.rootPowers j).operand : Nat) : ZMod t.modulus.value) = _
    rw [(hw.rp j h0 h1).2, ZMod.natCast_mod, Nat.cast_pow]
  · obtain ⟨ri, _, _, h3⟩ := hw.irp
    exact fun j h0 h1 => (h3 j h0 h1).1
  · obtain ⟨ri, _, h2, h3⟩ := hw.irp
    refine ⟨(ri : ZMod t.modulus.value), ?_, ?_⟩
    · rw [← Nat.cast_mul, ← ZMod.natCast_mod, h2, Nat.cast_one]
    · intro p h0 h1
      show (((arrFn t.invRootPowers p).operand : Nat) : ZMod t.modulus.value) = _
      rw [(h3 p h0 h1).2, ZMod.natCast_mod, Nat.cast_pow]
  · have := hw.inv_deg.2
    have h2 : (((t.invDegree.operand * 2^t.k : Nat)) : ZMod t.modulus.value) = 1 := by
      rw [← ZMod.natCast_mod, this, Nat.cast_one]
    simpa using h2

theorem cast_inj_lt {q x y : Nat} (hx : x < q) (hy : y < q) (h : (x : ZMod q) = (y : ZMod q)) : x = y := by
  rw [ZMod.natCast_eq_natCast_iff', Nat.mod_eq_of_lt hx, Nat.mod_eq_of_lt hy] at h
  exact h

/-- `evalSpec` is the exact forward network, for any array: the network is a function of the entries -/
theorem evalSpec_cast (hw : t.WF) (w : Array Nat) {i : Nat} (hi : i < 2^t.k) :
    ((evalSpec t w i : Nat) : ZMod t.modulus.value)
      = runFwd (exactArith (ZMod t.modulus.value)) t.k
          (fun j => (((arrFn t.rootPowers j).operand : Nat) : ZMod t.modulus.value))
          (fun p => ((w.getD p 0 : Nat) : ZMod t.modulus.value)) t.k i := by
  rw [fwd_eval t.k _ hw.zfacts.psi _ hw.zfacts.roots _ i hi, evalSpec_sum]

/-- `nttLazy` against the exact network -/
theorem nttLazy_sim (hw : t.WF) (a : Array Nat) (hs : a.size = 2^t.k)
    (ha : ∀ j, j < 2^t.k → a.getD j 0 < 4 * t.modulus.value) :
    (nttLazy t a).size = 2^t.k ∧ ∀ i, i < 2^t.k →
      (nttLazy t a).getD i 0 < 4 * t.modulus.value ∧
      (((nttLazy t a).getD i 0 : Nat) : ZMod t.modulus.value)
        = runFwd (exactArith (ZMod t.modulus.value)) t.k
            (fun j => (((arrFn t.rootPowers j).operand : Nat) : ZMod t.modulus.value))
            (fun p => ((a.getD p 0 : Nat) : ZMod t.modulus.value)) t.k i := by
  have hz := hw.zfacts
  obtain ⟨e1, e2⟩ := runFwdA_eq (modArithLazy t.modulus) t.k (arrFn t.rootPowers) a hs t.k le_rfl
  refine ⟨e1, fun i hi => ?_⟩
  have e3 : (nttLazy t a).getD i 0 = runFwd (modArithLazy t.modulus) t.k (arrFn t.rootPowers) (arrFn a) t.k i :=
    e2 i hi
  rw [e3]
  exact fwd_lazy_sim hw.mwf t.k (arrFn t.rootPowers) hz.rwf (arrFn a) ha t.k le_rfl i hi

/-- FORWARD, lazy form: inputs < 4q ⇒ outputs < 4q and congruent to the evaluations -/
theorem nttLazy_spec (hw : t.WF) (a : Array Nat) (hs : a.size = 2^t.k) (ha : ∀ j, j < 2^t.k → a.getD j 0 < 4 * t.modulus.value) :
    (nttLazy t a).size = 2^t.k ∧ ∀ i, i < 2^t.k →
      (nttLazy t a).getD i 0 < 4 * t.modulus.value ∧ (nttLazy t a).getD i 0 % t.modulus.value = evalSpec t a i := by
  obtain ⟨e1, e2⟩ := nttLazy_sim hw a hs ha
  refine ⟨e1, fun i hi => ⟨(e2 i hi).1, ?_⟩⟩
  have hm : evalSpec t a i % t.modulus.value = evalSpec t a i := Nat.mod_mod _ _
  rw [← hm]
  exact (ZMod.natCast_eq_natCast_iff' _ _ _).mp ((e2 i hi).2.trans (evalSpec_cast hw a hi).symm)

/-- `ntt` against the exact network: canonical outputs -/
theorem ntt_sim (hw : t.WF) (a : Array Nat) (hs : a.size = 2^t.k)
    (ha : ∀ j, j < 2^t.k → a.getD j 0 < 4 * t.modulus.value) :
    (ntt t a).size = 2^t.k ∧ ∀ i, i < 2^t.k →
      (ntt t a).getD i 0 = (nttLazy t a).getD i 0 % t.modulus.value ∧
      (ntt t a).getD i 0 < t.modulus.value ∧
      (((ntt t a).getD i 0 : Nat) : ZMod t.modulus.value)
        = runFwd (exactArith (ZMod t.modulus.value)) t.k
            (fun j => (((arrFn t.rootPowers j).operand : Nat) : ZMod t.modulus.value))
            (fun p => ((a.getD p 0 : Nat) : ZMod t.modulus.value)) t.k i := by
  have hq2 := hw.mwf.two_le
  obtain ⟨e1, e2⟩ := nttLazy_sim hw a hs ha
  refine ⟨by simp [ntt, e1], fun i hi => ?_⟩
  have hv : (ntt t a).getD i 0 = (nttLazy t a).getD i 0 % t.modulus.value := by
    unfold ntt
    simp only []
    rw [array_getD_map _ _ 0 0 (by omega)]
    exact reduce4 (by omega) (e2 i hi).1
  refine ⟨hv, ?_, ?_⟩
  · rw [hv]; exact Nat.mod_lt _ (by omega)
  · rw [hv, ZMod.natCast_mod]; exact (e2 i hi).2

/-- FORWARD: `ntt` returns the canonical residues of the evaluations at ψ^(2·brev(i)+1) -/
theorem ntt_eval (hw : t.WF) (a : Array Nat) (hs : a.size = 2^t.k) (ha : ∀ j, j < 2^t.k → a.getD j 0 < 4 * t.modulus.value) :
    (ntt t a).size = 2^t.k ∧ ∀ i, i < 2^t.k → (ntt t a).getD i 0 = evalSpec t a i := by
  obtain ⟨e1, e2⟩ := ntt_sim hw a hs ha
  refine ⟨e1, fun i hi => ?_⟩
  rw [(e2 i hi).1]
  exact ((nttLazy_spec hw a hs ha).2 i hi).2

/-- `inttLazy` against the exact network -/
theorem inttLazy_sim (hw : t.WF) (a : Array Nat) (hs : a.size = 2^t.k)
    (ha : ∀ j, j < 2^t.k → a.getD j 0 < 2 * t.modulus.value) :
    (inttLazy t a).size = 2^t.k ∧ ∀ i, i < 2^t.k →
      (inttLazy t a).getD i 0 < 2 * t.modulus.value ∧
      (((inttLazy t a).getD i 0 : Nat) : ZMod t.modulus.value)
        = runInv (exactArith (ZMod t.modulus.value)) t.k
            (fun j => (((arrFn t.invRootPowers j).operand : Nat) : ZMod t.modulus.value))
            (fun p => ((a.getD p 0 : Nat) : ZMod t.modulus.value)) t.k i
          * ((t.invDegree.operand : Nat) : ZMod t.modulus.value) := by
  have hz := hw.zfacts
  have hq61 := hz.q61
  obtain ⟨e1, e2⟩ := runInvA_eq (modArithLazy t.modulus) t.k (arrFn t.invRootPowers) a hs t.k le_rfl
  refine ⟨by simp [inttLazy, transformFromRev, e1], fun i hi => ?_⟩
  obtain ⟨s1, s2⟩ := inv_lazy_sim hw.mwf t.k (arrFn t.invRootPowers) hz.irwf (arrFn a) ha t.k le_rfl i hi
  have hv : (inttLazy t a).getD i 0 = (modArithLazy t.modulus).mulRoot
      (runInv (modArithLazy t.modulus) t.k (arrFn t.invRootPowers) (arrFn a) t.k i) t.invDegree := by
    unfold inttLazy transformFromRev
    rw [array_getD_map _ _ 0 0 (by omega)]
    congr 1
    exact e2 i hi
  obtain ⟨m1, m2⟩ := mulRoot_lazy hw.mwf hw.inv_deg.1
    (x := runInv (modArithLazy t.modulus) t.k (arrFn t.invRootPowers) (arrFn a) t.k i) (by omega)
  rw [hv]
  refine ⟨m1, ?_⟩
  rw [m2, s2]
  rfl

/-- INVERSE, lazy form: inputs < 2q ⇒ outputs < 2q -/
theorem inttLazy_range (hw : t.WF) (a : Array Nat) (hs : a.size = 2^t.k) (ha : ∀ j, j < 2^t.k → a.getD j 0 < 2 * t.modulus.value) :
    (inttLazy t a).size = 2^t.k ∧ ∀ i, i < 2^t.k → (inttLazy t a).getD i 0 < 2 * t.modulus.value := by
  obtain ⟨e1, e2⟩ := inttLazy_sim hw a hs ha
  exact ⟨e1, fun i hi => (e2 i hi).1⟩

/-- `intt` against the exact network: canonical outputs -/
theorem intt_sim (hw : t.WF) (a : Array Nat) (hs : a.size = 2^t.k)
    (ha : ∀ j, j < 2^t.k → a.getD j 0 < 2 * t.modulus.value) :
    (intt t a).size = 2^t.k ∧ ∀ i, i < 2^t.k →
      (intt t a).getD i 0 < t.modulus.value ∧
      (((intt t a).getD i 0 : Nat) : ZMod t.modulus.value)
        = runInv (exactArith (ZMod t.modulus.value)) t.k
            (fun j => (((arrFn t.invRootPowers j).operand : Nat) : ZMod t.modulus.value))
            (fun p => ((a.getD p 0 : Nat) : ZMod t.modulus.value)) t.k i
          * ((t.invDegree.operand : Nat) : ZMod t.modulus.value) := by
  have hq2 := hw.mwf.two_le
  obtain ⟨e1, e2⟩ := inttLazy_sim hw a hs ha
  refine ⟨by simp [intt, e1], fun i hi => ?_⟩
  have hv : (intt t a).getD i 0 = (inttLazy t a).getD i 0 % t.modulus.value := by
    unfold intt
    simp only []
    rw [array_getD_map _ _ 0 0 (by omega)]
    exact reduce2 (by omega) (e2 i hi).1
  refine ⟨?_, ?_⟩
  · rw [hv]; exact Nat.mod_lt _ (by omega)
  · rw [hv, ZMod.natCast_mod]; exact (e2 i hi).2

/-! ### the transforms are linear over `ZMod q` (lazy inputs allowed) -/

/-- `intt (α·x + β·y + γ·NTT w) = α·intt x + β·intt y + γ·w` over `ZMod q`; `w` is any array (only its evaluations enter) -/
theorem intt_affine (hw : t.WF) {x y z : Array Nat} (w : Array Nat)
    (hx : x.size = 2^t.k) (hy : y.size = 2^t.k) (hz : z.size = 2^t.k)
    (hxl : ∀ j, j < 2^t.k → x.getD j 0 < 2 * t.modulus.value) (hyl : ∀ j, j < 2^t.k → y.getD j 0 < 2 * t.modulus.value)
    (hzl : ∀ j, j < 2^t.k → z.getD j 0 < 2 * t.modulus.value) (α β γ : ZMod t.modulus.value)
    (hzv : ∀ j, j < 2^t.k → ((z.getD j 0 : Nat) : ZMod t.modulus.value)
      = α * ((x.getD j 0 : Nat) : ZMod t.modulus.value) + β * ((y.getD j 0 : Nat) : ZMod t.modulus.value)
        + γ * ((evalSpec t w j : Nat) : ZMod t.modulus.value)) :
    ∀ j, j < 2^t.k → (((intt t z).getD j 0 : Nat) : ZMod t.modulus.value)
      = α * (((intt t x).getD j 0 : Nat) : ZMod t.modulus.value) + β * (((intt t y).getD j 0 : Nat) : ZMod t.modulus.value)
        + γ * ((w.getD j 0 : Nat) : ZMod t.modulus.value) := by
  have hz' := hw.zfacts
  obtain ⟨ψi, hinv, hir⟩ := hz'.inv
  intro j hj
  -- the inverse network is linear and undoes the forward one up to the factor `2^k`, which `invDegree` cancels
  rw [((intt_sim hw z hz hzl).2 j hj).2, ((intt_sim hw x hx hxl).2 j hj).2, ((intt_sim hw y hy hyl).2 j hj).2,
    runInv_congr t.k _ _ _ (fun p hp => by rw [hzv p hp, evalSpec_cast hw w hp, ← one_mul (α * _ + β * _)]) t.k le_rfl j hj,
    runInv_lin, runInv_lin, inv_fwd t.k _ ψi hinv _ _ hz'.roots hir _ j hj]
  linear_combination (γ * ((w.getD j 0 : Nat) : ZMod t.modulus.value)) * hz'.deg

theorem intt_lin (hw : t.WF) {x y z : Array Nat} (hx : x.size = 2^t.k) (hy : y.size = 2^t.k) (hz : z.size = 2^t.k)
    (hxl : ∀ j, j < 2^t.k → x.getD j 0 < 2 * t.modulus.value) (hyl : ∀ j, j < 2^t.k → y.getD j 0 < 2 * t.modulus.value)
    (hzl : ∀ j, j < 2^t.k → z.getD j 0 < 2 * t.modulus.value) (α β : ZMod t.modulus.value)
    (hzv : ∀ j, j < 2^t.k → ((z.getD j 0 : Nat) : ZMod t.modulus.value)
      = α * ((x.getD j 0 : Nat) : ZMod t.modulus.value) + β * ((y.getD j 0 : Nat) : ZMod t.modulus.value)) :
    ∀ j, j < 2^t.k → (((intt t z).getD j 0 : Nat) : ZMod t.modulus.value)
      = α * (((intt t x).getD j 0 : Nat) : ZMod t.modulus.value) + β * (((intt t y).getD j 0 : Nat) : ZMod t.modulus.value) := by
  intro j hj
  rw [intt_affine hw #[] hx hy hz hxl hyl hzl α β 0 (fun j hj => by rw [hzv j hj, zero_mul, add_zero]) j hj,
    zero_mul, add_zero]

/-- INVERSE ∘ FORWARD = id on canonical vectors -/
theorem intt_ntt (hw : t.WF) (a : Array Nat) (hs : a.size = 2^t.k) (ha : ∀ j, j < 2^t.k → a.getD j 0 < t.modulus.value) :
    intt t (ntt t a) = a := by
  have hz := hw.zfacts
  obtain ⟨ψi, hinv, hir⟩ := hz.inv
  obtain ⟨f1, f2⟩ := ntt_sim hw a hs (fun j hj => by have := ha j hj; omega)
  obtain ⟨g1, g2⟩ := intt_sim hw (ntt t a) f1 (fun j hj => by have := (f2 j hj).2.1; omega)
  apply array_ext_getD g1 hs
  intro i hi
  apply cast_inj_lt (g2 i hi).1 (ha i hi)
  rw [(g2 i hi).2,
    runInv_congr t.k _ _ _ (fun p hp => (f2 p hp).2.2) t.k le_rfl i hi,
    inv_fwd t.k _ ψi hinv _ _ hz.roots hir _ i hi, mul_comm, ← mul_assoc, hz.deg, one_mul]

/-- FORWARD ∘ INVERSE = id on canonical vectors -/
theorem ntt_intt (hw : t.WF) (a : Array Nat) (hs : a.size = 2^t.k) (ha : ∀ j, j < 2^t.k → a.getD j 0 < t.modulus.value) :
    ntt t (intt t a) = a := by
  have hz := hw.zfacts
  obtain ⟨ψi, hinv, hir⟩ := hz.inv
  obtain ⟨g1, g2⟩ := intt_sim hw a hs (fun j hj => by have := ha j hj; omega)
  obtain ⟨f1, f2⟩ := ntt_sim hw (intt t a) g1 (fun j hj => by have := (g2 j hj).1; omega)
  apply array_ext_getD f1 hs
  intro i hi
  apply cast_inj_lt (f2 i hi).2.1 (ha i hi)
  rw [(f2 i hi).2.2]
  refine (runFwd_congr t.k _ _ _ (fun p hp => (g2 p hp).2.trans (mul_comm _ _)) t.k le_rfl i hi).trans ?_
  rw [runFwd_smul, fwd_inv t.k _ ψi hinv _ _ hz.roots hir _ i hi, ← mul_assoc, hz.deg, one_mul]

/-- negacyclic product modulo (X^n + 1, q) of canonical vectors, coefficient c, as a natural number < q -/
def negMulNat (n q : Nat) (a b : Array Nat) (c : Nat) : Nat :=
  ((∑ i ∈ range n, if i ≤ c then ((a.getD i 0 * b.getD (c - i) 0 : Nat) : Int)
                     else - ((a.getD i 0 * b.getD (n + c - i) 0 : Nat) : Int)) % (q : Int)).toNat

theorem dyadicProduct_spec {m : Modulus} (h : m.WF) (x y : Array Nat)
    (hx : ∀ i, i < x.size → x.getD i 0 < 2^64) (hy : ∀ i, i < x.size → y.getD i 0 < 2^64) :
    ∃ p, dyadicProduct x y m = .ok p ∧ p.size = x.size ∧
      ∀ i, i < x.size → p.getD i 0 = (x.getD i 0 * y.getD i 0) % m.value := by
  refine ⟨#[] ++ ((List.range x.size).map (fun i => (x.getD i 0 * y.getD i 0) % m.value)).toArray, ?_, ?_, ?_⟩
  · unfold dyadicProduct
    apply R.foldlM_push_step (fun i => (x.getD i 0 * y.getD i 0) % m.value)
    intro acc i hi
    have hi' : i < x.size := by simpa using hi
    simp only [bind, Except.bind, mulMod_exact h (hx i hi') (hy i hi'), pure, Except.pure]
  · simp
  · intro i hi
    simp [Array.getD, hi]

theorem negMulNat_cast {q : Nat} (hq : 0 < q) (n : Nat) (a b : Array Nat) (c : Nat) :
    negMulNat n q a b c < q ∧
    ((negMulNat n q a b c : Nat) : ZMod q)
      = negMulR n (fun p => ((a.getD p 0 : Nat) : ZMod q)) (fun p => ((b.getD p 0 : Nat) : ZMod q)) c := by
  unfold negMulNat
  have hqz : (0 : Int) < (q : Int) := by exact_mod_cast hq
  generalize hS : (∑ i ∈ range n, if i ≤ c then ((a.getD i 0 * b.getD (c - i) 0 : Nat) : Int)
                     else - ((a.getD i 0 * b.getD (n + c - i) 0 : Nat) : Int)) = S
  have hnn : 0 ≤ S % (q : Int) := Int.emod_nonneg _ (by omega)
  have hlt : S % (q : Int) < q := Int.emod_lt_of_pos _ hqz
  constructor
  · omega
  · have e1 : (((S % (q : Int)).toNat : Nat) : ZMod q) = (((S % (q : Int)).toNat : Int) : ZMod q) := by
      rw [Int.cast_natCast]
    rw [e1, Int.toNat_of_nonneg hnn, ZMod.intCast_mod, ← hS]
    unfold negMulR
    rw [Int.cast_sum]
    apply sum_congr rfl
    intro i _
    split <;> push_cast <;> rfl

/-- `negMulNat` of residue vectors is the integer negacyclic product of ANY integer representatives, modulo q -/
theorem negMulNat_modEq {q n : Nat} (hq : 0 < q) (A B : Array Nat) (X Y : Nat → Int)
    (hA : ∀ j, j < n → (A.getD j 0 : Int) ≡ X j [ZMOD q]) (hB : ∀ j, j < n → (B.getD j 0 : Int) ≡ Y j [ZMOD q])
    {c : Nat} (hc : c < n) :
    (negMulNat n q A B c : Int) ≡ negMulR n X Y c [ZMOD q] := by
  have ea : ∀ j, j < n → ((A.getD j 0 : Nat) : ZMod q) = ((X j : Int) : ZMod q) := fun j hj => by
    rw [← Int.cast_natCast]; exact (ZMod.intCast_eq_intCast_iff _ _ _).mpr (hA j hj)
  have eb : ∀ j, j < n → ((B.getD j 0 : Nat) : ZMod q) = ((Y j : Int) : ZMod q) := fun j hj => by
    rw [← Int.cast_natCast]; exact (ZMod.intCast_eq_intCast_iff _ _ _).mpr (hB j hj)
  rw [← ZMod.intCast_eq_intCast_iff, Int.cast_natCast, (negMulNat_cast hq n A B c).2]
  unfold negMulR
  rw [Int.cast_sum]
  apply sum_congr rfl
  intro i hi
  have hi := mem_range.mp hi
  split
  · rw [Int.cast_mul, ← ea i hi, ← eb _ (by omega)]
  · rw [Int.cast_neg, Int.cast_mul, ← ea i hi, ← eb _ (by omega)]

/-- CONVOLUTION: pointwise multiplication of transforms corresponds to multiplication modulo X^N + 1 -/
theorem ntt_convolution_api (hw : t.WF) (a b : Array Nat) (hsa : a.size = 2^t.k) (hsb : b.size = 2^t.k)
    (ha : ∀ j, j < 2^t.k → a.getD j 0 < t.modulus.value) (hb : ∀ j, j < 2^t.k → b.getD j 0 < t.modulus.value) :
    ∃ p, dyadicProduct (ntt t a) (ntt t b) t.modulus = .ok p ∧
      (intt t p).size = 2^t.k ∧ ∀ c, c < 2^t.k → (intt t p).getD c 0 = negMulNat (2^t.k) t.modulus.value a b c := by
  have hz := hw.zfacts
  have hq2 := hz.q2
  have hq61 := hz.q61
  obtain ⟨ψi, hinv, hir⟩ := hz.inv
  obtain ⟨fa1, fa2⟩ := ntt_sim hw a hsa (fun j hj => by have := ha j hj; omega)
  obtain ⟨fb1, fb2⟩ := ntt_sim hw b hsb (fun j hj => by have := hb j hj; omega)
  obtain ⟨p, hp, hps, hpv⟩ := dyadicProduct_spec hw.mwf (ntt t a) (ntt t b)
    (fun i hi => by have := (fa2 i (by omega)).2.1; omega)
    (fun i hi => by have := (fb2 i (by omega)).2.1; omega)
  rw [fa1] at hps hpv
  have hplt : ∀ j, j < 2^t.k → p.getD j 0 < 2 * t.modulus.value := by
    intro j hj
    rw [hpv j hj]
    have := Nat.mod_lt ((ntt t a).getD j 0 * (ntt t b).getD j 0) (show 0 < t.modulus.value by omega)
    omega
  obtain ⟨g1, g2⟩ := intt_sim hw p hps hplt
  refine ⟨p, hp, g1, fun c hc => ?_⟩
  obtain ⟨n1, n2⟩ := negMulNat_cast (show 0 < t.modulus.value by omega) (2^t.k) a b c
  apply cast_inj_lt (g2 c hc).1 n1
  have hpt : ∀ i, i < 2^t.k → (fun i => ((p.getD i 0 : Nat) : ZMod t.modulus.value)) i
      = (fun i => runFwd (exactArith (ZMod t.modulus.value)) t.k
            (fun j => (((arrFn t.rootPowers j).operand : Nat) : ZMod t.modulus.value))
            (fun p => ((a.getD p 0 : Nat) : ZMod t.modulus.value)) t.k i
          * runFwd (exactArith (ZMod t.modulus.value)) t.k
            (fun j => (((arrFn t.rootPowers j).operand : Nat) : ZMod t.modulus.value))
            (fun p => ((b.getD p 0 : Nat) : ZMod t.modulus.value)) t.k i) i := by
    intro i hi
    show ((p.getD i 0 : Nat) : ZMod t.modulus.value) = _
    rw [hpv i hi, ZMod.natCast_mod, Nat.cast_mul, (fa2 i hi).2.2, (fb2 i hi).2.2]
  rw [(g2 c hc).2, runInv_congr t.k _ _ _ hpt t.k le_rfl c hc,
    ntt_convolution t.k _ ψi hz.psi hinv _ _ hz.roots hir _ _ c hc, n2, mul_comm, ← mul_assoc, hz.deg, one_mul]

end HC
