/-
  `invariant_noise_budget` (src/encryptor.rs) as regenerated into `Heathcliff/Gen/DecFns.lean` against the last lines of `noiseBudget`
  (Model/Scheme.lean), which `noiseBudget_eq_spec` (Props/C07.lean) ties to the exact-integer definition:
  * the arithmetic tail of the skeleton `dec_invariant_noise_budget`: checks, plan of the opaque steps, bit counts, the `- 1`, the clamp at 0;
  * `poly_infty_norm`: one pass of its loop in terms of the hand model's multi-word functions (`geUint`, `subUint`, `compareUint`, specified by
    C08), then the whole loop = the norm fold of `noiseBudget` on the VALUES of the multi-word coefficients;
  * `get_significant_bit_count_uint` (src/util/basic.rs) = `bitCountUint` for every non-empty canonical multi-word value;
  * `half_round_up_uint` (with `add_uint_u64_inplace` / `increment_uint_inplace`) = `halfRoundUp`: the negative threshold is `(Q + 1) / 2`;
  * the composition: source → the model's budget of the coefficient values: `gd_budget_source_spec_full`.  (`gd_budget_source_spec`, without
    `_full`, is the step before it: it still has the threshold as a hypothesis `hthr`.  Props' `gen_budget_source_spec` is the `_full` one.)

  The `plan` argument is that of GenDecBgv (see its head).  In `invariant_noise_budget` the codes of the opaque steps on `noise_poly` are
    1 = `dot_product_ct_sk_array`,   2 = `multiply_scalar_inplace_p` by the plain modulus t (BFV only),
    3 = `compose_array` in place (the skeleton copies the pseudo-input `composed` there);
  the norm, the bit counts and the difference after them are the real generated code.
  Helper names: `gd_` (d for decryptor), see the head of GenDecBgv; `gq_` / `gx_` names are GenUint's.
-/
import Heathcliff.Gen.DecFns
import Heathcliff.Proofs.GenRnsView
import Heathcliff.Proofs.C08C
import Heathcliff.Proofs.GenUint
import Heathcliff.Proofs.GenLoop
import Mathlib.Tactic.Linarith
namespace HC
open HC.GenDec

/-- the model's last two lines of `noiseBudget`: `d := bits(Q) - bits(norm) - 1; d.toNat` -/
def budgetOfBits (totalBits normBits : Nat) : Nat := ((totalBits : Int) - (normBits : Int) - 1).toNat

theorem gd_budget_arith (tb nb : Nat) (htb : tb < 2^63) (hnb : nb < 2^63) :
    (do let t3 ← ckI64 (asI64 tb - asI64 nb); let v6 ← ckI64 (t3 - 1); pure (GenW.asU64 (max v6 0)) : R Nat) = .ok (budgetOfBits tb nb) := by
  rw [asI64_small htb, asI64_small hnb]
  have h1 : ckI64 ((tb : Int) - (nb : Int)) = .ok ((tb : Int) - (nb : Int)) := ckI64_ok (by omega) (by omega)
  have h2 : ckI64 ((tb : Int) - (nb : Int) - 1) = .ok ((tb : Int) - (nb : Int) - 1) := ckI64_ok (by omega) (by omega)
  simp only [h1, h2, bind, Except.bind, pure, Except.pure]
  congr 1
  unfold budgetOfBits
  rw [gw_asU64_nonneg _ (by omega) (by omega)]
  omega

/-- GENERATED `invariant_noise_budget` (skeleton): the four refusals in source order (invalid ciphertext, size < 2, scheme not BFV / BGV, NTT form),
    the plan `1, (2 if BFV), 3`, the composed noise must fill the `n·k` words, then norm, bit count and `budgetOfBits`. -/
theorem gd_invariant_noise_budget_eq (valid : Bool) (size : Nat) (scheme : Scheme) (ntt : Bool) (k n : Nat) (Q : List Nat) (tb : Nat)
    (composed plan norm : List Nat) (nb : Nat)
    (hvalid : valid = true) (hsize : 2 ≤ size) (hs : scheme = .bfv ∨ scheme = .bgv) (hntt : ntt = false)
    (hnk : n * k < 2^64) (hlen : composed.length = n * k)
    (hnorm : poly_infty_norm composed k Q (List.replicate k 0) = .ok norm)
    (hbits : get_significant_bit_count_uint norm = .ok nb) (htb : tb < 2^63) (hnb : nb < 2^63) :
    dec_invariant_noise_budget valid size scheme ntt k n Q tb composed plan =
      .ok (plan ++ [1] ++ (if scheme = .bfv then [2] else []) ++ [3], budgetOfBits tb nb) := by
  unfold dec_invariant_noise_budget
  have hm : ckMul n k = .ok (n * k) := ckMul_ok (by simpa [B64] using hnk)
  have hcw : copyWhole (List.replicate (n * k) 0) composed = .ok composed := by unfold copyWhole; simp [hlen]
  have hsz : ¬ size < 2 := by omega
  have hsch : ¬ (scheme ≠ Scheme.bfv ∧ scheme ≠ Scheme.bgv) := by rcases hs with h | h <;> simp [h]
  have har := gd_budget_arith tb nb htb hnb
  simp only [hvalid, hntt, hsz, hsch, hm, hcw, hnorm, hbits, bind, Except.bind, pure, Except.pure, not_true_eq_false, if_false, Bool.false_eq_true] at har ⊢
  rcases hs with h | h
  · subst h
    simp only [if_true]
    revert har
    cases ckI64 (asI64 tb - asI64 nb) with
    | error e => intro har; cases har
    | ok t3 =>
      simp only []
      cases ckI64 (t3 - 1) with
      | error e => intro har; cases har
      | ok v6 => intro har; simp only [] at har ⊢; injection har with har; rw [har]
  · subst h
    simp only [if_false, reduceCtorEq]
    revert har
    cases ckI64 (asI64 tb - asI64 nb) with
    | error e => intro har; cases har
    | ok t3 =>
      simp only []
      cases ckI64 (t3 - 1) with
      | error e => intro har; cases har
      | ok v6 => intro har; simp only [] at har ⊢; injection har with har; rw [har]; simp

/-- one coefficient of the model's norm fold (`noiseBudget`, Model/Scheme.lean), on multi-word values:
    `a := if c ≥ thr then Q - c else c; if a > acc then a else acc` -/
def normStepW (Q thr : List Nat) (acc abs c : List Nat) : R (List Nat × List Nat) := do
  let abs ← (if geUint c thr then do let (d, _) ← subUint Q c abs.length; pure d else copyWhole abs c)
  let acc ← (if gq_ofInt (compareUint abs acc) = .gt then copyWhole acc abs else pure acc)
  pure (acc, abs)

/-- exit equation of the loop of `poly_infty_norm` (fuel 0); `gd_norm_loop_succ` is the step equation -/
theorem gd_norm_loop_zero (poly : List Nat) (k : Nat) (Q thr : List Nat) (cnt i : Nat) (acc abs : List Nat) :
    poly_infty_norm_loop1 poly k Q thr cnt 0 i acc abs = .ok acc := rfl

/-- GENERATED `poly_infty_norm`: refusal unless the modulus has `k` words; threshold = `half_round_up_uint(modulus)`; `len / k` passes from 0 -/
theorem gd_poly_infty_norm_unfold (poly : List Nat) (k : Nat) (Q res : List Nat) :
    poly_infty_norm poly k Q res =
      (if Q.length = k then do
        let thr ← half_round_up_uint Q (List.replicate k 0)
        let cnt ← GenW.ckDiv poly.length k
        poly_infty_norm_loop1 poly k Q thr cnt cnt 0 (List.replicate res.length 0) (List.replicate k 0)
      else .error .refused) := by
  unfold poly_infty_norm; rfl

theorem gd_gt_iff {a b : List Nat} (ha : Limbs a) (hb : Limbs b) : gq_ofInt (compareUint a b) = .gt ↔ toNat b < toNat a := by
  rw [compareUint_spec ha hb]; unfold gq_ofInt
  by_cases h1 : toNat a < toNat b
  · simp [h1]; omega
  · by_cases h2 : toNat a > toNat b
    · simp [h1, h2]
    · simp [h1, h2]

theorem gd_max_part (acc d : List Nat) (k : Nat) (hacc : Limbs acc) (hd : Limbs d) (lacc : acc.length = k) (ld : d.length = k) :
    ∃ acc', (if gq_ofInt (compareUint d acc) = .gt then copyWhole acc d else pure acc) = .ok acc' ∧ acc'.length = k ∧ Limbs acc' ∧
      toNat acc' = max (toNat acc) (toNat d) := by
  by_cases h : gq_ofInt (compareUint d acc) = .gt
  · have := (gd_gt_iff hd hacc).1 h
    refine ⟨d, ?_, ld, hd, by omega⟩
    simp [h, copyWhole, ld, lacc]
  · have : ¬ toNat acc < toNat d := fun h' => h ((gd_gt_iff hd hacc).2 h')
    refine ⟨acc, ?_, lacc, hacc, by omega⟩
    simp [h]; rfl

/-- value-level meaning of one step for canonical inputs (uses the C08 specifications of the model functions): with `c ≤ Q`, all of `k ≥ 1` words,
    the new maximum is `max acc (if c ≥ thr then Q - c else c)` -/
theorem gd_normStepW_spec (Q thr acc abs c : List Nat) (k : Nat) (hk : 1 ≤ k)
    (hQ : Limbs Q) (hthr : Limbs thr) (hacc : Limbs acc) (hc : Limbs c)
    (lQ : Q.length = k) (lacc : acc.length = k) (labs : abs.length = k) (lc : c.length = k) (hcQ : toNat c ≤ toNat Q) :
    ∃ acc' abs', normStepW Q thr acc abs c = .ok (acc', abs') ∧ acc'.length = k ∧ abs'.length = k ∧ Limbs acc' ∧
      toNat acc' = max (toNat acc) (if toNat thr ≤ toNat c then toNat Q - toNat c else toNat c) := by
  unfold normStepW
  have hge := geUint_iff hc hthr
  by_cases hg : toNat thr ≤ toNat c
  · have hge' : geUint c thr = true := hge.2 hg
    obtain ⟨r, hsub, hrl, hrL, hrv⟩ := subUint_le hk hQ hc lQ lc hcQ
    obtain ⟨acc', hm, hl, hL, hv⟩ := gd_max_part acc r k hacc hrL lacc hrl
    refine ⟨acc', r, ?_, hl, hrl, hL, by rw [hv, hrv, if_pos hg]⟩
    simp only [hge', if_true, labs, hsub, bind, Except.bind, pure, Except.pure] at hm ⊢
    rw [hm]
  · have hge' : ¬ geUint c thr = true := fun h => hg (hge.1 h)
    obtain ⟨acc', hm, hl, hL, hv⟩ := gd_max_part acc c k hacc hc lacc lc
    refine ⟨acc', c, ?_, hl, lc, hL, by rw [hv, if_neg hg]⟩
    simp only [hge', if_false, copyWhole, lc, labs, if_true, bind, Except.bind, pure, Except.pure, Bool.false_eq_true] at hm ⊢
    rw [hm]

/-- the model's fold (`noiseBudget`: `vals.foldl (fun acc v => let a := if v ≥ negThr then Q - v else v; if a > acc then a else acc) 0`) -/
def normFoldV (Q thr : Nat) (vs : List Nat) (acc : Nat) : Nat :=
  vs.foldl (fun acc v => let a := if v ≥ thr then Q - v else v; if a > acc then a else acc) acc

/-- coefficient `i` of a flat array of `k`-word values -/
def coefW (poly : List Nat) (k i : Nat) : List Nat := (poly.drop (i * k)).take k

theorem gd_coefW_length (poly : List Nat) (k i : Nat) (h : (i + 1) * k ≤ poly.length) : (coefW poly k i).length = k := by
  unfold coefW; rw [List.length_take, List.length_drop]
  have : (i + 1) * k = i * k + k := by rw [Nat.add_mul, Nat.one_mul]
  omega

theorem gd_coefW_limbs (poly : List Nat) (k i : Nat) (h : Limbs poly) : Limbs (coefW poly k i) := by
  intro x hx; unfold coefW at hx
  exact h x (List.mem_of_mem_drop (List.mem_of_mem_take hx))

/-- GENERATED loop of `poly_infty_norm`, one pass (fuel + 1): coefficient `i` = words `i·k .. (i+1)·k`, then `normStepW` -/
theorem gd_norm_loop_succ (poly : List Nat) (k : Nat) (Q thr : List Nat) (cnt fuel i : Nat) (acc abs : List Nat)
    (h1 : (i + 1) * k ≤ poly.length) (h2 : poly.length < 2^64) (hk : 1 ≤ k) :
    poly_infty_norm_loop1 poly k Q thr cnt (fuel+1) i acc abs =
      (normStepW Q thr acc abs (coefW poly k i) >>= fun p => poly_infty_norm_loop1 poly k Q thr cnt fuel (i+1) p.1 p.2) := by
  have e0 : (i + 1) * k = i * k + k := by rw [Nat.add_mul, Nat.one_mul]
  have e1 : i + 1 ≤ (i + 1) * k := Nat.le_mul_of_pos_right _ hk
  have hm1 : ckMul i k = .ok (i * k) := ckMul_ok (by simp only [B64]; omega)
  have ha : ckAdd i 1 = .ok (i + 1) := ckAdd_ok (by simp only [B64]; omega)
  have hm2 : ckMul (i + 1) k = .ok ((i + 1) * k) := ckMul_ok (by simp only [B64]; omega)
  have hs : GenR.slice poly (i * k) ((i + 1) * k) = .ok (coefW poly k i) := by
    unfold GenR.slice coefW; rw [if_pos ⟨by omega, h1⟩]; congr 2; omega
  conv_lhs => unfold poly_infty_norm_loop1
  simp only [hm1, ha, hm2, hs, bind, Except.bind, gq_is_greater_than_or_equal_uint_eq, is_greater_than_uint, gq_compare_uint_eq, gx_sub_uint_eq,
    normStepW, pure, Except.pure]
  by_cases hge : geUint (coefW poly k i) thr = true
  · simp only [hge, if_true]
    cases subUint Q (coefW poly k i) abs.length with
    | error e => rfl
    | ok p =>
      obtain ⟨d, bw⟩ := p
      simp only []
      by_cases hgt : gq_ofInt (compareUint d acc) = .gt
      · simp only [hgt, decide_true, if_true]
        cases copyWhole acc d <;> rfl
      · simp only [hgt, decide_false, if_false, Bool.false_eq_true]
  · simp only [hge, if_false, Bool.false_eq_true]
    cases copyWhole abs (coefW poly k i) with
    | error e => rfl
    | ok d =>
      simp only []
      by_cases hgt : gq_ofInt (compareUint d acc) = .gt
      · simp only [hgt, decide_true, if_true]
        cases copyWhole acc d <;> rfl
      · simp only [hgt, decide_false, if_false, Bool.false_eq_true]

theorem gd_normFoldV_cons (Q thr v : Nat) (vs : List Nat) (acc : Nat) :
    normFoldV Q thr (v :: vs) acc = normFoldV Q thr vs (max acc (if thr ≤ v then Q - v else v)) := by
  unfold normFoldV
  rw [List.foldl_cons]
  congr 1
  simp only [ge_iff_le, gt_iff_lt]
  split_ifs <;> omega

/-- the whole loop: `cnt - i` passes from coefficient `i` compute the fold over the coefficient VALUES.  The step is known only as an
    existence statement with a value (`gd_normStepW_spec`), so this is an induction on the fuel, not an equation of `Loop.fold`'s form. -/
theorem gd_norm_loop_spec (poly : List Nat) (k : Nat) (Q thr : List Nat) (cnt : Nat) (hk : 1 ≤ k)
    (hQ : Limbs Q) (hthr : Limbs thr) (hp : Limbs poly) (lQ : Q.length = k) (hlen : poly.length = cnt * k) (h64 : poly.length < 2^64)
    (hcQ : ∀ j, j < cnt → toNat (coefW poly k j) ≤ toNat Q) :
    ∀ (f i : Nat) (acc abs : List Nat), i + f = cnt → Limbs acc → acc.length = k → abs.length = k →
      ∃ r, poly_infty_norm_loop1 poly k Q thr cnt f i acc abs = .ok r ∧ r.length = k ∧ Limbs r ∧
        toNat r = normFoldV (toNat Q) (toNat thr) ((List.range' i f).map (fun j => toNat (coefW poly k j))) (toNat acc) := by
  intro f
  induction f with
  | zero =>
    intro i acc abs _ hacc lacc _
    exact ⟨acc, rfl, lacc, hacc, by simp [normFoldV]⟩
  | succ f ih =>
    intro i acc abs hif hacc lacc labs
    have hi : (i + 1) * k ≤ poly.length := by rw [hlen]; exact Nat.mul_le_mul_right k (by omega)
    rw [gd_norm_loop_succ poly k Q thr cnt f i acc abs hi h64 hk]
    obtain ⟨acc', abs', hstep, lacc', labs', hacc', hv⟩ :=
      gd_normStepW_spec Q thr acc abs (coefW poly k i) k hk hQ hthr hacc (gd_coefW_limbs poly k i hp) lQ lacc labs
        (gd_coefW_length poly k i hi) (hcQ i (by omega))
    rw [hstep]
    obtain ⟨r, hr, lr, hrL, hrv⟩ := ih (i + 1) acc' abs' (by omega) hacc' lacc' labs'
    refine ⟨r, hr, lr, hrL, ?_⟩
    rw [hrv, List.range'_succ, List.map_cons, gd_normFoldV_cons, hv]

/-- GENERATED `poly_infty_norm` = the model's norm fold on the coefficient values, GIVEN that `half_round_up_uint(modulus)` returned the
    threshold `thr` (generated in Gen/DecFns.lean; its value `(Q + 1) / 2` is the hand model's `halfRoundUp_spec`, C08). -/
theorem gd_poly_infty_norm_spec (poly : List Nat) (k : Nat) (Q thr res : List Nat) (cnt : Nat) (hk : 1 ≤ k)
    (hQ : Limbs Q) (hp : Limbs poly) (lQ : Q.length = k) (lres : res.length = k) (hlen : poly.length = cnt * k) (h64 : poly.length < 2^64)
    (hcQ : ∀ j, j < cnt → toNat (coefW poly k j) ≤ toNat Q)
    (hthr : half_round_up_uint Q (List.replicate k 0) = .ok thr) (hthrL : Limbs thr) :
    ∃ r, poly_infty_norm poly k Q res = .ok r ∧ r.length = k ∧ Limbs r ∧
      toNat r = normFoldV (toNat Q) (toNat thr) ((List.range' 0 cnt).map (fun j => toNat (coefW poly k j))) 0 := by
  rw [gd_poly_infty_norm_unfold, if_pos lQ, hthr]
  have hdiv : GenW.ckDiv poly.length k = .ok cnt := by
    unfold GenW.ckDiv; rw [if_neg (by omega), hlen, Nat.mul_div_cancel _ (by omega)]
  simp only [hdiv, bind, Except.bind, lres]
  have hz : Limbs (List.replicate k 0) := by intro x hx; rw [List.mem_replicate] at hx; rw [hx.2]; decide
  obtain ⟨r, hr, lr, hrL, hrv⟩ := gd_norm_loop_spec poly k Q thr cnt hk hQ hthrL hp lQ hlen h64 hcQ cnt 0 (List.replicate k 0) (List.replicate k 0)
    (by omega) hz (by simp) (by simp)
  refine ⟨r, hr, lr, hrL, ?_⟩
  rw [hrv, toNat_replicate_zero]

theorem gd_bits_exit (a : List Nat) (ha : Limbs a) (hlen : 64 * a.length < 2^64) (c : Nat) (hc : c < a.length)
    (hz : ∀ x ∈ a.drop (c + 1), x = 0) (hex : c = 0 ∨ a[c] ≠ 0) :
    (do let t3 ← ckMul 64 c; let t4 ← GenW.idx a c; let t5 ← GenW.get_significant_bit_count t4; ckAdd t3 t5 : R Nat) = .ok (bitCount (toNat a)) := by
  have hw : a[c] < 2^64 := ha _ (List.getElem_mem hc)
  have hb : bitCount a[c] ≤ 64 := bitCount_le_iff_lt.2 hw
  have hm : ckMul 64 c = .ok (64 * c) := ckMul_ok (by simp only [B64]; omega)
  have hadd : ckAdd (64 * c) (bitCount a[c]) = .ok (64 * c + bitCount a[c]) := ckAdd_ok (by simp only [B64]; omega)
  simp only [hm, GenW.idx_ok a hc, gw_get_significant_bit_count_eq _ hw, bind, Except.bind, pure, Except.pure, hadd]
  rw [bitCount_toNat ha hc hz hex]

/-- as `gd_sig_loop` (GenDecBgv): a `while` loop that counts down and leaves early, induction on the counter `c` -/
theorem gd_bits_loop (a : List Nat) (ha : Limbs a) (hlen : 64 * a.length < 2^64) : ∀ (c fuel : Nat), c < a.length → c < fuel →
    (∀ x ∈ a.drop (c + 1), x = 0) → get_significant_bit_count_uint_loop1 a fuel c = .ok (bitCount (toNat a)) := by
  intro c
  induction c with
  | zero =>
    intro fuel hc hf hz
    obtain ⟨f, rfl⟩ : ∃ f, fuel = f + 1 := ⟨fuel - 1, by omega⟩
    rw [get_significant_bit_count_uint_loop1]
    simp only [gt_iff_lt, Nat.lt_irrefl, if_false, bind, Except.bind, pure, Except.pure, Bool.false_eq_true]
    exact gd_bits_exit a ha hlen 0 hc hz (Or.inl rfl)
  | succ c ih =>
    intro fuel hc hf hz
    obtain ⟨f, rfl⟩ : ∃ f, fuel = f + 1 := ⟨fuel - 1, by omega⟩
    rw [get_significant_bit_count_uint_loop1]
    simp only [gt_iff_lt, Nat.zero_lt_succ, if_true, GenW.idx_ok a hc, bind, Except.bind, pure, Except.pure]
    by_cases h0 : a[c + 1] = 0
    · have hsub : ckSub (c + 1) 1 = .ok c := ckSub_of_le (by omega)
      simp only [h0, decide_true, if_true, hsub]
      apply ih f (by omega) (by omega)
      intro x hx
      rw [List.drop_eq_getElem_cons hc] at hx
      rcases List.mem_cons.1 hx with h | h
      · rw [h, h0]
      · exact hz x h
    · simp only [h0, decide_false, if_false, Bool.false_eq_true]
      have := gd_bits_exit a ha hlen (c + 1) hc hz (Or.inr h0)
      simp only [GenW.idx_ok a hc, bind, Except.bind] at this
      exact this

/-- `get_significant_bit_count_uint` = `bitCountUint` (hand model, C08) on canonical values; `len < 2^58` words (the `64 * c` of the code) -/
theorem gd_get_significant_bit_count_uint_eq (a : List Nat) (ha : Limbs a) (hlen : 64 * a.length < 2^64) :
    get_significant_bit_count_uint a = bitCountUint a := by
  unfold get_significant_bit_count_uint bitCountUint
  cases a with
  | nil => rfl
  | cons x xs =>
    have hsub : ckSub (x :: xs).length 1 = .ok xs.length := ckSub_of_le (by simp)
    simp only [hsub, bind, Except.bind, List.isEmpty_cons, Bool.false_eq_true, if_false]
    exact gd_bits_loop (x :: xs) ha hlen xs.length ((x :: xs).length + 1) (by simp) (by simp) (by simp)

/-- the last lines of the model's `noiseBudget` are `budgetOfBits (bits Q) (bits (normFoldV Q ((Q+1)/2) vals 0))` -/
theorem gd_noiseBudget_unfold (l : Level) (sk : Array Int) (ct : Ct) :
    noiseBudget l sk ct = (do
      if ct.ntt then .error .refused else
      if l.scheme = .ckks then .error .refused else
      let ph ← dotProductCtSk l sk ct
      let ph ← if l.scheme = .bfv then
          (List.range l.size).foldlM (fun acc i => do
            let c ← mapM' (ph.getD i #[]) (fun x => mulMod x l.t.value (l.q i))
            pure (acc.push c)) (#[] : RnsPoly)
        else pure ph
      let vals ← (transpose ph l.n).toList.mapM (fun col => l.tool.baseQ.compose col)
      pure (budgetOfBits (bitCount l.tool.baseQ.prod)
        (bitCount (normFoldV l.tool.baseQ.prod ((l.tool.baseQ.prod + 1) / 2) vals 0)))) := by
  unfold noiseBudget budgetOfBits normFoldV
  rfl

/-- SOURCE → MODEL: generated `invariant_noise_budget` on a valid BFV / BGV ciphertext in coefficient form whose composed noise polynomial is
    `composed` (n coefficients of k words, each ≤ Q): the plan of the opaque steps and the model's budget of the coefficient VALUES.
    `hthr`: the threshold computed by the generated `half_round_up_uint` (its value is `(Q + 1) / 2` by `halfRoundUp_spec`, C08).
    `gd_budget_source_spec_full` below discharges `hthr`; that one is what Props states as `gen_budget_source_spec`. -/
theorem gd_budget_source_spec (size : Nat) (scheme : Scheme) (k n : Nat) (Q : List Nat) (tb : Nat) (composed plan thr : List Nat)
    (hsize : 2 ≤ size) (hs : scheme = .bfv ∨ scheme = .bgv) (hk : 1 ≤ k) (hk64 : 64 * k < 2^63)
    (hQ : Limbs Q) (lQ : Q.length = k) (hp : Limbs composed) (hlen : composed.length = n * k) (hnk : n * k < 2^64)
    (hcQ : ∀ j, j < n → toNat (coefW composed k j) ≤ toNat Q) (htb : tb < 2^63)
    (hthr : half_round_up_uint Q (List.replicate k 0) = .ok thr) (hthrL : Limbs thr) :
    dec_invariant_noise_budget true size scheme false k n Q tb composed plan =
      .ok (plan ++ [1] ++ (if scheme = .bfv then [2] else []) ++ [3],
           budgetOfBits tb (bitCount (normFoldV (toNat Q) (toNat thr) ((List.range' 0 n).map (fun j => toNat (coefW composed k j))) 0))) := by
  obtain ⟨r, hr, lr, hrL, hrv⟩ := gd_poly_infty_norm_spec composed k Q thr (List.replicate k 0) n hk hQ hp lQ (by simp) hlen (by omega) hcQ hthr hthrL
  have hbits : get_significant_bit_count_uint r = .ok (bitCount (toNat r)) := by
    rw [gd_get_significant_bit_count_uint_eq r hrL (by rw [lr]; omega)]
    unfold bitCountUint
    cases r with
    | nil => simp at lr; omega
    | cons x xs => rfl
  have hnb : bitCount (toNat r) < 2^63 := by
    have h1 : toNat r < 2^(64 * k) := by have := toNat_lt hrL; rw [lr] at this; exact this
    have : bitCount (toNat r) ≤ 64 * k := bitCount_le_iff_lt.2 h1
    omega
  rw [gd_invariant_noise_budget_eq true size scheme false k n Q tb composed plan r (bitCount (toNat r)) rfl hsize hs rfl hnk hlen hr hbits htb hnb, hrv]

theorem gd_shift_or (x y : Nat) (hx : x < 2^64) : (x >>> 1) ||| ((y <<< 63) % B64) = x / 2 + (y % 2) * 2^63 := by
  have := shr_or_shl x y 1 (by decide) hx
  rw [sh_shr_mod (by decide), pow_one] at this
  rw [B64_eq]; exact this

theorem gd_and_one (x : Nat) : decide ((x &&& 1) ≠ 0) = decide (x % 2 = 1) := by
  rw [Nat.and_one_is_mod]; congr 1; apply propext; omega

/-- loop against loop: the in-place ripple on `r` runs in step with `GenW.add_uint_u64`'s on the operand `a` as long as `r` still holds
    `a` from the cursor on.  No closed form is wanted here (GenUint has it for the second loop), hence a direct induction on the fuel. -/
theorem gd_add_u64_inplace_loop (a : List Nat) : ∀ cnt i (r : List Nat) c, r.drop i = a.drop i →
    add_uint_u64_inplace_loop1 cnt i r c = GenW.add_uint_u64_loop1 a cnt i r c := by
  intro cnt
  induction cnt with
  | zero => intro i r c _; rfl
  | succ n ih =>
    intro i r c h
    rw [add_uint_u64_inplace_loop1, GenW.add_uint_u64_loop1, GenW.idx_congr h]
    cases GenW.idx a i with
    | error e => rfl
    | ok x =>
      simp only [R.ok_bind']
      unfold GenW.setIdx
      by_cases hi : i < r.length
      · simp only [if_pos hi, R.ok_bind']
        exact ih (i+1) _ _ (list_drop_set_succ _ h)
      · simp only [if_neg hi]; rfl

theorem gd_add_uint_u64_inplace_eq (a : List Nat) (w : Nat) : add_uint_u64_inplace a w = addUintU64 a w a.length := by
  rw [← gx_add_uint_u64_eq]
  unfold add_uint_u64_inplace GenW.add_uint_u64
  cases GenW.idx a 0 with
  | error e => rfl
  | ok x =>
    simp only [R.ok_bind']
    exact gd_add_u64_inplace_loop a _ 1 _ _ (list_drop_set_succ _ rfl)

theorem gd_increment_uint_inplace_eq (a : List Nat) : increment_uint_inplace a = addUintU64 a 1 a.length := by
  unfold increment_uint_inplace
  rw [gd_add_uint_u64_inplace_eq]
  cases addUintU64 a 1 a.length with
  | error e => rfl
  | ok p => rfl

/-- word `i` of the halved value (as in `halfRoundUp`) -/
def gd_sh (a : List Nat) (n i : Nat) : Nat := a.getD i 0 / 2 + (if i + 1 < n then (a.getD (i+1) 0 % 2) * 2^63 else 0)

/-- `half_round_up_uint(operand, result)` on a zeroed result of `n ≤ operand.len()` words = the hand model `halfRoundUp operand n`.
    The loop writes the words `0 .. n-2` (`Loop.write`); its exit code writes word `n-1` and increments if the low bit was set. -/
theorem gd_half_round_up_uint_eq (a : List Nat) (ha : Limbs a) (n : Nat) (hla : n ≤ a.length) (hl64 : a.length < 2^64) :
    half_round_up_uint a (List.replicate n 0) = halfRoundUp a n := by
  unfold half_round_up_uint halfRoundUp
  cases n with
  | zero => rfl
  | succ m =>
    have h0 : 0 < a.length := by omega
    have hm : m < a.length := by omega
    have hsub : ckSub (m + 1) 1 = .ok m := ckSub_of_le (by omega)
    simp only [List.length_replicate, Nat.succ_ne_zero, if_false, GenW.idx_ok a h0, hsub, bind, Except.bind, show ¬ a.length < m + 1 by omega]
    rw [Loop.write (half_round_up_uint_loop1 a _ (m + 1)) (fun j => .ok (gd_sh a (m + 1) j)) (half_round_up_uint_loop1 a _ (m + 1) 0 0) 0 0 m
      (List.replicate (m + 1) 0) (fun _ _ => rfl) (fun k j l _ hj hA => by
        have hl : j < l.length := by rw [hA.length, List.length_replicate]; omega
        rw [half_round_up_uint_loop1]
        simp only [GenW.idx_ok a (show j < a.length by omega), ckAdd_ok (show j + 1 < B64 by simp only [B64]; omega),
          GenW.idx_ok a (show j + 1 < a.length by omega), GenW.setIdx_ok l _ hl, bind, Except.bind]
        rw [gd_shift_or _ _ (ha _ (List.getElem_mem _)), Nat.zero_add]
        unfold gd_sh
        rw [if_pos (by omega), list_getD_eq_getElem a 0 (by omega), list_getD_eq_getElem a 0 (by omega)]) (by simp) m (by omega),
      R.mapM_ok _ (gd_sh a (m + 1)) _ (fun _ _ => rfl)]
    have hset : GenW.setIdx (List.take (0 + 0) (List.replicate (m + 1) 0) ++ (List.range' 0 m).map (gd_sh a (m + 1)) ++
        List.drop (0 + 0 + m) (List.replicate (m + 1) 0)) m (a[m] >>> 1) = .ok ((List.range (m + 1)).map (gd_sh a (m + 1))) := by
      rw [GenW.setIdx_ok _ _ (by simp), List.range_succ, List.map_append, List.range_eq_range']
      simp [gd_sh, List.getElem?_eq_getElem hm, Nat.shiftRight_eq_div_pow]
    have hhead : a.headD 0 = a[0] := by cases a with | nil => simp at h0 | cons x xs => rfl
    change half_round_up_uint_loop1 a _ (m + 1) 0 0 _ =
      if _ then (addUintU64 ((List.range (m + 1)).map (gd_sh a (m + 1))) 1 (m + 1) >>= fun v => pure v.1) else pure ((List.range (m + 1)).map (gd_sh a (m + 1)))
    rw [half_round_up_uint_loop1]
    simp only [hsub, GenW.idx_ok a hm, hset, bind, Except.bind, pure, Except.pure, gd_increment_uint_inplace_eq, List.length_map, List.length_range,
      gd_and_one, hhead, decide_eq_true_eq]

/-- the negative threshold of `poly_infty_norm` as the generated code computes it: `(Q + 1) / 2`, `k` canonical words -/
theorem gd_threshold_spec (Q : List Nat) (k : Nat) (hk : 1 ≤ k) (hQ : Limbs Q) (lQ : Q.length = k) (hk64 : k < 2^64) :
    ∃ thr, half_round_up_uint Q (List.replicate k 0) = .ok thr ∧ thr.length = k ∧ Limbs thr ∧ toNat thr = (toNat Q + 1) / 2 := by
  obtain ⟨r, hr, lr, hrL, hrv⟩ := halfRoundUp_spec (a := Q) (n := k) hk hQ (by omega)
  refine ⟨r, ?_, lr, hrL, ?_⟩
  · rw [gd_half_round_up_uint_eq Q hQ k (by omega) (by omega), hr]
  · have hQt : Q.take k = Q := by rw [← lQ]; exact List.take_length
    have hlt : toNat Q < 2^(64 * k) := by have := toNat_lt hQ; rw [lQ] at this; exact this
    have hpos : 2 ≤ 2^(64 * k) := by
      calc 2 = 2^1 := rfl
        _ ≤ 2^(64 * k) := Nat.pow_le_pow_right (by omega) (by omega)
    rw [hrv, hQt, Nat.mod_eq_of_lt (by omega)]

/-- SOURCE → MODEL, no hypothesis on the threshold: the generated `invariant_noise_budget` = plan + the model's budget
    `bits(Q) − bits(norm) − 1` (clamped) with `norm` the centred infinity norm (lift at `≥ (Q+1)/2`) of the coefficient values. -/
theorem gd_budget_source_spec_full (size : Nat) (scheme : Scheme) (k n : Nat) (Q : List Nat) (tb : Nat) (composed plan : List Nat)
    (hsize : 2 ≤ size) (hs : scheme = .bfv ∨ scheme = .bgv) (hk : 1 ≤ k) (hk64 : 64 * k < 2^63)
    (hQ : Limbs Q) (lQ : Q.length = k) (hp : Limbs composed) (hlen : composed.length = n * k) (hnk : n * k < 2^64)
    (hcQ : ∀ j, j < n → toNat (coefW composed k j) ≤ toNat Q) (htb : tb < 2^63) :
    dec_invariant_noise_budget true size scheme false k n Q tb composed plan =
      .ok (plan ++ [1] ++ (if scheme = .bfv then [2] else []) ++ [3],
           budgetOfBits tb (bitCount (normFoldV (toNat Q) ((toNat Q + 1) / 2) ((List.range' 0 n).map (fun j => toNat (coefW composed k j))) 0))) := by
  obtain ⟨thr, hthr, _, hthrL, hv⟩ := gd_threshold_spec Q k hk hQ lQ (by omega)
  rw [gd_budget_source_spec size scheme k n Q tb composed plan thr hsize hs hk hk64 hQ lQ hp hlen hnk hcQ htb hthr hthrL, hv]

end HC
