/- Audit of property C10: `#print axioms` for every property theorem of Props/C10.lean; `audit()` of tools/runner.py elaborates this file
   and compares each axiom list with the three standard axioms. -/
import Heathcliff.Props.C10
#print axioms HC.C10.RNSBase.new_wf
#print axioms HC.C10.crt_unique
#print axioms HC.C10.compose_spec
#print axioms HC.C10.compose_decompose
#print axioms HC.C10.decompose_compose
#print axioms HC.C10.fastConvert_spec
#print axioms HC.C10.decompose_spec_of
#print axioms HC.C10.divRoundLast_scalar
#print axioms HC.C10.modTDivLast_scalar
#print axioms HC.C10.divideAndRoundQLast_spec
#print axioms HC.C10.smMrq_scalar
#print axioms HC.C10.fastFloor_scalar
#print axioms HC.C10.fastbconvSk_scalar_bound
#print axioms HC.C10.scaleAndRound_scalar_bound
#print axioms HC.C10.smMrq_spec
#print axioms HC.C10.fastFloor_spec
#print axioms HC.C10.fastbconvSk_spec
#print axioms HC.C10.decryptScaleAndRound_spec
#print axioms HC.C10.modTAndDivideQLast_spec
#print axioms HC.C10.gen_modulus_reduce_eq
#print axioms HC.C10.gen_modulo_eq
#print axioms HC.C10.gen_negate_inplace_eq
#print axioms HC.C10.gen_add_scalar_inplace_eq
#print axioms HC.C10.gen_sub_scalar_inplace_eq
#print axioms HC.C10.gen_sub_inplace_eq
#print axioms HC.C10.gen_multiply_operand_inplace_eq
#print axioms HC.C10.gen_multiply_scalar_inplace_eq
#print axioms HC.C10.gen_divide_and_round_q_last_inplace_eq
#print axioms HC.C10.gen_divide_and_round_q_last_inplace_rounds
#print axioms HC.C10.gen_mod_t_and_divide_q_last_ntt_inplace_eq
#print axioms HC.C10.gen_mod_t_and_divide_q_last_inplace_eq
#print axioms HC.C10.gen_mod_t_and_divide_q_last_inplace_bgv
#print axioms HC.C10.gen_divide_and_round_q_last_ntt_inplace_eq
#print axioms HC.C10.gen_sm_mrq_eq
#print axioms HC.C10.gen_multiply_operand_eq
#print axioms HC.C10.gen_set_uint_eq
#print axioms HC.C10.gen_fast_convert_array_eq
#print axioms HC.C10.gen_fast_convert_array_core
#print axioms HC.C10.gen_convOK_new
#print axioms HC.C10.gen_fast_convert_array_crt
#print axioms HC.C10.gen_fast_floor_eq
#print axioms HC.C10.gen_sm_mrq_montgomery
#print axioms HC.C10.gen_decrypt_scale_and_round_eq
#print axioms HC.C10.gen_dsr_sizes_of_new
#print axioms HC.C10.gen_decrypt_scale_and_round_rounds
#print axioms HC.C10.gen_fastbconv_sk_eq
#print axioms HC.C10.gen_fastbconv_sk_exact
#print axioms HC.C10.gen_multiply_scalar_p_components
#print axioms HC.C10.gen_fastbconv_m_tilde_eq
#print axioms HC.C10.gen_fastbconv_m_tilde_crt
#print axioms HC.C10.gen_rnsbase_decompose_eq
#print axioms HC.C10.gen_rnsbase_decompose_refuses
#print axioms HC.C10.gen_rnsbase_decompose_residues
#print axioms HC.C10.gen_rnsbase_decompose_array_eq
#print axioms HC.C10.gen_rnsbase_decompose_array_residues
#print axioms HC.C10.gen_exact_convey_array_eq
#print axioms HC.C10.gen_decrypt_mod_t_eq
#print axioms HC.C10.gen_decrypt_mod_t_centred
#print axioms HC.C10.gen_fast_floor_floor
#print axioms HC.C10.gen_multiply_uint_u64_eq
#print axioms HC.C10.gen_rnsbase_compose_eq
#print axioms HC.C10.gen_rnsbase_compose_crt
#print axioms HC.C10.gen_decompose_compose
