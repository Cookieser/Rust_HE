/-
  The compact-width helpers `write_u64_limited` / `read_u64_limited` of src/serialize.rs
  (Gen/SerFns.lean) are the model's `limC`: `limit` single-byte calls through the `u8` impl, least significant byte first; the writer
  panics AFTER having written the truncated bytes when the value does not fit.  Helper prefix `gl_`.
-/
import Heathcliff.Proofs.GenSer
import Heathcliff.Proofs.GenSerR
import Mathlib.Tactic.Ring
namespace HC.GS
open HC HC.Codec HC.GenS

variable {S E : Type}

theorem gl_low_byte (v : Nat) : (v &&& 255) % 256 = v % 256 := by
  have h255 : (255 : Nat) = 2 ^ 8 - 1 := by decide
  rw [h255, Nat.and_two_pow_sub_one_eq_mod]
  exact Nat.mod_mod _ _

theorem gl_limC_chunks (limit v : Nat) :
    (limC limit).chunks v = seqChunks (List.replicate limit u8C) (leBytes limit v) := rfl

theorem gl_write_loop (st : WStream S E) (l : List Nat) (acc v : Nat) :
    write_u64_limited_loop1 st l v acc
      = wbind (runChunks st (seqChunks (List.replicate l.length u8C) (leBytes l.length v)))
          fun n => wpure (v / 256 ^ l.length, acc + n) := by
  induction l generalizing acc v with
  | nil => simp [write_u64_limited_loop1, seqChunks, runChunks, wbind_wpure, leBytes]
  | cons x xs ih =>
    have hb : v % 256 < 256 := Nat.mod_lt _ (by decide)
    have hs : v >>> 8 = v / 256 := by rw [Nat.shiftRight_eq_div_pow]
    have hd : v / 256 / 256 ^ xs.length = v / 256 ^ (xs.length + 1) := by
      rw [Nat.div_div_eq_div_mul, Nat.pow_succ, Nat.mul_comm]
    simp only [write_u64_limited_loop1, List.length_cons, List.replicate_succ, leBytes, seqChunks, runChunks_append, gl_low_byte,
      gs_u8_serialize st _ hb, hs, ih, wbind_assoc, wbind_wpure, hd, Nat.add_assoc]

theorem gl_write_u64_limited (st : WStream S E) (v limit : Nat) (hv : v < 256 ^ limit) :
    write_u64_limited st v limit = runChunks st ((limC limit).chunks v) := by
  have h0 : v / 256 ^ limit = 0 := Nat.div_eq_of_lt hv
  simp only [write_u64_limited, gl_write_loop, List.length_range', Nat.sub_zero, gl_limC_chunks, wbind_assoc, wbind_wpure, h0,
    Nat.zero_add]
  simp [wbind_pure_right]

/-- the excluded point: the value does NOT fit — the truncated bytes are written, then `assert_eq!(value, 0)` panics -/
theorem gl_write_u64_limited_panics (st : WStream S E) (v limit : Nat) (hv : 256 ^ limit ≤ v) :
    write_u64_limited st v limit = wbind (runChunks st ((limC limit).chunks v)) fun _ => wpanic := by
  have h0 : (v / 256 ^ limit == 0) = false := by
    have : 0 < v / 256 ^ limit := Nat.div_pos hv (Nat.pow_pos (by decide))
    simp; omega
  simp only [write_u64_limited, gl_write_loop, List.length_range', Nat.sub_zero, gl_limC_chunks, wbind_assoc, wbind_wpure, h0]
  simp

theorem gl_u8_dec_cons (b : Nat) (r : Bytes) : u8C.dec (b :: r) = .ok (b, r) := by
  simp [u8C, scalarC, readExact, leVal]

theorem gl_u8_dec_nil : u8C.dec [] = .error (.eof .u8) := by
  simp [u8C, scalarC, readExact]

theorem gl_or_add (acc b s : Nat) (hacc : acc < 256 ^ s) (hb : b < 256) (hs : s < 8) :
    acc ||| ((b <<< (8 * s)) % 18446744073709551616) = acc + 256 ^ s * b := by
  have hp : (2 : Nat) ^ (8 * s) = 256 ^ s := by rw [Nat.pow_mul]
  have hlt : b <<< (8 * s) < 18446744073709551616 := by
    rw [Nat.shiftLeft_eq, hp]
    have h1 : 256 ^ s ≤ 256 ^ 7 := Nat.pow_le_pow_right (by decide) (by omega)
    calc b * 256 ^ s < 256 * 256 ^ s := Nat.mul_lt_mul_of_pos_right hb (Nat.pow_pos (by decide))
      _ ≤ 256 * 256 ^ 7 := Nat.mul_le_mul_left _ h1
      _ = 18446744073709551616 := by decide
  rw [Nat.mod_eq_of_lt hlt, Nat.or_comm]
  have hacc' : acc < 2 ^ (8 * s) := by rw [hp]; exact hacc
  rw [← Nat.shiftLeft_add_eq_or_of_lt hacc', Nat.shiftLeft_eq, hp]
  ring

theorem gl_read_loop (k : Nat) (start acc : Nat) (bs : Bytes) (hbs : ∀ b ∈ bs, b < 256) (hacc : acc < 256 ^ start)
    (hk : start + k ≤ 8) :
    read_u64_limited_loop1 (List.range' start k) acc bs
      = match seqDec (List.replicate k u8C) bs with
        | .ok (xs, r) => .ok (acc + 256 ^ start * leVal xs, r)
        | .error e => .error e := by
  induction k generalizing start acc bs with
  | zero => simp [read_u64_limited_loop1, seqDec, rpure, leVal]
  | succ k ih =>
    simp only [List.range'_succ, read_u64_limited_loop1, List.replicate_succ, seqDec, rbind, gr_u8_deserialize]
    cases bs with
    | nil => simp [gl_u8_dec_nil]
    | cons b r =>
      have hb : b < 256 := hbs b List.mem_cons_self
      have hr : ∀ x ∈ r, x < 256 := fun x hx => hbs x (List.mem_cons_of_mem _ hx)
      have hlt : 8 * start < 64 := by omega
      have hacc' : acc + 256 ^ start * b < 256 ^ (start + 1) := by
        rw [Nat.pow_succ]
        calc acc + 256 ^ start * b < 256 ^ start + 256 ^ start * b := by omega
          _ = 256 ^ start * (b + 1) := by ring
          _ ≤ 256 ^ start * 256 := Nat.mul_le_mul_left _ (by omega)
      simp only [gl_u8_dec_cons, hlt, if_true, gl_or_add acc b start hacc hb (by omega)]
      rw [ih (start + 1) _ r hr hacc' (by omega)]
      cases seqDec (List.replicate k u8C) r with
      | error e => rfl
      | ok q =>
        obtain ⟨xs, r2⟩ := q
        simp only [leVal]
        congr 2
        rw [Nat.pow_succ]; ring

/-- `read_u64_limited` = the model's `limC` decoder for every width the code can ask for (`get_u64_limit ≤ 8`), on a stream of bytes.
    (For `limit > 8` the code's shift `<< (8 * i)` overflows: a panic in debug builds — never reached, since `limit ≤ 8`.) -/
theorem gl_read_u64_limited (limit : Nat) (hl : limit ≤ 8) (bs : Bytes) (hbs : ∀ b ∈ bs, b < 256) :
    read_u64_limited limit bs = (limC limit).dec bs := by
  simp only [read_u64_limited, rbind, Nat.sub_zero, limC, restrictC, mapC, repC, seqC]
  rw [gl_read_loop limit 0 0 bs hbs (by simp) (by omega)]
  cases seqDec (List.replicate limit u8C) bs with
  | error e => rfl
  | ok q => simp [rpure]

theorem gs_limC_enc_bytes (limit v : Nat) :
    ∀ b ∈ flat (seqChunks (List.replicate limit u8C) (leBytes limit v)), b < 256 := by
  induction limit generalizing v with
  | zero => intro b hb; simp [leBytes, seqChunks, flat] at hb
  | succ n ih =>
    intro b hb
    simp only [List.replicate_succ, leBytes, seqChunks, flat_append, List.mem_append] at hb
    rcases hb with h | h
    · have : flat (u8C.chunks (v % 256)) = [v % 256 % 256] := by simp [u8C, scalarC, flat, leBytes]
      rw [this] at h
      have : b = v % 256 % 256 := by simpa using h
      omega
    · exact ih _ b h

end HC.GS
