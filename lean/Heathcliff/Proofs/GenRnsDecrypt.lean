import Heathcliff.Proofs.GenRnsConvert
import Heathcliff.Proofs.C01P

/-!
  The two decryption tails of `RNSTool` (src/util/rns.rs) as generated into `Gen/RnsFns.lean`.  `decrypt_scale_and_round` (BFV): three top-level loops —
  scaling by `|γt|_{q_i}` into a scratch buffer, the conversion q → {t, γ}, the γ-correction coefficient by coefficient — EQUALS the hand model's
  `RNSTool.decryptScaleAndRound`, and END TO END computes `round(t·x̃/Q) mod t` (C01's `c01p_decrypt_of_crt`).  `BaseConverter::exact_convey_array` after the
  table-declared FLOAT ERASURE (tools/rs2lean_rns4k.py: the f64 pipeline is the abstract function input `roundQ : List Nat → Nat` on the scaled residues
  of one coefficient) EQUALS the model's column-wise `exactConvey` under the EXPLICIT hypothesis that `roundQ` is the exact rational rounding (DESIGN.md §4);
  `decrypt_mod_t` (BGV) = `RNSTool.decryptModT`, END TO END the centred residue modulo t (C01's `c01p_decryptModT_of_crt`).
-/
namespace HC
open HC.GenW HC.GenR

/-! ### `RNSTool::decrypt_scale_and_round`, list level (the continuation of each top-level loop is emitted inside it; the conversion is an abstract function input) -/

/-- one coefficient of the γ-correction: `a` = the `t` component, `g` = the `γ` component (both already multiplied by `−q⁻¹`) -/
def gr_dsrElt (t gamma : Modulus) (gdiv2 : Nat) (ig : MulOperand) (a g : Nat) : R Nat :=
  (if g > gdiv2 then (ckSub gamma.value g >>= fun ng => barrett64 ng t >>= fun rg => addMod a rg t)
   else (barrett64 g t >>= fun rg => subMod a rg t)) >>= fun d => if d ≠ 0 then mulOperandMod d ig t else .ok d

/-- the end of an iteration of the third loop: the word `d` just written to `dest[j]` is read back and, unless it is zero, multiplied by `γ⁻¹` -/
theorem gr_dsr_gammaStep (l : List Nat) (j : Nat) (hl : j < l.length) (ig : MulOperand) (t : Modulus) (K : List Nat → R (List Nat)) (d : Nat) :
    (GenW.idx (l.set j d) j >>= fun t35 =>
      (if 0 ≠ t35 then
        (GenW.idx (l.set j d) j >>= fun t36 => GenW.multiply_u64operand_mod t36 ig t >>= fun t37 => GenW.setIdx (l.set j d) j t37)
       else pure (l.set j d)) >>= K)
      = ((if d ≠ 0 then mulOperandMod d ig t else .ok d) >>= fun y => K (l.set j y)) := by
  have hl' : j < (l.set j d).length := by rw [List.length_set]; exact hl
  simp only [GenW.idx_ok _ hl', List.getElem_set_self, R.ok_bind, gw_multiply_u64operand_mod_eq, gr_mulOperandMod, GenW.setIdx_ok _ _ hl',
    List.set_set, gr_pure]
  by_cases hd0 : d = 0
  · rw [if_neg (by omega), if_neg (by omega), R.ok_bind, R.ok_bind]
  · rw [if_pos (by omega), if_pos hd0, R.ok_bind, R.ok_bind]

/-- the third loop: coefficient `j` of the destination := the corrected value; the old contents are irrelevant -/
theorem gr_dsr_loop3 (tg : List (List Nat)) (n gdiv2 : Nat) (t gamma : Modulus) (ig : MulOperand) (dest : List Nat)
    (htg : tg.length = 2) (htn : ∀ c ∈ tg, c.length = n) (hd : dest.length = n) (h2n : 2 * n < 2^64) :
    GenR.decrypt_scale_and_round_loop3 n tg.flatten gdiv2 t gamma ig n 0 dest
      = (List.range' 0 n).mapM (fun j => gr_dsrElt t gamma gdiv2 ig ((tg.getD 0 []).getD j 0) ((tg.getD 1 []).getD j 0)) := by
  rw [gr_idxloop (GenR.decrypt_scale_and_round_loop3 n tg.flatten gdiv2 t gamma ig)
      (fun j _ => gr_dsrElt t gamma gdiv2 ig ((tg.getD 0 []).getD j 0) ((tg.getD 1 []).getD j 0)) n (fun _ _ => rfl) (by
      intro k j l hl hj
      obtain ⟨-, e1, e2⟩ := gr_read_ok n tg htn (htg.symm ▸ Nat.one_lt_two) hj (htg.symm ▸ h2n)
      obtain ⟨-, -, e3⟩ := gr_read_ok n tg htn (htg.symm ▸ Nat.zero_lt_two) hj (htg.symm ▸ h2n)
      rw [Nat.one_mul] at e1 e2
      rw [Nat.zero_mul, Nat.zero_add] at e3
      rw [GenR.decrypt_scale_and_round_loop3, gr_dsrElt]
      simp only [e1, e2, e3, R.ok_bind, gr_modulus_reduce_eq, gw_add_u64_mod_eq, gw_sub_u64_mod_eq]
      by_cases hg : (tg.getD 1 []).getD j 0 > gdiv2
      · simp only [if_pos hg, bind_assoc]
        refine R.bind_congr _ fun ng _ => R.bind_congr _ fun rg _ => R.bind_congr _ fun d _ => ?_
        rw [GenW.setIdx_ok _ _ hl, R.ok_bind, gr_dsr_gammaStep _ _ hl]
      · simp only [if_neg hg, bind_assoc]
        refine R.bind_congr _ fun rg _ => R.bind_congr _ fun d _ => ?_
        rw [GenW.setIdx_ok _ _ hl, R.ok_bind, gr_dsr_gammaStep _ _ hl])
    n 0 dest (by omega) (by omega)]
  exact gr_bind_ok _

/-- the second loop (`−q⁻¹ mod {t, γ}` in both components of the converted buffer) followed by the third -/
theorem gr_dsr_loop2 (tg : List (List Nat)) (n : Nat) (nops : List MulOperand) (tgs : List Modulus) (t gamma : Modulus) (ig : MulOperand) (dest : List Nat)
    (htg : tg.length = 2) (htn : ∀ c ∈ tg, c.length = n) (hd : dest.length = n) (h2n : 2 * n < 2^64)
    (htgs : tgs.length = 2) (hnops : 2 ≤ nops.length) :
    GenR.decrypt_scale_and_round_loop2 dest 2 n nops tgs t gamma ig 2 0 tg.flatten
      = (List.range' 0 n).mapM (fun j => gr_dsrElt t gamma ((tgs.getD 1 gr_dflt).value / 2) ig
          (mulOpV ((tg.getD 0 []).getD j 0) (nops.getD 0 default) (tgs.getD 0 gr_dflt))
          (mulOpV ((tg.getD 1 []).getD j 0) (nops.getD 1 default) (tgs.getD 1 gr_dflt))) := by
  rw [gr_comploop_pure (GenR.decrypt_scale_and_round_loop2 dest 2 n nops tgs t gamma ig)
    (fun i c => c.map (fun x => mulOpV x (nops.getD i default) (tgs.getD i gr_dflt)))
    (fun l => GenR.decrypt_scale_and_round_loop2 dest 2 n nops tgs t gamma ig 0 0 l) 2 n (fun _ _ => rfl) (by
      intro k i cs hi hcs hcn
      obtain ⟨e1, e2, e3⟩ := gr_bounds_ok (n := n) hi h2n (by norm_num)
      have hic : i < cs.length := hcs.symm ▸ hi
      have hcl : (cs.getD i []).length = n := hcn _ (list_getD_mem [] hic)
      have e8 := gr_splice_flat n cs i ((cs.getD i []).map (fun x => mulOpV x (nops.getD i default) (tgs.getD i gr_dflt))) hcn hic
        (by rw [List.length_map]; exact hcl)
      rw [GenR.decrypt_scale_and_round_loop2]
      simp only [e1, e2, e3, gr_slice_flat n cs i hcn hic, gr_idxOp_ok nops i default (Nat.lt_of_lt_of_le hi hnops), gr_idxMod_ok tgs i gr_dflt (htgs.symm ▸ hi),
        gr_multiply_operand_inplace_ok, e8, R.ok_bind])
    (fun i c _ hc => by rw [List.length_map]; exact hc) tg htg htn]
  rw [GenR.decrypt_scale_and_round_loop2]
  simp only [gr_idxMod_ok tgs 1 gr_dflt (by omega), R.ok_bind, gr_half_eq]
  rw [gr_dsr_loop3 _ n _ t gamma ig dest (by simp) (by
    intro c hc
    obtain ⟨i, _, rfl⟩ := List.mem_map.mp hc
    rw [List.length_map]
    by_cases hi : i < tg.length
    · exact htn _ (list_getD_mem [] hi)
    · rw [List.mem_range'_1] at *; omega) hd h2n]
  apply R.mapM_congr
  intro j hj
  rw [List.mem_range'_1] at hj
  rw [gr_getD_map_range' _ _ _ _ (by omega : 0 < 2), gr_getD_map_range' _ _ _ _ (by omega : 1 < 2),
    list_getD_map _ _ 0 0 (by rw [htn _ (list_getD_mem [] (by omega))]; omega),
    list_getD_map _ _ 0 0 (by rw [htn _ (list_getD_mem [] (by omega))]; omega)]

/-- the scaled input of the conversion: component `i` multiplied by `|γt|_{q_i}` -/
def gr_dsrTemp (inp : List (List Nat)) (sq : Nat) (pops : List MulOperand) (qs : List Modulus) : List (List Nat) :=
  (List.range' 0 sq).map (fun i => (inp.getD i []).map (fun x => mulOpV x (pops.getD i default) (qs.getD i gr_dflt)))

/-- the generated `decrypt_scale_and_round` on flat buffers (`sq` input components of `n` words, destination of `n` words); `F` = the conversion
    q → {t, γ}, called on the scaled input and a zeroed scratch buffer -/
theorem gr_dsr_list (inp : List (List Nat)) (dest : List Nat) (sq n : Nat) (qs tgs : List Modulus) (pops nops : List MulOperand) (t gamma : Modulus)
    (ig : MulOperand) (F : List Nat → List Nat → R (List Nat)) (conv : List (List Nat))
    (hinp : inp.length = sq) (hin : ∀ c ∈ inp, c.length = n) (hqs : qs.length = sq) (hpops : sq ≤ pops.length)
    (htgs : tgs.length = 2) (hnops : 2 ≤ nops.length) (hd : dest.length = n)
    (hsn : sq * n < 2^64) (h2n : 2 * n < 2^64) (hs64 : sq < 2^64)
    (hc1 : conv.length = 2) (hc2 : ∀ c ∈ conv, c.length = n)
    (hF : F (gr_dsrTemp inp sq pops qs).flatten (List.replicate (n * 2) 0) = .ok conv.flatten) :
    GenR.decrypt_scale_and_round inp.flatten dest sq qs 2 tgs n pops nops t gamma ig F
      = (List.range' 0 n).mapM (fun j => gr_dsrElt t gamma ((tgs.getD 1 gr_dflt).value / 2) ig
          (mulOpV ((conv.getD 0 []).getD j 0) (nops.getD 0 default) (tgs.getD 0 gr_dflt))
          (mulOpV ((conv.getD 1 []).getD j 0) (nops.getD 1 default) (tgs.getD 1 gr_dflt))) := by
  unfold GenR.decrypt_scale_and_round
  have e0 : ckMul n sq = .ok (n * sq) := ckMul_ok (by rw [B64_eq]; rw [Nat.mul_comm]; exact hsn)
  simp only [e0, R.ok_bind]
  have hz : List.replicate (n * sq) 0 = (List.replicate sq (List.replicate n 0)).flatten := by
    rw [List.flatten_replicate_replicate, Nat.mul_comm]
  rw [hz, gr_comploop_pure (GenR.decrypt_scale_and_round_loop1 inp.flatten dest sq 2 n pops qs F nops tgs t gamma ig)
    (fun i _ => (inp.getD i []).map (fun x => mulOpV x (pops.getD i default) (qs.getD i gr_dflt)))
    (fun l => GenR.decrypt_scale_and_round_loop1 inp.flatten dest sq 2 n pops qs F nops tgs t gamma ig 0 0 l) sq n (fun _ _ => rfl) (by
      intro k i cs hi hcs hcn
      obtain ⟨e1, e2, e3⟩ := gr_bounds_ok (n := n) hi hsn hs64
      have hic : i < cs.length := hcs.symm ▸ hi
      have hii : i < inp.length := hinp.symm ▸ hi
      have hil : (inp.getD i []).length = n := hin _ (list_getD_mem [] hii)
      have hcl : (cs.getD i []).length = n := hcn _ (list_getD_mem [] hic)
      have e7 : GenR.multiply_operand (inp.getD i []) (pops.getD i default) (qs.getD i gr_dflt) (cs.getD i [])
          = .ok ((inp.getD i []).map (fun x => mulOpV x (pops.getD i default) (qs.getD i gr_dflt))) := by
        rw [gr_multiply_operand_eq _ _ _ _ (by rw [hcl, hil])]; exact R.mapM_ok _ _ _ (fun x _ => gr_mulOperandMod _ _ _)
      have e8 := gr_splice_flat n cs i ((inp.getD i []).map (fun x => mulOpV x (pops.getD i default) (qs.getD i gr_dflt))) hcn hic
        (by rw [List.length_map]; exact hil)
      rw [GenR.decrypt_scale_and_round_loop1]
      simp only [e1, e2, e3, gr_slice_flat n inp i hin hii, gr_slice_flat n cs i hcn hic, gr_idxOp_ok pops i default (Nat.lt_of_lt_of_le hi hpops),
        gr_idxMod_ok qs i gr_dflt (hqs.symm ▸ hi), e7, e8, R.ok_bind])
    (fun i c hi _ => by rw [List.length_map]; exact hin _ (list_getD_mem [] (hinp.symm ▸ hi))) _ (by simp) (by
      intro c hc; rw [List.mem_replicate] at hc; rw [hc.2, List.length_replicate])]
  rw [GenR.decrypt_scale_and_round_loop1]
  have e1 : ckMul n 2 = .ok (n * 2) := ckMul_ok (by rw [B64_eq]; omega)
  simp only [e1, R.ok_bind]
  unfold gr_dsrTemp at hF
  rw [hF, R.ok_bind]
  exact gr_dsr_loop2 conv n nops tgs t gamma ig dest hc1 hc2 hd h2n htgs hnops

/-! the call `self.base_q_to_t_gamma_conv.as_ref().unwrap().fast_convert_array(..)` of `decrypt_scale_and_round` is the GENERATED `fast_convert_array`
    on the fields of the model's `qToTGamma` (`gr_convF`) -/

/-- the scaled input of the conversion as an RNS polynomial -/
def gr_dsrT (r : RNSTool) (p : RnsPoly) : RnsPoly :=
  ((List.range r.baseQ.size).map (fun i =>
    ((p.getD i #[]).toList.map (fun x => mulOpV x (r.prodTGammaModQ.getD i default) (r.baseQ.q i))).toArray)).toArray

/-- the hand model computed to the closed form of the generated code -/
theorem gr_dsr_model (r : RNSTool) (p convA : RnsPoly) {btg : RNSBase} {conv : BaseConverter} {ig : MulOperand}
    (h1 : r.baseTGamma = some btg) (h2 : r.qToTGamma = some conv) (h3 : r.invGammaModT = some ig)
    (hconv : conv.fastConvertArray (gr_dsrT r p) r.n = .ok convA)
    (hs0 : (convA.getD 0 #[]).size = r.n) (hs1 : (convA.getD 1 #[]).size = r.n) :
    r.decryptScaleAndRound p = ((List.range' 0 r.n).mapM (fun j => gr_dsrElt r.t r.gamma (r.gamma.value / 2) ig
        (mulOpV ((convA.getD 0 #[]).toList.getD j 0) (r.negInvQModTGamma.getD 0 default) r.t)
        (mulOpV ((convA.getD 1 #[]).toList.getD j 0) (r.negInvQModTGamma.getD 1 default) r.gamma)) >>= fun ys => .ok ys.toArray) := by
  have htemp : (List.range r.baseQ.size).mapM (fun i =>
      mapM' (p.getD i #[]) (fun x => mulOperandMod x (r.prodTGammaModQ.getD i default) (r.baseQ.q i)))
      = .ok ((List.range r.baseQ.size).map (fun i =>
        ((p.getD i #[]).toList.map (fun x => mulOpV x (r.prodTGammaModQ.getD i default) (r.baseQ.q i))).toArray)) :=
    R.mapM_ok _ _ _ (fun i _ => gr_mapM'_mulOp _ _ _)
  unfold RNSTool.decryptScaleAndRound
  simp only [h1, h2, h3]
  unfold gr_dsrT at hconv
  rw [htemp, R.ok_bind, hconv, R.ok_bind, gr_mapM'_mulOp, R.ok_bind, gr_mapM'_mulOp, R.ok_bind, gr_zipM'_eq]
  have hsz : ((convA.getD 0 #[]).toList.map (fun x => mulOpV x (r.negInvQModTGamma.getD 0 default) r.t)).toArray.size = r.n := by
    rw [List.size_toArray, List.length_map, Array.length_toList, hs0]
  rw [hsz]
  congr 1
  apply R.mapM_congr
  intro j hj
  rw [List.mem_range'_1] at hj
  simp only [List.toList_toArray]
  rw [list_getD_map _ (convA.getD 0 #[]).toList 0 0 (by rw [Array.length_toList, hs0]; omega),
    list_getD_map _ (convA.getD 1 #[]).toList 0 0 (by rw [Array.length_toList, hs1]; omega)]
  unfold gr_dsrElt
  by_cases hg : mulOpV ((convA.getD 1 #[]).toList.getD j 0) (r.negInvQModTGamma.getD 1 default) r.gamma > r.gamma.value / 2
  · rw [if_pos hg, if_pos hg]; simp only [bind_assoc]; rfl
  · rw [if_neg hg, if_neg hg]; simp only [bind_assoc]; rfl

theorem gr_flatP_dsrT (r : RNSTool) (p : RnsPoly) :
    flatP (gr_dsrT r p) = (gr_dsrTemp (p.toList.map Array.toList) r.baseQ.size r.prodTGammaModQ.toList r.baseQ.base.toList).flatten := by
  unfold flatP gr_dsrT gr_dsrTemp
  congr 1
  rw [List.map_map, List.range_eq_range']
  apply List.map_congr_left
  intro i _
  simp only [Function.comp, gr_cs_getD, gr_ops_toList, gr_baseq_toList]

/-- **`RNSTool::decrypt_scale_and_round` (generated from src/util/rns.rs) = the hand model `RNSTool.decryptScaleAndRound`**; input = flat buffer of the
    `|q|` components, destination = ANY buffer of `n` words (every position is written).  The `Option` fields are `Some` (the code `unwrap`s them);
    `base_t_gamma` = `[t, γ]` (the code reads `base_at(0)`, `base_at(1)` for the reductions and `self.t`, `self.gamma` for the correction; the model names
    `t`, `γ` throughout).  The γ-correction (`γ − g`, Barrett reduction, `add_u64_mod`) traps on both sides alike. -/
theorem gr_decrypt_scale_and_round_eq (r : RNSTool) (p : RnsPoly) (d : Poly) {btg : RNSBase} {conv : BaseConverter} {ig : MulOperand}
    (h1 : r.baseTGamma = some btg) (h2 : r.qToTGamma = some conv) (h3 : r.invGammaModT = some ig)
    (hbs : btg.size = 2) (hb0 : btg.q 0 = r.t) (hb1 : btg.q 1 = r.gamma)
    (hc : gr_ConvOK conv r.baseQ.size 2)
    (hp1 : p.size = r.baseQ.size) (hp2 : ∀ i, i < r.baseQ.size → (p.getD i #[]).size = r.n) (hd : d.size = r.n)
    (hops : r.baseQ.size ≤ r.prodTGammaModQ.size) (hnops : 2 ≤ r.negInvQModTGamma.size)
    (hsn : r.baseQ.size * r.n < 2^64) (h2n : 2 * r.n < 2^64) (hs64 : r.baseQ.size < 2^64) :
    GenR.decrypt_scale_and_round (flatP p) d.toList r.baseQ.size r.baseQ.base.toList btg.size btg.base.toList r.n
        r.prodTGammaModQ.toList r.negInvQModTGamma.toList r.t r.gamma ig (gr_convF conv)
      = (r.decryptScaleAndRound p).map Array.toList := by
  obtain ⟨hcs, hn⟩ := gr_shape_cs' hp1 hp2
  have hTg : ∀ i, i < r.baseQ.size → (gr_dsrT r p).getD i #[] =
      ((p.getD i #[]).toList.map (fun x => mulOpV x (r.prodTGammaModQ.getD i default) (r.baseQ.q i))).toArray := by
    intro i hi'; unfold gr_dsrT; rw [array_getD_range_map _ _ hi']
  obtain ⟨convA, hmodel, hF, hA1, hA2⟩ := gr_convF_ok hc (gr_dsrT r p) (Array.replicate 2 (Array.replicate r.n 0)) r.n (by simp [gr_dsrT])
    (fun i hi' => by rw [hTg i hi', List.size_toArray, List.length_map, Array.length_toList, hp2 i hi'])
    (fun i j hi' hj => by
      rw [hTg i hi', ← array_getD_toList _ _ 0, List.toList_toArray, list_getD_map _ _ 0 0 (by rw [Array.length_toList, hp2 i hi']; exact hj)]
      exact gr_mulOpV_lt _ _ _)
    (by simp) (fun i hi' => by simp [Array.getD, hi']) hsn h2n
  rw [gr_flatP_dsrT, gr_flatP_zero 2 r.n] at hF
  obtain ⟨hvs, hvn⟩ := gr_shape_cs' hA1 hA2
  have hgen := gr_dsr_list (p.toList.map Array.toList) d.toList r.baseQ.size r.n r.baseQ.base.toList btg.base.toList r.prodTGammaModQ.toList
    r.negInvQModTGamma.toList r.t r.gamma ig (gr_convF conv) (convA.toList.map Array.toList) hcs hn (by simp [RNSBase.size])
    (by simpa using hops) (by simpa [RNSBase.size] using hbs) (by simpa using hnops) (by simpa using hd) hsn h2n hs64 hvs hvn hF
  rw [flatP, hbs, hgen, gr_dsr_model r p convA h1 h2 h3 hmodel (hA2 0 (by omega)) (hA2 1 (by omega))]
  simp only [gr_baseq_toList, gr_cs_getD, gr_ops_toList, hb0, hb1, R.bind_map, R.map_ok, List.toList_toArray]
  exact (gr_bind_ok _).symm

/-- `RNSTool.new` (t ≠ 0) builds the two operand vectors with the lengths the code indexes them with -/
theorem gr_dsr_sizes_of_new {n : Nat} {q : RNSBase} {t : Modulus} {aux : List Modulus} {r : RNSTool}
    (ht : t.WF) (haux : ∀ m ∈ aux, m.WF) (h : RNSTool.new n q t aux = .ok r) :
    r.prodTGammaModQ.size = r.baseQ.size ∧ r.negInvQModTGamma.size = 2 := by
  have ht2 := ht.two_le
  have hi := c01p_newOK h (by omega)
  have hlen := hi.len
  obtain ⟨btg, hbtg, rbtg⟩ := hi.baseTGamma
  have hgam : r.gamma.WF := by
    apply haux
    have e : aux.getD 1 default = aux[1] := by
      simp [List.getD, List.getElem?_eq_getElem (by omega : 1 < aux.length)]
    rw [hi.gamma_eq, e]
    exact List.getElem_mem _
  obtain ⟨_, hbtgbase⟩ := RNSBase.new_wf (ms := [t, r.gamma])
    (by intro m hm; simp only [List.mem_cons, List.not_mem_nil, or_false] at hm; rcases hm with rfl | rfl; exact ht; exact hgam)
    (by simp) hbtg
  constructor
  · rw [hi.q_eq, ← Array.length_toList, R.mapM_length hi.prodTGammaModQ, Array.length_toList]; rfl
  · rw [← Array.length_toList, R.mapM_length (hi.negInvQModTGamma btg rbtg), hbtgbase]; rfl

/-- **END TO END (BFV decryption, BEHZ scale-and-round)**: on a level whose tool is the BEHZ tool of the level (`DecOK`: what `RNSTool.new` establishes),
    for every canonical input polynomial whose coefficient `j` has CRT value `X j < Q`, the function GENERATED from the Rust source of
    `RNSTool::decrypt_scale_and_round`, run on the flat buffer and ANY destination of `n` words, returns `n` words with
    word `j` = `round(t·x̃_j/Q) mod t` (x̃ the centred representative), under the BEHZ γ-condition `2γ|e| + 2kQ ≤ Qγ`.
    The hypothesis on `X` is `c05u_IsCrt l ph j (X j)` of Proofs/C01O.lean written out (the statement is fixed in this form). -/
theorem gr_decrypt_scale_and_round_rounds {l : Level} (hd : DecOK l) {ph : RnsPoly} (hph : RnsCanon l ph) (dst : Poly) (hdst : dst.size = l.n)
    (hops : l.tool.baseQ.size ≤ l.tool.prodTGammaModQ.size) (hnops : 2 ≤ l.tool.negInvQModTGamma.size)
    (hsn : l.size * l.n < 2^64) (h2n : 2 * l.n < 2^64) (hs64 : l.size < 2^64)
    (X : Nat → Nat)
    (hX : ∀ j, j < l.n → X j < l.tool.baseQ.prod ∧ ∀ i, i < l.size → X j % (l.q i).value = (ph.getD i #[]).getD j 0)
    (hnoise : ∀ j, j < l.n →
      2 * (l.tool.gamma.value : Int) *
          |(l.t.value : Int) * Spec.centred (X j) l.tool.baseQ.prod
            - (l.tool.baseQ.prod : Int) * Spec.roundDiv ((l.t.value : Int) * Spec.centred (X j) l.tool.baseQ.prod) l.tool.baseQ.prod|
        + 2 * (l.size : Int) * (l.tool.baseQ.prod : Int)
      ≤ (l.tool.baseQ.prod : Int) * (l.tool.gamma.value : Int)) :
    ∃ btg conv ig, l.tool.baseTGamma = some btg ∧ l.tool.qToTGamma = some conv ∧ l.tool.invGammaModT = some ig ∧
    ∃ out, GenR.decrypt_scale_and_round (flatP ph) dst.toList l.tool.baseQ.size l.tool.baseQ.base.toList btg.size btg.base.toList l.tool.n
        l.tool.prodTGammaModQ.toList l.tool.negInvQModTGamma.toList l.tool.t l.tool.gamma ig (gr_convF conv) = .ok out ∧
      out.length = l.n ∧ ∀ j, j < l.n →
        out.getD j 0 = Spec.imod (Spec.roundDiv ((l.t.value : Int) * Spec.centred (X j) l.tool.baseQ.prod) l.tool.baseQ.prod) l.t.value := by
  obtain ⟨btg, conv, ig, h1, h2, h3, hbtg, hbsz, hq0, hq1, hnew, higw, hig⟩ := hd.tool.tg
  have hsz := c01p_base_size hd
  obtain ⟨dm, hdok, hdsz, hdv⟩ := c01p_decrypt_of_crt hd hph X hX hnoise
  have hc : gr_ConvOK conv l.tool.baseQ.size 2 := by
    have := gr_convOK_new hd.tool.qwf hbtg hnew
    rw [hbsz] at this; exact this
  refine ⟨btg, conv, ig, h1, h2, h3, dm.toList, ?_, by rw [Array.length_toList, hdsz], fun j hj => ?_⟩
  · rw [gr_decrypt_scale_and_round_eq l.tool ph dst h1 h2 h3 hbsz hq0 hq1 hc (by rw [hsz]; exact hph.1)
      (fun i hi => by rw [hd.n_eq]; exact (hph.2 i (by omega)).1) (by rw [hd.n_eq]; exact hdst) hops hnops
      (by rw [hsz, hd.n_eq]; exact hsn) (by rw [hd.n_eq]; exact h2n) (by rw [hsz]; exact hs64), hdok]
    rfl
  · rw [array_getD_toList _ _ 0]; exact hdv j hj

/-!
  List level: `BaseConverter::exact_convey_array` (src/util/rns.rs) as generated into `Heathcliff/Gen/RnsFns.lean`
  after the table-declared FLOAT ERASURE (tools/rs2lean_rns4k.py): the f64 pipeline `v[j·k+i] = temp[j·k+i] as f64 / q_i as f64`,
  `aggregated_v = Σ v[i·k..(i+1)·k]`, `aggregated_v.round() as u64` is the abstract function input `roundQ : List Nat → Nat` applied to the scaled
  residues `temp[i·k..(i+1)·k]` of one coefficient.  First phase = the strided scratch buffer of `fast_convert_array`; then the rounding pass, then
  one output word per coefficient.
-/

/-- the outer loop of the first phase ends in the rounding pass (`loop4`) run on the completed scratch buffer -/
theorem gr_eca_loop1 (inp : List (List Nat)) (out agg : List Nat) (k n : Nat) (qs : List Modulus) (ops : List MulOperand)
    (roundQ : List Nat → Nat) (ps : List Modulus) (prodL : List Nat) (rows : List (List Nat)) (T : Nat → Nat → Nat)
    (hkn : k * n < 2^64) (hinp : inp.length = k) (hin : ∀ c ∈ inp, c.length = n)
    (hqs : qs.length = k) (hops : ops.length = k)
    (hT1 : ∀ i j, i < k → j < n → (ops.getD i default).operand = 1 → barrett64 ((inp.getD i []).getD j 0) (qs.getD i gr_dflt) = .ok (T i j))
    (hT2 : ∀ i j, i < k → j < n → (ops.getD i default).operand ≠ 1 →
      mulOperandMod ((inp.getD i []).getD j 0) (ops.getD i default) (qs.getD i gr_dflt) = .ok (T i j)) :
    GenR.exact_convey_array_loop1 inp.flatten out k n agg qs ops roundQ ps prodL rows k 0 (List.replicate (n * k) 0)
      = GenR.exact_convey_array_loop4 out k n (gr_fcaTemp T k n) roundQ ps prodL rows n 0 agg := by
  refine gr_fcaTemp_loop (GenR.exact_convey_array_loop1 inp.flatten out k n agg qs ops roundQ ps prodL rows)
    (fun temp => GenR.exact_convey_array_loop4 out k n temp roundQ ps prodL rows n 0 agg) k n T (fun _ _ => rfl) ?_ k 0 _ (by omega)
    List.length_replicate (fun pos _ h => by omega)
  intro f i temp hi htl
  rw [GenR.exact_convey_array_loop1]
  simp only [gr_idxOp_ok ops i default (hops.symm ▸ hi), gr_idxMod_ok qs i gr_dflt (hqs.symm ▸ hi), R.ok_bind]
  by_cases hop : (ops.getD i default).operand = 1
  · obtain ⟨t', e, h⟩ := gr_scaleloop (GenR.exact_convey_array_loop2 inp.flatten k n i (qs.getD i gr_dflt))
      (fun x => GenW.barrett_reduce_u64 x _) inp k n i (T i) hi hkn hinp hin
      (fun _ _ => rfl) (fun _ _ _ => rfl) (fun j hj => (gw_barrett_reduce_u64_eq _ _).trans (hT1 i j hi hj hop)) temp htl
    exact ⟨t', by rw [if_pos hop, e, R.ok_bind], h⟩
  · obtain ⟨t', e, h⟩ := gr_scaleloop (GenR.exact_convey_array_loop3 inp.flatten k n i (qs.getD i gr_dflt) (ops.getD i default))
      (fun x => GenW.multiply_u64operand_mod x _ _) inp k n i (T i) hi hkn hinp hin
      (fun _ _ => rfl) (fun _ _ _ => rfl) (fun j hj => (gw_multiply_u64operand_mod_eq _ _ _).trans (hT2 i j hi hj hop)) temp htl
    exact ⟨t', by rw [if_neg hop, e, R.ok_bind], h⟩

/-- the scaled residues of coefficient `j` (row `j` of the scratch buffer) -/
def gr_ecaCol (T : Nat → Nat → Nat) (k j : Nat) : List Nat := (List.range' 0 k).map (fun i => T i j)

/-- one output word: `(Σ temp_i·(Q/q_i) mod p) − roundQ(temp)·(Q mod p) mod p` -/
def gr_ecaElt (p : Modulus) (row : List Nat) (qmp : Nat) (roundQ : List Nat → Nat) (col : List Nat) : R Nat :=
  dotProductMod col row p >>= fun s => mulMod (roundQ col) qmp p >>= fun vq => subMod s vq p

/-- the rounding pass, the set-up of `p`, `Q mod p`, the first matrix row, and the output loop -/
theorem gr_eca_loop4 (out : List Nat) (k n : Nat) (roundQ : List Nat → Nat) (ps : List Modulus) (prodL : List Nat) (rows : List (List Nat))
    (T : Nat → Nat → Nat) (hnk : n * k < 2^64) (hn64 : n < 2^64) (hout : out.length = n) (hps : 1 ≤ ps.length) (hrows : 1 ≤ rows.length)
    (hpl : prodL ≠ []) :
    GenR.exact_convey_array_loop4 out k n (gr_fcaTemp T k n) roundQ ps prodL rows n 0 (List.replicate n 0)
      = (moduloUint prodL (ps.getD 0 gr_dflt) >>= fun qmp =>
          (List.range' 0 n).mapM (fun j => gr_ecaElt (ps.getD 0 gr_dflt) (rows.getD 0 []) qmp roundQ (gr_ecaCol T k j))) := by
  have hslice : ∀ j, j < n → ckMul j k = .ok (j * k) ∧ ckAdd j 1 = .ok (j + 1) ∧ ckMul (j + 1) k = .ok (j * k + k) ∧
      GenR.slice (gr_fcaTemp T k n) (j * k) (j * k + k) = .ok (gr_ecaCol T k j) := by
    intro j hj
    have h2 : j * k + k ≤ n * k := by
      have := Nat.mul_le_mul_right k (Nat.succ_le_of_lt hj); rw [Nat.succ_mul] at this; exact this
    exact ⟨ckMul_ok (by rw [B64_eq]; omega), ckAdd_ok (by rw [B64_eq]; omega), by rw [ckMul_ok (by rw [B64_eq]; rw [Nat.succ_mul]; omega), Nat.succ_mul], gr_fcaTemp_slice T k n j hj⟩
  rw [gr_idxloopK (GenR.exact_convey_array_loop4 out k n (gr_fcaTemp T k n) roundQ ps prodL rows) (fun j _ => .ok (roundQ (gr_ecaCol T k j))) n
      (fun l => GenR.exact_convey_array_loop4 out k n (gr_fcaTemp T k n) roundQ ps prodL rows 0 0 l) (fun _ _ => rfl) (by
      intro f j l hl hj
      obtain ⟨e1, e2, e3, e4⟩ := hslice j hj
      rw [GenR.exact_convey_array_loop4]
      simp only [e1, e2, e3, e4, GenW.setIdx_ok _ _ hl, R.ok_bind])
    n 0 (List.replicate n 0) (by simp) (by simp)]
  rw [R.mapM_ok _ (fun j => roundQ (gr_ecaCol T k j)) _ (fun _ _ => rfl), R.ok_bind, List.take_zero, List.nil_append]
  rw [GenR.exact_convey_array_loop4]
  have e1 : GenR.idxMod ps 0 = .ok (ps.getD 0 gr_dflt) := gr_idxMod_ok ps 0 _ (by omega)
  have e2 : GenR.idxRow rows 0 = .ok (rows.getD 0 []) := gr_idxRow_ok rows 0 (by omega)
  simp only [e1, R.ok_bind, gw_modulo_uint_eq _ _ hpl]
  cases moduloUint prodL (ps.getD 0 gr_dflt) with
  | error e => rfl
  | ok qmp =>
    simp only [R.ok_bind, e2]
    have hagg : ((List.range' 0 n).map (fun j => roundQ (gr_ecaCol T k j))).length = n := by rw [List.length_map, List.length_range']
    rw [gr_idxloop (GenR.exact_convey_array_loop5 k n (gr_fcaTemp T k n) ((List.range' 0 n).map (fun j => roundQ (gr_ecaCol T k j)))
        (ps.getD 0 gr_dflt) qmp (rows.getD 0 [])) (fun j _ => gr_ecaElt (ps.getD 0 gr_dflt) (rows.getD 0 []) qmp roundQ (gr_ecaCol T k j)) n
        (fun _ _ => rfl) (by
        intro f j l hl hj
        obtain ⟨e3, e4, e5, e6⟩ := hslice j hj
        have hja : j < ((List.range' 0 n).map (fun j => roundQ (gr_ecaCol T k j))).length := by rw [hagg]; exact hj
        have e7 : GenW.idx ((List.range' 0 n).map (fun j => roundQ (gr_ecaCol T k j))) j = .ok (roundQ (gr_ecaCol T k j)) := by
          rw [GenW.idx_ok _ hja, ← list_getD_eq_getElem _ 0 hja, gr_getD_map_range' _ _ _ _ hj]
        rw [GenR.exact_convey_array_loop5]
        simp only [e3, e4, e5, e6, e7, R.ok_bind, gw_dot_product_mod_eq, gw_multiply_u64_mod_eq, gw_sub_u64_mod_eq]
        unfold gr_ecaElt
        cases dotProductMod (gr_ecaCol T k j) (rows.getD 0 []) (ps.getD 0 gr_dflt) with
        | error e => rfl
        | ok s =>
          simp only [R.ok_bind]
          cases mulMod (roundQ (gr_ecaCol T k j)) qmp (ps.getD 0 gr_dflt) with
          | error e => rfl
          | ok vq => simp only [R.ok_bind, gr_subMod, GenW.setIdx_ok _ _ hl])
      n 0 out (by omega) (by omega)]
    cases (List.range' 0 n).mapM (fun j => gr_ecaElt (ps.getD 0 gr_dflt) (rows.getD 0 []) qmp roundQ (gr_ecaCol T k j)) with
    | error e => rfl
    | ok ys => rw [R.ok_bind, List.take_zero, List.nil_append]

/-- the generated `exact_convey_array` on flat buffers: `k` input components of `n` words, ANY output buffer of `n` words; `T i j` = scaled residue
    of coefficient `j` of component `i`; `roundQ` = the erased f64 pipeline -/
theorem gr_eca_list (inp : List (List Nat)) (out : List Nat) (k n : Nat) (qs : List Modulus) (ops : List MulOperand) (ps : List Modulus)
    (prodL : List Nat) (rows : List (List Nat)) (roundQ : List Nat → Nat) (T : Nat → Nat → Nat)
    (hk : 1 ≤ k) (hkn : k * n < 2^64)
    (hinp : inp.length = k) (hin : ∀ c ∈ inp, c.length = n) (hout : out.length = n)
    (hqs : qs.length = k) (hops : ops.length = k) (hps : ps.length = 1) (hrows : 1 ≤ rows.length) (hpl : prodL ≠ [])
    (hT1 : ∀ i j, i < k → j < n → (ops.getD i default).operand = 1 → barrett64 ((inp.getD i []).getD j 0) (qs.getD i gr_dflt) = .ok (T i j))
    (hT2 : ∀ i j, i < k → j < n → (ops.getD i default).operand ≠ 1 →
      mulOperandMod ((inp.getD i []).getD j 0) (ops.getD i default) (qs.getD i gr_dflt) = .ok (T i j)) :
    GenR.exact_convey_array inp.flatten out k 1 ops qs ps prodL rows roundQ
      = (moduloUint prodL (ps.getD 0 gr_dflt) >>= fun qmp =>
          (List.range' 0 n).mapM (fun j => gr_ecaElt (ps.getD 0 gr_dflt) (rows.getD 0 []) qmp roundQ (gr_ecaCol T k j))) := by
  have hfi := Blk.length (D := n) hin
  rw [hinp] at hfi
  have hnk : n * k < 2^64 := by rw [Nat.mul_comm]; exact hkn
  have hn64 : n < 2^64 := Nat.lt_of_le_of_lt (Nat.le_mul_of_pos_left n hk) hkn
  have e1 : GenW.ckDiv inp.flatten.length k = .ok n := by
    unfold GenW.ckDiv; rw [if_neg (by omega), hfi, Nat.mul_div_cancel_left n hk]
  have e2 : ckMul n k = .ok (n * k) := ckMul_ok hnk
  unfold GenR.exact_convey_array
  simp only [e1, e2, R.ok_bind, if_true]
  rw [gr_eca_loop1 inp out (List.replicate n 0) k n qs ops roundQ ps prodL rows T hkn hinp hin hqs hops hT1 hT2,
    gr_eca_loop4 out k n roundQ ps prodL rows T hnk hn64 hout (by omega) hrows hpl]

/-! floats are parameters constrained by hypotheses (DESIGN.md §4): `roundQ` stands for the erased f64 pipeline, and the tie to the hand model's
    column-wise `BaseConverter.exactConvey` holds under the EXPLICIT hypothesis that it returns the exact rational rounding `exactRound` on the scaled
    residues of every coefficient -/

/-- the scaled residues of coefficient `j` as the model computes them -/
def gr_ecaScaled (c : BaseConverter) (p : RnsPoly) (j : Nat) : List Nat := (List.range c.ibase.size).map (fun i => gr_fcaT c p i j)

/-- the output word of coefficient `j` -/
def gr_ecaW (c : BaseConverter) (p : RnsPoly) (v : Nat) (j : Nat) : Nat :=
  subModV (gr_fcaD c p 0 j) ((v * (c.ibase.prod % (c.obase.q 0).value)) % (c.obase.q 0).value) (c.obase.q 0)

/-- one column of the model, with the rounded quotient made explicit -/
theorem gr_exactConvey_ok (c : BaseConverter) (hi : c.ibase.WF) (ho : c.obase.WF) (hM : gr_MatOK c) (ho1 : c.obase.size = 1) (p : RnsPoly) (j : Nat)
    (hp : p.size = c.ibase.size) (hw : ∀ i, i < c.ibase.size → (p.getD i #[]).getD j 0 < 2^64)
    (hv : exactRound c (gr_ecaScaled c p j) < 2^64) :
    c.exactConvey (p.map (fun comp => comp.getD j 0)) = .ok (gr_ecaW c p (exactRound c (gr_ecaScaled c p j)) j) := by
  have hcol : ∀ i, i < c.ibase.size → (p.map (fun comp => comp.getD j 0)).getD i 0 = (p.getD i #[]).getD j 0 :=
    fun i hi' => gr_col_getD p i j (by omega)
  have hsc : crtScaled c.ibase (fun i => (p.map (fun comp => comp.getD j 0)).getD i 0) = gr_ecaScaled c p j :=
    List.map_congr_left fun i hi' => by beta_reduce; rw [hcol i (List.mem_range.mp hi')]; rfl
  rw [RNSH.exactConvey_eq c hi ho ho1 (hM.2 0 (by omega)) (fun i hi' => by rw [hcol i hi']; exact hw i hi') (by rw [hsc]; exact hv), hsc,
    c02w_crtSum_congr _ hcol]
  rfl

theorem gr_ecaCol_eq (c : BaseConverter) (p : RnsPoly) (j : Nat) : gr_ecaCol (gr_fcaT c p) c.ibase.size j = gr_ecaScaled c p j := by
  unfold gr_ecaCol gr_ecaScaled; rw [List.range_eq_range']

/-- **`BaseConverter::exact_convey_array` (generated from src/util/rns.rs, floats erased) = the hand model** (`exactConvey` on every column) for a converter
    with well-formed bases into ONE output modulus, word inputs, ANY output buffer of `n` words, PROVIDED the abstract function `roundQ` standing
    for the f64 pipeline (i) returns a u64 and (ii) equals the exact rational rounding `exactRound` on the scaled residues of every coefficient.
    Where a double cannot decide (`exactRoundAmbiguous`) hypothesis (ii) is a genuine assumption about the floating-point unit. -/
theorem gr_exact_convey_array_eq (c : BaseConverter) (hi : c.ibase.WF) (ho : c.obase.WF) (hM : gr_MatOK c) (ho1 : c.obase.size = 1)
    (p : RnsPoly) (d : Poly) (n : Nat) (roundQ : List Nat → Nat)
    (hp : p.size = c.ibase.size) (hpn : ∀ i, i < c.ibase.size → (p.getD i #[]).size = n)
    (hw : ∀ i j, i < c.ibase.size → j < n → (p.getD i #[]).getD j 0 < 2^64)
    (hd : d.size = n) (hkn : c.ibase.size * n < 2^64)
    (hrw : ∀ l, roundQ l < 2^64)
    (hround : ∀ j, j < n → roundQ (gr_ecaScaled c p j) = exactRound c (gr_ecaScaled c p j)) :
    GenR.exact_convey_array (flatP p) d.toList c.ibase.size c.obase.size c.ibase.invPunct.toList c.ibase.base.toList c.obase.base.toList
        (limbsOf c.ibase.size c.ibase.prod) (c.matrix.toList.map Array.toList) roundQ
      = ((transpose p n).toList.mapM (fun x => c.exactConvey x)) := by
  have hpw := ho.mwf 0 (by omega)
  have hp2 := hpw.two_le
  have hp61 := hpw.lt
  obtain ⟨hp1, hp2'⟩ := gr_shape_cs' hp hpn
  have hel : ∀ i j, ((p.toList.map Array.toList).getD i []).getD j 0 = (p.getD i #[]).getD j 0 := by
    intro i j; rw [gr_cs_getD, array_getD_toList _ _ 0]
  have hmodel : (transpose p n).toList.mapM (fun x => c.exactConvey x)
      = .ok ((List.range' 0 n).map (fun j => gr_ecaW c p (roundQ (gr_ecaScaled c p j)) j)) := by
    rw [transpose_toList, R.mapM_map, List.range_eq_range']
    apply R.mapM_ok
    intro j hj
    rw [List.mem_range'_1] at hj
    rw [hround j (by omega)]
    exact gr_exactConvey_ok c hi ho hM ho1 p j hp (fun i hi' => hw i j hi' (by omega)) (by rw [← hround j (by omega)]; exact hrw _)
  rw [hmodel]
  unfold flatP
  rw [ho1, gr_eca_list _ d.toList c.ibase.size n c.ibase.base.toList c.ibase.invPunct.toList c.obase.base.toList _ _ roundQ (gr_fcaT c p) hi.pos hkn
    hp1 hp2' (by simpa using hd) (by simp [RNSBase.size]) (by rw [Array.length_toList, hi.inv_size]) (by simp [RNSBase.size, ← ho1])
    (by rw [List.length_map, Array.length_toList, hM.1]; omega)
    (by intro h0; have hl := fromNat_length c.ibase.size c.ibase.prod; unfold limbsOf at h0; rw [h0, List.length_nil] at hl; have := hi.pos; omega) ?_ ?_]
  · rw [gr_baseq_toList, RNSH.moduloUint_limbs hpw hi.pos hi.prod_lt, R.ok_bind]
    apply R.mapM_ok
    intro j hj
    rw [List.mem_range'_1] at hj
    have hrow : (c.matrix.toList.map Array.toList).getD 0 [] = (c.matrix.getD 0 #[]).toList := gr_cs_getD c.matrix 0
    unfold gr_ecaElt
    rw [gr_ecaCol_eq, hrow, hM.2 0 (by omega)]
    have hdot : dotProductMod (gr_ecaScaled c p j) ((List.range c.ibase.size).map (fun i => c.ibase.punct.getD i 0 % (c.obase.q 0).value)) (c.obase.q 0)
        = .ok (gr_fcaD c p 0 j) := by
      unfold gr_ecaScaled
      rw [RNSH.dot_ok hi hpw (fun i => gr_fcaT c p i j) (fun i hi' => by
        unfold gr_fcaT; exact Nat.mod_lt _ (by have := (hi.mwf i hi').two_le; omega))]
      rfl
    rw [hdot, R.ok_bind, mulMod_exact hpw (hrw _) (by have := Nat.mod_lt c.ibase.prod (show 0 < (c.obase.q 0).value by omega); omega)]
    rfl
  · intro i j hi' hj hop
    rw [hel, gr_baseq_toList, gr_ops_toList] at *
    rw [barrett64_exact (hi.mwf i hi') (hw i j hi' hj)]
    unfold gr_fcaT
    rw [hop, Nat.mul_one]
  · intro i j hi' hj _
    rw [hel, gr_baseq_toList, gr_ops_toList]
    exact RNSH.mulOperandMod_wf (hi.mwf i hi') (hi.inv_wf i hi').1 (hw i j hi' hj)

/-! the call `base_q_to_t_conv.as_ref().unwrap().exact_convey_array(..)` of `decrypt_mod_t` is the GENERATED `exact_convey_array` on the model's `qToT` -/

/-- the generated exact conversion of a model converter, with the erased f64 pipeline `roundQ` -/
def gr_exactF (c : BaseConverter) (roundQ : List Nat → Nat) : List Nat → List Nat → R (List Nat) := fun a b =>
  GenR.exact_convey_array a b c.ibase.size c.obase.size c.ibase.invPunct.toList c.ibase.base.toList c.obase.base.toList
    (limbsOf c.ibase.size c.ibase.prod) (c.matrix.toList.map Array.toList) roundQ

/-- **`RNSTool::decrypt_mod_t` (generated) = `RNSTool.decryptModT`** under the hypotheses of `gr_exact_convey_array_eq` for the tool's `qToT` -/
theorem gr_decrypt_mod_t_eq (r : RNSTool) {cT : BaseConverter} (hqT : r.qToT = some cT)
    (hi : cT.ibase.WF) (ho : cT.obase.WF) (hM : gr_MatOK cT) (ho1 : cT.obase.size = 1)
    (p : RnsPoly) (d : Poly) (roundQ : List Nat → Nat)
    (hp : p.size = cT.ibase.size) (hpn : ∀ i, i < cT.ibase.size → (p.getD i #[]).size = r.n)
    (hw : ∀ i j, i < cT.ibase.size → j < r.n → (p.getD i #[]).getD j 0 < 2^64)
    (hd : d.size = r.n) (hkn : cT.ibase.size * r.n < 2^64)
    (hrw : ∀ l, roundQ l < 2^64)
    (hround : ∀ j, j < r.n → roundQ (gr_ecaScaled cT p j) = exactRound cT (gr_ecaScaled cT p j)) :
    GenR.decrypt_mod_t (flatP p) d.toList (gr_exactF cT roundQ) = (r.decryptModT p).map Array.toList := by
  unfold GenR.decrypt_mod_t gr_exactF RNSTool.decryptModT
  rw [gr_exact_convey_array_eq cT hi ho hM ho1 p d r.n roundQ hp hpn hw hd hkn hrw hround]
  simp only [hqT]
  cases (transpose p r.n).toList.mapM (fun x => cT.exactConvey x) with
  | error e => rfl
  | ok cols => simp [Except.map, gr_pure, pure, Except.pure, bind, Except.bind]

/-- **END TO END (BGV decryption, exact base conversion q → t)**: on a level whose tool is the level's BEHZ tool (`DecOK`), for every canonical input whose
    coefficient `j` has CRT value `X j < Q` (not the tie `2·X j = Q`), the function GENERATED from `RNSTool::decrypt_mod_t` returns word `j` =
    the centred representative of `X j` reduced modulo t — PROVIDED the erased f64 pipeline `roundQ` returns a u64 that equals the exact rational
    rounding on the scaled residues of every coefficient.  The hypothesis on `X` is `c05u_IsCrt l p j (X j)` (Proofs/C01O.lean) written out. -/
theorem gr_decrypt_mod_t_centred {l : Level} (hd : DecOK l) {p : RnsPoly} (hp : RnsCanon l p) (dst : Poly) (hdst : dst.size = l.n)
    (hsn : l.size * l.n < 2^64) (roundQ : List Nat → Nat) (hrw : ∀ x, roundQ x < 2^64)
    (X : Nat → Nat)
    (hX : ∀ j, j < l.n → X j < l.tool.baseQ.prod ∧ ∀ i, i < l.size → X j % (l.q i).value = (p.getD i #[]).getD j 0)
    (htie : ∀ j, j < l.n → 2 * X j ≠ l.tool.baseQ.prod) :
    ∃ cT, l.tool.qToT = some cT ∧
      ((∀ j, j < l.n → roundQ (gr_ecaScaled cT p j) = exactRound cT (gr_ecaScaled cT p j)) →
        ∃ out, GenR.decrypt_mod_t (flatP p) dst.toList (gr_exactF cT roundQ) = .ok out ∧ out.length = l.n ∧
          ∀ j, j < l.n → out.getD j 0 = Spec.imod (Spec.centred (X j) l.tool.baseQ.prod) l.t.value) := by
  obtain ⟨bt, cT, hqT, hbt, hbt1, hbt0, hnew⟩ := hd.tool.qT
  refine ⟨cT, hqT, fun hround => ?_⟩
  have hsz := c01p_base_size hd
  obtain ⟨ei, eo, hM⟩ := gr_matOK_new hd.tool.qwf hbt hnew
  obtain ⟨dm, hdok, hdsz, hdv⟩ := c01p_decryptModT_of_crt hd hp X hX htie
  have hb := hd.tool.qwf
  rw [gr_decrypt_mod_t_eq l.tool hqT (ei ▸ hb) (eo ▸ hbt) hM (by rw [eo]; exact hbt1) p dst roundQ (by rw [ei, hsz]; exact hp.1)
    (fun i hi' => by rw [ei, hsz] at hi'; rw [hd.n_eq]; exact (hp.2 i hi').1)
    (fun i j hi' hj => by
      rw [ei, hsz] at hi'; rw [hd.n_eq] at hj
      have h1 := (hp.2 i hi').2 j hj
      have h2 := (hb.mwf i (by omega)).lt
      rw [c01p_base_q hd hi'] at h2
      omega)
    (by rw [hd.n_eq]; exact hdst) (by rw [ei, hsz, hd.n_eq]; exact hsn) hrw (fun j hj => hround j (by rw [← hd.n_eq]; exact hj)), hdok]
  refine ⟨dm.toList, rfl, by rw [Array.length_toList, hdsz], fun j hj => ?_⟩
  rw [array_getD_toList _ _ 0]; exact hdv j hj

end HC
