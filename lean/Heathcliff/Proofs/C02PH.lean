/- C02: THE PROGRAM-LEVEL HOMOMORPHISM THEOREM for BGV, by induction over programs (`BProg`, Model/Program.lean).

   `BProg.shadow` evaluates the program in ℤ[X]/(X^N+1) on the messages (the result is read modulo t at the end).
   `c02p_Enc l sk ct m V`: `ct` is canonical, NTT form, unit correction factor, and its exact phase is congruent modulo Q to an integer
   polynomial `v` with `v ≡ cf·m (mod t)` and `‖v‖∞ ≤ V` (for a fresh ciphertext `v = m + t·e`).
   `c02p_prog_inv` (the induction): whenever the model does not refuse, `BProg.noiseUB` returns the correction factor of the result and a
   bound `V` with `c02p_Enc (eval prog) (shadow prog) V`.
   `hom_program_bgv`: if moreover `2·V < Q`, `bgvDecrypt (eval prog) = trim (shadow prog mod t)`.  For every degree, chain, sizes. -/
import Heathcliff.Proofs.C02PL
namespace HC
open Finset

/-- the shadow program over ℤ[X]/(X^n+1): `M i` the message of ciphertext input i, `PL k` the integer reading of plaintext input k -/
def BProg.shadow (n : Nat) (M PL : Nat → Nat → Int) : BProg → Nat → Int
  | .inp i => M i
  | .neg p => fun j => - p.shadow n M PL j
  | .add p q => fun j => p.shadow n M PL j + q.shadow n M PL j
  | .sub p q => fun j => p.shadow n M PL j - q.shadow n M PL j
  | .mul p q => negMulR n (p.shadow n M PL) (q.shadow n M PL)
  | .mulPlain p k => negMulR n (p.shadow n M PL) (PL k)

/-- `ct` encrypts `m` with phase norm at most `V` -/
def c02p_Enc (l : Level) (sk : Array Int) (ct : Ct) (m : Nat → Int) (V : Nat) : Prop :=
  c02p_Good l ct ∧ ∃ v : Nat → Int,
    (∀ j, j < l.n → c02p_ph l sk ct j ≡ v j [ZMOD l.tool.baseQ.prod]) ∧
    (∀ j, j < l.n → v j ≡ (ct.cf : Int) * m j [ZMOD l.t.value]) ∧
    (∀ j, j < l.n → (v j).natAbs ≤ V)

theorem c02p_bal_modEq {t e1 e2 f1 f2 f : Nat} (hm1 : (e1 * f1) % t = f) (hm2 : (e2 * f2) % t = f) {va vb ma mb : Int}
    (ha : va ≡ (f1 : Int) * ma [ZMOD t]) (hb : vb ≡ (f2 : Int) * mb [ZMOD t]) (sub : Bool) :
    (e1 : Int) * va + (if sub then -(e2 : Int) else (e2 : Int)) * vb ≡ (f : Int) * (if sub then ma - mb else ma + mb) [ZMOD t] := by
  have k1 : (e1 : Int) * (f1 : Int) ≡ (f : Int) [ZMOD t] := by
    have : Nat.ModEq t (e1 * f1) f := by unfold Nat.ModEq; rw [← hm1, Nat.mod_mod]
    have := Int.natCast_modEq_iff.mpr this
    push_cast at this
    exact this
  have k2 : (e2 : Int) * (f2 : Int) ≡ (f : Int) [ZMOD t] := by
    have : Nat.ModEq t (e2 * f2) f := by unfold Nat.ModEq; rw [← hm2, Nat.mod_mod]
    have := Int.natCast_modEq_iff.mpr this
    push_cast at this
    exact this
  have a1 : (e1 : Int) * va ≡ (f : Int) * ma [ZMOD t] :=
    (ha.mul_left _).trans (by rw [← mul_assoc]; exact k1.mul_right _)
  have b1 : (e2 : Int) * vb ≡ (f : Int) * mb [ZMOD t] :=
    (hb.mul_left _).trans (by rw [← mul_assoc]; exact k2.mul_right _)
  cases sub
  · simp only [Bool.false_eq_true, if_false]
    rw [mul_add]; exact a1.add b1
  · simp only [if_true]
    rw [mul_sub, neg_mul, ← sub_eq_add_neg]; exact a1.sub b1

theorem c02p_step_neg {l : Level} (h : c02p_LevelOK l) {sk : Array Int} (hsk : sk.size = l.n) {a r : Ct} {m : Nat → Int} {V : Nat}
    (ha : c02p_Enc l sk a m V) (hr : ctNegate l a = .ok r) :
    r.cf = a.cf ∧ r.polys.size = a.polys.size ∧ c02p_Enc l sk r (fun j => - m j) V := by
  obtain ⟨ga, va, a1, a2, a3⟩ := ha
  obtain ⟨gr, hcf, hsz, hph⟩ := c02p_negate_ph h hsk ga hr (sk := sk)
  refine ⟨hcf, hsz, gr, fun j => - va j, fun j hj => (hph j hj).trans (a1 j hj).neg, fun j hj => ?_,
    fun j hj => by rw [Int.natAbs_neg]; exact a3 j hj⟩
  rw [hcf, mul_neg]
  exact (a2 j hj).neg

theorem c02p_step_tr_size {l : Level} (h : c02p_LevelOK l) {sk : Array Int} (hsk : sk.size = l.n) {a b r : Ct} {ma mb : Nat → Int}
    {Va Vb : Nat} (ha : c02p_Enc l sk a ma Va) (hb : c02p_Enc l sk b mb Vb) (sub : Bool)
    (hr : ctTranslateBalanced l a b sub = .ok r) :
    ∃ e1 e2 : Nat, c02p_balance l.t a.cf b.cf = some (r.cf, e1, e2) ∧ r.polys.size = max a.polys.size b.polys.size ∧
      c02p_Enc l sk r (fun j => if sub then ma j - mb j else ma j + mb j) (e1 * Va + e2 * Vb) := by
  obtain ⟨ga, va, a1, a2, a3⟩ := ha
  obtain ⟨gb, vb, b1, b2, b3⟩ := hb
  obtain ⟨e1, e2, hbal, gr, hsz, hm1, hm2, hph⟩ := c02p_translate_ph h hsk ga gb sub hr (sk := sk)
  refine ⟨e1, e2, hbal, hsz, gr, fun j => (e1 : Int) * va j + (if sub then -(e2 : Int) else (e2 : Int)) * vb j, fun j hj => ?_,
    fun j hj => ?_, fun j hj => ?_⟩
  · exact (hph j hj).trans (((a1 j hj).mul_left _).add ((b1 j hj).mul_left _))
  · exact c02p_bal_modEq hm1 hm2 (a2 j hj) (b2 j hj) sub
  · refine le_trans (Int.natAbs_add_le _ _) ?_
    rw [Int.natAbs_mul, Int.natAbs_mul, Int.natAbs_natCast]
    have : (if sub then -(e2 : Int) else (e2 : Int)).natAbs = e2 := by cases sub <;> simp
    rw [this]
    exact Nat.add_le_add (Nat.mul_le_mul_left _ (a3 j hj)) (Nat.mul_le_mul_left _ (b3 j hj))

theorem c02p_step_tr {l : Level} (h : c02p_LevelOK l) {sk : Array Int} (hsk : sk.size = l.n) {a b r : Ct} {ma mb : Nat → Int}
    {Va Vb : Nat} (ha : c02p_Enc l sk a ma Va) (hb : c02p_Enc l sk b mb Vb) (sub : Bool)
    (hr : ctTranslateBalanced l a b sub = .ok r) :
    ∃ e1 e2 : Nat, c02p_balance l.t a.cf b.cf = some (r.cf, e1, e2) ∧
      c02p_Enc l sk r (fun j => if sub then ma j - mb j else ma j + mb j) (e1 * Va + e2 * Vb) :=
  let ⟨e1, e2, hbal, _, hE⟩ := c02p_step_tr_size h hsk ha hb sub hr
  ⟨e1, e2, hbal, hE⟩

theorem c02p_step_mul {l : Level} (h : c02p_LevelOK l) {sk : Array Int} (hsk : sk.size = l.n) {a b r : Ct} {ma mb : Nat → Int}
    {Va Vb : Nat} (ha : c02p_Enc l sk a ma Va) (hb : c02p_Enc l sk b mb Vb) (hr : bgvMultiply l a b = .ok r) :
    r.cf = (a.cf * b.cf) % l.t.value ∧ r.polys.size = a.polys.size + b.polys.size - 1 ∧
      c02p_Enc l sk r (negMulR l.n ma mb) (l.n * Va * Vb) := by
  obtain ⟨ga, va, a1, a2, a3⟩ := ha
  obtain ⟨gb, vb, b1, b2, b3⟩ := hb
  obtain ⟨gr, hcf, hsz, hph⟩ := c02p_mul_ph h hsk ga gb hr (sk := sk)
  refine ⟨hcf, hsz, gr, negMulR l.n va vb, fun j hj => ?_, fun j hj => ?_, fun j hj => ?_⟩
  · exact (hph j hj).trans (c04k_negMul_modEq l.n _ hj a1 b1)
  · refine (c04k_negMul_modEq l.n _ hj a2 b2).trans ?_
    rw [c05u_negMul_smul, negMulR_smul_right, ← mul_assoc, hcf]
    refine Int.ModEq.mul_right _ ?_
    rw [Int.natCast_mod, Nat.cast_mul]
    exact (Int.mod_modEq _ _).symm
  · exact negMulR_norm_le l.n va vb Va Vb a3 b3 j hj

theorem c02p_step_pl {l : Level} (h : c02p_LevelOK l) {sk : Array Int} (hsk : sk.size = l.n) {a r : Ct} {ma : Nat → Int} {Va : Nat}
    (ha : c02p_Enc l sk a ma Va) {p : RnsPoly} (hp : RnsCanon l p) {P : Nat → Int} (hP : c02p_PlainLift l p P) {Bp : Nat}
    (hB : ∀ j, j < l.n → (P j).natAbs ≤ Bp) (hr : ctMultiplyPlainNtt l a p = .ok r) :
    r.cf = a.cf ∧ r.polys.size = a.polys.size ∧ c02p_Enc l sk r (negMulR l.n ma P) (l.n * Va * Bp) := by
  obtain ⟨ga, va, a1, a2, a3⟩ := ha
  obtain ⟨gr, hcf, hsz, hph⟩ := c02p_mulPlain_ph h hsk ga hp hP hr (sk := sk)
  refine ⟨hcf, hsz, gr, negMulR l.n va P, fun j hj => ?_, fun j hj => ?_, fun j hj => ?_⟩
  · exact (hph j hj).trans (c04k_negMul_modEq l.n _ hj a1 (fun i _ => Int.ModEq.refl _))
  · refine (c04k_negMul_modEq l.n _ hj a2 (fun i _ => Int.ModEq.refl _)).trans ?_
    rw [c05u_negMul_smul, hcf]
  · exact negMulR_norm_le l.n va P Va Bp a3 hB j hj

/-- THE INDUCTION: for every program the model does not refuse, on inputs that encrypt `M i` with phase norms `≤ (inB i).2` and correction
    factors `(inB i).1`, the a-priori bookkeeping `noiseUB` succeeds, returns the correction factor of the result, and the result encrypts
    the shadow program's value with phase norm at most the returned bound -/
theorem c02p_prog_inv {l : Level} (h : c02p_LevelOK l) {sk : Array Int} (hsk : sk.size = l.n) (cts : Nat → Ct) (pls : Nat → RnsPoly)
    (M PL : Nat → Nat → Int) (inB : Nat → Nat × Nat) (plB : Nat → Nat) :
    ∀ (prog : BProg) (r : Ct),
      (∀ i ∈ prog.ctInputs, c02p_Enc l sk (cts i) (M i) (inB i).2 ∧ (cts i).cf = (inB i).1) →
      (∀ k ∈ prog.plInputs, RnsCanon l (pls k) ∧ c02p_PlainLift l (pls k) (PL k) ∧ ∀ j, j < l.n → (PL k j).natAbs ≤ plB k) →
      prog.eval l cts pls = .ok r →
      ∃ V, prog.noiseUB l.t l.n inB plB = some (r.cf, V) ∧ c02p_Enc l sk r (prog.shadow l.n M PL) V := by
  intro prog
  induction prog with
  | inp i =>
    intro r hin _ hev
    have hr : cts i = r := Except.ok.inj hev
    subst hr
    obtain ⟨he, hcf⟩ := hin i (by simp [BProg.ctInputs])
    refine ⟨(inB i).2, ?_, he⟩
    show some (inB i) = _
    rw [hcf]
  | neg p ih =>
    intro r hin hpl hev
    rw [BProg.eval] at hev
    obtain ⟨a, hea, hra⟩ := R.bind_eq_ok.mp hev
    obtain ⟨V, hub, ea⟩ := ih a hin hpl hea
    obtain ⟨hcf, _, er⟩ := c02p_step_neg h hsk ea hra
    exact ⟨V, by rw [hcf]; exact hub, er⟩
  | add p q ihp ihq | sub p q ihp ihq =>
    intro r hin hpl hev
    rw [BProg.eval] at hev
    obtain ⟨a, hea, hev2⟩ := R.bind_eq_ok.mp hev
    obtain ⟨b, heb, hrb⟩ := R.bind_eq_ok.mp hev2
    obtain ⟨Va, huba, ea⟩ := ihp a (fun i hi => hin i (by simp [BProg.ctInputs, hi])) (fun k hk => hpl k (by simp [BProg.plInputs, hk])) hea
    obtain ⟨Vb, hubb, eb⟩ := ihq b (fun i hi => hin i (by simp [BProg.ctInputs, hi])) (fun k hk => hpl k (by simp [BProg.plInputs, hk])) heb
    obtain ⟨e1, e2, hbal, hE⟩ := c02p_step_tr h hsk ea eb _ hrb
    refine ⟨e1 * Va + e2 * Vb, ?_, by simpa [BProg.shadow] using hE⟩
    rw [BProg.noiseUB, huba, hubb]
    dsimp only
    rw [hbal]
  | mul p q ihp ihq =>
    intro r hin hpl hev
    rw [BProg.eval] at hev
    obtain ⟨a, hea, hev2⟩ := R.bind_eq_ok.mp hev
    obtain ⟨b, heb, hrb⟩ := R.bind_eq_ok.mp hev2
    obtain ⟨Va, huba, ea⟩ := ihp a (fun i hi => hin i (by simp [BProg.ctInputs, hi])) (fun k hk => hpl k (by simp [BProg.plInputs, hk])) hea
    obtain ⟨Vb, hubb, eb⟩ := ihq b (fun i hi => hin i (by simp [BProg.ctInputs, hi])) (fun k hk => hpl k (by simp [BProg.plInputs, hk])) heb
    obtain ⟨hcf, _, hE⟩ := c02p_step_mul h hsk ea eb hrb
    refine ⟨l.n * Va * Vb, ?_, hE⟩
    rw [BProg.noiseUB, huba, hubb, hcf]
  | mulPlain p k ih =>
    intro r hin hpl hev
    rw [BProg.eval] at hev
    obtain ⟨a, hea, hra⟩ := R.bind_eq_ok.mp hev
    obtain ⟨Va, huba, ea⟩ := ih a hin (fun k' hk => hpl k' (by simp [BProg.plInputs, hk])) hea
    obtain ⟨hpc, hpL, hpB⟩ := hpl k (by simp [BProg.plInputs])
    obtain ⟨hcf, _, hE⟩ := c02p_step_pl h hsk ea hpc hpL hpB hra
    refine ⟨l.n * Va * plB k, ?_, hE⟩
    rw [BProg.noiseUB, huba, hcf]

/-- decryption of an encryption with small phase: `c02p_Enc` gives an integer polynomial `v ≡ phase (mod Q)` with `‖v‖∞ ≤ V`; the exact phase
    is centred and `2V < Q`, so the phase IS `v` (two congruent values in the window are equal, `c03k_centred_unique`); `v ≡ cf·m (mod t)`,
    and `bgvDecrypt` multiplies by `cf⁻¹` modulo t -/
theorem c02p_decrypt_of_enc {l : Level} (h : c02p_LevelOK l) {sk : Array Int} (hsk : sk.size = l.n) {r : Ct} {m : Nat → Int} {V : Nat}
    (he : c02p_Enc l sk r m V) (hV : 2 * V < l.tool.baseQ.prod) :
    bgvDecrypt l sk r = .ok (Spec.trim (Array.ofFn (n := l.n) fun j => Spec.imod (m j.val) l.t.value)) := by
  obtain ⟨g, v, h1, h2, h3⟩ := he
  have htw := h.twf
  have ht2 := htw.two_le
  have ht61 := htw.lt
  have hcflt := g.cf_lt h
  have hQ := h.lq.prodL
  have h2s := g.canon.two_le
  have hQpos : 0 < Spec.prodL (c01p_qvals l) := hQ ▸ h.dec.tool.qwf.prod_pos
  have hpv : ∀ j, j < l.n → c02p_ph l sk r j = v j := fun j hj =>
    c03k_centred_unique (h1 j hj) (hQ ▸ c01p_phase_centred _ _ _ _ hQpos hj) (by have := h3 j hj; omega)
  have hr : r = ⟨r.polys, true, r.cf⟩ := by
    cases r with
    | mk polys ntt cf => have := g.ntt; simp only at this; subst this; rfl
  rw [hr]
  rw [bgvDecrypt_eq_spec h.wf h.dec hsk h2s g.canon.canon (by omega : r.cf < 2^63) g.unit (fun j hj => by
    have := hpv j hj
    unfold c02p_ph at this
    rw [this, hQ]
    have hv : |v j| ≤ (V : Int) := by rw [Int.abs_eq_natAbs]; exact_mod_cast h3 j hj
    obtain ⟨v1, v2⟩ := abs_le.mp hv
    omega)]
  congr 2
  have hps := c01p_phase_size (c01p_qvals l) l.n sk (r.polys.toList.map (rnsIntt l))
  apply array_ext_getD (n := l.n) (by rw [c01p_bgvDecode_size, hps]) (by simp)
  intro j hj
  rw [c01p_bgvDecode_getD _ _ _ (by rw [hps]; exact hj), array_getD_ofFn _ _ hj]
  have ht0 : 0 < l.t.value := by omega
  apply cast_inj_lt (Nat.mod_lt _ ht0) (c01j_imod_lt _ ht0)
  have hp := hpv j hj
  unfold c02p_ph at hp
  have hinv := c02v_inv_zmod ht2 (by omega : l.t.value < 2^199) g.unit
  have hvm := (ZMod.intCast_eq_intCast_iff _ _ _).mpr (h2 j hj)
  push_cast at hvm
  rw [ZMod.natCast_mod]
  push_cast
  rw [imod_cast (dvd_refl _) ht0, imod_cast (dvd_refl _) ht0, hp, hvm]
  linear_combination ((m j : Int) : ZMod l.t.value) * hinv

/-- THE PROGRAM-LEVEL HOMOMORPHISM THEOREM (BGV, ring operations).  For every level built by the constructors (`c02p_LevelOK`: any
    degree N = 2^k, any chain of moduli, any plain modulus), every secret key, every program `prog` over negate / add / sub (all size pairs,
    balancing of different correction factors included) / multiply and square (all size pairs) / multiply_plain, every assignment of inputs:
    if each ciphertext input is canonical, in NTT form, has a unit correction factor `(inB i).1` and an exact phase congruent modulo Q to
    some `v_i ≡ cf_i·M_i (mod t)` with `‖v_i‖∞ ≤ (inB i).2`, each plaintext input is canonical with integer reading `PL k`, `‖PL k‖∞ ≤ plB k`,
    the MODEL DOES NOT REFUSE the program (`eval = .ok r`), and the decidable a-priori bound `noiseUB prog = some (f, V)` satisfies
    `2·V < Q`, then `bgvDecrypt (eval prog)` succeeds and is the shadow program evaluated in ℤ[X]/(X^N+1), read modulo t. -/
theorem hom_program_bgv {l : Level} (h : c02p_LevelOK l) {sk : Array Int} (hsk : sk.size = l.n) (cts : Nat → Ct) (pls : Nat → RnsPoly)
    (M PL : Nat → Nat → Int) (inB : Nat → Nat × Nat) (plB : Nat → Nat) (prog : BProg) {r : Ct}
    (hin : ∀ i ∈ prog.ctInputs, c02p_Enc l sk (cts i) (M i) (inB i).2 ∧ (cts i).cf = (inB i).1)
    (hpl : ∀ k ∈ prog.plInputs, RnsCanon l (pls k) ∧ c02p_PlainLift l (pls k) (PL k) ∧ ∀ j, j < l.n → (PL k j).natAbs ≤ plB k)
    (hev : prog.eval l cts pls = .ok r) {f V : Nat} (hub : prog.noiseUB l.t l.n inB plB = some (f, V))
    (hV : 2 * V < l.tool.baseQ.prod) :
    bgvDecrypt l sk r = .ok (Spec.trim (Array.ofFn (n := l.n) fun j => Spec.imod (prog.shadow l.n M PL j.val) l.t.value)) := by
  obtain ⟨V', hub', he⟩ := c02p_prog_inv h hsk cts pls M PL inB plB prog r hin hpl hev
  rw [hub] at hub'
  have hVV : V = V' := by injection hub' with h1; injection h1
  subst hVV
  exact c02p_decrypt_of_enc h hsk he hV

theorem hom_program_bgv_noiseUB {l : Level} (h : c02p_LevelOK l) {sk : Array Int} (hsk : sk.size = l.n) (cts : Nat → Ct)
    (pls : Nat → RnsPoly) (M PL : Nat → Nat → Int) (inB : Nat → Nat × Nat) (plB : Nat → Nat) (prog : BProg) {r : Ct}
    (hin : ∀ i ∈ prog.ctInputs, c02p_Enc l sk (cts i) (M i) (inB i).2 ∧ (cts i).cf = (inB i).1)
    (hpl : ∀ k ∈ prog.plInputs, RnsCanon l (pls k) ∧ c02p_PlainLift l (pls k) (PL k) ∧ ∀ j, j < l.n → (PL k j).natAbs ≤ plB k)
    (hev : prog.eval l cts pls = .ok r) :
    ∃ V, prog.noiseUB l.t l.n inB plB = some (r.cf, V) ∧ c02p_Enc l sk r (prog.shadow l.n M PL) V :=
  c02p_prog_inv h hsk cts pls M PL inB plB prog r hin hpl hev

/-- inputs: a canonical NTT-form ciphertext with unit factor whose exact phase is `cf·m + t·e` (as integers) with `‖m‖∞ ≤ Bm`, `‖e‖∞ ≤ Be`
    satisfies the input hypothesis with `V = cf·Bm + t·Be` (fresh ciphertext: cf = 1) -/
theorem c02p_enc_of_fresh {l : Level} {sk : Array Int} {ct : Ct} (g : c02p_Good l ct) (m e : Nat → Int) (Bm Be : Nat)
    (hph : ∀ j, j < l.n → c02p_ph l sk ct j = (ct.cf : Int) * m j + (l.t.value : Int) * e j)
    (hm : ∀ j, j < l.n → (m j).natAbs ≤ Bm) (he : ∀ j, j < l.n → (e j).natAbs ≤ Be) :
    c02p_Enc l sk ct m (ct.cf * Bm + l.t.value * Be) := by
  refine ⟨g, fun j => (ct.cf : Int) * m j + (l.t.value : Int) * e j, fun j hj => by rw [hph j hj], fun j _ => ?_, fun j hj => ?_⟩
  · rw [Int.modEq_iff_dvd]
    exact ⟨- e j, by ring⟩
  · refine le_trans (Int.natAbs_add_le _ _) ?_
    rw [Int.natAbs_mul, Int.natAbs_mul, Int.natAbs_natCast, Int.natAbs_natCast]
    exact Nat.add_le_add (Nat.mul_le_mul_left _ (hm j hj)) (Nat.mul_le_mul_left _ (he j hj))

/-- the level bundle from the constructors: whatever `RNSBase.new` / `RNSTool.new` / `NTTTables.new` build (`c01q_Built`) for a BGV level
    with a well-formed plain modulus satisfies `c02p_LevelOK` -/
theorem c02p_levelOK_of_built {l : Level} (hb : c01q_Built l) (ht : l.t.WF) (hs : l.scheme = .bgv) : c02p_LevelOK l := by
  obtain ⟨a1, a2, _, a4⟩ := level_bundles_of_constructors hb
  exact ⟨a1, a2, (a4 ht).1, hs⟩

end HC
