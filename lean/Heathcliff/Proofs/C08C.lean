/- C08 part C: the multi-word helpers of src/util/basic.rs agree with arbitrary-precision arithmetic for ALL operand lengths
   (`toNat` is the little-endian value, `Limbs l` says every limb is a u64: Proofs/C08L.lean).
   Lemmas that serve one routine only carry its tag: `sh_` the shifts and the rounding half, `mu_` the full product, `dv_` the division
   with remainder (everything from `DivideUintStatement` on; the facts on `bitCount` it needs come first).  `X_eq`, `X_succ`, `X_cons`, `X_zero`, `X_nil` state the
   defining equation of the model's `X` as a rewrite rule. -/
import Heathcliff.Proofs.C08A
import Heathcliff.Proofs.C08L
import Mathlib.Tactic.Linarith
import Mathlib.Tactic.LinearCombination
import Mathlib.Tactic.NormNum
import Mathlib.Tactic.Ring
namespace HC

/-! ### ripple loops -/

theorem addLimbs_succ (n : Nat) (a b : List Nat) (c : Nat) : addLimbs (n+1) a b c =
    ((addU64Carry (a.headD 0) (b.headD 0) c).1 :: (addLimbs n a.tail b.tail (addU64Carry (a.headD 0) (b.headD 0) c).2).1,
     (addLimbs n a.tail b.tail (addU64Carry (a.headD 0) (b.headD 0) c).2).2) := rfl
theorem addLimbs_zero (a b : List Nat) (c : Nat) : addLimbs 0 a b c = ([], c) := rfl
theorem subLimbs_succ (n : Nat) (a b : List Nat) (c : Nat) : subLimbs (n+1) a b c =
    ((subU64Borrow (a.headD 0) (b.headD 0) c).1 :: (subLimbs n a.tail b.tail (subU64Borrow (a.headD 0) (b.headD 0) c).2).1,
     (subLimbs n a.tail b.tail (subU64Borrow (a.headD 0) (b.headD 0) c).2).2) := rfl
theorem subLimbs_zero (a b : List Nat) (c : Nat) : subLimbs 0 a b c = ([], c) := rfl

theorem addLimbs_spec (n : Nat) : ∀ (a b : List Nat) (c : Nat), Limbs a → Limbs b → c ≤ 1 →
    (addLimbs n a b c).1.length = n ∧ Limbs (addLimbs n a b c).1 ∧ (addLimbs n a b c).2 ≤ 1 ∧
    toNat (addLimbs n a b c).1 + 2^(64*n) * (addLimbs n a b c).2 = toNat (a.take n) + toNat (b.take n) + c := by
  induction n with
  | zero => intro a b c _ _ hc; exact ⟨rfl, Limbs.nil, hc, by simp [addLimbs_zero]⟩
  | succ k ih =>
    intro a b c ha hb hc
    obtain ⟨h1, h2, h3⟩ := addU64Carry_spec ha.headD hb.headD hc
    obtain ⟨i1, i2, i3, i4⟩ := ih a.tail b.tail _ ha.tail hb.tail h3
    rw [addLimbs_succ]
    refine ⟨by simp only [List.length_cons, i1], limbs_cons.mpr ⟨h2, i2⟩, i3, ?_⟩
    simp only [toNat_cons, toNat_take_succ, pow64_succ]
    rw [← B64_eq] at h1
    linear_combination h1 + B64 * i4

theorem subLimbs_spec (n : Nat) : ∀ (a b : List Nat) (c : Nat), Limbs a → Limbs b → c ≤ 1 →
    (subLimbs n a b c).1.length = n ∧ Limbs (subLimbs n a b c).1 ∧ (subLimbs n a b c).2 ≤ 1 ∧
    toNat (subLimbs n a b c).1 + toNat (b.take n) + c = toNat (a.take n) + 2^(64*n) * (subLimbs n a b c).2 := by
  induction n with
  | zero => intro a b c _ _ hc; exact ⟨rfl, Limbs.nil, hc, by simp [subLimbs_zero]⟩
  | succ k ih =>
    intro a b c ha hb hc
    obtain ⟨h1, h2, h3⟩ := subU64Borrow_spec ha.headD hb.headD hc
    obtain ⟨i1, i2, i3, i4⟩ := ih a.tail b.tail _ ha.tail hb.tail h3
    rw [subLimbs_succ]
    refine ⟨by simp only [List.length_cons, i1], limbs_cons.mpr ⟨h2, i2⟩, i3, ?_⟩
    simp only [toNat_cons, toNat_take_succ, pow64_succ]
    rw [← B64_eq] at h1
    linear_combination h1 + B64 * i4

/-- `add_uint` and its relatives: the first limb is added without carry-in, the other `m` by `addLimbs` -/
theorem addHead_spec (m : Nat) {x y : Nat} {as bs : List Nat} (hx : x < 2^64) (hy : y < 2^64)
    (has : Limbs as) (hbs : Limbs bs) :
    ∃ r c, ((addU64 x y).1 :: (addLimbs m as bs (addU64 x y).2).1, (addLimbs m as bs (addU64 x y).2).2) = (r, c) ∧
      r.length = m + 1 ∧ Limbs r ∧ c ≤ 1 ∧
      toNat r + 2^(64*(m+1)) * c = (x + B64 * toNat (as.take m)) + (y + B64 * toNat (bs.take m)) := by
  obtain ⟨h1, h2, h3⟩ := addU64_spec hx hy
  obtain ⟨i1, i2, i3, i4⟩ := addLimbs_spec m as bs _ has hbs h3
  refine ⟨_, _, rfl, by rw [List.length_cons, i1], limbs_cons.mpr ⟨h2, i2⟩, i3, ?_⟩
  rw [toNat_cons, pow64_succ]
  rw [← B64_eq] at h1
  linear_combination h1 + B64 * i4

theorem subHead_spec (m : Nat) {x y : Nat} {as bs : List Nat} (hx : x < 2^64) (hy : y < 2^64)
    (has : Limbs as) (hbs : Limbs bs) :
    ∃ r c, ((subU64 x y).1 :: (subLimbs m as bs (subU64 x y).2).1, (subLimbs m as bs (subU64 x y).2).2) = (r, c) ∧
      r.length = m + 1 ∧ Limbs r ∧ c ≤ 1 ∧
      toNat r + (y + B64 * toNat (bs.take m)) = (x + B64 * toNat (as.take m)) + 2^(64*(m+1)) * c := by
  obtain ⟨h1, h2, h3⟩ := subU64_spec hx hy
  obtain ⟨i1, i2, i3, i4⟩ := subLimbs_spec m as bs _ has hbs h3
  refine ⟨_, _, rfl, by rw [List.length_cons, i1], limbs_cons.mpr ⟨h2, i2⟩, i3, ?_⟩
  rw [toNat_cons, pow64_succ]
  rw [← B64_eq] at h1
  linear_combination h1 + B64 * i4

theorem addUint_eq (a b : List Nat) (n : Nat) : addUint a b n =
    if n = 0 ∨ a.length < n ∨ b.length < n then .error .oob
    else .ok ((addU64 (a.headD 0) (b.headD 0)).1 ::
        (addLimbs (n-1) a.tail b.tail (addU64 (a.headD 0) (b.headD 0)).2).1,
        (addLimbs (n-1) a.tail b.tail (addU64 (a.headD 0) (b.headD 0)).2).2) := rfl

theorem subUint_eq (a b : List Nat) (n : Nat) : subUint a b n =
    if n = 0 ∨ a.length < 1 ∨ b.length < 1 then .error .oob
    else .ok ((subU64 (a.headD 0) (b.headD 0)).1 ::
        (subLimbs (n-1) a.tail b.tail (subU64 (a.headD 0) (b.headD 0)).2).1,
        (subLimbs (n-1) a.tail b.tail (subU64 (a.headD 0) (b.headD 0)).2).2) := rfl

theorem addUintU64_eq (a : List Nat) (w n : Nat) : addUintU64 a w n =
    if n = 0 ∨ a.length < n then .error .oob
    else .ok ((addU64 (a.headD 0) w).1 ::
        (addLimbs (n-1) a.tail [] (addU64 (a.headD 0) w).2).1,
        (addLimbs (n-1) a.tail [] (addU64 (a.headD 0) w).2).2) := rfl

theorem subUintU64_eq (a : List Nat) (w n : Nat) : subUintU64 a w n =
    if n = 0 ∨ a.length < n then .error .oob
    else .ok ((subU64 (a.headD 0) w).1 ::
        (subLimbs (n-1) a.tail [] (subU64 (a.headD 0) w).2).1,
        (subLimbs (n-1) a.tail [] (subU64 (a.headD 0) w).2).2) := rfl

theorem negateUint_eq (a : List Nat) (n : Nat) : negateUint a n =
    if n = 0 ∨ a.length < n then .error .oob
    else .ok ((addU64 (notW (a.headD 0)) 1).1 ::
        (addLimbs (n-1) ((a.tail.take (n-1)).map notW) [] (addU64 (notW (a.headD 0)) 1).2).1) := rfl

theorem addUint_spec {a b : List Nat} {n : Nat} (hn : 1 ≤ n) (ha : Limbs a) (hb : Limbs b)
    (hla : n ≤ a.length) (hlb : n ≤ b.length) :
    ∃ r c, addUint a b n = .ok (r, c) ∧ r.length = n ∧ Limbs r ∧ c ≤ 1 ∧
      toNat r + 2^(64*n) * c = toNat (a.take n) + toNat (b.take n) := by
  obtain ⟨m, rfl⟩ : ∃ m, n = m + 1 := ⟨n - 1, by omega⟩
  rw [addUint_eq, if_neg (by omega), toNat_take_succ, toNat_take_succ]
  obtain ⟨r, c, e, h⟩ := addHead_spec m ha.headD hb.headD ha.tail hb.tail
  exact ⟨r, c, congrArg Except.ok e, h⟩

theorem subUint_spec {a b : List Nat} {n : Nat} (hn : 1 ≤ n) (ha : Limbs a) (hb : Limbs b)
    (hla : n ≤ a.length) (hlb : n ≤ b.length) :
    ∃ r c, subUint a b n = .ok (r, c) ∧ r.length = n ∧ Limbs r ∧ c ≤ 1 ∧
      toNat r + toNat (b.take n) = toNat (a.take n) + 2^(64*n) * c := by
  obtain ⟨m, rfl⟩ : ∃ m, n = m + 1 := ⟨n - 1, by omega⟩
  rw [subUint_eq, if_neg (by omega), toNat_take_succ, toNat_take_succ]
  obtain ⟨r, c, e, h⟩ := subHead_spec m ha.headD hb.headD ha.tail hb.tail
  exact ⟨r, c, congrArg Except.ok e, h⟩

theorem addUint_full {a b : List Nat} {n : Nat} (hn : 1 ≤ n) (ha : Limbs a) (hb : Limbs b)
    (hla : a.length = n) (hlb : b.length = n) :
    ∃ r c, addUint a b n = .ok (r, c) ∧ r.length = n ∧ Limbs r ∧ c ≤ 1 ∧
      toNat r + 2^(64*n) * c = toNat a + toNat b := by
  have h := addUint_spec hn ha hb hla.ge hlb.ge
  rwa [List.take_of_length_le hla.le, List.take_of_length_le hlb.le] at h

theorem subUint_full {a b : List Nat} {n : Nat} (hn : 1 ≤ n) (ha : Limbs a) (hb : Limbs b)
    (hla : a.length = n) (hlb : b.length = n) :
    ∃ r c, subUint a b n = .ok (r, c) ∧ r.length = n ∧ Limbs r ∧ c ≤ 1 ∧
      toNat r + toNat b = toNat a + 2^(64*n) * c := by
  have h := subUint_spec hn ha hb hla.ge hlb.ge
  rwa [List.take_of_length_le hla.le, List.take_of_length_le hlb.le] at h

/-- a subtraction that does not borrow -/
theorem subUint_le {a b : List Nat} {n : Nat} (hn : 1 ≤ n) (ha : Limbs a) (hb : Limbs b) (hla : a.length = n) (hlb : b.length = n)
    (h : toNat b ≤ toNat a) :
    ∃ r, subUint a b n = .ok (r, 0) ∧ r.length = n ∧ Limbs r ∧ toNat r = toNat a - toNat b := by
  obtain ⟨r, c, hs, hl, hL, hc, hv⟩ := subUint_full hn ha hb hla hlb
  have hr := toNat_lt_of_length hL hl
  have ha' := toNat_lt_of_length ha hla
  obtain rfl : c = 0 := by
    rcases Nat.le_one_iff_eq_zero_or_eq_one.mp hc with h0 | rfl
    · exact h0
    · omega
  exact ⟨r, hs, hl, hL, by omega⟩

theorem addUintU64_spec {a : List Nat} {w n : Nat} (hn : 1 ≤ n) (ha : Limbs a) (hw : w < 2^64) (hla : n ≤ a.length) :
    ∃ r c, addUintU64 a w n = .ok (r, c) ∧ r.length = n ∧ Limbs r ∧ c ≤ 1 ∧
      toNat r + 2^(64*n) * c = toNat (a.take n) + w := by
  obtain ⟨m, rfl⟩ : ∃ m, n = m + 1 := ⟨n - 1, by omega⟩
  rw [addUintU64_eq, if_neg (by omega), toNat_take_succ]
  obtain ⟨r, c, e, h⟩ := addHead_spec m ha.headD hw ha.tail Limbs.nil
  exact ⟨r, c, congrArg Except.ok e, by simpa using h⟩

theorem subUintU64_spec {a : List Nat} {w n : Nat} (hn : 1 ≤ n) (ha : Limbs a) (hw : w < 2^64) (hla : n ≤ a.length) :
    ∃ r c, subUintU64 a w n = .ok (r, c) ∧ r.length = n ∧ Limbs r ∧ c ≤ 1 ∧
      toNat r + w = toNat (a.take n) + 2^(64*n) * c := by
  obtain ⟨m, rfl⟩ : ∃ m, n = m + 1 := ⟨n - 1, by omega⟩
  rw [subUintU64_eq, if_neg (by omega), toNat_take_succ]
  obtain ⟨r, c, e, h⟩ := subHead_spec m ha.headD hw ha.tail Limbs.nil
  exact ⟨r, c, congrArg Except.ok e, by simpa using h⟩

theorem limbs_map_notW (l : List Nat) : Limbs (l.map notW) := by
  intro x hx
  obtain ⟨y, _, rfl⟩ := List.mem_map.mp hx
  exact notW_lt

theorem toNat_map_notW {l : List Nat} (h : Limbs l) : toNat (l.map notW) + toNat l + 1 = 2^(64*l.length) := by
  induction l with
  | nil => simp
  | cons x xs ih =>
    have h1 := notW_add (limbs_cons.mp h).1
    have h2 := ih (limbs_cons.mp h).2
    simp only [List.map_cons, toNat_cons, List.length_cons, pow64_succ]
    linear_combination h1 + B64 * h2

theorem negateUint_spec {a : List Nat} {n : Nat} (hn : 1 ≤ n) (ha : Limbs a) (hla : n ≤ a.length) :
    ∃ r, negateUint a n = .ok r ∧ r.length = n ∧ Limbs r ∧
      toNat r = (2^(64*n) - toNat (a.take n)) % 2^(64*n) := by
  obtain ⟨m, rfl⟩ : ∃ m, n = m + 1 := ⟨n - 1, by omega⟩
  rw [negateUint_eq, if_neg (by omega), Nat.add_sub_cancel]
  obtain ⟨r, c, e, hl, hL, _, hv⟩ := addHead_spec m (notW_lt (x := a.headD 0)) (show 1 < 2^64 by norm_num)
    (limbs_map_notW (a.tail.take m)) Limbs.nil
  rw [Prod.mk.injEq] at e
  have hlen : (a.tail.take m).length = m := by rw [List.length_take, List.length_tail]; omega
  have hN := toNat_map_notW (ha.tail.take m)
  have hna := notW_add ha.headD
  have hlt := toNat_lt hL
  rw [List.take_of_length_le (by rw [List.length_map, hlen]), List.take_nil, toNat_nil] at hv
  rw [hlen] at hN
  rw [hl] at hlt
  refine ⟨r, congrArg Except.ok e.1, hl, hL, ?_⟩
  have key : toNat r + 2^(64*(m+1)) * c + toNat (a.take (m+1)) = 2^(64*(m+1)) := by
    rw [toNat_take_succ, pow64_succ] at *
    linear_combination hv + hna + B64 * hN
  exact eq_mod_of_add_mul (q := c) (by omega) hlt

/-! ### product by one word -/

theorem mulLimbsU64_zero (a : List Nat) (w carry : Nat) : mulLimbsU64 a w 0 carry = .ok ([], carry) := by
  cases a <;> rfl
theorem mulLimbsU64_cons (x : Nat) (xs : List Nat) (w k carry : Nat) :
    mulLimbsU64 (x :: xs) w (k+1) carry =
      (ckAdd (mulHi x w) (addU64Carry (mulLo x w) carry 0).2 >>= fun carry' =>
        mulLimbsU64 xs w k carry' >>= fun p => pure ((addU64Carry (mulLo x w) carry 0).1 :: p.1, p.2)) := rfl

theorem mulLimbsU64_spec (a : List Nat) : ∀ (w k carry : Nat), Limbs a → w < 2^64 → carry < 2^64 → k ≤ a.length →
    ∃ rs cf, mulLimbsU64 a w k carry = .ok (rs, cf) ∧ rs.length = k ∧ Limbs rs ∧ cf < 2^64 ∧
      toNat rs + 2^(64*k) * cf = toNat (a.take k) * w + carry := by
  induction a with
  | nil =>
    intro w k carry _ _ hc hk
    obtain rfl : k = 0 := by simpa using hk
    exact ⟨[], carry, rfl, rfl, Limbs.nil, hc, by simp⟩
  | cons x xs ih =>
    intro w k carry ha hw hc hk
    cases k with
    | zero => exact ⟨[], carry, rfl, rfl, Limbs.nil, hc, by simp⟩
    | succ k =>
      obtain ⟨hx, hxs⟩ := limbs_cons.mp ha
      obtain ⟨e2, ht, hc1⟩ := addU64Carry_spec (mulLo_lt x w) hc (Nat.zero_le 1)
      have hhi := mulHi_le (B64_eq ▸ hx) (B64_eq ▸ hw)
      have hsum : mulHi x w + (addU64Carry (mulLo x w) carry 0).2 < B64 := by omega
      obtain ⟨rs, cf, hrec, hl, hlimbs, hcf, hval⟩ := ih w k _ hxs hw (B64_eq ▸ hsum) (by simpa using hk)
      refine ⟨_ :: rs, cf, ?_, by rw [List.length_cons, hl], limbs_cons.mpr ⟨ht, hlimbs⟩, hcf, ?_⟩
      · rw [mulLimbsU64_cons, ckAdd_ok hsum]
        show (mulLimbsU64 xs w k _ >>= _) = _
        rw [hrec]; rfl
      · rw [← B64_eq] at e2
        simp only [toNat_cons, List.take_succ_cons, pow64_succ]
        linear_combination mulHiLo x w + e2 + B64 * hval

theorem multiplyUintU64_eq (a : List Nat) (w n : Nat) : multiplyUintU64 a w n =
    if a.isEmpty ∨ w = 0 then .ok (List.replicate n 0)
    else if n = 1 then .ok [wMul (a.headD 0) w]
    else mulLimbsU64 a w (min a.length n) 0 >>= fun p =>
      if min a.length n < n then .ok (padTo (p.1 ++ [p.2]) n) else .ok p.1 := rfl

theorem toNat_mul_mod_B64 {a : List Nat} (w : Nat) : (toNat a * w) % B64 = (a.headD 0 * w) % B64 := by
  cases a with
  | nil => simp
  | cons x xs =>
    simp only [toNat_cons, List.headD_cons]
    rw [Nat.add_mul, Nat.mul_assoc, Nat.add_mul_mod_self_left]

theorem multiplyUintU64_spec {a : List Nat} {w n : Nat} (hn : 1 ≤ n) (ha : Limbs a) (hw : w < 2^64) :
    ∃ r, multiplyUintU64 a w n = .ok r ∧ r.length = n ∧ Limbs r ∧
      toNat r = (toNat a * w) % 2^(64*n) := by
  rw [multiplyUintU64_eq]
  by_cases h0 : a.isEmpty ∨ w = 0
  · rw [if_pos h0]
    refine ⟨_, rfl, List.length_replicate, Limbs.replicate_zero n, ?_⟩
    rw [toNat_replicate_zero]
    rcases h0 with h0 | h0
    · rw [List.isEmpty_iff.mp h0]; simp
    · rw [h0]; simp
  rw [if_neg h0]
  by_cases h1 : n = 1
  · subst h1
    rw [if_pos rfl]
    have hlt : wMul (a.headD 0) w < B64 := Nat.mod_lt _ B64_pos
    refine ⟨_, rfl, rfl, limbs_cons.mpr ⟨B64_eq ▸ hlt, Limbs.nil⟩, ?_⟩
    rw [toNat_cons, toNat_nil, Nat.mul_zero, Nat.add_zero, Nat.mul_one, ← B64_eq, toNat_mul_mod_B64]; rfl
  rw [if_neg h1]
  obtain ⟨rs, cf, hrec, hl, hlimbs, hcf, hval⟩ :=
    mulLimbsU64_spec a w (min a.length n) 0 ha hw (by norm_num) (Nat.min_le_left _ _)
  rw [hrec, Nat.add_zero] at *
  show ∃ r, (if min a.length n < n then Except.ok (padTo (rs ++ [cf]) n) else Except.ok rs) = Except.ok r ∧ _
  by_cases hk : min a.length n < n
  · -- the operand is shorter than the result: nothing is cut off
    rw [if_pos hk]
    rw [Nat.min_eq_left (by omega), List.take_of_length_le (Nat.le_refl _)] at hval
    rw [Nat.min_eq_left (by omega)] at hl
    have hlim : Limbs (padTo (rs ++ [cf]) n) :=
      (hlimbs.append (limbs_cons.mpr ⟨hcf, Limbs.nil⟩)).append (Limbs.replicate_zero _)
    have hlen : (padTo (rs ++ [cf]) n).length = n := by
      unfold padTo
      rw [List.length_append, List.length_replicate, List.length_append, hl, List.length_singleton]; omega
    have hv : toNat (padTo (rs ++ [cf]) n) = toNat a * w := by
      unfold padTo
      rw [toNat_append, toNat_append, toNat_replicate_zero, hl, toNat_cons, toNat_nil, ← hval]; ring
    exact ⟨_, rfl, hlen, hlim, by rw [← hv, Nat.mod_eq_of_lt (toNat_lt_of_length hlim hlen)]⟩
  · rw [if_neg hk]
    rw [Nat.min_eq_right (by omega)] at hl hval
    exact ⟨_, rfl, hl, hlimbs, by
      rw [eq_mod_of_add_mul hval (toNat_lt_of_length hlimbs hl), toNat_take_mod ha, Nat.mod_mul_mod]⟩

/-! ### comparison -/

theorem cmp_go_zero (a b : List Nat) : compareUint.go a b 0 = 0 := rfl
theorem cmp_go_succ (a b : List Nat) (i : Nat) : compareUint.go a b (i+1) =
    if a.getD i 0 < b.getD i 0 then -1 else if a.getD i 0 > b.getD i 0 then 1 else compareUint.go a b i := rfl

theorem cmp_arith {A B P x y : Nat} (hA : A < P) (hB : B < P) :
    (if x < y then (-1 : Int) else if x > y then 1 else (if A < B then -1 else if A > B then 1 else 0)) =
    (if A + P * x < B + P * y then -1 else if A + P * x > B + P * y then 1 else 0) := by
  have h1 : x < y → P * x + P ≤ P * y := fun h => by
    rw [← Nat.mul_succ]; exact Nat.mul_le_mul_left _ h
  have h2 : y < x → P * y + P ≤ P * x := fun h => by
    rw [← Nat.mul_succ]; exact Nat.mul_le_mul_left _ h
  rcases Nat.lt_trichotomy x y with h | h | h
  · have := h1 h
    rw [if_pos h, if_pos (by omega)]
  · subst h
    rw [if_neg (Nat.lt_irrefl _), if_neg (Nat.lt_irrefl _)]
    split_ifs <;> omega
  · have := h2 h
    rw [if_neg (by omega), if_pos h, if_neg (by omega), if_pos (by omega)]

theorem cmp_go_spec {a b : List Nat} (ha : Limbs a) (hb : Limbs b) (i : Nat) :
    compareUint.go a b i = (if toNat (a.take i) < toNat (b.take i) then -1
      else if toNat (a.take i) > toNat (b.take i) then 1 else 0) := by
  induction i with
  | zero => simp [cmp_go_zero]
  | succ i ih =>
    rw [cmp_go_succ, ih, toNat_getD_split a i, toNat_getD_split b i]
    exact cmp_arith (toNat_take_lt ha i) (toNat_take_lt hb i)

theorem compareUint_eq (a b : List Nat) : compareUint a b = compareUint.go a b (max a.length b.length) := rfl

theorem compareUint_spec {a b : List Nat} (ha : Limbs a) (hb : Limbs b) :
    compareUint a b = (if toNat a < toNat b then -1 else if toNat a > toNat b then 1 else 0) := by
  rw [compareUint_eq, cmp_go_spec ha hb, List.take_of_length_le (Nat.le_max_left _ _),
    List.take_of_length_le (Nat.le_max_right _ _)]

/-! ### sum, difference, negation modulo a multi-word modulus -/

theorem addUintMod_eq (a b m : List Nat) : addUintMod a b m =
    (addUint a b m.length >>= fun p =>
      if p.2 ≠ 0 ∨ geUint p.1 m then (subUint p.1 m m.length >>= fun q => pure q.1) else pure p.1) := rfl

theorem subUintMod_eq (a b m : List Nat) : subUintMod a b m =
    (subUint a b m.length >>= fun p =>
      if p.2 ≠ 0 then (addUint p.1 m m.length >>= fun q => pure q.1) else pure p.1) := rfl

theorem negateUintMod_eq (a m : List Nat) : negateUintMod a m =
    if a.all (· = 0) then pure (List.replicate m.length 0)
    else (subUint m a m.length >>= fun q => pure q.1) := rfl

theorem geUint_iff {a b : List Nat} (ha : Limbs a) (hb : Limbs b) : geUint a b = true ↔ toNat b ≤ toNat a := by
  unfold geUint
  rw [compareUint_spec ha hb]
  split_ifs <;> simp <;> omega

theorem addUintMod_spec {a b md : List Nat} (hn : 1 ≤ md.length) (ha : Limbs a) (hb : Limbs b) (hm : Limbs md)
    (hla : a.length = md.length) (hlb : b.length = md.length) (hax : toNat a < toNat md) (hbx : toNat b < toNat md) :
    ∃ r, addUintMod a b md = .ok r ∧ r.length = md.length ∧ Limbs r ∧ toNat r = (toNat a + toNat b) % toNat md := by
  obtain ⟨s, c, hs, hsl, hsL, hc, hsv⟩ := addUint_full hn ha hb hla hlb
  rw [addUintMod_eq, hs]
  show ∃ r, (if c ≠ 0 ∨ geUint s md then (subUint s md md.length >>= fun q => pure q.1) else pure s) = Except.ok r ∧ _
  have hM := toNat_lt hm
  by_cases hcond : c ≠ 0 ∨ geUint s md
  · rw [if_pos hcond]
    obtain ⟨d, c', hd, hdl, hdL, hc', hdv⟩ := subUint_full hn hsL hm hsl rfl
    rw [hd]
    refine ⟨d, rfl, hdl, hdL, ?_⟩
    have hge : toNat md ≤ toNat a + toNat b := by
      rcases hcond with h | h
      · have := Nat.le_mul_of_pos_right (2^(64*md.length)) (Nat.pos_of_ne_zero h); omega
      · have := (geUint_iff hsL hm).mp h; omega
    rw [Nat.mod_eq_sub_mod hge, Nat.mod_eq_of_lt (by omega)]
    exact eq_of_add_mul_eq (c := c) (c' := c') (by omega) (toNat_lt_of_length hdL hdl) (by omega)
  · rw [if_neg hcond]
    refine ⟨s, rfl, hsl, hsL, ?_⟩
    obtain rfl : c = 0 := by omega
    have hlt : ¬ toNat md ≤ toNat s := fun h => hcond (Or.inr ((geUint_iff hsL hm).mpr h))
    rw [Nat.mod_eq_of_lt (by omega)]; omega

theorem subUintMod_spec {a b md : List Nat} (hn : 1 ≤ md.length) (ha : Limbs a) (hb : Limbs b) (hm : Limbs md)
    (hla : a.length = md.length) (hlb : b.length = md.length) (hax : toNat a < toNat md) (hbx : toNat b < toNat md) :
    ∃ r, subUintMod a b md = .ok r ∧ r.length = md.length ∧ Limbs r ∧ toNat r = (toNat a + toNat md - toNat b) % toNat md := by
  obtain ⟨d, c, hd, hdl, hdL, hc, hdv⟩ := subUint_full hn ha hb hla hlb
  rw [subUintMod_eq, hd]
  show ∃ r, (if c ≠ 0 then (addUint d md md.length >>= fun q => pure q.1) else pure d) = Except.ok r ∧ _
  have hM := toNat_lt hm
  have hD := toNat_lt_of_length hdL hdl
  by_cases hcond : c ≠ 0
  · rw [if_pos hcond]
    obtain ⟨s, c', hs, hsl, hsL, hc', hsv⟩ := addUint_full hn hdL hm hdl rfl
    rw [hs]
    refine ⟨s, rfl, hsl, hsL, ?_⟩
    obtain rfl : c = 1 := by omega
    rw [Nat.mod_eq_of_lt (by omega)]
    exact eq_of_add_mul_eq (c := c') (c' := 1) (by omega) (toNat_lt_of_length hsL hsl) (by omega)
  · rw [if_neg hcond]
    obtain rfl : c = 0 := by omega
    refine ⟨d, rfl, hdl, hdL, ?_⟩
    rw [Nat.mod_eq_sub_mod (by omega), Nat.mod_eq_of_lt (by omega)]; omega

theorem all_zero_iff (a : List Nat) : a.all (· = 0) = true ↔ toNat a = 0 := by
  rw [toNat_eq_zero_iff]; simp

theorem negateUintMod_spec {a md : List Nat} (hn : 1 ≤ md.length) (ha : Limbs a) (hm : Limbs md)
    (hla : a.length = md.length) (hax : toNat a < toNat md) :
    ∃ r, negateUintMod a md = .ok r ∧ r.length = md.length ∧ Limbs r ∧ toNat r = (toNat md - toNat a) % toNat md := by
  rw [negateUintMod_eq]
  by_cases h0 : a.all (· = 0) = true
  · rw [if_pos h0]
    refine ⟨_, rfl, List.length_replicate, Limbs.replicate_zero _, ?_⟩
    rw [toNat_replicate_zero, (all_zero_iff a).mp h0, Nat.sub_zero, Nat.mod_self]
  · rw [if_neg h0]
    have hne : toNat a ≠ 0 := fun h => h0 ((all_zero_iff a).mpr h)
    obtain ⟨d, hd, hdl, hdL, hdv⟩ := subUint_le hn hm ha rfl hla hax.le
    rw [hd]
    exact ⟨d, rfl, hdl, hdL, by rw [hdv, Nat.mod_eq_of_lt (by omega)]⟩

/-! ### product of many words -/

theorem mulManyLoop_nil (k i : Nat) (res : List Nat) : mulManyLoop k [] i res = .ok res := rfl
theorem mulManyLoop_cons (k w : Nat) (ws : List Nat) (i : Nat) (res : List Nat) :
    mulManyLoop k (w :: ws) i res =
      (multiplyUintU64 res w k >>= fun tmp => mulManyLoop k ws (i+1) (tmp.take (i+1) ++ res.drop (i+1))) := rfl

/-- after `i` factors the product fills at most `i` limbs (`toNat res < 2^(64·i)`): so keeping `i+1` limbs of the next product with a word
    loses nothing, and the limbs above stay zero -/
theorem mulManyLoop_spec (k n : Nat) (ws : List Nat) : ∀ (i : Nat) (res : List Nat),
    i + ws.length = k → k ≤ n → 1 ≤ i → res.length = n → Limbs res → Limbs ws → toNat res < 2^(64*i) →
    ∃ r, mulManyLoop k ws i res = .ok r ∧ r.length = n ∧ Limbs r ∧ toNat r = ws.foldl (· * ·) (toNat res) := by
  induction ws with
  | nil => intro i res _ _ _ hl hlim _ _; exact ⟨res, rfl, hl, hlim, rfl⟩
  | cons w ws ih =>
    intro i res hik hkn hi hl hlim hws hV
    have hw := (limbs_cons.mp hws).1
    simp only [List.length_cons] at hik
    obtain ⟨tmp, htmp, htl, htlim, htv⟩ := multiplyUintU64_spec (a := res) (w := w) (n := k) (by omega) hlim hw
    rw [mulManyLoop_cons, htmp]
    show ∃ r, mulManyLoop k ws (i+1) (tmp.take (i+1) ++ res.drop (i+1)) = .ok r ∧ _
    have hVw : toNat res * w < 2^(64*(i+1)) := by
      rw [pow64_succ, Nat.mul_comm B64, B64_eq]
      exact Nat.mul_lt_mul'' hV hw
    have hle : 2^(64*(i+1)) ≤ 2^(64*k) := Nat.pow_le_pow_right (by decide) (by omega)
    rw [Nat.mod_eq_of_lt (by omega)] at htv
    have hdrop : toNat (res.drop (i+1)) = 0 := by
      rw [toNat_drop_div hlim]
      apply Nat.div_eq_of_lt
      have : 2^(64*i) ≤ 2^(64*(i+1)) := Nat.pow_le_pow_right (by decide) (by omega)
      omega
    have hnew : toNat (tmp.take (i+1) ++ res.drop (i+1)) = toNat res * w := by
      rw [toNat_append, hdrop, Nat.mul_zero, Nat.add_zero, toNat_take_mod htlim, htv, Nat.mod_eq_of_lt hVw]
    obtain ⟨r, hr, hrl, hrlim, hrv⟩ := ih (i+1) (tmp.take (i+1) ++ res.drop (i+1)) (by omega) hkn (by omega)
      (by rw [List.length_append, List.length_take, List.length_drop]; omega)
      ((htlim.take _).append (hlim.drop _)) (limbs_cons.mp hws).2 (by rw [hnew]; exact hVw)
    refine ⟨r, hr, hrl, hrlim, ?_⟩
    rw [hrv, hnew, List.foldl_cons]

theorem multiplyManyU64_cons (o0 : Nat) (rest : List Nat) (n : Nat) : multiplyManyU64 (o0 :: rest) n =
    if n < (o0 :: rest).length then .error .oob
    else mulManyLoop (o0 :: rest).length rest 1 (o0 :: List.replicate (n-1) 0) := rfl

theorem multiplyManyU64_spec {ops : List Nat} {n : Nat} (hne : ops ≠ []) (ho : Limbs ops) (hn : ops.length ≤ n) :
    ∃ r, multiplyManyU64 ops n = .ok r ∧ r.length = n ∧ Limbs r ∧ toNat r = ops.foldl (· * ·) 1 := by
  cases ops with
  | nil => exact absurd rfl hne
  | cons o0 rest =>
    rw [multiplyManyU64_cons, if_neg (by omega)]
    have ho0 := (limbs_cons.mp ho).1
    simp only [List.length_cons] at hn
    have hv : toNat (o0 :: List.replicate (n-1) 0) = o0 := by
      rw [toNat_cons, toNat_replicate_zero, Nat.mul_zero, Nat.add_zero]
    obtain ⟨r, hr, hrl, hrlim, hrv⟩ := mulManyLoop_spec (o0 :: rest).length n rest 1 (o0 :: List.replicate (n-1) 0)
      (by simp only [List.length_cons]; omega) (by simp only [List.length_cons]; omega) (Nat.le_refl _)
      (by simp only [List.length_cons, List.length_replicate]; omega)
      (limbs_cons.mpr ⟨ho0, Limbs.replicate_zero _⟩) (limbs_cons.mp ho).2 (by rw [hv]; simpa using ho0)
    refine ⟨r, hr, hrl, hrlim, ?_⟩
    rw [hrv, hv, List.foldl_cons, Nat.one_mul]

/-! ### shifts -/

theorem sh_B64_split {bs : Nat} (h : bs < 64) : B64 = 2^(64-bs) * 2^bs := by
  rw [B64_eq, ← pow_add]; congr 1; omega

theorem sh_B64_split2 {bs : Nat} (h : bs < 64) : B64 = 2^bs * 2^(64-bs) := by
  rw [sh_B64_split h, Nat.mul_comm]

theorem sh_shr_mod {y bs : Nat} (h : bs < 64) : y * 2^(64-bs) % B64 = y % 2^bs * 2^(64-bs) := by
  rw [sh_B64_split2 h, Nat.mul_mod_mul_right]

theorem sh_headD_mod {bs : Nat} (h : bs < 64) (l : List Nat) : toNat l % 2^bs = l.headD 0 % 2^bs := by
  cases l with
  | nil => rfl
  | cons x xs =>
    simp only [toNat_cons, List.headD_cons]
    rw [sh_B64_split2 h, Nat.mul_assoc, Nat.add_mul_mod_self_left]

theorem sh_shr_limb {x y bs : Nat} (hb : bs < 64) (hx : x < B64) :
    x / 2^bs + y * 2^(64-bs) % B64 < 2^64 := by
  rw [sh_shr_mod hb, ← B64_eq]
  have h1 : x / 2^bs < 2^(64-bs) := by
    rw [Nat.div_lt_iff_lt_mul (by positivity)]; rw [sh_B64_split hb] at hx; exact hx
  have h2 : y % 2^bs + 1 ≤ 2^bs := Nat.mod_lt _ (by positivity)
  have h3 := Nat.mul_le_mul_right (2^(64-bs)) h2
  rw [← sh_B64_split2 hb, Nat.add_mul] at h3
  omega

/-- right shift by `bs < 64` bits, limb by limb: each limb takes the low `bs` bits of the next one on top (`sh_shr_spec`) -/
def sh_shr (bs : Nat) : List Nat → List Nat
  | [] => []
  | x :: xs => (x / 2^bs + (xs.headD 0 * 2^(64-bs)) % B64) :: sh_shr bs xs

theorem sh_shr_length (bs : Nat) (l : List Nat) : (sh_shr bs l).length = l.length := by
  induction l with
  | nil => rfl
  | cons x xs ih => simp only [sh_shr, List.length_cons, ih]

theorem sh_shr_limbs {bs : Nat} (hb : bs < 64) {l : List Nat} (hl : Limbs l) : Limbs (sh_shr bs l) := by
  induction l with
  | nil => exact Limbs.nil
  | cons x xs ih =>
    have hx : x < B64 := by rw [B64_eq]; exact (limbs_cons.mp hl).1
    simp only [sh_shr]
    exact limbs_cons.mpr ⟨sh_shr_limb hb hx, ih (limbs_cons.mp hl).2⟩

theorem sh_shr_spec {bs : Nat} (hb : bs < 64) (l : List Nat) : toNat (sh_shr bs l) = toNat l / 2^bs := by
  induction l with
  | nil => simp [sh_shr]
  | cons x xs ih =>
    simp only [sh_shr, toNat_cons, ih]
    have e1 : (x + B64 * toNat xs) / 2^bs = x / 2^bs + 2^(64-bs) * toNat xs := by
      rw [sh_B64_split2 hb, Nat.mul_assoc, Nat.add_mul_div_left _ _ (by positivity)]
    rw [e1, sh_shr_mod hb, ← sh_headD_mod hb]
    have hdm := Nat.div_add_mod (toNat xs) (2^bs)
    have hB := sh_B64_split hb
    linear_combination 2^(64-bs) * hdm + (toNat xs / 2^bs) * hB

theorem sh_range_shr (bs : Nat) : ∀ (n : Nat) (l : List Nat), n ≤ l.length →
    (List.range n).map (fun i => l.getD i 0 / 2^bs +
      (if i + 1 < n then (l.getD (i+1) 0 * 2^(64-bs)) % B64 else 0)) = sh_shr bs (l.take n) := by
  intro n
  induction n with
  | zero => intro l _; rfl
  | succ n ih =>
    intro l hl
    cases l with
    | nil => simp at hl
    | cons x xs =>
      have hl' : n ≤ xs.length := by simpa using hl
      rw [List.range_succ_eq_map, List.map_cons, List.map_map, List.take_succ_cons, sh_shr, ← ih xs hl']
      congr 1
      · cases n with
        | zero => simp
        | succ m => cases xs with
          | nil => simp at hl'
          | cons y ys => simp
      · apply List.map_congr_left
        intro i _
        simp

/-- a left shift by `bs` bits is the right shift by `64 - bs` of the operand moved up one limb, without its top limb -/
theorem sh_range_shl {bs : Nat} (hb : bs < 64) (l : List Nat) :
    (List.range l.length).map (fun i => (l.getD i 0 * 2^bs) % B64 +
      (if i = 0 then 0 else l.getD (i-1) 0) / 2^(64-bs)) = (sh_shr (64 - bs) (0 :: l)).take l.length := by
  have h := sh_range_shr (64 - bs) (l.length + 1) (0 :: l) (Nat.le_refl _)
  rw [List.take_succ_cons, List.take_length] at h
  rw [← h, List.range_succ, List.map_append, List.take_left' (by rw [List.length_map, List.length_range])]
  apply List.map_congr_left
  intro i hi
  rw [if_pos (Nat.succ_lt_succ (List.mem_range.mp hi)), List.getD_cons_succ, Nat.add_comm,
    show 64 - (64 - bs) = bs by omega]
  cases i with
  | zero => rfl
  | succ j => rfl

theorem sh_shl_val {bs : Nat} (hb0 : bs ≠ 0) (hb : bs < 64) {l : List Nat} (hl : Limbs l) :
    toNat ((sh_shr (64 - bs) (0 :: l)).take l.length) = (toNat l * 2^bs) % 2^(64*l.length) := by
  have hL : Limbs (0 :: l) := limbs_cons.mpr ⟨by norm_num, hl⟩
  rw [toNat_take_mod (sh_shr_limbs (by omega) hL), sh_shr_spec (by omega), toNat_cons, Nat.zero_add]
  conv_lhs => rw [sh_B64_split hb, Nat.mul_assoc, Nat.mul_div_cancel_left _ (by positivity), Nat.mul_comm]

theorem sh_lsu_eq (a : List Nat) (s cnt : Nat) (h1 : ¬ a.length < cnt) (h2 : ¬ s / 64 > cnt) :
    leftShiftUint a s cnt =
      if s % 64 = 0 then .ok (List.replicate (s/64) 0 ++ a.take (cnt - s/64))
      else .ok ((List.range cnt).map (fun i =>
        ((List.replicate (s/64) 0 ++ a.take (cnt - s/64)).getD i 0 * 2^(s%64)) % B64 +
          (if i = 0 then 0 else (List.replicate (s/64) 0 ++ a.take (cnt - s/64)).getD (i-1) 0) / 2^(64 - s%64))) := by
  unfold leftShiftUint
  rw [if_neg h1, if_neg h2]
  rfl

theorem sh_rsu_eq (a : List Nat) (s cnt : Nat) (h1 : ¬ a.length < cnt) (h2 : ¬ s / 64 > cnt) (h3 : ¬ cnt = 0) :
    rightShiftUint a s cnt =
      if s % 64 = 0 then .ok ((a.take cnt).drop (s/64) ++ List.replicate (s/64) 0)
      else .ok ((List.range cnt).map (fun i =>
        ((a.take cnt).drop (s/64) ++ List.replicate (s/64) 0).getD i 0 / 2^(s%64) +
          (if i + 1 < cnt then (((a.take cnt).drop (s/64) ++ List.replicate (s/64) 0).getD (i+1) 0 * 2^(64 - s%64)) % B64 else 0))) := by
  unfold rightShiftUint
  rw [if_neg h1, if_neg h2]
  simp only [if_neg h3]
  rfl

theorem sh_moved_left {a : List Nat} (ha : Limbs a) {cnt ws : Nat} (hl : cnt ≤ a.length) (hws : ws ≤ cnt) :
    (List.replicate ws 0 ++ a.take (cnt - ws)).length = cnt ∧
    Limbs (List.replicate ws 0 ++ a.take (cnt - ws)) ∧
    toNat (List.replicate ws 0 ++ a.take (cnt - ws)) = (toNat (a.take cnt) * 2^(64*ws)) % 2^(64*cnt) := by
  refine ⟨?_, (Limbs.replicate_zero ws).append (ha.take _), ?_⟩
  · rw [List.length_append, List.length_replicate, List.length_take]; omega
  · rw [toNat_append, toNat_replicate_zero, List.length_replicate, toNat_take_mod ha, toNat_take_mod ha,
      Nat.zero_add, Nat.mod_mul_mod]
    have e : 2^(64*cnt) = 2^(64*ws) * 2^(64*(cnt-ws)) := by
      rw [← pow_add]; congr 1; omega
    rw [e, Nat.mul_comm (toNat a), Nat.mul_mod_mul_left]

theorem sh_moved_right {a : List Nat} (ha : Limbs a) {cnt ws : Nat} (hl : cnt ≤ a.length) (hws : ws ≤ cnt) :
    ((a.take cnt).drop ws ++ List.replicate ws 0).length = cnt ∧
    Limbs ((a.take cnt).drop ws ++ List.replicate ws 0) ∧
    toNat ((a.take cnt).drop ws ++ List.replicate ws 0) = toNat (a.take cnt) / 2^(64*ws) := by
  refine ⟨?_, ((ha.take _).drop _).append (Limbs.replicate_zero ws), ?_⟩
  · rw [List.length_append, List.length_replicate, List.length_drop, List.length_take]; omega
  · rw [toNat_append, toNat_replicate_zero, Nat.mul_zero, Nat.add_zero, toNat_drop_div (ha.take _)]

theorem sh_pow_s (s : Nat) : 2^s = 2^(64*(s/64)) * 2^(s%64) := by
  rw [← pow_add, Nat.div_add_mod]

theorem leftShiftUint_spec {a : List Nat} {s cnt : Nat} (ha : Limbs a) (hl : cnt ≤ a.length) (hs : s < 64 * cnt) :
    ∃ r, leftShiftUint a s cnt = .ok r ∧ r.length = cnt ∧ Limbs r ∧
      toNat r = (toNat (a.take cnt) * 2^s) % 2^(64*cnt) := by
  have hws : s / 64 ≤ cnt := by omega
  obtain ⟨m1, m2, m3⟩ := sh_moved_left ha hl hws
  rw [sh_lsu_eq a s cnt (by omega) (by omega)]
  by_cases hb : s % 64 = 0
  · rw [if_pos hb]
    refine ⟨_, rfl, m1, m2, ?_⟩
    rw [m3, sh_pow_s s, hb, pow_zero, Nat.mul_one]
  · rw [if_neg hb]
    have hb64 : s % 64 < 64 := Nat.mod_lt _ (by norm_num)
    have hr := sh_range_shl hb64 (List.replicate (s/64) 0 ++ a.take (cnt - s/64))
    have hv := sh_shl_val hb hb64 m2
    rw [m1] at hr hv
    refine ⟨_, rfl, ?_, ?_, ?_⟩
    · rw [List.length_map, List.length_range]
    · rw [hr]; exact (sh_shr_limbs (by omega) (limbs_cons.mpr ⟨by norm_num, m2⟩)).take _
    · rw [hr, hv, m3, Nat.mod_mul_mod, sh_pow_s s, Nat.mul_assoc]

theorem leftShiftUint_exact {a : List Nat} {s cnt : Nat} (ha : Limbs a) (hl : cnt ≤ a.length)
    (hv : toNat a * 2^s < 2^(64*cnt)) (hs : s < 64 * cnt) :
    ∃ r, leftShiftUint a s cnt = .ok r ∧ r.length = cnt ∧ Limbs r ∧ toNat r = toNat a * 2^s := by
  obtain ⟨r, h1, h2, h3, h4⟩ := leftShiftUint_spec ha hl hs
  have hle : toNat a ≤ toNat a * 2^s := Nat.le_mul_of_pos_right _ (by positivity)
  rw [toNat_take_mod ha, Nat.mod_eq_of_lt (lt_of_le_of_lt hle hv), Nat.mod_eq_of_lt hv] at h4
  exact ⟨r, h1, h2, h3, h4⟩

theorem rightShiftUint_spec {a : List Nat} {s cnt : Nat} (ha : Limbs a) (hl : cnt ≤ a.length) (hs : s < 64 * cnt) :
    ∃ r, rightShiftUint a s cnt = .ok r ∧ r.length = cnt ∧ Limbs r ∧
      toNat r = toNat (a.take cnt) / 2^s := by
  have hws : s / 64 ≤ cnt := by omega
  obtain ⟨m1, m2, m3⟩ := sh_moved_right ha hl hws
  rw [sh_rsu_eq a s cnt (by omega) (by omega) (by omega)]
  by_cases hb : s % 64 = 0
  · rw [if_pos hb]
    refine ⟨_, rfl, m1, m2, ?_⟩
    rw [m3, sh_pow_s s, hb, pow_zero, Nat.mul_one]
  · rw [if_neg hb]
    have hb64 : s % 64 < 64 := Nat.mod_lt _ (by norm_num)
    have hr := sh_range_shr (s % 64) cnt ((a.take cnt).drop (s/64) ++ List.replicate (s/64) 0) (Nat.le_of_eq m1.symm)
    rw [List.take_of_length_le (l := (a.take cnt).drop (s/64) ++ List.replicate (s/64) 0) (Nat.le_of_eq m1)] at hr
    refine ⟨_, rfl, ?_, ?_, ?_⟩
    · rw [List.length_map, List.length_range]
    · rw [hr]; exact sh_shr_limbs hb64 m2
    · rw [hr, sh_shr_spec hb64, m3, Nat.div_div_eq_div_mul, ← sh_pow_s s]

theorem sh_len3 {a : List Nat} (hl : a.length = 3) : ∃ a0 a1 a2, a = [a0, a1, a2] := by
  match a, hl with
  | [a0, a1, a2], _ => exact ⟨a0, a1, a2, rfl⟩

theorem sh_range3 (f : Nat → Nat) : (List.range 3).map f = [f 0, f 1, f 2] := rfl

/-- below 192 the three-limb shifts are the general ones on three limbs: in each of the three word positions both sides
    evaluate to the same list -/
theorem leftShiftU192_eq (a0 a1 a2 s : Nat) (hs : s < 192) :
    leftShiftU192 [a0, a1, a2] s = leftShiftUint [a0, a1, a2] s 3 := by
  unfold leftShiftU192 leftShiftUint
  simp only [sh_range3]
  obtain h | h | h : s / 64 = 0 ∨ s / 64 = 1 ∨ s / 64 = 2 := by omega
  · have h7 : ¬ s / 128 % 2 = 1 := by omega
    simp [h, h7]
  · have h7 : ¬ s / 128 % 2 = 1 := by omega
    simp [h, h7]
  · have h7 : s / 128 % 2 = 1 := by omega
    simp [h, h7]

theorem rightShiftU192_eq (a0 a1 a2 s : Nat) (hs : s < 192) :
    rightShiftU192 [a0, a1, a2] s = rightShiftUint [a0, a1, a2] s 3 := by
  unfold rightShiftU192 rightShiftUint
  simp only [sh_range3]
  obtain h | h | h : s / 64 = 0 ∨ s / 64 = 1 ∨ s / 64 = 2 := by omega
  · have h7 : ¬ s / 128 % 2 = 1 := by omega
    simp [h, h7]
  · have h7 : ¬ s / 128 % 2 = 1 := by omega
    simp [h, h7]
  · have h7 : s / 128 % 2 = 1 := by omega
    simp [h, h7]

theorem leftShiftU192_spec {a : List Nat} {s : Nat} (ha : Limbs a) (hl : a.length = 3) (hs : s < 192) :
    ∃ r, leftShiftU192 a s = .ok r ∧ r.length = 3 ∧ Limbs r ∧ toNat r = (toNat a * 2^s) % 2^192 := by
  obtain ⟨a0, a1, a2, rfl⟩ := sh_len3 hl
  rw [leftShiftU192_eq a0 a1 a2 s hs]
  exact leftShiftUint_spec (cnt := 3) ha (le_refl 3) hs

theorem rightShiftU192_spec {a : List Nat} {s : Nat} (ha : Limbs a) (hl : a.length = 3) (hs : s < 192) :
    ∃ r, rightShiftU192 a s = .ok r ∧ r.length = 3 ∧ Limbs r ∧ toNat r = toNat a / 2^s := by
  obtain ⟨a0, a1, a2, rfl⟩ := sh_len3 hl
  rw [rightShiftU192_eq a0 a1 a2 s hs]
  exact rightShiftUint_spec (cnt := 3) ha (le_refl 3) hs

/-! ### half, rounded up -/

/-- the limbs `half_round_up_uint` forms before its rounding increment: `a.take n` shifted right by one bit (`sh_hsh_eq`) -/
def sh_hsh (a : List Nat) (n : Nat) : List Nat :=
  (List.range n).map fun i =>
    a.getD i 0 / 2 + (if i + 1 < n then (a.getD (i+1) 0 % 2) * 2^63 else 0)

theorem sh_hru_eq (a : List Nat) (n : Nat) (h1 : ¬ n = 0) (h2 : ¬ a.length < n) :
    halfRoundUp a n =
      if a.headD 0 % 2 = 1 then (do let (r, _) ← addUintU64 (sh_hsh a n) 1 n; pure r)
      else pure (sh_hsh a n) := by
  unfold halfRoundUp
  rw [if_neg h1, if_neg h2]
  rfl

theorem sh_hsh_eq {a : List Nat} {n : Nat} (hl : n ≤ a.length) : sh_hsh a n = sh_shr 1 (a.take n) := by
  rw [← sh_range_shr 1 n a hl]
  unfold sh_hsh
  apply List.map_congr_left
  intro i _
  rw [sh_shr_mod (by norm_num : 1 < 64), pow_one]

theorem sh_head_take {a : List Nat} {n : Nat} (hn : 1 ≤ n) : (a.take n).headD 0 = a.headD 0 := by
  cases n with
  | zero => omega
  | succ m => cases a <;> simp

theorem halfRoundUp_spec {a : List Nat} {n : Nat} (hn : 1 ≤ n) (ha : Limbs a) (hl : n ≤ a.length) :
    ∃ r, halfRoundUp a n = .ok r ∧ r.length = n ∧ Limbs r ∧
      toNat r = ((toNat (a.take n) + 1) / 2) % 2^(64*n) := by
  rw [sh_hru_eq a n (by omega) (by omega), sh_hsh_eq hl]
  have hlen : (sh_shr 1 (a.take n)).length = n := by rw [sh_shr_length, List.length_take]; omega
  have hlim : Limbs (sh_shr 1 (a.take n)) := sh_shr_limbs (by norm_num) (ha.take n)
  have hval : toNat (sh_shr 1 (a.take n)) = toNat (a.take n) / 2 := by rw [sh_shr_spec (by norm_num), pow_one]
  have hlow : a.headD 0 % 2 = toNat (a.take n) % 2 := by
    rw [← sh_head_take hn, ← pow_one 2]; exact (sh_headD_mod (by norm_num) _).symm
  by_cases hb : a.headD 0 % 2 = 1
  · rw [if_pos hb]
    obtain ⟨r, c, e, r1, r2, _, r4⟩ := addUintU64_spec (w := 1) hn hlim (by norm_num) hlen.ge
    rw [List.take_of_length_le hlen.le, hval] at r4
    rw [e]
    exact ⟨r, rfl, r1, r2, eq_mod_of_add_mul (q := c) (by omega) (toNat_lt_of_length r2 r1)⟩
  · rw [if_neg hb]
    refine ⟨_, rfl, hlen, hlim, ?_⟩
    rw [Nat.mod_eq_of_lt (by have := toNat_lt_of_length hlim hlen; omega)]; omega

/-! ### full product -/

theorem mu_mulRow_nil (x k carry : Nat) : mulRow x [] [] k carry = .ok ([], carry) := rfl

theorem mu_mulRow_cons (x y r k carry : Nat) (ys rs : List Nat) :
    mulRow x (y :: ys) (r :: rs) (k+1) carry = (do
      let carry1 ← ckAdd (mulHi x y) (addU64Carry (mulLo x y) carry 0).2
      let carry2 ← ckAdd carry1 (addU64Carry r (addU64Carry (mulLo x y) carry 0).1 0).2
      let (rest, cf) ← mulRow x ys rs k carry2
      pure ((addU64Carry r (addU64Carry (mulLo x y) carry 0).1 0).1 :: rest, cf)) := rfl

theorem mu_step_arith {x y r carry : Nat} (hx : x < 2^64) (hy : y < 2^64) (hr : r < 2^64) (hc : carry < 2^64) :
    mulHi x y + (addU64Carry (mulLo x y) carry 0).2 < B64 ∧
    mulHi x y + (addU64Carry (mulLo x y) carry 0).2 + (addU64Carry r (addU64Carry (mulLo x y) carry 0).1 0).2 < B64 ∧
    (addU64Carry r (addU64Carry (mulLo x y) carry 0).1 0).1 < 2^64 ∧
    (addU64Carry r (addU64Carry (mulLo x y) carry 0).1 0).1 +
      B64 * (mulHi x y + (addU64Carry (mulLo x y) carry 0).2 + (addU64Carry r (addU64Carry (mulLo x y) carry 0).1 0).2)
      = r + x * y + carry := by
  obtain ⟨a1, a2, a3⟩ := addU64Carry_spec (mulLo_lt x y) hc (Nat.zero_le 1)
  obtain ⟨b1, b2, b3⟩ := addU64Carry_spec hr a2 (Nat.zero_le 1)
  generalize (addU64Carry r (addU64Carry (mulLo x y) carry 0).1 0) = p1 at *
  generalize (addU64Carry (mulLo x y) carry 0) = p0 at *
  have hP : x * y ≤ 18446744073709551615 * 18446744073709551615 :=
    Nat.mul_le_mul (by omega) (by omega)
  unfold mulLo mulHi B64 at *
  generalize x * y = P at *
  omega

theorem mu_mulRow_spec {x : Nat} (hx : x < 2^64) : ∀ (ys rs : List Nat) (k carry : Nat),
    ys.length = k → rs.length = k → Limbs ys → Limbs rs → carry < 2^64 →
    ∃ done cf, mulRow x ys rs k carry = .ok (done, cf) ∧ done.length = k ∧ Limbs done ∧ cf < 2^64 ∧
      toNat done + 2^(64*k) * cf = toNat rs + x * toNat ys + carry := by
  intro ys
  induction ys with
  | nil =>
    intro rs k carry hy hr _ _ hc
    subst hy
    obtain rfl := List.length_eq_zero_iff.mp hr
    exact ⟨[], carry, rfl, rfl, Limbs.nil, hc, by simp⟩
  | cons y ys ih =>
    intro rs k carry hy hr hly hlr hc
    cases rs with
    | nil => simp only [List.length_nil, List.length_cons] at hy hr; omega
    | cons r rs =>
      cases k with
      | zero => simp only [List.length_cons] at hy; omega
      | succ k =>
        simp only [List.length_cons, Nat.add_right_cancel_iff] at hy hr
        obtain ⟨hy0, hly'⟩ := limbs_cons.mp hly
        obtain ⟨hr0, hlr'⟩ := limbs_cons.mp hlr
        obtain ⟨s1, s2, s3, s4⟩ := mu_step_arith hx hy0 hr0 hc
        obtain ⟨done, cf, e1, e2, e3, e4, e5⟩ := ih rs k _ hy hr hly' hlr' (by rw [← B64_eq]; exact s2)
        refine ⟨_ :: done, cf, ?_, by simp only [List.length_cons, e2], limbs_cons.mpr ⟨s3, e3⟩, e4, ?_⟩
        · rw [mu_mulRow_cons, ckAdd_ok s1]
          simp only [bind, Except.bind]
          rw [ckAdd_ok s2]
          simp only [e1]
          rfl
        · simp only [toNat_cons, pow64_succ]
          linear_combination s4 + B64 * e5

theorem mu_pow_add (i j : Nat) : 2^(64*(i+j)) = 2^(64*i) * 2^(64*j) := by
  rw [Nat.mul_add, pow_add]

/-- one row of the schoolbook product put back between the limbs it did not touch (`done`, `cf` is what `mulRow` made
    of `mid`): when the row ends inside the result the carry goes into the next limb, which is still zero -/
theorem mu_outer_step {pre mid tail done b : List Nat} {n i j x cf : Nat}
    (hpl : pre.length = i) (hdl : done.length = j) (htl : i + j + tail.length = n)
    (hpL : Limbs pre) (hdL : Limbs done) (htL : Limbs tail) (hcf : cf < 2^64)
    (hj : j = min b.length (n - i))
    (e5 : toNat done + 2^(64*j) * cf = toNat mid + x * toNat (b.take j))
    (hT : i + j < n → toNat tail = 0) :
    (pre ++ done ++ (if i + j < n then cf :: tail.drop 1 else tail)).length = n ∧
    Limbs (pre ++ done ++ (if i + j < n then cf :: tail.drop 1 else tail)) ∧
    ∃ q, toNat (pre ++ done ++ (if i + j < n then cf :: tail.drop 1 else tail)) + 2^(64*n) * q
      = toNat pre + 2^(64*i) * (toNat mid + 2^(64*j) * toNat tail) + 2^(64*i) * (x * toNat b) := by
  have hv : ∀ t, toNat (pre ++ done ++ t) = toNat pre + 2^(64*i) * (toNat done + 2^(64*j) * toNat t) := fun t => by
    rw [List.append_assoc, toNat_append, toNat_append, hpl, hdl]
  have hl : ∀ t : List Nat, (pre ++ done ++ t).length = i + j + t.length := fun t => by
    rw [List.length_append, List.length_append, hpl, hdl]
  by_cases hcase : i + j < n
  · rw [if_pos hcase]
    have hbt : b.take j = b := List.take_of_length_le (by omega)
    rw [hbt] at e5
    cases tail with
    | nil => simp only [List.length_nil] at htl; omega
    | cons z rest =>
      have hT' := hT hcase
      rw [toNat_cons] at hT'
      have hz : z = 0 := by omega
      have hR : B64 * toNat rest = 0 := by omega
      rw [List.length_cons] at htl
      refine ⟨by rw [hl, List.drop_succ_cons, List.drop_zero, List.length_cons]; omega,
        (hpL.append hdL).append (limbs_cons.mpr ⟨hcf, (limbs_cons.mp htL).2⟩), 0, ?_⟩
      rw [hv, List.drop_succ_cons, List.drop_zero, toNat_cons, toNat_cons, hR, hz]
      linear_combination 2^(64*i) * e5
  · rw [if_neg hcase]
    obtain rfl : tail = [] := List.length_eq_zero_iff.mp (by omega)
    have hn : n = i + j := by simpa using htl.symm
    refine ⟨by rw [hl, List.length_nil]; omega, (hpL.append hdL).append Limbs.nil, cf + x * toNat (b.drop j), ?_⟩
    rw [hv, hn, mu_pow_add, toNat_take_add_drop b j]
    simp only [toNat_nil]
    linear_combination 2^(64*i) * e5

theorem mu_mulOuter_nil (b : List Nat) (n i : Nat) (res : List Nat) : mulOuter b n [] i res = .ok res := rfl

theorem mu_mulOuter_cons (b : List Nat) (n x i : Nat) (xs res : List Nat) :
    mulOuter b n (x :: xs) i res = if i ≥ n then pure res else (do
      let (done, carry) ← mulRow x (b.take (min b.length (n - i))) ((res.drop i).take (min b.length (n - i)))
        (min b.length (n - i)) 0
      mulOuter b n xs (i+1) (res.take i ++ done ++
        (if i + min b.length (n - i) < n then carry :: ((res.drop i).drop (min b.length (n - i))).drop 1
         else (res.drop i).drop (min b.length (n - i))))) := rfl

theorem mu_mulOuter_spec {b : List Nat} {n : Nat} (hb : Limbs b) : ∀ (xs : List Nat) (i : Nat) (res : List Nat) (A : Nat),
    Limbs xs → res.length = n → Limbs res → A < 2^(64*i) → toNat res = (A * toNat b) % 2^(64*n) →
    ∃ r, mulOuter b n xs i res = .ok r ∧ r.length = n ∧ Limbs r ∧
      toNat r = ((A + 2^(64*i) * toNat xs) * toNat b) % 2^(64*n) := by
  intro xs
  induction xs with
  | nil =>
    intro i res A _ hlen hres _ hval
    exact ⟨res, rfl, hlen, hres, by simpa using hval⟩
  | cons x xs ih =>
    intro i res A hxs hlen hres hA hval
    obtain ⟨hx, hxs'⟩ := limbs_cons.mp hxs
    rw [mu_mulOuter_cons]
    by_cases hin : i ≥ n
    · -- rows beyond the result length contribute multiples of `2^(64n)`
      rw [if_pos hin]
      refine ⟨res, rfl, hlen, hres, ?_⟩
      obtain ⟨d, rfl⟩ := Nat.exists_eq_add_of_le hin
      rw [hval, mu_pow_add, Nat.add_mul, Nat.mul_assoc, Nat.mul_assoc, Nat.add_mul_mod_self_left]
    · rw [if_neg hin]
      generalize hj : min b.length (n - i) = j
      have hjl : i + j ≤ n := by omega
      obtain ⟨done, cf, e1, e2, e3, e4, e5⟩ := mu_mulRow_spec hx (b.take j) ((res.drop i).take j) j 0
        (by rw [List.length_take]; omega) (by rw [List.length_take, List.length_drop, hlen]; omega)
        (hb.take j) ((hres.drop i).take j) (by norm_num)
      -- the limb that takes the carry is still zero: so far `res` holds a product of `i` by `b.length` limbs
      have hT : i + j < n → toNat ((res.drop i).drop j) = 0 := fun h => by
        have hjb : j = b.length := by omega
        rw [List.drop_drop, toNat_drop_div hres, hval, hjb, mu_pow_add]
        exact Nat.div_eq_of_lt (lt_of_le_of_lt (Nat.mod_le _ _) (Nat.mul_lt_mul'' hA (toNat_lt hb)))
      obtain ⟨l', L', q, v'⟩ := mu_outer_step (x := x) (mid := (res.drop i).take j)
        (by rw [List.length_take, hlen]; omega) e2
        (by rw [List.length_drop, List.length_drop, hlen]; omega) (hres.take i) e3 ((hres.drop i).drop j) e4 hj.symm
        (by rw [Nat.add_zero] at e5; exact e5) hT
      rw [← toNat_take_add_drop, ← toNat_take_add_drop, hval] at v'
      rw [e1]
      obtain ⟨r, r1, r2, r3, r4⟩ := ih (i+1) _ (A + 2^(64*i) * x) hxs' l' L'
        (by rw [pow64_succ, B64_eq, Nat.mul_comm (2^64)]; exact add_mul_lt_mul hA hx)
        (by rw [eq_mod_of_add_mul v' (toNat_lt_of_length L' l'), Nat.mod_add_mod]; congr 1; ring)
      refine ⟨r, r1, r2, r3, ?_⟩
      rw [r4, toNat_cons, pow64_succ]
      congr 2; ring

theorem mu_dropWhile_nil {p : Nat → Bool} {l : List Nat} (h : l.dropWhile p = []) : ∀ x ∈ l, p x = true := by
  induction l with
  | nil => intro x hx; cases hx
  | cons y t ih =>
    rw [List.dropWhile_cons] at h
    by_cases hp : p y = true
    · rw [if_pos hp] at h
      intro x hx
      rcases List.mem_cons.mp hx with rfl | hx
      · exact hp
      · exact ih h x hx
    · rw [if_neg hp] at h; cases h

theorem mu_sigWords_one {l : List Nat} (h : sigWords l = 1) : toNat l = l.headD 0 := by
  cases l with
  | nil => simp [sigWords] at h
  | cons x t =>
    have ht : toNat t = 0 := by
      rw [toNat_eq_zero_iff]
      unfold sigWords at h
      rw [List.reverse_cons, List.dropWhile_append] at h
      split at h
      · next he =>
        intro y hy
        simpa using mu_dropWhile_nil (List.isEmpty_iff.mp he) y (List.mem_reverse.mpr hy)
      · next he =>
        rw [List.length_append, List.length_singleton] at h
        exact absurd (List.isEmpty_iff.mpr (List.length_eq_zero_iff.mp (by omega))) he
    rw [toNat_cons, ht]; simp

theorem mu_multiplyUint_eq (a b : List Nat) (n : Nat) : multiplyUint a b n =
    if a.isEmpty ∨ b.isEmpty then pure (List.replicate n 0)
    else if n = 1 then pure [wMul (a.headD 0) (b.headD 0)]
    else if sigWords a = 1 then multiplyUintU64 b (a.headD 0) n
    else if sigWords b = 1 then multiplyUintU64 a (b.headD 0) n
    else mulOuter b n a 0 (List.replicate n 0) := rfl

theorem multiplyUint_spec {a b : List Nat} {n : Nat} (hn : 1 ≤ n) (ha : Limbs a) (hb : Limbs b) :
    ∃ r, multiplyUint a b n = .ok r ∧ r.length = n ∧ Limbs r ∧
      toNat r = (toNat a * toNat b) % 2^(64*n) := by
  rw [mu_multiplyUint_eq]
  by_cases h1 : a.isEmpty ∨ b.isEmpty
  · rw [if_pos h1]
    refine ⟨List.replicate n 0, rfl, List.length_replicate, Limbs.replicate_zero n, ?_⟩
    rw [toNat_replicate_zero]
    rcases h1 with h | h
    · rw [List.isEmpty_iff] at h; subst h; simp
    · rw [List.isEmpty_iff] at h; subst h; simp
  rw [if_neg h1]
  by_cases h2 : n = 1
  · rw [if_pos h2]
    subst h2
    have hlt : wMul (a.headD 0) (b.headD 0) < B64 := Nat.mod_lt _ B64_pos
    refine ⟨_, rfl, rfl, limbs_cons.mpr ⟨B64_eq ▸ hlt, Limbs.nil⟩, ?_⟩
    rw [toNat_cons, toNat_nil, Nat.mul_zero, Nat.add_zero, Nat.mul_one, ← B64_eq, toNat_mul_mod_B64, Nat.mul_comm,
      toNat_mul_mod_B64, Nat.mul_comm]; rfl
  rw [if_neg h2]
  by_cases h3 : sigWords a = 1
  · rw [if_pos h3]
    obtain ⟨r, r1, r2, r3, r4⟩ := multiplyUintU64_spec (a := b) (w := a.headD 0) hn hb ha.headD
    exact ⟨r, r1, r2, r3, by rw [r4, mu_sigWords_one h3, Nat.mul_comm]⟩
  rw [if_neg h3]
  by_cases h4 : sigWords b = 1
  · rw [if_pos h4]
    obtain ⟨r, r1, r2, r3, r4⟩ := multiplyUintU64_spec (a := a) (w := b.headD 0) hn ha hb.headD
    exact ⟨r, r1, r2, r3, by rw [r4, mu_sigWords_one h4]⟩
  rw [if_neg h4]
  obtain ⟨r, r1, r2, r3, r4⟩ := mu_mulOuter_spec (n := n) hb a 0 (List.replicate n 0) 0 ha List.length_replicate
    (Limbs.replicate_zero n) (by norm_num) (by rw [toNat_replicate_zero]; simp)
  exact ⟨r, r1, r2, r3, by rw [r4]; simp⟩

/-! ### division with remainder -/

/-- division with remainder (the shift-subtract loop of `divide_uint_inplace`), all lengths; proved: `divideUint_spec`, at the end -/
def DivideUintStatement : Prop :=
  ∀ {a d : List Nat} {n : Nat}, 1 ≤ n → Limbs a → Limbs d → a.length = n → d.length = n → toNat d ≠ 0 →
    ∃ r q, divideUint a d n = .ok (r, q) ∧ r.length = n ∧ q.length = n ∧ Limbs r ∧ Limbs q ∧
      toNat a = toNat q * toNat d + toNat r ∧ toNat r < toNat d

/-! ### bitCount -/

theorem bitCount_unique {v k : Nat} (h1 : 2^(k-1) ≤ v) (h2 : v < 2^k) (hk : 1 ≤ k) : bitCount v = k := by
  have h3 : bitCount v ≤ k := bitCount_le_iff_lt.mpr h2
  have h4 : ¬ bitCount v ≤ k - 1 := by
    intro h; have := bitCount_le_iff_lt.mp h; omega
  omega

theorem bitCount_add_mul_pow {lo x s : Nat} (hlo : lo < 2^s) (hx : x ≠ 0) : bitCount (lo + 2^s * x) = s + bitCount x := by
  have hb1 : 1 ≤ bitCount x := Nat.pos_of_ne_zero (mt bitCount_eq_zero.mp hx)
  have hge := bitCount_ge hx
  have hlt := bitCount_lt x
  apply bitCount_unique
  · rw [show s + bitCount x - 1 = s + (bitCount x - 1) by omega, Nat.pow_add]
    exact Nat.le_trans (Nat.mul_le_mul_left _ hge) (Nat.le_add_left _ _)
  · rw [Nat.pow_add]
    calc lo + 2^s * x < 2^s + 2^s * x := by omega
      _ = 2^s * (x + 1) := by rw [Nat.mul_add, Nat.mul_one, Nat.add_comm]
      _ ≤ 2^s * 2^(bitCount x) := Nat.mul_le_mul_left _ hlt
  · omega

theorem bitCount_mul_pow {v : Nat} (hv : v ≠ 0) (s : Nat) : bitCount (v * 2^s) = bitCount v + s := by
  have := bitCount_add_mul_pow (lo := 0) (s := s) (Nat.two_pow_pos s) hv
  rwa [Nat.zero_add, Nat.mul_comm, Nat.add_comm] at this

/-- the bit count of a multi-word value whose words above `c` vanish: that of word `c`, `64·c` places up -/
theorem bitCount_toNat {a : List Nat} (ha : Limbs a) {c : Nat} (hc : c < a.length) (hz : ∀ x ∈ a.drop (c + 1), x = 0)
    (hex : c = 0 ∨ a[c] ≠ 0) : bitCount (toNat a) = 64 * c + bitCount a[c] := by
  rw [toNat_take_add_drop a (c + 1), toNat_eq_zero_iff.mpr hz, Nat.mul_zero, Nat.add_zero, toNat_getD_split,
    list_getD_eq_getElem a 0 hc]
  by_cases h0 : a[c] = 0
  · obtain rfl := hex.resolve_right (not_not.mpr h0)
    rw [h0, Nat.mul_zero, Nat.mul_zero, List.take_zero]; rfl
  · exact bitCount_add_mul_pow (toNat_take_lt ha c) h0

/-! ### pure arithmetic of the loop -/

theorem dv_pow_pred {k : Nat} (h : 1 ≤ k) : 2^k = 2 * 2^(k-1) := by
  rw [← pow_succ']; congr 1; omega

theorem dv_mul_pow_lt {v a s b : Nat} (hv : v < 2^a) (h : a + s ≤ b) : v * 2^s < 2^b :=
  calc v * 2^s < 2^a * 2^s := Nat.mul_lt_mul_of_pos_right hv (by positivity)
    _ = 2^(a+s) := (pow_add 2 a s).symm
    _ ≤ 2^b := Nat.pow_le_pow_right (by decide) h

theorem dv_quot_bound {A S Q N b e : Nat} (hA : A < 2^b) (hS : 2^(b-1) ≤ S) (hb : 1 ≤ b)
    (h : A * 2^e = Q * S + N) : Q < 2^(e+1) := by
  have h1 : Q * 2^(b-1) ≤ Q * S := Nat.mul_le_mul_left _ hS
  have h2 : A * 2^e < 2^b * 2^e := Nat.mul_lt_mul_of_pos_right hA (by positivity)
  have h3 : 2^b * 2^e = 2^(e+1) * 2^(b-1) := by
    rw [← pow_add, ← pow_add]; congr 1; omega
  have h4 : Q * 2^(b-1) < 2^(e+1) * 2^(b-1) := by omega
  exact Nat.lt_of_mul_lt_mul_right h4

theorem dv_exit {A D Q N s : Nat} (h : A * 2^s = Q * (D * 2^s) + N) (hN : N < D * 2^s) :
    A = Q * D + N / 2^s ∧ N / 2^s < D := by
  have hp : 0 < 2^s := by positivity
  have h' : A * 2^s = 2^s * (Q * D) + N := by rw [h]; ring
  refine ⟨?_, (Nat.div_lt_iff_lt_mul hp).mpr hN⟩
  calc A = A * 2^s / 2^s := (Nat.mul_div_cancel A hp).symm
    _ = Q * D + N / 2^s := by rw [h', Nat.mul_add_div hp]

theorem dv_B64_even : B64 = 2 * 2^63 := by rw [B64_eq]; norm_num

/-- invariant of `divLoop` on the values: after `e` of the `shift` alignment steps `A·2^e = Q·S + N`, `rem` steps
    remain, and the low bit of the quotient is free whenever a subtraction is due -/
structure dv_Inv (S denBits shift A N Q numBits rem e : Nat) : Prop where
  he : e + rem = shift
  heq : A * 2^e = Q * S + N
  hnb : numBits = bitCount N
  hle : numBits ≤ denBits
  hev : numBits = denBits → S ≤ N → Q % 2 = 0
  hrem : numBits ≠ denBits → rem = 0

theorem dv_shift_amount {d n r : Nat} (h : n ≤ d) :
    (if d - n > r then r else d - n) ≤ r ∧ n + (if d - n > r then r else d - n) ≤ d ∧
      (n + (if d - n > r then r else d - n) = d ∨ (if d - n > r then r else d - n) = r) := by
  split <;> omega

theorem bitCount_shift (D sh : Nat) : bitCount (D * 2^sh) = 0 ∧ bitCount D = 0 ∨ bitCount (D * 2^sh) = bitCount D + sh := by
  rcases Nat.eq_zero_or_pos D with rfl | h
  · exact Or.inl ⟨by rw [Nat.zero_mul, bitCount_zero], bitCount_zero⟩
  · exact Or.inr (bitCount_mul_pow (Nat.pos_iff_ne_zero.mp h) sh)

/-- one subtraction done (`D` is the new numerator, `Q + 1` the new quotient), then both are shifted by `sh` -/
theorem dv_tail_arith {S denBits shift A cnt D Q rem1 e1 sh : Nat}
    (hA : A < 2^denBits) (hS : 2^(denBits-1) ≤ S) (hsd : shift < denBits) (hdc : denBits ≤ 64*cnt)
    (he : e1 + rem1 = shift) (heq : A * 2^e1 = (Q + 1) * S + D)
    (hor : D < S ∨ bitCount D < denBits)
    (hsh1 : sh ≤ rem1) (hsh2 : bitCount D + sh ≤ denBits) (hsh3 : bitCount D + sh = denBits ∨ sh = rem1) :
    (Q + 1) * 2^sh < 2^(64*cnt) ∧ D * 2^sh < 2^(64*cnt) ∧
    dv_Inv S denBits shift A (D * 2^sh) ((Q + 1) * 2^sh) (bitCount (D * 2^sh)) (rem1 - sh) (e1 + sh) ∧
    (bitCount D < denBits → bitCount (D * 2^sh) = denBits → rem1 - sh < rem1) := by
  have hbc := bitCount_shift D sh
  refine ⟨dv_mul_pow_lt (dv_quot_bound hA hS (by omega) heq) (by omega),
    dv_mul_pow_lt (bitCount_lt D) (by omega), ⟨by omega, ?_, rfl, ?_, ?_, ?_⟩, ?_⟩
  · rw [pow_add]; linear_combination 2^sh * heq
  · omega
  · intro h1 h2
    -- unshifted, `D` would still be at least `S`; shifted, the quotient is even
    cases sh with
    | zero => rw [pow_zero, Nat.mul_one] at h1 h2; omega
    | succ k => rw [pow_succ, ← Nat.mul_assoc]; exact Nat.mul_mod_left _ _
  · omega
  · omega

theorem dv_Inv.top {S denBits shift A N Q rem e : Nat} (I : dv_Inv S denBits shift A N Q denBits rem e)
    (h0 : 1 ≤ denBits) : N < 2^denBits ∧ 2^(denBits-1) ≤ N := by
  have hnb := I.hnb
  have hN0 : N ≠ 0 := fun h => by rw [h, bitCount_zero] at hnb; omega
  have h1 := bitCount_lt N
  have h2 := bitCount_ge hN0
  rw [← hnb] at h1 h2
  exact ⟨h1, h2⟩

/-- no borrow: `D = N - S` is the new numerator and the quotient gains its low bit -/
theorem dv_sub_arith {S denBits shift A N Q rem e D : Nat} (hS : 2^(denBits-1) ≤ S) (h0 : 1 ≤ denBits)
    (I : dv_Inv S denBits shift A N Q denBits rem e) (hv : D + S = N) :
    Q % 2 = 0 ∧ A * 2^e = (Q + 1) * S + D ∧ bitCount D < denBits := by
  obtain ⟨h1, _⟩ := I.top h0
  have hpw := dv_pow_pred h0
  have hbc : bitCount D ≤ denBits - 1 := bitCount_le_iff_lt.mpr (by omega)
  exact ⟨I.hev rfl (by omega), by rw [I.heq, ← hv]; ring, by omega⟩

/-- borrow (`N < S`) with steps remaining: the numerator is doubled before the subtraction, `d = 2N - S`;
    `D0` is the wrapped difference and `c` the carry of adding `N` back to it, on `cnt` limbs -/
theorem dv_restore_arith {S denBits shift A N Q rem e cnt D0 d c : Nat}
    (hA : A < 2^denBits) (hS : 2^(denBits-1) ≤ S) (hSlt : S < 2^denBits) (hsd : shift < denBits)
    (hdc : denBits ≤ 64*cnt) (I : dv_Inv S denBits shift A N Q denBits rem e) (hr : rem ≠ 0)
    (hv0 : D0 + S = N + 2^(64*cnt) * 1) (hD0 : D0 < 2^(64*cnt))
    (hdv : d + 2^(64*cnt) * c = D0 + N) (hd : d < 2^(64*cnt)) (hc : c ≤ 1) :
    Q * 2^1 < 2^(64*cnt) ∧ e + 1 + (rem - 1) = shift ∧ A * 2^(e+1) = (Q * 2^1 + 1) * S + d ∧ d < S := by
  have h0 : 1 ≤ denBits := Nat.lt_of_le_of_lt (Nat.zero_le _) hsd
  obtain ⟨_, h2⟩ := I.top h0
  have hpw := dv_pow_pred h0
  have he := I.he
  have hdS : d + S = 2 * N := by obtain rfl | rfl := Nat.le_one_iff_eq_zero_or_eq_one.mp hc <;> omega
  refine ⟨dv_mul_pow_lt (dv_quot_bound hA hS h0 I.heq) (by omega), by omega, ?_, by omega⟩
  rw [pow_succ, pow_one]; linear_combination 2 * I.heq + hdS.symm

/-! ### the shift-subtract loop -/

/-- `quotient[0] |= 1` on limbs; on an even value it adds one (`dv_setLow_spec`) -/
def dv_setLow : List Nat → List Nat
  | [] => []
  | q0 :: qs => (q0 - q0 % 2 + 1) :: qs

/-- the part of the loop body after the borrow handling -/
def dv_tail (cnt : Nat) (sden : List Nat) (denBits fuel : Nat) (diff quot1 : List Nat) (rem1 : Nat) :
    R (List Nat × List Nat × Nat) := do
  let quot2 := dv_setLow quot1
  let nb := bitCount (toNat (diff.take cnt))
  let sh0 ← ckSub denBits nb
  let sh := if sh0 > rem1 then rem1 else sh0
  let (num', nb') ←
    if nb > 0 then do
      let s ← leftShiftUint diff sh cnt
      pure (s, nb + sh)
    else pure (List.replicate cnt 0, nb)
  let quot3 ← leftShiftUint quot2 sh cnt
  let rem2 ← ckSub rem1 sh
  divLoop cnt sden denBits fuel num' quot3 nb' rem2

/-- the borrow handling of the loop body: `none` ends the loop -/
def dv_step (cnt : Nat) (diff0 : List Nat) (bw : Nat) (num quot : List Nat) (rem : Nat) :
    R (Option (List Nat × List Nat × Nat)) :=
  if bw ≠ 0 then
    if rem = 0 then pure none
    else do
      let (d, _) ← addUint diff0 num cnt
      let q ← leftShiftUint quot 1 cnt
      pure (some (d, q, rem - 1))
  else pure (some (diff0, quot, rem))

theorem dv_divLoop_zero (cnt : Nat) (sden : List Nat) (denBits : Nat) (num quot : List Nat) (numBits rem : Nat) :
    divLoop cnt sden denBits 0 num quot numBits rem = .error .other := rfl

theorem dv_divLoop_succ (cnt : Nat) (sden : List Nat) (denBits fuel : Nat) (num quot : List Nat) (numBits rem : Nat) :
    divLoop cnt sden denBits (fuel+1) num quot numBits rem =
      (if numBits ≠ denBits then pure (num, quot, numBits) else do
        let (diff0, bw) ← subUint num sden cnt
        match ← dv_step cnt diff0 bw num quot rem with
        | none => pure (num, quot, numBits)
        | some (diff, quot1, rem1) => dv_tail cnt sden denBits fuel diff quot1 rem1) := rfl

theorem dv_step_nb (cnt : Nat) (diff0 num quot : List Nat) (rem : Nat) :
    dv_step cnt diff0 0 num quot rem = .ok (some (diff0, quot, rem)) := by
  unfold dv_step; rw [if_neg (by simp)]; rfl

theorem dv_step_b0 (cnt : Nat) (diff0 num quot : List Nat) :
    dv_step cnt diff0 1 num quot 0 = .ok none := by
  unfold dv_step; rw [if_pos (by simp), if_pos rfl]; rfl

theorem dv_step_b1 (cnt : Nat) (diff0 num quot : List Nat) {rem : Nat} (hrem : rem ≠ 0) {d q : List Nat} {c : Nat}
    (h1 : addUint diff0 num cnt = .ok (d, c)) (h2 : leftShiftUint quot 1 cnt = .ok q) :
    dv_step cnt diff0 1 num quot rem = .ok (some (d, q, rem - 1)) := by
  unfold dv_step; rw [if_pos (by simp), if_neg hrem, h1, h2]; rfl

theorem dv_setLow_spec {l : List Nat} (hl : 1 ≤ l.length) (hL : Limbs l) (hev : toNat l % 2 = 0) :
    (dv_setLow l).length = l.length ∧ Limbs (dv_setLow l) ∧ toNat (dv_setLow l) = toNat l + 1 := by
  cases l with
  | nil => simp at hl
  | cons q0 qs =>
    obtain ⟨h0, hs⟩ := limbs_cons.mp hL
    simp only [toNat_cons] at hev
    have hq : q0 % 2 = 0 := by
      have := dv_B64_even
      rw [this] at hev
      omega
    refine ⟨rfl, limbs_cons.mpr ⟨?_, hs⟩, ?_⟩
    · omega
    · simp only [dv_setLow, toNat_cons]; omega

/-- what stays fixed during the loop: `sden` holds the denominator shifted to the bit length `denBits` of the
    numerator `A`, by `shift` bits -/
structure dv_Ctx (cnt S denBits shift A : Nat) (sden : List Nat) : Prop where
  hcnt : 1 ≤ cnt
  hlen : sden.length = cnt
  hlimbs : Limbs sden
  hval : toNat sden = S
  hbits : bitCount S = denBits
  hA : A < 2^denBits
  hsd : shift < denBits
  hdc : denBits ≤ 64*cnt

theorem dv_Ctx.S_ne {cnt S denBits shift A : Nat} {sden : List Nat} (C : dv_Ctx cnt S denBits shift A sden) : S ≠ 0 := by
  intro h
  have := C.hbits; rw [h, bitCount_zero] at this
  have := C.hsd; omega

theorem dv_Ctx.S_ge {cnt S denBits shift A : Nat} {sden : List Nat} (C : dv_Ctx cnt S denBits shift A sden) :
    2^(denBits-1) ≤ S := by
  have := bitCount_ge C.S_ne; rwa [C.hbits] at this

theorem dv_Ctx.S_lt {cnt S denBits shift A : Nat} {sden : List Nat} (C : dv_Ctx cnt S denBits shift A sden) :
    S < 2^denBits := by
  have := bitCount_lt S; rwa [C.hbits] at this

/-- the loop state on limbs: `num`, `quot` of `cnt` words whose values satisfy `dv_Inv` -/
structure dv_State (cnt S denBits shift A : Nat) (num quot : List Nat) (numBits rem e : Nat) : Prop where
  hnl : num.length = cnt
  hql : quot.length = cnt
  hnL : Limbs num
  hqL : Limbs quot
  inv : dv_Inv S denBits shift A (toNat num) (toNat quot) numBits rem e

/-- what the loop hands back: `A·2^shift = quot·S + num` with `num < S` (quotient final, remainder still shifted) -/
def dv_Post (cnt S shift A : Nat) (res : R (List Nat × List Nat × Nat)) : Prop :=
  ∃ num' quot' nb', res = .ok (num', quot', nb') ∧ num'.length = cnt ∧ quot'.length = cnt ∧
    Limbs num' ∧ Limbs quot' ∧ toNat num' < S ∧ A * 2^shift = toNat quot' * S + toNat num' ∧
    nb' = bitCount (toNat num')

theorem dv_State.exit {cnt S denBits shift A : Nat} {num quot : List Nat} {numBits rem e : Nat}
    (St : dv_State cnt S denBits shift A num quot numBits rem e) (hr : rem = 0) (hlt : toNat num < S) :
    dv_Post cnt S shift A (.ok (num, quot, numBits)) := by
  have he : e = shift := by have := St.inv.he; omega
  exact ⟨num, quot, numBits, rfl, St.hnl, St.hql, St.hnL, St.hqL, hlt, he ▸ St.inv.heq, St.inv.hnb⟩

/-- the loop body from the point where `diff` is the reduced numerator and the low bit of `quot1` is due:
    it re-enters the loop in a state of the invariant, with fewer steps remaining if a subtraction is due again -/
theorem dv_tail_spec {cnt S denBits shift A : Nat} {sden : List Nat} (C : dv_Ctx cnt S denBits shift A sden)
    (fuel : Nat) {diff quot1 : List Nat} {rem1 e1 : Nat}
    (hdl : diff.length = cnt) (hql : quot1.length = cnt) (hdL : Limbs diff) (hqL : Limbs quot1)
    (hev : toNat quot1 % 2 = 0) (he : e1 + rem1 = shift)
    (heq : A * 2^e1 = (toNat quot1 + 1) * S + toNat diff)
    (hor : toNat diff < S ∨ bitCount (toNat diff) < denBits) :
    ∃ num' quot3 nb' rem2 e2,
      dv_tail cnt sden denBits fuel diff quot1 rem1 = divLoop cnt sden denBits fuel num' quot3 nb' rem2
      ∧ dv_State cnt S denBits shift A num' quot3 nb' rem2 e2 ∧ rem2 ≤ rem1
      ∧ (bitCount (toNat diff) < denBits → nb' = denBits → rem2 < rem1) := by
  have hbits : bitCount (toNat diff) ≤ denBits :=
    hor.elim (fun h => C.hbits ▸ bitCount_le_of_le h.le) Nat.le_of_lt
  obtain ⟨hsh1, hsh2, hsh3⟩ := dv_shift_amount (r := rem1) hbits
  obtain ⟨hQ, hD, I, hterm⟩ := dv_tail_arith C.hA C.S_ge C.hsd C.hdc he heq hor hsh1 hsh2 hsh3
  obtain ⟨h2l, h2L, h2v⟩ := dv_setLow_spec (hql ▸ C.hcnt) hqL hev
  have hs64 : (if denBits - bitCount (toNat diff) > rem1 then rem1 else denBits - bitCount (toNat diff)) < 64 * cnt := by
    have := C.hsd; have := C.hdc; omega
  unfold dv_tail
  dsimp only
  rw [List.take_of_length_le hdl.le, ckSub_of_le hbits]
  simp only [bind, Except.bind, pure, Except.pure]
  generalize (if denBits - bitCount (toNat diff) > rem1 then rem1 else denBits - bitCount (toNat diff)) = sh at *
  rw [← h2v] at hQ I
  obtain ⟨quot3, hq3, hq3l, hq3L, hq3v⟩ := leftShiftUint_exact h2L (h2l.trans hql).ge hQ hs64
  rw [← hq3v] at I
  rw [hq3, ckSub_of_le hsh1]
  by_cases hpos : bitCount (toNat diff) > 0
  · obtain ⟨s, hs, hsl, hsL, hsv⟩ := leftShiftUint_exact hdL hdl.ge hD hs64
    rw [← hsv] at I hterm
    have hD0 : toNat diff ≠ 0 := fun h => by rw [h, bitCount_zero] at hpos; omega
    have hnb : bitCount (toNat s) = bitCount (toNat diff) + sh := by rw [hsv, bitCount_mul_pow hD0]
    rw [hnb] at I hterm
    rw [if_pos hpos, hs]
    exact ⟨s, quot3, _, _, _, rfl, ⟨hsl, hq3l, hsL, hq3L, I⟩, Nat.sub_le _ _, hterm⟩
  · have hD0 : toNat diff = 0 := bitCount_eq_zero.mp (by omega)
    rw [if_neg hpos]
    rw [hD0, Nat.zero_mul, bitCount_zero] at I hterm
    rw [hD0, bitCount_zero]
    exact ⟨_, quot3, _, _, e1 + sh, rfl, ⟨List.length_replicate, hq3l, Limbs.replicate_zero _, hq3L,
      by rw [toNat_replicate_zero]; exact I⟩, Nat.sub_le _ _, fun _ h => hterm (by omega) h⟩

/-- fuel: a state in which a subtraction is due needs `rem + 2` further iterations at most, any other state one -/
theorem dv_loop {cnt S denBits shift A : Nat} {sden : List Nat} (C : dv_Ctx cnt S denBits shift A sden) :
    ∀ (fuel : Nat) (num quot : List Nat) (numBits rem e : Nat),
      dv_State cnt S denBits shift A num quot numBits rem e →
      (if numBits = denBits then rem + 2 else 1) ≤ fuel →
      dv_Post cnt S shift A (divLoop cnt sden denBits fuel num quot numBits rem) := by
  intro fuel
  induction fuel with
  | zero => intro num quot numBits rem e _ hf; split at hf <;> omega
  | succ fuel ih =>
    intro num quot numBits rem e St hf
    have hsd := C.hsd
    rw [dv_divLoop_succ]
    by_cases h : numBits = denBits
    · subst h
      rw [if_neg (not_not.mpr rfl)]
      rw [if_pos rfl] at hf
      obtain ⟨diff0, bw, hsub, hl0, hL0, hbw, hv0⟩ := subUint_full C.hcnt St.hnL C.hlimbs St.hnl C.hlen
      rw [C.hval] at hv0
      have hd0 := toNat_lt_of_length hL0 hl0
      rw [hsub]
      simp only [bind, Except.bind]
      obtain rfl | rfl : bw = 0 ∨ bw = 1 := by omega
      · rw [dv_step_nb]
        dsimp only
        obtain ⟨hev, heq, hbc⟩ := dv_sub_arith C.S_ge (by omega) St.inv (by omega)
        obtain ⟨num', quot3, nb', rem2, e2, hgo, St', hle, hlt⟩ :=
          dv_tail_spec C fuel hl0 St.hql hL0 St.hqL hev St.inv.he heq (Or.inr hbc)
        rw [hgo]
        apply ih _ _ _ _ _ St'
        split
        · have := hlt hbc (by assumption); omega
        · omega
      · by_cases hr : rem = 0
        · subst hr
          rw [dv_step_b0]
          exact St.exit rfl (by omega)
        · obtain ⟨d, c, hadd, hdl, hdL, hc, hdv⟩ := addUint_full C.hcnt hL0 St.hnL hl0 St.hnl
          obtain ⟨hQ2, he, heq, hdS⟩ := dv_restore_arith C.hA C.S_ge C.S_lt hsd C.hdc St.inv hr hv0 hd0 hdv
            (toNat_lt_of_length hdL hdl) hc
          obtain ⟨q, hq, hql, hqL, hqv⟩ := leftShiftUint_exact (s := 1) St.hqL St.hql.ge hQ2 (by have := C.hdc; omega)
          rw [dv_step_b1 cnt diff0 num quot hr hadd hq]
          dsimp only
          rw [← hqv] at heq
          obtain ⟨num', quot3, nb', rem2, e2, hgo, St', hle, hlt⟩ :=
            dv_tail_spec C fuel hdl hql hdL hqL (by rw [hqv, pow_one]; exact Nat.mul_mod_left _ _) he heq (Or.inl hdS)
          rw [hgo]
          apply ih _ _ _ _ _ St'
          split <;> omega
    · rw [if_pos h]
      refine St.exit (St.inv.hrem h) ?_
      by_contra hge
      have := bitCount_le_of_le (Nat.le_of_not_lt hge)
      rw [C.hbits, ← St.inv.hnb] at this
      have := St.inv.hle
      omega

/-! ### divideUint -/

/-- the general case of `divideUint`, with the bit lengths `nb`, `db` of numerator and denominator given -/
def dv_general (num den : List Nat) (n nb db : Nat) : R (List Nat × List Nat) := do
  let cnt := (nb + 63) / 64
  let shift := nb - db
  let sden ← leftShiftUint den shift cnt
  let (num', quot', nb') ← divLoop cnt sden (db + shift) (64 * cnt + 2)
                             (num.take cnt) ((List.replicate n 0).take cnt) nb shift
  let num'' ← if nb' > 0 then rightShiftUint num' shift cnt else pure num'
  pure (num'' ++ num.drop cnt, quot' ++ (List.replicate n 0).drop cnt)

theorem dv_divideUint_eq (num den : List Nat) (n : Nat) : divideUint num den n =
    (if n = 0 then pure (num, [])
     else if num.isEmpty ∨ den.isEmpty then .error .overflow
     else if bitCount (toNat num) < bitCount (toNat den) then pure (num, List.replicate n 0)
     else if (bitCount (toNat num) + 63) / 64 = 1 then
       (if den.headD 0 = 0 then .error .other
        else pure ((num.headD 0 - (num.headD 0 / den.headD 0) * den.headD 0) :: num.tail,
                   (num.headD 0 / den.headD 0) :: (List.replicate n 0).tail))
     else if den.length < (bitCount (toNat num) + 63) / 64 ∨ num.length < (bitCount (toNat num) + 63) / 64
          ∨ n < (bitCount (toNat num) + 63) / 64 then .error .oob
     else dv_general num den n (bitCount (toNat num)) (bitCount (toNat den))) := rfl

/-- a value below one word lives in the head limb -/
theorem dv_small {l : List Nat} (h : toNat l < B64) : l.headD 0 = toNat l ∧ toNat l.tail = 0 := by
  cases l with
  | nil => exact ⟨rfl, rfl⟩
  | cons x xs =>
    simp only [toNat_cons, List.headD_cons, List.tail_cons] at h ⊢
    have ht : toNat xs = 0 := by
      by_contra hne
      have : B64 * 1 ≤ B64 * toNat xs := Nat.mul_le_mul_left _ (Nat.pos_of_ne_zero hne)
      omega
    rw [ht]; exact ⟨by omega, rfl⟩

theorem dv_head_tail {l : List Nat} (h : 1 ≤ l.length) : l = l.headD 0 :: l.tail := by
  cases l with
  | nil => simp at h
  | cons x xs => rfl

theorem dv_single {a d : List Nat} {n : Nat} (hn : 1 ≤ n) (ha : Limbs a)
    (hla : a.length = n) (hld : d.length = n) (hD0 : toNat d ≠ 0)
    (hA : toNat a < B64) (hD : toNat d < B64) :
    ∃ r q, (if d.headD 0 = 0 then (.error .other : R (List Nat × List Nat))
        else pure ((a.headD 0 - (a.headD 0 / d.headD 0) * d.headD 0) :: a.tail,
                   (a.headD 0 / d.headD 0) :: (List.replicate n 0).tail)) = .ok (r, q) ∧
      r.length = n ∧ q.length = n ∧ Limbs r ∧ Limbs q ∧
      toNat a = toNat q * toNat d + toNat r ∧ toNat r < toNat d := by
  obtain ⟨ha0, hat⟩ := dv_small hA
  obtain ⟨hd0, _⟩ := dv_small hD
  have hah : a.headD 0 < 2^64 := ha.headD
  rw [ha0] at hah
  rw [if_neg (hd0 ▸ hD0), ha0, hd0]
  have h1 := Nat.div_add_mod (toNat a) (toNat d)
  have h2 := Nat.mod_lt (toNat a) (Nat.pos_of_ne_zero hD0)
  have h3 := Nat.div_le_self (toNat a) (toNat d)
  rw [Nat.mul_comm] at h1
  refine ⟨_, _, rfl, ?_, ?_, limbs_cons.mpr ⟨by omega, ha.tail⟩,
    limbs_cons.mpr ⟨by omega, (Limbs.replicate_zero n).tail⟩, ?_, ?_⟩
  · rw [List.length_cons, List.length_tail, hla]; omega
  · rw [List.length_cons, List.length_tail, List.length_replicate]; omega
  · rw [toNat_cons, toNat_cons, hat, List.tail_replicate, toNat_replicate_zero, Nat.mul_zero, Nat.add_zero,
      Nat.add_zero]; omega
  · rw [toNat_cons, hat, Nat.mul_zero, Nat.add_zero]; omega

theorem dv_init {a d sden : List Nat} {n nb db cnt : Nat} (ha : Limbs a) (hla : a.length = n) (hD0 : toNat d ≠ 0)
    (hnb : nb = bitCount (toNat a)) (hdb : db = bitCount (toNat d)) (hle : db ≤ nb)
    (hc1 : 1 ≤ cnt) (hcn : cnt ≤ n) (hnc : nb ≤ 64 * cnt)
    (hsl : sden.length = cnt) (hsL : Limbs sden) (hsv : toNat sden = toNat d * 2^(nb - db)) :
    dv_Ctx cnt (toNat d * 2^(nb - db)) nb (nb - db) (toNat a) sden ∧
    dv_State cnt (toNat d * 2^(nb - db)) nb (nb - db) (toNat a) (a.take cnt) ((List.replicate n 0).take cnt)
      nb (nb - db) 0 := by
  have hdb1 : 1 ≤ db := by
    have := mt bitCount_eq_zero.mp hD0
    omega
  have hA : toNat a < 2^nb := hnb ▸ bitCount_lt _
  have hq0 : toNat ((List.replicate n 0).take cnt) = 0 := by
    rw [toNat_take_mod (Limbs.replicate_zero n), toNat_replicate_zero, Nat.zero_mod]
  have ha0 : toNat (a.take cnt) = toNat a := by
    rw [toNat_take_mod ha, Nat.mod_eq_of_lt (lt_of_lt_of_le hA (Nat.pow_le_pow_right (by decide) hnc))]
  refine ⟨⟨hc1, hsl, hsL, hsv, ?_, hA, by omega, hnc⟩,
    ⟨by rw [List.length_take, hla]; exact Nat.min_eq_left hcn,
     by rw [List.length_take, List.length_replicate]; exact Nat.min_eq_left hcn,
     ha.take _, (Limbs.replicate_zero n).take _,
     ⟨Nat.zero_add _, by rw [hq0, ha0]; ring, ha0.symm ▸ hnb, le_refl _, fun _ _ => by rw [hq0], fun h => absurd rfl h⟩⟩⟩
  rw [bitCount_mul_pow hD0, ← hdb]; omega

theorem dv_general_spec {a d : List Nat} {n nb db : Nat} (ha : Limbs a) (hd : Limbs d)
    (hla : a.length = n) (hld : d.length = n) (hD0 : toNat d ≠ 0)
    (hnb : nb = bitCount (toNat a)) (hdb : db = bitCount (toNat d)) (hle : db ≤ nb)
    (hcn : (nb + 63) / 64 ≤ n) :
    ∃ r q, dv_general a d n nb db = .ok (r, q) ∧
      r.length = n ∧ q.length = n ∧ Limbs r ∧ Limbs q ∧
      toNat a = toNat q * toNat d + toNat r ∧ toNat r < toNat d := by
  unfold dv_general
  dsimp only
  rw [Nat.add_sub_cancel' hle]
  generalize hcnt : (nb + 63) / 64 = cnt at *
  have hdb1 : 1 ≤ db := by
    have := mt bitCount_eq_zero.mp hD0
    omega
  have hnc : nb ≤ 64 * cnt := by omega
  have hA' : toNat a < 2^(64*cnt) := lt_of_lt_of_le (hnb ▸ bitCount_lt _) (Nat.pow_le_pow_right (by decide) hnc)
  obtain ⟨sden, hsd, hsl, hsL, hsv⟩ := leftShiftUint_exact (s := nb - db) (cnt := cnt) hd (hld ▸ hcn)
    (dv_mul_pow_lt (hdb ▸ bitCount_lt _) (by omega)) (by omega)
  obtain ⟨C, St⟩ := dv_init ha hla hD0 hnb hdb hle (by omega) hcn hnc hsl hsL hsv
  obtain ⟨num', quot', nb', hloop, hnl, hql, hnL, hqL, hlt, heq, hnb'⟩ :=
    dv_loop C (64 * cnt + 2) _ _ _ _ _ St (by rw [if_pos rfl]; omega)
  obtain ⟨hfin, hrlt⟩ := dv_exit heq hlt
  obtain ⟨num'', hrs, hrl, hrL, hrv⟩ : ∃ num'',
      (if nb' > 0 then rightShiftUint num' (nb - db) cnt else pure num') = .ok num'' ∧
      num''.length = cnt ∧ Limbs num'' ∧ toNat num'' = toNat num' / 2^(nb - db) := by
    by_cases hp : nb' > 0
    · obtain ⟨r, hr, hrl, hrL, hrv⟩ := rightShiftUint_spec (s := nb - db) hnL hnl.ge (by omega)
      rw [List.take_of_length_le hnl.le] at hrv
      exact ⟨r, by rw [if_pos hp, hr], hrl, hrL, hrv⟩
    · have h0 : toNat num' = 0 := bitCount_eq_zero.mp (by omega)
      exact ⟨num', by rw [if_neg hp]; rfl, hnl, hnL, by rw [h0, Nat.zero_div]⟩
  have hdrop : toNat (a.drop cnt) = 0 := by rw [toNat_drop_div ha, Nat.div_eq_of_lt hA']
  have hqdrop : toNat ((List.replicate n 0).drop cnt) = 0 := by
    rw [toNat_drop_div (Limbs.replicate_zero n), toNat_replicate_zero, Nat.zero_div]
  rw [hsd]
  simp only [bind, Except.bind]
  rw [hloop]
  dsimp only
  refine ⟨num'' ++ a.drop cnt, quot' ++ (List.replicate n 0).drop cnt, ?_, ?_, ?_,
    hrL.append (ha.drop _), hqL.append ((Limbs.replicate_zero n).drop _), ?_, ?_⟩
  · -- the shift back sits in both branches of the test on `nb'`
    by_cases hp : nb' > 0
    · rw [if_pos hp] at hrs ⊢; rw [hrs]; rfl
    · rw [if_neg hp] at hrs ⊢; rw [hrs]; rfl
  · rw [List.length_append, List.length_drop, hrl, hla]; exact Nat.add_sub_cancel' hcn
  · rw [List.length_append, List.length_drop, hql, List.length_replicate]; exact Nat.add_sub_cancel' hcn
  · rw [toNat_append, toNat_append, hdrop, hqdrop, hrv, Nat.mul_zero, Nat.mul_zero, Nat.add_zero, Nat.add_zero]
    exact hfin
  · rw [toNat_append, hdrop, hrv, Nat.mul_zero, Nat.add_zero]
    exact hrlt

theorem divideUint_spec : DivideUintStatement := by
  intro a d n hn ha hd hla hld hD0
  have hae : a.isEmpty = false := by cases a with
    | nil => simp at hla; omega
    | cons _ _ => rfl
  have hde : d.isEmpty = false := by cases d with
    | nil => simp at hld; omega
    | cons _ _ => rfl
  rw [dv_divideUint_eq, if_neg (by omega), hae, hde, if_neg (by simp)]
  obtain ⟨nb, hnb⟩ : ∃ nb, nb = bitCount (toNat a) := ⟨_, rfl⟩
  obtain ⟨db, hdb⟩ : ∃ db, db = bitCount (toNat d) := ⟨_, rfl⟩
  rw [← hnb, ← hdb]
  have hA : toNat a < 2^nb := by rw [hnb]; exact bitCount_lt _
  have hD : toNat d < 2^db := by rw [hdb]; exact bitCount_lt _
  by_cases h1 : nb < db
  · rw [if_pos h1]
    refine ⟨a, List.replicate n 0, rfl, hla, List.length_replicate, ha, Limbs.replicate_zero n, ?_, ?_⟩
    · rw [toNat_replicate_zero]; omega
    · by_contra hlt
      have := bitCount_le_of_le (Nat.le_of_not_lt hlt); omega
  · rw [if_neg h1]
    by_cases h2 : (nb + 63) / 64 = 1
    · rw [if_pos h2]
      have h3 : 2^nb ≤ 2^64 := Nat.pow_le_pow_right (by decide) (by omega)
      have h4 : 2^db ≤ 2^nb := Nat.pow_le_pow_right (by decide) (by omega)
      exact dv_single hn ha hla hld hD0 (by rw [B64_eq]; omega) (by rw [B64_eq]; omega)
    · have hAn : toNat a < 2^(64*n) := by have := toNat_lt ha; rwa [hla] at this
      have h5 : nb ≤ 64 * n := by rw [hnb]; exact bitCount_le_iff_lt.mpr hAn
      rw [if_neg h2, if_neg (by rw [hla, hld]; omega)]
      exact dv_general_spec ha hd hla hld hD0 hnb hdb (by omega) (by omega)

end HC
