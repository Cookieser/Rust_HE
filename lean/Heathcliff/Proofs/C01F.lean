/- C01 part F: ENCRYPTION in the model, NTT form (CKKS, BGV) and KEY GENERATION.
   •   values of `encryptZeroAsym` / `encryptZeroSym` in NTT form, stated on the coefficient forms (`intt` of every component):
       (intt(pk_k) ⋆ u + tt·e_k) mod q_i resp. −(intt(a) ⋆ s + tt·e) mod q_i, tt = t for BGV and 1 otherwise (the case `ntt = true` of C01E);
   •   the model's key generation (`genSecretKey`, `genPublicKey`) yields `PkRel` — the public key IS an encryption of zero under s
       with error tt·e — at the key level and at every level below it. -/
import Heathcliff.Proofs.C01E
namespace HC
open Finset Polynomial

/-- public key, NTT form (CKKS, BGV), stated on the COEFFICIENT FORM (`intt`) of the result polynomials -/
theorem encryptZeroAsym_ntt {l : Level} (hl : l.WF) (ht : l.t.value < 2^64) {pk : Array RnsPoly} {u : RnsPoly} {es : Array RnsPoly}
    (hu : RnsCanon l u) (hpk : ∀ k, k < pk.size → PreCanon l (pk.getD k #[]))
    (he : ∀ k, k < pk.size → RnsCanon l (es.getD k #[])) :
    ∃ ct, encryptZeroAsym l pk u es true = .ok ct ∧ ct.ntt = true ∧ ct.cf = 1 ∧ ct.polys.size = pk.size ∧
      ∀ k, k < pk.size → RnsCanon l (ct.polys.getD k #[]) ∧ ∀ i, i < l.size → ∀ c, c < l.n →
        (intt (l.tbl i) ((ct.polys.getD k #[]).getD i #[])).getD c 0 =
          (negMulNat l.n (l.q i).value (intt (l.tbl i) ((pk.getD k #[]).getD i #[])) (u.getD i #[]) c
            + (encTT l * ((es.getD k #[]).getD i #[]).getD c 0) % (l.q i).value) % (l.q i).value := by
  obtain ⟨ct, h1, h2, h3, h4, h5⟩ := encryptZeroAsym_view hl (fun _ => ht) true hu hpk he
  refine ⟨ct, h1, h2, h3, h4, fun k hk => ⟨(h5 k hk).1, fun i hi c hc => ?_⟩⟩
  rw [← c01e_cview_ntt l _ hi]
  exact (h5 k hk).2 i hi c hc

/-- secret key, NTT form: c1 is the mask `a` itself (with and without a saved seed) -/
theorem encryptZeroSym_ntt {l : Level} (hl : l.WF) (ht : l.t.value < 2^64) {sk : Array Int} (hsk : sk.size = l.n)
    {a e : RnsPoly} (ha : RnsCanon l a) (he : RnsCanon l e) (saveSeed : Bool) :
    ∃ c0, encryptZeroSym l sk a e true saveSeed = .ok ⟨#[c0, a], true, 1⟩ ∧ RnsCanon l c0 ∧
      ∀ i, i < l.size → ∀ c, c < l.n → (intt (l.tbl i) (c0.getD i #[])).getD c 0 =
        ((l.q i).value - (negMulNat l.n (l.q i).value (intt (l.tbl i) (a.getD i #[])) (skRes l sk i) c
          + (encTT l * (e.getD i #[]).getD c 0) % (l.q i).value) % (l.q i).value) % (l.q i).value := by
  obtain ⟨c0, c1, h1, h2, -, hc1, h5⟩ := encryptZeroSym_view hl (fun _ => ht) true hsk ha he saveSeed
  have hc1 : c1 = a := hc1
  subst hc1
  refine ⟨c0, h1, h2, fun i hi c hc => ?_⟩
  rw [← c01e_cview_ntt l c0 hi, ← c01e_cview_ntt l c1 hi]
  exact h5 i hi c hc

/-- the stored secret key of the model's key generation, from the ternary sample in the samplers' encoding, is `skNtt` of the signed
    coefficients (the representation every decryption theorem uses) -/
theorem genSecretKey_eq_skNtt (l : Level) (sk : Array Int) : genSecretKey l (rnsOfInt l sk) = skNtt l sk :=
  c01e_rnsNtt_rnsOfInt l sk

/-- `PkRel` FROM KEY GENERATION: for every well-formed level (the key level), every secret s, every mask `a` (what `uniform` drew, or what
    `expand_seed` regenerates for a saved seed) and every error polynomial e, the model's `genPublicKey` succeeds and its result
    (pk0, pk1 = a) is an encryption of zero under s with error tt·e: `PkRel l s (tt·e) pk0 pk1` -/
theorem genPublicKey_pkRel {l : Level} (hl : l.WF) (ht : l.t.value < 2^64) {sk : Array Int} (hsk : sk.size = l.n)
    {a : RnsPoly} (ha : RnsCanon l a) {e : Array Int} (hes : e.size = l.n) (saveSeed : Bool) :
    ∃ pk0, genPublicKey l sk a (rnsOfInt l e) saveSeed = .ok ⟨#[pk0, a], true, 1⟩ ∧ RnsCanon l pk0 ∧
      PkRel l sk (fun c => (encTT l : Int) * e.getD c 0) pk0 a := by
  obtain ⟨c0, hz, hC0, hv⟩ := encryptZeroSym_ntt hl ht hsk ha (c01e_rnsOfInt_canon hl hes) saveSeed
  refine ⟨c0, hz, hC0, hC0.pre, ha.pre, fun i hi c hc => ?_⟩
  rw [hv i hi c hc, c01e_rnsOfInt_getD l e hi]
  exact c01e_negmask_modEq hl hi _ sk e (encTT l) hc

/-- `l'` is a level below `l` in the same context: fewer moduli, the same first moduli and NTT tables, the same degree -/
structure LevelPrefix (l' l : Level) : Prop where
  size : l'.size ≤ l.size
  n : l'.n = l.n
  q : ∀ i, i < l'.size → l'.q i = l.q i
  tbl : ∀ i, i < l'.size → l'.tbl i = l.tbl i

/-- the public key relation of the key level holds at every level below it (the code hands the first components of the key to
    `dyadic_product_p` with the level's moduli) -/
theorem PkRel.lower {l l' : Level} (hp : LevelPrefix l' l) {sk : Array Int} {E : Nat → Int} {pk0 pk1 : RnsPoly}
    (h : PkRel l sk E pk0 pk1) : PkRel l' sk E pk0 pk1 := by
  obtain ⟨h0, h1, h2⟩ := h
  refine ⟨fun i hi => ?_, fun i hi => ?_, fun i hi c hc => ?_⟩
  · rw [hp.n, hp.q i hi]; exact h0 i (lt_of_lt_of_le hi hp.size)
  · rw [hp.n, hp.q i hi]; exact h1 i (lt_of_lt_of_le hi hp.size)
  · rw [hp.n] at hc ⊢
    rw [hp.q i hi, hp.tbl i hi]
    exact h2 i (lt_of_lt_of_le hi hp.size) c hc

theorem LevelPrefix.refl (l : Level) : LevelPrefix l l := ⟨Nat.le_refl _, rfl, fun _ _ => rfl, fun _ _ => rfl⟩

/-- the error of the generated public key is bounded by tt·21 when the drawn error is bounded by 21 (`sample::centered_binomial`, C16) -/
theorem genPublicKey_error_bound (l : Level) {e : Array Int} (he : ∀ p, p < l.n → (e.getD p 0).natAbs ≤ 21) :
    ∀ p, p < l.n → ((encTT l : Int) * e.getD p 0).natAbs ≤ encTT l * 21 := by
  intro p hp
  rw [Int.natAbs_mul, Int.natAbs_natCast]
  exact Nat.mul_le_mul_left _ (he p hp)

end HC
