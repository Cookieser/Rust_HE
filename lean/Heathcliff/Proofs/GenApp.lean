/-
  The block-size search of `MatmulHelper::new` (src/app/matmul/cheetah.rs) as generated into Gen/AppFns.lean = `Helper.new` of the hand
  model (Model/Matmul.lean), without LWE packing (`ga_mm_new_eq`) and with it (`ga_mm_new_pack_eq`); with the generated `ceil_div` helpers and
  the reversed ranges of the search loops.  The loop combinators are those of Gen/AppPrelude.lean, their generic facts are in
  Proofs/GenAppBase.lean.  Dimensions below `2^20`: then every product the search forms stays below `2^64` (`c20_mm_products`, Proofs/C20B.lean).
  `18446744073709551615` is `usize::MAX`, the initial cost of the search.  Helper prefix `ga_`.
-/
import Heathcliff.Proofs.GenAppBase
import Heathcliff.Gen.AppFns
import Heathcliff.Model.Matmul
import Heathcliff.Proofs.C20C

namespace HC
open HC.MM HC.GenApp

theorem ga_downRange_eq (lo hi : Nat) : downRange lo hi = (List.range (hi + 1 - lo)).reverse.map (· + lo) := rfl

theorem ga_mm_ceil_div {a b : Nat} (hb : 1 ≤ b) (h : a + b < 2^64) : mm_ceil_div a b = .ok (ceilDiv a b) := by
  have h' : a + b < B64 := by simpa [B64] using h
  have h1 : 1 ≤ a + b := by omega
  have h2 : b ≠ 0 := by omega
  simp [mm_ceil_div, ckAdd, ckSub, GenApp.ckDiv, ceilDiv, h', h1, h2, bind, Except.bind]

theorem ga_cv_ceil_div {a b : Nat} (hb : 1 ≤ b) (h : a + b < 2^64) : cv_ceil_div a b = .ok (ceilDiv a b) :=
  ga_mm_ceil_div hb h

theorem ga_mm_ceil_div_bind {β : Type} {a b : Nat} (hb : 1 ≤ b) (h : a + b < 2^64) (f : Nat → R β) :
    (mm_ceil_div a b >>= f) = f (ceilDiv a b) := by rw [ga_mm_ceil_div hb h]; rfl

theorem ga_cv_ceil_div_bind {β : Type} {a b : Nat} (hb : 1 ≤ b) (h : a + b < 2^64) (f : Nat → R β) :
    (cv_ceil_div a b >>= f) = f (ceilDiv a b) := by rw [ga_cv_ceil_div hb h]; rfl

def ga_ofBest (s : Best) : Nat × Nat × Nat × Nat := (s.b, s.i, s.o, s.c)

/-- `if x > y { x = y }` -/
theorem ga_clamp_eq (x y : Nat) : (if x > y then y else x) = min x y := by
  simp only [Nat.min_def]; split <;> split <;> omega

theorem ga_best_update (t : Best) (b i o c : Nat) :
    (if c ≥ t.c then pure (Ctl.next (t.b, t.i, t.o, t.c)) else pure (Ctl.next (b, i, o, c)) : R (Ctl (Nat × Nat × Nat × Nat)))
      = .ok (.next (ga_ofBest (if c ≥ t.c then t else ⟨b, i, o, c⟩))) := by
  by_cases hc : c ≥ t.c <;> simp [hc, ga_ofBest, pure, Except.pure]

theorem ga_mm_new_loop1 (N id od : Nat) (obj : Objective) (b bc : Nat) (hb : 1 ≤ b) (hid : id < 2^20) (hod : od < 2^20)
    (hbc : bc < 2^20) (j : Nat) (hj : 1 ≤ j) (t : Best) :
    (j > id ∧ mm_new_loop1 id od N obj b bc j (ga_ofBest t) = .ok (.brk (ga_ofBest t))) ∨
    mm_new_loop1 id od N obj b bc j (ga_ofBest t) = .ok (.next (ga_ofBest (mmInner N id od obj b bc t j))) := by
  by_cases hji : j > id
  · left; refine ⟨hji, ?_⟩
    simp [mm_new_loop1, ga_ofBest, hji, pure, Except.pure]
  · right
    show mm_new_loop1 id od N obj b bc j (t.b, t.i, t.o, t.c) = _
    simp only [mm_new_loop1, mmInner, if_neg hji]
    rw [ga_ckDiv_bind hb, ga_ckDiv_bind hj, ga_clamp_eq]
    by_cases ho : min (N / b / j) od < 1
    · simp [ho, pure, Except.pure, ga_ofBest]
    · have ho1 : 1 ≤ min (N / b / j) od := by omega
      have hole : min (N / b / j) od ≤ od := Nat.min_le_right _ _
      rw [if_neg ho, if_neg ho, ga_mm_ceil_div_bind hj (by omega), ga_mm_ceil_div_bind ho1 (by omega)]
      have hic : ceilDiv id j < 2^20 := Nat.lt_of_le_of_lt (c20_ceilDiv_le hj) hid
      have hoc : ceilDiv od (min (N / b / j) od) < 2^20 := Nat.lt_of_le_of_lt (c20_ceilDiv_le ho1) hod
      generalize ceilDiv id j = ic at hic ⊢
      generalize ceilDiv od (min (N / b / j) od) = oc at hoc ⊢
      obtain ⟨p1, p2, p3⟩ := c20_mm_products hbc hic hoc
      have s1 : ic + oc < 2^20 + 2^20 := Nat.add_lt_add hic hoc
      have s3 : bc * ic + ic * oc < 2^20 * 2^20 + 2^20 * 2^20 := Nat.add_lt_add p1 p2
      cases obj <;> dsimp only
      · rw [ga_ckAdd_bind (Nat.lt_trans s1 (by decide)), ga_ckMul_bind (Nat.lt_trans (Nat.mul_lt_mul_of_lt_of_lt hbc s1) (by decide))]
        exact ga_best_update t _ _ _ _
      · rw [ga_ckAdd_bind (Nat.lt_trans (Nat.add_lt_add hbc hic) (by decide)),
          ga_ckAdd_bind (Nat.lt_trans (Nat.add_lt_add (Nat.add_lt_add hbc hic) hoc) (by decide))]
        exact ga_best_update t _ _ _ _
      · rw [ga_ckMul_bind (Nat.lt_trans p1 (by decide)), ga_ckMul_bind (Nat.lt_trans p2 (by decide)),
          ga_ckAdd_bind (Nat.lt_trans s3 (by decide)), ga_ckMul_bind (Nat.lt_trans p3 (by decide)),
          ga_ckAdd_bind (Nat.lt_trans (Nat.add_lt_add s3 p3) (by decide))]
        exact ga_best_update t _ _ _ _

theorem ga_mm_new_loop2 (N bs id od : Nat) (obj : Objective) (hbs : bs < 2^20) (hid : id < 2^20) (hod : od < 2^20)
    (b : Nat) (hb1 : 1 ≤ b) (hb2 : b ≤ bs) (t : Best) :
    mm_new_loop2 bs id od N obj b (ga_ofBest t) = .ok (.next (ga_ofBest (mmOuter N bs id od obj t b))) := by
  have hbc : ceilDiv bs b < 2^20 := Nat.lt_of_le_of_lt (c20_ceilDiv_le hb1) hbs
  have hloop := ga_forUp_eq ga_ofBest (mmInner N id od obj b (ceilDiv bs b)) (fun j => j > id)
      (mm_new_loop1 id od N obj b (ceilDiv bs b))
      (fun j h => by show j + 1 > id; have : j > id := h; omega)
      (fun j t h => by have : j > id := h; simp [mmInner, this]) (N / b - 1) 1 t
      (fun j t' h1 _ => ga_mm_new_loop1 N id od obj b (ceilDiv bs b) hb1 hid hod hbc j h1 t')
  simp only [ga_ofBest] at hloop
  have hcd := ga_mm_ceil_div hb1 (show bs + b < 2^64 by omega)
  by_cases hbN : b > N
  · simp [mm_new_loop2, ga_ofBest, mmOuter, hcd, hbN, bind, Except.bind, pure, Except.pure]
  · have hm2 := ckMul_ok_pow (show ceilDiv bs b * 2 < 2^64 by omega)
    by_cases hc : ceilDiv bs b * 2 > t.c
    · simp [mm_new_loop2, ga_ofBest, mmOuter, hcd, hbN, hm2, hc, bind, Except.bind, pure, Except.pure]
    · simp only [mm_new_loop2, ga_ofBest, mmOuter, hcd, hbN, hm2, hc, ga_ckDiv hb1, bind, Except.bind, if_false, hloop]
      simp [pure, Except.pure]

/-- the model's view of the generated `struct MatmulHelper` (the model does not keep the objective) -/
def ga_toHelper (h : MatmulHelper) : Helper :=
  ⟨h.batch_size, h.input_dims, h.output_dims, h.batch_block, h.input_block, h.output_block, h.poly_degree, h.pack_lwe⟩

theorem ga_ofBest_init : ga_ofBest Best.init = (0, 0, 0, 18446744073709551615) := by rfl

/-- a zero dimension is refused by the generated constructor as by the model's, in both packing modes -/
theorem ga_mm_new_zero (bs id od N : Nat) (obj : Objective) (pack : Bool) (pe cl : Nat) (h : ¬ (bs > 0 ∧ id > 0 ∧ od > 0 ∧ N > 0)) :
    (mm_new bs id od N obj pack pe cl).map ga_toHelper = Helper.new bs id od N obj pack := by
  have hz : bs = 0 ∨ id = 0 ∨ od = 0 ∨ N = 0 := by omega
  unfold mm_new Helper.new
  rw [if_pos hz]
  by_cases h0 : bs > 0
  · by_cases h1 : id > 0
    · by_cases h2 : od > 0
      · rw [if_pos h0, if_pos h1, if_pos h2, if_neg fun h3 => h ⟨h0, h1, h2, h3⟩]; rfl
      · rw [if_pos h0, if_pos h1, if_neg h2]; rfl
    · rw [if_pos h0, if_neg h1]; rfl
  · rw [if_neg h0]; rfl

/-- **`MatmulHelper::new` without LWE packing, generated = model** (all shapes below 2^20, every degree, every objective; the refusal
    of a zero dimension included) -/
theorem ga_mm_new_eq (bs id od N : Nat) (obj : Objective) (pe cl : Nat) (hbs : bs < 2^20) (hid : id < 2^20) (hod : od < 2^20) :
    (mm_new bs id od N obj false pe cl).map ga_toHelper = Helper.new bs id od N obj false := by
  by_cases hpos : bs > 0 ∧ id > 0 ∧ od > 0 ∧ N > 0
  swap
  · exact ga_mm_new_zero bs id od N obj false pe cl hpos
  obtain ⟨h0, h1, h2, h3⟩ := hpos
  unfold mm_new Helper.new
  rw [if_pos h0, if_pos h1, if_pos h2, if_pos h3, if_neg (by omega)]
  have h := ga_forDown_eq ga_ofBest (mmOuter N bs id od obj) (mm_new_loop2 bs id od N obj) 1 bs Best.init
    fun j t h1 h2 => ga_mm_new_loop2 N bs id od obj hbs hid hod j h1 (by omega) t
  rw [ga_ofBest_init, ← c20_downLoop_eq] at h
  simp only [Bool.false_eq_true, not_false_eq_true, if_true, if_false, bind, Except.bind, Except.map,
    Nat.add_sub_cancel, h, mmSearch]
  simp [pure, Except.pure, ga_ofBest, ga_toHelper]

theorem ga_mm_new_loop3 (N bs id od : Nat) (obj : Objective) (i : Nat) (hi1 : 1 ≤ i) (hi2 : i < 2^63)
    (hbs : bs < 2^20) (hid : id < 2^20) (hod : od < 2^20) (b : Nat) (hb1 : 1 ≤ b) (hb2 : b ≤ bs) (t : Best) :
    mm_new_loop3 bs id od N obj i b (ga_ofBest t) = .ok (.next (ga_ofBest (mmPackStep N bs id od obj i t b))) := by
  have hbc : ceilDiv bs b < 2^20 := Nat.lt_of_le_of_lt (c20_ceilDiv_le hb1) hbs
  show mm_new_loop3 bs id od N obj i b (t.b, t.i, t.o, t.c) = _
  simp only [mm_new_loop3, mmPackStep]
  rw [ga_mm_ceil_div_bind hb1 (show bs + b < 2^64 by omega)]
  by_cases hbN : b > N
  · simp [ga_ofBest, hbN, pure, Except.pure]
  · rw [if_neg hbN, if_neg hbN, ga_ckDiv_bind hb1, ga_ckDiv_bind hi1, ga_clamp_eq]
    by_cases ho : min (N / b / i) od < 1
    · simp [ho, pure, Except.pure, ga_ofBest]
    · have ho1 : 1 ≤ min (N / b / i) od := by omega
      have hole : min (N / b / i) od ≤ od := Nat.min_le_right _ _
      rw [if_neg ho, if_neg ho, ga_mm_ceil_div_bind hi1 (by omega), ga_mm_ceil_div_bind ho1 (by omega)]
      have hic : ceilDiv id i < 2^20 := Nat.lt_of_le_of_lt (c20_ceilDiv_le hi1) hid
      have hoc : ceilDiv od (min (N / b / i) od) < 2^20 := Nat.lt_of_le_of_lt (c20_ceilDiv_le ho1) hod
      generalize ceilDiv bs b = bc at hbc ⊢
      generalize ceilDiv id i = ic at hic ⊢
      generalize ceilDiv od (min (N / b / i) od) = oc at hoc ⊢
      obtain ⟨p1, p2, p3⟩ := c20_mm_products hbc hic hoc
      have s3 : bc * ic + ic * oc < 2^20 * 2^20 + 2^20 * 2^20 := Nat.add_lt_add p1 p2
      have c1 : ceilDiv (bc * oc) i * 2 < 2^20 * 2^20 * 2 :=
        Nat.mul_lt_mul_of_lt_of_le (Nat.lt_of_le_of_lt (c20_ceilDiv_le hi1) p3) (Nat.le_refl 2) (by decide)
      have m3 : bc * oc < 2^64 := Nat.lt_trans p3 (by decide)
      have d3 : bc * oc + i < 2^64 := Nat.lt_of_lt_of_le (Nat.add_lt_add p3 hi2) (by decide)
      have m4 : ceilDiv (bc * oc) i * 2 < 2^64 := Nat.lt_trans c1 (by decide)
      cases obj <;> dsimp only
      · rw [ga_ckMul_bind (Nat.lt_trans p1 (by decide)), ga_ckMul_bind m3, ga_mm_ceil_div_bind hi1 d3, ga_ckMul_bind m4,
          ga_ckAdd_bind (Nat.lt_trans (Nat.add_lt_add p1 c1) (by decide))]
        exact ga_best_update t _ _ _ _
      · rw [ga_ckMul_bind (Nat.lt_trans p2 (by decide)), ga_ckMul_bind m3, ga_mm_ceil_div_bind hi1 d3, ga_ckMul_bind m4,
          ga_ckAdd_bind (Nat.lt_trans (Nat.add_lt_add p2 c1) (by decide))]
        exact ga_best_update t _ _ _ _
      · rw [ga_ckMul_bind (Nat.lt_trans p1 (by decide)), ga_ckMul_bind (Nat.lt_trans p2 (by decide)),
          ga_ckAdd_bind (Nat.lt_trans s3 (by decide)), ga_ckMul_bind m3, ga_mm_ceil_div_bind hi1 d3, ga_ckMul_bind m4,
          ga_ckAdd_bind (Nat.lt_trans (Nat.add_lt_add s3 c1) (by decide))]
        exact ga_best_update t _ _ _ _

/-- **`MatmulHelper::new` with LWE packing, generated = model**, at the exact values of the two float expressions
    (`pe` = ⌊log2 ⌊N^0.33⌋⌋ = `packExp N`, `2^cl` = least power of two ≥ `input_dims`) -/
theorem ga_mm_new_pack_eq (bs id od N : Nat) (obj : Objective) (pe cl : Nat) (hN : N < 2^63)
    (hbs : bs < 2^20) (hid : id < 2^20) (hod : od < 2^20) (hpe : pe = packExp N) (hcl : 2^cl = ceilTwoPower id) :
    (mm_new bs id od N obj true pe cl).map ga_toHelper = Helper.new bs id od N obj true := by
  by_cases hpos : bs > 0 ∧ id > 0 ∧ od > 0 ∧ N > 0
  swap
  · exact ga_mm_new_zero bs id od N obj true pe cl hpos
  obtain ⟨h0, h1, h2, h3⟩ := hpos
  unfold mm_new Helper.new
  rw [if_pos h0, if_pos h1, if_pos h2, if_pos h3, if_neg (by omega)]
  obtain ⟨hi1, hiN⟩ := c20_packI_bounds (N := N) h3 id
  have hp1 : 2 ^ packExp N ≤ N := c20_packExp_le h3
  have hsearch := ga_forDown_eq ga_ofBest (mmPackStep N bs id od obj (packI N id))
    (mm_new_loop3 bs id od N obj (packI N id)) 1 bs Best.init
    fun j t h1 h2 => ga_mm_new_loop3 N bs id od obj (packI N id) hi1 (by omega) hbs hid hod j h1 (by omega) t
  rw [ga_ofBest_init, ← c20_downLoop_eq] at hsearch
  subst hpe
  by_cases hgt : 2 ^ packExp N > id
  · have hI : packI N id = 2 ^ cl := by simp [packI, hgt, hcl]
    rw [hI] at hsearch hiN
    simp only [not_true_eq_false, if_false, bind, Except.bind, Except.map, ga_ckPow (show 2 ^ packExp N < 2^64 by omega),
      hgt, if_true, ga_ckPow (show 2 ^ cl < 2^64 by omega), pure, Except.pure, Nat.add_sub_cancel, hsearch, mmPackSearch, hI]
    simp [ga_ofBest, ga_toHelper]
  · have hI : packI N id = 2 ^ packExp N := by simp [packI, hgt]
    rw [hI] at hsearch
    simp only [not_true_eq_false, if_false, bind, Except.bind, Except.map, ga_ckPow (show 2 ^ packExp N < 2^64 by omega),
      hgt, pure, Except.pure, Nat.add_sub_cancel, hsearch, mmPackSearch, hI]
    simp [ga_ofBest, ga_toHelper]

end HC
